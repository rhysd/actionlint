import AL.Spec.ValueScalars
/-
  The DOCUMENT side of "every position of the document is checked under the workflow key GitHub's table gives it"
  (AL.Props.C12Parse): every value scalar of a workflow document paired with the WORKFLOW KEY of its position — the name of
  the row of the context-availability table
  (https://docs.github.com/actions/reference/workflows-and-actions/contexts#context-availability) that governs the position,
  `""` where the table has no row (no context and no special function is available there).

  This file imports AL/Spec/ValueScalars.lean and, through it, the node type; nothing else:
  nothing here calls, or knows of, the parser model or the rule. WHICH scalars are values is the business of
  ValueScalars (`leaves`, `typedLeaves`, `exprPos`, and the walks of the sections that lie under ONE key); what is new here
  is the second component. `keyedScalars_fst` (AL/Lemmas/C12PBase.lean) proves that the first components of
  `keyedScalars doc` ARE `valueScalars doc`, in the same order.

  The walk descends by key wherever the table has a finer row further down:

    workflow      `run-name`, `env`, `concurrency`                                      — `workflowKeyKeyed`
    `on:`         `on.workflow_call.inputs.<inputs_id>.default`,
                  `on.workflow_call.outputs.<output_id>.value`                          — `callInputAttrKeyed`, `callOutputAttrKeyed`
    job           `jobs.<job_id>.name` / `.if` / `.runs-on` / `.env` / `.concurrency` / `.outputs.<output_id>` /
                  `.continue-on-error` / `.timeout-minutes` / `.defaults.run` / `.strategy` /
                  `.with.<with_id>` / `.secrets.<secrets_id>`                           — `jobKeyKeyed`
    environment   `jobs.<job_id>.environment`, `jobs.<job_id>.environment.url`          — `environmentKeyKeyed`
    container     `jobs.<job_id>.container` (+ `.credentials`, `.env.<env_id>`)          — `containerKeyKeyed`
    services      `jobs.<job_id>.services` (+ `.<service_id>.credentials`, `.<service_id>.env.<env_id>`) — `servicesKeyed`
    step          `jobs.<job_id>.steps.name` / `.if` / `.run` / `.env` / `.with` / `.working-directory` /
                  `.continue-on-error` / `.timeout-minutes`                             — `stepKeyKeyed`

  ONE deviation from the table, inherited from the rule (AL.C12R, `container_image_row`): the `image:` of a job's
  `container:` has the row `jobs.<job_id>.container.image` in the table; the rule checks it under the key of the section,
  `jobs.<job_id>.container`, and so does this walk. The two rows are equal.

  Positions WITHOUT a key (`""`): the workflow's `name` and `defaults.run.*`, everything under `on:` except the two
  positions above, a job's `needs` and `uses`, a step's `shell` and `uses`.
-/
namespace AL.C12P
open AL.Yaml AL.C03P

/-- the scalars `l` sit at a position whose workflow key is `key` -/
def under (key : String) (l : List Node) : List (Node × String) := l.map fun v => (v, key)

/-- the walk through a node at a position where the workflow syntax has a mapping whose entries lie under different keys:
`g key value` says what counts below each pair, and under which workflow key. A null node at such a position is the empty
mapping; any other node is taken as it stands, under the key `dflt` of the position itself. (The counterpart of
`AL.C03P.mapScalars`.) -/
def mapKeyed (n : Node) (dflt : String) (g : String → Node → List (Node × String)) : List (Node × String) :=
  if n.kind = .mapping || n.isNull then (pairs n.content).flatMap (fun p => g p.1.value p.2) else under dflt (leaves n)

/-- the same at a position that takes a string or a mapping (`container`, `environment`): a null node is a value there
(the counterpart of `AL.C03P.leaves` at such a position) -/
def subKeyed (n : Node) (dflt : String) (g : String → Node → List (Node × String)) : List (Node × String) :=
  if n.kind = .mapping then (pairs n.content).flatMap (fun p => g p.1.value p.2) else under dflt (leaves n)

/-- the walk through a node at a position where the workflow syntax has a sequence (counterpart of `seqScalars`) -/
def seqKeyed (n : Node) (dflt : String) (g : Node → List (Node × String)) : List (Node × String) :=
  if n.kind = .sequence then n.content.flatMap g else under dflt (leaves n)

/-! ### a step -/

/-- what counts below the key `k` of a step, and under which workflow key -/
def stepKeyKeyed (k : String) (x : Node) : List (Node × String) :=
  match k with
  | "id" => []   -- exempt (not a value scalar): the step id
  | "name" => under "jobs.<job_id>.steps.name" (leaves x)
  | "if" => under "jobs.<job_id>.steps.if" (leaves x)
  | "run" => under "jobs.<job_id>.steps.run" (leaves x)
  | "working-directory" => under "jobs.<job_id>.steps.working-directory" (leaves x)
  | "env" => under "jobs.<job_id>.steps.env" (leaves x)
  | "with" => under "jobs.<job_id>.steps.with" (leaves x)   -- every input, `entrypoint` and `args` included
  | "continue-on-error" => under "jobs.<job_id>.steps.continue-on-error" (typedLeaves ["!!bool"] x)
  | "timeout-minutes" => under "jobs.<job_id>.steps.timeout-minutes" (typedLeaves ["!!float", "!!int"] x)
  | _ => under "" (leaves x)   -- `shell`, `uses`: the table has no row

/-- **the value scalars of a step node, each with its key** -/
def stepKeyed (n : Node) : List (Node × String) := mapKeyed n "" stepKeyKeyed

/-- `steps:` -/
def stepsKeyed (n : Node) : List (Node × String) := seqKeyed n "" stepKeyed

/-! ### the sections of a job with finer rows -/

/-- below the key `k` of a container: `credentials` and `env` have rows of their own, `image`, `ports`, `volumes`,
`options` the row of the section -/
def containerKeyKeyed (kSect kCred kEnv : String) (k : String) (y : Node) : List (Node × String) :=
  match k with
  | "credentials" => under kCred (leaves y)
  | "env" => under kEnv (leaves y)
  | _ => under kSect (leaves y)

/-- a container: an image name or a mapping -/
def containerKeyed (kSect kCred kEnv : String) (x : Node) : List (Node × String) :=
  subKeyed x kSect (containerKeyKeyed kSect kCred kEnv)

/-- `services:` — one `${{ }}` or a mapping from service names to containers (`exprPos` of ValueScalars: nothing is
claimed below a collection node that carries a text) -/
def servicesKeyed (x : Node) : List (Node × String) :=
  if x.kind = .scalar || x.value = "" then
    mapKeyed x "jobs.<job_id>.services" fun _ c =>
      containerKeyed "jobs.<job_id>.services" "jobs.<job_id>.services.<service_id>.credentials"
        "jobs.<job_id>.services.<service_id>.env.<env_id>" c
  else []

def environmentKeyKeyed (k : String) (y : Node) : List (Node × String) :=
  match k with
  | "url" => under "jobs.<job_id>.environment.url" (leaves y)
  | _ => under "jobs.<job_id>.environment" (leaves y)   -- `name`

/-- `environment:` — a name or a mapping with `name` / `url` -/
def environmentKeyed (x : Node) : List (Node × String) := subKeyed x "jobs.<job_id>.environment" environmentKeyKeyed

/-! ### a job -/

/-- what counts below the key `k` of a job, and under which workflow key -/
def jobKeyKeyed (k : String) (x : Node) : List (Node × String) :=
  match k with
  | "permissions" => []   -- exempt: `permissions` values
  | "name" => under "jobs.<job_id>.name" (leaves x)
  | "if" => under "jobs.<job_id>.if" (leaves x)
  | "runs-on" => under "jobs.<job_id>.runs-on" (runsOnScalars x)
  | "env" => under "jobs.<job_id>.env" (leaves x)
  | "environment" => environmentKeyed x
  | "concurrency" => under "jobs.<job_id>.concurrency" (concurrencyScalars x)
  | "outputs" => under "jobs.<job_id>.outputs.<output_id>" (leaves x)
  | "continue-on-error" => under "jobs.<job_id>.continue-on-error" (typedLeaves ["!!bool"] x)
  | "timeout-minutes" => under "jobs.<job_id>.timeout-minutes" (typedLeaves ["!!float", "!!int"] x)
  | "defaults" => under "jobs.<job_id>.defaults.run" (leaves x)
  | "strategy" => under "jobs.<job_id>.strategy" (strategyScalars x)   -- the matrix, at any depth, included
  | "container" =>
    containerKeyed "jobs.<job_id>.container" "jobs.<job_id>.container.credentials" "jobs.<job_id>.container.env.<env_id>" x
  | "services" => servicesKeyed x
  | "steps" => stepsKeyed x
  | "with" => under "jobs.<job_id>.with.<with_id>" (leaves x)
  -- exempt: `secrets: inherit`
  | "secrets" =>
    if x.kind = .scalar && x.value = "inherit" then [] else under "jobs.<job_id>.secrets.<secrets_id>" (leaves x)
  | _ => under "" (leaves x)   -- `needs`, `uses`: the table has no row

/-- **the value scalars of a job node, each with its key** -/
def jobKeyed (n : Node) : List (Node × String) := mapKeyed n "" jobKeyKeyed

/-- `jobs:` — a mapping from job ids to jobs -/
def jobsKeyed (n : Node) : List (Node × String) := mapKeyed n "" fun _ j => jobKeyed j

/-! ### `on:` — two rows, both under `workflow_call` -/

/-- below one attribute of an input of `workflow_call` -/
def callInputAttrKeyed (k : String) (y : Node) : List (Node × String) :=
  match k with
  | "default" => if y.isNull then [] else under "on.workflow_call.inputs.<inputs_id>.default" (leaves y)
  | _ => under "" (callInputAttrScalars k y)   -- `description`, `required` (`type` is exempt)

/-- below one attribute of an output of `workflow_call` -/
def callOutputAttrKeyed (k : String) (z : Node) : List (Node × String) :=
  match k with
  | "value" => under "on.workflow_call.outputs.<output_id>.value" (leaves z)
  | _ => under "" (leaves z)   -- `description`

def callKeyKeyed (k : String) (y : Node) : List (Node × String) :=
  match k with
  | "inputs" => mapKeyed y "" fun _ spec => mapKeyed spec "" callInputAttrKeyed
  | "outputs" => mapKeyed y "" fun _ spec => mapKeyed spec "" callOutputAttrKeyed
  | _ => under "" (callKeyScalars k y)   -- `secrets`

def callKeyed (x : Node) : List (Node × String) := mapKeyed x "" callKeyKeyed

/-- below the key `k` (an event name) of the `on:` mapping -/
def eventKeyed (k : String) (x : Node) : List (Node × String) :=
  match k with
  | "workflow_call" => callKeyed x
  | _ => under "" (eventScalars k x)   -- every other event: no row

/-- the `on:` section (event names are exempt) -/
def onKeyed (x : Node) : List (Node × String) :=
  if x.kind = .mapping then mapKeyed x "" eventKeyed else under "" (onScalars x)

/-! ### the workflow -/

/-- below the top-level key `k` -/
def workflowKeyKeyed (k : String) (x : Node) : List (Node × String) :=
  match k with
  | "on" => onKeyed x
  | "permissions" => []   -- exempt
  | "run-name" => under "run-name" (leaves x)
  | "env" => under "env" (leaves x)
  | "concurrency" => under "concurrency" (concurrencyScalars x)
  | "jobs" => jobsKeyed x
  | _ => under "" (leaves x)   -- `name`, `defaults`: the table has no row

/-- **every value scalar of a workflow document with the workflow key of its position** -/
def keyedScalars (doc : Node) : List (Node × String) :=
  match doc.content with
  | root :: _ => mapKeyed root "" workflowKeyKeyed
  | [] => []

end AL.C12P
