import AL.Spec.ValueScalars
/-
  The DOCUMENT side of property C11 ("untrusted inputs are reported in scripts, and only there"; AL.Props.C11Doc): which
  nodes of a workflow document are SCRIPTS — read off the yaml.Node tree along the documented workflow syntax
  (https://docs.github.com/actions/reference/workflow-syntax-for-github-actions, and
  https://docs.github.com/actions/security-guides/security-hardening-for-github-actions#understanding-the-risk-of-script-injections).
  Like AL/Spec/ValueScalars.lean this file uses the node type only: nothing here calls, or knows of, the parser model
  or the rule.

  The script positions of a document:

    * the value of `run:` of every element of `steps:` of every job (every value of `jobs:`);
    * the value under the key `script` — the key in any letter case: input names are case-insensitive — of `with:` of a
      step whose `uses:` text, folded, starts with `actions/github-script@`.

  Conventions of the walk:

    * a key is looked up by its TEXT (`text`): the value of a scalar node; a collection node has no text (yaml.v3 gives
      every collection node the empty `Value`; the model's `Node` type allows more, so the walk says it);
    * the keys of the workflow syntax (`jobs`, `steps`, `run`, `uses`, `with`) are looked up AS WRITTEN (`lookup`): the
      workflow syntax is case-sensitive there; only the input name `script` is folded (`lookupFolded`), with the folding
      function `lower` the walk is given (`strings.ToLower` in actionlint);
    * where a key occurs twice in a mapping the FIRST occurrence counts (YAML forbids the repetition; actionlint reports
      it and keeps the first);
    * a mapping position holds pairs only when the node IS a mapping (`entries`), a sequence position elements only when
      the node IS a sequence (`elements`).

  `scriptKNodes` lists the NODES at script positions, each with the workflow key of the position
  (`jobs.<job_id>.steps.run` / `jobs.<job_id>.steps.with`, the rows of the context-availability table);
  `scriptKScalars` keeps those that are scalars (a collection at a script position is a syntax error and has no text);
  `scriptScalars` forgets the key.
-/
namespace AL.C11D
open AL.Yaml

/-- the text of a node: the value of a scalar; a collection has none -/
def text (n : Node) : String := if n.kind = .scalar then n.value else ""

/-- the key / value pairs of a node at a position where the workflow syntax has a (non-empty) mapping -/
def entries (n : Node) : List (Node × Node) := if n.kind = .mapping then pairs n.content else []

/-- the elements of a node at a position where the workflow syntax has a sequence -/
def elements (n : Node) : List Node := if n.kind = .sequence then n.content else []

/-- the value under the key written `k` (the first such key) -/
def lookup (n : Node) (k : String) : Option Node := ((entries n).find? fun p => text p.1 = k).map (·.2)

/-- the value under the key whose text folds to `k` (the first such key) -/
def lookupFolded (lower : String → String) (n : Node) (k : String) : Option Node :=
  ((entries n).find? fun p => lower (text p.1) = k).map (·.2)

/-! ### a step -/

/-- the step runs `actions/github-script`: its `uses:` text, folded, starts with `actions/github-script@` -/
def isGithubScriptStep (lower : String → String) (st : Node) : Bool :=
  match lookup st "uses" with
  | some u => (lower (text u)).startsWith "actions/github-script@"
  | none => false

/-- the value of `run:` of a step node -/
def stepRunNodes (st : Node) : List Node := (lookup st "run").toList

/-- the value of the `script` input of a step node that runs `actions/github-script` -/
def stepScriptInputNodes (lower : String → String) (st : Node) : List Node :=
  if isGithubScriptStep lower st then ((lookup st "with").bind fun w => lookupFolded lower w "script").toList else []

/-- the nodes at the script positions of a step node, each with the workflow key of its position -/
def stepScriptKNodes (lower : String → String) (st : Node) : List (Node × String) :=
  (stepRunNodes st).map (fun x => (x, "jobs.<job_id>.steps.run")) ++
  (stepScriptInputNodes lower st).map (fun x => (x, "jobs.<job_id>.steps.with"))

/-! ### jobs, the document -/

/-- the elements of `steps:` of a job node -/
def jobStepNodes (job : Node) : List Node := (lookup job "steps").toList.flatMap elements

/-- the job nodes of a document: the values of the mapping under `jobs:` of the root mapping -/
def docJobNodes (doc : Node) : List Node :=
  match doc.content with
  | root :: _ => ((lookup root "jobs").toList.flatMap entries).map (·.2)
  | [] => []

/-- the step nodes of a document -/
def docStepNodes (doc : Node) : List Node := (docJobNodes doc).flatMap jobStepNodes

/-- **the nodes at the script positions of a workflow document**, each with the workflow key of its position -/
def scriptKNodes (lower : String → String) (doc : Node) : List (Node × String) :=
  (docStepNodes doc).flatMap (stepScriptKNodes lower)

/-- **the script scalars of a workflow document, each with the workflow key of its position** -/
def scriptKScalars (lower : String → String) (doc : Node) : List (Node × String) :=
  (scriptKNodes lower doc).filter fun p => p.1.kind = .scalar

/-- **the script scalars of a workflow document**: the scalar under `run:` of every element of every job's `steps:`, and
the scalar under the key `script` (folded) of `with:` of a step whose `uses:` text folds to `actions/github-script@…` -/
def scriptScalars (lower : String → String) (doc : Node) : List Node := (scriptKScalars lower doc).map Prod.fst

end AL.C11D
