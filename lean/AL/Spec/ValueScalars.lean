import AL.Model.Yaml
/-
  The DOCUMENT side of "the parser drops no value scalar silently" (AL.Props.C03Parse): which scalar nodes of a workflow
  document are VALUES — a walk over the yaml.Node tree along the documented workflow syntax
  (https://docs.github.com/actions/reference/workflow-syntax-for-github-actions). This file imports the node type only:
  nothing here calls, or knows of, the parser model.

  The rule of the walk: below a key, EVERYTHING counts (`leaves`: every scalar that is a mapping value or a sequence
  element, at any depth) unless the position is exempt. The walk descends by key only where an exempt position lies
  further down; every exemption is marked `exempt:` with the clause of property C03 (or the rule) that owns it:

    * event names                       — `onScalars`
    * `permissions` values              — `workflowKeyScalars`, `jobKeyScalars`
    * a step `id`                       — `stepKeyScalars`
    * the input `type`                  — `dispatchAttrScalars`, `callInputAttrScalars`
    * `secrets: inherit`                — `jobKeyScalars`
    * mapping KEYS                      — `leaves`, `mapScalars` (only values are ever collected)
    * what the parser keeps as a VALUE, not as a string: a scalar the YAML resolver tagged `!!bool` / `!!int` /
      `!!float` at a position that takes a boolean / a number — `typedLeaves`
    * a null node at a mapping position (`on: {push: }`) is the empty mapping, not a value — `mapScalars`

  Four places where a scalar with a text really is dropped without a diagnostic; each is left out of the walk at exactly
  that position and proved on a concrete witness in AL.Props.C03Parse (all need an explicit YAML tag, or a tree no YAML
  text produces):
    1. a scalar TAGGED `!!bool` at a boolean position is a literal whatever its text (`typedLeaves`;
       `finding_bool_tagged_text`)
    2. a node TAGGED `!!null` as the `default:` of a `workflow_call` input sets no default whatever its text
       (`callInputAttrScalars`; `finding_call_input_null_default`)
    3. a node TAGGED `!!null` where a mapping may be empty is the empty mapping whatever its text (`mapScalars`;
       `finding_null_tagged_mapping`)
    4. a collection node that carries a text is read as one `${{ }}` at `services`, `runs-on`, `runs-on.labels`
       (`exprPos`; `observation_collection_with_text` — not the image of any YAML document)
-/
namespace AL.C03P
open AL.Yaml

mutual
/-- the scalar nodes in value position below a node (the node itself when it is a scalar; the elements of a sequence; the
VALUES of a mapping — never its keys), at any depth. An alias node is not followed (parse.go never does). -/
def leaves : Node → List Node
  | .mk .scalar t v q l c cs => [.mk .scalar t v q l c cs]
  | .mk .sequence _ _ _ _ _ cs => leavesSeq cs
  | .mk .mapping _ _ _ _ _ cs => leavesMap cs
  | .mk .document _ _ _ _ _ _ => []
  | .mk .alias _ _ _ _ _ _ => []
def leavesSeq : List Node → List Node
  | [] => []
  | c :: cs => leaves c ++ leavesSeq cs
def leavesMap : List Node → List Node
  | _ :: v :: rest => leaves v ++ leavesMap rest
  | _ => []
end

/-- the walk through a node at a position where the workflow syntax has a mapping: `g key value` says what counts below
each pair (`key` is the text of the key node). A null node at such a position is the empty mapping (`on: {push: }`), not a
value; any other node is taken as it stands. -/
def mapScalars (n : Node) (g : String → Node → List Node) : List Node :=
  if n.kind = .mapping || n.isNull then (pairs n.content).flatMap (fun p => g p.1.value p.2) else leaves n

/-- the walk through a node at a position where the workflow syntax has a sequence -/
def seqScalars (n : Node) (g : Node → List Node) : List Node :=
  if n.kind = .sequence then n.content.flatMap g else leaves n

/-- a position that takes a boolean / number literal or a `${{ }}` string: a scalar the YAML resolver tagged with one of
`tags` is a literal — the parser keeps its VALUE (`Bool.Value`, `Int.Value`, `Float.Value`), not a string (exempt: "what
the parser does not keep as a string") -/
def typedLeaves (tags : List String) (n : Node) : List Node :=
  if n.kind = .scalar && tags.contains n.tag then [] else leaves n

/-- positions that take one `${{ }}` in place of a collection (`services`, `runs-on`, `runs-on.labels`): the parser looks
at the `Value` of the node whatever its kind. yaml.v3 gives every collection node the empty `Value`; the model's `Node`
type also allows collection nodes with a text, which are not the image of any YAML document — nothing is claimed below
such a node. -/
def exprPos (x : Node) (l : List Node) : List Node := if x.kind = .scalar || x.value = "" then l else []

/-! ### a step -/

/-- what counts below the key `k` of a step -/
def stepKeyScalars (k : String) (x : Node) : List Node :=
  match k with
  | "id" => []   -- exempt: the step id (property: "step `id`"; rule_id owns it)
  | "continue-on-error" => typedLeaves ["!!bool"] x
  | "timeout-minutes" => typedLeaves ["!!float", "!!int"] x
  | _ => leaves x   -- name, if, run, shell, working-directory, uses, with.*, env.*

/-- **the value scalars of a step node** -/
def stepScalars (n : Node) : List Node := mapScalars n stepKeyScalars

/-- `steps:` -/
def stepsScalars (n : Node) : List Node := seqScalars n stepScalars

/-! ### the sections of a job -/

def concurrencyKeyScalars (k : String) (y : Node) : List Node :=
  match k with
  | "cancel-in-progress" => typedLeaves ["!!bool"] y
  | _ => leaves y

/-- `concurrency:` — one string or a mapping -/
def concurrencyScalars (x : Node) : List Node :=
  if x.kind = .scalar then leaves x else mapScalars x concurrencyKeyScalars

/-- `services:` — one `${{ }}` or a mapping from service names to containers -/
def servicesScalars (x : Node) : List Node := exprPos x (mapScalars x fun _ c => leaves c)

def runsOnKeyScalars (k : String) (y : Node) : List Node :=
  match k with
  | "labels" => exprPos y (leaves y)
  | _ => leaves y

/-- `runs-on:` — a label, a sequence of labels, one `${{ }}`, or a mapping with `labels` / `group` -/
def runsOnScalars (x : Node) : List Node :=
  exprPos x (if x.kind = .mapping then mapScalars x runsOnKeyScalars else leaves x)

def strategyKeyScalars (k : String) (y : Node) : List Node :=
  match k with
  | "fail-fast" => typedLeaves ["!!bool"] y
  | "max-parallel" => typedLeaves ["!!int"] y
  | _ => leaves y   -- matrix: rows, include, exclude — every scalar at any nesting depth

def strategyScalars (x : Node) : List Node := mapScalars x strategyKeyScalars

/-! ### a job -/

/-- what counts below the key `k` of a job -/
def jobKeyScalars (k : String) (x : Node) : List Node :=
  match k with
  | "permissions" => []   -- exempt: `permissions` values (property; rule_permissions owns them)
  | "steps" => stepsScalars x
  | "continue-on-error" => typedLeaves ["!!bool"] x
  | "timeout-minutes" => typedLeaves ["!!float", "!!int"] x
  | "strategy" => strategyScalars x
  | "concurrency" => concurrencyScalars x
  | "runs-on" => runsOnScalars x
  | "services" => servicesScalars x
  -- exempt: `secrets: inherit` (property; the parser keeps the flag `InheritSecrets`, not a string)
  | "secrets" => if x.kind = .scalar && x.value = "inherit" then [] else leaves x
  | _ => leaves x   -- name, needs, env, defaults, if, container, environment, outputs, uses, with

/-- **the value scalars of a job node** -/
def jobScalars (n : Node) : List Node := mapScalars n jobKeyScalars

/-- `jobs:` — a mapping from job ids to jobs -/
def jobsScalars (n : Node) : List Node := mapScalars n fun _ j => jobScalars j

/-! ### `on:` -/

/-- below one attribute of an input of `workflow_dispatch` -/
def dispatchAttrScalars (k : String) (y : Node) : List Node :=
  match k with
  | "type" => []   -- exempt: the input `type` (property; the parser keeps an enumeration value, not a string)
  | "required" => typedLeaves ["!!bool"] y
  | _ => leaves y   -- description, default, options

def dispatchKeyScalars (k : String) (y : Node) : List Node :=
  match k with
  | "inputs" => mapScalars y fun _ spec => mapScalars spec dispatchAttrScalars
  | _ => leaves y

def dispatchScalars (x : Node) : List Node := mapScalars x dispatchKeyScalars

/-- an event whose value is a (possibly empty) mapping without exempt positions: `repository_dispatch` and the webhook
events with their `types` and filters -/
def plainEventScalars (x : Node) : List Node := mapScalars x fun _ y => leaves y

/-- below one attribute of an input of `workflow_call` -/
def callInputAttrScalars (k : String) (y : Node) : List Node :=
  match k with
  | "type" => []   -- exempt: the input `type`
  | "required" => typedLeaves ["!!bool"] y
  -- FINDING (harmless): `default:` with a null node sets no default value and is not reported; a node tagged `!!null`
  -- is dropped whatever its text (`AL.C03P.finding_call_input_null_default`)
  | "default" => if y.isNull then [] else leaves y
  | _ => leaves y   -- description

def callSecretAttrScalars (k : String) (y : Node) : List Node :=
  match k with
  | "required" => typedLeaves ["!!bool"] y
  | _ => leaves y   -- description

def callKeyScalars (k : String) (y : Node) : List Node :=
  match k with
  | "inputs" => mapScalars y fun _ spec => mapScalars spec callInputAttrScalars
  | "secrets" => mapScalars y fun _ spec => mapScalars spec callSecretAttrScalars
  | "outputs" => mapScalars y fun _ spec => mapScalars spec fun _ z => leaves z   -- description, value
  | _ => leaves y

def callScalars (x : Node) : List Node := mapScalars x callKeyScalars

/-- below the key `k` (an event name) of the `on:` mapping -/
def eventScalars (k : String) (x : Node) : List Node :=
  match k with
  | "schedule" => leaves x   -- the cron strings
  | "workflow_dispatch" => dispatchScalars x
  | "workflow_call" => callScalars x
  | _ => plainEventScalars x   -- `repository_dispatch` and every webhook event

/-- **the value scalars of the `on:` section**. exempt: event names (property: "event names") — the scalar `on: push`,
the scalar elements of `on: [push, pull_request]`; in the mapping form the names are keys. -/
def onScalars (x : Node) : List Node :=
  match x.kind with
  | .scalar => []
  | .sequence => x.content.flatMap fun c => if c.kind = .scalar then [] else leaves c
  | .mapping => mapScalars x eventScalars
  | _ => []

/-! ### the workflow -/

/-- below the top-level key `k` -/
def workflowKeyScalars (k : String) (x : Node) : List Node :=
  match k with
  | "on" => onScalars x            -- exempt inside: event names, input `type`
  | "permissions" => []            -- exempt: `permissions` values (property; rule_permissions owns them)
  | "concurrency" => concurrencyScalars x
  | "jobs" => jobsScalars x        -- exempt inside: step `id`, job `permissions`, `secrets: inherit`
  | _ => leaves x                  -- name, run-name, env, defaults

/-- **the value scalars of a workflow document**: the scalar nodes that are mapping values or sequence elements, at any
depth, below the root mapping — except the exempt positions listed at the head of this file. -/
def valueScalars (doc : Node) : List Node :=
  match doc.content with
  | root :: _ => mapScalars root workflowKeyScalars
  | [] => []

end AL.C03P
