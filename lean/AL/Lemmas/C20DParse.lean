import AL.Lemmas.C20DBase
import AL.Lemmas.C05DJob
/-
  For AL.Props.C20Doc, the parser side: for nodes the parser accepts without a diagnostic, the fields the shellcheck /
  pyflakes rules read are what is WRITTEN — a step's `shell:` and the position of its `run:` key, a job's and the workflow's
  `defaults.run.shell`, the literal labels of a job's `runs-on:`.
-/
namespace AL.C20D
open AL.PW AL.Yaml AL.Ast AL.C03P AL.C05D

/-! ### a step: `shell:` and the position of the `run:` key -/

def shellOf (s : Step) : Option Str := match s.exec with | .run e => e.shell | _ => none
def runPosOf (s : Step) : Option Yaml.Pos := match s.exec with | .run e => e.runPos | _ => none

theorem stepKey_shell_ne (cfg : Cfg) (st : StepSt) (kv : KV) (h : kv.id ≠ "shell") : shellOf (stepKey cfg st kv).1.step = shellOf st.step :=
  (stepKey_frame cfg st kv).shell h

theorem stepKey_shell_eq (cfg : Cfg) (st : StepSt) (kv : KV) (h : kv.id = "shell") (hc : (stepKey cfg st kv).2 = []) :
    shellOf (stepKey cfg st kv).1.step = some (parseString kv.val false).1 ∧ (parseString kv.val false).2 = [] :=
  (stepKey_writes cfg st kv hc).shell h

/-- **the `shell` of a parsed step is the `shell:` scalar of the step node** -/
theorem parseStep_shell (cfg : Cfg) (n : Node) (h : (parseStep cfg n).2 = []) :
    shellOf (parseStep cfg n).1 = (mget n "shell").map newString :=
  (section_reads_str cfg _ n false (stepKey cfg) _ (fun st => shellOf st.step) "shell" rfl (stepKey_shell_ne cfg)
    (stepKey_shell_eq cfg) (parseStep_clean cfg n h).1 (parseStep_clean cfg n h).2).1

theorem stepKey_runPos_ne (cfg : Cfg) (st : StepSt) (kv : KV) (h : kv.id ≠ "run") : runPosOf (stepKey cfg st kv).1.step = runPosOf st.step :=
  ((stepKey_frame cfg st kv).run h).2

theorem stepKey_runPos_eq (cfg : Cfg) (st : StepSt) (kv : KV) (h : kv.id = "run") (hc : (stepKey cfg st kv).2 = []) :
    runPosOf (stepKey cfg st kv).1.step = some kv.key.pos :=
  ((stepKey_writes cfg st kv hc).run h).2.1

/-- **`RunPos` of a parsed step is the position of the `run` KEY of the step node** -/
theorem parseStep_runPos (cfg : Cfg) (n : Node) (h : (parseStep cfg n).2 = []) :
    runPosOf (parseStep cfg n).1 = (mpair n "run").map (·.1.pos) :=
  (sect_field_clean cfg _ n false (stepKey cfg) _ (fun st => runPosOf st.step) "run" (fun kv => some kv.key.pos)
    (stepKey_runPos_ne cfg) (stepKey_runPos_eq cfg) (parseStep_clean cfg n h).1 (parseStep_clean cfg n h).2).trans
    (by cases mpair n "run" <;> rfl)

/-! ### `defaults:` -/

/-- the body of the key loop of `parseDefaults` -/
def defaultsKey (cfg : Cfg) (st : Option DefaultsRun) (kv : KV) : Option DefaultsRun × List PErr :=
  if kv.id ≠ "run" then (st, [unexpectedKey kv.key "defaults" ["run"]])
  else
    let mm := parseSectionMapping cfg "run" kv.val false true
    let rr := loop defaultsRunKey { pos := kv.key.pos } mm.1
    (some rr.1, mm.2 ++ rr.2)

theorem parseDefaults_eq (cfg : Cfg) (pos : Yaml.Pos) (n : Node) :
    parseDefaults cfg pos n =
      (⟨(loop (defaultsKey cfg) none (parseSectionMapping cfg "defaults" n false true).1).1, pos⟩,
        (parseSectionMapping cfg "defaults" n false true).2 ++ (loop (defaultsKey cfg) none (parseSectionMapping cfg "defaults" n false true).1).2 ++
        (if (loop (defaultsKey cfg) none (parseSectionMapping cfg "defaults" n false true).1).1.isNone then [errAt n "defaults-no-run" []] else [])) := rfl

theorem defaultsRunKey_shell_ne (st : DefaultsRun) (kv : KV) (h : kv.id ≠ "shell") : (defaultsRunKey st kv).1.shell = st.shell :=
  (defaultsRunKey_frame st kv).2.1 h

theorem defaultsRunKey_shell_eq (st : DefaultsRun) (kv : KV) (h : kv.id = "shell") :
    (defaultsRunKey st kv).1.shell = some (parseString kv.val false).1 ∧ (defaultsRunKey st kv).2 = (parseString kv.val false).2 := by
  simp only [defaultsRunKey]
  split <;> first | exact ⟨rfl, rfl⟩ | (exfalso; simp_all)

/-- the text written at `<n>: run: shell:` -/
def docRunShellNode (n : Node) : Option Node := (mget n "run").bind (mget · "shell")

/-- **`parseDefaults`, clean**: there IS a `run:` (so `Defaults.Run != nil`), and `Run.Shell` is the scalar written at
`run: shell:`, which is not empty -/
theorem parseDefaults_clean (cfg : Cfg) (pos : Yaml.Pos) (n : Node) (h : (parseDefaults cfg pos n).2 = []) :
    hasRun (some (parseDefaults cfg pos n).1) = true ∧
    AL.Rules.defaultsShell (some (parseDefaults cfg pos n).1) = (docRunShellNode n).map newString ∧
    ∀ v, docRunShellNode n = some v → v.value ≠ "" := by
  rw [parseDefaults_eq] at h ⊢
  simp only [append_nil_iff, parseSectionMapping] at h ⊢
  obtain ⟨⟨hm, hr⟩, hn⟩ := h
  -- `run:` of `defaults:` is itself a section; silent, its two halves are
  obtain ⟨hf, hok⟩ := section_reads cfg _ n false (defaultsKey cfg) none (fun st => st) "run"
    (fun kv => some (loop defaultsRunKey { pos := kv.key.pos } (parseMapping cfg (sectionWhat "run") kv.val false true).1).1)
    (fun kv => (parseMapping cfg (sectionWhat "run") kv.val false true).2 = [] ∧
      (loop defaultsRunKey { pos := kv.key.pos } (parseMapping cfg (sectionWhat "run") kv.val false true).1).2 = [])
    (fun st kv hne => by simp [defaultsKey, hne])
    (fun st kv he hs _ => by
      simp only [defaultsKey, he, ne_eq, not_true_eq_false, if_false, append_nil_iff, parseSectionMapping] at hs ⊢
      exact ⟨trivial, hs⟩) hm hr
  simp only [hf] at hn ⊢
  cases hp : mpair n "run" with
  | none => simp [hp] at hn
  | some p =>
    obtain ⟨hf2, hsh⟩ := section_reads_str cfg _ p.2 false defaultsRunKey { pos := p.1.pos } (fun st => st.shell) "shell" rfl
      defaultsRunKey_shell_ne
      (fun st kv hk hs => ⟨(defaultsRunKey_shell_eq st kv hk).1, (defaultsRunKey_shell_eq st kv hk).2 ▸ hs⟩)
      (hok p hp).1 (hok p hp).2
    have hds : docRunShellNode n = mget p.2 "shell" := by
      simp only [docRunShellNode, mget, hp, Option.map_some, Option.bind_some]
    rw [hds]
    exact ⟨rfl, hf2, fun v hv => (hsh v hv).2⟩

/-! ### a job: `defaults`, `runs-on` -/

theorem jobFinish_shell_fields (id : Str) (st : JobSt) :
    (jobFinish id st).1.defaults = st.job.defaults ∧ (jobFinish id st).1.runsOn = st.job.runsOn := by
  simp only [jobFinish]
  split
  · split <;> exact ⟨rfl, rfl⟩
  · exact ⟨rfl, rfl⟩

theorem jobKey_defaults_ne (cfg : Cfg) (st : JobSt) (kv : KV) (h : kv.id ≠ "defaults") : (jobKey cfg st kv).1.job.defaults = st.job.defaults :=
  (jobKey_frame cfg st kv).defaults h

theorem jobKey_defaults_eq (cfg : Cfg) (st : JobSt) (kv : KV) (h : kv.id = "defaults") :
    (jobKey cfg st kv).1.job.defaults = some (parseDefaults cfg kv.key.pos kv.val).1 ∧
    (jobKey cfg st kv).2 = (parseDefaults cfg kv.key.pos kv.val).2 :=
  eq_at (jobKey_defaults cfg) st kv h ▸ ⟨rfl, rfl⟩

/-- **`Job.Defaults` of a parsed job is what `parseDefaults` makes of the value written under `defaults:`**, without a
diagnostic -/
theorem parseJob_defaults (cfg : Cfg) (id : Str) (n : Node) (h : (parseJob cfg id n).2 = []) :
    (parseJob cfg id n).1.defaults = (mpair n "defaults").map (fun p => (parseDefaults cfg p.1.pos p.2).1) ∧
    ∀ p, mpair n "defaults" = some p → (parseDefaults cfg p.1.pos p.2).2 = [] := by
  obtain ⟨hm, hr⟩ := parseJob_clean cfg id n h
  obtain ⟨hf, hok⟩ := section_reads_of_eq cfg _ n false (jobKey cfg) _ (fun st => st.job.defaults) "defaults"
    (fun kv => some (parseDefaults cfg kv.key.pos kv.val).1) (fun kv => (parseDefaults cfg kv.key.pos kv.val).2)
    (jobKey_defaults_ne cfg) (jobKey_defaults_eq cfg) hm hr
  rw [show (parseJob cfg id n).1.defaults = (jobLoop cfg id n).1.job.defaults from (jobFinish_shell_fields id _).1]
  exact ⟨hf.trans (by cases mpair n "defaults" <;> rfl), hok⟩

/-! ### `runs-on:` -/

/-- the label scalars of a `labels:` value (or of a scalar / sequence `runs-on:` value): none when it is one `${{ }}` -/
def labelNodesOf (l : Node) : List Node :=
  if (mayParseExpression l).isSome then [] else if l.kind = .scalar then [l] else l.content

/-- the literal label scalars written under `runs-on:`: the scalar, the elements of the sequence, or those of `labels:` of
the mapping form -/
def docLabelNodes (v : Node) : List Node :=
  if (mayParseExpression v).isSome then []
  else if v.kind = .scalar || v.kind = .sequence then labelNodesOf v
  else match mget v "labels" with
    | some l => labelNodesOf l
    | none => []

/-- the literal labels of a job node, as written -/
def docLabels (job : Node) : List String :=
  match mget job "runs-on" with
  | some v => (docLabelNodes v).map (·.value)
  | none => []

theorem psoss_clean (sec : String) (v : Node) (h : (parseStringOrStringSequence sec v false false).2 = []) :
    (parseStringOrStringSequence sec v false false).1 = some ((if v.kind = .scalar then [v] else v.content).map newString) := by
  simp only [parseStringOrStringSequence] at h ⊢
  by_cases hk : v.kind = .scalar
  · simp only [hk, if_true, Bool.false_and, Bool.false_eq_true, if_false] at h ⊢
    simp [(parseString_clean v false h).2]
  · simp only [hk, if_false] at h ⊢
    obtain ⟨_, he, hs⟩ := parseStringSequence_clean sec v false false h
    rw [he, parseStrings_clean_eq false _ hs]

variable {σ τ : Type}

theorem loop_pres (step : σ → KV → σ × List PErr) (π : σ → τ) (k : String)
    (hne : ∀ st kv, kv.id ≠ k → π (step st kv).1 = π st) :
    ∀ (kvs : List KV) (init : σ), k ∉ kvs.map (·.id) → π (loop step init kvs).1 = π init :=
  fun kvs init h => loop_untouched step π k hne kvs (fun _ hm e => h (e ▸ List.mem_map_of_mem hm)) init

theorem loop_field_init (step : σ → KV → σ × List PErr) (π : σ → τ) (k : String) (f : KV → τ) (π0 : τ)
    (hne : ∀ st kv, kv.id ≠ k → π (step st kv).1 = π st)
    (heq : ∀ st kv, kv.id = k → π st = π0 → π (step st kv).1 = f kv) :
    ∀ (kvs : List KV) (init : σ), (kvs.map (·.id)).Nodup → π init = π0 →
      π (loop step init kvs).1 = match kvs.find? (fun kv => kv.id = k) with | some kv => f kv | none => π0 :=
  loop_read_first step π k f π0 hne heq

theorem runsOnKey_labels_ne (st : Runner) (kv : KV) (h : kv.id ≠ "labels") : (runsOnKey st kv).1.labels = st.labels :=
  ((runsOnKey_frame st kv).1 h).1

/-- what the `labels` iteration makes of a `labels` that was `none` (a `${{ }}` value goes to `labelsExpr` instead) -/
def labelsVal (kv : KV) : Option (List Str) :=
  match mayParseExpression kv.val with
  | some _ => none
  | none => (parseStringOrStringSequence "labels" kv.val false false).1

theorem runsOnKey_labels_eq (st : Runner) (kv : KV) (h : kv.id = "labels") (h0 : st.labels = none) :
    (runsOnKey st kv).1.labels = labelsVal kv := by
  simp only [runsOnKey, labelsVal]
  split
  · split <;> simp_all
  all_goals (exfalso; simp_all)

theorem runsOnKey_labels_clean (st : Runner) (kv : KV) (h : kv.id = "labels") (hc : (runsOnKey st kv).2 = [])
    (he : mayParseExpression kv.val = none) : (parseStringOrStringSequence "labels" kv.val false false).2 = [] := by
  revert hc
  simp only [runsOnKey]
  split
  · simp only [he]; exact id
  all_goals (intro _; simp_all)

/-- **the literal labels of a parsed `runs-on:` are the label scalars written** -/
theorem parseRunsOn_labels (cfg : Cfg) (v : Node) (h : (parseRunsOn cfg v).2 = []) :
    (parseRunsOn cfg v).1.labels.getD [] = (docLabelNodes v).map newString := by
  unfold parseRunsOn at h ⊢
  unfold docLabelNodes
  cases he : mayParseExpression v with
  | some e => simp
  | none =>
    simp only [he] at h ⊢
    by_cases hk : (v.kind = .scalar || v.kind = .sequence) = true
    · simp only [hk, if_true] at h ⊢
      simp only [psoss_clean "runs-on" v h, Option.getD_some, labelNodesOf, he, Option.isSome_none, Bool.false_eq_true, if_false]
    · simp only [hk, if_false, append_nil_iff, Option.isSome_none, Bool.false_eq_true] at h ⊢
      unfold parseSectionMapping at h ⊢
      -- `labels:` finds `labels` still `none`; a `${{ }}` value goes to `labelsExpr` and leaves it so
      obtain ⟨hf, hok⟩ := section_reads cfg _ v false runsOnKey {} (fun st => st.labels) "labels" labelsVal
        (fun kv => mayParseExpression kv.val = none → (parseStringOrStringSequence "labels" kv.val false false).2 = [])
        runsOnKey_labels_ne (fun st kv hk hs h0 => ⟨runsOnKey_labels_eq st kv hk h0, runsOnKey_labels_clean st kv hk hs⟩) h.1 h.2
      rw [hf, mget]
      cases hp : mpair v "labels" with
      | none => rfl
      | some p =>
        simp only [Option.elim, Option.map_some, labelsVal, labelNodesOf, kvOf_true]
        cases hel : mayParseExpression p.2 with
        | some e => simp
        | none => simp only [psoss_clean "labels" p.2 (hok p hp hel), Option.getD_some, Option.isSome_none, Bool.false_eq_true, if_false]

theorem jobKey_runsOn_ne (cfg : Cfg) (st : JobSt) (kv : KV) (h : kv.id ≠ "runs-on") : (jobKey cfg st kv).1.job.runsOn = st.job.runsOn :=
  (jobKey_frame cfg st kv).runsOn h

theorem jobKey_runsOn_eq (cfg : Cfg) (st : JobSt) (kv : KV) (h : kv.id = "runs-on") :
    (jobKey cfg st kv).1.job.runsOn = some (parseRunsOn cfg kv.val).1 ∧ (jobKey cfg st kv).2 = (parseRunsOn cfg kv.val).2 :=
  eq_at (jobKey_runsOn cfg) st kv h ▸ ⟨rfl, rfl⟩

/-- **the literal labels of `Job.RunsOn` of a parsed job are the label scalars written under `runs-on:`** -/
theorem parseJob_labels (cfg : Cfg) (id : Str) (n : Node) (h : (parseJob cfg id n).2 = []) :
    labelsOf (parseJob cfg id n).1 = docLabels n := by
  obtain ⟨hm, hr⟩ := parseJob_clean cfg id n h
  obtain ⟨hf, hcl⟩ := section_reads_of_eq cfg _ n false (jobKey cfg) _ (fun st => st.job.runsOn) "runs-on"
    (fun kv => some (parseRunsOn cfg kv.val).1) (fun kv => (parseRunsOn cfg kv.val).2)
    (jobKey_runsOn_ne cfg) (jobKey_runsOn_eq cfg) hm hr
  have e : (parseJob cfg id n).1.runsOn = (jobLoop cfg id n).1.job.runsOn := (jobFinish_shell_fields id _).2
  unfold labelsOf docLabels
  rw [e]
  unfold jobLoop
  rw [hf, mget]
  cases hp : mpair n "runs-on" with
  | none => rfl
  | some p =>
    simp only [Option.elim, Option.map_some, kvOf_true, parseRunsOn_labels cfg p.2 (hcl p hp), List.map_map]
    rfl

/-! ### the workflow: `defaults` -/

theorem workflowKey_defaults_ne (cfg : Cfg) (w : Workflow) (kv : KV) (h : kv.id ≠ "defaults") : (workflowKey cfg w kv).1.defaults = w.defaults :=
  (workflowKey_frame cfg w kv).defaults h

theorem workflowKey_defaults_eq (cfg : Cfg) (w : Workflow) (kv : KV) (h : kv.id = "defaults") :
    (workflowKey cfg w kv).1.defaults = some (parseDefaults cfg kv.key.pos kv.val).1 ∧
    (workflowKey cfg w kv).2 = (parseDefaults cfg kv.key.pos kv.val).2 :=
  eq_at (workflowKey_defaults cfg) w kv h ▸ ⟨rfl, rfl⟩

/-- **`Workflow.Defaults` of an accepted document** -/
theorem parse_defaults (cfg : Cfg) (doc : Node) (h : (parse cfg doc).2 = []) :
    ∃ root, docRoot doc = some root ∧
      (parse cfg doc).1.defaults = (mpair root "defaults").map (fun p => (parseDefaults cfg p.1.pos p.2).1) ∧
      ∀ p, mpair root "defaults" = some p → (parseDefaults cfg p.1.pos p.2).2 = [] := by
  obtain ⟨root, hroot, hm, hr, he, _, _⟩ := parse_clean cfg doc h
  refine ⟨root, hroot, ?_⟩
  obtain ⟨hf, hok⟩ := section_reads_of_eq cfg _ root false (workflowKey cfg) {} (fun w => w.defaults) "defaults"
    (fun kv => some (parseDefaults cfg kv.key.pos kv.val).1) (fun kv => (parseDefaults cfg kv.key.pos kv.val).2)
    (workflowKey_defaults_ne cfg) (workflowKey_defaults_eq cfg) hm hr
  rw [he]
  exact ⟨hf.trans (by cases mpair root "defaults" <;> rfl), hok⟩

end AL.C20D
