import AL.Model.Visit
import AL.Lemmas.Visit
import AL.Lemmas.TyWf
/-
  Lemmas for the `on:` section of the Visit model (C02 / C05): `Ty.setProp` keeps a key-sorted association list
  key-sorted, a key-sorted list is determined by its `Ty.lookup` function, hence `setProp`s for different keys
  commute on sorted lists and the fold in `objOf` does not depend on the order of a list with distinct keys.
-/
namespace AL.Visit
open AL AL.Sema

/-! ### key-sorted association lists -/

/-- strictly increasing keys -/
def KeySorted (ps : List (String × Ty)) : Prop := ps.Pairwise (fun a b => a.1 < b.1)

theorem keySorted_nil : KeySorted [] := List.Pairwise.nil

/-- `KeySorted` is `Ty.sortedKeys` as a proposition, so this is `Ty.setProp_sorted` -/
theorem setProp_keySorted (k : String) (v : Ty) {ps : List (String × Ty)} (h : KeySorted ps) :
    KeySorted (Ty.setProp k v ps) :=
  (Ty.sortedKeys_iff _).1 (Ty.setProp_sorted ps ((Ty.sortedKeys_iff ps).2 h))

theorem mem_of_lookup_eq_some {x : String} {v : Ty} :
    {ps : List (String × Ty)} → Ty.lookup x ps = some v → (x, v) ∈ ps
  | [], h => by simp [Ty.lookup] at h
  | (k', v') :: rest, h => by
    simp only [Ty.lookup] at h
    split at h
    next heq =>
      subst heq
      cases h
      exact List.mem_cons_self
    next => exact List.mem_cons_of_mem _ (mem_of_lookup_eq_some h)

theorem lookup_cons_self (k : String) (v : Ty) (rest : List (String × Ty)) :
    Ty.lookup k ((k, v) :: rest) = some v := by
  simp [Ty.lookup]

/-- a key-sorted list is determined by its `lookup` function -/
theorem keySorted_ext :
    {ps qs : List (String × Ty)} → KeySorted ps → KeySorted qs →
      (∀ x, Ty.lookup x ps = Ty.lookup x qs) → ps = qs
  | [], [], _, _, _ => rfl
  | [], (k, v) :: _, _, _, h => by
    have := h k
    rw [lookup_cons_self] at this
    simp [Ty.lookup] at this
  | (k, v) :: _, [], _, _, h => by
    have := h k
    rw [lookup_cons_self] at this
    simp [Ty.lookup] at this
  | (k₁, v₁) :: r₁, (k₂, v₂) :: r₂, h₁, h₂, h => by
    have c₁ := List.pairwise_cons.1 h₁
    have c₂ := List.pairwise_cons.1 h₂
    -- the head keys agree: each is the least key of the other list
    have hk : k₁ = k₂ := by
      have m₁ : (k₁, v₁) ∈ (k₂, v₂) :: r₂ :=
        mem_of_lookup_eq_some (by rw [← h k₁, lookup_cons_self])
      have m₂ : (k₂, v₂) ∈ (k₁, v₁) :: r₁ :=
        mem_of_lookup_eq_some (by rw [h k₂, lookup_cons_self])
      rcases List.mem_cons.1 m₁ with e | m₁
      · exact congrArg Prod.fst e
      · rcases List.mem_cons.1 m₂ with e | m₂
        · exact (congrArg Prod.fst e).symm
        · exact absurd (c₁.1 _ m₂) (String.lt_asymm (c₂.1 _ m₁))
    subst hk
    have hv : v₁ = v₂ := by
      have := h k₁
      rw [lookup_cons_self, lookup_cons_self] at this
      exact Option.some.inj this
    subst hv
    have hr : r₁ = r₂ := by
      refine keySorted_ext c₁.2 c₂.2 fun x => ?_
      by_cases hx : k₁ = x
      · subst hx
        rw [Ty.lookup_eq_none_of_forall_ne fun a ha e => String.lt_irrefl _ (e ▸ c₁.1 a ha),
          Ty.lookup_eq_none_of_forall_ne fun a ha e => String.lt_irrefl _ (e ▸ c₂.1 a ha)]
      · have := h x
        simpa [Ty.lookup, hx] using this
    rw [hr]

/-- `setProp`s for different keys commute on a key-sorted list -/
theorem setProp_comm {k k' : String} (hne : k ≠ k') (v v' : Ty) {ps : List (String × Ty)} (hs : KeySorted ps) :
    Ty.setProp k v (Ty.setProp k' v' ps) = Ty.setProp k' v' (Ty.setProp k v ps) := by
  apply keySorted_ext (setProp_keySorted _ _ (setProp_keySorted _ _ hs))
    (setProp_keySorted _ _ (setProp_keySorted _ _ hs))
  intro x
  simp only [lookup_setProp]
  by_cases h1 : x = k
  · subst h1; simp [hne]
  · simp [h1]

/-! ### the fold of `objOf` -/

/-- the fold inside `objOf` -/
def propsFold (acc : List (String × Ty)) (l : List (String × Ty)) : List (String × Ty) :=
  l.foldl (fun acc kv => Ty.setProp kv.1 kv.2 acc) acc

theorem objOf_eq (l : List (String × Ty)) : objOf l = .obj (propsFold [] l) none := rfl

theorem propsFold_keySorted (l : List (String × Ty)) :
    {acc : List (String × Ty)} → KeySorted acc → KeySorted (propsFold acc l) := by
  induction l with
  | nil => intro acc h; exact h
  | cons a l ih => intro acc h; exact ih (setProp_keySorted a.1 a.2 h)

/-- the keys of `objOf l` are strictly increasing -/
theorem objOf_keySorted (l : List (String × Ty)) : KeySorted (propsFold [] l) :=
  propsFold_keySorted l keySorted_nil

/-- from a key-sorted accumulator, the fold over a list with pairwise distinct keys does not depend on the order -/
theorem propsFold_perm {l l' : List (String × Ty)} (hp : l.Perm l') :
    (l.map (·.1)).Nodup → ∀ {acc : List (String × Ty)}, KeySorted acc → propsFold acc l = propsFold acc l' := by
  induction hp with
  | nil => intro _ acc _; rfl
  | cons a _ ih =>
    intro hnd acc hs
    rw [List.map_cons, List.nodup_cons] at hnd
    exact ih hnd.2 (setProp_keySorted a.1 a.2 hs)
  | swap a b l =>
    intro hnd acc hs
    rw [List.map_cons, List.map_cons, List.nodup_cons] at hnd
    have hne : a.1 ≠ b.1 := fun e => hnd.1 (e ▸ List.mem_cons_self)
    show propsFold (Ty.setProp a.1 a.2 (Ty.setProp b.1 b.2 acc)) l =
      propsFold (Ty.setProp b.1 b.2 (Ty.setProp a.1 a.2 acc)) l
    rw [setProp_comm hne a.2 b.2 hs]
  | trans h₁ _ ih₁ ih₂ =>
    intro hnd acc hs
    have hnd₂ := (h₁.map (·.1)).nodup_iff.1 hnd
    exact (ih₁ hnd hs).trans (ih₂ hnd₂ hs)

theorem objOf_perm {l l' : List (String × Ty)} (hp : l.Perm l') (hnd : (l.map (·.1)).Nodup) :
    objOf l' = objOf l := by
  rw [objOf_eq, objOf_eq, propsFold_perm hp hnd keySorted_nil]

/-- the lookups in `objOf l` -/
theorem lookup_propsFold (x : String) (l : List (String × Ty)) :
    ∀ acc, Ty.lookup x (propsFold acc l) =
      match (l.reverse.find? (·.1 = x)) with
      | some kv => some kv.2
      | none => Ty.lookup x acc := by
  induction l with
  | nil => intro acc; rfl
  | cons a l ih =>
    intro acc
    show Ty.lookup x (propsFold (Ty.setProp a.1 a.2 acc) l) = _
    rw [ih, List.reverse_cons, List.find?_append]
    cases h : l.reverse.find? (·.1 = x) with
    | some kv => simp
    | none =>
      simp only [Option.none_or, lookup_setProp, List.find?_cons, List.find?_nil]
      by_cases hx : a.1 = x
      · simp [hx]
      · have hx' : ¬ x = a.1 := fun e => hx e.symm
        simp [hx, hx']

/-! ### `runCallDefaults` -/

theorem runCallDefaults_append (lower : String → String) (hdr : Header) (pre : List CallInput) :
    ∀ (acc : List (String × Ty)) (post : List CallInput),
      runCallDefaults lower hdr acc (pre ++ post) =
        runCallDefaults lower hdr acc pre ++
          runCallDefaults lower hdr (acc ++ pre.map fun x => (x.id, x.ty)) post := by
  induction pre with
  | nil => intro acc post; simp [runCallDefaults]
  | cons i pre ih =>
    intro acc post
    simp [runCallDefaults, ih, List.append_assoc]

end AL.Visit
