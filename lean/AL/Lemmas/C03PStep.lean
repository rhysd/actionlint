import AL.Lemmas.C12PBase
/-
  C03Parse / C12Parse, level 2: `parseStep`. `env:` and `with:` first; then the strings the loop state holds under each key
  (`stepK`), that the iteration of a key stores every scalar below its value there (`stepKey_store`) and that the other
  iterations leave them alone (`stepK_pres`). With the key (`namespace AL.C12P`): the field ↔ key table `stepK_keyed`, the
  step (`parseStep_leafK`), the sequence of steps. Without it (`AL.C03P` again): `stepK_final`, `parseStep_leaf`,
  `parseSteps_leaf` forget the key (`sub_of_keyed`, `RepK.all`).
-/
namespace AL.C03P
open AL.PW AL.Yaml AL.Ast AL.C03R

/-! ### `env:` -/

theorem parseEnv_leaf (cfg : Cfg) (n : Node) (v : Node) (hv : v ∈ leaves n) (h : (parseEnv cfg n).2 = []) :
    Rep v (envStrs (some (parseEnv cfg n).1)) := by
  simp only [parseEnv] at h ⊢
  split at h
  · rename_i hk
    simp only [hk, ↓reduceIte, envStrs]
    rw [leaves_scalar n hk, List.mem_singleton] at hv
    subst hv
    simp only [parseExpression_clean v "mapping value for \"env\" section" h, Option.toList_some]
    exact Rep.newString _
  · rename_i hk
    simp only [hk, ↓reduceIte, envStrs]
    simp only [append_nil_iff] at h
    exact strMap_leaf hv h.1 h.2 (·.value) fun _ => ⟨rfl, rfl⟩

/-! ### `with:` of a step -/

def withK (k : String) (st : ExecAction) : List Str :=
  match k with
  | "entrypoint" => st.entrypoint.toList
  | "args" => st.args.toList
  | _ => (st.inputs.getD []).map (·.2.value)

def withStrs (st : ExecAction) : List Str := (st.inputs.getD []).map (·.2.value) ++ st.entrypoint.toList ++ st.args.toList

theorem withK_sub (k : String) (st : ExecAction) : ∀ s ∈ withK k st, s ∈ withStrs st := by
  intro s hs
  simp only [withK] at hs
  simp only [withStrs, List.mem_append]
  split at hs
  · exact Or.inl (Or.inr hs)
  · exact Or.inr hs
  · exact Or.inl (Or.inl hs)

theorem withK_pres (k : String) (st : ExecAction) (kv : KV) (hne : kv.id ≠ k) :
    ∀ s ∈ withK k st, s ∈ withK k (withKey st kv).1 := by
  intro s hs
  simp only [withKey]
  split
  all_goals (simp only [withK] at hs ⊢; split at hs)
  all_goals first | exact hs | exact absurd ‹kv.id = _› hne | skip
  simp only [Option.getD_some, List.map_append, List.mem_append]
  exact Or.inl hs

theorem withKey_store (st : ExecAction) (kv : KV) (v : Node) (hv : v ∈ leaves kv.val) (hc : (withKey st kv).2 = []) :
    Rep v (withK kv.id (withKey st kv).1) := by
  revert hc
  simp only [withKey]
  split
  · rename_i h
    intro hc
    simp only [h, withK]
    exact parseString_leaf _ _ v hv hc
  · rename_i h
    intro hc
    simp only [h, withK]
    exact parseString_leaf _ _ v hv hc
  · rename_i h1 h2
    intro hc
    have : withK kv.id = fun st => (st.inputs.getD []).map (·.2.value) := by
      funext st
      simp only [withK]
      try (split <;> first | exact absurd ‹kv.id = _› h1 | exact absurd ‹kv.id = _› h2 | rfl)
    rw [this]
    exact (parseString_leaf _ _ v hv hc).mono (by simp)

theorem withKey_uses (st : ExecAction) (kv : KV) : (withKey st kv).1.uses = st.uses :=
  (withKey_frame st kv).uses

theorem loop_withKey_uses (kvs : List KV) (init : ExecAction) : (loop withKey init kvs).1.uses = init.uses :=
  loop_withKey_frame kvs init

/-- `with:` — every scalar below it is an input value, the entrypoint or the args of the action, or the section reports -/
theorem with_leaf (cfg : Cfg) (n : Node) (init : ExecAction) (v : Node) (hv : v ∈ leaves n)
    (hm : (parseSectionMapping cfg "with" n false false).2 = [])
    (hr : (loop withKey init (parseSectionMapping cfg "with" n false false).1).2 = []) :
    Rep v (withStrs (loop withKey init (parseSectionMapping cfg "with" n false false).1).1) := by
  obtain ⟨k, hk⟩ := sect_leaves cfg (sectionWhat "with") n false withKey init v hv withK hm hr
    (fun kv st hvk hc => withKey_store st kv v hvk hc) withK_pres
  exact hk.mono (withK_sub k _)

/-! ### the step -/

def stepK (k : String) (st : StepSt) : List Str :=
  match k with
  | "if" => st.step.cond.toList
  | "name" => st.step.name.toList
  | "env" => envStrs st.step.env
  | "continue-on-error" => boolStrs st.step.continueOnError
  | "timeout-minutes" => floatStrs st.step.timeoutMinutes
  | "uses" => (match st.step.exec with | .action e => e.uses.toList | _ => [])
  | "with" => (match st.step.exec with | .action e => withStrs e | _ => [])
  | "run" => (match st.step.exec with | .run e => e.run.toList | _ => [])
  | "shell" => (match st.step.exec with | .run e => e.shell.toList | _ => [])
  | "working-directory" => st.workDir.toList
  | _ => []

/-- what `stepK` reads of `exec`, by the readers of `StepKeyFrame` -/
theorem exec_slot_run (f : ExecRun → Option Str) (x : Exec) :
    (match x with | .run e => (f e).toList | _ => []) = (x.ofRun f).toList := by cases x <;> rfl

theorem exec_slot_action (f : ExecAction → Option Str) (x : Exec) :
    (match x with | .action e => (f e).toList | _ => []) = (x.ofAction f).toList := by cases x <;> rfl

theorem exec_slot_with (x : Exec) :
    (match x with | .action e => withStrs e | _ => []) =
      ((x.ofAction (·.inputs)).getD []).map (·.2.value) ++ (x.ofAction (·.entrypoint)).toList ++ (x.ofAction (·.args)).toList := by
  cases x <;> rfl

theorem stepK_pres (cfg : Cfg) (k : String) (st : StepSt) (kv : KV) (hne : kv.id ≠ k) :
    ∀ s ∈ stepK k st, s ∈ stepK k (stepKey cfg st kv).1 := by
  have F := stepKey_frame cfg st kv
  unfold stepK
  split
  · rw [F.cond hne]; exact fun _ h => h
  · rw [F.name hne]; exact fun _ h => h
  · rw [F.env hne]; exact fun _ h => h
  · rw [F.continueOnError hne]; exact fun _ h => h
  · rw [F.timeoutMinutes hne]; exact fun _ h => h
  · rw [exec_slot_action, exec_slot_action, F.uses hne]; exact fun _ h => h
  · rw [exec_slot_with, exec_slot_with, F.inputs hne, (F.withArgs hne).1, (F.withArgs hne).2]; exact fun _ h => h
  · rw [exec_slot_run, exec_slot_run, (F.run hne).1]; exact fun _ h => h
  · rw [exec_slot_run, exec_slot_run, F.shell hne]; exact fun _ h => h
  · rw [F.workDir hne]; exact fun _ h => h
  · exact fun _ h => h
/-- while the loop runs, the working directory of a `run` step is the one remembered in the loop state -/
def WorkInv (st : StepSt) : Prop := ∀ e, st.step.exec = .run e → e.workingDirectory = st.workDir

theorem stepKey_workInv (cfg : Cfg) (st : StepSt) (kv : KV) (h : WorkInv st) : WorkInv (stepKey cfg st kv).1 := by
  unfold stepKey
  split <;> (try split)
  -- `run`, `shell` and `working-directory` set both places alike; the other branches touch neither
  all_goals first | exact h | (intro e he; first | (cases he; rfl) | cases he | exact absurd he (‹∀ e, st.step.exec = .run e → False› e))

theorem stepKey_store (cfg : Cfg) (st : StepSt) (kv : KV) (v : Node) (hv : v ∈ stepKeyScalars kv.id kv.val)
    (hc : (stepKey cfg st kv).2 = []) : Rep v (stepK kv.id (stepKey cfg st kv).1) := by
  -- with `kv.id` a variable, `split` puts the literal key into `hv` and the goal
  obtain ⟨id, key, val⟩ := kv
  revert hc hv
  unfold stepKey
  dsimp only
  split <;> intro hv <;> (try simp only [stepKeyScalars, stepK, String.reduceEq, imp_self] at hv ⊢)
  · cases hv
  · exact parseString_leaf _ _ v hv
  · exact parseString_leaf _ _ v hv
  · exact parseEnv_leaf cfg _ v hv
  · exact parseBool_leaf _ v hv
  · exact parseTimeoutMinutes_leaf cfg _ v hv
  · cases st.step.exec <;> dsimp only <;> intro hc  -- uses
    · exact parseString_leaf _ _ v hv hc
    · simp at hc
    · exact parseString_leaf _ _ v hv hc
  · cases st.step.exec <;> dsimp only <;> intro hc  -- with
    · rw [append_nil_iff] at hc; exact with_leaf cfg _ _ v hv hc.1 hc.2
    · simp at hc
    · rw [append_nil_iff] at hc; exact with_leaf cfg _ _ v hv hc.1 hc.2
  · cases st.step.exec <;> dsimp only <;> intro hc  -- run
    · exact parseString_leaf _ _ v hv hc
    · exact parseString_leaf _ _ v hv hc
    · simp at hc
  · cases st.step.exec <;> dsimp only <;> intro hc  -- shell
    · exact parseString_leaf _ _ v hv hc
    · exact parseString_leaf _ _ v hv hc
    · simp at hc
  · cases st.step.exec <;> dsimp only <;> exact parseString_leaf _ _ v hv  -- working-directory
  · intro hc; simp at hc

theorem seqScalars_clean (sec : String) (n : Node) (ae : Bool) (g : Node → List Node) (v : Node) (hv : v ∈ seqScalars n g)
    (h : (checkSequence sec n ae).2 = []) : (checkSequence sec n ae).1 = true ∧ v ∈ n.content.flatMap g := by
  obtain ⟨hk, h1⟩ := checkSequence_clean sec n ae h
  simp only [seqScalars, hk, ↓reduceIte] at hv
  exact ⟨h1, hv⟩

end AL.C03P

/-! ### with the key: `parseStep` keeps it -/
namespace AL.C12P
open AL.PW AL.Yaml AL.Ast AL.C03P AL.C03R AL.C12R

/-- **the field ↔ key table of a step**: what a state of the loop of `parseStep` (`WorkInv`, silent `stepFinish`) holds under
the step key `k` is listed by `stepKStrs` under the workflow key `stepKeyOf k` -/
theorem stepK_keyed (n : Node) (k : String) (st : StepSt) (hinv : WorkInv st) (hc : stepFinish n st = []) :
    ∀ s ∈ stepK k st, (s, stepKeyOf k) ∈ stepKStrs st.step := by
  intro s hs
  have hexec : ∀ {p}, p ∈ execKStrs st.step.exec → p ∈ stepKStrs st.step := fun h =>
    List.mem_append_left _ (List.mem_append_left _ (List.mem_append_left _ (List.mem_append_right _ h)))
  unfold stepK at hs
  split at hs
  -- the tags count the branches of `stepK`: 6 `uses`, 7 `with`, 8 `run`, 9 `shell`, 10 `working-directory`, 11 the default
  case h_11 => cases hs
  case h_6 | h_8 | h_9 =>
    refine hexec ?_
    cases he : st.step.exec <;> simp only [he, List.not_mem_nil] at hs
    simp +decide only [execKStrs, stepKeyOf, List.mem_append, mem_tag.2 ⟨hs, rfl⟩, true_or, or_true]
  case h_7 =>
    refine hexec ?_
    cases he : st.step.exec <;> simp only [he, List.not_mem_nil, withStrs, List.mem_append] at hs
    simp only [execKStrs, stepKeyOf, List.mem_append, mem_tag, and_true]
    rcases hs with (hs | hs) | hs <;> simp only [hs, true_or, or_true]
  case h_10 =>
    -- `WorkInv`: the remembered working directory is the `run` step's; a silent `stepFinish` excludes the rest
    refine hexec ?_
    cases he : st.step.exec with
    | none => simp [stepFinish, he] at hc
    | run e =>
      rw [← hinv e he] at hs
      simp only [execKStrs, stepKeyOf, List.mem_append, mem_tag.2 ⟨hs, rfl⟩, or_true]
    | action e =>
      simp only [stepFinish, he, append_nil_iff] at hc
      cases hw : st.workDir with
      | none => simp [hw] at hs
      | some w => simp [hw] at hc
  all_goals simp only [stepKStrs, stepKeyOf, List.mem_append, mem_tag.2 ⟨hs, rfl⟩, true_or, or_true]

/-- level 2: a silent `parseStep` keeps the key -/
theorem parseStep_leafK (cfg : Cfg) (n : Node) (v : Node) (key : String) (hv : (v, key) ∈ stepKeyed n)
    (hc : (parseStep cfg n).2 = []) : RepK v key (stepKStrs (parseStep cfg n).1) := by
  simp only [parseStep, append_nil_iff] at hc ⊢
  obtain ⟨⟨hm, hr⟩, hf⟩ := hc
  exact sect_tagK cfg _ n false (stepKey cfg) _ "" stepKeyKeyed stepKeyOf stepKeyScalars stepKeyKeyed_eq v key hv stepK _ hm hr
    (fun kv st hvk hc => stepKey_store cfg st kv v hvk hc) (stepK_pres cfg)
    (fun k => stepK_keyed n k _ (loop_inv _ WorkInv (stepKey_workInv cfg) _ _ (by intro e he; cases he)) hf)

theorem stepsOf_leafK (cfg : Cfg) (v : Node) (key : String) : ∀ (cs : List Node), (v, key) ∈ cs.flatMap stepKeyed →
    (stepsOf cfg cs).2 = [] → RepK v key ((stepsOf cfg cs).1.flatMap stepKStrs) := by
  intro cs hv h
  rw [stepsOf_mapR] at h ⊢
  obtain ⟨c, hc, hv⟩ := List.mem_flatMap.1 hv
  exact RepK.flatMap (List.mem_map.2 ⟨c, hc, rfl⟩) (parseStep_leafK cfg c v key hv (mapR_silent.1 h c hc))

theorem parseSteps_leafK (cfg : Cfg) (n : Node) (v : Node) (key : String) (hv : (v, key) ∈ stepsKeyed n)
    (h : (parseSteps cfg n).2 = []) : RepK v key (((parseSteps cfg n).1.getD []).flatMap stepKStrs) := by
  simp only [parseSteps] at h ⊢
  split at h
  · rename_i hc
    have := checkSequence_clean "steps" n false h
    simp [this.2] at hc
  · rename_i hc
    simp only [hc]
    simp only [append_nil_iff] at h
    have hk := (checkSequence_clean "steps" n false h.1).1
    simp only [stepsKeyed, seqKeyed, hk, ↓reduceIte] at hv
    exact stepsOf_leafK cfg v key _ hv h.2

end AL.C12P

/-! ### without the key -/
namespace AL.C03P
open AL.PW AL.Yaml AL.Ast AL.C03R AL.C12R AL.C12P

theorem stepK_final (n : Node) (k : String) (st : StepSt) (hinv : WorkInv st) (hc : stepFinish n st = []) :
    ∀ s ∈ stepK k st, s ∈ stepStrs st.step :=
  sub_of_keyed (stepK_keyed n k st hinv hc) (stepKStrs_fst _)

/-- **level 2, clean form.** When `parseStep` appends no diagnostic, every value scalar of the step node is one of the
value strings of the step. -/
theorem parseStep_leaf (cfg : Cfg) (n : Node) (v : Node) (hv : v ∈ stepScalars n) (hc : (parseStep cfg n).2 = []) :
    Rep v (stepStrs (parseStep cfg n).1) :=
  RepK.all (fun v key hv => parseStep_leafK cfg n v key hv hc) (stepKeyed_fst n) (stepKStrs_fst _) v hv

theorem stepsOf_leaf (cfg : Cfg) (v : Node) : ∀ (cs : List Node), v ∈ cs.flatMap stepScalars → (stepsOf cfg cs).2 = [] →
    Rep v ((stepsOf cfg cs).1.flatMap stepStrs) :=
  fun cs hv h => RepK.all (fun v key hv => stepsOf_leafK cfg v key cs hv h) (C12P.flatMap_fst _ _ _ stepKeyed_fst)
    (C12R.flatMap_fst _ _ _ stepKStrs_fst) v hv

theorem parseSteps_leaf (cfg : Cfg) (n : Node) (v : Node) (hv : v ∈ stepsScalars n) (h : (parseSteps cfg n).2 = []) :
    Rep v (((parseSteps cfg n).1.getD []).flatMap stepStrs) :=
  RepK.all (fun v key hv => parseSteps_leafK cfg n v key hv h) (stepsKeyed_fst n) (C12R.flatMap_fst _ _ _ stepKStrs_fst) v hv

end AL.C03P
