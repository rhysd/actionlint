import AL.Model.Visit
import AL.Lemmas.TyProps
/-
  Lemmas about the scope bookkeeping model (AL/Model/Visit.lean): a job leaves `St.init` behind, so the output of
  `runJobs` is the concatenation of the jobs' own outputs; the state and output of `runSteps`; `needsTyOf`
  as a first-wins insert and the `steps` object as two independent folds (properties, mapped type), the forms in
  which AL/Lemmas/TyProps.lean says which keys they hold.
-/
namespace AL.Visit
open AL AL.Sema

/-! ### jobs -/

theorem runJob_fst (lower : String → String) (hdr : Header) (jobs : List JobM) (st : St) (j : JobM) :
    (runJob lower hdr jobs st j).1 = St.init := rfl

theorem runJobs_cons (lower : String → String) (hdr : Header) (jobs : List JobM) (st : St) (j : JobM)
    (js : List JobM) :
    runJobs lower hdr jobs st (j :: js) =
      ((runJobs lower hdr jobs (runJob lower hdr jobs st j).1 js).1,
       (runJob lower hdr jobs st j).2 ++ (runJobs lower hdr jobs (runJob lower hdr jobs st j).1 js).2) := rfl

theorem runJobs_snd_init (lower : String → String) (hdr : Header) (jobs : List JobM) :
    (js : List JobM) →
      (runJobs lower hdr jobs St.init js).2 = js.flatMap (fun j => (runJob lower hdr jobs St.init j).2)
  | [] => rfl
  | j :: js => by
    rw [runJobs_cons, runJob_fst]
    simp only [List.flatMap_cons]
    rw [runJobs_snd_init lower hdr jobs js]

/-! ### `needs` -/

/-- what `calcNeedsType` binds under the folded id `i` of a job that needs it: nothing for the job itself and for
an id that no job has -/
def needOf (jobs : List JobM) (self i : String) : Option Ty :=
  if i = self then none
  else (lookupJob i jobs).map fun j => .obj [("outputs", jobOutputsTy j), ("result", .string)] none

/-- `calcNeedsType` is a first-wins insert of `needOf`, so `Ty.lookup_foldl_insertNew` gives its content -/
theorem needsTyOf_insertNew (lower : String → String) (jobs : List JobM) (self : String) (needs : List String) :
    needsTyOf lower jobs self needs =
      .obj (needs.foldl (fun ps n => Ty.insertNew (lower n) (needOf jobs self (lower n)) ps) []) none := by
  unfold needsTyOf
  congr 2
  funext ps n
  unfold Ty.insertNew needOf
  by_cases h : lower n = self
  · simp [h]
  · simp only [h, if_false]
    cases lookupJob (lower n) jobs <;> rfl

/-- the fold reads `jobs` only through `lookupJob` at the folded entries of `needs:` -/
theorem needsTyOf_congr (lower : String → String) (jobs jobs' : List JobM) (self : String)
    (needs : List String) (h : ∀ n ∈ needs, lookupJob (lower n) jobs = lookupJob (lower n) jobs') :
    needsTyOf lower jobs self needs = needsTyOf lower jobs' self needs := by
  rw [needsTyOf_insertNew, needsTyOf_insertNew]
  congr 1
  exact Ty.foldl_congr _ fun ps n hn => by rw [needOf, needOf, h n hn]

/-! ### steps -/

theorem runSteps_cons (lower : String → String) (hdr : Header) (st : St) (s : StepM) (ss : List StepM) :
    runSteps lower hdr st (s :: ss) =
      ((runSteps lower hdr { st with stepsTy := st.stepsTy.map (fun t => addStep lower t s) } ss).1,
       s.probes.map (checkProbe lower hdr none st) ++
         (runSteps lower hdr { st with stepsTy := st.stepsTy.map (fun t => addStep lower t s) } ss).2) := rfl

/-- the state after the steps: only `stepsTy` moved, by folding `addStep` -/
theorem runSteps_fst (lower : String → String) (hdr : Header) :
    (a : List StepM) → (st : St) →
      (runSteps lower hdr st a).1 = { st with stepsTy := st.stepsTy.map (fun t => a.foldl (addStep lower) t) }
  | [], st => by cases st with | mk m s n => cases s <;> rfl
  | s :: ss, st => by
    rw [runSteps_cons]
    simp only
    rw [runSteps_fst lower hdr ss]
    cases st with
    | mk m s' n => cases s' <;> rfl

theorem runSteps_append_snd (lower : String → String) (hdr : Header) :
    (a b : List StepM) → (st : St) →
      (runSteps lower hdr st (a ++ b)).2 =
        (runSteps lower hdr st a).2 ++ (runSteps lower hdr (runSteps lower hdr st a).1 b).2
  | [], b, st => rfl
  | s :: ss, b, st => by
    rw [List.cons_append, runSteps_cons, runSteps_cons]
    simp only
    rw [runSteps_append_snd lower hdr ss b, List.append_assoc]

theorem loosen_obj (ps : List (String × Ty)) (m : Option Ty) : loosen (.obj ps m) = .obj ps (some .any) := rfl

/-- what `VisitStep` does to the properties of `steps` … -/
def stepProps (lower : String → String) (ps : List (String × Ty)) (s : StepM) : List (String × Ty) :=
  match s.id with
  | none => ps
  | some id =>
    Ty.setProp (lower id) (.obj [("conclusion", .string), ("outcome", .string), ("outputs", s.outputs)] none) ps

/-- … and to its mapped type: an id with a placeholder opens the object -/
def stepMapped (m : Option Ty) (s : StepM) : Option Ty :=
  if s.id.isSome && s.idExpr then some .any else m

theorem addStep_split (lower : String → String) (ps : List (String × Ty)) (m : Option Ty) (s : StepM) :
    addStep lower (.obj ps m) s = .obj (stepProps lower ps s) (stepMapped m s) := by
  unfold addStep stepProps stepMapped
  cases s.id with
  | none => rfl
  | some id => cases s.idExpr <;> rfl

/-- the `steps` object after the steps `ss`: the ids are collected and the object is opened independently -/
theorem stepsFold_obj (lower : String → String) (ss : List StepM) (ps : List (String × Ty)) (m : Option Ty) :
    ss.foldl (addStep lower) (.obj ps m) = .obj (ss.foldl (stepProps lower) ps) (ss.foldl stepMapped m) :=
  Ty.foldl_pair (addStep_split lower) ss ps m

theorem hasKey_stepProps (lower : String → String) (x : String) (ps : List (String × Ty)) (s : StepM) :
    (Ty.lookup x (stepProps lower ps s)).isSome = true ↔
      (Ty.lookup x ps).isSome = true ∨ ∃ id, s.id = some id ∧ lower id = x := by
  unfold stepProps
  cases s.id with
  | none => simp
  | some id => simp [Ty.hasKey_setProp, eq_comm (a := x)]

/-- `steps` is open after `ss` iff it was before or some id of `ss` has a placeholder -/
theorem foldl_stepMapped (m : Option Ty) :
    ∀ ss : List StepM, ss.foldl stepMapped m = if ss.any (fun s => s.id.isSome && s.idExpr) then some .any else m
  | [] => rfl
  | s :: ss => by
    rw [List.foldl_cons, foldl_stepMapped _ ss, stepMapped, List.any_cons]
    cases s.id.isSome && s.idExpr <;> cases ss.any (fun s => s.id.isSome && s.idExpr) <;> rfl

/-- a strict `steps` object stays strict when no id has a placeholder -/
theorem stepsFold_strict (lower : String → String) (ss : List StepM) (ps : List (String × Ty))
    (h : ∀ s ∈ ss, s.id ≠ none → s.idExpr = false) :
    ∃ ps', ss.foldl (addStep lower) (.obj ps none) = .obj ps' none := by
  refine ⟨ss.foldl (stepProps lower) ps, ?_⟩
  rw [stepsFold_obj, foldl_stepMapped, if_neg]
  simp only [List.any_eq_true, Bool.and_eq_true, not_exists, not_and, Bool.not_eq_true]
  exact fun s hs hid => h s hs (by rw [← Option.isSome_iff_ne_none]; exact hid)

end AL.Visit
