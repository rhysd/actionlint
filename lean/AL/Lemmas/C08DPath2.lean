import AL.Lemmas.C08DPath
/-
  More edges: job → `strategy:` → `matrix:` (the names of the rows), document → `on:` → `workflow_call:` /
  `workflow_dispatch:` → `inputs:` / `secrets:` / `outputs:` (the declared names).
-/
namespace AL.C08D
open AL.PW AL.Yaml AL.Ast AL.C13P AL.C13D AL.C13D3

variable (F : Folds) (cfg : Cfg)

/-! ### `strategy:` → `matrix:` -/

theorem strategyKey_frame (s s' : Strategy) (kv : KV) (h : nStrategy F s = nStrategy F s') :
    Sim (nStrategy F) (strategyKey cfg s kv) (strategyKey cfg s' kv) := by
  obtain ⟨m, ff, mp, p⟩ := s
  obtain ⟨m', ff', mp', p'⟩ := s'
  simp only [nStrategy, Strategy.mk.injEq] at h
  obtain ⟨hm, rfl, rfl, rfl⟩ := h
  simp -iota only [strategyKey]
  split <;> exact ⟨by simp only [nStrategy, hm], rfl⟩

theorem c_job_strategy (jid : Str) (m : MapCtx) (hk : m.Keyed cfg "strategy") :
    Cong (parseJob cfg jid) m.at (nJob F) (SimRel (parseStrategy cfg (parseString m.key false).1.pos) (nStrategy F)) :=
  c_job F cfg jid m "strategy" hk _ (step_store (jobKey_strategy cfg · _) fun s x y e => by simp only [nJobSt, nJob, Option.map_some, e])

theorem c_strategy_matrix (pos : Yaml.Pos) (m : MapCtx) (hk : m.Keyed cfg "matrix") (hf : ∀ a b, F.matrix a = F.matrix b → cfg.lower a = cfg.lower b) :
    Cong (parseStrategy cfg pos) m.at (nStrategy F) (KeyRecased F.matrix) := by
  have key := Sect.cong (plain (strategyKey cfg) { pos := pos }) cfg (sectionWhat "strategy") false true m (nStrategy F) (nStrategy F)
    (KeyRecased F.matrix) hk.first' (fun s s' kv h => strategyKey_frame F cfg s s' kv h) (fun s s' h => ⟨h, rfl⟩)
    (fun s v v' h => hk.id ▸ step_store (strategyKey_matrix cfg · _) (fun s x y e => by simp only [nStrategy, Option.map_some, e])
      s v v' (parseMatrix_recase hf _ h))
  intro v v' h
  have := key v v' h
  simpa only [parseStrategy_eq_run] using this

/-! ### `on:` → an event → its sections -/

theorem c_wf_on (m : MapCtx) (hk : m.Keyed cfg "on") :
    Cong (wfRun cfg) m.at (nWf F) (SimRel (parseEvents cfg (parseString m.key false).1.pos) (Option.map (List.map (nEvent F.event)))) :=
  c_wf F cfg m "on" hk _ (step_store (workflowKey_on cfg · _) fun s x y e => by simp only [nWf, e])

theorem eventOfKey_frame (f : String → String) (s s' : List Event) (kv : KV) (h : s.map (nEvent f) = s'.map (nEvent f)) :
    Sim (List.map (nEvent f)) (eventOfKey cfg s kv) (eventOfKey cfg s' kv) := by
  simp -iota only [eventOfKey]
  split
  · refine ⟨?_, rfl⟩
    cases (parseScheduleEvent cfg kv.key.pos kv.val).1 <;> simp only [List.map_append, h]
  all_goals exact ⟨by simp only [List.map_append, h], rfl⟩

/-- `on:` (a mapping) → the value of one event; `name` is the event's name as `eventOfKey` dispatches on it -/
theorem c_on_event (pos : Yaml.Pos) (m : MapCtx) (name : String) (hk : m.Keyed cfg name) (Rel : Node → Node → Prop)
    (hstep : ∀ s v v', Rel v v' → Sim (List.map (nEvent F.event)) (eventOfKey cfg s ⟨name, (parseString m.key false).1, v⟩)
        (eventOfKey cfg s ⟨name, (parseString m.key false).1, v'⟩)) :
    Cong (parseEvents cfg pos) m.at (Option.map (List.map (nEvent F.event))) Rel := by
  have key := Sect.cong (plain (eventOfKey cfg) []) cfg (sectionWhat "on") false true m (List.map (nEvent F.event)) (List.map (nEvent F.event))
    Rel hk.first' (fun s s' kv h => eventOfKey_frame cfg F.event s s' kv h) (fun s s' h => ⟨h, rfl⟩)
    (by intro s v v' hr; rw [hk.id]; exact hstep s v v' hr)
  intro v v' h
  obtain ⟨k1, k2⟩ := key v v' h
  simp only [MapCtx.at, parseEvents_mapNode] at k1 k2 ⊢
  exact ⟨by simp only [Option.map_some, k1], k2⟩

theorem c_on_call (pos : Yaml.Pos) (m : MapCtx) (hk : m.Keyed cfg "workflow_call") :
    Cong (parseEvents cfg pos) m.at (Option.map (List.map (nEvent F.event)))
      (SimRel (parseWorkflowCallEvent cfg (parseString m.key false).1.pos) (nEvent F.event)) :=
  c_on_event F cfg pos m "workflow_call" hk _
    (step_store (eventOfKey_workflow_call cfg · _) fun s x y e => by simp only [List.map_append, List.map_cons, List.map_nil, e])

theorem c_on_dispatch (pos : Yaml.Pos) (m : MapCtx) (hk : m.Keyed cfg "workflow_dispatch") :
    Cong (parseEvents cfg pos) m.at (Option.map (List.map (nEvent F.event)))
      (SimRel (parseWorkflowDispatchEvent cfg (parseString m.key false).1.pos) (nEvent F.event)) :=
  c_on_event F cfg pos m "workflow_dispatch" hk _
    (step_store (eventOfKey_workflow_dispatch cfg · _) fun s x y e => by simp only [List.map_append, List.map_cons, List.map_nil, e])

theorem callEventKey_frame (f : String → String) (s s' : CallEventSt) (kv : KV) (h : nCallEventSt f s = nCallEventSt f s') :
    Sim (nCallEventSt f) (callEventKey cfg s kv) (callEventKey cfg s' kv) := by
  obtain ⟨i, sc, o⟩ := s
  obtain ⟨i', sc', o'⟩ := s'
  simp only [nCallEventSt, CallEventSt.mk.injEq] at h
  obtain ⟨hi, hs, ho⟩ := h
  simp -iota only [callEventKey]
  split <;> exact ⟨by simp only [nCallEventSt, hi, hs, ho], rfl⟩

/-- **the declared names of `workflow_call`**: the keys of `inputs:` / `secrets:` / `outputs:`. Stated for every key
`name` of `workflow_call`: under a key other than these three `callEventKey` does not read the value. -/
theorem c_call_section (f : String → String) (hf : ∀ a b, f a = f b → cfg.lower a = cfg.lower b) (pos : Yaml.Pos) (m : MapCtx) (name : String)
    (hk : m.Keyed cfg name) : Cong (parseWorkflowCallEvent cfg pos) m.at (nEvent f) (KeyRecased f) := by
  have key := Sect.cong (plain (callEventKey cfg) {}) cfg (sectionWhat "workflow_call") true true m (nCallEventSt f) (nCallEventSt f)
    (KeyRecased f) hk.first' (fun s s' kv h => callEventKey_frame cfg f s s' kv h) (fun s s' h => ⟨h, rfl⟩)
    (fun s v v' h => callEventKey_recase hf s _ _ h)
  intro v v' h
  obtain ⟨k1, k2⟩ := key v v' h
  simp only [parseWorkflowCallEvent_eq_run]
  refine ⟨?_, k2⟩
  simp only [nCallEventSt, CallEventSt.mk.injEq] at k1
  simp only [nEvent, k1.1, k1.2.1, k1.2.2]

/-- **the declared names of `workflow_dispatch`**: the keys of `inputs:` -/
theorem c_dispatch_inputs (f : String → String) (hf : ∀ a b, f a = f b → cfg.lower a = cfg.lower b) (pos : Yaml.Pos) (m : MapCtx)
    (hk : m.Keyed cfg "inputs") : Cong (parseWorkflowDispatchEvent cfg pos) m.at (nEvent f) (KeyRecased f) := by
  have key := Sect.cong (plain (dispatchStep cfg) none) cfg (sectionWhat "workflow_dispatch") true true m
    (Option.map (nAssoc (nDispatchInput f))) (Option.map (nAssoc (nDispatchInput f)))
    (KeyRecased f) hk.first'
    (fun s s' kv h => by
      show Sim _ (dispatchStep cfg s kv) (dispatchStep cfg s' kv)
      simp only [dispatchStep]
      split
      · exact ⟨h, rfl⟩
      · exact ⟨rfl, rfl⟩)
    (fun s s' h => ⟨h, rfl⟩)
    (fun s v v' h => by rw [hk.id]; exact dispatchInputs_recase hf s _ h)
  intro v v' h
  obtain ⟨k1, k2⟩ := key v v' h
  simp only [parseWorkflowDispatchEvent_eq_run]
  exact ⟨by simp only [nEvent, k1], k2⟩

end AL.C08D
