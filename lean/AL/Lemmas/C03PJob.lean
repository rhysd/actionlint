import AL.Lemmas.C03PMatrix
/-
  C03Parse, level 3: `parseJob`. The strings the loop state holds under each key (`jobK`): every branch of `jobKey`
  writes the slot of its own key only (`jobK_pres`) and puts there every scalar that counts below the key (`jobKey_store`).
-/
namespace AL.C03P
open AL.PW AL.Yaml AL.Ast AL.C03R

def jobK (k : String) (st : JobSt) : List Str :=
  match k with
  | "name" => st.job.name.toList
  | "needs" => st.job.needs.getD []
  | "runs-on" => runnerStrs st.job.runsOn
  | "environment" => (match st.job.environment with | some e => environmentStrs e | none => [])
  | "concurrency" => concurrencyStrs st.job.concurrency
  | "outputs" => (st.job.outputs.getD []).map (·.2.value)
  | "env" => envStrs st.job.env
  | "defaults" => defaultsStrs st.job.defaults
  | "if" => st.job.cond.toList
  | "steps" => (st.job.steps.getD []).flatMap stepStrs
  | "timeout-minutes" => floatStrs st.job.timeoutMinutes
  | "strategy" => (match st.job.strategy with | some s => strategyAllStrs s | none => [])
  | "continue-on-error" => boolStrs st.job.continueOnError
  | "container" => containerStrs st.job.container
  | "services" => servicesStrs st.job.services
  | "uses" => st.call.uses.toList
  | "with" => if st.callOnlyKey.isSome then (st.call.inputs.getD []).map (·.2.value) else []
  | "secrets" => if st.callOnlyKey.isSome then (st.call.secrets.getD []).map (·.2.value) else []
  | _ => []

theorem jobK_pres (cfg : Cfg) (k : String) (st : JobSt) (kv : KV) (hne : kv.id ≠ k) :
    ∀ s ∈ jobK k st, s ∈ jobK k (jobKey cfg st kv).1 := by
  have F := jobKey_frame cfg st kv
  -- `with` / `secrets` are read once a call key was seen, and that is never forgotten
  have hif : ∀ (l : List Str), ∀ s ∈ (if st.callOnlyKey.isSome then l else []),
      s ∈ if (jobKey cfg st kv).1.callOnlyKey.isSome then l else [] := by
    intro l s hs
    cases hc : (jobKey cfg st kv).1.callOnlyKey with
    | some _ => split at hs <;> first | exact hs | cases hs
    | none => rw [F.callOnlyKey hc] at hs; cases hs
  unfold jobK
  split
  · rw [F.name hne]; exact fun _ h => h
  · rw [F.needs hne]; exact fun _ h => h
  · rw [F.runsOn hne]; exact fun _ h => h
  · rw [F.environment hne]; exact fun _ h => h
  · rw [F.concurrency hne]; exact fun _ h => h
  · rw [F.outputs hne]; exact fun _ h => h
  · rw [F.env hne]; exact fun _ h => h
  · rw [F.defaults hne]; exact fun _ h => h
  · rw [F.cond hne]; exact fun _ h => h
  · rw [F.steps hne]; exact fun _ h => h
  · rw [F.timeoutMinutes hne]; exact fun _ h => h
  · rw [F.strategy hne]; exact fun _ h => h
  · rw [F.continueOnError hne]; exact fun _ h => h
  · rw [F.container hne]; exact fun _ h => h
  · rw [F.services hne]; exact fun _ h => h
  · rw [F.uses hne]; exact fun _ h => h
  · rw [F.inputs hne]; exact hif _
  · rw [(F.secrets hne).1]; exact hif _
  · exact fun _ h => h
theorem jobKey_store (cfg : Cfg) (st : JobSt) (kv : KV) (v : Node) (hv : v ∈ jobKeyScalars kv.id kv.val)
    (hc : (jobKey cfg st kv).2 = []) : Rep v (jobK kv.id (jobKey cfg st kv).1) := by
  -- with `kv.id` a variable, `split` puts the literal key into `hv` and the goal
  obtain ⟨id, key, val⟩ := kv
  revert hc hv
  unfold jobKey
  dsimp only
  split <;> intro hv <;> (try simp only [jobKeyScalars, jobK, String.reduceEq, imp_self] at hv ⊢)
  · exact parseString_leaf _ _ v hv  -- name
  · split  -- needs
    · exact parseString_leaf _ _ v hv
    · exact parseStringSequence_leaf _ _ _ _ v hv
  · exact parseRunsOn_leaf cfg _ v hv
  · cases hv  -- permissions
  · exact parseEnvironment_leaf cfg _ _ v hv
  · exact parseConcurrency_leaf cfg _ _ v hv
  · exact parseOutputs_leaf cfg _ v hv
  · exact parseEnv_leaf cfg _ v hv
  · exact parseDefaults_leaf cfg _ _ v hv
  · exact parseString_leaf _ _ v hv  -- if
  · exact parseSteps_leaf cfg _ v hv
  · exact parseTimeoutMinutes_leaf cfg _ v hv
  · exact parseStrategy_leaf cfg _ _ v hv
  · exact parseBool_leaf _ v hv
  · exact parseContainer_leaf cfg _ _ _ v hv
  · exact parseServices_leaf cfg _ v hv
  · exact parseString_leaf _ _ v hv  -- uses
  · intro hc  -- with
    simp only [append_nil_iff] at hc
    simp only [Option.isSome_some, ↓reduceIte, Option.getD_some]
    exact callArgs_leaf cfg "with" _ v hv hc.1 hc.2
  · split  -- secrets: `inherit`, another scalar (reported), a mapping
    · rename_i hk
      split
      · rename_i hi
        simp [hk, hi] at hv
      · intro hc; simp at hc
    · rename_i hk
      intro hc
      simp only [hk, Bool.false_and, decide_false, Bool.false_eq_true, ↓reduceIte] at hv
      simp only [append_nil_iff] at hc
      simp only [Option.isSome_some, ↓reduceIte, Option.getD_some]
      exact callArgs_leaf cfg "secrets" _ v hv hc.1 hc.2
  · intro hc; simp at hc

end AL.C03P
