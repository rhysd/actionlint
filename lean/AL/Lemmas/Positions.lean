import AL.Model.Positions
import AL.Lemmas.ProcSanitize
/-
  Lemmas about the placeholder loop `exprOffsets` of AL/Model/Positions.lean (used by Props/C07):
  membership / ordering of the returned offsets, independence of the result from surplus fuel and from
  the running offset. The specification of `indexOf` is that of AL/Lemmas/ProcSanitize.lean.
-/
namespace AL.Positions
open AL.Proc (indexOf open3 indexOf_take indexOf_some_len)

/-! ### unfolding `exprOffsets` -/

theorem exprOffsets_none (consume : List Nat → Nat) (fuel : Nat) (s : List Nat) (offset : Nat)
    (h : indexOf open3 s 0 = none) : exprOffsets consume fuel s offset = [] := by
  cases fuel with
  | zero => rfl
  | succ f => simp only [exprOffsets, h]

theorem exprOffsets_some (consume : List Nat → Nat) (fuel : Nat) (s : List Nat) (offset idx : Nat)
    (h : indexOf open3 s 0 = some idx) :
    exprOffsets consume (fuel + 1) s offset =
      if consume (s.drop (idx + 3)) = 0 then [offset + (idx + 3)]
      else (offset + (idx + 3)) ::
        exprOffsets consume fuel ((s.drop (idx + 3)).drop (consume (s.drop (idx + 3))))
          (offset + (idx + 3) + consume (s.drop (idx + 3))) := by
  simp only [exprOffsets, h]

/-! ### what is returned (for (a), (b) of Props/C07) -/

/-- every returned offset lies right after an occurrence of `${{` in the string searched -/
theorem exprOffsets_mem (consume : List Nat → Nat) (fuel : Nat) (s : List Nat) (offset o : Nat)
    (h : o ∈ exprOffsets consume fuel s offset) :
    offset + 3 ≤ o ∧ (s.drop (o - offset - 3)).take 3 = open3 := by
  induction fuel generalizing s offset with
  | zero => simp [exprOffsets] at h
  | succ f ih =>
    cases hidx : indexOf open3 s 0 with
    | none => rw [exprOffsets_none _ _ _ _ hidx] at h; simp at h
    | some idx =>
      have htk := indexOf_take open3 s idx hidx
      have hhead : ∀ o, o = offset + (idx + 3) →
          offset + 3 ≤ o ∧ (s.drop (o - offset - 3)).take 3 = open3 := by
        intro o ho
        subst ho
        refine ⟨by omega, ?_⟩
        have e : offset + (idx + 3) - offset - 3 = idx := by omega
        rw [e]; exact htk
      rw [exprOffsets_some _ _ _ _ _ hidx] at h
      split at h
      · simp only [List.mem_singleton] at h
        exact hhead o h
      · simp only [List.mem_cons] at h
        rcases h with h | h
        · exact hhead o h
        · have ⟨h1, h2⟩ := ih _ _ h
          refine ⟨by omega, ?_⟩
          rw [List.drop_drop, List.drop_drop] at h2
          have e : idx + 3 + (consume (List.drop (idx + 3) s) +
              (o - (offset + (idx + 3) + consume (List.drop (idx + 3) s)) - 3)) = o - offset - 3 := by
            omega
          rw [e] at h2
          exact h2

/-- the returned offsets are strictly increasing -/
theorem exprOffsets_pairwise (consume : List Nat → Nat) (fuel : Nat) (s : List Nat) (offset : Nat) :
    List.Pairwise (· < ·) (exprOffsets consume fuel s offset) := by
  induction fuel generalizing s offset with
  | zero => simp [exprOffsets]
  | succ f ih =>
    cases hidx : indexOf open3 s 0 with
    | none => rw [exprOffsets_none _ _ _ _ hidx]; exact List.Pairwise.nil
    | some idx =>
      rw [exprOffsets_some _ _ _ _ _ hidx]
      split
      · simp
      · rw [List.pairwise_cons]
        refine ⟨?_, ih _ _⟩
        intro o ho
        have := (exprOffsets_mem _ _ _ _ _ ho).1
        omega

/-! ### fuel and offset independence (for (e) of Props/C07) -/

/-- fuel beyond the length of the string does not matter -/
theorem exprOffsets_fuel (consume : List Nat → Nat) (f₁ f₂ : Nat) (s : List Nat) (offset : Nat)
    (h₁ : s.length ≤ f₁) (h₂ : s.length ≤ f₂) :
    exprOffsets consume f₁ s offset = exprOffsets consume f₂ s offset := by
  induction f₁ generalizing f₂ s offset with
  | zero =>
    have : s = [] := List.eq_nil_of_length_eq_zero (by omega)
    subst this
    rw [exprOffsets_none _ _ _ _ (by rfl), exprOffsets_none _ _ _ _ (by rfl)]
  | succ f ih =>
    cases hidx : indexOf open3 s 0 with
    | none => rw [exprOffsets_none _ _ _ _ hidx, exprOffsets_none _ _ _ _ hidx]
    | some idx =>
      have hl : idx + 3 ≤ s.length := indexOf_some_len open3 s idx hidx
      obtain ⟨g, rfl⟩ : ∃ g, f₂ = g + 1 := ⟨f₂ - 1, by omega⟩
      rw [exprOffsets_some _ _ _ _ _ hidx, exprOffsets_some _ _ _ _ _ hidx]
      split
      · rfl
      · congr 1
        apply ih <;> simp only [List.length_drop] <;> omega

/-- unfolding at fuel `s.length`; the recursive call is again at the fuel "length of what is left" -/
theorem exprOffsets_len_some (consume : List Nat → Nat) (s : List Nat) (offset idx : Nat)
    (h : indexOf open3 s 0 = some idx) :
    exprOffsets consume s.length s offset =
      if consume (s.drop (idx + 3)) = 0 then [offset + (idx + 3)]
      else (offset + (idx + 3)) ::
        exprOffsets consume ((s.drop (idx + 3)).drop (consume (s.drop (idx + 3)))).length
          ((s.drop (idx + 3)).drop (consume (s.drop (idx + 3))))
          (offset + (idx + 3) + consume (s.drop (idx + 3))) := by
  -- a hit means at least three bytes, so the fuel is positive and what is left is shorter
  have hl : idx + 3 ≤ s.length := indexOf_some_len open3 s idx h
  obtain ⟨g, hg⟩ : ∃ g, s.length = g + 1 := ⟨s.length - 1, by omega⟩
  rw [exprOffsets_fuel consume s.length (g + 1) s offset (Nat.le_refl _) (by omega),
    exprOffsets_some _ _ _ _ _ h]
  split
  · rfl
  · congr 1
    apply exprOffsets_fuel <;> simp only [List.length_drop] <;> omega

/-- the running offset is only added to the results -/
theorem exprOffsets_shift (consume : List Nat → Nat) (fuel : Nat) (s : List Nat) (offset k : Nat) :
    exprOffsets consume fuel s (offset + k) = (exprOffsets consume fuel s offset).map (· + k) := by
  induction fuel generalizing s offset with
  | zero => simp [exprOffsets]
  | succ f ih =>
    cases hidx : indexOf open3 s 0 with
    | none => rw [exprOffsets_none _ _ _ _ hidx, exprOffsets_none _ _ _ _ hidx]; rfl
    | some idx =>
      rw [exprOffsets_some _ _ _ _ _ hidx, exprOffsets_some _ _ _ _ _ hidx]
      split
      · simp only [List.map_cons, List.map_nil, List.cons.injEq, and_true]; omega
      · simp only [List.map_cons, List.cons.injEq]
        refine ⟨by omega, ?_⟩
        rw [← ih]
        congr 1
        omega

/-- prefixing with `pre`, when the first search is known to hit `pre.length` later, shifts every
offset by `pre.length` -/
theorem exprOffsets_prefix (consume : List Nat → Nat) (pre s : List Nat)
    (h : indexOf open3 (pre ++ s) 0 = (indexOf open3 s 0).map (· + pre.length)) :
    exprOffsets consume (pre ++ s).length (pre ++ s) 0 =
      (exprOffsets consume s.length s 0).map (· + pre.length) := by
  cases hidx : indexOf open3 s 0 with
  | none =>
    rw [hidx] at h
    rw [exprOffsets_none _ _ _ _ hidx, exprOffsets_none _ _ _ _ h]; rfl
  | some idx =>
    rw [hidx] at h
    rw [exprOffsets_len_some _ _ _ _ hidx, exprOffsets_len_some _ _ _ _ h]
    have e : idx + pre.length + 3 = pre.length + (idx + 3) := by omega
    rw [e, List.drop_length_add_append]
    split
    · simp only [List.map_cons, List.map_nil, List.cons.injEq, and_true]; omega
    · simp only [List.map_cons, List.cons.injEq]
      refine ⟨by omega, ?_⟩
      rw [← exprOffsets_shift]
      congr 1
      omega

end AL.Positions
