import AL.Lemmas.C07SBase
import AL.Props.C07Rules
import AL.Props.C18
/-
  C07Sites, the AST-only rules (AL.Rules): a diagnostic that sits at none of the positions of the AST is not reported.
  `NP p x`: no string / position of `x` is at `p`. The positive per-helper statements `*_pos` (a diagnostic of `checkEnv`
  sits at a variable's name, …), from AL.C09R / AL.C07M or proved here, are lifted to the whole workflow. The glob rule
  alone computes a column: `GlobAt`.
-/
namespace AL.C07S.AR
open AL AL.Ast AL.Rules

def NotAtP (p : Pos) (it : Item) : Prop := it.at ≠ p

abbrev NP {α} [HasItems α] (p : Pos) (x : α) : Prop := AllI (NotAtP p) x

variable {p : Pos}

@[simp] theorem NotAtP_str {s : Str} : NotAtP p (.str s) ↔ s.pos ≠ p := Iff.rfl
@[simp] theorem NotAtP_pos {q : Pos} : NotAtP p (.pos q) ↔ q ≠ p := Iff.rfl

theorem AllI_getD_mem {α} [HasItems α] {P : Item → Prop} {o : Option (List α)} (h : AllI P o) : ∀ x ∈ o.getD [], AllI P x :=
  fun _ => h.mem_getD

theorem NP_str {s : Str} (h : NP p s) : s.pos ≠ p := by simpa using h
theorem NP_ostr {o : Option Str} (h : NP p o) : ∀ s, o = some s → s.pos ≠ p :=
  fun _ hs => NP_str (h.of_some hs)

theorem NP_jobs {w : Workflow} (h : NP p w) : ∀ j ∈ jobsOf w, NP p j := by
  intro j hj
  obtain ⟨kv, hkv, rfl⟩ := List.mem_map.1 hj
  exact h.workflow.jobs.entry hkv

theorem NP_steps {j : Job} (h : NP p j) : ∀ st ∈ Rules.stepsOf j, NP p st :=
  fun _ => h.job.steps.mem_getD

theorem not_mem_flatMap' {α β} {l : List α} {f : α → List β} {b : β} (h : ∀ x ∈ l, b ∉ f x) : b ∉ l.flatMap f :=
  not_mem_flatMap h

variable {d : Rules.Diag}

/-! ### rule_id -/

theorem ruleId_not (lower : String → String) {w : Workflow} (h : NP d.pos w) : d ∉ ruleId lower w := by
  refine not_mem_flatMap' fun j hj => ?_
  have hj' := NP_jobs h j hj
  have hconv : ∀ {s : Str} {what}, NP d.pos s → d ∉ validateConvention (some s) what := fun hs hd =>
    let ⟨s', hs', he⟩ := AL.C09R.validateConvention_pos _ _ d hd
    NP_ostr (IOk_some.2 hs) s' hs' he.symm
  simp only [idJob, List.mem_append, not_or]
  refine ⟨⟨hconv hj'.job.id, not_mem_flatMap' fun n hn => hconv (hj'.job.needs.mem_getD hn)⟩, fun hd => ?_⟩
  obtain ⟨st, hst, s, hs, he⟩ := AL.C09R.idSteps_pos lower _ _ d hd
  exact NP_ostr (NP_steps hj' st hst).step.id s hs he.symm

/-! ### rule_env_var -/

theorem checkEnv_not {env : Option Ast.Env} (h : NP d.pos env) : d ∉ Rules.checkEnv env := by
  intro hd
  obtain ⟨e, vars, rfl, hv, kv, hkv, he⟩ := AL.C09R.checkEnv_pos env d hd
  exact NP_str (IOk_EnvVar.1 (IOk_entry.1 (((IOk_Env.1 (IOk_some.1 h)).1.of_some hv).mem hkv))).1 he.symm

theorem ruleEnvVar_not {w : Workflow} (h : NP d.pos w) : d ∉ ruleEnvVar w := by
  simp only [ruleEnvVar, List.mem_append, not_or]
  refine ⟨checkEnv_not h.workflow.env, not_mem_flatMap' fun j hj => ?_⟩
  have hj' := NP_jobs h j hj
  simp only [envVarJob, List.mem_append, not_or]
  refine ⟨⟨⟨checkEnv_not hj'.job.env, ?_⟩, ?_⟩, ?_⟩
  · split
    · rename_i c hc
      exact checkEnv_not (IOk_Container.1 (hj'.job.container.of_some hc)).2.2.1
    · simp
  · split
    · rename_i s hs
      refine not_mem_flatMap' fun kv hkv => ?_
      have := (IOk_Service.1 ((IOk_Services.1 (hj'.job.services.of_some hs)).1.entry hkv)).2
      exact checkEnv_not (IOk_Container.1 this).2.2.1
    · simp
  · exact not_mem_flatMap' fun st hst => checkEnv_not (NP_steps hj' st hst).step.env

/-! ### rule_credentials -/

theorem checkCredContainer_not (k a : String) {c : Container} (h : NP d.pos c) : d ∉ checkCredContainer k a c := by
  intro hd
  obtain ⟨cr, pw, hcr, hp, he⟩ := AL.C09R.checkCredContainer_pos k a c d hd
  exact NP_ostr (IOk_Credentials.1 ((IOk_Container.1 h).2.1.of_some hcr)).2.1 pw hp he.symm

theorem ruleCredentials_not {w : Workflow} (h : NP d.pos w) : d ∉ ruleCredentials w := by
  refine not_mem_flatMap' fun j hj => ?_
  have hj' := (NP_jobs h j hj).job
  simp only [credentialsJob, List.mem_append, not_or]
  refine ⟨?_, ?_⟩
  · split
    · rename_i c hc
      exact checkCredContainer_not _ _ (hj'.container.of_some hc)
    · simp
  · split
    · rename_i s hs
      exact not_mem_flatMap' fun kv hkv =>
        checkCredContainer_not _ _ (IOk_Service.1 ((IOk_Services.1 (hj'.services.of_some hs)).1.entry hkv)).2
    · simp

/-! ### rule_permissions -/

theorem checkPermissions_not {x : Option Permissions} (h : NP d.pos x) : d ∉ checkPermissions x := by
  intro hd
  obtain ⟨q, rfl, hq⟩ := AL.C09R.checkPermissions_pos x d hd
  have hq' := IOk_Permissions.1 (IOk_some.1 h)
  rcases hq with ⟨a, ha, he⟩ | ⟨scopes, hs, kv, hkv, he⟩
  · exact NP_ostr hq'.1 a ha he.symm
  · have hkv' := IOk_PermissionScope.1 (IOk_entry.1 ((hq'.2.1.of_some hs).mem hkv))
    rcases he with he | he
    · exact NP_str hkv'.1 he.symm
    · exact NP_str hkv'.2 he.symm

theorem rulePermissions_not {w : Workflow} (h : NP d.pos w) : d ∉ rulePermissions w :=
  List.not_mem_append (checkPermissions_not h.workflow.permissions)
    (not_mem_flatMap' fun j hj => checkPermissions_not (NP_jobs h j hj).job.permissions)

/-! ### rule_if_cond -/

theorem checkIfCond_not {o : Option Str} (h : NP d.pos o) : d ∉ checkIfCond o := by
  intro hd
  obtain ⟨n, hn, he⟩ := AL.C09R.checkIfCond_pos o d hd
  exact NP_ostr h n hn he.symm

theorem ruleIfCond_not {w : Workflow} (h : NP d.pos w) : d ∉ ruleIfCond w := by
  refine not_mem_flatMap' fun j hj => ?_
  have hj' := NP_jobs h j hj
  exact List.not_mem_append (checkIfCond_not hj'.job.cond)
    (not_mem_flatMap' fun st hst => checkIfCond_not (NP_steps hj' st hst).step.cond)

/-! ### rule_workflow_call, rule_deprecated_commands -/

theorem ruleWorkflowCall_not {w : Workflow} (h : NP d.pos w) : d ∉ ruleWorkflowCall w := by
  refine not_mem_flatMap' fun j hj hd => ?_
  obtain ⟨c, u, hc, hu, he⟩ := AL.C07M.workflowCallJob_pos j d hd
  exact NP_ostr (IOk_WorkflowCall.1 ((NP_jobs h j hj).job.workflowCall.of_some hc)).1 u hu he.symm

theorem ruleDeprecatedCommands_not {w : Workflow} (h : NP d.pos w) : d ∉ ruleDeprecatedCommands w := by
  intro hd
  obtain ⟨j, hj, st, hst, e, r, hex, hr, he⟩ := AL.C07M.deprecated_pos w d hd
  have hr' := IOk_ExecRun.1 (IOk_exec_run.1 (hex ▸ (NP_steps (NP_jobs h j hj) st hst).step.exec))
  exact NP_ostr hr'.1 r hr he.symm

/-! ### rule_shell_name -/

theorem checkShellName_not (lower : String → String) (pf : Platform) {o : Option Str} (h : NP d.pos o) :
    d ∉ checkShellName lower pf o := by
  intro hd
  obtain ⟨n, hn, he⟩ := AL.C07M.checkShellName_pos lower pf o d hd
  exact NP_ostr h n hn he.symm

theorem defaultsShell_NP {x : Option Defaults} (h : NP p x) : NP p (defaultsShell x) := by
  unfold defaultsShell
  split
  · rename_i x
    split
    · rename_i r hr
      exact (IOk_DefaultsRun.1 ((IOk_Defaults.1 (IOk_some.1 h)).1.of_some hr)).1
    · simp
  · simp

theorem ruleShellName_not (lower : String → String) {w : Workflow} (h : NP d.pos w) : d ∉ ruleShellName lower w := by
  simp only [ruleShellName, List.mem_append, not_or]
  refine ⟨checkShellName_not lower _ (defaultsShell_NP h.workflow.defaults), not_mem_flatMap' fun j hj => ?_⟩
  have hj' := NP_jobs h j hj
  simp only [shellNameJob, List.mem_append, not_or]
  refine ⟨?_, not_mem_flatMap' fun st hst => ?_⟩
  · split
    · exact checkShellName_not lower _ (defaultsShell_NP hj'.job.defaults)
    · simp
  · split
    · rename_i e hex
      have he := IOk_ExecRun.1 (IOk_exec_run.1 (hex ▸ (NP_steps hj' st hst).step.exec))
      exact checkShellName_not lower _ he.2.1
    · simp

/-! ### rule_action -/

theorem mem_ite_single {α} {c : Prop} [Decidable c] {a x : α} (h : a ∈ (if c then [x] else [])) : a = x := by
  split at h
  · simpa using h
  · cases h

theorem not_mem_single {x : Rules.Diag} (h : x.pos ≠ d.pos) : d ∉ [x] :=
  fun hd => h (List.mem_singleton.1 hd ▸ rfl)

/-- docker action: at `uses:` -/
theorem checkDockerAction_pos (urlOk : String → Bool) (uri : String) (pos : Pos) :
    ∀ d ∈ checkDockerAction urlOk uri pos, d.pos = pos := by
  intro d hd
  simp only [checkDockerAction] at hd
  split at hd
  all_goals
    simp only [List.mem_append] at hd
    rcases hd with hd | hd <;> split at hd <;> simp at hd <;> (rw [hd])

/-- repository action: at `uses:` or at the name of an undeclared input -/
theorem checkRepoAction_pos (spec : String) (e : ExecAction) (pos : Pos) :
    ∀ d ∈ checkRepoAction spec e pos, d.pos = pos ∨ ∃ kv ∈ e.inputs.getD [], d.pos = kv.2.name.pos := by
  intro d hd
  simp only [checkRepoAction] at hd
  split at hd
  · simp only [List.mem_singleton] at hd; rw [hd]; exact Or.inl rfl
  · split at hd
    · simp only [List.mem_singleton] at hd; rw [hd]; exact Or.inl rfl
    · simp only [List.mem_append] at hd
      rcases hd with hd | hd
      · rw [mem_ite_single hd]; exact Or.inl rfl
      · split at hd
        · rw [mem_ite_single hd]; exact Or.inl rfl
        · split at hd
          · cases hd
          · exact AL.C07M.checkActionInputs_pos _ _ _ _ d hd

theorem actionStep_not (urlOk : String → Bool) {st : Step} (h : NP d.pos st) : d ∉ actionStep urlOk st := by
  unfold actionStep
  split
  · rename_i e he
    have he' := IOk_ExecAction.1 (IOk_exec_action.1 (he ▸ h.step.exec))
    split
    · simp
    · rename_i u hu
      have hup : u.pos ≠ d.pos := NP_ostr he'.1 u hu
      refine not_mem_ite List.not_mem_nil (not_mem_ite List.not_mem_nil (not_mem_ite ?_ ?_))
      · exact fun hd => hup (checkDockerAction_pos _ _ _ d hd).symm
      · intro hd
        rcases checkRepoAction_pos _ _ _ d hd with he | ⟨kv, hkv, he⟩
        · exact hup he.symm
        · exact NP_str (IOk_Input.1 (he'.2.1.entry hkv)).1 he.symm
  · simp

theorem ruleAction_not (urlOk : String → Bool) {w : Workflow} (h : NP d.pos w) : d ∉ ruleAction urlOk w :=
  not_mem_flatMap' fun j hj => not_mem_flatMap' fun st hst => actionStep_not urlOk (NP_steps (NP_jobs h j hj) st hst)

/-! ### rule_events -/

theorem diag_ne (x : Rules.Diag) (h : x.pos ≠ d.pos) : (d = x) = False := by
  simp only [eq_iff_iff, iff_false]
  intro he
  exact h (by rw [he])

theorem exclusiveFilters_not {f i : Option Filter} (hf : NP d.pos f) (hi : NP d.pos i) (hook : String) (av : List String) :
    d ∉ exclusiveFilters f i hook av := by
  have hname : ∀ {o : Option Filter} {x}, NP d.pos o → o = some x → x.name.pos ≠ d.pos := fun h hx =>
    NP_str (IOk_Filter.1 (h.of_some hx)).1
  unfold exclusiveFilters
  split
  · split
    · refine not_mem_ite (not_mem_single ?_) List.not_mem_nil
      split
      · exact hname hi rfl
      · exact hname hf rfl
    · simp
  · simp only [List.mem_append, not_or]
    constructor
    · split
      · exact not_mem_ite (not_mem_single (hname hf rfl)) List.not_mem_nil
      · simp
    · split
      · exact not_mem_ite (not_mem_single (hname hi rfl)) List.not_mem_nil
      · simp

theorem checkWebhookEvent_not {e : WebhookEvent} (h : NP d.pos e) : d ∉ checkWebhookEvent e := by
  obtain ⟨hhook, htypes, hb, hbi, ht, hti, hp, hpi, hwf, hpos⟩ := IOk_WebhookEvent.1 h
  have hpos' : ∀ {code args}, d ∉ [(⟨e.pos, "events", code, args⟩ : Rules.Diag)] :=
    not_mem_single (by simpa using hpos)
  unfold checkWebhookEvent
  dsimp only
  split
  · exact hpos'
  · refine List.not_mem_append (List.not_mem_append (List.not_mem_append (List.not_mem_append ?_ ?_)
      (exclusiveFilters_not hp hpi _ _)) (exclusiveFilters_not hb hbi _ _)) (exclusiveFilters_not ht hti _ _)
    · refine not_mem_ite (not_mem_single (NP_str hhook)) (not_mem_flatMap' fun ty hty => ?_)
      exact not_mem_ite List.not_mem_nil (not_mem_single (NP_str (htypes.mem_getD hty)))
    · exact not_mem_ite (not_mem_ite hpos' List.not_mem_nil) (not_mem_ite hpos' List.not_mem_nil)

theorem checkCallEvent_not (lower : String → String) (isNum : String → Bool) {inputs : List CallInput} (h : NP d.pos inputs) :
    d ∉ checkCallEvent lower isNum inputs := by
  refine not_mem_flatMap' fun i hi => ?_
  have hd := NP_ostr (IOk_CallInput.1 (h.mem hi)).2.2.1
  split
  · simp
  · rename_i dd hdd
    have hx : ∀ {code args}, d ∉ [(⟨dd.pos, "events", code, args⟩ : Rules.Diag)] := not_mem_single (hd dd hdd)
    refine List.not_mem_append (not_mem_ite ?_ List.not_mem_nil) (not_mem_ite hx List.not_mem_nil)
    split
    · exact not_mem_ite List.not_mem_nil hx
    · exact not_mem_ite List.not_mem_nil hx
    · simp

theorem dupOptions_not : ∀ (opts : List Str) (seen : List String), NP d.pos opts → ∀ x ∈ (dupOptions opts seen).1, x.pos ≠ d.pos
  | [], _, _ => by simp [dupOptions]
  | o :: rest, seen, h => by
    have hh := IOk_cons.1 h
    have ho := NP_str hh.1
    unfold dupOptions
    split
    · intro x hx
      simp only [List.mem_cons] at hx
      rcases hx with rfl | hx
      · exact ho
      · exact dupOptions_not rest seen hh.2 x hx
    · exact dupOptions_not rest _ hh.2

theorem checkDispatchEvent_not (lower : String → String) (isNum : String → Bool) {inputs : List (String × DispatchInput)}
    (h : NP d.pos inputs) {pos : Pos} (hp : pos ≠ d.pos) : d ∉ checkDispatchEvent lower isNum inputs pos := by
  unfold checkDispatchEvent
  refine List.not_mem_append (not_mem_flatMap' fun kv hkv => ?_) (not_mem_ite (not_mem_single hp) List.not_mem_nil)
  obtain ⟨hname, _, _, hdflt, hopts⟩ := IOk_DispatchInput.1 (IOk_entry.1 (h.mem hkv))
  have hn : ∀ {code args}, d ∉ [(⟨kv.2.name.pos, "events", code, args⟩ : Rules.Diag)] :=
    not_mem_single (NP_str hname)
  have hd : ∀ {dd}, kv.2.dflt = some dd → ∀ {c : Prop} [Decidable c] {code args},
      d ∉ if c then [] else [(⟨dd.pos, "events", code, args⟩ : Rules.Diag)] :=
    fun hdd => not_mem_ite List.not_mem_nil (not_mem_single (NP_ostr hdflt _ hdd))
  refine not_mem_ite (not_mem_ite hn (List.not_mem_append ?_ ?_)) (List.not_mem_append (not_mem_ite hn List.not_mem_nil) ?_)
  · intro hx
    obtain ⟨x, hx, he⟩ := List.mem_map.1 hx
    exact dupOptions_not _ [] (IOk_getD hopts) x hx (by rw [← he])
  · split
    · exact hd ‹_›
    · simp
  · split
    · split
      · exact hd ‹_›
      · exact hd ‹_›
      · simp
    · simp
/-- the CRON check: every diagnostic about a `schedule` entry (cron-no-schedule / cron-invalid / cron-too-frequent) sits at
the cron string -/
theorem cronEntry_pos (zk : List Char → Bool) (s : Str) : ∀ x ∈ cronEntry zk s, x.pos = s.pos := by
  intro x hx
  simp only [cronEntry] at hx
  split at hx
  · obtain ⟨c, _, rfl⟩ := List.mem_map.1 hx
    cases c <;> rfl
  · cases hx

theorem checkScheduleEvent_not (zk : List Char → Bool) {cron : List Str} (h : NP d.pos cron) :
    d ∉ checkScheduleEvent zk cron := by
  refine not_mem_flatMap' fun s hs hd => ?_
  exact NP_str (h.mem hs) (cronEntry_pos zk s d hd).symm

theorem ruleEvents_not (lower : String → String) (isNum : String → Bool) (lc : LabelCfg) {w : Workflow} (h : NP d.pos w) :
    d ∉ ruleEvents lower isNum w lc := by
  refine not_mem_flatMap' fun e he => ?_
  have he' := h.workflow.on.mem_getD he
  cases e with
  | webhook x => exact checkWebhookEvent_not (IOk_webhook.1 he')
  | dispatch inputs pos =>
    have := IOk_dispatch.1 he'
    exact checkDispatchEvent_not lower isNum (IOk_getD this.1) (by simpa using this.2)
  | call inputs s o pos => exact checkCallEvent_not lower isNum (IOk_getD (IOk_call.1 he').1)
  | schedule c pos => exact checkScheduleEvent_not lc.zoneKnown (IOk_schedule.1 he').1
  | repoDispatch t pos => simp

/-! ### rule_glob: the one rule that computes a column -/

/-- `p` is on the line of the string `s`, at or after its first character (after the opening quote when it is quoted) -/
def GlobAt (s : Str) (p : Pos) : Prop :=
  p.line = s.pos.line ∧ ∃ k, p.col = s.pos.col + (if s.quoted then 1 else 0) + k

theorem checkGlobs_at (isRef : Bool) (f : Option Filter) :
    ∀ d ∈ checkGlobs isRef f, ∃ x, f = some x ∧ ∃ v ∈ x.values.getD [], GlobAt v d.pos := by
  intro d hd
  simp only [checkGlobs] at hd
  split at hd
  · cases hd
  · rename_i x
    obtain ⟨v, hv, hd⟩ := List.mem_flatMap.1 hd
    split at hd
    · cases hd
    · obtain ⟨e, _, hl, hc⟩ := AL.C09R.globErrors_pos _ v d hd
      exact ⟨x, rfl, v, hv, hl, _, hc⟩

/-- a glob diagnostic sits on the line of one of the patterns of a filter of a webhook event, at the pattern's column + 1
for an opening quote + the offset the validator reports -/
theorem ruleGlob_at (w : Workflow) :
    ∀ d ∈ ruleGlob w, ∃ s, Item.str s ∈ items w ∧ GlobAt s d.pos := by
  intro d hd
  obtain ⟨e, he, hd⟩ := List.mem_flatMap.1 hd
  -- down from the workflow to the pattern, keeping "is an item of `w`"
  have he' := (AllI_self w).workflow.on.mem_getD he
  cases e with
  | webhook x =>
    obtain ⟨_, _, hb, hbi, ht, hti, hp, hpi, _, _⟩ := IOk_WebhookEvent.1 (IOk_webhook.1 he')
    have key : ∀ (isRef : Bool) (f : Option Filter), AllI (· ∈ items w) f → d ∈ checkGlobs isRef f →
        ∃ s, Item.str s ∈ items w ∧ GlobAt s d.pos := by
      intro isRef f hf hd
      obtain ⟨y, rfl, v, hv, hg⟩ := checkGlobs_at isRef f d hd
      exact ⟨v, AllI_str.1 ((IOk_Filter.1 (IOk_some.1 hf)).2.mem_getD hv), hg⟩
    simp only [List.mem_append] at hd
    rcases hd with ((((hd | hd) | hd) | hd) | hd) | hd
    · exact key _ _ hb hd
    · exact key _ _ hbi hd
    · exact key _ _ ht hd
    · exact key _ _ hti hd
    · exact key _ _ hp hd
    · exact key _ _ hpi hd
  | dispatch inputs pos => cases hd
  | call inputs s o pos => cases hd
  | schedule c pos => cases hd
  | repoDispatch t pos => cases hd

/-! ### rule_matrix -/

/-- `NP p x` read on the list of the positions of `x` -/
theorem NP_at {α} [HasItems α] {x : α} (h : NP p x) {q : Pos} (hq : q ∈ (items x).map Item.at) : q ≠ p := by
  obtain ⟨it, hit, rfl⟩ := List.mem_map.1 hq
  exact h it hit

/-- a raw value has its position among its items: a scalar is a string, a collection carries a position -/
theorem raw_pos {Q : Pos → Prop} : ∀ {r : AL.Matrix.Raw}, AllI (fun it => Q it.at) r → Q r.pos
  | .str _ _, h => IOk_raw_str.1 h
  | .arr _ _, h => (IOk_raw_arr.1 h).1
  | .obj _ _, h => (IOk_raw_obj.1 h).1

theorem NP_raw_pos : ∀ {r : AL.Matrix.Raw}, NP p r → r.pos ≠ p :=
  raw_pos (Q := (· ≠ p))

/-- a duplicate is reported at the later of the two equal values -/
theorem dupRow_pos (row : String) : ∀ (vs seen : List AL.Matrix.Raw), ∀ md ∈ AL.Matrix.dupRow row vs seen,
    ∃ v ∈ vs, (matrixDiag md).pos = v.pos
  | [], _, md, h => by simp [AL.Matrix.dupRow] at h
  | v :: vs, seen, md, h => by
    simp only [AL.Matrix.dupRow] at h
    split at h
    · simp only [List.mem_cons] at h
      rcases h with rfl | h
      · exact ⟨v, by simp, rfl⟩
      · obtain ⟨v', hv', he⟩ := dupRow_pos row vs seen md h
        exact ⟨v', by simp [hv'], he⟩
    · obtain ⟨v', hv', he⟩ := dupRow_pos row vs _ md h
      exact ⟨v', by simp [hv'], he⟩

/-- `exclude`: at the key of the assignment (unknown key) or at its value (no row value matches) -/
theorem excludeAssign_pos (ignored : List String) (rows : AL.Matrix.RowMap) (a : AL.Matrix.Assign) :
    ∀ md ∈ AL.Matrix.excludeAssign ignored rows a, (matrixDiag md).pos = a.keyPos ∨ (matrixDiag md).pos = a.value.pos := by
  intro md h
  simp only [AL.Matrix.excludeAssign] at h
  split at h
  · cases h
  · split at h
    · simp only [List.mem_singleton] at h; subst h; exact Or.inl rfl
    · split at h
      · cases h
      · simp only [List.mem_singleton] at h; subst h; exact Or.inr rfl

theorem checkExclude_pos (m : AL.Matrix.Mat) : ∀ md ∈ AL.Matrix.checkExclude m,
    (matrixDiag md).pos = m.pos ∨
    ∃ ex, m.excl = some ex ∧ ∃ as, AL.Matrix.Combo.assigns as ∈ ex.combos ∧ ∃ a ∈ as,
      (matrixDiag md).pos = a.keyPos ∨ (matrixDiag md).pos = a.value.pos := by
  intro md h
  unfold AL.Matrix.checkExclude at h
  split at h
  · cases h
  · rename_i ex hex
    rcases mem_ite_cases h with h | h
    · cases h
    · rcases mem_ite_cases h with h | h
      · rw [List.mem_singleton.1 h]
        exact Or.inl rfl
      · obtain ⟨c, hc, h⟩ := List.mem_flatMap.1 h
        cases c with
        | assigns as =>
          obtain ⟨a, ha, h⟩ := List.mem_flatMap.1 h
          exact Or.inr ⟨ex, hex, as, hc, a, ha, excludeAssign_pos _ _ a md h⟩
        | expr => cases h

/-- **where the matrix rule reports**: at a value of a row (the later of two equal ones), at the matrix (nothing left to
exclude from), at the key or at the value of an `exclude` assignment. The step from the translated matrix
(`matrixOf`) back to the AST. -/
theorem matrixCheck_pos (m : Ast.Matrix) :
    ∀ md ∈ AL.Matrix.check (matrixOf m), (matrixDiag md).pos ∈ (items m).map Item.at := by
  intro md hmd
  obtain ⟨hrows, _, hexcl, _, hpos⟩ := IOk_Matrix.1 (AllI_at m)
  simp only [AL.Matrix.check, List.mem_append] at hmd
  rcases hmd with hmd | hmd
  · -- duplicates in a row
    simp only [AL.Matrix.checkDuplicates, matrixOf, List.mem_flatMap, List.mem_map] at hmd
    obtain ⟨r, ⟨kv, hkv, rfl⟩, hmd⟩ := hmd
    have hrow := IOk_MatrixRow.1 (hrows.entry hkv)
    split at hmd
    · rename_i vs hvs
      simp only at hvs
      split at hvs
      · cases hvs
      · simp only [Option.some.injEq] at hvs
        subst hvs
        obtain ⟨v, hv, he⟩ := dupRow_pos _ _ _ md hmd
        exact he ▸ raw_pos (hrow.2.1.mem_getD hv)
    · cases hmd
  · rcases checkExclude_pos _ md hmd with he | ⟨ex, hex, as, has, a, ha, he⟩
    · exact he ▸ AllI_pos.1 hpos
    · simp only [matrixOf, Rules.matrixCombos] at hex
      cases hx : m.excl with
      | none => simp [hx] at hex
      | some cs =>
        have hcs := (IOk_MatrixCombinations.1 (hexcl.of_some hx)).1
        simp only [hx, Option.map_some, Option.some.injEq] at hex
        subst hex
        split at has
        · simp [AL.Matrix.Combos.combos] at has
        · simp only [AL.Matrix.Combos.combos, List.mem_map] at has
          obtain ⟨x, hx', hxe⟩ := has
          split at hxe
          · cases hxe
          · simp only [AL.Matrix.Combo.assigns.injEq] at hxe
            subst hxe
            simp only [List.mem_map] at ha
            obtain ⟨kv, hkv, rfl⟩ := ha
            have hkv' := IOk_MatrixAssign.1 ((IOk_MatrixCombination.1 (hcs.mem_getD hx')).1.entry hkv)
            rcases he with he | he
            · exact he ▸ AllI_str.1 hkv'.1
            · exact he ▸ raw_pos hkv'.2

theorem matrixJob_not {j : Job} (h : NP d.pos j) : d ∉ matrixJob j := by
  unfold matrixJob
  split
  · simp
  · rename_i s hs
    split
    · simp
    · rename_i m hm
      refine not_mem_ite List.not_mem_nil fun hd => ?_
      obtain ⟨md, hmd, rfl⟩ := List.mem_map.1 hd
      exact NP_at (h.jobMatrix hs hm) (matrixCheck_pos m md hmd) rfl

theorem ruleMatrix_not {w : Workflow} (h : NP d.pos w) : d ∉ ruleMatrix w :=
  not_mem_flatMap' fun j hj => matrixJob_not (NP_jobs h j hj)

/-! ### rule_runner_label -/

def Clean (p : Pos) (ds : List Rules.Diag) : Prop := ∀ x ∈ ds, x.pos ≠ p

theorem Clean.nil : Clean p [] := fun _ h => by cases h
theorem Clean.append {a b : List Rules.Diag} (ha : Clean p a) (hb : Clean p b) : Clean p (a ++ b) :=
  List.forall_mem_append.2 ⟨ha, hb⟩
theorem Clean.flatMap {α} {l : List α} {f : α → List Rules.Diag} (h : ∀ a ∈ l, Clean p (f a)) : Clean p (l.flatMap f) :=
  List.forall_mem_flatMap.2 h
theorem Clean.not_mem {ds : List Rules.Diag} (h : Clean d.pos ds) : d ∉ ds := fun hd => h d hd rfl

theorem verify_clean (lower : String → String) (lc : LabelCfg) {l : Str} (h : l.pos ≠ p) : Clean p (verifyRunnerLabel lower l lc).2 := by
  intro x hx
  rw [AL.C07M.verifyRunnerLabel_pos lower l lc x hx]
  exact h

/-- a label a matrix expression may stand for is a scalar of the matrix: of a row or of an `include` entry -/
theorem labelsInMatrix_item {P : Item → Prop} (lower : String → String) (l : Str) {m : Option Ast.Matrix} (h : AllI P m) :
    ∀ s ∈ labelsInMatrix lower l m, P (.str s) := by
  intro s hs
  cases m with
  | none => simp [labelsInMatrix] at hs
  | some m =>
    obtain ⟨hrows, hincl, _⟩ := IOk_Matrix.1 (IOk_some.1 h)
    have hraw : ∀ (v : AL.Matrix.Raw), AllI P v → (match v with
        | .str s p => if AL.Matrix.containsExpr s then none else some (⟨s, false, p⟩ : Str)
        | _ => none) = some s → P (.str s) := by
      intro v hv he
      cases v with
      | str s' q =>
        simp only at he
        split at he
        · cases he
        · simp only [Option.some.injEq] at he
          subst he
          exact IOk_raw_str.1 hv
      | arr es q => cases he
      | obj ps q => cases he
    unfold labelsInMatrix at hs
    dsimp only at hs
    split at hs
    · cases hs
    · split at hs
      · cases hs
      · split at hs
        · rename_i prop _
          simp only [List.mem_append] at hs
          rcases hs with hs | hs
          · split at hs
            · rename_i rows hr
              split at hs
              · rename_i k row hf
                have hrow := IOk_MatrixRow.1 (IOk_entry.1 ((hrows.of_some hr).mem (List.mem_of_find?_eq_some hf)))
                obtain ⟨v, hv, he⟩ := List.mem_filterMap.1 hs
                exact hraw v (hrow.2.1.mem_getD hv) he
              · cases hs
            · cases hs
          · split at hs
            · rename_i inc hi
              have hcs := (IOk_MatrixCombinations.1 (hincl.of_some hi)).1
              obtain ⟨c, hc, he⟩ := List.mem_filterMap.1 hs
              have hc' := (IOk_MatrixCombination.1 (hcs.mem_getD hc)).1
              split at he
              · rename_i as has
                split at he
                · rename_i k a hf
                  have ha := IOk_MatrixAssign.1 (IOk_entry.1 ((hc'.of_some has).mem (List.mem_of_find?_eq_some hf)))
                  exact hraw a.value ha.2 he
                · cases he
              · cases he
            · cases hs
        · cases hs

theorem labelsInMatrix_pos (lower : String → String) (l : Str) {m : Option Ast.Matrix} (h : NP p m) :
    ∀ s ∈ labelsInMatrix lower l m, s.pos ≠ p :=
  labelsInMatrix_item lower l h

theorem checkCompat_clean (compats : Compats) (comp : Nat) {l : Str} (h : l.pos ≠ p) : Clean p (checkCompat compats comp l).2 := by
  unfold checkCompat
  split
  · exact Clean.nil
  · split
    · intro x hx
      simp only [List.mem_singleton] at hx
      subst hx
      exact h
    · exact Clean.nil

theorem checkCombiCompat_clean (compats : Compats) {cls : List (Nat × Str)} (h : ∀ cl ∈ cls, cl.2.pos ≠ p) :
    Clean p (checkCombiCompat compats cls).2 := by
  simp only [checkCombiCompat]
  intro x hx
  obtain ⟨y, hy, hx⟩ := List.mem_flatMap.1 hx
  obtain ⟨cl, hcl, rfl⟩ := List.mem_map.1 hy
  split at hx
  · split at hx
    · simp only [List.mem_singleton] at hx
      subst hx
      exact h cl hcl
    · cases hx
  · cases hx

theorem checkLabelAndConflict_clean (lc : LabelCfg) (lower : String → String) {m : Option Ast.Matrix} (hm : NP p m)
    {acc : Compats × List Rules.Diag} (hacc : Clean p acc.2) {l : Str} (hl : l.pos ≠ p) :
    Clean p (checkLabelAndConflict lc lower m acc l).2 := by
  have hss := labelsInMatrix_pos lower l hm
  unfold checkLabelAndConflict
  split
  · refine (hacc.append (Clean.flatMap ?_)).append (checkCombiCompat_clean _ ?_)
    · intro x hx
      obtain ⟨s, hs, rfl⟩ := List.mem_map.1 hx
      exact verify_clean lower lc (hss s hs)
    · intro cl hcl
      obtain ⟨x, hx, rfl⟩ := List.mem_map.1 hcl
      obtain ⟨s, hs, rfl⟩ := List.mem_map.1 hx
      exact hss s hs
  · exact (hacc.append (verify_clean lower lc hl)).append (checkCompat_clean _ _ hl)

theorem foldl_checkLabel_clean (lc : LabelCfg) (lower : String → String) {m : Option Ast.Matrix} (hm : NP p m) :
    ∀ (ls : List Str) (acc : Compats × List Rules.Diag), Clean p acc.2 → (∀ l ∈ ls, l.pos ≠ p) →
      Clean p (ls.foldl (checkLabelAndConflict lc lower m) acc).2 :=
  fun ls _ hacc h => List.foldlRecOn (motive := fun acc : Compats × List Rules.Diag => Clean p acc.2) ls _ hacc
    fun _ hacc l hl => checkLabelAndConflict_clean lc lower hm hacc (h l hl)

theorem runnerLabelJob_clean (lower : String → String) (lc : LabelCfg) {j : Job} (h : NP p j) :
    Clean p (runnerLabelJob lower j lc) := by
  have hm : NP p (match j.strategy with | some s => s.matrix | none => none) := by
    split
    · rename_i s hs
      exact (IOk_Strategy.1 (h.job.strategy.of_some hs)).1
    · simp
  unfold runnerLabelJob
  dsimp only
  split
  · exact Clean.nil
  · rename_i r hr
    obtain ⟨hlabels, hexpr, _⟩ := IOk_Runner.1 (h.job.runsOn.of_some hr)
    have hls : ∀ l ∈ r.labels.getD [], l.pos ≠ p := fun l hl => NP_str (hlabels.mem_getD hl)
    split
    · rename_i l hl
      have hlp : l.pos ≠ p := hls l (by rw [hl]; simp)
      split
      · exact Clean.flatMap fun s hs => verify_clean lower lc (labelsInMatrix_pos lower l hm s hs)
      · exact verify_clean lower lc hlp
    · split
      · rename_i e he
        exact checkLabelAndConflict_clean lc lower hm Clean.nil (NP_ostr hexpr e he)
      · exact foldl_checkLabel_clean lc lower hm _ _ Clean.nil hls

theorem ruleRunnerLabel_not (lower : String → String) (lc : LabelCfg) {w : Workflow} (h : NP d.pos w) :
    d ∉ ruleRunnerLabel lower w lc :=
  not_mem_flatMap' fun j hj => (runnerLabelJob_clean lower lc (NP_jobs h j hj)).not_mem

/-! ### rule_job_needs -/

section needs
open AL.Needs

/-- where a diagnostic of the job-needs model sits -/
def dpos : Needs.Diag → Needs.P
  | .dupNeeds pos _ => pos
  | .dupJob pos _ _ => pos
  | .undefined pos _ _ => pos
  | .cyclic c => c.pos

theorem needsDiag_pos (x : Needs.Diag) : (needsDiag x).pos = ofNP (dpos x) := by
  cases x <;> rfl

/-- a repeated `needs:` entry is reported at the repetition -/
theorem normNeeds_pos (lower : String → String) (ns : List NeedRef) (acc : List String) :
    ∀ x ∈ (normNeeds lower ns acc).2, ∃ n ∈ ns, dpos x = n.pos := by
  intro x hx
  obtain ⟨r, hr, rfl⟩ := normNeeds_reports lower ns acc x hx
  exact ⟨r, hr, rfl⟩

/-- `q` is the position of a job, of a job id or of a `needs:` entry of the jobs -/
def JP (jobs : List JobIn) (q : Needs.P) : Prop :=
  ∃ j ∈ jobs, q = j.idPos ∨ q = j.jobPos ∨ ∃ n ∈ j.needs, q = n.pos

theorem JP.mono {js js' : List JobIn} {q : Needs.P} (h : JP js q) (hs : ∀ j ∈ js, j ∈ js') : JP js' q := by
  obtain ⟨j, hj, h⟩ := h
  exact ⟨j, hs j hj, h⟩

/-- `VisitJobPre` over all jobs: the registered nodes carry the position of a job id; a repeated job id is reported at the
later JOB (`jobPos`), a repeated `needs:` entry at the entry -/
theorem visitJobs_pos (lower : String → String) (all : List JobIn) :
    ∀ (js : List JobIn) (nodes : List RawNode), (∀ j ∈ js, j ∈ all) → (∀ n ∈ nodes, ∃ j ∈ all, n.pos = j.idPos) →
      (∀ n ∈ (visitJobs lower js nodes).1, ∃ j ∈ all, n.pos = j.idPos) ∧
      ∀ x ∈ (visitJobs lower js nodes).2, JP all (dpos x) := by
  intro js nodes hjs hn
  refine ⟨?_, fun x hx => ?_⟩
  · induction js generalizing nodes with
    | nil => exact hn
    | cons j rest ih =>
      have hj : j ∈ all := hjs j (List.mem_cons_self ..)
      have hrest : ∀ x ∈ rest, x ∈ all := fun x hx => hjs x (List.mem_cons_of_mem _ hx)
      simp only [visitJobs]
      split
      · exact ih nodes hrest hn
      · -- the node list with the node of `j` put in
        refine ih _ hrest fun n hnm => ?_
        rcases mem_ite_cases hnm with hnm | hnm
        · obtain ⟨n', hn'', rfl⟩ := List.mem_map.1 hnm
          split
          · exact ⟨j, hj, rfl⟩
          · exact hn n' hn''
        · rcases List.mem_append.1 hnm with hnm | hnm
          · exact hn n hnm
          · exact ⟨j, hj, List.mem_singleton.1 hnm ▸ rfl⟩
  · obtain ⟨j, hj, ⟨r, hr, rfl⟩ | ⟨q, rfl⟩⟩ := visitJobs_reports lower js nodes x hx
    · exact ⟨j, hjs j hj, Or.inr (Or.inr ⟨r, hr, rfl⟩)⟩
    · exact ⟨j, hjs j hj, Or.inr (Or.inl rfl)⟩

theorem resolve_wf (nodes : List RawNode) : AL.Spec.WF (resolve nodes).1 := AL.Needs.resolve_wf nodes

theorem walk_head_lt {g : Graph} : ∀ {vs : List Nat}, AL.Spec.Walk g vs → vs.headD 0 < g.length
  | _, .single v h => h
  | _, .cons v w rest hv _ _ => hv

/-- the whole model: every diagnostic sits at a job, a job id or a `needs:` entry -/
theorem check_pos (lower : String → String) (jobs : List JobIn) (order : List Nat) :
    ∀ x ∈ Needs.check lower jobs order, JP jobs (dpos x) := by
  intro x hx
  have hv := visitJobs_pos lower jobs jobs [] (fun _ h => h) (fun _ h => by cases h)
  simp only [Needs.check] at hx
  rcases hvj : visitJobs lower jobs [] with ⟨nodes, d0⟩
  rw [hvj] at hx hv
  simp only at hx hv
  rcases hres : resolve nodes with ⟨g, d1⟩
  rw [hres] at hx
  simp only at hx
  have hundef : ∀ y ∈ d1, JP jobs (dpos y) := by
    intro y hy
    obtain ⟨n, hn, dep, _, rfl⟩ := resolve_reports nodes y (hres ▸ hy)
    obtain ⟨j, hj, he⟩ := hv.1 n hn
    exact ⟨j, hj, Or.inl he⟩
  split at hx
  · simp only [List.mem_append] at hx
    rcases hx with hx | hx
    · exact hv.2 x hx
    · exact hundef x hx
  · split at hx
    · rename_i c hc
      simp only [List.mem_append, List.mem_singleton] at hx
      rcases hx with hx | rfl
      · exact hv.2 x hx
      · have hwf : AL.Spec.WF g := by
          have := resolve_wf nodes
          rw [hres] at this
          exact this
        rcases AL.C18.cycleDiag_cases g order hwf with ⟨hnone, _⟩ | ⟨vs, hcyc, hsome, _⟩
        · rw [hnone] at hc; cases hc
        · rw [hsome] at hc
          simp only [Option.some.injEq] at hc
          subst hc
          have hlt := walk_head_lt hcyc.1
          have hg : g = nodes.map fun n => ({ id := n.id, pos := n.pos, resolved := n.needs.filterMap (indexOf? nodes) } : Needs.Node) := by
            have : g = (resolve nodes).1 := by rw [hres]
            rw [this]; rfl
          have hlt' : vs.headD 0 < nodes.length := by rw [hg, List.length_map] at hlt; exact hlt
          have hpos : posOf g (vs.headD 0) = (nodes[vs.headD 0]'hlt').pos := by
            simp only [posOf, hg, List.getElem?_map, List.getElem?_eq_getElem hlt', Option.map_some, Option.getD_some]
          obtain ⟨j, hj, he⟩ := hv.1 _ (List.getElem_mem hlt')
          exact ⟨j, hj, Or.inl (by simp only [dpos]; rw [hpos]; exact he)⟩
    · exact hv.2 x hx

end needs

theorem ofNP_toNP (q : Pos) : ofNP (toNP q) = q := rfl

theorem ruleJobNeeds_not (lower : String → String) {w : Workflow} (h : NP d.pos w) : d ∉ ruleJobNeeds lower w := by
  intro hd
  simp only [ruleJobNeeds] at hd
  obtain ⟨x, hx, rfl⟩ := List.mem_map.1 hd
  obtain ⟨ji, hji, hq⟩ := check_pos lower _ _ x hx
  obtain ⟨j, hj, rfl⟩ := List.mem_map.1 hji
  -- what `needsJobIn` tells the model about `j` are positions of `j`, through `toNP`; `needsDiag` takes them back
  have hj' := (NP_jobs h j hj).job
  rw [needsDiag_pos] at hj'
  rcases hq with hq | hq | ⟨n, hn, hq⟩
  · exact NP_str hj'.id (hq ▸ rfl)
  · exact AllI_pos.1 hj'.pos (hq ▸ rfl)
  · obtain ⟨s, hs, rfl⟩ := List.mem_map.1 hn
    exact NP_str (hj'.needs.mem_getD hs) (hq ▸ rfl)

end AL.C07S.AR
