import AL.Lemmas.LexerFwd
/-
  Completeness of `Next` in explicit form: blanks, then a correctly spelled token, then a character
  that cannot extend it; and when no scanner error is recorded on the way.
-/
namespace AL.Lex
open AL AL.Spec

/-- the split of the unread input into blanks and a rest that does not start with one is the one `skipWhite` makes -/
theorem skipWhite_exact (gap : List Sym) (st : LexState) (w : List Sym) (h : st.scan.unread = gap ++ w)
    (hg : ∀ s ∈ gap, isWhitespace s.r = true) (hw : ∀ c, w.head? = some c → isWhitespace c.r = false) :
    (skipWhite st).scan.unread = w ∧
    (st.err = none → (∀ d ∈ (gap ++ w.head?.toList).tail, Clean d) → (skipWhite st).err = none) := by
  obtain ⟨gap', g1, g2, g3, -, -, -, g8⟩ := skipWhite_spec st
  have e : gap' = gap := by
    rw [← takeWhile_exact (fun c : Sym => isWhitespace c.r) gap' _ g1 g3, ← g2, h, takeWhile_exact _ gap w hg hw]
  subst e
  have hw' : (skipWhite st).scan.unread = w := List.append_cancel_left (g2.symm.trans h)
  exact ⟨hw', fun he hc => g8 he (hw' ▸ hc)⟩

theorem pAt_ws {l : List Nat} {r : Nat} (h : isWhitespace r = true) : pAt l r = none := by
  have : ((r = 32 ∨ r = 10) ∨ r = 13) ∨ r = 9 := by simpa [isWhitespace] using h
  rcases this with ((rfl | rfl) | rfl) | rfl <;> rfl

/-- no token starts with a blank: `pAt` scans a spelled token and rejects the four blanks -/
theorem spelling_head {k : TokKind} {val : List Sym} (hs : Spelling k val) (hne : val ≠ []) :
    ∃ c cs, val = c :: cs ∧ isWhitespace c.r = false := by
  cases val with
  | nil => exact absurd rfl hne
  | cons c cs =>
    have hp : pAt (runes (c :: cs) ++ []) c.r = some (k, _) := pNext_complete hs hne (by cases k <;> rfl)
    refine ⟨c, cs, rfl, ?_⟩
    cases hw : isWhitespace c.r with
    | false => rfl
    | true => rw [pAt_ws hw] at hp; cases hp

/-- (m) of Props/C04Lex (`lex_complete_statement`), explicit form -/
theorem lexNext_complete' {st : LexState} {k : TokKind} {gap val rest : List Sym}
    (hs : Spelling k val) (hne : val ≠ []) (hb : st.buf = [])
    (hu : st.scan.unread = gap ++ val ++ rest) (hg : ∀ s ∈ gap, isWhitespace s.r = true)
    (hext : extendsTok k (nxt rest) = false) :
    (lexNext st).1.kind = k ∧ (lexNext st).1.val = val ∧
    (lexNext st).2.scan.unread = rest ∧ (lexNext st).2.buf = [] ∧
    (st.err = none → (∀ d ∈ (gap ++ val ++ rest.head?.toList).tail, Clean d) → (lexNext st).2.err = none) := by
  obtain ⟨c, cs, rfl, hc⟩ := spelling_head hs hne
  obtain ⟨i1, i3⟩ := skipWhite_exact gap st (c :: cs ++ rest) (by simpa [List.append_assoc] using hu) hg
    (by intro d hd; cases hd; exact hc)
  rw [lexNext_complete hs hne i1 hext]
  obtain ⟨hsteps, hun⟩ := adv_spec (c :: cs) (skipWhite st) rest i1
  refine ⟨rfl, ?_, hun, rfl, ?_⟩
  · show (adv (skipWhite st) (c :: cs).length).buf = _
    rw [hsteps.buf, skipWhite_buf_nil hb]; rfl
  · intro he hcl
    show (adv (skipWhite st) (c :: cs).length).err = none
    apply hsteps.err_clean
    · apply i3 he
      intro d hd; apply hcl
      have : (gap ++ (c :: cs ++ rest).head?.toList).tail = (gap ++ [c]).tail := by simp
      rw [this] at hd
      cases gap with
      | nil => simp at hd
      | cons g gap =>
        simp only [List.cons_append, List.tail_cons] at hd ⊢
        simp at hd ⊢
        rcases hd with hd | hd
        · exact .inl hd
        · exact .inr (.inl hd)
    · intro d hd
      rw [hun] at hd
      apply hcl
      cases gap with
      | nil => simpa using hd
      | cons g gap =>
        simp only [List.cons_append, List.tail_cons] at hd ⊢
        simp at hd ⊢
        exact .inr (.inr hd)

end AL.Lex
