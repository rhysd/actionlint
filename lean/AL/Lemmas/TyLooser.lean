import AL.Model.Ty
import AL.Spec.Looser
/-
  Two refinements of `AL.Spec.Looser` used in the C06 proofs.

  * `LooserW` ("weak"): like `Looser`, but the `deref` flag of arrays is ignored altogether. Everything
    that never looks at the flag (`assignable`, `validCompare`) is monotone for it, and both `Looser`
    and `LooserD` are contained in it.
  * `LooserD` ("deref aware"): the invariant that `Sema.check` really preserves: like `Looser`, but the
    `deref` flag of an array may be switched on (`false ↦ true`). A dereferenced array is never worse for
    acceptance (`objDerefTy` accepts more, nothing else looks at the flag), and `ArrayType.Merge` can
    switch it on when a side is loosened: `array<number>.Merge(array<number>)` has `Deref = false`
    (a test of the Go code fixes that), while with an `any` element type the flags are or-ed.
    `Looser` is contained in `LooserD` (`LooserD.of_looser`).
  Neither relation has a `refl` constructor (reflexivity is a lemma), so inversion by `cases` is exact.
-/
namespace AL.Ty
open AL AL.Spec

mutual
inductive LooserW : Ty → Ty → Prop
  | any (t : Ty) : LooserW t .any
  | null : LooserW .null .null
  | number : LooserW .number .number
  | bool : LooserW .bool .bool
  | string : LooserW .string .string
  | arr {e e' : Ty} {d d' : Bool} : LooserW e e' → LooserW (.arr e d) (.arr e' d')
  | obj {ps ps' : List (String × Ty)} {m m' : Option Ty} :
      LooserWProps ps ps' → LooserWMapped m m' → LooserW (.obj ps m) (.obj ps' m')
inductive LooserWProps : List (String × Ty) → List (String × Ty) → Prop
  | nil : LooserWProps [] []
  | cons {k : String} {t t' : Ty} {ps ps' : List (String × Ty)} :
      LooserW t t' → LooserWProps ps ps' → LooserWProps ((k, t) :: ps) ((k, t') :: ps')
inductive LooserWMapped : Option Ty → Option Ty → Prop
  | none : LooserWMapped none none
  | opened : LooserWMapped none (some .any)
  | some {t t' : Ty} : LooserW t t' → LooserWMapped (some t) (some t')
end

mutual
inductive LooserD : Ty → Ty → Prop
  | any (t : Ty) : LooserD t .any
  | null : LooserD .null .null
  | number : LooserD .number .number
  | bool : LooserD .bool .bool
  | string : LooserD .string .string
  | arr {e e' : Ty} {d d' : Bool} : LooserD e e' → (d = true → d' = true) → LooserD (.arr e d) (.arr e' d')
  | obj {ps ps' : List (String × Ty)} {m m' : Option Ty} :
      LooserDProps ps ps' → LooserDMapped m m' → LooserD (.obj ps m) (.obj ps' m')
inductive LooserDProps : List (String × Ty) → List (String × Ty) → Prop
  | nil : LooserDProps [] []
  | cons {k : String} {t t' : Ty} {ps ps' : List (String × Ty)} :
      LooserD t t' → LooserDProps ps ps' → LooserDProps ((k, t) :: ps) ((k, t') :: ps')
inductive LooserDMapped : Option Ty → Option Ty → Prop
  | none : LooserDMapped none none
  | opened : LooserDMapped none (some .any)
  | some {t t' : Ty} : LooserD t t' → LooserDMapped (some t) (some t')
end

/-! ### reflexivity -/

mutual
theorem LooserD.refl : (t : Ty) → LooserD t t
  | .any => .any _
  | .null => .null
  | .number => .number
  | .bool => .bool
  | .string => .string
  | .arr e _ => .arr (LooserD.refl e) id
  | .obj ps none => .obj (LooserDProps.refl ps) .none
  | .obj ps (some t) => .obj (LooserDProps.refl ps) (.some (LooserD.refl t))
theorem LooserDProps.refl : (ps : List (String × Ty)) → LooserDProps ps ps
  | [] => .nil
  | (_, t) :: rest => .cons (LooserD.refl t) (LooserDProps.refl rest)
end

theorem LooserDMapped.refl : (m : Option Ty) → LooserDMapped m m
  | Option.none => .none
  | Option.some t => .some (LooserD.refl t)

/-! ### inclusions -/

mutual
theorem LooserD.toW : {t t' : Ty} → LooserD t t' → LooserW t t'
  | _, _, .any t => .any t
  | _, _, .null => .null
  | _, _, .number => .number
  | _, _, .bool => .bool
  | _, _, .string => .string
  | _, _, .arr h _ => .arr (LooserD.toW h)
  | _, _, .obj hp hm => .obj (LooserDProps.toW hp) (LooserDMapped.toW hm)
termination_by structural t _ _ => t
theorem LooserDProps.toW : {ps ps' : List (String × Ty)} → LooserDProps ps ps' → LooserWProps ps ps'
  | _, _, .nil => .nil
  | _, _, .cons h hr => .cons (LooserD.toW h) (LooserDProps.toW hr)
termination_by structural ps _ _ => ps
theorem LooserDMapped.toW : {m m' : Option Ty} → LooserDMapped m m' → LooserWMapped m m'
  | _, _, .none => .none
  | _, _, .opened => .opened
  | _, _, .some h => .some (LooserD.toW h)
termination_by structural m _ _ => m
end

/-! plain `Looser` embeds into `LooserD` -/
mutual
theorem LooserD.of_looser : {t t' : Ty} → Looser t t' → LooserD t t'
  | _, _, .refl t => LooserD.refl t
  | _, _, .toAny t => .any t
  | _, _, .arr _ h => .arr (LooserD.of_looser h) id
  | _, _, .obj hp hm => .obj (LooserDProps.of_looser hp) (LooserDMapped.of_looser hm)
termination_by structural t _ _ => t
theorem LooserDProps.of_looser : {ps ps' : List (String × Ty)} → LooserProps ps ps' → LooserDProps ps ps'
  | _, _, .nil => .nil
  | _, _, .cons h hr => .cons (LooserD.of_looser h) (LooserDProps.of_looser hr)
termination_by structural ps _ _ => ps
theorem LooserDMapped.of_looser : {m m' : Option Ty} → LooserMapped m m' → LooserDMapped m m'
  | _, _, .none => .none
  | _, _, .opened => .opened
  | _, _, .some h => .some (LooserD.of_looser h)
termination_by structural m _ _ => m
end

/-! what holds of `LooserD` passes to `LooserW` through `toW` -/

theorem LooserW.refl : (t : Ty) → LooserW t t := fun t => (LooserD.refl t).toW
theorem LooserWProps.refl : (ps : List (String × Ty)) → LooserWProps ps ps := fun ps => (LooserDProps.refl ps).toW
theorem LooserWMapped.refl : (m : Option Ty) → LooserWMapped m m := fun m => (LooserDMapped.refl m).toW

theorem LooserW.of_looser : {t t' : Ty} → Looser t t' → LooserW t t' := fun h => (LooserD.of_looser h).toW
theorem LooserWProps.of_looser : {ps ps' : List (String × Ty)} → LooserProps ps ps' → LooserWProps ps ps' :=
  fun h => (LooserDProps.of_looser h).toW
theorem LooserWMapped.of_looser : {m m' : Option Ty} → LooserMapped m m' → LooserWMapped m m' :=
  fun h => (LooserDMapped.of_looser h).toW

/-! ### small inversions -/

theorem LooserD.any_left {t : Ty} (h : LooserD .any t) : t = .any := by cases h; rfl
theorem LooserW.any_left {t : Ty} (h : LooserW .any t) : t = .any := by cases h; rfl

theorem LooserDProps.lookup {k : String} : {ps ps' : List (String × Ty)} → LooserDProps ps ps' →
    (lookup k ps = none ∧ lookup k ps' = none) ∨
    (∃ t t', lookup k ps = some t ∧ lookup k ps' = some t' ∧ LooserD t t')
  | _, _, .nil => .inl ⟨rfl, rfl⟩
  | _, _, .cons (k := k') (t := t) (t' := t') h hr => by
    by_cases hk : k' = k
    · exact .inr ⟨t, t', by simp [Ty.lookup, hk], by simp [Ty.lookup, hk], h⟩
    · simpa [Ty.lookup, hk] using LooserDProps.lookup hr
termination_by structural ps _ _ => ps

theorem LooserDProps.head_key {k k' : String} {t t' : Ty} {ps ps' : List (String × Ty)}
    (h : LooserDProps ((k, t) :: ps) ((k', t') :: ps')) : k = k' := by
  cases h; rfl

theorem LooserDProps.isEmpty {ps ps' : List (String × Ty)} (h : LooserDProps ps ps') :
    ps'.isEmpty = ps.isEmpty := by cases h <;> rfl

end AL.Ty
