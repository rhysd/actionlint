import AL.Model.CallMeta
/-
  yaml.v3's struct decoding (`structLoop`, `structDecode`): what a SUCCESSFUL run tells, stated once.
  * `structDecode_eq_ok`: a node decodes iff it is a null scalar (zero value) or a mapping without repeated keys whose
    pairs the loop accepts;
  * `structLoop_inv`: a property every setter keeps is kept;
  * `structLoop_field`: one component `proj` of the state, which only the setter of `f` touches: untouched when no key
    decodes to `f`; otherwise it is what the setter of `f` made of the value under ANY key that decodes to `f` (there is
    only one: a second one is the error "field given twice", which is why no "first" is needed).
  The readers above this file (`valueOf` of AL.Lemmas.C14DBase, `lookup` of AL.Props.C15Doc, `∃ q, Sets f q` of
  AL.Props.C14Decode) are three ways of naming that key.
-/
namespace AL.CallMeta
open AL.Yaml

theorem map_eq_ok {ε α β : Type} {f : α → β} {x : Except ε α} {b : β} : x.map f = .ok b ↔ ∃ a, x = .ok a ∧ f a = b := by
  cases x <;> simp [Except.map]

variable {σ : Type} {fields : List String} {set : σ → String → Node → D σ}

theorem structDecode_eq_ok {init : σ} {n : Node} {st' : σ} :
    structDecode fields set init n = .ok st' ↔
      (n.kind = .mapping ∧ hasDupKey (pairs n.content) = false ∧ structLoop fields set (pairs n.content) [] init = .ok st') ∨
      (n.kind = .scalar ∧ n.tag = "!!null" ∧ st' = init) := by
  unfold structDecode
  split
  · rename_i hk; simp [hk]
  · rename_i hk
    cases hd : hasDupKey (pairs n.content) <;> simp [hk]
  · rename_i hk
    by_cases ht : n.tag = "!!null"
    · simp only [hk, ht, if_true, Except.ok.injEq, reduceCtorEq, false_and, true_and, false_or]; exact eq_comm
    · simp [hk, ht]
  · rename_i h1 h2 h3
    exact ⟨(fun h => nomatch h), fun h => h.elim (fun h => absurd h.1 h2) (fun h => absurd h.1 h3)⟩

theorem structLoop_inv (P : σ → Prop) (hset : ∀ st name v st', P st → set st name v = .ok st' → P st') :
    ∀ (l : List (Node × Node)) (done : List String) (st st' : σ), P st → structLoop fields set l done st = .ok st' → P st' := by
  intro l done st st' h0 h
  fun_induction structLoop fields set l done st
  case case1 => cases h; exact h0
  case case6 hs ih => exact ih (hset _ _ _ _ h0 hs) h
  case case7 ih => exact ih h0 h
  all_goals cases h

theorem structDecode_inv (P : σ → Prop) (hset : ∀ st name v st', P st → set st name v = .ok st' → P st') {init : σ}
    (h0 : P init) {n : Node} {st' : σ} (h : structDecode fields set init n = .ok st') : P st' := by
  rcases structDecode_eq_ok.1 h with ⟨_, _, hl⟩ | ⟨_, _, rfl⟩
  · exact structLoop_inv P hset _ _ _ _ h0 hl
  · exact h0

/-- every key of an accepted mapping decodes to a string and is no merge key -/
theorem structLoop_keys : ∀ (l : List (Node × Node)) (done : List String) (st st' : σ),
    structLoop fields set l done st = .ok st' → ∀ q ∈ l, isMerge q.1 = false ∧ ∃ name, decStr q.1 = .ok name := by
  intro l done st st' h
  fun_induction structLoop fields set l done st
  case case1 => intro q hq; cases hq
  case case6 hm name hname _ _ _ _ ih =>
    exact List.forall_mem_cons.2 ⟨⟨by simpa using hm, name, hname⟩, ih h⟩
  case case7 hm name hname _ ih =>
    exact List.forall_mem_cons.2 ⟨⟨by simpa using hm, name, hname⟩, ih h⟩
  all_goals cases h

section Field
variable {β : Type} (proj : σ → β) (f : String) (R : Node → β → Prop)
  (hother : ∀ st name v st', name ≠ f → set st name v = .ok st' → proj st' = proj st)
  (hset : ∀ st v st', set st f v = .ok st' → R v (proj st'))
include hother hset

/-- **one field of a struct filled by `structLoop`** -/
theorem structLoop_field : ∀ (l : List (Node × Node)) (done : List String) (st st' : σ),
    structLoop fields set l done st = .ok st' →
      ((f ∉ fields ∨ f ∈ done ∨ ∀ q ∈ l, decStr q.1 ≠ .ok f) → proj st' = proj st) ∧
      (f ∈ fields → ∀ q ∈ l, decStr q.1 = .ok f → f ∉ done ∧ R q.2 (proj st')) := by
  intro l done st st' h
  fun_induction structLoop fields set l done st
  case case1 => cases h; exact ⟨fun _ => rfl, fun _ q hq => by cases hq⟩
  case case6 k v rest done st _ name hname hin hnd st1 hs ih =>
    -- a key among `fields`, not seen before: `set` runs
    obtain ⟨ih1, ih2⟩ := ih h
    refine ⟨fun hc => ?_, fun hf q hq hqf => ?_⟩
    · have hne : name ≠ f := by
        rintro rfl
        rcases hc with hc | hc | hc
        · exact hc hin
        · exact hnd hc
        · exact hc (k, v) List.mem_cons_self hname
      rw [← hother _ _ _ _ hne hs]
      exact ih1 (hc.imp id (Or.imp (List.mem_cons_of_mem _) fun hc q hq => hc q (List.mem_cons_of_mem _ hq)))
    · rcases List.mem_cons.1 hq with rfl | hq
      · -- the pair that sets `f`; nothing after it touches the field
        obtain rfl : name = f := Except.ok.inj (hname.symm.trans hqf)
        rw [ih1 (.inr (.inl List.mem_cons_self))]
        exact ⟨hnd, hset _ _ _ hs⟩
      · exact ⟨fun hd => (ih2 hf q hq hqf).1 (List.mem_cons_of_mem _ hd), (ih2 hf q hq hqf).2⟩
  case case7 k v rest done st _ name hname hnin ih =>
    -- a key that is no field is skipped
    obtain ⟨ih1, ih2⟩ := ih h
    refine ⟨fun hc => ih1 (hc.imp id (Or.imp id fun hc q hq => hc q (List.mem_cons_of_mem _ hq))), fun hf q hq hqf => ?_⟩
    rcases List.mem_cons.1 hq with rfl | hq
    · exact absurd hf (Except.ok.inj (hname.symm.trans hqf) ▸ hnin)
    · exact ih2 hf q hq hqf
  all_goals cases h

/-- the same for a node: a null node leaves the zero value -/
theorem structDecode_field (hf : f ∈ fields) {init : σ} {n : Node} {st' : σ} (h : structDecode fields set init n = .ok st') :
    ((n.kind = .mapping → ∀ q ∈ pairs n.content, decStr q.1 ≠ .ok f) → proj st' = proj init) ∧
    (n.kind = .mapping → ∀ q ∈ pairs n.content, decStr q.1 = .ok f → R q.2 (proj st')) := by
  rcases structDecode_eq_ok.1 h with ⟨hk, _, hl⟩ | ⟨hk, _, rfl⟩
  · obtain ⟨h1, h2⟩ := structLoop_field proj f R hother hset _ _ _ _ hl
    exact ⟨fun hc => h1 (.inr (.inr (hc hk))), fun _ q hq hqf => (h2 hf q hq hqf).2⟩
  · exact ⟨fun _ => rfl, fun hm => by rw [hk] at hm; cases hm⟩

end Field

end AL.CallMeta
