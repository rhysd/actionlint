import AL.Lemmas.C05DJob
import AL.Props.C05Scope
/-
  AL.Props.C05Doc, `on:`: the header the rule builds from the events (`AL.C05S.eventHdr` folded over `Workflow.On`) in terms
  of what is written under `on: workflow_call: inputs: / secrets:` and `on: workflow_dispatch: inputs:`.
-/
namespace AL.C05D
open AL.PW AL.Yaml AL.Ast AL.C03P
open AL.C05S (eventHdr isCall isDispatch)
open AL.Visit (Header)

/-! ### readers of the node tree under `on:` -/

def docOn (doc : Node) : Option Node := (docRoot doc).bind (mget · "on")

def docCall (doc : Node) : Option Node := (docOn doc).bind (mget · "workflow_call")

/-- the names declared under `on: workflow_call: inputs:`, as written -/
def docCallInputs (doc : Node) : List String :=
  match (docCall doc).bind (mget · "inputs") with
  | some n => (pairs n.content).map (·.1.value)
  | none => []

/-- the names declared under `on: workflow_call: secrets:`, as written; `none`: there is no `secrets:` key -/
def docCallSecrets (doc : Node) : Option (List String) :=
  ((docCall doc).bind (mget · "secrets")).map fun n => (pairs n.content).map (·.1.value)

/-- the names declared under `on: workflow_dispatch: inputs:`, as written -/
def docDispatchInputs (doc : Node) : List String :=
  match ((docOn doc).bind (mget · "workflow_dispatch")).bind (mget · "inputs") with
  | some n => (pairs n.content).map (·.1.value)
  | none => []

/-! ### the events of `on:` written as a mapping -/

def hdr0 : Header := ⟨none, none, none⟩

def hdrOf (es : List Event) : Header := es.foldl eventHdr hdr0

theorem hdrOf_snoc (es : List Event) (e : Event) : hdrOf (es ++ [e]) = eventHdr (hdrOf es) e := by
  simp [hdrOf, List.foldl_append]

theorem schedule_kind (cfg : Cfg) (pos : Yaml.Pos) (n : Node) (ev : Event) (h : (parseScheduleEvent cfg pos n).1 = some ev) :
    isCall ev = false ∧ isDispatch ev = false := by
  simp only [parseScheduleEvent] at h
  split at h
  · cases h
  · simp only [Option.some.injEq] at h
    subst h
    exact ⟨rfl, rfl⟩

theorem eventOfKey_call (cfg : Cfg) (st : List Event) (kv : KV) (h : kv.id = "workflow_call") :
    (eventOfKey cfg st kv).1 = st ++ [(parseWorkflowCallEvent cfg kv.key.pos kv.val).1] ∧
    (eventOfKey cfg st kv).2 = (parseWorkflowCallEvent cfg kv.key.pos kv.val).2 :=
  eq_at (eventOfKey_workflow_call cfg) st kv h ▸ ⟨rfl, rfl⟩

theorem eventOfKey_dispatch (cfg : Cfg) (st : List Event) (kv : KV) (h : kv.id = "workflow_dispatch") :
    (eventOfKey cfg st kv).1 = st ++ [(parseWorkflowDispatchEvent cfg kv.key.pos kv.val).1] ∧
    (eventOfKey cfg st kv).2 = (parseWorkflowDispatchEvent cfg kv.key.pos kv.val).2 :=
  eq_at (eventOfKey_workflow_dispatch cfg) st kv h ▸ ⟨rfl, rfl⟩

theorem eventHdr_not_call (hdr : Header) (ev : Event) (h : isCall ev = false) :
    (eventHdr hdr ev).callInputs = hdr.callInputs ∧ (eventHdr hdr ev).callSecrets = hdr.callSecrets := by
  cases ev <;> first | exact ⟨rfl, rfl⟩ | simp [isCall] at h

theorem eventHdr_not_dispatch (hdr : Header) (ev : Event) (h : isDispatch ev = false) :
    (eventHdr hdr ev).dispatchInputs = hdr.dispatchInputs := by
  cases ev <;> first | rfl | simp [isDispatch] at h

/-- the header after a key of `on:`: only `workflow_call` touches the declared inputs and secrets of the call, only
`workflow_dispatch` the dispatch inputs (`eventOfKey_frame`, through `eventHdr`) -/
theorem eventOfKey_hdr_frame (cfg : Cfg) (st : List Event) (kv : KV) :
    (kv.id = "workflow_call" ∨ (hdrOf (eventOfKey cfg st kv).1).callInputs = (hdrOf st).callInputs ∧
      (hdrOf (eventOfKey cfg st kv).1).callSecrets = (hdrOf st).callSecrets) ∧
    (kv.id = "workflow_dispatch" ∨ (hdrOf (eventOfKey cfg st kv).1).dispatchInputs = (hdrOf st).dispatchInputs) := by
  rcases eventOfKey_frame cfg st kv with h | ⟨ev, h, hc, hd⟩
  · rw [h]; exact ⟨.inr ⟨rfl, rfl⟩, .inr rfl⟩
  · rw [h, hdrOf_snoc]
    refine ⟨Decidable.or_iff_not_imp_left.2 fun hne => eventHdr_not_call _ ev ?_,
      Decidable.or_iff_not_imp_left.2 fun hne => eventHdr_not_dispatch _ ev ?_⟩
    · cases ev <;> first | rfl | exact absurd rfl (hc hne _ _ _ _)
    · cases ev <;> first | rfl | exact absurd rfl (hd hne _ _)

theorem eventOfKey_hdr_ne_call (cfg : Cfg) (st : List Event) (kv : KV) (h : kv.id ≠ "workflow_call") :
    (hdrOf (eventOfKey cfg st kv).1).callInputs = (hdrOf st).callInputs ∧
    (hdrOf (eventOfKey cfg st kv).1).callSecrets = (hdrOf st).callSecrets :=
  (eventOfKey_hdr_frame cfg st kv).1.resolve_left h

theorem eventOfKey_hdr_ne_dispatch (cfg : Cfg) (st : List Event) (kv : KV) (h : kv.id ≠ "workflow_dispatch") :
    (hdrOf (eventOfKey cfg st kv).1).dispatchInputs = (hdrOf st).dispatchInputs :=
  (eventOfKey_hdr_frame cfg st kv).2.resolve_left h

/-! ### `workflow_call:` -/

/-- the state of `parseWorkflowCallEvent` after its key loop -/
def callLoop (cfg : Cfg) (n : Node) : CallEventSt × List PErr :=
  loop (callEventKey cfg) {} (parseMapping cfg (sectionWhat "workflow_call") n true true).1

theorem parseCall_eq (cfg : Cfg) (pos : Yaml.Pos) (n : Node) :
    (parseWorkflowCallEvent cfg pos n).1 = .call (callLoop cfg n).1.inputs (callLoop cfg n).1.secrets (callLoop cfg n).1.outputs pos := rfl

theorem parseCall_clean (cfg : Cfg) (pos : Yaml.Pos) (n : Node) (h : (parseWorkflowCallEvent cfg pos n).2 = []) :
    (parseMapping cfg (sectionWhat "workflow_call") n true true).2 = [] ∧ (callLoop cfg n).2 = [] := by
  simp only [parseWorkflowCallEvent, append_nil_iff, parseSectionMapping] at h
  exact h

theorem callEventKey_inputs_ne (cfg : Cfg) (st : CallEventSt) (kv : KV) (h : kv.id ≠ "inputs") :
    (callEventKey cfg st kv).1.inputs = st.inputs :=
  (callEventKey_frame cfg st kv).1 h

theorem callEventKey_secrets_ne (cfg : Cfg) (st : CallEventSt) (kv : KV) (h : kv.id ≠ "secrets") :
    (callEventKey cfg st kv).1.secrets = st.secrets :=
  (callEventKey_frame cfg st kv).2.1 h

/-- the `inputs:` section of `workflow_call` as `parseWorkflowCallEvent` reads it -/
def callInputsOf (cfg : Cfg) (v : Node) : R (List CallInput) :=
  let m := parseMapping cfg (sectionWhat "inputs") v true false
  ((callInputs cfg m.1).1, m.2 ++ (callInputs cfg m.1).2)

def callSecretsOf (cfg : Cfg) (v : Node) : R (List (String × CallSecret)) :=
  let m := parseMapping cfg (sectionWhat "secrets") v true false
  ((mapKVs (callSecret cfg) m.1).1, m.2 ++ (mapKVs (callSecret cfg) m.1).2)

theorem callEventKey_inputs_eq (cfg : Cfg) (st : CallEventSt) (kv : KV) (h : kv.id = "inputs") :
    (callEventKey cfg st kv).1.inputs = some (callInputsOf cfg kv.val).1 ∧ (callEventKey cfg st kv).2 = (callInputsOf cfg kv.val).2 :=
  eq_at (callEventKey_inputs cfg) st kv h ▸ ⟨rfl, rfl⟩

theorem callEventKey_secrets_eq (cfg : Cfg) (st : CallEventSt) (kv : KV) (h : kv.id = "secrets") :
    (callEventKey cfg st kv).1.secrets = some (callSecretsOf cfg kv.val).1 ∧ (callEventKey cfg st kv).2 = (callSecretsOf cfg kv.val).2 :=
  eq_at (callEventKey_secrets cfg) st kv h ▸ ⟨rfl, rfl⟩

theorem callInputs_ids (cfg : Cfg) : ∀ (kvs : List KV), (callInputs cfg kvs).1.map (·.id) = kvs.map (·.id) :=
  fun kvs => by
    rw [callInputs_mapR, mapR_fst, List.map_map]
    exact List.map_congr_left fun kv _ => (AL.C08P.callInput_id cfg kv).1

theorem callInputsOf_clean (cfg : Cfg) (v : Node) (h : (callInputsOf cfg v).2 = []) :
    (callInputsOf cfg v).1.map (·.id) = (pairs v.content).map fun p => cfg.lower p.1.value := by
  simp only [callInputsOf, append_nil_iff] at h ⊢
  rw [callInputs_ids, parseMapping_clean_eq cfg _ v true false h.1, List.map_map]
  exact List.map_congr_left fun p _ => by simp [kvOf_false]

theorem callSecretsOf_clean (cfg : Cfg) (v : Node) (h : (callSecretsOf cfg v).2 = []) :
    (callSecretsOf cfg v).1.map (·.1) = (pairs v.content).map fun p => cfg.lower p.1.value := by
  simp only [callSecretsOf, append_nil_iff] at h ⊢
  rw [mapKVs_fst, parseMapping_clean_eq cfg _ v true false h.1, List.map_map, List.map_map]
  exact List.map_congr_left fun p _ => by simp [kvOf_false]

/-- **`workflow_call:`, accepted without a diagnostic: the ids of its inputs are the folded keys written under `inputs:`,
its secrets the folded keys written under `secrets:`** (`none` without that key) -/
theorem parseCall_written (cfg : Cfg) (n : Node) (hm : (parseMapping cfg (sectionWhat "workflow_call") n true true).2 = [])
    (hr : (callLoop cfg n).2 = []) :
    ((callLoop cfg n).1.inputs.getD []).map (·.id) =
      (match mget n "inputs" with | some v => (pairs v.content).map (fun p => cfg.lower p.1.value) | none => []) ∧
    (callLoop cfg n).1.secrets.map (·.map (·.1)) =
      (mget n "secrets").map (fun v => (pairs v.content).map fun p => cfg.lower p.1.value) := by
  obtain ⟨h1, k1⟩ := section_reads_of_eq cfg _ n true (callEventKey cfg) {} (fun st => st.inputs) "inputs"
    (fun kv => some (callInputsOf cfg kv.val).1) (fun kv => (callInputsOf cfg kv.val).2) (callEventKey_inputs_ne cfg)
    (callEventKey_inputs_eq cfg) hm hr
  obtain ⟨h2, k2⟩ := section_reads_of_eq cfg _ n true (callEventKey cfg) {} (fun st => st.secrets) "secrets"
    (fun kv => some (callSecretsOf cfg kv.val).1) (fun kv => (callSecretsOf cfg kv.val).2) (callEventKey_secrets_ne cfg)
    (callEventKey_secrets_eq cfg) hm hr
  unfold callLoop
  rw [h1, h2, mget, mget]
  refine ⟨?_, ?_⟩
  · cases hp : mpair n "inputs" with
    | none => rfl
    | some p => exact callInputsOf_clean cfg _ (k1 p hp)
  · cases hp : mpair n "secrets" with
    | none => rfl
    | some p => exact congrArg some (callSecretsOf_clean cfg _ (k2 p hp))

/-! ### `workflow_dispatch:` -/

/-- the `inputs:` section of `workflow_dispatch` as `parseWorkflowDispatchEvent` reads it -/
def dispatchInputsOf (cfg : Cfg) (v : Node) : R (List (String × DispatchInput)) :=
  let m := parseMapping cfg (sectionWhat "inputs") v true false
  ((mapKVs (dispatchInput cfg) m.1).1, m.2 ++ (mapKVs (dispatchInput cfg) m.1).2)

/-- the body of the key loop of `parseWorkflowDispatchEvent` -/
def dispatchKey (cfg : Cfg) (st : Option (List (String × DispatchInput))) (kv : KV) : Option (List (String × DispatchInput)) × List PErr :=
  if kv.id ≠ "inputs" then (st, [unexpectedKey kv.key "workflow_dispatch" ["inputs"]])
  else (some (dispatchInputsOf cfg kv.val).1, (dispatchInputsOf cfg kv.val).2)

def dispatchLoop (cfg : Cfg) (n : Node) : Option (List (String × DispatchInput)) × List PErr :=
  loop (dispatchKey cfg) none (parseMapping cfg (sectionWhat "workflow_dispatch") n true true).1

theorem parseDispatch_eq (cfg : Cfg) (pos : Yaml.Pos) (n : Node) :
    (parseWorkflowDispatchEvent cfg pos n).1 = .dispatch (dispatchLoop cfg n).1 pos ∧
    (parseWorkflowDispatchEvent cfg pos n).2 = (parseMapping cfg (sectionWhat "workflow_dispatch") n true true).2 ++ (dispatchLoop cfg n).2 :=
  ⟨rfl, rfl⟩

theorem dispatchInputsOf_clean (cfg : Cfg) (v : Node) (h : (dispatchInputsOf cfg v).2 = []) :
    (dispatchInputsOf cfg v).1.map (·.1) = (pairs v.content).map fun p => cfg.lower p.1.value := by
  simp only [dispatchInputsOf, append_nil_iff] at h ⊢
  rw [mapKVs_fst, parseMapping_clean_eq cfg _ v true false h.1, List.map_map, List.map_map]
  exact List.map_congr_left fun p _ => by simp [kvOf_false]

/-- **`workflow_dispatch:`, accepted without a diagnostic: the ids of its inputs are the folded keys written under `inputs:`** -/
theorem parseDispatch_written (cfg : Cfg) (n : Node) (hm : (parseMapping cfg (sectionWhat "workflow_dispatch") n true true).2 = [])
    (hr : (dispatchLoop cfg n).2 = []) :
    ((dispatchLoop cfg n).1.getD []).map (·.1) =
      (match mget n "inputs" with | some v => (pairs v.content).map (fun p => cfg.lower p.1.value) | none => []) := by
  obtain ⟨hf, hok⟩ := section_reads_of_eq cfg _ n true (dispatchKey cfg) none (fun st => st) "inputs"
    (fun kv => some (dispatchInputsOf cfg kv.val).1) (fun kv => (dispatchInputsOf cfg kv.val).2)
    (fun st kv hne => by simp only [dispatchKey, if_pos hne])
    (fun st kv he => by simp only [dispatchKey, if_neg (not_not_intro he), and_self]) hm hr
  unfold dispatchLoop
  rw [hf, mget]
  cases hp : mpair n "inputs" with
  | none => rfl
  | some p => exact dispatchInputsOf_clean cfg _ (hok p hp)

/-! ### `on:` written as a mapping: the header -/

/-- the state of `parseEvents` on a mapping after its key loop -/
def onLoop (cfg : Cfg) (n : Node) : List Event × List PErr :=
  loop (eventOfKey cfg) [] (parseMapping cfg (sectionWhat "on") n false true).1

theorem parseEvents_mapping (cfg : Cfg) (pos : Yaml.Pos) (n : Node) (hk : n.kind = .mapping) :
    parseEvents cfg pos n = (some (onLoop cfg n).1, (parseMapping cfg (sectionWhat "on") n false true).2 ++ (onLoop cfg n).2) := by
  simp only [parseEvents, hk]
  rfl

open AL.RuleExpr (callTy dispatchTy) in
/-- **the header the rule builds from an `on:` written as a mapping and accepted without a diagnostic**: the names of the
`workflow_call` inputs are the folded keys written under `on: workflow_call: inputs:`, its secrets the folded keys written
under `secrets:` (none without that key), the names of the `workflow_dispatch` inputs the folded keys written under
`on: workflow_dispatch: inputs:` -/
theorem on_hdr_written (cfg : Cfg) (n : Node) (hm : (parseMapping cfg (sectionWhat "on") n false true).2 = [])
    (hr : (onLoop cfg n).2 = []) :
    ((hdrOf (onLoop cfg n).1).callInputs.getD []).map (·.1) =
      (match (mget n "workflow_call").bind (mget · "inputs") with
       | some v => (pairs v.content).map (fun p => cfg.lower p.1.value) | none => []) ∧
    (hdrOf (onLoop cfg n).1).callSecrets =
      ((mget n "workflow_call").bind (mget · "secrets")).map (fun v => (pairs v.content).map fun p => cfg.lower p.1.value) ∧
    ((hdrOf (onLoop cfg n).1).dispatchInputs.getD []).map (·.1) =
      (match (mget n "workflow_dispatch").bind (mget · "inputs") with
       | some v => (pairs v.content).map (fun p => cfg.lower p.1.value) | none => []) := by
  obtain ⟨h1, k1⟩ := section_reads_of_eq cfg _ n false (eventOfKey cfg) [] (fun st => (hdrOf st).callInputs) "workflow_call"
    (fun kv => some (((callLoop cfg kv.val).1.inputs.getD []).map fun i => (i.id, callTy i.type)))
    (fun kv => (parseWorkflowCallEvent cfg kv.key.pos kv.val).2) (fun st kv hne => (eventOfKey_hdr_ne_call cfg st kv hne).1)
    (fun st kv he => ⟨by rw [(eventOfKey_call cfg st kv he).1, hdrOf_snoc, parseCall_eq]; rfl, (eventOfKey_call cfg st kv he).2⟩) hm hr
  -- `callSecrets` is written by `workflow_call` only when it has a `secrets:` key — and then still holds its initial `none`
  obtain ⟨h2, -⟩ := section_reads cfg _ n false (eventOfKey cfg) [] (fun st => (hdrOf st).callSecrets) "workflow_call"
    (fun kv => (callLoop cfg kv.val).1.secrets.map (·.map (·.1))) (fun _ => True)
    (fun st kv hne => (eventOfKey_hdr_ne_call cfg st kv hne).2)
    (fun st kv he _ h0 => ⟨by
      rw [(eventOfKey_call cfg st kv he).1, hdrOf_snoc, parseCall_eq]
      simp only [eventHdr]
      cases (callLoop cfg kv.val).1.secrets with
      | none => exact h0
      | some ss => rfl, trivial⟩) hm hr
  obtain ⟨h3, k3⟩ := section_reads_of_eq cfg _ n false (eventOfKey cfg) [] (fun st => (hdrOf st).dispatchInputs) "workflow_dispatch"
    (fun kv => some (((dispatchLoop cfg kv.val).1.getD []).map fun q => (q.1, dispatchTy q.2.type)))
    (fun kv => (parseWorkflowDispatchEvent cfg kv.key.pos kv.val).2) (eventOfKey_hdr_ne_dispatch cfg)
    (fun st kv he => ⟨by rw [(eventOfKey_dispatch cfg st kv he).1, hdrOf_snoc, (parseDispatch_eq cfg _ _).1]; rfl,
      (eventOfKey_dispatch cfg st kv he).2⟩) hm hr
  unfold onLoop
  rw [h1, h2, h3, mget, mget]
  refine ⟨?_, ?_, ?_⟩
  · cases hp : mpair n "workflow_call" with
    | none => rfl
    | some p =>
      obtain ⟨c1, c2⟩ := parseCall_clean cfg _ _ (k1 p hp)
      exact (List.map_map ..).trans (parseCall_written cfg _ c1 c2).1
  · cases hp : mpair n "workflow_call" with
    | none => rfl
    | some p =>
      obtain ⟨c1, c2⟩ := parseCall_clean cfg _ _ (k1 p hp)
      exact (parseCall_written cfg _ c1 c2).2
  · cases hp : mpair n "workflow_dispatch" with
    | none => rfl
    | some p =>
      obtain ⟨c1, c2⟩ := append_nil_iff.1 ((parseDispatch_eq cfg _ _).2 ▸ k3 p hp)
      exact (List.map_map ..).trans (parseDispatch_written cfg _ c1 c2)

/-! ### `on:` written as a scalar or a sequence: nothing is declared -/

/-- an event that declares no input and no secret -/
def Plain : Event → Prop
  | .dispatch i _ => i = none
  | .call i s _ _ => i = none ∧ s = none
  | _ => True

/-- a header without a declared input or secret -/
def HdrEmpty (h : Header) : Prop := h.callInputs.getD [] = [] ∧ h.dispatchInputs.getD [] = [] ∧ h.callSecrets = none

theorem eventHdr_plain (h : Header) (e : Event) (hq : HdrEmpty h) (hp : Plain e) : HdrEmpty (eventHdr h e) := by
  obtain ⟨a, b, c⟩ := hq
  cases e with
  | webhook w => exact ⟨a, b, c⟩
  | schedule cr p => exact ⟨a, b, c⟩
  | repoDispatch t p => exact ⟨a, b, c⟩
  | dispatch i p =>
    simp only [Plain] at hp
    subst hp
    exact ⟨a, rfl, c⟩
  | call i sx o p =>
    simp only [Plain] at hp
    obtain ⟨rfl, rfl⟩ := hp
    exact ⟨rfl, b, c⟩

theorem foldHdr_plain : ∀ (es : List Event), (∀ e ∈ es, Plain e) → ∀ h, HdrEmpty h → HdrEmpty (es.foldl eventHdr h)
  | [], _, _, hq => hq
  | e :: es, hp, h, hq => by
    simp only [List.foldl_cons]
    exact foldHdr_plain es (fun e' he' => hp e' (List.mem_cons_of_mem _ he')) _
      (eventHdr_plain h e hq (hp e (List.mem_cons_self ..)))

theorem eventsOfSeq_plain : ∀ (cs : List Node), ∀ e ∈ (eventsOfSeq cs).1, Plain e
  | [], e, he => by simp [eventsOfSeq] at he
  | c :: cs, e, he => by
    have ih := eventsOfSeq_plain cs
    simp only [eventsOfSeq] at he
    split at he
    · exact ih e he
    · exact ih e he
    · rcases List.mem_cons.1 he with rfl | he
      · rfl
      · exact ih e he
    · rcases List.mem_cons.1 he with rfl | he
      · exact ⟨rfl, rfl⟩
      · exact ih e he
    · rcases List.mem_cons.1 he with rfl | he
      · trivial
      · exact ih e he

/-- **`on:` not written as a mapping** (`on: push`, `on: [push, workflow_dispatch]`, …): every event is plain -/
theorem parseEvents_plain (cfg : Cfg) (pos : Yaml.Pos) (n : Node) (hk : n.kind ≠ .mapping) :
    ∀ es, (parseEvents cfg pos n).1 = some es → ∀ e ∈ es, Plain e := by
  intro es hes e he
  simp only [parseEvents] at hes
  split at hes
  · split at hes
    · simp only [Option.some.injEq] at hes; subst hes; simp only [List.mem_singleton] at he; subst he; rfl
    · simp only [Option.some.injEq] at hes; subst hes; simp only [List.mem_singleton] at he; subst he; trivial
    · simp only [Option.some.injEq] at hes; subst hes; cases he
    · simp only [Option.some.injEq] at hes; subst hes; simp only [List.mem_singleton] at he; subst he; exact ⟨rfl, rfl⟩
    · split at hes
      · simp only [Option.some.injEq] at hes; subst hes; cases he
      · simp only [Option.some.injEq] at hes; subst hes; simp only [List.mem_singleton] at he; subst he; trivial
  · exact absurd ‹_› hk
  · simp only [Option.some.injEq] at hes
    subst hes
    exact eventsOfSeq_plain _ e he
  · cases hes

/-! ### `on:` of the workflow -/

theorem workflowKey_on_ne (cfg : Cfg) (w : Workflow) (kv : KV) (h : kv.id ≠ "on") : (workflowKey cfg w kv).1.on = w.on :=
  (workflowKey_frame cfg w kv).on h

theorem workflowKey_on_eq (cfg : Cfg) (w : Workflow) (kv : KV) (h : kv.id = "on") :
    (workflowKey cfg w kv).1.on = (parseEvents cfg kv.key.pos kv.val).1 ∧ (workflowKey cfg w kv).2 = (parseEvents cfg kv.key.pos kv.val).2 :=
  eq_at (workflowKey_on cfg) w kv h ▸ ⟨rfl, rfl⟩

/-- **`Workflow.On` of an accepted document is `parseEvents` of the node under `on:`**, accepted without a diagnostic -/
theorem parse_on_written (cfg : Cfg) (doc : Node) (h : (parse cfg doc).2 = []) :
    ∃ on pos, docOn doc = some on ∧ (parse cfg doc).1.on = (parseEvents cfg pos on).1 ∧ (parseEvents cfg pos on).2 = [] := by
  obtain ⟨root, hroot, hm, hr, he, hon, _⟩ := parse_clean cfg doc h
  obtain ⟨hf, hok⟩ := section_reads_of_eq cfg "workflow" root false (workflowKey cfg) {} (fun w => w.on) "on"
    (fun kv => (parseEvents cfg kv.key.pos kv.val).1) (fun kv => (parseEvents cfg kv.key.pos kv.val).2) (workflowKey_on_ne cfg)
    (workflowKey_on_eq cfg) hm hr
  rw [he, hf] at hon ⊢
  simp only [docOn, hroot, Option.bind_some, mget]
  cases hp : mpair root "on" with
  | none => rw [hp] at hon; cases hon
  | some p => exact ⟨_, _, rfl, rfl, hok p hp⟩

end AL.C05D
