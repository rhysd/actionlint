import AL.Model.Sema
import AL.Lemmas.TyMono
/-
  C06 (d): `validCompare` is monotone in both operands for `LooserW` (hence `Looser`, `LooserD`).
  An ordering comparison only asks each operand to be `any`, `number` or `string`, a set closed under
  loosening. For `==`/`!=` loosening either turns an operand into `any`, which compares with everything,
  or keeps its head constructor, on which alone the verdict depends (arrays recurse on the elements).
-/
namespace AL.Sema
open AL AL.Ty AL.Spec

/-- the operand types `<`, `<=`, `>`, `>=` accept, on either side -/
def ordered : Ty → Bool
  | .any | .number | .string => true
  | _ => false

theorem validCompare_ord {op : CmpOp} (h1 : op ≠ .eq) (h2 : op ≠ .notEq) (l r : Ty) :
    validCompare op l r = (ordered l && ordered r) := by
  cases op <;> first | contradiction | (cases l <;> first | rfl | (cases r <;> rfl))

theorem ordered_mono {t t' : Ty} (h : LooserW t t') (ht : ordered t = true) : ordered t' = true := by
  cases h <;> first | rfl | exact ht

theorem validCompare_eq_mono {op : CmpOp} (hop : op = .eq ∨ op = .notEq) :
    {l l' : Ty} → LooserW l l' → ∀ {r r' : Ty}, LooserW r r' →
      validCompare op l r = true → validCompare op l' r' = true
  | _, _, .any _, _, _, _, _ | _, _, .null, _, _, _, _ => by rcases hop with rfl | rfl <;> rfl
  | _, _, .number, _, _, hr, h | _, _, .bool, _, _, hr, h | _, _, .string, _, _, hr, h
  | _, _, .obj _ _, _, _, hr, h => by rcases hop with rfl | rfl <;> cases hr <;> first | rfl | exact h
  | _, _, .arr hl, _, _, hr, h => by
    cases hr with
    | arr hr =>
      have ih := validCompare_eq_mono hop hl hr
      rcases hop with rfl | rfl <;> simp only [validCompare] at h ⊢ <;> exact ih h
    | _ => rcases hop with rfl | rfl <;> first | rfl | exact h
termination_by structural l _ _ => l

theorem validCompare_mono (op : CmpOp) {l l' : Ty} (hl : LooserW l l') {r r' : Ty} (hr : LooserW r r')
    (h : validCompare op l r = true) : validCompare op l' r' = true := by
  by_cases hop : op = .eq ∨ op = .notEq
  · exact validCompare_eq_mono hop hl hr h
  · rw [not_or] at hop
    rw [validCompare_ord hop.1 hop.2, Bool.and_eq_true] at h ⊢
    exact ⟨ordered_mono hl h.1, ordered_mono hr h.2⟩

theorem validCompare_mono_looser {op : CmpOp} {l l' r r' : Ty} (hl : Looser l l') (hr : Looser r r')
    (h : validCompare op l r = true) : validCompare op l' r' = true :=
  validCompare_mono op (LooserW.of_looser hl) (LooserW.of_looser hr) h

end AL.Sema
