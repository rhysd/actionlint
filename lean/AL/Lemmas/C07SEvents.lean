import AL.Lemmas.C07SParse
/-
  C07Sites, parser side, part 2: the `on:` section.

  A `…Key` / `…Attr` function (the body of a loop over a mapping), here and in parts 3 and 4, stores in each branch the
  result of one sub-parser in one field of the state and passes that parser's diagnostics on: the state stays made of nodes
  of `S` because the old state and the sub-parser's result are.
-/
namespace AL.C07S
open AL.Yaml AL.Ast AL.PW

variable {S : List Node}

instance : HasItems DispatchInputSt := ⟨fun st => items st.desc ++ items st.req ++ items st.dflt ++ items st.opts⟩
@[simp] theorem IOk_DispatchInputSt {x : DispatchInputSt} : IOk S x ↔ IOk S x.desc ∧ IOk S x.req ∧ IOk S x.dflt ∧ IOk S x.opts := by
  delta instHasItemsDispatchInputSt
  simp only [IOk_def, LOk_append, and_assoc]

instance : HasItems CallEventSt := ⟨fun st => items st.inputs ++ items st.secrets ++ items st.outputs⟩
@[simp] theorem IOk_CallEventSt {x : CallEventSt} : IOk S x ↔ IOk S x.inputs ∧ IOk S x.secrets ∧ IOk S x.outputs := by
  delta instHasItemsCallEventSt
  simp only [IOk_def, LOk_append, and_assoc]

theorem scheduleItem_ok (cfg : Cfg) {c : Node} (hc : ∀ x ∈ allNodes c, x ∈ S) : ROk S (AL.C13D3.scheduleItem cfg c) := by
  have hm := parseMapping_ok (S := S) cfg "element of \"schedule\" section" hc false true
  have he := errAt_ok (S := S) (self_mem hc) "schedule-element" []
  unfold AL.C13D3.scheduleItem
  dsimp only
  split
  · rename_i kv hkv
    have hkv' : KVOk S kv := hm.1 kv (by rw [hkv]; exact List.mem_cons_self ..)
    split
    · simp [hm.2, he]
    · simp [hm.2, (parseString_ok hkv'.valMem false).and]
  · simp [hm.2, he]

theorem scheduleItems_ok (cfg : Cfg) : ∀ (cs : List Node), (∀ c ∈ cs, ∀ x ∈ allNodes c, x ∈ S) → ROk S (scheduleItems cfg cs) :=
  fun _ h => scheduleItems_filterMapR cfg ▸ filterMapR_ok fun c hc => scheduleItem_ok cfg (h c hc)

theorem parseScheduleEvent_ok (cfg : Cfg) {pos : Pos} (hp : POk S pos) {n : Node} (h : ∀ x ∈ allNodes n, x ∈ S) :
    ROk S (parseScheduleEvent cfg pos n) := by
  have hc := checkSequence_ok (self_mem h) "schedule" false
  unfold parseScheduleEvent
  dsimp only
  split
  · simp [hc]
  · simp [hc, (scheduleItems_ok cfg n.content (content_sub h)).and, hp]

theorem dispatchAttr_ok {st : DispatchInputSt} {attr : KV} (hkv : KVOk S attr) (hst : IOk S st) : ROk S (dispatchAttr st attr) := by
  have hd := IOk_DispatchInputSt.1 hst
  have hv := hkv.valMem
  have hs := fun ae => (parseString_ok hv ae).and
  have hc := checkString_ok hv false
  unfold dispatchAttr
  dsimp only
  split
  · simp [hd, hs]
  · simp [hd, (parseBool_ok hv).and]
  · simp [hd, hs]
  · split
    · exact ⟨hst, hc⟩
    · split
      all_goals simp [hd, hst, hc, errAt_ok hv]
  · simp [hd, (parseStringSequence_ok hkv.2 "options" false false).and]
  · simp [hst, unexpectedKey_ok hkv]

theorem dispatchInput_ok (cfg : Cfg) {input : KV} (hkv : KVOk S input) : ROk S (dispatchInput cfg input) := by
  have hr := loopMapping_ok (init := {})
    (parseMapping_ok cfg "input settings of workflow_dispatch event" hkv.2 true true) dispatchAttr_ok (by simp)
  simp only [dispatchInput]
  simp [hkv.1, IOk_DispatchInputSt.1 hr.1, hr.2]

theorem parseWorkflowDispatchEvent_ok (cfg : Cfg) {pos : Pos} (hp : POk S pos) {n : Node} (h : ∀ x ∈ allNodes n, x ∈ S) :
    ROk S (parseWorkflowDispatchEvent cfg pos n) := by
  refine (loopMapping_ok (parseSectionMapping_ok cfg _ h true true) ?_ IOk_none).imp (fun hr => IOk_dispatch.2 ⟨hr, hp⟩) id
  intro st kv hkv hst
  split
  · simp [hst, unexpectedKey_ok hkv]
  · simpa using mapMapping_ok (parseSectionMapping_ok cfg "inputs" hkv.2 true false) (dispatchInput_ok cfg)

theorem parseRepositoryDispatchEvent_ok (cfg : Cfg) {pos : Pos} (hp : POk S pos) {n : Node} (h : ∀ x ∈ allNodes n, x ∈ S) :
    ROk S (parseRepositoryDispatchEvent cfg pos n) := by
  refine (loopMapping_ok (parseSectionMapping_ok cfg _ h true true) ?_ IOk_none).imp
    (fun hr => IOk_repoDispatch.2 ⟨hr, hp⟩) id
  intro st kv hkv hst
  split
  · exact parseStringOrStringSequence_ok hkv.2 "types" false false
  · simp [hst, unexpectedKey_ok hkv]

theorem parseWebhookEventFilter_ok {name : Str} (hname : IOk S name) {n : Node} (h : ∀ x ∈ allNodes n, x ∈ S) :
    ROk S (parseWebhookEventFilter name n) := by
  have ht := parseStringOrStringSequence_ok (S := S) h name.value false false
  exact ⟨IOk_Filter.2 ⟨hname, ht.1⟩, ht.2⟩

theorem webhookKey_ok (name : Str) {st : WebhookEvent} {kv : KV} (hkv : KVOk S kv) (hst : IOk S st) :
    ROk S (webhookKey name st kv) := by
  have hw := IOk_WebhookEvent.1 hst
  have ht := (parseStringOrStringSequence_ok hkv.2 kv.key.value false false).and
  have hf := (parseWebhookEventFilter_ok (IOk_str.2 hkv.1) hkv.2).and
  unfold webhookKey
  split
  case h_9 => simp [hst, unexpectedKey_ok hkv]  -- the default branch of `webhookKey`, after its eight keys
  all_goals simp [hw, ht, hf]

theorem parseWebhookEvent_ok (cfg : Cfg) {name : Str} (hname : IOk S name) {n : Node} (h : ∀ x ∈ allNodes n, x ∈ S) :
    ROk S (parseWebhookEvent cfg name n) :=
  (loopMapping_ok (parseSectionMapping_ok cfg _ h true true) (webhookKey_ok name)
    (by simp [IOk_str.1 hname, POk_of_str hname])).imp IOk_webhook.2 id

theorem callInputAttr_ok {st : CallInput × Bool} {attr : KV} (hkv : KVOk S attr) (hst : IOk S st) :
    ROk S (callInputAttr st attr) := by
  have hc := IOk_CallInput.1 (IOk_flag.1 hst)
  have hv := hkv.valMem
  have hs := (parseString_ok hv true).and
  unfold callInputAttr
  split
  · simp [hc, hs]
  · simp [hc, (parseBool_ok hv).and]
  · split
    · simp [hst]
    · simp [hc, hs]
  · split
    all_goals simp [hc, errAt_ok hv]
  · simp [hst, unexpectedKey_ok hkv]

theorem callInput_ok (cfg : Cfg) {kv : KV} (hkv : KVOk S kv) : ROk S (callInput cfg kv) := by
  have hr := loopMapping_ok (init := (({ name := kv.key, id := kv.id } : CallInput), false))
    (parseMapping_ok cfg "input of workflow_call event" hkv.2 true true) callInputAttr_ok (by simp [hkv.1])
  exact ⟨hr.1, EOk_append.2 ⟨hr.2, EOk_ite (EOk_one hkv.keyPos) EOk_nil⟩⟩

theorem callInputs_ok (cfg : Cfg) : ∀ (kvs : List KV), (∀ kv ∈ kvs, KVOk S kv) → ROk S (callInputs cfg kvs) :=
  fun _ hk => callInputs_mapR cfg ▸ mapR_ok fun kv h => callInput_ok cfg (hk kv h)

theorem callSecretAttr_ok {st : CallSecret} {attr : KV} (hkv : KVOk S attr) (hst : IOk S st) :
    ROk S (callSecretAttr st attr) := by
  have hc := IOk_CallSecret.1 hst
  unfold callSecretAttr
  split
  · simp [hc, (parseString_ok hkv.valMem true).and]
  · simp [hc, (parseBool_ok hkv.valMem).and]
  · simp [hst, unexpectedKey_ok hkv]

theorem callSecret_ok (cfg : Cfg) {kv : KV} (hkv : KVOk S kv) : ROk S (callSecret cfg kv) :=
  loopMapping_ok (parseMapping_ok cfg _ hkv.2 true true) callSecretAttr_ok (by simp [hkv.1])

theorem callOutputAttr_ok {st : CallOutput} {attr : KV} (hkv : KVOk S attr) (hst : IOk S st) :
    ROk S (callOutputAttr st attr) := by
  have hc := IOk_CallOutput.1 hst
  have hs := fun ae => (parseString_ok hkv.valMem ae).and
  unfold callOutputAttr
  split
  · simp [hc, hs]
  · simp [hc, hs]
  · simp [hst, unexpectedKey_ok hkv]

theorem callOutput_ok (cfg : Cfg) {kv : KV} (hkv : KVOk S kv) : ROk S (callOutput cfg kv) := by
  have hr := loopMapping_ok (init := ({ name := kv.key } : CallOutput))
    (parseMapping_ok cfg "output of workflow_call event" hkv.2 true true) callOutputAttr_ok (by simp [hkv.1])
  exact ⟨hr.1, EOk_append.2 ⟨hr.2, EOk_ite (EOk_one hkv.keyPos) EOk_nil⟩⟩

theorem callEventKey_ok (cfg : Cfg) {st : CallEventSt} {kv : KV} (hkv : KVOk S kv) (hst : IOk S st) :
    ROk S (callEventKey cfg st kv) := by
  have hc := IOk_CallEventSt.1 hst
  have hm := fun sec => parseSectionMapping_ok (S := S) cfg sec hkv.2 true false
  unfold callEventKey
  split
  · simp [hc, (hm _).2, (callInputs_ok cfg _ (hm _).1).and]
  · simpa [hc] using mapMapping_ok (hm "secrets") (callSecret_ok cfg)
  · simpa [hc] using mapMapping_ok (hm "outputs") (callOutput_ok cfg)
  · simp [hst, unexpectedKey_ok hkv]

theorem parseWorkflowCallEvent_ok (cfg : Cfg) {pos : Pos} (hp : POk S pos) {n : Node} (h : ∀ x ∈ allNodes n, x ∈ S) :
    ROk S (parseWorkflowCallEvent cfg pos n) := by
  have hr := loopMapping_ok (init := {}) (parseSectionMapping_ok cfg "workflow_call" h true true) (callEventKey_ok cfg)
    (by simp)
  have hc := IOk_CallEventSt.1 hr.1
  exact ⟨IOk_call.2 ⟨hc.1, hc.2.1, hc.2.2, hp⟩, hr.2⟩

theorem eventOfKey_ok (cfg : Cfg) {st : List Event} {kv : KV} (hkv : KVOk S kv) (hst : IOk S st) :
    ROk S (eventOfKey cfg st kv) := by
  have hp := hkv.keyPos
  unfold eventOfKey
  dsimp only
  split
  · have h := parseScheduleEvent_ok (S := S) cfg hp hkv.2
    refine ⟨?_, h.2⟩
    split
    · rename_i he
      simp [hst, h.1.of_some he]
    · exact hst
  · simp [hst, (parseWorkflowDispatchEvent_ok cfg hp hkv.2).and]
  · simp [hst, (parseRepositoryDispatchEvent_ok cfg hp hkv.2).and]
  · simp [hst, (parseWorkflowCallEvent_ok cfg hp hkv.2).and]
  · simp [hst, (parseWebhookEvent_ok cfg (IOk_str.2 hkv.1) hkv.2).and]

theorem eventsOfSeq_ok : ∀ (cs : List Node), (∀ c ∈ cs, c ∈ S) → ROk S (eventsOfSeq cs)
  | [], _ => by simp [eventsOfSeq]
  | c :: cs, h => by
    have hc := h c (List.mem_cons_self ..)
    have hs := (parseString_ok (S := S) hc false).and
    have ih := (eventsOfSeq_ok cs (fun x hx => h x (List.mem_cons_of_mem _ hx))).and
    unfold eventsOfSeq
    dsimp only
    split
    all_goals simp [hs, ih, errAt_ok hc, POk_of_mem hc]

theorem parseEvents_ok (cfg : Cfg) {pos : Pos} (hp : POk S pos) {n : Node} (h : ∀ x ∈ allNodes n, x ∈ S) :
    ROk S (parseEvents cfg pos n) := by
  have hn := self_mem h
  have hnp := POk_of_mem hn
  unfold parseEvents
  dsimp only
  split
  · split
    · simp [hnp]
    · simp [hnp]
    · exact ⟨by simp, EOk_one hp⟩
    · simp [hnp]
    · have hs := (parseString_ok (S := S) hn false).and
      split
      · simp [hs]
      · simp [hs, hnp]
  · simpa using loopMapping_ok (parseSectionMapping_ok cfg "on" h false true) (eventOfKey_ok cfg) IOk_nil
  · simp [checkNotEmpty_ok hn, (eventsOfSeq_ok n.content (content_mem h)).and]
  · simp [errAt_ok hn]

end AL.C07S
