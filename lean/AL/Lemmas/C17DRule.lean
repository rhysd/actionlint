import AL.Model.Rules
import AL.Props.C17
import AL.Props.C09Cron
/-
  For AL.Props.C17Doc, the AST side: `AL.Rules.ruleGlob` as ONE equation over the filter patterns of the workflow
  (`patternsOf`), the validator's verdict per pattern (`reports`), the language a pattern is judged by (`InLang` /
  `InLangLoose`: `AL.Spec.ValidGlob` / `ValidGlobLoose` + the blank rule of path filters), the characters of a Lean string as
  the validator sees them (`symsOf`: every character at least one byte wide).
-/
namespace AL.C17D
open AL AL.Rules AL.Yaml AL.Ast AL.Glob AL.Spec

/-- the two syntaxes: `branches` / `branches-ignore` / `tags` / `tags-ignore` are Git ref patterns, `paths` /
`paths-ignore` file path patterns -/
inductive Kind where | ref | path
deriving DecidableEq, Repr

/-- the validator of a kind: `ValidateRefGlob` / `ValidatePathGlob` -/
def validateK : Kind → List Sym → List GErr
  | .ref => validateRef
  | .path => validatePath

/-- the six filters of a webhook event with their kinds, in the order rule_glob.go checks them -/
def filtersOf (h : WebhookEvent) : List (Option Filter × Kind) :=
  [(h.branches, .ref), (h.branchesIgnore, .ref), (h.tags, .ref), (h.tagsIgnore, .ref), (h.paths, .path), (h.pathsIgnore, .path)]

/-- the pattern strings of a filter (none when the key is absent or its value was refused by the parser) -/
def filterStrs (f : Option Filter) : List Str :=
  match f with
  | some f => f.values.getD []
  | none => []

/-- the pattern strings of an event with their kinds: only webhook events have any -/
def eventPatterns : Event → List (Str × Kind)
  | .webhook h => (filtersOf h).flatMap fun fk => (filterStrs fk.1).map fun s => (s, fk.2)
  | _ => []

/-- **all filter patterns of a workflow**, in the order of `on:` -/
def patternsOf (w : Workflow) : List (Str × Kind) := (w.on.getD []).flatMap eventPatterns

/-- the diagnostic for one message of the validator about the pattern `s`: on the line of `s`, at the column of `s` + 1 for
an opening quote + (the validator's column - 1) — truncated subtraction: the validator's column 0 (used after a line break, and
by the leading-blank report) counts like column 1 -/
def diagAt (s : Str) (e : GErr) : Diag :=
  ⟨⟨s.pos.line, s.pos.col + (if s.quoted then 1 else 0) + (e.col - 1)⟩, "glob", "glob", [globCode e.msg]⟩

/-- **what rule glob says about one pattern**: nothing about the empty string (the parser has reported it:
`string-empty`), otherwise one diagnostic per message of the validator. Nothing else is skipped: a pattern with a
`${{ }}` placeholder is validated like any other text. -/
def reports (k : Kind) (s : Str) : List Diag :=
  if s.value = "" then [] else (validateK k (symsOf s.value)).map (diagAt s)

theorem globErrors_eq (errs : List GErr) (v : Str) : globErrors errs v = errs.map (diagAt v) := by
  unfold globErrors
  apply List.map_congr_left
  intro e _
  simp only [diagAt]
  by_cases h : e.col = 0
  · simp [h]
  · simp [h]

theorem checkGlobs_ref (f : Option Filter) : checkGlobs true f = (filterStrs f).flatMap (reports .ref) := by
  unfold checkGlobs filterStrs
  cases f with
  | none => rfl
  | some f =>
    simp only [globErrors_eq]
    rfl

theorem checkGlobs_path (f : Option Filter) : checkGlobs false f = (filterStrs f).flatMap (reports .path) := by
  unfold checkGlobs filterStrs
  cases f with
  | none => rfl
  | some f =>
    simp only [globErrors_eq]
    rfl

theorem flatMap_map_pair {α β γ : Type} (l : List α) (b : β) (g : α × β → List γ) :
    (l.map fun a => (a, b)).flatMap g = l.flatMap fun a => g (a, b) :=
  List.flatMap_map ..

theorem event_diags (e : Event) :
    (match e with
      | .webhook h =>
        checkGlobs true h.branches ++ checkGlobs true h.branchesIgnore ++ checkGlobs true h.tags ++ checkGlobs true h.tagsIgnore ++
        checkGlobs false h.paths ++ checkGlobs false h.pathsIgnore
      | _ => []) = (eventPatterns e).flatMap fun p => reports p.2 p.1 := by
  cases e with
  | webhook h =>
    simp only [eventPatterns, filtersOf, List.flatMap_cons, List.flatMap_nil, List.append_nil, List.flatMap_append,
      flatMap_map_pair, checkGlobs_ref, checkGlobs_path, List.append_assoc]
  | _ => rfl

theorem flatMap_flatMap' {α β γ : Type} (l : List α) (f : α → List β) (g : β → List γ) :
    (l.flatMap f).flatMap g = l.flatMap fun a => (f a).flatMap g :=
  List.flatMap_assoc ..

/-- **rule glob, exactly**: the diagnostics are, pattern by pattern in the order of `on:`, what `reports` says -/
theorem ruleGlob_eq (w : Workflow) : ruleGlob w = (patternsOf w).flatMap fun p => reports p.2 p.1 := by
  unfold ruleGlob patternsOf
  rw [flatMap_flatMap']
  apply AL.C09C.flatMap_congr'
  intro e _
  exact event_diags e

/-! ### the characters of a string -/

theorem decodeOne_w {bs : List Nat} {s : Sym} {rest : List Nat} (h : decodeOne bs = some (s, rest)) : 0 < s.w := by
  obtain ⟨_, _, _, _, hw, _⟩ := decodeOne_some h; exact hw

theorem decodeUtf8_nil : decodeUtf8 [] = [] := decodeUtf8_empty

theorem decodeUtf8_step {bs : List Nat} {s : Sym} {rest : List Nat} (h : decodeOne bs = some (s, rest)) :
    decodeUtf8 bs = s :: decodeUtf8 rest := decodeUtf8_cons h

theorem decodeUtf8_w : ∀ (n : Nat) (bs : List Nat), bs.length ≤ n → ∀ c ∈ decodeUtf8 bs, 0 < c.w
  | 0, bs, hn, c, hc => by
    have : bs = [] := List.length_eq_zero_iff.mp (by omega)
    subst this
    rw [decodeUtf8_nil] at hc
    cases hc
  | n + 1, bs, hn, c, hc => by
    cases hd : decodeOne bs with
    | none =>
      have : decodeUtf8 bs = [] := by
        rw [decodeUtf8]; split
        · rfl
        · rename_i h'; rw [hd] at h'; cases h'
      rw [this] at hc
      cases hc
    | some p =>
      obtain ⟨s, rest⟩ := p
      rw [decodeUtf8_step hd] at hc
      rcases List.mem_cons.1 hc with rfl | hc
      · exact decodeOne_w hd
      · have := decodeOne_shorter hd
        exact decodeUtf8_w n rest (by omega) c hc

/-- every character of a string, as the validator reads it, occupies at least one byte -/
theorem symsOf_posW (s : String) : PosW (symsOf s) := fun c hc => decodeUtf8_w _ _ (Nat.le_refl _) c hc

theorem symsOf_empty : symsOf "" = [] := by
  unfold symsOf
  have : "".toUTF8.toList = [] := by simp
  rw [this]
  exact decodeUtf8_nil

/-! ### the language -/

/-- **the documented language of a kind**: `AL.Spec.ValidGlob` (filter-pattern cheat sheet + `git check-ref-format`), for a
path filter also no blank at either end -/
def InLang : Kind → List Sym → Prop
  | .ref, src => ValidGlob true src
  | .path, src => src.head?.map (·.r) ≠ some 32 ∧ src.getLast?.map (·.r) ≠ some 32 ∧ ValidGlob false src

/-- the same with unchecked members of `[...]` (`AL.Spec.ValidGlobLoose`): what the validator decides (`AL.C17`) -/
def InLangLoose : Kind → List Sym → Prop
  | .ref, src => ValidGlobLoose true src
  | .path, src => src.head?.map (·.r) ≠ some 32 ∧ src.getLast?.map (·.r) ≠ some 32 ∧ ValidGlobLoose false src

theorem inLang_loosen {k : Kind} {src : List Sym} (h : InLang k src) : InLangLoose k src := by
  cases k with
  | ref => exact validGlob_loosen h
  | path => exact ⟨h.1, h.2.1, validGlob_loosen h.2.2⟩

theorem validateK_nil_iff (k : Kind) (src : List Sym) (hb : NoBOM src) : validateK k src = [] ↔ InLangLoose k src := by
  cases k with
  | ref => exact AL.C17.validateRef_iff_partial src hb
  | path => exact AL.C17.validatePath_iff_partial src hb

/-- the empty string is in neither of the two loose languages -/
theorem empty_not_inLangLoose (k : Kind) : ¬ InLangLoose k [] := by
  cases k with
  | ref => intro h; exact h.2.1 rfl
  | path => intro h; exact h.2.2.2.1 rfl

end AL.C17D
