import AL.Lemmas.NeedsBasic
import Mathlib.Data.List.Chain
/-
  Fuel-free big-step description `Dfs` of `visitList` (`visitList_dfs`), and the one invariant of the search, proved
  by one rule induction on it (`Dfs.inv`). `Inv g st stack`: the active nodes are the DFS stack, each the first
  unfinished successor (`Link`, from `Scanned`) of the node below it; the finished nodes are closed under successors
  (`Closed`) and on no cycle (`NoCyc`, over `Reach`). `Mono st st'` is what a run guarantees of the colouring whatever
  it finds. AL/Lemmas/NeedsTop.lean applies `Dfs.inv` to the search from one root (`detectCyclicNode_spec`);
  NeedsCollect.lean and NeedsPrint.lean build on that.
-/
namespace AL.Needs
open AL.Spec

/-- Big-step relation of the loop of `detectCyclicNode` (no fuel). -/
inductive Dfs (g : Graph) : List Status → Nat → List Nat → Option (Nat × Nat) → List Status → Prop
  | nil (st v) : Dfs g st v [] none (setStatus st v .finished)
  | back (st v w ws) : st[w]? = some .active → Dfs g st v (w :: ws) (some (v, w)) st
  | descendSome (st v w ws e st2) : st[w]? = some .new →
      Dfs g (setStatus st w .active) w (g.succ w) (some e) st2 → Dfs g st v (w :: ws) (some e) st2
  | descendNone (st v w ws st2 r st3) : st[w]? = some .new →
      Dfs g (setStatus st w .active) w (g.succ w) none st2 → Dfs g st2 v ws r st3 →
      Dfs g st v (w :: ws) r st3
  | skip (st v w ws r st') : st[w]? ≠ some .active → st[w]? ≠ some .new → Dfs g st v ws r st' →
      Dfs g st v (w :: ws) r st'

theorem visitList_dfs (g : Graph) (fuel : Nat) (st : List Status) (v : Nat) (ws : List Nat)
    (hf : countNew st ≤ fuel) :
    Dfs g st v ws (visitList g fuel st v ws).1 (visitList g fuel st v ws).2 := by
  fun_induction visitList g fuel st v ws with
  | case1 fuel st v => exact .nil st v
  | case2 fuel st v w ws h => exact .back st v w ws h
  | case3 st v w ws h =>
    have := countNew_pos_of_new h
    omega
  | case4 st v w ws h fuel' st1 e st2 heq ih =>
    have hc := countNew_set_new (s := .active) h (by decide)
    rw [heq] at ih
    exact .descendSome st v w ws e st2 h (ih (by simp only [st1]; omega))
  | case5 st v w ws h fuel' st1 st2 heq ih1 ih2 =>
    have hc := countNew_set_new (s := .active) h (by decide)
    have hle : countNew st2 ≤ countNew st1 := by
      have := visitList_countNew_le g fuel' st1 w (g.succ w)
      rw [heq] at this; exact this
    rw [heq] at ih1
    exact .descendNone st v w ws st2 _ _ h (ih1 (by simp only [st1]; omega))
      (ih2 (by simp only [st1] at hle; omega))
  | case6 fuel st v w ws hna hnn ih =>
    exact .skip st v w ws _ _ hna hnn (ih hf)


theorem lt_of_getElem? {st : List Status} {v : Nat} {s : Status} (h : st[v]? = some s) : v < st.length := by
  obtain ⟨hlt, _⟩ := List.getElem?_eq_some_iff.1 h
  exact hlt

theorem getElem?_setStatus_self {st : List Status} {v : Nat} {s : Status} (h : v < st.length) :
    (setStatus st v s)[v]? = some s := by
  simp [setStatus, h]

theorem getElem?_setStatus_ne {st : List Status} {v u : Nat} {s : Status} (h : u ≠ v) :
    (setStatus st v s)[u]? = st[u]? := by
  simp [setStatus, Ne.symm h]

theorem length_setStatus (st : List Status) (v : Nat) (s : Status) : (setStatus st v s).length = st.length := by
  simp [setStatus]

/-- Status of an in-range node that is neither active nor new. -/
theorem finished_of_not {st : List Status} {w : Nat} (hlt : w < st.length)
    (h1 : st[w]? ≠ some .active) (h2 : st[w]? ≠ some .new) : st[w]? = some .finished := by
  rw [List.getElem?_eq_getElem hlt] at *
  cases h : st[w] <;> simp_all

/-- What every run guarantees of the colouring: finished nodes stay finished and no node becomes new. -/
structure Mono (st st' : List Status) : Prop where
  len : st'.length = st.length
  fin : ∀ u : Nat, st[u]? = some .finished → st'[u]? = some .finished
  new : ∀ u : Nat, st'[u]? = some .new → st[u]? = some .new

theorem Mono.refl (st : List Status) : Mono st st := ⟨rfl, fun _ h => h, fun _ h => h⟩

theorem Mono.trans {st₁ st₂ st₃ : List Status} (h : Mono st₁ st₂) (h' : Mono st₂ st₃) : Mono st₁ st₃ :=
  ⟨h'.len.trans h.len, fun u hu => h'.fin u (h.fin u hu), fun u hu => h.new u (h'.new u hu)⟩

theorem Mono.set {st : List Status} {v : Nat} {t s : Status} (hv : st[v]? = some t) (ht : t ≠ .finished)
    (hs : s ≠ .new) : Mono st (setStatus st v s) := by
  refine ⟨length_setStatus _ _ _, fun u hu => ?_, fun u hu => ?_⟩
  · have : u ≠ v := by rintro rfl; exact ht (Option.some.inj (hv.symm.trans hu))
    rwa [getElem?_setStatus_ne this]
  · by_cases huv : u = v
    · subst huv
      rw [getElem?_setStatus_self (lt_of_getElem? hv)] at hu
      exact absurd (Option.some.inj hu) hs
    · rwa [getElem?_setStatus_ne huv] at hu

theorem finished_setStatus_active {st : List Status} {w : Nat} (hw : st[w]? = some .new) (u : Nat) :
    (setStatus st w .active)[u]? = some .finished ↔ st[u]? = some .finished := by
  by_cases h : u = w
  · subst h
    simp [getElem?_setStatus_self (lt_of_getElem? hw), hw]
  · rw [getElem?_setStatus_ne h]

/-! ### Reachability, closedness, and "no cycle through a finished node" -/

/-- Reflexive-transitive closure of the edge relation. -/
inductive Reach (g : Graph) : Nat → Nat → Prop
  | refl (u) : Reach g u u
  | step (u w x) : w ∈ g.succ u → Reach g w x → Reach g u x

/-- Finished nodes are closed under successors. -/
def Closed (g : Graph) (st : List Status) : Prop :=
  ∀ u, st[u]? = some .finished → ∀ w ∈ g.succ u, st[w]? = some .finished

/-- No finished node lies on a cycle. -/
def NoCyc (g : Graph) (st : List Status) : Prop :=
  ∀ u, st[u]? = some .finished → ∀ w ∈ g.succ u, ¬ Reach g w u

theorem Closed.reach {g : Graph} {st : List Status} (hc : Closed g st) {u x : Nat} (h : Reach g u x)
    (hu : st[u]? = some .finished) : st[x]? = some .finished := by
  induction h with
  | refl u => exact hu
  | step u w x hw _ ih => exact ih (hc u hu w hw)


/-- The loop of `detectCyclicNode` for `v` has `ws` left to examine; what it has passed is finished. -/
def Scanned (g : Graph) (st : List Status) (v : Nat) (ws : List Nat) : Prop :=
  ∃ pre, g.succ v = pre ++ ws ∧ ∀ w ∈ pre, st[w]? = some Status.finished

theorem Scanned.start (g : Graph) (st : List Status) (v : Nat) : Scanned g st v (g.succ v) :=
  ⟨[], rfl, by simp⟩

theorem Scanned.mem {g : Graph} {st : List Status} {v w : Nat} {ws : List Nat} (h : Scanned g st v (w :: ws)) :
    w ∈ g.succ v := by
  obtain ⟨pre, he, _⟩ := h
  simp [he]

theorem Scanned.next {g : Graph} {st st' : List Status} {v w : Nat} {ws : List Nat} (h : Scanned g st v (w :: ws))
    (hm : ∀ u : Nat, st[u]? = some Status.finished → st'[u]? = some Status.finished)
    (hw : st'[w]? = some Status.finished) : Scanned g st' v ws := by
  obtain ⟨pre, he, hf⟩ := h
  refine ⟨pre ++ [w], by simp [he], fun x hx => ?_⟩
  rcases List.mem_append.1 hx with hx | hx
  · exact hm x (hf x hx)
  · rwa [List.mem_singleton.1 hx]

/-- `y` is a successor of `x` and every successor listed before it is finished. -/
def Link (g : Graph) (st : List Status) (x y : Nat) : Prop := ∃ post, Scanned g st x (y :: post)

theorem Link.mono {g : Graph} {st st' : List Status} {x y : Nat} (h : Link g st x y)
    (hm : ∀ u : Nat, st[u]? = some Status.finished → st'[u]? = some Status.finished) : Link g st' x y := by
  obtain ⟨post, pre, he, hf⟩ := h
  exact ⟨post, pre, he, fun w hw => hm w (hf w hw)⟩

theorem Link.mem {g : Graph} {st : List Status} {x y : Nat} (h : Link g st x y) : y ∈ g.succ x := by
  obtain ⟨_, h⟩ := h
  exact h.mem

/-- The invariant of the search: the active nodes are exactly the DFS stack (top first), each stack node
being the first non-finished successor of the node below it; the finished nodes are closed under
successors and lie on no cycle. -/
structure Inv (g : Graph) (st : List Status) (stack : List Nat) : Prop where
  len : st.length = g.length
  nodup : stack.Nodup
  act : ∀ u : Nat, st[u]? = some Status.active ↔ u ∈ stack
  chain : List.IsChain (fun y x => Link g st x y) stack
  closed : Closed g st
  nocyc : NoCyc g st

theorem Inv.push {g : Graph} {st : List Status} {stack : List Nat} {w : Nat} (hi : Inv g st stack)
    (hw : st[w]? = some Status.new) (hl : ∀ v ∈ stack.head?, Link g st v w) :
    Inv g (setStatus st w .active) (w :: stack) := by
  have hfs := finished_setStatus_active hw
  refine ⟨by rw [length_setStatus, hi.len], List.nodup_cons.2 ⟨fun hm => ?_, hi.nodup⟩, fun u => ?_, ?_, ?_, ?_⟩
  · simp [(hi.act w).2 hm] at hw
  · by_cases huw : u = w
    · subst huw; simp [getElem?_setStatus_self (lt_of_getElem? hw)]
    · rw [getElem?_setStatus_ne huw, hi.act u]; simp [huw]
  · exact List.isChain_cons.2 ⟨fun v hv => (hl v hv).mono fun u => (hfs u).2,
      hi.chain.imp fun _ _ h => h.mono fun u => (hfs u).2⟩
  · intro u hu x hx
    rw [hfs] at hu ⊢
    exact hi.closed u hu x hx
  · intro u hu
    exact hi.nocyc u ((hfs u).1 hu)

theorem Inv.pop {g : Graph} {st : List Status} {v : Nat} {rest : List Nat} (hi : Inv g st (v :: rest))
    (hs : Scanned g st v []) : Inv g (setStatus st v .finished) rest := by
  have hv : st[v]? = some .active := (hi.act v).2 List.mem_cons_self
  have hm := Mono.set (s := .finished) hv (by decide) (by decide)
  obtain ⟨hvr, hnd⟩ := List.nodup_cons.1 hi.nodup
  obtain ⟨pre, hsucc, hfin⟩ := hs
  rw [List.append_nil] at hsucc
  refine ⟨by rw [length_setStatus, hi.len], hnd, fun u => ?_,
    hi.chain.tail.imp fun _ _ h => h.mono hm.fin, fun u hu w hw => hm.fin w ?_, fun u hu w hw hr => ?_⟩
  · by_cases huv : u = v
    · subst huv; simp [getElem?_setStatus_self (lt_of_getElem? hv), hvr]
    · rw [getElem?_setStatus_ne huv, hi.act u]; simp [huv]
  · by_cases huv : u = v
    · subst huv; exact hfin w (hsucc ▸ hw)
    · rw [getElem?_setStatus_ne huv] at hu
      exact hi.closed u hu w hw
  · by_cases huv : u = v
    · -- a path from a successor of `v` back to `v` would stay inside the finished nodes
      subst huv
      have := hi.closed.reach hr (hfin w (hsucc ▸ hw))
      simp [hv] at this
    · rw [getElem?_setStatus_ne huv] at hu
      exact hi.nocyc u hu w hw hr

/-- The invariant along a run of the loop for the top node `v` of the stack: a run without a back edge pops
`v` and finishes it; a run that finds the back edge `e` stops with `e.1` on top of the stack, `e.2` on
the stack, and `e.2` the first unfinished successor of `e.1`. -/
theorem Dfs.inv {g : Graph} (hwf : WF g) {st st' : List Status} {v : Nat} {ws : List Nat}
    {r : Option (Nat × Nat)} (h : Dfs g st v ws r st') :
    ∀ rest, Inv g st (v :: rest) → Scanned g st v ws →
      Mono st st' ∧
      match (generalizing := false) r with
      | none => Inv g st' rest ∧ st'[v]? = some .finished
      | some e => ∃ stack', Inv g st' (e.1 :: stack') ∧ e.2 ∈ e.1 :: stack' ∧ Link g st' e.1 e.2 := by
  induction h with
  | nil st v =>
    intro rest hi hs
    have hv : st[v]? = some .active := (hi.act v).2 List.mem_cons_self
    exact ⟨.set hv (by decide) (by decide), hi.pop hs, getElem?_setStatus_self (lt_of_getElem? hv)⟩
  | back st v w ws hw =>
    intro rest hi hs
    exact ⟨.refl st, rest, hi, (hi.act w).1 hw, ws, hs⟩
  | descendSome st v w ws e st2 hw _ ih =>
    intro rest hi hs
    obtain ⟨m, res⟩ := ih (v :: rest) (hi.push hw fun _ hx => Option.some.inj hx ▸ ⟨ws, hs⟩) (.start ..)
    exact ⟨(Mono.set hw (by decide) (by decide)).trans m, res⟩
  | descendNone st v w ws st2 r st3 hw _ _ ih1 ih2 =>
    intro rest hi hs
    obtain ⟨m1, i1, f1⟩ := ih1 (v :: rest) (hi.push hw fun _ hx => Option.some.inj hx ▸ ⟨ws, hs⟩) (.start ..)
    have m := (Mono.set hw (by decide) (by decide)).trans m1
    obtain ⟨m2, res⟩ := ih2 rest i1 (hs.next m.fin f1)
    exact ⟨m.trans m2, res⟩
  | skip st v w ws r st' hna hnn _ ih =>
    intro rest hi hs
    exact ih rest hi (hs.next (fun _ h => h) (finished_of_not (hi.len ▸ hwf v w hs.mem) hna hnn))

end AL.Needs
