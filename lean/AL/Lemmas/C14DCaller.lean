import AL.Lemmas.C14DCallee
import AL.Lemmas.DocReads
/-
  Lemmas for AL.Props.C14Doc: the CALLER's document. For a document the parser accepts without a diagnostic:
  the jobs of the AST are the entries of `jobs:` (`parse_jobs_read`), the `WorkflowCall` of a job with `uses:` is
  `uses:` / `with:` / `secrets:` of the job's node with the keys folded (`parseJob_call_read`), the steps are the elements
  of `steps:` (`parseJob_steps_read`). The readers of a step's `with:` (`stepArgs`, `stepWith`) are defined here; the
  statement about a step with `uses:` is `parseStep_action_read` in AL/Lemmas/C14DStep.
  What the silence of `parse` / `parseJob` / `parseSteps` / `parseJobs` amounts to is taken from AL.Lemmas.C05DJob
  (`PW.parse_jobs_reads`, `parseJob_clean`, `parseSteps_clean`, `parseJobs_clean`), which states it with `AL.C05D.mget`; `mget_eq_attr`
  (AL.Lemmas.C14DBase) crosses to `attr`.
-/
namespace AL.C14D
open AL.Yaml AL.PW AL.Ast AL.C10M

/-! ### readers -/

/-- the entries of `with:` / `secrets:` of a calling job as the parser stores them: id = folded key -/
def argsOf (cfg : Cfg) (n : Node) : List (String × CallArg) :=
  (pairs n.content).map fun q => (cfg.lower q.1.value, ⟨newString q.1, newString q.2⟩)

def withArgs (cfg : Cfg) (jn : Node) : Option (List (String × CallArg)) := (attr "with" jn).map (argsOf cfg)

def secretArgs (cfg : Cfg) (jn : Node) : Option (List (String × CallArg)) :=
  match attr "secrets" jn with
  | some s => if s.kind = .scalar then none else some (argsOf cfg s)
  | none => none

def inheritsSecrets (jn : Node) : Bool :=
  match attr "secrets" jn with
  | some s => s.kind = .scalar && s.value = "inherit"
  | none => false

def jobEntries (doc : Node) : List (Node × Node) :=
  match (rootOf doc).bind (attr "jobs") with
  | some j => secEntries j
  | none => []

def stepNodes (jn : Node) : List Node :=
  match attr "steps" jn with
  | some s => if s.kind = .sequence then s.content else []
  | none => []

/-- the entries of `with:` of a step that are inputs of the action (`entrypoint` and `args` are not), as the parser stores
them: id = folded key -/
def stepArgs (cfg : Cfg) (n : Node) : List (String × Input) :=
  ((pairs n.content).filter fun q => cfg.lower q.1.value ≠ "entrypoint" && cfg.lower q.1.value ≠ "args").map
    fun q => (cfg.lower q.1.value, ⟨newString q.1, newString q.2⟩)

def stepWith (cfg : Cfg) (sn : Node) : Option (List (String × Input)) := (attr "with" sn).map (stepArgs cfg)

/-! ### `callArgs` -/

theorem callArgs_read (cfg : Cfg) (sec : String) (v : Node)
    (hm : (parseSectionMapping cfg sec v false false).2 = [])
    (hc : (callArgs (parseSectionMapping cfg sec v false false).1).2 = []) :
    (callArgs (parseSectionMapping cfg sec v false false).1).1 = argsOf cfg v := by
  simp only [parseSectionMapping] at hm hc ⊢
  obtain ⟨_, heq, _, _, _⟩ := parseMapping_clean_eq cfg _ v false false hm
  rw [heq] at hc ⊢
  simp only [callArgs] at hc ⊢
  rw [mapKVs_fst, List.map_map]
  have hclean := mapKVs_clean_all _ _ hc
  simp only [argsOf]
  apply List.map_congr_left
  intro q hq
  have := hclean (mkKV cfg false q) (List.mem_map.2 ⟨q, hq, rfl⟩)
  simp only at this
  have hv : (mkKV cfg false q).val = q.2 := rfl
  rw [hv] at this
  have h2 := (AL.C03P.parseString_clean q.2 true this).2
  show ((mkKV cfg false q).id, (⟨(mkKV cfg false q).key, (parseString q.2 true).1⟩ : CallArg)) = _
  rw [h2]
  rfl

/-! ### a job -/

theorem jobKey_uses_keep (cfg : Cfg) (st : JobSt) (kv : KV) (hne : kv.id ≠ "uses") : (jobKey cfg st kv).1.call.uses = st.call.uses :=
  (jobKey_frame cfg st kv).uses hne

theorem jobKey_inputs_keep (cfg : Cfg) (st : JobSt) (kv : KV) (hne : kv.id ≠ "with") : (jobKey cfg st kv).1.call.inputs = st.call.inputs :=
  (jobKey_frame cfg st kv).inputs hne

theorem jobKey_secrets_keep (cfg : Cfg) (st : JobSt) (kv : KV) (hne : kv.id ≠ "secrets") :
    (jobKey cfg st kv).1.call.secrets = st.call.secrets ∧ (jobKey cfg st kv).1.call.inheritSecrets = st.call.inheritSecrets :=
  (jobKey_frame cfg st kv).secrets hne

theorem jobKey_steps_keep (cfg : Cfg) (st : JobSt) (kv : KV) (hne : kv.id ≠ "steps") : (jobKey cfg st kv).1.job.steps = st.job.steps :=
  (jobKey_frame cfg st kv).steps hne

theorem jobKey_job_keeps (cfg : Cfg) (st : JobSt) (kv : KV) :
    (jobKey cfg st kv).1.job.workflowCall = st.job.workflowCall ∧ (jobKey cfg st kv).1.job.id = st.job.id :=
  ⟨(jobKey_frame cfg st kv).workflowCall, (jobKey_frame cfg st kv).id⟩

theorem jobKey_sok_mono (cfg : Cfg) (st : JobSt) (kv : KV) (h : (jobKey cfg st kv).1.stepsOnlyKey = none) : st.stepsOnlyKey = none :=
  (jobKey_frame cfg st kv).stepsOnlyKey h

theorem parseJob_fst (cfg : Cfg) (id : Str) (jn : Node) : (parseJob cfg id jn).1 = (jobFinish id (AL.C05D.jobLoop cfg id jn).1).1 := by
  simp only [parseJob, AL.C05D.jobLoop]

theorem parseJob_finish (cfg : Cfg) (id : Str) (jn : Node) (hc : (parseJob cfg id jn).2 = []) :
    (jobFinish id (AL.C05D.jobLoop cfg id jn).1).2 = [] :=
  (List.append_eq_nil_iff.1 hc).2

theorem jobLoop_uses (cfg : Cfg) (id : Str) (jn : Node) (hc : (parseJob cfg id jn).2 = []) :
    (AL.C05D.jobLoop cfg id jn).1.call.uses = (attr "uses" jn).map newString := by
  obtain ⟨hm, hl⟩ := AL.C05D.parseJob_clean cfg id jn hc
  rw [← mget_eq_attr cfg _ jn true hm "uses"]
  exact (section_reads_str cfg _ jn false (jobKey cfg) _ (·.call.uses) "uses" rfl (jobKey_uses_keep cfg)
    (fun st kv hk hst => by
      rw [eq_at (jobKey_uses cfg) st kv hk] at hst ⊢
      exact ⟨rfl, hst⟩) hm hl).1

theorem jobFinish_call (id : Str) (st : JobSt) (hu : st.call.uses.isSome = true) (hc : (jobFinish id st).2 = []) :
    st.stepsOnlyKey = none ∧ (jobFinish id st).1 = { st.job with workflowCall := some st.call } := by
  simp only [jobFinish, hu, if_true] at hc ⊢
  cases hso : st.stepsOnlyKey with
  | some k => simp [hso] at hc
  | none => exact ⟨rfl, rfl⟩

/-- **a job with `uses:`** (accepted by the parser): its `WorkflowCall` is what the job's node says -/
theorem parseJob_call_read (cfg : Cfg) (id : Str) (jn : Node) (hc : (parseJob cfg id jn).2 = []) (vU : Node)
    (hu : attr "uses" jn = some vU) :
    (parseJob cfg id jn).1.id = id ∧
    ∃ c, (parseJob cfg id jn).1.workflowCall = some c ∧ c.uses = some (newString vU) ∧ c.inputs = withArgs cfg jn ∧
      c.secrets = secretArgs cfg jn ∧ c.inheritSecrets = inheritsSecrets jn := by
  refine ⟨AL.C08P.parseJob_id cfg id jn, ?_⟩
  obtain ⟨hm, hl⟩ := AL.C05D.parseJob_clean cfg id jn hc
  have huses : (AL.C05D.jobLoop cfg id jn).1.call.uses = some (newString vU) := by rw [jobLoop_uses cfg id jn hc, hu]; rfl
  have hwith : (AL.C05D.jobLoop cfg id jn).1.call.inputs = withArgs cfg jn :=
    (sect_field cfg _ jn false (jobKey cfg) _ (·.call.inputs) "with" (fun _ w => some (argsOf cfg w)) (fun _ => True)
      (jobKey_inputs_keep cfg)
      (fun st kv hk hst => by
        rw [eq_at (jobKey_with cfg) st kv hk] at hst ⊢
        exact ⟨congrArg some (callArgs_read cfg "with" kv.val (List.append_eq_nil_iff.1 hst).1 (List.append_eq_nil_iff.1 hst).2), trivial⟩)
      nofun hm hl).1.trans (by rw [withArgs]; cases attr "with" jn <;> rfl)
  -- `secrets:` writes two fields: the entries, or the flag of `secrets: inherit`
  have hsec : ((AL.C05D.jobLoop cfg id jn).1.call.secrets, (AL.C05D.jobLoop cfg id jn).1.call.inheritSecrets) =
      (secretArgs cfg jn, inheritsSecrets jn) :=
    (sect_field cfg _ jn false (jobKey cfg) _ (fun st => (st.call.secrets, st.call.inheritSecrets)) "secrets"
      (fun old s => if s.kind = .scalar then (old.1, if s.value = "inherit" then true else old.2) else (some (argsOf cfg s), old.2))
      (fun _ => True)
      (fun st kv hk => by rw [(jobKey_secrets_keep cfg st kv hk).1, (jobKey_secrets_keep cfg st kv hk).2])
      (fun st kv hk hst => by
        rw [eq_at (PW.jobKey_secrets cfg) st kv hk] at hst ⊢
        simp only [store, AL.C13D3.jobSecrets] at hst ⊢
        refine ⟨?_, trivial⟩
        by_cases hs : kv.val.kind = .scalar
        · simp only [if_pos hs]
          split <;> rfl
        · rw [if_neg hs] at hst
          simp only [if_neg hs, callArgs_read cfg "secrets" kv.val (List.append_eq_nil_iff.1 hst).1 (List.append_eq_nil_iff.1 hst).2,
            Bool.false_eq_true, if_false])
      nofun hm hl).1.trans (by
        rw [secretArgs, inheritsSecrets]
        cases attr "secrets" jn with
        | none => rfl
        | some s => by_cases hk : s.kind = .scalar <;> by_cases hi : s.value = "inherit" <;> simp [hk, hi])
  obtain ⟨_, hj⟩ := jobFinish_call id _ (by rw [huses]; rfl) (parseJob_finish cfg id jn hc)
  rw [parseJob_fst, hj]
  exact ⟨_, rfl, huses, hwith, congrArg Prod.fst hsec, congrArg Prod.snd hsec⟩

/-- the steps of a job the parser accepts are the elements of `steps:`, each parsed without a diagnostic -/
theorem parseSteps_read (cfg : Cfg) (s : Node) (hc : (parseSteps cfg s).2 = []) :
    s.kind = .sequence ∧ (parseSteps cfg s).1 = some (s.content.map fun c => (parseStep cfg c).1) ∧
      ∀ c ∈ s.content, (parseStep cfg c).2 = [] := by
  refine ⟨?_, AL.C05D.parseSteps_clean cfg s hc⟩
  by_cases hk : s.kind = .sequence
  · exact hk
  · simp [parseSteps, checkSequence, hk] at hc

/-- **the steps of a job** (accepted by the parser) -/
theorem parseJob_steps_read (cfg : Cfg) (id : Str) (jn : Node) (hc : (parseJob cfg id jn).2 = []) (hu : attr "uses" jn = none) :
    ((parseJob cfg id jn).1.steps.getD []) = (stepNodes jn).map (fun c => (parseStep cfg c).1) ∧
      ∀ c ∈ stepNodes jn, (parseStep cfg c).2 = [] := by
  obtain ⟨hm, hl⟩ := AL.C05D.parseJob_clean cfg id jn hc
  obtain ⟨hf, hok⟩ := sect_field cfg _ jn false (jobKey cfg) _ (·.job.steps) "steps" (fun _ s => (parseSteps cfg s).1)
    (fun s => (parseSteps cfg s).2 = []) (jobKey_steps_keep cfg)
    (fun st kv hk hst => ⟨(AL.C05D.jobKey_steps_eq cfg st kv hk).1, (AL.C05D.jobKey_steps_eq cfg st kv hk).2 ▸ hst⟩) nofun hm hl
  -- `jobFinish` keeps `steps` whether or not the job calls a workflow: `hu` is not used
  rw [(AL.C05D.parseJob_fields cfg id jn).1, AL.C05D.jobLoop, hf, stepNodes]
  cases hv : attr "steps" jn with
  | none => simp
  | some s =>
    obtain ⟨hk, h1, h2⟩ := parseSteps_read cfg s (hok s hv)
    simp only [Option.elim, h1, Option.getD_some, hk, if_true, true_and]
    exact h2

theorem parseJob_nocall (cfg : Cfg) (id : Str) (jn : Node) (hc : (parseJob cfg id jn).2 = []) (hu : attr "uses" jn = none) :
    (parseJob cfg id jn).1.workflowCall = none :=
  AL.C05D.parseJob_no_call cfg id jn hc
    ((mget_eq_attr cfg _ jn true (AL.C05D.parseJob_clean cfg id jn hc).1 "uses").trans hu)

theorem parseJob_call_nosteps (cfg : Cfg) (id : Str) (jn : Node) (hc : (parseJob cfg id jn).2 = []) (vU : Node)
    (hu : attr "uses" jn = some vU) : (parseJob cfg id jn).1.steps = none := by
  obtain ⟨hso, hj⟩ := jobFinish_call id _ (by rw [jobLoop_uses cfg id jn hc, hu]; rfl) (parseJob_finish cfg id jn hc)
  rw [parseJob_fst, hj]
  -- `steps:` sets `stepsOnlyKey`, and nothing clears it
  refine loop_invariant (jobKey cfg) (fun st => st.stepsOnlyKey = none → st.job.steps = none) _ (fun s a _ hp hn => ?_) _ (fun _ => rfl) hso
  by_cases ha : a.id = "steps"
  · rw [eq_at (jobKey_steps cfg) s a ha] at hn
    cases hn
  · rw [jobKey_steps_keep cfg s a ha]
    exact hp (jobKey_sok_mono cfg s a hn)

/-! ### the jobs of a document -/

theorem workflowKey_jobs_keep (cfg : Cfg) (w : Workflow) (kv : KV) (hne : kv.id ≠ "jobs") : (workflowKey cfg w kv).1.jobs = w.jobs :=
  (workflowKey_frame cfg w kv).jobs hne

/-- **the jobs of a document the parser accepts**: one per entry of `jobs:`, under the folded key, each parsed without a
diagnostic -/
theorem parse_jobs_read (cfg : Cfg) (doc : Node) (hc : (parse cfg doc).2 = []) :
    (parse cfg doc).1.jobs.getD [] = (jobEntries doc).map (fun q => (cfg.lower q.1.value, (parseJob cfg (newString q.1) q.2).1)) ∧
      (∀ q ∈ jobEntries doc, (parseJob cfg (newString q.1) q.2).2 = []) ∧
      ((jobEntries doc).map fun q => cfg.lower q.1.value).Nodup := by
  obtain ⟨root, jv, hroot, hm, hx, hj, hs⟩ := parse_jobs_reads cfg doc hc
  obtain ⟨h1, h2⟩ := AL.C05D.parseJobs_clean cfg jv hs
  obtain ⟨_, _, hnd, _, hne⟩ := parseMapping_clean_eq cfg _ jv false false (List.append_eq_nil_iff.1 hs).1
  rw [hj, jobEntries, show rootOf doc = some root from hroot, Option.bind_some,
    ← mget_eq_attr cfg _ root true hm "jobs", hx]
  simp only [Option.getD_some, h1, secEntries, (hne rfl).1, if_true]
  refine ⟨rfl, h2, ?_⟩
  rw [List.map_map] at hnd
  exact hnd

end AL.C14D
