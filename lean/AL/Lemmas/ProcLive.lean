import AL.Lemmas.ProcInv
/-
  Extra for C20 (k): progress with a decreasing measure, hence every reachable state (with at least one
  permit) can be driven to `returned = true` without submitting anything new — the protocol has neither a
  deadlock nor an unavoidable livelock.
-/
namespace AL.Proc

/-- remaining protocol steps of one invocation -/
def rank : PC → Nat
  | .idle => 0
  | .added => 3
  | .running => 2
  | .released => 1
  | .done => 0

def rankSum (pcs : List PC) : Nat := (pcs.map rank).sum

/-- number of non-`submit` actions still to be taken before `LintFiles` has returned -/
def mu (s : State) : Nat :=
  rankSum s.pcs + (if s.visiting then 1 else 0) + (if s.egWaited then 0 else 1) +
    (if s.procWaited then 0 else 1) + (if s.returned then 0 else 1)

theorem mu_move (s : State) {i : Nat} {r q : PC} (hpc : s.pcs[i]? = some r) (hq : rank q < rank r)
    (sema' wg' : Nat) : mu { s with pcs := setPc s.pcs i q, sema := sema', wg := wg' } < mu s := by
  have := sum_map_set rank s.pcs i r q hpc
  simp only [mu, rankSum]
  omega

theorem inv_progress_dec (s : State) (hi : Inv' s) (hpar : 1 ≤ s.par) (hr : s.returned = false) :
    ∃ a s', step s a = some s' ∧ mu s' < mu s := by
  by_cases hpw : s.procWaited = true
  · exact ⟨.ret, { s with returned := true }, by simp [step, hpw, hr], by simp [mu, hr]⟩
  by_cases heg : s.egWaited = true
  · have hv := hi.order1 heg
    have hall := hi.afterVisit hv
    have hw : s.wg = 0 := by
      rw [hi.wgCount, count_eq_zero _ .added, count_eq_zero _ .running, count_eq_zero _ .released]
      all_goals
        intro x hx
        cases hall x hx <;> simp_all
    exact ⟨.procWait, { s with procWaited := true }, by simp [step, heg, hw, hpw], by
      simp [mu, hpw]⟩
  by_cases hv' : s.visiting = false
  · exact ⟨.egWait, { s with egWaited := true }, by simp [step, hv', heg], by simp [mu, heg]⟩
  have hv : s.visiting = true := by simpa using hv'
  cases hall : s.pcs.all (fun p => p = .idle || p = .done) with
  | true =>
    exact ⟨.visitDone, { s with visiting := false }, by simp only [step, hv, hall]; rfl, by
      simp [mu, hv]⟩
  | false =>
    obtain ⟨p, hp, hne⟩ := List.all_eq_false.mp hall
    simp only [Bool.or_eq_true, decide_eq_true_eq, not_or] at hne
    obtain ⟨i, hpi⟩ := List.getElem?_of_mem hp
    have finishRunning : ∀ k : Nat, s.pcs[k]? = some PC.running →
        ∃ a s', step s a = some s' ∧ mu s' < mu s := fun k hk =>
      ⟨.finish k, { s with pcs := setPc s.pcs k .released, sema := s.sema + 1 }, by simp [step, hk],
        mu_move s hk (by decide) _ _⟩
    cases p with
    | idle => simp at hne
    | done => simp at hne
    | running => exact finishRunning i hpi
    | released =>
      exact ⟨.callback i, { s with pcs := setPc s.pcs i .done, wg := s.wg - 1 }, by simp [step, hpi],
        mu_move s hpi (by decide) _ _⟩
    | added =>
      by_cases hs : 0 < s.sema
      · exact ⟨.acquire i, { s with pcs := setPc s.pcs i .running, sema := s.sema - 1 }, by
          simp [step, hpi, hs], mu_move s hpi (by decide) _ _⟩
      · have := hi.permits
        obtain ⟨k, hk⟩ := exists_of_count_pos s.pcs .running (by omega)
        exact finishRunning k hk

theorem inv_progress (s : State) (hi : Inv' s) (hpar : 1 ≤ s.par) (hr : s.returned = false) :
    ∃ a, (step s a).isSome = true := by
  obtain ⟨a, s', h, _⟩ := inv_progress_dec s hi hpar hr
  exact ⟨a, by rw [h]; rfl⟩

/-- from every state satisfying the invariant (with ≥ 1 permit) some schedule makes `LintFiles` return -/
theorem inv_can_return (m : Nat) (s : State) (hm : mu s ≤ m) (hi : Inv' s) (hpar : 1 ≤ s.par) :
    ∃ sched s', exec s sched = some s' ∧ s'.returned = true := by
  induction m generalizing s with
  | zero =>
    cases hr : s.returned with
    | true => exact ⟨[], s, rfl, hr⟩
    | false => simp [mu, hr] at hm
  | succ m ih =>
    cases hr : s.returned with
    | true => exact ⟨[], s, rfl, hr⟩
    | false =>
      obtain ⟨a, s1, hstep, hlt⟩ := inv_progress_dec s hi hpar hr
      have hp := (step_par _ _ _ hstep).1
      obtain ⟨sched, s', hex, hret⟩ := ih s1 (by omega) (step_inv _ _ _ hi hstep) (by omega)
      exact ⟨a :: sched, s', by simp [exec, hstep, hex], hret⟩

theorem exec_append (s : State) (a b : List Act) :
    exec s (a ++ b) = (exec s a).bind (fun s1 => exec s1 b) := by
  induction a generalizing s with
  | nil => rfl
  | cons x xs ih =>
    simp only [List.cons_append, exec]
    cases step s x with
    | none => rfl
    | some s1 => exact ih s1

end AL.Proc
