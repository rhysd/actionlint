import Std.Data.String.ToNat
import AL.Model.Render
/-
  C16 helper lemmas, part 1: digits, `natChars`, `takeDigits`.
-/
namespace AL.Render

/-! ### characters -/

theorem isDigit_iff (c : Char) : isDigit c = true ↔ 48 ≤ c.toNat ∧ c.toNat ≤ 57 := by
  simp [isDigit, Char.le_def, UInt32.le_iff_toNat_le]

theorem isDigit_eq_core (c : Char) : isDigit c = c.isDigit := by
  rw [Bool.eq_iff_iff, isDigit_iff]
  simp [Char.isDigit, UInt32.le_iff_toNat_le]

theorem dot_of_isDigit {c : Char} (h : isDigit c = true) : dot c = true := by
  rw [isDigit_iff] at h
  have h1 : c ≠ '\n' := by rintro rfl; simp at h
  have h2 : c ≠ '\r' := by rintro rfl; simp at h
  simp [dot, h1, h2]; omega

theorem isDigit_ne_colon {c : Char} (h : isDigit c = true) : c ≠ ':' := by
  rintro rfl; simp [isDigit_iff] at h

theorem isDigit_ne_space {c : Char} (h : isDigit c = true) : c ≠ ' ' := by
  rintro rfl; simp [isDigit_iff] at h

theorem isDigit_colon : isDigit ':' = false := by decide
theorem dot_colon : dot ':' = true := by decide
theorem dot_space : dot ' ' = true := by decide
theorem dot_lbracket : dot '[' = true := by decide
theorem dot_rbracket : dot ']' = true := by decide

/-! ### `natChars` -/

theorem toNat!_repr (n : Nat) : (Nat.repr n).toNat! = n := by
  have h1 := Nat.isNat_repr n
  have h2 := Nat.toNat?_repr n
  rw [← String.toNat?_toSlice] at h2
  rw [← String.isNat_toSlice] at h1
  unfold String.toNat!
  unfold String.Slice.toNat!
  unfold String.Slice.toNat? at h2
  rw [if_pos h1] at h2 ⊢
  exact Option.some.inj h2

theorem natChars_eq (n : Nat) : natChars n = Nat.toDigits 10 n := by
  show (Nat.repr n).toList = _
  exact Nat.toList_repr

/-- the decimal rendering is parsed back to the same number -/
theorem natChars_toNat (n : Nat) : (String.ofList (natChars n)).toNat! = n := by
  show (String.ofList (Nat.repr n).toList).toNat! = n
  rw [String.ofList_toList]
  exact toNat!_repr n

theorem natChars_ne_nil (n : Nat) : natChars n ≠ [] := by
  rw [natChars_eq]; exact Nat.toDigits_ne_nil

theorem natChars_isDigit (n : Nat) : ∀ c ∈ natChars n, isDigit c = true := by
  intro c hc
  rw [natChars_eq] at hc
  rw [isDigit_eq_core]
  exact Nat.isDigit_of_mem_toDigits (by omega) (by omega) hc

theorem natChars_injective {m n : Nat} (h : natChars m = natChars n) : m = n := by
  rw [← natChars_toNat m, ← natChars_toNat n, h]

/-! ### `takeDigits` -/

/-- `s` does not start with a digit -/
def NoDigitHead : List Char → Prop
  | [] => True
  | c :: _ => isDigit c = false

/-- `takeDigits` splits `s` into a run of digits and a rest that does not start with one -/
theorem takeDigits_spec (s : List Char) : (takeDigits s).1 ++ (takeDigits s).2 = s ∧
    (∀ c ∈ (takeDigits s).1, isDigit c = true) ∧ NoDigitHead (takeDigits s).2 := by
  induction s with
  | nil => exact ⟨rfl, nofun, trivial⟩
  | cons x s ih =>
    obtain ⟨h1, h2, h3⟩ := ih
    by_cases hx : isDigit x = true
    · rw [takeDigits, if_pos hx]
      exact ⟨congrArg (x :: ·) h1, List.forall_mem_cons.2 ⟨hx, h2⟩, h3⟩
    · rw [takeDigits, if_neg hx]
      exact ⟨rfl, nofun, Bool.eq_false_iff.2 hx⟩

/-- greedy `\d+` on a digit list followed by a non-digit consumes exactly the digit list -/
theorem takeDigits_digits_append : ∀ (ds t : List Char), (∀ c ∈ ds, isDigit c = true) → NoDigitHead t →
    takeDigits (ds ++ t) = (ds, t)
  | [], t, _, ht => by
    cases t with
    | nil => simp [takeDigits]
    | cons c t => simp only [NoDigitHead] at ht; simp [takeDigits, ht]
  | x :: ds, t, hds, ht => by
    have hx : isDigit x = true := hds x (by simp)
    have ih := takeDigits_digits_append ds t (fun c hc => hds c (by simp [hc])) ht
    simp [takeDigits, hx, ih]

/-- `takeDigits` of `a ++ b` when `b` does not start with a digit: the split of `a`, with `b` appended to the rest -/
theorem takeDigits_append (a b : List Char) (hb : NoDigitHead b) :
    takeDigits (a ++ b) = ((takeDigits a).1, (takeDigits a).2 ++ b) := by
  obtain ⟨h1, h2, h3⟩ := takeDigits_spec a
  generalize (takeDigits a).1 = l at h1 h2 ⊢
  generalize (takeDigits a).2 = r at h1 h3 ⊢
  subst h1
  rw [List.append_assoc]
  apply takeDigits_digits_append _ _ h2
  cases r with
  | nil => simpa using hb
  | cons c r => simpa [NoDigitHead] using h3

theorem noDigitHead_colon (t : List Char) : NoDigitHead (':' :: t) := by
  simp [NoDigitHead, isDigit_colon]

end AL.Render
