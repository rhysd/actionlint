import AL.Lemmas.TyProps
/-
  Well-formed types: every `obj` property list is strictly sorted by key (hence keys are pairwise
  distinct), hereditarily. This is the representation invariant of the model (`ObjectType.Props` is a
  Go map; the driver sorts its inputs; `setProp` keeps lists sorted). `merge` preserves it.
-/
namespace AL.Ty
open AL

/-- every key of the list is greater than `k` -/
def keysGt (k : String) : List (String × Ty) → Bool
  | [] => true
  | (k', _) :: rest => decide (k < k') && keysGt k rest

def sortedKeys : List (String × Ty) → Bool
  | [] => true
  | (k, _) :: rest => keysGt k rest && sortedKeys rest

mutual
def wf : Ty → Bool
  | .obj ps none => sortedKeys ps && wfProps ps
  | .obj ps (some t) => sortedKeys ps && wfProps ps && wf t
  | .arr e _ => wf e
  | _ => true
def wfProps : List (String × Ty) → Bool
  | [] => true
  | (_, t) :: rest => wf t && wfProps rest
end

def wfOpt : Option Ty → Bool
  | none => true
  | some t => wf t

theorem wf_obj (ps : List (String × Ty)) (m : Option Ty) :
    wf (.obj ps m) = (sortedKeys ps && wfProps ps && wfOpt m) := by
  cases m <;> simp [wf, wfOpt]

theorem keysGt_iff {k : String} : (ps : List (String × Ty)) → (keysGt k ps = true ↔ ∀ p ∈ ps, k < p.1)
  | [] => by simp [keysGt]
  | (k2, v) :: rest => by simp [keysGt, keysGt_iff rest]

theorem sortedKeys_iff : (ps : List (String × Ty)) → (sortedKeys ps = true ↔ ps.Pairwise fun a b => a.1 < b.1)
  | [] => by simp [sortedKeys]
  | (k, v) :: rest => by
    rw [sortedKeys, Bool.and_eq_true, keysGt_iff, sortedKeys_iff rest, List.pairwise_cons]

theorem str_lt_of_ne_of_not_lt {a b : String} (h1 : ¬ a = b) (h2 : ¬ b < a) : a < b := by
  apply Decidable.byContradiction
  intro h3
  exact h1 (String.le_antisymm (String.not_lt.mp h2) (String.not_lt.mp h3))

theorem keysGt_trans {k k' : String} (h : k < k') (ps : List (String × Ty)) (hp : keysGt k' ps = true) : keysGt k ps = true :=
  (keysGt_iff ps).2 fun p hm => String.lt_trans h ((keysGt_iff ps).1 hp p hm)

theorem lookup_eq_none_of_forall_ne {x : String} : {ps : List (String × Ty)} → (∀ a ∈ ps, a.1 ≠ x) → lookup x ps = none
  | [], _ => rfl
  | (k, v) :: rest, h => by
    simp only [lookup, h (k, v) List.mem_cons_self, if_false]
    exact lookup_eq_none_of_forall_ne fun a ha => h a (List.mem_cons_of_mem _ ha)

theorem lookup_none_of_keysGt {k : String} : (ps : List (String × Ty)) → keysGt k ps = true → lookup k ps = none :=
  fun ps h => lookup_eq_none_of_forall_ne fun p hp => (String.ne_of_lt ((keysGt_iff ps).1 h p hp)).symm

theorem lookup_wf {k : String} {t : Ty} : (ps : List (String × Ty)) → wfProps ps = true → lookup k ps = some t → wf t = true
  | [], _, h => by simp [lookup] at h
  | (k2, v) :: rest, hp, h => by
    simp only [wfProps, Bool.and_eq_true] at hp
    simp only [lookup] at h
    split at h
    · cases h; exact hp.1
    · exact lookup_wf rest hp.2 h

theorem setProp_keysGt {k0 k : String} {v : Ty} (h : k0 < k) (ps : List (String × Ty)) (hp : keysGt k0 ps = true) :
    keysGt k0 (setProp k v ps) = true :=
  (keysGt_iff _).2 fun p hm => (Visit.mem_setProp hm).elim (fun e => e ▸ h) ((keysGt_iff ps).1 hp p)

theorem setProp_sorted {k : String} {v : Ty} :
    (ps : List (String × Ty)) → sortedKeys ps = true → sortedKeys (setProp k v ps) = true
  | [], _ => by simp [setProp, sortedKeys, keysGt]
  | (k2, v2) :: rest, hp => by
    simp only [sortedKeys, Bool.and_eq_true] at hp
    simp only [setProp]
    split
    · next heq => subst heq; simp [sortedKeys, hp.1, hp.2]
    · next hne =>
      split
      · next hlt => simp [sortedKeys, keysGt, hlt, keysGt_trans hlt rest hp.1, hp.1, hp.2]
      · next hnlt =>
        have hlt : k2 < k := str_lt_of_ne_of_not_lt hne hnlt
        simp [sortedKeys, setProp_keysGt hlt rest hp.1, setProp_sorted rest hp.2]

theorem setProp_wfProps {k : String} {v : Ty} (hv : wf v = true) :
    (ps : List (String × Ty)) → wfProps ps = true → wfProps (setProp k v ps) = true
  | [], _ => by simp [setProp, wfProps, hv]
  | (k2, v2) :: rest, hp => by
    simp only [wfProps, Bool.and_eq_true] at hp
    simp only [setProp]
    split
    · simp [wfProps, hv, hp.2]
    · split
      · simp [wfProps, hv, hp.1, hp.2]
      · simp [wfProps, hp.1, setProp_wfProps hv rest hp.2]

theorem mergeScalar_wf (l r : Ty) : wf (mergeScalar l r) = true := by
  cases l with
  | any => simp only [mergeScalar, wf]
  | _ => cases r <;> rfl

/-! ### unfolding lemmas for `merge`
Lean cannot generate the equational theorems of `merge` (nested `match` inside the mutual structural
recursion), so `simp [merge]`/`unfold merge` are unusable; the lemmas below are all proved by `rfl`. -/

/-- the `match` that computes the initial mapped type in `merge` on two objects -/
def mapped0 (m m' : Option Ty) : Option Ty :=
  match m, m' with
  | none, _ => m'
  | some a, none => some a
  | some a, some b => some (merge a b)

def isSomeAny : Option Ty → Bool
  | some .any => true
  | _ => false

/-- the update of the accumulated mapped type in `mergeProps` for a new key -/
def mergeMapped (mapped : Option Ty) (r : Ty) : Option Ty :=
  match mapped with
  | some mt => some (merge mt r)
  | none => none

def isObj : Ty → Bool
  | .obj _ _ => true
  | _ => false

def isArr : Ty → Bool
  | .arr _ _ => true
  | _ => false

theorem isSomeAny_iff {m : Option Ty} : isSomeAny m = true ↔ m = some .any := by
  cases m with
  | none => simp [isSomeAny]
  | some t => cases t <;> simp [isSomeAny]

theorem merge_obj_obj (ps qs : List (String × Ty)) (m m' : Option Ty) :
    merge (.obj ps m) (.obj qs m') =
      if ps.isEmpty && isSomeAny m' then .obj qs m'
      else if qs.isEmpty && isSomeAny m then .obj ps m
      else mergeProps ps (mapped0 m m') qs := by
  cases m <;> cases m' <;> rfl

theorem merge_arr_arr (e e' : Ty) (d d' : Bool) :
    merge (.arr e d) (.arr e' d') =
      if e.isAny then .arr e (d || d') else if e'.isAny then .arr e' (d || d') else .arr (merge e e') false := rfl

theorem mergeProps_nil (props : List (String × Ty)) (mapped : Option Ty) :
    mergeProps props mapped [] = .obj props mapped := rfl

theorem mergeProps_cons (props : List (String × Ty)) (mapped : Option Ty) (n : String) (r : Ty)
    (rest : List (String × Ty)) :
    mergeProps props mapped ((n, r) :: rest) =
      match lookup n props with
      | some l => mergeProps (setProp n (merge l r) props) mapped rest
      | none => mergeProps (setProp n r props) (mergeMapped mapped r) rest := rfl

theorem merge_any_left (r : Ty) : merge .any r = .any := by
  cases r <;> rfl

theorem merge_any_right (l : Ty) : merge l .any = .any := by
  cases l <;> rfl

theorem merge_scalar_left {l : Ty} (h1 : l.isObj = false) (h2 : l.isArr = false) (r : Ty) :
    merge l r = mergeScalar l r := by
  cases l with
  | obj _ _ => cases h1
  | arr _ _ => cases h2
  | _ => cases r <;> rfl

theorem merge_null_left (r : Ty) : merge .null r = mergeScalar .null r := merge_scalar_left rfl rfl r
theorem merge_number_left (r : Ty) : merge .number r = mergeScalar .number r := merge_scalar_left rfl rfl r
theorem merge_bool_left (r : Ty) : merge .bool r = mergeScalar .bool r := merge_scalar_left rfl rfl r
theorem merge_string_left (r : Ty) : merge .string r = mergeScalar .string r := merge_scalar_left rfl rfl r

theorem merge_obj_left (ps : List (String × Ty)) (m : Option Ty) {r : Ty} (h : r.isObj = false) :
    merge (.obj ps m) r = .any := by
  cases r <;> first | rfl | (simp [isObj] at h; done)

theorem merge_arr_left (e : Ty) (d : Bool) {r : Ty} (h : r.isArr = false) :
    merge (.arr e d) r = .any := by
  cases r <;> first | rfl | (simp [isArr] at h; done)

/-- the object/object case of `merge_wf`, with the recursive facts as hypotheses -/
theorem merge_obj_obj_wf {ps qs : List (String × Ty)} {m m' : Option Ty}
    (hl : wf (.obj ps m) = true) (hr : wf (.obj qs m') = true)
    (ihProps : ∀ mapped, wfOpt mapped = true → wf (mergeProps ps mapped qs) = true)
    (ihMapped : ∀ a b, m = some a → m' = some b → wf (merge a b) = true) :
    wf (merge (.obj ps m) (.obj qs m')) = true := by
  rw [merge_obj_obj]
  split
  · exact hr
  · split
    · exact hl
    · apply ihProps
      rw [wf_obj] at hl hr
      simp only [Bool.and_eq_true] at hl hr
      match m, m' with
      | none, _ => exact hr.2
      | some _, none => exact hl.2
      | some a, some b => exact ihMapped a b rfl rfl

mutual
theorem merge_wf : (r : Ty) → ∀ l, wf l = true → wf r = true → wf (merge l r) = true
  | .any, l, _, _ => by rw [merge_any_right]; rfl
  | .null, l, _, _ | .number, l, _, _ | .bool, l, _, _ | .string, l, _, _ => by cases l <;> rfl
  | .arr e' d', l, hl, hr => by
    cases l with
    | arr e d =>
      rw [merge_arr_arr]
      split
      · exact hl
      · split
        · exact hr
        · exact merge_wf e' e hl hr
    | _ => rfl
  | .obj qs none, l, hl, hr => by
    cases l with
    | obj ps m =>
      have hp := hl
      have hq := hr
      rw [wf_obj] at hp hq
      simp only [Bool.and_eq_true] at hp hq
      exact merge_obj_obj_wf hl hr (fun mapped hm => mergeProps_wf qs hq.1.2 ps mapped hp.1.1 hp.1.2 hm)
        (fun _ _ _ hb => nomatch hb)
    | _ => rfl
  | .obj qs (some b), l, hl, hr => by
    cases l with
    | obj ps m =>
      have hp := hl
      have hq := hr
      rw [wf_obj] at hp hq
      simp only [Bool.and_eq_true] at hp hq
      exact merge_obj_obj_wf hl hr (fun mapped hm => mergeProps_wf qs hq.1.2 ps mapped hp.1.1 hp.1.2 hm)
        (fun a _ ha hb => by cases ha; cases hb; exact merge_wf b a hp.2 hq.2)
    | _ => rfl
theorem mergeProps_wf : (qs : List (String × Ty)) → wfProps qs = true →
    ∀ props mapped, sortedKeys props = true → wfProps props = true → wfOpt mapped = true →
      wf (mergeProps props mapped qs) = true
  | [], _, props, mapped, hs, hp, hm => by
    rw [mergeProps_nil, wf_obj]; simp [hs, hp, hm]
  | (n, r) :: rest, hq, props, mapped, hs, hp, hm => by
    simp only [wfProps, Bool.and_eq_true] at hq
    rw [mergeProps_cons]
    split
    · next l hl =>
      have hwl := lookup_wf props hp hl
      exact mergeProps_wf rest hq.2 _ _ (setProp_sorted props hs)
        (setProp_wfProps (merge_wf r l hwl hq.1) props hp) hm
    · next hl =>
      refine mergeProps_wf rest hq.2 _ _ (setProp_sorted props hs) (setProp_wfProps hq.1 props hp) ?_
      cases mapped with
      | none => rfl
      | some mt => simp only [mergeMapped, wfOpt] at hm ⊢; exact merge_wf r mt hm hq.1
end

end AL.Ty
