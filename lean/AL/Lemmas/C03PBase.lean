import AL.Props.C03Rule
import AL.Spec.ValueScalars
import AL.Lemmas.ParseWfKeys
import AL.Lemmas.ParseWfLoop
import AL.Lemmas.ParseWfClean
/-
  Infrastructure for AL.Props.C03Parse ("the parser drops no value scalar silently"):

  * unfolding lemmas for the walks of AL/Spec/ValueScalars.lean, which the document side of the theorem is written with
    (`leaves` — the scalars in value position below a node, at any depth; `typedLeaves`; `mapScalars` — the walk through
    a mapping the workflow syntax prescribes at a position);
  * `Rep v l` — the document scalar `v` is one of the AST strings `l` (same text, same position; the quoting is not
    compared);
  * the walk meets the parser: what the walk through a mapping reaches lies below one entry of a `parseMapping` that
    reported nothing (`walk_clean`), and a clean section, `parseMapping` and then the key loop, ends in what the iteration
    of that entry established (`sect_keyed`, over `loop_keyed`). What the parser functions themselves return when they
    append no diagnostic (`parseString_clean`, `parseMapping_clean`, the two loops, `mapKVs_clean`, … `loop_keyed`) stands in
    AL/Lemmas/ParseWfClean.lean, in this namespace.
-/
namespace AL.C03P
open AL.PW AL.Yaml AL.Ast

/-! ### the document side -/

theorem leavesSeq_eq (cs : List Node) : leavesSeq cs = cs.flatMap leaves := by
  induction cs with
  | nil => simp [leavesSeq]
  | cons c cs ih => simp [leavesSeq, ih]

theorem leavesMap_eq : ∀ (cs : List Node), leavesMap cs = (pairs cs).flatMap (fun p => leaves p.2)
  | [] => by simp [leavesMap, pairs]
  | [_] => by simp [leavesMap, pairs]
  | _ :: v :: rest => by simp [leavesMap, pairs, leavesMap_eq rest]

theorem leaves_scalar (n : Node) (h : n.kind = .scalar) : leaves n = [n] := by
  obtain ⟨k, t, v, q, l, c, cs⟩ := n
  simp only [Node.kind] at h
  subst h
  simp [leaves]

theorem leaves_sequence (n : Node) (h : n.kind = .sequence) : leaves n = n.content.flatMap leaves := by
  obtain ⟨k, t, v, q, l, c, cs⟩ := n
  simp only [Node.kind] at h
  subst h
  simp [leaves, leavesSeq_eq, Node.content]

theorem leaves_mapping (n : Node) (h : n.kind = .mapping) : leaves n = (pairs n.content).flatMap (fun p => leaves p.2) := by
  obtain ⟨k, t, v, q, l, c, cs⟩ := n
  simp only [Node.kind] at h
  subst h
  simp [leaves, leavesMap_eq, Node.content]

/-! ### the AST side -/

def Rep (v : Node) (l : List Str) : Prop := ∃ s ∈ l, s.value = v.value ∧ s.pos = v.pos

theorem Rep.mono {v : Node} {l l' : List Str} (h : Rep v l) (hs : ∀ s ∈ l, s ∈ l') : Rep v l' := by
  obtain ⟨s, hm, e⟩ := h
  exact ⟨s, hs s hm, e⟩

theorem Rep.left {v : Node} {a b : List Str} (h : Rep v a) : Rep v (a ++ b) :=
  h.mono fun _ hs => List.mem_append_left _ hs
theorem Rep.right {v : Node} {a b : List Str} (h : Rep v b) : Rep v (a ++ b) :=
  h.mono fun _ hs => List.mem_append_right _ hs

theorem Rep.newString (v : Node) : Rep v [newString v] := ⟨_, List.mem_singleton.2 rfl, rfl, rfl⟩

theorem Rep.flatMap {α : Type} {v : Node} {l : List α} {f : α → List Str} {a : α} (ha : a ∈ l) (h : Rep v (f a)) :
    Rep v (l.flatMap f) := by
  obtain ⟨s, hm, e⟩ := h
  exact ⟨s, List.mem_flatMap.2 ⟨a, ha, hm⟩, e⟩

theorem Rep.nil {v : Node} (h : Rep v []) : False := by
  obtain ⟨s, hm, _⟩ := h
  cases hm

/-! ### scalars (level 1) -/

/-- **level 1.** every scalar below the node given to `parseString` is returned, or `parseString` reports -/
theorem parseString_leaf (n : Node) (ae : Bool) (v : Node) (hv : v ∈ leaves n) (h : (parseString n ae).2 = []) :
    Rep v [(parseString n ae).1] := by
  obtain ⟨hk, he⟩ := parseString_clean n ae h
  rw [leaves_scalar n hk, List.mem_singleton] at hv
  subst hv
  rw [he]
  exact Rep.newString _

theorem parseStrings_leaf (ae : Bool) (v : Node) : ∀ (cs : List Node), v ∈ cs.flatMap leaves →
    (parseStrings ae cs).2 = [] → Rep v (parseStrings ae cs).1 := by
  intro cs hv h
  rw [parseStrings_mapR] at h ⊢
  obtain ⟨c, hc, hv⟩ := List.mem_flatMap.1 hv
  exact (parseString_leaf c ae v hv (mapR_silent.1 h c hc)).mono fun s hs =>
    List.mem_map.2 ⟨c, hc, (List.mem_singleton.1 hs).symm⟩

theorem parseStringSequence_leaf (sec : String) (n : Node) (ae aee : Bool) (v : Node) (hv : v ∈ leaves n)
    (h : (parseStringSequence sec n ae aee).2 = []) : Rep v ((parseStringSequence sec n ae aee).1.getD []) := by
  obtain ⟨hk, he, hs⟩ := parseStringSequence_clean sec n ae aee h
  rw [leaves_sequence n hk] at hv
  rw [he]
  exact parseStrings_leaf aee v _ hv hs

theorem parseStringOrStringSequence_leaf (sec : String) (n : Node) (aee : Bool) (v : Node) (hv : v ∈ leaves n)
    (h : (parseStringOrStringSequence sec n false aee).2 = []) :
    Rep v ((parseStringOrStringSequence sec n false aee).1.getD []) := by
  simp only [parseStringOrStringSequence, Bool.false_and, Bool.false_eq_true, ↓reduceIte] at h ⊢
  split
  · rename_i hk
    simp only [hk, ↓reduceIte] at h
    exact parseString_leaf n aee v hv h
  · rename_i hk
    simp only [hk, ↓reduceIte] at h
    exact parseStringSequence_leaf sec n false aee v hv h

theorem mem_typedLeaves {tags : List String} {n v : Node} (h : v ∈ typedLeaves tags n) :
    v ∈ leaves n ∧ ¬ (n.kind = .scalar ∧ n.tag ∈ tags) := by
  simp only [typedLeaves] at h
  split at h
  · cases h
  · rename_i hc
    refine ⟨h, ?_⟩
    intro ⟨h1, h2⟩
    apply hc
    simp [h1, List.contains_eq_mem, h2]

/-- a position that takes a literal or a `${{ }}` string accepts a scalar only with a literal tag (exempt from the walk) or `!!str` -/
theorem typedLeaves_str {tags : List String} {n v : Node} (hv : v ∈ typedLeaves tags n) (hk : n.kind = .scalar)
    (ht : n.tag ∉ tags → n.tag = "!!str") : v = n ∧ n.tag = "!!str" := by
  obtain ⟨hv, hno⟩ := mem_typedLeaves hv
  rw [leaves_scalar n hk, List.mem_singleton] at hv
  exact ⟨hv, ht fun h => hno ⟨hk, h⟩⟩

/-- `parseBool`: a `!!bool` literal is kept as a value; a string is kept when it is one `${{ }}`, reported otherwise -/
theorem parseBool_leaf (n : Node) (v : Node) (hv : v ∈ typedLeaves ["!!bool"] n) (h : (parseBool n).2 = []) :
    Rep v (AL.C03R.boolStrs (parseBool n).1) := by
  unfold parseBool at h ⊢
  split at h
  · cases h
  · rename_i hc
    rw [if_neg hc]
    simp only [Bool.or_eq_true, decide_eq_true_eq, Bool.and_eq_true, not_or, not_and, ne_eq, Decidable.not_not] at hc
    obtain ⟨rfl, ht⟩ := typedLeaves_str hv hc.1 (by simpa using hc.2)
    rw [if_pos ht] at h ⊢
    simp only [AL.C03R.boolStrs, parseExpression_clean v "boolean literal \"true\" or \"false\"" h]
    exact Rep.newString _

theorem parseInt_leaf (cfg : Cfg) (n : Node) (v : Node) (hv : v ∈ typedLeaves ["!!int"] n) (h : (parseInt cfg n).2 = []) :
    Rep v (AL.C03R.intStrs (parseInt cfg n).1) := by
  unfold parseInt at h ⊢
  split at h
  · cases h
  · rename_i hc
    rw [if_neg hc]
    simp only [Bool.or_eq_true, decide_eq_true_eq, Bool.and_eq_true, not_or, not_and, ne_eq, Decidable.not_not] at hc
    obtain ⟨rfl, ht⟩ := typedLeaves_str hv hc.1 (by simpa using hc.2)
    rw [if_pos ht] at h ⊢
    have he := parseExpression_clean v "integer literal" (by
      generalize parseExpression v "integer literal" = e at h
      obtain ⟨e1, e2⟩ := e
      cases e1 <;> exact h)
    simp only [he, AL.C03R.intStrs]
    exact Rep.newString _

theorem parseFloat_leaf (cfg : Cfg) (n : Node) (v : Node) (hv : v ∈ typedLeaves ["!!float", "!!int"] n)
    (h : (parseFloat cfg n).2 = []) : Rep v (AL.C03R.floatStrs (parseFloat cfg n).1) := by
  unfold parseFloat at h ⊢
  split at h
  · cases h
  · rename_i hc
    rw [if_neg hc]
    simp only [Bool.or_eq_true, decide_eq_true_eq, Bool.and_eq_true, not_or, not_and, ne_eq, Decidable.not_not] at hc
    obtain ⟨rfl, ht⟩ := typedLeaves_str hv hc.1 (by simpa using hc.2)
    rw [if_pos ht] at h ⊢
    have he := parseExpression_clean v "float number literal" (by
      generalize parseExpression v "float number literal" = e at h
      obtain ⟨e1, e2⟩ := e
      cases e1 <;> exact h)
    simp only [he, AL.C03R.floatStrs]
    exact Rep.newString _

theorem parseTimeoutMinutes_clean (cfg : Cfg) (n : Node) :
    (parseTimeoutMinutes cfg n).1 = (parseFloat cfg n).1 ∧ ((parseTimeoutMinutes cfg n).2 = [] → (parseFloat cfg n).2 = []) := by
  simp only [parseTimeoutMinutes]
  split
  · split
    · refine ⟨rfl, ?_⟩; simp
    · exact ⟨rfl, id⟩
  · exact ⟨rfl, id⟩

theorem parseTimeoutMinutes_leaf (cfg : Cfg) (n : Node) (v : Node) (hv : v ∈ typedLeaves ["!!float", "!!int"] n)
    (h : (parseTimeoutMinutes cfg n).2 = []) : Rep v (AL.C03R.floatStrs (parseTimeoutMinutes cfg n).1) := by
  obtain ⟨h1, h2⟩ := parseTimeoutMinutes_clean cfg n
  rw [h1]
  exact parseFloat_leaf cfg n v hv (h2 h)

theorem parseMaxParallel_clean (cfg : Cfg) (n : Node) :
    (parseMaxParallel cfg n).1 = (parseInt cfg n).1 ∧ ((parseMaxParallel cfg n).2 = [] → (parseInt cfg n).2 = []) := by
  simp only [parseMaxParallel]
  split
  · split
    · refine ⟨rfl, ?_⟩; simp
    · exact ⟨rfl, id⟩
  · exact ⟨rfl, id⟩

theorem parseMaxParallel_leaf (cfg : Cfg) (n : Node) (v : Node) (hv : v ∈ typedLeaves ["!!int"] n)
    (h : (parseMaxParallel cfg n).2 = []) : Rep v (AL.C03R.intStrs (parseMaxParallel cfg n).1) := by
  obtain ⟨h1, h2⟩ := parseMaxParallel_clean cfg n
  rw [h1]
  exact parseInt_leaf cfg n v hv (h2 h)

/-! ### the walk through a mapping meets `parseMapping` -/

/-- where the mapping must not be empty, the plain walk below the node is the walk through its pairs -/
theorem leaves_mapScalars (cfg : Cfg) (what : String) (n : Node) (cs : Bool) (v : Node) (hv : v ∈ leaves n)
    (h : (parseMapping cfg what n false cs).2 = []) : v ∈ mapScalars n (fun _ x => leaves x) := by
  have hk := parseMapping_clean_notnull cfg what n cs h
  rw [leaves_mapping n hk] at hv
  simpa [mapScalars, hk] using hv

/-- the walk through a mapping position meets the parser, whatever the walk collects (`mapScalars`: scalars; the keyed walk:
scalars with their workflow key): what it reaches lies below the value of an entry of `parseMapping`'s result, under the
key text `k` — which is the entry's id when the mapping is case-sensitive -/
theorem walk_clean {β : Type} (cfg : Cfg) (what : String) (n : Node) (ae cs : Bool) (g : String → Node → List β)
    (d : List β) (x : β)
    (hx : x ∈ if n.kind = .mapping || n.isNull then (pairs n.content).flatMap (fun p => g p.1.value p.2) else d)
    (h : (parseMapping cfg what n ae cs).2 = []) :
    ∃ kv ∈ (parseMapping cfg what n ae cs).1, ∃ k, (cs = true → k = kv.id) ∧ x ∈ g k kv.val := by
  obtain ⟨hk, hp⟩ := parseMapping_clean cfg what n ae cs h
  have : (n.kind = .mapping || n.isNull) = true := by
    rcases hk with hk | hk <;> simp [hk]
  simp only [this, ↓reduceIte, List.mem_flatMap] at hx
  obtain ⟨p, hpm, hx⟩ := hx
  obtain ⟨kv, hkv, e1, e2⟩ := hp p hpm
  refine ⟨kv, hkv, p.1.value, ?_, by rw [e1]; exact hx⟩
  intro hcs
  simp [e2, keyOf, hcs]

theorem mapScalars_clean (cfg : Cfg) (what : String) (n : Node) (ae cs : Bool) (g : String → Node → List Node) (v : Node)
    (hv : v ∈ mapScalars n g) (h : (parseMapping cfg what n ae cs).2 = []) :
    ∃ kv ∈ (parseMapping cfg what n ae cs).1, ∃ k, (cs = true → k = kv.id) ∧ v ∈ g k kv.val :=
  walk_clean cfg what n ae cs g (leaves n) v hv h

/-! ### sections: `parseMapping`, then the key loop -/

variable {σ : Type}

/-- a mapping of free names whose values are strings (`env:`, `outputs:`, `with:` / `secrets:` of a call): every scalar below
it is the string of one entry -/
theorem strMap_leaf {β : Type} {cfg : Cfg} {what : String} {n : Node} {cs : Bool} {f : KV → R β} {v : Node}
    (hv : v ∈ leaves n) (hm : (parseMapping cfg what n false cs).2 = [])
    (hr : (mapKVs f (parseMapping cfg what n false cs).1).2 = []) (proj : β → Str)
    (hf : ∀ kv, (f kv).2 = (parseString kv.val true).2 ∧ proj (f kv).1 = (parseString kv.val true).1) :
    Rep v ((mapKVs f (parseMapping cfg what n false cs).1).1.map fun p => proj p.2) := by
  obtain ⟨kv, hkv, k, _, hvk⟩ := mapScalars_clean cfg what n false cs _ v (leaves_mapScalars cfg what n cs v hv hm) hm
  obtain ⟨h1, h2⟩ := mapKVs_clean f _ hr kv hkv
  obtain ⟨s, hs, e⟩ := parseString_leaf kv.val true v hvk ((hf kv).1 ▸ h1)
  cases List.mem_singleton.1 hs
  exact ⟨_, List.mem_map.2 ⟨_, h2, rfl⟩, (hf kv).2 ▸ e⟩

/-- **a section parser**: `parseMapping`, then the key loop. A scalar the walk `mapScalars n g` reaches lies below one
entry; if the iteration of that entry establishes `Q id` (given the invariant `I id` of the earlier ones) and the
iterations of the other ids keep it, a clean section ends in `Q id`. -/
theorem sect_keyed (cfg : Cfg) (what : String) (n : Node) (ae cs : Bool) (step : σ → KV → σ × List PErr) (init : σ)
    (g : String → Node → List Node) (v : Node) (hv : v ∈ mapScalars n g) (I Q : String → σ → Prop) (hI0 : ∀ k, I k init)
    (hm : (parseMapping cfg what n ae cs).2 = [])
    (hr : (loop step init (parseMapping cfg what n ae cs).1).2 = [])
    (H : ∀ (kv : KV) (k : String), (cs = true → k = kv.id) → v ∈ g k kv.val →
      (∀ st kv', kv'.id ≠ kv.id → I kv.id st → I kv.id (step st kv').1) ∧
      (∀ st, I kv.id st → (step st kv).2 = [] → Q kv.id (step st kv).1) ∧
      (∀ st kv', kv'.id ≠ kv.id → Q kv.id st → (step st kv').2 = [] → Q kv.id (step st kv').1)) :
    ∃ k, Q k (loop step init (parseMapping cfg what n ae cs).1).1 := by
  obtain ⟨kv, hkv, k, hk, hvk⟩ := mapScalars_clean cfg what n ae cs g v hv hm
  obtain ⟨h1, h2, h3⟩ := H kv k hk hvk
  exact ⟨kv.id, loop_keyed step (I kv.id) (Q kv.id) kv h1 h2 h3 _ (parseMapping_nodup cfg what n ae cs) hkv init (hI0 _) hr⟩

/-- `sect_keyed` with the usual `Q`: the scalar is one of the strings `K id st` the loop state holds under the id of the
entry it lies below; `K id` is only touched by the iteration of `id` -/
theorem sect_K (cfg : Cfg) (what : String) (n : Node) (ae cs : Bool) (step : σ → KV → σ × List PErr) (init : σ)
    (g : String → Node → List Node) (v : Node) (hv : v ∈ mapScalars n g) (K : String → σ → List Str)
    (hm : (parseMapping cfg what n ae cs).2 = [])
    (hr : (loop step init (parseMapping cfg what n ae cs).1).2 = [])
    (hstore : ∀ (kv : KV) (k : String) (st : σ), (cs = true → k = kv.id) → v ∈ g k kv.val → (step st kv).2 = [] →
      Rep v (K kv.id (step st kv).1))
    (hpres : ∀ (k : String) (st : σ) (kv : KV), kv.id ≠ k → ∀ s ∈ K k st, s ∈ K k (step st kv).1) :
    ∃ k, Rep v (K k (loop step init (parseMapping cfg what n ae cs).1).1) :=
  sect_keyed cfg what n ae cs step init g v hv (fun _ _ => True) (fun k st => Rep v (K k st)) (fun _ => trivial) hm hr
    (fun kv k hk hvk => ⟨fun _ _ _ _ => trivial, fun st _ hc => hstore kv k st hk hvk hc,
      fun st kv' hne hq _ => hq.mono (hpres kv.id st kv' hne)⟩)

/-- `sect_K` for a section without exempt positions, where the mapping must not be empty -/
theorem sect_leaves (cfg : Cfg) (what : String) (n : Node) (cs : Bool) (step : σ → KV → σ × List PErr) (init : σ)
    (v : Node) (hv : v ∈ leaves n) (K : String → σ → List Str)
    (hm : (parseMapping cfg what n false cs).2 = [])
    (hr : (loop step init (parseMapping cfg what n false cs).1).2 = [])
    (hstore : ∀ (kv : KV) (st : σ), v ∈ leaves kv.val → (step st kv).2 = [] → Rep v (K kv.id (step st kv).1))
    (hpres : ∀ (k : String) (st : σ) (kv : KV), kv.id ≠ k → ∀ s ∈ K k st, s ∈ K k (step st kv).1) :
    ∃ k, Rep v (K k (loop step init (parseMapping cfg what n false cs).1).1) :=
  sect_K cfg what n false cs step init (fun _ x => leaves x) v (leaves_mapScalars cfg what n cs v hv hm) K hm hr
    (fun kv _ st _ hvk hc => hstore kv st hvk hc) hpres

/-- a section that allows one key `k0` and reports every other: accepted, it holds that one entry only (the ids are pairwise
distinct), the scalar lies below it and the loop is its one iteration -/
theorem sect_single (cfg : Cfg) (what : String) (n : Node) (ae cs : Bool) (step : σ → KV → σ × List PErr) (init : σ)
    (k0 : String) (hbad : ∀ st kv, kv.id ≠ k0 → (step st kv).2 ≠ [])
    (g : String → Node → List Node) (v : Node) (hv : v ∈ mapScalars n g)
    (hm : (parseMapping cfg what n ae cs).2 = [])
    (hr : (loop step init (parseMapping cfg what n ae cs).1).2 = []) :
    ∃ kv k, kv.id = k0 ∧ (cs = true → k = kv.id) ∧ v ∈ g k kv.val ∧ (step init kv).2 = [] ∧
      (loop step init (parseMapping cfg what n ae cs).1).1 = (step init kv).1 := by
  obtain ⟨kv, hkv, k, hk, hvk⟩ := mapScalars_clean cfg what n ae cs g v hv hm
  have hall : ∀ p ∈ (parseMapping cfg what n ae cs).1, p.id = k0 := fun p hp => Classical.byContradiction fun hne => by
    obtain ⟨st, hs⟩ := loop_silent_mem step _ _ hr p hp
    exact hbad st p hne hs
  obtain ⟨p, hp⟩ := single_of_all_eq (·.id) k0 _ (List.ne_nil_of_mem hkv) (parseMapping_nodup cfg what n ae cs) hall
  rw [hp] at hkv hr ⊢
  cases List.mem_singleton.1 hkv
  exact ⟨kv, k, hall kv (hp ▸ List.mem_singleton_self kv), hk, hvk, ((loop_clean_cons ..).1 hr).1, loop_cons_fst ..⟩

end AL.C03P
