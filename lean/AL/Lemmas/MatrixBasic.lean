import AL.Model.Matrix
import AL.Spec.RawYaml
/-
  Basic facts for C19: an induction principle for the nested inductive `Raw`, membership
  characterisations of the well-formedness predicates, `lookup` on association lists with distinct
  keys, a pigeonhole lemma, non-mutual characterisations of `equalsList` / `equalsProps` /
  `subsetList` / `subsetProps`, and the fact that `equals` only relates values of the same kind.
-/
namespace AL.Matrix
open AL.Spec

/-! ### Induction principle -/

/-- Structural induction on `Raw` with membership-style induction hypotheses. -/
theorem Raw.ind {motive : Raw → Prop}
    (str : ∀ v p, motive (.str v p))
    (arr : ∀ es p, (∀ e ∈ es, motive e) → motive (.arr es p))
    (obj : ∀ ps p, (∀ kv ∈ ps, motive kv.2) → motive (.obj ps p)) :
    ∀ a, motive a := by
  intro a
  refine Raw.rec (motive_1 := motive) (motive_2 := fun es => ∀ e ∈ es, motive e)
    (motive_3 := fun ps => ∀ kv ∈ ps, motive kv.2) (motive_4 := fun kv => motive kv.2)
    str arr obj ?_ ?_ ?_ ?_ ?_ a
  · intro e he; cases he
  · intro h t ih1 ih2 e he
    rcases List.mem_cons.1 he with rfl | he
    · exact ih1
    · exact ih2 e he
  · intro e he; cases he
  · intro h t ih1 ih2 e he
    rcases List.mem_cons.1 he with rfl | he
    · exact ih1
    · exact ih2 e he
  · intro k v ih; exact ih

/-! ### Well-formedness -/

theorem rawWFList_iff (es : List Raw) : RawWFList es ↔ ∀ e ∈ es, RawWF e := by
  induction es with
  | nil => simp [RawWFList]
  | cons e es ih => simp [RawWFList, ih]

theorem rawWFProps_iff (ps : List (String × Raw)) : RawWFProps ps ↔ ∀ kv ∈ ps, RawWF kv.2 := by
  induction ps with
  | nil => simp [RawWFProps]
  | cons kv ps ih =>
    obtain ⟨k, v⟩ := kv
    simp only [RawWFProps, ih, List.mem_cons, forall_eq_or_imp]

theorem rawWF_arr (es : List Raw) (p : P) : RawWF (.arr es p) ↔ ∀ e ∈ es, RawWF e := by
  rw [RawWF, rawWFList_iff]

theorem rawWF_obj (ps : List (String × Raw)) (p : P) :
    RawWF (.obj ps p) ↔ (ps.map (·.1)).Nodup ∧ ∀ kv ∈ ps, RawWF kv.2 := by
  rw [RawWF, rawWFProps_iff]

/-! ### `lookup` -/

theorem lookup_some_mem {k : String} {ps : List (String × Raw)} {v : Raw}
    (h : lookup k ps = some v) : (k, v) ∈ ps := by
  induction ps with
  | nil => simp [lookup] at h
  | cons kv ps ih =>
    obtain ⟨k', v'⟩ := kv
    simp only [lookup] at h
    split at h
    · next hk => cases h; subst hk; simp
    · exact List.mem_cons_of_mem _ (ih h)

theorem lookup_eq_none_iff {k : String} {ps : List (String × Raw)} :
    lookup k ps = none ↔ k ∉ ps.map (·.1) := by
  induction ps with
  | nil => simp [lookup]
  | cons kv ps ih =>
    obtain ⟨k', v'⟩ := kv
    simp only [lookup, List.map_cons, List.mem_cons, not_or]
    split
    · next hk => subst hk; simp
    · next hk => rw [ih]; constructor
                 · intro h; exact ⟨fun e => hk e.symm, h⟩
                 · intro h; exact h.2

theorem lookup_isSome_iff {k : String} {ps : List (String × Raw)} :
    (∃ v, lookup k ps = some v) ↔ k ∈ ps.map (·.1) := by
  cases h : lookup k ps with
  | none => have := lookup_eq_none_iff.1 h; simp [this]
  | some v =>
    have : k ∈ ps.map (·.1) := List.mem_map.2 ⟨(k, v), lookup_some_mem h, rfl⟩
    simp [this]

/-- Key lemma for objects: with distinct keys, `lookup` finds exactly the members. -/
theorem mem_lookup {k : String} {ps : List (String × Raw)} {v : Raw}
    (nd : (ps.map (·.1)).Nodup) (h : (k, v) ∈ ps) : lookup k ps = some v := by
  induction ps with
  | nil => cases h
  | cons kv ps ih =>
    obtain ⟨k', v'⟩ := kv
    simp only [List.map_cons, List.nodup_cons] at nd
    simp only [lookup]
    rcases List.mem_cons.1 h with heq | h
    · cases heq; simp
    · have hk : k ∈ ps.map (·.1) := List.mem_map.2 ⟨(k, v), h, rfl⟩
      have : k' ≠ k := by intro e; subst e; exact nd.1 hk
      simp [this, ih nd.2 h]

theorem lookup_eq_some_iff {k : String} {ps : List (String × Raw)} {v : Raw}
    (nd : (ps.map (·.1)).Nodup) : lookup k ps = some v ↔ (k, v) ∈ ps :=
  ⟨lookup_some_mem, mem_lookup nd⟩

/-- `lookup` does not depend on the order of members when keys are distinct. -/
theorem lookup_perm {ps qs : List (String × Raw)} (nd : (ps.map (·.1)).Nodup) (h : ps.Perm qs)
    (k : String) : lookup k ps = lookup k qs := by
  have nd' : (qs.map (·.1)).Nodup := (h.map (·.1)).nodup_iff.1 nd
  cases hq : lookup k qs with
  | none =>
    rw [lookup_eq_none_iff] at hq ⊢
    intro hm; exact hq ((h.map (·.1)).mem_iff.1 hm)
  | some v =>
    exact mem_lookup nd (h.mem_iff.2 (lookup_some_mem hq))

/-! ### Pigeonhole -/

/-- A duplicate-free list included in a list that is not longer covers it. -/
theorem subset_of_nodup_of_length_le {α : Type} [DecidableEq α] :
    ∀ (l₁ l₂ : List α), l₁.Nodup → (∀ x ∈ l₁, x ∈ l₂) → l₂.length ≤ l₁.length →
      ∀ x ∈ l₂, x ∈ l₁
  | [], l₂, _, _, hlen, x, hx => by
    cases l₂ with
    | nil => cases hx
    | cons _ _ => simp at hlen
  | a :: t, l₂, nd, hsub, hlen, x, hx => by
    have nd' := List.nodup_cons.1 nd
    have ha : a ∈ l₂ := hsub a (by simp)
    have hsub' : ∀ y ∈ t, y ∈ l₂.erase a := by
      intro y hy
      have : y ≠ a := by intro e; subst e; exact nd'.1 hy
      exact (List.mem_erase_of_ne this).2 (hsub y (List.mem_cons_of_mem _ hy))
    have hlen' : (l₂.erase a).length ≤ t.length := by
      rw [List.length_erase_of_mem ha]; simp at hlen; omega
    by_cases hxa : x = a
    · subst hxa; simp
    · exact List.mem_cons_of_mem _
        (subset_of_nodup_of_length_le t (l₂.erase a) nd'.2 hsub' hlen' x
          ((List.mem_erase_of_ne hxa).2 hx))

/-- If every key of `ps` (distinct keys) is a key of `qs` and `qs` is not longer, every key of `qs`
is a key of `ps`. -/
theorem keys_covered {ps qs : List (String × Raw)} (nd : (ps.map (·.1)).Nodup)
    (hsub : ∀ kv ∈ ps, kv.1 ∈ qs.map (·.1)) (hlen : ps.length = qs.length) :
    ∀ kv ∈ qs, kv.1 ∈ ps.map (·.1) := by
  intro kv hkv
  refine subset_of_nodup_of_length_le (ps.map (·.1)) (qs.map (·.1)) nd ?_ (by simp [hlen]) kv.1
    (List.mem_map.2 ⟨kv, hkv, rfl⟩)
  intro x hx
  obtain ⟨kv', h1, rfl⟩ := List.mem_map.1 hx
  exact hsub kv' h1

/-! ### Non-mutual characterisations of the list helpers -/

/-- "Equally long and related position by position", peeled at the head. -/
theorem forall_getElem_cons {α β : Type} {R : α → β → Prop} {e : α} {es : List α} {f : β} {fs : List β} :
    ((e :: es).length = (f :: fs).length ∧
        ∀ i (h1 : i < (e :: es).length) (h2 : i < (f :: fs).length), R (e :: es)[i] (f :: fs)[i]) ↔
      R e f ∧ es.length = fs.length ∧ ∀ i (h1 : i < es.length) (h2 : i < fs.length), R es[i] fs[i] := by
  simp only [List.length_cons, Nat.add_right_cancel_iff]
  constructor
  · rintro ⟨hl, h⟩
    exact ⟨h 0 (Nat.zero_lt_succ _) (Nat.zero_lt_succ _), hl,
      fun i h1 h2 => h (i + 1) (Nat.succ_lt_succ h1) (Nat.succ_lt_succ h2)⟩
  · rintro ⟨h0, hl, h⟩
    refine ⟨hl, fun i h1 h2 => ?_⟩
    cases i with
    | zero => exact h0
    | succ i => exact h i (Nat.lt_of_succ_lt_succ h1) (Nat.lt_of_succ_lt_succ h2)

theorem equalsList_iff (es fs : List Raw) :
    equalsList es fs = true ↔
      es.length = fs.length ∧ ∀ i (h1 : i < es.length) (h2 : i < fs.length), equals es[i] fs[i] = true := by
  induction es generalizing fs with
  | nil => cases fs <;> simp [equalsList]
  | cons e es ih =>
    cases fs with
    | nil => simp [equalsList]
    | cons f fs =>
      rw [forall_getElem_cons (R := fun a b => equals a b = true), ← ih, equalsList, Bool.and_eq_true]

theorem equalsProps_iff (ps qs : List (String × Raw)) :
    equalsProps ps qs = true ↔
      ∀ kv ∈ ps, ∃ w, lookup kv.1 qs = some w ∧ equals kv.2 w = true := by
  induction ps with
  | nil => simp [equalsProps]
  | cons kv ps ih =>
    obtain ⟨k, v⟩ := kv
    simp only [equalsProps, Bool.and_eq_true, ih, List.mem_cons, forall_eq_or_imp]
    refine and_congr ?_ Iff.rfl
    cases lookup k qs <;> simp

theorem subsetList_iff (es fs : List Raw) :
    subsetList es fs = true ↔
      es.length = fs.length ∧ ∀ i (h1 : i < es.length) (h2 : i < fs.length), subset es[i] fs[i] = true := by
  induction es generalizing fs with
  | nil => cases fs <;> simp [subsetList]
  | cons e es ih =>
    cases fs with
    | nil => simp [subsetList]
    | cons f fs =>
      rw [forall_getElem_cons (R := fun a b => subset a b = true), ← ih, subsetList, Bool.and_eq_true]

theorem subsetProps_iff (vps sps : List (String × Raw)) :
    subsetProps vps sps = true ↔
      ∀ kv ∈ sps, ∃ p, lookup kv.1 vps = some p ∧ subset p kv.2 = true := by
  induction sps with
  | nil => simp [subsetProps]
  | cons kv sps ih =>
    obtain ⟨k, v⟩ := kv
    simp only [subsetProps, Bool.and_eq_true, ih, List.mem_cons, forall_eq_or_imp]
    refine and_congr ?_ Iff.rfl
    cases lookup k vps <;> simp

/-- `equals` on two objects, without the mutual helpers. -/
theorem equals_obj_iff (ps qs : List (String × Raw)) (p q : P) :
    equals (.obj ps p) (.obj qs q) = true ↔
      ps.length = qs.length ∧ ∀ kv ∈ ps, ∃ w, lookup kv.1 qs = some w ∧ equals kv.2 w = true := by
  simp only [equals, Bool.and_eq_true, beq_iff_eq, equalsProps_iff]

theorem equals_arr_iff (es fs : List Raw) (p q : P) :
    equals (.arr es p) (.arr fs q) = true ↔
      es.length = fs.length ∧ ∀ i (h1 : i < es.length) (h2 : i < fs.length), equals es[i] fs[i] = true := by
  simp only [equals, equalsList_iff]


theorem equals_str_left {v : String} {p : P} {b : Raw} : equals (.str v p) b = true ↔ ∃ q, b = .str v q := by
  cases b <;> simp [equals]
  exact eq_comm

theorem equals_arr_left {es : List Raw} {p : P} {b : Raw} :
    equals (.arr es p) b = true ↔ ∃ fs q, b = .arr fs q ∧ es.length = fs.length ∧
      ∀ i (h1 : i < es.length) (h2 : i < fs.length), equals es[i] fs[i] = true := by
  cases b with
  | arr fs q =>
    exact (equals_arr_iff ..).trans ⟨fun h => ⟨fs, q, rfl, h⟩, fun ⟨_, _, e, h⟩ => by cases e; exact h⟩
  | _ => exact ⟨fun h => by simp [equals] at h, fun ⟨_, _, e, _⟩ => by cases e⟩

theorem equals_obj_left {ps : List (String × Raw)} {p : P} {b : Raw} :
    equals (.obj ps p) b = true ↔ ∃ qs q, b = .obj qs q ∧ ps.length = qs.length ∧
      ∀ kv ∈ ps, ∃ w, lookup kv.1 qs = some w ∧ equals kv.2 w = true := by
  cases b with
  | obj qs q =>
    exact (equals_obj_iff ..).trans ⟨fun h => ⟨qs, q, rfl, h⟩, fun ⟨_, _, e, h⟩ => by cases e; exact h⟩
  | _ => exact ⟨fun h => by simp [equals] at h, fun ⟨_, _, e, _⟩ => by cases e⟩

end AL.Matrix
