import AL.Lemmas.SemaMonoBasic
/-
  The checker as one structural recursion. `check` and `checkWithNarrowing` call each other, and narrowing falls
  through to `check` on the SAME expression, so the model's mutual definition is compiled by well-founded recursion and
  its induction principle has a case for every shape of that fall-through. `sem Γ m e` is both functions at once:
  the mode `m` is `none` for `check` and `some b` for `checkWithNarrowing(·, b)`, and only `&&`, `||`, `!` look at
  it. Written like that the recursion is structural in `e`, a property of the checker is proved by recursion on the
  expression for all modes at once, and `sem` evaluates in the kernel (as long as no call reaches `checkSig`:
  `Ty.assignable` is compiled by well-founded recursion too). `sem_eq_all` is the one place where the induction
  principle of the model is used.

  The arms of `sem` put a result together from sub-results in three ways only: `R.node` / `R.node₂` (a type rule,
  with diagnostics of its own, on one / two checked children) and `R.seq` (two children in sequence, nothing added), so
  a relation between results is carried through `sem` by one lemma per combinator (`Mono.node` … in SemaMono,
  `Same.node` … in SemaCase).

  What the other files rest on: `narrow_errs` (narrowing changes the type, never the diagnostics), and with it
  `check_logical_errs`: the diagnostics of `check` obey a recursion in which `narrow` does not occur;
  `check_evs_eq`: the events are `evsOf`, the event component of `sem` computed alone, which needs nothing of the
  environment but `lower` and which callees are defined.
-/
namespace AL.Insecure

/-- which function names are defined (arguments of undefined functions are not visited) -/
def dfnOf (env : Sema.Env) : String → Bool := fun c => (Sema.lookupFuncs c env.funcs).isSome

end AL.Insecure

namespace AL.Sema
open AL

/-- a node with one checked child: a type rule applied to the child's type, its diagnostics after the child's -/
def R.node (rule : Ty → Ty × List SemaErr) (a : R) : R := ⟨(rule a.ty).1, a.errs ++ (rule a.ty).2, a.evs⟩

/-- the same with two children -/
def R.node₂ (rule : Ty → Ty → Ty × List SemaErr) (a b : R) : R :=
  ⟨(rule a.ty b.ty).1, a.errs ++ b.errs ++ (rule a.ty b.ty).2, a.evs ++ b.evs⟩

/-- two sub-results in sequence, their types combined by `f`: a node with two children and no diagnostic of its own -/
def R.seq (f : Ty → Ty → Ty) (a b : R) : R := ⟨f a.ty b.ty, a.errs ++ b.errs, a.evs ++ b.evs⟩

/-- the mode in which `&&`/`||`, itself in mode `m`, treats its left operand: checked plainly where the value of
the whole is that of the right operand (`l && r` taken as truthy, `l || r` as falsy), otherwise narrowed (`&&` as
falsy, `||` as truthy) -/
def leftMode : Option Bool → LogOp → Option Bool
  | some true, .and | some false, .or => none
  | _, op => some (opTruthy op)

/-- the type of `l && r` / `l || r` from the types of the operands, the left one treated in mode `lm`: the right
one's if it was checked plainly, the merge of the two if it was narrowed -/
def logicalTy : Option Bool → Ty → Ty → Ty
  | none, _, r => r
  | some _, l, r => Ty.merge l r

mutual
/-- `sem Γ none` is `check Γ`, `sem Γ (some b)` is `narrow Γ · b` (`sem_eq_all`) -/
def sem (Γ : Env) : Option Bool → E → R
  | _, .null => wrap Γ.lower .null ⟨.null, [], []⟩
  | _, .bool => wrap Γ.lower .bool ⟨.bool, [], []⟩
  | _, .num => wrap Γ.lower .num ⟨.number, [], []⟩
  | _, .str v => wrap Γ.lower (.str v) ⟨.string, [], []⟩
  | _, .var name =>
    wrap Γ.lower (.var name)
      (match Ty.lookup name Γ.vars with
      | none => ⟨.any, [err "undefined-variable" [name]], []⟩
      | some t =>
        ⟨t, if Γ.availCtx.contains (Γ.lower name) then [] else [err "context-not-allowed" [name]], []⟩)
  | _, .objDeref recv prop =>
    wrap Γ.lower (.objDeref recv prop) (.node (objDerefTy Γ (isVarsVar recv) prop) (sem Γ none recv))
  | _, .arrDeref recv => wrap Γ.lower (.arrDeref recv) (.node arrDerefTy (sem Γ none recv))
  | _, .index operand idx =>
    wrap Γ.lower (.index operand idx) (.node₂ (indexTy Γ (strLit? idx)) (sem Γ none idx) (sem Γ none operand))
  | _, .call callee args =>
    wrap Γ.lower (.call callee args)
      (match lookupFuncs (Γ.lower callee) Γ.funcs with
      | none => ⟨.any, [err "undefined-function" [callee]], []⟩
      | some sigs =>
        ⟨(resolveCall Γ callee sigs (args.head?.bind strLit?) (semArgs Γ args).1).1,
         (semArgs Γ args).2.1 ++ (resolveCall Γ callee sigs (args.head?.bind strLit?) (semArgs Γ args).1).2,
         (semArgs Γ args).2.2⟩)
  | _, .cmp op l r =>
    wrap Γ.lower (.cmp op l r)
      (.node₂ (fun tl tr => (.bool, if validCompare op tl tr then [] else [err "bad-compare" [tyStr tl, tyStr tr, cmpStr op]]))
        (sem Γ none l) (sem Γ none r))
  | m, .not o =>
    match m with
    | some b => sem Γ (some (!b)) o
    | none =>
      wrap Γ.lower (.not o)
        (.node (fun t => (.bool, if Ty.assignable .bool t then [] else [err "not-operand" [tyStr t]])) (sem Γ none o))
  | m, .logical op l r =>
    let body := R.seq (logicalTy (leftMode m op)) (sem Γ (leftMode m op) l) (sem Γ none r)
    -- narrowing returns from `checkLogicalOp` directly: no enter/leave for the node itself
    match m with
    | none => wrap Γ.lower (.logical op l r) body
    | some _ => body
termination_by structural _ e => e
def semArgs (Γ : Env) : List E → List Ty × List SemaErr × List Ev
  | [] => ([], [], [])
  | a :: rest =>
    ((sem Γ none a).ty :: (semArgs Γ rest).1, (sem Γ none a).errs ++ (semArgs Γ rest).2.1,
     (sem Γ none a).evs ++ (semArgs Γ rest).2.2)
termination_by structural es => es
end

theorem sem_eq_all (Γ : Env) :
    (∀ e, sem Γ none e = check Γ e) ∧ (∀ e b, sem Γ (some b) e = narrow Γ e b) ∧
    (∀ es, semArgs Γ es = checkArgs Γ es) := by
  apply check.mutual_induct Γ (motive1 := fun e => sem Γ none e = check Γ e)
    (motive2 := fun e b => sem Γ (some b) e = narrow Γ e b) (motive3 := fun es => semArgs Γ es = checkArgs Γ es)
  case case1 => rw [check_null, sem]
  case case2 => rw [check_bool, sem]
  case case3 => rw [check_num, sem]
  case case4 => intro v; rw [check_str, sem]
  case case5 => intro n; rw [check_var, sem]; rfl
  case case6 => intro recv prop _ _ _ _ _ ih; rw [check_objDeref, sem, ih]; rfl
  case case7 => intro recv _ _ _ _ ih; rw [check_arrDeref, sem, ih]; rfl
  case case8 => intro o i _ _ _ _ _ ihi iho; rw [check_index, sem, ihi, iho]; rfl
  case case9 => intro c args ih; rw [check_call, sem, ih]; rfl
  case case10 => intro o ih; rw [check_not, sem, ih]; rfl
  case case11 => intro op l r ihl ihr; rw [check_cmp, sem, ihl, ihr]; rfl
  case case12 =>
    intro op l r ihl ihr
    have ihl' : sem Γ (some (opTruthy op)) l = narrow Γ l (opTruthy op) := by cases op <;> exact ihl
    rw [check_logical, ← ihl', ← ihr]; rfl
  case case13 => intro l r ihl ihr; rw [narrow_and_true, ← ihl, ← ihr]; rfl
  case case14 => intro l r ihl ihr; rw [narrow_or_false, ← ihl, ← ihr]; rfl
  case case15 =>
    intro op l r x h1 h2 ihl ihr
    cases op <;> cases x
    · rw [narrow_and_false, ← ihl, ← ihr]; rfl
    · exact (h1 rfl rfl).elim
    · exact (h2 rfl rfl).elim
    · rw [narrow_or_true, ← ihl, ← ihr]; rfl
  case case16 => intro o t ih; rw [narrow_not, ← ih]; rfl
  case case17 =>
    intro e x _ _ h3 h4 ih
    rw [narrow_other Γ e x h3 h4, ← ih]
    cases e <;> first | rfl | exact (h3 _ _ _ rfl).elim | exact (h4 _ rfl).elim
  case case18 => rw [checkArgs_nil, semArgs]
  case case19 => intro a rest iha ihr; rw [checkArgs_cons, semArgs, iha, ihr]

theorem check_eq_sem (Γ : Env) (e : E) : check Γ e = sem Γ none e := ((sem_eq_all Γ).1 e).symm
theorem narrow_eq_sem (Γ : Env) (e : E) (b : Bool) : narrow Γ e b = sem Γ (some b) e := ((sem_eq_all Γ).2.1 e b).symm

/-! ### the diagnostics do not depend on the mode -/

/-- narrowing changes the type, never the diagnostics -/
theorem sem_errs (Γ : Env) : ∀ (e : E) (m : Option Bool), (sem Γ m e).errs = (sem Γ none e).errs
  | .null, _ | .bool, _ | .num, _ | .str _, _ | .var _, _ | .objDeref _ _, _ | .arrDeref _, _ | .index _ _, _
  | .call _ _, _ | .cmp _ _ _, _ | .not _, none | .logical _ _ _, none => rfl
  | .not o, some b => by
    -- `!o` itself adds nothing: every type is assignable to `bool`
    simp only [sem, sem_errs Γ o (some (!b)), wrap_errs, R.node, Ty.assignable_bool, if_true, List.append_nil]
  | .logical op l r, some b => by
    show (sem Γ (leftMode (some b) op) l).errs ++ _ = (sem Γ (leftMode none op) l).errs ++ _
    rw [sem_errs Γ l, sem_errs Γ l (leftMode none op)]

theorem narrow_errs (Γ : Env) (e : E) (b : Bool) : (narrow Γ e b).errs = (check Γ e).errs := by
  rw [narrow_eq_sem, check_eq_sem, sem_errs]

/-- so the diagnostics of `check` obey a recursion of their own, in which `narrow` does not occur -/
theorem check_logical_errs (Γ : Env) (op : LogOp) (l r : E) :
    (check Γ (.logical op l r)).errs = (check Γ l).errs ++ (check Γ r).errs := by
  rw [check_logical, wrap_errs, narrow_errs]
theorem check_not_errs (Γ : Env) (o : E) : (check Γ (.not o)).errs = (check Γ o).errs := by
  rw [check_not, wrap_errs, Ty.assignable_bool, if_pos rfl, List.append_nil]

/-! ### the events alone -/

mutual
/-- the events of `sem Γ m e`, for `lower = Γ.lower` and `dfn` = "is a key of `Γ.funcs`" -/
def evsOf (lower : String → String) (dfn : String → Bool) : Option Bool → E → List Ev
  | _, .null | _, .bool | _, .num | _, .str _ => [.leave .other]
  | _, .var n => [.leave (.var n)]
  | _, .objDeref r p => evsOf lower dfn none r ++ [.leave (.objDeref p)]
  | _, .arrDeref r => evsOf lower dfn none r ++ [.leave .arrDeref]
  | _, .index r i => evsOf lower dfn none i ++ evsOf lower dfn none r ++ [.leave (leaveOf lower (.index r i))]
  | _, .call c args =>
    enterOf lower (.call c args) ++ (if dfn (lower c) then evsArgs lower dfn args else []) ++
      [.leave (leaveOf lower (.call c args))]
  | _, .cmp _ l r => evsOf lower dfn none l ++ evsOf lower dfn none r ++ [.leave .other]
  | m, .not o =>
    match m with
    | some b => evsOf lower dfn (some (!b)) o
    | none => evsOf lower dfn none o ++ [.leave .other]
  | m, .logical op l r =>
    match m with
    | none => evsOf lower dfn (leftMode none op) l ++ evsOf lower dfn none r ++ [.leave .other]
    | some b => evsOf lower dfn (leftMode (some b) op) l ++ evsOf lower dfn none r
termination_by structural _ e => e
def evsArgs (lower : String → String) (dfn : String → Bool) : List E → List Ev
  | [] => []
  | a :: rest => evsOf lower dfn none a ++ evsArgs lower dfn rest
termination_by structural es => es
end

mutual
theorem sem_evs (Γ : Env) : ∀ (e : E) (m : Option Bool), (sem Γ m e).evs = evsOf Γ.lower (Insecure.dfnOf Γ) m e
  | .null, _ | .bool, _ | .num, _ | .str _, _ => rfl
  | .var n, _ => by simp only [sem, evsOf]; cases Ty.lookup n Γ.vars <;> rfl
  | .objDeref r _, _ | .arrDeref r, _ => by rw [evsOf, ← sem_evs Γ r]; rfl
  | .index r i, _ | .cmp _ r i, _ => by rw [evsOf, ← sem_evs Γ r, ← sem_evs Γ i]; rfl
  | .call c args, _ => by
    rw [evsOf, ← semArgs_evs Γ args]
    show _ = _ ++ (if (lookupFuncs (Γ.lower c) Γ.funcs).isSome then _ else _) ++ _
    simp only [sem, wrap_evs]
    cases lookupFuncs (Γ.lower c) Γ.funcs <;> rfl
  | .not o, none => by rw [evsOf, ← sem_evs Γ o]; rfl
  | .not o, some b => sem_evs Γ o (some (!b))
  | .logical _ l r, none | .logical _ l r, some _ => by rw [evsOf, ← sem_evs Γ l, ← sem_evs Γ r]; rfl
theorem semArgs_evs (Γ : Env) : ∀ es : List E, (semArgs Γ es).2.2 = evsArgs Γ.lower (Insecure.dfnOf Γ) es
  | [] => rfl
  | a :: rest => by rw [evsArgs, ← sem_evs Γ a, ← semArgs_evs Γ rest]; rfl
end

/-- the events of the checker are a function of the expression, of `lower` and of which callees are defined:
context types, signatures, availability and `fromJson` play no part -/
theorem check_evs_eq (Γ : Env) (e : E) : (check Γ e).evs = evsOf Γ.lower (Insecure.dfnOf Γ) none e := by
  rw [check_eq_sem, sem_evs]

end AL.Sema
