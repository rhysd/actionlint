import AL.Lemmas.C17DRule
/-
  For AL.Props.C17Doc, which picks the glob diagnostics out of the whole-file model by their kind: filtering by kind "glob"
  over a list of one kind (`KindIs`, AL.Lemmas.RuleKinds), and the kind of rule events (`kind_events`: everything `ruleEvents`
  reports has kind "events"), restated in this namespace from the `AL.C14D.kind_*` lemmas of AL.Lemmas.RuleKinds.
-/
namespace AL.C17D
open AL AL.Rules AL.Yaml AL.Ast AL.C09C

def isGlob (d : Diag) : Bool := d.kind == "glob"

theorem filter_glob_self {l : List Diag} (h : KindIs "glob" l) : l.filter isGlob = l := by
  rw [List.filter_eq_self]
  intro d hd
  simp [isGlob, h d hd]

theorem filter_glob_other {k : String} {l : List Diag} (hk : k ≠ "glob") (h : KindIs k l) : l.filter isGlob = [] := by
  rw [List.filter_eq_nil_iff]
  intro d hd
  simp [isGlob, h d hd, hk]

theorem kind_exclusive (f i : Option Filter) (hook : String) (av : List String) : KindIs "events" (exclusiveFilters f i hook av) :=
  AL.C14D.kind_exclusive f i hook av

theorem kind_webhook (e : WebhookEvent) : KindIs "events" (checkWebhookEvent e) :=
  AL.C14D.kind_webhook e

theorem kind_schedule (zk : List Char → Bool) (cron : List Str) : KindIs "events" (checkScheduleEvent zk cron) :=
  kindIs_flatMap fun s _ => AL.C14D.kind_cronEntry zk s

theorem kind_call (lower : String → String) (isNum : String → Bool) (inputs : List CallInput) :
    KindIs "events" (checkCallEvent lower isNum inputs) :=
  AL.C14D.kind_callEvent lower isNum inputs

theorem kind_dupOptions : ∀ (opts : List Str) (seen : List String), KindIs "events" (dupOptions opts seen).1 :=
  AL.C14D.kind_dupOptions

theorem kind_dispatch (lower : String → String) (isNum : String → Bool) (inputs : List (String × DispatchInput)) (pos : AL.Rules.Pos) :
    KindIs "events" (checkDispatchEvent lower isNum inputs pos) :=
  AL.C14D.kind_dispatch lower isNum inputs pos

theorem kind_events (lower : String → String) (isNum : String → Bool) (w : Workflow) (lc : LabelCfg) :
    KindIs "events" (ruleEvents lower isNum w lc) :=
  AL.C14D.kind_events lower isNum w lc

end AL.C17D
