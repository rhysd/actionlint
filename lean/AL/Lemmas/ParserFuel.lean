import AL.Lemmas.ParserSound
/-
  The fuel of the parser model: on a stream ending in END, `6 * length + rank` units suffice for the
  function of that rank, hence the `8 * (length + 1)` of `parseToks` is never exhausted.
-/
namespace AL.Parse
open AL AL.Lex AL.Spec

/-! ### progress: every successful call consumes at least one token -/

theorem prog_level {p : Nat → Toks → PRes} {L f} (hS : SLevel p L f) {ts e rest}
    (hE : endsEnd ts = true) (h : p f ts = .ok (e, rest)) : endsEnd rest = true ∧ rest.length < ts.length := by
  obtain ⟨hE1, pre, rfl, hd⟩ := hS _ _ _ hE h
  refine ⟨hE1, ?_⟩
  have : pre ≠ [] := by
    intro h0; subst h0; exact der_ne_nil hd rfl
  have : 0 < pre.length := List.length_pos_iff.mpr this
  simp; omega

theorem prog_loop {f ret ts e rest} (hE : endsEnd ts = true) (h : postfixLoop f ret ts = .ok (e, rest)) :
    endsEnd rest = true ∧ rest.length ≤ ts.length := by
  obtain ⟨hE1, pre, rfl, _⟩ := (sound_all f).loop _ _ _ _ hE h
  exact ⟨hE1, by simp⟩

theorem prog_args {f acc ts es rest} (hE : endsEnd ts = true) (h : argsLoop f acc ts = .ok (es, rest)) :
    endsEnd rest = true ∧ rest.length < ts.length := by
  obtain ⟨hE1, pre, rp, es', rfl, _⟩ := (sound_all f).args _ _ _ _ hE h
  exact ⟨hE1, by simp; omega⟩

theorem prog_postfix {f ts e rest} (hE : endsEnd ts = true) (h : parsePostfix f ts = .ok (e, rest)) :
    endsEnd rest = true ∧ rest.length < ts.length := prog_level (sound_all f).post hE h

/-! ### fuel -/

/-- the result is not the "out of fuel" error -/
def NoFuel {α : Type} (r : Except ParseErr α) : Prop := ∀ e, r = .error e → e.msg ≠ .fuel

theorem noFuel_ok {α : Type} (a : α) : NoFuel (Except.ok a : Except ParseErr α) := by
  intro e h; cases h

theorem noFuel_errAt {α : Type} (ts : Toks) (m : ParseMsg) (hm : m ≠ .fuel) :
    NoFuel (Except.error (errAt ts m) : Except ParseErr α) := by
  intro e h; cases h; simpa [errAt] using hm

/-- `f` units cover six per token and `c` more -/
def Fueled (p : Toks → PRes) (c f : Nat) : Prop :=
  ∀ ts, endsEnd ts = true → 6 * ts.length + c ≤ f → NoFuel (p ts)

def FLevel (p : Nat → Toks → PRes) (c : Nat) (f : Nat) : Prop := Fueled (p f) c f

def FLoop (f : Nat) : Prop :=
  ∀ ret ts, endsEnd ts = true → 6 * ts.length + 1 ≤ f → NoFuel (postfixLoop f ret ts)

def FArgs (f : Nat) : Prop :=
  ∀ acc ts, endsEnd ts = true → 6 * ts.length + 7 ≤ f → NoFuel (argsLoop f acc ts)

structure FAll (f : Nat) : Prop where
  or      : FLevel parseLogicalOr 6 f
  and     : FLevel parseLogicalAnd 5 f
  cmp     : FLevel parseCompare 4 f
  unary   : FLevel parsePrefix 3 f
  post    : FLevel parsePostfix 2 f
  prim    : FLevel parsePrimary 1 f
  loop    : FLoop f
  args    : FArgs f

/-- the three binary levels at once: the operand gets by with `c`, the level itself with `c + 1`, and after
an operand and an operator the stream is at least two tokens shorter -/
theorem fuel_bin {α : Type} {p sub self : Toks → PRes} {op : TokKind → Option α} {mk : α → Expr → Expr → Expr}
    {c f : Nat} (hp : ∀ ts, p ts = binLevel sub self op mk ts)
    (hsub : Fueled sub c f) (hself : Fueled self (c + 1) f)
    (hprog : ∀ {ts e rest}, endsEnd ts = true → sub ts = .ok (e, rest) →
      endsEnd rest = true ∧ rest.length < ts.length)
    (hop : ∀ {k a}, op k = some a → k ≠ .end) :
    Fueled p (c + 1) (f + 1) := by
  intro ts hE hf
  rw [hp, binLevel]
  have hA := hsub ts hE (by omega)
  split
  · rename_i e1 h1; intro e he; cases he; exact hA _ h1
  · rename_i l ts1 h1
    obtain ⟨hE1, hl⟩ := hprog hE h1
    split
    · exact noFuel_ok _
    · rename_i a ha
      obtain ⟨t, r1, rfl, hadv, hE2, _⟩ := step_kind hE1 rfl (hop ha)
      rw [hadv]
      have hO := hself r1 hE2 (by rw [List.length_cons] at hl; omega)
      split
      · rename_i e2 h2; intro e he; cases he; exact hO _ h2
      · exact noFuel_ok _

theorem fuel_or {f} (hAnd : FLevel parseLogicalAnd 5 f) (hOr : FLevel parseLogicalOr 6 f) :
    FLevel parseLogicalOr 6 (f + 1) :=
  fuel_bin (parseLogicalOr_succ f) hAnd hOr (prog_level (sound_all f).and) fun h => by rw [(logOp_eq_some.mp h).1]; decide

theorem fuel_and {f} (hCmp : FLevel parseCompare 4 f) (hAnd : FLevel parseLogicalAnd 5 f) :
    FLevel parseLogicalAnd 5 (f + 1) :=
  fuel_bin (parseLogicalAnd_succ f) hCmp hAnd (prog_level (sound_all f).cmp) fun h => by rw [(logOp_eq_some.mp h).1]; decide

theorem fuel_cmp {f} (hPre : FLevel parsePrefix 3 f) (hCmp : FLevel parseCompare 4 f) :
    FLevel parseCompare 4 (f + 1) :=
  fuel_bin (parseCompare_succ f) hPre hCmp (prog_level (sound_all f).unary) cmpOf_ne_end

theorem fuel_prefix {f} (hPost : FLevel parsePostfix 2 f) (hPre : FLevel parsePrefix 3 f) :
    FLevel parsePrefix 3 (f + 1) := by
  intro ts hE hf
  rw [parsePrefix]
  split
  · exact hPost ts hE (by omega)
  · rename_i hk
    have hk : (cur ts).tok.kind = .not := by simpa using hk
    obtain ⟨t, r1, rfl, hadv, hE2, _⟩ := step_kind hE hk (by decide)
    rw [hadv]
    have hO := hPre r1 hE2 (by simp at hf; omega)
    split
    · rename_i e2 h2; intro e he; cases he; exact hO _ h2
    · exact noFuel_ok _

theorem fuel_postfix {f} (hPrim : FLevel parsePrimary 1 f) (hLoop : FLoop f) :
    FLevel parsePostfix 2 (f + 1) := by
  intro ts hE hf
  rw [parsePostfix]
  have hA := hPrim ts hE (by omega)
  split
  · rename_i e1 h1; intro e he; cases he; exact hA _ h1
  · rename_i e0 ts1 h1
    obtain ⟨hE1, hl⟩ := prog_level (sound_all f).prim hE h1
    exact hLoop _ ts1 hE1 (by omega)

theorem fuel_loop {f} (hOr : FLevel parseLogicalOr 6 f) (hLoop : FLoop f) : FLoop (f + 1) := by
  intro ret ts hE hf
  rw [postfixLoop]
  split
  · rename_i hk
    obtain ⟨d, r1, rfl, hadv, hE1, _⟩ := step_kind hE hk (by decide)
    simp only [hadv]
    split
    · rename_i hk2
      obtain ⟨s, r2, rfl, hadv2, hE2, _⟩ := step_kind hE1 hk2 (by decide)
      rw [hadv2]; exact hLoop _ r2 hE2 (by simp at hf; omega)
    · rename_i hk2
      obtain ⟨s, r2, rfl, hadv2, hE2, _⟩ := step_kind hE1 hk2 (by decide)
      rw [hadv2]; exact hLoop _ r2 hE2 (by simp at hf; omega)
    · exact noFuel_errAt _ _ (by simp)
  · rename_i hk
    obtain ⟨lb, r1, rfl, hadv, hE1, _⟩ := step_kind hE hk (by decide)
    rw [hadv]
    have hO := hOr r1 hE1 (by simp at hf; omega)
    split
    · rename_i e2 h2; intro e he; cases he; exact hO _ h2
    · rename_i idx ts1 h1
      obtain ⟨hE2, hl⟩ := prog_level (sound_all f).or hE1 h1
      split
      · exact noFuel_errAt _ _ (by simp)
      · rename_i hk2
        have hk2 : (cur ts1).tok.kind = .rbracket := by simpa using hk2
        obtain ⟨rb, r2, rfl, hadv2, hE3, _⟩ := step_kind hE2 hk2 (by decide)
        rw [hadv2]; exact hLoop _ r2 hE3 (by simp at hf hl; omega)
  · exact noFuel_ok _

theorem fuel_primary {f} (hOr : FLevel parseLogicalOr 6 f) (hArgs : FArgs f) :
    FLevel parsePrimary 1 (f + 1) := by
  intro ts hE hf
  rw [parsePrimary]
  simp only
  split
  · rename_i hk
    obtain ⟨t, r1, rfl, hadv, hE1, _⟩ := step_kind hE hk (by decide)
    simp only [hadv, cur_cons]
    by_cases hk2 : (cur r1).tok.kind = .lparen
    · rw [if_pos hk2]
      obtain ⟨lp, r2, rfl, hadv2, hE2, _⟩ := step_kind hE1 hk2 (by decide)
      simp only [hadv2]
      split
      · exact noFuel_ok _
      · have hA := hArgs [] r2 hE2 (by simp at hf; omega)
        split
        · rename_i e2 h2; intro e he; cases he; exact hA _ h2
        · exact noFuel_ok _
    · rw [if_neg hk2, keyword_eq]; exact noFuel_ok _
  · rename_i hk
    obtain ⟨lp, r1, rfl, hadv, hE1, _⟩ := step_kind hE hk (by decide)
    rw [hadv]
    have hO := hOr r1 hE1 (by simp at hf; omega)
    split
    · rename_i e2 h2; intro e he; cases he; exact hO _ h2
    · split
      · exact noFuel_ok _
      · exact noFuel_errAt _ _ (by simp)
  · split
    · exact noFuel_ok _
    · exact noFuel_errAt _ _ (by simp)
  · split
    · exact noFuel_errAt _ _ (by simp)
    · exact noFuel_ok _
  · exact noFuel_ok _
  · exact noFuel_errAt _ _ (by simp)

theorem fuel_args {f} (hOr : FLevel parseLogicalOr 6 f) (hArgs : FArgs f) : FArgs (f + 1) := by
  intro acc ts hE hf
  rw [argsLoop]
  have hO := hOr ts hE (by omega)
  split
  · rename_i e2 h2; intro e he; cases he; exact hO _ h2
  · rename_i arg ts1 h1
    obtain ⟨hE1, hl⟩ := prog_level (sound_all f).or hE h1
    split
    · rename_i hk
      obtain ⟨c, r1, rfl, hadv, hE2, _⟩ := step_kind hE1 hk (by decide)
      rw [hadv]; exact hArgs _ r1 hE2 (by simp at hl; omega)
    · exact noFuel_ok _
    · exact noFuel_errAt _ _ (by simp)

theorem fuel_all : ∀ f, FAll f := by
  intro f
  induction f with
  | zero =>
    refine ⟨?_, ?_, ?_, ?_, ?_, ?_, ?_, ?_⟩ <;> intro _ <;> intros <;> omega
  | succ f ih =>
    obtain ⟨hOr, hAnd, hCmp, hPre, hPost, hPrim, hLoop, hArgs⟩ := ih
    exact ⟨fuel_or hAnd hOr, fuel_and hCmp hAnd, fuel_cmp hPre hCmp, fuel_prefix hPost hPre,
      fuel_postfix hPrim hLoop, fuel_primary hOr hArgs, fuel_loop hOr hLoop, fuel_args hOr hArgs⟩

/-- the fuel handed in by `parseToks` suffices on every stream that ends with END -/
theorem fuel_enough_of_endsEnd {ts : Toks} (hE : endsEnd ts = true) {f : Nat} (hf : 6 * ts.length + 6 ≤ f) :
    NoFuel (parseLogicalOr f ts) := (fuel_all f).or ts hE hf

end AL.Parse
