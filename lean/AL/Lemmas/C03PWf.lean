import AL.Lemmas.C03PJobFin
import AL.Lemmas.C03PEvents
/-
  C03Parse / C12Parse, level 4: the workflow. The strings the loop of `parse` holds under a top-level key (`workflowK`),
  `workflowKey_store`, `workflowK_pres`; with the key (`workflowKK …`, `parse_leafK`); and `parse_leaf`, which forgets it.
-/
namespace AL.C03P
open AL.PW AL.Yaml AL.Ast AL.C03R

def workflowK (k : String) (w : Workflow) : List Str :=
  match k with
  | "name" => w.name.toList
  | "on" => onStrs (w.on.getD [])
  | "env" => envStrs w.env
  | "defaults" => defaultsStrs w.defaults
  | "concurrency" => concurrencyStrs w.concurrency
  | "jobs" => (w.jobs.getD []).flatMap fun kv => jobStrs kv.2
  | "run-name" => w.runName.toList
  | _ => []

theorem workflowK_pres (cfg : Cfg) (k : String) (w : Workflow) (kv : KV) (hne : kv.id ≠ k) :
    ∀ s ∈ workflowK k w, s ∈ workflowK k (workflowKey cfg w kv).1 := by
  have F := workflowKey_frame cfg w kv
  unfold workflowK
  split
  · rw [F.name hne]; exact fun _ h => h
  · rw [F.on hne]; exact fun _ h => h
  · rw [F.env hne]; exact fun _ h => h
  · rw [F.defaults hne]; exact fun _ h => h
  · rw [F.concurrency hne]; exact fun _ h => h
  · rw [F.jobs hne]; exact fun _ h => h
  · rw [F.runName hne]; exact fun _ h => h
  · exact fun _ h => h

theorem workflowKey_store (cfg : Cfg) (w : Workflow) (kv : KV) (v : Node) (hv : v ∈ workflowKeyScalars kv.id kv.val)
    (hc : (workflowKey cfg w kv).2 = []) : Rep v (workflowK kv.id (workflowKey cfg w kv).1) := by
  obtain ⟨id, key, val⟩ := kv
  revert hc hv
  unfold workflowKey
  dsimp only
  split <;> intro hv <;> (try simp only [workflowKeyScalars, workflowK, String.reduceEq, imp_self] at hv ⊢)
  · exact parseString_leaf _ _ v hv  -- name
  · exact parseEvents_leaf cfg _ _ v hv
  · cases hv  -- permissions
  · exact parseEnv_leaf cfg _ v hv
  · exact parseDefaults_leaf cfg _ _ v hv
  · exact parseConcurrency_leaf cfg _ _ v hv
  · exact parseJobs_leaf cfg _ v hv
  · exact parseString_leaf _ _ v hv  -- run-name
  · intro hc; simp at hc

theorem parseJobs_nonempty (cfg : Cfg) (n : Node) (h : (parseJobs cfg n).2 = []) : (parseJobs cfg n).1 ≠ [] := by
  simp only [parseJobs, parseSectionMapping, append_nil_iff] at h ⊢
  have := parseMapping_clean_nonempty cfg _ n false h.1
  cases hm : (parseMapping cfg (sectionWhat "jobs") n false false).1 with
  | nil => exact absurd hm this
  | cons kv rest => simp [mapKVs]

theorem workflowKey_jobs (cfg : Cfg) (w : Workflow) (kv : KV) (hI : ∀ l, w.jobs = some l → l ≠ [])
    (hc : (workflowKey cfg w kv).2 = []) : ∀ l, (workflowKey cfg w kv).1.jobs = some l → l ≠ [] := by
  revert hc
  simp only [workflowKey]
  split
  all_goals first | (intro _; exact hI) | skip
  intro hc l hl
  cases hl
  exact parseJobs_nonempty cfg _ hc

theorem fixDocPos_content (doc : Node) : (fixDocPos doc).content = doc.content :=
  AL.PW.fixDocPos_children doc

end AL.C03P

/-! ### with the key -/
namespace AL.C12P
open AL.PW AL.Yaml AL.Ast AL.C03P AL.C03R AL.C12R

/-- the workflow key of the scalars below the top-level key `k` (for the keys whose scalars all lie under one key) -/
def workflowKeyOf (k : String) : String :=
  match k with
  | "run-name" => "run-name"
  | "env" => "env"
  | "concurrency" => "concurrency"
  | _ => ""

theorem workflowKeyKeyed_eq (k : String) (x : Node) (h1 : k ≠ "on") (h2 : k ≠ "jobs") :
    workflowKeyKeyed k x = under (workflowKeyOf k) (workflowKeyScalars k x) := by
  simp only [workflowKeyKeyed]
  split
  all_goals first
    | (exfalso; first | exact h1 rfl | exact h2 rfl)
    | (simp [workflowKeyOf, workflowKeyScalars]; done)

/-- the keyed strings the loop of `parse` holds under the top-level key `k` -/
def workflowKK (k : String) (w : Workflow) : List (Str × String) :=
  match k with
  | "on" => onKStrs (w.on.getD [])
  | "jobs" => (w.jobs.getD []).flatMap fun kv => jobKStrs kv.2
  | _ => tag (workflowKeyOf k) (workflowK k w)

theorem workflowKK_plain (k : String) (w : Workflow) (h1 : k ≠ "on") (h2 : k ≠ "jobs") :
    workflowKK k w = tag (workflowKeyOf k) (workflowK k w) := by
  simp only [workflowKK]

theorem workflowKey_on (cfg : Cfg) (w : Workflow) (kv : KV) (hne : kv.id ≠ "on") : (workflowKey cfg w kv).1.on = w.on :=
  (workflowKey_frame cfg w kv).on hne

theorem workflowKey_jobs_pres (cfg : Cfg) (w : Workflow) (kv : KV) (hne : kv.id ≠ "jobs") :
    (workflowKey cfg w kv).1.jobs = w.jobs :=
  (workflowKey_frame cfg w kv).jobs hne

theorem workflowKK_pres (cfg : Cfg) (k : String) (w : Workflow) (kv : KV) (hne : kv.id ≠ k) :
    ∀ p ∈ workflowKK k w, p ∈ workflowKK k (workflowKey cfg w kv).1 := by
  intro p hp
  by_cases h1 : k = "on"
  · subst h1; simp only [workflowKK] at hp ⊢; rw [workflowKey_on cfg w kv hne]; exact hp
  by_cases h2 : k = "jobs"
  · subst h2; simp only [workflowKK] at hp ⊢; rw [workflowKey_jobs_pres cfg w kv hne]; exact hp
  rw [workflowKK_plain k _ h1 h2] at hp ⊢
  exact tag_mono (workflowK_pres cfg k w kv hne) p hp

theorem workflowKeyKK_store (cfg : Cfg) (w : Workflow) (kv : KV) (v : Node) (key : String)
    (hv : (v, key) ∈ workflowKeyKeyed kv.id kv.val) (hc : (workflowKey cfg w kv).2 = []) :
    RepK v key (workflowKK kv.id (workflowKey cfg w kv).1) := by
  by_cases h1 : kv.id = "on"
  · simp only [h1, workflowKeyKeyed] at hv
    simp only [workflowKey, h1] at hc ⊢
    simp only [workflowKK]
    exact parseEvents_leafK cfg _ _ v key hv hc
  by_cases h2 : kv.id = "jobs"
  · simp only [h2, workflowKeyKeyed] at hv
    simp only [workflowKey, h2] at hc ⊢
    simp only [workflowKK, Option.getD_some]
    exact parseJobs_leafK cfg _ v key hv hc
  rw [workflowKeyKeyed_eq _ _ h1 h2] at hv
  rw [workflowKK_plain _ _ h1 h2]
  exact RepK.of_under hv (fun hvk => workflowKey_store cfg w kv v hvk hc)

/-- **the field ↔ key table of the workflow** (the top-level keys whose scalars lie under one workflow key) -/
theorem workflowK_keyed (k : String) (w : Workflow) (h1 : k ≠ "on") (h2 : k ≠ "jobs") :
    ∀ s ∈ workflowK k w, (s, workflowKeyOf k) ∈ keyedStrs w := by
  intro s hs
  unfold workflowK at hs
  split at hs
  -- the tags count the branches of `workflowK`: 1 `name`, 2 `on`, 4 `defaults`, 6 `jobs`, 8 the default
  case h_2 => exact absurd rfl h1
  case h_6 => exact absurd rfl h2
  case h_8 => cases hs
  -- `name` and `defaults` have no row of the table
  case h_1 => simp only [keyedStrs, show workflowKeyOf "name" = "" from rfl, List.mem_append, mem_tag.2 ⟨hs, rfl⟩, true_or]
  case h_4 =>
    simp only [keyedStrs, show workflowKeyOf "defaults" = "" from rfl, List.mem_append, mem_tag.2 ⟨hs, rfl⟩, true_or, or_true]
  all_goals simp only [keyedStrs, workflowKeyOf, List.mem_append, mem_tag.2 ⟨hs, rfl⟩, true_or, or_true]

theorem workflowKK_final (k : String) (w : Workflow) (hI : ∀ l, w.jobs = some l → l ≠ []) (hj : w.jobs.isNone = false) :
    ∀ p ∈ workflowKK k w, p ∈ keyedStrs w := by
  intro p hp
  by_cases h1 : k = "on"
  · subst h1
    simp only [workflowKK, onKStrs, List.mem_append] at hp
    simp only [keyedStrs, List.mem_append]
    rcases hp with hp | hp
    · exact Or.inl (Or.inl (Or.inl (Or.inr hp)))
    · refine Or.inr ?_
      obtain ⟨s, k'⟩ := p
      obtain ⟨hs, rfl⟩ := mem_tag.1 hp
      refine mem_tag.2 ⟨?_, rfl⟩
      simp only [outValueStrs]
      cases hf : AL.RuleExpr.findCallOutputs (w.on.getD []) with
      | none => simp [hf, outVals] at hs
      | some outs =>
        simp only [hf, outVals] at hs
        simp only
        obtain ⟨l, hl⟩ : ∃ l, w.jobs = some l := by
          cases hw : w.jobs with
          | none => simp [hw] at hj
          | some l => exact ⟨l, rfl⟩
        have hne := hI l hl
        have hout : outs ≠ [] := by
          intro e; simp [e] at hs
        have : (outs.isEmpty || (w.jobs.getD []).isEmpty) = false := by
          cases outs with
          | nil => exact absurd rfl hout
          | cons _ _ =>
            cases l with
            | nil => exact absurd rfl hne
            | cons _ _ => simp [hl]
        simp only [this, Bool.false_eq_true, ↓reduceIte]
        exact hs
  by_cases h2 : k = "jobs"
  · subst h2
    simp only [workflowKK] at hp
    simp only [keyedStrs, List.mem_append]
    exact Or.inl (Or.inr hp)
  rw [workflowKK_plain k _ h1 h2] at hp
  obtain ⟨s, k'⟩ := p
  obtain ⟨hs, rfl⟩ := mem_tag.1 hp
  exact workflowK_keyed k w h1 h2 s hs

/-- level 4: a silent `parse` keeps the key -/
theorem parse_leafK (cfg : Cfg) (doc : Node) (v : Node) (key : String) (hv : (v, key) ∈ keyedScalars doc)
    (hc : (parse cfg doc).2 = []) : RepK v key (keyedStrs (parse cfg doc).1) := by
  simp only [keyedScalars] at hv
  simp only [parse, fixDocPos_content] at hc ⊢
  split at hv
  · rename_i root rest hd
    simp only [hd] at hc ⊢
    simp only [append_nil_iff] at hc
    obtain ⟨⟨⟨hm, hr⟩, hon⟩, hjobs⟩ := hc
    obtain ⟨k, hk⟩ := sect_KK cfg _ root false true (workflowKey cfg) _ "" workflowKeyKeyed v key hv workflowKK hm hr
      (fun kv k st hid => hid rfl ▸ workflowKeyKK_store cfg st kv v key)
      (workflowKK_pres cfg)
    refine hk.mono (workflowKK_final k _ ?_ ?_)
    · exact loop_inv_clean (workflowKey cfg) (fun w => ∀ l, w.jobs = some l → l ≠ [])
        (fun st kv hI hc => workflowKey_jobs cfg st kv hI hc) _ _ (by intro l hl; cases hl) hr
    · cases hj : (loop (workflowKey cfg) {} (parseMapping cfg "workflow" root false true).1).1.jobs.isNone with
      | false => rfl
      | true => simp [hj] at hjobs
  · cases hv

end AL.C12P

/-! ### without the key -/
namespace AL.C03P
open AL.PW AL.Yaml AL.Ast AL.C03R AL.C12R AL.C12P

theorem workflowKK_fst (k : String) (w : Workflow) : (workflowKK k w).map Prod.fst = workflowK k w := by
  unfold workflowKK
  split
  · exact onKStrs_fst _
  · exact C12R.flatMap_fst _ _ _ fun kv => jobKStrs_fst kv.2
  · exact tag_fst _ _

theorem workflowK_final (k : String) (w : Workflow) (hI : ∀ l, w.jobs = some l → l ≠ []) (hj : w.jobs.isNone = false) :
    ∀ s ∈ workflowK k w, s ∈ valueStrs w :=
  sub_of_fst (workflowKK_final k w hI hj) (workflowKK_fst k w) (keyedStrs_fst w)

theorem parse_leaf (cfg : Cfg) (doc : Node) (v : Node) (hv : v ∈ valueScalars doc) (hc : (parse cfg doc).2 = []) :
    Rep v (valueStrs (parse cfg doc).1) :=
  RepK.all (fun v key hv => parse_leafK cfg doc v key hv hc) (keyedScalars_fst doc) (keyedStrs_fst _) v hv

end AL.C03P
