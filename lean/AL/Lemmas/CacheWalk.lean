import AL.Model.ProjRun
import AL.Lemmas.C14Members
/-
  The walk of the project case over the jobs of a file (AL.ProjCall, AL.ProjRun), one cache threaded through rule
  workflow-call, `calcNeedsType` and `checkWorkflowCall`: the layer under AL.Props.C10Once (and through it C09Proj), C10Files,
  C02Proj and AL.Lemmas.C14DSim.
  * what one look-up does to the cache and to what the cache answers (`cacheGet_remember`, `answer_remember`, `find_spec`);
  * the shape lemmas: WHICH look-up a step of the walk makes does not depend on the cache (`wcJob_shape`,
    `callLookup_shape`, `needsStep_shape`), so every property of the walk is proved per kind of step;
  * two ways of following the walk, each job by job up to the whole list of jobs:
    `Counts R` — a graded relation between the cache before and after, for a walk whose look-ups and bad-format puts are at
    specs in `R`, that counts the reports of one callee's defect (instances: "at most once" `T` in AL.Props.C10Once, "exactly
    when it decides" `C10F.E` in C10Files, and, the count ignored, `Reach R`: the cache after is reached from the cache
    before by such look-ups and puts);
    `SameOn R` — two caches that answer alike on `R` give the same results.
  Namespaces: `AL.C10O` (the cache, the counts, the shape lemmas, `Counts`), `AL.C10F` (the specs of a file, `Covers`, `SameOn`,
  `Reach`).
-/
namespace AL.C10O
open AL AL.Ast AL.CallMeta AL.ProjCall

def decided (c : Cache) (spec : String) : Bool := (cacheGet c spec).isSome

theorem cacheGet_put (c : Cache) (k k' : String) (v : Option Meta) :
    cacheGet (cachePut c k v) k' = if k' = k then some v else cacheGet c k' := by
  simp only [cachePut, cacheGet, List.find?_cons]
  by_cases hk : k' = k
  · subst hk; simp
  · have : ¬ (k = k') := fun h => hk h.symm
    simp [hk, this]

theorem decided_put (c : Cache) (k k' : String) (v : Option Meta) :
    decided (cachePut c k v) k' = (decide (k' = k) || decided c k') := by
  simp only [decided, cacheGet_put]
  by_cases hk : k' = k <;> simp [hk]

def isDefectCode (code : String) : Bool := code = "callee-unreadable" || code = "callee-broken"

theorem cacheGet_remember (env : ProjCall.Env) (c : Cache) (s spec : String) :
    cacheGet (remember env c s) spec =
      if skipped env s then cacheGet c spec
      else if spec = s then (match cacheGet c s with | some v => some v | none => some (diskEntry env s))
      else cacheGet c spec := by
  simp only [remember]
  by_cases hg : skipped env s = true
  · simp [hg]
  · simp only [hg, Bool.false_eq_true, if_false]
    cases hk : cacheGet c s with
    | some v =>
      by_cases e : spec = s
      · subst e; simp [hk]
      · simp [e]
    | none =>
      simp only [cacheGet_put]

theorem answer_put (env : ProjCall.Env) (c : Cache) (u : String) (v : Option Meta) (spec : String) :
    answer env (cachePut c u v) spec =
      if spec = u then (if skipped env u then .nothing else match v with | some m => .found m | none => .nothing)
      else answer env c spec := by
  simp only [answer, cacheGet_put]
  by_cases e : spec = u
  · subst e; simp only [if_true]; cases v <;> rfl
  · simp only [e, if_false]

/-- a look-up changes what the cache answers at the spec looked up only, and there only by dropping the report of a
defect -/
theorem answer_remember (env : ProjCall.Env) (c : Cache) (s spec : String) :
    answer env (remember env c s) spec =
      if spec = s then (match answer env c s with | .err _ => .nothing | f => f) else answer env c spec := by
  simp only [answer, cacheGet_remember]
  by_cases e : spec = s
  · subst e
    simp only [if_true]
    by_cases hg : skipped env spec = true
    · simp only [hg, if_true]
    · simp only [hg, Bool.false_eq_true, if_false]
      cases cacheGet c spec with
      | some v => cases v <;> rfl
      | none => simp only [diskAnswer, diskEntry]; cases env.disk spec <;> rfl
  · by_cases hg : skipped env s = true <;> simp only [e, hg, if_true, Bool.false_eq_true, if_false]

theorem find_spec (env : ProjCall.Env) (c : Cache) (s spec : String) :
    (decided c spec = true → decided (find env c s).1 spec = true) ∧
    (∀ code, (find env c s).2 = .err code → isDefectCode code = true ∧ decided c s = false ∧ decided (find env c s).1 s = true) := by
  simp only [find, decided, cacheGet_remember]
  refine ⟨fun h => ?_, fun code h => ?_⟩
  · by_cases hg : skipped env s = true
    · simpa [hg] using h
    · simp only [hg, Bool.false_eq_true, if_false]
      by_cases e : spec = s
      · subst e
        cases hk : cacheGet c spec <;> simp [hk]
      · simpa [e] using h
  · simp only [answer] at h
    by_cases hg : skipped env s = true
    · simp [hg] at h
    · simp only [hg, Bool.false_eq_true, if_false] at h ⊢
      cases hk : cacheGet c s with
      | some v => cases v <;> simp [hk] at h
      | none =>
        simp only [hk, diskAnswer] at h
        cases hd : env.disk s with
        | ok m => simp [hd] at h
        | missing => simp only [hd, Found.err.injEq] at h; subst h; simp [isDefectCode]
        | broken => simp only [hd, Found.err.injEq] at h; subst h; simp [isDefectCode]

/-- the number of diagnostics in a list that report the defect of the callee `spec` -/
def wcCount (spec : String) (ds : List AL.Rules.Diag) : Nat :=
  (ds.filter fun d => isDefectCode d.code && d.args == [spec]).length

def exCount (spec : String) (ds : List AL.RuleExpr.Diag) : Nat :=
  (ds.filter fun d => isDefectCode d.code && d.args == [spec]).length

theorem checkLocal_no_defect (m : Meta) (call : WorkflowCall) (u : Str) (spec : String) :
    wcCount spec (checkLocal m call u) = 0 := by
  simp only [wcCount, List.length_eq_zero_iff, List.filter_eq_nil_iff]
  intro d hd
  have key : isDefectCode d.code = false := by
    rcases (mem_checkLocal m call u d).1 hd with ⟨_, _, _, _, _, rfl⟩ | ⟨_, _, _, rfl⟩ |
      ⟨_, ⟨_, _, _, _, _, rfl⟩ | ⟨_, _, _, rfl⟩⟩ <;> simp [isDefectCode]
  simp [key]

theorem count_single_wc (spec : String) (pos : ProjCall.Pos) (kind code s : String) (h : isDefectCode code = true) :
    wcCount spec [⟨pos, kind, code, [s]⟩] = if s = spec then 1 else 0 := by
  by_cases hs : s = spec <;> simp [wcCount, h, hs]

theorem count_single_ex (spec : String) (pos : ProjCall.Pos) (code s : String) (h : isDefectCode code = true) :
    exCount spec [⟨pos, code, [s]⟩] = if s = spec then 1 else 0 := by
  by_cases hs : s = spec <;> simp [exCount, h, hs]

theorem wcFound_count (env : ProjCall.Env) (c : Cache) (call : WorkflowCall) (u : Str) (spec : String) :
    wcCount spec (wcFound (find env c u.value).2 call u) =
      (match (find env c u.value).2 with
       | .err _ => if u.value = spec then 1 else 0
       | _ => 0) := by
  obtain ⟨_, herr⟩ := find_spec env c u.value spec
  cases hf : (find env c u.value).2 with
  | nothing => simp [wcFound, wcCount]
  | found m => simp [wcFound, checkLocal_no_defect]
  | err code => exact count_single_wc spec _ _ _ _ (herr code hf).1

theorem exFound_count (env : ProjCall.Env) (c : Cache) (u : Str) (spec : String) :
    exCount spec (exFound (find env c u.value).2 u) =
      (match (find env c u.value).2 with
       | .err _ => if u.value = spec then 1 else 0
       | _ => 0) := by
  obtain ⟨_, herr⟩ := find_spec env c u.value spec
  cases hf : (find env c u.value).2 with
  | nothing => simp [exFound, exCount]
  | found m => simp [exFound, exCount]
  | err code => exact count_single_ex spec _ _ _ (herr code hf).1

theorem exCount_append (spec : String) (a b : List AL.RuleExpr.Diag) : exCount spec (a ++ b) = exCount spec a + exCount spec b := by
  simp [exCount, List.filter_append]

theorem wcCount_append (spec : String) (a b : List AL.Rules.Diag) : wcCount spec (a ++ b) = wcCount spec a + wcCount spec b := by
  simp [wcCount, List.filter_append]

/-! ### what a piece of the visit does with the cache

Rule workflow-call at a job leaves the cache alone, or makes one look-up at the job's `uses:`, or remembers a `./` spec
that is not in the local call format as failed; the expression rule's two look-ups leave it alone or look one `uses:` up.
Which of these happens does not depend on the cache, so every property of the walk below is proved per kind of step. -/

theorem wcJob_shape (env : ProjCall.Env) (j : Job) :
    (∀ c, wcJob env c j = (c, [])) ∨
    ∃ call u, j.workflowCall = some call ∧ call.uses = some u ∧
      ((∀ c, wcJob env c j = ((find env c u.value).1, wcFound (find env c u.value).2 call u)) ∨
       ((u.value = "" || AL.Rules.containsExpr u) = false ∧ AL.Rules.isLocalCallFormat u.value = false ∧
        AL.Rules.isRepoCallFormat u.value = false ∧ u.value.startsWith "./" = true ∧
        ∀ c, wcJob env c j = (cachePut c u.value none, []))) := by
  cases hc : j.workflowCall with
  | none => exact .inl fun c => by simp only [wcJob, hc]
  | some call =>
    cases hu : call.uses with
    | none => exact .inl fun c => by simp only [wcJob, hc, hu]
    | some u =>
      have e : ∀ c, wcJob env c j = wcUses env c call u := fun c => by simp only [wcJob, hc, hu]
      simp only [e, wcUses]
      by_cases h1 : (u.value = "" || AL.Rules.containsExpr u) = true
      · exact .inl fun c => by simp only [h1, if_true]
      · by_cases h2 : AL.Rules.isLocalCallFormat u.value = true
        · exact .inr ⟨call, u, rfl, hu, .inl fun c => by simp only [h1, h2, Bool.false_eq_true, if_false, if_true]⟩
        · by_cases h3 : AL.Rules.isRepoCallFormat u.value = true
          · exact .inl fun c => by simp only [h1, h2, h3, Bool.false_eq_true, if_false, if_true]
          · by_cases h4 : u.value.startsWith "./" = true
            · exact .inr ⟨call, u, rfl, hu, .inr ⟨by simpa using h1, by simpa using h2, by simpa using h3, h4, fun c => by
                simp only [h1, h2, h3, h4, Bool.false_eq_true, if_false, if_true]⟩⟩
            · exact .inl fun c => by simp only [h1, h2, h3, h4, Bool.false_eq_true, if_false]

theorem callLookup_shape (env : ProjCall.Env) (j : Job) :
    (∀ c, callLookup env j c = { cache := c }) ∨
    ∃ call u, j.workflowCall = some call ∧ call.uses = some u ∧ ∀ c, callLookup env j c =
      { cache := (find env c u.value).1, errs := exFound (find env c u.value).2 u,
        inputs := inputsFound (find env c u.value).2 } := by
  cases hc : j.workflowCall with
  | none => exact .inl fun c => by simp only [callLookup, hc]
  | some call =>
    cases hu : call.uses with
    | none => exact .inl fun c => by simp only [callLookup, hc, hu]
    | some u => exact .inr ⟨call, u, rfl, hu, fun c => by simp only [callLookup, hc, hu]⟩

/-- one needed job: which kind of step it is depends on the ids seen so far, not on the rest of the state -/
theorem needsStep_shape (env : ProjCall.Env) (lower : String → String) (jobs : List (String × Job)) (job : Job)
    (seen : List String) (id : Str) :
    (∃ seen', ∀ acc : NeedsOut × List String, acc.2 = seen → needsStep env lower jobs job acc id = (acc.1, seen')) ∨
    ∃ j call u, AL.RuleExpr.lookupJob (lower id.value) jobs = some j ∧ j.workflowCall = some call ∧ call.uses = some u ∧
      ∀ acc : NeedsOut × List String, acc.2 = seen → needsStep env lower jobs job acc id =
        ({ cache := (find env acc.1.cache u.value).1
           errs := acc.1.errs ++ exFound (find env acc.1.cache u.value).2 u
           outs := acc.1.outs ++ outsFound (find env acc.1.cache u.value).2 (lower id.value) },
         seen ++ [lower id.value]) := by
  by_cases h1 : lower id.value = lower job.id.value
  · exact .inl ⟨seen, fun acc hs => by simp only [needsStep, h1, if_true]; exact hs ▸ rfl⟩
  · by_cases h2 : seen.contains (lower id.value) = true
    · exact .inl ⟨seen, fun acc hs => by simp only [needsStep, h1, hs, h2, if_true, if_false]; exact hs ▸ rfl⟩
    · cases hj : AL.RuleExpr.lookupJob (lower id.value) jobs with
      | none => exact .inl ⟨seen, fun acc hs => by
          simp only [needsStep, h1, hs, h2, hj, Bool.false_eq_true, if_false]; exact hs ▸ rfl⟩
      | some j =>
        cases hc : j.workflowCall with
        | none => exact .inl ⟨seen ++ [lower id.value], fun acc hs => by
            simp only [needsStep, h1, hs, h2, hj, hc, Bool.false_eq_true, if_false]⟩
        | some call =>
          cases hu : call.uses with
          | none => exact .inl ⟨seen ++ [lower id.value], fun acc hs => by
              simp only [needsStep, h1, hs, h2, hj, hc, hu, Bool.false_eq_true, if_false]⟩
          | some u => exact .inr ⟨j, call, u, rfl, hc, hu, fun acc hs => by
              simp only [needsStep, h1, hs, h2, hj, hc, hu, Bool.false_eq_true, if_false]⟩

def total (spec : String) (sim : List (String × JobView)) : Nat :=
  (sim.map fun e => wcCount spec e.2.wc + exCount spec e.2.exprErrs).sum

end AL.C10O

namespace AL.C10F
open AL AL.Ast AL.CallMeta AL.ProjCall AL.ProjRun AL.C10O

/-! ### the specs a file references -/

def specOf (j : Job) : Option String :=
  match j.workflowCall with
  | none => none
  | some call => match call.uses with
    | none => none
    | some u => some u.value

/-- the `uses:` of the jobs of a workflow that call a reusable workflow -/
def refsJobs (jobs : List (String × Job)) : List String := jobs.filterMap fun e => specOf e.2

def refs (w : Workflow) : List String := refsJobs (w.jobs.getD [])

/-- every look-up the walk over `jobs` can make is at a spec in `R` -/
def Covers (R : String → Prop) (jobs : List (String × Job)) : Prop :=
  ∀ e ∈ jobs, ∀ call u, e.2.workflowCall = some call → call.uses = some u → R u.value

theorem covers_refs (jobs : List (String × Job)) : Covers (fun s => s ∈ refsJobs jobs) jobs := by
  intro e he call u hc hu
  simp only [refsJobs, List.mem_filterMap]
  exact ⟨e, he, by simp [specOf, hc, hu]⟩

theorem covers_all (jobs : List (String × Job)) : Covers (fun _ => True) jobs := fun _ _ _ _ _ _ => trivial

theorem lookupJob_mem (i : String) : ∀ (jobs : List (String × Job)) (j : Job),
    AL.RuleExpr.lookupJob i jobs = some j → ∃ k, (k, j) ∈ jobs := by
  intro jobs
  induction jobs with
  | nil => intro j h; simp [AL.RuleExpr.lookupJob] at h
  | cons e rest ih =>
    intro j h
    obtain ⟨k, j'⟩ := e
    simp only [AL.RuleExpr.lookupJob] at h
    by_cases hk : k = i
    · simp only [hk, if_true, Option.some.injEq] at h
      subst h; exact ⟨k, by simp⟩
    · simp only [hk, if_false] at h
      obtain ⟨k', hk'⟩ := ih j h
      exact ⟨k', by simp [hk']⟩

end AL.C10F

namespace AL.C10O
open AL AL.Ast AL.CallMeta AL.ProjCall
open AL.C10F (Covers lookupJob_mem)

/-! ### counting along the walk -/

/-- what one look-up reports about `spec` -/
def errAt (spec s : String) (f : Found) : Nat :=
  match f with
  | .err _ => if s = spec then 1 else 0
  | _ => 0

/-- a way of following the walk while it looks up and puts at specs in `R` only, counting the reports of the defect of `spec`:
`X c c' n` for a piece of the visit that takes the cache from `c` to `c'` and reports it `n` times. Pieces compose, a look-up
counts what it reports, remembering a `./` spec that is not in the local call format counts nothing -/
structure Counts (R : String → Prop) (env : ProjCall.Env) (spec : String) (X : Cache → Cache → Nat → Prop) : Prop where
  refl : ∀ c, X c c 0
  comp : ∀ {c c' c'' n m}, X c c' n → X c' c'' m → X c c'' (n + m)
  find : ∀ c s, R s → X c (find env c s).1 (errAt spec s (find env c s).2)
  bad : ∀ c u, R u → AL.Rules.isLocalCallFormat u = false → X c (cachePut c u none) 0

namespace Counts
variable {R : String → Prop} {env : ProjCall.Env} {spec : String} {X : Cache → Cache → Nat → Prop} (hX : Counts R env spec X)
include hX

theorem wcJob (c : Cache) (j : Job) (hj : ∀ call u, j.workflowCall = some call → call.uses = some u → R u.value) :
    X c (wcJob env c j).1 (wcCount spec (wcJob env c j).2) := by
  rcases wcJob_shape env j with h | ⟨call, u, hc, hu, h | ⟨_, hl, _, _, h⟩⟩
  · rw [h]; exact hX.refl c
  · rw [h, wcFound_count]; exact hX.find c u.value (hj call u hc hu)
  · rw [h]; exact hX.bad c u.value (hj call u hc hu) hl

theorem callLookup (c : Cache) (j : Job) (hj : ∀ call u, j.workflowCall = some call → call.uses = some u → R u.value) :
    X c (callLookup env j c).cache (exCount spec (callLookup env j c).errs) := by
  rcases callLookup_shape env j with h | ⟨call, u, hc, hu, h⟩
  · rw [h]; exact hX.refl c
  · simp only [h, exFound_count]; exact hX.find c u.value (hj call u hc hu)

theorem needsStep (lower : String → String) (jobs : List (String × Job)) (hcov : Covers R jobs) (job : Job)
    (acc : NeedsOut × List String) (id : Str) :
    ∃ k, X acc.1.cache (needsStep env lower jobs job acc id).1.cache k ∧
      exCount spec (needsStep env lower jobs job acc id).1.errs = exCount spec acc.1.errs + k := by
  rcases needsStep_shape env lower jobs job acc.2 id with ⟨_, h⟩ | ⟨j, call, u, hj, hc, hu, h⟩
  · rw [h acc rfl]; exact ⟨0, hX.refl _, rfl⟩
  · simp only [h acc rfl, exCount_append, exFound_count]
    obtain ⟨k, hk⟩ := lookupJob_mem _ jobs j hj
    exact ⟨_, hX.find acc.1.cache u.value (hcov (k, j) hk call u hc hu), rfl⟩

theorem needsFold (lower : String → String) (jobs : List (String × Job)) (hcov : Covers R jobs) (job : Job) :
    ∀ (ids : List Str) (acc : NeedsOut × List String),
      ∃ k, X acc.1.cache (ids.foldl (ProjCall.needsStep env lower jobs job) acc).1.cache k ∧
        exCount spec (ids.foldl (ProjCall.needsStep env lower jobs job) acc).1.errs = exCount spec acc.1.errs + k
  | [], acc => ⟨0, hX.refl _, rfl⟩
  | id :: rest, acc => by
    obtain ⟨k1, h1, e1⟩ := hX.needsStep lower jobs hcov job acc id
    obtain ⟨k2, h2, e2⟩ := needsFold lower jobs hcov job rest (ProjCall.needsStep env lower jobs job acc id)
    exact ⟨k1 + k2, hX.comp h1 h2, by simp only [List.foldl_cons]; omega⟩

theorem needsLookups (lower : String → String) (jobs : List (String × Job)) (hcov : Covers R jobs) (job : Job) (c : Cache) :
    X c (needsLookups env lower jobs job c).cache (exCount spec (needsLookups env lower jobs job c).errs) := by
  obtain ⟨k, hk, he⟩ := hX.needsFold lower jobs hcov job (job.needs.getD []) (({ cache := c } : NeedsOut), [])
  simp only [ProjCall.needsLookups]
  rw [he, show exCount spec ([] : List AL.RuleExpr.Diag) = 0 from rfl, Nat.zero_add]
  exact hk

theorem jobsCache (lower : String → String) (jobs : List (String × Job)) (hcov : Covers R jobs) :
    ∀ (l : List (String × Job)) (c : Cache), Covers R l →
      X c (ProjRun.jobsCache env lower jobs l c) (total spec (simulateJobs env lower jobs l c))
  | [], c, _ => hX.refl c
  | (k, j) :: rest, c, hl => by
    have hj : ∀ call u, j.workflowCall = some call → call.uses = some u → R u.value :=
      fun call u => hl (k, j) List.mem_cons_self call u
    simp only [simulateJobs, ProjRun.jobsCache, total, List.map_cons, List.sum_cons, exCount_append, ← Nat.add_assoc]
    exact hX.comp (hX.comp (hX.comp (hX.wcJob c j hj) (hX.needsLookups lower jobs hcov j _)) (hX.callLookup _ j hj))
      (jobsCache lower jobs hcov rest _ fun e he => hl e (List.mem_cons_of_mem _ he))

end Counts

end AL.C10O

namespace AL.C10F
open AL AL.Ast AL.CallMeta AL.ProjCall AL.ProjRun AL.C10O

/-! ### two caches that answer alike on the specs in `R` -/

def SameOn (R : String → Prop) (env : ProjCall.Env) (c c' : Cache) : Prop :=
  ∀ spec, R spec → answer env c spec = answer env c' spec

theorem find_sameOn (R : String → Prop) (env : ProjCall.Env) (c c' : Cache) (s : String) (h : SameOn R env c c') :
    SameOn R env (find env c s).1 (find env c' s).1 := by
  intro spec hR
  show answer env (remember env c s) spec = answer env (remember env c' s) spec
  rw [answer_remember, answer_remember, h spec hR]
  split
  · rename_i e; rw [← e, h spec hR]
  · rfl

theorem find_ans_sameOn (R : String → Prop) (env : ProjCall.Env) (c c' : Cache) (s : String) (h : SameOn R env c c')
    (hs : R s) : (find env c s).2 = (find env c' s).2 := h s hs

theorem putNone_sameOn (R : String → Prop) (env : ProjCall.Env) (c c' : Cache) (u : String) (h : SameOn R env c c') :
    SameOn R env (cachePut c u none) (cachePut c' u none) :=
  fun spec hR => by rw [answer_put, answer_put, h spec hR]

theorem wcJob_sameOn (R : String → Prop) (env : ProjCall.Env) (c c' : Cache) (j : Job) (h : SameOn R env c c')
    (hj : ∀ call u, j.workflowCall = some call → call.uses = some u → R u.value) :
    (wcJob env c j).2 = (wcJob env c' j).2 ∧ SameOn R env (wcJob env c j).1 (wcJob env c' j).1 := by
  rcases wcJob_shape env j with e | ⟨call, u, hc, hu, e | ⟨_, _, _, _, e⟩⟩
  · rw [e, e]; exact ⟨rfl, h⟩
  · rw [e, e]
    exact ⟨by rw [find_ans_sameOn R env c c' u.value h (hj call u hc hu)], find_sameOn R env c c' u.value h⟩
  · rw [e, e]; exact ⟨rfl, putNone_sameOn R env c c' u.value h⟩

theorem callLookup_sameOn (R : String → Prop) (env : ProjCall.Env) (c c' : Cache) (j : Job) (h : SameOn R env c c')
    (hj : ∀ call u, j.workflowCall = some call → call.uses = some u → R u.value) :
    (callLookup env j c).errs = (callLookup env j c').errs ∧ (callLookup env j c).inputs = (callLookup env j c').inputs ∧
    SameOn R env (callLookup env j c).cache (callLookup env j c').cache := by
  rcases callLookup_shape env j with e | ⟨call, u, hc, hu, e⟩
  · rw [e, e]; exact ⟨rfl, rfl, h⟩
  · rw [e, e]
    have e1 := find_ans_sameOn R env c c' u.value h (hj call u hc hu)
    exact ⟨by simp only [e1], by simp only [e1], find_sameOn R env c c' u.value h⟩

theorem needsStep_sameOn (R : String → Prop) (env : ProjCall.Env) (lower : String → String) (jobs : List (String × Job))
    (hcov : Covers R jobs) (job : Job)
    (acc acc' : NeedsOut × List String) (id : Str)
    (h : SameOn R env acc.1.cache acc'.1.cache) (he : acc.1.errs = acc'.1.errs) (ho : acc.1.outs = acc'.1.outs) (hd : acc.2 = acc'.2) :
    SameOn R env (needsStep env lower jobs job acc id).1.cache (needsStep env lower jobs job acc' id).1.cache ∧
    (needsStep env lower jobs job acc id).1.errs = (needsStep env lower jobs job acc' id).1.errs ∧
    (needsStep env lower jobs job acc id).1.outs = (needsStep env lower jobs job acc' id).1.outs ∧
    (needsStep env lower jobs job acc id).2 = (needsStep env lower jobs job acc' id).2 := by
  rcases needsStep_shape env lower jobs job acc.2 id with ⟨_, e⟩ | ⟨j, call, u, hj, hc, hu, e⟩
  · rw [e acc rfl, e acc' hd.symm]; exact ⟨h, he, ho, rfl⟩
  · rw [e acc rfl, e acc' hd.symm]
    obtain ⟨k, hk⟩ := lookupJob_mem _ jobs j hj
    have e1 := find_ans_sameOn R env acc.1.cache acc'.1.cache u.value h (hcov (k, j) hk call u hc hu)
    exact ⟨find_sameOn R env _ _ u.value h, by simp only [e1, he], by simp only [e1, ho], rfl⟩

theorem needsFold_sameOn (R : String → Prop) (env : ProjCall.Env) (lower : String → String) (jobs : List (String × Job))
    (hcov : Covers R jobs) (job : Job) :
    ∀ (ids : List Str) (acc acc' : NeedsOut × List String),
      SameOn R env acc.1.cache acc'.1.cache → acc.1.errs = acc'.1.errs → acc.1.outs = acc'.1.outs → acc.2 = acc'.2 →
      SameOn R env (ids.foldl (needsStep env lower jobs job) acc).1.cache (ids.foldl (needsStep env lower jobs job) acc').1.cache ∧
      (ids.foldl (needsStep env lower jobs job) acc).1.errs = (ids.foldl (needsStep env lower jobs job) acc').1.errs ∧
      (ids.foldl (needsStep env lower jobs job) acc).1.outs = (ids.foldl (needsStep env lower jobs job) acc').1.outs := by
  intro ids
  induction ids with
  | nil => intro acc acc' h he ho _; exact ⟨h, he, ho⟩
  | cons id rest ih =>
    intro acc acc' h he ho hd
    obtain ⟨a, b, c, d⟩ := needsStep_sameOn R env lower jobs hcov job acc acc' id h he ho hd
    simp only [List.foldl_cons]
    exact ih _ _ a b c d

/-- the walk over the jobs of a file gives the same per-job results from two caches that answer alike on the specs the
file references -/
theorem simulateJobs_sameOn (R : String → Prop) (env : ProjCall.Env) (lower : String → String) (jobs : List (String × Job))
    (hcov : Covers R jobs) :
    ∀ (l : List (String × Job)) (c c' : Cache), Covers R l → SameOn R env c c' →
      simulateJobs env lower jobs l c = simulateJobs env lower jobs l c' := by
  intro l
  induction l with
  | nil => intro c c' _ _; rfl
  | cons e rest ih =>
    intro c c' hl h
    obtain ⟨k, j⟩ := e
    have hj : ∀ call u, j.workflowCall = some call → call.uses = some u → R u.value :=
      fun call u => hl (k, j) (by simp) call u
    have hrest : Covers R rest := fun e he => hl e (by simp [he])
    simp only [simulateJobs, needsLookups]
    obtain ⟨w1, w2⟩ := wcJob_sameOn R env c c' j h hj
    obtain ⟨n1, n2, n3⟩ := needsFold_sameOn R env lower jobs hcov j (j.needs.getD [])
      (({ cache := (wcJob env c j).1 } : NeedsOut), []) (({ cache := (wcJob env c' j).1 } : NeedsOut), []) w2 rfl rfl rfl
    obtain ⟨k1, k2, k3⟩ := callLookup_sameOn R env _ _ j n1 hj
    rw [ih _ _ hrest k3, w1, n2, n3, k1, k2]

/-! ### what the visit of a file can do to the cache -/

/-- `c'` is reached from `c` by look-ups and by remembering a `./` spec that is not in the local call format, all at
specs in `R` -/
inductive Reach (R : String → Prop) (env : ProjCall.Env) : Cache → Cache → Prop where
  | refl (c : Cache) : Reach R env c c
  | find (c c' : Cache) (s : String) : R s → Reach R env c c' → Reach R env c (find env c' s).1
  | bad (c c' : Cache) (u : String) : R u → AL.Rules.isLocalCallFormat u = false → Reach R env c c' →
      Reach R env c (cachePut c' u none)

theorem Reach.trans {R : String → Prop} {env : ProjCall.Env} {a b c : Cache} (h1 : Reach R env a b) (h2 : Reach R env b c) :
    Reach R env a c := by
  induction h2 with
  | refl => exact h1
  | find c' s hs _ ih => exact Reach.find _ _ s hs ih
  | bad c' u hr hu _ ih => exact Reach.bad _ _ u hr hu ih

/-- `Reach R` is a way of following the walk (the count is not looked at) -/
theorem reach_counts (R : String → Prop) (env : ProjCall.Env) : Counts R env "" (fun c c' _ => Reach R env c c') :=
  ⟨Reach.refl, Reach.trans, fun c s hs => .find c c s hs (.refl c), fun c u hu hl => .bad c c u hu hl (.refl c)⟩

theorem wcJob_reach (R : String → Prop) (env : ProjCall.Env) (c : Cache) (j : Job)
    (hj : ∀ call u, j.workflowCall = some call → call.uses = some u → R u.value) : Reach R env c (wcJob env c j).1 :=
  (reach_counts R env).wcJob c j hj

theorem callLookup_reach (R : String → Prop) (env : ProjCall.Env) (c : Cache) (j : Job)
    (hj : ∀ call u, j.workflowCall = some call → call.uses = some u → R u.value) :
    Reach R env c (callLookup env j c).cache :=
  (reach_counts R env).callLookup c j hj

theorem needsStep_reach (R : String → Prop) (env : ProjCall.Env) (lower : String → String) (jobs : List (String × Job))
    (hcov : Covers R jobs) (job : Job) (acc : NeedsOut × List String) (id : Str) :
    Reach R env acc.1.cache (needsStep env lower jobs job acc id).1.cache :=
  let ⟨_, h, _⟩ := (reach_counts R env).needsStep lower jobs hcov job acc id; h

theorem needsFold_reach (R : String → Prop) (env : ProjCall.Env) (lower : String → String) (jobs : List (String × Job))
    (hcov : Covers R jobs) (job : Job) :
    ∀ (ids : List Str) (acc : NeedsOut × List String),
      Reach R env acc.1.cache (ids.foldl (needsStep env lower jobs job) acc).1.cache :=
  fun ids acc => let ⟨_, h, _⟩ := (reach_counts R env).needsFold lower jobs hcov job ids acc; h

theorem needsLookups_reach (R : String → Prop) (env : ProjCall.Env) (lower : String → String) (jobs : List (String × Job))
    (hcov : Covers R jobs) (job : Job) (c : Cache) :
    Reach R env c (needsLookups env lower jobs job c).cache :=
  (reach_counts R env).needsLookups lower jobs hcov job c

theorem jobsCache_reach (R : String → Prop) (env : ProjCall.Env) (lower : String → String) (jobs : List (String × Job))
    (hcov : Covers R jobs) :
    ∀ (l : List (String × Job)) (c : Cache), Covers R l → Reach R env c (jobsCache env lower jobs l c) :=
  (reach_counts R env).jobsCache lower jobs hcov

/-- a spec outside `R` keeps its entry -/
theorem reach_untouched (R : String → Prop) (env : ProjCall.Env) (c c' : Cache) (hr : Reach R env c c') (spec : String)
    (hn : ¬ R spec) : cacheGet c' spec = cacheGet c spec := by
  induction hr with
  | refl => rfl
  | find c' s hs _ ih =>
    have e : ¬ spec = s := fun h => hn (h ▸ hs)
    simp only [ProjCall.find, cacheGet_remember, e, if_false]
    by_cases hg : skipped env s = true <;> simp [hg, ih]
  | bad c' u hu _ _ ih =>
    have e : ¬ spec = u := fun h => hn (h ▸ hu)
    simp only [cacheGet_put, e, if_false, ih]

end AL.C10F
