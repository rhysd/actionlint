import AL.Spec.GlobSyntax
/-
  Facts about the declarative syntax itself: strict ⊆ loose and ref ⊆ path; the strict syntax contains no line
  break (and, for refs, none of the characters Git forbids) anywhere; a ref pattern has no space at either end;
  how a character class ends.
-/
namespace AL.Glob
open AL AL.Spec


theorem char_cases (c : Sym) : c.r = 92 ∨ (c.r = 63 ∨ c.r = 43) ∨ c.r = 42 ∨ c.r = 91 ∨ LineBreak c.r ∨ RefInvalid c.r ∨
    Ordinary true c := by
  unfold Ordinary LineBreak RefInvalid; omega

theorem ordinary_of_refInvalid {c : Sym} (h : RefInvalid c.r) : Ordinary false c := by
  unfold RefInvalid at h
  unfold Ordinary LineBreak
  refine ⟨?_, ?_, ?_, ?_, ?_, ?_, fun h => nomatch h⟩ <;> omega

theorem escapable_iff {isRef : Bool} {x : Nat} :
    Escapable isRef x ↔ PathEscapable x ∧ ¬ (isRef = true ∧ (x = 91 ∨ x = 63 ∨ x = 42)) := by
  unfold Escapable PathEscapable
  cases isRef <;> simp only [true_and, false_and, and_true, not_false_eq_true, reduceCtorEq, or_false] <;> omega


/-- The validator's `chars` counter in terms of items. -/
def weight : List Item → Nat
  | [] => 0
  | .single _ :: t => 1 + weight t
  | .range _ _ :: t => 2 + weight t

theorem classBody_ne_nil {strict isRef : Bool} {items : List Item} {rest : List Sym}
    (h : ClassBody strict isRef [] items rest) : False := by cases h

theorem weight_eq_one {items : List Item} (h : weight items = 1) : ∃ c, items = [.single c] := by
  match items, h with
  | [.single c], _ => exact ⟨c, rfl⟩
  | .single _ :: .single _ :: _, h => simp [weight] at h <;> omega
  | .single _ :: .range _ _ :: _, h => simp [weight] at h <;> omega
  | .range _ _ :: _, h => simp [weight] at h <;> omega

theorem weight_ne_one {items : List Item} (h : ClassOK items) : weight items ≠ 1 := by
  intro hw
  obtain ⟨c, hc⟩ := weight_eq_one hw
  exact h.2 c hc

theorem classBody_nil_items {strict isRef : Bool} {l rest : List Sym}
    (h : ClassBody strict isRef l [] rest) : ∃ c, l = c :: rest ∧ c.r = 93 := by
  cases h with
  | close c rest hc => exact ⟨c, rfl, hc⟩

/-- A class body is some symbols, then `]`, then the rest. -/
theorem classBody_split {strict isRef : Bool} {l : List Sym} {items : List Item} {rest : List Sym}
    (h : ClassBody strict isRef l items rest) : ∃ pre c, l = pre ++ c :: rest ∧ c.r = 93 := by
  induction h with
  | close c rest hc => exact ⟨[], c, rfl, hc⟩
  | single c l items rest _ _ _ ih =>
    obtain ⟨pre, d, rfl, hd⟩ := ih
    exact ⟨c :: pre, d, rfl, hd⟩
  | range lo d hi l items rest _ _ _ _ _ ih =>
    obtain ⟨pre, e, rfl, he⟩ := ih
    exact ⟨lo :: d :: hi :: pre, e, rfl, he⟩


/-! `strict` and `isRef` only ever add conditions: switching either off keeps every derivation. -/
section MonoRef
variable {r r' : Bool} (hr : r' = true → r = true)
include hr

theorem eq_false_mono (hf : r = false) : r' = false :=
  Bool.eq_false_iff.2 fun h => Bool.eq_false_iff.1 hf (hr h)

theorem ordinary_mono {c : Sym} (h : Ordinary r c) : Ordinary r' c :=
  ⟨h.1, h.2.1, h.2.2.1, h.2.2.2.1, h.2.2.2.2.1, h.2.2.2.2.2.1, fun h' => h.2.2.2.2.2.2 (hr h')⟩

theorem escapable_mono {x : Nat} (h : Escapable r x) : Escapable r' x :=
  h.imp_right <| .imp_right <| .imp_right <| .imp_left (eq_false_mono hr)

end MonoRef

section Mono
variable {s s' r r' : Bool} (hs : s' = true → s = true) (hr : r' = true → r = true)
include hs hr

theorem member_mono {c : Sym} (h : Member s r c) : Member s' r' c :=
  ⟨h.1, fun h' => ⟨(h.2 (hs h')).1, fun h'' => (h.2 (hs h')).2 (hr h'')⟩⟩

theorem classBody_mono {l : List Sym} {items : List Item} {rest : List Sym} (h : ClassBody s r l items rest) :
    ClassBody s' r' l items rest := by
  induction h with
  | close c rest hc => exact .close c rest hc
  | single c l items rest hm hh _ ih => exact .single c l items rest (member_mono hs hr hm) hh ih
  | range lo d hi l items rest hm hd hm2 hle _ ih =>
    exact .range lo d hi l items rest (member_mono hs hr hm) hd (member_mono hs hr hm2) hle ih

theorem elems_mono {p : Bool} {l : List Sym} (h : Elems s r p l) : Elems s' r' p l := by
  induction h with
  | nil p => exact .nil p
  | ord p c rest ho _ ih => exact .ord p c rest (ordinary_mono hr ho) ih
  | bslash p c rest hf hc hl _ ih => exact .bslash p c rest (eq_false_mono hr hf) hc hl ih
  | esc p b c rest hb he _ ih => exact .esc p b c rest hb (escapable_mono hr he) ih
  | star p c rest hc _ ih => exact .star p c rest hc ih
  | opt c rest hc _ ih => exact .opt c rest hc ih
  | cls p o l items rest ho hb hok _ ih => exact .cls p o l items rest ho (classBody_mono hs hr hb) hok ih

theorem validGlobGen_mono {src : List Sym} (h : ValidGlobGen s r src) : ValidGlobGen s' r' src :=
  ⟨h.1, h.2.1, elems_mono hs hr h.2.2.1, fun h' => h.2.2.2 (hr h')⟩

end Mono


theorem elems_ref_head {strict p : Bool} {c : Sym} {t : List Sym} (h : Elems strict true p (c :: t)) : c.r ≠ 32 := by
  cases h with
  | ord _ _ _ ho => exact fun h32 => ho.2.2.2.2.2.2 rfl (.inl h32)
  | bslash _ _ _ hr => exact nomatch hr
  | esc _ _ _ _ hb => omega
  | star _ _ _ hc => omega
  | opt _ _ hc => omega
  | cls _ _ _ _ _ ho => omega

theorem last_tail {c : Sym} {t : List Sym} {x : Nat} (h : (c :: t).getLast?.map (·.r) = some x) (hc : c.r ≠ x) :
    t.getLast?.map (·.r) = some x := by
  cases t with
  | nil => exact absurd (Option.some.inj h) hc
  | cons a b => rwa [List.getLast?_cons_cons] at h

/-- Inside `[...]` a space is allowed, but the class ends with `]`. -/
theorem elems_ref_last {strict p : Bool} {l : List Sym} (h : Elems strict true p l) :
    l.getLast?.map (·.r) ≠ some 32 := by
  induction h with
  | nil p => exact fun h => nomatch h
  | ord p c rest ho _ ih => exact fun h => ih (last_tail h fun h32 => ho.2.2.2.2.2.2 rfl (.inl h32))
  | bslash p c rest hr => exact nomatch hr
  | esc p b c rest hb he _ ih =>
    refine fun h => ih (last_tail (last_tail h (by omega)) ?_)
    rcases he with h | h | h | ⟨hf, _⟩
    · omega
    · omega
    · omega
    · exact nomatch hf
  | star p c rest hc _ ih => exact fun h => ih (last_tail h (by omega))
  | opt c rest hc _ ih => exact fun h => ih (last_tail h (by omega))
  | cls p o l items rest ho hb hok _ ih =>
    intro h
    have h1 := last_tail h (by omega)
    obtain ⟨pre, c, rfl, hc⟩ := classBody_split hb
    rw [List.getLast?_append, List.getLast?_cons, Option.some_or] at h1
    cases hl : rest.getLast? with
    | none =>
      rw [hl] at h1
      exact absurd (hc.symm.trans (Option.some.inj h1)) (by decide)
    | some x =>
      rw [hl] at h1
      exact ih (hl ▸ h1)


theorem validGlob_loosen {isRef : Bool} {src : List Sym} (h : ValidGlob isRef src) : ValidGlobLoose isRef src :=
  validGlobGen_mono (s' := false) nofun id h

/-- A character that may appear anywhere in a strictly valid pattern. -/
def Plain (isRef : Bool) (c : Sym) : Prop := ¬ LineBreak c.r ∧ (isRef = true → ¬ RefInvalid c.r)

theorem plain_of_r {isRef : Bool} {c : Sym} {x : Nat} (h : c.r = x)
    (hx : x ∉ [13, 10, 32, 9, 126, 94, 58] := by decide) : Plain isRef c := by
  subst h
  simp only [List.mem_cons, List.not_mem_nil, or_false] at hx
  exact ⟨hx ∘ .imp_right .inl, fun _ h => hx (.inr (.inr h))⟩

theorem classBody_plain {isRef : Bool} {l : List Sym} {items : List Item} {rest : List Sym}
    (h : ClassBody true isRef l items rest) : ∀ c ∈ l, c ∈ rest ∨ Plain isRef c := by
  induction h with
  | close c rest hc => exact List.forall_mem_cons.2 ⟨.inr (plain_of_r hc), fun x hx => .inl hx⟩
  | single c l items rest hm hh _ ih => exact List.forall_mem_cons.2 ⟨.inr (hm.2 rfl), ih⟩
  | range lo d hi l items rest hm hd hm2 hle _ ih =>
    exact List.forall_mem_cons.2 ⟨.inr (hm.2 rfl), List.forall_mem_cons.2 ⟨.inr (plain_of_r hd),
      List.forall_mem_cons.2 ⟨.inr (hm2.2 rfl), ih⟩⟩⟩

theorem elems_plain {isRef p : Bool} {l : List Sym} (h : Elems true isRef p l) : ∀ c ∈ l, Plain isRef c := by
  induction h with
  | nil p => exact fun _ hx => nomatch hx
  | ord p c rest ho _ ih => exact List.forall_mem_cons.2 ⟨⟨ho.2.2.2.2.2.1, ho.2.2.2.2.2.2⟩, ih⟩
  | bslash p c rest hr hc hl _ ih => exact List.forall_mem_cons.2 ⟨plain_of_r hc, ih⟩
  | esc p b c rest hb he _ ih =>
    refine List.forall_mem_cons.2 ⟨plain_of_r hb, List.forall_mem_cons.2 ⟨?_, ih⟩⟩
    rcases he with h | h | h | ⟨_, h | h | h⟩ <;> exact plain_of_r h
  | star p c rest hc _ ih => exact List.forall_mem_cons.2 ⟨plain_of_r hc, ih⟩
  | opt c rest hc _ ih => exact List.forall_mem_cons.2 ⟨hc.elim (plain_of_r ·) (plain_of_r ·), ih⟩
  | cls p o l items rest ho hb hok _ ih =>
    exact List.forall_mem_cons.2 ⟨plain_of_r ho, fun x hx => (classBody_plain hb x hx).elim (ih x) id⟩

/-- The documented syntax allows no line break anywhere in the pattern and, for refs, none of
space TAB `~ ^ :` — not even inside `[...]`. -/
theorem validGlob_plain {isRef : Bool} {src : List Sym} (h : ValidGlob isRef src) : ∀ c ∈ src, Plain isRef c := by
  obtain ⟨_, _, hE, _⟩ := h
  have := elems_plain hE
  unfold body at this
  split at this
  · rename_i h33
    cases src with
    | nil => exact fun _ hc => nomatch hc
    | cons a t => exact List.forall_mem_cons.2 ⟨plain_of_r (x := 33) (by simpa using h33), this⟩
  · exact this

end AL.Glob
