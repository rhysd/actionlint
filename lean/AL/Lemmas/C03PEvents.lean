import AL.Lemmas.C12PBase
/-
  C03Parse / C12Parse, level 4, first half: the `on:` section. Webhook events with their filters, `schedule`,
  `workflow_dispatch` and `workflow_call` with their input / secret / output specifications, `repository_dispatch`.
  Only `workflow_call` has scalars with a workflow key (the `default:` of an input, the `value:` of an output). An input, an
  output, the `workflow_call` event and `on:` itself are proved with the key in a `namespace AL.C12P` block, each followed
  by its projections in `AL.C03P`; the blocks alternate because the theorem without the key of one sub-level is what the
  `…Key_store` of the next uses.
-/
namespace AL.C03P
open AL.PW AL.Yaml AL.Ast AL.C03R

/-! ### `schedule:` -/

theorem scheduleItems_leaf (cfg : Cfg) (v : Node) : ∀ (cs : List Node), v ∈ cs.flatMap leaves →
    (scheduleItems cfg cs).2 = [] → Rep v (scheduleItems cfg cs).1
  | [], hv, _ => by simp at hv
  | c :: cs, hv, h => by
    simp only [List.flatMap_cons, List.mem_append] at hv
    simp only [scheduleItems] at h ⊢
    split at h
    · rename_i kv hm1
      by_cases hid : kv.id = "cron"
      · simp only [hid, ne_eq, not_true_eq_false, ↓reduceIte, append_nil_iff] at h
        simp only [hid, ne_eq, not_true_eq_false, ↓reduceIte]
        rcases hv with hv | hv
        · obtain ⟨kv', hkv', k, _, hvk⟩ := mapScalars_clean cfg _ c false true _ v (leaves_mapScalars cfg _ c true v hv h.1.1) h.1.1
          rw [hm1, List.mem_singleton] at hkv'
          subst hkv'
          exact (parseString_leaf _ _ v hvk h.1.2).mono (by simp)
        · exact (scheduleItems_leaf cfg v cs hv h.2).mono (by simp +contextual)
      · simp [hid] at h
    · simp at h

theorem parseScheduleEvent_leaf (cfg : Cfg) (pos : Yaml.Pos) (n : Node) (v : Node) (hv : v ∈ leaves n)
    (h : (parseScheduleEvent cfg pos n).2 = []) :
    ∃ e, (parseScheduleEvent cfg pos n).1 = some e ∧ Rep v (eventStrs e) := by
  simp only [parseScheduleEvent] at h ⊢
  split at h
  · rename_i hc
    have := checkSequence_clean "schedule" n false h
    simp [this.2] at hc
  · rename_i hc
    simp only [hc]
    simp only [append_nil_iff] at h
    have hs := (checkSequence_clean "schedule" n false h.1).1
    rw [leaves_sequence n hs] at hv
    exact ⟨_, rfl, scheduleItems_leaf cfg v _ hv h.2⟩

/-! ### `workflow_dispatch:` -/

def dispatchAttrK (k : String) (st : DispatchInputSt) : List Str :=
  match k with
  | "description" => st.desc.toList
  | "required" => boolStrs st.req
  | "default" => st.dflt.toList
  | "options" => st.opts.getD []
  | _ => []

theorem dispatchAttrK_pres (k : String) (st : DispatchInputSt) (kv : KV) (hne : kv.id ≠ k) :
    ∀ s ∈ dispatchAttrK k st, s ∈ dispatchAttrK k (dispatchAttr st kv).1 := by
  obtain ⟨h1, h2, h3, _, h5⟩ := dispatchAttr_frame st kv
  unfold dispatchAttrK
  split
  · rw [h1 hne]; exact fun _ h => h
  · rw [h2 hne]; exact fun _ h => h
  · rw [h3 hne]; exact fun _ h => h
  · rw [h5 hne]; exact fun _ h => h
  · exact fun _ h => h

def dispatchInputStrs (i : DispatchInput) : List Str :=
  i.description.toList ++ i.dflt.toList ++ boolStrs i.required ++ i.options.getD []

theorem dispatchAttrK_sub (k : String) (st : DispatchInputSt) (key : Str) :
    ∀ s ∈ dispatchAttrK k st, s ∈ dispatchInputStrs ⟨key, st.desc, st.req, st.dflt, st.ty, st.opts⟩ := by
  intro s hs
  simp only [dispatchAttrK] at hs
  simp only [dispatchInputStrs, List.mem_append]
  split at hs
  · exact Or.inl (Or.inl (Or.inl hs))
  · exact Or.inl (Or.inr hs)
  · exact Or.inl (Or.inl (Or.inr hs))
  · exact Or.inr hs
  · cases hs

theorem dispatchAttr_store (st : DispatchInputSt) (kv : KV) (v : Node) (hv : v ∈ dispatchAttrScalars kv.id kv.val)
    (hc : (dispatchAttr st kv).2 = []) : Rep v (dispatchAttrK kv.id (dispatchAttr st kv).1) := by
  revert hc
  simp only [dispatchAttr]
  split
  next h => intro hc; simp only [h, dispatchAttrScalars] at hv; simp only [h, dispatchAttrK]; exact parseString_leaf _ _ v hv hc
  next h => intro hc; simp only [h, dispatchAttrScalars] at hv; simp only [h, dispatchAttrK]; exact parseBool_leaf _ v hv hc
  next h => intro hc; simp only [h, dispatchAttrScalars] at hv; simp only [h, dispatchAttrK]; exact parseString_leaf _ _ v hv hc
  next h => simp [h, dispatchAttrScalars] at hv
  next h => intro hc; simp only [h, dispatchAttrScalars] at hv; simp only [h, dispatchAttrK]; exact parseStringSequence_leaf _ _ _ _ v hv hc
  next => intro hc; simp at hc

theorem dispatchInput_leaf (cfg : Cfg) (input : KV) (v : Node) (hv : v ∈ mapScalars input.val dispatchAttrScalars)
    (h : (dispatchInput cfg input).2 = []) : Rep v (dispatchInputStrs (dispatchInput cfg input).1) := by
  simp only [dispatchInput, append_nil_iff] at h ⊢
  obtain ⟨k, hk⟩ := sect_K cfg _ input.val true true dispatchAttr _ dispatchAttrScalars v hv dispatchAttrK h.1 h.2
    (by
      intro kv k st hid hvk hc
      have := hid rfl
      subst this
      exact dispatchAttr_store st kv v hvk hc)
    dispatchAttrK_pres
  exact hk.mono (dispatchAttrK_sub k _ _)

theorem parseWorkflowDispatchEvent_leaf (cfg : Cfg) (pos : Yaml.Pos) (n : Node) (v : Node) (hv : v ∈ dispatchScalars n)
    (h : (parseWorkflowDispatchEvent cfg pos n).2 = []) : Rep v (eventStrs (parseWorkflowDispatchEvent cfg pos n).1) := by
  unfold parseWorkflowDispatchEvent parseSectionMapping at h ⊢
  simp only [append_nil_iff] at h
  obtain ⟨kv, k, hid, hk, hvk, hc, he⟩ := sect_single cfg _ n true true _ none "inputs" (fun st kv hne => by simp [hne])
    dispatchKeyScalars v hv h.1 h.2
  cases hk rfl
  simp only [he, eventStrs, hid, dispatchKeyScalars, ne_eq, not_true_eq_false, ↓reduceIte, append_nil_iff] at hc hvk ⊢
  obtain ⟨kv', hkv', k', _, hvk'⟩ := mapScalars_clean cfg _ kv.val true false _ v hvk hc.1
  obtain ⟨h1, h2⟩ := mapKVs_clean _ _ hc.2 kv' hkv'
  exact Rep.flatMap h2 (dispatchInput_leaf cfg kv' v hvk' h1)

/-! ### `repository_dispatch:` and the webhook events -/

theorem parseRepositoryDispatchEvent_leaf (cfg : Cfg) (pos : Yaml.Pos) (n : Node) (v : Node) (hv : v ∈ plainEventScalars n)
    (h : (parseRepositoryDispatchEvent cfg pos n).2 = []) : Rep v (eventStrs (parseRepositoryDispatchEvent cfg pos n).1) := by
  unfold parseRepositoryDispatchEvent parseSectionMapping at h ⊢
  simp only [append_nil_iff] at h
  obtain ⟨kv, -, hid, -, hvk, hc, he⟩ := sect_single cfg _ n true true _ none "types" (fun st kv hne => by simp [hne])
    _ v hv h.1 h.2
  simp only [he, eventStrs, hid, ↓reduceIte] at hc ⊢
  exact parseStringOrStringSequence_leaf _ _ _ v hvk hc

def webhookK (k : String) (st : WebhookEvent) : List Str :=
  match k with
  | "types" => st.types.getD []
  | "branches" => filterStrs st.branches
  | "branches-ignore" => filterStrs st.branchesIgnore
  | "tags" => filterStrs st.tags
  | "tags-ignore" => filterStrs st.tagsIgnore
  | "paths" => filterStrs st.paths
  | "paths-ignore" => filterStrs st.pathsIgnore
  | "workflows" => st.workflows.getD []
  | _ => []

theorem webhookK_pres (name : Str) (k : String) (st : WebhookEvent) (kv : KV) (hne : kv.id ≠ k) :
    ∀ s ∈ webhookK k st, s ∈ webhookK k (webhookKey name st kv).1 := by
  -- `webhookK k` reads the field of `k`, which only the key `k` writes (`webhookKey_frame`)
  have F := webhookKey_frame name st kv
  unfold webhookK
  split
  · rw [F.types hne]; exact fun _ h => h
  · rw [F.branches hne]; exact fun _ h => h
  · rw [F.branchesIgnore hne]; exact fun _ h => h
  · rw [F.tags hne]; exact fun _ h => h
  · rw [F.tagsIgnore hne]; exact fun _ h => h
  · rw [F.paths hne]; exact fun _ h => h
  · rw [F.pathsIgnore hne]; exact fun _ h => h
  · rw [F.workflows hne]; exact fun _ h => h
  · exact fun _ h => h

theorem webhookK_sub (k : String) (st : WebhookEvent) : ∀ s ∈ webhookK k st, s ∈ eventStrs (.webhook st) := by
  intro s hs
  simp only [webhookK] at hs
  simp only [eventStrs, List.mem_append]
  split at hs
  all_goals first | (simp only [hs, true_or, or_true]; done) | cases hs

theorem parseWebhookEventFilter_leaf (name : Str) (n : Node) (v : Node) (hv : v ∈ leaves n)
    (h : (parseWebhookEventFilter name n).2 = []) : Rep v (filterStrs (some (parseWebhookEventFilter name n).1)) := by
  simp only [parseWebhookEventFilter] at h ⊢
  exact parseStringOrStringSequence_leaf _ _ _ v hv h

theorem webhookKey_store (name : Str) (st : WebhookEvent) (kv : KV) (v : Node) (hv : v ∈ leaves kv.val)
    (hc : (webhookKey name st kv).2 = []) : Rep v (webhookK kv.id (webhookKey name st kv).1) := by
  revert hc
  simp only [webhookKey]
  split
  next h => intro hc; simp only [h, webhookK]; exact parseStringOrStringSequence_leaf _ _ _ v hv hc
  next h => intro hc; simp only [h, webhookK]; exact parseWebhookEventFilter_leaf _ _ v hv hc
  next h => intro hc; simp only [h, webhookK]; exact parseWebhookEventFilter_leaf _ _ v hv hc
  next h => intro hc; simp only [h, webhookK]; exact parseWebhookEventFilter_leaf _ _ v hv hc
  next h => intro hc; simp only [h, webhookK]; exact parseWebhookEventFilter_leaf _ _ v hv hc
  next h => intro hc; simp only [h, webhookK]; exact parseWebhookEventFilter_leaf _ _ v hv hc
  next h => intro hc; simp only [h, webhookK]; exact parseWebhookEventFilter_leaf _ _ v hv hc
  next h => intro hc; simp only [h, webhookK]; exact parseStringOrStringSequence_leaf _ _ _ v hv hc
  next => intro hc; simp at hc

theorem parseWebhookEvent_leaf (cfg : Cfg) (name : Str) (n : Node) (v : Node) (hv : v ∈ plainEventScalars n)
    (h : (parseWebhookEvent cfg name n).2 = []) : Rep v (eventStrs (parseWebhookEvent cfg name n).1) := by
  simp only [parseWebhookEvent, parseSectionMapping, append_nil_iff] at h ⊢
  obtain ⟨k, hk⟩ := sect_K cfg _ n true true (webhookKey name) _ _ v hv webhookK h.1 h.2
    (fun kv k st _ hvk hc => webhookKey_store name st kv v hvk hc) (webhookK_pres name)
  exact hk.mono (webhookK_sub k _)

/-! ### `workflow_call:` -/

def callInputAttrK (k : String) (st : CallInput × Bool) : List Str :=
  match k with
  | "description" => st.1.description.toList
  | "required" => boolStrs st.1.required
  | "default" => st.1.dflt.toList
  | _ => []

theorem callInputAttrK_pres (k : String) (st : CallInput × Bool) (kv : KV) (hne : kv.id ≠ k) :
    ∀ s ∈ callInputAttrK k st, s ∈ callInputAttrK k (callInputAttr st kv).1 := by
  have F := callInputAttr_frame st kv
  unfold callInputAttrK
  split
  · rw [F.description hne]; exact fun _ h => h
  · rw [F.required hne]; exact fun _ h => h
  · rw [F.dflt hne]; exact fun _ h => h
  · exact fun _ h => h

theorem callInputAttr_store (st : CallInput × Bool) (kv : KV) (v : Node) (hv : v ∈ callInputAttrScalars kv.id kv.val)
    (hc : (callInputAttr st kv).2 = []) : Rep v (callInputAttrK kv.id (callInputAttr st kv).1) := by
  revert hc
  simp only [callInputAttr]
  split
  next h => intro hc; simp only [h, callInputAttrScalars] at hv; simp only [h, callInputAttrK]; exact parseString_leaf _ _ v hv hc
  next h => intro hc; simp only [h, callInputAttrScalars] at hv; simp only [h, callInputAttrK]; exact parseBool_leaf _ v hv hc
  next h =>
    simp only [h, callInputAttrScalars] at hv; simp only [h, callInputAttrK]
    split
    · rename_i hn; simp [hn] at hv
    · rename_i hn
      intro hc
      simp only [hn, Bool.false_eq_true, ↓reduceIte] at hv
      exact parseString_leaf _ _ v hv hc
  next h => simp [h, callInputAttrScalars] at hv
  next => intro hc; simp at hc

end AL.C03P

namespace AL.C12P
open AL.PW AL.Yaml AL.Ast AL.C03P AL.C03R AL.C12R

/-! ### an input of `workflow_call`, with the key -/

def callInputAttrKeyOf (k : String) : String :=
  match k with
  | "default" => "on.workflow_call.inputs.<inputs_id>.default"
  | _ => ""

theorem callInputAttrKeyed_eq (k : String) (y : Node) :
    callInputAttrKeyed k y = under (callInputAttrKeyOf k) (callInputAttrScalars k y) := by
  simp only [callInputAttrKeyed]
  split
  · simp only [callInputAttrKeyOf, callInputAttrScalars]
    split <;> simp
  · simp [callInputAttrKeyOf]

/-- the field ↔ key table of an input of `workflow_call` -/
theorem callInputAttrK_keyed (k : String) (st : CallInput × Bool) :
    ∀ s ∈ callInputAttrK k st, (s, callInputAttrKeyOf k) ∈ callInputKStrs st.1 := by
  intro s hs
  simp only [callInputAttrK] at hs
  simp only [callInputKStrs, List.mem_append]
  split at hs <;> simp_all [callInputAttrKeyOf, mem_tag]

theorem callInput_leafK (cfg : Cfg) (kv : KV) (v : Node) (key : String) (hv : (v, key) ∈ mapKeyed kv.val "" callInputAttrKeyed)
    (h : (callInput cfg kv).2 = []) : RepK v key (callInputKStrs (callInput cfg kv).1) := by
  simp only [callInput, append_nil_iff] at h ⊢
  exact sect_tagK cfg _ kv.val true callInputAttr _ "" _ callInputAttrKeyOf callInputAttrScalars callInputAttrKeyed_eq v key hv
    callInputAttrK _ h.1.1 h.1.2 (fun kv st hvk hc => callInputAttr_store st kv v hvk hc) callInputAttrK_pres
    (fun k => callInputAttrK_keyed k _)

end AL.C12P

namespace AL.C03P
open AL.PW AL.Yaml AL.Ast AL.C03R AL.C12R AL.C12P

theorem callInputAttrK_sub (k : String) (st : CallInput × Bool) : ∀ s ∈ callInputAttrK k st, s ∈ callInputStrs st.1 :=
  sub_of_keyed (callInputAttrK_keyed k st) (callInputKStrs_fst _)

theorem callInput_leaf (cfg : Cfg) (kv : KV) (v : Node) (hv : v ∈ mapScalars kv.val callInputAttrScalars)
    (h : (callInput cfg kv).2 = []) : Rep v (callInputStrs (callInput cfg kv).1) :=
  RepK.all (fun v key hv => callInput_leafK cfg kv v key hv h) (mapKeyed_fst _ _ _ _ callInputAttrKeyed_fst)
    (callInputKStrs_fst _) v hv

theorem callInputs_clean (cfg : Cfg) : ∀ (kvs : List KV), (callInputs cfg kvs).2 = [] →
    ∀ kv ∈ kvs, (callInput cfg kv).2 = [] ∧ (callInput cfg kv).1 ∈ (callInputs cfg kvs).1 := by
  intro kvs h kv hk
  rw [callInputs_mapR] at h ⊢
  exact ⟨mapR_silent.1 h kv hk, List.mem_map.2 ⟨kv, hk, rfl⟩⟩

def callSecretAttrK (k : String) (st : CallSecret) : List Str :=
  match k with
  | "description" => st.description.toList
  | "required" => boolStrs st.required
  | _ => []

theorem callSecretAttrK_pres (k : String) (st : CallSecret) (kv : KV) (hne : kv.id ≠ k) :
    ∀ s ∈ callSecretAttrK k st, s ∈ callSecretAttrK k (callSecretAttr st kv).1 := by
  obtain ⟨_, h1, h2⟩ := callSecretAttr_frame st kv
  unfold callSecretAttrK
  split
  · rw [h1 hne]; exact fun _ h => h
  · rw [h2 hne]; exact fun _ h => h
  · exact fun _ h => h

def callSecretStrs (c : CallSecret) : List Str := c.description.toList ++ boolStrs c.required

theorem callSecret_leaf (cfg : Cfg) (kv : KV) (v : Node) (hv : v ∈ mapScalars kv.val callSecretAttrScalars)
    (h : (callSecret cfg kv).2 = []) : Rep v (callSecretStrs (callSecret cfg kv).1) := by
  simp only [callSecret, append_nil_iff] at h ⊢
  obtain ⟨k, hk⟩ := sect_K cfg _ kv.val true true callSecretAttr _ callSecretAttrScalars v hv callSecretAttrK h.1 h.2
    (by
      intro kv k st hid hvk
      have := hid rfl
      subst this
      simp only [callSecretAttr]
      split
      next h => intro hc; simp only [h, callSecretAttrScalars] at hvk; simp only [h, callSecretAttrK]; exact parseString_leaf _ _ v hvk hc
      next h => intro hc; simp only [h, callSecretAttrScalars] at hvk; simp only [h, callSecretAttrK]; exact parseBool_leaf _ v hvk hc
      next => intro hc; simp at hc)
    callSecretAttrK_pres
  refine hk.mono ?_
  intro s hs
  simp only [callSecretAttrK] at hs
  simp only [callSecretStrs, List.mem_append]
  split at hs
  · exact Or.inl hs
  · exact Or.inr hs
  · cases hs

def callOutputAttrK (k : String) (st : CallOutput) : List Str :=
  match k with
  | "description" => st.description.toList
  | "value" => st.value.toList
  | _ => []

theorem callOutputAttrK_pres (k : String) (st : CallOutput) (kv : KV) (hne : kv.id ≠ k) :
    ∀ s ∈ callOutputAttrK k st, s ∈ callOutputAttrK k (callOutputAttr st kv).1 := by
  obtain ⟨_, h1, h2⟩ := callOutputAttr_frame st kv
  unfold callOutputAttrK
  split
  · rw [h1 hne]; exact fun _ h => h
  · rw [h2 hne]; exact fun _ h => h
  · exact fun _ h => h

/-- the strings of an output of `workflow_call`: the description (checked with the event) and the value (checked after
the jobs) -/
def callOutputStrs (c : CallOutput) : List Str := c.description.toList ++ c.value.toList

end AL.C03P

namespace AL.C12P
open AL.PW AL.Yaml AL.Ast AL.C03P AL.C03R AL.C12R

/-! ### an output of `workflow_call`, with the key -/

/-- the strings of an output of `workflow_call` with their keys: the description (checked with the event, no key) and the
value (checked after the jobs, under its own row) -/
def callOutputKStrs (c : CallOutput) : List (Str × String) :=
  tag "" c.description.toList ++ tag "on.workflow_call.outputs.<output_id>.value" c.value.toList

def callOutputAttrKeyOf (k : String) : String :=
  match k with
  | "value" => "on.workflow_call.outputs.<output_id>.value"
  | _ => ""

theorem callOutputAttrKeyed_eq (k : String) (z : Node) : callOutputAttrKeyed k z = under (callOutputAttrKeyOf k) (leaves z) := by
  simp only [callOutputAttrKeyed]
  split <;> simp [callOutputAttrKeyOf]

theorem callOutputAttrK_keyed (k : String) (st : CallOutput) :
    ∀ s ∈ callOutputAttrK k st, (s, callOutputAttrKeyOf k) ∈ callOutputKStrs st := by
  intro s hs
  simp only [callOutputAttrK] at hs
  simp only [callOutputKStrs, List.mem_append]
  split at hs <;> simp_all [callOutputAttrKeyOf, mem_tag]

theorem callOutput_leafK (cfg : Cfg) (kv : KV) (v : Node) (key : String) (hv : (v, key) ∈ mapKeyed kv.val "" callOutputAttrKeyed)
    (h : (callOutput cfg kv).2 = []) : RepK v key (callOutputKStrs (callOutput cfg kv).1) := by
  simp only [callOutput, append_nil_iff] at h ⊢
  exact sect_tagK cfg _ kv.val true callOutputAttr _ "" _ callOutputAttrKeyOf (fun _ z => leaves z) callOutputAttrKeyed_eq v key hv
    callOutputAttrK _ h.1.1 h.1.2
    (by
      intro kv st hvk
      simp only [callOutputAttr]
      split
      next h => intro hc; simp only [h, callOutputAttrK]; exact (parseString_leaf _ _ v hvk hc).mono (by simp)
      next h => intro hc; simp only [h, callOutputAttrK]; exact (parseString_leaf _ _ v hvk hc).mono (by simp)
      next => intro hc; simp at hc)
    callOutputAttrK_pres (fun k => callOutputAttrK_keyed k _)

end AL.C12P

namespace AL.C03P
open AL.PW AL.Yaml AL.Ast AL.C03R AL.C12R AL.C12P

theorem callOutputKStrs_fst (c : CallOutput) : (callOutputKStrs c).map Prod.fst = callOutputStrs c := by
  simp only [callOutputKStrs, callOutputStrs, List.map_append, tag_fst]

theorem callOutput_leaf (cfg : Cfg) (kv : KV) (v : Node) (hv : v ∈ mapScalars kv.val fun _ z => leaves z)
    (h : (callOutput cfg kv).2 = []) : Rep v (callOutputStrs (callOutput cfg kv).1) :=
  RepK.all (fun v key hv => callOutput_leafK cfg kv v key hv h) (mapKeyed_fst _ _ _ _ callOutputAttrKeyed_fst)
    (callOutputKStrs_fst _) v hv

def callEventK (k : String) (st : CallEventSt) : List Str :=
  match k with
  | "inputs" => (st.inputs.getD []).flatMap callInputStrs
  | "secrets" => (st.secrets.getD []).flatMap fun kv => callSecretStrs kv.2
  | "outputs" => (st.outputs.getD []).flatMap fun kv => callOutputStrs kv.2
  | _ => []

theorem callEventK_pres (cfg : Cfg) (k : String) (st : CallEventSt) (kv : KV) (hne : kv.id ≠ k) :
    ∀ s ∈ callEventK k st, s ∈ callEventK k (callEventKey cfg st kv).1 := by
  obtain ⟨h1, h2, h3⟩ := callEventKey_frame cfg st kv
  unfold callEventK
  split
  · rw [h1 hne]; exact fun _ h => h
  · rw [h2 hne]; exact fun _ h => h
  · rw [h3 hne]; exact fun _ h => h
  · exact fun _ h => h

theorem callEventKey_store (cfg : Cfg) (st : CallEventSt) (kv : KV) (v : Node) (hv : v ∈ callKeyScalars kv.id kv.val)
    (hc : (callEventKey cfg st kv).2 = []) : Rep v (callEventK kv.id (callEventKey cfg st kv).1) := by
  revert hc
  simp only [callEventKey, parseSectionMapping]
  split
  next h =>
    intro hc; simp only [h, callKeyScalars] at hv; simp only [h, callEventK, Option.getD_some]
    simp only [append_nil_iff] at hc
    obtain ⟨kv', hkv', k', _, hvk'⟩ := mapScalars_clean cfg _ kv.val true false _ v hv hc.1
    obtain ⟨h1, h2⟩ := callInputs_clean cfg _ hc.2 kv' hkv'
    exact Rep.flatMap h2 (callInput_leaf cfg kv' v hvk' h1)
  next h =>
    intro hc; simp only [h, callKeyScalars] at hv; simp only [h, callEventK, Option.getD_some]
    simp only [append_nil_iff] at hc
    obtain ⟨kv', hkv', k', _, hvk'⟩ := mapScalars_clean cfg _ kv.val true false _ v hv hc.1
    obtain ⟨h1, h2⟩ := mapKVs_clean _ _ hc.2 kv' hkv'
    exact Rep.flatMap h2 (callSecret_leaf cfg kv' v hvk' h1)
  next h =>
    intro hc; simp only [h, callKeyScalars] at hv; simp only [h, callEventK, Option.getD_some]
    simp only [append_nil_iff] at hc
    obtain ⟨kv', hkv', k', _, hvk'⟩ := mapScalars_clean cfg _ kv.val true false _ v hv hc.1
    obtain ⟨h1, h2⟩ := mapKVs_clean _ _ hc.2 kv' hkv'
    exact Rep.flatMap h2 (callOutput_leaf cfg kv' v hvk' h1)
  next => intro hc; simp at hc

/-- the strings of an event, with the `value:`s of the outputs of `workflow_call` -/
def eventAllStrs (e : Event) : List Str :=
  eventStrs e ++ (match e with
    | .call _ _ outs _ => (outs.getD []).flatMap fun kv => kv.2.value.toList
    | _ => [])

end AL.C03P

namespace AL.C12P
open AL.PW AL.Yaml AL.Ast AL.C03P AL.C03R AL.C12R

/-! ### `workflow_call:`, with the key -/

/-- the keyed strings the loop of `parseWorkflowCallEvent` holds under the key `k` -/
def callEventKK (k : String) (st : CallEventSt) : List (Str × String) :=
  match k with
  | "inputs" => (st.inputs.getD []).flatMap callInputKStrs
  | "outputs" => (st.outputs.getD []).flatMap fun kv => callOutputKStrs kv.2
  | _ => tag "" (callEventK k st)

theorem callEventKK_plain (k : String) (st : CallEventSt) (h1 : k ≠ "inputs") (h2 : k ≠ "outputs") :
    callEventKK k st = tag "" (callEventK k st) := by
  simp only [callEventKK]

theorem callKeyKeyed_plain (k : String) (y : Node) (h1 : k ≠ "inputs") (h2 : k ≠ "outputs") :
    callKeyKeyed k y = under "" (callKeyScalars k y) := by
  simp only [callKeyKeyed]

theorem callEventKey_inputs (cfg : Cfg) (st : CallEventSt) (kv : KV) (hne : kv.id ≠ "inputs") :
    (callEventKey cfg st kv).1.inputs = st.inputs :=
  (callEventKey_frame cfg st kv).1 hne

theorem callEventKey_outputs (cfg : Cfg) (st : CallEventSt) (kv : KV) (hne : kv.id ≠ "outputs") :
    (callEventKey cfg st kv).1.outputs = st.outputs :=
  (callEventKey_frame cfg st kv).2.2 hne

theorem callEventKK_pres (cfg : Cfg) (k : String) (st : CallEventSt) (kv : KV) (hne : kv.id ≠ k) :
    ∀ p ∈ callEventKK k st, p ∈ callEventKK k (callEventKey cfg st kv).1 := by
  intro p hp
  by_cases h1 : k = "inputs"
  · subst h1; simp only [callEventKK] at hp ⊢; rw [callEventKey_inputs cfg st kv hne]; exact hp
  by_cases h2 : k = "outputs"
  · subst h2; simp only [callEventKK] at hp ⊢; rw [callEventKey_outputs cfg st kv hne]; exact hp
  rw [callEventKK_plain k _ h1 h2] at hp ⊢
  exact tag_mono (callEventK_pres cfg k st kv hne) p hp

theorem callEventKeyKK_store (cfg : Cfg) (st : CallEventSt) (kv : KV) (v : Node) (key : String)
    (hv : (v, key) ∈ callKeyKeyed kv.id kv.val) (hc : (callEventKey cfg st kv).2 = []) :
    RepK v key (callEventKK kv.id (callEventKey cfg st kv).1) := by
  by_cases h1 : kv.id = "inputs"
  · simp only [h1, callKeyKeyed] at hv
    simp only [callEventKey, parseSectionMapping, h1, append_nil_iff] at hc ⊢
    simp only [callEventKK, Option.getD_some]
    obtain ⟨kv', hkv', k', _, hvk'⟩ := mapKeyed_clean cfg _ kv.val true false _ _ v key hv hc.1
    obtain ⟨h1, h2⟩ := callInputs_clean cfg _ hc.2 kv' hkv'
    exact RepK.flatMap h2 (callInput_leafK cfg kv' v key hvk' h1)
  by_cases h2 : kv.id = "outputs"
  · simp only [h2, callKeyKeyed] at hv
    simp only [callEventKey, parseSectionMapping, h2, append_nil_iff] at hc ⊢
    simp only [callEventKK, Option.getD_some]
    obtain ⟨kv', hkv', k', _, hvk'⟩ := mapKeyed_clean cfg _ kv.val true false _ _ v key hv hc.1
    obtain ⟨h1, h2⟩ := mapKVs_clean _ _ hc.2 kv' hkv'
    exact RepK.flatMap h2 (callOutput_leafK cfg kv' v key hvk' h1)
  rw [callKeyKeyed_plain _ _ h1 h2] at hv
  rw [callEventKK_plain _ _ h1 h2]
  exact RepK.of_under hv (fun hvk => callEventKey_store cfg st kv v hvk hc)

def valueKey : String := "on.workflow_call.outputs.<output_id>.value"

/-- the strings of an event with their keys, the `value:`s of the outputs of `workflow_call` included -/
def eventAllKStrs (e : Event) : List (Str × String) :=
  eventKStrs e ++ (match e with
    | .call _ _ outs _ => tag valueKey ((outs.getD []).flatMap fun kv => kv.2.value.toList)
    | _ => [])

theorem callEventKK_final (k : String) (st : CallEventSt) (pos : Yaml.Pos) :
    ∀ p ∈ callEventKK k st, p ∈ eventAllKStrs (.call st.inputs st.secrets st.outputs pos) := by
  intro p hp
  simp only [eventAllKStrs, eventKStrs, List.mem_append]
  by_cases h1 : k = "inputs"
  · subst h1; simp only [callEventKK] at hp
    exact Or.inl (Or.inl (Or.inl hp))
  by_cases h2 : k = "outputs"
  · subst h2; simp only [callEventKK, List.mem_flatMap, callOutputKStrs, List.mem_append] at hp
    obtain ⟨kv, hkv, hp | hp⟩ := hp
    · obtain ⟨s, k'⟩ := p
      obtain ⟨hs, rfl⟩ := mem_tag.1 hp
      exact Or.inl (Or.inr (mem_tag.2 ⟨List.mem_flatMap.2 ⟨kv, hkv, hs⟩, rfl⟩))
    · obtain ⟨s, k'⟩ := p
      obtain ⟨hs, rfl⟩ := mem_tag.1 hp
      exact Or.inr (mem_tag.2 ⟨List.mem_flatMap.2 ⟨kv, hkv, hs⟩, rfl⟩)
  rw [callEventKK_plain k _ h1 h2] at hp
  obtain ⟨s, k'⟩ := p
  obtain ⟨hs, rfl⟩ := mem_tag.1 hp
  simp only [callEventK] at hs
  split at hs
  · exact absurd rfl h1
  · refine Or.inl (Or.inl (Or.inr (mem_tag.2 ⟨?_, rfl⟩)))
    simpa [callSecretStrs] using hs
  · exact absurd rfl h2
  · cases hs

theorem parseWorkflowCallEvent_leafK (cfg : Cfg) (pos : Yaml.Pos) (n : Node) (v : Node) (key : String)
    (hv : (v, key) ∈ callKeyed n) (h : (parseWorkflowCallEvent cfg pos n).2 = []) :
    RepK v key (eventAllKStrs (parseWorkflowCallEvent cfg pos n).1) := by
  simp only [parseWorkflowCallEvent, parseSectionMapping, append_nil_iff] at h ⊢
  obtain ⟨k, hk⟩ := sect_KK cfg _ n true true (callEventKey cfg) _ "" callKeyKeyed v key hv callEventKK h.1 h.2
    (fun kv k st hid => hid rfl ▸ callEventKeyKK_store cfg st kv v key)
    (callEventKK_pres cfg)
  exact hk.mono (callEventKK_final k _ pos)

end AL.C12P

namespace AL.C03P
open AL.PW AL.Yaml AL.Ast AL.C03R AL.C12R AL.C12P

theorem eventAllKStrs_fst (e : Event) : (eventAllKStrs e).map Prod.fst = eventAllStrs e := by
  simp only [eventAllKStrs, eventAllStrs, List.map_append, eventKStrs_fst]
  cases e <;> simp only [tag_fst, List.map_nil]

theorem parseWorkflowCallEvent_leaf (cfg : Cfg) (pos : Yaml.Pos) (n : Node) (v : Node) (hv : v ∈ callScalars n)
    (h : (parseWorkflowCallEvent cfg pos n).2 = []) : Rep v (eventAllStrs (parseWorkflowCallEvent cfg pos n).1) :=
  RepK.all (fun v key hv => parseWorkflowCallEvent_leafK cfg pos n v key hv h) (callKeyed_fst n) (eventAllKStrs_fst _) v hv

/-! ### `on:` -/

def outVals (o : Option (List (String × CallOutput))) : List Str :=
  match o with
  | some outs => outs.flatMap fun kv => kv.2.value.toList
  | none => []

/-- the strings of the events, with the output values of the (first) `workflow_call` event — what the rule looks at -/
def onStrs (es : List Event) : List Str := es.flatMap eventStrs ++ outVals (AL.RuleExpr.findCallOutputs es)

theorem findCallOutputs_append_some (o : List (String × CallOutput)) : ∀ (es l : List Event),
    AL.RuleExpr.findCallOutputs es = some o → AL.RuleExpr.findCallOutputs (es ++ l) = some o
  | [], _, h => by simp [AL.RuleExpr.findCallOutputs] at h
  | e :: es, l, h => by
    cases e <;> simp only [List.cons_append, AL.RuleExpr.findCallOutputs] at h ⊢ <;>
      first | exact h | exact findCallOutputs_append_some o es l h

theorem findCallOutputs_append_none : ∀ (es l : List Event),
    AL.RuleExpr.findCallOutputs es = none → AL.RuleExpr.findCallOutputs (es ++ l) = AL.RuleExpr.findCallOutputs l
  | [], _, _ => rfl
  | e :: es, l, h => by
    cases e <;> simp only [List.cons_append, AL.RuleExpr.findCallOutputs] at h ⊢ <;>
      first | exact findCallOutputs_append_none es l h | cases h

theorem eventsOfSeq_clean : ∀ (cs : List Node), (eventsOfSeq cs).2 = [] → ∀ c ∈ cs, c.kind = .scalar
  | [], _, c, hc => by cases hc
  | x :: rest, h, c, hc => by
    simp only [eventsOfSeq] at h
    have h1 : (parseString x false).2 = [] ∧ (eventsOfSeq rest).2 = [] := by
      split at h <;> simp only [append_nil_iff] at h <;> first | exact h | exact ⟨h.1.1, h.2⟩
    rcases List.mem_cons.1 hc with rfl | hc
    · exact (parseString_clean _ _ h1.1).1
    · exact eventsOfSeq_clean rest h1.2 c hc

theorem parseScheduleEvent_kind (cfg : Cfg) (pos : Yaml.Pos) (n : Node) (ev : Event)
    (h : (parseScheduleEvent cfg pos n).1 = some ev) : AL.RuleExpr.findCallOutputs [ev] = none := by
  simp only [parseScheduleEvent] at h
  split at h
  · cases h
  · cases h; rfl

theorem eventOfKey_notcall (cfg : Cfg) (st : List Event) (kv : KV) (hne : kv.id ≠ "workflow_call")
    (h : AL.RuleExpr.findCallOutputs st = none) : AL.RuleExpr.findCallOutputs (eventOfKey cfg st kv).1 = none := by
  rcases eventOfKey_frame cfg st kv with e | ⟨ev, e, hcall, -⟩
  · rw [e]; exact h
  · rw [e, findCallOutputs_append_none _ _ h]
    cases ev <;> first | rfl | exact absurd rfl (hcall hne _ _ _ _)

end AL.C03P

namespace AL.C12P
open AL.PW AL.Yaml AL.Ast AL.C03P AL.C03R AL.C12R

/-! ### `on:`, with the key -/

/-- the keyed strings of the events, with the output values of the (first) `workflow_call` event under their row -/
def onKStrs (es : List Event) : List (Str × String) :=
  es.flatMap eventKStrs ++ tag valueKey (outVals (AL.RuleExpr.findCallOutputs es))

theorem onKStrs_mono (es l : List Event) : ∀ p ∈ onKStrs es, p ∈ onKStrs (es ++ l) := by
  intro p hp
  simp only [onKStrs, List.mem_append, List.flatMap_append] at hp ⊢
  rcases hp with hp | hp
  · exact Or.inl (Or.inl hp)
  · cases hf : AL.RuleExpr.findCallOutputs es with
    | none => simp [hf, outVals, tag] at hp
    | some o =>
      rw [findCallOutputs_append_some o es l hf]
      rw [hf] at hp
      exact Or.inr hp

theorem onKStrs_snoc (es : List Event) (e : Event) (hn : AL.RuleExpr.findCallOutputs es = none) :
    ∀ p ∈ eventAllKStrs e, p ∈ onKStrs (es ++ [e]) := by
  intro p hp
  simp only [onKStrs, List.mem_append, List.flatMap_append, List.flatMap_cons, List.flatMap_nil, List.append_nil]
  simp only [eventAllKStrs, List.mem_append] at hp
  rcases hp with hp | hp
  · exact Or.inl (Or.inr hp)
  · rw [findCallOutputs_append_none es [e] hn]
    cases e <;> first | cases hp | exact Or.inr hp

theorem onKStrs_snoc' (es : List Event) (e : Event) : ∀ p ∈ eventKStrs e, p ∈ onKStrs (es ++ [e]) := by
  intro p hp
  simp only [onKStrs, List.mem_append, List.flatMap_append, List.flatMap_cons, List.flatMap_nil, List.append_nil]
  exact Or.inl (Or.inr hp)

theorem onKStrs_snoc_plain (es : List Event) (e : Event) (hk : eventKStrs e = tag "" (eventStrs e)) :
    ∀ p ∈ tag "" (eventStrs e), p ∈ onKStrs (es ++ [e]) := by
  rw [← hk]; exact onKStrs_snoc' es e

theorem eventKeyed_plain (k : String) (x : Node) (h : k ≠ "workflow_call") : eventKeyed k x = under "" (eventScalars k x) := by
  simp only [eventKeyed]

theorem eventOfKey_storeK (cfg : Cfg) (st : List Event) (kv : KV) (v : Node) (key : String)
    (hv : (v, key) ∈ eventKeyed kv.id kv.val)
    (hI : kv.id = "workflow_call" → AL.RuleExpr.findCallOutputs st = none)
    (hc : (eventOfKey cfg st kv).2 = []) : RepK v key (onKStrs (eventOfKey cfg st kv).1) := by
  by_cases hcall : kv.id = "workflow_call"
  · simp only [hcall, eventKeyed] at hv
    simp only [eventOfKey, hcall] at hc ⊢
    exact (parseWorkflowCallEvent_leafK cfg _ _ v key hv hc).mono (onKStrs_snoc st _ (hI hcall))
  rw [eventKeyed_plain _ _ hcall] at hv
  obtain ⟨hvl, rfl⟩ := mem_under.1 hv
  revert hc
  simp only [eventOfKey]
  split
  next h =>
    intro hc
    simp only [h, eventScalars] at hvl
    obtain ⟨e, he, hrep⟩ := parseScheduleEvent_leaf cfg _ _ v hvl hc
    simp only [he]
    have hk : eventKStrs e = tag "" (eventStrs e) := by
      simp only [parseScheduleEvent] at he
      split at he
      · cases he
      · cases he; rfl
    exact (RepK.of_rep hrep "").mono (onKStrs_snoc_plain st e hk)
  next h =>
    intro hc
    simp only [h, eventScalars] at hvl
    exact (RepK.of_rep (parseWorkflowDispatchEvent_leaf cfg _ _ v hvl hc) "").mono (onKStrs_snoc_plain st _ rfl)
  next h =>
    intro hc
    simp only [h, eventScalars] at hvl
    exact (RepK.of_rep (parseRepositoryDispatchEvent_leaf cfg _ _ v hvl hc) "").mono (onKStrs_snoc_plain st _ rfl)
  next h => exact absurd h hcall
  next h1 h2 h3 h4 =>
    intro hc
    have : eventScalars kv.id kv.val = plainEventScalars kv.val := by
      simp only [eventScalars]
    rw [this] at hvl
    exact (RepK.of_rep (parseWebhookEvent_leaf cfg _ _ v hvl hc) "").mono (onKStrs_snoc_plain st _ rfl)

theorem eventOfKey_monoK (cfg : Cfg) (st : List Event) (kv : KV) : ∀ p ∈ onKStrs st, p ∈ onKStrs (eventOfKey cfg st kv).1 := by
  intro p hp
  simp only [eventOfKey]
  split
  · split
    · exact onKStrs_mono _ _ p hp
    · exact hp
  all_goals exact onKStrs_mono _ _ p hp

/-- **`on:`** — every value scalar of the section is a string of one of the events, listed under the scalar's key -/
theorem parseEvents_leafK (cfg : Cfg) (pos : Yaml.Pos) (n : Node) (v : Node) (key : String) (hv : (v, key) ∈ onKeyed n)
    (h : (parseEvents cfg pos n).2 = []) : RepK v key (onKStrs ((parseEvents cfg pos n).1.getD [])) := by
  simp only [onKeyed] at hv
  split at hv
  · rename_i hk
    simp only [parseEvents, parseSectionMapping, hk] at h ⊢
    simp only [append_nil_iff] at h
    simp only [Option.getD_some]
    obtain ⟨k, hq⟩ := sect_keyedK cfg _ n false true (eventOfKey cfg) [] "" eventKeyed v key hv
      (fun k st => k = "workflow_call" → AL.RuleExpr.findCallOutputs st = none) (fun _ st => RepK v key (onKStrs st))
      (fun _ _ => rfl) h.1 h.2
      (by
        intro kv k hid hvk
        have := hid rfl
        subst this
        refine ⟨?_, fun st hI hc => eventOfKey_storeK cfg st kv v key hvk hI hc,
          fun st kv' _ hq _ => hq.mono (eventOfKey_monoK cfg st kv')⟩
        intro st kv' hne hI hl
        exact eventOfKey_notcall cfg st kv' (by rw [← hl]; exact hne) (hI hl))
    exact hq
  · obtain ⟨hvl, rfl⟩ := mem_under.1 hv
    exfalso
    rename_i hk
    simp only [onScalars] at hvl
    simp only [parseEvents] at h
    split at h
    · rename_i hk'
      simp [hk'] at hvl
    · rename_i hk'
      exact hk hk'
    · rename_i hk'
      simp only [hk', List.mem_flatMap] at hvl
      obtain ⟨c, hc, hvc⟩ := hvl
      simp only [append_nil_iff] at h
      have := eventsOfSeq_clean _ h.2 c hc
      simp [this] at hvc
    · rename_i k h1 h2 h3
      cases hk' : n.kind <;> simp_all
end AL.C12P

namespace AL.C03P
open AL.PW AL.Yaml AL.Ast AL.C03R AL.C12R AL.C12P

theorem onKStrs_fst (es : List Event) : (onKStrs es).map Prod.fst = onStrs es := by
  simp only [onKStrs, onStrs, List.map_append, tag_fst, C12R.flatMap_fst _ _ _ eventKStrs_fst]

theorem onStrs_mono (es l : List Event) : ∀ s ∈ onStrs es, s ∈ onStrs (es ++ l) :=
  sub_of_fst (onKStrs_mono es l) (onKStrs_fst es) (onKStrs_fst _)

theorem onStrs_snoc (es : List Event) (e : Event) (hn : AL.RuleExpr.findCallOutputs es = none) :
    ∀ s ∈ eventAllStrs e, s ∈ onStrs (es ++ [e]) :=
  sub_of_fst (onKStrs_snoc es e hn) (eventAllKStrs_fst e) (onKStrs_fst _)

theorem onStrs_snoc' (es : List Event) (e : Event) : ∀ s ∈ eventStrs e, s ∈ onStrs (es ++ [e]) :=
  sub_of_fst (onKStrs_snoc' es e) (eventKStrs_fst e) (onKStrs_fst _)

theorem eventOfKey_store (cfg : Cfg) (st : List Event) (kv : KV) (v : Node) (hv : v ∈ eventScalars kv.id kv.val)
    (hI : kv.id = "workflow_call" → AL.RuleExpr.findCallOutputs st = none)
    (hc : (eventOfKey cfg st kv).2 = []) : Rep v (onStrs (eventOfKey cfg st kv).1) :=
  RepK.all (fun v key hv => eventOfKey_storeK cfg st kv v key hv hI hc) (eventKeyed_fst kv.id kv.val) (onKStrs_fst _) v hv

theorem eventOfKey_mono (cfg : Cfg) (st : List Event) (kv : KV) : ∀ s ∈ onStrs st, s ∈ onStrs (eventOfKey cfg st kv).1 :=
  sub_of_fst (eventOfKey_monoK cfg st kv) (onKStrs_fst st) (onKStrs_fst _)

/-- **`on:`** — every value scalar of the section is a string of one of the events, or `parseEvents` reports -/
theorem parseEvents_leaf (cfg : Cfg) (pos : Yaml.Pos) (n : Node) (v : Node) (hv : v ∈ onScalars n)
    (h : (parseEvents cfg pos n).2 = []) : Rep v (onStrs ((parseEvents cfg pos n).1.getD [])) :=
  RepK.all (fun v key hv => parseEvents_leafK cfg pos n v key hv h) (onKeyed_fst n) (onKStrs_fst _) v hv

end AL.C03P
