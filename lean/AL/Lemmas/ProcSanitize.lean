import AL.Model.Proc
/-
  Lemmas for C20 (a)–(d): `indexOf` specification, fuel irrelevance of `sanitizeAux`, the resulting
  fuel-free equations and induction principle of `sanitize` (one case per way an iteration can go), and by
  that induction length / pointwise / idempotence.
-/
namespace AL.Proc

/-! ### indexOf -/

theorem indexOf_shift (pat s : List Nat) (i : Nat) :
    indexOf pat s i = (indexOf pat s 0).map (· + i) := by
  induction s generalizing i with
  | nil => simp only [indexOf]; split <;> simp
  | cons c cs ih =>
    simp only [indexOf]
    split
    · simp
    · rw [ih (i + 1), ih (0 + 1)]
      cases indexOf pat cs 0 with
      | none => rfl
      | some k => simp; omega

theorem indexOf_cons_neg (pat : List Nat) (c : Nat) (cs : List Nat)
    (h : pat.isPrefixOf (c :: cs) = false) :
    indexOf pat (c :: cs) 0 = (indexOf pat cs 0).map (· + 1) := by
  simp only [indexOf, h]
  rw [indexOf_shift]; simp

/-- specification of a hit -/
theorem indexOf_some (pat s : List Nat) (k : Nat) (h : indexOf pat s 0 = some k) :
    k ≤ s.length ∧ pat.isPrefixOf (s.drop k) = true ∧ ∀ j < k, pat.isPrefixOf (s.drop j) = false := by
  induction s generalizing k with
  | nil =>
    simp only [indexOf] at h
    split at h
    · rename_i hp
      simp at h; subst h
      simp at hp; subst hp; simp
    · simp at h
  | cons c cs ih =>
    by_cases hp : pat.isPrefixOf (c :: cs) = true
    · simp only [indexOf, hp] at h
      simp at h; subst h
      simp [hp]
    · have hp' : pat.isPrefixOf (c :: cs) = false := (Bool.not_eq_true _).mp hp
      rw [indexOf_cons_neg _ _ _ hp'] at h
      cases hk : indexOf pat cs 0 with
      | none => simp [hk] at h
      | some k' =>
        simp [hk] at h; subst h
        obtain ⟨h1, h2, h3⟩ := ih k' hk
        refine ⟨by simp; omega, by simpa using h2, ?_⟩
        intro j hj
        cases j with
        | zero => simpa using hp'
        | succ j => simpa using h3 j (by omega)

/-- converse: a first hit determines `indexOf` -/
theorem indexOf_eq_some (pat s : List Nat) (k : Nat) (hk : k ≤ s.length)
    (hp : pat.isPrefixOf (s.drop k) = true) (hn : ∀ j < k, pat.isPrefixOf (s.drop j) = false) :
    indexOf pat s 0 = some k := by
  induction s generalizing k with
  | nil =>
    simp at hk; subst hk
    simp at hp
    simp [indexOf, hp]
  | cons c cs ih =>
    cases k with
    | zero => simp at hp; simp [indexOf, hp]
    | succ k =>
      have h0 := hn 0 (by omega)
      simp only [List.drop_zero] at h0
      rw [indexOf_cons_neg _ _ _ h0]
      rw [ih k (by simpa using hk) (by simpa using hp) (fun j hj => by simpa using hn (j + 1) (by omega))]
      simp

theorem indexOf_some_len (pat s : List Nat) (k : Nat) (h : indexOf pat s 0 = some k) :
    k + pat.length ≤ s.length := by
  obtain ⟨h1, h2, _⟩ := indexOf_some pat s k h
  have := (List.isPrefixOf_iff_prefix.1 h2).length_le
  simp at this; omega

theorem indexOf_none_tail (pat : List Nat) (c : Nat) (cs : List Nat)
    (h : indexOf pat (c :: cs) 0 = none) : indexOf pat cs 0 = none := by
  simp only [indexOf] at h
  split at h
  · simp at h
  · rw [indexOf_shift] at h
    cases hc : indexOf pat cs 0 with
    | none => rfl
    | some k => rw [hc] at h; simp at h

theorem indexOf_none_drop (pat s : List Nat) (n : Nat) (h : indexOf pat s 0 = none) :
    indexOf pat (s.drop n) 0 = none := by
  induction n generalizing s with
  | zero => simpa using h
  | succ n ih =>
    cases s with
    | nil => simpa using h
    | cons c cs =>
      rw [List.drop_succ_cons]
      exact ih cs (indexOf_none_tail pat c cs h)

theorem indexOf_take (pat s : List Nat) (k : Nat) (h : indexOf pat s 0 = some k) :
    (s.drop k).take pat.length = pat := by
  have h2 := (indexOf_some pat s k h).2.1
  rw [List.isPrefixOf_iff_prefix, List.prefix_iff_eq_take] at h2
  exact h2.symm

/-- no occurrence starts inside the prefix `P` ⇒ the search skips `P` -/
theorem indexOf_append_skip (pat P R : List Nat)
    (h : ∀ j < P.length, pat.isPrefixOf ((P ++ R).drop j) = false) :
    indexOf pat (P ++ R) 0 = (indexOf pat R 0).map (· + P.length) := by
  induction P with
  | nil => simp
  | cons c P ih =>
    have h0 := h 0 (by simp)
    simp only [List.drop_zero, List.cons_append] at h0
    rw [List.cons_append, indexOf_cons_neg _ _ _ h0, ih (fun j hj => by simpa using h (j + 1) (by simp; omega))]
    cases indexOf pat R 0 with
    | none => rfl
    | some k => simp; omega

/-! ### sanitizeAux: unfolding equations -/

theorem sanitizeAux_noOpen (f : Nat) (src : List Nat) (h : indexOf open3 src 0 = none) :
    sanitizeAux f src = src := by
  cases f with
  | zero => rfl
  | succ f => simp [sanitizeAux, h]

theorem sanitizeAux_noClose (f : Nat) (src : List Nat) (s : Nat) (h : indexOf open3 src 0 = some s)
    (h2 : indexOf close2 (src.drop s) 0 = none) :
    sanitizeAux f src = src := by
  cases f with
  | zero => rfl
  | succ f => simp [sanitizeAux, h, h2]

theorem sanitizeAux_hit (f : Nat) (src : List Nat) (s e0 : Nat) (h : indexOf open3 src 0 = some s)
    (h2 : indexOf close2 (src.drop s) 0 = some e0) :
    sanitizeAux (f + 1) src =
      src.take s ++ List.replicate (e0 + 2) 95 ++ sanitizeAux f (src.drop (e0 + s + 2)) := by
  simp only [sanitizeAux, h, h2]
  congr 3
  omega

/-- bounds for a hit -/
theorem hit_bounds (src : List Nat) (s e0 : Nat) (h : indexOf open3 src 0 = some s)
    (h2 : indexOf close2 (src.drop s) 0 = some e0) : e0 + s + 2 ≤ src.length := by
  have h1 := indexOf_some_len _ _ _ h
  have h3 := indexOf_some_len _ _ _ h2
  simp [open3, close2] at h1 h3
  omega

/-! ### fuel irrelevance -/

theorem sanitizeAux_fuel (f g : Nat) (src : List Nat) (hf : src.length ≤ f) (hg : src.length ≤ g) :
    sanitizeAux f src = sanitizeAux g src := by
  induction f generalizing g src with
  | zero =>
    have : src = [] := by simpa using hf
    subst this
    rw [sanitizeAux_noOpen g [] (by simp [indexOf, open3])]
    rfl
  | succ f ih =>
    cases h : indexOf open3 src 0 with
    | none => rw [sanitizeAux_noOpen _ _ h, sanitizeAux_noOpen _ _ h]
    | some s =>
      cases h2 : indexOf close2 (src.drop s) 0 with
      | none => rw [sanitizeAux_noClose _ _ _ h h2, sanitizeAux_noClose _ _ _ h h2]
      | some e0 =>
        have hb := hit_bounds _ _ _ h h2
        cases g with
        | zero => omega
        | succ g =>
          rw [sanitizeAux_hit _ _ _ _ h h2, sanitizeAux_hit _ _ _ _ h h2]
          rw [ih g _ (by simp; omega) (by simp; omega)]

theorem sanitizeAux_eq_sanitize (f : Nat) (src : List Nat) (hf : src.length ≤ f) :
    sanitizeAux f src = sanitize src :=
  sanitizeAux_fuel _ _ _ hf (Nat.le_refl _)


theorem sanitize_hit (src : List Nat) (s e0 : Nat) (h : indexOf open3 src 0 = some s)
    (h2 : indexOf close2 (src.drop s) 0 = some e0) :
    sanitize src = src.take s ++ List.replicate (e0 + 2) 95 ++ sanitize (src.drop (e0 + s + 2)) := by
  have hb := hit_bounds _ _ _ h h2
  rw [← sanitizeAux_eq_sanitize (src.length + 1) src (by omega), sanitizeAux_hit _ _ _ _ h h2,
    sanitizeAux_eq_sanitize _ _ (by simp)]

theorem sanitize_noOpen (src : List Nat) (h : indexOf open3 src 0 = none) : sanitize src = src :=
  sanitizeAux_noOpen _ _ h

theorem sanitize_noClose (src : List Nat) (s : Nat) (h : indexOf open3 src 0 = some s)
    (h2 : indexOf close2 (src.drop s) 0 = none) : sanitize src = src :=
  sanitizeAux_noClose _ _ _ h h2

/-- induction along the iterations of `sanitize`: either the text is returned as it is, or a placeholder is
blanked and the rest, which is shorter, sanitized -/
theorem sanitize_induction {P : List Nat → Prop} (stop : ∀ src, sanitize src = src → P src)
    (hit : ∀ src s e0, indexOf open3 src 0 = some s → indexOf close2 (src.drop s) 0 = some e0 →
      P (src.drop (e0 + s + 2)) → P src) (src : List Nat) : P src := by
  generalize hn : src.length = n
  induction n using Nat.strongRecOn generalizing src with
  | _ n ih =>
    cases h : indexOf open3 src 0 with
    | none => exact stop src (sanitize_noOpen src h)
    | some s =>
      cases h2 : indexOf close2 (src.drop s) 0 with
      | none => exact stop src (sanitize_noClose src s h h2)
      | some e0 =>
        have hb := hit_bounds _ _ _ h h2
        exact hit src s e0 h h2 (ih _ (by rw [List.length_drop]; omega) _ rfl)


section blank
variable (src : List Nat) (s m : Nat) (R : List Nat) (hs : s ≤ src.length)
include hs

theorem length_take_blank : (src.take s ++ List.replicate m 95).length = s + m := by
  rw [List.length_append, List.length_take, List.length_replicate, Nat.min_eq_left hs]

theorem getElem?_blank_old (k : Nat) (hk : k < s) :
    (src.take s ++ List.replicate m 95 ++ R)[k]? = src[k]? := by
  rw [List.append_assoc, List.getElem?_append_left (by rw [List.length_take]; omega),
    List.getElem?_take_of_lt hk]

theorem getElem?_blank_new (k : Nat) (h1 : s ≤ k) (h2 : k < s + m) :
    (src.take s ++ List.replicate m 95 ++ R)[k]? = some 95 := by
  have hts : (src.take s).length = s := by rw [List.length_take]; omega
  rw [List.getElem?_append_left (by rw [length_take_blank src s m hs]; exact h2),
    List.getElem?_append_right (by rw [hts]; exact h1), hts, List.getElem?_replicate, if_pos (by omega)]

theorem getElem?_blank_rest (k : Nat) (h : s + m ≤ k) :
    (src.take s ++ List.replicate m 95 ++ R)[k]? = R[k - (s + m)]? := by
  rw [List.getElem?_append_right (by rw [length_take_blank src s m hs]; exact h), length_take_blank src s m hs]

end blank

/-! ### (a) length -/

theorem sanitize_length (src : List Nat) : (sanitize src).length = src.length := by
  induction src using sanitize_induction with
  | stop src h => rw [h]
  | hit src s e0 h h2 ih =>
    have := hit_bounds _ _ _ h h2
    rw [sanitize_hit src s e0 h h2]
    simp only [List.length_append, List.length_take, List.length_replicate, ih, List.length_drop]
    omega

/-! ### (b) pointwise -/

theorem sanitize_pointwise (src : List Nat) (i : Nat) (hi : i < src.length) :
    (sanitize src)[i]? = some src[i] ∨ (sanitize src)[i]? = some 95 := by
  induction src using sanitize_induction generalizing i with
  | stop src h => left; rw [h]; exact List.getElem?_eq_getElem hi
  | hit src s e0 h h2 ih =>
    rw [sanitize_hit src s e0 h h2]
    have hb := hit_bounds _ _ _ h h2
    have hs : s ≤ src.length := by omega
    by_cases h1 : i < s
    · left; rw [getElem?_blank_old src s _ _ hs i h1]; exact List.getElem?_eq_getElem hi
    · by_cases h3 : i < s + (e0 + 2)
      · right; exact getElem?_blank_new src s _ _ hs i (by omega) h3
      · rw [getElem?_blank_rest src s _ _ hs i (by omega)]
        have := ih (i - (s + (e0 + 2))) (by rw [List.length_drop]; omega)
        have hidx : e0 + s + 2 + (i - (s + (e0 + 2))) = i := by omega
        simpa [hidx] using this

/-! ### (d) idempotence -/

/-- a prefix that contains no start of `${{` is copied -/
theorem sanitize_append_skip (P R : List Nat)
    (h : ∀ j < P.length, open3.isPrefixOf ((P ++ R).drop j) = false) :
    sanitize (P ++ R) = P ++ sanitize R := by
  have hidx := indexOf_append_skip open3 P R h
  cases hr : indexOf open3 R 0 with
  | none =>
    rw [hr] at hidx
    rw [sanitize_noOpen _ hidx, sanitize_noOpen _ hr]
  | some t =>
    rw [hr] at hidx
    simp only [Option.map_some] at hidx
    have hd : (P ++ R).drop (t + P.length) = R.drop t := by
      rw [Nat.add_comm, ← List.drop_drop, List.drop_left]
    cases h2 : indexOf close2 (R.drop t) 0 with
    | none =>
      rw [sanitize_noClose _ _ hidx (by rw [hd]; exact h2), sanitize_noClose _ _ hr h2]
    | some e0 =>
      rw [sanitize_hit _ _ _ hidx (by rw [hd]; exact h2), sanitize_hit _ _ _ hr h2]
      have ht : (P ++ R).take (t + P.length) = P ++ R.take t := by
        rw [Nat.add_comm, List.take_length_add_append]
      have hd2 : (P ++ R).drop (e0 + (t + P.length) + 2) = R.drop (e0 + t + 2) := by
        rw [show e0 + (t + P.length) + 2 = P.length + (e0 + t + 2) by omega, ← List.drop_drop, List.drop_left]
      rw [ht, hd2, List.append_assoc, List.append_assoc, List.append_assoc]

theorem isPrefixOf_open3_iff (l : List Nat) :
    open3.isPrefixOf l = true ↔ l[0]? = some 36 ∧ l[1]? = some 123 ∧ l[2]? = some 123 := by
  match l with
  | [] => simp [open3]
  | [a] => simp [open3, List.isPrefixOf]
  | [a, b] => simp [open3, List.isPrefixOf]
  | a :: b :: c :: r =>
    simp only [open3, List.isPrefixOf, Bool.and_true, Bool.and_eq_true, beq_iff_eq,
      List.getElem?_cons_zero, List.getElem?_cons_succ, Option.some.injEq]
    constructor
    · rintro ⟨h1, h2, h3⟩; exact ⟨h1.symm, h2.symm, h3.symm⟩
    · rintro ⟨h1, h2, h3⟩; exact ⟨h1.symm, h2.symm, h3.symm⟩

/-- blanking the placeholder creates no new `${{` in or before the blanked region: such an occurrence would lie
in the untouched prefix or have a `_` among its three bytes -/
theorem blank_noOpen (src : List Nat) (s m : Nat) (R : List Nat) (hs : s ≤ src.length) (hm : 2 ≤ m)
    (h : ∀ j < s, open3.isPrefixOf (src.drop j) = false) :
    ∀ j < (src.take s ++ List.replicate m 95).length,
      open3.isPrefixOf ((src.take s ++ List.replicate m 95 ++ R).drop j) = false := by
  intro j hj
  rw [length_take_blank src s m hs] at hj
  rw [Bool.eq_false_iff]
  intro hc
  rw [isPrefixOf_open3_iff] at hc
  simp only [List.getElem?_drop, Nat.add_zero] at hc
  obtain ⟨c0, c1, c2⟩ := hc
  by_cases h2 : j + 2 < s
  · refine absurd ?_ (Bool.eq_false_iff.1 (h j (by omega)))
    rw [isPrefixOf_open3_iff]
    simp only [List.getElem?_drop, Nat.add_zero]
    rw [getElem?_blank_old src s m R hs _ (by omega)] at c0 c1 c2
    exact ⟨c0, c1, c2⟩
  · by_cases h0 : s ≤ j
    · rw [getElem?_blank_new src s m R hs _ h0 hj] at c0
      exact absurd c0 (by decide)
    · by_cases h1 : s ≤ j + 1
      · rw [getElem?_blank_new src s m R hs _ h1 (by omega)] at c1
        exact absurd c1 (by decide)
      · rw [getElem?_blank_new src s m R hs _ (by omega) (by omega)] at c2
        exact absurd c2 (by decide)

theorem sanitize_idem (src : List Nat) : sanitize (sanitize src) = sanitize src := by
  induction src using sanitize_induction with
  | stop src h => rw [h, h]
  | hit src s e0 h h2 ih =>
    obtain ⟨hs1, _, hs3⟩ := indexOf_some _ _ _ h
    rw [sanitize_hit src s e0 h h2,
      sanitize_append_skip _ _ (blank_noOpen src s (e0 + 2) _ hs1 (by omega) hs3), ih]

end AL.Proc
