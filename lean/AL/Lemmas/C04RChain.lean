import AL.Props.C03Rule
/-
  The coverage chain of AL.C03R (`every_placeholder_checked`: every value string of the AST is run through `checkExprsIn`,
  under every scope) for a PROPERTY OF THE DIAGNOSTIC'S CODE: if every check of the text of a value string yields
  a diagnostic whose code satisfies `Q`, the rule reports a diagnostic with such a code located at that string. And with the
  exact condition for a bare `if:` (whose text is checked as ONE expression only when it contains no complete `${{ }}`).
  Instances of the walk `AL.Cover` of AL/Props/C03Rule.lean, lemma by lemma; the enumeration `valueStrs` is the one of AL.C03R.
-/
namespace AL.C04R.Chain
open AL AL.Ast AL.Sema AL.RuleExpr

/-- every check of the text yields a diagnostic whose code satisfies `Q`: in a template position; and, where the text is
read as a bare condition — i.e. unless it contains a complete placeholder —, as such -/
structure BadQ (Q : String → Prop) (v : String) : Prop where
  tmpl : ∀ cx key u, ∃ e ∈ (checkExprsIn cx key u v).2, Q e.code
  cond : AL.Matrix.containsExpr v = true ∨ ∀ cx key, ∃ e ∈ (checkOne cx key false (bytesOf v ++ [125, 125])).2, Q e.code

def ReportedQ (Q : String → Prop) (ds : List Diag) (s : Str) : Prop := ∃ d ∈ ds, d.site = s.pos ∧ Q d.code

variable {Q : String → Prop}

theorem BadQ.bad {v : String} (h : BadQ Q v) {lower : String → String} {key : String} : Cover.Bad lower Q key v :=
  ⟨fun cx u _ => h.tmpl cx key u, h.cond.imp id fun hc cx _ => hc cx key⟩

theorem at_has (s : Str) (es : List SemaErr) (h : ∃ e ∈ es, Q e.code) : ReportedQ Q (at_ s es) s :=
  Cover.at_has s h

theorem has_append {a b : List SemaErr} (h : ∃ e ∈ a, Q e.code) : ∃ e ∈ a ++ b, Q e.code :=
  Cover.has_append h

theorem ReportedQ.mono {ds ds' : List Diag} {s : Str} (h : ReportedQ Q ds s) (hs : ∀ d ∈ ds, d ∈ ds') : ReportedQ Q ds' s :=
  Cover.Rep.mono h hs

theorem ReportedQ.left {a b : List Diag} {s : Str} (h : ReportedQ Q a s) : ReportedQ Q (a ++ b) s :=
  Cover.Rep.left h

theorem ReportedQ.right {a b : List Diag} {s : Str} (h : ReportedQ Q b s) : ReportedQ Q (a ++ b) s :=
  Cover.Rep.right h

theorem checkStrU_bad (cx : Cx) (u : Bool) (s : Str) (key : String) (h : BadQ Q s.value) :
    ReportedQ Q (checkStrU cx u (some s) key).2 s :=
  Cover.checkStrU_rep cx rfl u s key h.bad

theorem checkString_bad (cx : Cx) (s : Str) (key : String) (h : BadQ Q s.value) : ReportedQ Q (checkString cx (some s) key) s :=
  checkStrU_bad cx false s key h

theorem checkScriptString_bad (cx : Cx) (s : Str) (key : String) (h : BadQ Q s.value) :
    ReportedQ Q (checkScriptString cx (some s) key) s :=
  checkStrU_bad cx true s key h

theorem checkStrings_bad (cx : Cx) (ss : List Str) (key : String) (s : Str) (hm : s ∈ ss) (h : BadQ Q s.value) :
    ReportedQ Q (checkStrings cx (some ss) key) s :=
  Cover.checkStrings_cov cx rfl (some ss) key s hm h.bad

theorem checkOneExpression_bad (cx : Cx) (s : Str) (what key : String) (h : BadQ Q s.value) :
    ReportedQ Q (checkOneExpression cx (some s) what key).2 s :=
  Cover.checkOneExpression_cov cx rfl (some s) what key s (List.mem_singleton.2 rfl) h.bad

theorem mustBe_bad (p : Ty → Bool) (code what : String) (s : Str) (r : Option Ty × List Diag) (h : ReportedQ Q r.2 s) :
    ReportedQ Q (mustBe p code what (some s) r).2 s :=
  Cover.mustBe_rep p code what s r h

theorem checkBool_bad (cx : Cx) (b : Option BoolV) (key : String) (s : Str) (hm : s ∈ AL.C03R.boolStrs b) (h : BadQ Q s.value) :
    ReportedQ Q (checkBool cx b key) s :=
  Cover.checkBool_cov cx rfl b key s hm h.bad

theorem checkNumberExpression_bad (cx : Cx) (s : Str) (what key : String) (h : BadQ Q s.value) :
    ReportedQ Q (checkNumberExpression cx (some s) what key).2 s :=
  mustBe_bad _ _ _ s _ (checkOneExpression_bad cx s what key h)

theorem checkObjectExpression_bad (cx : Cx) (s : Str) (what key : String) (h : BadQ Q s.value) :
    ReportedQ Q (checkObjectExpression cx (some s) what key).2 s :=
  mustBe_bad _ _ _ s _ (checkOneExpression_bad cx s what key h)

theorem checkArrayExpression_bad (cx : Cx) (s : Str) (what key : String) (h : BadQ Q s.value) :
    ReportedQ Q (checkArrayExpression cx (some s) what key).2 s :=
  mustBe_bad _ _ _ s _ (checkOneExpression_bad cx s what key h)

theorem checkInt_bad (cx : Cx) (i : Option IntV) (key : String) (s : Str) (hm : s ∈ AL.C03R.intStrs i) (h : BadQ Q s.value) :
    ReportedQ Q (checkInt cx i key) s :=
  Cover.checkInt_cov cx rfl i key s hm h.bad

theorem checkFloat_bad (cx : Cx) (f : Option FloatV) (key : String) (s : Str) (hm : s ∈ AL.C03R.floatStrs f) (h : BadQ Q s.value) :
    ReportedQ Q (checkFloat cx f key) s :=
  Cover.checkFloat_cov cx rfl f key s hm h.bad

theorem checkString_opt_bad (cx : Cx) (o : Option Str) (key : String) (s : Str) (hm : s ∈ o.toList) (h : BadQ Q s.value) :
    ReportedQ Q (checkString cx o key) s :=
  Cover.checkString_cov cx rfl o key s hm h.bad

theorem checkStrings_opt_bad (cx : Cx) (o : Option (List Str)) (key : String) (s : Str) (hm : s ∈ o.getD []) (h : BadQ Q s.value) :
    ReportedQ Q (checkStrings cx o key) s :=
  Cover.checkStrings_cov cx rfl o key s hm h.bad

theorem flatMap_reported {α} (l : List α) (f : α → List Diag) (a : α) (ha : a ∈ l) (s : Str) (h : ReportedQ Q (f a) s) :
    ReportedQ Q (l.flatMap f) s :=
  Cover.Rep.flatMap l f a ha h

theorem checkEnv_bad (cx : Cx) (e : Option Ast.Env) (key : String) (s : Str) (hm : s ∈ AL.C03R.envStrs e) (h : BadQ Q s.value) :
    ReportedQ Q (RuleExpr.checkEnv cx e key) s :=
  Cover.checkEnv_cov cx rfl e key s hm h.bad

theorem checkContainer_bad (cx : Cx) (c : Option Container) (key pre : String) (s : Str) (hm : s ∈ AL.C03R.containerStrs c)
    (h : BadQ Q s.value) : ReportedQ Q (checkContainer cx c key pre) s :=
  (Cover.checkContainer_cov cx rfl c key pre _ _ rfl rfl).all (AL.C12R.containerKStrs_fst c ..) hm fun _ => h.bad

theorem checkConcurrency_bad (cx : Cx) (c : Option Concurrency) (key : String) (s : Str) (hm : s ∈ AL.C03R.concurrencyStrs c)
    (h : BadQ Q s.value) : ReportedQ Q (checkConcurrency cx c key) s :=
  Cover.checkConcurrency_cov cx rfl c key s hm h.bad

theorem checkDefaults_bad (cx : Cx) (d : Option Defaults) (key : String) (s : Str) (hm : s ∈ AL.C03R.defaultsStrs d)
    (h : BadQ Q s.value) : ReportedQ Q (checkDefaults cx d key) s :=
  Cover.checkDefaults_cov cx rfl d key s hm h.bad

theorem checkIfCondition_bad (cx : Cx) (o : Option Str) (key : String) (s : Str) (hm : s ∈ o.toList) (h : BadQ Q s.value) :
    ReportedQ Q (checkIfCondition cx o key) s :=
  Cover.checkIfCondition_cov cx rfl o key s hm h.bad

/-! ### matrix -/

theorem rawStringTy_bad (cx : Cx) (isNum : IsNumber) (v : String) (p : RuleExpr.Pos) (h : BadQ Q v) :
    ReportedQ Q (rawStringTy cx isNum v p).2 ⟨v, false, p⟩ :=
  Cover.rawStringTy_rep cx rfl isNum v p h.bad

theorem rawTy_bad (cx : Cx) (isNum : IsNumber) (s : Str) (h : BadQ Q s.value) :
    ∀ (v : AL.Matrix.Raw), s ∈ AL.C03R.rawStrs v → ReportedQ Q (rawTy cx isNum v).2 s :=
  fun v hm => Cover.rawTy_cov cx rfl isNum v s hm h.bad

theorem rawFold_bad (cx : Cx) (isNum : IsNumber) (s : Str) (h : BadQ Q s.value) :
    ∀ (acc : Ty) (vs : List AL.Matrix.Raw), s ∈ AL.C03R.rawStrsL vs → ReportedQ Q (rawFold cx isNum acc vs).2 s :=
  fun acc vs hm => Cover.rawFold_cov cx rfl isNum acc vs s hm h.bad

theorem rawProps_bad (cx : Cx) (isNum : IsNumber) (s : Str) (h : BadQ Q s.value) :
    ∀ (ps : List (String × AL.Matrix.Raw)), s ∈ AL.C03R.rawStrsP ps → ReportedQ Q (RuleExpr.rawProps cx isNum ps).2 s :=
  fun ps hm => Cover.rawProps_cov cx rfl isNum ps s hm h.bad

theorem foldl_reported {α σ : Type} (step : σ × List Diag → α → σ × List Diag) (s : Str)
    (hkeep : ∀ acc x d, d ∈ acc.2 → d ∈ (step acc x).2) (l : List α) (a : α) (ha : a ∈ l)
    (hrep : ∀ acc, ReportedQ Q (step acc a).2 s) : ∀ acc, ReportedQ Q (l.foldl step acc).2 s :=
  Cover.Rep.foldl step s hkeep l a ha hrep

theorem rowTy_bad (cx : Cx) (isNum : IsNumber) (r : MatrixRow) (s : Str) (hm : s ∈ AL.C03R.rowStrs r) (h : BadQ Q s.value) :
    ReportedQ Q (rowTy cx isNum r).2 s :=
  Cover.rowTy_cov cx rfl isNum r s hm h.bad

theorem excludeDiags_bad (cx : Cx) (isNum : IsNumber) (ex : Option MatrixCombinations) (s : Str) (hm : s ∈ AL.C03R.combosStrs ex)
    (h : BadQ Q s.value) : ReportedQ Q (excludeDiags cx isNum ex) s :=
  Cover.excludeDiags_cov cx rfl isNum ex s hm h.bad

theorem includeCombo_keep (cx : Cx) (isNum : IsNumber) (acc : Ty × List Diag) (c : MatrixCombination) (d : Diag)
    (hd : d ∈ acc.2) : d ∈ (includeCombo cx isNum acc c).2 :=
  AL.C03R.includeCombo_keep cx isNum acc c d hd

theorem includeCombo_bad (cx : Cx) (isNum : IsNumber) (acc : Ty × List Diag) (c : MatrixCombination) (s : Str)
    (hm : s ∈ AL.C03R.comboStrs c) (h : BadQ Q s.value) : ReportedQ Q (includeCombo cx isNum acc c).2 s :=
  Cover.includeCombo_cov cx rfl isNum acc c s hm h.bad

theorem checkMatrix_bad (cx : Cx) (isNum : IsNumber) (m : Matrix) (s : Str) (hm : s ∈ AL.C03R.matrixStrs m) (h : BadQ Q s.value) :
    ReportedQ Q (checkMatrix cx isNum m).2 s :=
  Cover.checkMatrix_cov cx rfl isNum m s hm h.bad

/-! ### steps and jobs -/

theorem ite_reported (c : Bool) (a b : List Diag) (s : Str) (ha : ReportedQ Q a s) (hb : ReportedQ Q b s) :
    ReportedQ Q (if c = true then a else b) s :=
  Cover.Rep.ite c ha hb

theorem stepExec_bad (cx : Cx) (e : Exec) (s : Str) (hm : s ∈ AL.C03R.execStrs e) (h : BadQ Q s.value) :
    ReportedQ Q (stepExec cx e).1 s :=
  (Cover.stepExec_cov cx rfl e).all (AL.C12R.execKStrs_fst e) hm fun _ => h.bad

theorem stepDiags_bad (cx : Cx) (n : Step) (s : Str) (hm : s ∈ AL.C03R.stepStrs n) (h : BadQ Q s.value) :
    ReportedQ Q (stepDiags cx n) s :=
  (Cover.stepDiags_cov cx rfl n).all (AL.C12R.stepKStrs_fst n) hm fun _ => h.bad

theorem visitStep_bad (cx : Cx) (n : Step) (s : Str) (hm : s ∈ AL.C03R.stepStrs n) (h : BadQ Q s.value) :
    ReportedQ Q (visitStep cx n).2 s :=
  (Cover.visitStep_cov cx rfl n).all (AL.C12R.stepKStrs_fst n) hm fun _ => h.bad

theorem visitSteps_bad (s : Str) (h : BadQ Q s.value) : ∀ (steps : List Step) (cx : Cx),
    s ∈ steps.flatMap AL.C03R.stepStrs → ReportedQ Q (visitSteps cx steps).2 s :=
  fun steps cx hm =>
  (Cover.visitSteps_cov steps cx rfl).all (AL.C12R.flatMap_fst _ _ _ AL.C12R.stepKStrs_fst) hm fun _ => h.bad

theorem runsOnDiags_bad (cx : Cx) (r : Option Runner) (s : Str) (hm : s ∈ AL.C03R.runnerStrs r) (h : BadQ Q s.value) :
    ReportedQ Q (runsOnDiags cx r) s :=
  Cover.runsOnDiags_cov cx rfl r s hm h.bad

theorem strategyDiags_bad (cx : Cx) (st : Option Strategy) (s : Str) (hm : s ∈ AL.C03R.strategyStrs st) (h : BadQ Q s.value) :
    ReportedQ Q (strategyDiags cx st) s :=
  Cover.strategyDiags_cov cx rfl st s hm h.bad

theorem servicesDiags_bad (cx : Cx) (sv : Option Services) (s : Str) (hm : s ∈ AL.C03R.servicesStrs sv) (h : BadQ Q s.value) :
    ReportedQ Q (servicesDiags cx sv) s :=
  (Cover.servicesDiags_cov cx rfl sv).all (AL.C12R.servicesKStrs_fst sv) hm fun _ => h.bad

theorem checkWorkflowCall_bad (cx : Cx) (c : Option WorkflowCall) (s : Str) (hm : s ∈ AL.C03R.callStrs c) (h : BadQ Q s.value) :
    ReportedQ Q (RuleExpr.checkWorkflowCall cx c) s :=
  (Cover.checkWorkflowCall_cov cx rfl c).all (AL.C12R.callKStrs_fst c) hm fun _ => h.bad

theorem jobPre_bad (cx : Cx) (n : Job) (s : Str) (hm : s ∈ AL.C03R.jobPreStrs n) (h : BadQ Q s.value) :
    ReportedQ Q (jobPre cx n) s :=
  (Cover.jobPre_cov cx rfl n).all (AL.C12R.jobPreKStrs_fst n) hm fun _ => h.bad

theorem jobPost_bad (cx : Cx) (n : Job) (s : Str) (hm : s ∈ AL.C03R.jobPostStrs n) (h : BadQ Q s.value) :
    ReportedQ Q (jobPost cx n) s :=
  (Cover.jobPost_cov cx rfl n).all (AL.C12R.jobPostKStrs_fst n) hm fun _ => h.bad

theorem jobMatrix_bad (cx : Cx) (isNum : IsNumber) (n : Job) (s : Str) (hm : s ∈ AL.C03R.matrixOfStrs n) (h : BadQ Q s.value) :
    ReportedQ Q (jobMatrix cx isNum n).2 s :=
  Cover.jobMatrix_cov cx rfl isNum n s hm h.bad

/-- **every value string of a job is checked**, whatever the scope in effect, the other jobs and the job's position -/
theorem visitJob_bad (cx : Cx) (isNum : IsNumber) (jobs : List (String × Job)) (n : Job) (s : Str) (hm : s ∈ AL.C03R.jobStrs n)
    (h : BadQ Q s.value) : ReportedQ Q (visitJob cx isNum jobs n) s :=
  (Cover.visitJob_cov cx rfl isNum jobs n).all (AL.C12R.jobKStrs_fst n) hm fun _ => h.bad

/-! ### events and the workflow -/

theorem filter_bad (cx : Cx) (f : Option Filter) (s : Str) (hm : s ∈ AL.C03R.filterStrs f) (h : BadQ Q s.value) :
    ReportedQ Q (filterDiags cx f) s :=
  Cover.filter_cov cx rfl f s hm h.bad

theorem webhookDiags_bad (cx : Cx) (e : WebhookEvent) (s : Str) (hm : s ∈ AL.C03R.eventStrs (.webhook e)) (h : BadQ Q s.value) :
    ReportedQ Q (webhookDiags cx e) s :=
  Cover.webhookDiags_cov cx rfl e s hm h.bad

theorem callInputs_bad (cx : Cx) (s : Str) (h : BadQ Q s.value) : ∀ (ins : List Ast.CallInput) (acc : List (String × Ty)),
    s ∈ ins.flatMap AL.C03R.callInputStrs → ReportedQ Q (callInputs cx acc ins).2 s :=
  fun ins acc hm =>
  (Cover.callInputs_cov cx rfl ins acc).all (AL.C12R.flatMap_fst _ _ _ AL.C12R.callInputKStrs_fst) hm fun _ => h.bad

theorem visitEvent_bad (cx : Cx) (e : Ast.Event) (s : Str) (hm : s ∈ AL.C03R.eventStrs e) (h : BadQ Q s.value) :
    ReportedQ Q (visitEvent cx e).2 s :=
  (Cover.visitEvent_cov cx rfl e).all (AL.C12R.eventKStrs_fst e) hm fun _ => h.bad

theorem visitEvents_bad (s : Str) (h : BadQ Q s.value) : ∀ (es : List Ast.Event) (cx : Cx),
    s ∈ es.flatMap AL.C03R.eventStrs → ReportedQ Q (visitEvents cx es).2 s :=
  fun es cx hm =>
  (Cover.visitEvents_cov es cx rfl).all (AL.C12R.flatMap_fst _ _ _ AL.C12R.eventKStrs_fst) hm fun _ => h.bad

/-- **the coverage theorem with the code**: for every workflow AST (linted with or without a project), every value string
every check of whose text yields a diagnostic with a code in `Q` gets such a diagnostic of the expression rule, located at
that string — in every section, at every nesting depth, whatever else the workflow contains. -/
theorem every_placeholder_checked (lower : String → String) (isNum : IsNumber) (w : Workflow) (proj : ProjView) (s : Str)
    (hm : s ∈ AL.C03R.valueStrs w) (h : BadQ Q s.value) : ReportedQ Q (rule lower isNum w proj) s :=
  (Cover.rule_cov lower isNum w proj).all (AL.C12R.keyedStrs_fst w) hm fun _ => h.bad

end AL.C04R.Chain
