import AL.Lemmas.ParseWfLoop
/-
  The key functions of parse.go (`stepKey`, `jobKey`, `workflowKey`, … — the bodies of the `for _, kv := range …` loops):
  each key writes its own field of the state only. Per key function one lemma over all the fields of the state, saying what an
  iteration at a key with id `k` leaves alone (a structure with named fields where there are four or more); the statements
  about a single field that the properties use are its components, `(jobKey_frame cfg st kv).steps`. Beside them, for the keys
  that share the field `exec` of a step: how `exec` is read (`Exec.ofRun`, `Exec.ofAction`), what those keys write
  (`StepKeyWrites`), and `withKey_frame` along the loop of `with:` (`loop_withKey_frame`). A row of a matrix goes in by
  `setAssoc`: `setAssoc_mem`, declared in namespace `AL.C19P`.
-/
namespace AL.PW
open AL.Yaml AL.Ast

/-- what an iteration of the loop of `parseJob` on a key with id `k` leaves alone (`workflowCall` is set by `jobFinish`; the
marks `stepsOnlyKey` / `callOnlyKey` are never cleared) -/
structure JobKeyFrame (st st' : JobSt) (k : String) : Prop where
  id : st'.job.id = st.job.id
  pos : st'.job.pos = st.job.pos
  workflowCall : st'.job.workflowCall = st.job.workflowCall
  name : k ≠ "name" → st'.job.name = st.job.name
  needs : k ≠ "needs" → st'.job.needs = st.job.needs
  runsOn : k ≠ "runs-on" → st'.job.runsOn = st.job.runsOn
  permissions : k ≠ "permissions" → st'.job.permissions = st.job.permissions
  environment : k ≠ "environment" → st'.job.environment = st.job.environment
  concurrency : k ≠ "concurrency" → st'.job.concurrency = st.job.concurrency
  outputs : k ≠ "outputs" → st'.job.outputs = st.job.outputs
  env : k ≠ "env" → st'.job.env = st.job.env
  defaults : k ≠ "defaults" → st'.job.defaults = st.job.defaults
  cond : k ≠ "if" → st'.job.cond = st.job.cond
  steps : k ≠ "steps" → st'.job.steps = st.job.steps
  timeoutMinutes : k ≠ "timeout-minutes" → st'.job.timeoutMinutes = st.job.timeoutMinutes
  strategy : k ≠ "strategy" → st'.job.strategy = st.job.strategy
  continueOnError : k ≠ "continue-on-error" → st'.job.continueOnError = st.job.continueOnError
  container : k ≠ "container" → st'.job.container = st.job.container
  services : k ≠ "services" → st'.job.services = st.job.services
  uses : k ≠ "uses" → st'.call.uses = st.call.uses
  inputs : k ≠ "with" → st'.call.inputs = st.call.inputs
  secrets : k ≠ "secrets" → st'.call.secrets = st.call.secrets ∧ st'.call.inheritSecrets = st.call.inheritSecrets
  stepsOnlyKey : st'.stepsOnlyKey = none → st.stepsOnlyKey = none
  callOnlyKey : st'.callOnlyKey = none → st.callOnlyKey = none

theorem jobKey_frame (cfg : Cfg) (st : JobSt) (kv : KV) : JobKeyFrame st (jobKey cfg st kv).1 kv.id := by
  fun_cases jobKey cfg st kv
  all_goals
    refine ⟨rfl, rfl, rfl, fun h => ?_, fun h => ?_, fun h => ?_, fun h => ?_, fun h => ?_, fun h => ?_, fun h => ?_, fun h => ?_,
      fun h => ?_, fun h => ?_, fun h => ?_, fun h => ?_, fun h => ?_, fun h => ?_, fun h => ?_, fun h => ?_, fun h => ?_,
      fun h => ?_, fun h => ?_, ?_, ?_⟩ <;> first | rfl | exact ⟨rfl, rfl⟩ | contradiction | exact id | exact nofun

structure WorkflowKeyFrame (w w' : Workflow) (k : String) : Prop where
  name : k ≠ "name" → w'.name = w.name
  runName : k ≠ "run-name" → w'.runName = w.runName
  on : k ≠ "on" → w'.on = w.on
  permissions : k ≠ "permissions" → w'.permissions = w.permissions
  env : k ≠ "env" → w'.env = w.env
  defaults : k ≠ "defaults" → w'.defaults = w.defaults
  concurrency : k ≠ "concurrency" → w'.concurrency = w.concurrency
  jobs : k ≠ "jobs" → w'.jobs = w.jobs

theorem workflowKey_frame (cfg : Cfg) (w : Workflow) (kv : KV) : WorkflowKeyFrame w (workflowKey cfg w kv).1 kv.id := by
  unfold workflowKey
  dsimp only
  split <;> refine ⟨fun h => ?_, fun h => ?_, fun h => ?_, fun h => ?_, fun h => ?_, fun h => ?_, fun h => ?_, fun h => ?_⟩ <;>
    first | rfl | exact absurd ‹kv.id = _› h

theorem callEventKey_frame (cfg : Cfg) (st : CallEventSt) (kv : KV) :
    (kv.id ≠ "inputs" → (callEventKey cfg st kv).1.inputs = st.inputs) ∧
    (kv.id ≠ "secrets" → (callEventKey cfg st kv).1.secrets = st.secrets) ∧
    (kv.id ≠ "outputs" → (callEventKey cfg st kv).1.outputs = st.outputs) := by
  unfold callEventKey
  split <;> refine ⟨fun h => ?_, fun h => ?_, fun h => ?_⟩ <;> first | rfl | exact absurd ‹kv.id = _› h

theorem callSecretAttr_frame (st : CallSecret) (attr : KV) :
    (callSecretAttr st attr).1.name = st.name ∧
    (attr.id ≠ "description" → (callSecretAttr st attr).1.description = st.description) ∧
    (attr.id ≠ "required" → (callSecretAttr st attr).1.required = st.required) := by
  unfold callSecretAttr
  split <;> refine ⟨rfl, fun h => ?_, fun h => ?_⟩ <;> first | rfl | exact absurd ‹attr.id = _› h

theorem callOutputAttr_frame (st : CallOutput) (attr : KV) :
    (callOutputAttr st attr).1.name = st.name ∧
    (attr.id ≠ "description" → (callOutputAttr st attr).1.description = st.description) ∧
    (attr.id ≠ "value" → (callOutputAttr st attr).1.value = st.value) := by
  unfold callOutputAttr
  split <;> refine ⟨rfl, fun h => ?_, fun h => ?_⟩ <;> first | rfl | exact absurd ‹attr.id = _› h

structure WebhookKeyFrame (st st' : WebhookEvent) (k : String) : Prop where
  hook : st'.hook = st.hook
  pos : st'.pos = st.pos
  types : k ≠ "types" → st'.types = st.types
  branches : k ≠ "branches" → st'.branches = st.branches
  branchesIgnore : k ≠ "branches-ignore" → st'.branchesIgnore = st.branchesIgnore
  tags : k ≠ "tags" → st'.tags = st.tags
  tagsIgnore : k ≠ "tags-ignore" → st'.tagsIgnore = st.tagsIgnore
  paths : k ≠ "paths" → st'.paths = st.paths
  pathsIgnore : k ≠ "paths-ignore" → st'.pathsIgnore = st.pathsIgnore
  workflows : k ≠ "workflows" → st'.workflows = st.workflows

theorem webhookKey_frame (name : Str) (st : WebhookEvent) (kv : KV) : WebhookKeyFrame st (webhookKey name st kv).1 kv.id := by
  unfold webhookKey
  split <;> refine ⟨rfl, rfl, fun h => ?_, fun h => ?_, fun h => ?_, fun h => ?_, fun h => ?_, fun h => ?_, fun h => ?_, fun h => ?_⟩ <;>
    first | rfl | exact absurd ‹kv.id = _› h

theorem defaultsRunKey_frame (st : DefaultsRun) (attr : KV) :
    (defaultsRunKey st attr).1.pos = st.pos ∧
    (attr.id ≠ "shell" → (defaultsRunKey st attr).1.shell = st.shell) ∧
    (attr.id ≠ "working-directory" → (defaultsRunKey st attr).1.workingDirectory = st.workingDirectory) := by
  unfold defaultsRunKey
  split <;> refine ⟨rfl, fun h => ?_, fun h => ?_⟩ <;> first | rfl | exact absurd ‹attr.id = _› h

/-- `labels:` writes `labels` or, given as a placeholder, `labelsExpr` -/
theorem runsOnKey_frame (st : Runner) (kv : KV) :
    (kv.id ≠ "labels" → (runsOnKey st kv).1.labels = st.labels ∧ (runsOnKey st kv).1.labelsExpr = st.labelsExpr) ∧
    (kv.id ≠ "group" → (runsOnKey st kv).1.group = st.group) := by
  unfold runsOnKey
  split <;> (try split) <;> refine ⟨fun h => ?_, fun h => ?_⟩ <;> first | rfl | exact ⟨rfl, rfl⟩ | exact absurd ‹kv.id = _› h

structure StrategyKeyFrame (st st' : Strategy) (k : String) : Prop where
  pos : st'.pos = st.pos
  matrix : k ≠ "matrix" → st'.matrix = st.matrix
  failFast : k ≠ "fail-fast" → st'.failFast = st.failFast
  maxParallel : k ≠ "max-parallel" → st'.maxParallel = st.maxParallel

theorem strategyKey_frame (cfg : Cfg) (st : Strategy) (kv : KV) : StrategyKeyFrame st (strategyKey cfg st kv).1 kv.id := by
  unfold strategyKey
  split <;> refine ⟨rfl, fun h => ?_, fun h => ?_, fun h => ?_⟩ <;> first | rfl | exact absurd ‹kv.id = _› h

/-- `include:` / `exclude:` write `incl` / `excl`, every other key a row -/
structure MatrixKeyFrame (st st' : Matrix) (k : String) : Prop where
  expr : st'.expr = st.expr
  pos : st'.pos = st.pos
  incl : k ≠ "include" → st'.incl = st.incl
  excl : k ≠ "exclude" → st'.excl = st.excl
  rows : k = "include" ∨ k = "exclude" → st'.rows = st.rows

theorem matrixKey_frame (cfg : Cfg) (st : Matrix) (kv : KV) : MatrixKeyFrame st (matrixKey cfg st kv).1 kv.id := by
  unfold matrixKey
  split
  · exact ⟨rfl, rfl, fun h => absurd ‹kv.id = _› h, fun _ => rfl, fun _ => rfl⟩
  · exact ⟨rfl, rfl, fun _ => rfl, fun h => absurd ‹kv.id = _› h, fun _ => rfl⟩
  · have hr : kv.id = "include" ∨ kv.id = "exclude" → False := fun h => h.elim ‹kv.id = "include" → False› ‹kv.id = "exclude" → False›
    dsimp only
    split
    · exact ⟨rfl, rfl, fun _ => rfl, fun _ => rfl, fun h => (hr h).elim⟩
    · split <;> exact ⟨rfl, rfl, fun _ => rfl, fun _ => rfl, fun h => (hr h).elim⟩

end AL.PW

namespace AL.C19P
open AL.PW

/-- a row goes in by `setAssoc`, which brings in no other entry -/
theorem setAssoc_mem {β : Type} (k : String) (v : β) : ∀ (l : List (String × β)) (p : String × β),
    p ∈ setAssoc k v l → p = (k, v) ∨ p ∈ l
  | [], p, h => by simp only [setAssoc, List.mem_singleton] at h; exact Or.inl h
  | (k', v') :: rest, p, h => by
    simp only [setAssoc] at h
    split at h
    · rcases List.mem_cons.1 h with rfl | h
      · exact Or.inl rfl
      · exact Or.inr (List.mem_cons_of_mem _ h)
    · rcases List.mem_cons.1 h with rfl | h
      · exact Or.inr (by simp)
      · rcases setAssoc_mem k v rest p h with e | hm
        · exact Or.inl e
        · exact Or.inr (List.mem_cons_of_mem _ hm)

end AL.C19P

namespace AL.PW
open AL.Yaml AL.Ast

/-- `entrypoint` and `args` have fields of their own, any other key of `with:` is an input -/
structure WithKeyFrame (st st' : ExecAction) (k : String) : Prop where
  uses : st'.uses = st.uses
  entrypoint : k ≠ "entrypoint" → st'.entrypoint = st.entrypoint
  args : k ≠ "args" → st'.args = st.args
  inputs : k = "entrypoint" ∨ k = "args" → st'.inputs = st.inputs

theorem withKey_frame (st : ExecAction) (input : KV) : WithKeyFrame st (withKey st input).1 input.id := by
  unfold withKey
  split
  · exact ⟨rfl, fun h => absurd ‹input.id = _› h, fun _ => rfl, fun _ => rfl⟩
  · exact ⟨rfl, fun _ => rfl, fun h => absurd ‹input.id = _› h, fun _ => rfl⟩
  · exact ⟨rfl, fun _ => rfl, fun _ => rfl, fun h => (h.elim ‹input.id = "entrypoint" → False› ‹input.id = "args" → False›).elim⟩

theorem loop_withKey_frame : ∀ (kvs : List KV) (init : ExecAction), (loop withKey init kvs).1.uses = init.uses
  | [], _ => rfl
  | kv :: rest, init => by rw [loop_cons]; exact (loop_withKey_frame rest _).trans (withKey_frame init kv).uses

theorem concurrencyKey_frame (st : Concurrency × Bool) (kv : KV) :
    (concurrencyKey st kv).1.1.pos = st.1.pos ∧
    (kv.id ≠ "group" → (concurrencyKey st kv).1.1.group = st.1.group ∧ (concurrencyKey st kv).1.2 = st.2) ∧
    (kv.id ≠ "cancel-in-progress" → (concurrencyKey st kv).1.1.cancelInProgress = st.1.cancelInProgress) := by
  unfold concurrencyKey
  split <;> refine ⟨rfl, fun h => ?_, fun h => ?_⟩ <;> first | rfl | exact ⟨rfl, rfl⟩ | exact absurd ‹kv.id = _› h

theorem environmentKey_frame (st : Environment × Bool) (kv : KV) :
    (environmentKey st kv).1.1.pos = st.1.pos ∧
    (kv.id ≠ "name" → (environmentKey st kv).1.1.name = st.1.name ∧ (environmentKey st kv).1.2 = st.2) ∧
    (kv.id ≠ "url" → (environmentKey st kv).1.1.url = st.1.url) := by
  unfold environmentKey
  split <;> refine ⟨rfl, fun h => ?_, fun h => ?_⟩ <;> first | rfl | exact ⟨rfl, rfl⟩ | exact absurd ‹kv.id = _› h

theorem credentialsKey_frame (st : Credentials) (c : KV) :
    (credentialsKey st c).1.pos = st.pos ∧
    (c.id ≠ "username" → (credentialsKey st c).1.username = st.username) ∧
    (c.id ≠ "password" → (credentialsKey st c).1.password = st.password) := by
  unfold credentialsKey
  split <;> refine ⟨rfl, fun h => ?_, fun h => ?_⟩ <;> first | rfl | exact absurd ‹c.id = _› h

structure ContainerKeyFrame (st st' : Container) (k : String) : Prop where
  pos : st'.pos = st.pos
  image : k ≠ "image" → st'.image = st.image
  credentials : k ≠ "credentials" → st'.credentials = st.credentials
  env : k ≠ "env" → st'.env = st.env
  ports : k ≠ "ports" → st'.ports = st.ports
  volumes : k ≠ "volumes" → st'.volumes = st.volumes
  options : k ≠ "options" → st'.options = st.options

theorem containerKey_frame (cfg : Cfg) (sec : String) (st : Container) (kv : KV) :
    ContainerKeyFrame st (containerKey cfg sec st kv).1 kv.id := by
  unfold containerKey
  split
  -- `credentials` stores only a complete pair
  all_goals try (dsimp only; split)
  all_goals
    refine ⟨rfl, fun h => ?_, fun h => ?_, fun h => ?_, fun h => ?_, fun h => ?_, fun h => ?_⟩ <;>
      first | rfl | exact absurd ‹kv.id = _› h

structure DispatchAttrFrame (st st' : DispatchInputSt) (k : String) : Prop where
  desc : k ≠ "description" → st'.desc = st.desc
  req : k ≠ "required" → st'.req = st.req
  dflt : k ≠ "default" → st'.dflt = st.dflt
  ty : k ≠ "type" → st'.ty = st.ty
  opts : k ≠ "options" → st'.opts = st.opts

theorem dispatchAttr_frame (st : DispatchInputSt) (attr : KV) : DispatchAttrFrame st (dispatchAttr st attr).1 attr.id := by
  unfold dispatchAttr
  split
  all_goals try (dsimp only; split)
  all_goals try split
  all_goals
    refine ⟨fun h => ?_, fun h => ?_, fun h => ?_, fun h => ?_, fun h => ?_⟩ <;> first | rfl | exact absurd ‹attr.id = _› h

/-- the flag beside the input records that `type:` was seen -/
structure CallInputAttrFrame (st st' : CallInput × Bool) (k : String) : Prop where
  name : st'.1.name = st.1.name
  id : st'.1.id = st.1.id
  description : k ≠ "description" → st'.1.description = st.1.description
  required : k ≠ "required" → st'.1.required = st.1.required
  dflt : k ≠ "default" → st'.1.dflt = st.1.dflt
  type : k ≠ "type" → st'.1.type = st.1.type ∧ st'.2 = st.2

theorem callInputAttr_frame (st : CallInput × Bool) (attr : KV) : CallInputAttrFrame st (callInputAttr st attr).1 attr.id := by
  unfold callInputAttr
  split
  all_goals try split
  all_goals
    refine ⟨rfl, rfl, fun h => ?_, fun h => ?_, fun h => ?_, fun h => ?_⟩ <;>
      first | rfl | exact ⟨rfl, rfl⟩ | exact absurd ‹attr.id = _› h

/-- a field of the `run` part of a step's `exec` (none for a step that is not a run step) -/
def _root_.AL.Ast.Exec.ofRun {α : Type} (f : ExecRun → Option α) : Exec → Option α
  | .run e => f e
  | _ => none

/-- a field of the action part -/
def _root_.AL.Ast.Exec.ofAction {α : Type} (f : ExecAction → Option α) : Exec → Option α
  | .action e => f e
  | _ => none

/-- what an iteration of the loop of `parseStep` on a key with id `k` leaves alone. `exec` is written by five keys (`uses`,
`with`: an action step; `run`, `shell`, `working-directory`: a run step), so it is read through its run part / action part: a
key that turns `Exec.none` into a step of one kind sets no other field of it, and a key of the wrong kind is refused -/
structure StepKeyFrame (st st' : StepSt) (k : String) : Prop where
  pos : st'.step.pos = st.step.pos
  id : k ≠ "id" → st'.step.id = st.step.id
  cond : k ≠ "if" → st'.step.cond = st.step.cond
  name : k ≠ "name" → st'.step.name = st.step.name
  env : k ≠ "env" → st'.step.env = st.step.env
  continueOnError : k ≠ "continue-on-error" → st'.step.continueOnError = st.step.continueOnError
  timeoutMinutes : k ≠ "timeout-minutes" → st'.step.timeoutMinutes = st.step.timeoutMinutes
  run : k ≠ "run" → st'.step.exec.ofRun (·.run) = st.step.exec.ofRun (·.run) ∧
    st'.step.exec.ofRun (·.runPos) = st.step.exec.ofRun (·.runPos)
  shell : k ≠ "shell" → st'.step.exec.ofRun (·.shell) = st.step.exec.ofRun (·.shell)
  uses : k ≠ "uses" → st'.step.exec.ofAction (·.uses) = st.step.exec.ofAction (·.uses)
  inputs : k ≠ "with" → st'.step.exec.ofAction (·.inputs) = st.step.exec.ofAction (·.inputs)
  withArgs : k ≠ "with" → st'.step.exec.ofAction (·.entrypoint) = st.step.exec.ofAction (·.entrypoint) ∧
    st'.step.exec.ofAction (·.args) = st.step.exec.ofAction (·.args)
  workDir : k ≠ "working-directory" → st'.workDir = st.workDir

theorem stepKey_frame (cfg : Cfg) (st : StepSt) (kv : KV) : StepKeyFrame st (stepKey cfg st kv).1 kv.id := by
  -- one case per key and, for the five keys of `exec`, per kind of step seen so far
  fun_cases stepKey cfg st kv
  all_goals
    refine ⟨?_, fun h => ?_, fun h => ?_, fun h => ?_, fun h => ?_, fun h => ?_, fun h => ?_, fun h => ?_, fun h => ?_, fun h => ?_,
      fun h => ?_, fun h => ?_, fun h => ?_⟩ <;>
    first
      | rfl
      | exact ⟨rfl, rfl⟩
      | contradiction
      | (simp only [Exec.ofRun, Exec.ofAction, and_self, *]; try exact loop_withKey_frame _ _)

/-- what a silent iteration of one of the keys of `exec` writes (the companion of `StepKeyFrame`): the scalar under `run:` /
`shell:` / `uses:`, accepted by `parseString`; the position of the `run` key; under `with:` the arguments read by `withKey`
into the action seen so far (`e`; the empty one when `with:` comes first) -/
structure StepKeyWrites (cfg : Cfg) (kv : KV) (st' : StepSt) : Prop where
  run : kv.id = "run" → st'.step.exec.ofRun (·.run) = some (parseString kv.val false).1 ∧
    st'.step.exec.ofRun (·.runPos) = some kv.key.pos ∧ (parseString kv.val false).2 = []
  shell : kv.id = "shell" → st'.step.exec.ofRun (·.shell) = some (parseString kv.val false).1 ∧ (parseString kv.val false).2 = []
  uses : kv.id = "uses" → st'.step.exec.ofAction (·.uses) = some (parseString kv.val false).1 ∧ (parseString kv.val false).2 = []
  withArgs : kv.id = "with" → ∃ e : ExecAction,
    st'.step.exec = .action (loop withKey { e with inputs := some [] } (parseSectionMapping cfg "with" kv.val false false).1).1 ∧
    (parseSectionMapping cfg "with" kv.val false false).2 = [] ∧
    (loop withKey { e with inputs := some [] } (parseSectionMapping cfg "with" kv.val false false).1).2 = []

theorem stepKey_writes (cfg : Cfg) (st : StepSt) (kv : KV) (hc : (stepKey cfg st kv).2 = []) :
    StepKeyWrites cfg kv (stepKey cfg st kv).1 := by
  -- `run:` / `shell:` after `uses:` / `with:` are refused with a diagnostic, and the other way round
  refine ⟨fun h => ?_, fun h => ?_, fun h => ?_, fun h => ?_⟩ <;> simp only [stepKey, h] at hc ⊢ <;>
    cases he : st.step.exec <;> simp only [he] at hc ⊢
  case refine_1.action | refine_2.action | refine_3.run | refine_4.run => cases hc
  case refine_1.none | refine_1.run => exact ⟨rfl, rfl, hc⟩
  case refine_2.none | refine_2.run | refine_3.none | refine_3.action => exact ⟨rfl, hc⟩
  case refine_4.none => exact ⟨{}, rfl, List.append_eq_nil_iff.1 hc⟩
  case refine_4.action e => exact ⟨e, rfl, List.append_eq_nil_iff.1 hc⟩

/-- a key of `on:` appends at most one event, of its own kind -/
theorem eventOfKey_frame (cfg : Cfg) (st : List Event) (kv : KV) :
    (eventOfKey cfg st kv).1 = st ∨ ∃ ev, (eventOfKey cfg st kv).1 = st ++ [ev] ∧
      (kv.id ≠ "workflow_call" → ∀ i s o p, ev ≠ .call i s o p) ∧
      (kv.id ≠ "workflow_dispatch" → ∀ i p, ev ≠ .dispatch i p) := by
  unfold eventOfKey
  split
  · dsimp only
    cases hs : (parseScheduleEvent cfg kv.key.pos kv.val).1 with
    | none => exact .inl rfl
    | some ev =>
      refine .inr ⟨ev, rfl, ?_⟩
      unfold parseScheduleEvent at hs
      dsimp only at hs
      split at hs <;> cases hs
      exact ⟨fun _ _ _ _ _ => nofun, fun _ _ _ => nofun⟩
  · exact .inr ⟨_, rfl, fun _ _ _ _ _ => by unfold parseWorkflowDispatchEvent; exact nofun, fun h => absurd ‹kv.id = _› h⟩
  · exact .inr ⟨_, rfl, fun _ _ _ _ _ => by unfold parseRepositoryDispatchEvent; exact nofun,
      fun _ _ _ => by unfold parseRepositoryDispatchEvent; exact nofun⟩
  · exact .inr ⟨_, rfl, fun h => absurd ‹kv.id = _› h, fun _ _ _ => by unfold parseWorkflowCallEvent; exact nofun⟩
  · exact .inr ⟨_, rfl, fun _ _ _ _ _ => by unfold parseWebhookEvent; exact nofun, fun _ _ _ => by unfold parseWebhookEvent; exact nofun⟩

end AL.PW
