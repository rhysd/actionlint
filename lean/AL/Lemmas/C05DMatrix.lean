import AL.Lemmas.C05DJob
import AL.Props.C19Parse
/-
  AL.Props.C05Doc, the matrix: what `parseStrategy` / `parseMatrix` / `parseMatrixCombinations` return on nodes they accept
  without a diagnostic, in terms of what is written: the row keys and the keys the `include:` entries assign. The rows
  themselves (`AL.C19D.rowOf`, `matrixKey_rows`, `loop_rows`, read by AL.Props.C19Doc) are followed through the loop of
  `parseMatrix` here as well: the row keys are their first components.
-/
namespace AL.C05D
open AL.PW AL.Yaml AL.Ast AL.C03P

/-! ### readers of the node tree under `strategy: matrix:` -/

def docMatrix (job : Node) : Option Node := (mget job "strategy").bind (mget · "matrix")

/-- a key of `matrix:` other than `include` / `exclude` (compared folded, as the parser does) -/
def isRowId (id : String) : Bool := id ≠ "include" && id ≠ "exclude"

/-- the row keys of a literal `matrix:` node, as written -/
def docMatrixRowKeys (cfg : Cfg) (mx : Node) : List String :=
  ((pairs mx.content).map (·.1.value)).filter fun k => isRowId (cfg.lower k)

def docIncludeNode (cfg : Cfg) (mx : Node) : Option Node :=
  ((pairs mx.content).find? (fun p => cfg.lower p.1.value = "include")).map (·.2)

/-- the keys the elements of a literal `include:` assign, as written -/
def docIncludeKeys (cfg : Cfg) (mx : Node) : List String :=
  match docIncludeNode cfg mx with
  | some inc => inc.content.flatMap fun c => (pairs c.content).map (·.1.value)
  | none => []

/-! ### `strategy`, `matrix` of a job -/

theorem jobKey_strategy_ne (cfg : Cfg) (st : JobSt) (kv : KV) (h : kv.id ≠ "strategy") :
    (jobKey cfg st kv).1.job.strategy = st.job.strategy :=
  (jobKey_frame cfg st kv).strategy h

theorem jobKey_strategy_eq (cfg : Cfg) (st : JobSt) (kv : KV) (h : kv.id = "strategy") :
    (jobKey cfg st kv).1.job.strategy = some (parseStrategy cfg kv.key.pos kv.val).1 ∧
    (jobKey cfg st kv).2 = (parseStrategy cfg kv.key.pos kv.val).2 :=
  eq_at (jobKey_strategy cfg) st kv h ▸ ⟨rfl, rfl⟩

theorem strategyKey_matrix_ne (cfg : Cfg) (st : Strategy) (kv : KV) (h : kv.id ≠ "matrix") :
    (strategyKey cfg st kv).1.matrix = st.matrix :=
  (strategyKey_frame cfg st kv).matrix h

theorem strategyKey_matrix_eq (cfg : Cfg) (st : Strategy) (kv : KV) (h : kv.id = "matrix") :
    (strategyKey cfg st kv).1.matrix = some (parseMatrix cfg kv.key.pos kv.val).1 ∧
    (strategyKey cfg st kv).2 = (parseMatrix cfg kv.key.pos kv.val).2 :=
  eq_at (strategyKey_matrix cfg) st kv h ▸ ⟨rfl, rfl⟩

/-- **the matrix of a parsed job is `parseMatrix` of the node under `strategy: matrix:`**, accepted without a diagnostic -/
theorem parseJob_matrix (cfg : Cfg) (id : Str) (n : Node) (h : (parseJob cfg id n).2 = []) (mx : Node)
    (hmx : docMatrix n = some mx) :
    ∃ pos, (parseJob cfg id n).1.strategy.bind (·.matrix) = some (parseMatrix cfg pos mx).1 ∧ (parseMatrix cfg pos mx).2 = [] := by
  obtain ⟨hm, hr⟩ := parseJob_clean cfg id n h
  obtain ⟨s, hs, hmx⟩ := Option.bind_eq_some_iff.1 hmx
  obtain ⟨p, hp, rfl⟩ := Option.map_eq_some_iff.1 hs
  obtain ⟨q, hq, rfl⟩ := Option.map_eq_some_iff.1 hmx
  obtain ⟨hf, hok⟩ := section_reads_of_eq cfg _ n false (jobKey cfg) _ (fun st => st.job.strategy) "strategy"
    (fun kv => some (parseStrategy cfg kv.key.pos kv.val).1) (fun kv => (parseStrategy cfg kv.key.pos kv.val).2)
    (jobKey_strategy_ne cfg) (jobKey_strategy_eq cfg) hm hr
  -- inside `strategy:`
  obtain ⟨hm2, hr2⟩ := append_nil_iff.1 (hok p hp)
  obtain ⟨hf2, hok2⟩ := section_reads_of_eq cfg _ p.2 false (strategyKey cfg) _ (fun st => st.matrix) "matrix"
    (fun kv => some (parseMatrix cfg kv.key.pos kv.val).1) (fun kv => (parseMatrix cfg kv.key.pos kv.val).2)
    (strategyKey_matrix_ne cfg) (strategyKey_matrix_eq cfg) hm2 hr2
  rw [(parseJob_fields cfg id n).2.2.1]
  unfold jobLoop
  rw [hf, hp]
  rw [hq] at hf2
  exact ⟨_, hf2, hok2 q hq⟩

/-! ### a literal `matrix:` -/

def rowKeys (m : Matrix) : List String := (m.rows.getD []).map (·.1)

theorem matrixKey_expr (cfg : Cfg) (st : Matrix) (kv : KV) : (matrixKey cfg st kv).1.expr = st.expr :=
  (matrixKey_frame cfg st kv).expr

theorem matrixKey_incl_ne (cfg : Cfg) (st : Matrix) (kv : KV) (h : kv.id ≠ "include") : (matrixKey cfg st kv).1.incl = st.incl :=
  (matrixKey_frame cfg st kv).incl h

theorem matrixKey_incl_eq (cfg : Cfg) (st : Matrix) (kv : KV) (h : kv.id = "include") :
    (matrixKey cfg st kv).1.incl = (parseMatrixCombinations cfg "include" kv.val).1 ∧
    (matrixKey cfg st kv).2 = (parseMatrixCombinations cfg "include" kv.val).2 :=
  eq_at (matrixKey_include cfg) st kv h ▸ ⟨rfl, rfl⟩

end AL.C05D

/-! The rows themselves (`AL.C19D`, read by `AL.Props.C19Doc`) are followed through the loop here, and the row keys are
their first components: `matrixKey` is taken apart once, in `matrixKey_rows`. -/
namespace AL.C19D
open AL AL.PW AL.Ast AL.Spec AL.C03P AL.C05D AL.C19P

/-- the row the parser builds from one entry of `matrix:` -/
def rowOf (cfg : Cfg) (kv : KV) : String × MatrixRow :=
  (kv.id, if kv.val.kind = .scalar then ⟨none, none, (parseExpression kv.val "array value for matrix variations").1⟩
          else ⟨some kv.key, some (rawSeq cfg kv.val.content).1, none⟩)

theorem setAssoc_fresh {β : Type} (k : String) (v : β) : ∀ (l : List (String × β)), k ∉ l.map (·.1) →
    setAssoc k v l = l ++ [(k, v)]
  | [], _ => rfl
  | (k', v') :: rest, h => by
    simp only [List.map_cons, List.mem_cons, not_or] at h
    simp only [setAssoc]
    rw [if_neg (fun e => h.1 e.symm), setAssoc_fresh k v rest h.2]
    rfl

/-- one clean iteration of the loop of `parseMatrix` on a fresh id: the row is appended; `include` / `exclude` are no rows -/
theorem matrixKey_rows (cfg : Cfg) (st : Ast.Matrix) (kv : KV) (hc : (matrixKey cfg st kv).2 = []) (hn : kv.id ∉ rowKeys st) :
    (matrixKey cfg st kv).1.rows.getD [] = st.rows.getD [] ++ (if isRowId kv.id then [rowOf cfg kv] else []) := by
  have hset : ∀ row : MatrixRow, setAssoc kv.id row (st.rows.getD []) = st.rows.getD [] ++ [(kv.id, row)] :=
    fun row => setAssoc_fresh _ _ _ hn
  revert hc
  simp only [matrixKey]
  split
  · rename_i h; intro _; simp [isRowId, h]
  · rename_i h; intro _; simp [isRowId, h]
  · rename_i h1 h2
    have hrow : isRowId kv.id = true := by
      simp only [isRowId, Bool.and_eq_true, decide_eq_true_eq]
      exact ⟨fun e => h1 e, fun e => h2 e⟩
    simp only [hrow, if_true, rowOf]
    split
    · intro _; simp only [Option.getD_some, hset]
    · rename_i hs
      split
      · rename_i hcs
        intro hc
        have := checkSequence_clean "matrix values" kv.val false hc
        simp [this.2] at hcs
      · intro _; simp only [Option.getD_some, hset]

end AL.C19D

namespace AL.C05D
open AL.PW AL.Yaml AL.Ast AL.C03P

/-- one iteration of the loop of `parseMatrix`, clean, on a fresh id: a row key is appended (the value a sequence, or a
scalar holding an expression), `include` / `exclude` are no rows -/
theorem matrixKey_rowKeys (cfg : Cfg) (st : Matrix) (kv : KV) (hc : (matrixKey cfg st kv).2 = []) (hn : kv.id ∉ rowKeys st) :
    rowKeys (matrixKey cfg st kv).1 = rowKeys st ++ (if isRowId kv.id then [kv.id] else []) := by
  rw [rowKeys, AL.C19D.matrixKey_rows cfg st kv hc hn, List.map_append]
  split <;> rfl

end AL.C05D

namespace AL.C19D
open AL AL.PW AL.Ast AL.Spec AL.C03P AL.C05D AL.C19P

theorem loop_rows (cfg : Cfg) : ∀ (kvs : List KV) (st : Ast.Matrix), (loop (matrixKey cfg) st kvs).2 = [] →
    (kvs.map (·.id)).Nodup → (∀ kv ∈ kvs, kv.id ∉ rowKeys st) →
    (loop (matrixKey cfg) st kvs).1.rows.getD [] = st.rows.getD [] ++ (kvs.filter fun kv => isRowId kv.id).map (rowOf cfg)
  | [], st, _, _, _ => by simp
  | x :: rest, st, hc, hnd, hfresh => by
    rw [loop_clean_cons] at hc
    simp only [List.map_cons, List.nodup_cons, List.mem_map, not_exists, not_and] at hnd
    have h1 := matrixKey_rowKeys cfg st x hc.1 (hfresh x (List.mem_cons_self ..))
    have h2 := matrixKey_rows cfg st x hc.1 (hfresh x (List.mem_cons_self ..))
    rw [loop_cons_fst, loop_rows cfg rest _ hc.2 hnd.2 ?_, h2]
    · simp only [List.filter_cons]
      split <;> simp
    · intro kv hk
      rw [h1]
      simp only [List.mem_append, not_or]
      refine ⟨hfresh kv (List.mem_cons_of_mem _ hk), ?_⟩
      split
      · simp only [List.mem_singleton]
        exact fun e => hnd.1 kv hk e
      · simp

end AL.C19D

namespace AL.C05D
open AL.PW AL.Yaml AL.Ast AL.C03P

theorem loop_rowKeys (cfg : Cfg) : ∀ (kvs : List KV) (st : Matrix), (loop (matrixKey cfg) st kvs).2 = [] →
    (kvs.map (·.id)).Nodup → (∀ kv ∈ kvs, kv.id ∉ rowKeys st) →
    rowKeys (loop (matrixKey cfg) st kvs).1 = rowKeys st ++ (kvs.map (·.id)).filter isRowId :=
  fun kvs st hc hnd hf => by
    rw [rowKeys, AL.C19D.loop_rows cfg kvs st hc hnd hf, List.map_append, List.map_map, List.filter_map]
    rfl

theorem find?_kvOf_false (cfg : Cfg) (k : String) : ∀ (l : List (Node × Node)),
    (l.map (kvOf cfg false)).find? (fun kv => kv.id = k) = (l.find? (fun p => cfg.lower p.1.value = k)).map (kvOf cfg false) :=
  fun _ => List.find?_map ..

/-- **a `matrix:` written as a mapping, accepted without a diagnostic**: it is not an expression, its row keys are the
folded keys written other than `include` / `exclude`, in order, its `include` is `parseMatrixCombinations` of the node
under `include:` -/
theorem parseMatrix_lit (cfg : Cfg) (pos : Yaml.Pos) (mx : Node) (hk : mx.kind ≠ .scalar) (h : (parseMatrix cfg pos mx).2 = []) :
    (parseMatrix cfg pos mx).1.expr = none ∧
    rowKeys (parseMatrix cfg pos mx).1 = (docMatrixRowKeys cfg mx).map cfg.lower ∧
    (parseMatrix cfg pos mx).1.incl =
      (match docIncludeNode cfg mx with | some inc => (parseMatrixCombinations cfg "include" inc).1 | none => none) ∧
    (∀ inc, docIncludeNode cfg mx = some inc → (parseMatrixCombinations cfg "include" inc).2 = []) := by
  simp only [parseMatrix, hk, if_false, append_nil_iff, parseSectionMapping] at h ⊢
  have he := parseMapping_clean_eq cfg (sectionWhat "matrix") mx false false h.1
  have hnd := parseMapping_nodup cfg (sectionWhat "matrix") mx false false
  refine ⟨?_, ?_, ?_, ?_⟩
  · exact loop_inv (matrixKey cfg) (fun st => st.expr = none) (fun st kv hs => by rw [matrixKey_expr]; exact hs) _ _ rfl
  · rw [loop_rowKeys cfg _ _ h.2 hnd (by intro kv _; simp [rowKeys]), he]
    simp only [rowKeys, Option.getD_some, List.map_nil, List.nil_append, List.map_map, docMatrixRowKeys, List.filter_map]
    apply congrArg
    · rfl
  · rw [loop_field (matrixKey cfg) (fun st => st.incl) "include" (fun kv => (parseMatrixCombinations cfg "include" kv.val).1)
      (fun st kv hne => matrixKey_incl_ne cfg st kv hne) (fun st kv he => (matrixKey_incl_eq cfg st kv he).1) _ _ hnd,
      he, find?_kvOf_false, docIncludeNode]
    cases (pairs mx.content).find? (fun p => cfg.lower p.1.value = "include") with
    | none => rfl
    | some p => simp [kvOf_false]
  · intro inc hinc
    simp only [docIncludeNode, Option.map_eq_some_iff] at hinc
    obtain ⟨p, hp, rfl⟩ := hinc
    obtain ⟨st, hc⟩ := sect_clean_at cfg _ mx false false (matrixKey cfg) _ h.1 h.2 p (List.mem_of_find?_eq_some hp)
    have hid : (kvOf cfg false p).id = "include" := by
      rw [kvOf_false]
      simpa using List.find?_some hp
    rw [(matrixKey_incl_eq cfg st _ hid).2] at hc
    simpa [kvOf_false] using hc

/-! ### a literal `include:` -/

theorem rawValue_clean_some (cfg : Cfg) (n : Node) (h : (rawValue cfg n).2 = []) : ∃ x, (rawValue cfg n).1 = some x := by
  obtain ⟨k, t, v, q, l, c, cs⟩ := n
  cases k <;> simp [rawValue] at h ⊢

theorem matrixAssigns_keys (cfg : Cfg) : ∀ (kvs : List KV), (matrixAssigns cfg kvs).2 = [] →
    (matrixAssigns cfg kvs).1.map (·.1) = kvs.map (·.id) :=
  fun kvs h => by
    rw [matrixAssigns_filterMapR] at h ⊢
    rw [filterMapR_fst, List.map_filterMap, ← List.filterMap_eq_map]
    refine List.filterMap_congr fun kv hk => ?_
    obtain ⟨x, hx⟩ := rawValue_clean_some cfg kv.val (filterMapR_silent.1 h kv hk)
    simp [matrixAssign, hx]

/-- the elements of `include:` when none of them is a scalar: one literal combination each, assigning the folded keys
written in the element -/
theorem matrixCombos_lit (cfg : Cfg) (sec : String) : ∀ (cs : List Node), (∀ c ∈ cs, c.kind ≠ .scalar) →
    (matrixCombos cfg sec cs).2 = [] →
    (∀ c ∈ (matrixCombos cfg sec cs).1, c.expr = none) ∧
    (matrixCombos cfg sec cs).1.map (fun c => (c.assigns.getD []).map (·.1)) =
      cs.map (fun c => (pairs c.content).map fun q => cfg.lower q.1.value)
  | [], _, _ => by simp [matrixCombos]
  | c :: cs, hall, h => by
    have hc : c.kind ≠ .scalar := hall c (List.mem_cons_self ..)
    simp only [matrixCombos, hc, if_false, append_nil_iff] at h ⊢
    obtain ⟨ih1, ih2⟩ := matrixCombos_lit cfg sec cs (fun c' h' => hall c' (List.mem_cons_of_mem _ h')) h.2
    refine ⟨?_, ?_⟩
    · intro c' hc'
      rcases List.mem_cons.1 hc' with rfl | hc'
      · rfl
      · exact ih1 c' hc'
    · have e := matrixAssigns_keys cfg _ h.1.2
      rw [parseMapping_clean_eq cfg _ c false false h.1.1] at e
      simp only [List.map_cons, ih2, Option.getD_some]
      rw [parseMapping_clean_eq cfg _ c false false h.1.1, e, List.map_map]
      congr 1

/-- **`include:` written as a sequence of mappings, accepted without a diagnostic**: literal, one literal combination per
element -/
theorem parseCombos_lit (cfg : Cfg) (sec : String) (inc : Node) (hk : inc.kind ≠ .scalar) (hall : ∀ c ∈ inc.content, c.kind ≠ .scalar)
    (h : (parseMatrixCombinations cfg sec inc).2 = []) :
    ∃ cs, (parseMatrixCombinations cfg sec inc).1 = some ⟨some cs, none⟩ ∧ (∀ c ∈ cs, c.expr = none) ∧
      cs.map (fun c => (c.assigns.getD []).map (·.1)) = inc.content.map (fun c => (pairs c.content).map fun q => cfg.lower q.1.value) := by
  simp only [parseMatrixCombinations, hk, if_false] at h ⊢
  split at h
  · rename_i hc
    have := checkSequence_clean sec inc false h
    simp [this.2] at hc
  · rename_i hc
    simp only [hc]
    simp only [append_nil_iff] at h
    obtain ⟨h1, h2⟩ := matrixCombos_lit cfg sec inc.content hall h.2
    exact ⟨_, rfl, h1, h2⟩

end AL.C05D
