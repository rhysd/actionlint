import AL.Lemmas.SemaFold
/-
  C08: `check` does not depend on the spelling of callee names and of index literals.
  `SpellEq lower e e'`: the two checker trees are equal except that a callee may be spelled differently
  (equal after `lower`) and a string literal used as an index may be spelled differently (equal after
  `lower`). `check` then yields the same type, the same events and the same diagnostic codes (the arguments
  of the diagnostics echo the spelling).
-/
namespace AL.Sema
open AL

mutual
inductive SpellEq (lower : String → String) : E → E → Prop
  | null : SpellEq lower .null .null
  | bool : SpellEq lower .bool .bool
  | num : SpellEq lower .num .num
  | str (v : String) : SpellEq lower (.str v) (.str v)
  | var (n : String) : SpellEq lower (.var n) (.var n)
  | call (c c' : String) (as as' : List E) : lower c = lower c' → SpellEqList lower as as' →
      SpellEq lower (.call c as) (.call c' as')
  | objDeref (r r' : E) (p : String) : SpellEq lower r r' → SpellEq lower (.objDeref r p) (.objDeref r' p)
  | arrDeref (r r' : E) : SpellEq lower r r' → SpellEq lower (.arrDeref r) (.arrDeref r')
  | index (r r' i i' : E) : SpellEq lower r r' → SpellEq lower i i' → SpellEq lower (.index r i) (.index r' i')
  | indexLit (r r' : E) (v v' : String) : SpellEq lower r r' → lower v = lower v' →
      SpellEq lower (.index r (.str v)) (.index r' (.str v'))
  | not (e e' : E) : SpellEq lower e e' → SpellEq lower (.not e) (.not e')
  | cmp (op : CmpOp) (l l' r r' : E) : SpellEq lower l l' → SpellEq lower r r' →
      SpellEq lower (.cmp op l r) (.cmp op l' r')
  | logical (op : LogOp) (l l' r r' : E) : SpellEq lower l l' → SpellEq lower r r' →
      SpellEq lower (.logical op l r) (.logical op l' r')
inductive SpellEqList (lower : String → String) : List E → List E → Prop
  | nil : SpellEqList lower [] []
  | cons (e e' : E) (es es' : List E) : SpellEq lower e e' → SpellEqList lower es es' →
      SpellEqList lower (e :: es) (e' :: es')
end

/-- same diagnostic codes, same type, same events -/
def Same (r r' : R) : Prop :=
  r.errs.map (·.code) = r'.errs.map (·.code) ∧ r.ty = r'.ty ∧ r.evs = r'.evs

variable {lower : String → String}

theorem SpellEq.var_of_eq {n n' : String} (h : n = n') : SpellEq lower (.var n) (.var n') := h ▸ .var n

theorem SpellEq.objDeref_of_eq {r r' : E} {p p' : String} (hr : SpellEq lower r r') (hp : p = p') :
    SpellEq lower (.objDeref r p) (.objDeref r' p') := hp ▸ .objDeref _ _ _ hr

theorem strLit?_spell {a b : E} (h : SpellEq lower a b) : strLit? a = strLit? b := by
  cases h <;> rfl

theorem isVarsVar_spell {a b : E} (h : SpellEq lower a b) : isVarsVar a = isVarsVar b := by
  cases h <;> rfl

theorem isSafeCall_spell {c c' : String} (h : lower c = lower c') : isSafeCall lower c = isSafeCall lower c' := by
  simp only [isSafeCall, h]

theorem leaveOf_spell {a b : E} (h : SpellEq lower a b) : leaveOf lower a = leaveOf lower b := by
  cases h with
  | call c c' as as' hc _ => simp only [leaveOf, isSafeCall_spell hc]
  | index r r' i i' _ hi => cases hi <;> rfl
  | indexLit r r' v v' _ hv => simp only [leaveOf, hv]
  | _ => rfl

theorem enterOf_spell {a b : E} (h : SpellEq lower a b) : enterOf lower a = enterOf lower b := by
  cases h with
  | call c c' as as' hc _ => simp only [enterOf, isSafeCall_spell hc]
  | _ => rfl

theorem head_lit_spell {as as' : List E} (h : SpellEqList lower as as') :
    as.head?.bind strLit? = as'.head?.bind strLit? := by
  cases h with
  | nil => rfl
  | cons e e' es es' he _ => simp only [List.head?_cons, Option.bind_some, strLit?_spell he]

theorem Same.wrap {a b : E} (h : SpellEq lower a b) {r r' : R} (hs : Same r r') :
    Same (wrap lower a r) (wrap lower b r') := by
  obtain ⟨h1, h2, h3⟩ := hs
  refine ⟨h1, h2, ?_⟩
  simp only [wrap_evs, leaveOf_spell h, enterOf_spell h, h3]

theorem Same.seq {a a' b b' : R} (ha : Same a a') (hb : Same b b') (f : Ty → Ty → Ty) :
    Same (.seq f a b) (.seq f a' b') := by
  obtain ⟨a1, a2, a3⟩ := ha
  obtain ⟨b1, b2, b3⟩ := hb
  simp only [Same, R.seq, List.map_append, a1, a2, a3, b1, b2, b3, and_self]

/-- a node with one child: the rule sees only the child's type -/
theorem Same.node {a a' : R} (ha : Same a a') (rule : Ty → Ty × List SemaErr) :
    Same (.node rule a) (.node rule a') := by
  obtain ⟨a1, a2, a3⟩ := ha
  simp only [Same, R.node, List.map_append, a1, a2, a3, and_self]

/-- the same with two children, and two rules that agree up to the arguments of their diagnostics -/
theorem Same.node₂ {a a' b b' : R} (ha : Same a a') (hb : Same b b') {rule rule' : Ty → Ty → Ty × List SemaErr}
    (h : ∀ x y, (rule x y).1 = (rule' x y).1 ∧ (rule x y).2.map (·.code) = (rule' x y).2.map (·.code)) :
    Same (.node₂ rule a b) (.node₂ rule' a' b') := by
  obtain ⟨a1, a2, a3⟩ := ha
  obtain ⟨b1, b2, b3⟩ := hb
  simp only [Same, R.node₂, List.map_append, a1, a2, a3, b1, b2, b3, (h _ _).1, (h _ _).2, and_self]

/-! ### the non-recursive parts -/

section
variable (Γ : Env) {c c' : String} (h : Γ.lower c = Γ.lower c')
include h

theorem specialFuncErrs_spell :
    (specialFuncErrs Γ c).map (·.code) = (specialFuncErrs Γ c').map (·.code) := by
  simp only [specialFuncErrs, h]
  split
  · rfl
  · split <;> rfl

theorem builtinCall_spell (s : Sig) (fl : Option String) (n : Nat) :
    (builtinCall Γ c s fl n).1 = (builtinCall Γ c' s fl n).1 ∧
    (builtinCall Γ c s fl n).2.map (·.code) = (builtinCall Γ c' s fl n).2.map (·.code) := by
  have hsp := specialFuncErrs_spell Γ h
  simp only [builtinCall, h]
  split
  · cases fl <;> simp [hsp, List.map_append]
  · split
    · cases fl with
      | none => simp [hsp]
      | some lit => simp only []; split <;> simp [hsp, List.map_append]
    · simp [hsp]

theorem resolveCall_spell (sigs : List Sig) (fl : Option String) (tys : List Ty) :
    (resolveCall Γ c sigs fl tys).1 = (resolveCall Γ c' sigs fl tys).1 ∧
    (resolveCall Γ c sigs fl tys).2.map (·.code) = (resolveCall Γ c' sigs fl tys).2.map (·.code) := by
  rw [resolveCall_eq, resolveCall_eq]
  split
  · exact builtinCall_spell Γ h _ fl tys.length
  · exact ⟨rfl, rfl⟩

end

theorem indexTy_lit_spell (Γ : Env) {v v' : String} (h : Γ.lower v = Γ.lower v') (i t : Ty) :
    (indexTy Γ (some v) i t).1 = (indexTy Γ (some v') i t).1 ∧
    (indexTy Γ (some v) i t).2.map (·.code) = (indexTy Γ (some v') i t).2.map (·.code) := by
  unfold indexTy
  simp only [h]
  repeat' split
  all_goals first
    | exact ⟨rfl, rfl⟩
    | simp_all

/-! ### the recursion, over the `SpellEq` derivation and for all modes at once -/

mutual
theorem sem_spell (Γ : Env) : ∀ {e e' : E}, SpellEq Γ.lower e e' → ∀ m, Same (sem Γ m e) (sem Γ m e')
  | _, _, .null, _ | _, _, .bool, _ | _, _, .num, _ | _, _, .str _, _ | _, _, .var _, _ => ⟨rfl, rfl, rfl⟩
  | _, _, .objDeref r r' p hr, _ => by
    rw [sem, sem, isVarsVar_spell hr]
    exact Same.wrap (.objDeref _ _ _ hr) ((sem_spell Γ hr none).node _)
  | _, _, .arrDeref r r' hr, _ => Same.wrap (.arrDeref _ _ hr) ((sem_spell Γ hr none).node _)
  | _, _, .index r r' i i' hr hi, _ => by
    rw [sem, sem, strLit?_spell hi]
    exact Same.wrap (.index _ _ _ _ hr hi) ((sem_spell Γ hi none).node₂ (sem_spell Γ hr none) fun _ _ => ⟨rfl, rfl⟩)
  | _, _, .indexLit r r' v v' hr hv, _ =>
    Same.wrap (.indexLit _ _ _ _ hr hv) (Same.node₂ (a := sem Γ none (.str v)) (a' := sem Γ none (.str v'))
      ⟨rfl, rfl, rfl⟩ (sem_spell Γ hr none) (indexTy_lit_spell Γ hv))
  | _, _, .call c c' as as' hc has, _ => by
    obtain ⟨a1, a2, a3⟩ := semArgs_spell Γ has
    simp only [sem]
    refine Same.wrap (.call _ _ _ _ hc has) ?_
    rw [← hc]
    cases lookupFuncs (Γ.lower c) Γ.funcs with
    | none => exact ⟨rfl, rfl, rfl⟩
    | some sigs =>
      obtain ⟨r1, r2⟩ := resolveCall_spell Γ hc sigs (as'.head?.bind strLit?) (semArgs Γ as').1
      exact ⟨by simp only [List.map_append, a1, a2, head_lit_spell has, r2],
        by simp only [a1, head_lit_spell has, r1], a3⟩
  | _, _, .not e e' he, none => Same.wrap (.not _ _ he) ((sem_spell Γ he none).node _)
  | _, _, .not e e' he, some b => sem_spell Γ he (some (!b))
  | _, _, .cmp op l l' r r' hl hr, _ =>
    Same.wrap (.cmp _ _ _ _ _ hl hr) ((sem_spell Γ hl none).node₂ (sem_spell Γ hr none) fun _ _ => ⟨rfl, rfl⟩)
  | _, _, .logical op l l' r r' hl hr, m => by
    have h := (sem_spell Γ hl (leftMode m op)).seq (sem_spell Γ hr none) (logicalTy (leftMode m op))
    cases m
    · exact Same.wrap (.logical _ _ _ _ _ hl hr) h
    · exact h
termination_by structural e _ _ => e
theorem semArgs_spell (Γ : Env) : ∀ {es es' : List E}, SpellEqList Γ.lower es es' →
    (semArgs Γ es).1 = (semArgs Γ es').1 ∧
    (semArgs Γ es).2.1.map (·.code) = (semArgs Γ es').2.1.map (·.code) ∧
    (semArgs Γ es).2.2 = (semArgs Γ es').2.2
  | _, _, .nil => ⟨rfl, rfl, rfl⟩
  | _, _, .cons a a' rest rest' ha hrest => by
    obtain ⟨a1, a2, a3⟩ := sem_spell Γ ha none
    obtain ⟨r1, r2, r3⟩ := semArgs_spell Γ hrest
    simp only [semArgs]
    exact ⟨by rw [a2, r1], by simp only [List.map_append, a1, r2], by rw [a3, r3]⟩
termination_by structural es _ _ => es
end

theorem check_spell {Γ : Env} {e e' : E} (h : SpellEq Γ.lower e e') : Same (check Γ e) (check Γ e') := by
  rw [check_eq_sem, check_eq_sem]; exact sem_spell Γ h none

end AL.Sema
