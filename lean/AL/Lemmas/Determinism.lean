import AL.Model.Lint
import AL.Lemmas.LintSort
/-
  C02 lemmas: the stable sort is determined by the per-key sublists of its input; writing `results[i]`
  into slot `i` in any completion order fills the slots in index order.
-/
namespace AL.Lint

/-- the stable sort depends only on the key classes of its input: its output is sorted, has the key classes of the
input, and a sorted list is determined by them (`AL.Order.Sorted.eq_of_filter_key_eq`) -/
theorem stableSort_eq_of_filter_key_eq {l₁ l₂ : List D}
    (h : ∀ k, l₁.filter (fun d => key d = k) = l₂.filter (fun d => key d = k)) :
    stableSort l₁ = stableSort l₂ :=
  sortL.foldl_eq_of_filter_key_eq less_key h

/-! ### slots written in any order -/

/-- one goroutine finishing: slot `i` receives `results[i]` -/
abbrev writeSlot {α : Type} (results : List α) : List (Option α) → Nat → List (Option α) :=
  fun acc i => acc.set i (results[i]?)

theorem length_foldl_writeSlot {α : Type} (results : List α) (finish : List Nat) (acc : List (Option α)) :
    (finish.foldl (writeSlot results) acc).length = acc.length := by
  induction finish generalizing acc with
  | nil => rfl
  | cons i rest ih => simp [List.foldl_cons, ih]

/-- invariant: after the writes in `finish`, slot `j` holds `results[j]` iff `j` was written -/
theorem getElem?_foldl_writeSlot {α : Type} (results : List α) (finish : List Nat) (acc : List (Option α))
    (j : Nat) :
    (finish.foldl (writeSlot results) acc)[j]? =
      if j ∈ finish ∧ j < acc.length then some (results[j]?) else acc[j]? := by
  induction finish generalizing acc with
  | nil => simp
  | cons i rest ih =>
    rw [List.foldl_cons, ih]
    simp only [writeSlot, List.length_set, List.getElem?_set, List.mem_cons]
    by_cases hjr : j ∈ rest
    · by_cases hjl : j < acc.length
      · simp [hjr, hjl]
      · simp only [hjr, hjl, and_false, if_false]
        by_cases hij : i = j
        · subst hij; simp [hjl]
        · simp [hij]
    · by_cases hij : i = j
      · subst hij
        by_cases hjl : i < acc.length <;> simp [hjr, hjl]
      · have : ¬ j = i := fun e => hij e.symm
        simp [hjr, hij, this]

/-- if every index below `results.length` is written (in any order, any number of times, and whatever
else is in `finish`), the collected slots are exactly `results` -/
theorem collect_slots {α : Type} (results : List α) (finish : List Nat)
    (hall : ∀ j, j < results.length → j ∈ finish) :
    (finish.foldl (writeSlot results) (List.replicate results.length none)).filterMap id = results := by
  have : finish.foldl (writeSlot results) (List.replicate results.length none) = results.map some := by
    apply List.ext_getElem?
    intro j
    rw [getElem?_foldl_writeSlot, List.length_replicate]
    by_cases hj : j < results.length
    · simp [hall j hj, hj]
    · simp [hj]
  rw [this, List.filterMap_map]
  simp

end AL.Lint
