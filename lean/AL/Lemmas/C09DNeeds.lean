import AL.Props.C18Parse
/-
  Helper lemmas for AL.Props.C09Doc: what `RuleJobNeeds` (AL.Needs.check) reports, job by job, when the folded job ids
  are pairwise distinct (which the parser guarantees, `C18P.parsed_job_ids_nodup`):
    * `needs-duplicate`: a function of the job alone (`dupOf`);
    * `needs-undefined`: a function of the job and of the SET of job ids (`undefOf`);
    * `needs-cyclic`: at most one for the whole graph, and only when nothing is undefined;
  and inserting a job (anywhere) whose id is new keeps every cycle of the needs graph: the old graph embeds into the new one
  by shifting the indices from the place of insertion on (`shift`, `cyclic_add_job`).
-/
namespace AL.C09D
open AL.Needs AL.C18P

/-- the `needs-duplicate` reports of a job: a function of the job alone -/
def dupOf (lower : String → String) (j : JobIn) : List Diag := (normNeeds lower j.needs []).2

/-- the `needs-undefined` reports of a job: a function of the job and of the ids of the workflow's jobs -/
def undefOf (lower : String → String) (ids : List String) (j : JobIn) : List Diag :=
  if lower j.idValue = "" then []
  else ((normNeeds lower j.needs []).1.filter fun dep => !ids.contains dep).map fun dep =>
    Diag.undefined j.idPos (lower j.idValue) dep

/-- with pairwise distinct folded ids `VisitJobPre` reports exactly the jobs' own `needs-duplicate`s, in order -/
theorem visitJobs_diags_of_nodup (lower : String → String) : ∀ (jobs : List JobIn) (nodes : List RawNode),
    (nodes.map (·.id) ++ (jobs.map fun j => lower j.idValue).filter (· ≠ "")).Nodup →
    (visitJobs lower jobs nodes).2 = jobs.flatMap (dupOf lower) := by
  intro jobs nodes h
  rw [visitJobs_eq_of_nodup lower jobs nodes h]
  rfl

/-- `normNeeds` keeps no empty name -/
theorem normNeeds_ne_empty (lower : String → String) (ns : List NeedRef) : ∀ dep ∈ (normNeeds lower ns []).1, dep ≠ "" := by
  intro dep h
  have := (normNeeds_mem lower dep ns []).1 h
  simp only [List.not_mem_nil, false_or] at this
  exact this.1

theorem nodesOf_of_nodup (lower : String → String) (jobs : List JobIn)
    (h : ((jobs.map fun j => lower j.idValue).filter (· ≠ "")).Nodup) :
    nodesOf lower jobs = (jobs.filter fun j => lower j.idValue ≠ "").map (mkNode lower) := by
  simpa [nodesOf] using (visitJobs_of_nodup lower jobs [] (by simpa using h)).1

/-- the resolution loop, job by job -/
theorem resolve_diags_of_nodup (lower : String → String) (jobs : List JobIn)
    (h : ((jobs.map fun j => lower j.idValue).filter (· ≠ "")).Nodup) :
    (resolve (nodesOf lower jobs)).2 = jobs.flatMap (undefOf lower (jobs.map fun j => lower j.idValue)) := by
  rw [nodesOf_of_nodup lower jobs h]
  simp only [resolve]
  generalize hN : (jobs.filter fun j => lower j.idValue ≠ "").map (mkNode lower) = N
  have hmem : ∀ dep, dep ≠ "" → ((indexOf? N dep).isNone = !(jobs.map fun j => lower j.idValue).contains dep) := by
    intro dep hd
    rw [Bool.eq_iff_iff, indexOf?_isNone]
    subst hN
    simp only [List.mem_map, List.mem_filter, Bool.not_eq_true', List.contains_eq_mem, decide_eq_false_iff_not,
      forall_exists_index, and_imp]
    constructor
    · intro hall ⟨j, hj, e⟩
      exact hall _ j hj (by simpa [e] using hd) rfl (by simpa [mkNode] using e)
    · intro hno m j hj _ e1 e2
      subst e1
      exact hno ⟨j, hj, by simpa [mkNode] using e2⟩
  subst hN
  rw [List.flatMap_map]
  -- a `flatMap` over a filter is a `flatMap` with an `if`
  have hf : ∀ (l : List JobIn) (g : JobIn → List Diag),
      (l.filter fun j => lower j.idValue ≠ "").flatMap g = l.flatMap fun j => if lower j.idValue = "" then [] else g j := by
    intro l g
    induction l with
    | nil => rfl
    | cons x rest ih =>
      simp only [ne_eq, decide_not] at ih ⊢
      by_cases hx : lower x.idValue = "" <;> simp [hx, ih]
  rw [hf]
  apply List.flatMap_congr
  intro j _
  simp only [undefOf]
  split
  · rfl
  · simp only [mkNode]
    congr 1
    apply List.filter_congr
    intro dep hdep
    exact hmem dep (normNeeds_ne_empty lower j.needs dep hdep)

/-- **`RuleJobNeeds`, job by job** (folded ids pairwise distinct): the jobs' own `needs-duplicate`s; then the jobs'
`needs-undefined`s if there is one, else the (at most one) `needs-cyclic` of the graph -/
theorem check_decomp (lower : String → String) (jobs : List JobIn) (order : List Nat)
    (h : ((jobs.map fun j => lower j.idValue).filter (· ≠ "")).Nodup) :
    check lower jobs order =
      jobs.flatMap (dupOf lower) ++
        (if (jobs.flatMap (undefOf lower (jobs.map fun j => lower j.idValue))).isEmpty then
          (match cycleDiag (graphOf lower jobs) order with | some c => [Diag.cyclic c] | none => [])
         else jobs.flatMap (undefOf lower (jobs.map fun j => lower j.idValue))) := by
  rw [check_eq, resolve_diags_of_nodup lower jobs h, visitJobs_diags_of_nodup lower jobs [] (by simpa using h)]
  cases hU : (jobs.flatMap (undefOf lower (jobs.map fun j => lower j.idValue))).isEmpty
  · simp
  · simp only [Bool.not_true, Bool.false_eq_true, ↓reduceIte]
    cases cycleDiag (graphOf lower jobs) order <;> simp

/-- when no `needs-cyclic` is reported, the rule's output is the two per-job parts -/
theorem check_no_cyclic (lower : String → String) (jobs : List JobIn) (order : List Nat)
    (h : ((jobs.map fun j => lower j.idValue).filter (· ≠ "")).Nodup)
    (hc : ∀ c, Diag.cyclic c ∉ check lower jobs order) :
    check lower jobs order =
      jobs.flatMap (dupOf lower) ++ jobs.flatMap (undefOf lower (jobs.map fun j => lower j.idValue)) := by
  have hd := check_decomp lower jobs order h
  rw [hd] at hc ⊢
  cases hU : (jobs.flatMap (undefOf lower (jobs.map fun j => lower j.idValue))).isEmpty
  · simp
  · simp only [hU, ↓reduceIte] at hc ⊢
    have hnil : jobs.flatMap (undefOf lower (jobs.map fun j => lower j.idValue)) = [] := List.isEmpty_iff.1 hU
    rw [hnil]
    cases hcy : cycleDiag (graphOf lower jobs) order with
    | none => rfl
    | some c =>
      exfalso
      apply hc c
      simp [hcy]

/-- a job's `needs-undefined`s when one more id `x` joins the id set: those naming `x` go, the others stay -/
theorem undefOf_insert (lower : String → String) (ids₁ ids₂ : List String) (x : String) (j : JobIn) :
    undefOf lower (ids₁ ++ x :: ids₂) j =
      (undefOf lower (ids₁ ++ ids₂) j).filter fun d => match d with | .undefined _ _ dep => dep ≠ x | _ => true := by
  simp only [undefOf]
  split
  · rfl
  · rw [List.filter_map, List.filter_filter]
    congr 1
    apply List.filter_congr
    intro dep _
    simp only [List.contains_eq_mem, List.mem_append, List.mem_cons, Function.comp_apply, ne_eq, decide_not]
    by_cases hx : dep = x <;> simp [hx]

/-- nobody needs `x`: nothing changes -/
theorem undefOf_insert_unneeded (lower : String → String) (ids₁ ids₂ : List String) (x : String) (j : JobIn)
    (h : x ∉ (normNeeds lower j.needs []).1) :
    undefOf lower (ids₁ ++ x :: ids₂) j = undefOf lower (ids₁ ++ ids₂) j := by
  simp only [undefOf]
  split
  · rfl
  · congr 1
    apply List.filter_congr
    intro dep hdep
    have : dep ≠ x := fun e => h (e ▸ hdep)
    simp [this]

/-! ### one more node: the needs graph of the smaller list embeds into that of the bigger one -/

open AL.Spec

/-- the index of an old node in the list with one more node after the first `k` -/
def shift (k v : Nat) : Nat := if v < k then v else v + 1

theorem getElem?_shift (NA NB : List RawNode) (nx : RawNode) (v : Nat) :
    (NA ++ nx :: NB)[shift NA.length v]? = (NA ++ NB)[v]? := by
  simp only [shift]
  by_cases h : v < NA.length
  · simp only [h, ↓reduceIte, List.getElem?_append_left h]
  · have h1 : NA.length ≤ v := Nat.le_of_not_lt h
    have h2 : NA.length ≤ v + 1 := by omega
    simp only [h, ↓reduceIte, List.getElem?_append_right h1, List.getElem?_append_right h2]
    have : v + 1 - NA.length = (v - NA.length) + 1 := by omega
    rw [this, List.getElem?_cons_succ]

theorem indexOf?_shift (NA NB : List RawNode) (nx : RawNode) (dep : String) (w : Nat)
    (hx : ∀ n ∈ NA ++ NB, n.id ≠ nx.id) (h : indexOf? (NA ++ NB) dep = some w) :
    indexOf? (NA ++ nx :: NB) dep = some (shift NA.length w) := by
  simp only [indexOf?] at h ⊢
  split at h
  · rename_i hlt
    simp only [Option.some.injEq] at h
    have hne : nx.id ≠ dep := by
      obtain ⟨n, hn, hp⟩ := List.findIdx_lt_length.1 hlt
      have : n.id = dep := by simpa using hp
      exact fun e => hx n hn (this.trans e.symm)
    have hpx : (decide (nx.id = dep)) = false := by simpa using hne
    rw [List.findIdx_append] at h hlt
    rw [List.findIdx_append, List.findIdx_cons, hpx]
    simp only [cond_false]
    by_cases hfa : List.findIdx (fun x => decide (x.id = dep)) NA < NA.length
    · simp only [hfa, ↓reduceIte] at h hlt ⊢
      subst h
      simp only [shift, hfa, ↓reduceIte, List.length_append, List.length_cons]
      split
      · rfl
      · rename_i hc; exfalso; apply hc; omega
    · simp only [hfa, ↓reduceIte] at h hlt ⊢
      subst h
      have : ¬ (List.findIdx (fun x => decide (x.id = dep)) NB + NA.length < NA.length) := by omega
      simp only [shift, this, ↓reduceIte, List.length_append, List.length_cons] at hlt ⊢
      split
      · congr 1; omega
      · rename_i hc; exfalso; apply hc; omega
  · cases h

theorem succ_resolve (N : List RawNode) (v w : Nat) :
    w ∈ (resolve N).1.succ v ↔ ∃ n, N[v]? = some n ∧ ∃ dep ∈ n.needs, indexOf? N dep = some w := by
  simp only [resolve, Graph.succ, List.getElem?_map]
  cases N[v]? with
  | none => simp
  | some n => simp [List.mem_filterMap]

theorem succ_shift (NA NB : List RawNode) (nx : RawNode) (hx : ∀ n ∈ NA ++ NB, n.id ≠ nx.id) (v w : Nat)
    (h : w ∈ (resolve (NA ++ NB)).1.succ v) :
    shift NA.length w ∈ (resolve (NA ++ nx :: NB)).1.succ (shift NA.length v) := by
  rw [succ_resolve] at h ⊢
  obtain ⟨n, hn, dep, hdep, hi⟩ := h
  exact ⟨n, by rw [getElem?_shift]; exact hn, dep, hdep, indexOf?_shift NA NB nx dep w hx hi⟩

theorem walk_shift (NA NB : List RawNode) (nx : RawNode) (hx : ∀ n ∈ NA ++ NB, n.id ≠ nx.id) (vs : List Nat)
    (h : Walk (resolve (NA ++ NB)).1 vs) : Walk (resolve (NA ++ nx :: NB)).1 (vs.map (shift NA.length)) := by
  have hlen : ∀ v, v < (resolve (NA ++ NB)).1.length → shift NA.length v < (resolve (NA ++ nx :: NB)).1.length := by
    intro v hv
    simp only [resolve_length, List.length_append, List.length_cons, shift] at hv ⊢
    split <;> omega
  induction h with
  | single v hv => exact .single _ (hlen v hv)
  | cons v w rest hv he _ ih =>
    simp only [List.map_cons] at ih ⊢
    exact .cons _ _ _ (hlen v hv) (succ_shift NA NB nx hx v w he) ih

/-- **a cycle of the smaller graph is a cycle of the bigger one** -/
theorem cyclic_insert_node (NA NB : List RawNode) (nx : RawNode) (hx : ∀ n ∈ NA ++ NB, n.id ≠ nx.id)
    (h : Cyclic (resolve (NA ++ NB)).1) : Cyclic (resolve (NA ++ nx :: NB)).1 := by
  obtain ⟨vs, hw, hl, he⟩ := h
  refine ⟨vs.map (shift NA.length), walk_shift NA NB nx hx vs hw, by simpa using hl, ?_⟩
  rw [List.head?_map, List.getLast?_map, he]

/-- the same for job lists with pairwise distinct folded ids -/
theorem cyclic_add_job (lower : String → String) (A B : List JobIn) (x : JobIn)
    (h : (((A ++ x :: B).map fun j => lower j.idValue).filter (· ≠ "")).Nodup)
    (hc : Cyclic (graphOf lower (A ++ B))) : Cyclic (graphOf lower (A ++ x :: B)) := by
  have h₀ : (((A ++ B).map fun j => lower j.idValue).filter (· ≠ "")).Nodup := by
    refine h.sublist ?_
    simp only [List.map_append, List.map_cons, List.filter_append]
    exact List.Sublist.append_left (List.Sublist.filter _ (List.sublist_cons_self _ _)) _
  simp only [graphOf, nodesOf_of_nodup _ _ h, nodesOf_of_nodup _ _ h₀] at hc ⊢
  by_cases hid : lower x.idValue = ""
  · simpa [List.filter_append, List.filter_cons, hid] using hc
  · simp only [List.filter_append, List.filter_cons, hid, ne_eq, not_false_eq_true, decide_true, ↓reduceIte, List.map_append,
      List.map_cons] at hc ⊢
    refine cyclic_insert_node _ _ _ ?_ hc
    intro n hn' e
    -- `n` is the node of a job of `A ++ B` with the folded id of `x`
    simp only [List.mem_append, List.mem_map, List.mem_filter] at hn'
    have hmem : lower x.idValue ∈ ((A ++ B).map fun j => lower j.idValue).filter (· ≠ "") := by
      rcases hn' with ⟨j, ⟨hj, _⟩, rfl⟩ | ⟨j, ⟨hj, _⟩, rfl⟩
      · simp only [mkNode] at e
        exact List.mem_filter.2 ⟨List.mem_map.2 ⟨j, List.mem_append_left _ hj, e⟩, by simpa using hid⟩
      · simp only [mkNode] at e
        exact List.mem_filter.2 ⟨List.mem_map.2 ⟨j, List.mem_append_right _ hj, e⟩, by simpa using hid⟩
    -- but the ids of `A ++ x :: B` are pairwise distinct
    simp only [List.map_append, List.map_cons, List.filter_append, List.filter_cons, hid, ne_eq, not_false_eq_true, decide_true,
      ↓reduceIte] at h hmem
    rw [List.nodup_append] at h
    rcases List.mem_append.1 hmem with hm | hm
    · exact h.2.2 _ hm _ (List.mem_cons_self ..) rfl
    · exact (List.nodup_cons.1 h.2.1).1 hm

end AL.C09D
