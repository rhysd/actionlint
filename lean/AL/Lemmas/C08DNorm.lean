import AL.Lemmas.C08DBase
/-
  The AST with the NAMES of its case-insensitive mappings (and the ids, which are values) folded (`nWf`). The reading
  meant: two ASTs with the same normal form differ in the spelling of these names only — same ids (the parser's folded
  keys), same positions, same values. One fold per kind of name (`Folds`); the identity fold leaves that kind of name
  alone, so "only the keys of `with:` were re-spelled" is `nWf F` with every other field of `F` the identity.
-/
namespace AL.C08D
open AL.PW AL.Yaml AL.Ast AL.C13P

/-- one fold per kind of name -/
structure Folds where
  /-- keys of `env:` (workflow, job, step, container, service) -/
  env : String → String := id
  /-- keys of `with:` of a step -/
  input : String → String := id
  /-- the value of `id:` of a step -/
  stepId : String → String := id
  /-- job ids (keys of `jobs:`) and the entries of `needs:` -/
  jobId : String → String := id
  /-- keys of `with:` / `secrets:` of a job that calls a reusable workflow -/
  arg : String → String := id
  /-- keys of `outputs:` of a job -/
  output : String → String := id
  /-- keys of `services:` -/
  service : String → String := id
  /-- keys of `matrix:` (rows) and of the elements of `include:` / `exclude:` -/
  matrix : String → String := id
  /-- keys of `inputs:` / `secrets:` / `outputs:` of `workflow_call` and of `inputs:` of `workflow_dispatch` -/
  event : String → String := id

variable (F : Folds)

def nEnvVar (f : String → String) (v : EnvVar) : EnvVar := ⟨nStr f v.name, v.value⟩
def nEnv (f : String → String) (e : Env) : Env := ⟨e.vars.map (nAssoc (nEnvVar f)), e.expr⟩

def nInput (f : String → String) (v : Input) : Input := ⟨nStr f v.name, v.value⟩
def nAct (e : ExecAction) : ExecAction := { e with inputs := e.inputs.map (nAssoc (nInput F.input)) }
def nExec : Exec → Exec
  | .action e => .action (nAct F e)
  | x => x

def nStep (s : Step) : Step :=
  { s with id := s.id.map (nStr F.stepId), exec := nExec F s.exec, env := s.env.map (nEnv F.env) }

def nArg (f : String → String) (v : CallArg) : CallArg := ⟨nStr f v.name, v.value⟩
def nCall (c : WorkflowCall) : WorkflowCall :=
  { c with inputs := c.inputs.map (nAssoc (nArg F.arg)), secrets := c.secrets.map (nAssoc (nArg F.arg)) }

def nOutput (f : String → String) (v : Output) : Output := ⟨nStr f v.name, v.value⟩

def nContainer (c : Container) : Container := { c with env := c.env.map (nEnv F.env) }
def nService (s : Service) : Service := ⟨nStr F.service s.name, nContainer F s.container⟩
def nServices (s : Services) : Services := { s with value := s.value.map (nAssoc (nService F)) }

def nRow (f : String → String) (r : MatrixRow) : MatrixRow := { r with name := r.name.map (nStr f) }
def nAssign (f : String → String) (a : MatrixAssign) : MatrixAssign := ⟨nStr f a.key, a.value⟩
def nCombo (f : String → String) (c : MatrixCombination) : MatrixCombination := { c with assigns := c.assigns.map (nAssoc (nAssign f)) }
def nCombos (f : String → String) (c : MatrixCombinations) : MatrixCombinations :=
  { c with combinations := c.combinations.map (List.map (nCombo f)) }
def nMatrix (f : String → String) (m : Matrix) : Matrix :=
  { m with rows := m.rows.map (nAssoc (nRow f)), incl := m.incl.map (nCombos f), excl := m.excl.map (nCombos f) }
def nStrategy (s : Strategy) : Strategy := { s with matrix := s.matrix.map (nMatrix F.matrix) }

def nJob (j : Job) : Job :=
  { j with
    id := nStr F.jobId j.id
    needs := j.needs.map (List.map (nStr F.jobId))
    outputs := j.outputs.map (nAssoc (nOutput F.output))
    env := j.env.map (nEnv F.env)
    steps := j.steps.map (List.map (nStep F))
    strategy := j.strategy.map (nStrategy F)
    container := j.container.map (nContainer F)
    services := j.services.map (nServices F)
    workflowCall := j.workflowCall.map (nCall F) }

def nDispatchInput (f : String → String) (i : DispatchInput) : DispatchInput := { i with name := nStr f i.name }
def nCallInput (f : String → String) (i : CallInput) : CallInput := { i with name := nStr f i.name }
def nCallSecret (f : String → String) (i : CallSecret) : CallSecret := { i with name := nStr f i.name }
def nCallOutput (f : String → String) (i : CallOutput) : CallOutput := { i with name := nStr f i.name }

def nEvent (f : String → String) : Event → Event
  | .dispatch ins pos => .dispatch (ins.map (nAssoc (nDispatchInput f))) pos
  | .call ins secs outs pos =>
    .call (ins.map (List.map (nCallInput f))) (secs.map (nAssoc (nCallSecret f))) (outs.map (nAssoc (nCallOutput f))) pos
  | e => e

def nWf (w : Workflow) : Workflow :=
  { w with
    on := w.on.map (List.map (nEvent F.event))
    env := w.env.map (nEnv F.env)
    jobs := w.jobs.map (nAssoc (nJob F)) }

/-! ### the identity fold -/

@[simp] theorem nStr_id (s : Str) : nStr id s = s := rfl
theorem nStr_id' : nStr id = id := rfl

@[simp] theorem nAssoc_id {β : Type} (l : List (String × β)) : nAssoc id l = l :=
  List.map_id'' (fun _ => rfl) l

theorem option_map_id' {α : Type} (g : α → α) (h : ∀ x, g x = x) (o : Option α) : o.map g = o := by
  rw [funext h, Option.map_id']

theorem list_map_id' {α : Type} (g : α → α) (h : ∀ x, g x = x) (l : List α) : l.map g = l :=
  List.map_id'' h l

theorem nAssoc_id' {β : Type} (g : β → β) (h : ∀ x, g x = x) (l : List (String × β)) : nAssoc g l = l :=
  List.map_id'' (fun p => by rw [h]) l

@[simp] theorem nEnvVar_id (v : EnvVar) : nEnvVar id v = v := rfl
@[simp] theorem nEnv_id (e : Env) : nEnv id e = e := by
  cases e with | mk vars expr => simp [nEnv, option_map_id' _ (nAssoc_id' _ nEnvVar_id)]
@[simp] theorem nInput_id (v : Input) : nInput id v = v := rfl
@[simp] theorem nArg_id (v : CallArg) : nArg id v = v := rfl
@[simp] theorem nOutput_id (v : Output) : nOutput id v = v := rfl
@[simp] theorem nRow_id (r : MatrixRow) : nRow id r = r := by
  cases r with | mk name values expr => cases name <;> rfl
@[simp] theorem nAssign_id (a : MatrixAssign) : nAssign id a = a := rfl
@[simp] theorem nCombo_id (c : MatrixCombination) : nCombo id c = c := by
  cases c with | mk a e => simp [nCombo, option_map_id' _ (nAssoc_id' _ nAssign_id)]
@[simp] theorem nCombos_id (c : MatrixCombinations) : nCombos id c = c := by
  cases c with | mk a e => simp [nCombos, option_map_id' _ (list_map_id' _ nCombo_id)]
@[simp] theorem nMatrix_id (m : Matrix) : nMatrix id m = m := by
  cases m with
  | mk rows incl excl expr pos =>
    simp [nMatrix, option_map_id' _ (nAssoc_id' _ nRow_id), option_map_id' _ nCombos_id]

end AL.C08D
