import AL.Model.Scan
/-
  The scanner as a list. `s.unread` is what `Next` can still deliver, look-ahead first; `read`, `next`, `peek` and
  `init` are described on it, so that the two users of the scanner (expression lexer, glob validator) never look at
  `rest` and `ch` separately. A `read` complains exactly about the character it installs as look-ahead
  (`read_errs_nil`), and `init` is one `read`, or two when the first delivers a byte-order mark (`init_cons`).
  The condition `c.bad = false ∧ c.r ≠ 0` is written out: the lexer calls it `Lex.Clean`, the glob syntax
  `Spec.OkSym`, and both unfold to it.
-/
namespace AL

def _root_.AL.Scanner.unread (s : Scanner) : List Sym :=
  match s.ch with
  | some c => c :: s.rest
  | none => []

namespace Scanner

theorem unread_of_some {s : Scanner} {c : Sym} (h : s.ch = some c) : s.unread = c :: s.rest := by
  simp [unread, h]

theorem unread_eq_nil (s : Scanner) : s.unread = [] ↔ s.ch = none := by
  unfold unread; cases s.ch <;> simp

theorem unread_head (s : Scanner) : s.unread.head? = s.ch := by
  unfold unread; cases s.ch <;> rfl

theorem remaining_eq_unread (s : Scanner) : s.remaining = s.unread.length := by
  unfold remaining unread; cases s.ch <;> simp

theorem peek_eq_unread (s : Scanner) : s.peek = s.unread.head?.map (·.r) := by
  rw [unread_head]; rfl

/-! ### `read` -/

theorem read_unread (s : Scanner) : s.read.1.unread = s.rest := by
  unfold unread
  rw [read_ch, read_rest]
  cases s.rest <;> rfl

/-- After a `read`, `lastCharLen` is the width of the look-ahead (0 at EOF), and `srcPos` has grown by it. -/
theorem read_width (s : Scanner) :
    s.read.1.lastCharLen = (s.read.1.ch.map (·.w)).getD 0 ∧ s.read.1.srcPos = s.srcPos + s.read.1.lastCharLen := by
  unfold read
  cases s.rest with
  | nil => exact ⟨rfl, rfl⟩
  | cons d r =>
    obtain ⟨-, h2, h3, h4⟩ := s.advance_fields d r
    exact ⟨by rw [h4, h2]; rfl, by rw [h3, h4]⟩

/-- How a `read` moves the position: a line feed starts a new line, anything else advances the column by `n = 1`;
only EOF behind a character of width 0 (or behind nothing) does not count (`n = 0`). -/
theorem read_pos (s : Scanner) : ∃ n ≤ 1, (s.rest ≠ [] ∨ s.lastCharLen ≠ 0 → n = 1) ∧
    ((s.read.1.line = s.line ∧ s.read.1.lastLineLen = s.lastLineLen ∧ s.read.1.column = s.column + n) ∨
      ((∃ d r, s.rest = d :: r ∧ d.r = 10) ∧
        s.read.1.line = s.line + 1 ∧ s.read.1.lastLineLen = s.column + 1 ∧ s.read.1.column = 0)) := by
  unfold read
  cases s.rest with
  | nil =>
    by_cases hl : s.lastCharLen > 0
    · exact ⟨1, Nat.le_refl _, fun _ => rfl, .inl ⟨rfl, rfl, if_pos hl⟩⟩
    · exact ⟨0, Nat.zero_le _, fun h => h.elim (absurd rfl) (by omega), .inl ⟨rfl, rfl, if_neg hl⟩⟩
  | cons d r =>
    refine ⟨1, Nat.le_refl _, fun _ => rfl, ?_⟩
    unfold advance
    simp only []
    split
    · exact .inl ⟨rfl, rfl, rfl⟩
    · split
      · exact .inl ⟨rfl, rfl, rfl⟩
      · split
        · exact .inr ⟨⟨d, r, rfl, ‹_›⟩, rfl, rfl, rfl⟩
        · exact .inl ⟨rfl, rfl, rfl⟩

/-- An error carries `Pos()` as it is after the `read` that raises it (a reported character never starts a new line). -/
theorem read_errs_pos (s : Scanner) : ∀ e ∈ s.read.2, e.pos = s.read.1.pos := by
  unfold read
  cases s.rest with
  | nil => nofun
  | cons d r =>
    unfold advance
    simp only []
    split
    · exact fun e he => by cases List.mem_singleton.1 he; rfl
    · split
      · exact fun e he => by cases List.mem_singleton.1 he; rfl
      · split <;> nofun

theorem advance_errs_nil (s : Scanner) (d : Sym) (r : List Sym) : (s.advance d r).2 = [] ↔ d.bad = false ∧ d.r ≠ 0 := by
  unfold advance
  simp only []
  cases hb : d.bad <;> simp
  split
  · simp_all
  · split <;> simp_all

/-- `text/scanner` complains about NUL and about invalid UTF-8, when the character becomes the look-ahead. -/
theorem read_errs_nil (s : Scanner) : s.read.2 = [] ↔ ∀ c, s.read.1.ch = some c → c.bad = false ∧ c.r ≠ 0 := by
  unfold read
  cases s.rest with
  | nil => simp
  | cons d r =>
    simp only [advance_ch, Option.some.injEq, forall_eq']
    exact advance_errs_nil s d r

/-! ### `next` -/

theorem next_of_none {s : Scanner} (h : s.ch = none) : s.next = (none, s, []) := by
  simp only [next, h]

theorem next_of_some {s : Scanner} {c : Sym} (h : s.ch = some c) : s.next = (some c, s.read) := by
  simp only [next, h]

theorem next_unread (s : Scanner) : s.next.2.1.unread = s.unread.tail := by
  cases h : s.ch with
  | none => rw [next_of_none h, (unread_eq_nil s).2 h]; rfl
  | some c => rw [next_of_some h, read_unread, unread_of_some h]; rfl

/-- `Next` complains, if at all, about the character behind the one it delivers. -/
theorem next_errs_nil (s : Scanner) : s.next.2.2 = [] ↔ ∀ d, s.unread[1]? = some d → d.bad = false ∧ d.r ≠ 0 := by
  cases h : s.ch with
  | none => simp [next_of_none h, (unread_eq_nil s).2 h]
  | some c => simp [next_of_some h, unread_of_some h, read_errs_nil, read_ch, List.head?_eq_getElem?]

/-! ### `init` -/

theorem init_cons (c : Sym) (t : List Sym) :
    init (c :: t) = if c.r = 0xFEFF && !c.bad then ({ rest := c :: t } : Scanner).read.1.read
      else ({ rest := c :: t } : Scanner).read := by
  simp only [init, read, advance_ch]
  split
  · rename_i hb
    simp only [Bool.and_eq_true, decide_eq_true_eq, Bool.not_eq_true'] at hb
    rw [(advance_errs_nil _ c t).2 ⟨hb.2, by omega⟩]
    rfl
  · rfl

/-- What `init` leaves to be delivered: the source without a leading byte-order mark. -/
theorem init_unread (src : List Sym) :
    (init src).1.unread =
      match src with
      | [] => []
      | c :: t => if c.r = 0xFEFF && !c.bad then t else c :: t := by
  cases src with
  | nil => rfl
  | cons c t =>
    rw [init_cons]
    show _ = if c.r = 0xFEFF && !c.bad then t else c :: t
    split
    · rw [read_unread, read_rest]; rfl
    · rw [read_unread]

theorem init_errs_nil (src : List Sym) :
    (init src).2 = [] ↔ ∀ c, (init src).1.unread.head? = some c → c.bad = false ∧ c.r ≠ 0 := by
  rw [unread_head]
  cases src with
  | nil => exact read_errs_nil { rest := [] }
  | cons c t =>
    rw [init_cons]
    split <;> exact read_errs_nil _

end Scanner
end AL
