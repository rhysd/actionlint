import AL.Lemmas.LexerSpell
/-
  One call of `Next` (`lexNext_step`) and the token stream `lexAll` / `LexExpression`: it ends with END, its tokens are
  spelled by the grammar, they tile the source (`weave`) and sit at their offsets (`Placed`). The lemmas `go_…` are about
  `lexExpression.go`, the loop of `LexExpression` that collects the stream up to END or the first error.
-/
namespace AL.Lex
open AL AL.Spec

theorem skipWhite_remaining_le (st : LexState) : (skipWhite st).scan.remaining ≤ st.scan.remaining := by
  obtain ⟨gap, -, h, -⟩ := skipWhite_spec st
  rw [Scanner.remaining_eq_unread, Scanner.remaining_eq_unread, h]; simp

theorem skipWhite_buf_nil {st : LexState} (h : st.buf = []) : (skipWhite st).buf = [] := by
  obtain ⟨gap, -, -, -, g5, g6, -⟩ := skipWhite_spec st
  by_cases hg : gap = []
  · rw [g5 hg]; exact h
  · exact g6 hg

/-- every token other than END consumes at least one character -/
theorem lexNext_remaining (st : LexState) (h : (lexNext st).1.kind ≠ .end) :
    (lexNext st).2.scan.remaining < st.scan.remaining := by
  rcases lexNext_outcome st with hf | ⟨st1, x, k, hsteps, heq, hx, -⟩
  · exact absurd hf.1 h
  · rw [heq]
    have h1 := hsteps.remaining
    have h2 := skipWhite_remaining_le st
    have : x.length ≠ 0 := by simpa using hx
    show st1.scan.remaining < _
    omega

/-- the successful outcome of one `Next` call, relative to the source -/
structure TokStep (src done : List Sym) (st : LexState) (R : Tok × LexState) (done' : List Sym) : Prop where
  inv   : LInv src (done' ++ R.1.val) R.2
  buf   : R.2.buf = []
  off   : R.1.off = bytes done'
  flat  : Flat src → R.1.line = 1 ∧ R.1.col = done'.length + 1
  rem   : R.2.scan.remaining < st.scan.remaining
  clean : st.buf = [] → (∃ gap, done' = done ++ gap ∧ ∀ s ∈ gap, isWhitespace s.r = true) ∧
            Spelling R.1.kind R.1.val ∧ R.1.val ≠ []

theorem TokStep.prefix {src done : List Sym} {st : LexState} {R : Tok × LexState} {done' : List Sym}
    (h : TokStep src done st R done') : done' ++ R.1.val <+: src := by
  have := h.inv.split; rw [h.buf] at this
  exact ⟨R.2.scan.unread, by rw [this]; simp⟩

theorem TokStep.offset {src done : List Sym} {st : LexState} {R : Tok × LexState} {done' : List Sym}
    (h : TokStep src done st R done') : R.2.scan.pos.off = bytes (done' ++ R.1.val) := by
  have := h.inv.scan.pos_off; rw [h.buf] at this; simpa using this

theorem lexNext_step {src done : List Sym} {st : LexState} (hi : LInv src done st) :
    IsFail (lexNext st) ∨ ∃ done', TokStep src done st (lexNext st) done' := by
  rcases lexNext_outcome st with hf | ⟨st1, x, k, hsteps, heq, hx, hsp⟩
  · exact .inl hf
  · right
    obtain ⟨gap, g1, g2, -, g5, g6, g7, -⟩ := skipWhite_spec st
    have hi1 := hsteps.linv (g7 src done hi)
    refine ⟨(if gap = [] then done else done ++ st.buf ++ gap), ?_, ?_, ?_, ?_, ?_, ?_⟩
    · rw [heq]; exact hi1.token k
    · rw [heq]; rfl
    · rw [heq]; exact hi1.startOff
    · rw [heq]; exact hi1.startFlat
    · have h1 := hsteps.remaining
      have h2 := skipWhite_remaining_le st
      have : x.length ≠ 0 := by simpa using hx
      rw [heq]; show st1.scan.remaining < _; omega
    · intro hb
      have hb1 : st1.buf = x := by rw [hsteps.buf, skipWhite_buf_nil hb]; rfl
      refine ⟨⟨gap, ?_, g1⟩, ?_, ?_⟩
      · by_cases hg : gap = [] <;> simp [hg, hb]
      · rw [heq]; show Spelling k st1.buf; rw [hb1]; exact hsp
      · rw [heq]; show st1.buf ≠ []; rw [hb1]; exact hx

/-! ### the stream -/

theorem lexAll_succ (fuel : Nat) (st : LexState) : lexAll (fuel + 1) st =
    if (lexNext st).1.kind = .end then [⟨(lexNext st).1, (lexNext st).2.err, (lexNext st).2.scan.pos.off⟩]
    else ⟨(lexNext st).1, (lexNext st).2.err, (lexNext st).2.scan.pos.off⟩ :: lexAll fuel (lexNext st).2 := rfl

/-- the stream ends with END and has no END before, provided the fuel exceeds the number of unread characters -/
theorem lexAll_wellEnded : ∀ (fuel : Nat) (st : LexState), st.scan.remaining < fuel →
    ∃ init last, lexAll fuel st = init ++ [last] ∧ last.tok.kind = .end ∧ ∀ t ∈ init, t.tok.kind ≠ .end := by
  intro fuel
  induction fuel with
  | zero => intro st h; omega
  | succ n ih =>
    intro st h
    rw [lexAll_succ]
    split
    · rename_i he
      exact ⟨[], _, rfl, he, by simp⟩
    · rename_i he
      have := lexNext_remaining st he
      obtain ⟨init, last, h1, h2, h3⟩ := ih (lexNext st).2 (by omega)
      refine ⟨_ :: init, last, by rw [h1]; rfl, h2, ?_⟩
      intro t ht; simp at ht; rcases ht with rfl | ht
      · exact he
      · exact h3 t ht

theorem lexInit_remaining (src : List Sym) : (lexInit src).scan.remaining ≤ src.length := by
  have := (LInv.init src).split
  rw [Scanner.remaining_eq_unread]
  have h2 := congrArg List.length this
  simp at h2; omega

/-- (g′) of Props/C04Lex (`lex_spelling_statement'`), for every state with an empty token buffer -/
theorem lexAll_spelling : ∀ (fuel : Nat) (st : LexState), st.buf = [] → ∀ a ∈ lexAll fuel st,
    Spelling a.tok.kind a.tok.val ∧ (a.tok.kind = .end → a.err = none → runes a.tok.val = [125, 125]) := by
  intro fuel
  induction fuel with
  | zero => intro st _ a ha; simp [lexAll] at ha
  | succ n ih =>
    intro st hb a ha
    rw [lexAll_succ] at ha
    -- the first token
    have hfirst : Spelling (lexNext st).1.kind (lexNext st).1.val ∧
        ((lexNext st).1.kind = .end → (lexNext st).2.err = none → runes (lexNext st).1.val = [125, 125]) ∧
        ((lexNext st).1.kind ≠ .end → (lexNext st).2.buf = []) := by
      rcases lexNext_outcome st with hf | ⟨st1, x, k, hsteps, heq, hx, hsp⟩
      · refine ⟨?_, fun _ h => absurd h hf.2.2, fun h => absurd hf.1 h⟩
        rw [hf.1, hf.2.1]; exact .inr rfl
      · have hb1 : st1.buf = x := by rw [hsteps.buf, skipWhite_buf_nil hb]; rfl
        rw [heq]
        refine ⟨?_, ?_, fun _ => rfl⟩
        · show Spelling k st1.buf; rw [hb1]; exact hsp
        · intro hk _
          show runes st1.buf = _
          rw [hb1]
          have hk : k = .end := hk
          subst hk
          rcases hsp with h | h
          · exact h
          · exfalso; apply hx; simpa [runes] using h
    split at ha
    · simp at ha; subst ha; exact ⟨hfirst.1, hfirst.2.1⟩
    · rename_i he
      simp at ha; rcases ha with rfl | ha
      · exact ⟨hfirst.1, hfirst.2.1⟩
      · exact ih _ (hfirst.2.2 he) a ha

/-- interleave whitespace gaps and token texts. Props/C04Lex.lean states the same function as `AL.C04.interleave`, so
that (j) reads without this file; `C04.interleave_eq_weave` identifies the two. -/
def weave : List (List Sym) → List Tok → List Sym
  | g :: gs, t :: ts => g ++ t.val ++ weave gs ts
  | _, _ => []

theorem go_nil (acc : List Tok) : lexExpression.go [] acc = .ok (acc, 0) := rfl

theorem go_cons (a : ATok) (rest : List ATok) (acc : List Tok) : lexExpression.go (a :: rest) acc =
    match a.err with
    | some e => .error (e, a.offset)
    | none => if a.tok.kind = .end then .ok (acc ++ [a.tok], a.offset) else lexExpression.go rest (acc ++ [a.tok]) := rfl

/-- what (k) of Props/C04Lex (`lex_positions_statement`) needs about one token -/
def Placed (src : List Sym) (t : Tok) : Prop :=
  ∃ d, d ++ t.val <+: src ∧ t.off = bytes d ∧ (Flat src → t.line = 1 ∧ t.col = d.length + 1)

/-- A successful run of the loop is a chain of `TokStep`s: every token collected is `Placed`, and, from a state with an
empty buffer, gaps and tokens tile the source up to `off`. -/
theorem go_run {src : List Sym} : ∀ (fuel : Nat) (st : LexState) (done : List Sym) (acc ts : List Tok) (off : Nat),
    LInv src done st → st.scan.remaining < fuel →
    lexExpression.go (lexAll fuel st) acc = .ok (ts, off) →
    ∃ toks, ts = acc ++ toks ∧ (∀ t ∈ toks, Placed src t) ∧
      (st.buf = [] → ∃ gaps, gaps.length = toks.length ∧ (∀ g ∈ gaps, ∀ s ∈ g, isWhitespace s.r = true) ∧
        done ++ weave gaps toks <+: src ∧ bytes (done ++ weave gaps toks) = off) := by
  intro fuel
  induction fuel with
  | zero => intro st done acc ts off _ h; omega
  | succ n ih =>
    intro st done acc ts off hi hrem hgo
    rw [lexAll_succ] at hgo
    have herr : (lexNext st).2.err = none := by
      cases he : (lexNext st).2.err with
      | none => rfl
      | some e => split at hgo <;> simp [go_cons, he] at hgo
    rcases lexNext_step hi with hf | ⟨done', hstep⟩
    · exact absurd herr hf.2.2
    · have hpl : Placed src (lexNext st).1 := ⟨done', hstep.prefix, hstep.off, hstep.flat⟩
      -- the gap and the token go from the tiling to what is done
      have e : ∀ gap gaps toks, done' = done ++ gap → done ++ weave (gap :: gaps) ((lexNext st).1 :: toks) =
          done' ++ (lexNext st).1.val ++ weave gaps toks := fun _ _ _ hgap => by
        rw [hgap]; simp only [weave, List.append_assoc]
      split at hgo
      · rename_i hk
        simp only [go_cons, herr, hk, if_true] at hgo
        cases hgo
        refine ⟨[(lexNext st).1], rfl, by simpa using hpl, fun hb => ?_⟩
        obtain ⟨⟨gap, hgap, hws⟩, -, -⟩ := hstep.clean hb
        refine ⟨[gap], rfl, by simpa using hws, ?_, ?_⟩
        · rw [e _ _ _ hgap, show weave [] [] = [] from rfl, List.append_nil]; exact hstep.prefix
        · rw [e _ _ _ hgap, show weave [] [] = [] from rfl, List.append_nil]; exact hstep.offset.symm
      · rename_i hk
        simp only [go_cons, herr, hk, if_false] at hgo
        obtain ⟨toks, h1, h2, h3⟩ := ih (lexNext st).2 _ _ ts off hstep.inv (by have := hstep.rem; omega) hgo
        refine ⟨(lexNext st).1 :: toks, by simp [h1], ?_, fun hb => ?_⟩
        · intro t ht; simp at ht; rcases ht with rfl | ht
          · exact hpl
          · exact h2 t ht
        · obtain ⟨⟨gap, hgap, hws⟩, -, -⟩ := hstep.clean hb
          obtain ⟨gaps, g1, g2, g3, g4⟩ := h3 hstep.buf
          refine ⟨gap :: gaps, by simp [g1], ?_, by rw [e _ _ _ hgap]; exact g3, by rw [e _ _ _ hgap]; exact g4⟩
          intro g hg; simp at hg; rcases hg with rfl | hg
          · exact hws
          · exact g2 g hg

/-- the source starts with a byte-order mark (which `text/scanner` skips) -/
def StartsWithBOM (src : List Sym) : Prop := ∃ c rest, src = c :: rest ∧ c.r = 0xFEFF ∧ c.bad = false

theorem lexInit_buf {src : List Sym} (h : ¬ StartsWithBOM src) : (lexInit src).buf = [] := by
  unfold lexInit
  simp only [scanErrs_buf]
  cases src with
  | nil => rfl
  | cons c r =>
    simp only
    split
    · rename_i hb
      simp at hb
      exact absurd ⟨c, r, rfl, hb.1, hb.2⟩ h
    · rfl

/-- `go_run` for the whole of `LexExpression` -/
theorem lexExpression_run {src : List Sym} {ts : List Tok} {off : Nat} (h : lexExpression src = .ok (ts, off)) :
    (∀ t ∈ ts, Placed src t) ∧
    (¬ StartsWithBOM src → ∃ gaps, gaps.length = ts.length ∧ (∀ g ∈ gaps, ∀ s ∈ g, isWhitespace s.r = true) ∧
      weave gaps ts <+: src ∧ bytes (weave gaps ts) = off) := by
  obtain ⟨toks, rfl, hp, ht⟩ := go_run (src.length + 2) (lexInit src) [] [] ts off (LInv.init src)
    (by have := lexInit_remaining src; omega) h
  exact ⟨hp, fun hb => by simpa only [List.nil_append] using ht (lexInit_buf hb)⟩

/-- every token `LexExpression` returns is one of the stream, with no error recorded -/
theorem go_mem : ∀ (l : List ATok) (acc ts : List Tok) (off : Nat), lexExpression.go l acc = .ok (ts, off) →
    ∀ t ∈ ts, t ∈ acc ∨ ∃ a ∈ l, a.tok = t ∧ a.err = none := by
  intro l
  induction l with
  | nil => intro acc ts off h t ht; rw [go_nil] at h; cases h; exact .inl ht
  | cons a rest ih =>
    intro acc ts off h t ht
    rw [go_cons] at h
    cases he : a.err with
    | some e => simp [he] at h
    | none =>
      simp only [he] at h
      split at h
      · cases h
        simp at ht; rcases ht with ht | rfl
        · exact .inl ht
        · exact .inr ⟨a, by simp, rfl, he⟩
      · rcases ih _ _ _ h t ht with h1 | ⟨b, hb, hbt, hbe⟩
        · simp at h1; rcases h1 with h1 | rfl
          · exact .inl h1
          · exact .inr ⟨a, by simp, rfl, he⟩
        · exact .inr ⟨b, by simp [hb], hbt, hbe⟩

end AL.Lex
