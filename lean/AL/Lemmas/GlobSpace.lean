import AL.Lemmas.GlobComplete
/-
  `ref_implies_path`: a pattern accepted as a ref filter lies in the ref syntax (soundness), the ref syntax
  is part of the path syntax and none of its patterns has a space at either end, and every pattern of the
  path syntax is accepted (completeness).
-/
namespace AL.Glob
open AL AL.Spec

theorem validate_ref_path (src : List Sym) (h : validate true src = []) : validate false src = [] := by
  obtain ⟨hne, h⟩ := validate_sound_eff true src h
  exact validate_complete_eff false src hne (h.imp_right (validGlobGen_mono (r' := false) id nofun))

theorem validate_ref_space_head (c : Sym) (t : List Sym) (hc : c.r = 32) : validate true (c :: t) ≠ [] := by
  intro h
  obtain ⟨_, h⟩ := validate_sound_eff true _ h
  rw [init_pending] at h
  simp only [hc, Nat.reduceEqDiff, decide_false, Bool.false_and, Bool.false_eq_true, if_false, reduceCtorEq, false_or] at h
  obtain ⟨_, _, hE, _⟩ := h
  have hb : body (c :: t) = c :: t := by simp [body, hc]
  rw [hb] at hE
  exact elems_ref_head hE hc

theorem validate_ref_space_last (src : List Sym) (hs : src.getLast?.map (·.r) = some 32) : validate true src ≠ [] := by
  intro h
  obtain ⟨_, h⟩ := validate_sound_eff true src h
  have hl : (pending (Scanner.init src).1).getLast?.map (·.r) = some 32 := by
    rw [init_pending]
    cases src with
    | nil => cases hs
    | cons c t =>
      simp only []
      split
      · rename_i hb
        simp only [Bool.and_eq_true, decide_eq_true_eq] at hb
        exact last_tail hs (by omega)
      · exact hs
  generalize pending (Scanner.init src).1 = l at h hl
  rcases h with h | ⟨_, _, hE, _⟩
  · subst h; cases hl
  · refine elems_ref_last hE ?_
    unfold body
    split
    · rename_i h33
      cases l with
      | nil => cases hl
      | cons c t => exact last_tail hl (by simp at h33; omega)
    · exact hl

theorem ref_implies_path (src : List Sym) (h : validateRef src = []) : validatePath src = [] := by
  unfold validateRef at h
  unfold validatePath
  simp only []
  split
  · rename_i hh
    cases src with
    | nil => simp at hh
    | cons c t => exact absurd h (validate_ref_space_head c t (by simpa using hh))
  · split
    · rename_i hl
      exact absurd h (validate_ref_space_last src hl)
    · exact validate_ref_path src h

end AL.Glob
