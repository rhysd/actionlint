import AL.Lemmas.RenderBasic
/-
  C16 helper lemmas, part 2: `matchKind`, the lazy search `(.+?)` in front of a continuation (`lazyPlus`) of which
  `matchMsg` and `matchFile` are the two instances, and `matchTail`, read as two `:digits` stages (`stage`) followed by the
  message search. Then the shape of what stands behind the file in a header line (`GoodTail`; `sepPrefix` tests its
  beginning `:digits:digits: `) and the lemma the round trip rests on, `matchTail_append_goodTail`: in front of a
  `GoodTail`, a non-empty piece `rest` of the file name makes `matchTail` succeed iff `sepPrefix rest`.
-/
namespace AL.Render

/-- every character is matched by `.` -/
abbrev AllDot (s : List Char) : Prop := ∀ c ∈ s, dot c = true

/-! ### `matchKind` -/

theorem matchKind_bracket (k : List Char) (hk : k ≠ []) (hd : AllDot k) :
    matchKind (' ' :: '[' :: (k ++ [']'])) = some k := by
  have h1 : k.isEmpty = false := by cases k <;> simp_all
  have h2 : k.all dot = true := by simpa using hd
  simp [matchKind, h1, h2]

theorem matchKind_some {s k : List Char} (h : matchKind s = some k) :
    s = ' ' :: '[' :: (k ++ [']']) ∧ k ≠ [] ∧ AllDot k := by
  unfold matchKind at h
  split at h
  · rename_i rest
    split at h
    · rename_i revKind hrev
      dsimp only at h
      split at h
      · rename_i hcond
        simp only [Option.some.injEq] at h
        subst h
        have hrest : rest = revKind.reverse ++ [']'] := by
          have := congrArg List.reverse hrev
          simpa using this
        refine ⟨by rw [hrest], ?_, ?_⟩
        · intro hnil
          simp [hnil] at hcond
        · intro c hc
          simp only [Bool.and_eq_true, List.all_eq_true] at hcond
          exact hcond.2 c hc
      · cases h
    · cases h
  · cases h

theorem matchKind_none_of_head {s : List Char} (h : ∀ r, s ≠ ' ' :: '[' :: r) : matchKind s = none := by
  cases hs : matchKind s with
  | none => rfl
  | some k => exact absurd (matchKind_some hs).1 (h _)


/-- `(.+?)` followed by `k`: the shortest non-empty prefix of `.`-characters after which `k` matches what is left;
`acc` is what has been consumed already -/
def lazyPlus {β : Type} (k : List Char → Option β) : List Char → List Char → Option (List Char × β)
  | _, [] => none
  | acc, c :: rest =>
    if !dot c then none
    else match k rest with
      | some b => some (acc ++ [c], b)
      | none => lazyPlus k (acc ++ [c]) rest

theorem matchMsg_eq_lazyPlus : ∀ (s acc : List Char), matchMsg acc s = lazyPlus matchKind acc s
  | [], _ => rfl
  | c :: rest, acc => by
    rw [matchMsg, lazyPlus]
    cases matchKind rest with
    | some k => rfl
    | none => simp only [matchMsg_eq_lazyPlus rest]

theorem matchFile_eq_lazyPlus : ∀ (s acc : List Char), matchFile acc s = lazyPlus matchTail acc s
  | [], _ => rfl
  | c :: rest, acc => by
    rw [matchFile, lazyPlus]
    cases matchTail rest with
    | some y => rfl
    | none => simp only [matchFile_eq_lazyPlus rest]

section lazy
variable {β : Type} (k : List Char → Option β)

/-- the search stops exactly at the end of `p` when no earlier split lets `k` match -/
theorem lazyPlus_prefix : ∀ (p acc T : List Char) (x : β), p ≠ [] → AllDot p →
    (∀ pre rest, p = pre ++ rest → pre ≠ [] → rest ≠ [] → k (rest ++ T) = none) → k T = some x →
    lazyPlus k acc (p ++ T) = some (acc ++ p, x)
  | [], _, _, _, h, _, _, _ => absurd rfl h
  | c :: p', acc, T, x, _, hdot, hpre, hT => by
    have hc : dot c = true := hdot c (by simp)
    rw [List.cons_append, lazyPlus]
    simp only [hc, Bool.not_true, Bool.false_eq_true, if_false]
    cases p' with
    | nil => simp [hT]
    | cons y p'' =>
      rw [hpre [c] (y :: p'') rfl (by simp) (by simp)]
      have ih := lazyPlus_prefix (y :: p'') (acc ++ [c]) T x (by simp)
        (fun d hd => hdot d (List.mem_cons_of_mem _ hd))
        (fun pre rest hsplit hp hr => hpre (c :: pre) rest (by rw [hsplit]; rfl) (by simp) hr)
        hT
      simp only
      rw [ih]
      simp

/-- inversion: what was consumed is a non-empty run of `.`-characters, `k` matches behind it and behind no
earlier split -/
theorem lazyPlus_some : ∀ (s acc f : List Char) (x : β), lazyPlus k acc s = some (f, x) →
    ∃ pre rest, s = pre ++ rest ∧ pre ≠ [] ∧ f = acc ++ pre ∧ AllDot pre ∧ k rest = some x ∧
      ∀ p1 p2, pre = p1 ++ p2 → p1 ≠ [] → p2 ≠ [] → k (p2 ++ rest) = none
  | [], acc, f, x, h => by simp [lazyPlus] at h
  | c :: s', acc, f, x, h => by
    rw [lazyPlus] at h
    by_cases hc : dot c = true
    · simp only [hc, Bool.not_true, Bool.false_eq_true, if_false] at h
      cases hk : k s' with
      | some y =>
        simp only [hk, Option.some.injEq, Prod.mk.injEq] at h
        obtain ⟨rfl, rfl⟩ := h
        refine ⟨[c], s', rfl, by simp, rfl, (fun d hd => by rw [List.mem_singleton.1 hd]; exact hc), hk, ?_⟩
        intro p1 p2 hsplit hp1 hp2
        have hlen := congrArg List.length hsplit
        simp only [List.length_cons, List.length_nil, List.length_append] at hlen
        have : 0 < p1.length := List.length_pos_iff.mpr hp1
        have : 0 < p2.length := List.length_pos_iff.mpr hp2
        omega
      | none =>
        simp only [hk] at h
        obtain ⟨pre, rest, hs', hpre, hf, hpd, hrest, hmin⟩ := lazyPlus_some s' (acc ++ [c]) f x h
        refine ⟨c :: pre, rest, by rw [hs']; rfl, by simp, by rw [hf]; simp, ?_, hrest, ?_⟩
        · intro d hd
          rcases List.mem_cons.1 hd with rfl | hd
          · exact hc
          · exact hpd d hd
        · intro p1 p2 hsplit hp1 hp2
          cases p1 with
          | nil => exact absurd rfl hp1
          | cons y p1' =>
            simp only [List.cons_append, List.cons.injEq] at hsplit
            obtain ⟨_, hsplit⟩ := hsplit
            by_cases hp1' : p1' = []
            · subst hp1'
              simp only [List.nil_append] at hsplit
              rw [← hsplit, ← hs']; exact hk
            · exact hmin p1' p2 hsplit hp1' hp2
    · simp [hc] at h

end lazy
/-! ### `matchMsg` -/

/-- the lazy `(.+?)` stops at the end of `m` when no ` [` occurs in `m` after its first character -/
theorem matchMsg_lazy (m acc k : List Char) (hm : m ≠ []) (hdot : AllDot m)
    (hnb : ∀ a b, m = a ++ ' ' :: '[' :: b → a = []) (hk : k ≠ []) (hkd : AllDot k) :
    matchMsg acc (m ++ ' ' :: '[' :: (k ++ [']'])) = some (acc ++ m, k) := by
  rw [matchMsg_eq_lazyPlus]
  refine lazyPlus_prefix matchKind m acc _ k hm hdot (fun pre rest hsplit hp hr => ?_) (matchKind_bracket k hk hkd)
  apply matchKind_none_of_head
  intro r hr'
  match rest, hr with
  | [y], _ =>
    simp only [List.cons_append, List.nil_append, List.cons.injEq] at hr'
    exact absurd hr'.2.1 (by decide)
  | y :: z :: r'', _ =>
    simp only [List.cons_append, List.cons.injEq] at hr'
    obtain ⟨rfl, rfl, _⟩ := hr'
    exact hp (hnb pre r'' hsplit)

/-- on a one-line text that ends in ` [k]` the message search always succeeds -/
theorem matchMsg_isSome : ∀ (s acc k : List Char), s ≠ [] → AllDot s → k ≠ [] → AllDot k →
    (matchMsg acc (s ++ ' ' :: '[' :: (k ++ [']']))).isSome = true
  | [], _, _, h, _, _, _ => absurd rfl h
  | c :: s', acc, k, _, hdot, hk, hkd => by
    have hc : dot c = true := hdot c (by simp)
    rw [List.cons_append, matchMsg]
    simp only [hc, Bool.not_true, Bool.false_eq_true, if_false]
    cases hmk : matchKind (s' ++ ' ' :: '[' :: (k ++ [']'])) with
    | some k' => simp
    | none =>
      cases s' with
      | nil => simp [matchKind_bracket k hk hkd] at hmk
      | cons x s'' =>
        exact matchMsg_isSome (x :: s'') (acc ++ [c]) k (by simp)
          (fun d hd => hdot d (by simp [List.mem_cons] at hd ⊢; exact Or.inr hd)) hk hkd

/-! ### `matchTail`, decomposed into two `:digits` stages -/

/-- `:(\d+)`: the digits and the rest -/
def stage (s : List Char) : Option (List Char × List Char) :=
  match s with
  | ':' :: r => if (takeDigits r).1.isEmpty then none else some (takeDigits r)
  | _ => none

theorem stage_colon (r : List Char) :
    stage (':' :: r) = if (takeDigits r).1.isEmpty then none else some (takeDigits r) := rfl

theorem stage_not_colon (s : List Char) (h : ∀ r, s ≠ ':' :: r) : stage s = none := by
  unfold stage; split
  · rename_i r; exact absurd rfl (h r)
  · rfl

theorem matchTail_eq_stage (s : List Char) :
    matchTail s =
      match stage s with
      | none => none
      | some p =>
        match stage p.2 with
        | none => none
        | some q =>
          match q.2 with
          | ':' :: ' ' :: r5 =>
            (matchMsg [] r5).map fun mk =>
              ((String.ofList p.1).toNat!, (String.ofList q.1).toNat!, mk.1, mk.2)
          | _ => none := by
  unfold matchTail
  split
  · rename_i r1
    rw [stage_colon]
    simp only
    by_cases h1 : (takeDigits r1).1.isEmpty = true
    · simp [h1]
    · simp only [h1, Bool.false_eq_true, if_false]
      split
      · rename_i r3 hr2
        rw [hr2, stage_colon]
        by_cases h2 : (takeDigits r3).1.isEmpty = true
        · simp [h2]
        · simp only [h2, Bool.false_eq_true, if_false]
          split
          · rename_i r5 hr4
            simp only [hr4]
          · rename_i hr4
            split
            · rename_i r5 hr4'
              exact absurd hr4' (hr4 r5)
            · rfl
      · rename_i hr2
        rw [stage_not_colon _ hr2]
  · rename_i hs
    rw [stage_not_colon _ hs]

theorem stage_some {s : List Char} {p : List Char × List Char} (h : stage s = some p) :
    s = ':' :: (p.1 ++ p.2) ∧ p.1 ≠ [] ∧ (∀ c ∈ p.1, isDigit c = true) ∧ NoDigitHead p.2 := by
  unfold stage at h
  split at h
  · rename_i r
    split at h
    · cases h
    · rename_i hne
      simp only [Option.some.injEq] at h
      subst h
      obtain ⟨h1, h2, h3⟩ := takeDigits_spec r
      refine ⟨by rw [h1], ?_, h2, h3⟩
      intro hnil
      simp [hnil] at hne
  · cases h

theorem stage_digits (d t : List Char) (hd : d ≠ []) (hdd : ∀ c ∈ d, isDigit c = true) (ht : NoDigitHead t) :
    stage (':' :: (d ++ t)) = some (d, t) := by
  have : d.isEmpty = false := by cases d <;> simp_all
  simp [stage, takeDigits_digits_append d t hdd ht, this]

theorem stage_append (a b : List Char) (ha : a ≠ []) (hb : NoDigitHead b) :
    stage (a ++ b) = (stage a).map fun p => (p.1, p.2 ++ b) := by
  cases a with
  | nil => exact absurd rfl ha
  | cons x a' =>
    by_cases hx : x = ':'
    · subst hx
      simp only [List.cons_append, stage, takeDigits_append a' b hb]
      by_cases h1 : (takeDigits a').1.isEmpty = true
      · simp [h1]
      · simp [h1]
    · have hn (t : List Char) : stage (x :: t) = none := stage_not_colon _ fun r hr => hx (List.cons.inj hr).1
      rw [List.cons_append, hn, hn]; rfl

/-- `matchTail` on `:d1:d2: R` with two non-empty digit lists -/
theorem matchTail_digits (d1 d2 R : List Char) (h1 : d1 ≠ []) (h2 : d2 ≠ [])
    (hd1 : ∀ c ∈ d1, isDigit c = true) (hd2 : ∀ c ∈ d2, isDigit c = true) :
    matchTail (':' :: (d1 ++ ':' :: (d2 ++ ':' :: ' ' :: R))) =
      (matchMsg [] R).map fun mk => ((String.ofList d1).toNat!, (String.ofList d2).toNat!, mk.1, mk.2) := by
  rw [matchTail_eq_stage, stage_digits d1 _ h1 hd1 (noDigitHead_colon _)]
  simp only
  rw [stage_digits d2 _ h2 hd2 (noDigitHead_colon _)]
  rfl

/-! ### the separator shape `^:\d+:\d+: ` and independence of the tail -/

/-- does `s` start with `:digits:digits: `? -/
def sepPrefix (s : List Char) : Bool :=
  match stage s with
  | none => false
  | some p =>
    match stage p.2 with
    | none => false
    | some q =>
      match q.2 with
      | ':' :: ' ' :: _ => true
      | _ => false

/-- the part of a header line after the file: `:d1:d2: m [k]` -/
structure GoodTail (T : List Char) : Prop where
  ex : ∃ d1 d2 m k : List Char, d1 ≠ [] ∧ d2 ≠ [] ∧ (∀ c ∈ d1, isDigit c = true) ∧ (∀ c ∈ d2, isDigit c = true) ∧
    m ≠ [] ∧ AllDot m ∧ k ≠ [] ∧ AllDot k ∧
    T = ':' :: (d1 ++ ':' :: (d2 ++ ':' :: ' ' :: (m ++ ' ' :: '[' :: (k ++ [']']))))

theorem allDot_of_digits {d : List Char} (h : ∀ c ∈ d, isDigit c = true) : AllDot d :=
  fun c hc => dot_of_isDigit (h c hc)

/-- For a suffix `rest` of the file, whether the pattern's tail matches `rest ++ T` does not depend on the
good tail `T`: it matches iff `rest` itself starts with `:digits:digits: `. -/
theorem matchTail_append_goodTail (rest T : List Char) (hT : GoodTail T) (hne : rest ≠ []) (hdot : AllDot rest) :
    (matchTail (rest ++ T)).isSome = sepPrefix rest := by
  obtain ⟨d1, d2, m, k, h1, h2, hd1, hd2, hm, hmd, hk, hkd, rfl⟩ := hT.ex
  rw [matchTail_eq_stage, sepPrefix, stage_append rest _ hne (noDigitHead_colon _)]
  cases hp : stage rest with
  | none => rfl
  | some p =>
    obtain ⟨hrest, _, hpd, _⟩ := stage_some hp
    have hp2dot : AllDot p.2 := fun c hc => hdot c (by rw [hrest]; simp [hc])
    simp only [Option.map_some]
    by_cases hp2 : p.2 = []
    · -- the first number runs up to the end of `rest`: line := it, col := d1, then `:d2` is not `: `
      rw [hp2]
      simp only [List.nil_append]
      rw [stage_digits d1 _ h1 hd1 (noDigitHead_colon _)]
      simp only
      have : stage ([] : List Char) = none := rfl
      rw [this]
      cases d2 with
      | nil => exact absurd rfl h2
      | cons x d2' =>
        have hx : x ≠ ' ' := isDigit_ne_space (hd2 x (by simp))
        simp only [List.cons_append]
        split
        · rename_i r5 hr
          simp only [List.cons.injEq] at hr
          exact absurd hr.2.1 hx
        · rfl
    · rw [stage_append p.2 _ hp2 (noDigitHead_colon _)]
      cases hq : stage p.2 with
      | none => rfl
      | some q =>
        obtain ⟨hp2eq, _, hqd, _⟩ := stage_some hq
        have hq2dot : AllDot q.2 := fun c hc => hp2dot c (by rw [hp2eq]; simp [hc])
        simp only [Option.map_some]
        match hq2 : q.2 with
        | [] =>
          simp only [List.nil_append]
          cases d1 with
          | nil => exact absurd rfl h1
          | cons x d1' =>
            have hx : x ≠ ' ' := isDigit_ne_space (hd1 x (by simp))
            simp only [List.cons_append]
            split
            · rename_i r5 hr
              simp only [List.cons.injEq] at hr
              exact absurd hr.2.1 hx
            · rfl
        | [y] =>
          simp only [List.cons_append, List.nil_append]
          split
          · rename_i r5 hr
            simp only [List.cons.injEq] at hr
            exact absurd hr.2.1 (by decide)
          · rfl
        | y :: z :: r5' =>
          simp only [List.cons_append]
          by_cases hyz : y = ':' ∧ z = ' '
          · obtain ⟨rfl, rfl⟩ := hyz
            simp only [Option.isSome_map]
            have hr5dot : AllDot r5' := fun c hc => hq2dot c (by rw [hq2]; simp [hc])
            have key := matchMsg_isSome
              (r5' ++ ':' :: (d1 ++ ':' :: (d2 ++ ':' :: ' ' :: m))) [] k (by simp)
              (by
                simp only [AllDot, List.forall_mem_append, List.forall_mem_cons, dot_colon, dot_space, true_and]
                exact ⟨hr5dot, allDot_of_digits hd1, allDot_of_digits hd2, hmd⟩)
              hk hkd
            simpa [List.append_assoc] using key
          · split
            · rename_i r5 hr
              simp only [List.cons.injEq] at hr
              exact absurd ⟨hr.1, hr.2.1⟩ hyz
            · split
              · rename_i r5 hr
                simp only [List.cons.injEq] at hr
                exact absurd ⟨hr.1, hr.2.1⟩ hyz
              · rfl

/-! ### `matchFile` -/

theorem matchFile_prefix (file acc T : List Char) (x : Nat × Nat × List Char × List Char)
    (hne : file ≠ []) (hdot : AllDot file)
    (hpre : ∀ pre rest, file = pre ++ rest → pre ≠ [] → rest ≠ [] → matchTail (rest ++ T) = none)
    (hT : matchTail T = some x) : matchFile acc (file ++ T) = some (acc ++ file, x) := by
  rw [matchFile_eq_lazyPlus]
  exact lazyPlus_prefix matchTail file acc T x hne hdot hpre hT

end AL.Render
