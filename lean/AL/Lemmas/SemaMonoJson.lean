import AL.Model.Json
import AL.Lemmas.SemaMonoBasic
/-
  C06, C08: the types derived from JSON literals (`AL.Json.fromJson`, the model of `typeOfJSONValue` that the driver
  uses). Every such type has key-sorted property lists, so the hypothesis `WfEnv.fromJson` of C06 (e') holds; and every
  key of an object type, being `lower` of a member name, is fixed by an idempotent `lower` (`Json.memberTys_keys`, for (c)
  of Props/C08.lean).
-/
namespace AL.Sema
open AL AL.Ty AL.Json

/-- a fold of `setProp`s keeps a property list key-sorted, whatever key and value each element contributes -/
theorem foldl_setProp_sorted {α : Type} {key : α → String} {val : α → Ty} (l : List α) :
    ∀ init, sortedKeys init = true → sortedKeys (l.foldl (fun ps e => Ty.setProp (key e) (val e) ps) init) = true := by
  induction l with
  | nil => intro init h; exact h
  | cons e rest ih => intro init h; exact ih _ (setProp_sorted init h)

theorem foldl_setProp_wfProps {α : Type} {key : α → String} {val : α → Ty} (l : List α) (hl : ∀ e ∈ l, wf (val e) = true) :
    ∀ init, wfProps init = true → wfProps (l.foldl (fun ps e => Ty.setProp (key e) (val e) ps) init) = true := by
  induction l with
  | nil => intro init h; exact h
  | cons e rest ih =>
    intro init h
    exact ih (fun x hx => hl x (List.mem_cons_of_mem _ hx)) _
      (setProp_wfProps (hl e (List.mem_cons_self ..)) init h)

/-- the collision-resolving fold of `memberTys` only ever keeps bindings of its input -/
theorem folded_all (P : String × String × Ty → Prop) (acc : List (String × String × Ty)) (hacc : ∀ e ∈ acc, P e) :
    ∀ init, (∀ e ∈ init, P e) →
      ∀ e ∈ acc.foldl (fun (m : List (String × String × Ty)) (e : String × String × Ty) =>
        match m.find? (fun x => x.2.1 = e.2.1) with
        | some old => if old.1 ≤ e.1 then m.map (fun x => if x.2.1 = e.2.1 then e else x) else m
        | none => m ++ [e]) init, P e := by
  intro init h
  refine List.foldlRecOn (motive := fun m => ∀ e ∈ m, P e) acc _ h fun m hm a ha e he => ?_
  have ha := hacc a ha
  split at he
  · split at he
    · rcases List.mem_map.mp he with ⟨x, hx, rfl⟩
      split
      · exact ha
      · exact hm x hx
    · exact hm e he
  · rcases List.mem_append.mp he with he | he
    · exact hm e he
    · simp only [List.mem_singleton] at he; subst he; exact ha

mutual
theorem typeOf_wf (lower : String → String) : (v : JVal) → wf (typeOf lower v) = true
  | .null => by simp [typeOf, wf]
  | .bool => by simp [typeOf, wf]
  | .num => by simp [typeOf, wf]
  | .str => by simp [typeOf, wf]
  | .arr es => by
    simp only [typeOf, wf]
    exact elemTy_wf lower es none rfl
  | .obj ms => by
    simp only [typeOf]
    rw [wf_obj]
    have := memberTys_wf lower ms [] (by simp)
    simp [this.1, this.2, wfOpt]
theorem elemTy_wf (lower : String → String) : (es : List JVal) → ∀ acc, wfOpt acc = true →
    wf (elemTy lower es acc) = true
  | [], none, _ => by simp [elemTy, wf]
  | [], some t, h => by simpa [elemTy, wfOpt] using h
  | e :: es, none, _ => by
    simp only [elemTy]
    exact elemTy_wf lower es _ (by simpa [wfOpt] using typeOf_wf lower e)
  | e :: es, some t, h => by
    simp only [elemTy]
    exact elemTy_wf lower es _ (by simpa [wfOpt] using merge_wf _ _ (by simpa [wfOpt] using h) (typeOf_wf lower e))
theorem memberTys_wf (lower : String → String) : (ms : List (String × JVal)) → ∀ acc,
    (∀ e ∈ acc, wf e.2.2 = true) →
    sortedKeys (memberTys lower ms acc) = true ∧ wfProps (memberTys lower ms acc) = true
  | [], acc, h => by
    simp only [memberTys]
    exact ⟨foldl_setProp_sorted _ _ rfl,
      foldl_setProp_wfProps _ (folded_all (fun e => wf e.2.2 = true) acc h [] (by simp)) _ rfl⟩
  | (k, v) :: rest, acc, h => by
    simp only [memberTys]
    apply memberTys_wf lower rest
    intro e he
    rcases List.mem_append.mp he with he | he
    · exact h e he
    · simp only [List.mem_singleton] at he; subst he; exact typeOf_wf lower v
end

theorem fromJson_wf (lower : String → String) (s : String) (t : Ty) (h : AL.Json.fromJson lower s = .ok t) :
    wf t = true := by
  unfold AL.Json.fromJson at h
  split at h
  · cases h; exact typeOf_wf lower _
  · cases h

end AL.Sema

/-! ### keys of the type derived from a JSON object literal -/

namespace AL.Json
open AL

theorem foldl_inv {α β : Type} (P : β → Prop) (Q : α → Prop) (f : β → α → β)
    (hf : ∀ b a, P b → Q a → P (f b a)) : ∀ (l : List α) (b : β), P b → (∀ a ∈ l, Q a) → P (l.foldl f b) :=
  fun l _ hb hl => List.foldlRecOn l f hb fun b hb a ha => hf b a hb (hl a ha)

/-- every key of `memberTys` is a folded key of the accumulator or `lower` of a member name: fixed by an
idempotent `lower` -/
theorem memberTys_keys (lower : String → String) (hl : ∀ s, lower (lower s) = lower s) :
    ∀ (ms : List (String × JVal)) (acc : List (String × String × Ty)),
      (∀ x ∈ acc, lower x.2.1 = x.2.1) → ∀ k t, (k, t) ∈ memberTys lower ms acc → lower k = k
  | [], acc, hacc => by
    intro k t h
    rw [memberTys] at h
    revert k t
    apply foldl_inv (fun ps : List (String × Ty) => ∀ k t, (k, t) ∈ ps → lower k = k)
      (fun e : String × String × Ty => lower e.2.1 = e.2.1)
    · intro ps e hps he k t h
      rcases Visit.mem_setProp h with h | h
      · rw [(Prod.mk.inj h).1]; exact he
      · exact hps k t h
    · intro k t h; cases h
    · exact AL.Sema.folded_all (fun e => lower e.2.1 = e.2.1) acc hacc [] (fun _ h => nomatch h)
  | (k', v) :: rest, acc, hacc => by
    intro k t h
    rw [memberTys] at h
    refine memberTys_keys lower hl rest _ ?_ k t h
    intro x hx
    rcases List.mem_append.1 hx with hx | hx
    · exact hacc x hx
    · rw [List.mem_singleton.1 hx]; exact hl k'

end AL.Json
