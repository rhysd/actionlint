import AL.Model.ProjLint
/-
  Every rule reports under a kind of its own, which is how the diagnostics of one rule are told apart in the output of all of
  them. `KindIs k l` (all of `l` has kind `k`) with its closure lemmas; one walk per rule function (`kind_matrix` …
  `kind_ifCond`, `AL.C14D.kind_events` for rule events, `kind_wcRule` and `kind_projAction` for the two rules of a project);
  then the fourteen facts as one table, `ruleTable`, from which a test that only one kind passes picks that rule's list out of
  `rules` (`filter_rules_row`; the kinds of the table are pairwise different, `ruleTable_nodup`).
-/
namespace AL.C09C
open AL.Rules AL.Yaml AL.Ast

def KindIs (k : String) (l : List Diag) : Prop := ∀ d ∈ l, d.kind = k

theorem kindIs_nil {k} : KindIs k [] := fun _ hd => nomatch hd
theorem kindIs_append {k} {a b : List Diag} (ha : KindIs k a) (hb : KindIs k b) : KindIs k (a ++ b) :=
  List.forall_mem_append.2 ⟨ha, hb⟩
theorem kindIs_flatMap {k} {α} {l : List α} {f : α → List Diag} (h : ∀ x ∈ l, KindIs k (f x)) : KindIs k (l.flatMap f) :=
  List.forall_mem_flatMap.2 h
theorem kindIs_map {k} {α} {l : List α} {f : α → Diag} (h : ∀ x, (f x).kind = k) : KindIs k (l.map f) :=
  List.forall_mem_map.2 fun x _ => h x
theorem kindIs_single {k} {d : Diag} (h : d.kind = k) : KindIs k [d] :=
  List.forall_mem_singleton.2 h
theorem kindIs_ite {k} {c : Prop} [Decidable c] {a b : List Diag} (ha : KindIs k a) (hb : KindIs k b) : KindIs k (if c then a else b) := by
  split <;> assumption

theorem kind_matrix (w : Workflow) : KindIs "matrix" (ruleMatrix w) := by
  unfold ruleMatrix
  apply kindIs_flatMap
  intro j _
  unfold matrixJob
  split
  · exact kindIs_nil
  · split
    · exact kindIs_nil
    · apply kindIs_ite kindIs_nil
      apply kindIs_map
      intro x; cases x <;> rfl

theorem kind_credContainer (a b : String) (c : Container) : KindIs "credentials" (checkCredContainer a b c) := by
  unfold checkCredContainer
  split
  · exact kindIs_nil
  · split
    · exact kindIs_nil
    · exact kindIs_ite kindIs_nil (kindIs_single rfl)

theorem kind_credentials (w : Workflow) : KindIs "credentials" (ruleCredentials w) := by
  unfold ruleCredentials
  apply kindIs_flatMap
  intro j _
  unfold credentialsJob
  apply kindIs_append
  · split
    · exact kind_credContainer _ _ _
    · exact kindIs_nil
  · split
    · exact kindIs_flatMap fun kv _ => kind_credContainer _ _ _
    · exact kindIs_nil

theorem kind_checkShellName (lower : String → String) (pf : Platform) (n : Option Str) : KindIs "shell-name" (checkShellName lower pf n) := by
  unfold checkShellName
  split
  · exact kindIs_nil
  · apply kindIs_ite kindIs_nil
    apply kindIs_ite kindIs_nil
    simp only []
    apply kindIs_ite kindIs_nil
    exact kindIs_single rfl

theorem kind_shellName (lower : String → String) (w : Workflow) : KindIs "shell-name" (ruleShellName lower w) := by
  unfold ruleShellName
  apply kindIs_append (kind_checkShellName _ _ _)
  apply kindIs_flatMap
  intro j _
  unfold shellNameJob
  simp only []
  apply kindIs_append
  · split
    · exact kind_checkShellName _ _ _
    · exact kindIs_nil
  · apply kindIs_flatMap
    intro st _
    split
    · exact kind_checkShellName _ _ _
    · exact kindIs_nil


theorem kind_knownLoop (lc : LabelCfg) (label : Str) : ∀ (ks : List String) (ds : List Diag),
    knownLoop lc label ks = some ds → KindIs "runner-label" ds
  | [], ds, h => by simp [knownLoop] at h
  | k :: rest, ds, h => by
    unfold knownLoop at h
    split at h
    · simp only [Option.some.injEq] at h; subst h; exact kindIs_single rfl
    · simp only [Option.some.injEq] at h; subst h; exact kindIs_nil
    · exact kind_knownLoop lc label rest ds h

theorem kind_verify (lower : String → String) (label : Str) (lc : LabelCfg) : KindIs "runner-label" (verifyRunnerLabel lower label lc).2 := by
  unfold verifyRunnerLabel
  split
  · exact kindIs_nil
  · split
    · exact kindIs_nil
    · split
      · rename_i ds h
        exact kind_knownLoop lc label _ ds h
      · exact kindIs_single rfl

theorem kind_checkCompat (compats : Compats) (comp : Nat) (label : Str) : KindIs "runner-label" (checkCompat compats comp label).2 := by
  unfold checkCompat
  split
  · exact kindIs_nil
  · split
    · exact kindIs_single rfl
    · exact kindIs_nil

theorem kind_checkCombi (compats : Compats) (cls : List (Nat × Str)) : KindIs "runner-label" (checkCombiCompat compats cls).2 := by
  unfold checkCombiCompat
  simp only []
  apply kindIs_flatMap
  intro x hx
  obtain ⟨cl, -, rfl⟩ := List.mem_map.1 hx
  split
  · split
    · exact kindIs_single rfl
    · exact kindIs_nil
  · exact kindIs_nil

theorem kind_labelAndConflict (lc : LabelCfg) (lower : String → String) (m : Option Matrix) (acc : Compats × List Diag) (l : Str)
    (h : KindIs "runner-label" acc.2) : KindIs "runner-label" (checkLabelAndConflict lc lower m acc l).2 := by
  unfold checkLabelAndConflict
  split
  · simp only []
    refine kindIs_append (kindIs_append h ?_) (kind_checkCombi _ _)
    apply kindIs_flatMap
    intro x hx
    obtain ⟨s, -, rfl⟩ := List.mem_map.1 hx
    exact kind_verify _ _ _
  · simp only []
    exact kindIs_append (kindIs_append h (kind_verify _ _ _)) (kind_checkCompat _ _ _)

theorem kind_foldLabels (lc : LabelCfg) (lower : String → String) (m : Option Matrix) : ∀ (ls : List Str) (acc : Compats × List Diag),
    KindIs "runner-label" acc.2 → KindIs "runner-label" (ls.foldl (checkLabelAndConflict lc lower m) acc).2 :=
  fun ls _ h => List.foldlRecOn (motive := fun acc : Compats × List Diag => KindIs "runner-label" acc.2) ls _ h
    fun acc hacc l _ => kind_labelAndConflict lc lower m acc l hacc

theorem kind_runnerLabel (lower : String → String) (w : Workflow) (lc : LabelCfg) : KindIs "runner-label" (ruleRunnerLabel lower w lc) := by
  unfold ruleRunnerLabel
  apply kindIs_flatMap
  intro j _
  unfold runnerLabelJob
  split
  · exact kindIs_nil
  · simp only []
    split
    · split
      · exact kindIs_flatMap fun s _ => kind_verify _ _ _
      · exact kind_verify _ _ _
    · split
      · exact kind_labelAndConflict _ _ _ _ _ kindIs_nil
      · exact kind_foldLabels _ _ _ _ _ kindIs_nil

theorem kind_jobNeeds (lower : String → String) (w : Workflow) : KindIs "job-needs" (ruleJobNeeds lower w) := by
  unfold ruleJobNeeds
  simp only []
  apply kindIs_map
  intro x; cases x <;> rfl

theorem kind_checkEnv (e : Option Env) : KindIs "env-var" (checkEnv e) := by
  unfold checkEnv
  split
  · exact kindIs_nil
  · apply kindIs_ite kindIs_nil
    apply kindIs_flatMap
    intro kv _
    exact kindIs_ite kindIs_nil (kindIs_ite (kindIs_single rfl) kindIs_nil)

theorem kind_envVar (w : Workflow) : KindIs "env-var" (ruleEnvVar w) := by
  unfold ruleEnvVar
  apply kindIs_append (kind_checkEnv _)
  apply kindIs_flatMap
  intro j _
  unfold envVarJob
  refine kindIs_append (kindIs_append (kindIs_append (kind_checkEnv _) ?_) ?_) (kindIs_flatMap fun st _ => kind_checkEnv _)
  · split
    · exact kind_checkEnv _
    · exact kindIs_nil
  · split
    · exact kindIs_flatMap fun kv _ => kind_checkEnv _
    · exact kindIs_nil

theorem kind_validate (id : Option Str) (what : String) : KindIs "id" (validateConvention id what) := by
  unfold validateConvention
  split
  · exact kindIs_nil
  · exact kindIs_ite kindIs_nil (kindIs_single rfl)

theorem kind_idSteps (lower : String → String) : ∀ (steps : List Step) (seen : List (String × AL.Rules.Pos)), KindIs "id" (idSteps lower steps seen)
  | [], _ => by unfold idSteps; exact kindIs_nil
  | st :: rest, seen => by
    unfold idSteps
    split
    · exact kind_idSteps lower rest seen
    · simp only []
      split
      · exact kindIs_append (kindIs_append (kind_validate _ _) (kindIs_single rfl)) (kind_idSteps lower rest seen)
      · exact kindIs_append (kind_validate _ _) (kind_idSteps lower rest _)

theorem kind_id (lower : String → String) (w : Workflow) : KindIs "id" (ruleId lower w) := by
  unfold ruleId
  apply kindIs_flatMap
  intro j _
  unfold idJob
  exact kindIs_append (kindIs_append (kind_validate _ _) (kindIs_flatMap fun n _ => kind_validate _ _)) (kind_idSteps _ _ _)

theorem kind_checkGlobs (isRef : Bool) (f : Option Filter) : KindIs "glob" (checkGlobs isRef f) := by
  unfold checkGlobs
  split
  · exact kindIs_nil
  · apply kindIs_flatMap
    intro v _
    apply kindIs_ite kindIs_nil
    unfold globErrors
    exact kindIs_map fun _ => rfl

theorem kind_glob (w : Workflow) : KindIs "glob" (ruleGlob w) := by
  unfold ruleGlob
  apply kindIs_flatMap
  intro e _
  split
  · exact kindIs_append (kindIs_append (kindIs_append (kindIs_append (kindIs_append (kind_checkGlobs _ _) (kind_checkGlobs _ _))
      (kind_checkGlobs _ _)) (kind_checkGlobs _ _)) (kind_checkGlobs _ _)) (kind_checkGlobs _ _)
  · exact kindIs_nil

theorem kind_checkPermissions (p : Option Permissions) : KindIs "permissions" (checkPermissions p) := by
  unfold checkPermissions
  split
  · exact kindIs_nil
  · split
    · exact kindIs_ite kindIs_nil (kindIs_single rfl)
    · apply kindIs_flatMap
      intro kv _
      simp only []
      exact kindIs_append (kindIs_ite kindIs_nil (kindIs_single rfl)) (kindIs_ite kindIs_nil (kindIs_single rfl))

theorem kind_permissions (w : Workflow) : KindIs "permissions" (rulePermissions w) := by
  unfold rulePermissions
  exact kindIs_append (kind_checkPermissions _) (kindIs_flatMap fun j _ => kind_checkPermissions _)

theorem kind_workflowCall (w : Workflow) : KindIs "workflow-call" (ruleWorkflowCall w) := by
  unfold ruleWorkflowCall
  apply kindIs_flatMap
  intro j _
  unfold workflowCallJob
  split
  · exact kindIs_nil
  · split
    · exact kindIs_nil
    · exact kindIs_ite kindIs_nil (kindIs_ite kindIs_nil (kindIs_ite kindIs_nil (kindIs_single rfl)))

theorem kind_deprecated (w : Workflow) : KindIs "deprecated-commands" (ruleDeprecatedCommands w) := by
  unfold ruleDeprecatedCommands
  apply kindIs_flatMap
  intro j _
  apply kindIs_flatMap
  intro st _
  split
  · split
    · exact kindIs_map fun _ => rfl
    · exact kindIs_nil
  · exact kindIs_nil

theorem kind_checkIfCond (s : Option Str) : KindIs "if-cond" (checkIfCond s) := by
  unfold checkIfCond
  split
  · exact kindIs_nil
  · apply kindIs_ite kindIs_nil
    simp only []
    exact kindIs_ite kindIs_nil (kindIs_single rfl)

theorem kind_ifCond (w : Workflow) : KindIs "if-cond" (ruleIfCond w) := by
  unfold ruleIfCond
  apply kindIs_flatMap
  intro j _
  exact kindIs_append (kind_checkIfCond _) (kindIs_flatMap fun st _ => kind_checkIfCond _)


theorem kind_actionInputs (spec : String) (declared : List (String × String × Bool)) (e : ExecAction) (usesPos : AL.Rules.Pos) :
    KindIs "action" (checkActionInputs spec declared e usesPos) := by
  unfold checkActionInputs
  simp only []
  apply kindIs_append
  · exact kindIs_flatMap fun kv _ => kindIs_ite kindIs_nil (kindIs_single rfl)
  · apply kindIs_flatMap
    intro id _
    split
    · exact kindIs_ite kindIs_nil (kindIs_single rfl)
    · exact kindIs_nil

theorem kind_repoAction (spec : String) (e : ExecAction) (usesPos : AL.Rules.Pos) : KindIs "action" (checkRepoAction spec e usesPos) := by
  unfold checkRepoAction
  simp only []
  split
  · exact kindIs_single rfl
  · split
    · exact kindIs_single rfl
    · apply kindIs_append
      · exact kindIs_ite (kindIs_single rfl) kindIs_nil
      · split
        · exact kindIs_ite (kindIs_single rfl) kindIs_nil
        · exact kindIs_ite kindIs_nil (kind_actionInputs _ _ _ _)

theorem kind_dockerAction (urlOk : String → Bool) (uri : String) (usesPos : AL.Rules.Pos) : KindIs "action" (checkDockerAction urlOk uri usesPos) := by
  unfold checkDockerAction
  simp only []
  split <;> exact kindIs_append (kindIs_ite kindIs_nil (kindIs_single rfl)) (kindIs_ite (kindIs_single rfl) kindIs_nil)

theorem kind_action (urlOk : String → Bool) (w : Workflow) : KindIs "action" (ruleAction urlOk w) := by
  unfold ruleAction
  apply kindIs_flatMap
  intro j _
  apply kindIs_flatMap
  intro st _
  unfold actionStep
  split
  · split
    · exact kindIs_nil
    · exact kindIs_ite kindIs_nil (kindIs_ite kindIs_nil (kindIs_ite (kind_dockerAction _ _ _) (kind_repoAction _ _ _)))
  · exact kindIs_nil


/-! ### inside a project: the two rules that look at the disk report under their own kinds -/

theorem kind_checkLocal (m : AL.CallMeta.Meta) (c : WorkflowCall) (u : Str) : KindIs "workflow-call" (AL.ProjCall.checkLocal m c u) := by
  unfold AL.ProjCall.checkLocal
  simp only []
  refine kindIs_append (kindIs_append ?_ ?_) ?_
  · apply kindIs_flatMap
    intro n _
    split
    · exact kindIs_ite (kindIs_single rfl) kindIs_nil
    · exact kindIs_nil
  · exact kindIs_flatMap fun kv _ => kindIs_ite kindIs_nil (kindIs_single rfl)
  · apply kindIs_ite kindIs_nil
    apply kindIs_append
    · apply kindIs_flatMap
      intro n _
      split
      · exact kindIs_ite (kindIs_single rfl) kindIs_nil
      · exact kindIs_nil
    · exact kindIs_flatMap fun kv _ => kindIs_ite kindIs_nil (kindIs_single rfl)

theorem kind_wcFound (f : AL.ProjCall.Found) (call : WorkflowCall) (u : Str) : KindIs "workflow-call" (AL.ProjCall.wcFound f call u) := by
  unfold AL.ProjCall.wcFound
  split
  · exact kindIs_single rfl
  · exact kindIs_nil
  · exact kind_checkLocal _ _ _

theorem kind_wcJob (env : AL.ProjCall.Env) (c : AL.ProjCall.Cache) (j : Job) : KindIs "workflow-call" (AL.ProjCall.wcJob env c j).2 := by
  unfold AL.ProjCall.wcJob
  split
  · exact kindIs_nil
  · split
    · exact kindIs_nil
    · unfold AL.ProjCall.wcUses
      simp only [apply_ite Prod.snd]
      exact kindIs_ite kindIs_nil (kindIs_ite (kind_wcFound _ _ _) (kindIs_ite kindIs_nil kindIs_nil))

theorem kind_simulateJobs (env : AL.ProjCall.Env) (lower : String → String) (jobs : List (String × Job)) :
    ∀ (l : List (String × Job)) (c : AL.ProjCall.Cache),
      KindIs "workflow-call" ((AL.ProjCall.simulateJobs env lower jobs l c).flatMap (·.2.wc))
  | [], _ => by simp [AL.ProjCall.simulateJobs]; exact kindIs_nil
  | (_, j) :: rest, c => by
    simp only [AL.ProjCall.simulateJobs, List.flatMap_cons]
    exact kindIs_append (kind_wcJob env c j) (kind_simulateJobs env lower jobs rest _)

theorem kind_wcRule (env : AL.ProjCall.Env) (lower : String → String) (w : Workflow) : KindIs "workflow-call" (AL.ProjCall.wcRule env lower w) := by
  unfold AL.ProjCall.wcRule AL.ProjCall.simulate
  exact kind_simulateJobs _ _ _ _ _

open AL.ProjAction in
theorem kind_runsFile (env : AL.ProjAction.Env) (file dir prop name : String) (pos : AL.Rules.Pos) : KindIs "action" (runsFile env file dir prop name pos) := by
  unfold runsFile
  exact kindIs_ite kindIs_nil (kindIs_ite kindIs_nil (kindIs_single rfl))

open AL.ProjAction in
theorem kind_invalidProps (r : Runs) (ty name dir : String) (props : List String) (pos : AL.Rules.Pos) : KindIs "action" (invalidProps r ty name dir props pos) := by
  unfold invalidProps
  exact kindIs_flatMap fun p _ => kindIs_ite (kindIs_single rfl) kindIs_nil

open AL.ProjAction in
theorem kind_jsRuns (env : AL.ProjAction.Env) (r : Runs) (dir name : String) (pos : AL.Rules.Pos) : KindIs "action" (jsRuns env r dir name pos) := by
  unfold jsRuns
  exact kindIs_append (kindIs_append (kindIs_append (kindIs_append (kindIs_append
    (kindIs_ite (kindIs_single rfl) (kind_runsFile _ _ _ _ _ _)) (kind_runsFile _ _ _ _ _ _)) (kindIs_ite (kindIs_single rfl) kindIs_nil)) (kind_runsFile _ _ _ _ _ _))
    (kindIs_ite (kindIs_single rfl) kindIs_nil)) (kind_invalidProps _ _ _ _ _ _)

open AL.ProjAction in
theorem kind_runsDiags (env : AL.ProjAction.Env) (m : ActionMeta) (pos : AL.Rules.Pos) : KindIs "action" (runsDiags env m pos) := by
  unfold runsDiags
  simp only []
  refine kindIs_ite (kindIs_single rfl) ?_
  apply kindIs_ite
  · unfold dockerRuns
    refine kindIs_append (kindIs_append (kindIs_append (kindIs_append ?_ (kind_runsFile _ _ _ _ _ _)) (kind_runsFile _ _ _ _ _ _)) (kind_runsFile _ _ _ _ _ _)) (kind_invalidProps _ _ _ _ _ _)
    exact kindIs_ite (kindIs_single rfl) (kindIs_ite (kindIs_append (kind_runsFile _ _ _ _ _ _) (kindIs_ite (kindIs_single rfl) kindIs_nil)) kindIs_nil)
  · apply kindIs_ite
    · unfold compositeRuns
      exact kindIs_append (kindIs_ite (kindIs_single rfl) kindIs_nil) (kind_invalidProps _ _ _ _ _ _)
    · exact kindIs_ite (kind_jsRuns _ _ _ _ _) (kindIs_append (kindIs_single rfl) (kindIs_ite (kind_jsRuns _ _ _ _ _) kindIs_nil))

open AL.ProjAction in
theorem kind_localStep (env : AL.ProjAction.Env) (f : AL.ProjAction.Found) (spec : String) (e : ExecAction) (pos : AL.Rules.Pos) :
    KindIs "action" (localStep env f spec e pos) := by
  unfold localStep
  split
  · exact kindIs_nil
  · exact kindIs_single rfl
  · apply kindIs_append
    · apply kindIs_ite kindIs_nil
      unfold metadataDiags
      exact kindIs_append (kindIs_append (kindIs_append (kindIs_append (kindIs_ite (kindIs_single rfl) kindIs_nil)
        (kindIs_ite (kindIs_single rfl) kindIs_nil)) (kindIs_ite (kindIs_single rfl) kindIs_nil)) (kindIs_ite (kindIs_single rfl) kindIs_nil))
        (kind_runsDiags _ _ _)
    · unfold inputDiags
      simp only []
      apply kindIs_append
      · exact kindIs_flatMap fun kv _ => kindIs_ite kindIs_nil (kindIs_single rfl)
      · apply kindIs_flatMap
        intro id _
        split
        · exact kindIs_ite kindIs_nil (kindIs_single rfl)
        · exact kindIs_nil

open AL.ProjAction in
theorem kind_projActionStep (env : AL.ProjAction.Env) (c : AL.ProjAction.Cache) (st : Step) : KindIs "action" (AL.ProjAction.actionStep env c st).2 := by
  unfold AL.ProjAction.actionStep
  split
  · split
    · exact kindIs_nil
    · split
      · exact kindIs_nil
      · split
        · exact kind_localStep _ _ _ _ _
        · exact kindIs_nil
  · exact kindIs_nil

open AL.ProjAction in
theorem kind_stepsLoop (env : AL.ProjAction.Env) : ∀ (steps : List Step) (o : Out), KindIs "action" o.action → KindIs "action" (stepsLoop env steps o).action
  | [], _, h => h
  | st :: rest, o, h => by
    unfold stepsLoop
    exact kind_stepsLoop env rest _ (kindIs_append h (kind_projActionStep env o.cache st))

open AL.ProjAction in
theorem kind_projAction (env : AL.ProjAction.Env) (w : Workflow) : KindIs "action" (AL.ProjAction.simulate env w).action := by
  unfold AL.ProjAction.simulate
  exact List.foldlRecOn (motive := fun o : Out => KindIs "action" o.action) _ _ kindIs_nil
    fun o h j _ => kind_stepsLoop env _ o h

end AL.C09C

/-! ### rule events (these lemmas are in namespace `AL.C14D`, the cluster of C14's document theorems) -/

namespace AL.C14D
open AL.Rules AL.Yaml AL.Ast AL.C09C

theorem kind_exclusive (f i : Option Filter) (hook : String) (av : List String) : KindIs "events" (exclusiveFilters f i hook av) := by
  unfold exclusiveFilters
  refine kindIs_ite ?_ (kindIs_append ?_ ?_) <;> split <;>
    first | exact kindIs_nil | exact kindIs_ite (kindIs_single rfl) kindIs_nil

theorem kind_webhook (e : WebhookEvent) : KindIs "events" (checkWebhookEvent e) := by
  unfold checkWebhookEvent
  simp only []
  split
  · exact kindIs_single rfl
  · refine kindIs_append (kindIs_append (kindIs_append (kindIs_append ?_ ?_) (kind_exclusive _ _ _ _)) (kind_exclusive _ _ _ _)) (kind_exclusive _ _ _ _)
    · exact kindIs_ite (kindIs_single rfl) (kindIs_flatMap fun ty _ => kindIs_ite kindIs_nil (kindIs_single rfl))
    · exact kindIs_ite (kindIs_ite (kindIs_single rfl) kindIs_nil) (kindIs_ite (kindIs_single rfl) kindIs_nil)

theorem kind_callEvent (lower : String → String) (isNum : String → Bool) (inputs : List CallInput) :
    KindIs "events" (checkCallEvent lower isNum inputs) := by
  unfold checkCallEvent
  refine kindIs_flatMap fun i _ => ?_
  cases i.dflt with
  | none => exact kindIs_nil
  | some d =>
    refine kindIs_append (kindIs_ite ?_ kindIs_nil) (kindIs_ite (kindIs_single rfl) kindIs_nil)
    cases i.type <;> first | exact kindIs_nil | exact kindIs_ite kindIs_nil (kindIs_single rfl)

theorem kind_dupOptions : ∀ (opts : List Str) (seen : List String), ∀ d ∈ (dupOptions opts seen).1, d.kind = "events"
  | [], _ => by intro d hd; simp [dupOptions] at hd
  | o :: rest, seen => by
    intro d hd
    unfold dupOptions at hd
    split at hd
    · simp only [List.mem_cons] at hd
      rcases hd with rfl | hd
      · rfl
      · exact kind_dupOptions rest seen d hd
    · exact kind_dupOptions rest _ d hd

theorem kind_dispatch (lower : String → String) (isNum : String → Bool) (inputs : List (String × DispatchInput)) (pos : AL.Rules.Pos) :
    KindIs "events" (checkDispatchEvent lower isNum inputs pos) := by
  unfold checkDispatchEvent
  refine kindIs_append (kindIs_flatMap fun kv _ => ?_) (kindIs_ite (kindIs_single rfl) kindIs_nil)
  simp only []
  refine kindIs_ite (kindIs_ite (kindIs_single rfl) (kindIs_append ?_ ?_))
    (kindIs_append (kindIs_ite (kindIs_single rfl) kindIs_nil) ?_)
  · intro d hd
    obtain ⟨x, hx, rfl⟩ := List.mem_map.1 hd
    exact kind_dupOptions _ _ x hx
  · cases kv.2.dflt with
    | none => exact kindIs_nil
    | some d => exact kindIs_ite kindIs_nil (kindIs_single rfl)
  · cases kv.2.dflt with
    | none => exact kindIs_nil
    | some d => cases kv.2.type <;> first | exact kindIs_nil | exact kindIs_ite kindIs_nil (kindIs_single rfl)

theorem kind_cronEntry (zk : List Char → Bool) (s : Str) : KindIs "events" (cronEntry zk s) := by
  intro d hd
  unfold cronEntry at hd
  split at hd
  · obtain ⟨x, _, rfl⟩ := List.mem_map.1 hd
    cases x <;> rfl
  · cases hd

theorem kind_events (lower : String → String) (isNum : String → Bool) (w : Workflow) (lc : LabelCfg) :
    KindIs "events" (ruleEvents lower isNum w lc) := by
  unfold ruleEvents
  apply kindIs_flatMap
  intro e _
  split
  · exact kind_webhook _
  · unfold checkScheduleEvent
    exact kindIs_flatMap fun s _ => kind_cronEntry _ s
  · exact kind_dispatch _ _ _ _
  · exact kind_callEvent _ _ _
  · exact kindIs_nil

end AL.C14D

/-! ### all rules: the table -/

namespace AL.C09C
open AL.Rules AL.Yaml AL.Ast

/-- the rules with the kind each reports under, in the order of `rules` -/
def ruleTable (lower : String → String) (isNum urlOk : String → Bool) (w : Workflow) (lc : LabelCfg) : List (String × List Diag) :=
  [("matrix", ruleMatrix w), ("credentials", ruleCredentials w), ("shell-name", ruleShellName lower w),
   ("runner-label", ruleRunnerLabel lower w lc), ("events", ruleEvents lower isNum w lc), ("job-needs", ruleJobNeeds lower w),
   ("action", ruleAction urlOk w), ("env-var", ruleEnvVar w), ("id", ruleId lower w), ("glob", ruleGlob w),
   ("permissions", rulePermissions w), ("workflow-call", ruleWorkflowCall w), ("deprecated-commands", ruleDeprecatedCommands w),
   ("if-cond", ruleIfCond w)]

theorem rules_eq_table (lower : String → String) (isNum urlOk : String → Bool) (w : Workflow) (lc : LabelCfg) :
    rules lower isNum urlOk w lc = (ruleTable lower isNum urlOk w lc).flatMap (·.2) := by
  simp only [rules, ruleTable, List.flatMap_cons, List.flatMap_nil, List.append_nil, List.append_assoc]

theorem ruleTable_kind (lower : String → String) (isNum urlOk : String → Bool) (w : Workflow) (lc : LabelCfg) :
    ∀ r ∈ ruleTable lower isNum urlOk w lc, KindIs r.1 r.2 := by
  simp only [ruleTable, List.forall_mem_cons]
  exact ⟨kind_matrix w, kind_credentials w, kind_shellName lower w, kind_runnerLabel lower w lc, AL.C14D.kind_events lower isNum w lc,
    kind_jobNeeds lower w, kind_action urlOk w, kind_envVar w, kind_id lower w, kind_glob w, kind_permissions w, kind_workflowCall w,
    kind_deprecated w, kind_ifCond w, fun _ h => nomatch h⟩

/-- lists of diagnostics with one kind each: a test that only diagnostics of kind `k` pass sees the lists of kind `k` only -/
theorem filter_kinds {p : Diag → Bool} {k : String} (hp : ∀ d, p d = true → d.kind = k) :
    ∀ {rs : List (String × List Diag)}, (∀ r ∈ rs, KindIs r.1 r.2) →
      (rs.flatMap (·.2)).filter p = ((rs.filter fun r => decide (r.1 = k)).flatMap (·.2)).filter p
  | [], _ => rfl
  | r :: rs, h => by
    have ih := filter_kinds hp (List.forall_mem_cons.1 h).2
    by_cases hk : r.1 = k
    · simp only [List.flatMap_cons, List.filter_append, List.filter_cons, hk, decide_true, if_true, ih]
    · have : r.2.filter p = [] :=
        List.filter_eq_nil_iff.2 fun d hd hpd => hk (((List.forall_mem_cons.1 h).1 d hd).symm.trans (hp d hpd))
      simp only [List.flatMap_cons, List.filter_append, List.filter_cons, this, List.nil_append, ih, hk, decide_false,
        Bool.false_eq_true, if_false]

/-- in a table with pairwise different keys the test for the key `k` picks the row of `k` -/
theorem filter_key {α β} [DecidableEq α] {k : α} {l : β} : ∀ {rs : List (α × β)}, (rs.map (·.1)).Nodup → (k, l) ∈ rs →
    (rs.filter fun r => decide (r.1 = k)) = [(k, l)]
  | r :: rs, hn, hm => by
    obtain ⟨hr, hn⟩ := List.nodup_cons.1 hn
    rw [List.filter_cons]
    rcases List.mem_cons.1 hm with rfl | hm
    · rw [if_pos (decide_eq_true rfl),
        List.filter_eq_nil_iff.2 fun r' hr' e => hr (List.mem_map.2 ⟨r', hr', of_decide_eq_true e⟩)]
    · rw [if_neg fun e => hr (List.mem_map.2 ⟨(k, l), hm, (of_decide_eq_true e).symm⟩), filter_key hn hm]

theorem ruleTable_nodup (lower : String → String) (isNum urlOk : String → Bool) (w : Workflow) (lc : LabelCfg) :
    ((ruleTable lower isNum urlOk w lc).map (·.1)).Nodup := by
  simp [ruleTable]

/-- the rules report under fourteen different kinds: a test that only diagnostics of kind `k` pass picks out of `rules` what it
picks out of the list of the row `(k, l)` -/
theorem filter_rules_row {p : Diag → Bool} {k : String} {l : List Diag} (hp : ∀ d, p d = true → d.kind = k)
    {lower : String → String} {isNum urlOk : String → Bool} {w : Workflow} {lc : LabelCfg}
    (hm : (k, l) ∈ ruleTable lower isNum urlOk w lc) : (rules lower isNum urlOk w lc).filter p = l.filter p := by
  rw [rules_eq_table, filter_kinds hp (ruleTable_kind lower isNum urlOk w lc),
    filter_key (ruleTable_nodup lower isNum urlOk w lc) hm, List.flatMap_singleton]

/-- membership form: a diagnostic of kind `k` among all rules' is in the list of the row `(k, l)` -/
theorem mem_rules_row {k : String} {l : List Diag} {lower : String → String} {isNum urlOk : String → Bool} {w : Workflow}
    {lc : LabelCfg} (hm : (k, l) ∈ ruleTable lower isNum urlOk w lc) {d : Diag} (hd : d ∈ rules lower isNum urlOk w lc)
    (hk : d.kind = k) : d ∈ l := by
  have : d ∈ (rules lower isNum urlOk w lc).filter (·.kind == k) := List.mem_filter.2 ⟨hd, beq_iff_eq.2 hk⟩
  rw [filter_rules_row (fun _ h => beq_iff_eq.1 h) hm] at this
  exact (List.mem_filter.1 this).1

end AL.C09C
