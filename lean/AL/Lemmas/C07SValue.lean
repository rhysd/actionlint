import AL.Lemmas.C07SBase
import AL.Props.C03Rule
/-
  C07Sites: `allStrs` (every `*String` of the AST, AL/Lemmas/C07SBase.lean) contains `AL.C03R.valueStrs` (the value
  strings the expression rule is proved to check, AL/Props/C03Rule.lean): `valueStrs_sub_allStrs`. Function by function,
  `AllI P x → SAll P (envStrs x)`, … for an arbitrary `P`; the inclusion is the instance `P := (· ∈ items w)`.
-/
namespace AL.C07S
open AL AL.Ast AL.C03R AL.RuleExpr

def SAll (P : Item → Prop) (l : List Str) : Prop := ∀ s ∈ l, P (.str s)

variable {P : Item → Prop}

@[simp] theorem SAll_nil : SAll P [] := fun _ h => by cases h
@[simp] theorem SAll_append {a b : List Str} : SAll P (a ++ b) ↔ SAll P a ∧ SAll P b := List.forall_mem_append
@[simp] theorem SAll_single {s : Str} : SAll P [s] ↔ P (.str s) := by simp [SAll]
@[simp] theorem SAll_toList {o : Option Str} : SAll P o.toList ↔ AllI P o := by
  cases o <;> simp [SAll]
theorem AllI_strs {l : List Str} : AllI P l ↔ SAll P l := by
  simp only [IOk_list, AllI_str, SAll]
@[simp] theorem SAll_getD {o : Option (List Str)} : SAll P (o.getD []) ↔ AllI P o := by
  cases o with
  | none => simp
  | some l => simp [AllI_strs]
theorem SAll_flatMap {α} {l : List α} {f : α → List Str} (h : ∀ x ∈ l, SAll P (f x)) : SAll P (l.flatMap f) :=
  List.forall_mem_flatMap.2 h
theorem SAll_map {α} {l : List α} {f : α → Str} (h : ∀ x ∈ l, P (.str (f x))) : SAll P (l.map f) :=
  List.forall_mem_map.2 h

theorem AllI_getD_mem' {α} [HasItems α] {o : Option (List α)} (h : AllI P o) : ∀ x ∈ o.getD [], AllI P x :=
  fun _ => h.mem_getD

theorem boolStrs_sall {b : Option BoolV} (h : AllI P b) : SAll P (boolStrs b) := by
  cases b <;> simp_all [boolStrs]
theorem intStrs_sall {b : Option IntV} (h : AllI P b) : SAll P (intStrs b) := by
  cases b <;> simp_all [intStrs]
theorem floatStrs_sall {b : Option FloatV} (h : AllI P b) : SAll P (floatStrs b) := by
  cases b <;> simp_all [floatStrs]

theorem envStrs_sall {e : Option Ast.Env} (h : AllI P e) : SAll P (envStrs e) := by
  cases e with
  | none => simp [envStrs]
  | some e =>
    have he := IOk_Env.1 (IOk_some.1 h)
    unfold envStrs
    dsimp only
    split
    · rename_i vars hv
      exact SAll_map fun kv hkv => AllI_str.1 (IOk_EnvVar.1 (IOk_entry.1 ((he.1.of_some hv).mem hkv))).2
    · simp [he.2]

theorem containerStrs_sall {c : Option Container} (h : AllI P c) : SAll P (containerStrs c) := by
  cases c with
  | none => simp [containerStrs]
  | some c =>
    obtain ⟨h1, h2, h3, h4, h5, h6, _⟩ := IOk_Container.1 (IOk_some.1 h)
    have he := envStrs_sall h3
    simp only [containerStrs, SAll_append, SAll_toList, SAll_getD]
    refine ⟨⟨⟨⟨⟨h1, ?_⟩, he⟩, h4⟩, h5⟩, h6⟩
    split
    · rename_i cr hcr
      have := IOk_Credentials.1 (h2.of_some hcr)
      simp [this.1, this.2.1]
    · simp

theorem concurrencyStrs_sall {c : Option Concurrency} (h : AllI P c) : SAll P (concurrencyStrs c) := by
  cases c with
  | none => simp [concurrencyStrs]
  | some c =>
    obtain ⟨h1, h2, _⟩ := IOk_Concurrency.1 (IOk_some.1 h)
    simp [concurrencyStrs, h1, boolStrs_sall h2]

theorem defaultsStrs_sall {x : Option Defaults} (h : AllI P x) : SAll P (defaultsStrs x) := by
  cases x with
  | none => simp [defaultsStrs]
  | some x =>
    have hx := (IOk_Defaults.1 (IOk_some.1 h)).1
    unfold defaultsStrs
    dsimp only
    split
    · simp
    · rename_i r hr
      have := IOk_DefaultsRun.1 (hx.of_some hr)
      simp [this.1, this.2.1]

mutual
theorem rawStrs_sall : ∀ (v : AL.Matrix.Raw), AllI P v → SAll P (rawStrs v)
  | .str v p, h => by simpa [rawStrs] using h
  | .arr es p, h => by rw [rawStrs]; exact rawStrsL_sall es (IOk_raw_arr.1 h).2
  | .obj ps p, h => by rw [rawStrs]; exact rawStrsP_sall ps (IOk_raw_obj.1 h).2
theorem rawStrsL_sall : ∀ (es : List AL.Matrix.Raw), AllI P es → SAll P (rawStrsL es)
  | [], _ => by simp [rawStrsL]
  | e :: es, h => by
    have := IOk_cons.1 h
    simp only [rawStrsL, SAll_append]
    exact ⟨rawStrs_sall e this.1, rawStrsL_sall es this.2⟩
theorem rawStrsP_sall : ∀ (ps : List (String × AL.Matrix.Raw)), AllI P ps → SAll P (rawStrsP ps)
  | [], _ => by simp [rawStrsP]
  | (k, v) :: ps, h => by
    have := IOk_cons.1 h
    simp only [rawStrsP, SAll_append]
    exact ⟨rawStrs_sall v (IOk_entry.1 this.1), rawStrsP_sall ps this.2⟩
end

theorem rowStrs_sall {r : MatrixRow} (h : AllI P r) : SAll P (rowStrs r) := by
  obtain ⟨_, h2, h3⟩ := IOk_MatrixRow.1 h
  unfold rowStrs
  split
  · rename_i e he
    simpa using h3.of_some he
  · exact rawStrsL_sall _ (IOk_getD h2)

theorem comboStrs_sall {c : MatrixCombination} (h : AllI P c) : SAll P (comboStrs c) := by
  obtain ⟨h1, h2⟩ := IOk_MatrixCombination.1 h
  unfold comboStrs
  split
  · rename_i e he
    simpa using h2.of_some he
  · exact SAll_flatMap fun kv hkv => rawStrs_sall _ (IOk_MatrixAssign.1 (h1.entry hkv)).2

theorem combosStrs_sall {c : Option MatrixCombinations} (h : AllI P c) : SAll P (combosStrs c) := by
  cases c with
  | none => simp [combosStrs]
  | some c =>
    obtain ⟨h1, h2⟩ := IOk_MatrixCombinations.1 (IOk_some.1 h)
    unfold combosStrs
    dsimp only
    split
    · rename_i e he
      simpa using h2.of_some he
    · exact SAll_flatMap fun x hx => comboStrs_sall (h1.mem_getD hx)

theorem matrixStrs_sall {m : Ast.Matrix} (h : AllI P m) : SAll P (matrixStrs m) := by
  obtain ⟨h1, h2, h3, h4, _⟩ := IOk_Matrix.1 h
  unfold matrixStrs
  split
  · rename_i e he
    simpa using h4.of_some he
  · simp only [SAll_append]
    exact ⟨⟨combosStrs_sall h3, SAll_flatMap fun kv hkv => rowStrs_sall (h1.entry hkv)⟩, combosStrs_sall h2⟩

theorem execStrs_sall {e : Exec} (h : AllI P e) : SAll P (execStrs e) := by
  cases e with
  | none => simp [execStrs]
  | run e =>
    obtain ⟨h1, h2, h3, _⟩ := IOk_ExecRun.1 (IOk_exec_run.1 h)
    simp [execStrs, h1, h2, h3]
  | action e =>
    obtain ⟨h1, h2, h3, h4⟩ := IOk_ExecAction.1 (IOk_exec_action.1 h)
    simp only [execStrs, SAll_append, SAll_toList]
    exact ⟨⟨⟨h1, SAll_map fun kv hkv => AllI_str.1 (IOk_Input.1 (h2.entry hkv)).2⟩, h3⟩, h4⟩

theorem stepStrs_sall {st : Step} (h : AllI P st) : SAll P (stepStrs st) := by
  obtain ⟨_, h2, h3, h4, h5, h6, h7, _⟩ := IOk_Step.1 h
  simp only [stepStrs, SAll_append, SAll_toList]
  exact ⟨⟨⟨⟨⟨h3, h2⟩, execStrs_sall h4⟩, envStrs_sall h5⟩, boolStrs_sall h6⟩, floatStrs_sall h7⟩

theorem runnerStrs_sall {r : Option Runner} (h : AllI P r) : SAll P (runnerStrs r) := by
  cases r with
  | none => simp [runnerStrs]
  | some r =>
    obtain ⟨h1, h2, h3⟩ := IOk_Runner.1 (IOk_some.1 h)
    simp only [runnerStrs, SAll_append, SAll_toList]
    refine ⟨?_, h3⟩
    split
    · rename_i e he
      simpa using h2.of_some he
    · simpa using h1

theorem strategyStrs_sall {s : Option Strategy} (h : AllI P s) : SAll P (strategyStrs s) := by
  cases s with
  | none => simp [strategyStrs]
  | some s =>
    obtain ⟨_, h2, h3, _⟩ := IOk_Strategy.1 (IOk_some.1 h)
    simp [strategyStrs, boolStrs_sall h2, intStrs_sall h3]

theorem servicesStrs_sall {s : Option Services} (h : AllI P s) : SAll P (servicesStrs s) := by
  cases s with
  | none => simp [servicesStrs]
  | some s =>
    obtain ⟨h1, h2, _⟩ := IOk_Services.1 (IOk_some.1 h)
    simp only [servicesStrs, SAll_append, SAll_toList]
    exact ⟨h2, SAll_flatMap fun kv hkv => containerStrs_sall (IOk_some.2 (IOk_Service.1 (h1.entry hkv)).2)⟩

theorem callStrs_sall {c : Option WorkflowCall} (h : AllI P c) : SAll P (callStrs c) := by
  cases c with
  | none => simp [callStrs]
  | some c =>
    obtain ⟨h1, h2, h3⟩ := IOk_WorkflowCall.1 (IOk_some.1 h)
    unfold callStrs
    dsimp only
    split
    · simp
    · rename_i u hu
      simp only [SAll_append, SAll_single]
      exact ⟨⟨AllI_str.1 (h1.of_some hu), SAll_map fun kv hkv => AllI_str.1 (IOk_CallArg.1 (h2.entry hkv)).2⟩,
        SAll_map fun kv hkv => AllI_str.1 (IOk_CallArg.1 (h3.entry hkv)).2⟩

theorem jobStrs_sall {n : Job} (h : AllI P n) : SAll P (jobStrs n) := by
  have hn := h.job
  simp only [jobStrs, SAll_append]
  refine ⟨⟨⟨?_, ?_⟩, ?_⟩, ?_⟩
  · simp only [matrixOfStrs]
    split
    · rename_i s hs
      split
      · rename_i m hm
        exact matrixStrs_sall (h.jobMatrix hs hm)
      · simp
    · simp
  · simp only [jobPreStrs, SAll_append, SAll_toList, SAll_getD]
    exact ⟨⟨⟨⟨⟨⟨⟨⟨⟨⟨⟨⟨hn.name, hn.needs⟩, runnerStrs_sall hn.runsOn⟩, concurrencyStrs_sall hn.concurrency⟩,
      envStrs_sall hn.env⟩, defaultsStrs_sall hn.defaults⟩, hn.cond⟩, strategyStrs_sall hn.strategy⟩,
      boolStrs_sall hn.continueOnError⟩, floatStrs_sall hn.timeoutMinutes⟩, containerStrs_sall hn.container⟩,
      servicesStrs_sall hn.services⟩, callStrs_sall hn.workflowCall⟩
  · exact SAll_flatMap fun st hst => stepStrs_sall (hn.steps.mem_getD hst)
  · simp only [jobPostStrs, SAll_append]
    refine ⟨?_, SAll_map fun kv hkv => AllI_str.1 (IOk_Output.1 (hn.outputs.entry hkv)).2⟩
    split
    · rename_i e he
      have := IOk_Environment.1 (hn.environment.of_some he)
      simp [this.1, this.2.1]
    · simp

theorem filterStrs_sall {f : Option Filter} (h : AllI P f) : SAll P (filterStrs f) := by
  cases f with
  | none => simp [filterStrs]
  | some f => simpa [filterStrs] using (IOk_Filter.1 (IOk_some.1 h)).2

theorem eventStrs_sall {e : Ast.Event} (h : AllI P e) : SAll P (eventStrs e) := by
  cases e with
  | webhook e =>
    obtain ⟨_, h1, h2, h3, h4, h5, h6, h7, h8, _⟩ := IOk_WebhookEvent.1 (IOk_webhook.1 h)
    simp only [eventStrs, SAll_append, SAll_getD]
    exact ⟨⟨⟨⟨⟨⟨⟨h1, filterStrs_sall h2⟩, filterStrs_sall h3⟩, filterStrs_sall h4⟩, filterStrs_sall h5⟩,
      filterStrs_sall h6⟩, filterStrs_sall h7⟩, h8⟩
  | schedule cron p => exact AllI_strs.1 (IOk_schedule.1 h).1
  | dispatch inputs p =>
    simp only [eventStrs]
    refine SAll_flatMap fun kv hkv => ?_
    obtain ⟨_, h1, h2, h3, h4⟩ := IOk_DispatchInput.1 ((IOk_dispatch.1 h).1.entry hkv)
    simp [h1, h3, boolStrs_sall h2, h4]
  | repoDispatch types p => simpa [eventStrs] using (IOk_repoDispatch.1 h).1
  | call inputs secrets outputs p =>
    obtain ⟨h1, h2, h3, _⟩ := IOk_call.1 h
    simp only [eventStrs, SAll_append]
    refine ⟨⟨SAll_flatMap fun i hi => ?_, SAll_flatMap fun kv hkv => ?_⟩, SAll_flatMap fun kv hkv => ?_⟩
    · obtain ⟨_, a, b, c⟩ := IOk_CallInput.1 (h1.mem_getD hi)
      simp [callInputStrs, a, b, boolStrs_sall c]
    · obtain ⟨_, a, b⟩ := IOk_CallSecret.1 (h2.entry hkv)
      simp [a, boolStrs_sall b]
    · obtain ⟨_, a, _⟩ := IOk_CallOutput.1 (h3.entry hkv)
      simp [a]

theorem valueStrs_sall {w : Workflow} (h : AllI P w) : SAll P (valueStrs w) := by
  obtain ⟨hname, hrun, hon, _, henv, hdef, hconc, hjobs⟩ := IOk_Workflow.1 h
  simp only [valueStrs, SAll_append, SAll_toList]
  refine ⟨⟨⟨⟨hname, SAll_flatMap fun e he => eventStrs_sall (hon.mem_getD he)⟩,
    ⟨⟨⟨hrun, envStrs_sall henv⟩, defaultsStrs_sall hdef⟩, concurrencyStrs_sall hconc⟩⟩,
    SAll_flatMap fun kv hkv => jobStrs_sall (hjobs.entry hkv)⟩, ?_⟩
  unfold outValueStrs
  split
  · rename_i outs ho
    have := findCallOutputs_all _ (IOk_getD hon) outs ho
    split
    · simp
    · exact SAll_flatMap fun kv hkv => SAll_toList.2 (IOk_CallOutput.1 (IOk_entry.1 (this.mem hkv))).2.2
  · simp

/-- **the value strings of AL.C03R are among the strings of the AST enumerated here** -/
theorem valueStrs_sub_allStrs (w : Workflow) : ∀ s ∈ valueStrs w, s ∈ allStrs w := by
  intro s hs
  exact mem_allStrs.2 (valueStrs_sall (AllI_self w) s hs)

end AL.C07S
