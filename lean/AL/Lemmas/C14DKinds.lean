import AL.Props.C09Cron
/-
  Lemmas for AL.Props.C14Doc: every rule reports under its own kind (AL.Lemmas.RuleKinds: `ruleTable`, `mem_rules_row`), hence
  a "workflow-call" diagnostic of the project linter's output comes from rule_workflow_call.go, an "action" diagnostic from
  rule_action.go. Likewise by code: the two codes of the local-action input check are used neither by rule action without a
  project nor by a local action's metadata checks.
-/
namespace AL.C14D
open AL.Rules AL.Yaml AL.Ast AL.C09C

/-- close a goal `d.kind = k`, `k` a literal, from `h : d ∈ [⟨…⟩]` or `h : d ∈ []` -/
macro "kd " h:ident : tactic =>
  `(tactic| first | (simp at $h:ident; done) | (simp at $h:ident; subst $h:ident; rfl) | (simp at $h:ident; rcases $h:ident with rfl | rfl <;> rfl))

/-- **a diagnostic of the kind "workflow-call" among all rules' is rule workflow-call's** -/
theorem rules_workflowCall (lower : String → String) (isNum urlOk : String → Bool) (w : Workflow) (lc : LabelCfg) (d : Diag)
    (hd : d ∈ rules lower isNum urlOk w lc) (hk : d.kind = "workflow-call") : d ∈ ruleWorkflowCall w :=
  -- of the fourteen rows of `ruleTable` only rule workflow-call's has this kind
  mem_rules_row (by simp only [ruleTable, List.mem_cons, true_or, or_true]) hd hk

theorem rules_action (lower : String → String) (isNum urlOk : String → Bool) (w : Workflow) (lc : LabelCfg) (d : Diag)
    (hd : d ∈ rules lower isNum urlOk w lc) (hk : d.kind = "action") : d ∈ ruleAction urlOk w :=
  mem_rules_row (by simp only [ruleTable, List.mem_cons, true_or, or_true]) hd hk

/-- the only diagnostic rule workflow-call gives without a project is the format one -/
theorem workflowCall_code (w : Workflow) : ∀ d ∈ ruleWorkflowCall w, d.code = "call-format" := by
  intro d hd
  unfold ruleWorkflowCall at hd
  obtain ⟨j, _, hd⟩ := List.mem_flatMap.1 hd
  unfold workflowCallJob at hd
  split at hd
  · cases hd
  · split at hd
    · cases hd
    · split at hd
      · cases hd
      · split at hd
        · cases hd
        · split at hd
          · cases hd
          · simp only [List.mem_singleton] at hd; subst hd; rfl

/-- **the output of the project linter**, member by member -/
theorem mem_projLint (cfg : AL.PW.Cfg) (isNum urlOk : String → Bool) (env : AL.ProjLint.Env) (doc : Node) (d : Diag) :
    d ∈ AL.ProjLint.lint cfg isNum urlOk env doc ↔
      d ∈ (AL.PW.parse cfg doc).2.map ofPErr ∨ d ∈ rules cfg.lower isNum urlOk (AL.PW.parse cfg doc).1 env.labels ∨
      d ∈ AL.ProjCall.wcRule env.calls cfg.lower (AL.PW.parse cfg doc).1 ∨
      d ∈ (AL.ProjAction.simulate env.actions (AL.PW.parse cfg doc).1).action := by
  unfold AL.ProjLint.lint
  simp only [(AL.C09R.stableSort_perm _).mem_iff, List.mem_append, or_assoc]

/-- a "workflow-call" diagnostic of the output other than the format one comes from the project part of the rule -/
theorem projLint_workflowCall (cfg : AL.PW.Cfg) (isNum urlOk : String → Bool) (env : AL.ProjLint.Env) (doc : Node) (d : Diag)
    (hd : d ∈ AL.ProjLint.lint cfg isNum urlOk env doc) (hk : d.kind = "workflow-call") (hc : d.code ≠ "call-format") :
    d ∈ AL.ProjCall.wcRule env.calls cfg.lower (AL.PW.parse cfg doc).1 := by
  rcases (mem_projLint cfg isNum urlOk env doc d).1 hd with h | h | h | h
  · obtain ⟨e, _, rfl⟩ := List.mem_map.1 h
    simp [ofPErr] at hk
  · exact absurd (workflowCall_code _ d (rules_workflowCall _ _ _ _ _ d h hk)) hc
  · exact h
  · have := kind_projAction env.actions (AL.PW.parse cfg doc).1 d h
    rw [this] at hk
    exact absurd hk (by decide)

/-- an "action" diagnostic of the output comes from rule action: its project-independent part or the local-action part -/
theorem projLint_action (cfg : AL.PW.Cfg) (isNum urlOk : String → Bool) (env : AL.ProjLint.Env) (doc : Node) (d : Diag)
    (hd : d ∈ AL.ProjLint.lint cfg isNum urlOk env doc) (hk : d.kind = "action") :
    d ∈ ruleAction urlOk (AL.PW.parse cfg doc).1 ∨ d ∈ (AL.ProjAction.simulate env.actions (AL.PW.parse cfg doc).1).action := by
  rcases (mem_projLint cfg isNum urlOk env doc d).1 hd with h | h | h | h
  · obtain ⟨e, _, rfl⟩ := List.mem_map.1 h
    simp [ofPErr] at hk
  · exact Or.inl (rules_action _ _ _ _ _ d h hk)
  · have := kind_wcRule env.calls cfg.lower (AL.PW.parse cfg doc).1 d h
    rw [this] at hk
    exact absurd hk (by decide)
  · exact Or.inr h

/-! ### rule action without a project never uses the codes of the local-action check -/

def NotLocal (l : List Diag) : Prop := ∀ d ∈ l, d.code ≠ "local-input-undefined" ∧ d.code ≠ "local-input-missing"

theorem notLocal_nil : NotLocal [] := by intro d hd; cases hd
theorem notLocal_append {a b : List Diag} (ha : NotLocal a) (hb : NotLocal b) : NotLocal (a ++ b) := by
  intro d hd
  rcases List.mem_append.1 hd with h | h
  · exact ha d h
  · exact hb d h
theorem notLocal_flatMap {α} {l : List α} {f : α → List Diag} (h : ∀ x ∈ l, NotLocal (f x)) : NotLocal (l.flatMap f) := by
  intro d hd
  obtain ⟨x, hx, hd⟩ := List.mem_flatMap.1 hd
  exact h x hx d hd
theorem notLocal_mk (p : AL.Rules.Pos) (k c : String) (a : List String) (h1 : c ≠ "local-input-undefined") (h2 : c ≠ "local-input-missing") :
    NotLocal [⟨p, k, c, a⟩] := by
  intro x hx; simp only [List.mem_singleton] at hx; subst hx; exact ⟨h1, h2⟩
theorem notLocal_one {p : AL.Rules.Pos} {k c : String} {a : List String} (h1 : c ≠ "local-input-undefined" := by decide)
    (h2 : c ≠ "local-input-missing" := by decide) : NotLocal [⟨p, k, c, a⟩] :=
  notLocal_mk p k c a h1 h2
theorem notLocal_ite {c : Prop} [Decidable c] {a b : List Diag} (ha : NotLocal a) (hb : NotLocal b) : NotLocal (if c then a else b) := by
  split <;> assumption

theorem notLocal_actionInputs (spec : String) (declared : List (String × String × Bool)) (e : ExecAction) (usesPos : AL.Rules.Pos) :
    NotLocal (checkActionInputs spec declared e usesPos) := by
  unfold checkActionInputs
  simp only []
  apply notLocal_append
  · exact notLocal_flatMap fun kv _ => notLocal_ite notLocal_nil (notLocal_one)
  · apply notLocal_flatMap
    intro id _
    split
    · exact notLocal_ite notLocal_nil (notLocal_one)
    · exact notLocal_nil

theorem notLocal_repoAction (spec : String) (e : ExecAction) (usesPos : AL.Rules.Pos) : NotLocal (checkRepoAction spec e usesPos) := by
  unfold checkRepoAction
  simp only []
  split
  · exact notLocal_one
  · split
    · exact notLocal_one
    · apply notLocal_append
      · exact notLocal_ite (notLocal_one) notLocal_nil
      · split
        · exact notLocal_ite (notLocal_one) notLocal_nil
        · exact notLocal_ite notLocal_nil (notLocal_actionInputs _ _ _ _)

theorem notLocal_dockerAction (urlOk : String → Bool) (uri : String) (usesPos : AL.Rules.Pos) : NotLocal (checkDockerAction urlOk uri usesPos) := by
  unfold checkDockerAction
  simp only []
  split <;> exact notLocal_append (notLocal_ite notLocal_nil (notLocal_one))
    (notLocal_ite (notLocal_one) notLocal_nil)

theorem notLocal_action (urlOk : String → Bool) (w : Workflow) : NotLocal (ruleAction urlOk w) := by
  unfold ruleAction
  apply notLocal_flatMap
  intro j _
  apply notLocal_flatMap
  intro st _
  unfold actionStep
  split
  · split
    · exact notLocal_nil
    · exact notLocal_ite notLocal_nil (notLocal_ite notLocal_nil (notLocal_ite (notLocal_dockerAction _ _ _) (notLocal_repoAction _ _ _)))
  · exact notLocal_nil

/-- a diagnostic of the local-action input check in the output comes from the local-action part of rule action -/
theorem projLint_localInput (cfg : AL.PW.Cfg) (isNum urlOk : String → Bool) (env : AL.ProjLint.Env) (doc : Node) (d : Diag)
    (hd : d ∈ AL.ProjLint.lint cfg isNum urlOk env doc) (hk : d.kind = "action")
    (hc : d.code = "local-input-undefined" ∨ d.code = "local-input-missing") :
    d ∈ (AL.ProjAction.simulate env.actions (AL.PW.parse cfg doc).1).action := by
  rcases projLint_action cfg isNum urlOk env doc d hd hk with h | h
  · have := notLocal_action urlOk _ d h
    rcases hc with hc | hc
    · exact absurd hc this.1
    · exact absurd hc this.2
  · exact h

/-! ### the metadata checks of a local action never use the codes of the input check -/

section Meta
open AL.ProjAction

theorem notLocal_runsFile (env : AL.ProjAction.Env) (file dir prop name : String) (pos : AL.Rules.Pos) :
    NotLocal (runsFile env file dir prop name pos) := by
  unfold runsFile
  exact notLocal_ite notLocal_nil (notLocal_ite notLocal_nil notLocal_one)

theorem notLocal_invalidProps (r : Runs) (ty name dir : String) (props : List String) (pos : AL.Rules.Pos) :
    NotLocal (invalidProps r ty name dir props pos) := by
  unfold invalidProps
  exact notLocal_flatMap fun p _ => notLocal_ite notLocal_one notLocal_nil

theorem notLocal_jsRuns (env : AL.ProjAction.Env) (r : Runs) (dir name : String) (pos : AL.Rules.Pos) : NotLocal (jsRuns env r dir name pos) := by
  unfold jsRuns
  exact notLocal_append (notLocal_append (notLocal_append (notLocal_append (notLocal_append
    (notLocal_ite notLocal_one (notLocal_runsFile _ _ _ _ _ _)) (notLocal_runsFile _ _ _ _ _ _)) (notLocal_ite notLocal_one notLocal_nil)) (notLocal_runsFile _ _ _ _ _ _))
    (notLocal_ite notLocal_one notLocal_nil)) (notLocal_invalidProps _ _ _ _ _ _)

theorem notLocal_runsDiags (env : AL.ProjAction.Env) (m : ActionMeta) (pos : AL.Rules.Pos) : NotLocal (runsDiags env m pos) := by
  unfold runsDiags
  simp only []
  refine notLocal_ite notLocal_one ?_
  apply notLocal_ite
  · unfold dockerRuns
    refine notLocal_append (notLocal_append (notLocal_append (notLocal_append ?_ (notLocal_runsFile _ _ _ _ _ _)) (notLocal_runsFile _ _ _ _ _ _))
      (notLocal_runsFile _ _ _ _ _ _)) (notLocal_invalidProps _ _ _ _ _ _)
    exact notLocal_ite notLocal_one (notLocal_ite (notLocal_append (notLocal_runsFile _ _ _ _ _ _) (notLocal_ite notLocal_one notLocal_nil)) notLocal_nil)
  · apply notLocal_ite
    · unfold compositeRuns
      exact notLocal_append (notLocal_ite notLocal_one notLocal_nil) (notLocal_invalidProps _ _ _ _ _ _)
    · exact notLocal_ite (notLocal_jsRuns _ _ _ _ _) (notLocal_append notLocal_one (notLocal_ite (notLocal_jsRuns _ _ _ _ _) notLocal_nil))

theorem notLocal_metadataDiags (env : AL.ProjAction.Env) (m : ActionMeta) (pos : AL.Rules.Pos) : NotLocal (metadataDiags env m pos) := by
  unfold metadataDiags
  exact notLocal_append (notLocal_append (notLocal_append (notLocal_append (notLocal_ite notLocal_one notLocal_nil)
    (notLocal_ite notLocal_one notLocal_nil)) (notLocal_ite notLocal_one notLocal_nil)) (notLocal_ite notLocal_one notLocal_nil))
    (notLocal_runsDiags _ _ _)

end Meta

end AL.C14D
