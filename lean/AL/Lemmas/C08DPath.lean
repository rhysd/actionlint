import AL.Lemmas.C08DFrame
/-
  From a section to the whole document: `Cong P ctx N Rel` — whenever two nodes `v`, `v'` are related by `Rel`, the parser
  `P` gives, on `ctx v` and `ctx v'`, results with the same normal form `N` and diagnostics at the same sites with the same
  codes. Edges compose (`Cong.trans`); every edge of the spine document → `jobs:` → job → `steps:` → step is a `Cong`
  because the loop bodies and the final checks carry alike states to alike states (`C08DFrame`).
-/
namespace AL.C08D
open AL.PW AL.Yaml AL.Ast AL.C13P AL.C13D AL.C13D3

def Cong {α α' : Type} (P : Node → R α) (ctx : Node → Node) (N : α → α') (Rel : Node → Node → Prop) : Prop :=
  ∀ v v', Rel v v' → Sim N (P (ctx v)) (P (ctx v'))

/-- "the sub-parser `Q` gives alike results" as a relation on nodes -/
def SimRel {β β' : Type} (Q : Node → R β) (N : β → β') (v v' : Node) : Prop := Sim N (Q v) (Q v')

theorem Cong.trans {α α' β β' : Type} {P : Node → R α} {Q : Node → R β} {c₁ c₂ : Node → Node} {N : α → α'} {M : β → β'}
    {Rel : Node → Node → Prop} (h₁ : Cong P c₁ N (SimRel Q M)) (h₂ : Cong Q c₂ M Rel) : Cong P (fun v => c₁ (c₂ v)) N Rel :=
  fun v v' h => h₁ _ _ (h₂ v v' h)

theorem Cong.refl {α α' : Type} (P : Node → R α) (N : α → α') : Cong P id N (SimRel P N) := fun _ _ h => h

/-- **the generic edge**: a section parser of the shape `Sect.run` on a mapping node, and the value of one of its keys (the first
with its id) -/
theorem Sect.cong {σ ρ σ' ρ' : Type} (S : Sect σ ρ) (cfg : Cfg) (what : String) (ae cs : Bool) (m : MapCtx)
    (Nσ : σ → σ') (Nρ : ρ → ρ') (Rel : Node → Node → Prop)
    (hfirst : ∀ q ∈ m.pre, keyId cfg cs q.1 ≠ keyId cfg cs m.key)
    (frame : ∀ s s' kv, Nσ s = Nσ s' → Sim Nσ (S.step s kv) (S.step s' kv))
    (fin : ∀ s s', Nσ s = Nσ s' → Sim Nρ (S.finish s) (S.finish s'))
    (hstep : ∀ s v v', Rel v v' → Sim Nσ (S.step s ⟨keyId cfg cs m.key, (parseString m.key false).1, v⟩)
        (S.step s ⟨keyId cfg cs m.key, (parseString m.key false).1, v'⟩)) :
    Cong (fun n => S.run cfg what n ae cs) m.at Nρ Rel := by
  intro v v' hr
  obtain ⟨k1, k2, es, -, -, e⟩ := Sect.run_at S cfg what ae cs m hfirst
  simp only [e]
  -- only the iteration at the key sees the value; after it `frame` carries alike states through the remaining entries
  refine Sim.seq (Sim.seq (Sim.seq_right _ ?_) fun s s' h => loop_frame S.step S.step Nσ frame k2 s s' h) fin
  exact hstep _ v v' hr

/-- a loop body that stores what a sub-parser `Q` makes of the value (`he`, an equation of `Lemmas/ParseWfStores`): alike
results of `Q` give alike states -/
theorem step_store {β β' σ σ' : Type} {Q : Node → R β} {M : β → β'} {N : σ → σ'} {step : σ → Node → R σ} {g : σ → β → σ}
    (he : ∀ s v, step s v = store (g s) (Q v)) (hg : ∀ s x y, M x = M y → N (g s x) = N (g s y)) :
    ∀ s v v', SimRel Q M v v' → Sim N (step s v) (step s v') := by
  intro s v v' h
  rw [he, he, store, store]
  exact h.map N (g s) (hg s)

section
variable (F : Folds) (cfg : Cfg)

theorem c_root : Cong (parse cfg) docNode (nWf F) (SimRel (wfRun cfg) (nWf F)) := by
  intro v v' h
  simp only [parse_docNode]
  exact h

/-- root → the value of a top-level key -/
theorem c_wf (m : MapCtx) (name : String) (hk : m.Keyed cfg name) (Rel : Node → Node → Prop)
    (hstep : ∀ w v v', Rel v v' → Sim (nWf F) (workflowKey cfg w ⟨name, (parseString m.key false).1, v⟩)
        (workflowKey cfg w ⟨name, (parseString m.key false).1, v'⟩)) :
    Cong (wfRun cfg) m.at (nWf F) Rel :=
  Sect.cong (workflowSect cfg (docNode (mapNode "" 0 0 []))) cfg "workflow" false true m (nWf F) (nWf F) Rel hk.first'
    (fun s s' kv h => workflowKey_frame F cfg s s' kv h) (fun s s' h => workflowFinish_frame F cfg _ s s' h)
    (by intro s v v' hr; rw [hk.id]; exact hstep s v v' hr)

theorem c_wf_jobs (m : MapCtx) (hk : m.Keyed cfg "jobs") : Cong (wfRun cfg) m.at (nWf F) (SimRel (parseJobs cfg) (nAssoc (nJob F))) :=
  c_wf F cfg m "jobs" hk _ (step_store (workflowKey_jobs cfg · _) fun s x y e => by simp only [nWf, Option.map_some, e])

theorem c_wf_env (m : MapCtx) (hk : m.Keyed cfg "env") : Cong (wfRun cfg) m.at (nWf F) (SimRel (parseEnv cfg) (nEnv F.env)) :=
  c_wf F cfg m "env" hk _ (step_store (workflowKey_env cfg · _) fun s x y e => by simp only [nWf, Option.map_some, e])

/-- `jobs:` → one job (the value under a job id) -/
theorem c_jobs_job (m : MapCtx) (hk : m.Free cfg) :
    Cong (parseJobs cfg) m.at (nAssoc (nJob F)) (SimRel (parseJob cfg (parseString m.key false).1) (nJob F)) := by
  have key := Sect.cong (mapSect (fun kv => parseJob cfg kv.key kv.val)) cfg (sectionWhat "jobs") false false m
    (nAssoc (nJob F)) (nAssoc (nJob F)) (SimRel (parseJob cfg (parseString m.key false).1) (nJob F)) hk
    (fun s s' kv h => ⟨by simp only [mapSect, plain, nAssoc_append, h], rfl⟩)
    (fun s s' h => ⟨h, rfl⟩)
    (fun s v v' h => ⟨by simp only [mapSect, plain, nAssoc_append, nAssoc_cons, nAssoc_nil, h.1], h.2⟩)
  intro v v' h
  have := key v v' h
  simpa only [parseJobs, parseSectionMapping, mapSect_run] using this

/-- a job → the value of one of its keys -/
theorem c_job (jid : Str) (m : MapCtx) (name : String) (hk : m.Keyed cfg name) (Rel : Node → Node → Prop)
    (hstep : ∀ s v v', Rel v v' → Sim (nJobSt F) (jobKey cfg s ⟨name, (parseString m.key false).1, v⟩)
        (jobKey cfg s ⟨name, (parseString m.key false).1, v'⟩)) :
    Cong (parseJob cfg jid) m.at (nJob F) Rel :=
  Sect.cong (jobSect cfg jid) cfg (jobWhat jid.value) false true m (nJobSt F) (nJob F) Rel hk.first'
    (fun s s' kv h => jobKey_frame F cfg s s' kv h) (fun s s' h => jobFinish_frame F jid jid rfl s s' h)
    (by intro s v v' hr; rw [hk.id]; exact hstep s v v' hr)

theorem c_job_steps (jid : Str) (m : MapCtx) (hk : m.Keyed cfg "steps") :
    Cong (parseJob cfg jid) m.at (nJob F) (SimRel (parseSteps cfg) (Option.map (List.map (nStep F)))) :=
  c_job F cfg jid m "steps" hk _ (step_store (jobKey_steps cfg · _) fun s x y e => by simp only [nJobSt, nJob, e])

theorem c_job_env (jid : Str) (m : MapCtx) (hk : m.Keyed cfg "env") :
    Cong (parseJob cfg jid) m.at (nJob F) (SimRel (parseEnv cfg) (nEnv F.env)) :=
  c_job F cfg jid m "env" hk _ (step_store (jobKey_env cfg · _) fun s x y e => by simp only [nJobSt, nJob, Option.map_some, e])

theorem c_job_outputs (jid : Str) (m : MapCtx) (hk : m.Keyed cfg "outputs") :
    Cong (parseJob cfg jid) m.at (nJob F) (SimRel (parseOutputs cfg) (nAssoc (nOutput F.output))) :=
  c_job F cfg jid m "outputs" hk _ (step_store (jobKey_outputs cfg · _) fun s x y e => by simp only [nJobSt, nJob, Option.map_some, e])

theorem c_job_services (jid : Str) (m : MapCtx) (hk : m.Keyed cfg "services") :
    Cong (parseJob cfg jid) m.at (nJob F) (SimRel (parseServices cfg) (nServices F)) :=
  c_job F cfg jid m "services" hk _ (step_store (jobKey_services cfg · _) fun s x y e => by simp only [nJobSt, nJob, Option.map_some, e])

/-- `steps:` → one step -/
theorem stepsOf_cong (b : List Node) : ∀ (a : List Node) (v v' : Node), Sim (nStep F) (parseStep cfg v) (parseStep cfg v') →
    Sim (List.map (nStep F)) (stepsOf cfg (a ++ v :: b)) (stepsOf cfg (a ++ v' :: b)) := by
  intro a v v' h
  rw [stepsOf_mapR, mapR_at, mapR_at]
  exact Sim.seq_right _ (Sim.seq h fun y y' hy => Sim.seq_right _ ⟨by simp only [List.map_append, List.map_cons, hy], rfl⟩)

theorem c_steps_step (s : SeqCtx) : Cong (parseSteps cfg) s.at (Option.map (List.map (nStep F))) (SimRel (parseStep cfg) (nStep F)) := by
  intro v v' h
  have hc : ∀ x : Node, checkSequence "steps" (s.at x) false = (true, []) := by
    intro x
    simp [checkSequence, SeqCtx.at, seqNode, Node.kind, Node.content, checkNotEmpty]
  have hcont : ∀ x : Node, (s.at x).content = s.before ++ x :: s.after := fun _ => rfl
  obtain ⟨i1, i2⟩ := stepsOf_cong F cfg s.after s.before v v' h
  simp only [parseSteps, hc, hcont]
  exact ⟨by simp only [Bool.not_true, Bool.false_eq_true, if_false, Option.map_some, i1], by simpa using i2⟩

/-- a step → the value of one of its keys -/
theorem c_step (m : MapCtx) (name : String) (hk : m.Keyed cfg name) (Rel : Node → Node → Prop)
    (hstep : ∀ s v v', Rel v v' → Sim (nStepSt F) (stepKey cfg s ⟨name, (parseString m.key false).1, v⟩)
        (stepKey cfg s ⟨name, (parseString m.key false).1, v'⟩)) :
    Cong (parseStep cfg) m.at (nStep F) Rel := by
  intro v v' hr
  simp only [MapCtx.at, parseStep_mapNode]
  exact Sect.cong (stepSect cfg (mapNode m.tag m.l m.c [])) cfg _ false true m (nStepSt F) (nStep F) Rel hk.first'
    (fun s s' kv h => stepKey_frame F cfg s s' kv h) (fun s s' h => stepFinish_frame F _ s s' h)
    (by intro s v v' hr; rw [hk.id]; exact hstep s v v' hr) v v' hr

theorem c_step_env (m : MapCtx) (hk : m.Keyed cfg "env") :
    Cong (parseStep cfg) m.at (nStep F) (SimRel (parseEnv cfg) (nEnv F.env)) :=
  c_step F cfg m "env" hk _ (step_store (stepKey_env cfg · _) fun s x y e => by simp only [nStepSt, nStep, Option.map_some, e])

/-! ### the leaves -/

theorem c_step_with (m : MapCtx) (hk : m.Keyed cfg "with") (hf : ∀ a b, F.input a = F.input b → cfg.lower a = cfg.lower b) :
    Cong (parseStep cfg) m.at (nStep F) (KeyRecased F.input) :=
  c_step F cfg m "with" hk _ (fun s v v' h => by
    obtain ⟨⟨id, cond, name, exec, env, coe, tm, pos⟩, wd⟩ := s
    simp only [stepKey]
    cases exec with
    | run e => exact ⟨rfl, rfl⟩
    | none =>
      obtain ⟨j1, j2⟩ := stepWith_recase (cfg := cfg) F hf h {}
      exact ⟨by simp only [nStepSt, nStep, nExec]; simp only at j1; rw [j1], j2⟩
    | action e =>
      obtain ⟨j1, j2⟩ := stepWith_recase (cfg := cfg) F hf h e
      exact ⟨by simp only [nStepSt, nStep, nExec]; simp only at j1; rw [j1], j2⟩)

theorem c_step_id (m : MapCtx) (hk : m.Keyed cfg "id") : Cong (parseStep cfg) m.at (nStep F) (KeyAlike F.stepId) :=
  c_step F cfg m "id" hk _ (fun s v v' h => by
    simp only [stepKey, h.errs]
    exact ⟨by simp only [nStepSt, nStep, Option.map_some, h.str], rfl⟩)

/-- `with:` / `secrets:` of a job that calls a reusable workflow (this lemma and the next) -/
theorem c_job_with (jid : Str) (m : MapCtx) (hk : m.Keyed cfg "with") (hf : ∀ a b, F.arg a = F.arg b → cfg.lower a = cfg.lower b) :
    Cong (parseJob cfg jid) m.at (nJob F) (KeyRecased F.arg) :=
  (c_job F cfg jid m "with" hk _ (step_store (jobKey_with cfg · _) fun s x y e => by simp only [nJobSt, nCall, Option.map_some, e])).trans
    fun _ _ h => callArgs_recase hf "with" h

theorem c_job_secrets (jid : Str) (m : MapCtx) (hk : m.Keyed cfg "secrets") (hf : ∀ a b, F.arg a = F.arg b → cfg.lower a = cfg.lower b) :
    Cong (parseJob cfg jid) m.at (nJob F) (KeyRecased F.arg) :=
  c_job F cfg jid m "secrets" hk _ (fun s v v' h => by
    obtain ⟨j1, j2⟩ := callArgs_recase (cfg := cfg) hf "secrets" h
    simp only at j1 j2
    simp only [jobKey, h.kind, h.value, errAt, h.pos]
    split
    · exact ⟨rfl, rfl⟩
    · exact ⟨by simp only [nJobSt, nCall, Option.map_some]; rw [j1], j2⟩)

/-! ### job ids: the keys of `jobs:` and the entries of `needs:` -/

theorem parseJobs_recase (hf : ∀ a b, F.jobId a = F.jobId b → cfg.lower a = cfg.lower b) {n n' : Node} (h : KeyRecased F.jobId n n') :
    Sim (nAssoc (nJob F)) (parseJobs cfg n) (parseJobs cfg n') :=
  (h.parseMapping hf _ false).seq (mapKVs_sim F.jobId _ _ (nJob F) fun kv kv' hk => by
    obtain ⟨_, hk2, hk3⟩ := nKV_eq hk
    rw [hk3]
    exact parseJob_id_sim F cfg kv.key kv'.key hk2 kv'.val)

theorem c_jobs_keys (hf : ∀ a b, F.jobId a = F.jobId b → cfg.lower a = cfg.lower b) :
    Cong (parseJobs cfg) id (nAssoc (nJob F)) (KeyRecased F.jobId) :=
  fun _ _ h => parseJobs_recase F cfg hf h

/-- the elements of a sequence of names, each re-spelled -/
inductive ElemsAlike (f : String → String) : List Node → List Node → Prop
  | nil : ElemsAlike f [] []
  | cons {x x' : Node} {xs xs' : List Node} : KeyAlike f x x' → ElemsAlike f xs xs' → ElemsAlike f (x :: xs) (x' :: xs')

theorem ElemsAlike.rfl' {f : String → String} : ∀ {l : List Node}, ElemsAlike f l l
  | [] => .nil
  | _ :: _ => .cons KeyAlike.rfl' ElemsAlike.rfl'

theorem ElemsAlike.one {f : String → String} {x x' : Node} (h : KeyAlike f x x') (b : List Node) :
    ∀ a : List Node, ElemsAlike f (a ++ x :: b) (a ++ x' :: b)
  | [] => .cons h ElemsAlike.rfl'
  | _ :: a => .cons KeyAlike.rfl' (ElemsAlike.one h b a)

theorem ElemsAlike.length {f : String → String} {l l' : List Node} (h : ElemsAlike f l l') : l.length = l'.length := by
  induction h with
  | nil => rfl
  | cons _ _ ih => simp [ih]

theorem parseStrings_alike {f : String → String} {l l' : List Node} (h : ElemsAlike f l l') :
    (parseStrings false l).1.map (nStr f) = (parseStrings false l').1.map (nStr f) ∧ (parseStrings false l).2 = (parseStrings false l').2 := by
  induction h with
  | nil => exact ⟨rfl, rfl⟩
  | cons hx _ ih =>
    simp only [parseStrings, List.map_cons, hx.errs, hx.str, ih.1, ih.2]
    exact ⟨trivial, trivial⟩

/-- a sequence node whose elements (names) are re-spelled -/
structure SeqRecased (f : String → String) (n n' : Node) : Prop where
  kind : n'.kind = n.kind
  tag : n'.tag = n.tag
  value : n'.value = n.value
  quoted : n'.quoted = n.quoted
  pos : n'.pos = n.pos
  elems : ElemsAlike f n.content n'.content

/-- **`NeedsRecased f v v'`**: the value of `needs:` — one name, or a sequence of names — with the names re-spelled -/
def NeedsRecased (f : String → String) (v v' : Node) : Prop := KeyAlike f v v' ∨ SeqRecased f v v'

theorem parseStringSequence_setValue (sec : String) (v : Node) (x : String) (a b : Bool) :
    parseStringSequence sec (setValue v x) a b = parseStringSequence sec v a b := by
  cases v with | mk k t y q l c cs => rfl

theorem parseStringSequence_alike {f : String → String} (sec : String) (k : Kind) (t x : String) (q : Bool) (l c : Nat) {cs cs' : List Node}
    (h : ElemsAlike f cs cs') :
    (parseStringSequence sec (.mk k t x q l c cs) false false).1.map (List.map (nStr f)) =
      (parseStringSequence sec (.mk k t x q l c cs') false false).1.map (List.map (nStr f)) ∧
    (parseStringSequence sec (.mk k t x q l c cs) false false).2 = (parseStringSequence sec (.mk k t x q l c cs') false false).2 := by
  obtain ⟨i1, i2⟩ := parseStrings_alike h
  have hl := h.length
  simp only [parseStringSequence, checkSequence, checkNotEmpty, Node.kind, Node.content, errAt, Node.pos, Node.line, Node.col, Node.tag, hl, i2]
  by_cases hk : k = .sequence
  · subst hk
    by_cases h0 : cs'.length = 0 <;> simp [h0, i1]
  · simp [hk]

theorem SeqRecased.shape {f : String → String} {v v' : Node} (h : SeqRecased f v v') :
    ∃ k t x q l c cs cs', v = .mk k t x q l c cs ∧ v' = .mk k t x q l c cs' ∧ ElemsAlike f cs cs' := by
  obtain ⟨k, t, x, q, l, c, cs⟩ := v
  obtain ⟨k', t', x', q', l', c', cs'⟩ := v'
  obtain ⟨h1, h2, h3, h4, h5, h6⟩ := h
  simp only [Node.kind, Node.tag, Node.value, Node.quoted, Node.pos, Node.line, Node.col, Node.content] at h1 h2 h3 h4 h5 h6
  have h5' := h5
  simp only [AL.Matrix.P.mk.injEq] at h5'
  obtain ⟨rfl, rfl⟩ := h5'
  subst h1; subst h2; subst h3; subst h4
  exact ⟨_, _, _, _, _, _, _, _, rfl, rfl, h6⟩

theorem c_job_needs (jid : Str) (m : MapCtx) (hk : m.Keyed cfg "needs") :
    Cong (parseJob cfg jid) m.at (nJob F) (NeedsRecased F.jobId) :=
  c_job F cfg jid m "needs" hk _ (fun s v v' h => by
    rcases h with h | h
    · have hs := h.str
      have he := h.errs
      obtain ⟨x, rfl, -⟩ := h
      simp only [jobKey, setValue_kind, parseStringSequence_setValue]
      split
      · exact ⟨by simp only [nJobSt, nJob, Option.map_some, List.map_cons, List.map_nil, hs], by rw [he]; exact SameSites.rfl'⟩
      · exact ⟨rfl, rfl⟩
    · obtain ⟨k, t, x, q, l, c, cs, cs', rfl, rfl, he⟩ := h.shape
      obtain ⟨i1, i2⟩ := parseStringSequence_alike "needs" k t x q l c he
      have hps : parseString (.mk k t x q l c cs') false = parseString (.mk k t x q l c cs) false := rfl
      simp only [jobKey, hps, i2]
      have hkk : (Node.mk k t x q l c cs').kind = (Node.mk k t x q l c cs).kind := rfl
      rw [hkk]
      split
      · exact ⟨rfl, rfl⟩
      · exact ⟨by simp only [nJobSt, nJob, i1], rfl⟩)

end

end AL.C08D
