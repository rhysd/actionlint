import AL.Lemmas.C13Path
import AL.Props.C08Parse
/-
  C08 at the level of the DOCUMENT, base: the relation "the same node tree but for the letter case of the KEYS of one
  mapping" (`KeyRecased`), what the key loop of `parseMapping` makes of two such mappings (`parseMapping_alike`), and the
  two loops of the section parsers over two lists of key/value pairs that differ in the spelling of the keys only
  (`mapKVs_sim`, `loop_sim`). The relation between two runs is `Sim N`; it goes through sequencing (`Sim.seq`) and through
  storing a result (`Sim.map`), which is how a section parser is taken apart: alike mapping, then alike loop, then the store.

  Names are compared through a FOLD `f : String → String` (`cfg.lower` itself, or something finer such as the ASCII
  folding when the name is also read as written, e.g. by the naming convention of ids): two spellings are the same
  name when their folds are equal and both or neither is empty (`SameName`).
-/
namespace AL.C08D
open AL.PW AL.Yaml AL.Ast AL.C13P

/-- site and code of a parser diagnostic: what does not echo a spelling -/
def psig (e : PErr) : Yaml.Pos × String := (e.pos, e.code)

def SameSites (es es' : List PErr) : Prop := es.map psig = es'.map psig

theorem SameSites.rfl' {es : List PErr} : SameSites es es := rfl

theorem SameSites.symm {a b : List PErr} (h : SameSites a b) : SameSites b a := Eq.symm h

theorem SameSites.trans {a b c : List PErr} (h : SameSites a b) (h' : SameSites b c) : SameSites a c := Eq.trans h h'

theorem SameSites.append {a a' b b' : List PErr} (h : SameSites a a') (h' : SameSites b b') : SameSites (a ++ b) (a' ++ b') := by
  simp only [SameSites, List.map_append] at *
  rw [h, h']

theorem SameSites.of_eq {a b : List PErr} (h : a = b) : SameSites a b := by rw [h]; rfl

theorem SameSites.one (p : Yaml.Pos) (code : String) (a b : List String) : SameSites [⟨p, code, a⟩] [⟨p, code, b⟩] := rfl

theorem SameSites.length {a b : List PErr} (h : SameSites a b) : a.length = b.length := by
  have := congrArg List.length h
  simpa using this

def Sim {α α' : Type} (N : α → α') (r r' : R α) : Prop := N r.1 = N r'.1 ∧ SameSites r.2 r'.2

theorem Sim.rfl' {α α' : Type} {N : α → α'} {r : R α} : Sim N r r := ⟨rfl, rfl⟩

theorem Sim.symm {α α' : Type} {N : α → α'} {r r' : R α} (h : Sim N r r') : Sim N r' r := ⟨h.1.symm, h.2.symm⟩

theorem Sim.trans {α α' : Type} {N : α → α'} {a b c : R α} (h : Sim N a b) (h' : Sim N b c) : Sim N a c :=
  ⟨h.1.trans h'.1, h.2.trans h'.2⟩

/-- Sequencing respects `Sim`: alike first runs, and continuations that take alike results to alike runs. A section parser
is `seqR (parseMapping …) (the loop over the entries)` by unfolding, so this closes goals stated with `let`; not where a later
check reads the result of the loop (`parseOutputs`, `callInput`, `parseJob`): seeing `(seqR a f).1` inside that check is slow
to check, and those proofs take the two runs apart by hand. -/
theorem Sim.seq {α β α' β' : Type} {N : α → α'} {M : β → β'} {a a' : R α} (h : Sim N a a') {f f' : α → R β}
    (hf : ∀ s s', N s = N s' → Sim M (f s) (f' s')) : Sim M (seqR a f) (seqR a' f') :=
  ⟨(hf _ _ h.1).1, h.2.append (hf _ _ h.1).2⟩

theorem Sim.seq_right {α β β' : Type} {M : β → β'} (a : R α) {f f' : α → R β} (h : Sim M (f a.1) (f' a.1)) :
    Sim M (seqR a f) (seqR a f') :=
  ⟨h.1, SameSites.rfl'.append h.2⟩

/-- storing the result with `k`, when `k` takes alike results to alike values; the pair is `PW.store k r` unfolded, which is
how the parse functions spell it -/
theorem Sim.map {α β α' β' : Type} {N : α → α'} {r r' : R α} (h : Sim N r r') (M : β → β') (k : α → β)
    (hk : ∀ x y, N x = N y → M (k x) = M (k y)) : Sim M (k r.1, r.2) (k r'.1, r'.2) :=
  ⟨hk _ _ h.1, h.2⟩

/-! ### names -/

structure SameName (f : String → String) (a b : String) : Prop where
  fold : f a = f b
  empty : a = "" ↔ b = ""

theorem SameName.rfl' {f : String → String} {a : String} : SameName f a a := ⟨rfl, Iff.rfl⟩

theorem SameName.symm {f : String → String} {a b : String} (h : SameName f a b) : SameName f b a := ⟨h.fold.symm, h.empty.symm⟩

def nStr (f : String → String) (s : Str) : Str := ⟨f s.value, s.quoted, s.pos⟩

def nKV (f : String → String) (kv : KV) : KV := ⟨kv.id, nStr f kv.key, kv.val⟩

theorem nKV_eq {f : String → String} {a b : KV} (h : nKV f a = nKV f b) :
    a.id = b.id ∧ nStr f a.key = nStr f b.key ∧ a.val = b.val := by
  obtain ⟨i, k, v⟩ := a
  obtain ⟨i', k', v'⟩ := b
  simp only [nKV, KV.mk.injEq] at h
  exact h

theorem nStr_eq {f : String → String} {a b : Str} (h : nStr f a = nStr f b) : f a.value = f b.value ∧ a.quoted = b.quoted ∧ a.pos = b.pos := by
  simpa [nStr] using h

/-! ### node trees -/

def setValue : Node → String → Node
  | .mk k t _ q l c cs, v => .mk k t v q l c cs

@[simp] theorem setValue_kind (n : Node) (v : String) : (setValue n v).kind = n.kind := by cases n; rfl
@[simp] theorem setValue_tag (n : Node) (v : String) : (setValue n v).tag = n.tag := by cases n; rfl
@[simp] theorem setValue_value (n : Node) (v : String) : (setValue n v).value = v := by cases n; rfl
@[simp] theorem setValue_quoted (n : Node) (v : String) : (setValue n v).quoted = n.quoted := by cases n; rfl
@[simp] theorem setValue_pos (n : Node) (v : String) : (setValue n v).pos = n.pos := by cases n; rfl
@[simp] theorem setValue_content (n : Node) (v : String) : (setValue n v).content = n.content := by cases n; rfl
theorem setValue_self (n : Node) : setValue n n.value = n := by cases n; rfl

/-- two key nodes: everything equal but the text, which spells the same name -/
def KeyAlike (f : String → String) (k k' : Node) : Prop := ∃ v, k' = setValue k v ∧ SameName f k.value v

theorem KeyAlike.rfl' {f : String → String} {k : Node} : KeyAlike f k k := ⟨k.value, (setValue_self k).symm, SameName.rfl'⟩

/-- the pairs of two mappings: the same values under keys that are alike -/
inductive PairsAlike (f : String → String) : List (Node × Node) → List (Node × Node) → Prop
  | nil : PairsAlike f [] []
  | cons {k k' v : Node} {ps ps' : List (Node × Node)} : KeyAlike f k k' → PairsAlike f ps ps' → PairsAlike f ((k, v) :: ps) ((k', v) :: ps')

theorem PairsAlike.rfl' {f : String → String} : ∀ {ps : List (Node × Node)}, PairsAlike f ps ps
  | [] => .nil
  | (_, _) :: _ => .cons KeyAlike.rfl' PairsAlike.rfl'

/-- one key re-spelled -/
theorem PairsAlike.one {f : String → String} {k k' : Node} (h : KeyAlike f k k') (v : Node) (post : List (Node × Node)) :
    ∀ pre : List (Node × Node), PairsAlike f (pre ++ (k, v) :: post) (pre ++ (k', v) :: post)
  | [] => .cons h PairsAlike.rfl'
  | (_, _) :: rest => .cons KeyAlike.rfl' (PairsAlike.one h v post rest)

/-- **`KeyRecased f n n'`**: the same node — kind, tag, text, position, and under a mapping the same values at the same
places — except that the KEY scalars of the mapping may be spelled differently, each still spelling the same name.
The children are compared through `pairs n.content` only (all that `parseMapping` reads of them), whatever the kind of
the node: off mappings this is weaker than "the same children". -/
structure KeyRecased (f : String → String) (n n' : Node) : Prop where
  kind : n'.kind = n.kind
  tag : n'.tag = n.tag
  value : n'.value = n.value
  quoted : n'.quoted = n.quoted
  pos : n'.pos = n.pos
  pairs : PairsAlike f (pairs n.content) (pairs n'.content)

theorem KeyRecased.rfl' {f : String → String} {n : Node} : KeyRecased f n n := ⟨rfl, rfl, rfl, rfl, rfl, PairsAlike.rfl'⟩

/-- a mapping node with one key re-spelled -/
theorem KeyRecased.of_key {f : String → String} {k k' : Node} (h : KeyAlike f k k') (tag : String) (l c : Nat)
    (pre post : List (Node × Node)) (v : Node) :
    KeyRecased f (mapNode tag l c (pre ++ (k, v) :: post)) (mapNode tag l c (pre ++ (k', v) :: post)) :=
  ⟨rfl, rfl, rfl, rfl, rfl, by
    show PairsAlike f (Yaml.pairs (flatten _)) (Yaml.pairs (flatten _))
    simpa using PairsAlike.one h v post pre⟩

theorem KeyRecased.of_pairs {f : String → String} (tag : String) (l c : Nat) {ps ps' : List (Node × Node)} (h : PairsAlike f ps ps') :
    KeyRecased f (mapNode tag l c ps) (mapNode tag l c ps') :=
  ⟨rfl, rfl, rfl, rfl, rfl, by
    show PairsAlike f (Yaml.pairs (flatten _)) (Yaml.pairs (flatten _))
    simpa using h⟩

/-! ### the key as `parseMapping` reads it -/

theorem KeyAlike.errs {f : String → String} {k k' : Node} (h : KeyAlike f k k') : (parseString k' false).2 = (parseString k false).2 := by
  obtain ⟨v, rfl, hn⟩ := h
  have he := hn.empty
  simp only [parseString, checkString, setValue_kind, setValue_value, setValue_tag, errAt, setValue_pos]
  by_cases hk : k.kind = .scalar
  · by_cases hv : k.value = ""
    · have hv' : v = "" := he.1 hv
      simp [hk, hv, hv']
    · have hv' : ¬ v = "" := fun e => hv (he.2 e)
      simp [hk, hv, hv']
  · simp [hk]

theorem KeyAlike.str {f : String → String} {k k' : Node} (h : KeyAlike f k k') :
    nStr f (parseString k' false).1 = nStr f (parseString k false).1 := by
  obtain ⟨v, rfl, hn⟩ := h
  have he := hn.empty
  have hf := hn.fold
  simp only [parseString, checkString, setValue_kind, setValue_value, setValue_tag, errAt, setValue_pos]
  by_cases hk : k.kind = .scalar
  · by_cases hv : k.value = ""
    · have hv' : v = "" := he.1 hv
      simp [hk, hv, hv']
    · have hv' : ¬ v = "" := fun e => hv (he.2 e)
      simp [hk, hv, hv', nStr, newString, hf]
  · simp [hk]

theorem KeyAlike.strPos {f : String → String} {k k' : Node} (h : KeyAlike f k k') :
    (parseString k' false).1.pos = (parseString k false).1.pos := (nStr_eq h.str).2.2

theorem KeyAlike.keyId {f : String → String} {k k' : Node} (h : KeyAlike f k k') (cfg : Cfg)
    (hf : ∀ a b, f a = f b → cfg.lower a = cfg.lower b) : keyId cfg false k' = keyId cfg false k := by
  simp only [AL.PW.keyId, Bool.false_eq_true, if_false]
  exact hf _ _ (nStr_eq h.str).1

/-! ### `mappingLoop` / `parseMapping` on two mappings that are alike -/

/-- under the identity fold alike keys are the same key -/
theorem KeyAlike.eq_of_id {k k' : Node} (h : KeyAlike id k k') : k' = k := by
  obtain ⟨v, rfl, hn⟩ := h
  rw [← show k.value = v from hn.fold, setValue_self]

theorem map_nKV_id (l : List KV) : l.map (nKV id) = l := List.map_id'' (fun _ => rfl) l

/-- The key loop of `parseMapping` on two lists of pairs that are alike, described by `what` and `what'`, whenever alike keys
get the same id (`hid`): in a case-insensitive mapping because the fold is finer than `cfg.lower`, under the identity fold
in any mapping. The same entries but for the spelling of the keys; the same sites and codes. -/
theorem mappingLoop_sim (cfg : Cfg) (f : String → String) (cs : Bool)
    (hid : ∀ k k', KeyAlike f k k' → keyId cfg cs k' = keyId cfg cs k) (what what' : String) :
    ∀ (ps ps' : List (Node × Node)), PairsAlike f ps ps' → ∀ seen : List (String × Yaml.Pos),
      Sim (List.map (nKV f)) (mappingLoop cfg what cs ps seen) (mappingLoop cfg what' cs ps' seen) := by
  intro ps ps' h
  induction h with
  | nil => intro seen; exact ⟨rfl, rfl⟩
  | @cons k k' v ps ps' hk _ ih =>
    intro seen
    rw [mappingLoop_cons, mappingLoop_cons, hid k k' hk, hk.errs, hk.strPos]
    cases lookupSeen (keyId cfg cs k) seen with
    | some pos =>
      simp only
      obtain ⟨i1, i2⟩ := ih seen
      exact ⟨i1, (SameSites.append (SameSites.append SameSites.rfl' (SameSites.one _ _ _ _)) i2)⟩
    | none =>
      simp only
      obtain ⟨i1, i2⟩ := ih (seen ++ [(keyId cfg cs k, (parseString k false).1.pos)])
      refine ⟨?_, SameSites.append SameSites.rfl' i2⟩
      simp only [List.map_cons, i1, nKV, hk.str]

theorem mappingLoop_alike (cfg : Cfg) (f : String → String) (hf : ∀ a b, f a = f b → cfg.lower a = cfg.lower b) (what what' : String) :
    ∀ (ps ps' : List (Node × Node)), PairsAlike f ps ps' → ∀ seen : List (String × Yaml.Pos),
      (mappingLoop cfg what false ps seen).1.map (nKV f) = (mappingLoop cfg what' false ps' seen).1.map (nKV f) ∧
      SameSites (mappingLoop cfg what false ps seen).2 (mappingLoop cfg what' false ps' seen).2 :=
  mappingLoop_sim cfg f false (fun _ _ hk => hk.keyId cfg hf) what what'

/-- the same mapping described differently in the messages (`what`) -/
theorem mappingLoop_what (cfg : Cfg) (what what' : String) (cs : Bool) :
    ∀ (ps : List (Node × Node)) (seen : List (String × Yaml.Pos)),
      (mappingLoop cfg what cs ps seen).1 = (mappingLoop cfg what' cs ps seen).1 ∧
      SameSites (mappingLoop cfg what cs ps seen).2 (mappingLoop cfg what' cs ps seen).2 := by
  intro ps seen
  have h := mappingLoop_sim cfg id cs (fun _ _ hk => by rw [hk.eq_of_id]) what what' ps ps PairsAlike.rfl' seen
  rwa [Sim, map_nKV_id, map_nKV_id] at h

theorem map_isEmpty {α β : Type} {l l' : List α} (g : α → β) (h : l.map g = l'.map g) : l.isEmpty = l'.isEmpty := by
  cases l <;> cases l' <;> simp_all

/-- `parseMapping` on two nodes that are alike, under the hypothesis of `mappingLoop_sim` -/
theorem parseMapping_sim (cfg : Cfg) (f : String → String) (cs : Bool)
    (hid : ∀ k k', KeyAlike f k k' → keyId cfg cs k' = keyId cfg cs k) (what what' : String)
    (n n' : Node) (ae : Bool) (h : KeyRecased f n n') :
    Sim (List.map (nKV f)) (parseMapping cfg what n ae cs) (parseMapping cfg what' n' ae cs) := by
  obtain ⟨i1, i2⟩ := mappingLoop_sim cfg f cs hid what what' _ _ h.pairs []
  have hemp := map_isEmpty _ i1
  have e2 : n'.isNull = n.isNull := by simp only [Node.isNull, h.kind, h.tag]
  simp only [parseMapping, e2, h.kind, errAt, h.pos]
  by_cases c1 : (!n.isNull && decide (n.kind ≠ Kind.mapping)) = true
  · rw [if_pos c1, if_pos c1]; exact ⟨rfl, SameSites.one _ _ _ _⟩
  · rw [if_neg c1, if_neg c1]
    by_cases c2 : (!ae && n.isNull) = true
    · rw [if_pos c2, if_pos c2]; exact ⟨rfl, SameSites.one _ _ _ _⟩
    · rw [if_neg c2, if_neg c2]
      refine ⟨i1, SameSites.append i2 ?_⟩
      rw [hemp]
      split
      · exact SameSites.one _ _ _ _
      · rfl

/-- **`parseMapping` on a case-insensitive mapping whose keys are re-spelled**: the same entries (ids, positions, values) but for
the spelling of the keys; the same sites and codes -/
theorem parseMapping_alike (cfg : Cfg) (f : String → String) (hf : ∀ a b, f a = f b → cfg.lower a = cfg.lower b) (what what' : String)
    (n n' : Node) (ae : Bool) (h : KeyRecased f n n') :
    (parseMapping cfg what n ae false).1.map (nKV f) = (parseMapping cfg what' n' ae false).1.map (nKV f) ∧
    SameSites (parseMapping cfg what n ae false).2 (parseMapping cfg what' n' ae false).2 :=
  parseMapping_sim cfg f false (fun _ _ hk => hk.keyId cfg hf) what what' n n' ae h

/-- a mapping (case-sensitive or not) described differently in the messages -/
theorem parseMapping_what (cfg : Cfg) (what what' : String) (n : Node) (ae cs : Bool) :
    (parseMapping cfg what n ae cs).1 = (parseMapping cfg what' n ae cs).1 ∧
    SameSites (parseMapping cfg what n ae cs).2 (parseMapping cfg what' n ae cs).2 := by
  have h := parseMapping_sim cfg id cs (fun _ _ hk => by rw [hk.eq_of_id]) what what' n n ae KeyRecased.rfl'
  rwa [Sim, map_nKV_id, map_nKV_id] at h

/-! ### the loops over the entries -/

/-- a Go map of the AST, values normalised -/
def nAssoc {β β' : Type} (N : β → β') (l : List (String × β)) : List (String × β') := l.map fun p => (p.1, N p.2)

@[simp] theorem nAssoc_nil {β β' : Type} (N : β → β') : nAssoc N [] = [] := rfl
@[simp] theorem nAssoc_cons {β β' : Type} (N : β → β') (p : String × β) (l : List (String × β)) :
    nAssoc N (p :: l) = (p.1, N p.2) :: nAssoc N l := rfl
@[simp] theorem nAssoc_append {β β' : Type} (N : β → β') (a b : List (String × β)) : nAssoc N (a ++ b) = nAssoc N a ++ nAssoc N b := by
  simp [nAssoc]

/-- an entry made of its key and what a parser makes of its value -/
theorem named_sim {β γ β' : Type} (f : String → String) (mk : Str → γ → β) (val : Node → R γ) (N : β → β')
    (hN : ∀ k k' x, nStr f k = nStr f k' → N (mk k x) = N (mk k' x)) {kv kv' : KV} (hk : nKV f kv = nKV f kv') :
    Sim N (let v := val kv.val; (mk kv.key v.1, v.2)) (let v := val kv'.val; (mk kv'.key v.1, v.2)) := by
  obtain ⟨i, k, v⟩ := kv
  obtain ⟨i', k', v'⟩ := kv'
  simp only [nKV, KV.mk.injEq] at hk
  obtain ⟨_, hk2, rfl⟩ := hk
  exact ⟨hN _ _ _ hk2, rfl⟩

/-- one pass (`mapR`) over two lists that are alike element by element -/
theorem mapR_sim {α κ β β' : Type} (K : α → κ) (g g' : α → R β) (N : β → β')
    (hg : ∀ a a', K a = K a' → Sim N (g a) (g' a')) :
    ∀ (l l' : List α), l.map K = l'.map K → Sim (List.map N) (mapR g l) (mapR g' l')
  | [], [], _ => ⟨rfl, rfl⟩
  | [], _ :: _, h => nomatch h
  | _ :: _, [], h => nomatch h
  | a :: l, a' :: l', h => by
    obtain ⟨h1, h2⟩ := List.cons.inj h
    obtain ⟨j1, j2⟩ := hg a a' h1
    obtain ⟨i1, i2⟩ := mapR_sim K g g' N hg l l' h2
    exact ⟨(congr (congrArg List.cons j1) i1 :), j2.append i2⟩

/-- `ret[kv.id] = g(kv)` over two lists of entries that are alike -/
theorem mapKVs_sim {β β' : Type} (f : String → String) (g g' : KV → R β) (N : β → β')
    (hg : ∀ kv kv', nKV f kv = nKV f kv' → Sim N (g kv) (g' kv')) :
    ∀ (kvs kvs' : List KV), kvs.map (nKV f) = kvs'.map (nKV f) →
      Sim (nAssoc N) (mapKVs g kvs) (mapKVs g' kvs') := by
  rw [mapKVs_mapR, mapKVs_mapR]
  exact mapR_sim (nKV f) _ _ (fun p : String × β => (p.1, N p.2)) fun kv kv' hk =>
    ⟨congr (congrArg Prod.mk (nKV_eq hk).1) (hg kv kv' hk).1, (hg kv kv' hk).2⟩

/-- `for _, kv := range kvs { body }` over two lists of entries that are alike, from two states that are alike -/
theorem loop_sim {σ σ' : Type} (f : String → String) (step step' : σ → KV → σ × List PErr) (N : σ → σ')
    (hs : ∀ s s' kv kv', N s = N s' → nKV f kv = nKV f kv' → Sim N (step s kv) (step' s' kv')) :
    ∀ (kvs kvs' : List KV) (s s' : σ), kvs.map (nKV f) = kvs'.map (nKV f) → N s = N s' →
      Sim N (loop step s kvs) (loop step' s' kvs')
  | [], [], _, _, _, h0 => ⟨h0, rfl⟩
  | [], _ :: _, _, _, h, _ => by simp at h
  | _ :: _, [], _, _, h, _ => by simp at h
  | kv :: rest, kv' :: rest', s, s', h, h0 => by
    simp only [List.map_cons, List.cons.injEq] at h
    obtain ⟨h1, h2⟩ := h
    obtain ⟨j1, j2⟩ := hs s s' kv kv' h0 h1
    obtain ⟨i1, i2⟩ := loop_sim f step step' N hs rest rest' _ _ h2 j1
    rw [loop_cons, loop_cons]
    exact ⟨i1, SameSites.append j2 i2⟩

/-- the same list of entries, from two states that are alike -/
theorem loop_frame {σ σ' : Type} (step step' : σ → KV → σ × List PErr) (N : σ → σ')
    (hs : ∀ s s' kv, N s = N s' → Sim N (step s kv) (step' s' kv)) (kvs : List KV) (s s' : σ) (h0 : N s = N s') :
    Sim N (loop step s kvs) (loop step' s' kvs) :=
  -- `nKV id kv` is `kv` (structure eta), so `hk` below is an equation between the entries themselves
  loop_sim id step step' N (fun s s' kv kv' h (hk : kv = kv') => hk ▸ hs s s' kv h) kvs kvs s s' rfl h0

end AL.C08D
