import AL.Lemmas.SemaFold
/-
  C12: where a diagnostic with a given code can come from. `srcErrs Γ k e` collects, structurally, the
  diagnostics with code `k` of the two producers that matter for availability — the `.var` case of `check`
  and the overload resolution of a call — over the sub-expressions `check` visits; every other producer
  (`objDerefTy`, `arrDerefTy`, `indexTy`, `!`, comparison, undefined function) only uses the codes listed in
  `localCodes`. `keep k (check Γ e).errs = srcErrs Γ k e` for every code `k` outside that list.
-/
namespace AL.Sema
open AL

/-- the diagnostics with code `k`, in order -/
def keep (k : String) (l : List SemaErr) : List SemaErr := l.filter (fun x => x.code == k)

@[simp] theorem keep_nil (k : String) : keep k [] = [] := rfl
theorem keep_append (k : String) (a b : List SemaErr) : keep k (a ++ b) = keep k a ++ keep k b :=
  List.filter_append ..
theorem mem_keep {k : String} {l : List SemaErr} {x : SemaErr} : x ∈ keep k l ↔ x ∈ l ∧ x.code = k := by
  simp [keep]

theorem keep_eq_nil_of_codes {k : String} {l : List SemaErr} {codes : List String}
    (h : ∀ x ∈ l, x.code ∈ codes) (hk : k ∉ codes) : keep k l = [] := by
  apply List.filter_eq_nil_iff.2
  intro x hx hc
  have := h x hx
  rw [beq_iff_eq] at hc
  exact hk (hc ▸ this)

/-- codes used by the producers other than the `.var` case and `resolveCall` -/
def localCodes : List String :=
  ["prop-undefined", "deref-not-object", "filter-prop-undefined", "filter-not-object",
   "cfgvar-prefix", "cfgvar-chars", "cfgvar-empty", "cfgvar-undefined",
   "filter-elems-not-object", "filter-no-object-elem", "filter-bad-receiver",
   "index-not-number", "index-not-string", "index-bad-operand",
   "not-operand", "bad-compare", "undefined-function"]

/-- codes used by `resolveCall` besides those of `specialFuncErrs` -/
def callCodes : List String :=
  ["arg-count", "arg-type", "format-unused-arg", "format-surplus-holder", "broken-json"]

/-- a single diagnostic whose code is in `localCodes` (found there by `eq_self`, without comparing it with the
entries before it) -/
theorem code_mem_of_singleton {x : SemaErr} {c : String} {args : List String} (hx : x ∈ [err c args])
    (hc : c ∈ localCodes := by simp only [localCodes, List.mem_cons, true_or, or_true]) :
    x.code ∈ localCodes := by
  rw [List.mem_singleton.1 hx]; exact hc

/-- … or none at all, depending on a test -/
theorem code_mem_of_ite {p : Prop} [Decidable p] (c : String) {args : List String}
    (hc : c ∈ localCodes := by simp only [localCodes, List.mem_cons, true_or, or_true]) :
    ∀ x ∈ (if p then [] else [err c args]), x.code ∈ localCodes := by
  intro x hx
  split at hx
  · cases hx
  · exact code_mem_of_singleton hx hc

theorem checkConfigVar_codes (Γ : Env) (p : String) : ∀ x ∈ checkConfigVar Γ p, x.code ∈ localCodes := by
  intro x hx
  unfold checkConfigVar at hx
  repeat' split at hx
  all_goals first
    | exact (List.not_mem_nil hx).elim
    | exact code_mem_of_singleton hx

theorem objDerefTy_codes (Γ : Env) (b : Bool) (p : String) (t : Ty) :
    ∀ x ∈ (objDerefTy Γ b p t).2, x.code ∈ localCodes := by
  intro x hx
  unfold objDerefTy at hx
  repeat' split at hx
  all_goals first
    | exact (List.not_mem_nil hx).elim
    | exact code_mem_of_singleton hx
    | exact checkConfigVar_codes _ _ _ hx
theorem arrDerefTy_codes (t : Ty) : ∀ x ∈ (arrDerefTy t).2, x.code ∈ localCodes := by
  intro x hx
  unfold arrDerefTy at hx
  repeat' split at hx
  all_goals first
    | exact (List.not_mem_nil hx).elim
    | exact code_mem_of_singleton hx

theorem indexTy_codes (Γ : Env) (lit : Option String) (i t : Ty) :
    ∀ x ∈ (indexTy Γ lit i t).2, x.code ∈ localCodes := by
  intro x hx
  unfold indexTy at hx
  repeat' split at hx
  all_goals first
    | exact (List.not_mem_nil hx).elim
    | exact code_mem_of_singleton hx

/-! ### `resolveCall` -/

theorem checkSig_codes (s : Sig) (tys : List Ty) (e : SemaErr) (h : checkSig s tys = some e) :
    e.code ∈ callCodes := by
  unfold checkSig at h
  simp only at h
  by_cases hc : (s.variadic && decide (s.params.length > tys.length) ||
      !s.variadic && decide (s.params.length ≠ tys.length)) = true
  · rw [if_pos hc] at h; cases h; simp [err, callCodes]
  · rw [if_neg hc] at h
    split at h
    · cases h; simp [err, callCodes]
    · cases h

theorem formatErrs_codes (fmt : String) (n : Nat) : ∀ x ∈ formatErrs fmt n, x.code ∈ callCodes := by
  intro x hx
  simp only [formatErrs, List.mem_append, List.mem_map] at hx
  rcases hx with ⟨_, _, rfl⟩ | ⟨_, _, rfl⟩ <;> simp [err, callCodes]

theorem builtinCall_src (Γ : Env) (c : String) (s : Sig) (fl : Option String) (n : Nat) :
    ∀ x ∈ (builtinCall Γ c s fl n).2, x ∈ specialFuncErrs Γ c ∨ x.code ∈ callCodes := by
  intro x hx
  simp only [builtinCall] at hx
  repeat' split at hx
  all_goals first
    | exact Or.inl hx
    | (rcases List.mem_append.1 hx with h | h
       · exact Or.inl h
       · first
         | exact Or.inr (formatErrs_codes _ _ _ h)
         | (simp only [List.mem_singleton] at h; subst h; exact Or.inr (by simp [err, callCodes])))

/-- a diagnostic of the overload resolution is one of `specialFuncErrs` or has one of `callCodes` -/
theorem resolveCall_src (Γ : Env) (c : String) (sigs : List Sig) (fl : Option String) (tys : List Ty) :
    ∀ x ∈ (resolveCall Γ c sigs fl tys).2, x ∈ specialFuncErrs Γ c ∨ x.code ∈ callCodes := by
  rw [resolveCall_eq]
  split
  · exact builtinCall_src Γ c _ fl _
  · intro x hx
    obtain ⟨s, _, hs⟩ := List.mem_filterMap.1 hx
    exact .inr (checkSig_codes s tys x hs)

theorem specialFuncErrs_mem (Γ : Env) (c : String) (x : SemaErr) (h : x ∈ specialFuncErrs Γ c) :
    x = err "special-func-not-allowed" [c] ∧ Γ.specialFuncs.contains (Γ.lower c) = true ∧
      Γ.availSpecial.contains (Γ.lower c) = false := by
  unfold specialFuncErrs at h
  simp only at h
  split at h
  · cases h
  · next h1 =>
    split at h
    · cases h
    · next h2 =>
      refine ⟨List.mem_singleton.1 h, ?_, ?_⟩
      · simpa using h1
      · simpa using h2

/-! ### the structural collector -/

mutual
/-- diagnostics with code `k` of the `.var` cases and of the calls that `check` visits, in order -/
def srcErrs (Γ : Env) (k : String) : E → List SemaErr
  | .var n => keep k (check Γ (.var n)).errs
  | .objDeref r _ => srcErrs Γ k r
  | .arrDeref r => srcErrs Γ k r
  | .index r i => srcErrs Γ k i ++ srcErrs Γ k r
  | .not e => srcErrs Γ k e
  | .cmp _ l r => srcErrs Γ k l ++ srcErrs Γ k r
  | .logical _ l r => srcErrs Γ k l ++ srcErrs Γ k r
  | .call c args =>
    match lookupFuncs (Γ.lower c) Γ.funcs with
    | none => []
    | some sigs =>
      srcErrsList Γ k args ++ keep k (resolveCall Γ c sigs (args.head?.bind strLit?) (checkArgs Γ args).1).2
  | _ => []
def srcErrsList (Γ : Env) (k : String) : List E → List SemaErr
  | [] => []
  | e :: es => srcErrs Γ k e ++ srcErrsList Γ k es
end

mutual
/-- the diagnostics with code `k ∉ localCodes` of `check Γ e` are exactly `srcErrs Γ k e`. (Recursion on the
expression alone: narrowing does not change the diagnostics, `check_logical_errs`.) -/
theorem keep_errs (Γ : Env) (k : String) (hk : k ∉ localCodes) : ∀ e : E, keep k (check Γ e).errs = srcErrs Γ k e
  | .null => by rw [check_null]; rfl
  | .bool => by rw [check_bool]; rfl
  | .num => by rw [check_num]; rfl
  | .str _ => by rw [check_str]; rfl
  | .var _ => by rw [srcErrs]
  | .objDeref r _ => by
    rw [check_objDeref, srcErrs, wrap_errs, keep_append, keep_errs Γ k hk r,
      keep_eq_nil_of_codes (objDerefTy_codes _ _ _ _) hk, List.append_nil]
  | .arrDeref r => by
    rw [check_arrDeref, srcErrs, wrap_errs, keep_append, keep_errs Γ k hk r,
      keep_eq_nil_of_codes (arrDerefTy_codes _) hk, List.append_nil]
  | .index r i => by
    rw [check_index, srcErrs, wrap_errs, keep_append, keep_append, keep_errs Γ k hk r, keep_errs Γ k hk i,
      keep_eq_nil_of_codes (indexTy_codes _ _ _ _) hk, List.append_nil]
  | .call c args => by
    rw [check_call, srcErrs, wrap_errs]
    cases lookupFuncs (Γ.lower c) Γ.funcs with
    | none => exact keep_eq_nil_of_codes (fun _ hx => code_mem_of_singleton hx) hk
    | some sigs => simp only [keep_append, keep_errsList Γ k hk args]
  | .not o => by rw [check_not_errs, srcErrs, keep_errs Γ k hk o]
  | .cmp _ l r => by
    rw [check_cmp, srcErrs, wrap_errs, keep_append, keep_append, keep_errs Γ k hk l, keep_errs Γ k hk r,
      keep_eq_nil_of_codes (code_mem_of_ite "bad-compare") hk, List.append_nil]
  | .logical _ l r => by rw [check_logical_errs, srcErrs, keep_append, keep_errs Γ k hk l, keep_errs Γ k hk r]
theorem keep_errsList (Γ : Env) (k : String) (hk : k ∉ localCodes) :
    ∀ es : List E, keep k (checkArgs Γ es).2.1 = srcErrsList Γ k es
  | [] => by rw [checkArgs_nil]; rfl
  | a :: rest => by
    rw [checkArgs_cons, srcErrsList, keep_append, keep_errs Γ k hk a, keep_errsList Γ k hk rest]
end

theorem mem_errs_iff (Γ : Env) (e : E) (x : SemaErr) (hk : x.code ∉ localCodes) :
    x ∈ (check Γ e).errs ↔ x ∈ srcErrs Γ x.code e := by
  rw [← keep_errs Γ x.code hk e, mem_keep]
  exact ⟨fun h => ⟨h, rfl⟩, fun h => h.1⟩

/-! ### the two producers, per code -/

theorem mem_var_errs_ctx (Γ : Env) (m n : String) :
    (⟨"context-not-allowed", [n]⟩ : SemaErr) ∈ keep "context-not-allowed" (check Γ (.var m)).errs ↔
      n = m ∧ (Ty.lookup n Γ.vars).isSome = true ∧ Γ.availCtx.contains (Γ.lower n) = false := by
  rw [check_var, mem_keep]
  simp only [wrap_errs, and_true]
  cases hl : Ty.lookup m Γ.vars with
  | none =>
    simp only [List.mem_singleton, err, SemaErr.mk.injEq]
    constructor
    · intro h; exact absurd h.1 (by simp)
    · rintro ⟨rfl, h, _⟩; rw [hl] at h; cases h
  | some t =>
    simp only
    cases ha : Γ.availCtx.contains (Γ.lower m) with
    | true =>
      simp only [if_true]
      constructor
      · intro h; cases h
      · rintro ⟨rfl, _, h⟩; rw [ha] at h; cases h
    | false =>
      simp only [Bool.false_eq_true, if_false, List.mem_singleton, err, SemaErr.mk.injEq, true_and, List.cons.injEq, and_true]
      constructor
      · rintro rfl; exact ⟨rfl, by rw [hl]; rfl, ha⟩
      · rintro ⟨rfl, _, _⟩; rfl

theorem check_var_codes (Γ : Env) (n : String) :
    ∀ x ∈ (check Γ (.var n)).errs, x.code ∈ ["undefined-variable", "context-not-allowed"] := by
  intro x hx
  rw [check_var] at hx
  simp only [wrap_errs] at hx
  split at hx
  · rw [List.mem_singleton.1 hx]; exact List.mem_cons_self ..
  · split at hx
    · cases hx
    · rw [List.mem_singleton.1 hx]; exact List.mem_cons_of_mem _ (List.mem_cons_self ..)

theorem resolveCall_codes (Γ : Env) (c : String) (sigs : List Sig) (fl : Option String) (tys : List Ty) :
    ∀ x ∈ (resolveCall Γ c sigs fl tys).2, x.code ∈ "special-func-not-allowed" :: callCodes := by
  intro x hx
  rcases resolveCall_src Γ c sigs fl tys x hx with h | h
  · rw [(specialFuncErrs_mem Γ c x h).1]; exact List.mem_cons_self ..
  · exact List.mem_cons_of_mem _ h

theorem keep_var_special (Γ : Env) (m : String) :
    keep "special-func-not-allowed" (check Γ (.var m)).errs = [] :=
  keep_eq_nil_of_codes (check_var_codes Γ m) (by simp)

theorem keep_resolveCall_ctx (Γ : Env) (c : String) (sigs : List Sig) (fl : Option String) (tys : List Ty) :
    keep "context-not-allowed" (resolveCall Γ c sigs fl tys).2 = [] :=
  keep_eq_nil_of_codes (resolveCall_codes Γ c sigs fl tys) (by simp [callCodes])

theorem mem_keep_resolveCall_special (Γ : Env) (c : String) (sigs : List Sig) (fl : Option String)
    (tys : List Ty) (x : SemaErr) (hx : x ∈ keep "special-func-not-allowed" (resolveCall Γ c sigs fl tys).2) :
    x = err "special-func-not-allowed" [c] ∧ Γ.specialFuncs.contains (Γ.lower c) = true ∧
      Γ.availSpecial.contains (Γ.lower c) = false := by
  obtain ⟨hx, hc⟩ := mem_keep.1 hx
  rcases resolveCall_src Γ c sigs fl tys x hx with h | h
  · exact specialFuncErrs_mem Γ c x h
  · rw [hc] at h; exact absurd h (by simp [callCodes])

end AL.Sema
