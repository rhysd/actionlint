import AL.Lemmas.C07SEvents
/-
  C07Sites, parser side, part 3: the sections inside a job — those shared with the workflow, environment, outputs, strategy
  and matrix, container and services, timeout-minutes. Steps, the job and the workflow are in part 4 (C07SWf).
-/
namespace AL.C07S
open AL.Yaml AL.Ast AL.PW

variable {S : List Node}

/-! ### sections shared by workflow and job -/

theorem parsePermissions_ok (cfg : Cfg) {pos : Pos} (hp : POk S pos) {n : Node} (h : ∀ x ∈ allNodes n, x ∈ S) :
    ROk S (parsePermissions cfg pos n) := by
  unfold parsePermissions
  dsimp only
  split
  · simp [hp, (parseString_ok (self_mem h) false).and]
  · simpa [hp] using mapMapping_ok (parseSectionMapping_ok cfg "permissions" h true false)
      fun hkv => by simp [hkv.1, (parseString_ok hkv.valMem false).and]

theorem parseEnv_ok (cfg : Cfg) {n : Node} (h : ∀ x ∈ allNodes n, x ∈ S) : ROk S (parseEnv cfg n) := by
  unfold parseEnv
  dsimp only
  split
  · simp [(parseExpression_ok (self_mem h) _).and]
  · simpa using mapMapping_ok (parseMapping_ok cfg "env" h false false)
      fun hkv => by simp [hkv.1, (parseString_ok hkv.valMem true).and]

theorem defaultsRunKey_ok {st : DefaultsRun} {attr : KV} (hkv : KVOk S attr) (hst : IOk S st) :
    ROk S (defaultsRunKey st attr) := by
  have hd := IOk_DefaultsRun.1 hst
  have hs := (parseString_ok hkv.valMem false).and
  unfold defaultsRunKey
  dsimp only
  split
  · simp [hd, hs]
  · simp [hd, hs]
  · simp [hst, unexpectedKey_ok hkv]

theorem parseDefaults_ok (cfg : Cfg) {pos : Pos} (hp : POk S pos) {n : Node} (h : ∀ x ∈ allNodes n, x ∈ S) :
    ROk S (parseDefaults cfg pos n) := by
  refine (loopMapping_ok (parseSectionMapping_ok cfg _ h false true) ?_ IOk_none).imp
    (fun hr => IOk_Defaults.2 ⟨hr, IOk_pos.2 hp⟩)
    fun he => EOk_append.2 ⟨he, EOk_ite (EOk_errAt (self_mem h) _ _) EOk_nil⟩
  intro st kv hkv hst
  split
  · simp [hst, unexpectedKey_ok hkv]
  · simpa using loopMapping_ok (init := { pos := kv.key.pos }) (parseSectionMapping_ok cfg "run" hkv.2 false true)
      defaultsRunKey_ok (by simp [hkv.keyPos])

theorem concurrencyKey_ok {st : Concurrency × Bool} {kv : KV} (hkv : KVOk S kv) (hst : IOk S st) :
    ROk S (concurrencyKey st kv) := by
  have hc := IOk_Concurrency.1 (IOk_flag.1 hst)
  unfold concurrencyKey
  dsimp only
  split
  · simp [hc, (parseString_ok hkv.valMem false).and]
  · simp [hc, (parseBool_ok hkv.valMem).and]
  · simp [hst, unexpectedKey_ok hkv]

theorem parseConcurrency_ok (cfg : Cfg) {pos : Pos} (hp : POk S pos) {n : Node} (h : ∀ x ∈ allNodes n, x ∈ S) :
    ROk S (parseConcurrency cfg pos n) := by
  unfold parseConcurrency
  dsimp only
  split
  · simp [hp, (parseString_ok (self_mem h) false).and]
  · have hr := loopMapping_ok (init := (({ pos := pos } : Concurrency), false))
      (parseSectionMapping_ok cfg "concurrency" h false true) concurrencyKey_ok (by simp [hp])
    exact ⟨hr.1, EOk_append.2 ⟨hr.2, EOk_ite (EOk_one hp) EOk_nil⟩⟩

theorem environmentKey_ok {st : Environment × Bool} {kv : KV} (hkv : KVOk S kv) (hst : IOk S st) :
    ROk S (environmentKey st kv) := by
  have he := IOk_Environment.1 (IOk_flag.1 hst)
  have hs := (parseString_ok hkv.valMem false).and
  unfold environmentKey
  dsimp only
  split
  · simp [he, hs]
  · simp [he, hs]
  · simp [hst, unexpectedKey_ok hkv]

theorem parseEnvironment_ok (cfg : Cfg) {pos : Pos} (hp : POk S pos) {n : Node} (h : ∀ x ∈ allNodes n, x ∈ S) :
    ROk S (parseEnvironment cfg pos n) := by
  unfold parseEnvironment
  dsimp only
  split
  · simp [hp, (parseString_ok (self_mem h) false).and]
  · have hr := loopMapping_ok (init := (({ pos := pos } : Environment), false))
      (parseSectionMapping_ok cfg "environment" h false true) environmentKey_ok (by simp [hp])
    exact ⟨hr.1, EOk_append.2 ⟨hr.2, EOk_ite (EOk_one hp) EOk_nil⟩⟩

theorem parseOutputs_ok (cfg : Cfg) {n : Node} (h : ∀ x ∈ allNodes n, x ∈ S) : ROk S (parseOutputs cfg n) := by
  have hr := mapMapping_ok (parseSectionMapping_ok cfg "outputs" h false false)
    (f := fun kv => let v := parseString kv.val true; ((⟨kv.key, v.1⟩ : Output), v.2))
    fun hkv => by simp [hkv.1, (parseString_ok hkv.valMem true).and]
  exact ⟨hr.1, EOk_append.2 ⟨hr.2, checkNotEmpty_ok (self_mem h) _ _⟩⟩

/-! ### matrix -/

mutual
theorem rawValue_ok (cfg : Cfg) : ∀ (n : Node), (∀ x ∈ allNodes n, x ∈ S) → ROk S (rawValue cfg n)
  | .mk k t v q l c cs, h => by
    have hn := self_mem h
    have hcs : ∀ c' ∈ cs, ∀ x ∈ allNodes c', x ∈ S := fun c' hc' => content_sub h c' (by simpa [Node.content] using hc')
    have hp : POk S ⟨l, c⟩ := ⟨_, hn, rfl⟩
    cases k with
    | scalar =>
      simp only [rawValue, ROk_iff, IOk_some, IOk_raw_str, EOk_nil, and_true]
      exact ⟨_, hn, ⟨rfl, Or.inl rfl, Or.inr rfl, Or.inl rfl⟩⟩
    | sequence =>
      simp only [rawValue]
      simp [hp, (rawSeq_ok cfg cs hcs).and]
    | mapping =>
      simp only [rawValue]
      simp [hp, rawProps_ok cfg cs [] hcs]
    | document => exact ⟨IOk_none, EOk_one hp⟩
    | alias => exact ⟨IOk_none, EOk_one hp⟩
theorem rawSeq_ok (cfg : Cfg) : ∀ (cs : List Node), (∀ c ∈ cs, ∀ x ∈ allNodes c, x ∈ S) → ROk S (rawSeq cfg cs)
  | [], _ => by simp [rawSeq]
  | c :: cs, h => by
    have h1 := rawValue_ok cfg c (h c (List.mem_cons_self ..))
    have h2 := (rawSeq_ok cfg cs (fun x hx => h x (List.mem_cons_of_mem _ hx))).and
    unfold rawSeq
    dsimp only
    split
    · rename_i he
      simp [h2, h1.2, h1.1.of_some he]
    · simp [h2, h1.2]
theorem rawProps_ok (cfg : Cfg) : ∀ (cs : List Node) (seen : List (String × Pos)), (∀ c ∈ cs, ∀ x ∈ allNodes c, x ∈ S) →
    IOk S (rawProps cfg cs seen).1 ∧ EOk S (rawProps cfg cs seen).2.1 ∧ EOk S (rawProps cfg cs seen).2.2
  | [], _, _ => by simp [rawProps]
  | [_], _, _ => by simp [rawProps]
  | kn :: vn :: rest, seen, h => by
    have hkn : kn ∈ S := h kn (List.mem_cons_self ..) kn (mem_allNodes_self kn)
    have hk := (parseString_ok (S := S) hkn false).2
    have hkp : ∃ v ∈ S, (parseString kn false).1.pos = v.pos := ⟨kn, hkn, parseString_pos kn false⟩
    have hv := rawValue_ok cfg vn (h vn (List.mem_cons_of_mem _ (List.mem_cons_self ..)))
    have ih := fun seen' => rawProps_ok cfg rest seen'
      fun x hx => h x (List.mem_cons_of_mem _ (List.mem_cons_of_mem _ hx))
    unfold rawProps
    dsimp only
    split
    · simp [ih, hk, hkp]
    · split
      · rename_i he
        simp [ih, hk, hv.2, hv.1.of_some he]
      · simp [ih, hk, hv.2]
end

theorem matrixAssign_ok (cfg : Cfg) {kv : KV} (hkv : KVOk S kv) : ROk S (matrixAssign cfg kv) := by
  have h1 := rawValue_ok (S := S) cfg kv.val hkv.2
  refine ⟨?_, h1.2⟩
  simp only [matrixAssign]
  cases hx : (rawValue cfg kv.val).1 with
  | none => exact IOk_none
  | some x => exact IOk_some.2 (IOk_MatrixAssign.2 ⟨IOk_str.2 hkv.1, h1.1.of_some hx⟩)

theorem matrixAssigns_ok (cfg : Cfg) : ∀ (kvs : List KV), (∀ kv ∈ kvs, KVOk S kv) → ROk S (matrixAssigns cfg kvs) :=
  fun _ hk => matrixAssigns_filterMapR cfg ▸ filterMapR_ok fun kv h => matrixAssign_ok cfg (hk kv h)

theorem matrixCombo_ok (cfg : Cfg) (sec : String) {c : Node} (hc : ∀ x ∈ allNodes c, x ∈ S) :
    ROk S (AL.C13D3.matrixCombo cfg sec c) := by
  unfold AL.C13D3.matrixCombo
  split
  · have he := parseExpression_ok (S := S) (self_mem hc) "mapping of matrix combination"
    dsimp only
    split
    · rename_i hs
      simp [he.2, he.1.of_some hs]
    · simp [he.2]
  · have hm := parseMapping_ok (S := S) cfg ("element in \"" ++ sec ++ "\" section") hc false false
    simp [hm.2, (matrixAssigns_ok cfg _ hm.1).and]

theorem matrixCombos_ok (cfg : Cfg) (sec : String) : ∀ (cs : List Node), (∀ c ∈ cs, ∀ x ∈ allNodes c, x ∈ S) →
    ROk S (matrixCombos cfg sec cs) :=
  fun _ h => matrixCombos_filterMapR cfg sec ▸ filterMapR_ok fun c hc => matrixCombo_ok cfg sec (h c hc)

theorem parseMatrixCombinations_ok (cfg : Cfg) (sec : String) {n : Node} (h : ∀ x ∈ allNodes n, x ∈ S) :
    ROk S (parseMatrixCombinations cfg sec n) := by
  have hc := checkSequence_ok (S := S) (self_mem h) sec false
  unfold parseMatrixCombinations
  dsimp only
  split
  · simp [(parseExpression_ok (self_mem h) _).and]
  · split
    · simp [hc]
    · simp [hc, (matrixCombos_ok cfg sec n.content (content_sub h)).and]

theorem setAssoc_ok {β : Type} [HasItems β] (k : String) {v : β} (hv : IOk S v) :
    ∀ (l : List (String × β)), IOk S l → IOk S (setAssoc k v l)
  | [], _ => by simp [setAssoc, hv]
  | (k', v') :: rest, h => by
    have h' := IOk_cons.1 h
    unfold setAssoc
    split
    · simp [hv, h'.2]
    · simp [h'.1, setAssoc_ok k hv rest h'.2]

theorem matrixKey_ok (cfg : Cfg) {st : Ast.Matrix} {kv : KV} (hkv : KVOk S kv) (hst : IOk S st) :
    ROk S (matrixKey cfg st kv) := by
  have hm := IOk_Matrix.1 hst
  have hc := fun sec => (parseMatrixCombinations_ok (S := S) cfg sec hkv.2).and
  have hrows := IOk_getD hm.1
  unfold matrixKey
  dsimp only
  split
  · simp [hm, hc]
  · simp [hm, hc]
  · split
    · simp [hm, setAssoc_ok, hrows, (parseExpression_ok hkv.valMem _).and]
    · have hq := checkSequence_ok (S := S) hkv.valMem "matrix values" false
      split
      · exact ⟨hst, hq⟩
      · simp [hm, hq, setAssoc_ok, hrows, hkv.1, (rawSeq_ok cfg kv.val.content (content_sub hkv.2)).and]

theorem parseMatrix_ok (cfg : Cfg) {pos : Pos} (hp : POk S pos) {n : Node} (h : ∀ x ∈ allNodes n, x ∈ S) :
    ROk S (parseMatrix cfg pos n) := by
  unfold parseMatrix
  split
  · simp [(parseExpression_ok (self_mem h) _).and, POk_of_mem (self_mem h)]
  · exact loopMapping_ok (parseSectionMapping_ok cfg _ h false false) (matrixKey_ok cfg) (by simp [hp])

theorem parseMaxParallel_ok (cfg : Cfg) {n : Node} (h : n ∈ S) : ROk S (parseMaxParallel cfg n) := by
  have hi := parseInt_ok (S := S) cfg h
  unfold parseMaxParallel
  dsimp only
  split
  · split
    · exact ⟨hi.1, EOk_append.2 ⟨hi.2, EOk_errAt h _ _⟩⟩
    · exact hi
  · exact hi

theorem strategyKey_ok (cfg : Cfg) {st : Strategy} {kv : KV} (hkv : KVOk S kv) (hst : IOk S st) :
    ROk S (strategyKey cfg st kv) := by
  have hs := IOk_Strategy.1 hst
  unfold strategyKey
  split
  · simp [hs, (parseMatrix_ok cfg hkv.keyPos hkv.2).and]
  · simp [hs, (parseBool_ok hkv.valMem).and]
  · simp [hs, (parseMaxParallel_ok cfg hkv.valMem).and]
  · simp [hst, unexpectedKey_ok hkv]

theorem parseStrategy_ok (cfg : Cfg) {pos : Pos} (hp : POk S pos) {n : Node} (h : ∀ x ∈ allNodes n, x ∈ S) :
    ROk S (parseStrategy cfg pos n) :=
  loopMapping_ok (parseSectionMapping_ok cfg _ h false true) (strategyKey_ok cfg) (by simp [hp])

/-! ### container, services -/

theorem credentialsKey_ok {st : Credentials} {c : KV} (hkv : KVOk S c) (hst : IOk S st) : ROk S (credentialsKey st c) := by
  have hc := IOk_Credentials.1 hst
  have hs := (parseString_ok hkv.valMem false).and
  unfold credentialsKey
  split
  · simp [hc, hs]
  · simp [hc, hs]
  · simp [hst, unexpectedKey_ok hkv]

theorem containerKey_ok (cfg : Cfg) (sec : String) {st : Container} {kv : KV} (hkv : KVOk S kv) (hst : IOk S st) :
    ROk S (containerKey cfg sec st kv) := by
  have hc := IOk_Container.1 hst
  have hs := fun ae => (parseString_ok hkv.valMem ae).and
  have hq := fun sec => (parseStringSequence_ok hkv.2 sec true false).and
  unfold containerKey
  dsimp only
  split
  · simp [hc, hs]
  · have hr := loopMapping_ok (init := ({ pos := kv.key.pos } : Credentials))
      (parseSectionMapping_ok cfg "credentials" hkv.2 false true) credentialsKey_ok (by simp [hkv.keyPos])
    split
    · exact ⟨hst, EOk_append.2 ⟨hr.2, EOk_one hkv.keyPos⟩⟩
    · simpa [hc] using hr
  · simp [hc, (parseEnv_ok cfg hkv.2).and]
  · simp [hc, hq]
  · simp [hc, hq]
  · simp [hc, hs]
  · simp [hst, unexpectedKey_ok hkv]

theorem parseContainer_ok (cfg : Cfg) (sec : String) {pos : Pos} (hp : POk S pos) {n : Node} (h : ∀ x ∈ allNodes n, x ∈ S) :
    ROk S (parseContainer cfg sec pos n) := by
  unfold parseContainer
  split
  · simp [hp, (parseString_ok (self_mem h) false).and]
  · exact loopMapping_ok (parseSectionMapping_ok cfg _ h false true) (containerKey_ok cfg sec) (by simp [hp])

theorem parseServices_ok (cfg : Cfg) {n : Node} (h : ∀ x ∈ allNodes n, x ∈ S) : ROk S (parseServices cfg n) := by
  have hnp := POk_of_mem (self_mem h)
  unfold parseServices
  split
  · rename_i he
    simp [hnp, (mayParseExpression_ok (self_mem h)).of_some he]
  · simpa [hnp] using mapMapping_ok (parseSectionMapping_ok cfg "services" h false false)
      fun hkv => by simp [hkv.1, (parseContainer_ok cfg "services" hkv.keyPos hkv.2).and]

theorem parseTimeoutMinutes_ok (cfg : Cfg) {n : Node} (h : n ∈ S) : ROk S (parseTimeoutMinutes cfg n) := by
  have hf := parseFloat_ok (S := S) cfg h
  unfold parseTimeoutMinutes
  dsimp only
  split
  · split
    · exact ⟨hf.1, EOk_append.2 ⟨hf.2, EOk_errAt h _ _⟩⟩
    · exact hf
  · exact hf

end AL.C07S
