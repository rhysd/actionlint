import AL.Lemmas.C07SBase
/-
  C07Sites, parser side, part 1: scalars, `parseMapping`, the two loops.
  For every function of parse.go: what it returns is made of nodes below the node it was given (`ROk`).
-/
namespace AL.C07S
open AL.Yaml AL.Ast AL.PW

variable {S : List Node}

/-! ### scalars -/

theorem strOf_newString_scalar (n : Node) (h : n.kind = .scalar) : StrOf n (newString n) :=
  ⟨rfl, Or.inl rfl, Or.inl rfl, Or.inl h⟩

theorem strOf_newString_expr (n : Node) (h : isExprAssigned n.value = true) : StrOf n (newString n) :=
  ⟨rfl, Or.inl rfl, Or.inl rfl, Or.inr (Or.inr h)⟩

theorem strOf_placeholder (n : Node) : StrOf n ⟨"", false, n.pos⟩ :=
  ⟨rfl, Or.inr rfl, Or.inr rfl, Or.inr (Or.inl rfl)⟩

theorem POk_of_mem {n : Node} (h : n ∈ S) : POk S n.pos := ⟨n, h, rfl⟩

theorem POk_of_str {s : Str} (h : IOk S s) : POk S s.pos := (AllI_str.1 h).at

theorem EOk_errAt {n : Node} (h : n ∈ S) (code : String) (args : List String) : EOk S [errAt n code args] := by
  simp only [EOk_cons, EOk_nil, and_true]
  exact ⟨n, h, rfl⟩

theorem errAt_ok {n : Node} (h : n ∈ S) (code : String) (args : List String) : ∃ v ∈ S, (errAt n code args).pos = v.pos :=
  ⟨n, h, rfl⟩

/-- **`parseString`**: the string it returns sits at the node — the node's text when the check passes, the empty
placeholder otherwise -/
theorem parseString_strOf (n : Node) (ae : Bool) : StrOf n (parseString n ae).1 := by
  simp only [parseString, checkString]
  by_cases hk : n.kind = .scalar
  · by_cases he : (!ae && n.value = "") = true
    · simp [hk, he]; exact strOf_placeholder n
    · simp only [Bool.not_eq_true] at he
      simp [hk, he]; exact strOf_newString_scalar n hk
  · simp [hk]; exact strOf_placeholder n

theorem checkString_ok {n : Node} (h : n ∈ S) (ae : Bool) : EOk S (checkString n ae).2 := by
  unfold checkString
  split
  · exact EOk_errAt h _ _
  · split
    · exact EOk_errAt h _ _
    · exact EOk_nil

theorem parseString_ok {n : Node} (h : n ∈ S) (ae : Bool) : ROk S (parseString n ae) := by
  refine ⟨IOk_str.2 ⟨n, h, parseString_strOf n ae⟩, ?_⟩
  simp only [parseString]
  split <;> exact checkString_ok h ae

theorem parseString_pos (n : Node) (ae : Bool) : (parseString n ae).1.pos = n.pos := (parseString_strOf n ae).pos

theorem parseStrings_ok (ae : Bool) : ∀ (cs : List Node), (∀ c ∈ cs, c ∈ S) → ROk S (parseStrings ae cs) :=
  fun _ h => parseStrings_mapR ae ▸ mapR_ok fun c hc => parseString_ok (h c hc) ae

theorem checkNotEmpty_ok {n : Node} (h : n ∈ S) (sec : String) (len : Nat) : EOk S (checkNotEmpty sec len n).2 := by
  unfold checkNotEmpty
  split
  · exact EOk_errAt h _ _
  · exact EOk_nil

theorem checkSequence_ok {n : Node} (h : n ∈ S) (sec : String) (ae : Bool) : EOk S (checkSequence sec n ae).2 := by
  unfold checkSequence
  split
  · exact EOk_errAt h _ _
  · split
    · exact EOk_nil
    · exact checkNotEmpty_ok h _ _

theorem content_sub {n : Node} (h : ∀ x ∈ allNodes n, x ∈ S) : ∀ c ∈ n.content, ∀ x ∈ allNodes c, x ∈ S :=
  fun _ hc x hx => h x (allNodes_child hc hx)

theorem content_mem {n : Node} (h : ∀ x ∈ allNodes n, x ∈ S) : ∀ c ∈ n.content, c ∈ S :=
  fun c hc => content_sub h c hc c (mem_allNodes_self c)

theorem self_mem {n : Node} (h : ∀ x ∈ allNodes n, x ∈ S) : n ∈ S := h n (mem_allNodes_self n)

theorem parseStringSequence_ok {n : Node} (h : ∀ x ∈ allNodes n, x ∈ S) (sec : String) (ae aee : Bool) :
    ROk S (parseStringSequence sec n ae aee) := by
  have hc := checkSequence_ok (self_mem h) sec ae
  have hs := parseStrings_ok aee n.content (content_mem h)
  unfold parseStringSequence
  dsimp only
  split
  · simp [hc]
  · simp [hc, hs.1, hs.2]

theorem parseStringOrStringSequence_ok {n : Node} (h : ∀ x ∈ allNodes n, x ∈ S) (sec : String) (ae aee : Bool) :
    ROk S (parseStringOrStringSequence sec n ae aee) := by
  unfold parseStringOrStringSequence
  split
  · split
    · simp
    · have := parseString_ok (self_mem h) aee
      simp [this.1, this.2]
  · exact parseStringSequence_ok h sec ae aee

theorem parseExpression_ok {n : Node} (h : n ∈ S) (e : String) : ROk S (parseExpression n e) := by
  unfold parseExpression
  split
  · simp [EOk_errAt h]
  · rename_i hx
    simp only [Bool.not_eq_true] at hx
    simp only [ROk_mk, IOk_some, IOk_str, EOk_nil, and_true]
    exact ⟨n, h, strOf_newString_expr n (by simpa using hx)⟩

theorem mayParseExpression_ok {n : Node} (h : n ∈ S) : IOk S (mayParseExpression n) := by
  unfold mayParseExpression
  split
  · simp
  · split
    · simp
    · rename_i hx
      simp only [IOk_some, IOk_str]
      exact ⟨n, h, strOf_newString_expr n (by simpa using hx)⟩

theorem parseBool_ok {n : Node} (h : n ∈ S) : ROk S (parseBool n) := by
  have he := fun e => parseExpression_ok h e
  unfold parseBool
  split
  · simp [EOk_errAt h]
  · split
    · simp [(he _).1, (he _).2, POk_of_mem h]
    · simp [POk_of_mem h]

theorem parseInt_ok (cfg : Cfg) {n : Node} (h : n ∈ S) : ROk S (parseInt cfg n) := by
  have he := fun e => parseExpression_ok h e
  unfold parseInt
  dsimp only
  split
  · simp [EOk_errAt h]
  · split
    · split
      · simp [(he _).2]
      · rename_i s hs
        have := (he "integer literal").1
        rw [hs] at this
        simp [(he _).2, POk_of_mem h]
        simpa using this
    · split
      · simp [EOk_errAt h]
      · simp [POk_of_mem h]

theorem parseFloat_ok (cfg : Cfg) {n : Node} (h : n ∈ S) : ROk S (PW.parseFloat cfg n) := by
  have he := fun e => parseExpression_ok h e
  unfold PW.parseFloat
  dsimp only
  split
  · simp [EOk_errAt h]
  · split
    · split
      · simp [(he _).2]
      · rename_i s hs
        have := (he "float number literal").1
        rw [hs] at this
        simp [(he _).2, POk_of_mem h]
        simpa using this
    · split
      · simp [EOk_errAt h]
      · simp [EOk_errAt h]
      · simp [POk_of_mem h]

/-! ### `parseMapping` -/

/-- an entry of a parsed mapping: its key string comes from a node of `S`, everything below its value is in `S` -/
def KVOk (S : List Node) (kv : KV) : Prop := (∃ v ∈ S, StrOf v kv.key) ∧ ∀ x ∈ allNodes kv.val, x ∈ S

theorem KVOk.keyPos {kv : KV} (h : KVOk S kv) : POk S kv.key.pos := by
  obtain ⟨v, hv, hs⟩ := h.1
  exact ⟨v, hv, hs.pos⟩

theorem KVOk.valMem {kv : KV} (h : KVOk S kv) : kv.val ∈ S := h.2 _ (mem_allNodes_self _)

theorem mappingLoop_ok (cfg : Cfg) (what : String) (cs : Bool) :
    ∀ (l : List (Node × Node)) (seen : List (String × Pos)),
      (∀ p ∈ l, p.1 ∈ S ∧ ∀ x ∈ allNodes p.2, x ∈ S) →
      (∀ kv ∈ (mappingLoop cfg what cs l seen).1, KVOk S kv) ∧ EOk S (mappingLoop cfg what cs l seen).2
  | [], _, _ => by simp [mappingLoop]
  | (kn, vn) :: rest, seen, h => by
    have hk := h (kn, vn) (List.mem_cons_self ..)
    have hrest : ∀ p ∈ rest, p.1 ∈ S ∧ ∀ x ∈ allNodes p.2, x ∈ S := fun p hp => h p (List.mem_cons_of_mem _ hp)
    have hs := parseString_ok hk.1 false
    rw [mappingLoop_cons]
    split
    · have ih := mappingLoop_ok cfg what cs rest seen hrest
      refine ⟨ih.1, ?_⟩
      simp only [EOk_append, EOk_cons, EOk_nil, and_true]
      exact ⟨⟨hs.2, ⟨kn, hk.1, parseString_pos kn false⟩⟩, ih.2⟩
    · have ih := mappingLoop_ok cfg what cs rest (seen ++ [(keyId cfg cs kn, (parseString kn false).1.pos)]) hrest
      refine ⟨?_, ?_⟩
      · intro kv hkv
        rcases List.mem_cons.1 hkv with rfl | hkv
        · exact ⟨⟨kn, hk.1, parseString_strOf kn false⟩, hk.2⟩
        · exact ih.1 kv hkv
      · simp only [EOk_append]
        exact ⟨hs.2, ih.2⟩

theorem parseMapping_ok (cfg : Cfg) (what : String) {n : Node} (h : ∀ x ∈ allNodes n, x ∈ S) (ae cs : Bool) :
    (∀ kv ∈ (parseMapping cfg what n ae cs).1, KVOk S kv) ∧ EOk S (parseMapping cfg what n ae cs).2 := by
  have hn := self_mem h
  unfold parseMapping
  split
  · simp [EOk_errAt hn]
  · split
    · simp [EOk_errAt hn]
    · have := mappingLoop_ok (S := S) cfg what cs (pairs n.content) [] (by
        intro p hp
        have := pairs_mem n.content p hp
        exact ⟨content_mem h _ this.1, content_sub h _ this.2⟩)
      refine ⟨this.1, ?_⟩
      simp only [EOk_append]
      exact ⟨this.2, EOk_ite (EOk_errAt hn _ _) EOk_nil⟩

theorem parseSectionMapping_ok (cfg : Cfg) (sec : String) {n : Node} (h : ∀ x ∈ allNodes n, x ∈ S) (ae cs : Bool) :
    (∀ kv ∈ (parseSectionMapping cfg sec n ae cs).1, KVOk S kv) ∧ EOk S (parseSectionMapping cfg sec n ae cs).2 :=
  parseMapping_ok cfg _ h ae cs

theorem unexpectedKey_ok {kv : KV} (h : KVOk S kv) (sec : String) (exp : List String) :
    ∃ v ∈ S, (unexpectedKey kv.key sec exp).pos = v.pos := by
  have : (unexpectedKey kv.key sec exp).pos = kv.key.pos := by
    simp only [unexpectedKey]
    split <;> rfl
  rw [this]
  exact h.keyPos

/-! ### the two loops -/

/-- a `for … range kvs` loop: when every iteration keeps "the state is made of nodes of `S`" and reports at nodes of `S`,
so does the loop -/
theorem loop_ok {σ : Type} [HasItems σ] (step : σ → KV → σ × List PErr) :
    ∀ (kvs : List KV) (init : σ), (∀ kv ∈ kvs, KVOk S kv) → (∀ st kv, KVOk S kv → IOk S st → ROk S (step st kv)) →
      IOk S init → ROk S (loop step init kvs)
  | [], init, _, _, h0 => by simp [h0]
  | kv :: rest, init, hk, hstep, h0 => by
    rw [loop_cons]
    have h1 := hstep init kv (hk kv (List.mem_cons_self ..)) h0
    have h2 := loop_ok step rest (step init kv).1 (fun x hx => hk x (List.mem_cons_of_mem _ hx)) hstep h1.1
    simp only [ROk_mk, EOk_append]
    exact ⟨h2.1, h1.2, h2.2⟩

theorem mapKVs_ok {β : Type} [HasItems β] (f : KV → R β) :
    ∀ (kvs : List KV), (∀ kv ∈ kvs, KVOk S kv) → (∀ kv, KVOk S kv → ROk S (f kv)) → ROk S (mapKVs f kvs) :=
  fun _ hk hf => mapKVs_mapR f ▸ mapR_ok fun kv h => hf kv (hk kv h)

/-- a section of the workflow: the mapping `m` (`parseMapping_ok`), then the loop over its entries; as the two facts `simp` wants -/
theorem loopMapping_ok {σ : Type} [HasItems σ] {step : σ → KV → σ × List PErr} {init : σ} {m : R (List KV)}
    (hm : (∀ kv ∈ m.1, KVOk S kv) ∧ EOk S m.2) (hstep : ∀ {st kv}, KVOk S kv → IOk S st → ROk S (step st kv))
    (hinit : IOk S init) : IOk S (loop step init m.1).1 ∧ EOk S (m.2 ++ (loop step init m.1).2) :=
  have hr := loop_ok step _ init hm.1 (fun _ _ => hstep) hinit
  ⟨hr.1, EOk_append.2 ⟨hm.2, hr.2⟩⟩

theorem mapMapping_ok {β : Type} [HasItems β] {f : KV → R β} {m : R (List KV)}
    (hm : (∀ kv ∈ m.1, KVOk S kv) ∧ EOk S m.2) (hf : ∀ {kv}, KVOk S kv → ROk S (f kv)) :
    IOk S (mapKVs f m.1).1 ∧ EOk S (m.2 ++ (mapKVs f m.1).2) :=
  have hr := mapKVs_ok f _ hm.1 (fun _ => hf)
  ⟨hr.1, EOk_append.2 ⟨hm.2, hr.2⟩⟩

end AL.C07S
