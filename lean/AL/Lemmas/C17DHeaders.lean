import AL.Lemmas.C17DParse
/-
  For AL.Props.C17Doc. The header conditions (`HeadersClean`, stated with `parseMapping`) from a condition on the DOCUMENT alone
  (`DocHeaders`: the three mappings on the path are mappings whose keys are non-empty scalars, pairwise different) — decidable,
  so that a concrete document is checked by evaluation.
-/
namespace AL.C17D
open AL AL.PW AL.Yaml AL.Ast AL.C03P AL.C05D

/-- the keys of a mapping node are non-empty scalars, pairwise different (as written: these mappings are case-sensitive) -/
def KeysOk (n : Node) : Prop :=
  (∀ p ∈ pairs n.content, p.1.kind = .scalar ∧ p.1.value ≠ "") ∧ ((pairs n.content).map fun p => p.1.value).Nodup

instance (n : Node) : Decidable (KeysOk n) := by unfold KeysOk; infer_instance

theorem mappingLoop_ok (cfg : Cfg) (what : String) : ∀ (l : List (Node × Node)) (seen : List (String × Yaml.Pos)),
    (∀ p ∈ l, p.1.kind = .scalar ∧ p.1.value ≠ "" ∧ lookupSeen p.1.value seen = none) → (l.map fun p => p.1.value).Nodup →
    (mappingLoop cfg what true l seen).2 = []
  | [], _, _, _ => by simp [mappingLoop]
  | (kn, vn) :: rest, seen, h, hnd => by
    obtain ⟨hk, hv, hl⟩ := h (kn, vn) (List.mem_cons_self ..)
    have hps : parseString kn false = (newString kn, []) := by simp [parseString, checkString, hk, hv]
    have hid : keyId cfg true kn = kn.value := by simp [keyId, hps, newString]
    simp only [List.map_cons, List.nodup_cons, List.mem_map, not_exists, not_and] at hnd
    rw [mappingLoop_cons, hid]
    simp only at hl
    rw [hl]
    simp only [hps, List.nil_append]
    apply mappingLoop_ok cfg what rest _ _ hnd.2
    intro p hp
    obtain ⟨hk', hv', hl'⟩ := h p (List.mem_cons_of_mem _ hp)
    refine ⟨hk', hv', ?_⟩
    rw [lookupSeen_snoc_ne _ _ (fun e => hnd.1 p hp e.symm)]
    exact hl'

/-- **`parseMapping` (case-sensitive) accepts the header of a mapping node whose keys are non-empty scalars, pairwise
different** (a null node too where an empty section is allowed; a non-empty one where it is not) -/
theorem parseMapping_ok (cfg : Cfg) (what : String) (n : Node) (ae : Bool)
    (hk : n.kind = .mapping ∨ (ae = true ∧ n.isNull = true)) (hne : ae = false → pairs n.content ≠ []) (h : KeysOk n) :
    (parseMapping cfg what n ae true).2 = [] := by
  have hloop := mappingLoop_ok cfg what (pairs n.content) [] (fun p hp => ⟨(h.1 p hp).1, (h.1 p hp).2, rfl⟩) h.2
  have h1 : (!n.isNull && decide (n.kind ≠ .mapping)) = false := by
    rcases hk with hk | ⟨_, hk⟩
    · simp [hk]
    · simp [hk]
  have h2 : (!ae && n.isNull) = false := by
    cases ae with
    | true => rfl
    | false =>
      rcases hk with hk | ⟨hk, _⟩
      · simp [Node.isNull, hk]
      · cases hk
  simp only [parseMapping, h1, h2, Bool.false_eq_true, if_false, hloop, List.nil_append]
  cases ae with
  | true => rfl
  | false =>
    have hne' := hne rfl
    rw [mappingLoop_clean_eq cfg what true _ [] hloop]
    cases hp : pairs n.content with
    | nil => exact absurd hp hne'
    | cons p rest => simp

/-- **the header conditions, on the document alone**: the root is a non-empty mapping with sound keys; when `on:` is a
mapping, it is non-empty with sound keys and every webhook event in it is a mapping (or null) with sound keys -/
def DocHeaders (doc : Node) : Prop :=
  match docRoot doc with
  | none => True
  | some root =>
    root.kind = .mapping ∧ pairs root.content ≠ [] ∧ KeysOk root ∧
    match mget root "on" with
    | none => True
    | some on =>
      on.kind = .mapping →
        pairs on.content ≠ [] ∧ KeysOk on ∧ ∀ p ∈ eventsOfOn on, (p.2.kind = .mapping ∨ p.2.isNull = true) ∧ KeysOk p.2

instance (doc : Node) : Decidable (DocHeaders doc) := by
  unfold DocHeaders
  cases docRoot doc with
  | none => exact isTrue trivial
  | some root =>
    simp only
    cases mget root "on" with
    | none => simp only; infer_instance
    | some on => simp only; infer_instance

theorem docHeaders_clean (cfg : Cfg) (doc : Node) (h : DocHeaders doc) : HeadersClean cfg doc := by
  intro root hr
  unfold DocHeaders at h
  rw [hr] at h
  simp only at h
  obtain ⟨hk, hne, hko, hon⟩ := h
  refine ⟨parseMapping_ok cfg _ root false (Or.inl hk) (fun _ => hne) hko, ?_⟩
  intro on hg hkon
  rw [hg] at hon
  simp only at hon
  obtain ⟨hne', hko', hev⟩ := hon hkon
  refine ⟨parseMapping_ok cfg _ on false (Or.inl hkon) (fun _ => hne') hko', ?_⟩
  intro p hp
  obtain ⟨hkp, hkop⟩ := hev p hp
  refine parseMapping_ok cfg _ p.2 true ?_ (fun e => by cases e) hkop
  rcases hkp with hkp | hkp
  · exact Or.inl hkp
  · exact Or.inr ⟨rfl, hkp⟩

end AL.C17D
