import AL.Lemmas.ParseWfClean
/-
  Infrastructure for AL.Props.C05Doc ("scope of steps / needs / matrix references, from the DOCUMENT"):

  * readers of the yaml.Node tree written without the parser, over `mpair` / `mget` / `docRoot` of ParseWfClean:
    `docJobs`, `docSteps`, `docStepId`, `docNeeds`;
  * the facts of ParseWfClean under the names the document clusters cite: `parseMapping_clean_eq` (a projection of
    `PW.parseMapping_silent`: one entry per pair, in order, `kvOf`), `loop_clean_mem` (`PW.loop_silent_mem`), `loop_field_none`
    (`PW.loop_untouched`), `loop_field_first` (`PW.loop_read_first`);
  * a field of the loop state that only the iteration of one id writes, after the key loop and after a whole section:
    `loop_field`, `sect_field` where that iteration writes whatever the state (the loop need not be silent); `loop_field_clean`,
    `sect_field_clean` where it writes only when it is silent (`PW.loop_reads`, `PW.section_reads` without their `ok`);
    `sect_clean_at`: in a clean section every iteration was clean.
-/
namespace AL.C05D
open AL.PW AL.Yaml AL.Ast AL.C03P

/-! ### the document side: readers of the node tree -/

def docJobs (doc : Node) : List (Node × Node) :=
  match (docRoot doc).bind (mget · "jobs") with
  | some j => pairs j.content
  | none => []

def docJobIds (doc : Node) : List String := (docJobs doc).map (·.1.value)

def docSteps (job : Node) : List Node :=
  match mget job "steps" with
  | some s => s.content
  | none => []

def docStepIdNode (step : Node) : Option Node := mget step "id"

def docStepId (step : Node) : Option String := (mget step "id").map (·.value)

def docStepIds (job : Node) : List String := (docSteps job).filterMap docStepId

/-- what is written under `needs:` of a job node: one scalar, or a sequence of scalars -/
def docNeeds (job : Node) : List String :=
  match mget job "needs" with
  | some v => if v.kind = .scalar then [v.value] else v.content.map (·.value)
  | none => []

/-! ### `parseMapping`, clean, exactly -/

theorem mappingLoop_clean_eq (cfg : Cfg) (what : String) (cs : Bool) :
    ∀ (l : List (Node × Node)) (seen : List (String × Yaml.Pos)),
    (mappingLoop cfg what cs l seen).2 = [] → (mappingLoop cfg what cs l seen).1 = l.map (kvOf cfg cs) :=
  fun l seen h => (mappingLoop_silent cfg what cs l seen h).1

/-- **`parseMapping`, clean: one entry per pair of the node, in order** — the id is the key's text (lower-cased in a
case-insensitive mapping), the key the key scalar, the value the value node -/
theorem parseMapping_clean_eq (cfg : Cfg) (what : String) (n : Node) (ae cs : Bool)
    (h : (parseMapping cfg what n ae cs).2 = []) :
    (parseMapping cfg what n ae cs).1 = (pairs n.content).map (kvOf cfg cs) :=
  (parseMapping_silent cfg what n ae cs h).2.1

theorem mapKVs_fst {β : Type} (f : KV → R β) : ∀ (kvs : List KV), (mapKVs f kvs).1 = kvs.map fun kv => (kv.id, (f kv).1) :=
  fun kvs => congrArg Prod.fst (congrFun (mapKVs_mapR f) kvs)

theorem mpair_mem {n : Node} {k : String} {p : Node × Node} (h : mpair n k = some p) : p ∈ pairs n.content ∧ p.1.value = k := by
  unfold mpair at h
  exact ⟨List.mem_of_find?_eq_some h, by simpa using List.find?_some h⟩

theorem kvOf_true (cfg : Cfg) (p : Node × Node) : kvOf cfg true p = ⟨p.1.value, newString p.1, p.2⟩ := by simp [kvOf, keyOf]
theorem kvOf_false (cfg : Cfg) (p : Node × Node) : kvOf cfg false p = ⟨cfg.lower p.1.value, newString p.1, p.2⟩ := by simp [kvOf, keyOf]

/-! ### the key loop -/

variable {σ τ : Type}

theorem loop_clean_mem (step : σ → KV → σ × List PErr) : ∀ (kvs : List KV) (init : σ), (loop step init kvs).2 = [] →
    ∀ kv ∈ kvs, ∃ st, (step st kv).2 = [] :=
  loop_silent_mem step

theorem find?_none_of_ids (k : String) : ∀ (kvs : List KV), k ∉ kvs.map (·.id) → kvs.find? (fun kv => kv.id = k) = none :=
  fun _ h => List.find?_eq_none.2 fun x hx e => h (List.mem_map.2 ⟨x, hx, of_decide_eq_true e⟩)

theorem loop_field_none (step : σ → KV → σ × List PErr) (π : σ → τ) (k : String)
    (hne : ∀ st kv, kv.id ≠ k → π (step st kv).1 = π st) :
    ∀ (kvs : List KV) (init : σ), (∀ kv ∈ kvs, kv.id ≠ k) → π (loop step init kvs).1 = π init :=
  fun kvs init h => loop_untouched step π k hne kvs h init

/-- **a field of the loop state that only the iteration of the id `k` writes**, and of which that iteration is only asked to
write `f kv` while the field still has its initial value `π0`: after the loop over pairwise distinct ids it is `f` of the
entry with that id, or `π0` -/
theorem loop_field_first (step : σ → KV → σ × List PErr) (π : σ → τ) (k : String) (f : KV → τ) (π0 : τ)
    (hne : ∀ st kv, kv.id ≠ k → π (step st kv).1 = π st)
    (heq : ∀ st kv, kv.id = k → π st = π0 → π (step st kv).1 = f kv) :
    ∀ (kvs : List KV) (init : σ), (kvs.map (·.id)).Nodup → π init = π0 →
      π (loop step init kvs).1 = match kvs.find? (fun kv => kv.id = k) with | some kv => f kv | none => π0 :=
  loop_read_first step π k f π0 hne heq

theorem loop_field (step : σ → KV → σ × List PErr) (π : σ → τ) (k : String) (f : KV → τ)
    (hne : ∀ st kv, kv.id ≠ k → π (step st kv).1 = π st)
    (heq : ∀ st kv, kv.id = k → π (step st kv).1 = f kv) :
    ∀ (kvs : List KV) (init : σ), (kvs.map (·.id)).Nodup →
      π (loop step init kvs).1 = match kvs.find? (fun kv => kv.id = k) with | some kv => f kv | none => π init :=
  fun kvs init hnd => loop_field_first step π k f (π init) hne (fun st kv he _ => heq st kv he) kvs init hnd rfl

theorem find?_kvOf (cfg : Cfg) (k : String) : ∀ (l : List (Node × Node)),
    (l.map (kvOf cfg true)).find? (fun kv => kv.id = k) = (l.find? (fun p => p.1.value = k)).map (kvOf cfg true) :=
  find_kvOf cfg k

/-- **a section of fixed keys** (`parseMapping`, case-sensitive, then the key loop), clean: a field only the key `k` writes
is `f` of the pair written `k`, or what it was -/
theorem sect_field (cfg : Cfg) (what : String) (n : Node) (ae : Bool) (step : σ → KV → σ × List PErr) (init : σ)
    (π : σ → τ) (k : String) (f : KV → τ)
    (hne : ∀ st kv, kv.id ≠ k → π (step st kv).1 = π st)
    (heq : ∀ st kv, kv.id = k → π (step st kv).1 = f kv)
    (hm : (parseMapping cfg what n ae true).2 = []) :
    π (loop step init (parseMapping cfg what n ae true).1).1 =
      match mpair n k with | some p => f (kvOf cfg true p) | none => π init := by
  rw [loop_field step π k f hne heq _ init (parseMapping_nodup cfg what n ae true), parseMapping_clean_eq cfg what n ae true hm,
    find?_kvOf, mpair]
  cases (pairs n.content).find? (fun p => p.1.value = k) <;> rfl

/-- `loop_field` where the writing iteration writes `f kv` only when it is clean (e.g. `run:` of a step, refused after
`uses:`): for a clean loop -/
theorem loop_field_clean (step : σ → KV → σ × List PErr) (π : σ → τ) (k : String) (f : KV → τ)
    (hne : ∀ st kv, kv.id ≠ k → π (step st kv).1 = π st)
    (heq : ∀ st kv, kv.id = k → (step st kv).2 = [] → π (step st kv).1 = f kv) :
    ∀ (kvs : List KV) (init : σ), (kvs.map (·.id)).Nodup → (loop step init kvs).2 = [] →
      π (loop step init kvs).1 = match kvs.find? (fun kv => kv.id = k) with | some kv => f kv | none => π init :=
  fun kvs init hnd hc =>
    (loop_reads step π k f (fun _ => True) (π init) (fun st kv hn _ => hne st kv hn)
      (fun st kv he hs _ => ⟨heq st kv he hs, trivial⟩) kvs init hnd hc rfl).1.trans
      (by cases kvs.find? (fun kv => kv.id = k) <;> rfl)

theorem sect_field_clean (cfg : Cfg) (what : String) (n : Node) (ae : Bool) (step : σ → KV → σ × List PErr) (init : σ)
    (π : σ → τ) (k : String) (f : KV → τ)
    (hne : ∀ st kv, kv.id ≠ k → π (step st kv).1 = π st)
    (heq : ∀ st kv, kv.id = k → (step st kv).2 = [] → π (step st kv).1 = f kv)
    (hm : (parseMapping cfg what n ae true).2 = []) (hr : (loop step init (parseMapping cfg what n ae true).1).2 = []) :
    π (loop step init (parseMapping cfg what n ae true).1).1 =
      match mpair n k with | some p => f (kvOf cfg true p) | none => π init :=
  (section_reads cfg what n ae step init π k f (fun _ => True) hne (fun st kv he hs _ => ⟨heq st kv he hs, trivial⟩) hm hr).1.trans
    (by cases mpair n k <;> rfl)

/-- a section (either case convention) accepted with a clean key loop: the iteration of every pair was clean -/
theorem sect_clean_at (cfg : Cfg) (what : String) (n : Node) (ae cs : Bool) (step : σ → KV → σ × List PErr) (init : σ)
    (hm : (parseMapping cfg what n ae cs).2 = []) (hr : (loop step init (parseMapping cfg what n ae cs).1).2 = [])
    (p : Node × Node) (hp : p ∈ pairs n.content) : ∃ st, (step st (kvOf cfg cs p)).2 = [] := by
  rw [parseMapping_clean_eq cfg what n ae cs hm] at hr
  exact loop_clean_mem step _ init hr _ (List.mem_map.2 ⟨p, hp, rfl⟩)

theorem fixDocPos_content (doc : Node) : (fixDocPos doc).content = doc.content :=
  fixDocPos_children doc

end AL.C05D
