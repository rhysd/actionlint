import AL.Spec.Untrusted
import AL.Lemmas.SemaFold
/-
  C11, basic facts about the untrusted-input machine (`AL.Insecure`):
  * `finish` (= Go `end()`) in closed form,
  * under `safeCalls > 0` the event stream of every expression is the identity (`evsOf_silent`),
    hence a contains/startsWith/endsWith call entered outside any safe call acts exactly like
    `end()` (`exec_safe_top`): nothing inside it is seen, and leaving it ends the chain that was
    pending before it (see the remark on (a) in Props/C11.lean).
-/
namespace AL.Insecure
open AL AL.Sema AL.Spec

/-- `e` is a call of contains / startsWith / endsWith -/
def isSafeE (lower : String → String) : E → Bool
  | .call c _ => isSafeCall lower c
  | _ => false

/-! ### running the machine -/

def exec (roots : List Trie) (st : State) (evs : List Ev) : State := evs.foldl (State.step roots) st

@[simp] theorem exec_nil (roots : List Trie) (st : State) : exec roots st [] = st := rfl
@[simp] theorem exec_cons (roots : List Trie) (st : State) (ev : Ev) (evs : List Ev) :
    exec roots st (ev :: evs) = exec roots (st.step roots ev) evs := rfl
theorem exec_append (roots : List Trie) (st : State) (a b : List Ev) :
    exec roots st (a ++ b) = exec roots (exec roots st a) b := by
  simp [exec, List.foldl_append]

theorem run_eq (roots : List Trie) (evs : List Ev) : run roots evs = ((exec roots {} evs).finish).reports := rfl

/-- the report `end()` emits for a cursor list -/
def rep (c : List Cur) : List (List String) :=
  let inputs := (c.filter (·.node.isLeaf)).map (·.pathStr)
  if inputs.isEmpty then [] else [sortStrs inputs]

@[simp] theorem rep_nil : rep [] = [] := rfl

theorem finish_eq (st : State) :
    st.finish = { cur := [], filteringObject := false, safeCalls := st.safeCalls, reports := st.reports ++ rep st.cur } := by
  unfold State.finish rep
  simp only []
  split <;> simp

/-! ### narrowing: the equations of `narrow` per constructor (instances of `Sema.narrow_other`, `narrow_or_true`,
`narrow_and_false`); the proofs below go through `evsOf` and do not use them -/

section evs
variable (env : Env)

theorem evs_narrow_or_true (l r : E) :
    (narrow env (.logical .or l r) true).evs = (narrow env l true).evs ++ (check env r).evs := by
  rw [narrow_or_true]
theorem evs_narrow_and_false (l r : E) :
    (narrow env (.logical .and l r) false).evs = (narrow env l false).evs ++ (check env r).evs := by
  rw [narrow_and_false]
theorem narrow_null (x : Bool) : narrow env .null x = check env .null := narrow_other env _ x nofun nofun
theorem narrow_bool (x : Bool) : narrow env .bool x = check env .bool := narrow_other env _ x nofun nofun
theorem narrow_num (x : Bool) : narrow env .num x = check env .num := narrow_other env _ x nofun nofun
theorem narrow_str (v : String) (x : Bool) : narrow env (.str v) x = check env (.str v) :=
  narrow_other env _ x nofun nofun
theorem narrow_var (n : String) (x : Bool) : narrow env (.var n) x = check env (.var n) :=
  narrow_other env _ x nofun nofun
theorem narrow_call (c : String) (args : List E) (x : Bool) : narrow env (.call c args) x = check env (.call c args) :=
  narrow_other env _ x nofun nofun
theorem narrow_objDeref (r : E) (p : String) (x : Bool) : narrow env (.objDeref r p) x = check env (.objDeref r p) :=
  narrow_other env _ x nofun nofun
theorem narrow_arrDeref (r : E) (x : Bool) : narrow env (.arrDeref r) x = check env (.arrDeref r) :=
  narrow_other env _ x nofun nofun
theorem narrow_index (r i : E) (x : Bool) : narrow env (.index r i) x = check env (.index r i) :=
  narrow_other env _ x nofun nofun
theorem narrow_cmp (op : CmpOp) (l r : E) (x : Bool) : narrow env (.cmp op l r) x = check env (.cmp op l r) :=
  narrow_other env _ x nofun nofun
end evs

/-! ### nothing happens inside a safe call -/

theorem step_silent (roots : List Trie) (st : State) (k : LeaveKind) (h : 0 < st.safeCalls) (hk : k ≠ .safeCall) :
    st.step roots (.leave k) = st := by
  cases k <;> simp_all [State.step]

/-- under `safeCalls > 0` the events leave the state as it is -/
def Silent (roots : List Trie) (evs : List Ev) : Prop :=
  ∀ st : State, 0 < st.safeCalls → exec roots st evs = st

theorem Silent.nil (roots : List Trie) : Silent roots [] := fun _ _ => rfl

theorem Silent.append {roots : List Trie} {a b : List Ev} (ha : Silent roots a) (hb : Silent roots b) :
    Silent roots (a ++ b) := fun st h => by rw [exec_append, ha st h, hb st h]

theorem Silent.leave {roots : List Trie} {a : List Ev} (ha : Silent roots a) {k : LeaveKind} (hk : k ≠ .safeCall) :
    Silent roots (a ++ [.leave k]) :=
  ha.append fun st h => step_silent roots st k h hk

/-- a nested safe call (entered under `safeCalls > 0`): enter, a silent body, leave — back to the very
same state -/
theorem Silent.bracket {roots : List Trie} {body : List Ev} (hb : Silent roots body) :
    Silent roots ([.enterSafeCall] ++ body ++ [.leave .safeCall]) := by
  intro st h
  rw [exec_append, exec_append]
  simp only [exec_cons, exec_nil]
  rw [hb _ (by simp [State.step])]
  have : st.safeCalls ≠ 0 := by omega
  simp [State.step, this]

/-- an outermost safe call: enter, a silent body, leave — the net effect is `end()` -/
theorem exec_safe_top (roots : List Trie) (body : List Ev) (hb : Silent roots body) (st : State)
    (h : st.safeCalls = 0) :
    exec roots st ([.enterSafeCall] ++ body ++ [.leave .safeCall]) = st.finish := by
  rw [exec_append, exec_append]
  simp only [exec_cons, exec_nil]
  rw [hb _ (by simp [State.step])]
  simp [State.step, h, finish_eq]

theorem leaveOf_safe (lower : String → String) (e : E) (h : isSafeE lower e = true) :
    enterOf lower e = [.enterSafeCall] ∧ leaveOf lower e = .safeCall := by
  cases e <;> simp_all [isSafeE, enterOf, leaveOf]

theorem leaveOf_not_safe (lower : String → String) (e : E) (h : isSafeE lower e = false) :
    enterOf lower e = [] ∧ leaveOf lower e ≠ .safeCall := by
  cases e with
  | call c args => simp_all [isSafeE, enterOf, leaveOf]
  | index r i => cases i <;> simp [enterOf, leaveOf]
  | _ => simp [enterOf, leaveOf]

section
variable (roots : List Trie) (lower : String → String) (dfn : String → Bool)

mutual
theorem evsOf_silent : ∀ (e : E) (m : Option Bool), Silent roots (evsOf lower dfn m e)
  | .null, _ | .bool, _ | .num, _ | .str _, _ | .var _, _ => (Silent.nil roots).leave nofun
  | .objDeref r _, _ | .arrDeref r, _ => (evsOf_silent r none).leave nofun
  | .index r i, _ => by
    rw [evsOf]
    exact ((evsOf_silent i none).append (evsOf_silent r none)).leave (leaveOf_not_safe lower (.index r i) rfl).2
  | .call c args, _ => by
    have hb : Silent roots (if dfn (lower c) then evsArgs lower dfn args else []) := by
      split
      · exact evsArgs_silent args
      · exact Silent.nil roots
    rw [evsOf]
    cases hs : isSafeE lower (.call c args)
    · obtain ⟨h1, h2⟩ := leaveOf_not_safe _ _ hs
      rw [h1, List.nil_append]; exact hb.leave h2
    · obtain ⟨h1, h2⟩ := leaveOf_safe _ _ hs
      rw [h1, h2]; exact hb.bracket
  | .cmp _ l r, _ => ((evsOf_silent l none).append (evsOf_silent r none)).leave nofun
  | .not o, none => (evsOf_silent o none).leave nofun
  | .not o, some b => evsOf_silent o (some (!b))
  | .logical _ l r, none => ((evsOf_silent l _).append (evsOf_silent r none)).leave nofun
  | .logical _ l r, some _ => (evsOf_silent l _).append (evsOf_silent r none)
theorem evsArgs_silent : ∀ es : List E, Silent roots (evsArgs lower dfn es)
  | [] => Silent.nil roots
  | a :: rest => (evsOf_silent a none).append (evsArgs_silent rest)
end
end

end AL.Insecure
