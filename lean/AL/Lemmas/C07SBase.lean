import AL.Model.RuleExpr
import AL.Lemmas.ParseWfLoop
import AL.Lemmas.ParseWfList
/-
  Infrastructure for AL.Props.C07Sites ("every diagnostic sits at a node of the document").

  * document side: `allNodes` (every node of the yaml.Node tree, keys included), `allScalars`;
  * AST side: `Item` — a string or a bare position of the AST — and `items`, the enumeration of EVERY `*String` and
    every `Pos` field of an AST value, written field by field from ast.go (class `HasItems`);
  * `StrOf v s`: the AST string `s` was made from the node `v` (`newString`, the empty placeholder `parseString` returns
    when its check fails, a raw matrix scalar);
  * `IOk S x`: every item of `x` comes from a node of `S`; `EOk S es`: every syntax diagnostic sits at a node of `S`;
    the simp lemmas that take `AllI P` (`IOk S` = `AllI (ItemOk S)`) through the fields of every AST structure;
  * the way down from `AllI P x` to a sub-field of `x`: `AllI.of_some`, `AllI.mem_getD`, `AllI.entry`, the fields of a job, a
    step, a workflow by name (`AllI.job`, `AllI.step`, `AllI.workflow`); `AllI_self`: with `P := (· ∈ items w)` the same lemmas give membership.
-/
namespace AL.C07S
open AL.Yaml AL.Ast AL.PW

abbrev Pos := AL.Yaml.Pos

/-! ### the document side -/

mutual
/-- every node of the tree below (and including) a node: mapping keys, mapping values, sequence elements, at any depth,
whatever their kind. Written without reference to the parser. -/
def allNodes : Node → List Node
  | .mk k t v q l c cs => .mk k t v q l c cs :: allNodesL cs
def allNodesL : List Node → List Node
  | [] => []
  | c :: cs => allNodes c ++ allNodesL cs
end

/-- the scalar nodes of the tree (keys included) -/
def allScalars (n : Node) : List Node := (allNodes n).filter Node.isScalar

theorem allNodes_eq (n : Node) : allNodes n = n :: allNodesL n.content := by
  obtain ⟨k, t, v, q, l, c, cs⟩ := n
  simp [allNodes, Node.content]

theorem mem_allNodes_self (n : Node) : n ∈ allNodes n := by
  rw [allNodes_eq]; exact List.mem_cons_self ..

theorem allNodesL_mem {cs : List Node} {c x : Node} (hc : c ∈ cs) (hx : x ∈ allNodes c) : x ∈ allNodesL cs := by
  induction cs with
  | nil => cases hc
  | cons d ds ih =>
    simp only [allNodesL, List.mem_append]
    rcases List.mem_cons.1 hc with rfl | hc
    · exact Or.inl hx
    · exact Or.inr (ih hc)

theorem allNodesL_elim {cs : List Node} {x : Node} (hx : x ∈ allNodesL cs) : ∃ c ∈ cs, x ∈ allNodes c := by
  induction cs with
  | nil => simp [allNodesL] at hx
  | cons d ds ih =>
    simp only [allNodesL, List.mem_append] at hx
    rcases hx with hx | hx
    · exact ⟨d, List.mem_cons_self .., hx⟩
    · obtain ⟨c, hc, h⟩ := ih hx
      exact ⟨c, List.mem_cons_of_mem _ hc, h⟩

/-- the nodes below a child are nodes below the parent -/
theorem allNodes_child {n c x : Node} (hc : c ∈ n.content) (hx : x ∈ allNodes c) : x ∈ allNodes n := by
  rw [allNodes_eq n]
  exact List.mem_cons_of_mem _ (allNodesL_mem hc hx)

theorem not_mem_ite {α} {c : Prop} [Decidable c] {x : α} {a b : List α} (ha : x ∉ a) (hb : x ∉ b) :
    x ∉ if c then a else b := by
  split <;> assumption

theorem not_mem_flatMap {α β} {l : List α} {f : α → List β} {b : β} (h : ∀ x ∈ l, b ∉ f x) : b ∉ l.flatMap f := by
  simp only [List.mem_flatMap, not_exists, not_and]; exact h

theorem mem_ite_cases {α} {c : Prop} [Decidable c] {x : α} {a b : List α} (h : x ∈ if c then a else b) : x ∈ a ∨ x ∈ b := by
  split at h
  · exact Or.inl h
  · exact Or.inr h

theorem pairs_mem : ∀ (cs : List Node) (p : Node × Node), p ∈ pairs cs → p.1 ∈ cs ∧ p.2 ∈ cs
  | [], p, h => by simp [pairs] at h
  | [_], p, h => by simp [pairs] at h
  | k :: v :: rest, p, h => by
    simp only [pairs, List.mem_cons] at h
    rcases h with rfl | h
    · simp
    · have := pairs_mem rest p h
      simp [this.1, this.2]

theorem mem_allScalars {doc v : Node} : v ∈ allScalars doc ↔ v ∈ allNodes doc ∧ v.kind = .scalar := by
  simp [allScalars, Node.isScalar]

/-! ### the AST side: items -/

/-- a `*String` of the AST, or a bare `*Pos` field -/
inductive Item where
  | str (s : Str)
  | pos (p : Pos)
deriving Repr, DecidableEq

def Item.at : Item → Pos
  | .str s => s.pos
  | .pos p => p

def Item.str? : Item → Option Str
  | .str s => some s
  | .pos _ => none

class HasItems (α : Type) where
  items : α → List Item
export HasItems (items)

instance : HasItems Str := ⟨fun s => [.str s]⟩
instance : HasItems Pos := ⟨fun p => [.pos p]⟩
instance {α} [HasItems α] : HasItems (Option α) := ⟨fun o => match o with | some x => items x | none => []⟩
instance {α} [HasItems α] : HasItems (List α) := ⟨fun l => l.flatMap items⟩
/-- an entry of a Go map: the key is a Go string (no position); the value carries its own name node -/
instance {α} [HasItems α] : HasItems (String × α) := ⟨fun p => items p.2⟩
/-- a loop state with a flag -/
instance {α} [HasItems α] : HasItems (α × Bool) := ⟨fun p => items p.1⟩

instance : HasItems BoolV := ⟨fun b => items b.expr ++ items b.pos⟩
instance : HasItems IntV := ⟨fun b => items b.expr ++ items b.pos⟩
instance : HasItems FloatV := ⟨fun b => items b.expr ++ items b.pos⟩
instance : HasItems Filter := ⟨fun f => items f.name ++ items f.values⟩
instance : HasItems WebhookEvent := ⟨fun e =>
  items e.hook ++ items e.types ++ items e.branches ++ items e.branchesIgnore ++ items e.tags ++ items e.tagsIgnore ++
  items e.paths ++ items e.pathsIgnore ++ items e.workflows ++ items e.pos⟩
instance : HasItems DispatchInput := ⟨fun i =>
  items i.name ++ items i.description ++ items i.required ++ items i.dflt ++ items i.options⟩
instance : HasItems CallInput := ⟨fun i => items i.name ++ items i.description ++ items i.dflt ++ items i.required⟩
instance : HasItems CallSecret := ⟨fun i => items i.name ++ items i.description ++ items i.required⟩
instance : HasItems CallOutput := ⟨fun i => items i.name ++ items i.description ++ items i.value⟩
instance : HasItems Event := ⟨fun e => match e with
  | .webhook e => items e
  | .schedule cron pos => items cron ++ items pos
  | .dispatch inputs pos => items inputs ++ items pos
  | .repoDispatch types pos => items types ++ items pos
  | .call inputs secrets outputs pos => items inputs ++ items secrets ++ items outputs ++ items pos⟩
instance : HasItems PermissionScope := ⟨fun p => items p.name ++ items p.value⟩
instance : HasItems Permissions := ⟨fun p => items p.all ++ items p.scopes ++ items p.pos⟩
instance : HasItems DefaultsRun := ⟨fun d => items d.shell ++ items d.workingDirectory ++ items d.pos⟩
instance : HasItems Defaults := ⟨fun d => items d.run ++ items d.pos⟩
instance : HasItems Concurrency := ⟨fun c => items c.group ++ items c.cancelInProgress ++ items c.pos⟩
instance : HasItems Environment := ⟨fun e => items e.name ++ items e.url ++ items e.pos⟩
instance : HasItems EnvVar := ⟨fun e => items e.name ++ items e.value⟩
instance : HasItems Ast.Env := ⟨fun e => items e.vars ++ items e.expr⟩
instance : HasItems Input := ⟨fun e => items e.name ++ items e.value⟩
instance : HasItems ExecRun := ⟨fun e => items e.run ++ items e.shell ++ items e.workingDirectory ++ items e.runPos⟩
instance : HasItems ExecAction := ⟨fun e => items e.uses ++ items e.inputs ++ items e.entrypoint ++ items e.args⟩
instance : HasItems Exec := ⟨fun e => match e with
  | .none => []
  | .run e => items e
  | .action e => items e⟩

mutual
/-- a raw YAML value of a matrix: a scalar is a string (`RawYAMLString`), a collection has a position -/
def rawItems : Raw → List Item
  | .str v p => [.str ⟨v, false, p⟩]
  | .arr es p => .pos p :: rawItemsL es
  | .obj ps p => .pos p :: rawItemsP ps
def rawItemsL : List Raw → List Item
  | [] => []
  | e :: es => rawItems e ++ rawItemsL es
def rawItemsP : List (String × Raw) → List Item
  | [] => []
  | (_, v) :: ps => rawItems v ++ rawItemsP ps
end

instance : HasItems Raw := ⟨rawItems⟩
instance : HasItems MatrixRow := ⟨fun r => items r.name ++ items r.values ++ items r.expr⟩
instance : HasItems MatrixAssign := ⟨fun a => items a.key ++ items a.value⟩
instance : HasItems MatrixCombination := ⟨fun c => items c.assigns ++ items c.expr⟩
instance : HasItems MatrixCombinations := ⟨fun c => items c.combinations ++ items c.expr⟩
instance : HasItems Ast.Matrix := ⟨fun m => items m.rows ++ items m.incl ++ items m.excl ++ items m.expr ++ items m.pos⟩
instance : HasItems Strategy := ⟨fun s => items s.matrix ++ items s.failFast ++ items s.maxParallel ++ items s.pos⟩
instance : HasItems Step := ⟨fun s =>
  items s.id ++ items s.cond ++ items s.name ++ items s.exec ++ items s.env ++ items s.continueOnError ++
  items s.timeoutMinutes ++ items s.pos⟩
instance : HasItems Credentials := ⟨fun c => items c.username ++ items c.password ++ items c.pos⟩
instance : HasItems Container := ⟨fun c =>
  items c.image ++ items c.credentials ++ items c.env ++ items c.ports ++ items c.volumes ++ items c.options ++ items c.pos⟩
instance : HasItems Service := ⟨fun s => items s.name ++ items s.container⟩
instance : HasItems Services := ⟨fun s => items s.value ++ items s.expr ++ items s.pos⟩
instance : HasItems Output := ⟨fun o => items o.name ++ items o.value⟩
instance : HasItems Runner := ⟨fun r => items r.labels ++ items r.labelsExpr ++ items r.group⟩
instance : HasItems CallArg := ⟨fun a => items a.name ++ items a.value⟩
instance : HasItems WorkflowCall := ⟨fun c => items c.uses ++ items c.inputs ++ items c.secrets⟩
instance : HasItems Job := ⟨fun j =>
  items j.id ++ items j.name ++ items j.needs ++ items j.runsOn ++ items j.permissions ++ items j.environment ++
  items j.concurrency ++ items j.outputs ++ items j.env ++ items j.defaults ++ items j.cond ++ items j.steps ++
  items j.timeoutMinutes ++ items j.strategy ++ items j.continueOnError ++ items j.container ++ items j.services ++
  items j.workflowCall ++ items j.pos⟩
/-- **every string and every position of a workflow AST** -/
instance : HasItems Workflow := ⟨fun w =>
  items w.name ++ items w.runName ++ items w.on ++ items w.permissions ++ items w.env ++ items w.defaults ++
  items w.concurrency ++ items w.jobs⟩

/-- every `*String` of the AST (names, keys, values, raw matrix scalars) -/
def allStrs (w : Workflow) : List Str := (items w).filterMap Item.str?
/-- every position that occurs in the AST: of a string, a key, a job, a step, an event, a section … -/
def allPositions (w : Workflow) : List Pos := (items w).map Item.at

theorem mem_allStrs {w : Workflow} {s : Str} : s ∈ allStrs w ↔ Item.str s ∈ items w := by
  simp only [allStrs, List.mem_filterMap]
  constructor
  · rintro ⟨it, hm, h⟩
    cases it with
    | str s' => simp only [Item.str?, Option.some.injEq] at h; subst h; exact hm
    | pos p => simp [Item.str?] at h
  · intro h; exact ⟨_, h, rfl⟩

theorem allStrs_pos_sub {w : Workflow} {s : Str} (h : s ∈ allStrs w) : s.pos ∈ allPositions w :=
  List.mem_map.2 ⟨_, mem_allStrs.1 h, rfl⟩

/-! ### provenance -/

/-- the AST string `s` was made from the node `v`: it sits at `v`; its text is `v`'s (`newString`, a raw matrix scalar) or
empty (what `parseString` returns when its check fails); `v` is a scalar unless `s` is the empty placeholder or `v` is a
collection node whose `Value` is one `${{ }}` (no such node comes out of yaml.v3: a collection has the empty `Value`) -/
structure StrOf (v : Node) (s : Str) : Prop where
  pos : s.pos = v.pos
  value : s.value = v.value ∨ s.value = ""
  quoted : s.quoted = v.quoted ∨ s.quoted = false
  kind : v.kind = .scalar ∨ s.value = "" ∨ isExprAssigned v.value = true

def ItemOk (S : List Node) : Item → Prop
  | .str s => ∃ v ∈ S, StrOf v s
  | .pos p => ∃ v ∈ S, p = v.pos

/-- every string / position of `x` satisfies `P` -/
def AllI {α} [HasItems α] (P : Item → Prop) (x : α) : Prop := ∀ it ∈ items x, P it
/-- every string / position of `x` comes from a node of `S` -/
abbrev IOk {α} [HasItems α] (S : List Node) (x : α) : Prop := AllI (ItemOk S) x
/-- every syntax diagnostic sits at a node of `S` -/
def EOk (S : List Node) (es : List PErr) : Prop := ∀ e ∈ es, ∃ v ∈ S, e.pos = v.pos
/-- the result of a parser function -/
def ROk {α} [HasItems α] (S : List Node) (r : α × List PErr) : Prop := IOk S r.1 ∧ EOk S r.2

theorem ItemOk.at {S : List Node} {it : Item} (h : ItemOk S it) : ∃ v ∈ S, it.at = v.pos := by
  cases it with
  | str s => obtain ⟨v, hv, h⟩ := h; exact ⟨v, hv, h.pos⟩
  | pos p => exact h

theorem ItemOk.mono {S S' : List Node} {it : Item} (h : ItemOk S it) (hs : ∀ v ∈ S, v ∈ S') : ItemOk S' it := by
  cases it with
  | str s => obtain ⟨v, hv, h⟩ := h; exact ⟨v, hs v hv, h⟩
  | pos p => obtain ⟨v, hv, h⟩ := h; exact ⟨v, hs v hv, h⟩

/-! ### `AllI` / `IOk` through the constructors (simp lemmas)

The lemmas named `IOk_…` and `LOk_…` below are named after `IOk` / `LOk` and stated for `AllI P` / `LAll P` with any `P`. -/

section
variable {S : List Node}

@[simp] theorem EOk_nil : EOk S [] := fun _ h => by cases h
@[simp] theorem EOk_append {a b : List PErr} : EOk S (a ++ b) ↔ EOk S a ∧ EOk S b := List.forall_mem_append
@[simp] theorem EOk_cons {e : PErr} {b : List PErr} : EOk S (e :: b) ↔ (∃ v ∈ S, e.pos = v.pos) ∧ EOk S b :=
  List.forall_mem_cons
theorem EOk_one {e : PErr} (h : ∃ v ∈ S, e.pos = v.pos) : EOk S [e] := EOk_cons.2 ⟨h, EOk_nil⟩
theorem EOk_ite {c : Prop} [Decidable c] {a b : List PErr} (ha : EOk S a) (hb : EOk S b) : EOk S (if c then a else b) := by
  split <;> assumption

@[simp] theorem ROk_iff {α} [HasItems α] {r : α × List PErr} : ROk S r ↔ IOk S r.1 ∧ EOk S r.2 := Iff.rfl
theorem ROk_mk {α} [HasItems α] {x : α} {es : List PErr} : ROk S (x, es) ↔ IOk S x ∧ EOk S es := Iff.rfl
/-- the form in which `simp` takes the result of a sub-parser -/
theorem ROk.and {α} [HasItems α] {r : α × List PErr} (h : ROk S r) : IOk S r.1 ∧ EOk S r.2 := h

variable {P : Item → Prop}

/-- a position that is a node's -/
def POk (S : List Node) (p : Pos) : Prop := ∃ v ∈ S, p = v.pos

@[simp] theorem ItemOk_pos {p : Pos} : ItemOk S (.pos p) ↔ POk S p := Iff.rfl
@[simp] theorem ItemOk_str {s : Str} : ItemOk S (.str s) ↔ ∃ v ∈ S, StrOf v s := Iff.rfl
@[simp] theorem AllI_pos {p : Pos} : AllI P p ↔ P (.pos p) := by
  simp [AllI, items]
@[simp] theorem AllI_str {s : Str} : AllI P s ↔ P (.str s) := by
  simp [AllI, items]
theorem IOk_pos {p : Pos} : IOk S p ↔ POk S p := by
  simp
theorem IOk_str {s : Str} : IOk S s ↔ ∃ v ∈ S, StrOf v s := by
  simp
@[simp] theorem IOk_none {α} [HasItems α] : AllI P (none : Option α) := by
  simp [AllI, items]
@[simp] theorem IOk_some {α} [HasItems α] {x : α} : AllI P (some x) ↔ AllI P x := by
  simp [AllI, items]
@[simp] theorem IOk_nil {α} [HasItems α] : AllI P ([] : List α) := by
  simp [AllI, items]
@[simp] theorem IOk_cons {α} [HasItems α] {x : α} {l : List α} : AllI P (x :: l) ↔ AllI P x ∧ AllI P l := by
  simp only [AllI, items, List.flatMap_cons]
  exact List.forall_mem_append
@[simp] theorem IOk_append {α} [HasItems α] {a b : List α} : AllI P (a ++ b) ↔ AllI P a ∧ AllI P b := by
  simp only [AllI, items, List.flatMap_append]
  exact List.forall_mem_append
theorem IOk_list {α} [HasItems α] {l : List α} : AllI P l ↔ ∀ x ∈ l, AllI P x := List.forall_mem_flatMap
@[simp] theorem IOk_entry {α} [HasItems α] {p : String × α} : AllI P p ↔ AllI P p.2 := Iff.rfl
@[simp] theorem IOk_flag {α} [HasItems α] {p : α × Bool} : AllI P p ↔ AllI P p.1 := Iff.rfl
theorem IOk_getD {α} [HasItems α] {o : Option (List α)} (h : AllI P o) : AllI P (o.getD []) := by
  cases o <;> simp_all

/-! ### from an optional field to what it holds

The rules reach a sub-field the way the Go code does (`if x != nil`, `for _, e := range x`): the equation `o = some x`, or
the membership in `o.getD []`, is what a `split` or a `_pos` lemma hands over. -/

theorem AllI.of_some {α} [HasItems α] {o : Option α} (h : AllI P o) {x : α} (hx : o = some x) : AllI P x :=
  IOk_some.1 (hx ▸ h)

theorem AllI.mem {α} [HasItems α] {l : List α} (h : AllI P l) {x : α} (hx : x ∈ l) : AllI P x :=
  IOk_list.1 h x hx

theorem AllI.mem_getD {α} [HasItems α] {o : Option (List α)} (h : AllI P o) {x : α} (hx : x ∈ o.getD []) : AllI P x :=
  (IOk_getD h).mem hx

/-- an entry of a Go map -/
theorem AllI.entry {α} [HasItems α] {o : Option (List (String × α))} (h : AllI P o) {kv : String × α}
    (hkv : kv ∈ o.getD []) : AllI P kv.2 :=
  IOk_entry.1 (h.mem_getD hkv)

/-- with `P := (· ∈ items w)` the decomposition lemmas walk DOWN to a member of `items w` -/
theorem AllI_self {α} [HasItems α] (w : α) : AllI (· ∈ items w) w := fun _ h => h

/-- the same for "sits at a position of `w`" -/
theorem AllI_at {α} [HasItems α] (w : α) : AllI (fun it => it.at ∈ (items w).map Item.at) w :=
  fun _ h => List.mem_map_of_mem h

/-- auxiliary: `AllI` on a bare list of items, so that the `items` of a structure (a concatenation) split with `LOk_append` -/
def LAll (P : Item → Prop) (l : List Item) : Prop := ∀ it ∈ l, P it
abbrev LOk (S : List Node) (l : List Item) : Prop := LAll (ItemOk S) l
theorem IOk_def {α} [HasItems α] {x : α} : AllI P x ↔ LAll P (items x) := Iff.rfl
@[simp] theorem LOk_append {a b : List Item} : LAll P (a ++ b) ↔ LAll P a ∧ LAll P b := List.forall_mem_append
@[simp] theorem LOk_items {α} [HasItems α] {x : α} : LAll P (items x) ↔ AllI P x := Iff.rfl
@[simp] theorem LOk_nil : LAll P [] := fun _ h => by cases h

/-! ### `AllI` of a structure = `AllI` of its fields (`IOk_<Struct>`: named after `IOk`, stated for every `P`) -/

@[simp] theorem IOk_BoolV {x : BoolV} : AllI P x ↔ AllI P x.expr ∧ AllI P x.pos := LOk_append

@[simp] theorem IOk_IntV {x : IntV} : AllI P x ↔ AllI P x.expr ∧ AllI P x.pos := LOk_append

@[simp] theorem IOk_FloatV {x : FloatV} : AllI P x ↔ AllI P x.expr ∧ AllI P x.pos := LOk_append

@[simp] theorem IOk_Filter {x : Filter} : AllI P x ↔ AllI P x.name ∧ AllI P x.values := LOk_append

@[simp] theorem IOk_WebhookEvent {x : WebhookEvent} : AllI P x ↔ AllI P x.hook ∧ AllI P x.types ∧ AllI P x.branches ∧ AllI P x.branchesIgnore ∧ AllI P x.tags ∧ AllI P x.tagsIgnore ∧ AllI P x.paths ∧ AllI P x.pathsIgnore ∧ AllI P x.workflows ∧ AllI P x.pos := by
  delta instHasItemsWebhookEvent
  simp only [IOk_def, LOk_append, and_assoc]

@[simp] theorem IOk_DispatchInput {x : DispatchInput} : AllI P x ↔ AllI P x.name ∧ AllI P x.description ∧ AllI P x.required ∧ AllI P x.dflt ∧ AllI P x.options := by
  delta instHasItemsDispatchInput
  simp only [IOk_def, LOk_append, and_assoc]

@[simp] theorem IOk_CallInput {x : CallInput} : AllI P x ↔ AllI P x.name ∧ AllI P x.description ∧ AllI P x.dflt ∧ AllI P x.required := by
  delta instHasItemsCallInput
  simp only [IOk_def, LOk_append, and_assoc]

@[simp] theorem IOk_CallSecret {x : CallSecret} : AllI P x ↔ AllI P x.name ∧ AllI P x.description ∧ AllI P x.required := by
  delta instHasItemsCallSecret
  simp only [IOk_def, LOk_append, and_assoc]

@[simp] theorem IOk_CallOutput {x : CallOutput} : AllI P x ↔ AllI P x.name ∧ AllI P x.description ∧ AllI P x.value := by
  delta instHasItemsCallOutput
  simp only [IOk_def, LOk_append, and_assoc]

@[simp] theorem IOk_PermissionScope {x : PermissionScope} : AllI P x ↔ AllI P x.name ∧ AllI P x.value := LOk_append

@[simp] theorem IOk_Permissions {x : Permissions} : AllI P x ↔ AllI P x.all ∧ AllI P x.scopes ∧ AllI P x.pos := by
  delta instHasItemsPermissions
  simp only [IOk_def, LOk_append, and_assoc]

@[simp] theorem IOk_DefaultsRun {x : DefaultsRun} : AllI P x ↔ AllI P x.shell ∧ AllI P x.workingDirectory ∧ AllI P x.pos := by
  delta instHasItemsDefaultsRun
  simp only [IOk_def, LOk_append, and_assoc]

@[simp] theorem IOk_Defaults {x : Defaults} : AllI P x ↔ AllI P x.run ∧ AllI P x.pos := LOk_append

@[simp] theorem IOk_Concurrency {x : Concurrency} : AllI P x ↔ AllI P x.group ∧ AllI P x.cancelInProgress ∧ AllI P x.pos := by
  delta instHasItemsConcurrency
  simp only [IOk_def, LOk_append, and_assoc]

@[simp] theorem IOk_Environment {x : Environment} : AllI P x ↔ AllI P x.name ∧ AllI P x.url ∧ AllI P x.pos := by
  delta instHasItemsEnvironment
  simp only [IOk_def, LOk_append, and_assoc]

@[simp] theorem IOk_EnvVar {x : EnvVar} : AllI P x ↔ AllI P x.name ∧ AllI P x.value := LOk_append

@[simp] theorem IOk_Env {x : Ast.Env} : AllI P x ↔ AllI P x.vars ∧ AllI P x.expr := LOk_append

@[simp] theorem IOk_Input {x : Input} : AllI P x ↔ AllI P x.name ∧ AllI P x.value := LOk_append

@[simp] theorem IOk_ExecRun {x : ExecRun} : AllI P x ↔ AllI P x.run ∧ AllI P x.shell ∧ AllI P x.workingDirectory ∧ AllI P x.runPos := by
  delta instHasItemsExecRun
  simp only [IOk_def, LOk_append, and_assoc]

@[simp] theorem IOk_ExecAction {x : ExecAction} : AllI P x ↔ AllI P x.uses ∧ AllI P x.inputs ∧ AllI P x.entrypoint ∧ AllI P x.args := by
  delta instHasItemsExecAction
  simp only [IOk_def, LOk_append, and_assoc]

@[simp] theorem IOk_MatrixRow {x : MatrixRow} : AllI P x ↔ AllI P x.name ∧ AllI P x.values ∧ AllI P x.expr := by
  delta instHasItemsMatrixRow
  simp only [IOk_def, LOk_append, and_assoc]

@[simp] theorem IOk_MatrixAssign {x : MatrixAssign} : AllI P x ↔ AllI P x.key ∧ AllI P x.value := LOk_append

@[simp] theorem IOk_MatrixCombination {x : MatrixCombination} : AllI P x ↔ AllI P x.assigns ∧ AllI P x.expr := LOk_append

@[simp] theorem IOk_MatrixCombinations {x : MatrixCombinations} : AllI P x ↔ AllI P x.combinations ∧ AllI P x.expr := LOk_append

@[simp] theorem IOk_Matrix {x : Ast.Matrix} : AllI P x ↔ AllI P x.rows ∧ AllI P x.incl ∧ AllI P x.excl ∧ AllI P x.expr ∧ AllI P x.pos := by
  delta instHasItemsMatrix
  simp only [IOk_def, LOk_append, and_assoc]

@[simp] theorem IOk_Strategy {x : Strategy} : AllI P x ↔ AllI P x.matrix ∧ AllI P x.failFast ∧ AllI P x.maxParallel ∧ AllI P x.pos := by
  delta instHasItemsStrategy
  simp only [IOk_def, LOk_append, and_assoc]

@[simp] theorem IOk_Step {x : Step} : AllI P x ↔ AllI P x.id ∧ AllI P x.cond ∧ AllI P x.name ∧ AllI P x.exec ∧ AllI P x.env ∧ AllI P x.continueOnError ∧ AllI P x.timeoutMinutes ∧ AllI P x.pos := by
  delta instHasItemsStep
  simp only [IOk_def, LOk_append, and_assoc]

@[simp] theorem IOk_Credentials {x : Credentials} : AllI P x ↔ AllI P x.username ∧ AllI P x.password ∧ AllI P x.pos := by
  delta instHasItemsCredentials
  simp only [IOk_def, LOk_append, and_assoc]

@[simp] theorem IOk_Container {x : Container} : AllI P x ↔ AllI P x.image ∧ AllI P x.credentials ∧ AllI P x.env ∧ AllI P x.ports ∧ AllI P x.volumes ∧ AllI P x.options ∧ AllI P x.pos := by
  delta instHasItemsContainer
  simp only [IOk_def, LOk_append, and_assoc]

@[simp] theorem IOk_Service {x : Service} : AllI P x ↔ AllI P x.name ∧ AllI P x.container := LOk_append

@[simp] theorem IOk_Services {x : Services} : AllI P x ↔ AllI P x.value ∧ AllI P x.expr ∧ AllI P x.pos := by
  delta instHasItemsServices
  simp only [IOk_def, LOk_append, and_assoc]

@[simp] theorem IOk_Output {x : Output} : AllI P x ↔ AllI P x.name ∧ AllI P x.value := LOk_append

@[simp] theorem IOk_Runner {x : Runner} : AllI P x ↔ AllI P x.labels ∧ AllI P x.labelsExpr ∧ AllI P x.group := by
  delta instHasItemsRunner
  simp only [IOk_def, LOk_append, and_assoc]

@[simp] theorem IOk_CallArg {x : CallArg} : AllI P x ↔ AllI P x.name ∧ AllI P x.value := LOk_append

@[simp] theorem IOk_WorkflowCall {x : WorkflowCall} : AllI P x ↔ AllI P x.uses ∧ AllI P x.inputs ∧ AllI P x.secrets := by
  delta instHasItemsWorkflowCall
  simp only [IOk_def, LOk_append, and_assoc]

@[simp] theorem IOk_Job {x : Job} : AllI P x ↔ AllI P x.id ∧ AllI P x.name ∧ AllI P x.needs ∧ AllI P x.runsOn ∧ AllI P x.permissions ∧ AllI P x.environment ∧ AllI P x.concurrency ∧ AllI P x.outputs ∧ AllI P x.env ∧ AllI P x.defaults ∧ AllI P x.cond ∧ AllI P x.steps ∧ AllI P x.timeoutMinutes ∧ AllI P x.strategy ∧ AllI P x.continueOnError ∧ AllI P x.container ∧ AllI P x.services ∧ AllI P x.workflowCall ∧ AllI P x.pos := by
  delta instHasItemsJob
  simp only [IOk_def, LOk_append, and_assoc]

@[simp] theorem IOk_Workflow {x : Workflow} : AllI P x ↔ AllI P x.name ∧ AllI P x.runName ∧ AllI P x.on ∧ AllI P x.permissions ∧ AllI P x.env ∧ AllI P x.defaults ∧ AllI P x.concurrency ∧ AllI P x.jobs := by
  delta instHasItemsWorkflow
  simp only [IOk_def, LOk_append, and_assoc]

/-! ### `IOk_Job`, `IOk_Step`, `IOk_Workflow` with names

A rule reaches one or two of the nineteen fields of a job; a key of the parser writes one. -/

structure JobItems (P : Item → Prop) (j : Job) : Prop where
  id : AllI P j.id
  name : AllI P j.name
  needs : AllI P j.needs
  runsOn : AllI P j.runsOn
  permissions : AllI P j.permissions
  environment : AllI P j.environment
  concurrency : AllI P j.concurrency
  outputs : AllI P j.outputs
  env : AllI P j.env
  defaults : AllI P j.defaults
  cond : AllI P j.cond
  steps : AllI P j.steps
  timeoutMinutes : AllI P j.timeoutMinutes
  strategy : AllI P j.strategy
  continueOnError : AllI P j.continueOnError
  container : AllI P j.container
  services : AllI P j.services
  workflowCall : AllI P j.workflowCall
  pos : AllI P j.pos

theorem AllI.job {j : Job} (h : AllI P j) : JobItems P j := by
  obtain ⟨a, b, c, d, e, f, g, i, k, l, m, n, o, p, q, r, s, t, u⟩ := IOk_Job.1 h
  exact ⟨a, b, c, d, e, f, g, i, k, l, m, n, o, p, q, r, s, t, u⟩

theorem JobItems.all {j : Job} (h : JobItems P j) : AllI P j :=
  IOk_Job.2 ⟨h.id, h.name, h.needs, h.runsOn, h.permissions, h.environment, h.concurrency, h.outputs, h.env, h.defaults,
    h.cond, h.steps, h.timeoutMinutes, h.strategy, h.continueOnError, h.container, h.services, h.workflowCall, h.pos⟩

structure StepItems (P : Item → Prop) (s : Step) : Prop where
  id : AllI P s.id
  cond : AllI P s.cond
  name : AllI P s.name
  exec : AllI P s.exec
  env : AllI P s.env
  continueOnError : AllI P s.continueOnError
  timeoutMinutes : AllI P s.timeoutMinutes
  pos : AllI P s.pos

theorem AllI.step {s : Step} (h : AllI P s) : StepItems P s := by
  obtain ⟨a, b, c, d, e, f, g, i⟩ := IOk_Step.1 h
  exact ⟨a, b, c, d, e, f, g, i⟩

theorem StepItems.all {s : Step} (h : StepItems P s) : AllI P s :=
  IOk_Step.2 ⟨h.id, h.cond, h.name, h.exec, h.env, h.continueOnError, h.timeoutMinutes, h.pos⟩

structure WorkflowItems (P : Item → Prop) (w : Workflow) : Prop where
  name : AllI P w.name
  runName : AllI P w.runName
  on : AllI P w.on
  permissions : AllI P w.permissions
  env : AllI P w.env
  defaults : AllI P w.defaults
  concurrency : AllI P w.concurrency
  jobs : AllI P w.jobs

theorem AllI.workflow {w : Workflow} (h : AllI P w) : WorkflowItems P w := by
  obtain ⟨a, b, c, d, e, f, g, i⟩ := IOk_Workflow.1 h
  exact ⟨a, b, c, d, e, f, g, i⟩

/-- the matrix of a job, the way `jobMatrix`, `matrixOfStrs`, `matrixJob` and `runnerLabelJob` reach it -/
theorem AllI.jobMatrix {j : Job} (h : AllI P j) {s : Strategy} (hs : j.strategy = some s) {m : Ast.Matrix}
    (hm : s.matrix = some m) : AllI P m :=
  ((IOk_Strategy.1 (h.job.strategy.of_some hs)).1).of_some hm

@[simp] theorem IOk_webhook {e : WebhookEvent} : AllI P (Event.webhook e) ↔ AllI P e := Iff.rfl
@[simp] theorem IOk_schedule {c : List Str} {p : Pos} : AllI P (Event.schedule c p) ↔ AllI P c ∧ P (.pos p) := by
  change LAll P (items c ++ items p) ↔ _
  simp only [LOk_append, LOk_items, AllI_pos]
@[simp] theorem IOk_dispatch {i : Option (List (String × DispatchInput))} {p : Pos} :
    AllI P (Event.dispatch i p) ↔ AllI P i ∧ P (.pos p) := by
  change LAll P (items i ++ items p) ↔ _
  simp only [LOk_append, LOk_items, AllI_pos]
@[simp] theorem IOk_repoDispatch {t : Option (List Str)} {p : Pos} : AllI P (Event.repoDispatch t p) ↔ AllI P t ∧ P (.pos p) := by
  change LAll P (items t ++ items p) ↔ _
  simp only [LOk_append, LOk_items, AllI_pos]
@[simp] theorem IOk_call {i : Option (List CallInput)} {s : Option (List (String × CallSecret))}
    {o : Option (List (String × CallOutput))} {p : Pos} :
    AllI P (Event.call i s o p) ↔ AllI P i ∧ AllI P s ∧ AllI P o ∧ P (.pos p) := by
  change LAll P (items i ++ items s ++ items o ++ items p) ↔ _
  simp only [LOk_append, LOk_items, AllI_pos, and_assoc]
@[simp] theorem IOk_exec_none : AllI P Exec.none := fun _ h => by cases h
@[simp] theorem IOk_exec_run {e : ExecRun} : AllI P (Exec.run e) ↔ AllI P e := Iff.rfl
@[simp] theorem IOk_exec_action {e : ExecAction} : AllI P (Exec.action e) ↔ AllI P e := Iff.rfl

theorem rawItemsL_eq (es : List Raw) : rawItemsL es = items es := by
  induction es with
  | nil => rfl
  | cons e es ih => simp only [rawItemsL, ih]; rfl
theorem rawItemsP_eq (ps : List (String × Raw)) : rawItemsP ps = items ps := by
  induction ps with
  | nil => rfl
  | cons e es ih => obtain ⟨k, v⟩ := e; simp only [rawItemsP, ih]; rfl
@[simp] theorem IOk_raw_str {v : String} {p : Pos} : AllI P (AL.Matrix.Raw.str v p) ↔ P (.str ⟨v, false, p⟩) := by
  simp [AllI, items, rawItems]
@[simp] theorem IOk_raw_arr {es : List Raw} {p : Pos} : AllI P (AL.Matrix.Raw.arr es p) ↔ P (.pos p) ∧ AllI P es := by
  change LAll P (Item.pos p :: rawItemsL es) ↔ _
  rw [rawItemsL_eq]
  simp [LAll, AllI]
@[simp] theorem IOk_raw_obj {ps : List (String × Raw)} {p : Pos} : AllI P (AL.Matrix.Raw.obj ps p) ↔ P (.pos p) ∧ AllI P ps := by
  change LAll P (Item.pos p :: rawItemsP ps) ↔ _
  rw [rawItemsP_eq]
  simp [LAll, AllI]


open AL.RuleExpr in
theorem findCallOutputs_all : ∀ (es : List Ast.Event), AllI P es → ∀ outs, findCallOutputs es = some outs → AllI P outs
  | [], _, outs, h => by simp [findCallOutputs] at h
  | e :: es, hes, outs, h => by
    have hh := IOk_cons.1 hes
    cases e with
    | call i s o p =>
      simp only [findCallOutputs, Option.some.injEq] at h
      subst h
      exact IOk_getD (IOk_call.1 hh.1).2.2.1
    | webhook e => exact findCallOutputs_all es hh.2 outs (by simpa [findCallOutputs] using h)
    | schedule c p => exact findCallOutputs_all es hh.2 outs (by simpa [findCallOutputs] using h)
    | dispatch i p => exact findCallOutputs_all es hh.2 outs (by simpa [findCallOutputs] using h)
    | repoDispatch t p => exact findCallOutputs_all es hh.2 outs (by simpa [findCallOutputs] using h)

/-! ### a parser run over a list

The list parsers of parse.go are `mapR` / `filterMapR` (AL/Lemmas/ParseWfList.lean): results and diagnostics come element by
element, so no induction is needed. -/

theorem EOk_flatMap {α} {l : List α} {g : α → List PErr} : EOk S (l.flatMap g) ↔ ∀ a ∈ l, EOk S (g a) :=
  List.forall_mem_flatMap

theorem mapR_ok {α β} [HasItems β] {f : α → R β} {l : List α} (h : ∀ a ∈ l, ROk S (f a)) : ROk S (mapR f l) :=
  ⟨IOk_list.2 (List.forall_mem_map.2 fun a ha => (h a ha).1), EOk_flatMap.2 fun a ha => (h a ha).2⟩

theorem filterMapR_ok {α β} [HasItems β] {f : α → R (Option β)} {l : List α} (h : ∀ a ∈ l, ROk S (f a)) :
    ROk S (filterMapR f l) :=
  ⟨IOk_list.2 fun _ hx => let ⟨a, ha, he⟩ := List.mem_filterMap.1 hx; (h a ha).1.of_some he,
    EOk_flatMap.2 fun a ha => (h a ha).2⟩

end

end AL.C07S
