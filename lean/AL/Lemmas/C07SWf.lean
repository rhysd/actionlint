import AL.Lemmas.C07SJob
import AL.Lemmas.ParseWfKeys
import AL.Lemmas.ParseWfClean
/-
  C07Sites, parser side, part 4: steps, jobs, the workflow. An iteration of `stepKey`, `jobKey`, `workflowKey` on an entry
  that comes from the nodes `S` (`KVOk`) keeps the state made of items of `S` and reports at nodes of `S` (`ROk S`; the loop
  states with their fields by name: `StepStItems`, `JobStItems`); so do the final checks (`stepFinish_ok`, `jobFinish_ok`),
  hence `parseStep_ok`, `parseJob_ok`, `parseJobs_ok`, and for the document `parse_ok`: the parser invents no position.

  ParseWfKeys is imported although nothing of it is used by name: `fun_cases stepKey` / `fun_cases jobKey` (here and there)
  generate auxiliary declarations `AL.PW.stepKey.…`, which collide in a module that imports two unrelated generators of
  them (Props/C07Sites, through Props/C03Parse).
-/
namespace AL.C07S
open AL.Yaml AL.Ast AL.PW

variable {S : List Node}

instance : HasItems StepSt := ⟨fun st => items st.step ++ items st.workDir⟩
@[simp] theorem IOk_StepSt {x : StepSt} : IOk S x ↔ IOk S x.step ∧ IOk S x.workDir := LOk_append

instance : HasItems JobSt := ⟨fun st => items st.job ++ items st.call ++ items st.stepsOnlyKey ++ items st.callOnlyKey⟩
@[simp] theorem IOk_JobSt {x : JobSt} : IOk S x ↔ IOk S x.job ∧ IOk S x.call ∧ IOk S x.stepsOnlyKey ∧ IOk S x.callOnlyKey := by
  delta instHasItemsJobSt
  simp only [IOk_def, LOk_append, and_assoc]

/-! ### steps -/

theorem withKey_ok {st : ExecAction} {input : KV} (hkv : KVOk S input) (hst : IOk S st) : ROk S (withKey st input) := by
  have ha := IOk_ExecAction.1 hst
  have hs := fun ae => (parseString_ok hkv.valMem ae).and
  unfold withKey
  split
  · simp [ha, hs]
  · simp [ha, hs]
  · simp [ha, hs, hkv.1, IOk_getD ha.2.1]

/-- `IOk_StepSt` with names, the step as its record: a key of `stepKey` writes one field of the step (or the remembered
working directory), and the proof updates the same field -/
structure StepStItems (S : List Node) (st : StepSt) : Prop where
  step : StepItems (ItemOk S) st.step
  workDir : IOk S st.workDir

theorem AllI.stepSt {st : StepSt} (h : IOk S st) : StepStItems S st :=
  ⟨(IOk_StepSt.1 h).1.step, (IOk_StepSt.1 h).2⟩

theorem StepStItems.all {st : StepSt} (h : StepStItems S st) : IOk S st :=
  IOk_StepSt.2 ⟨h.step.all, h.workDir⟩

theorem stepKey_ok (cfg : Cfg) {st : StepSt} {kv : KV} (hkv : KVOk S kv) (hst : IOk S st) : ROk S (stepKey cfg st kv) := by
  have h := hst.stepSt
  have hp := hkv.keyPos
  have hv := hkv.2
  have s := parseString_ok hkv.valMem false
  have s1 := IOk_some.2 s.1
  have hw := fun {init : ExecAction} hinit =>
    loopMapping_ok (init := init) (parseSectionMapping_ok cfg "with" hv false false) withKey_ok hinit
  -- a key of the other kind of step: reported at the key, the state stays
  have hwrong : ∀ c a, ROk S (st, [(⟨kv.key.pos, c, a⟩ : PErr)]) := fun _ _ => ⟨hst, EOk_one hp⟩
  fun_cases stepKey cfg st kv
  · exact ⟨StepStItems.all { h with step := { h.step with id := s1 } }, s.2⟩
  · exact ⟨StepStItems.all { h with step := { h.step with cond := s1 } }, s.2⟩
  · have r := parseString_ok hkv.valMem true
    exact ⟨StepStItems.all { h with step := { h.step with name := IOk_some.2 r.1 } }, r.2⟩
  · have r := parseEnv_ok cfg hv
    exact ⟨StepStItems.all { h with step := { h.step with env := IOk_some.2 r.1 } }, r.2⟩
  · have r := parseBool_ok hkv.valMem
    exact ⟨StepStItems.all { h with step := { h.step with continueOnError := r.1 } }, r.2⟩
  · have r := parseTimeoutMinutes_ok cfg hkv.valMem
    exact ⟨StepStItems.all { h with step := { h.step with timeoutMinutes := r.1 } }, r.2⟩
  -- `uses`, `with`: an action; the fields of `IOk_ExecAction` are uses, inputs, entrypoint, args
  · exact hwrong _ _
  · exact ⟨StepStItems.all { h with step := { h.step with
      exec := IOk_ExecAction.2 ⟨s1, IOk_none, IOk_none, IOk_none⟩ } }, s.2⟩
  · rename_i e he _
    have he := IOk_ExecAction.1 (IOk_exec_action.1 (he ▸ h.step.exec))
    exact ⟨StepStItems.all { h with step := { h.step with
      exec := IOk_ExecAction.2 ⟨s1, he.2⟩ } }, s.2⟩
  · exact hwrong _ _
  · have r := hw (init := { inputs := some [] }) (IOk_ExecAction.2 ⟨IOk_none, IOk_some.2 IOk_nil, IOk_none, IOk_none⟩)
    exact ⟨StepStItems.all { h with step := { h.step with exec := r.1 } }, r.2⟩
  · rename_i e he _ _
    have he := IOk_ExecAction.1 (IOk_exec_action.1 (he ▸ h.step.exec))
    have r := hw (init := { e with inputs := some [] }) (IOk_ExecAction.2 ⟨he.1, IOk_some.2 IOk_nil, he.2.2⟩)
    exact ⟨StepStItems.all { h with step := { h.step with exec := r.1 } }, r.2⟩
  -- `run`, `shell`, `working-directory`: a script; the fields of `IOk_ExecRun` are run, shell, workingDirectory, runPos
  · exact hwrong _ _
  · exact ⟨StepStItems.all { h with step := { h.step with
      exec := IOk_ExecRun.2 ⟨s1, IOk_none, h.workDir, IOk_some.2 (IOk_pos.2 hp)⟩ } }, s.2⟩
  · rename_i e he _
    have he := IOk_ExecRun.1 (IOk_exec_run.1 (he ▸ h.step.exec))
    exact ⟨StepStItems.all { h with step := { h.step with
      exec := IOk_ExecRun.2 ⟨s1, he.2.1, h.workDir, IOk_some.2 (IOk_pos.2 hp)⟩ } }, s.2⟩
  · exact hwrong _ _
  · exact ⟨StepStItems.all { h with step := { h.step with
      exec := IOk_ExecRun.2 ⟨IOk_none, s1, h.workDir, IOk_none⟩ } }, s.2⟩
  · rename_i e he _
    have he := IOk_ExecRun.1 (IOk_exec_run.1 (he ▸ h.step.exec))
    exact ⟨StepStItems.all { h with step := { h.step with
      exec := IOk_ExecRun.2 ⟨he.1, s1, h.workDir, he.2.2.2⟩ } }, s.2⟩
  · rename_i e he
    have he := IOk_ExecRun.1 (IOk_exec_run.1 (he ▸ h.step.exec))
    exact ⟨StepStItems.all { step := { h.step with exec := IOk_ExecRun.2 ⟨he.1, he.2.1, s1, he.2.2.2⟩ }, workDir := s1 }, s.2⟩
  · exact ⟨StepStItems.all { h with workDir := s1 }, s.2⟩
  · exact ⟨hst, EOk_one (unexpectedKey_ok hkv _ _)⟩

theorem optStr_pos {o : Option Str} (h : IOk S o) : ∀ s, o = some s → ∃ v ∈ S, s.pos = v.pos :=
  fun _ hs => POk_of_str (h.of_some hs)

theorem stepFinish_ok {n : Node} (h : n ∈ S) {st : StepSt} (hst : IOk S st) : EOk S (stepFinish n st) := by
  unfold stepFinish
  split
  · refine EOk_append.2 ⟨EOk_ite (EOk_errAt h _ _) EOk_nil, ?_⟩
    split
    · rename_i hw
      exact EOk_one (optStr_pos (IOk_StepSt.1 hst).2 _ hw)
    · exact EOk_nil
  · exact EOk_ite (EOk_errAt h _ _) EOk_nil
  · exact EOk_errAt h _ _

theorem parseStep_ok (cfg : Cfg) {n : Node} (h : ∀ x ∈ allNodes n, x ∈ S) : ROk S (parseStep cfg n) := by
  have hr := loopMapping_ok (init := ({ step := { pos := n.pos } } : StepSt))
    (parseMapping_ok cfg "element of \"steps\" section" h false true) (stepKey_ok cfg) (by simp [POk_of_mem (self_mem h)])
  exact ⟨(IOk_StepSt.1 hr.1).1, EOk_append.2 ⟨hr.2, stepFinish_ok (self_mem h) hr.1⟩⟩

theorem stepsOf_ok (cfg : Cfg) : ∀ (cs : List Node), (∀ c ∈ cs, ∀ x ∈ allNodes c, x ∈ S) → ROk S (PW.stepsOf cfg cs) :=
  fun _ h => stepsOf_mapR cfg ▸ mapR_ok fun c hc => parseStep_ok cfg (h c hc)

theorem parseSteps_ok (cfg : Cfg) {n : Node} (h : ∀ x ∈ allNodes n, x ∈ S) : ROk S (parseSteps cfg n) := by
  have hc := checkSequence_ok (S := S) (self_mem h) "steps" false
  simp only [parseSteps]
  split
  · simp [hc]
  · simp [hc, (stepsOf_ok cfg n.content (content_sub h)).and]

/-! ### jobs -/

theorem runsOnKey_ok {st : Runner} {kv : KV} (hkv : KVOk S kv) (hst : IOk S st) : ROk S (runsOnKey st kv) := by
  have hr := IOk_Runner.1 hst
  unfold runsOnKey
  split
  · split
    · rename_i he
      simp [hr, (mayParseExpression_ok hkv.valMem).of_some he]
    · simp [hr, (parseStringOrStringSequence_ok hkv.2 "labels" false false).and]
  · simp [hr, (parseString_ok hkv.valMem false).and]
  · simp [hst, unexpectedKey_ok hkv]

theorem parseRunsOn_ok (cfg : Cfg) {n : Node} (h : ∀ x ∈ allNodes n, x ∈ S) : ROk S (parseRunsOn cfg n) := by
  unfold parseRunsOn
  split
  · rename_i he
    simp [(mayParseExpression_ok (self_mem h)).of_some he]
  · split
    · simp [(parseStringOrStringSequence_ok h "runs-on" false false).and]
    · exact loopMapping_ok (parseSectionMapping_ok cfg _ h false true) runsOnKey_ok (by simp)

theorem callArgs_ok {kvs : List KV} (hk : ∀ kv ∈ kvs, KVOk S kv) : ROk S (callArgs kvs) :=
  mapKVs_ok _ _ hk fun kv hkv => by simp [hkv.1, (parseString_ok hkv.valMem true).and]

/-- `IOk_JobSt` with names, the job as its record: a key of `jobKey` writes one field of the job (or of the call) and
perhaps one of the two remembered keys, and the proof updates the same fields -/
structure JobStItems (S : List Node) (st : JobSt) : Prop where
  job : JobItems (ItemOk S) st.job
  call : IOk S st.call
  stepsOnlyKey : IOk S st.stepsOnlyKey
  callOnlyKey : IOk S st.callOnlyKey

theorem AllI.jobSt {st : JobSt} (h : IOk S st) : JobStItems S st :=
  have h' := IOk_JobSt.1 h
  ⟨h'.1.job, h'.2.1, h'.2.2.1, h'.2.2.2⟩

theorem JobStItems.all {st : JobSt} (h : JobStItems S st) : IOk S st :=
  IOk_JobSt.2 ⟨h.job.all, h.call, h.stepsOnlyKey, h.callOnlyKey⟩

theorem jobKey_ok (cfg : Cfg) {st : JobSt} {kv : KV} (hkv : KVOk S kv) (hst : IOk S st) : ROk S (jobKey cfg st kv) := by
  have h := hst.jobSt
  have hc := IOk_WorkflowCall.1 h.call
  have hk : IOk S (some kv.key) := IOk_some.2 (IOk_str.2 hkv.1)
  have hp := hkv.keyPos
  have hv := hkv.2
  have hn := hkv.valMem
  have hm := fun sec => parseSectionMapping_ok (S := S) cfg sec hv false false
  fun_cases jobKey cfg st kv
  · have r := parseString_ok hn true
    exact ⟨JobStItems.all { h with job := { h.job with name := IOk_some.2 r.1 } }, r.2⟩
  · have r := parseString_ok hn false
    exact ⟨JobStItems.all { h with job := { h.job with needs := IOk_some.2 (IOk_cons.2 ⟨r.1, IOk_nil⟩) } }, r.2⟩
  · have r := parseStringSequence_ok hv "needs" false false
    exact ⟨JobStItems.all { h with job := { h.job with needs := r.1 } }, r.2⟩
  · have r := parseRunsOn_ok cfg hv
    exact ⟨JobStItems.all { h with job := { h.job with runsOn := IOk_some.2 r.1 }, stepsOnlyKey := hk }, r.2⟩
  · have r := parsePermissions_ok cfg hp hv
    exact ⟨JobStItems.all { h with job := { h.job with permissions := IOk_some.2 r.1 } }, r.2⟩
  · have r := parseEnvironment_ok cfg hp hv
    exact ⟨JobStItems.all { h with job := { h.job with environment := IOk_some.2 r.1 }, stepsOnlyKey := hk }, r.2⟩
  · have r := parseConcurrency_ok cfg hp hv
    exact ⟨JobStItems.all { h with job := { h.job with concurrency := IOk_some.2 r.1 } }, r.2⟩
  · have r := parseOutputs_ok cfg hv
    exact ⟨JobStItems.all { h with job := { h.job with outputs := IOk_some.2 r.1 }, stepsOnlyKey := hk }, r.2⟩
  · have r := parseEnv_ok cfg hv
    exact ⟨JobStItems.all { h with job := { h.job with env := IOk_some.2 r.1 }, stepsOnlyKey := hk }, r.2⟩
  · have r := parseDefaults_ok cfg hp hv
    exact ⟨JobStItems.all { h with job := { h.job with defaults := IOk_some.2 r.1 }, stepsOnlyKey := hk }, r.2⟩
  · have r := parseString_ok hn false
    exact ⟨JobStItems.all { h with job := { h.job with cond := IOk_some.2 r.1 } }, r.2⟩
  · have r := parseSteps_ok cfg hv
    exact ⟨JobStItems.all { h with job := { h.job with steps := r.1 }, stepsOnlyKey := hk }, r.2⟩
  · have r := parseTimeoutMinutes_ok cfg hn
    exact ⟨JobStItems.all { h with job := { h.job with timeoutMinutes := r.1 }, stepsOnlyKey := hk }, r.2⟩
  · have r := parseStrategy_ok cfg hp hv
    exact ⟨JobStItems.all { h with job := { h.job with strategy := IOk_some.2 r.1 } }, r.2⟩
  · have r := parseBool_ok hn
    exact ⟨JobStItems.all { h with job := { h.job with continueOnError := r.1 }, stepsOnlyKey := hk }, r.2⟩
  · have r := parseContainer_ok cfg "container" hp hv
    exact ⟨JobStItems.all { h with job := { h.job with container := IOk_some.2 r.1 }, stepsOnlyKey := hk }, r.2⟩
  · have r := parseServices_ok cfg hv
    exact ⟨JobStItems.all { h with job := { h.job with services := IOk_some.2 r.1 } }, r.2⟩
  · have r := parseString_ok hn false
    exact ⟨JobStItems.all { h with call := IOk_WorkflowCall.2 ⟨IOk_some.2 r.1, hc.2⟩, callOnlyKey := hk }, r.2⟩
  · have r := callArgs_ok (hm "with").1
    exact ⟨JobStItems.all { h with call := IOk_WorkflowCall.2 ⟨hc.1, IOk_some.2 r.1, hc.2.2⟩, callOnlyKey := hk },
      EOk_append.2 ⟨(hm "with").2, r.2⟩⟩
  · exact ⟨JobStItems.all { h with call := IOk_WorkflowCall.2 hc, callOnlyKey := hk }, EOk_nil⟩
  · exact ⟨JobStItems.all { h with callOnlyKey := hk }, EOk_errAt hn _ _⟩
  · have r := callArgs_ok (hm "secrets").1
    exact ⟨JobStItems.all { h with call := IOk_WorkflowCall.2 ⟨hc.1, hc.2.1, IOk_some.2 r.1⟩, callOnlyKey := hk },
      EOk_append.2 ⟨(hm "secrets").2, r.2⟩⟩
  · exact ⟨hst, EOk_one (unexpectedKey_ok hkv _ _)⟩

theorem jobFinish_ok {id : Str} (hid : IOk S id) {st : JobSt} (hst : IOk S st) : ROk S (jobFinish id st) := by
  have hj := IOk_JobSt.1 hst
  have hp := POk_of_str hid
  unfold jobFinish
  split
  · split
    · rename_i hk
      exact ⟨hj.1, EOk_one (optStr_pos hj.2.2.1 _ hk)⟩
    · exact ⟨JobItems.all { hj.1.job with workflowCall := IOk_some.2 hj.2.1 }, EOk_nil⟩
  · refine ⟨hj.1, EOk_append.2 ⟨EOk_append.2 ⟨EOk_ite (EOk_one hp) EOk_nil, EOk_ite (EOk_one hp) EOk_nil⟩, ?_⟩⟩
    split
    · rename_i hk
      exact EOk_one (optStr_pos hj.2.2.2 _ hk)
    · exact EOk_nil

theorem parseJob_ok (cfg : Cfg) {id : Str} (hid : IOk S id) {n : Node} (h : ∀ x ∈ allNodes n, x ∈ S) :
    ROk S (parseJob cfg id n) := by
  have hr := loopMapping_ok (init := ({ job := { id := id, pos := id.pos } } : JobSt))
    (parseMapping_ok cfg (jobWhat id.value) h false true) (jobKey_ok cfg) (by simp [IOk_str.1 hid, POk_of_str hid])
  have hf := jobFinish_ok hid hr.1
  exact ⟨hf.1, EOk_append.2 ⟨hr.2, hf.2⟩⟩

theorem parseJobs_ok (cfg : Cfg) {n : Node} (h : ∀ x ∈ allNodes n, x ∈ S) : ROk S (parseJobs cfg n) :=
  mapMapping_ok (parseSectionMapping_ok cfg _ h false false) fun hkv => parseJob_ok cfg (IOk_str.2 hkv.1) hkv.2

/-! ### the workflow -/

theorem workflowKey_ok (cfg : Cfg) {w : Workflow} {kv : KV} (hkv : KVOk S kv) (hw : IOk S w) : ROk S (workflowKey cfg w kv) := by
  have hw' := IOk_Workflow.1 hw
  have hp := hkv.keyPos
  have hv := hkv.2
  unfold workflowKey
  dsimp only
  split
  · simp [hw', (parseString_ok hkv.valMem true).and]
  · simp [hw', (parseEvents_ok cfg hp hv).and]
  · simp [hw', (parsePermissions_ok cfg hp hv).and]
  · simp [hw', (parseEnv_ok cfg hv).and]
  · simp [hw', (parseDefaults_ok cfg hp hv).and]
  · simp [hw', (parseConcurrency_ok cfg hp hv).and]
  · simp [hw', (parseJobs_ok cfg hv).and]
  · simp [hw', (parseString_ok hkv.valMem false).and]
  · simp [hw, unexpectedKey_ok hkv]

theorem fixDocPos_content (doc : Node) : (fixDocPos doc).content = doc.content := fixDocPos_children doc

/-- **the parser invents no position**: every string and every position of the AST comes from a node below the root of the
document; every syntax diagnostic sits at such a node or at the document node itself (after `fixDocPos`) -/
theorem parse_ok (cfg : Cfg) (doc : Node) :
    IOk (allNodesL doc.content) (parse cfg doc).1 ∧
    ∀ e ∈ (parse cfg doc).2, e.pos = (fixDocPos doc).pos ∨ ∃ v ∈ allNodesL doc.content, e.pos = v.pos := by
  simp only [parse, fixDocPos_content]
  split
  · refine ⟨by simp, ?_⟩
    intro e he
    simp only [List.mem_singleton] at he
    subst he
    exact Or.inl rfl
  · rename_i root rest hc
    have hroot : ∀ x ∈ allNodes root, x ∈ allNodesL doc.content := by
      intro x hx
      rw [hc]
      simp only [allNodesL, List.mem_append]
      exact Or.inl hx
    have hr := loopMapping_ok (init := ({} : Workflow)) (parseMapping_ok cfg "workflow" hroot false true)
      (workflowKey_ok cfg) (by simp)
    -- the two checks after the loop report at the document node
    have hdoc : ∀ (c : Prop) [Decidable c] (code : String),
        ∀ e ∈ (if c then [errAt (fixDocPos doc) code []] else []), e.pos = (fixDocPos doc).pos := by
      intro c _ code e he
      split at he
      · rw [List.mem_singleton.1 he]; rfl
      · cases he
    refine ⟨hr.1, ?_⟩
    intro e he
    rcases List.mem_append.1 he with he | he
    · rcases List.mem_append.1 he with he | he
      · exact Or.inr (hr.2 e he)
      · exact Or.inl (hdoc _ _ e he)
    · exact Or.inl (hdoc _ _ e he)

end AL.C07S
