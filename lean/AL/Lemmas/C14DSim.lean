import AL.Props.C14Wf
import AL.Model.ProjLint
import AL.Lemmas.CacheWalk
/-
  Lemmas for AL.Props.C14Doc: the caches of the project case. Whatever was looked up before, a spec whose file
  decodes to the interface `m` is answered with `m` (`CallInv`, `answer_found`; `ActInv`, `action_answer_found`), so every
  job that calls it gets `checkLocal m …` (`wcJob_checks`, `simulateJobs_wc`), every step that uses it gets `inputDiags m …`
  (`actionStep_checks`, `simulate_action`), and a job that needs a job calling it sees the outputs type of `m`
  (`needsLookups_outs`, `simulateJobs_outs`).
-/
namespace AL.C14D
open AL AL.Ast AL.CallMeta

/-! ## reusable workflows: `AL.ProjCall` -/

section Call
open AL.ProjCall

theorem cacheGet_put (c : Cache) (s t : String) (v : Option Meta) :
    cacheGet (cachePut c s v) t = if s = t then some v else cacheGet c t := by
  simp only [cacheGet, cachePut, List.find?_cons]
  by_cases h : s = t
  · simp [h]
  · simp [h]

/-- what the cache says about `spec`: nothing yet, or the interface on disk -/
def CallInv (spec : String) (m : Meta) (c : Cache) : Prop := cacheGet c spec = none ∨ cacheGet c spec = some (some m)

variable {env : AL.ProjCall.Env} {spec : String} {m : Meta}

theorem remember_inv (hd : env.disk spec = .ok m) (c : Cache) (s : String) (h : CallInv spec m c) : CallInv spec m (remember env c s) := by
  simp only [remember]
  split
  · exact h
  · split
    · exact h
    · by_cases hs : s = spec
      · subst hs
        right
        rw [cacheGet_put]
        simp [diskEntry, hd]
      · simp only [CallInv, cacheGet_put, hs, if_false]
        exact h

theorem put_none_inv (c : Cache) (s : String) (hs : s ≠ spec) (h : CallInv spec m c) : CallInv spec m (cachePut c s none) := by
  simp only [CallInv, cacheGet_put, hs, if_false]
  exact h

theorem wcJob_inv (hd : env.disk spec = .ok m) (hloc : AL.Rules.isLocalCallFormat spec = true) (c : Cache) (j : Job)
    (h : CallInv spec m c) : CallInv spec m (wcJob env c j).1 := by
  rcases AL.C10O.wcJob_shape env j with e | ⟨call, u, _, _, e | ⟨_, hnl, _, _, e⟩⟩
  · rw [e]; exact h
  · rw [e]; exact remember_inv hd c _ h
  · -- the put of a `./` spec outside the local call format is at another spec
    rw [e]; exact put_none_inv _ _ (fun e' => by rw [e', hloc] at hnl; cases hnl) h

theorem needsStep_inv (hd : env.disk spec = .ok m) (lower : String → String) (jobs : List (String × Job)) (job : Job)
    (acc : NeedsOut × List String) (id : Str) (h : CallInv spec m acc.1.cache) :
    CallInv spec m (needsStep env lower jobs job acc id).1.cache := by
  rcases AL.C10O.needsStep_shape env lower jobs job acc.2 id with ⟨_, e⟩ | ⟨j, call, u, _, _, _, e⟩
  · rw [e acc rfl]; exact h
  · rw [e acc rfl]; exact remember_inv hd _ _ h

theorem needsLookups_inv (hd : env.disk spec = .ok m) (lower : String → String) (jobs : List (String × Job)) (job : Job) (c : Cache)
    (h : CallInv spec m c) : CallInv spec m (needsLookups env lower jobs job c).cache :=
  List.foldlRecOn (motive := fun acc : NeedsOut × List String => CallInv spec m acc.1.cache) _ _ h
    fun acc hacc id _ => needsStep_inv hd lower jobs job acc id hacc

theorem callLookup_inv (hd : env.disk spec = .ok m) (job : Job) (c : Cache) (h : CallInv spec m c) :
    CallInv spec m (callLookup env job c).cache := by
  rcases AL.C10O.callLookup_shape env job with e | ⟨call, u, _, _, e⟩
  · rw [e]; exact h
  · rw [e]; exact remember_inv hd _ _ h

/-- a spec that is not skipped and whose file decodes is answered with the decoded interface, whatever was looked up before -/
theorem answer_found (hd : env.disk spec = .ok m) (hskip : skipped env spec = false) (c : Cache) (h : CallInv spec m c) :
    answer env c spec = .found m := by
  simp only [answer, hskip, Bool.false_eq_true, if_false]
  rcases h with h | h
  · simp [h, diskAnswer, hd]
  · simp [h]

/-- **a job that calls `spec`** gets `checkLocal` of the interface on disk -/
theorem wcJob_checks (hd : env.disk spec = .ok m) (hskip : skipped env spec = false) (hloc : AL.Rules.isLocalCallFormat spec = true)
    (c : Cache) (h : CallInv spec m c) (j : Job) (call : WorkflowCall) (u : Str) (hj : j.workflowCall = some call)
    (hu : call.uses = some u) (hv : u.value = spec) (hne : (u.value = "" || AL.Rules.containsExpr u) = false) :
    (wcJob env c j).2 = checkLocal m call u := by
  subst hv
  simp [wcJob, hj, hu, wcUses, hne, hloc, find, answer_found hd hskip c h, wcFound]

theorem simulateJobs_wc (hd : env.disk spec = .ok m) (hloc : AL.Rules.isLocalCallFormat spec = true) (lower : String → String)
    (jobs : List (String × Job)) : ∀ (rest : List (String × Job)) (c : Cache), CallInv spec m c →
    (∀ p ∈ rest, ∃ v ∈ simulateJobs env lower jobs rest c, v.1 = p.2.id.value ∧
        ∃ c', CallInv spec m c' ∧ v.2.wc = (wcJob env c' p.2).2) ∧
    (∀ v ∈ simulateJobs env lower jobs rest c, ∃ p ∈ rest, v.1 = p.2.id.value ∧
        ∃ c', CallInv spec m c' ∧ v.2.wc = (wcJob env c' p.2).2)
  | [], _, _ => ⟨fun p hp => (by cases hp), fun v hv => (by simp [simulateJobs] at hv)⟩
  | (k, j) :: rest, c, h => by
    have h1 := wcJob_inv hd hloc c j h
    have h2 := needsLookups_inv hd lower jobs j _ h1
    have h3 := callLookup_inv hd j _ h2
    obtain ⟨ih1, ih2⟩ := simulateJobs_wc hd hloc lower jobs rest _ h3
    simp only [simulateJobs]
    refine ⟨?_, ?_⟩
    · intro p hp
      rcases List.mem_cons.1 hp with rfl | hp
      · exact ⟨_, List.mem_cons_self .., rfl, c, h, rfl⟩
      · obtain ⟨v, hv, hh⟩ := ih1 p hp
        exact ⟨v, List.mem_cons_of_mem _ hv, hh⟩
    · intro v hv
      rcases List.mem_cons.1 hv with rfl | hv
      · exact ⟨(k, j), List.mem_cons_self .., rfl, c, h, rfl⟩
      · obtain ⟨p, hp, hh⟩ := ih2 v hv
        exact ⟨p, List.mem_cons_of_mem _ hp, hh⟩

theorem initialCache_inv (hself : env.self ≠ some spec) (w : Workflow) : CallInv spec m (initialCache env w) := by
  simp only [initialCache]
  split
  · rename_i s m' _ hs _
    left
    have : s ≠ spec := fun e => hself (by rw [hs, e])
    simp [cacheGet, this]
  · left; rfl

end Call

/-! ## local actions: `AL.ProjAction` -/

section Action
open AL.ProjAction

theorem actCacheGet_cons (c : AL.ProjAction.Cache) (s t : String) (v : Option ActionMeta) :
    AL.ProjAction.cacheGet ((s, v) :: c) t = if s = t then some v else AL.ProjAction.cacheGet c t := by
  simp only [AL.ProjAction.cacheGet, List.find?_cons]
  by_cases h : s = t
  · simp [h]
  · simp [h]

def ActInv (spec : String) (m : ActionMeta) (c : AL.ProjAction.Cache) : Prop :=
  AL.ProjAction.cacheGet c spec = none ∨ AL.ProjAction.cacheGet c spec = some (some m)

variable {env : AL.ProjAction.Env} {spec : String} {m : ActionMeta}

theorem act_remember_inv (hd : env.disk spec = .ok m) (c : AL.ProjAction.Cache) (s : String) (h : ActInv spec m c) :
    ActInv spec m (AL.ProjAction.remember env c s) := by
  simp only [AL.ProjAction.remember]
  split
  · exact h
  · split
    · exact h
    · by_cases hs : s = spec
      · subst hs
        right
        rw [actCacheGet_cons]
        simp [hd]
      · simp only [ActInv, actCacheGet_cons, hs, if_false]
        exact h

theorem actionStep_inv (hd : env.disk spec = .ok m) (c : AL.ProjAction.Cache) (st : Step) (h : ActInv spec m c) :
    ActInv spec m (actionStep env c st).1 := by
  simp only [actionStep]
  split
  · split
    · exact h
    · split
      · exact h
      · split
        · exact act_remember_inv hd _ _ h
        · exact h
  · exact h

theorem exprStep_inv (hd : env.disk spec = .ok m) (c : AL.ProjAction.Cache) (st : Step) (h : ActInv spec m c) :
    ActInv spec m (exprStep env c st).1 := by
  simp only [exprStep]
  split
  · split
    · exact h
    · split
      · exact act_remember_inv hd _ _ h
      · exact h
  · exact h

/-- a local action whose metadata file decodes is answered with the metadata, whatever was looked up before -/
theorem action_answer_found (hd : env.disk spec = .ok m) (hp : env.hasProject = true) (hs : spec.startsWith "./" = true)
    (c : AL.ProjAction.Cache) (h : ActInv spec m c) : ∃ cached, AL.ProjAction.answer env c spec = .found m cached := by
  simp only [AL.ProjAction.answer, hp, hs, Bool.not_true, Bool.or_self, Bool.false_eq_true, if_false]
  rcases h with h | h
  · exact ⟨false, by simp [h, hd]⟩
  · exact ⟨true, by simp [h]⟩

/-- **a step that uses the local action `spec`**: the metadata checks (where the action is used first) followed by exactly
`inputDiags` of the metadata on disk -/
theorem actionStep_checks (hd : env.disk spec = .ok m) (hp : env.hasProject = true) (hs : spec.startsWith "./" = true)
    (c : AL.ProjAction.Cache) (h : ActInv spec m c) (st : Step) (e : ExecAction) (u : Str) (he : st.exec = .action e)
    (hu : e.uses = some u) (hv : u.value = spec) (hne : AL.Rules.containsExpr u = false) :
    ∃ pre, (actionStep env c st).2 = pre ++ inputDiags m spec e u.pos ∧ (pre = [] ∨ pre = metadataDiags env m u.pos) := by
  subst hv
  obtain ⟨cached, ha⟩ := action_answer_found hd hp hs c h
  simp only [actionStep, he, hu, hne, Bool.false_eq_true, if_false, hs, if_true, ha, localStep]
  cases cached
  · exact ⟨_, rfl, Or.inr rfl⟩
  · exact ⟨[], by simp, Or.inl rfl⟩

theorem stepsLoop_action (hd : env.disk spec = .ok m) : ∀ (steps : List Step) (o : Out), ActInv spec m o.cache →
    ActInv spec m (stepsLoop env steps o).cache ∧
    ∃ L, (stepsLoop env steps o).action = o.action ++ L ∧
      (∀ st ∈ steps, ∃ c', ActInv spec m c' ∧ ∀ dg ∈ (actionStep env c' st).2, dg ∈ L) ∧
      (∀ dg ∈ L, ∃ st ∈ steps, ∃ c', ActInv spec m c' ∧ dg ∈ (actionStep env c' st).2)
  | [], o, h => ⟨h, [], (by simp [stepsLoop]), fun st hst => (by cases hst), fun dg hdg => (by cases hdg)⟩
  | st :: rest, o, h => by
    have h1 := actionStep_inv hd o.cache st h
    have h2 := exprStep_inv hd _ st h1
    obtain ⟨ih0, L, ihe, ih1, ih2⟩ := stepsLoop_action hd rest
      { cache := (exprStep env (actionStep env o.cache st).1 st).1, action := o.action ++ (actionStep env o.cache st).2,
        expr := o.expr ++ (exprStep env (actionStep env o.cache st).1 st).2 } h2
    simp only [stepsLoop]
    refine ⟨ih0, (actionStep env o.cache st).2 ++ L, by rw [ihe, List.append_assoc], ?_, ?_⟩
    · intro s hs
      rcases List.mem_cons.1 hs with rfl | hs
      · exact ⟨o.cache, h, fun dg hdg => List.mem_append_left _ hdg⟩
      · obtain ⟨c', hc', hh⟩ := ih1 s hs
        exact ⟨c', hc', fun dg hdg => List.mem_append_right _ (hh dg hdg)⟩
    · intro dg hdg
      rcases List.mem_append.1 hdg with hdg | hdg
      · exact ⟨st, List.mem_cons_self .., o.cache, h, hdg⟩
      · obtain ⟨s, hs, hh⟩ := ih2 dg hdg
        exact ⟨s, List.mem_cons_of_mem _ hs, hh⟩

theorem simulate_action (hd : env.disk spec = .ok m) (w : Workflow) :
    (∀ j ∈ AL.Rules.jobsOf w, ∀ st ∈ AL.Rules.stepsOf j, ∃ c', ActInv spec m c' ∧
        ∀ dg ∈ (actionStep env c' st).2, dg ∈ (AL.ProjAction.simulate env w).action) ∧
    (∀ dg ∈ (AL.ProjAction.simulate env w).action, ∃ j ∈ AL.Rules.jobsOf w, ∃ st ∈ AL.Rules.stepsOf j, ∃ c', ActInv spec m c' ∧
        dg ∈ (actionStep env c' st).2) := by
  simp only [AL.ProjAction.simulate]
  have : ∀ (js : List Job) (o : Out), ActInv spec m o.cache →
      ActInv spec m (js.foldl (fun o j => stepsLoop env (AL.Rules.stepsOf j) o) o).cache ∧
      ∃ L, (js.foldl (fun o j => stepsLoop env (AL.Rules.stepsOf j) o) o).action = o.action ++ L ∧
        (∀ j ∈ js, ∀ st ∈ AL.Rules.stepsOf j, ∃ c', ActInv spec m c' ∧ ∀ dg ∈ (actionStep env c' st).2, dg ∈ L) ∧
        (∀ dg ∈ L, ∃ j ∈ js, ∃ st ∈ AL.Rules.stepsOf j, ∃ c', ActInv spec m c' ∧ dg ∈ (actionStep env c' st).2) := by
    intro js
    induction js with
    | nil => intro o h; exact ⟨h, [], (by simp), fun j hj => (by cases hj), fun dg hdg => (by cases hdg)⟩
    | cons j rest ih =>
      intro o h
      obtain ⟨s0, L1, se, s1, s2⟩ := stepsLoop_action hd (AL.Rules.stepsOf j) o h
      obtain ⟨i0, L2, ie, i1, i2⟩ := ih _ s0
      simp only [List.foldl_cons]
      refine ⟨i0, L1 ++ L2, by rw [ie, se, List.append_assoc], ?_, ?_⟩
      · intro j' hj' st hst
        rcases List.mem_cons.1 hj' with rfl | hj'
        · obtain ⟨c', hc', hh⟩ := s1 st hst
          exact ⟨c', hc', fun dg hdg => List.mem_append_left _ (hh dg hdg)⟩
        · obtain ⟨c', hc', hh⟩ := i1 j' hj' st hst
          exact ⟨c', hc', fun dg hdg => List.mem_append_right _ (hh dg hdg)⟩
      · intro dg hdg
        rcases List.mem_append.1 hdg with hdg | hdg
        · obtain ⟨st, hst, hh⟩ := s2 dg hdg
          exact ⟨j, List.mem_cons_self .., st, hst, hh⟩
        · obtain ⟨j', hj', hh⟩ := i2 dg hdg
          exact ⟨j', List.mem_cons_of_mem _ hj', hh⟩
  obtain ⟨_, L, he, h1, h2⟩ := this (AL.Rules.jobsOf w) {} (Or.inl rfl)
  have he' : (List.foldl (fun o j => stepsLoop env (AL.Rules.stepsOf j) o) {} (AL.Rules.jobsOf w)).action = L := by
    rw [he]; rfl
  rw [he']
  exact ⟨h1, h2⟩

end Action

end AL.C14D

/-! ## `needs.<job>.outputs`: what `calcNeedsType` finds for a needed job that calls `spec` -/

namespace AL.C14D
open AL AL.Ast AL.CallMeta AL.ProjCall

theorem lookup_append_of_some (k : String) (v : Ty) : ∀ (a b : List (String × Ty)), Ty.lookup k a = some v → Ty.lookup k (a ++ b) = some v
  | [], _, h => by simp [Ty.lookup] at h
  | (k', v') :: rest, b, h => by
    simp only [List.cons_append, Ty.lookup] at h ⊢
    split
    · rename_i hk; simpa [hk] using h
    · rename_i hk; simp only [hk, if_false] at h; exact lookup_append_of_some k v rest b h

theorem lookup_append_of_absent (k : String) : ∀ (a b : List (String × Ty)), (∀ p ∈ a, p.1 ≠ k) → Ty.lookup k (a ++ b) = Ty.lookup k b
  | [], _, _ => rfl
  | (k', v') :: rest, b, h => by
    have hk : k' ≠ k := h (k', v') (List.mem_cons_self ..)
    simp only [List.cons_append, Ty.lookup, hk, if_false]
    exact lookup_append_of_absent k rest b (fun p hp => h p (List.mem_cons_of_mem _ hp))

section Needs
variable {env : AL.ProjCall.Env} {spec : String} {m : Meta}

/-- the invariant of the loop over `needs:` as far as the needed job `i` is concerned -/
structure NeedsInv (spec : String) (m : Meta) (i : String) (acc : NeedsOut × List String) : Prop where
  cache : CallInv spec m acc.1.cache
  keys : ∀ p ∈ acc.1.outs, p.1 ∈ acc.2
  found : i ∈ acc.2 → Ty.lookup i acc.1.outs = some (outputsTy m)

theorem needsStep_needsInv (hd : env.disk spec = .ok m) (hskip : skipped env spec = false) (lower : String → String)
    (jobs : List (String × Job)) (job : Job) (i : String) (j : Job) (call : WorkflowCall) (u : Str)
    (hj : AL.RuleExpr.lookupJob i jobs = some j) (hw : j.workflowCall = some call) (hu : call.uses = some u) (hv : u.value = spec)
    (acc : NeedsOut × List String) (id : Str) (h : NeedsInv spec m i acc) :
    NeedsInv spec m i (needsStep env lower jobs job acc id) ∧
    (i ∈ acc.2 → i ∈ (needsStep env lower jobs job acc id).2) ∧
    (lower id.value = i → i ≠ lower job.id.value → i ∈ (needsStep env lower jobs job acc id).2) := by
  simp only [needsStep]
  split
  · rename_i hself
    exact ⟨h, fun x => x, fun e hne => absurd (e ▸ hself) hne⟩
  · split
    · rename_i hseen
      refine ⟨h, fun x => x, fun e _ => ?_⟩
      rw [← e]
      simpa using hseen
    · rename_i hns
      have hns' : lower id.value ∉ acc.2 := by simpa using hns
      split
      · rename_i hl
        refine ⟨h, fun x => x, fun e _ => ?_⟩
        rw [e, hj] at hl
        cases hl
      · rename_i j' hl
        split
        · rename_i hnc
          refine ⟨⟨h.cache, fun p hp => List.mem_append_left _ (h.keys p hp), fun hi => ?_⟩,
            fun hi => List.mem_append_left _ hi, fun e _ => ?_⟩
          · rcases List.mem_append.1 hi with hi | hi
            · exact h.found hi
            · exfalso
              simp only [List.mem_singleton] at hi
              rw [← hi, hj] at hl
              cases hl
              rw [hw] at hnc
              cases hnc
          · rw [← e]; simp
        · rename_i call' hc'
          split
          · rename_i hnu
            refine ⟨⟨h.cache, fun p hp => List.mem_append_left _ (h.keys p hp), fun hi => ?_⟩,
              fun hi => List.mem_append_left _ hi, fun e _ => ?_⟩
            · rcases List.mem_append.1 hi with hi | hi
              · exact h.found hi
              · exfalso
                simp only [List.mem_singleton] at hi
                rw [← hi, hj] at hl
                cases hl
                rw [hw] at hc'
                cases hc'
                rw [hu] at hnu
                cases hnu
            · rw [← e]; simp
          · rename_i u' hu'
            refine ⟨⟨remember_inv hd _ _ h.cache, ?_, ?_⟩, fun hi => List.mem_append_left _ hi, fun e _ => by rw [← e]; simp⟩
            · intro p hp
              simp only at hp
              rcases List.mem_append.1 hp with hp | hp
              · exact List.mem_append_left _ (h.keys p hp)
              · simp only [outsFound] at hp
                split at hp
                · simp only [List.mem_singleton] at hp
                  subst hp
                  simp
                · cases hp
            · intro hi
              simp only
              rcases List.mem_append.1 hi with hi | hi
              · exact lookup_append_of_some _ _ _ _ (h.found hi)
              · have hie : i = lower id.value := by simpa using hi
                have habs : ∀ p ∈ acc.1.outs, p.1 ≠ i := by
                  intro p hp e
                  exact hns' (by rw [← hie, ← e]; exact h.keys p hp)
                rw [lookup_append_of_absent _ _ _ habs]
                rw [← hie, hj] at hl
                cases hl
                rw [hw] at hc'
                cases hc'
                rw [hu] at hu'
                cases hu'
                simp only [find, hv, answer_found hd hskip _ h.cache, outsFound, Ty.lookup]
                rw [if_pos hie.symm]

/-- **`calcNeedsType`**: a needed job `i` (other than the job itself) that calls `spec` gets the outputs type of the interface
on disk -/
theorem needsLookups_outs (hd : env.disk spec = .ok m) (hskip : skipped env spec = false) (lower : String → String)
    (jobs : List (String × Job)) (job : Job) (c : Cache) (hc : CallInv spec m c) (i : String) (j : Job) (call : WorkflowCall) (u : Str)
    (hin : i ∈ (job.needs.getD []).map (fun id => lower id.value)) (hself : i ≠ lower job.id.value)
    (hj : AL.RuleExpr.lookupJob i jobs = some j) (hw : j.workflowCall = some call) (hu : call.uses = some u) (hv : u.value = spec) :
    Ty.lookup i (needsLookups env lower jobs job c).outs = some (outputsTy m) := by
  simp only [needsLookups]
  have key : ∀ (ids : List Str) (acc : NeedsOut × List String), NeedsInv spec m i acc →
      NeedsInv spec m i (ids.foldl (needsStep env lower jobs job) acc) ∧
      (i ∈ acc.2 ∨ i ∈ ids.map (fun id => lower id.value) → i ∈ (ids.foldl (needsStep env lower jobs job) acc).2) := by
    intro ids
    induction ids with
    | nil => intro acc h; exact ⟨h, fun hi => hi.elim id (fun h' => by simp at h')⟩
    | cons id rest ih =>
      intro acc h
      obtain ⟨h1, h2, h3⟩ := needsStep_needsInv hd hskip lower jobs job i j call u hj hw hu hv acc id h
      obtain ⟨i1, i2⟩ := ih _ h1
      refine ⟨i1, fun hi => i2 ?_⟩
      rcases hi with hi | hi
      · exact Or.inl (h2 hi)
      · simp only [List.map_cons, List.mem_cons] at hi
        rcases hi with hi | hi
        · exact Or.inl (h3 hi.symm hself)
        · exact Or.inr hi
  obtain ⟨k1, k2⟩ := key (job.needs.getD []) (({ cache := c } : NeedsOut), ([] : List String))
    ⟨hc, fun p hp => (by cases hp), fun hi => (by cases hi)⟩
  exact k1.found (k2 (Or.inr hin))

/-- the simulation, job by job: the ids are the jobs' ids, and the `outs` of a job are what `calcNeedsType` looks up after
rule workflow-call ran on the job -/
theorem simulateJobs_outs (hd : env.disk spec = .ok m) (hloc : AL.Rules.isLocalCallFormat spec = true) (lower : String → String)
    (jobs : List (String × Job)) : ∀ (rest : List (String × Job)) (c : Cache), CallInv spec m c →
    (simulateJobs env lower jobs rest c).map (·.1) = rest.map (·.2.id.value) ∧
    ∀ p ∈ rest, ∃ v ∈ simulateJobs env lower jobs rest c, v.1 = p.2.id.value ∧
        ∃ c', CallInv spec m c' ∧ v.2.outs = (needsLookups env lower jobs p.2 c').outs
  | [], _, _ => ⟨rfl, fun p hp => (by cases hp)⟩
  | (k, j) :: rest, c, h => by
    have h1 := wcJob_inv hd hloc c j h
    have h2 := needsLookups_inv hd lower jobs j _ h1
    have h3 := callLookup_inv hd j _ h2
    obtain ⟨ih1, ih2⟩ := simulateJobs_outs hd hloc lower jobs rest _ h3
    simp only [simulateJobs]
    refine ⟨by simp only [List.map_cons, ih1], ?_⟩
    intro p hp
    rcases List.mem_cons.1 hp with rfl | hp
    · exact ⟨_, List.mem_cons_self .., rfl, _, h1, rfl⟩
    · obtain ⟨v, hv, hh⟩ := ih2 p hp
      exact ⟨v, List.mem_cons_of_mem _ hv, hh⟩

end Needs
end AL.C14D
