import AL.Lemmas.C14DCallee
import AL.Lemmas.C05DEvents
/-
  Lemmas for AL.Props.C14Doc: from the `workflow_call:` node up to the document — `callEvent_read`,
  `parseEvents_read`, `fromDocAst_read`.
-/
namespace AL.C14D
open AL.Yaml AL.PW AL.Ast AL.CallMeta AL.C10M

/-! ### the `workflow_call:` node -/

theorem callEventKey_inputs_keep (cfg : Cfg) (st : CallEventSt) (kv : KV) (hne : kv.id ≠ "inputs") :
    (callEventKey cfg st kv).1.inputs = st.inputs :=
  (callEventKey_frame cfg st kv).1 hne

theorem callEventKey_secrets_keep (cfg : Cfg) (st : CallEventSt) (kv : KV) (hne : kv.id ≠ "secrets") :
    (callEventKey cfg st kv).1.secrets = st.secrets :=
  (callEventKey_frame cfg st kv).2.1 hne

theorem callEventKey_outputs_keep (cfg : Cfg) (st : CallEventSt) (kv : KV) (hne : kv.id ≠ "outputs") :
    (callEventKey cfg st kv).1.outputs = st.outputs :=
  (callEventKey_frame cfg st kv).2.2 hne

def inputsFold (l : List CallInput) : List (String × CallMeta.Input) := l.foldl (fun m i => put m i.id (inputOfAst i)) []
def secretsFold (l : List (String × CallSecret)) : List (String × CallMeta.Secret) :=
  l.foldl (fun m s => put m s.1 (⟨s.2.name.value, boolOf s.2.required⟩ : CallMeta.Secret)) []
def outputsFold (l : List (String × CallOutput)) : List (String × String) := l.foldl (fun m o => put m o.1 o.2.name.value) []

theorem fromAst_folds (i : Option (List CallInput)) (s : Option (List (String × CallSecret))) (o : Option (List (String × CallOutput))) :
    fromAst i s o = { inputs := inputsFold (i.getD []), outputs := outputsFold (o.getD []), secrets := secretsFold (s.getD []) } := rfl

/-- **the `workflow_call:` node**: the interface the AST of an accepted node gives is the one read from the node -/
theorem callEvent_read (cfg : Cfg) (pos : Yaml.Pos) (c : Node) (hs : SaneTo 3 c) (hnp : NoPlaceholderRequired c)
    (hc : (parseWorkflowCallEvent cfg pos c).2 = []) :
    fromEvent (parseWorkflowCallEvent cfg pos c).1 = some (readCall cfg (some c)) := by
  simp only [parseWorkflowCallEvent, parseSectionMapping] at hc ⊢
  obtain ⟨hm, hl⟩ := List.append_eq_nil_iff.1 hc
  simp only [fromEvent, fromAst_folds, readCall, Option.some.injEq, Meta.mk.injEq]
  -- each section is written by its own key; `inputs_read` … turn what it stored into the section node's entries
  refine ⟨?_, ?_, ?_⟩
  · obtain ⟨hf, hok⟩ := sect_field cfg _ c true (callEventKey cfg) _ (fun st => inputsFold (st.inputs.getD [])) "inputs"
      (fun _ n => inputsFold (callInputs cfg (parseSectionMapping cfg "inputs" n true false).1).1)
      (fun n => (parseSectionMapping cfg "inputs" n true false).2 = [] ∧ (callInputs cfg (parseSectionMapping cfg "inputs" n true false).1).2 = [])
      (fun st a ha => by rw [callEventKey_inputs_keep cfg st a ha])
      (fun st a ha hst => by
        simp only [callEventKey, ha] at hst ⊢
        exact ⟨rfl, List.append_eq_nil_iff.1 hst⟩)
      (fun _ => hs.sane) hm hl
    rw [hf, inputsOf, sectionOf]
    cases hv : attr "inputs" c with
    | none => rfl
    | some n =>
      obtain ⟨k, hmem, _⟩ := attr_mem hv
      exact inputs_read cfg n (hs.2 (k, n) hmem).2 (hnp (k, n) hmem) (hok n hv).1 (hok n hv).2
  · obtain ⟨hf, hok⟩ := sect_field cfg _ c true (callEventKey cfg) _ (fun st => outputsFold (st.outputs.getD [])) "outputs"
      (fun _ n => outputsFold (mapKVs (callOutput cfg) (parseSectionMapping cfg "outputs" n true false).1).1)
      (fun n => (parseSectionMapping cfg "outputs" n true false).2 = [])
      (fun st a ha => by rw [callEventKey_outputs_keep cfg st a ha])
      (fun st a ha hst => by
        simp only [callEventKey, ha] at hst ⊢
        exact ⟨rfl, (List.append_eq_nil_iff.1 hst).1⟩)
      (fun _ => hs.sane) hm hl
    rw [hf, outputsOf, sectionOf]
    cases hv : attr "outputs" c with
    | none => rfl
    | some n =>
      obtain ⟨k, hmem, _⟩ := attr_mem hv
      exact outputs_read cfg n (hs.2 (k, n) hmem).2.sane (hok n hv)
  · obtain ⟨hf, hok⟩ := sect_field cfg _ c true (callEventKey cfg) _ (fun st => secretsFold (st.secrets.getD [])) "secrets"
      (fun _ n => secretsFold (mapKVs (callSecret cfg) (parseSectionMapping cfg "secrets" n true false).1).1)
      (fun n => (parseSectionMapping cfg "secrets" n true false).2 = [] ∧
        (mapKVs (callSecret cfg) (parseSectionMapping cfg "secrets" n true false).1).2 = [])
      (fun st a ha => by rw [callEventKey_secrets_keep cfg st a ha])
      (fun st a ha hst => by
        simp only [callEventKey, ha] at hst ⊢
        exact ⟨rfl, List.append_eq_nil_iff.1 hst⟩)
      (fun _ => hs.sane) hm hl
    rw [hf, secretsOf, sectionOf]
    cases hv : attr "secrets" c with
    | none => rfl
    | some n =>
      obtain ⟨k, hmem, _⟩ := attr_mem hv
      exact secrets_read cfg n (hs.2 (k, n) hmem).2 (hnp (k, n) hmem) (hok n hv).1 (hok n hv).2

/-! ### the value of `on:` -/

theorem fromEvent_call (cfg : Cfg) (pos : Yaml.Pos) (v : Node) : (fromEvent (parseWorkflowCallEvent cfg pos v).1).isSome = true := by
  simp [parseWorkflowCallEvent, fromEvent]

/-- the first `workflow_call` event of the loop over the keys of `on:` is the one the key `workflow_call` makes -/
theorem fromEvents_loop (cfg : Cfg) : ∀ (kvs : List KV) (st : List Event), fromEvents st = none →
    fromEvents (loop (eventOfKey cfg) st kvs).1 =
      (kvs.find? (fun kv => kv.id = "workflow_call")).elim none
        (fun kv => fromEvent (parseWorkflowCallEvent cfg kv.key.pos kv.val).1)
  | [], st, h => by simpa using h
  | kv :: rest, st, h => by
    rw [AL.C03P.loop_cons_fst]
    obtain ⟨es, he, hcall, hother⟩ := eventOfKey_shape cfg st kv
    by_cases hk : kv.id = "workflow_call"
    · obtain ⟨hes, _⟩ := hcall hk
      simp only [List.find?_cons, hk, decide_true, Option.elim]
      cases hf : fromEvent (parseWorkflowCallEvent cfg kv.key.pos kv.val).1 with
      | none => have := fromEvent_call cfg kv.key.pos kv.val; rw [hf] at this; cases this
      | some m =>
        apply fromEvents_loop_some
        rw [he, fromEvents_append_none st es h, hes]
        simp only [fromEvents, hf]
    · simp only [List.find?_cons, hk, decide_false]
      apply fromEvents_loop cfg rest
      rw [he, fromEvents_append_none st es h]
      exact hother hk

/-- **the value of `on:`**: the interface taken from the AST of an accepted `on:` is the one read from the node -/
theorem parseEvents_read (cfg : Cfg) (pos : Yaml.Pos) (on : Node) (hc : (parseEvents cfg pos on).2 = [])
    (hsane : ∀ c, attr "workflow_call" on = some c → SaneTo 3 c ∧ NoPlaceholderRequired c)
    (m : Meta) (hm : fromEvents ((parseEvents cfg pos on).1.getD []) = some m) :
    m = readCall cfg (attr "workflow_call" on) := by
  cases hk : on.kind with
  | mapping =>
    simp only [parseEvents, hk, parseSectionMapping] at hc hm
    obtain ⟨hpm, hl⟩ := List.append_eq_nil_iff.1 hc
    obtain ⟨_, heq, _, _, _⟩ := parseMapping_clean_eq cfg _ on false true hpm
    rw [heq] at hl hm
    simp only [Option.getD_some] at hm
    rw [fromEvents_loop cfg _ [] rfl, match_find cfg "workflow_call"
      (fun kv => fromEvent (parseWorkflowCallEvent cfg kv.key.pos kv.val).1) none (pairs on.content)] at hm
    cases hf : (pairs on.content).find? (fun q => q.1.value = "workflow_call") with
    | none => rw [hf] at hm; cases hm
    | some q =>
      rw [hf] at hm
      simp only [Option.elim] at hm
      obtain ⟨hmem, hqv⟩ := find_pair_key "workflow_call" _ q hf
      have hval : attr "workflow_call" on = some q.2 := by
        simp only [attr, hk, if_true, ← find_pair_value, hf, Option.map_some]
      obtain ⟨st, hst⟩ := loop_clean_mem (eventOfKey cfg) _ [] hl (mkKV cfg true q) (List.mem_map.2 ⟨_, hmem, rfl⟩)
      have hid : (mkKV cfg true q).id = "workflow_call" := hqv
      simp only [eventOfKey, hid] at hst
      obtain ⟨h1, h2⟩ := hsane q.2 hval
      have := callEvent_read cfg (mkKV cfg true q).key.pos q.2 h1 h2 hst
      rw [hval]
      have hm' : fromEvent (parseWorkflowCallEvent cfg (mkKV cfg true q).key.pos (mkKV cfg true q).val).1 = some m := hm
      have hv2 : (mkKV cfg true q).val = q.2 := rfl
      rw [hv2, this] at hm'
      exact (Option.some.inj hm').symm
  | scalar =>
    have hat : attr "workflow_call" on = none := by simp [attr, hk]
    rw [hat]
    simp only [parseEvents, hk] at hm
    by_cases hv : on.value = "workflow_call"
    · simp only [hv, Option.getD_some, fromEvents, fromEvent, Option.some.injEq] at hm
      rw [← hm]; rfl
    · exfalso
      revert hm
      split
      · simp [fromEvents, fromEvent]
      · simp [fromEvents, fromEvent]
      · simp [fromEvents]
      · rename_i heq; exact absurd heq hv
      · split <;> simp [fromEvents, fromEvent]
  | sequence =>
    have hat : attr "workflow_call" on = none := by simp [attr, hk]
    rw [hat]
    simp only [parseEvents, hk] at hm hc
    obtain ⟨_, hc2⟩ := List.append_eq_nil_iff.1 hc
    simp only [Option.getD_some] at hm
    exact (eventsOfSeq_call on.content m hc2 hm).1
  | document => simp [parseEvents, hk, fromEvents] at hm
  | alias => simp [parseEvents, hk, fromEvents] at hm

/-! ### the document -/

theorem workflowKey_on_keep (cfg : Cfg) (w : Workflow) (kv : KV) (hne : kv.id ≠ "on") : (workflowKey cfg w kv).1.on = w.on :=
  (workflowKey_frame cfg w kv).on hne

/-- what is asked of the `workflow_call:` node of the document: yaml.v3's guarantees (scalars are leaves, `!!bool` /
`!!null` scalars carry one of their spellings), no alias and no `!!binary` (the model follows neither), and no `required:`
in it is tagged `!!str` (in an accepted document: is a `${{ }}` placeholder, the only `!!str` that `parseBool` accepts) -/
def CalleeSane (doc : Node) : Prop := ∀ c, callNode doc = some c → SaneTo 3 c ∧ NoPlaceholderRequired c

/-- **the document**: for a document the parser accepts without a diagnostic, the interface `WriteWorkflowCallEvent` builds
from the AST is the interface read from the document -/
theorem fromDocAst_read (cfg : Cfg) (doc : Node) (hc : (parse cfg doc).2 = []) (hsane : CalleeSane doc)
    (m : Meta) (hm : fromDocAst cfg doc = some m) : m = readMeta cfg doc := by
  obtain ⟨on, pos, hdoc, hon, hcl⟩ := AL.C05D.parse_on_written cfg doc hc
  obtain ⟨root, hroot, hpm, _⟩ := AL.C05D.parse_clean cfg doc hc
  -- `AL.C05D.docOn` and `onNode` name the same node: the root is a mapping
  have hcn : callNode doc = attr "workflow_call" on := by
    rw [AL.C05D.docOn, hroot, Option.bind_some, mget_eq_attr cfg _ root true hpm "on"] at hdoc
    rw [callNode, onNode, show rootOf doc = some root from hroot, Option.bind_some, hdoc]
    rfl
  rw [fromDocAst, hon] at hm
  rw [readMeta, hcn]
  exact parseEvents_read cfg pos on hcl (fun c hc' => hsane c (hcn ▸ hc')) m hm

end AL.C14D
