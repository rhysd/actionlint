import AL.Lemmas.NeedsDfs
/-
  `detectFirstCycle`: the top-level loop over the roots — what it returns (`detectFirstCycle_spec`), and, with two
  facts about `Spec.Walk`, that it finds a back edge in every cyclic graph (`detectFirstCycle_of_cyclic`).
-/
namespace AL.Needs
open AL.Spec

/-- Invariant of the root loop: no node is active, finished nodes are closed and cycle-free. -/
structure TopInv (g : Graph) (st : List Status) : Prop where
  len : st.length = g.length
  noact : ∀ u : Nat, st[u]? ≠ some Status.active
  closed : Closed g st
  nocyc : NoCyc g st

theorem init_getElem? (g : Graph) (u : Nat) (s : Status) (h : (g.map fun _ => Status.new)[u]? = some s) :
    s = Status.new := by
  rw [List.getElem?_map] at h
  cases hg : g[u]? <;> simp [hg] at h
  exact h.symm

theorem topInv_init (g : Graph) : TopInv g (g.map fun _ => Status.new) := by
  refine ⟨by simp, ?_, ?_, ?_⟩
  · intro u hu; cases init_getElem? g u _ hu
  · intro u hu; cases init_getElem? g u _ hu
  · intro u hu; cases init_getElem? g u _ hu

theorem TopInv.inv {g : Graph} {st : List Status} (h : TopInv g st) : Inv g st [] :=
  ⟨h.len, .nil, fun u => by simp [h.noact u], .nil, h.closed, h.nocyc⟩

theorem Inv.top {g : Graph} {st : List Status} (h : Inv g st []) : TopInv g st :=
  ⟨h.len, fun u hu => by simpa using (h.act u).1 hu, h.closed, h.nocyc⟩

/-- With `g.length` units of fuel `detectCyclicNode` at a new root is a run of the loop. -/
theorem detectCyclicNode_dfs {g : Graph} {st : List Status} {v : Nat} (hi : TopInv g st) :
    Dfs g (setStatus st v .active) v (g.succ v) (detectCyclicNode g g.length st v).1
      (detectCyclicNode g g.length st v).2 := by
  apply visitList_dfs
  have := countNew_le_length (setStatus st v .active)
  rwa [length_setStatus, hi.len] at this

/-- What is known about the state in which a back edge `(a, b)` has been found. -/
structure Found (g : Graph) (st : List Status) (a b : Nat) : Prop where
  ex : ∃ stack', Inv g st (a :: stack') ∧ b ∈ a :: stack' ∧ Link g st a b

theorem Found.len {g : Graph} {st : List Status} {a b : Nat} (h : Found g st a b) : st.length = g.length := by
  obtain ⟨_, i, _⟩ := h.ex
  exact i.len

/-- One root: without a back edge the invariant of the root loop holds again, no node has become new and the
root is finished; with one, the search has stopped in a `Found` state. -/
theorem detectCyclicNode_spec {g : Graph} (hwf : WF g) {st : List Status} {v : Nat} (hi : TopInv g st)
    (hv : st[v]? = some Status.new) :
    match detectCyclicNode g g.length st v with
    | (none, st') => TopInv g st' ∧ (∀ u : Nat, st'[u]? = some Status.new → st[u]? = some Status.new) ∧
        st'[v]? = some Status.finished
    | (some e, st') => Found g st' e.1 e.2 := by
  have d := detectCyclicNode_dfs (v := v) hi
  rcases hres : detectCyclicNode g g.length st v with ⟨r, st'⟩
  rw [hres] at d
  obtain ⟨m, res⟩ := d.inv hwf [] (hi.inv.push hv (by simp)) (.start ..)
  cases r with
  | none => exact ⟨res.1.top, ((Mono.set hv (by decide) (by decide)).trans m).new, res.2⟩
  | some e => exact ⟨res⟩

/-- The root loop: without a back edge its invariant holds at the end and no node of `order` is new any more. -/
theorem detectFirstCycle_spec {g : Graph} (hwf : WF g) (order : List Nat) {st : List Status} (hi : TopInv g st) :
    match detectFirstCycle g order st with
    | (none, st') => TopInv g st' ∧ (∀ u : Nat, st'[u]? = some Status.new → st[u]? = some Status.new) ∧
        ∀ v ∈ order, st'[v]? ≠ some Status.new
    | (some e, st') => Found g st' e.1 e.2 := by
  induction order generalizing st with
  | nil => exact ⟨hi, fun _ h => h, by simp⟩
  | cons v rest ih =>
    -- the rest of the loop, run from a state `st1` in which `v` is no longer new
    have step : ∀ st1, TopInv g st1 → (∀ u : Nat, st1[u]? = some Status.new → st[u]? = some Status.new) →
        st1[v]? ≠ some Status.new →
        match detectFirstCycle g rest st1 with
        | (none, st') => TopInv g st' ∧ (∀ u : Nat, st'[u]? = some Status.new → st[u]? = some Status.new) ∧
            ∀ x ∈ v :: rest, st'[x]? ≠ some Status.new
        | (some e, st') => Found g st' e.1 e.2 := by
      intro st1 i1 n1 hv1
      have h2 := ih i1
      rcases hr : detectFirstCycle g rest st1 with ⟨r, st'⟩
      rw [hr] at h2
      cases r with
      | some e => exact h2
      | none =>
        obtain ⟨i2, n2, o2⟩ := h2
        exact ⟨i2, fun u hu => n1 u (n2 u hu), List.forall_mem_cons.2 ⟨fun hnew => hv1 (n2 v hnew), o2⟩⟩
    rw [detectFirstCycle]
    by_cases hv : st[v]? = some Status.new
    · rw [if_pos hv]
      have h1 := detectCyclicNode_spec hwf hi hv
      rcases heq : detectCyclicNode g g.length st v with ⟨r1, st1⟩
      rw [heq] at h1
      cases r1 with
      | some e => exact h1
      | none => exact step st1 h1.1 h1.2.1 (by simp [h1.2.2])
    · rw [if_neg hv]
      exact step st hi (fun _ h => h) hv

/-! ### Walks and reachability -/

theorem _root_.AL.Spec.Walk.reach_last {g : Graph} {l : List Nat} (h : Walk g l) :
    ∀ x ∈ l.head?, ∀ y ∈ l.getLast?, Reach g x y := by
  induction h with
  | single v hv =>
    intro x hx y hy
    simp at hx hy
    subst hx hy
    exact .refl _
  | cons v w rest hv he hw ih =>
    intro x hx y hy
    simp at hx
    subst hx
    refine .step _ w _ he (ih w (by simp) y ?_)
    simpa [List.getLast?_cons_cons] using hy

theorem _root_.AL.Spec.Walk.head_lt {g : Graph} {l : List Nat} (h : Walk g l) : ∀ x ∈ l.head?, x < g.length := by
  cases h <;> simp_all

theorem not_cyclic_of_all_finished {g : Graph} {st : List Status}
    (hall : ∀ v, v < g.length → st[v]? = some Status.finished) (hn : NoCyc g st) : ¬ Cyclic g := by
  rintro ⟨vs, hw, hlen, hhl⟩
  cases hw with
  | single v hv => simp at hlen
  | cons v w rest hv he hw' =>
    have hr := hw'.reach_last w (by simp) v (by
      simp only [List.head?_cons, List.getLast?_cons_cons] at hhl
      exact hhl ▸ rfl)
    exact hn v (hall v hv) w he hr

/-- A cyclic graph makes the root loop return a back edge, for every order that covers all nodes. -/
theorem detectFirstCycle_of_cyclic {g : Graph} (hwf : WF g) {order : List Nat}
    (hcov : ∀ v, v < g.length → v ∈ order) (hcyc : Cyclic g) :
    ∃ a b st, detectFirstCycle g order (g.map fun _ => Status.new) = (some (a, b), st) := by
  rcases hres : detectFirstCycle g order (g.map fun _ => Status.new) with ⟨r, st⟩
  cases r with
  | some e => exact ⟨e.1, e.2, st, rfl⟩
  | none =>
    exfalso
    have h := detectFirstCycle_spec hwf order (topInv_init g)
    rw [hres] at h
    obtain ⟨i, _, o⟩ := h
    refine not_cyclic_of_all_finished (st := st) ?_ i.nocyc hcyc
    intro v hv
    exact finished_of_not (by rw [i.len]; exact hv) (i.noact v) (o v (hcov v hv))

end AL.Needs
