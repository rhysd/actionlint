import AL.Lemmas.C05DJob
/-
  Parts of an ACCEPTED step that more than one cluster reads, each in its own reader vocabulary (`lookup` in C11D, `attr`
  in C14D; here `AL.C05D.mget`, to which both cross: `AL.C11D.lookup_eq_mget`, `AL.C14D.mget_eq_attr`). Stated once, with what
  the silence of the sub-parser says about the node, which the statements of AL.Lemmas.C05DJob leave out: the loop over the
  entries of `with:` (`withKey`): which entries become inputs (`withEntry`), what a silent loop accepted; `uses:`.
  (`jobs:` of the document, read the same way, is `parse_jobs_reads` in AL.Lemmas.C05DJob.)
-/
namespace AL.C14D
open AL.Yaml AL.PW AL.Ast

def withEntry (kv : KV) : Option (String × Input) :=
  if kv.id = "entrypoint" ∨ kv.id = "args" then none else some (kv.id, ⟨kv.key, (parseString kv.val true).1⟩)

end AL.C14D

namespace AL.PW
open AL.Yaml AL.Ast AL.C03P AL.C05D
open AL.C14D (withEntry)

/-! ### the loop over `with:` -/

/-- one iteration: `entrypoint` and `args` are no inputs, any other entry is appended -/
theorem withKey_inputs_eq (st : ExecAction) (kv : KV) :
    (withKey st kv).1.inputs = (withEntry kv).elim st.inputs fun x => some (st.inputs.getD [] ++ [x]) := by
  unfold withKey withEntry
  split
  · rename_i h; simp [h]
  · rename_i h; simp [h]
  · rename_i h1 h2
    rw [if_neg fun h => h.elim h1 h2]
    rfl

/-- the loop appends the entries that are inputs, in order; where there is none, `inputs` stays what it is (`none` included) -/
theorem loop_withKey_inputs : ∀ (kvs : List KV) (init : ExecAction), (loop withKey init kvs).1.inputs =
    match kvs.filterMap withEntry with
    | [] => init.inputs
    | l => some (init.inputs.getD [] ++ l)
  | [], _ => rfl
  | kv :: rest, init => by
    rw [loop_cons_fst, loop_withKey_inputs rest, withKey_inputs_eq, List.filterMap_cons]
    cases withEntry kv with
    | none => rfl
    | some x => cases rest.filterMap withEntry <;> simp

/-- a silent loop has accepted the value of every entry that is an input -/
theorem withLoop_silent (kvs : List KV) (init : ExecAction) (h : (loop withKey init kvs).2 = []) :
    ∀ kv ∈ kvs, (withEntry kv).isSome = true → (parseString kv.val true).2 = [] := by
  intro kv hkv hs
  obtain ⟨st, hst⟩ := loop_silent_mem withKey kvs init h kv hkv
  unfold withEntry at hs
  unfold withKey at hst
  split at hst
  · rename_i he; simp [he] at hs
  · rename_i he; simp [he] at hs
  · exact hst

/-! ### `uses:` of a step -/

/-- **`uses:` of an accepted step**: the action part of `exec` carries the scalar written under `uses:`, which is a non-empty
scalar -/
theorem parseStep_uses_reads (cfg : Cfg) (n : Node) (h : (parseStep cfg n).2 = []) :
    (parseStep cfg n).1.exec.ofAction (·.uses) = (mget n "uses").map newString ∧
    ∀ v, mget n "uses" = some v → v.kind = .scalar ∧ v.value ≠ "" :=
  section_reads_str cfg _ n false (stepKey cfg) _ (fun st => st.step.exec.ofAction (·.uses)) "uses" rfl
    (fun st kv => (stepKey_frame cfg st kv).uses) (fun st kv hk hs => (stepKey_writes cfg st kv hs).uses hk)
    (parseStep_clean cfg n h).1 (parseStep_clean cfg n h).2

end AL.PW
