import AL.Lemmas.MatrixBasic
/-
  `equals` is an equivalence on well-formed values, coincides with `Same`, is invariant under
  member permutations, and implies `subset`.
-/
namespace AL.Matrix
open AL.Spec

/-! ### Reflexivity -/

theorem equals_refl : ∀ a : Raw, RawWF a → equals a a = true := by
  intro a
  induction a using Raw.ind with
  | str v p => intro _; simp [equals]
  | arr es p ih =>
    intro wf
    rw [rawWF_arr] at wf
    rw [equals_arr_iff]
    exact ⟨rfl, fun i h1 _ => ih _ (List.getElem_mem h1) (wf _ (List.getElem_mem h1))⟩
  | obj ps p ih =>
    intro wf
    rw [rawWF_obj] at wf
    rw [equals_obj_iff]
    refine ⟨rfl, fun kv hkv => ⟨kv.2, mem_lookup wf.1 hkv, ih kv hkv (wf.2 kv hkv)⟩⟩

/-! ### Transitivity (no well-formedness needed) -/

theorem equals_trans : ∀ a b c : Raw, equals a b = true → equals b c = true → equals a c = true := by
  intro a
  induction a using Raw.ind with
  | str v p =>
    intro b c hab hbc
    obtain ⟨q, rfl⟩ := equals_str_left.1 hab
    obtain ⟨r, rfl⟩ := equals_str_left.1 hbc
    exact equals_str_left.2 ⟨r, rfl⟩
  | arr es p ih =>
    intro b c hab hbc
    obtain ⟨fs, q, rfl, hl, hab⟩ := equals_arr_left.1 hab
    obtain ⟨gs, r, rfl, hl', hbc⟩ := equals_arr_left.1 hbc
    exact (equals_arr_iff ..).2 ⟨hl.trans hl', fun i h1 h3 =>
      ih _ (List.getElem_mem h1) _ _ (hab i h1 (hl ▸ h1)) (hbc i (hl ▸ h1) h3)⟩
  | obj ps p ih =>
    intro b c hab hbc
    obtain ⟨qs, q, rfl, hl, hab⟩ := equals_obj_left.1 hab
    obtain ⟨rs, r, rfl, hl', hbc⟩ := equals_obj_left.1 hbc
    refine (equals_obj_iff ..).2 ⟨hl.trans hl', fun kv hkv => ?_⟩
    obtain ⟨w, hw, hvw⟩ := hab kv hkv
    obtain ⟨x, hx, hwx⟩ := hbc (kv.1, w) (lookup_some_mem hw)
    exact ⟨x, hx, ih kv hkv _ _ hvw hwx⟩

/-! ### Symmetry -/

/-- Object equality seen from the right: with distinct keys on both sides and equally many members,
every member of `qs` is the counterpart of a member of `ps` (the counterparts cover `qs` by counting). -/
theorem equals_obj_right {ps qs : List (String × Raw)} (ndp : (ps.map (·.1)).Nodup)
    (ndq : (qs.map (·.1)).Nodup) (hlen : ps.length = qs.length)
    (h : ∀ kv ∈ ps, ∃ w, lookup kv.1 qs = some w ∧ equals kv.2 w = true) :
    ∀ kv ∈ qs, ∃ v, lookup kv.1 ps = some v ∧ equals v kv.2 = true := by
  intro kv hkv
  have hcov := keys_covered ndp
    (fun kv' h' => by obtain ⟨w, hw, _⟩ := h kv' h'
                      exact List.mem_map.2 ⟨(kv'.1, w), lookup_some_mem hw, rfl⟩) hlen kv hkv
  obtain ⟨v, hv⟩ := lookup_isSome_iff.2 hcov
  obtain ⟨w, hw, hvw⟩ := h (kv.1, v) (lookup_some_mem hv)
  rw [mem_lookup ndq (show (kv.1, kv.2) ∈ qs from hkv)] at hw
  cases hw
  exact ⟨v, hv, hvw⟩

theorem equals_symm_imp : ∀ a b : Raw, RawWF a → RawWF b → equals a b = true → equals b a = true := by
  intro a
  induction a using Raw.ind with
  | str v p =>
    intro b _ _ h
    obtain ⟨q, rfl⟩ := equals_str_left.1 h
    exact equals_str_left.2 ⟨p, rfl⟩
  | arr es p ih =>
    intro b wa wb h
    obtain ⟨fs, q, rfl, hl, h⟩ := equals_arr_left.1 h
    rw [rawWF_arr] at wa wb
    exact (equals_arr_iff ..).2 ⟨hl.symm, fun i h1 h2 =>
      ih _ (List.getElem_mem h2) _ (wa _ (List.getElem_mem h2)) (wb _ (List.getElem_mem h1)) (h i h2 h1)⟩
  | obj ps p ih =>
    intro b wa wb h
    obtain ⟨qs, q, rfl, hl, h⟩ := equals_obj_left.1 h
    rw [rawWF_obj] at wa wb
    refine (equals_obj_iff ..).2 ⟨hl.symm, fun kv hkv => ?_⟩
    obtain ⟨v, hv, hvw⟩ := equals_obj_right wa.1 wb.1 hl h kv hkv
    have hmem := lookup_some_mem hv
    exact ⟨v, hv, ih _ hmem _ (wa.2 _ hmem) (wb.2 _ hkv) hvw⟩

theorem equals_symm (a b : Raw) (wa : RawWF a) (wb : RawWF b) : equals a b = equals b a :=
  Bool.eq_iff_iff.2 ⟨equals_symm_imp a b wa wb, equals_symm_imp b a wb wa⟩

/-! ### `equals` decides `Same` -/

theorem equals_iff_same : ∀ a b : Raw, (equals a b = true ↔ Same a b) := by
  intro a
  induction a using Raw.ind with
  | str v p =>
    intro b
    constructor
    · intro h
      obtain ⟨q, rfl⟩ := equals_str_left.1 h
      exact .str _ _ _
    · intro h; cases h; exact equals_str_left.2 ⟨_, rfl⟩
  | arr es p ih =>
    intro b
    constructor
    · intro h
      obtain ⟨fs, q, rfl, hl, h⟩ := equals_arr_left.1 h
      exact .arr _ _ _ _ hl (fun i h1 h2 => (ih _ (List.getElem_mem h1) _).1 (h i h1 h2))
    · intro h
      cases h with
      | arr _ _ _ _ hl h =>
        exact (equals_arr_iff ..).2 ⟨hl, fun i h1 h2 => (ih _ (List.getElem_mem h1) _).2 (h i h1 h2)⟩
  | obj ps p ih =>
    intro b
    constructor
    · intro h
      obtain ⟨qs, q, rfl, hl, h⟩ := equals_obj_left.1 h
      refine .obj _ _ _ _ hl (fun k v hkv => ?_) (fun k v w hkv hw => ?_)
      · obtain ⟨w, hw, _⟩ := h (k, v) hkv
        simp only at hw; simp [hw]
      · obtain ⟨w', hw', hvw⟩ := h (k, v) hkv
        simp only at hw'
        rw [hw] at hw'; cases hw'
        exact (ih (k, v) hkv w).1 hvw
    · intro h
      cases h with
      | obj _ qs _ _ hl hdom h =>
        refine (equals_obj_iff ..).2 ⟨hl, fun kv hkv => ?_⟩
        have hd := hdom kv.1 kv.2 hkv
        cases hw : lookup kv.1 qs with
        | none => simp [hw] at hd
        | some w => exact ⟨w, rfl, (ih kv hkv w).2 (h kv.1 kv.2 w hkv hw)⟩

/-! ### Member order -/

theorem equals_obj_perm_left {ps qs : List (String × Raw)} (h : ps.Perm qs) (p p' : P) (b : Raw) :
    equals (.obj ps p) b = equals (.obj qs p') b := by
  cases b with
  | str _ _ => simp [equals]
  | arr _ _ => simp [equals]
  | obj rs r =>
    rw [Bool.eq_iff_iff, equals_obj_iff, equals_obj_iff, h.length_eq]
    exact and_congr Iff.rfl ⟨fun H kv hkv => H kv (h.mem_iff.2 hkv), fun H kv hkv => H kv (h.mem_iff.1 hkv)⟩

theorem equals_obj_perm_right {ps qs : List (String × Raw)} (nd : (ps.map (·.1)).Nodup)
    (h : ps.Perm qs) (p p' : P) (b : Raw) :
    equals b (.obj ps p) = equals b (.obj qs p') := by
  cases b with
  | str _ _ => simp [equals]
  | arr _ _ => simp [equals]
  | obj rs r =>
    rw [Bool.eq_iff_iff, equals_obj_iff, equals_obj_iff, h.length_eq]
    simp only [lookup_perm nd h]

/-- Equal values are interchangeable on either side of `equals` ("at any depth": by
`equals_iff_same`, `a` and `a'` may differ in the order of members anywhere inside). -/
theorem equals_congr_left {a a' b : Raw} (wa : RawWF a) (wa' : RawWF a') (h : equals a a' = true) :
    equals a b = equals a' b := by
  rw [Bool.eq_iff_iff]
  constructor
  · intro hab; exact equals_trans _ _ _ ((equals_symm a a' wa wa').symm.trans h) hab
  · intro hab; exact equals_trans _ _ _ h hab

theorem equals_congr_right {a a' b : Raw} (h : equals a a' = true) (h' : equals a' a = true) :
    equals b a = equals b a' := by
  rw [Bool.eq_iff_iff]
  exact ⟨fun hba => equals_trans _ _ _ hba h, fun hba => equals_trans _ _ _ hba h'⟩

/-! ### `subset` -/

@[simp] theorem subset_str_right (v : Raw) (s : String) (p : P) (h : containsExpr s = true) :
    subset v (.str s p) = true := by
  cases v <;> simp [subset, h]

theorem subset_obj_str (ps : List (String × Raw)) (p : P) (s : String) (q : P) :
    subset (.obj ps p) (.str s q) = containsExpr s := by
  simp [subset]

theorem subset_arr_str (es : List Raw) (p : P) (s : String) (q : P) :
    subset (.arr es p) (.str s q) = containsExpr s := by
  simp [subset]

theorem subset_str_obj (w : String) (p : P) (ps : List (String × Raw)) (q : P) :
    subset (.str w p) (.obj ps q) = containsExpr w := by
  simp [subset]

theorem subset_str_arr (w : String) (p : P) (es : List Raw) (q : P) :
    subset (.str w p) (.arr es q) = containsExpr w := by
  simp [subset]

theorem subset_obj_arr (ps : List (String × Raw)) (p : P) (es : List Raw) (q : P) :
    subset (.obj ps p) (.arr es q) = false := by
  simp [subset]

theorem subset_arr_obj (es : List Raw) (p : P) (ps : List (String × Raw)) (q : P) :
    subset (.arr es p) (.obj ps q) = false := by
  simp [subset]

theorem subset_obj_iff (ps qs : List (String × Raw)) (p q : P) :
    subset (.obj ps p) (.obj qs q) = true ↔
      ∀ kv ∈ qs, ∃ v, lookup kv.1 ps = some v ∧ subset v kv.2 = true := by
  simp only [subset, subsetProps_iff]

theorem subset_arr_iff (es fs : List Raw) (p q : P) :
    subset (.arr es p) (.arr fs q) = true ↔
      es.length = fs.length ∧ ∀ i (h1 : i < es.length) (h2 : i < fs.length), subset es[i] fs[i] = true := by
  simp only [subset, subsetList_iff]

theorem subset_obj_perm_left {ps qs : List (String × Raw)} (nd : (ps.map (·.1)).Nodup)
    (h : ps.Perm qs) (p p' : P) (b : Raw) :
    subset (.obj ps p) b = subset (.obj qs p') b := by
  cases b with
  | str _ _ => simp [subset_obj_str]
  | arr _ _ => simp [subset_obj_arr]
  | obj rs r =>
    rw [Bool.eq_iff_iff, subset_obj_iff, subset_obj_iff]
    simp only [lookup_perm nd h]

theorem subset_obj_perm_right {ps qs : List (String × Raw)} (h : ps.Perm qs) (p p' : P) (b : Raw) :
    subset b (.obj ps p) = subset b (.obj qs p') := by
  cases b with
  | str _ _ => simp [subset_str_obj]
  | arr _ _ => simp [subset_arr_obj]
  | obj rs r =>
    rw [Bool.eq_iff_iff, subset_obj_iff, subset_obj_iff]
    exact ⟨fun H kv hkv => H kv (h.mem_iff.2 hkv), fun H kv hkv => H kv (h.mem_iff.1 hkv)⟩

/-- Equal values are subsets of each other. -/
theorem equals_subset : ∀ a b : Raw, RawWF a → RawWF b → equals a b = true → subset a b = true := by
  intro a
  induction a using Raw.ind with
  | str v p =>
    intro b _ _ h
    obtain ⟨q, rfl⟩ := equals_str_left.1 h
    simp only [subset]
    split <;> simp
  | arr es p ih =>
    intro b wa wb h
    obtain ⟨fs, q, rfl, hl, h⟩ := equals_arr_left.1 h
    rw [rawWF_arr] at wa wb
    exact (subset_arr_iff ..).2 ⟨hl, fun i h1 h2 => ih _ (List.getElem_mem h1) _ (wa _ (List.getElem_mem h1))
      (wb _ (List.getElem_mem h2)) (h i h1 h2)⟩
  | obj ps p ih =>
    intro b wa wb h
    obtain ⟨qs, q, rfl, hl, h⟩ := equals_obj_left.1 h
    rw [rawWF_obj] at wa wb
    refine (subset_obj_iff ..).2 fun kv hkv => ?_
    obtain ⟨v, hv, hvw⟩ := equals_obj_right wa.1 wb.1 hl h kv hkv
    have hmem := lookup_some_mem hv
    exact ⟨v, hv, ih _ hmem _ (wa.2 _ hmem) (wb.2 _ hkv) hvw⟩

end AL.Matrix
