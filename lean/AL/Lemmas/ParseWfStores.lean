import AL.Lemmas.ParseWfKeys
/-
  What a loop body of parse.go does at a key whose value is a section of its own (`jobs:`, `steps:`, `env:` …): it runs the
  sub-parser on the value, stores the result in its state and passes the diagnostics on. One equation per such key, with the
  store named, so that a proof about the enclosing parser reads off which sub-parser runs and where its result goes
  without unfolding the key function again. Where the value is a section of free names the sub-parser is the sequence
  `seqR (parseSectionMapping …) (callInputs cfg)` … that the model writes with two `let`s. `eq_at` brings such an equation to
  an entry known only by its id.
-/
namespace AL.PW
open AL.Yaml AL.Ast

/-- the result of a sub-parser put into the state by `g`, its diagnostics passed on -/
def store {β σ : Type} (g : β → σ) (r : R β) : R σ := (g r.1, r.2)

/-- an equation stated at the entry `⟨key, k, v⟩`, at an entry known to have that id -/
theorem eq_at {σ : Type} {step : σ → KV → σ × List PErr} {rhs : σ → Str → Node → σ × List PErr} {key : String}
    (h : ∀ st k v, step st ⟨key, k, v⟩ = rhs st k v) (st : σ) (kv : KV) (hk : kv.id = key) : step st kv = rhs st kv.key kv.val := by
  cases kv
  cases hk
  exact h _ _ _

section
variable (cfg : Cfg) (w : Workflow) (k : Str) (v : Node)

theorem workflowKey_on : workflowKey cfg w ⟨"on", k, v⟩ = store (fun r => { w with on := r }) (parseEvents cfg k.pos v) := by
  simp only [workflowKey, store]

theorem workflowKey_permissions : workflowKey cfg w ⟨"permissions", k, v⟩ =
    store (fun r => { w with permissions := some r }) (parsePermissions cfg k.pos v) := by
  simp only [workflowKey, store]

theorem workflowKey_env : workflowKey cfg w ⟨"env", k, v⟩ = store (fun r => { w with env := some r }) (parseEnv cfg v) := by
  simp only [workflowKey, store]

theorem workflowKey_concurrency : workflowKey cfg w ⟨"concurrency", k, v⟩ =
    store (fun r => { w with concurrency := some r }) (parseConcurrency cfg k.pos v) := by
  simp only [workflowKey, store]

theorem workflowKey_jobs : workflowKey cfg w ⟨"jobs", k, v⟩ = store (fun r => { w with jobs := some r }) (parseJobs cfg v) := by
  simp only [workflowKey, store]

theorem workflowKey_defaults : workflowKey cfg w ⟨"defaults", k, v⟩ =
    store (fun r => { w with defaults := some r }) (parseDefaults cfg k.pos v) := by
  simp only [workflowKey, store]

end

section
variable (cfg : Cfg) (s : JobSt) (k : Str) (v : Node)

theorem jobKey_permissions : jobKey cfg s ⟨"permissions", k, v⟩ =
    store (fun r => { s with job := { s.job with permissions := some r } }) (parsePermissions cfg k.pos v) := by
  simp only [jobKey, store]

theorem jobKey_environment : jobKey cfg s ⟨"environment", k, v⟩ =
    store (fun r => { s with job := { s.job with environment := some r }, stepsOnlyKey := some k }) (parseEnvironment cfg k.pos v) := by
  simp only [jobKey, store]

theorem jobKey_concurrency : jobKey cfg s ⟨"concurrency", k, v⟩ =
    store (fun r => { s with job := { s.job with concurrency := some r } }) (parseConcurrency cfg k.pos v) := by
  simp only [jobKey, store]

theorem jobKey_outputs : jobKey cfg s ⟨"outputs", k, v⟩ =
    store (fun r => { s with job := { s.job with outputs := some r }, stepsOnlyKey := some k }) (parseOutputs cfg v) := by
  simp only [jobKey, store]

theorem jobKey_env : jobKey cfg s ⟨"env", k, v⟩ =
    store (fun r => { s with job := { s.job with env := some r }, stepsOnlyKey := some k }) (parseEnv cfg v) := by
  simp only [jobKey, store]

theorem jobKey_steps : jobKey cfg s ⟨"steps", k, v⟩ =
    store (fun r => { s with job := { s.job with steps := r }, stepsOnlyKey := some k }) (parseSteps cfg v) := by
  simp only [jobKey, store]

theorem jobKey_strategy : jobKey cfg s ⟨"strategy", k, v⟩ =
    store (fun r => { s with job := { s.job with strategy := some r } }) (parseStrategy cfg k.pos v) := by
  simp only [jobKey, store]

theorem jobKey_container : jobKey cfg s ⟨"container", k, v⟩ =
    store (fun r => { s with job := { s.job with container := some r }, stepsOnlyKey := some k })
      (parseContainer cfg "container" k.pos v) := by
  simp only [jobKey, store]

theorem jobKey_services : jobKey cfg s ⟨"services", k, v⟩ =
    store (fun r => { s with job := { s.job with services := some r } }) (parseServices cfg v) := by
  simp only [jobKey, store]

theorem jobKey_runsOn : jobKey cfg s ⟨"runs-on", k, v⟩ =
    store (fun r => { s with job := { s.job with runsOn := some r }, stepsOnlyKey := some k }) (parseRunsOn cfg v) := by
  simp only [jobKey, store]

theorem jobKey_defaults : jobKey cfg s ⟨"defaults", k, v⟩ =
    store (fun r => { s with job := { s.job with defaults := some r }, stepsOnlyKey := some k }) (parseDefaults cfg k.pos v) := by
  simp only [jobKey, store]

theorem jobKey_uses : jobKey cfg s ⟨"uses", k, v⟩ =
    store (fun r => { s with call := { s.call with uses := some r }, callOnlyKey := some k }) (parseString v false) := by
  simp only [jobKey, store]

theorem jobKey_with : jobKey cfg s ⟨"with", k, v⟩ =
    store (fun r => { s with call := { s.call with inputs := some r }, callOnlyKey := some k })
      (seqR (parseSectionMapping cfg "with" v false false) callArgs) := by
  simp only [jobKey, store, seqR]

end

theorem strategyKey_matrix (cfg : Cfg) (s : Strategy) (k : Str) (v : Node) : strategyKey cfg s ⟨"matrix", k, v⟩ =
    store (fun r => { s with matrix := some r }) (parseMatrix cfg k.pos v) := by
  simp only [strategyKey, store]

section
variable (cfg : Cfg) (s : Matrix) (k : Str) (v : Node)

theorem matrixKey_include : matrixKey cfg s ⟨"include", k, v⟩ =
    store (fun r => { s with incl := r }) (parseMatrixCombinations cfg "include" v) := by
  simp only [matrixKey, store]

theorem matrixKey_exclude : matrixKey cfg s ⟨"exclude", k, v⟩ =
    store (fun r => { s with excl := r }) (parseMatrixCombinations cfg "exclude" v) := by
  simp only [matrixKey, store]

end

section
variable (cfg : Cfg) (s : CallEventSt) (k : Str) (v : Node)

theorem callEventKey_inputs : callEventKey cfg s ⟨"inputs", k, v⟩ =
    store (fun r => { s with inputs := some r }) (seqR (parseSectionMapping cfg "inputs" v true false) (callInputs cfg)) := by
  simp only [callEventKey, store, seqR]

theorem callEventKey_secrets : callEventKey cfg s ⟨"secrets", k, v⟩ =
    store (fun r => { s with secrets := some r }) (seqR (parseSectionMapping cfg "secrets" v true false) (mapKVs (callSecret cfg))) := by
  simp only [callEventKey, store, seqR]

theorem callEventKey_outputs : callEventKey cfg s ⟨"outputs", k, v⟩ =
    store (fun r => { s with outputs := some r }) (seqR (parseSectionMapping cfg "outputs" v true false) (mapKVs (callOutput cfg))) := by
  simp only [callEventKey, store, seqR]

end

section
variable (cfg : Cfg) (s : List Event) (k : Str) (v : Node)

theorem eventOfKey_workflow_call : eventOfKey cfg s ⟨"workflow_call", k, v⟩ =
    store (fun r => s ++ [r]) (parseWorkflowCallEvent cfg k.pos v) := by
  simp only [eventOfKey, store]

theorem eventOfKey_workflow_dispatch : eventOfKey cfg s ⟨"workflow_dispatch", k, v⟩ =
    store (fun r => s ++ [r]) (parseWorkflowDispatchEvent cfg k.pos v) := by
  simp only [eventOfKey, store]

theorem eventOfKey_repository_dispatch : eventOfKey cfg s ⟨"repository_dispatch", k, v⟩ =
    store (fun r => s ++ [r]) (parseRepositoryDispatchEvent cfg k.pos v) := by
  simp only [eventOfKey, store]

theorem eventOfKey_schedule : eventOfKey cfg s ⟨"schedule", k, v⟩ =
    store (fun r => match r with | some ev => s ++ [ev] | none => s) (parseScheduleEvent cfg k.pos v) := by
  simp only [eventOfKey, store]
  rfl

/-- any other event name is a webhook event -/
theorem eventOfKey_webhook (name : String) (h : name ∉ ["schedule", "workflow_dispatch", "repository_dispatch", "workflow_call"]) :
    eventOfKey cfg s ⟨name, k, v⟩ = store (fun r => s ++ [r]) (parseWebhookEvent cfg k v) := by
  simp only [List.mem_cons, List.not_mem_nil, or_false, not_or] at h
  obtain ⟨h1, h2, h3, h4⟩ := h
  simp only [eventOfKey, store]

end

theorem stepKey_env (cfg : Cfg) (s : StepSt) (k : Str) (v : Node) : stepKey cfg s ⟨"env", k, v⟩ =
    store (fun r => { s with step := { s.step with env := some r } }) (parseEnv cfg v) := by
  simp only [stepKey, store]

theorem containerKey_env (cfg : Cfg) (sec : String) (s : Container) (k : Str) (v : Node) : containerKey cfg sec s ⟨"env", k, v⟩ =
    store (fun r => { s with env := some r }) (parseEnv cfg v) := by
  simp only [containerKey, store]

end AL.PW

namespace AL.C13D3
open AL.PW AL.Yaml AL.Ast

/-- `secrets:` of a job that calls a reusable workflow, as `jobKey` reads it: `inherit`, another scalar (reported), or a
mapping of free names -/
def jobSecrets (cfg : Cfg) (v : Node) : R (Bool × Option (List (String × CallArg))) :=
  if v.kind = .scalar then
    if v.value = "inherit" then ((true, none), []) else ((false, none), [errAt v "secrets-scalar" [v.value]])
  else
    let m := parseSectionMapping cfg "secrets" v false false
    let r := callArgs m.1
    ((false, some r.1), m.2 ++ r.2)

end AL.C13D3

namespace AL.PW
open AL.Yaml AL.Ast
open AL.C13D3 (jobSecrets)

theorem jobKey_secrets (cfg : Cfg) (s : JobSt) (k : Str) (v : Node) : jobKey cfg s ⟨"secrets", k, v⟩ =
    store (fun r =>
      if r.1 then { s with call := { s.call with inheritSecrets := true }, callOnlyKey := some k }
      else match r.2 with
        | some x => { s with call := { s.call with secrets := some x }, callOnlyKey := some k }
        | none => { s with callOnlyKey := some k }) (jobSecrets cfg v) := by
  rw [jobSecrets]
  simp only [jobKey]
  split
  · split <;> rfl
  · rfl

end AL.PW
