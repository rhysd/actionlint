import AL.Lemmas.ParseWfLoop
import AL.Lemmas.ParseWfList
/-
  What the section parsers of parse.go do on input they accept without a diagnostic ("silent"; "clean" in the cluster files).

  * The document side, read without the parser: `AL.C03P.keyOf` (the id of a key), `AL.C05D.mpair` / `mget` (the pair, the value
    written under a key of a mapping node), `docRoot`, `kvOf` (the entry of a pair). They are declared in these two cluster
    namespaces, not in `AL.PW`.
  * `AL.PW`: a silent `parseMapping` has run the key loop over the pairs of the node, silently (`parseMapping_silent_loop`);
    so it returns one entry per pair, in order, with pairwise distinct ids, and says what the
    node was (`parseMapping_silent`, with `mappingLoop_silent` and `mappingLoop_ids_nodup`). The key loop: `loop_invariant` and
    `loop_invariant_silent`; around one entry `loop_around` and `loop_around_silent` (what happens before, at and after it; an
    entry of distinct ids is such a place, `split_at_key`); a field that only one id writes is read by `loop_untouched` (no
    entry has the id), `loop_read_first` and, after a silent loop, `loop_reads`. `section_reads` puts `parseMapping_silent` and
    `loop_reads` together and speaks of the node: the field is read off the pair written with that key (`mpair`);
    `section_reads_of_eq` and `section_reads_str` are its two usual forms.
  * `AL.C03P`, at the end: the same facts in the form the coverage proofs (C03Parse, C12Parse) and the document clusters cite,
    `parseString_clean` … `loop_keyed`, `mapKVs_clean`.
-/

/-! ### the document side: what is written in the node tree, read without the parser -/

namespace AL.C03P
open AL.PW AL.Yaml AL.Ast

/-- the id `parseMapping` files a key under when the key node is a sound one: its text, lower-cased in a case-insensitive
mapping -/
def keyOf (cfg : Cfg) (cs : Bool) (kn : Node) : String := if cs then kn.value else cfg.lower kn.value

end AL.C03P

namespace AL.C05D
open AL.PW AL.Yaml AL.Ast AL.C03P

/-- the pair of a mapping node whose key is written `k` (the first one, were there several) -/
def mpair (n : Node) (k : String) : Option (Node × Node) := (pairs n.content).find? (fun p => p.1.value = k)

def mget (n : Node) (k : String) : Option Node := (mpair n k).map (·.2)

def docRoot (doc : Node) : Option Node := doc.content.head?

/-- the entry `parseMapping` builds from a key / value pair when it reports nothing -/
def kvOf (cfg : Cfg) (cs : Bool) (p : Node × Node) : KV := ⟨keyOf cfg cs p.1, newString p.1, p.2⟩

end AL.C05D

namespace AL.PW
open AL.Yaml AL.Ast AL.C03P AL.C05D

theorem fixDocPos_children (doc : Node) : (fixDocPos doc).content = doc.content := by
  cases doc; rfl

theorem isExprAssigned_nil : isExprAssigned "" = false := by decide

theorem parseString_at (n : Node) (ae : Bool) : (parseString n ae).1.pos = n.pos := by
  by_cases hk : n.kind = .scalar <;> by_cases he : n.value = "" <;> cases ae <;>
    simp [parseString, checkString, hk, he, newString]

theorem parseString_silent (n : Node) (ae : Bool) (h : (parseString n ae).2 = []) :
    n.kind = .scalar ∧ (ae = false → n.value ≠ "") ∧ (parseString n ae).1 = newString n := by
  by_cases hk : n.kind = .scalar <;> by_cases he : n.value = "" <;> cases ae <;>
    simp_all [parseString, checkString]

theorem keyId_silent (cfg : Cfg) (cs : Bool) (k : Node) (h : (parseString k false).2 = []) : keyId cfg cs k = keyOf cfg cs k := by
  simp only [keyId, keyOf, (parseString_silent k false h).2.2, newString]

/-- a repeated key is reported and dropped, so the ids of the entries are pairwise distinct -/
theorem mappingLoop_ids_nodup (cfg : Cfg) (what : String) (cs : Bool) : ∀ (l : List (Node × Node)) (seen : List (String × Yaml.Pos)),
    ((mappingLoop cfg what cs l seen).1.map (·.id)).Nodup ∧
    ∀ kv ∈ (mappingLoop cfg what cs l seen).1, lookupSeen kv.id seen = none
  | [], _ => by simp [mappingLoop]
  | (kn, vn) :: rest, seen => by
    rw [mappingLoop_cons]
    cases hl : lookupSeen (keyId cfg cs kn) seen with
    | some pos => exact mappingLoop_ids_nodup cfg what cs rest seen
    | none =>
      obtain ⟨hn, hs⟩ := mappingLoop_ids_nodup cfg what cs rest (seen ++ [(keyId cfg cs kn, (parseString kn false).1.pos)])
      simp only [List.map_cons, List.nodup_cons, List.mem_map, not_exists, not_and, List.mem_cons, forall_eq_or_imp]
      refine ⟨⟨?_, hn⟩, hl, ?_⟩
      · intro kv hk e
        have := hs kv hk
        rw [lookupSeen_snoc, e, hl] at this
        simp at this
      · intro kv hk
        have := hs kv hk
        rw [lookupSeen_snoc] at this
        cases h2 : lookupSeen kv.id seen with
        | some q => simp [h2] at this
        | none => rfl

theorem parseMapping_ids_nodup (cfg : Cfg) (what : String) (n : Node) (ae cs : Bool) :
    ((parseMapping cfg what n ae cs).1.map (·.id)).Nodup := by
  simp only [parseMapping]
  split
  · simp
  · split
    · simp
    · exact (mappingLoop_ids_nodup cfg what cs _ []).1

theorem mappingLoop_silent (cfg : Cfg) (what : String) (cs : Bool) : ∀ (l : List (Node × Node)) (seen : List (String × Yaml.Pos)),
    (mappingLoop cfg what cs l seen).2 = [] → (mappingLoop cfg what cs l seen).1 = l.map (kvOf cfg cs) ∧
      ∀ q ∈ l, q.1.kind = .scalar ∧ q.1.value ≠ ""
  | [], _, _ => by simp [mappingLoop]
  | (k, v) :: rest, seen, h => by
    rw [mappingLoop_cons] at h ⊢
    cases hl : lookupSeen (keyId cfg cs k) seen with
    | some pos => simp [hl] at h
    | none =>
      simp only [hl, List.append_eq_nil_iff] at h ⊢
      obtain ⟨hk, hv, hs⟩ := parseString_silent k false h.1
      obtain ⟨ih1, ih2⟩ := mappingLoop_silent cfg what cs rest _ h.2
      refine ⟨by rw [ih1, List.map_cons, kvOf, keyId_silent cfg cs k h.1, hs], fun q hq => ?_⟩
      rcases List.mem_cons.1 hq with rfl | hq
      · exact ⟨hk, hv rfl⟩
      · exact ih2 q hq

/-- a silent `parseMapping` has run the key loop over the pairs of the node, silently: the node is a mapping or null, and where
the mapping must not be empty (`ae = false`) it is a mapping with an entry -/
theorem parseMapping_silent_loop (cfg : Cfg) (what : String) (n : Node) (ae cs : Bool) (h : (parseMapping cfg what n ae cs).2 = []) :
    (n.kind = .mapping ∨ n.isNull = true) ∧
    (parseMapping cfg what n ae cs).1 = (mappingLoop cfg what cs (pairs n.content) []).1 ∧
    (mappingLoop cfg what cs (pairs n.content) []).2 = [] ∧
    (ae = false → n.kind = .mapping ∧ (mappingLoop cfg what cs (pairs n.content) []).1 ≠ []) := by
  simp only [parseMapping] at h ⊢
  split at h
  · simp at h
  · rename_i h1
    split at h
    · simp at h
    · rename_i h2
      simp only [h1, h2, Bool.false_eq_true, ↓reduceIte, List.append_eq_nil_iff] at h ⊢
      have hkind : n.kind = .mapping ∨ n.isNull = true := by
        cases hn : n.isNull with
        | true => exact Or.inr rfl
        | false => simpa [hn] using h1
      refine ⟨hkind, trivial, h.1, ?_⟩
      rintro rfl
      refine ⟨hkind.resolve_right fun hn => by simp [hn] at h2, fun he => ?_⟩
      have := h.2
      simp [he] at this

theorem parseMapping_silent (cfg : Cfg) (what : String) (n : Node) (ae cs : Bool) (h : (parseMapping cfg what n ae cs).2 = []) :
    (n.kind = .mapping ∨ n.isNull = true) ∧
    (parseMapping cfg what n ae cs).1 = (pairs n.content).map (kvOf cfg cs) ∧
    (((pairs n.content).map (kvOf cfg cs)).map (·.id)).Nodup ∧
    (∀ q ∈ pairs n.content, q.1.kind = .scalar ∧ q.1.value ≠ "") ∧
    (ae = false → n.kind = .mapping ∧ pairs n.content ≠ []) := by
  obtain ⟨hkind, heq, hs, hne⟩ := parseMapping_silent_loop cfg what n ae cs h
  obtain ⟨he, hk⟩ := mappingLoop_silent cfg what cs _ [] hs
  have hnd := (mappingLoop_ids_nodup cfg what cs (pairs n.content) []).1
  rw [he] at heq hnd hne
  exact ⟨hkind, heq, hnd, hk, fun e => ⟨(hne e).1, fun hp => (hne e).2 (by rw [hp]; rfl)⟩⟩

theorem find_kvOf (cfg : Cfg) (key : String) : ∀ (l : List (Node × Node)),
    (l.map (kvOf cfg true)).find? (fun kv => kv.id = key) = (l.find? (fun q => q.1.value = key)).map (kvOf cfg true) :=
  fun _ => List.find?_map ..

variable {σ α : Type}

theorem loop_silent_cons (step : σ → KV → σ × List PErr) (init : σ) (kv : KV) (rest : List KV) :
    (loop step init (kv :: rest)).2 = [] ↔ (step init kv).2 = [] ∧ (loop step (step init kv).1 rest).2 = [] := by
  rw [loop_cons]
  exact List.append_eq_nil_iff

theorem loop_fst_cons (step : σ → KV → σ × List PErr) (init : σ) (kv : KV) (rest : List KV) :
    (loop step init (kv :: rest)).1 = (loop step (step init kv).1 rest).1 := by
  rw [loop_cons]

theorem loop_invariant (step : σ → KV → σ × List PErr) (P : σ → Prop) (kvs : List KV)
    (h : ∀ s kv, kv ∈ kvs → P s → P (step s kv).1) : ∀ init, P init → P (loop step init kvs).1 := by
  induction kvs with
  | nil => intro init h0; exact h0
  | cons kv rest ih =>
    intro init h0
    rw [loop_fst_cons]
    exact ih (fun s kv' hm => h s kv' (List.mem_cons_of_mem _ hm)) _ (h init kv (List.mem_cons_self ..) h0)

/-- a property that the silent iterations preserve holds after a silent loop -/
theorem loop_invariant_silent (step : σ → KV → σ × List PErr) (P : σ → Prop) : ∀ (kvs : List KV) (init : σ),
    (∀ s kv, kv ∈ kvs → (step s kv).2 = [] → P s → P (step s kv).1) → (loop step init kvs).2 = [] → P init →
    P (loop step init kvs).1
  | [], _, _, _, h0 => h0
  | x :: rest, init, h, hc, h0 => by
    rw [loop_silent_cons] at hc
    rw [loop_fst_cons]
    exact loop_invariant_silent step P rest _ (fun s kv hm => h s kv (List.mem_cons_of_mem _ hm)) hc.2
      (h init x (List.mem_cons_self ..) hc.1 h0)

/-- the loop around one entry: `I` holds up to it, its iteration takes `I` to `J`, the entries after it keep `J` -/
theorem loop_around (step : σ → KV → σ × List PErr) (I J : σ → Prop) (k1 k2 : List KV) (kv : KV)
    (hI : ∀ s x, x ∈ k1 → I s → I (step s x).1) (hkey : ∀ s, I s → J (step s kv).1)
    (hJ : ∀ s x, x ∈ k2 → J s → J (step s x).1) (init : σ) (h0 : I init) : J (loop step init (k1 ++ kv :: k2)).1 := by
  rw [loop_append, loop_cons]
  exact loop_invariant step J k2 hJ _ (hkey _ (loop_invariant step I k1 hI _ h0))

/-- `loop_around` for a silent loop: the three hypotheses are asked of silent iterations only -/
theorem loop_around_silent (step : σ → KV → σ × List PErr) (I J : σ → Prop) (k1 k2 : List KV) (kv : KV)
    (hI : ∀ s x, x ∈ k1 → (step s x).2 = [] → I s → I (step s x).1) (hkey : ∀ s, I s → (step s kv).2 = [] → J (step s kv).1)
    (hJ : ∀ s x, x ∈ k2 → (step s x).2 = [] → J s → J (step s x).1) (init : σ) (h0 : I init)
    (hc : (loop step init (k1 ++ kv :: k2)).2 = []) : J (loop step init (k1 ++ kv :: k2)).1 := by
  rw [loop_append, loop_cons] at hc ⊢
  simp only [List.append_eq_nil_iff] at hc
  exact loop_invariant_silent step J k2 _ hJ hc.2.2 (hkey _ (loop_invariant_silent step I k1 _ hI hc.1 h0) hc.2.1)

/-- a field that only the iteration of the id `key` writes, and no entry has that id -/
theorem loop_untouched (step : σ → KV → σ × List PErr) (get : σ → α) (key : String)
    (hkeep : ∀ st kv, kv.id ≠ key → get (step st kv).1 = get st) (kvs : List KV) (h : ∀ kv ∈ kvs, kv.id ≠ key) (init : σ) :
    get (loop step init kvs).1 = get init :=
  loop_invariant step (fun s => get s = get init) kvs (fun s kv hm hs => (hkeep s kv (h kv hm)).trans hs) init rfl

theorem loop_silent_mem (step : σ → KV → σ × List PErr) : ∀ (kvs : List KV) (init : σ), (loop step init kvs).2 = [] →
    ∀ kv ∈ kvs, ∃ st, (step st kv).2 = [] := by
  intro kvs init hc kv hk
  obtain ⟨k1, k2, rfl⟩ := List.append_of_mem hk
  rw [loop_append, loop_cons] at hc
  exact ⟨_, (List.append_eq_nil_iff.1 (List.append_eq_nil_iff.1 hc).2).1⟩

/-- a field of the loop state that only the iteration of the id `key` writes. The ids being distinct, that iteration finds
the field as it was at the start (`v0`); both hypotheses are asked of silent iterations only. After a silent loop the field is
`val` of the entry with that id (or still `v0`), and `ok` holds of that entry: what the silence of its iteration says about it -/
theorem loop_reads (step : σ → KV → σ × List PErr) (get : σ → α) (key : String) (val : KV → α) (ok : KV → Prop) (v0 : α)
    (hkeep : ∀ st kv, kv.id ≠ key → (step st kv).2 = [] → get (step st kv).1 = get st)
    (hset : ∀ st kv, kv.id = key → (step st kv).2 = [] → get st = v0 → get (step st kv).1 = val kv ∧ ok kv) :
    ∀ (kvs : List KV) (init : σ), (kvs.map (·.id)).Nodup → (loop step init kvs).2 = [] → get init = v0 →
      get (loop step init kvs).1 = (kvs.find? (fun kv => kv.id = key)).elim v0 val ∧
      ∀ kv, kvs.find? (fun kv => kv.id = key) = some kv → ok kv := by
  intro kvs init hnd hc h0
  cases hf : kvs.find? (fun kv => kv.id = key) with
  | none =>
    have hno : ∀ kv ∈ kvs, kv.id ≠ key := fun kv hm => by simpa using List.find?_eq_none.1 hf kv hm
    exact ⟨loop_invariant_silent step (fun s => get s = v0) kvs init
      (fun s kv hm hs hp => (hkeep s kv (hno kv hm) hs).trans hp) hc h0, nofun⟩
  | some kv =>
    have hk : kv.id = key := by simpa using List.find?_some hf
    obtain ⟨k1, k2, rfl, h1, h2⟩ := split_at_key (·.id) hnd (List.mem_of_find?_eq_some hf)
    have := loop_around_silent step (fun s => get s = v0) (fun s => get s = val kv ∧ ok kv) k1 k2 kv
      (fun s x hx hs hp => (hkeep s x (hk ▸ h1 x hx) hs).trans hp) (fun s hp hs => hset s kv hk hs hp)
      (fun s x hx hs hp => ⟨(hkeep s x (hk ▸ h2 x hx) hs).trans hp.1, hp.2⟩) init h0 hc
    exact ⟨this.1, fun _ e => Option.some.inj e ▸ this.2⟩

/-- the reader for a loop that need not be silent: both hypotheses are asked of every iteration -/
theorem loop_read_first (step : σ → KV → σ × List PErr) (get : σ → α) (key : String) (f : KV → α) (v0 : α)
    (hkeep : ∀ st kv, kv.id ≠ key → get (step st kv).1 = get st)
    (hset : ∀ st kv, kv.id = key → get st = v0 → get (step st kv).1 = f kv) :
    ∀ (kvs : List KV) (init : σ), (kvs.map (·.id)).Nodup → get init = v0 →
      get (loop step init kvs).1 = match kvs.find? (fun kv => kv.id = key) with | some kv => f kv | none => v0 := by
  intro kvs init hnd h0
  cases hf : kvs.find? (fun kv => kv.id = key) with
  | none =>
    exact (loop_untouched step get key hkeep kvs (fun kv hm => by simpa using List.find?_eq_none.1 hf kv hm) init).trans h0
  | some kv =>
    have hk : kv.id = key := by simpa using List.find?_some hf
    obtain ⟨k1, k2, rfl, h1, h2⟩ := split_at_key (·.id) hnd (List.mem_of_find?_eq_some hf)
    exact loop_around step (fun s => get s = v0) (fun s => get s = f kv) k1 k2 kv
      (fun s x hx hs => (hkeep s x (hk ▸ h1 x hx)).trans hs) (fun s hs => hset s kv hk hs)
      (fun s x hx hs => (hkeep s x (hk ▸ h2 x hx)).trans hs) init h0

/-- reading a section of fixed keys (a case-sensitive `parseMapping`, then the key loop, both silent): `loop_reads` on the
pairs of the node, in terms of the pair written `key`. `hkeep` is taken in the form the frames of the key functions have -/
theorem section_reads (cfg : Cfg) (what : String) (n : Node) (ae : Bool) (step : σ → KV → σ × List PErr) (init : σ)
    (get : σ → α) (key : String) (val : KV → α) (ok : KV → Prop)
    (hkeep : ∀ st kv, kv.id ≠ key → get (step st kv).1 = get st)
    (hset : ∀ st kv, kv.id = key → (step st kv).2 = [] → get st = get init → get (step st kv).1 = val kv ∧ ok kv)
    (hm : (parseMapping cfg what n ae true).2 = []) (hl : (loop step init (parseMapping cfg what n ae true).1).2 = []) :
    get (loop step init (parseMapping cfg what n ae true).1).1 = (mpair n key).elim (get init) (fun p => val (kvOf cfg true p)) ∧
    ∀ p, mpair n key = some p → ok (kvOf cfg true p) := by
  obtain ⟨_, heq, hnd, _, _⟩ := parseMapping_silent cfg what n ae true hm
  rw [heq] at hl ⊢
  obtain ⟨hf, hok⟩ := loop_reads step get key val ok (get init) (fun st kv hk _ => hkeep st kv hk) hset _ init hnd hl rfl
  rw [find_kvOf] at hf hok
  exact ⟨hf.trans (by unfold mpair; cases (pairs n.content).find? (fun p => p.1.value = key) <;> rfl),
    fun p hp => hok _ (congrArg (Option.map (kvOf cfg true)) hp)⟩

/-- `section_reads` where the iteration of `key` writes `val kv` and reports `errs kv` whatever the state -/
theorem section_reads_of_eq (cfg : Cfg) (what : String) (n : Node) (ae : Bool) (step : σ → KV → σ × List PErr) (init : σ)
    (get : σ → α) (key : String) (val : KV → α) (errs : KV → List PErr)
    (hkeep : ∀ st kv, kv.id ≠ key → get (step st kv).1 = get st)
    (heq : ∀ st kv, kv.id = key → get (step st kv).1 = val kv ∧ (step st kv).2 = errs kv)
    (hm : (parseMapping cfg what n ae true).2 = []) (hl : (loop step init (parseMapping cfg what n ae true).1).2 = []) :
    get (loop step init (parseMapping cfg what n ae true).1).1 = (mpair n key).elim (get init) (fun p => val (kvOf cfg true p)) ∧
    ∀ p, mpair n key = some p → errs (kvOf cfg true p) = [] :=
  section_reads cfg what n ae step init get key val (fun kv => errs kv = []) hkeep
    (fun st kv hk hs _ => ⟨(heq st kv hk).1, (heq st kv hk).2 ▸ hs⟩) hm hl

/-- `section_reads` for a key whose value is one scalar (`id:`, `run:`, `shell:`, `uses:` of a step, `shell:` of `run:` …):
the field is the scalar written under the key, which is a non-empty scalar -/
theorem section_reads_str (cfg : Cfg) (what : String) (n : Node) (ae : Bool) (step : σ → KV → σ × List PErr) (init : σ)
    (get : σ → Option Str) (key : String) (h0 : get init = none)
    (hkeep : ∀ st kv, kv.id ≠ key → get (step st kv).1 = get st)
    (hset : ∀ st kv, kv.id = key → (step st kv).2 = [] →
      get (step st kv).1 = some (parseString kv.val false).1 ∧ (parseString kv.val false).2 = [])
    (hm : (parseMapping cfg what n ae true).2 = []) (hl : (loop step init (parseMapping cfg what n ae true).1).2 = []) :
    get (loop step init (parseMapping cfg what n ae true).1).1 = (mget n key).map newString ∧
    ∀ v, mget n key = some v → v.kind = .scalar ∧ v.value ≠ "" := by
  obtain ⟨hf, hok⟩ := section_reads cfg what n ae step init get key (fun kv => some (parseString kv.val false).1)
    (fun kv => (parseString kv.val false).2 = []) hkeep (fun st kv hk hs _ => hset st kv hk hs) hm hl
  rw [hf, h0, mget]
  cases hp : mpair n key with
  | none => exact ⟨rfl, nofun⟩
  | some p =>
    obtain ⟨hk, hv, hs⟩ := parseString_silent p.2 false (hok p hp)
    exact ⟨congrArg some hs, fun v e => by cases e; exact ⟨hk, hv rfl⟩⟩

end AL.PW

/-! ### "clean": what one parser function returns when it appends no diagnostic, as the clusters cite it -/

namespace AL.C03P
open AL.PW AL.Yaml AL.Ast

theorem append_nil_iff {α : Type} {a b : List α} : a ++ b = [] ↔ a = [] ∧ b = [] := List.append_eq_nil_iff

/-- `checkString` is silent only on a scalar node -/
theorem checkString_clean (n : Node) (ae : Bool) (h : (checkString n ae).2 = []) :
    n.kind = .scalar ∧ (checkString n ae).1 = true := by
  by_cases hk : n.kind = .scalar <;> by_cases he : n.value = "" <;> cases ae <;> simp_all [checkString]

/-- **`parseString`, clean.** When `parseString` appends no diagnostic the node is a scalar and the `*String` is that
scalar: its text, its quoting, its position. -/
theorem parseString_clean (n : Node) (ae : Bool) (h : (parseString n ae).2 = []) :
    n.kind = .scalar ∧ (parseString n ae).1 = newString n :=
  ⟨(parseString_silent n ae h).1, (parseString_silent n ae h).2.2⟩

/-- on anything but a scalar (a sequence, a mapping, an alias) `parseString` reports; what it returns then is the empty
string at the node's position. The same on an empty scalar where a text is required (`parseString_empty`) -/
theorem parseString_not_scalar (n : Node) (ae : Bool) (h : n.kind ≠ .scalar) :
    parseString n ae = (⟨"", false, n.pos⟩, [errAt n "not-scalar-string" [n.kind.name, n.tag]]) := by
  simp [parseString, checkString, h]

theorem parseString_empty (n : Node) (h : n.kind = .scalar) (he : n.value = "") :
    parseString n false = (⟨"", false, n.pos⟩, [errAt n "string-empty" []]) := by
  simp [parseString, checkString, h, he]

/-- a null node (`key:` with nothing after it) is a scalar with the empty text: kept where an empty string is allowed -/
theorem parseString_scalar_allowEmpty (n : Node) (h : n.kind = .scalar) : parseString n true = (newString n, []) := by
  simp [parseString, checkString, h]

theorem checkSequence_clean (sec : String) (n : Node) (ae : Bool) (h : (checkSequence sec n ae).2 = []) :
    n.kind = .sequence ∧ (checkSequence sec n ae).1 = true := by
  by_cases hk : n.kind = .sequence <;> cases ae <;> by_cases hl : n.content.length = 0 <;>
    simp_all [checkSequence, checkNotEmpty]

/-- `parseStringSequence`, clean: the node is a sequence and the strings are those of `parseStrings` on its elements, clean as well -/
theorem parseStringSequence_clean (sec : String) (n : Node) (ae aee : Bool) (h : (parseStringSequence sec n ae aee).2 = []) :
    n.kind = .sequence ∧ (parseStringSequence sec n ae aee).1 = some (parseStrings aee n.content).1 ∧
    (parseStrings aee n.content).2 = [] := by
  simp only [parseStringSequence] at h ⊢
  split at h
  · rename_i hc
    simp [(checkSequence_clean sec n ae h).2] at hc
  · rename_i hc
    simp only [hc, Bool.false_eq_true, if_false, append_nil_iff] at h ⊢
    exact ⟨(checkSequence_clean sec n ae h.1).1, trivial, h.2⟩

theorem parseExpression_clean (n : Node) (ex : String) (h : (parseExpression n ex).2 = []) :
    (parseExpression n ex).1 = some (newString n) := by
  simp only [parseExpression] at h ⊢
  split at h
  · simp at h
  · rename_i hc; simp [hc]

theorem keyId_clean (cfg : Cfg) (cs : Bool) (kn : Node) (h : (parseString kn false).2 = []) : keyId cfg cs kn = keyOf cfg cs kn :=
  keyId_silent cfg cs kn h

theorem mappingLoop_clean (cfg : Cfg) (what : String) (cs : Bool) : ∀ (l : List (Node × Node)) (seen : List (String × Yaml.Pos)),
    (mappingLoop cfg what cs l seen).2 = [] →
    ∀ p ∈ l, ∃ kv ∈ (mappingLoop cfg what cs l seen).1, kv.val = p.2 ∧ kv.id = keyOf cfg cs p.1 :=
  fun l seen h p hp => ⟨C05D.kvOf cfg cs p, (mappingLoop_silent cfg what cs l seen h).1 ▸ List.mem_map.2 ⟨p, hp, rfl⟩, rfl, rfl⟩

theorem mappingLoop_nodup (cfg : Cfg) (what : String) (cs : Bool) : ∀ (l : List (Node × Node)) (seen : List (String × Yaml.Pos)),
    ((mappingLoop cfg what cs l seen).1.map (·.id)).Nodup ∧
    ∀ kv ∈ (mappingLoop cfg what cs l seen).1, lookupSeen kv.id seen = none :=
  mappingLoop_ids_nodup cfg what cs

theorem parseMapping_nodup (cfg : Cfg) (what : String) (n : Node) (ae cs : Bool) :
    ((parseMapping cfg what n ae cs).1.map (·.id)).Nodup :=
  parseMapping_ids_nodup cfg what n ae cs

/-- **`parseMapping`, clean**: the node is a mapping (or null) and every pair of it is one entry of the result, with the
pair's value node and the id of its key -/
theorem parseMapping_clean (cfg : Cfg) (what : String) (n : Node) (ae cs : Bool) (h : (parseMapping cfg what n ae cs).2 = []) :
    (n.kind = .mapping ∨ n.isNull = true) ∧
    ∀ p ∈ pairs n.content, ∃ kv ∈ (parseMapping cfg what n ae cs).1, kv.val = p.2 ∧ kv.id = keyOf cfg cs p.1 := by
  obtain ⟨hk, heq, -⟩ := parseMapping_silent cfg what n ae cs h
  exact ⟨hk, fun p hp => ⟨C05D.kvOf cfg cs p, heq ▸ List.mem_map.2 ⟨p, hp, rfl⟩, rfl, rfl⟩⟩

theorem parseMapping_clean_notnull (cfg : Cfg) (what : String) (n : Node) (cs : Bool)
    (h : (parseMapping cfg what n false cs).2 = []) : n.kind = .mapping :=
  ((parseMapping_silent cfg what n false cs h).2.2.2.2 rfl).1

theorem parseMapping_clean_nonempty (cfg : Cfg) (what : String) (n : Node) (cs : Bool)
    (h : (parseMapping cfg what n false cs).2 = []) : (parseMapping cfg what n false cs).1 ≠ [] := by
  obtain ⟨-, heq, -, -, hne⟩ := parseMapping_silent cfg what n false cs h
  rw [heq]
  exact fun he => (hne rfl).2 (List.map_eq_nil_iff.1 he)

variable {σ : Type}

theorem loop_clean_cons (step : σ → KV → σ × List PErr) (init : σ) (kv : KV) (rest : List KV) :
    (loop step init (kv :: rest)).2 = [] ↔ (step init kv).2 = [] ∧ (loop step (step init kv).1 rest).2 = [] :=
  loop_silent_cons step init kv rest

theorem loop_cons_fst (step : σ → KV → σ × List PErr) (init : σ) (kv : KV) (rest : List KV) :
    (loop step init (kv :: rest)).1 = (loop step (step init kv).1 rest).1 :=
  loop_fst_cons step init kv rest

theorem loop_inv (step : σ → KV → σ × List PErr) (I : σ → Prop) (h : ∀ st kv, I st → I (step st kv).1) :
    ∀ (kvs : List KV) (init : σ), I init → I (loop step init kvs).1 :=
  fun kvs init h0 => loop_invariant step I kvs (fun s kv _ => h s kv) init h0

theorem loop_inv_clean (step : σ → KV → σ × List PErr) (I : σ → Prop)
    (h : ∀ st kv, I st → (step st kv).2 = [] → I (step st kv).1) :
    ∀ (kvs : List KV) (init : σ), I init → (loop step init kvs).2 = [] → I (loop step init kvs).1 :=
  fun kvs init h0 hc => loop_invariant_silent step I kvs init (fun s kv _ hs hi => h s kv hi hs) hc h0

/-- what holds after an iteration and is kept by the iterations over other ids holds at the end -/
theorem loop_pres (step : σ → KV → σ × List PErr) (Q : σ → Prop) (k0 : String)
    (hpres : ∀ st kv, kv.id ≠ k0 → Q st → (step st kv).2 = [] → Q (step st kv).1) :
    ∀ (kvs : List KV) (init : σ), (∀ kv ∈ kvs, kv.id ≠ k0) → Q init → (loop step init kvs).2 = [] → Q (loop step init kvs).1 :=
  fun kvs init hne h0 hc => loop_invariant_silent step Q kvs init (fun s kv hm hs hq => hpres s kv (hne kv hm) hq hs) hc h0

/-- **the key loop over pairwise distinct ids.** `I` holds before the iteration of `kv` (it is kept by the iterations of
the other ids), that iteration establishes `Q`, the later iterations (other ids) keep `Q`: a clean loop ends in `Q`. -/
theorem loop_keyed (step : σ → KV → σ × List PErr) (I Q : σ → Prop) (kv : KV)
    (hI : ∀ st kv', kv'.id ≠ kv.id → I st → I (step st kv').1)
    (hstore : ∀ st, I st → (step st kv).2 = [] → Q (step st kv).1)
    (hpres : ∀ st kv', kv'.id ≠ kv.id → Q st → (step st kv').2 = [] → Q (step st kv').1) :
    ∀ (kvs : List KV), (kvs.map (·.id)).Nodup → kv ∈ kvs → ∀ init, I init → (loop step init kvs).2 = [] →
      Q (loop step init kvs).1 := by
  intro kvs hnd hm init h0 hc
  obtain ⟨k1, k2, rfl, n1, n2⟩ := split_at_key (·.id) hnd hm
  exact loop_around_silent step I Q k1 k2 kv (fun s x hx _ => hI s x (n1 x hx)) hstore
    (fun s x hx hs hq => hpres s x (n2 x hx) hq hs) init h0 hc

/-- `mapKVs`, clean: every entry was processed silently and its result is in the list, under the entry's id -/
theorem mapKVs_clean {β : Type} (f : KV → R β) : ∀ (kvs : List KV), (mapKVs f kvs).2 = [] →
    ∀ kv ∈ kvs, (f kv).2 = [] ∧ (kv.id, (f kv).1) ∈ (mapKVs f kvs).1 :=
  fun kvs h kv hk => by
    rw [mapKVs_mapR] at h ⊢
    exact ⟨mapR_silent.1 h kv hk, List.mem_map.2 ⟨kv, hk, rfl⟩⟩

theorem or_of_clean {α : Type} {l : List α} {P : Prop} (h : l = [] → P) : l ≠ [] ∨ P := by
  by_cases hl : l = []
  · exact Or.inr (h hl)
  · exact Or.inl hl

end AL.C03P
