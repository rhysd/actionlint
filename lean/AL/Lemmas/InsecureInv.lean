import AL.Lemmas.InsecureBasic
/-
  C11, the main invariant: running the machine on the events of `e` (`evsOf … none e`, which is `(check Γ e).evs`)
  from any state `st` (outside safe calls)
    * first finishes `st` (emitting its pending report),
    * then emits the reports of `e` except the one of its outermost pending chain,
    * and ends with the cursor set `followAll …` of that outermost chain
  (`Eff`).  A safe call is the special case "finish, nothing pending".  `Sem` is the observational
  corollary "after a final `end()` the reports are those of the spec", which is compositional.
-/
namespace AL.Insecure
open AL AL.Sema AL.Spec

/-! ### spec-side facts -/

theorem followAll_nil (f : Bool) (segs : List Seg) : followAll [] f segs = [] := by
  induction segs generalizing f with
  | nil => rfl
  | cons s rest ih =>
    cases s with
    | prop n => simp [followAll, follow, ih]
    | idx => cases f <;> simp [followAll, follow, ih]
    | star => simp [followAll, follow, ih]

section spec
variable (roots : List Trie) (lower : String → String) (defined : String → Bool)

theorem chainReport_eq (n : String) (segs : List Seg) :
    chainReport roots n segs =
      rep (followAll (match roots.find? (·.name = n) with | none => [] | some r => [⟨[r.name], r⟩]) false segs) := by
  unfold chainReport
  cases roots.find? (·.name = n) with
  | none => simp [followAll_nil]
  | some r => rfl

/-- `chainReport` once the root lookup and the walk are known -/
theorem chainReport_of_find (root : String) (segs : List Seg) (r : Trie) (leaf : Cur)
    (hf : roots.find? (·.name = root) = some r)
    (hw : followAll [⟨[r.name], r⟩] false segs = [leaf]) (hl : leaf.node.isLeaf = true) :
    chainReport roots root segs = [[leaf.pathStr]] := by
  unfold chainReport
  rw [hf]
  simp [hw, hl, sortStrs, insertStr]

/-- `i` is not a string literal -/
def nonLit : E → Bool
  | .str _ => false
  | _ => true

theorem eq_str_of_nonLit {i : E} (h : nonLit i = false) : ∃ v, i = .str v := by
  cases i <;> first | exact ⟨_, rfl⟩ | cases h

theorem chain_index_lit (r : E) (v : String) (s : List Seg) :
    chain roots lower defined (.index r (.str v)) s = chain roots lower defined r (.prop (lower v) :: s) := by
  rw [chain]
theorem chain_index_nonlit (r i : E) (s : List Seg) (h : nonLit i = true) :
    chain roots lower defined (.index r i) s =
      reports roots lower defined i ++ chain roots lower defined r (.idx :: s) := by
  cases i <;> first | (simp [nonLit] at h; done) | (rw [chain]; all_goals (intro v hv; cases hv))
theorem leaveOf_index_nonlit (r i : E) (h : nonLit i = true) : leaveOf lower (.index r i) = .index := by
  cases i <;> first | (simp [nonLit] at h; done) | rfl
theorem chain_nil (e : E) : chain roots lower defined e [] = reports roots lower defined e := by
  cases e with
  | index r i => cases i <;> simp only [chain, reports]
  | _ => simp only [chain, reports]

theorem chain_call (c : String) (args : List E) (s : List Seg) :
    chain roots lower defined (.call c args) s = reports roots lower defined (.call c args) := by
  rw [chain]
  all_goals intros; simp_all

theorem chain_safe (e : E) (h : isSafeE lower e = true) (s : List Seg) : chain roots lower defined e s = [] := by
  cases e with
  | call c args => rw [chain_call, reports]; simp_all [isSafeE]
  | _ => simp [isSafeE] at h

theorem reports_safe (e : E) (h : isSafeE lower e = true) : reports roots lower defined e = [] := by
  rw [← chain_nil]; exact chain_safe roots lower defined e h []
end spec

/-! ### the two semantic judgements -/

/-- observational semantics of an event list: after a final `end()`, the reports are those of the
entry state (finished) followed by `rs` -/
def Sem (roots : List Trie) (evs : List Ev) (rs : List (List String)) : Prop :=
  ∀ st : State, st.safeCalls = 0 →
    (exec roots st evs).safeCalls = 0 ∧ (exec roots st evs).finish.reports = st.finish.reports ++ rs

/-- exact semantics: the entry state is finished, `pre` is emitted, and the cursor set `pc` with
filter flag `pf` is pending -/
def Eff (roots : List Trie) (evs : List Ev) (pre : List (List String)) (pc : List Cur) (pf : Bool) : Prop :=
  ∀ st : State, st.safeCalls = 0 →
    exec roots st evs = { cur := pc, filteringObject := pf, safeCalls := 0, reports := st.reports ++ rep st.cur ++ pre }

theorem Sem.nil (roots : List Trie) : Sem roots [] [] := by
  intro st h; simp [h]

theorem Sem.append {roots : List Trie} {a b : List Ev} {ra rb : List (List String)}
    (ha : Sem roots a ra) (hb : Sem roots b rb) : Sem roots (a ++ b) (ra ++ rb) := by
  intro st h
  obtain ⟨h1, h2⟩ := ha st h
  obtain ⟨h3, h4⟩ := hb _ h1
  rw [exec_append]
  exact ⟨h3, by rw [h4, h2, List.append_assoc]⟩

theorem Eff.toSem {roots : List Trie} {evs : List Ev} {pre : List (List String)} {pc : List Cur} {pf : Bool}
    (h : Eff roots evs pre pc pf) : Sem roots evs (pre ++ rep pc) := by
  intro st hs
  rw [h st hs]
  simp [finish_eq]

theorem Sem.thenEff {roots : List Trie} {a b : List Ev} {ra pre : List (List String)} {pc : List Cur} {pf : Bool}
    (ha : Sem roots a ra) (hb : Eff roots b pre pc pf) : Eff roots (a ++ b) (ra ++ pre) pc pf := by
  intro st h
  obtain ⟨h1, h2⟩ := ha st h
  rw [exec_append, hb _ h1]
  simp only [finish_eq] at h2
  rw [h2]; simp

theorem step_other (roots : List Trie) (st : State) (h : st.safeCalls = 0) :
    st.step roots (.leave .other) = st.finish := by
  simp [State.step, h]

theorem Sem.thenFinish {roots : List Trie} {a : List Ev} {ra : List (List String)}
    (ha : Sem roots a ra) : Eff roots (a ++ [.leave .other]) ra [] false := by
  intro st h
  obtain ⟨h1, h2⟩ := ha st h
  rw [exec_append, exec_cons, exec_nil, step_other _ _ h1]
  have h3 := finish_eq (exec roots st a)
  rw [h3] at h2 ⊢
  simp only [finish_eq] at h2
  simp only [h1, h2]

/-- extend a pending chain by one leave event that only transforms cursor set and flag -/
theorem Eff.thenSeg {roots : List Trie} {a : List Ev} {pre : List (List String)} {pc : List Cur} {pf : Bool}
    (ha : Eff roots a pre pc pf) (k : LeaveKind) (pc' : List Cur) (pf' : Bool)
    (hk : ∀ rs, State.step roots { cur := pc, filteringObject := pf, safeCalls := 0, reports := rs } (.leave k) =
      { cur := pc', filteringObject := pf', safeCalls := 0, reports := rs }) :
    Eff roots (a ++ [.leave k]) pre pc' pf' := by
  intro st h
  rw [exec_append, ha st h, exec_cons, exec_nil, hk]

/-! ### the invariant -/

theorem step_var (roots : List Trie) (st : State) (n : String) (h : st.safeCalls = 0) :
    st.step roots (.leave (.var n)) = (st.finish).onVar roots n := by
  simp [State.step, h]

section inv
variable (roots : List Trie) (lower : String → String) (dfn : String → Bool)

/-- what the invariant says about the events `evs` of the node `e` -/
def Inv (e : E) (evs : List Ev) : Prop :=
  ∃ pre pc pf, Eff roots evs pre pc pf ∧
    (∀ suffix, chain roots lower dfn e suffix = pre ++ rep (followAll pc pf suffix))

theorem Inv.sem {e : E} {evs : List Ev} (ih : Inv roots lower dfn e evs) :
    Sem roots evs (reports roots lower dfn e) := by
  obtain ⟨pre, pc, pf, h1, h2⟩ := ih
  have := h2 []
  rw [chain_nil] at this
  rw [this]; exact h1.toSem

/-- a non-chain node: children have observational semantics `rs`, then the node's own leave calls `end()` -/
theorem Inv.of_finish {e : E} {body : List Ev}
    (hchain : ∀ s, chain roots lower dfn e s = reports roots lower dfn e)
    (hbody : Sem roots body (reports roots lower dfn e)) : Inv roots lower dfn e (body ++ [.leave .other]) :=
  ⟨_, [], false, hbody.thenFinish, fun s => by simp [hchain, followAll_nil]⟩

/-- the judgement of the recursion: the invariant for `check`, its observational corollary for narrowing.
(One judgement per expression, not a mutual pair: narrowing falls through to checking on the same expression.) -/
def Both (e : E) : Prop :=
  Inv roots lower dfn e (evsOf lower dfn none e) ∧
    ∀ b, Sem roots (evsOf lower dfn (some b) e) (reports roots lower dfn e)

theorem Both.sem {e : E} (h : Both roots lower dfn e) :
    ∀ m, Sem roots (evsOf lower dfn m e) (reports roots lower dfn e)
  | none => h.1.sem
  | some b => h.2 b

/-- outside `&&`, `||`, `!` the events of narrowing are those of checking -/
theorem Both.of_inv {e : E} (hm : ∀ b, evsOf lower dfn (some b) e = evsOf lower dfn none e)
    (h : Inv roots lower dfn e (evsOf lower dfn none e)) : Both roots lower dfn e :=
  ⟨h, fun b => hm b ▸ h.sem⟩

mutual
theorem evsOf_inv : ∀ e : E, Both roots lower dfn e
  | .null | .bool | .num | .str _ =>
    Both.of_inv roots lower dfn (fun _ => rfl)
      (Inv.of_finish roots lower dfn (body := []) (fun s => by simp [chain, reports])
        (by simpa [reports] using Sem.nil roots))
  | .var n => by
    refine Both.of_inv roots lower dfn (fun _ => rfl)
      ⟨[], (match roots.find? (·.name = n) with | none => [] | some r => [⟨[r.name], r⟩]), false, ?_, ?_⟩
    · intro st h
      rw [evsOf, exec_cons, exec_nil, step_var _ _ _ h, finish_eq]
      simp only [State.onVar]
      cases roots.find? (·.name = n) <;> simp [h]
    · intro s; rw [chain, chainReport_eq]; rfl
  | .objDeref r p => by
    obtain ⟨pre, pc, pf, h1, h2⟩ := (evsOf_inv r).1
    refine Both.of_inv roots lower dfn (fun _ => rfl) ⟨pre, pc.filterMap (·.child p), pf, ?_, fun s => ?_⟩
    · exact h1.thenSeg _ _ _ (fun rs => by simp [State.step, State.onPropAccess])
    · rw [chain, h2]; simp [followAll, follow]
  | .arrDeref r => by
    obtain ⟨pre, pc, pf, h1, h2⟩ := (evsOf_inv r).1
    refine Both.of_inv roots lower dfn (fun _ => rfl) ⟨pre, (follow pc pf .star).1, true, ?_, fun s => ?_⟩
    · exact h1.thenSeg _ _ _ (fun rs => rfl)
    · rw [chain, h2]; simp [followAll, follow]
  | .index r i => by
    obtain ⟨pre, pc, pf, h1, h2⟩ := (evsOf_inv r).1
    have hi := (evsOf_inv i).1.sem
    refine Both.of_inv roots lower dfn (fun _ => rfl) ?_
    rw [evsOf]
    cases hl : nonLit i
    · -- string-literal index: the literal's own leave finishes the state, then a property access
      obtain ⟨v, rfl⟩ := eq_str_of_nonLit hl
      refine ⟨pre, pc.filterMap (·.child (lower v)), pf, ?_, fun s => ?_⟩
      · have hi' : Sem roots (evsOf lower dfn none (.str v)) [] := by simpa [reports] using hi
        simpa [leaveOf] using (hi'.thenEff h1).thenSeg (.indexLit (lower v)) _ pf
          (fun rs => by simp [State.step, State.onPropAccess])
      · rw [chain_index_lit, h2]; simp [followAll, follow]
    · -- the operand's leftmost leaf (variable, literal, call — safe or not) finishes the index's pending chain
      rw [leaveOf_index_nonlit _ _ _ hl]
      refine ⟨reports roots lower dfn i ++ pre, (follow pc pf .idx).1, false, ?_, fun s => ?_⟩
      · exact (hi.thenEff h1).thenSeg .index _ _
          (fun rs => by cases pf <;> simp [State.step, State.onIndexAccess, follow])
      · rw [chain_index_nonlit _ _ _ _ _ _ hl, h2]
        cases pf <;> simp [followAll, follow]
  | .call c args => by
    refine Both.of_inv roots lower dfn (fun _ => rfl) ?_
    rw [evsOf]
    cases hs : isSafeCall lower c
    · have hb : Sem roots (if dfn (lower c) then evsArgs lower dfn args else [])
          (if !dfn (lower c) then [] else reportsList roots lower dfn args) := by
        cases dfn (lower c)
        · exact Sem.nil roots
        · exact evsArgs_sem args
      simp only [enterOf, leaveOf, hs, Bool.false_eq_true, if_false, List.nil_append]
      refine Inv.of_finish roots lower dfn (chain_call _ _ _ c args) ?_
      rw [reports]
      simpa only [hs, Bool.false_eq_true, if_false] using hb
    · -- a safe call is `end()`: nothing of it is seen, the chain pending before it is finished
      have hsil : Silent roots (if dfn (lower c) then evsArgs lower dfn args else []) := by
        split
        · exact evsArgs_silent roots lower dfn args
        · exact Silent.nil roots
      refine ⟨[], [], false, fun st h => ?_, fun s => ?_⟩
      · simp only [enterOf, leaveOf, hs, if_true]
        rw [exec_safe_top _ _ hsil _ h, finish_eq]
        simp [h]
      · rw [chain_safe _ _ _ (.call c args) (by simpa [isSafeE] using hs)]; simp [followAll_nil]
  | .cmp op l r =>
    Both.of_inv roots lower dfn (fun _ => rfl)
      (Inv.of_finish roots lower dfn (fun s => by simp [chain])
        (by rw [reports]; exact (evsOf_inv l).1.sem.append (evsOf_inv r).1.sem))
  | .not e =>
    ⟨Inv.of_finish roots lower dfn (fun s => by simp [chain]) (by rw [reports]; exact (evsOf_inv e).1.sem),
     fun b => by rw [reports]; exact (evsOf_inv e).2 _⟩
  | .logical op l r =>
    have h := fun m => ((evsOf_inv l).sem roots lower dfn m).append (evsOf_inv r).1.sem
    ⟨Inv.of_finish roots lower dfn (fun s => by simp [chain]) (by rw [reports]; exact h _),
     fun b => by rw [reports]; exact h _⟩
theorem evsArgs_sem : ∀ es : List E, Sem roots (evsArgs lower dfn es) (reportsList roots lower dfn es)
  | [] => by rw [reportsList]; exact Sem.nil roots
  | a :: rest => by rw [evsArgs, reportsList]; exact (evsOf_inv a).1.sem.append (evsArgs_sem rest)
end

/-- machine = specification, for every expression; no environment is involved -/
theorem run_evsOf (e : E) : run roots (evsOf lower dfn none e) = reports roots lower dfn e := by
  have h := Inv.sem roots lower dfn (evsOf_inv roots lower dfn e).1 {} rfl
  rw [run_eq, h.2]
  simp [finish_eq]

end inv

/-- the machine, run on the events of `e` and finished, reports what the chain specification says -/
theorem run_eq_reports (roots : List Trie) (env : Env) (e : E) :
    run roots (check env e).evs = reports roots env.lower (dfnOf env) e := by
  rw [check_evs_eq]; exact run_evsOf roots env.lower _ e

end AL.Insecure
