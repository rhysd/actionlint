import AL.Lemmas.NeedsCollect
import AL.Lemmas.Order
/-
  `pickStart`, `printLoop`, and the specification of `cycleDiag`.
-/
namespace AL.Needs
open AL.Spec

/-! ### `pickStart` -/

theorem P.isBefore_key : Order.KeyOrder P.isBefore fun p => (p.line, p.col) :=
  ((Order.KeyOrder.nat.comap fun p : P => p.line).lex (Order.KeyOrder.nat.comap fun p : P => p.col)).congr fun a b => by
    show a.isBefore b = if a.line = b.line then decide (a.col < b.col) else decide (a.line < b.line)
    unfold P.isBefore
    by_cases h : a.line = b.line
    · rw [if_pos h, h, decide_eq_false (Nat.lt_irrefl _), decide_eq_true rfl]
      rfl
    · rw [if_neg h, decide_eq_false h, Bool.false_and, Bool.or_false]

/-- `pickStart` returns one of the candidates, and none of them is before it. -/
theorem pickStart_spec (g : Graph) (keys : List Nat) (s : Nat) :
    pickStart g s keys ∈ s :: keys ∧
      ∀ n ∈ s :: keys, (posOf g n).isBefore (posOf g (pickStart g s keys)) = false :=
  Order.foldl_min (P.isBefore_key.sw.comap (posOf g)) keys s

/-! ### The collected edge map -/

theorem keys_pairsRev (l : List Nat) : (pairsRev l).keys = l.dropLast.reverse := by
  fun_induction pairsRev l with
  | case1 x y r ih =>
    simp only [Edges.keys, List.map_append, List.map_cons, List.map_nil] at ih ⊢
    rw [ih]
    simp
  | case2 l h =>
    match l, h with
    | [], _ => simp [Edges.keys]
    | [x], _ => simp [Edges.keys]
    | x :: y :: r, h => exact absurd rfl (h x y r)

theorem chain_pairsRev (l : List Nat) : List.IsChain (fun x y => (x, y) ∈ pairsRev l) l := by
  fun_induction pairsRev l with
  | case1 x y r ih =>
    rw [List.isChain_cons_cons]
    exact ⟨by simp, ih.imp fun a b h => by simp [h]⟩
  | case2 l h =>
    match l, h with
    | [], _ => exact .nil
    | [x], _ => exact .singleton x
    | x :: y :: r, h => exact absurd rfl (h x y r)

theorem rel_of_mem_pairsRev {R : Nat → Nat → Prop} (l : List Nat) (h : List.IsChain R l) :
    ∀ x y, (x, y) ∈ pairsRev l → R x y := by
  fun_induction pairsRev l with
  | case1 a b r ih =>
    rw [List.isChain_cons_cons] at h
    intro x y hxy
    simp only [List.mem_append, List.mem_singleton, Prod.mk.injEq] at hxy
    rcases hxy with hxy | ⟨rfl, rfl⟩
    · exact ih h.2 x y hxy
    · exact h.1
  | case2 l hl => intro x y hxy; simp at hxy

theorem length_pairsRev (l : List Nat) : (pairsRev l).length = l.dropLast.length := by
  have := congrArg List.length (keys_pairsRev l)
  simpa [Edges.keys] using this

/-- The final edge map `pairsRev cs ++ [(a, b)]` of a cycle segment: its keys are the segment, following
it from `b` runs through the segment and back to `b`, and every binding is an edge of the graph. -/
theorem CycleSeg.edges_facts {g : Graph} {st : List Status} {a b : Nat} {cs : List Nat}
    (h : CycleSeg g st a b cs) :
    let edges : Edges := pairsRev cs ++ [(a, b)]
    edges.keys.Perm cs ∧ List.IsChain (fun x y => edges.get? x = some y) (cs ++ [b]) ∧
      ∀ x y, edges.get? x = some y → y ∈ g.succ x := by
  intro edges
  have hperm : edges.keys.Perm cs := by
    have : edges.keys = cs.dropLast.reverse ++ [a] := by
      simp only [edges, Edges.keys, List.map_append, List.map_cons, List.map_nil, ← keys_pairsRev cs]
    rw [this]
    conv => rhs; rw [← List.dropLast_append_getLast? a h.last]
    exact List.Perm.append_right _ (List.reverse_perm _)
  refine ⟨hperm, ?_, fun x y hxy => ?_⟩
  · have hmem : List.IsChain (fun x y => (x, y) ∈ edges) (cs ++ [b]) := by
      rw [List.isChain_append]
      refine ⟨(chain_pairsRev cs).imp fun x y hxy => by simp [edges, hxy], .singleton b, ?_⟩
      intro x hx y hy
      rw [h.last] at hx
      cases hx; cases hy
      simp [edges]
    exact hmem.imp fun x y hxy => Edges.get?_of_mem (hperm.nodup_iff.2 h.nodup) hxy
  · rcases List.mem_append.1 (Edges.mem_of_get? hxy) with hm | hm
    · exact (rel_of_mem_pairsRev cs h.chain x y hm).mem
    · cases List.mem_singleton.1 hm
      exact h.close.mem

/-! ### `printLoop` -/

theorem printLoop_follow (edges : Edges) (start : Nat) :
    ∀ (q : List Nat) (x fuel : Nat), q ≠ [] →
      List.IsChain (fun x y => edges.get? x = some y) (x :: q) →
      (∀ y ∈ q.dropLast, y ≠ start) → q.getLast? = some start → q.length ≤ fuel →
      ∃ first, edges.get? x = some first ∧ printLoop edges start fuel first = q := by
  intro q
  induction q with
  | nil => intro _ _ h; exact absurd rfl h
  | cons y r ih =>
    intro x fuel _ hch hne hlast hfuel
    rw [List.isChain_cons_cons] at hch
    refine ⟨y, hch.1, ?_⟩
    cases fuel with
    | zero => simp at hfuel
    | succ f =>
      cases r with
      | nil =>
        simp at hlast
        subst hlast
        simp [printLoop]
      | cons z r =>
        have hy : y ≠ start := hne y (by simp)
        obtain ⟨first, hf, hp⟩ := ih y f (by simp) hch.2
          (fun w hw => hne w (by simp only [List.dropLast_cons_cons, List.mem_cons]; exact Or.inr hw))
          (by simpa [List.getLast?_cons_cons] using hlast) (by simpa using hfuel)
        simp only [printLoop, hy, if_false, hf, hp]

/-- Rotating a closed chain. -/
theorem isChain_rotate {R : Nat → Nat → Prop} {l1 l2 : List Nat} {s c : Nat}
    (hhead : (l1 ++ s :: l2).head? = some c) (h : List.IsChain R ((l1 ++ s :: l2) ++ [c])) :
    List.IsChain R (s :: (l2 ++ l1 ++ [s])) := by
  cases l1 with
  | nil =>
    simp at hhead
    subst hhead
    simpa using h
  | cons d l1 =>
    simp at hhead
    subst hhead
    have h' : List.IsChain R ((d :: l1) ++ s :: (l2 ++ [d])) := by simpa using h
    rw [List.isChain_split] at h'
    have : s :: (l2 ++ (d :: l1) ++ [s]) = (s :: l2) ++ d :: (l1 ++ [s]) := by simp
    rw [this, List.isChain_split]
    exact ⟨by simpa using h'.2, by simpa using h'.1⟩

theorem walk_of_chain {g : Graph} : ∀ (l : List Nat), l ≠ [] → List.IsChain (fun x y => y ∈ g.succ x) l →
    (∀ x ∈ l, x < g.length) → Walk g l := by
  intro l
  induction l with
  | nil => intro h; exact absurd rfl h
  | cons x r ih =>
    intro _ hch hlt
    cases r with
    | nil => exact .single x (hlt x (by simp))
    | cons y r =>
      rw [List.isChain_cons_cons] at hch
      exact .cons x y r (hlt x (by simp)) hch.1 (ih (by simp) hch.2 fun z hz => hlt z (by simp [hz]))

/-! ### Specification of `cycleDiag` -/

theorem cycleDiag_of_none {g : Graph} {order : List Nat} {st : List Status}
    (h : detectFirstCycle g order (g.map fun _ => Status.new) = (none, st)) : cycleDiag g order = none := by
  simp only [cycleDiag, h]

theorem mem_rotate {l1 l2 : List Nat} {s x : Nat} : x ∈ s :: (l2 ++ l1 ++ [s]) ↔ x ∈ l1 ++ s :: l2 := by
  grind

theorem cycleDiag_of_found {g : Graph} {order : List Nat} {st : List Status} {a b : Nat}
    (h : detectFirstCycle g order (g.map fun _ => Status.new) = (some (a, b), st)) (hf : Found g st a b) :
    ∃ vs, IsCycle g vs ∧
      cycleDiag g order = some { pos := posOf g (vs.headD 0), path := vs.map (idOf g) } ∧
      ∀ v ∈ vs, (posOf g v).isBefore (posOf g (vs.headD 0)) = false := by
  obtain ⟨cs, hseg⟩ := hf.seg
  have hcoll := collectCycle_seg hf.len hseg
  obtain ⟨hperm, hchain, hedge⟩ := hseg.edges_facts
  generalize (pairsRev cs ++ [(a, b)] : Edges) = edges at hcoll hperm hchain hedge
  -- the earliest node `start` of the segment, and the segment rotated to begin and end there
  obtain ⟨hsm, hsmin⟩ := pickStart_spec g edges.keys a
  generalize hstart : pickStart g a edges.keys = start at hsm hsmin
  have hscs : start ∈ cs := by
    rcases List.mem_cons.1 hsm with rfl | h
    · exact List.mem_of_getLast? hseg.last
    · exact hperm.mem_iff.1 h
  obtain ⟨l1, l2, hsplit⟩ := List.append_of_mem hscs
  subst hsplit
  have hrot : List.IsChain (fun x y => edges.get? x = some y) (start :: (l2 ++ l1 ++ [start])) :=
    isChain_rotate (c := b) hseg.head hchain
  have hnd := List.nodup_append.1 hseg.nodup
  have hlenE : edges.length = (l1 ++ start :: l2).length := by simpa [Edges.keys] using hperm.length_eq
  obtain ⟨first, hfirst, hprint⟩ := printLoop_follow edges start (l2 ++ l1 ++ [start]) start (edges.length + 1)
    (by simp) hrot
    (by
      rw [List.dropLast_concat]
      rintro y hy rfl
      rcases List.mem_append.1 hy with hy | hy
      · exact (List.nodup_cons.1 hnd.2.1).1 hy
      · exact hnd.2.2 y hy y List.mem_cons_self rfl)
    (by simp)
    (by rw [hlenE]; simp only [List.length_append, List.length_cons, List.length_nil]; omega)
  have hwalk : Walk g (start :: (l2 ++ l1 ++ [start])) :=
    walk_of_chain _ (by simp) (hrot.imp fun x y => hedge x y) fun x hx => hseg.lt hf.len x (mem_rotate.1 hx)
  refine ⟨start :: (l2 ++ l1 ++ [start]), ⟨hwalk, by simp; omega, ?_⟩, ?_, fun v hv => ?_⟩
  · rw [← List.cons_append, List.getLast?_concat]; rfl
  · have hstart' : pickStart g a (edges.map (·.1)) = start := hstart
    simp only [cycleDiag, h, hcoll, hstart', hfirst, hprint, List.headD_cons, List.map_cons]
  · exact hsmin v (List.mem_cons_of_mem _ (hperm.mem_iff.2 (mem_rotate.1 hv)))

end AL.Needs
