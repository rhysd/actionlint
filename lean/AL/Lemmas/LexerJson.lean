import AL.Lemmas.LexerComplete
/-
  The JSON-number gap: which RFC 8259 numbers `Next` does not accept.
-/
namespace AL.Lex
open AL AL.Spec

/-- The parts of an RFC 8259 number `-? (0|[1-9][0-9]*) (\.[0-9]+)? ([eE][+-]?[0-9]+)?`, as runes. -/
structure JsonParts where
  sign    : List Nat   -- `[]` or `-`
  int     : List Nat   -- `0 | [1-9][0-9]*`
  frac    : List Nat   -- `[]` or `.` followed by at least one digit
  e       : List Nat   -- `[]` or `e` / `E`
  esign   : List Nat   -- `[]`, `+` or `-`
  edigits : List Nat   -- at least one digit (if `e` is present)

def JsonParts.WF (p : JsonParts) : Prop :=
  (p.sign = [] ∨ p.sign = [45]) ∧ DecInt p.int ∧
  (p.frac = [] ∨ ∃ ds, p.frac = 46 :: ds ∧ Digits1 ds) ∧
  ((p.e = [] ∧ p.esign = [] ∧ p.edigits = []) ∨
   ((p.e = [101] ∨ p.e = [69]) ∧ (p.esign = [] ∨ p.esign = [43] ∨ p.esign = [45]) ∧ Digits1 p.edigits))

def JsonParts.spell (p : JsonParts) : List Nat := p.sign ++ p.int ++ p.frac ++ p.e ++ p.esign ++ p.edigits

/-- RFC 8259 `number` -/
def JsonNumber (l : List Nat) : Prop := ∃ p : JsonParts, p.WF ∧ l = p.spell

/-- exponent with a `+` sign, e.g. `1e+5` -/
def JsonParts.expPlus (p : JsonParts) : Prop := p.esign = [43]
/-- exponent with a leading zero followed by more digits, e.g. `1e05` -/
def JsonParts.expLeadingZero (p : JsonParts) : Prop := ∃ d ds, p.edigits = 48 :: d :: ds
/-- the token kind of a number -/
def JsonParts.kind (p : JsonParts) : TokKind := if p.frac = [] ∧ p.e = [] then .int else .float

theorem pTail_plus (k : TokKind) {e : Nat} (he : e = 101 ∨ e = 69) (w : List Nat) : pTail (e :: 43 :: w) k = none := by
  rcases he with rfl | rfl <;> simp [pTail, pExp, pSign, show isNum 43 = false from rfl]

theorem pTail_lz (k : TokKind) {e d : Nat} (he : e = 101 ∨ e = 69) {sg : List Nat} (hsg : sg = [] ∨ sg = [45])
    (hd : isNum d = true) (w : List Nat) : pTail (e :: sg ++ [48] ++ d :: w) k = none := by
  unfold pTail
  rw [pExp_of hsg (.inl rfl) (fun h => absurd rfl h)]
  dsimp only
  rw [List.drop_left]
  rcases he with rfl | rfl <;> simp [pFinish, isNum_alnum hd, shift]

/-- a JSON number with `+` in the exponent or a leading zero in the exponent is no number of the expression syntax,
whatever follows -/
theorem pNum_json_gap {p : JsonParts} (hp : p.WF) (hgap : p.expPlus ∨ p.expLeadingZero) (rest : List Nat) :
    pNum (p.spell ++ rest) = none := by
  obtain ⟨hsign, hint, hfrac, hexp⟩ := hp
  -- the exponent is present
  obtain ⟨he, hes, hed⟩ : (p.e = [101] ∨ p.e = [69]) ∧ (p.esign = [] ∨ p.esign = [43] ∨ p.esign = [45]) ∧
      Digits1 p.edigits := by
    rcases hexp with ⟨-, h2, h3⟩ | h
    · rcases hgap with hg | ⟨d, ds, hg⟩
      · rw [JsonParts.expPlus, h2] at hg; cases hg
      · rw [h3] at hg; cases hg
    · exact h
  obtain ⟨e, hpe, hee⟩ : ∃ e, p.e = [e] ∧ (e = 101 ∨ e = 69) := by
    rcases he with h | h
    · exact ⟨101, h, .inl rfl⟩
    · exact ⟨69, h, .inr rfl⟩
  have hsp : p.spell ++ rest = p.sign ++ (p.int ++ (p.frac ++ (e :: (p.esign ++ p.edigits ++ rest)))) := by
    simp [JsonParts.spell, hpe]
  rw [hsp, pNum_prefix hsign hint hfrac (by rcases hee with rfl | rfl <;> rfl)
    (by rcases hee with rfl | rfl <;> simp) (fun _ => by rcases hee with rfl | rfl <;> simp)]
  suffices h : pTail (e :: (p.esign ++ p.edigits ++ rest)) (if p.frac = [] then .int else .float) = none by
    rw [h]; rfl
  by_cases hplus : p.esign = [43]
  · rw [hplus]; exact pTail_plus _ hee _
  · obtain ⟨d, ds, hlz⟩ : ∃ d ds, p.edigits = 48 :: d :: ds := hgap.resolve_left hplus
    have hsg : p.esign = [] ∨ p.esign = [45] := hes.imp_right fun h => h.resolve_left hplus
    have hdn : isNum d = true := hed.2 d (by rw [hlz]; simp)
    have := pTail_lz (if p.frac = [] then TokKind.int else .float) hee hsg hdn (ds ++ rest)
    simpa [hlz] using this

theorem json_head {p : JsonParts} (hp : p.WF) {l : List Sym} (hl : runes l = p.spell) :
    ∃ c cs, l = c :: cs ∧ (isNum c.r = true ∨ c.r = 45) := by
  obtain ⟨r, t, h, hr⟩ := optMinus_head (optMinus_append_of hp.1 hp.2.1) fun _ => decInt_digit
  have hh : (runes l).head? = some r := by rw [hl, JsonParts.spell, h]; rfl
  cases l with
  | nil => cases hh
  | cons c cs => cases hh; exact ⟨c, cs, rfl, hr⟩

theorem json_fail {p : JsonParts} (hp : p.WF) {l rest : List Sym} (hl : runes l = p.spell)
    (hgap : p.expPlus ∨ p.expLeadingZero) {st : LexState} (hu : st.scan.unread = l ++ rest) :
    IsFail (lexNext st) := by
  obtain ⟨c, cs, hlc, hc⟩ := json_head hp hl
  have hws : isWhitespace c.r = false := by
    rcases hc with hc | hc
    · simp [isNum, isWhitespace] at hc ⊢; omega
    · rw [hc]; rfl
  -- no blank in front, dispatch to `lexNum`
  have hsk := (skipWhite_exact [] st (l ++ rest) hu (by simp) (by rw [hlc]; intro d hd; cases hd; exact hws)).1
  have := lexNext_agrees st
  rwa [ahead, hsk, runes_append, hl, pNext_num (hl ▸ hlc ▸ rfl) hc, pNum_json_gap hp hgap] at this

/-- a JSON number without the two gap forms is a number of the expression syntax -/
theorem json_spelling {p : JsonParts} (hp : p.WF) {l : List Sym} (hl : runes l = p.spell)
    (h1 : ¬ p.expPlus) (h2 : ¬ p.expLeadingZero) : Spelling p.kind l := by
  obtain ⟨hsign, hint, hfrac, hexp⟩ := hp
  have hip : optMinus DecInt (p.sign ++ p.int) := optMinus_append_of hsign hint
  unfold JsonParts.kind
  split
  · rename_i h
    have he : p.esign = [] ∧ p.edigits = [] := by
      rcases hexp with ⟨-, a, b⟩ | ⟨a, -, -⟩
      · exact ⟨a, b⟩
      · rw [h.2] at a; rcases a with a | a <;> cases a
    show optMinus DecInt (runes l) ∨ _
    left; rw [hl]; unfold JsonParts.spell
    simpa [h.1, h.2, he.1, he.2] using hip
  · rename_i h
    show FloatLit (runes l)
    refine ⟨p.sign ++ p.int, p.frac, p.e ++ p.esign ++ p.edigits, hip, hfrac, ?_, ?_, ?_⟩
    · rcases hexp with ⟨a, b, c⟩ | ⟨a, b, c⟩
      · left; simp [a, b, c]
      · right
        have hsg : p.esign = [] ∨ p.esign = [45] := by
          rcases b with b | b | b
          · exact .inl b
          · exact absurd b h1
          · exact .inr b
        have hdec : DecInt p.edigits := by
          obtain ⟨hne, hall⟩ := c
          cases hd : p.edigits with
          | nil => exact absurd hd hne
          | cons d ds =>
            have hdn : isNum d = true := hall d (by simp [hd])
            by_cases h48 : d = 48
            · cases ds with
              | nil => left; rw [h48]
              | cons d' ds' => exact absurd ⟨d', ds', by rw [hd, h48]⟩ h2
            · right
              have := isNum_ne_zero hdn h48
              exact ⟨d, ds, rfl, this.1, this.2, fun x hx => hall x (by simp [hd, hx])⟩
        rcases a with a | a
        · exact ⟨101, p.esign ++ p.edigits, by simp [a], .inl rfl, optMinus_append_of hsg hdec⟩
        · exact ⟨69, p.esign ++ p.edigits, by simp [a], .inr rfl, optMinus_append_of hsg hdec⟩
    · by_cases hf : p.frac = []
      · right
        intro he
        have : p.e = [] := by
          cases hpe : p.e with
          | nil => rfl
          | cons x xs => rw [hpe] at he; simp at he
        exact h ⟨hf, this⟩
      · exact .inl hf
    · rw [hl]; unfold JsonParts.spell; simp [List.append_assoc]

/-! ### at the level of `LexExpression` -/

theorem lexInit_unread {src : List Sym} (h : ¬ StartsWithBOM src) : (lexInit src).scan.unread = src := by
  have := (LInv.init src).split
  rw [lexInit_buf h] at this
  simpa using this.symm

theorem lexInit_err {src : List Sym} (h : ¬ StartsWithBOM src) (hc : ∀ c, src.head? = some c → Clean c) :
    (lexInit src).err = none := by
  have he : (Scanner.init src).2 = [] := (Scanner.init_errs_nil src).2 fun c hch =>
    hc c (by rw [← lexInit_unread h]; simpa [lexInit] using hch)
  unfold lexInit
  rw [← Prod.eta (Scanner.init src), he]
  rfl

theorem lexExpression_fail {src : List Sym} (h : IsFail (lexNext (lexInit src))) :
    ∃ e, lexExpression src = .error e := by
  unfold lexExpression tokens
  rw [show src.length + 2 = (src.length + 1) + 1 from rfl, lexAll_succ]
  simp only [h.1, if_true, go_cons]
  cases he : (lexNext (lexInit src)).2.err with
  | none => exact absurd he h.2.2
  | some e => exact ⟨_, rfl⟩

/-- a blank and the end marker `}}` -/
def endMark : List Sym := [⟨32, 1, false⟩, ⟨125, 1, false⟩, ⟨125, 1, false⟩]

theorem json_not_bom {p : JsonParts} (hp : p.WF) {l : List Sym} (hl : runes l = p.spell) (rest : List Sym) :
    ¬ StartsWithBOM (l ++ rest) := by
  obtain ⟨c, cs, rfl, hc⟩ := json_head hp hl
  rintro ⟨c', r', h, hr, -⟩
  simp at h; obtain ⟨rfl, -⟩ := h
  rcases hc with hc | hc
  · simp [isNum, hr] at hc
  · omega

/-- all other JSON numbers, followed by ` }}`, are lexed as one INT or FLOAT token and END -/
theorem json_ok {p : JsonParts} (hp : p.WF) {l : List Sym} (hl : runes l = p.spell)
    (h1 : ¬ p.expPlus) (h2 : ¬ p.expLeadingZero) (hcl : ∀ d ∈ l, Clean d) :
    ∃ ts off, lexExpression (l ++ endMark) = .ok (ts, off) ∧
      ts.map (fun t => (t.kind, t.val)) = [(p.kind, l), (.end, [⟨125, 1, false⟩, ⟨125, 1, false⟩])] := by
  have hbom := json_not_bom hp hl endMark
  have hsp := json_spelling hp hl h1 h2
  obtain ⟨c, cs, hlc, hc⟩ := json_head hp hl
  have hne : l ≠ [] := by rw [hlc]; simp
  have hkind : p.kind = .int ∨ p.kind = .float := by unfold JsonParts.kind; split <;> simp
  -- first token
  obtain ⟨a1, a2, a3, a4, a5⟩ := lexNext_complete' (st := lexInit (l ++ endMark)) (gap := []) (rest := endMark)
    hsp hne (lexInit_buf hbom) (by simpa using lexInit_unread hbom) (by simp)
    (by rcases hkind with h | h <;> rw [h] <;> rfl)
  have e1 := a5 (lexInit_err hbom (by
      intro d hd; rw [hlc] at hd; simp at hd; subst hd; exact hcl _ (by rw [hlc]; simp)))
    (by
      intro d hd
      have : d ∈ l ++ [⟨32, 1, false⟩] := List.mem_of_mem_tail (by simpa [endMark] using hd)
      simp at this; rcases this with h | rfl
      · exact hcl d h
      · exact ⟨rfl, by decide⟩)
  -- second token
  obtain ⟨b1, b2, b3, b4, b5⟩ := lexNext_complete' (st := (lexNext (lexInit (l ++ endMark))).2)
    (k := .end) (gap := [⟨32, 1, false⟩]) (val := [⟨125, 1, false⟩, ⟨125, 1, false⟩]) (rest := [])
    (.inl rfl) (by simp) a4 (by simpa [endMark] using a3) (by simp [isWhitespace]) rfl
  have e2 := b5 e1 (by intro d hd; simp at hd; rcases hd with rfl | rfl <;> exact ⟨rfl, by decide⟩)
  refine ⟨[(lexNext (lexInit (l ++ endMark))).1, (lexNext (lexNext (lexInit (l ++ endMark))).2).1],
    (lexNext (lexNext (lexInit (l ++ endMark))).2).2.scan.pos.off, ?_, ?_⟩
  · unfold lexExpression tokens
    rw [show (l ++ endMark).length + 2 = ((l ++ endMark).length + 1) + 1 from rfl, lexAll_succ]
    have hk1 : (lexNext (lexInit (l ++ endMark))).1.kind ≠ .end := by
      rw [a1]; rcases hkind with h | h <;> rw [h] <;> simp
    simp only [hk1, if_false]
    rw [show (l ++ endMark).length + 1 = ((l ++ endMark).length) + 1 from rfl, lexAll_succ]
    simp only [b1, if_true, go_cons, e1, e2, hk1, if_false, List.nil_append, List.cons_append]
  · simp [a1, a2, b1, b2]

end AL.Lex
