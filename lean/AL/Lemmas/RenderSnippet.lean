import AL.Model.Render
/-
  C16 helper lemmas: the lines `splitLines` produces contain no LF and are together no longer than the
  source; `getLine` returns one of them.
-/
namespace AL.Render

/-- the `\r` trimming of one scanned line -/
def trimCR (l : List Nat) : List Nat := if l.getLast? = some 13 then l.dropLast else l

theorem splitLines_eq (src : List Nat) : splitLines src = (splitLines.go src []).map trimCR := rfl

theorem go_no_lf : ∀ (s cur : List Nat), 10 ∉ cur → ∀ l ∈ splitLines.go s cur, 10 ∉ l
  | [], cur, hcur, l, hl => by
    unfold splitLines.go at hl
    split at hl
    · simp at hl
    · simp only [List.mem_singleton] at hl
      subst hl; exact hcur
  | b :: rest, cur, hcur, l, hl => by
    unfold splitLines.go at hl
    split at hl
    · simp only [List.mem_cons] at hl
      rcases hl with rfl | hl
      · exact hcur
      · exact go_no_lf rest [] (by simp) l hl
    · rename_i hb
      refine go_no_lf rest (cur ++ [b]) ?_ l hl
      simp only [List.mem_append, List.mem_singleton, not_or]
      exact ⟨hcur, fun h => hb h.symm⟩

theorem go_sum_le : ∀ (s cur : List Nat), ((splitLines.go s cur).map (·.length)).sum ≤ s.length + cur.length
  | [], cur => by
    unfold splitLines.go
    split <;> simp
  | b :: rest, cur => by
    unfold splitLines.go
    split
    · have ih := go_sum_le rest []
      simp only [List.map_cons, List.sum_cons, List.length_cons, List.length_nil] at ih ⊢
      omega
    · have ih := go_sum_le rest (cur ++ [b])
      simp only [List.length_append, List.length_cons, List.length_nil] at ih ⊢
      omega

theorem trimCR_length_le (l : List Nat) : (trimCR l).length ≤ l.length := by
  unfold trimCR; split
  · simp
  · exact Nat.le_refl _

theorem trimCR_no_lf {l : List Nat} (h : 10 ∉ l) : 10 ∉ trimCR l := by
  unfold trimCR; split
  · exact fun hm => h (List.dropLast_subset l hm)
  · exact h

theorem sum_map_trimCR_le : ∀ (ls : List (List Nat)),
    ((ls.map trimCR).map (·.length)).sum ≤ (ls.map (·.length)).sum
  | [] => by simp
  | l :: ls => by
    have ih := sum_map_trimCR_le ls
    have h := trimCR_length_le l
    simp only [List.map_cons, List.sum_cons]
    omega

theorem splitLines_no_lf (src : List Nat) : ∀ l ∈ splitLines src, 10 ∉ l := by
  intro l hl
  rw [splitLines_eq, List.mem_map] at hl
  obtain ⟨l0, hl0, rfl⟩ := hl
  exact trimCR_no_lf (go_no_lf src [] (by simp) l0 hl0)

theorem splitLines_sum_le (src : List Nat) : ((splitLines src).map (·.length)).sum ≤ src.length := by
  rw [splitLines_eq]
  have h1 := sum_map_trimCR_le (splitLines.go src [])
  have h2 := go_sum_le src []
  simp only [List.length_nil, Nat.add_zero] at h2
  omega

/-- `getLine` returns the `n`-th scanned line, and only lines below the scanner's token limit (the model measures the line as
`splitLines` returns it, i.e. after a final `\r` is trimmed) -/
theorem getLine_some {src : List Nat} {n : Nat} {l : List Nat} (h : getLine src n = some l) :
    n ≥ 1 ∧ (splitLines src)[n - 1]? = some l ∧ l.length < maxToken := by
  unfold getLine at h
  split at h
  · cases h
  · rename_i hn
    simp only at h
    split at h
    · cases h
    · rename_i hany
      refine ⟨by omega, h, ?_⟩
      simp only [List.any_eq_true, decide_eq_true_eq, not_exists, not_and, Nat.not_le] at hany
      apply hany
      rw [List.mem_take_iff_getElem]
      obtain ⟨hlt, hget⟩ := List.getElem?_eq_some_iff.mp h
      exact ⟨n - 1, by omega, hget⟩

end AL.Render
