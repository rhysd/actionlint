import AL.Lemmas.C08DPath
import AL.Props.C08Rules
/-
  The rules on an AST and on its normal form (names folded): the same sites, the same codes. One lemma per rule of
  `AL.Rules.rules`; the folds of the names a rule reads AS WRITTEN must keep what it reads (`IdFold` for ids, the identity for
  the names of environment variables).
-/
namespace AL.C08D
open AL AL.Ast AL.Rules AL.C08R

variable (F : Folds)

theorem jobsOf_nWf (w : Workflow) : jobsOf (nWf F w) = (jobsOf w).map (nJob F) := by
  simp only [jobsOf, nWf]
  cases w.jobs with
  | none => rfl
  | some js => simp [nAssoc, List.map_map, Function.comp_def]

theorem stepsOf_nJob (j : Job) : stepsOf (nJob F j) = (stepsOf j).map (nStep F) := by
  simp only [stepsOf, nJob]
  cases j.steps <;> rfl

theorem flatMap_norm {α : Type} (N : α → α) (g : α → List Diag) (h : ∀ a, (g (N a)).map sig = (g a).map sig) (l : List α) :
    ((l.map N).flatMap g).map sig = (l.flatMap g).map sig := by
  rw [List.map_flatMap, List.map_flatMap, List.flatMap_map, funext h]

theorem flatMap_norm_eq {α β : Type} (N : α → α) (g : α → List β) (h : ∀ a, g (N a) = g a) (l : List α) :
    (l.map N).flatMap g = l.flatMap g := by
  rw [List.flatMap_map, funext h]

/-! ### rule_matrix.go -/

theorem matrixCombos_n (f : String → String) (c : Option MatrixCombinations) : Rules.matrixCombos (c.map (nCombos f)) = Rules.matrixCombos c := by
  cases c with
  | none => rfl
  | some cs =>
    obtain ⟨combs, e⟩ := cs
    simp only [Rules.matrixCombos, Option.map_some, nCombos]
    cases combs with
    | none => rfl
    | some l =>
      simp only [Option.map_some, Option.getD_some, List.map_map]
      congr 2
      · congr 1
        apply List.map_congr_left
        intro x _
        obtain ⟨as, ex⟩ := x
        simp only [Function.comp, nCombo]
        congr 2
        cases as with
        | none => rfl
        | some al => simp [nAssoc, nAssign, nStr, List.map_map, Function.comp_def]

theorem matrixOf_n (f : String → String) (m : Matrix) : matrixOf (nMatrix f m) = matrixOf m := by
  obtain ⟨rows, incl, excl, e, p⟩ := m
  simp only [matrixOf, nMatrix, matrixCombos_n]
  congr 1
  cases rows with
  | none => rfl
  | some l => simp [nAssoc, nRow, List.map_map, Function.comp_def]

theorem matrixJob_n (j : Job) : matrixJob (nJob F j) = matrixJob j := by
  simp only [matrixJob, nJob]
  cases j.strategy with
  | none => rfl
  | some s =>
    simp only [Option.map_some, nStrategy]
    cases s.matrix with
    | none => rfl
    | some m =>
      simp only [Option.map_some, matrixOf_n]
      rfl

theorem ruleMatrix_n (w : Workflow) : ruleMatrix (nWf F w) = ruleMatrix w := by
  simp only [ruleMatrix, jobsOf_nWf]
  exact flatMap_norm_eq _ _ (matrixJob_n F) _

/-! ### rule_credentials.go -/

theorem checkCredContainer_n (k a a' : String) (c : Container) :
    (checkCredContainer k a (nContainer F c)).map sig = (checkCredContainer k a' c).map sig := by
  simp only [checkCredContainer, nContainer]
  cases c.credentials with
  | none => rfl
  | some cr =>
    simp only
    cases cr.password with
    | none => rfl
    | some p =>
      simp only
      split <;> rfl

theorem credentialsJob_n (j : Job) : (credentialsJob (nJob F j)).map sig = (credentialsJob j).map sig := by
  simp only [credentialsJob, nJob, List.map_append]
  congr 1
  · cases j.container with
    | none => rfl
    | some c => exact checkCredContainer_n F _ _ _ c
  · cases j.services with
    | none => rfl
    | some s =>
      simp only [Option.map_some, nServices]
      cases s.value with
      | none => rfl
      | some l =>
        simp only [Option.map_some, Option.getD_some, nAssoc, List.flatMap_map, List.map_flatMap]
        apply flatMap_congr'
        intro kv _
        exact checkCredContainer_n F _ _ _ _

theorem ruleCredentials_n (w : Workflow) : (ruleCredentials (nWf F w)).map sig = (ruleCredentials w).map sig := by
  simp only [ruleCredentials, jobsOf_nWf]
  exact flatMap_norm _ _ (credentialsJob_n F) _

/-! ### rule_shell_name.go -/

theorem shellNameJob_n (lower : String → String) (j : Job) : shellNameJob lower (nJob F j) = shellNameJob lower j := by
  simp only [shellNameJob, stepsOf_nJob]
  congr 1
  rw [List.flatMap_map]
  apply flatMap_congr'
  intro st _
  simp only [nStep]
  cases st.exec <;> rfl

theorem ruleShellName_n (lower : String → String) (w : Workflow) : ruleShellName lower (nWf F w) = ruleShellName lower w := by
  simp only [ruleShellName, jobsOf_nWf]
  congr 1
  exact flatMap_norm_eq _ _ (shellNameJob_n F lower) _

/-! ### rule_events.go -/

theorem map_sig_ite (c : Prop) [Decidable c] (a b a' b' : List Diag) (ha : a.map sig = a'.map sig) (hb : b.map sig = b'.map sig) :
    (if c then a else b).map sig = (if c then a' else b').map sig := by
  by_cases h : c
  · rw [if_pos h, if_pos h]; exact ha
  · rw [if_neg h, if_neg h]; exact hb

theorem checkDispatchEvent_n (f : String → String) (lower : String → String) (isNum : String → Bool) (ins : List (String × DispatchInput)) (pos : Rules.Pos) :
    (checkDispatchEvent lower isNum (nAssoc (nDispatchInput f) ins) pos).map sig = (checkDispatchEvent lower isNum ins pos).map sig := by
  simp only [checkDispatchEvent, List.map_append, nAssoc, List.length_map, List.flatMap_map, List.map_flatMap]
  refine congrArg (· ++ _) (flatMap_congr' fun kv _ => ?_)
  obtain ⟨n, ⟨name, desc, req, dflt, ty, opts⟩⟩ := kv
  -- the name is read for its position, and for its text in the message of `dispatch-default-not-number` only
  cases ty <;> cases dflt <;> try rfl
  simp only [nDispatchInput, nStr, reduceCtorEq, if_false, List.map_append]
  congr 1
  apply map_sig_ite <;> rfl

theorem checkCallEvent_n (f : String → String) (lower : String → String) (isNum : String → Bool) (ins : List CallInput) :
    (checkCallEvent lower isNum (ins.map (nCallInput f))).map sig = (checkCallEvent lower isNum ins).map sig := by
  simp only [checkCallEvent, List.flatMap_map, List.map_flatMap]
  apply flatMap_congr'
  intro i _
  obtain ⟨name, desc, dflt, req, ty, id⟩ := i
  simp only [nCallInput, nStr]
  cases dflt with
  | none => rfl
  | some d =>
    simp only [List.map_append]
    congr 1
    · apply map_sig_ite
      · cases ty <;> simp only <;> (try rfl) <;> (apply map_sig_ite <;> rfl)
      · rfl
    · apply map_sig_ite <;> rfl

theorem ruleEvents_n (lower : String → String) (isNum : String → Bool) (lc : LabelCfg) (w : Workflow) :
    (ruleEvents lower isNum (nWf F w) lc).map sig = (ruleEvents lower isNum w lc).map sig := by
  simp only [ruleEvents, nWf]
  cases w.on with
  | none => rfl
  | some es =>
    simp only [Option.map_some, Option.getD_some, List.flatMap_map, List.map_flatMap]
    apply flatMap_congr'
    intro e _
    cases e with
    | webhook h => rfl
    | schedule c p => rfl
    | repoDispatch t p => rfl
    | dispatch ins p =>
      simp only [nEvent]
      cases ins with
      | none => rfl
      | some l => exact checkDispatchEvent_n _ lower isNum l p
    | call ins secs outs p =>
      simp only [nEvent]
      cases ins with
      | none => rfl
      | some l => exact checkCallEvent_n _ lower isNum l

/-! ### rule_action.go -/

theorem withKeys_nAct (e : ExecAction) : withKeys (nAct F e) = withKeys e := by
  simp only [withKeys, nAct]
  cases e.inputs with
  | none => rfl
  | some l => simp [nAssoc, nInput, nStr, List.map_map, Function.comp_def]

theorem actionStep_n (urlOk : String → Bool) (st : Step) : (actionStep urlOk (nStep F st)).map sig = (actionStep urlOk st).map sig := by
  simp only [actionStep, nStep]
  cases st.exec with
  | none => rfl
  | run e => rfl
  | action e =>
    simp only [nExec]
    have hu : (nAct F e).uses = e.uses := rfl
    rw [hu]
    cases e.uses with
    | none => rfl
    | some u =>
      simp only
      split
      · rfl
      · split
        · rfl
        · split
          · rfl
          · exact checkRepoAction_recase _ _ _ _ (withKeys_nAct F e)

theorem ruleAction_n (urlOk : String → Bool) (w : Workflow) : (ruleAction urlOk (nWf F w)).map sig = (ruleAction urlOk w).map sig := by
  simp only [ruleAction, jobsOf_nWf]
  apply flatMap_norm
  intro j
  simp only [stepsOf_nJob]
  exact flatMap_norm _ _ (actionStep_n F urlOk) _

/-! ### rule_env_var.go: the names of environment variables are read as written -/

theorem option_map_nEnv_id (o : Option Env) : o.map (nEnv id) = o := option_map_id' _ nEnv_id o

theorem nContainer_env_id (hE : F.env = id) (c : Container) : nContainer F c = c := by
  simp only [nContainer, hE, option_map_nEnv_id]

theorem envVarJob_n (hE : F.env = id) (j : Job) : envVarJob (nJob F j) = envVarJob j := by
  simp only [envVarJob, stepsOf_nJob]
  simp only [nJob, hE, option_map_nEnv_id]
  congr 1
  · congr 1
    · congr 1
      cases j.container with
      | none => rfl
      | some c => simp only [Option.map_some, nContainer_env_id F hE]
    · cases j.services with
      | none => rfl
      | some s =>
        simp only [Option.map_some, nServices]
        cases s.value with
        | none => rfl
        | some l =>
          simp only [Option.map_some, Option.getD_some, nAssoc, List.flatMap_map]
          apply flatMap_congr'
          intro kv _
          simp only [nService, nContainer_env_id F hE]
  · apply flatMap_norm_eq
    intro st
    simp only [nStep, hE, option_map_nEnv_id]

theorem ruleEnvVar_n (hE : F.env = id) (w : Workflow) : ruleEnvVar (nWf F w) = ruleEnvVar w := by
  simp only [ruleEnvVar, jobsOf_nWf]
  congr 1
  · simp only [nWf, hE, option_map_nEnv_id]
  · exact flatMap_norm_eq _ _ (envVarJob_n F hE) _

/-! ### rule_glob.go, rule_permissions.go, rule_workflow_call.go, rule_deprecated_commands.go, rule_if_cond.go -/

theorem ruleGlob_n (w : Workflow) : ruleGlob (nWf F w) = ruleGlob w := by
  simp only [ruleGlob, nWf]
  cases w.on with
  | none => rfl
  | some es =>
    simp only [Option.map_some, Option.getD_some, List.flatMap_map]
    apply flatMap_congr'
    intro e _
    cases e <;> rfl

theorem rulePermissions_n (w : Workflow) : rulePermissions (nWf F w) = rulePermissions w := by
  simp only [rulePermissions, jobsOf_nWf]
  congr 1
  exact flatMap_norm_eq (nJob F) _ (fun j => rfl) _

theorem ruleWorkflowCall_n (w : Workflow) : ruleWorkflowCall (nWf F w) = ruleWorkflowCall w := by
  simp only [ruleWorkflowCall, jobsOf_nWf]
  apply flatMap_norm_eq
  intro j
  simp only [workflowCallJob, nJob]
  cases j.workflowCall <;> rfl

theorem ruleDeprecatedCommands_n (w : Workflow) : ruleDeprecatedCommands (nWf F w) = ruleDeprecatedCommands w := by
  simp only [ruleDeprecatedCommands, jobsOf_nWf]
  apply flatMap_norm_eq
  intro j
  simp only [stepsOf_nJob]
  apply flatMap_norm_eq
  intro st
  simp only [nStep]
  cases st.exec <;> rfl

theorem ruleIfCond_n (w : Workflow) : ruleIfCond (nWf F w) = ruleIfCond w := by
  simp only [ruleIfCond, jobsOf_nWf]
  apply flatMap_norm_eq
  intro j
  simp only [stepsOf_nJob]
  congr 1
  exact flatMap_norm_eq (nStep F) _ (fun st => rfl) _

/-! ### rule_runner_label.go -/

theorem find_nAssoc {β β' : Type} (N : β → β') (k : String) : ∀ (l : List (String × β)),
    (nAssoc N l).find? (·.1 = k) = (l.find? (·.1 = k)).map fun p => (p.1, N p.2) :=
  fun _ => List.find?_map ..

theorem labelsInMatrix_n (f lower : String → String) (l : Str) (m : Option Matrix) :
    labelsInMatrix lower l (m.map (nMatrix f)) = labelsInMatrix lower l m := by
  cases m with
  | none => rfl
  | some m =>
    obtain ⟨rows, incl, excl, e, p⟩ := m
    simp only [Option.map_some, labelsInMatrix, nMatrix]
    split
    · rfl
    · split
      · rfl
      · split
        · rename_i prop _
          congr 1
          · cases rows with
            | none => rfl
            | some rs =>
              simp only [Option.map_some, find_nAssoc]
              cases rs.find? (·.1 = prop) with
              | none => rfl
              | some x => rfl
          · cases incl with
            | none => rfl
            | some inc =>
              obtain ⟨cs, ie⟩ := inc
              simp only [Option.map_some, nCombos]
              cases cs with
              | none => rfl
              | some cl =>
                simp only [Option.map_some, Option.getD_some, List.filterMap_map]
                congr 1
                funext c
                obtain ⟨as, ce⟩ := c
                simp only [Function.comp, nCombo]
                cases as with
                | none => rfl
                | some al =>
                  simp only [Option.map_some, find_nAssoc]
                  cases al.find? (·.1 = prop) with
                  | none => rfl
                  | some x => rfl
        · rfl

theorem checkLabelAndConflict_n (f lower : String → String) (lc : LabelCfg) (m : Option Matrix) (acc : Compats × List Diag) (l : Str) :
    checkLabelAndConflict lc lower (m.map (nMatrix f)) acc l = checkLabelAndConflict lc lower m acc l := by
  simp only [checkLabelAndConflict, labelsInMatrix_n]

theorem runnerLabelJob_n (lower : String → String) (lc : LabelCfg) (j : Job) : runnerLabelJob lower (nJob F j) lc = runnerLabelJob lower j lc := by
  simp only [runnerLabelJob, nJob]
  cases j.strategy with
  | none => rfl
  | some s =>
    simp only [Option.map_some, nStrategy]
    have : checkLabelAndConflict lc lower (Option.map (nMatrix F.matrix) s.matrix) = checkLabelAndConflict lc lower s.matrix := by
      funext acc l
      exact checkLabelAndConflict_n _ _ _ _ _ _
    simp only [labelsInMatrix_n, this]

theorem ruleRunnerLabel_n (lower : String → String) (lc : LabelCfg) (w : Workflow) :
    ruleRunnerLabel lower (nWf F w) lc = ruleRunnerLabel lower w lc := by
  simp only [ruleRunnerLabel, jobsOf_nWf]
  exact flatMap_norm_eq (nJob F) _ (fun j => runnerLabelJob_n F lower lc j) _

/-! ### rule_id.go: ids are read as written by the naming convention -/

/-- a fold of ids that keeps what the rules read of an id as written -/
structure IdFold (lower f : String → String) : Prop where
  lower : ∀ a, lower (f a) = lower a
  empty : ∀ a, f a = "" ↔ a = ""
  expr : ∀ a, AL.Matrix.containsExpr (f a) = AL.Matrix.containsExpr a
  pattern : ∀ a, matchesIdPattern (f a) = matchesIdPattern a

theorem IdFold.id (lower : String → String) : IdFold lower id := ⟨fun _ => rfl, fun _ => Iff.rfl, fun _ => rfl, fun _ => rfl⟩

theorem validateConvention_n {lower f : String → String} (hf : IdFold lower f) (s : Str) (what : String) :
    (validateConvention (some (nStr f s)) what).map sig = (validateConvention (some s) what).map sig := by
  have h1 : (f s.value = "") = (s.value = "") := propext (hf.empty _)
  simp only [validateConvention, nStr, containsExpr, hf.expr, hf.pattern, h1]
  apply map_sig_ite <;> rfl

theorem idSteps_n {lower : String → String} (hf : IdFold lower F.stepId) : ∀ (steps : List Step) (seen : List (String × Rules.Pos)),
    (idSteps lower (steps.map (nStep F)) seen).map sig = (idSteps lower steps seen).map sig
  | [], _ => rfl
  | st :: rest, seen => by
    simp only [List.map_cons]
    rw [idSteps, idSteps]
    have hid : (nStep F st).id = st.id.map (nStr F.stepId) := rfl
    rw [hid]
    cases st.id with
    | none => exact idSteps_n hf rest seen
    | some s =>
      simp only [Option.map_some]
      have hl : lower (nStr F.stepId s).value = lower s.value := hf.lower s.value
      have hp : (nStr F.stepId s).pos = s.pos := rfl
      rw [hl, hp]
      cases lookupSeen (lower s.value) seen with
      | some prev =>
        simp only [List.map_append, validateConvention_n hf, idSteps_n hf rest seen]
        rfl
      | none =>
        simp only [List.map_append, validateConvention_n hf, idSteps_n hf rest _]

theorem idJob_n {lower : String → String} (hs : IdFold lower F.stepId) (hj : IdFold lower F.jobId) (j : Job) :
    (idJob lower (nJob F j)).map sig = (idJob lower j).map sig := by
  simp only [idJob, stepsOf_nJob, List.map_append, idSteps_n F hs]
  congr 1
  congr 1
  · exact validateConvention_n hj j.id "job"
  · have : (nJob F j).needs = j.needs.map (List.map (nStr F.jobId)) := rfl
    rw [this]
    cases j.needs with
    | none => rfl
    | some l =>
      simp only [Option.map_some, Option.getD_some, List.flatMap_map, List.map_flatMap]
      apply flatMap_congr'
      intro n _
      exact validateConvention_n hj n "job"

theorem ruleId_n {lower : String → String} (hs : IdFold lower F.stepId) (hj : IdFold lower F.jobId) (w : Workflow) :
    (ruleId lower (nWf F w)).map sig = (ruleId lower w).map sig := by
  simp only [ruleId, jobsOf_nWf]
  exact flatMap_norm _ _ (idJob_n F hs hj) _

/-! ### rule_job_needs.go -/

def nRef (f : String → String) (r : AL.Needs.NeedRef) : AL.Needs.NeedRef := ⟨f r.value, r.pos⟩
def nJobIn (f : String → String) (j : AL.Needs.JobIn) : AL.Needs.JobIn := { j with idValue := f j.idValue, needs := j.needs.map (nRef f) }

/-- site and code of a diagnostic of the `needs` check -/
def dsig (d : AL.Needs.Diag) : Rules.Pos × String := sig (needsDiag d)

theorem needsJobIn_n (F : Folds) (j : Job) : needsJobIn (nJob F j) = nJobIn F.jobId (needsJobIn j) := by
  simp only [needsJobIn, nJobIn, nJob]
  cases j.needs with
  | none => rfl
  | some l => simp [nRef, nStr, List.map_map, Function.comp_def]

theorem normNeeds_n {lower f : String → String} (hl : ∀ a, lower (f a) = lower a) : ∀ (l : List AL.Needs.NeedRef) (acc : List String),
    (AL.Needs.normNeeds lower (l.map (nRef f)) acc).1 = (AL.Needs.normNeeds lower l acc).1 ∧
    (AL.Needs.normNeeds lower (l.map (nRef f)) acc).2.map dsig = (AL.Needs.normNeeds lower l acc).2.map dsig
  | [], _ => ⟨rfl, rfl⟩
  | j :: rest, acc => by
    simp only [List.map_cons, AL.Needs.normNeeds, nRef, hl]
    split
    · obtain ⟨i1, i2⟩ := normNeeds_n hl rest acc
      exact ⟨i1, by simp only [List.map_cons, i2]; rfl⟩
    · split
      · exact normNeeds_n hl rest _
      · exact normNeeds_n hl rest _

theorem visitJobs_n {lower f : String → String} (hl : ∀ a, lower (f a) = lower a) : ∀ (jobs : List AL.Needs.JobIn) (nodes : List AL.Needs.RawNode),
    (AL.Needs.visitJobs lower (jobs.map (nJobIn f)) nodes).1 = (AL.Needs.visitJobs lower jobs nodes).1 ∧
    (AL.Needs.visitJobs lower (jobs.map (nJobIn f)) nodes).2.map dsig = (AL.Needs.visitJobs lower jobs nodes).2.map dsig
  | [], _ => ⟨rfl, rfl⟩
  | j :: rest, nodes => by
    obtain ⟨n1, n2⟩ := normNeeds_n hl j.needs []
    simp only [List.map_cons, AL.Needs.visitJobs, nJobIn, hl, n1]
    split
    · obtain ⟨i1, i2⟩ := visitJobs_n hl rest nodes
      exact ⟨i1, by simp only [List.map_append, n2, i2]⟩
    · obtain ⟨i1, i2⟩ := visitJobs_n hl rest
        (if nodes.any (·.id = lower j.idValue) then nodes.map (fun n => if n.id = lower j.idValue then
          ({ id := lower j.idValue, pos := j.idPos, needs := (AL.Needs.normNeeds lower j.needs []).1 } : AL.Needs.RawNode) else n)
         else nodes ++ [{ id := lower j.idValue, pos := j.idPos, needs := (AL.Needs.normNeeds lower j.needs []).1 }])
      refine ⟨i1, ?_⟩
      simp only [List.map_append, n2, i2]
      congr 2
      cases nodes.find? (·.id = lower j.idValue) <;> rfl

theorem needsCheck_n {lower f : String → String} (hl : ∀ a, lower (f a) = lower a) (jobs : List AL.Needs.JobIn) (order : List Nat) :
    (AL.Needs.check lower (jobs.map (nJobIn f)) order).map dsig = (AL.Needs.check lower jobs order).map dsig := by
  obtain ⟨v1, v2⟩ := visitJobs_n hl jobs []
  simp only [AL.Needs.check, v1]
  split
  · simp only [List.map_append, v2]
  · split <;> simp only [List.map_append, v2]

theorem ruleJobNeeds_n (F : Folds) {lower : String → String} (hl : ∀ a, lower (F.jobId a) = lower a) (w : Workflow) :
    (ruleJobNeeds lower (nWf F w)).map sig = (ruleJobNeeds lower w).map sig := by
  simp only [ruleJobNeeds, jobsOf_nWf, List.map_map, List.length_map]
  have : (needsJobIn ∘ nJob F) = (nJobIn F.jobId ∘ needsJobIn) := by
    funext j; exact needsJobIn_n F j
  rw [this, ← List.map_map]
  have := needsCheck_n hl ((jobsOf w).map needsJobIn) (List.range (jobsOf w).length)
  simp only [List.map_map] at this ⊢
  exact this

/-! ### all the rules -/

/-- **the rules on the normal form**: the same sites and codes as on the AST itself -/
theorem rules_n {lower : String → String} (isNum urlOk : String → Bool) (lc : LabelCfg) (hE : F.env = id)
    (hs : IdFold lower F.stepId) (hj : IdFold lower F.jobId) (w : Workflow) :
    (rules lower isNum urlOk (nWf F w) lc).map sig = (rules lower isNum urlOk w lc).map sig := by
  simp only [rules, List.map_append, ruleMatrix_n, ruleCredentials_n, ruleShellName_n, ruleRunnerLabel_n, ruleEvents_n,
    ruleJobNeeds_n F hj.lower, ruleAction_n, ruleEnvVar_n F hE, ruleId_n F hs hj, ruleGlob_n, rulePermissions_n, ruleWorkflowCall_n,
    ruleDeprecatedCommands_n, ruleIfCond_n]

/-- **two ASTs with the same normal form** get the same sites and codes from the rules -/
theorem rules_recase {lower : String → String} (isNum urlOk : String → Bool) (lc : LabelCfg) (hE : F.env = id)
    (hs : IdFold lower F.stepId) (hj : IdFold lower F.jobId) (w w' : Workflow) (h : nWf F w = nWf F w') :
    (rules lower isNum urlOk w lc).map sig = (rules lower isNum urlOk w' lc).map sig := by
  rw [← rules_n F isNum urlOk lc hE hs hj w, ← rules_n F isNum urlOk lc hE hs hj w', h]

end AL.C08D
