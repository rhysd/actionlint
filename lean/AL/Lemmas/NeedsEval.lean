import AL.Model.Needs
/-
  The rule of `AL.Needs` in a form the kernel evaluates. `visitList` and `collectList` recurse on a lexicographic measure,
  which the kernel does not unfold; the `…G` versions recurse on a counter `gas` (`none` when it runs out), and what they
  return the model returns (`cycleDiagG_eq`, `checkG_eq`). The example workflows of C18Parse, C18Doc and C09Doc are checked
  through `checkG`.
-/
namespace AL.Needs

def visitListG (g : Graph) : Nat → Nat → List Status → Nat → List Nat → Option (Option (Nat × Nat) × List Status)
  | 0, _, _, _, _ => none
  | _ + 1, _, st, v, [] => some (none, setStatus st v .finished)
  | gas + 1, fuel, st, v, w :: ws =>
    match st[w]? with
    | some .active => some (some (v, w), st)
    | some .new =>
      match fuel with
      | 0 => some (none, st)
      | fuel' + 1 =>
        match visitListG g gas fuel' (setStatus st w .active) w (g.succ w) with
        | some (none, st2) => visitListG g gas (fuel' + 1) st2 v ws
        | r => r
    | _ => visitListG g gas fuel st v ws

theorem visitListG_eq (g : Graph) (gas fuel : Nat) (st : List Status) (v : Nat) (ws : List Nat) :
    ∀ r, visitListG g gas fuel st v ws = some r → visitList g fuel st v ws = r := by
  -- along the recursion of the twin: each of its branches is the same branch of `visitList`
  fun_induction visitListG g gas fuel st v ws
  all_goals
    intro r h
    rw [visitList.eq_def]
    simp_all
  -- left: the inner call met an active node; its result `r` is passed on by both
  rename_i hne _
  obtain ⟨_ | e, st2⟩ := r
  · exact absurd rfl (hne st2)
  · rfl

def collectListG (g : Graph) (st : List Status) : Nat → Nat → Nat → List Nat → Edges → Option (Bool × Edges)
  | 0, _, _, _, _ => none
  | _ + 1, _, _, [], edges => some (false, edges)
  | gas + 1, fuel, src, dest :: ds, edges =>
    if st[dest]? ≠ some .active then collectListG g st gas fuel src ds edges
    else if ((edges.put src dest).get? dest).isSome then some (true, edges.put src dest)
    else
      match fuel with
      | 0 => some (false, edges.put src dest)
      | fuel' + 1 =>
        match collectListG g st gas fuel' dest (g.succ dest) (edges.put src dest) with
        | some (false, e2) => collectListG g st gas (fuel' + 1) src ds (e2.del src)
        | r => r

theorem collectListG_eq (g : Graph) (st : List Status) (gas fuel src : Nat) (ds : List Nat) (edges : Edges) :
    ∀ r, collectListG g st gas fuel src ds edges = some r → collectList g st fuel src ds edges = r := by
  fun_induction collectListG g st gas fuel src ds edges
  all_goals
    intro r h
    rw [collectList.eq_def]
    simp_all
  -- left: the inner call closed the cycle; its result `r` is passed on by both
  rename_i hne _
  obtain ⟨_ | _, e2⟩ := r
  · exact absurd rfl (hne e2)
  · rfl

def detectFirstCycleG (g : Graph) (gas : Nat) : List Nat → List Status → Option (Option (Nat × Nat) × List Status)
  | [], st => some (none, st)
  | v :: rest, st =>
    if st[v]? = some .new then
      match visitListG g gas g.length (setStatus st v .active) v (g.succ v) with
      | some (none, st') => detectFirstCycleG g gas rest st'
      | r => r
    else detectFirstCycleG g gas rest st

theorem detectFirstCycleG_eq (g : Graph) (gas : Nat) : ∀ order st r,
    detectFirstCycleG g gas order st = some r → detectFirstCycle g order st = r
  | [], st, r, h => Option.some.inj h
  | v :: rest, st, r, h => by
    simp only [detectFirstCycleG, detectFirstCycle, detectCyclicNode] at h ⊢
    split at h
    · rename_i hv
      rw [if_pos hv]
      cases h2 : visitListG g gas g.length (setStatus st v .active) v (g.succ v) with
      | none => rw [h2] at h; cases h
      | some p =>
        rw [h2] at h
        rw [visitListG_eq g gas _ _ _ _ _ h2]
        obtain ⟨o, st'⟩ := p
        cases o with
        | none => exact detectFirstCycleG_eq g gas rest _ _ h
        | some e => exact Option.some.inj h
    · rename_i hv
      rw [if_neg hv]
      exact detectFirstCycleG_eq g gas rest _ _ h

def cycleDiagG (g : Graph) (order : List Nat) (gas : Nat) : Option (Option CycleDiag) :=
  match detectFirstCycleG g gas order (g.map fun _ => Status.new) with
  | none => none
  | some (none, _) => some none
  | some (some (frm, t), st) =>
    (collectListG g st gas g.length t (g.succ t) [(frm, t)]).map fun c =>
      let start := pickStart g frm (c.2.map (·.1))
      match c.2.get? start with
      | none => none
      | some first => some { pos := posOf g start, path := idOf g start :: (printLoop c.2 start (c.2.length + 1) first).map (idOf g) }

theorem cycleDiagG_eq (g : Graph) (order : List Nat) (gas : Nat) (r : Option CycleDiag) (h : cycleDiagG g order gas = some r) :
    cycleDiag g order = r := by
  simp only [cycleDiagG, cycleDiag, collectCycle] at h ⊢
  cases h1 : detectFirstCycleG g gas order (g.map fun _ => Status.new) with
  | none => rw [h1] at h; cases h
  | some p =>
    rw [h1] at h
    rw [detectFirstCycleG_eq g gas _ _ _ h1]
    obtain ⟨o, st⟩ := p
    cases o with
    | none => exact Option.some.inj h
    | some e =>
      obtain ⟨frm, t⟩ := e
      simp only [Option.map_eq_some_iff] at h
      obtain ⟨c, hc, rfl⟩ := h
      simp only [collectListG_eq g st gas _ _ _ _ _ hc]
      rfl

/-- `check` with the cycle search of `cycleDiagG` -/
def checkG (lower : String → String) (jobs : List JobIn) (order : List Nat) (gas : Nat) : Option (List Diag) :=
  let (nodes, d0) := visitJobs lower jobs []
  let (g, d1) := resolve nodes
  if !d1.isEmpty then some (d0 ++ d1)
  else (cycleDiagG g order gas).map fun r => d0 ++ (r.map Diag.cyclic).toList

theorem checkG_eq (lower : String → String) (jobs : List JobIn) (order : List Nat) (gas : Nat) (ds : List Diag)
    (h : checkG lower jobs order gas = some ds) : check lower jobs order = ds := by
  simp only [checkG, check] at h ⊢
  split at h
  · rename_i hu
    rw [if_pos hu]
    exact Option.some.inj h
  · rename_i hu
    rw [if_neg hu]
    obtain ⟨r, hr, rfl⟩ := Option.map_eq_some_iff.1 h
    rw [cycleDiagG_eq _ _ _ _ hr]
    cases r <;> simp

end AL.Needs
