import AL.Lemmas.C17DRule
import AL.Lemmas.C05DEvents
/-
  For AL.Props.C17Doc, the document side: readers of the yaml.Node tree for what is written under `on.<event>.<filter>`
  (`valueItems`, `itemsOfEvent`, `itemsOfOn`, `docFilterItems`; the scalars among them: `docFilterPatterns`) and the parser
  (AL.PW) on exactly that path: `parseWebhookEventFilter` → `webhookKey` loop → `eventOfKey` loop → `parseEvents` → `parse`.

  Only the HEADERS of the three mappings on the path (the workflow, `on:`, the event) have to be accepted by `parseMapping`
  (keys are non-empty scalars, no key twice): what the values elsewhere parse to — and whether the parser reports
  anything about them — plays no role.
-/
namespace AL.C17D
open AL AL.PW AL.Rules AL.Yaml AL.Ast AL.C03P AL.C05D

/-! ### the document side -/

/-- the filter keys with their kinds, in the order rule_glob.go checks them -/
def filterKeys : List (String × Kind) :=
  [("branches", .ref), ("branches-ignore", .ref), ("tags", .ref), ("tags-ignore", .ref), ("paths", .path), ("paths-ignore", .path)]

/-- the keys of `on:` that are NOT webhook events (parse.go gives them their own sections): every other key takes filters -/
def specialEvents : List String := ["schedule", "workflow_dispatch", "repository_dispatch", "workflow_call"]

def isSpecial (s : String) : Bool := specialEvents.contains s

theorem isSpecial_iff (s : String) :
    isSpecial s = true ↔ s = "schedule" ∨ s = "workflow_dispatch" ∨ s = "repository_dispatch" ∨ s = "workflow_call" := by
  simp [isSpecial, specialEvents]

theorem isSpecial_false (s : String) :
    isSpecial s = false ↔ s ≠ "schedule" ∧ s ≠ "workflow_dispatch" ∧ s ≠ "repository_dispatch" ∧ s ≠ "workflow_call" := by
  rw [← Bool.not_eq_true, isSpecial_iff]
  simp only [not_or, ne_eq]

/-- what is written as the value of a filter key: the node itself when it is a scalar, the elements when it is a sequence -/
def valueItems (v : Node) : List Node :=
  if v.kind = .scalar then [v] else if v.kind = .sequence then v.content else []

/-- the SCALARS written as the value of a filter key -/
def patternNodes (v : Node) : List Node := (valueItems v).filter fun c => c.kind = .scalar

/-- the items under the six filter keys of an event node, with their kinds -/
def itemsOfEvent (ev : Node) : List (Node × Kind) :=
  filterKeys.flatMap fun fk =>
    match mget ev fk.1 with
    | some v => (valueItems v).map fun c => (c, fk.2)
    | none => []

/-- the pairs of `on:` (written as a mapping) whose key is a webhook event -/
def eventsOfOn (on : Node) : List (Node × Node) :=
  if on.kind = .mapping then (pairs on.content).filter fun p => !isSpecial p.1.value else []

def itemsOfOn (on : Node) : List (Node × Kind) := (eventsOfOn on).flatMap fun p => itemsOfEvent p.2

/-- the webhook events of the document: key and value node -/
def docEvents (doc : Node) : List (Node × Node) :=
  match docOn doc with
  | some on => eventsOfOn on
  | none => []

/-- everything written under `on.<event>.<filter>` (a scalar, or the elements of a sequence), with its kind -/
def docFilterItems (doc : Node) : List (Node × Kind) := (docEvents doc).flatMap fun p => itemsOfEvent p.2

/-- **the filter patterns written in the document**: the scalars under `on.<event>.<filter>` (the value itself, or an element
of the sequence), `<event>` any key of `on:` but `schedule`, `workflow_dispatch`, `repository_dispatch`, `workflow_call`,
`<filter>` one of `branches`, `branches-ignore`, `tags`, `tags-ignore` (kind ref), `paths`, `paths-ignore` (kind path) -/
def docFilterPatterns (doc : Node) : List (Node × Kind) := (docFilterItems doc).filter fun p => p.1.kind = .scalar

/-- the string the parser makes of an item: `parseString`, which yields the empty string at the node's position for a
non-scalar or an empty scalar (and reports it) -/
def strOf (c : Node) : Str := (parseString c false).1

theorem strOf_scalar (c : Node) (hk : c.kind = .scalar) (hv : c.value ≠ "") : strOf c = newString c := by
  simp [strOf, parseString, checkString, hk, hv]

theorem strOf_value_ne (c : Node) (h : (strOf c).value ≠ "") : c.kind = .scalar ∧ c.value ≠ "" ∧ strOf c = newString c := by
  by_cases hk : c.kind = .scalar
  · by_cases hv : c.value = ""
    · exfalso; apply h; simp [strOf, parseString, checkString, hk, hv]
    · exact ⟨hk, hv, strOf_scalar c hk hv⟩
  · exfalso; apply h; simp [strOf, parseString, checkString, hk]

theorem strOf_clean (c : Node) (h : (parseString c false).2 = []) : c.kind = .scalar ∧ c.value ≠ "" ∧ strOf c = newString c := by
  by_cases hk : c.kind = .scalar
  · by_cases hv : c.value = ""
    · simp [parseString, checkString, hk, hv] at h
    · exact ⟨hk, hv, strOf_scalar c hk hv⟩
  · simp [parseString, checkString, hk] at h

/-! ### the value of a filter key -/

theorem parseStrings_fst (ae : Bool) : ∀ (cs : List Node), (parseStrings ae cs).1 = cs.map fun c => (parseString c ae).1 :=
  fun cs => congrArg Prod.fst (congrFun (parseStrings_mapR ae) cs)

theorem parseStrings_clean (ae : Bool) : ∀ (cs : List Node), (parseStrings ae cs).2 = [] → ∀ c ∈ cs, (parseString c ae).2 = [] :=
  fun _ h => mapR_silent.1 (parseStrings_mapR ae ▸ h)

/-- **the strings of a filter are the items written as its value**, each as `parseString` reads it — whatever is reported -/
theorem filter_values (name : Str) (v : Node) :
    (parseWebhookEventFilter name v).1.values.getD [] = (valueItems v).map strOf := by
  simp only [parseWebhookEventFilter, parseStringOrStringSequence, valueItems]
  by_cases hk : v.kind = .scalar
  · simp [hk, strOf]
  · simp only [hk, if_false, parseStringSequence, checkSequence]
    by_cases hs : v.kind = .sequence
    · simp only [hs, ne_eq, not_true_eq_false, if_false, Bool.false_eq_true, if_true, checkNotEmpty]
      by_cases hl : v.content.length = 0
      · have : v.content = [] := List.length_eq_zero_iff.mp hl
        simp [this]
      · simp only [hl, if_false, Bool.not_true, Bool.false_eq_true, Option.getD_some, parseStrings_fst]
        rfl
    · simp [hs]

/-- accepted without a diagnostic: every item is a non-empty scalar -/
theorem filter_clean (name : Str) (v : Node) (h : (parseWebhookEventFilter name v).2 = []) :
    ∀ c ∈ valueItems v, (parseString c false).2 = [] := by
  intro c hc
  simp only [parseWebhookEventFilter, parseStringOrStringSequence] at h
  simp only [valueItems] at hc
  by_cases hk : v.kind = .scalar
  · simp only [hk, if_true, List.mem_singleton] at hc
    subst hc
    simpa [hk] using h
  · simp only [hk, if_false] at hc h
    by_cases hs : v.kind = .sequence
    · simp only [hs, if_true] at hc
      simp only [parseStringSequence, checkSequence, hs, ne_eq, not_true_eq_false, if_false, Bool.false_eq_true, checkNotEmpty] at h
      by_cases hl : v.content.length = 0
      · simp [hl] at h
      · simp only [hl, if_false, Bool.not_true, Bool.false_eq_true, List.nil_append] at h
        exact parseStrings_clean false _ h c hc
    · simp [hs] at hc

/-! ### one webhook event -/

def hook0 (name : Str) : WebhookEvent := { hook := name, pos := name.pos }

/-- the state of `parseWebhookEvent` after its key loop -/
def hookLoop (cfg : Cfg) (name : Str) (n : Node) : WebhookEvent × List PErr :=
  loop (webhookKey name) (hook0 name) (parseMapping cfg (sectionWhat name.value) n true true).1

theorem parseWebhookEvent_eq (cfg : Cfg) (name : Str) (n : Node) :
    parseWebhookEvent cfg name n =
      (.webhook (hookLoop cfg name n).1, (parseMapping cfg (sectionWhat name.value) n true true).2 ++ (hookLoop cfg name n).2) := rfl

/-- a filter field of the loop state: the strings are the items under its key -/
theorem field_strs (cfg : Cfg) (name : Str) (n : Node) (hm : (parseMapping cfg (sectionWhat name.value) n true true).2 = [])
    (π : WebhookEvent → Option Filter) (k : String) (h0 : π (hook0 name) = none)
    (hne : ∀ st kv, kv.id ≠ k → π (webhookKey name st kv).1 = π st)
    (heq : ∀ st kv, kv.id = k → π (webhookKey name st kv).1 = some (parseWebhookEventFilter kv.key kv.val).1) :
    filterStrs (π (hookLoop cfg name n).1) = match mget n k with | some v => (valueItems v).map strOf | none => [] := by
  unfold hookLoop
  rw [sect_field cfg (sectionWhat name.value) n true (webhookKey name) (hook0 name) π k
    (fun kv => some (parseWebhookEventFilter kv.key kv.val).1) hne heq hm]
  simp only [mget]
  cases mpair n k with
  | none => simp [h0, filterStrs]
  | some p => simp only [Option.map_some, filterStrs, kvOf_true, filter_values]

theorem wk_branches_ne (name : Str) (st : WebhookEvent) (kv : KV) (h : kv.id ≠ "branches") :
    (webhookKey name st kv).1.branches = st.branches :=
  (webhookKey_frame name st kv).branches h
theorem wk_branchesIgnore_ne (name : Str) (st : WebhookEvent) (kv : KV) (h : kv.id ≠ "branches-ignore") :
    (webhookKey name st kv).1.branchesIgnore = st.branchesIgnore :=
  (webhookKey_frame name st kv).branchesIgnore h
theorem wk_tags_ne (name : Str) (st : WebhookEvent) (kv : KV) (h : kv.id ≠ "tags") :
    (webhookKey name st kv).1.tags = st.tags :=
  (webhookKey_frame name st kv).tags h
theorem wk_tagsIgnore_ne (name : Str) (st : WebhookEvent) (kv : KV) (h : kv.id ≠ "tags-ignore") :
    (webhookKey name st kv).1.tagsIgnore = st.tagsIgnore :=
  (webhookKey_frame name st kv).tagsIgnore h
theorem wk_paths_ne (name : Str) (st : WebhookEvent) (kv : KV) (h : kv.id ≠ "paths") :
    (webhookKey name st kv).1.paths = st.paths :=
  (webhookKey_frame name st kv).paths h
theorem wk_pathsIgnore_ne (name : Str) (st : WebhookEvent) (kv : KV) (h : kv.id ≠ "paths-ignore") :
    (webhookKey name st kv).1.pathsIgnore = st.pathsIgnore :=
  (webhookKey_frame name st kv).pathsIgnore h

theorem wk_branches_eq (name : Str) (st : WebhookEvent) (kv : KV) (h : kv.id = "branches") :
    (webhookKey name st kv).1.branches = some (parseWebhookEventFilter kv.key kv.val).1 ∧
    (webhookKey name st kv).2 = (parseWebhookEventFilter kv.key kv.val).2 := by
  simp only [webhookKey, h, and_self]
theorem wk_branchesIgnore_eq (name : Str) (st : WebhookEvent) (kv : KV) (h : kv.id = "branches-ignore") :
    (webhookKey name st kv).1.branchesIgnore = some (parseWebhookEventFilter kv.key kv.val).1 ∧
    (webhookKey name st kv).2 = (parseWebhookEventFilter kv.key kv.val).2 := by
  simp only [webhookKey, h, and_self]
theorem wk_tags_eq (name : Str) (st : WebhookEvent) (kv : KV) (h : kv.id = "tags") :
    (webhookKey name st kv).1.tags = some (parseWebhookEventFilter kv.key kv.val).1 ∧
    (webhookKey name st kv).2 = (parseWebhookEventFilter kv.key kv.val).2 := by
  simp only [webhookKey, h, and_self]
theorem wk_tagsIgnore_eq (name : Str) (st : WebhookEvent) (kv : KV) (h : kv.id = "tags-ignore") :
    (webhookKey name st kv).1.tagsIgnore = some (parseWebhookEventFilter kv.key kv.val).1 ∧
    (webhookKey name st kv).2 = (parseWebhookEventFilter kv.key kv.val).2 := by
  simp only [webhookKey, h, and_self]
theorem wk_paths_eq (name : Str) (st : WebhookEvent) (kv : KV) (h : kv.id = "paths") :
    (webhookKey name st kv).1.paths = some (parseWebhookEventFilter kv.key kv.val).1 ∧
    (webhookKey name st kv).2 = (parseWebhookEventFilter kv.key kv.val).2 := by
  simp only [webhookKey, h, and_self]
theorem wk_pathsIgnore_eq (name : Str) (st : WebhookEvent) (kv : KV) (h : kv.id = "paths-ignore") :
    (webhookKey name st kv).1.pathsIgnore = some (parseWebhookEventFilter kv.key kv.val).1 ∧
    (webhookKey name st kv).2 = (parseWebhookEventFilter kv.key kv.val).2 := by
  simp only [webhookKey, h, and_self]

theorem key_items (o : Option Node) (k : Kind) :
    ((match o with | some v => (valueItems v).map strOf | none => []).map fun s => (s, k)) =
      (match o with | some v => (valueItems v).map fun c => (c, k) | none => []).map fun (p : Node × Kind) => (strOf p.1, p.2) := by
  cases o with
  | none => rfl
  | some v => simp only [List.map_map]; rfl

/-- **the patterns of a webhook event are the items under its six filter keys**, each as `parseString` reads it — when the
header of the event's mapping is accepted -/
theorem webhook_patterns (cfg : Cfg) (name : Str) (n : Node) (hm : (parseMapping cfg (sectionWhat name.value) n true true).2 = []) :
    eventPatterns (parseWebhookEvent cfg name n).1 = (itemsOfEvent n).map fun p => (strOf p.1, p.2) := by
  rw [parseWebhookEvent_eq]
  simp only [eventPatterns, filtersOf, itemsOfEvent, filterKeys, List.flatMap_cons, List.flatMap_nil, List.append_nil, List.map_append]
  rw [field_strs cfg name n hm (·.branches) "branches" rfl (wk_branches_ne name) (fun st kv h => (wk_branches_eq name st kv h).1),
    field_strs cfg name n hm (·.branchesIgnore) "branches-ignore" rfl (wk_branchesIgnore_ne name) (fun st kv h => (wk_branchesIgnore_eq name st kv h).1),
    field_strs cfg name n hm (·.tags) "tags" rfl (wk_tags_ne name) (fun st kv h => (wk_tags_eq name st kv h).1),
    field_strs cfg name n hm (·.tagsIgnore) "tags-ignore" rfl (wk_tagsIgnore_ne name) (fun st kv h => (wk_tagsIgnore_eq name st kv h).1),
    field_strs cfg name n hm (·.paths) "paths" rfl (wk_paths_ne name) (fun st kv h => (wk_paths_eq name st kv h).1),
    field_strs cfg name n hm (·.pathsIgnore) "paths-ignore" rfl (wk_pathsIgnore_ne name) (fun st kv h => (wk_pathsIgnore_eq name st kv h).1)]
  simp only [key_items]

/-- accepted without a diagnostic: every item under a filter key of the event is a non-empty scalar -/
theorem webhook_clean (cfg : Cfg) (name : Str) (n : Node) (h : (parseWebhookEvent cfg name n).2 = []) :
    (parseMapping cfg (sectionWhat name.value) n true true).2 = [] ∧ ∀ p ∈ itemsOfEvent n, (parseString p.1 false).2 = [] := by
  rw [parseWebhookEvent_eq] at h
  simp only [append_nil_iff] at h
  refine ⟨h.1, ?_⟩
  intro p hp
  simp only [itemsOfEvent, List.mem_flatMap] at hp
  obtain ⟨fk, hfk, hp⟩ := hp
  -- the iteration of a filter key reports what `parseWebhookEventFilter` reports about its value (no field is read here)
  obtain ⟨_, hok⟩ := section_reads cfg _ n true (webhookKey name) (hook0 name) (fun _ => ()) fk.1 (fun _ => ())
    (fun kv => (parseWebhookEventFilter kv.key kv.val).2 = []) (fun _ _ _ => rfl)
    (fun st kv hid hs _ => by
      refine ⟨rfl, ?_⟩
      simp only [filterKeys, List.mem_cons, List.not_mem_nil, or_false] at hfk
      rcases hfk with rfl | rfl | rfl | rfl | rfl | rfl
      · exact (wk_branches_eq name st kv hid).2 ▸ hs
      · exact (wk_branchesIgnore_eq name st kv hid).2 ▸ hs
      · exact (wk_tags_eq name st kv hid).2 ▸ hs
      · exact (wk_tagsIgnore_eq name st kv hid).2 ▸ hs
      · exact (wk_paths_eq name st kv hid).2 ▸ hs
      · exact (wk_pathsIgnore_eq name st kv hid).2 ▸ hs) h.1 h.2
  rw [mget] at hp
  cases hq : mpair n fk.1 with
  | none =>
    rw [hq] at hp
    cases hp
  | some q =>
    rw [hq] at hp
    obtain ⟨c, hc, rfl⟩ := List.mem_map.1 hp
    exact filter_clean _ _ (hok q hq) c hc

/-! ### the events of `on:` -/

/-- what one entry of `on:` contributes -/
def kvPatterns (cfg : Cfg) (kv : KV) : List (Str × Kind) :=
  if isSpecial kv.id then [] else eventPatterns (parseWebhookEvent cfg kv.key kv.val).1

theorem eventOfKey_patterns (cfg : Cfg) (st : List Event) (kv : KV) :
    (eventOfKey cfg st kv).1.flatMap eventPatterns = st.flatMap eventPatterns ++ kvPatterns cfg kv := by
  -- an entry under one of the four special keys contributes at most an event without patterns
  have special : ∀ ev : Event, eventPatterns ev = [] → isSpecial kv.id = true →
      (st ++ [ev]).flatMap eventPatterns = st.flatMap eventPatterns ++ kvPatterns cfg kv := by
    intro ev hev hsp
    simp [kvPatterns, hsp, hev]
  simp only [eventOfKey]
  split
  · have hsp : isSpecial kv.id = true := (isSpecial_iff kv.id).2 (.inl ‹_›)
    simp only [parseScheduleEvent]
    split
    · rename_i ev he
      refine special ev ?_ hsp
      split at he <;> cases he
      rfl
    · simp [kvPatterns, hsp]
  · exact special _ (by simp [parseWorkflowDispatchEvent, eventPatterns]) ((isSpecial_iff kv.id).2 (.inr (.inl ‹_›)))
  · exact special _ (by simp [parseRepositoryDispatchEvent, eventPatterns]) ((isSpecial_iff kv.id).2 (.inr (.inr (.inl ‹_›))))
  · exact special _ (by simp [parseWorkflowCallEvent, eventPatterns]) ((isSpecial_iff kv.id).2 (.inr (.inr (.inr ‹_›))))
  · rename_i h1 h2 h3 h4
    simp [kvPatterns, (isSpecial_false kv.id).2 ⟨h1, h2, h3, h4⟩]

theorem onLoop_patterns (cfg : Cfg) : ∀ (kvs : List KV) (init : List Event),
    (loop (eventOfKey cfg) init kvs).1.flatMap eventPatterns = init.flatMap eventPatterns ++ kvs.flatMap (kvPatterns cfg)
  | [], init => by simp [loop]
  | kv :: rest, init => by
    rw [loop_cons_fst, onLoop_patterns cfg rest, eventOfKey_patterns, List.flatMap_cons, List.append_assoc]

theorem eventsOfSeq_patterns : ∀ (cs : List Node), (eventsOfSeq cs).1.flatMap eventPatterns = []
  | [] => rfl
  | c :: cs => by
    have ih := eventsOfSeq_patterns cs
    simp only [eventsOfSeq]
    split <;> simp [ih, eventPatterns, filtersOf, filterStrs]

/-- the header conditions on the `on:` node: when it is a mapping, `parseMapping` accepts its header and the header of every
webhook event in it -/
def OnHeaders (cfg : Cfg) (on : Node) : Prop :=
  on.kind = .mapping →
    (parseMapping cfg (sectionWhat "on") on false true).2 = [] ∧
    ∀ p ∈ eventsOfOn on, (parseMapping cfg (sectionWhat p.1.value) p.2 true true).2 = []

theorem mem_eventsOfOn {on : Node} {p : Node × Node} (hk : on.kind = .mapping) :
    p ∈ eventsOfOn on ↔ p ∈ pairs on.content ∧ isSpecial p.1.value = false := by
  simp [eventsOfOn, hk]

/-- **the patterns of `Workflow.On` are the items written under `on.<event>.<filter>`**, each as `parseString` reads it -/
theorem parseEvents_patterns (cfg : Cfg) (pos : Yaml.Pos) (on : Node) (h : OnHeaders cfg on) :
    ((parseEvents cfg pos on).1.getD []).flatMap eventPatterns = (itemsOfOn on).map fun p => (strOf p.1, p.2) := by
  by_cases hk : on.kind = .mapping
  · obtain ⟨hm, hev⟩ := h hk
    rw [parseEvents_mapping cfg pos on hk]
    simp only [Option.getD_some, onLoop]
    rw [onLoop_patterns, parseMapping_clean_eq cfg _ on false true hm]
    simp only [List.flatMap_nil, List.nil_append, itemsOfOn, eventsOfOn, hk, if_true]
    have hev' : ∀ p ∈ pairs on.content, isSpecial p.1.value = false →
        (parseMapping cfg (sectionWhat p.1.value) p.2 true true).2 = [] :=
      fun p hp hs => hev p ((mem_eventsOfOn hk).2 ⟨hp, hs⟩)
    generalize pairs on.content = l at hev'
    induction l with
    | nil => rfl
    | cons q rest ih =>
      have ih' := ih fun p hp => hev' p (List.mem_cons_of_mem _ hp)
      simp only [List.map_cons, List.flatMap_cons, ih', List.filter_cons]
      by_cases hs : isSpecial q.1.value = true
      · simp [kvPatterns, kvOf_true, hs]
      · have hs' : isSpecial q.1.value = false := by simpa using hs
        have := webhook_patterns cfg (newString q.1) q.2 (hev' q (List.mem_cons_self ..) hs')
        simp only [hs', Bool.not_false, if_true, List.flatMap_cons, List.map_append]
        rw [← this]
        simp [kvPatterns, kvOf_true, hs']
  · have hr : itemsOfOn on = [] := by simp [itemsOfOn, eventsOfOn, hk]
    rw [hr]
    simp only [parseEvents]
    split
    · split
      · rfl
      · rfl
      · rfl
      · rfl
      · split <;> simp [eventPatterns, filtersOf, filterStrs]
    · exact absurd ‹_› hk
    · simp [eventsOfSeq_patterns]
    · rfl

/-- accepted without a diagnostic: the headers are, and every item is a non-empty scalar -/
theorem parseEvents_clean (cfg : Cfg) (pos : Yaml.Pos) (on : Node) (h : (parseEvents cfg pos on).2 = []) :
    OnHeaders cfg on ∧ ∀ p ∈ itemsOfOn on, (parseString p.1 false).2 = [] := by
  by_cases hk : on.kind = .mapping
  · rw [parseEvents_mapping cfg pos on hk] at h
    simp only [append_nil_iff] at h
    have key : ∀ p ∈ eventsOfOn on, (parseWebhookEvent cfg (newString p.1) p.2).2 = [] := by
      intro p hp
      obtain ⟨hmem, hs⟩ := (mem_eventsOfOn hk).1 hp
      obtain ⟨st, hc⟩ := sect_clean_at cfg _ on false true (eventOfKey cfg) _ h.1 h.2 p hmem
      rw [kvOf_true] at hc
      simp only [eventOfKey] at hc
      rw [isSpecial_false] at hs
      split at hc
      · rename_i he; exact absurd he hs.1
      · rename_i he; exact absurd he hs.2.1
      · rename_i he; exact absurd he hs.2.2.1
      · rename_i he; exact absurd he hs.2.2.2
      · exact hc
    refine ⟨fun _ => ⟨h.1, fun p hp => (webhook_clean cfg _ _ (key p hp)).1⟩, ?_⟩
    intro x hx
    simp only [itemsOfOn, List.mem_flatMap] at hx
    obtain ⟨p, hp, hx⟩ := hx
    exact (webhook_clean cfg _ _ (key p hp)).2 x hx
  · refine ⟨fun hk' => absurd hk' hk, ?_⟩
    intro x hx
    simp [itemsOfOn, eventsOfOn, hk] at hx

/-! ### the workflow -/

/-- **the header conditions**: `parseMapping` accepts the header of the workflow mapping (keys are non-empty scalars, none
twice) and, when `on:` is a mapping, its header and the header of every webhook event in it. Nothing is asked of any
value: not of `jobs:`, not of the other keys of the workflow, not of `schedule` / `workflow_dispatch` / …, not of the
values under the events' keys. -/
def HeadersClean (cfg : Cfg) (doc : Node) : Prop :=
  ∀ root, docRoot doc = some root →
    (parseMapping cfg "workflow" root false true).2 = [] ∧ ∀ on, mget root "on" = some on → OnHeaders cfg on

theorem parse_fst (cfg : Cfg) (doc root : Node) (h : docRoot doc = some root) :
    (parse cfg doc).1 = (loop (workflowKey cfg) {} (parseMapping cfg "workflow" root false true).1).1 := by
  unfold parse
  simp only [fixDocPos_content]
  unfold docRoot at h
  cases hc : doc.content with
  | nil => rw [hc] at h; cases h
  | cons r rest =>
    rw [hc] at h
    simp only [List.head?_cons, Option.some.injEq] at h
    subst h
    rfl

theorem parse_no_root (cfg : Cfg) (doc : Node) (h : docRoot doc = none) : (parse cfg doc).1 = {} := by
  unfold parse
  simp only [fixDocPos_content]
  unfold docRoot at h
  cases hc : doc.content with
  | nil => rfl
  | cons r rest => rw [hc] at h; cases h

/-- `Workflow.On` is `parseEvents` of the node under `on:` — when the header of the workflow mapping is accepted -/
theorem parse_on (cfg : Cfg) (doc root : Node) (hr : docRoot doc = some root)
    (hm : (parseMapping cfg "workflow" root false true).2 = []) :
    (parse cfg doc).1.on = match mpair root "on" with | some p => (parseEvents cfg p.1.pos p.2).1 | none => none := by
  rw [parse_fst cfg doc root hr,
    sect_field cfg "workflow" root false (workflowKey cfg) {} (fun w => w.on) "on"
      (fun kv => (parseEvents cfg kv.key.pos kv.val).1)
      (fun st kv hne => workflowKey_on_ne cfg st kv hne) (fun st kv he => (workflowKey_on_eq cfg st kv he).1) hm]
  cases mpair root "on" with
  | none => rfl
  | some p => simp only [kvOf_true]; rfl

/-- **the patterns of the AST are the items written under `on.<event>.<filter>`**, in order, each as `parseString` reads it -/
theorem parse_patterns (cfg : Cfg) (doc : Node) (h : HeadersClean cfg doc) :
    patternsOf (parse cfg doc).1 = (docFilterItems doc).map fun p => (strOf p.1, p.2) := by
  unfold patternsOf docFilterItems docEvents docOn
  cases hr : docRoot doc with
  | none => rw [parse_no_root cfg doc hr]; rfl
  | some root =>
    obtain ⟨hm, hon⟩ := h root hr
    rw [parse_on cfg doc root hr hm]
    simp only [Option.bind_some, mget]
    cases hp : mpair root "on" with
    | none => rfl
    | some p =>
      simp only [Option.map_some]
      exact parseEvents_patterns cfg p.1.pos p.2 (hon p.2 (by simp [mget, hp]))

/-- a document the parser accepts without a diagnostic satisfies the header conditions, and every item under
`on.<event>.<filter>` is a non-empty scalar -/
theorem clean_headers (cfg : Cfg) (doc : Node) (h : (parse cfg doc).2 = []) :
    HeadersClean cfg doc ∧ ∀ p ∈ docFilterItems doc, (parseString p.1 false).2 = [] := by
  obtain ⟨root, hroot, hm, _⟩ := parse_clean cfg doc h
  obtain ⟨on, pos, hon, _, hc⟩ := parse_on_written cfg doc h
  refine ⟨?_, ?_⟩
  · intro root' hroot'
    rw [hroot] at hroot'
    cases hroot'
    refine ⟨hm, fun on' hon' => ?_⟩
    simp only [docOn, hroot, Option.bind_some, hon'] at hon
    cases hon
    exact (parseEvents_clean cfg pos on hc).1
  · intro x hx
    simp only [docFilterItems, docEvents, hon] at hx
    exact (parseEvents_clean cfg pos on hc).2 x hx

end AL.C17D
