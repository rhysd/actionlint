import AL.Lemmas.LexerInv
import AL.Spec.ExprLexical
/-
  What each helper of `ExprLexer.Next` returns: either the empty END pseudo-token together with a
  recorded error (`IsFail`), or `st1.token k` where `st1` is reached by consuming the characters `x`
  and `x` is spelled as the lexical grammar prescribes for `k` (`Outcome.tok`).
-/
namespace AL.Lex
open AL AL.Spec

@[simp] theorem runes_nil : runes [] = [] := rfl
@[simp] theorem runes_cons (c : Sym) (l : List Sym) : runes (c :: l) = c.r :: runes l := rfl
@[simp] theorem runes_append (a b : List Sym) : runes (a ++ b) = runes a ++ runes b := by simp [runes]

theorem runes_one {c : Sym} {r : Nat} (h : c.r = r) : runes [c] = [r] := by rw [← h]; rfl
theorem runes_two {c d : Sym} {r s : Nat} (hc : c.r = r) (hd : d.r = s) : runes [c, d] = [r, s] := by
  rw [← hc, ← hd]; rfl

theorem mem_runes {l : List Sym} {p : Nat → Bool} (h : ∀ c ∈ l, p c.r = true) : ∀ x ∈ runes l, p x = true := by
  intro x hx; simp [runes] at hx; obtain ⟨c, hc, rfl⟩ := hx; exact h c hc

/-- the result of `lex.unexpected…`: empty END token, error recorded -/
def IsFail (R : Tok × LexState) : Prop := R.1.kind = .end ∧ R.1.val = [] ∧ R.2.err ≠ none

theorem isFail_unexpected (st : LexState) (r : Option Nat) (wh : Where) : IsFail (st.unexpected r wh) :=
  ⟨rfl, rfl, error_err_ne_none _ _⟩

inductive Outcome (st : LexState) (R : Tok × LexState) : Prop
  | fail : IsFail R → Outcome st R
  | tok (st1 : LexState) (x : List Sym) (k : TokKind) :
      Steps st x st1 → R = st1.token k → x ≠ [] → Spelling k x → Outcome st R

theorem optMinus_append_of {P : List Nat → Prop} {m : List Nat} (hm : m = [] ∨ m = [45]) {l : List Nat} (h : P l) :
    optMinus P (m ++ l) := by
  rcases hm with rfl | rfl
  · exact .inl h
  · exact .inr ⟨l, rfl, h⟩

/-- `0 | [1-9a-fA-F][0-9a-fA-F]*`, the digits of a hex literal (what `Spec.HexInt` asks of the text behind `0x`) -/
def HexBody (b : List Nat) : Prop :=
  b = [48] ∨ ∃ d ds, b = d :: ds ∧ isHexNum d = true ∧ d ≠ 48 ∧ ∀ x ∈ ds, isHexNum x = true

/-! ### identifiers, punctuation, operators -/

theorem ident_outcome {st : LexState} {r : Nat} (h : st.peek = some r) (hr : isAlpha r = true ∨ r = 95) :
    Outcome st ((eatWhile isIdentChar st.next).token .ident) := by
  obtain ⟨c, hc, rfl⟩ := peek_some h
  obtain ⟨x, hx, hall⟩ := eatWhile_spec isIdentChar st.next
  refine .tok _ (c :: x) .ident (.next hc hx) rfl (by simp) ?_
  exact ⟨c.r, runes x, rfl, hr, mem_runes hall⟩

theorem lexChar_outcome {st : LexState} {r : Nat} {k : TokKind} (h : st.peek = some r)
    (hs : ∀ c : Sym, c.r = r → Spelling k [c]) : Outcome st (lexChar st k) := by
  obtain ⟨c, hc, rfl⟩ := peek_some h
  exact .tok _ [c] k (.one hc) rfl (by simp) (hs c rfl)

theorem lexPair_outcome {st : LexState} {r second : Nat} {k : TokKind} {wh : Where} (h : st.peek = some r)
    (hs : ∀ c d : Sym, c.r = r → d.r = second → Spelling k [c, d]) : Outcome st (lexPair st second k wh) := by
  obtain ⟨c, hc, rfl⟩ := peek_some h
  unfold lexPair
  dsimp only
  split
  · exact .fail (isFail_unexpected _ _ _)
  · rename_i h2
    simp only [ne_eq, Decidable.not_not] at h2
    obtain ⟨d, hd, hdr⟩ := peek_some h2
    exact .tok _ [c, d] k (.next hc (.one hd)) rfl (by simp) (hs c d rfl hdr)

theorem lexOptEq_outcome {st : LexState} {r : Nat} {k kEq : TokKind} (h : st.peek = some r)
    (hs1 : ∀ c : Sym, c.r = r → Spelling k [c])
    (hs2 : ∀ c d : Sym, c.r = r → d.r = 61 → Spelling kEq [c, d]) : Outcome st (lexOptEq st k kEq) := by
  obtain ⟨c, hc, rfl⟩ := peek_some h
  unfold lexOptEq
  dsimp only
  split
  · rename_i h2
    obtain ⟨d, hd, hdr⟩ := peek_some h2
    exact .tok _ [c, d] kEq (.next hc (.one hd)) rfl (by simp) (hs2 c d rfl hdr)
  · exact .tok _ [c] k (.one hc) rfl (by simp) (hs1 c rfl)

/-! ### strings -/

theorem lexString_aux (st : LexState) :
    IsFail (lexString st) ∨
    ∃ st1 c0 body q, st.scan.ch = some c0 ∧ Steps st (c0 :: body ++ [q]) st1 ∧
      lexString st = st1.token .string ∧ q.r = 39 ∧ StrBody (runes body) := by
  fun_induction lexString st with
  | case1 st h => exact .inl (isFail_unexpected _ _ _)
  | case2 st c0 h st1 h1 => exact .inl (isFail_unexpected _ _ _)
  | case3 st c0 h st1 c h1 hq st2 hne =>
    refine .inr ⟨st2.token .string |>.2 |> fun _ => st2, c0, [], c, h, ?_, rfl, hq, .nil⟩
    exact .next h (.one h1)
  | case4 st c0 h st1 c h1 hq st2 hne ih =>
    rcases ih with ih | ⟨st3, c2, body, q, hc2, hsteps, heq, hqr, hbody⟩
    · exact .inl ih
    · refine .inr ⟨st3, c0, c :: c2 :: body, q, h, ?_, heq, hqr, ?_⟩
      · exact .next h (.next h1 hsteps)
      · simp only [ne_eq, Decidable.not_not] at hne
        obtain ⟨d, hd, hdr⟩ := peek_some hne
        have : d = c2 := by rw [hc2] at hd; cases hd; rfl
        subst this
        simp only [runes_cons, hq, hdr]
        exact .esc _ hbody
  | case5 st c0 h st1 c h1 hq ih =>
    rcases ih with ih | ⟨st3, c2, body, q, hc2, hsteps, heq, hqr, hbody⟩
    · exact .inl ih
    · have : c = c2 := by rw [hc2] at h1; cases h1; rfl
      subst this
      refine .inr ⟨st3, c0, c :: body, q, h, .next h hsteps, heq, hqr, ?_⟩
      simp only [runes_cons]
      exact .char _ _ hq hbody

theorem lexString_outcome {st : LexState} (h : st.peek = some 39) : Outcome st (lexString st) := by
  rcases lexString_aux st with hf | ⟨st1, c0, body, q, hc0, hsteps, heq, hq, hbody⟩
  · exact .fail hf
  · obtain ⟨c, hc, hcr⟩ := peek_some h
    have : c = c0 := by rw [hc0] at hc; cases hc; rfl
    subst this
    refine .tok st1 _ .string hsteps heq (by simp) ⟨runes body, ?_, hbody⟩
    simp [hcr, hq]

/-! ### numbers -/

theorem finishNum_spec (st : LexState) (k : TokKind) (wh : Where) :
    IsFail (finishNum st k wh) ∨ finishNum st k wh = st.token k := by
  unfold finishNum
  split
  · split
    · exact .inl (isFail_unexpected _ _ _)
    · exact .inr rfl
  · exact .inr rfl

/-- `for { r = eat(); if !isNum(r) break }` entered with a digit as current character -/
theorem eatDigits_spec {st : LexState} {r : Nat} (h : st.peek = some r) :
    ∃ c x, c.r = r ∧ Steps st (c :: x) (eatDigits st) ∧ ∀ y ∈ runes x, isNum y = true := by
  obtain ⟨c, hc, hcr⟩ := peek_some h
  obtain ⟨x, hx, hall⟩ := eatWhile_spec isNum st.next
  exact ⟨c, x, hcr, .next hc hx, mem_runes hall⟩

theorem isNum_ne_zero {r : Nat} (h : isNum r = true) (h0 : r ≠ 48) : 49 ≤ r ∧ r ≤ 57 := by
  simp [isNum] at h; omega

theorem lexHexInt_spec (st : LexState) :
    IsFail (lexHexInt st) ∨ ∃ st1 y, Steps st y st1 ∧ lexHexInt st = st1.token .int ∧ HexBody (runes y) := by
  unfold lexHexInt
  split
  · rename_i h
    obtain ⟨c, hc, hcr⟩ := peek_some h
    rcases finishNum_spec st.next .int .afterHex with hf | he
    · exact .inl hf
    · exact .inr ⟨st.next, [c], .one hc, he, .inl (by simp [hcr])⟩
  · rename_i hne
    cases hp : st.peek with
    | none => simp only [Bool.not_false, if_true]; exact .inl (isFail_unexpected _ _ _)
    | some r =>
      simp only
      split
      · exact .inl (isFail_unexpected _ _ _)
      · rename_i hh
        have hh : isHexNum r = true := by simpa using hh
        obtain ⟨c, hc, hcr⟩ := peek_some hp
        obtain ⟨x, hx, hall⟩ := eatWhile_spec isHexNum st.next
        rcases finishNum_spec (eatWhile isHexNum st.next) .int .afterHex with hf | he
        · exact .inl hf
        · refine .inr ⟨_, c :: x, .next hc hx, he, .inr ⟨r, runes x, by simp [hcr], hh, ?_, mem_runes hall⟩⟩
          intro h48; subst h48; exact hne hp

/-- integer part of `lexNum` (after the optional sign) -/
def numInt (st1 : LexState) : Except (Tok × LexState) (LexState × Bool) :=
  match st1.peek with
  | some 48 =>
    let st2 := st1.next
    if st2.peek = some 120 then .ok (st2.next, true) else .ok (st2, false)
  | r =>
    if !(match r with | some x => isNum x | none => false) then .error (st1.unexpected r .intPart)
    else .ok (eatDigits st1, false)

/-- fraction part of `lexNum` -/
def numFrac (st2 : LexState) : Except (Tok × LexState) (LexState × TokKind) :=
  if st2.peek = some 46 then
    let st3 := st2.next
    if !(match st3.peek with | some x => isNum x | none => false) then .error (st3.unexpected st3.peek .fracPart)
    else .ok (eatDigits st3, .float)
  else .ok (st2, .int)

/-- exponent part and tail of `lexNum` -/
def numTail (st3 : LexState) (k : TokKind) : Tok × LexState :=
  if st3.peek = some 101 || st3.peek = some 69 then
    match lexExponent st3 with
    | .error e => e
    | .ok st4 => finishNum st4 .float .afterNumber
  else finishNum st3 k .afterNumber

theorem lexNum_eq (st : LexState) : lexNum st =
    match numInt (if st.peek = some 45 then st.next else st) with
    | .error e => e
    | .ok (st2, true) => lexHexInt st2
    | .ok (st2, false) =>
      match numFrac st2 with
      | .error e => e
      | .ok (st3, k) => numTail st3 k := rfl

def NumIntPost (st1 : LexState) : Except (Tok × LexState) (LexState × Bool) → Prop
  | .error e => IsFail e
  | .ok (st2, true) => ∃ x, Steps st1 x st2 ∧ runes x = [48, 120]
  | .ok (st2, false) => ∃ x, Steps st1 x st2 ∧ DecInt (runes x)

theorem numInt_spec (st1 : LexState) : NumIntPost st1 (numInt st1) := by
  unfold numInt
  split
  · rename_i h
    obtain ⟨c, hc, hcr⟩ := peek_some h
    dsimp only
    split
    · rename_i h2
      obtain ⟨d, hd, hdr⟩ := peek_some h2
      exact ⟨[c, d], .next hc (.one hd), by simp [hcr, hdr]⟩
    · exact ⟨[c], .one hc, .inl (by simp [hcr])⟩
  · rename_i hne
    cases hp : st1.peek with
    | none => simp only [Bool.not_false, if_true]; exact isFail_unexpected _ _ _
    | some r =>
      simp only
      split
      · exact isFail_unexpected _ _ _
      · rename_i hh
        have hh : isNum r = true := by simpa using hh
        obtain ⟨c, x, hcr, hsteps, hall⟩ := eatDigits_spec hp
        refine ⟨c :: x, hsteps, .inr ⟨r, runes x, by simp [hcr], ?_⟩⟩
        have := isNum_ne_zero hh (by intro h48; subst h48; exact hne hp)
        exact ⟨this.1, this.2, hall⟩

def NumFracPost (st2 : LexState) : Except (Tok × LexState) (LexState × TokKind) → Prop
  | .error e => IsFail e
  | .ok (st3, k) => ∃ y, Steps st2 y st3 ∧
      ((k = .int ∧ y = []) ∨ (k = .float ∧ ∃ ds, runes y = 46 :: ds ∧ Digits1 ds))

theorem numFrac_spec (st2 : LexState) : NumFracPost st2 (numFrac st2) := by
  unfold numFrac
  split
  · rename_i h
    obtain ⟨c, hc, hcr⟩ := peek_some h
    dsimp only
    cases hp : st2.next.peek with
    | none => simp only [Bool.not_false, if_true]; exact isFail_unexpected _ _ _
    | some r =>
      simp only
      split
      · exact isFail_unexpected _ _ _
      · rename_i hh
        have hh : isNum r = true := by simpa using hh
        obtain ⟨d, x, hdr, hsteps, hall⟩ := eatDigits_spec hp
        refine ⟨c :: d :: x, .next hc hsteps, .inr ⟨rfl, r :: runes x, by simp [hcr, hdr], by simp, ?_⟩⟩
        intro y hy; simp at hy; rcases hy with rfl | hy
        · exact hh
        · exact hall y hy
  · exact ⟨[], .refl _, .inl ⟨rfl, rfl⟩⟩

/-- the optional sign in front of an integer part or of the digits of an exponent -/
theorem sign_steps (st : LexState) :
    ∃ m, Steps st m (if st.peek = some 45 then st.next else st) ∧ (runes m = [] ∨ runes m = [45]) := by
  split
  · rename_i hm
    obtain ⟨d, hd, hdr⟩ := peek_some hm
    exact ⟨[d], .one hd, .inr (runes_one hdr)⟩
  · exact ⟨[], .refl _, .inl rfl⟩

def ExpPost (st : LexState) (e : Nat) : Except (Tok × LexState) LexState → Prop
  | .error R => IsFail R
  | .ok st4 => ∃ z, Steps st z st4 ∧ ∃ ds, runes z = e :: ds ∧ optMinus DecInt ds

theorem lexExponent_spec {st : LexState} {e : Nat} (h : st.peek = some e) : ExpPost st e (lexExponent st) := by
  obtain ⟨c, hc, hcr⟩ := peek_some h
  unfold lexExponent
  dsimp only
  obtain ⟨m, hm, hmr⟩ := sign_steps st.next
  generalize (if st.next.peek = some 45 then st.next.next else st.next) = st2 at hm
  split
  · rename_i h0
    obtain ⟨d, hd, hdr⟩ := peek_some h0
    exact ⟨c :: (m ++ [d]), .next hc (hm.trans (.one hd)), runes m ++ [48], by simp [hcr, hdr], optMinus_append_of hmr (.inl rfl)⟩
  · rename_i hne
    cases hp : st2.peek with
    | none => simp only [Bool.not_false, if_true]; exact isFail_unexpected _ _ _
    | some r =>
      simp only
      split
      · exact isFail_unexpected _ _ _
      · rename_i hh
        have hh : isNum r = true := by simpa using hh
        obtain ⟨d, x, hdr, hsteps, hall⟩ := eatDigits_spec hp
        refine ⟨c :: (m ++ d :: x), .next hc (hm.trans hsteps), runes m ++ r :: runes x, by simp [hcr, hdr],
          optMinus_append_of hmr (.inr ⟨r, runes x, rfl, ?_⟩)⟩
        have := isNum_ne_zero hh (by intro h48; subst h48; exact hne hp)
        exact ⟨this.1, this.2, hall⟩

/-- what `numTail` is given: the state after integer part and optional fraction -/
theorem numTail_spec (st3 : LexState) (k : TokKind) :
    IsFail (numTail st3 k) ∨ ∃ st4 z k', Steps st3 z st4 ∧ numTail st3 k = st4.token k' ∧
      ((z = [] ∧ k' = k) ∨ (k' = .float ∧ ∃ e ds, runes z = e :: ds ∧ (e = 101 ∨ e = 69) ∧ optMinus DecInt ds)) := by
  unfold numTail
  split
  · rename_i he
    have he' : ∃ e, st3.peek = some e ∧ (e = 101 ∨ e = 69) := by
      simp only [Bool.or_eq_true, decide_eq_true_eq] at he
      rcases he with he | he
      · exact ⟨101, he, .inl rfl⟩
      · exact ⟨69, he, .inr rfl⟩
    obtain ⟨e, hpe, hee⟩ := he'
    have := lexExponent_spec hpe
    split
    · rename_i R hR; rw [hR] at this; exact .inl this
    · rename_i st4 hR
      rw [hR] at this
      obtain ⟨z, hz, ds, hzr, hds⟩ := this
      rcases finishNum_spec st4 .float .afterNumber with hf | hf
      · exact .inl hf
      · exact .inr ⟨st4, z, .float, hz, hf, .inr ⟨rfl, e, ds, hzr, hee, hds⟩⟩
  · rcases finishNum_spec st3 k .afterNumber with hf | hf
    · exact .inl hf
    · exact .inr ⟨st3, [], k, .refl _, hf, .inl ⟨rfl, rfl⟩⟩

theorem lexNum_outcome (st : LexState) : Outcome st (lexNum st) := by
  rw [lexNum_eq]
  obtain ⟨m, hm, hmr⟩ := sign_steps st
  generalize (if st.peek = some 45 then st.next else st) = st1 at hm
  have hI := numInt_spec st1
  split
  · rename_i e he; rw [he] at hI; exact .fail hI
  · rename_i st2 he; rw [he] at hI
    obtain ⟨x, hx, hxr⟩ := hI
    rcases lexHexInt_spec st2 with hf | ⟨st3, y, hy, heq, hyr⟩
    · exact .fail hf
    · refine .tok st3 (m ++ x ++ y) .int ((hm.trans hx).trans hy) heq ?_ ?_
      · intro h0; have : runes (m ++ x ++ y) = [] := by rw [h0]; rfl
        simp [hxr] at this
      · refine .inr ?_
        have : runes (m ++ x ++ y) = runes m ++ (48 :: 120 :: runes y) := by simp [hxr]
        show optMinus HexInt (runes (m ++ x ++ y))
        rw [this]
        exact optMinus_append_of hmr ⟨runes y, rfl, hyr⟩
  · rename_i st2 he; rw [he] at hI
    obtain ⟨x, hx, hxr⟩ := hI
    have hx0 : runes x ≠ [] := by
      rcases hxr with h1 | ⟨d, ds, h1, _⟩ <;> simp [h1]
    have hF := numFrac_spec st2
    split
    · rename_i e he2; rw [he2] at hF; exact .fail hF
    · rename_i st3 k he2; rw [he2] at hF
      obtain ⟨y, hy, hyk⟩ := hF
      rcases numTail_spec st3 k with hf | ⟨st4, z, k', hz, heq, hzk⟩
      · exact .fail hf
      · refine .tok st4 (m ++ x ++ y ++ z) k' (((hm.trans hx).trans hy).trans hz) heq ?_ ?_
        · intro h0
          have hx' : x = [] := by simp at h0; exact h0.2.1
          exact hx0 (by rw [hx']; rfl)
        · have hip : optMinus DecInt (runes (m ++ x)) := by
            rw [runes_append]; exact optMinus_append_of hmr hxr
          rcases hyk with ⟨rfl, rfl⟩ | ⟨rfl, ds, hyr, hds⟩
          · rcases hzk with ⟨rfl, rfl⟩ | ⟨rfl, e, es, hzr, hee, hes⟩
            · show optMinus DecInt _ ∨ _
              left; simpa using hip
            · show FloatLit _
              refine ⟨runes (m ++ x), [], e :: es, hip, .inl rfl, .inr ⟨e, es, rfl, hee, hes⟩, .inr (by simp), ?_⟩
              simp [hzr]
          · have hk' : k' = .float := by
              rcases hzk with ⟨_, rfl⟩ | ⟨rfl, _⟩ <;> rfl
            subst hk'
            show FloatLit _
            rcases hzk with ⟨rfl, _⟩ | ⟨_, e, es, hzr, hee, hes⟩
            · refine ⟨runes (m ++ x), 46 :: ds, [], hip, .inr ⟨ds, rfl, hds⟩, .inl rfl, .inl (by simp), ?_⟩
              simp [hyr]
            · refine ⟨runes (m ++ x), 46 :: ds, e :: es, hip, .inr ⟨ds, rfl, hds⟩, .inr ⟨e, es, rfl, hee, hes⟩, .inl (by simp), ?_⟩
              simp [hyr, hzr]

/-! ### `Next` -/

/-- what `Next` does on the look-ahead `r` once the blanks are skipped -/
def lexAt (st : LexState) (r : Nat) : Tok × LexState :=
  if isAlpha r || r = 95 then (eatWhile isIdentChar st.next).token .ident
  else if isNum r || r = 45 then lexNum st
  else match r with
    | 39 => lexString st
    | 125 => lexPair st 125 .end .endMarker
    | 33 => lexOptEq st .not .notEq
    | 60 => lexOptEq st .less .lessEq
    | 62 => lexOptEq st .greater .greaterEq
    | 61 => lexPair st 61 .eq .eqOp
    | 38 => lexPair st 38 .and .andOp
    | 124 => lexPair st 124 .or .orOp
    | 40 => lexChar st .lparen
    | 41 => lexChar st .rparen
    | 91 => lexChar st .lbracket
    | 93 => lexChar st .rbracket
    | 46 => lexChar st .dot
    | 42 => lexChar st .star
    | 44 => lexChar st .comma
    | _ => st.unexpected (some r) .expression

theorem lexNext_eq (st0 : LexState) : lexNext st0 =
    match (skipWhite st0).peek with
    | none => ((skipWhite st0).error .unexpectedEOF).eof
    | some r => lexAt (skipWhite st0) r := rfl

theorem lexAt_outcome {st : LexState} {r : Nat} (h : st.peek = some r) : Outcome st (lexAt st r) := by
  unfold lexAt
  split
  · rename_i hr
    exact ident_outcome h (by simpa using hr)
  · split
    · exact lexNum_outcome _
    · split
      · exact lexString_outcome h
      · exact lexPair_outcome h (fun c d hc hd => .inl (runes_two hc hd))
      · exact lexOptEq_outcome h (fun c hc => runes_one hc) (fun c d hc hd => runes_two hc hd)
      · exact lexOptEq_outcome h (fun c hc => runes_one hc) (fun c d hc hd => runes_two hc hd)
      · exact lexOptEq_outcome h (fun c hc => runes_one hc) (fun c d hc hd => runes_two hc hd)
      · exact lexPair_outcome h (fun c d hc hd => runes_two hc hd)
      · exact lexPair_outcome h (fun c d hc hd => runes_two hc hd)
      · exact lexPair_outcome h (fun c d hc hd => runes_two hc hd)
      · exact lexChar_outcome h (fun c hc => runes_one hc)
      · exact lexChar_outcome h (fun c hc => runes_one hc)
      · exact lexChar_outcome h (fun c hc => runes_one hc)
      · exact lexChar_outcome h (fun c hc => runes_one hc)
      · exact lexChar_outcome h (fun c hc => runes_one hc)
      · exact lexChar_outcome h (fun c hc => runes_one hc)
      · exact lexChar_outcome h (fun c hc => runes_one hc)
      · exact .fail (isFail_unexpected _ _ _)

theorem lexNext_outcome (st0 : LexState) : Outcome (skipWhite st0) (lexNext st0) := by
  rw [lexNext_eq]
  split
  · exact .fail ⟨rfl, rfl, error_err_ne_none _ _⟩
  · exact lexAt_outcome ‹_›

end AL.Lex
