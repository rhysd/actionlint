import AL.Model.ProjCall
import AL.Model.ProjAction
import AL.Lemmas.Order
/-
  Membership in the diagnostics of `checkWorkflowCallUsesLocal` (AL.ProjCall.checkLocal) and of `checkAction` for a local
  action (AL.ProjAction.inputDiags): one disjunct per loop of the Go function, so that a statement about one kind of
  diagnostic picks its disjunct by the code. Before that, in `AL.PW`: `sortStrings` permutes its list
  (`sortStrings_perm`, `mem_sortStrings`, from the insertion layer of AL.Lemmas.Order).
-/
namespace AL.PW

theorem insSorted : AL.Order.Insert (fun s x : String => decide (s < x)) insertSorted :=
  ⟨fun _ => rfl, fun s x rest => by rw [insertSorted]; simp only [decide_eq_true_eq]⟩

theorem sortStrings_perm (l : List String) : (sortStrings l).Perm l := insSorted.foldr_perm l

theorem mem_sortStrings (l : List String) (x : String) : x ∈ sortStrings l ↔ x ∈ l := (sortStrings_perm l).mem_iff

end AL.PW

namespace AL.ProjCall
open AL AL.Ast AL.CallMeta

theorem key_of_find {α : Type} {l : List (String × α)} {n : String} {e : String × α} (h : l.find? (·.1 = n) = some e) :
    e.1 = n ∧ n ∈ keysOf l := by
  have h1 : e.1 = n := by simpa using List.find?_some h
  exact ⟨h1, List.mem_map.2 ⟨e, List.mem_of_find?_eq_some h, h1⟩⟩

theorem mem_checkLocal (m : Meta) (c : WorkflowCall) (u : Str) (d : AL.Rules.Diag) :
    d ∈ checkLocal m c u ↔
      (∃ n i, m.inputs.find? (·.1 = n) = some (n, i) ∧ i.required = true ∧ n ∉ keysOf (c.inputs.getD []) ∧
        d = ⟨u.pos, "workflow-call", "input-required", [i.name, u.value]⟩) ∨
      (∃ kv ∈ c.inputs.getD [], kv.1 ∉ keysOf m.inputs ∧
        d = ⟨kv.2.name.pos, "workflow-call", "input-undefined",
          [kv.2.name.value, u.value] ++ AL.PW.sortStrings (m.inputs.map (·.2.name))⟩) ∨
      (c.inheritSecrets = false ∧
        ((∃ n s, m.secrets.find? (·.1 = n) = some (n, s) ∧ s.required = true ∧ n ∉ keysOf (c.secrets.getD []) ∧
          d = ⟨u.pos, "workflow-call", "secret-required", [s.name, u.value]⟩) ∨
         (∃ kv ∈ c.secrets.getD [], kv.1 ∉ keysOf m.secrets ∧
          d = ⟨kv.2.name.pos, "workflow-call", "secret-undefined",
            [kv.2.name.value, u.value] ++ AL.PW.sortStrings (m.secrets.map (·.2.name))⟩))) := by
  simp only [checkLocal, List.mem_append, List.mem_flatMap, AL.PW.mem_sortStrings]
  constructor
  · rintro ((⟨n, _, h⟩ | ⟨kv, hkv, h⟩) | h)
    · split at h
      · rename_i e i he
        split at h
        · rename_i hreq
          obtain ⟨rfl, _⟩ := key_of_find he
          have hreq' : i.required = true ∧ e ∉ keysOf (c.inputs.getD []) := by simpa using hreq
          exact .inl ⟨e, i, he, hreq'.1, hreq'.2, List.mem_singleton.1 h⟩
        · cases h
      · cases h
    · split at h
      · cases h
      · rename_i hnot
        exact .inr (.inl ⟨kv, hkv, by simpa using hnot, List.mem_singleton.1 h⟩)
    · split at h
      · cases h
      · rename_i hinh
        simp only [List.mem_append, List.mem_flatMap, AL.PW.mem_sortStrings] at h
        refine .inr (.inr ⟨by simpa using hinh, ?_⟩)
        rcases h with ⟨n, _, h⟩ | ⟨kv, hkv, h⟩
        · split at h
          · rename_i e s he
            split at h
            · rename_i hreq
              obtain ⟨rfl, _⟩ := key_of_find he
              have hreq' : s.required = true ∧ e ∉ keysOf (c.secrets.getD []) := by simpa using hreq
              exact .inl ⟨e, s, he, hreq'.1, hreq'.2, List.mem_singleton.1 h⟩
            · cases h
          · cases h
        · split at h
          · cases h
          · rename_i hnot
            exact .inr ⟨kv, hkv, by simpa using hnot, List.mem_singleton.1 h⟩
  · rintro (⟨n, i, hf, hr, hn, rfl⟩ | ⟨kv, hkv, hnot, rfl⟩ | ⟨hinh, ⟨n, s, hf, hr, hn, rfl⟩ | ⟨kv, hkv, hnot, rfl⟩⟩)
    · refine .inl (.inl ⟨n, (key_of_find hf).2, ?_⟩)
      simp [hf, hr, hn]
    · refine .inl (.inr ⟨kv, hkv, ?_⟩)
      simp [hnot]
    · refine .inr ?_
      simp only [hinh, Bool.false_eq_true, if_false, List.mem_append, List.mem_flatMap, AL.PW.mem_sortStrings]
      refine .inl ⟨n, (key_of_find hf).2, ?_⟩
      simp [hf, hr, hn]
    · refine .inr ?_
      simp only [hinh, Bool.false_eq_true, if_false, List.mem_append, List.mem_flatMap, AL.PW.mem_sortStrings]
      refine .inr ⟨kv, hkv, ?_⟩
      simp [hnot]

end AL.ProjCall

namespace AL.ProjAction
open AL AL.Ast

theorem mem_inputDiags (m : ActionMeta) (spec : String) (e : ExecAction) (pos : Pos) (d : Diag) :
    d ∈ inputDiags m spec e pos ↔
      (∃ kv ∈ e.inputs.getD [], m.inputs.any (·.1 = kv.1) = false ∧
        d = ⟨kv.2.name.pos, "action", "local-input-undefined",
          [kv.2.name.value, m.name, spec] ++ AL.PW.sortStrings (m.inputs.map (·.2.1))⟩) ∨
      (∃ id name, m.inputs.find? (·.1 = id) = some (id, name, true) ∧ (e.inputs.getD []).any (·.1 = id) = false ∧
        d = ⟨pos, "action", "local-input-missing",
          [name, m.name, spec] ++ AL.PW.sortStrings ((m.inputs.filter (·.2.2)).map (·.2.1))⟩) := by
  simp only [inputDiags, List.mem_append, List.mem_flatMap, AL.PW.mem_sortStrings]
  constructor
  · rintro (⟨kv, hkv, h⟩ | ⟨id, _, h⟩)
    · split at h
      · cases h
      · rename_i hnot
        exact .inl ⟨kv, hkv, (Bool.not_eq_true _).mp hnot, List.mem_singleton.1 h⟩
    · split at h
      · rename_i k name hf
        split at h
        · cases h
        · rename_i hg
          obtain ⟨rfl, _⟩ := AL.ProjCall.key_of_find hf
          exact .inr ⟨k, name, hf, (Bool.not_eq_true _).mp hg, List.mem_singleton.1 h⟩
      · cases h
  · rintro (⟨kv, hkv, hnot, rfl⟩ | ⟨id, name, hf, hg, rfl⟩)
    · exact .inl ⟨kv, hkv, by simp [hnot]⟩
    · exact .inr ⟨id, List.mem_map.2 ⟨_, List.mem_of_find?_eq_some hf, rfl⟩, by simp [hf, hg]⟩

end AL.ProjAction
