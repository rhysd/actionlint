import AL.Lemmas.TyLooser
/-
  C06 (a), (b): `any` is assignable both ways, and `assignable` is monotone in its right argument for
  `LooserW` (hence for `Looser` and `LooserD`).
-/
namespace AL.Ty
open AL AL.Spec

theorem assignable_any_right (t : Ty) : assignable t .any = true := by
  cases t <;> simp [assignable]

theorem assignable_any_left (t : Ty) : assignable .any t = true := by
  simp [assignable]

/-- `BoolType.Assignable` returns `true` unconditionally: the operand of `!` is never rejected -/
theorem assignable_bool (t : Ty) : assignable .bool t = true := by
  rw [assignable]

theorem propsAssignableTo_any : (ps : List (String × Ty)) → propsAssignableTo ps .any = true
  | [] => by simp [propsAssignableTo]
  | (_, t) :: rest => by simp [propsAssignableTo, assignable_any_right, propsAssignableTo_any rest]

theorem propsAssignableTo_mono {m m' : Ty} (h : ∀ p, assignable p m = true → assignable p m' = true) :
    (ps : List (String × Ty)) → propsAssignableTo ps m = true → propsAssignableTo ps m' = true
  | [], _ => by simp [propsAssignableTo]
  | (_, t) :: rest, hp => by
    simp only [propsAssignableTo, Bool.and_eq_true] at hp ⊢
    exact ⟨h _ hp.1, propsAssignableTo_mono h rest hp.2⟩

theorem lookupAssignable_mono {r r' : Ty} (h : ∀ p, assignable p r = true → assignable p r' = true) (n : String) :
    (ps : List (String × Ty)) → lookupAssignable ps n r = true → lookupAssignable ps n r' = true
  | [], hp => by simp [lookupAssignable] at hp
  | (k, l) :: rest, hp => by
    simp only [lookupAssignable] at hp ⊢
    split
    · next hk => simp only [hk, if_true] at hp; exact h _ hp
    · next hk => simp only [hk, if_false] at hp; exact lookupAssignable_mono h n rest hp

mutual
theorem assignable_mono : {a a' : Ty} → LooserW a a' → ∀ p, assignable p a = true → assignable p a' = true
  | _, _, .any _ => fun p _ => assignable_any_right p
  | _, _, .null => fun _ h => h
  | _, _, .number => fun _ h => h
  | _, _, .bool => fun _ h => h
  | _, _, .string => fun _ h => h
  | _, _, .arr (e := e) (e' := e') h => fun p hp => by
    have ih := assignable_mono h
    cases p <;> simp_all [assignable]
  | _, _, .obj (ps := qs) (ps' := qs') (m := m) (m' := m') hps hm => fun p hp => by
    cases p with
    | obj ps pm =>
      cases pm with
      | some mt =>
        cases hm with
        | none =>
          simp only [assignable] at hp ⊢
          exact allAssignableFrom_mono hps mt hp
        | opened =>
          simp only [assignable] at hp ⊢
          exact assignable_any_right mt
        | some hmm =>
          simp only [assignable] at hp ⊢
          exact assignable_mono hmm mt hp
      | none =>
        cases hm with
        | none =>
          simp only [assignable] at hp ⊢
          exact propsCover_mono hps ps hp
        | opened =>
          simp only [assignable] at hp ⊢
          exact propsAssignableTo_any ps
        | some hmm =>
          simp only [assignable] at hp ⊢
          exact propsAssignableTo_mono (assignable_mono hmm) ps hp
    | _ => simp_all [assignable]
termination_by structural a _ _ => a
theorem allAssignableFrom_mono : {qs qs' : List (String × Ty)} → LooserWProps qs qs' →
    ∀ mt, allAssignableFrom mt qs = true → allAssignableFrom mt qs' = true
  | _, _, .nil => fun _ h => h
  | _, _, .cons h hr => fun mt hp => by
    simp only [allAssignableFrom, Bool.and_eq_true] at hp ⊢
    exact ⟨assignable_mono h mt hp.1, allAssignableFrom_mono hr mt hp.2⟩
termination_by structural qs _ _ => qs
theorem propsCover_mono : {qs qs' : List (String × Ty)} → LooserWProps qs qs' →
    ∀ ps, propsCover ps qs = true → propsCover ps qs' = true
  | _, _, .nil => fun _ h => h
  | _, _, .cons h hr => fun ps hp => by
    simp only [propsCover, Bool.and_eq_true] at hp ⊢
    exact ⟨lookupAssignable_mono (assignable_mono h) _ ps hp.1, propsCover_mono hr ps hp.2⟩
termination_by structural qs _ _ => qs
end

theorem assignable_mono_looser {p a a' : Ty} (h : Looser a a') (hp : assignable p a = true) :
    assignable p a' = true :=
  assignable_mono (LooserW.of_looser h) p hp

end AL.Ty
