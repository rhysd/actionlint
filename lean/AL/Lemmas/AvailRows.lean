import AL.Model.Visit
import AL.Model.ParseWf
/-
  The rows of the availability table (`AL.Gen.availabilityCode`, read through `AL.Visit.availability`) that the concrete
  instances of AL.Props.C05Scope, C06Rule, C11Rule and C12Rule look at. Finding a row compares the key with every label
  before it; within ONE evaluation the kernel decodes each label of the table once, so all the rows are decided together,
  here, and the instances project what they need.
-/
namespace AL.Visit

theorem available_rows :
    ((∀ c ∈ ["github", "needs", "steps", "matrix", "inputs", "secrets"],
        (availability "jobs.<job_id>.steps.run").1.contains (AL.PW.asciiLower c) = true) ∧
      (∀ c ∈ ["steps", "matrix"],
        (availability "jobs.<job_id>.outputs.<output_id>").1.contains (AL.PW.asciiLower c) = true) ∧
      (availability "on.workflow_call.outputs.<output_id>.value").1.contains (AL.PW.asciiLower "jobs") = true ∧
      (availability "jobs.<job_id>.strategy").1.contains (AL.PW.asciiLower "vars") = true ∧
      (availability "jobs.<job_id>.steps.env").1.contains (AL.PW.asciiLower "github") = true ∧
      (availability "jobs.<job_id>.steps.with").1.contains (AL.PW.asciiLower "github") = true) ∧
    -- for AL.Props.C12Rule, whose example scopes do not fold names
    ((availability "run-name").1.contains "github" = true ∧
      (availability "jobs.<job_id>.if").1.contains "secrets" = false ∧
      (availability "jobs.<job_id>.if").1.contains "vars" = true ∧
      (availability "jobs.<job_id>.steps.run").1.contains "secrets" = true ∧
      availability "jobs.<job_id>.container.image" = availability "jobs.<job_id>.container") := by decide +kernel

end AL.Visit
