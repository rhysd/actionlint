import AL.Lemmas.C05DBase
import AL.Lemmas.ParseWfStores
import AL.Lemmas.ParseWfKeys
import AL.Props.C08Parse
/-
  AL.Props.C05Doc, the job: what `parseJob` / `parseSteps` / `parseStep` / `parseJobs` / `parse` return on nodes they
  accept without a diagnostic, in terms of what is WRITTEN (the readers of AL/Lemmas/C05DBase.lean).
-/
namespace AL.C05D
open AL.PW AL.Yaml AL.Ast AL.C03P

/-! ### a step: its `id:` -/

def runOf (s : Step) : Option Str := match s.exec with | .run e => e.run | _ => none

theorem stepKey_id_ne (cfg : Cfg) (st : StepSt) (kv : KV) (h : kv.id ≠ "id") : (stepKey cfg st kv).1.step.id = st.step.id :=
  (stepKey_frame cfg st kv).id h

theorem stepKey_id_eq (cfg : Cfg) (st : StepSt) (kv : KV) (h : kv.id = "id") :
    (stepKey cfg st kv).1.step.id = some (parseString kv.val false).1 ∧ (stepKey cfg st kv).2 = (parseString kv.val false).2 := by
  simp only [stepKey, h, and_self]

theorem parseStep_clean (cfg : Cfg) (n : Node) (h : (parseStep cfg n).2 = []) :
    (parseMapping cfg "element of \"steps\" section" n false true).2 = [] ∧
    (loop (stepKey cfg) { step := { pos := n.pos } } (parseMapping cfg "element of \"steps\" section" n false true).1).2 = [] := by
  simp only [parseStep, append_nil_iff] at h
  exact ⟨h.1.1, h.1.2⟩

/-- **the `id` of a parsed step is the `id:` scalar of the step node** (its text, quoting and position) -/
theorem parseStep_id (cfg : Cfg) (n : Node) (h : (parseStep cfg n).2 = []) :
    (parseStep cfg n).1.id = (docStepIdNode n).map newString :=
  (section_reads_str cfg _ n false (stepKey cfg) _ (fun st => st.step.id) "id" rfl (stepKey_id_ne cfg)
    (fun st kv hk hs => ⟨(stepKey_id_eq cfg st kv hk).1, (stepKey_id_eq cfg st kv hk).2 ▸ hs⟩)
    (parseStep_clean cfg n h).1 (parseStep_clean cfg n h).2).1

/-! ### a step: its `run:` -/

theorem stepKey_run_ne (cfg : Cfg) (st : StepSt) (kv : KV) (h : kv.id ≠ "run") : runOf (stepKey cfg st kv).1.step = runOf st.step :=
  ((stepKey_frame cfg st kv).run h).1

theorem stepKey_run_eq (cfg : Cfg) (st : StepSt) (kv : KV) (h : kv.id = "run") (hc : (stepKey cfg st kv).2 = []) :
    runOf (stepKey cfg st kv).1.step = some (parseString kv.val false).1 ∧ (parseString kv.val false).2 = [] :=
  ⟨((stepKey_writes cfg st kv hc).run h).1, ((stepKey_writes cfg st kv hc).run h).2.2⟩

/-- **the script of a parsed step is the `run:` scalar of the step node** -/
theorem parseStep_run (cfg : Cfg) (n : Node) (h : (parseStep cfg n).2 = []) :
    runOf (parseStep cfg n).1 = (mget n "run").map newString :=
  (section_reads_str cfg _ n false (stepKey cfg) _ (fun st => runOf st.step) "run" rfl (stepKey_run_ne cfg) (stepKey_run_eq cfg)
    (parseStep_clean cfg n h).1 (parseStep_clean cfg n h).2).1

theorem stepsOf_fst (cfg : Cfg) : ∀ (cs : List Node), (stepsOf cfg cs).1 = cs.map fun c => (parseStep cfg c).1 :=
  fun cs => by rw [stepsOf_mapR, mapR_fst]

theorem stepsOf_clean (cfg : Cfg) : ∀ (cs : List Node), (stepsOf cfg cs).2 = [] → ∀ c ∈ cs, (parseStep cfg c).2 = [] :=
  fun _ h => mapR_silent.1 (stepsOf_mapR cfg ▸ h)

/-- `parseSteps`, clean: a sequence, one step per element -/
theorem parseSteps_clean (cfg : Cfg) (n : Node) (h : (parseSteps cfg n).2 = []) :
    (parseSteps cfg n).1 = some (n.content.map fun c => (parseStep cfg c).1) ∧ ∀ c ∈ n.content, (parseStep cfg c).2 = [] := by
  simp only [parseSteps] at h ⊢
  split at h
  · rename_i hc
    have := checkSequence_clean "steps" n false h
    simp [this.2] at hc
  · rename_i hc
    simp only [hc]
    simp only [append_nil_iff] at h
    exact ⟨by simp [stepsOf_fst], stepsOf_clean cfg _ h.2⟩

/-! ### a job: `steps`, `needs` -/

/-- the state of `parseJob` after its key loop -/
def jobLoop (cfg : Cfg) (id : Str) (n : Node) : JobSt × List PErr :=
  loop (jobKey cfg) { job := { id := id, pos := id.pos } } (parseMapping cfg (jobWhat id.value) n false true).1

theorem parseJob_clean (cfg : Cfg) (id : Str) (n : Node) (h : (parseJob cfg id n).2 = []) :
    (parseMapping cfg (jobWhat id.value) n false true).2 = [] ∧ (jobLoop cfg id n).2 = [] := by
  simp only [parseJob, append_nil_iff] at h
  exact ⟨h.1.1, h.1.2⟩

theorem jobFinish_fields (id : Str) (st : JobSt) :
    (jobFinish id st).1.steps = st.job.steps ∧ (jobFinish id st).1.needs = st.job.needs ∧
    (jobFinish id st).1.strategy = st.job.strategy ∧ (jobFinish id st).1.outputs = st.job.outputs := by
  simp only [jobFinish]
  split
  · split <;> exact ⟨rfl, rfl, rfl, rfl⟩
  · exact ⟨rfl, rfl, rfl, rfl⟩

theorem parseJob_fields (cfg : Cfg) (id : Str) (n : Node) :
    (parseJob cfg id n).1.steps = (jobLoop cfg id n).1.job.steps ∧ (parseJob cfg id n).1.needs = (jobLoop cfg id n).1.job.needs ∧
    (parseJob cfg id n).1.strategy = (jobLoop cfg id n).1.job.strategy ∧
    (parseJob cfg id n).1.outputs = (jobLoop cfg id n).1.job.outputs :=
  jobFinish_fields id (jobLoop cfg id n).1

theorem jobKey_steps_ne (cfg : Cfg) (st : JobSt) (kv : KV) (h : kv.id ≠ "steps") : (jobKey cfg st kv).1.job.steps = st.job.steps :=
  (jobKey_frame cfg st kv).steps h

theorem jobKey_steps_eq (cfg : Cfg) (st : JobSt) (kv : KV) (h : kv.id = "steps") :
    (jobKey cfg st kv).1.job.steps = (parseSteps cfg kv.val).1 ∧ (jobKey cfg st kv).2 = (parseSteps cfg kv.val).2 :=
  eq_at (jobKey_steps cfg) st kv h ▸ ⟨rfl, rfl⟩

/-- the `needs:` value as `parseJob` reads it -/
def needsOf (v : Node) : R (Option (List Str)) :=
  if v.kind = .scalar then (some [(parseString v false).1], (parseString v false).2)
  else parseStringSequence "needs" v false false

theorem jobKey_needs_ne (cfg : Cfg) (st : JobSt) (kv : KV) (h : kv.id ≠ "needs") : (jobKey cfg st kv).1.job.needs = st.job.needs :=
  (jobKey_frame cfg st kv).needs h

theorem jobKey_needs_eq (cfg : Cfg) (st : JobSt) (kv : KV) (h : kv.id = "needs") :
    (jobKey cfg st kv).1.job.needs = (needsOf kv.val).1 ∧ (jobKey cfg st kv).2 = (needsOf kv.val).2 := by
  simp only [jobKey, h, needsOf]
  split <;> exact ⟨rfl, rfl⟩

/-- the nodes under `needs:` of a job node: the scalar, or the elements of the sequence -/
def docNeedsNodes (job : Node) : List Node :=
  match mget job "needs" with
  | some v => if v.kind = .scalar then [v] else v.content
  | none => []

theorem docNeeds_eq (job : Node) : docNeeds job = (docNeedsNodes job).map (·.value) := by
  simp only [docNeeds, docNeedsNodes]
  cases mget job "needs" with
  | none => rfl
  | some v => by_cases hk : v.kind = .scalar <;> simp [hk]

theorem parseStrings_clean_eq (ae : Bool) : ∀ (cs : List Node), (parseStrings ae cs).2 = [] → (parseStrings ae cs).1 = cs.map newString :=
  fun cs h => by
    rw [parseStrings_mapR] at h ⊢
    exact List.map_congr_left fun c hc => (parseString_silent c ae (mapR_silent.1 h c hc)).2.2

theorem needsOf_clean (v : Node) (h : (needsOf v).2 = []) :
    (needsOf v).1 = some ((if v.kind = .scalar then [v] else v.content).map newString) := by
  simp only [needsOf] at h ⊢
  by_cases hk : v.kind = .scalar
  · simp only [hk, if_true] at h ⊢
    simp [(parseString_clean v false h).2]
  · simp only [hk, if_false] at h ⊢
    obtain ⟨_, he, hs⟩ := parseStringSequence_clean "needs" v false false h
    rw [he, parseStrings_clean_eq false _ hs]

/-- **the steps of a parsed job are the elements of `steps:`**, each parsed without a diagnostic, **and their ids are the
`id:` scalars** -/
theorem parseJob_steps (cfg : Cfg) (id : Str) (n : Node) (h : (parseJob cfg id n).2 = []) :
    (parseJob cfg id n).1.steps.getD [] = (docSteps n).map (fun c => (parseStep cfg c).1) ∧
    ∀ c ∈ docSteps n, (parseStep cfg c).2 = [] ∧ (parseStep cfg c).1.id = (docStepIdNode c).map newString := by
  obtain ⟨hm, hr⟩ := parseJob_clean cfg id n h
  obtain ⟨hf, hok⟩ := section_reads_of_eq cfg _ n false (jobKey cfg) _ (fun st => st.job.steps) "steps"
    (fun kv => (parseSteps cfg kv.val).1) (fun kv => (parseSteps cfg kv.val).2) (jobKey_steps_ne cfg) (jobKey_steps_eq cfg) hm hr
  rw [(parseJob_fields cfg id n).1]
  unfold jobLoop
  rw [hf, docSteps, mget]
  cases hp : mpair n "steps" with
  | none => exact ⟨rfl, nofun⟩
  | some p =>
    obtain ⟨h1, h2⟩ := parseSteps_clean cfg _ (hok p hp)
    exact ⟨congrArg (·.getD []) h1, fun c hc => ⟨h2 c hc, parseStep_id cfg c (h2 c hc)⟩⟩

/-- **the `needs` of a parsed job are the scalars written under `needs:`** -/
theorem parseJob_needs (cfg : Cfg) (id : Str) (n : Node) (h : (parseJob cfg id n).2 = []) :
    (parseJob cfg id n).1.needs.getD [] = (docNeedsNodes n).map newString := by
  obtain ⟨hm, hr⟩ := parseJob_clean cfg id n h
  obtain ⟨hf, hok⟩ := section_reads_of_eq cfg _ n false (jobKey cfg) _ (fun st => st.job.needs) "needs"
    (fun kv => (needsOf kv.val).1) (fun kv => (needsOf kv.val).2) (jobKey_needs_ne cfg) (jobKey_needs_eq cfg) hm hr
  rw [(parseJob_fields cfg id n).2.1]
  unfold jobLoop
  rw [hf, docNeedsNodes, mget]
  cases hp : mpair n "needs" with
  | none => rfl
  | some p => exact congrArg (·.getD []) (needsOf_clean _ (hok p hp))

/-! ### a job: `outputs`, and whether it calls a reusable workflow -/

/-- the names declared under `outputs:` of a job node, as written -/
def docOutputs (job : Node) : List String :=
  match mget job "outputs" with
  | some v => (pairs v.content).map (·.1.value)
  | none => []

theorem jobKey_outputs_ne (cfg : Cfg) (st : JobSt) (kv : KV) (h : kv.id ≠ "outputs") : (jobKey cfg st kv).1.job.outputs = st.job.outputs :=
  (jobKey_frame cfg st kv).outputs h

theorem jobKey_outputs_eq (cfg : Cfg) (st : JobSt) (kv : KV) (h : kv.id = "outputs") :
    (jobKey cfg st kv).1.job.outputs = some (parseOutputs cfg kv.val).1 ∧ (jobKey cfg st kv).2 = (parseOutputs cfg kv.val).2 :=
  eq_at (jobKey_outputs cfg) st kv h ▸ ⟨rfl, rfl⟩

theorem parseOutputs_clean (cfg : Cfg) (n : Node) (h : (parseOutputs cfg n).2 = []) :
    (parseOutputs cfg n).1.map (·.1) = (pairs n.content).map fun p => cfg.lower p.1.value := by
  simp only [parseOutputs, append_nil_iff, parseSectionMapping] at h ⊢
  rw [mapKVs_fst, parseMapping_clean_eq cfg _ n false false h.1.1, List.map_map, List.map_map]
  exact List.map_congr_left fun p _ => by simp [kvOf_false]

/-- **the output names of a parsed job are the folded keys written under `outputs:`** -/
theorem parseJob_outputs (cfg : Cfg) (id : Str) (n : Node) (h : (parseJob cfg id n).2 = []) :
    ((parseJob cfg id n).1.outputs.getD []).map (·.1) = (docOutputs n).map cfg.lower := by
  obtain ⟨hm, hr⟩ := parseJob_clean cfg id n h
  obtain ⟨hf, hok⟩ := section_reads_of_eq cfg _ n false (jobKey cfg) _ (fun st => st.job.outputs) "outputs"
    (fun kv => some (parseOutputs cfg kv.val).1) (fun kv => (parseOutputs cfg kv.val).2) (jobKey_outputs_ne cfg)
    (jobKey_outputs_eq cfg) hm hr
  rw [(parseJob_fields cfg id n).2.2.2]
  unfold jobLoop
  rw [hf, docOutputs, mget]
  cases hp : mpair n "outputs" with
  | none => rfl
  | some p => exact (parseOutputs_clean cfg _ (hok p hp)).trans (List.map_map ..).symm

theorem jobKey_workflowCall (cfg : Cfg) (st : JobSt) (kv : KV) : (jobKey cfg st kv).1.job.workflowCall = st.job.workflowCall :=
  (jobKey_frame cfg st kv).workflowCall

theorem jobKey_uses_ne (cfg : Cfg) (st : JobSt) (kv : KV) (h : kv.id ≠ "uses") : (jobKey cfg st kv).1.call.uses = st.call.uses :=
  (jobKey_frame cfg st kv).uses h

theorem jobKey_uses_eq (cfg : Cfg) (st : JobSt) (kv : KV) (h : kv.id = "uses") :
    (jobKey cfg st kv).1.call.uses = some (parseString kv.val false).1 :=
  eq_at (jobKey_uses cfg) st kv h ▸ rfl

/-- **a job node without a `uses:` key is not a reusable-workflow call** -/
theorem parseJob_no_call (cfg : Cfg) (id : Str) (n : Node) (h : (parseJob cfg id n).2 = []) (hu : mget n "uses" = none) :
    (parseJob cfg id n).1.workflowCall = none := by
  obtain ⟨hm, _⟩ := parseJob_clean cfg id n h
  have hf := sect_field cfg (jobWhat id.value) n false (jobKey cfg) { job := { id := id, pos := id.pos } }
    (fun st => st.call.uses) "uses" (fun kv => some (parseString kv.val false).1) (jobKey_uses_ne cfg) (jobKey_uses_eq cfg) hm
  rw [show mpair n "uses" = none from Option.map_eq_none_iff.1 hu] at hf
  show (jobFinish id (jobLoop cfg id n).1).1.workflowCall = none
  simp only [jobFinish, show (jobLoop cfg id n).1.call.uses = none from hf, Option.isSome_none, Bool.false_eq_true, if_false]
  exact loop_inv (jobKey cfg) (fun st => st.job.workflowCall = none) (fun st kv hs => (jobKey_workflowCall cfg st kv).trans hs) _ _ rfl

/-! ### `jobs:` and the workflow -/

/-- the entry of `Workflow.Jobs` built from a pair of `jobs:` -/
def jobOf (cfg : Cfg) (p : Node × Node) : String × Job := (cfg.lower p.1.value, (parseJob cfg (newString p.1) p.2).1)

/-- `parseJobs`, clean: one job per pair of the node, keyed by the folded key, each parsed without a diagnostic -/
theorem parseJobs_clean (cfg : Cfg) (n : Node) (h : (parseJobs cfg n).2 = []) :
    (parseJobs cfg n).1 = (pairs n.content).map (jobOf cfg) ∧
    ∀ p ∈ pairs n.content, (parseJob cfg (newString p.1) p.2).2 = [] := by
  simp only [parseJobs, append_nil_iff, parseSectionMapping] at h ⊢
  have he := parseMapping_clean_eq cfg _ n false false h.1
  refine ⟨?_, ?_⟩
  · rw [mapKVs_fst, he, List.map_map]
    apply List.map_congr_left
    intro p _
    simp [jobOf, kvOf_false]
  · intro p hp
    have := (mapKVs_clean _ _ h.2 (kvOf cfg false p) (by rw [he]; exact List.mem_map.2 ⟨p, hp, rfl⟩)).1
    simpa [kvOf_false] using this

theorem workflowKey_jobs_ne (cfg : Cfg) (w : Workflow) (kv : KV) (h : kv.id ≠ "jobs") : (workflowKey cfg w kv).1.jobs = w.jobs :=
  (workflowKey_frame cfg w kv).jobs h

theorem workflowKey_jobs_eq (cfg : Cfg) (w : Workflow) (kv : KV) (h : kv.id = "jobs") :
    (workflowKey cfg w kv).1.jobs = some (parseJobs cfg kv.val).1 ∧ (workflowKey cfg w kv).2 = (parseJobs cfg kv.val).2 :=
  eq_at (workflowKey_jobs cfg) w kv h ▸ ⟨rfl, rfl⟩

/-- what `parse` is on a document it accepts: there is a root mapping, `parseMapping` and the key loop were clean -/
theorem parse_clean (cfg : Cfg) (doc : Node) (h : (parse cfg doc).2 = []) :
    ∃ root, docRoot doc = some root ∧ (parseMapping cfg "workflow" root false true).2 = [] ∧
      (loop (workflowKey cfg) {} (parseMapping cfg "workflow" root false true).1).2 = [] ∧
      (parse cfg doc).1 = (loop (workflowKey cfg) {} (parseMapping cfg "workflow" root false true).1).1 ∧
      (parse cfg doc).1.on.isNone = false ∧ (parse cfg doc).1.jobs.isNone = false := by
  unfold parse at h ⊢
  simp only [fixDocPos_content] at h ⊢
  unfold docRoot
  cases hc : doc.content with
  | nil => rw [hc] at h; simp at h
  | cons root rest =>
    rw [hc] at h
    simp only [append_nil_iff] at h
    refine ⟨root, rfl, h.1.1.1, h.1.1.2, rfl, ?_, ?_⟩
    · have := h.1.2
      revert this
      cases (loop (workflowKey cfg) {} (parseMapping cfg "workflow" root false true).1).1.on <;> simp
    · have := h.2
      revert this
      cases (loop (workflowKey cfg) {} (parseMapping cfg "workflow" root false true).1).1.jobs <;> simp

/-- **`jobs:` of an accepted document**: the root is a mapping `parseMapping` accepted, it has a node under `jobs:`,
`Workflow.Jobs` is what `parseJobs` makes of that node, and `parseJobs` accepted it -/
theorem _root_.AL.PW.parse_jobs_reads (cfg : Cfg) (doc : Node) (h : (parse cfg doc).2 = []) :
    ∃ root x, docRoot doc = some root ∧ (parseMapping cfg "workflow" root false true).2 = [] ∧ mget root "jobs" = some x ∧
      (parse cfg doc).1.jobs = some (parseJobs cfg x).1 ∧ (parseJobs cfg x).2 = [] := by
  obtain ⟨root, hroot, hm, hr, he, _, hjs⟩ := parse_clean cfg doc h
  obtain ⟨hf, hok⟩ := section_reads_of_eq cfg "workflow" root false (workflowKey cfg) {} (fun w => w.jobs) "jobs"
    (fun kv => some (parseJobs cfg kv.val).1) (fun kv => (parseJobs cfg kv.val).2) (workflowKey_jobs_ne cfg)
    (workflowKey_jobs_eq cfg) hm hr
  rw [he, hf] at hjs ⊢
  cases hp : mpair root "jobs" with
  | none => rw [hp] at hjs; cases hjs
  | some p => exact ⟨root, p.2, hroot, hm, by rw [mget, hp]; rfl, rfl, hok p hp⟩

/-- **`Workflow.Jobs` of an accepted document: one job per pair of `jobs:`**, in order, keyed by the folded key, each
parsed (by `parseJob`, from the key scalar and the value node) without a diagnostic -/
theorem parse_jobs_written (cfg : Cfg) (doc : Node) (h : (parse cfg doc).2 = []) :
    (parse cfg doc).1.jobs = some ((docJobs doc).map (jobOf cfg)) ∧
    ∀ p ∈ docJobs doc, (parseJob cfg (newString p.1) p.2).2 = [] := by
  obtain ⟨root, x, hroot, _, hx, hj, hc⟩ := parse_jobs_reads cfg doc h
  obtain ⟨h1, h2⟩ := parseJobs_clean cfg x hc
  simp only [docJobs, hroot, Option.bind_some, hx]
  exact ⟨hj.trans (congrArg some h1), h2⟩

end AL.C05D
