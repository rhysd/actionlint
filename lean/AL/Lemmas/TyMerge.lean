import AL.Lemmas.TyLooser
import AL.Lemmas.TyWf
/-
  C06 (c): `merge` is monotone for the deref-aware relation `LooserD` (element looser, `deref` flag may
  switch on), provided the second argument is well formed (sorted property lists). Proved by mutual structural recursion on the second argument,
  which is the argument `merge`/`mergeProps` recurse on.
-/
namespace AL.Ty
open AL AL.Spec

theorem isAny_iff {t : Ty} : t.isAny = true ↔ t = .any := by
  cases t <;> simp [isAny]

theorem isAny_false_iff {t : Ty} : t.isAny = false ↔ t ≠ .any := by
  cases t <;> simp [isAny]

theorem LooserDMapped.some_any : (m : Option Ty) → LooserDMapped m (Option.some Ty.any)
  | Option.none => .opened
  | Option.some t => .some (.any t)

theorem LooserDMapped.isSomeAny {m m' : Option Ty} (h : LooserDMapped m m') (hm : isSomeAny m = true) :
    isSomeAny m' = true := by
  rw [isSomeAny_iff] at hm ⊢
  subst hm
  cases h with
  | some h => rw [h.any_left]

theorem LooserDProps.setProp {k : String} {v v' : Ty} (hv : LooserD v v') :
    {ps ps' : List (String × Ty)} → LooserDProps ps ps' → LooserDProps (setProp k v ps) (setProp k v' ps')
  | _, _, .nil => .cons hv .nil
  | _, _, .cons (k := k2) (t := t) (t' := t') (ps := ps) (ps' := ps') h hr => by
    simp only [Ty.setProp]
    split
    · exact .cons hv hr
    · split
      · exact .cons hv (.cons h hr)
      · exact .cons h (LooserDProps.setProp hv hr)
termination_by structural ps _ _ => ps

theorem setProp_append_of_all_lt {n : String} {r : Ty} :
    (acc : List (String × Ty)) → (∀ p ∈ acc, p.1 < n) → setProp n r acc = acc ++ [(n, r)]
  | [], _ => rfl
  | (k, v) :: rest, h => by
    have hk : k < n := h (k, v) (by simp)
    simp only [setProp, String.ne_of_lt hk, String.lt_asymm hk, if_false, List.cons_append]
    rw [setProp_append_of_all_lt rest (fun p hp => h p (by simp [hp]))]

/-- merging a key-sorted list into an accumulator with smaller keys appends it -/
theorem mergeProps_append : (qs : List (String × Ty)) → ∀ acc mapped, sortedKeys qs = true →
    (∀ p ∈ acc, ∀ q ∈ qs, p.1 < q.1) → ∃ mp, mergeProps acc mapped qs = .obj (acc ++ qs) mp
  | [], acc, mapped, _, _ => ⟨mapped, by simp [mergeProps_nil]⟩
  | (n, r) :: rest, acc, mapped, hs, hlt => by
    simp only [sortedKeys, Bool.and_eq_true] at hs
    have hacc : ∀ p ∈ acc, p.1 < n := fun p hp => hlt p hp (n, r) (by simp)
    rw [mergeProps_cons, lookup_eq_none_of_forall_ne fun p hp => String.ne_of_lt (hacc p hp),
      setProp_append_of_all_lt acc hacc]
    have hn := (keysGt_iff rest).mp hs.1
    obtain ⟨mp, h⟩ := mergeProps_append rest (acc ++ [(n, r)]) (mergeMapped mapped r) hs.2 (by
      intro p hp q hq
      rcases List.mem_append.mp hp with hp | hp
      · exact hlt p hp q (by simp [hq])
      · simp only [List.mem_singleton] at hp; subst hp; exact hn q hq)
    exact ⟨mp, by simp [h]⟩

theorem merge_mono_scalar_right {r : Ty} (h1 : r.isObj = false) (h2 : r.isArr = false) {l l' : Ty}
    (hl : LooserD l l') : LooserD (merge l r) (merge l' r) := by
  cases hl with
  | any => rw [merge_any_left]; exact .any _
  | arr _ _ => rw [merge_arr_left _ _ h2, merge_arr_left _ _ h2]; exact .any _
  | obj _ _ => rw [merge_obj_left _ _ h1, merge_obj_left _ _ h1]; exact .any _
  | _ => exact LooserD.refl _

theorem LooserD.of_eq_any {x y : Ty} (h : y = .any) : LooserD x y := h ▸ .any x

theorem merge_obj_right {l : Ty} (h : l.isObj = false) (qs : List (String × Ty)) (m : Option Ty) :
    merge l (.obj qs m) = .any := by
  cases l <;> first | rfl | cases h

theorem merge_arr_right {l : Ty} (h : l.isArr = false) (e : Ty) (d : Bool) : merge l (.arr e d) = .any := by
  cases l <;> first | rfl | cases h

/-- a second argument that is neither object nor array loosens to itself or to `any` -/
theorem merge_mono_scalar {r r' : Ty} (h1 : r.isObj = false) (h2 : r.isArr = false) {l l' : Ty}
    (hl : LooserD l l') (hr : LooserD r r') : LooserD (merge l r) (merge l' r') := by
  cases hr with
  | any => exact .of_eq_any (merge_any_right _)
  | arr _ _ => cases h2
  | obj _ _ => cases h1
  | _ => exact merge_mono_scalar_right rfl rfl hl

/-- the object/object case of `merge_mono`, with the recursive facts as hypotheses -/
theorem merge_obj_obj_mono {ps ps' qs qs' : List (String × Ty)} {m m2 m' m2' : Option Ty}
    (hsorted : sortedKeys qs = true)
    (hps : LooserDProps ps ps') (hm : LooserDMapped m m2) (hqs : LooserDProps qs qs') (hm' : LooserDMapped m' m2')
    (ihProps : ∀ props props' mapped mapped', LooserDProps props props' → LooserDMapped mapped mapped' →
      LooserD (mergeProps props mapped qs) (mergeProps props' mapped' qs'))
    (ihMapped : ∀ b, m' = some b → ∀ a a' b', LooserD a a' → LooserD b b' → LooserD (merge a b) (merge a' b')) :
    LooserD (merge (.obj ps m) (.obj qs m')) (merge (.obj ps' m2) (.obj qs' m2')) := by
  rw [merge_obj_obj, merge_obj_obj]
  have e1 : ps'.isEmpty = ps.isEmpty := hps.isEmpty
  have e2 : qs'.isEmpty = qs.isEmpty := hqs.isEmpty
  have hmap0 : LooserDMapped (mapped0 m m') (mapped0 m2 m2') := by
    cases hm with
    | none => simpa [mapped0] using hm'
    | opened =>
      cases hm' with
      | none => exact .opened
      | opened => simp only [mapped0, merge_any_left]; exact .opened
      | some h => simp only [mapped0, merge_any_left]; exact .some (.any _)
    | some h =>
      cases hm' with
      | none => exact .some h
      | opened => simp only [mapped0, merge_any_right]; exact .some (.any _)
      | some hb => exact .some (ihMapped _ rfl _ _ _ h hb)
  by_cases cA : (ps.isEmpty && isSomeAny m') = true
  · have cA' : (ps'.isEmpty && isSomeAny m2') = true := by
      simp only [Bool.and_eq_true] at cA ⊢
      exact ⟨e1 ▸ cA.1, hm'.isSomeAny cA.2⟩
    rw [if_pos cA, if_pos cA']
    exact .obj hqs hm'
  · by_cases cA' : (ps'.isEmpty && isSomeAny m2') = true
    · rw [if_neg cA, if_pos cA']
      simp only [Bool.and_eq_true] at cA'
      have hm2' : m2' = some .any := isSomeAny_iff.mp cA'.2
      have hps0 : ps = [] := by rw [e1] at cA'; simpa using cA'.1
      subst hm2' hps0
      by_cases cB : (qs.isEmpty && isSomeAny m) = true
      · rw [if_pos cB]
        simp only [Bool.and_eq_true] at cB
        have hq0 : qs = [] := by simpa using cB.1
        subst hq0
        cases hqs
        exact .obj .nil (LooserDMapped.some_any _)
      · rw [if_neg cB]
        obtain ⟨mp, h⟩ := mergeProps_append qs [] (mapped0 m m') hsorted (by simp)
        rw [h]
        exact .obj (by simpa using hqs) (LooserDMapped.some_any _)
    · rw [if_neg cA, if_neg cA']
      by_cases cB : (qs.isEmpty && isSomeAny m) = true
      · have cB' : (qs'.isEmpty && isSomeAny m2) = true := by
          simp only [Bool.and_eq_true] at cB ⊢
          exact ⟨e2 ▸ cB.1, hm.isSomeAny cB.2⟩
        rw [if_pos cB, if_pos cB']
        exact .obj hps hm
      · by_cases cB' : (qs'.isEmpty && isSomeAny m2) = true
        · rw [if_neg cB, if_pos cB']
          simp only [Bool.and_eq_true] at cB'
          have hm2 : m2 = some .any := isSomeAny_iff.mp cB'.2
          have hq0 : qs = [] := by rw [e2] at cB'; simpa using cB'.1
          subst hm2 hq0
          rw [mergeProps_nil]
          exact .obj hps (LooserDMapped.some_any _)
        · rw [if_neg cB, if_neg cB']
          exact ihProps _ _ _ _ hps hmap0

/-- the array/array case of `merge_mono`, with the recursive fact as hypothesis -/
theorem merge_arr_arr_mono {e f e' f' : Ty} {d d2 d' d2' : Bool}
    (he : LooserD e f) (hc : d = true → d2 = true)
    (he' : LooserD e' f') (hc' : d' = true → d2' = true)
    (ih : LooserD (merge e e') (merge f f')) :
    LooserD (merge (.arr e d) (.arr e' d')) (merge (.arr f d2) (.arr f' d2')) := by
  rw [merge_arr_arr, merge_arr_arr]
  have hor : (d || d') = true → (d2 || d2') = true := by
    intro h
    rcases Bool.or_eq_true_iff.mp h with h | h
    · simp [hc h]
    · simp [hc' h]
  -- whatever the tighter merge is, it is below `array<any>` with the or-ed flag
  have toAny : LooserD (if e.isAny then .arr e (d || d') else if e'.isAny then .arr e' (d || d')
      else .arr (merge e e') false) (.arr .any (d2 || d2')) := by
    split
    · exact .arr (.any _) hor
    · split
      · exact .arr (.any _) hor
      · exact .arr (.any _) (fun h => nomatch h)
  by_cases hf : f.isAny = true
  · rw [if_pos hf, isAny_iff.mp hf]; exact toAny
  · by_cases hf' : f'.isAny = true
    · rw [if_neg hf, if_pos hf', isAny_iff.mp hf']; exact toAny
    · -- neither looser element is `any`, so neither tighter one is: both sides merge the elements
      have h1 : ¬ e.isAny = true := fun h => hf (by rw [isAny_iff.mp h] at he; rw [he.any_left]; rfl)
      have h2 : ¬ e'.isAny = true := fun h => hf' (by rw [isAny_iff.mp h] at he'; rw [he'.any_left]; rfl)
      rw [if_neg hf, if_neg hf', if_neg h1, if_neg h2]
      exact .arr ih id

mutual
theorem merge_mono : (r : Ty) → ∀ l l' r', wf r = true → LooserD l l' → LooserD r r' →
    LooserD (merge l r) (merge l' r')
  | .any, _, _, _, _, hl, hr | .null, _, _, _, _, hl, hr | .number, _, _, _, _, hl, hr
  | .bool, _, _, _, _, hl, hr | .string, _, _, _, _, hl, hr => merge_mono_scalar rfl rfl hl hr
  | .arr e' d', _, _, _, hw, hl, hr => by
    cases hr with
    | any => exact .of_eq_any (merge_any_right _)
    | arr he' hc' =>
      cases hl with
      | arr he hc => exact merge_arr_arr_mono he hc he' hc' (merge_mono e' _ _ _ hw he he')
      | _ => exact .of_eq_any (merge_arr_right rfl _ _)
  | .obj qs none, _, _, _, hw, hl, hr => by
    cases hr with
    | any => exact .of_eq_any (merge_any_right _)
    | obj hqs hm' =>
      cases hl with
      | obj hps hm =>
        rw [wf_obj] at hw
        simp only [Bool.and_eq_true] at hw
        exact merge_obj_obj_mono hw.1.1 hps hm hqs hm'
          (fun props props' mapped mapped' h1 h2 => mergeProps_mono qs props props' mapped mapped' _ hw.1.2 h1 h2 hqs)
          (fun b hb => nomatch hb)
      | _ => exact .of_eq_any (merge_obj_right rfl _ _)
  | .obj qs (some b), _, _, _, hw, hl, hr => by
    cases hr with
    | any => exact .of_eq_any (merge_any_right _)
    | obj hqs hm' =>
      cases hl with
      | obj hps hm =>
        rw [wf_obj] at hw
        simp only [Bool.and_eq_true] at hw
        exact merge_obj_obj_mono hw.1.1 hps hm hqs hm'
          (fun props props' mapped mapped' h1 h2 => mergeProps_mono qs props props' mapped mapped' _ hw.1.2 h1 h2 hqs)
          (fun _ hb a a' b' ha hbb => by cases hb; exact merge_mono b a a' b' hw.2 ha hbb)
      | _ => exact .of_eq_any (merge_obj_right rfl _ _)
termination_by structural r => r
theorem mergeProps_mono : (qs : List (String × Ty)) → ∀ props props' mapped mapped' qs', wfProps qs = true →
    LooserDProps props props' → LooserDMapped mapped mapped' → LooserDProps qs qs' →
    LooserD (mergeProps props mapped qs) (mergeProps props' mapped' qs')
  | [], props, props', mapped, mapped', qs', _, hp, hm, hq => by
    cases hq
    rw [mergeProps_nil, mergeProps_nil]
    exact .obj hp hm
  | (n, r) :: rest, props, props', mapped, mapped', qs', hw, hp, hm, hq => by
    simp only [wfProps, Bool.and_eq_true] at hw
    cases hq with
    | cons hr hrest =>
      rw [mergeProps_cons, mergeProps_cons]
      rcases hp.lookup (k := n) with ⟨h1, h2⟩ | ⟨t, t', h1, h2, ht⟩
      · rw [h1, h2]
        refine mergeProps_mono rest _ _ _ _ _ hw.2 (hp.setProp hr) ?_ hrest
        cases hm with
        | none => exact .none
        | opened => simp only [mergeMapped, merge_any_left]; exact .opened
        | some h => exact .some (merge_mono r _ _ _ hw.1 h hr)
      · rw [h1, h2]
        exact mergeProps_mono rest _ _ _ _ _ hw.2 (hp.setProp (merge_mono r _ _ _ hw.1 ht hr)) hm hrest
termination_by structural qs => qs
end

end AL.Ty
