import AL.Lemmas.NeedsTop
import Batteries.Data.List.Perm
/-
  `collectCycle`: from the state in which a back edge was found to the bindings `edges` that describe
  the cycle (the segment of the DFS stack between the two ends of the back edge).
-/
namespace AL.Needs
open AL.Spec

/-! ### The cycle segment of the stack -/

/-- `cs = [b, …, a]` is the part of the DFS stack from the back edge's target to its source, in edge
direction. -/
structure CycleSeg (g : Graph) (st : List Status) (a b : Nat) (cs : List Nat) : Prop where
  head : cs.head? = some b
  last : cs.getLast? = some a
  nodup : cs.Nodup
  act : ∀ x ∈ cs, st[x]? = some Status.active
  chain : List.IsChain (Link g st) cs
  close : Link g st a b

theorem Found.seg {g : Graph} {st : List Status} {a b : Nat} (h : Found g st a b) :
    ∃ cs, CycleSeg g st a b cs := by
  obtain ⟨stack', hs, hb, hl⟩ := h.ex
  obtain ⟨l1, l2, heq⟩ := List.append_of_mem hb
  have hsl : (l1 ++ [b]).Sublist (a :: stack') :=
    heq ▸ List.Sublist.append_left (List.Sublist.cons_cons _ (List.nil_sublist _)) _
  have hch := hs.chain
  rw [heq, List.isChain_split] at hch
  refine ⟨(l1 ++ [b]).reverse, by simp, ?_, (List.reverse_perm _).nodup_iff.2 (hsl.nodup hs.nodup),
    fun x hx => (hs.act x).2 (hsl.subset (List.mem_reverse.1 hx)), List.isChain_reverse.2 hch.1, hl⟩
  rw [List.getLast?_reverse]
  cases l1 with
  | nil => simp at heq ⊢; exact heq.1.symm
  | cons c l1 => simp at heq ⊢; exact heq.1.symm

theorem CycleSeg.lt {g : Graph} {st : List Status} {a b : Nat} {cs : List Nat} (h : CycleSeg g st a b cs)
    (hlen : st.length = g.length) : ∀ x ∈ cs, x < g.length := by
  intro x hx
  exact hlen ▸ lt_of_getElem? (h.act x hx)

theorem length_le_of_nodup_lt {l : List Nat} {n : Nat} (hnd : l.Nodup) (hlt : ∀ x ∈ l, x < n) : l.length ≤ n := by
  have : l ⊆ List.range n := fun x hx => List.mem_range.2 (hlt x hx)
  have := (List.subperm_of_subset hnd this).length_le
  simpa using this

/-! ### Association lists -/

def Edges.keys (e : Edges) : List Nat := e.map (·.1)

theorem Edges.filter_of_not_mem {e : Edges} {k : Nat} (h : k ∉ e.keys) : e.filter (·.1 ≠ k) = e := by
  rw [List.filter_eq_self]
  intro p hp
  have : p.1 ≠ k := by
    rintro rfl
    exact h (List.mem_map.2 ⟨p, hp, rfl⟩)
  simpa using this

theorem Edges.put_of_not_mem {e : Edges} {k v : Nat} (h : k ∉ e.keys) : e.put k v = (k, v) :: e := by
  rw [Edges.put, Edges.filter_of_not_mem h]

theorem Edges.get?_isSome {e : Edges} {k : Nat} : (e.get? k).isSome = true ↔ k ∈ e.keys := by
  simp only [Edges.get?, Option.isSome_map, List.find?_isSome, Edges.keys, List.mem_map]
  constructor
  · rintro ⟨p, hp, hk⟩; exact ⟨p, hp, by simpa using hk⟩
  · rintro ⟨p, hp, hk⟩; exact ⟨p, hp, by simpa using hk⟩

theorem Edges.get?_of_mem {e : Edges} (hnd : e.keys.Nodup) {k v : Nat} (h : (k, v) ∈ e) : e.get? k = some v := by
  induction e with
  | nil => simp at h
  | cons p e ih =>
    simp only [Edges.keys, List.map_cons, List.nodup_cons] at hnd
    simp only [List.mem_cons] at h
    rcases h with rfl | h
    · simp [Edges.get?]
    · have hne : p.1 ≠ k := by
        rintro rfl
        exact hnd.1 (List.mem_map.2 ⟨(p.1, v), h, rfl⟩)
      have := ih hnd.2 h
      simp only [Edges.get?] at this ⊢
      rw [List.find?_cons_of_neg (by simpa using hne)]
      exact this

theorem Edges.mem_of_get? {e : Edges} {k v : Nat} (h : e.get? k = some v) : (k, v) ∈ e := by
  simp only [Edges.get?, Option.map_eq_some_iff] at h
  obtain ⟨p, hp, rfl⟩ := h
  have h1 := List.mem_of_find?_eq_some hp
  have h2 := List.find?_some hp
  simp at h2
  subst h2
  exact h1

/-! ### `collectList` -/

theorem collectList_skip (g : Graph) (st : List Status) (fuel src : Nat) (pre ds : List Nat) (edges : Edges)
    (h : ∀ w ∈ pre, st[w]? ≠ some Status.active) :
    collectList g st fuel src (pre ++ ds) edges = collectList g st fuel src ds edges := by
  induction pre with
  | nil => rfl
  | cons w pre ih =>
    rw [List.cons_append, collectList.eq_2]
    simp only [h w (by simp), ne_eq, not_false_eq_true, if_true]
    exact ih fun x hx => h x (by simp [hx])

theorem collectList_hit (g : Graph) {st : List Status} (fuel src : Nat) {dest : Nat} (ds : List Nat)
    {edges : Edges} (ha : st[dest]? = some Status.active)
    (hk : ((edges.put src dest).get? dest).isSome = true) :
    collectList g st fuel src (dest :: ds) edges = (true, edges.put src dest) := by
  rw [collectList.eq_2]
  simp [ha, hk]

theorem collectList_descend (g : Graph) {st : List Status} (fuel src : Nat) {dest : Nat} (ds : List Nat)
    {edges e2 : Edges} (ha : st[dest]? = some Status.active)
    (hk : ((edges.put src dest).get? dest).isSome = false)
    (hrec : collectList g st fuel dest (g.succ dest) (edges.put src dest) = (true, e2)) :
    collectList g st (fuel + 1) src (dest :: ds) edges = (true, e2) := by
  rw [collectList.eq_2]
  simp [ha, hk, hrec]

/-- The edges of the path `l`, last edge first (the order in which `collectCycle` inserts them). -/
def pairsRev : List Nat → Edges
  | x :: y :: r => pairsRev (y :: r) ++ [(x, y)]
  | _ => []

theorem Link.notActive {g : Graph} {st : List Status} {x y : Nat} (h : Link g st x y) :
    ∃ pre post, g.succ x = pre ++ y :: post ∧ ∀ w ∈ pre, st[w]? ≠ some Status.active := by
  obtain ⟨post, pre, he, hf⟩ := h
  exact ⟨pre, post, he, fun w hw => by simp [hf w hw]⟩

theorem collectList_chain (g : Graph) (st : List Status) (a : Nat) :
    ∀ (remaining : List Nat) (cur : Nat) (edges : Edges) (fuel : Nat), remaining ≠ [] →
      List.IsChain (Link g st) (cur :: remaining) →
      (∀ x ∈ cur :: remaining, st[x]? = some Status.active) →
      (cur :: remaining).Nodup →
      (∀ x ∈ (cur :: remaining).dropLast, x ∉ edges.keys) →
      (cur :: remaining).getLast? = some a → a ∈ edges.keys →
      remaining.length ≤ fuel + 1 →
      collectList g st fuel cur (g.succ cur) edges = (true, pairsRev (cur :: remaining) ++ edges) := by
  intro remaining
  induction remaining with
  | nil => intro _ _ _ h; exact absurd rfl h
  | cons y r ih =>
    intro cur edges fuel _ hch hact hnd hkeys hlast ha hfuel
    rw [List.isChain_cons_cons] at hch
    obtain ⟨pre, post, hsucc, hpre⟩ := hch.1.notActive
    rw [hsucc, collectList_skip g st fuel cur pre _ edges hpre]
    have hcur : cur ∉ edges.keys := hkeys cur (by cases r <;> simp)
    have hy : st[y]? = some Status.active := hact y (by simp)
    cases r with
    | nil =>
      simp only [List.getLast?_cons_cons, List.getLast?_singleton, Option.some.injEq] at hlast
      subst hlast
      rw [collectList_hit g fuel cur post hy]
      · simp [pairsRev, Edges.put_of_not_mem hcur]
      · rw [Edges.put_of_not_mem hcur, Edges.get?_isSome]
        simp [Edges.keys] at ha ⊢
        exact Or.inr ha
    | cons z r =>
      have hne : y ≠ cur := by
        rintro rfl
        simp at hnd
      have hyk : y ∉ edges.keys := hkeys y (by simp)
      cases fuel with
      | zero => simp at hfuel
      | succ f =>
        have hrec := ih y ((cur, y) :: edges) f (by simp) hch.2 (fun x hx => hact x (by simp [hx]))
          (List.nodup_cons.1 hnd).2 ?_ (by simpa [List.getLast?_cons_cons] using hlast)
          (by simp [Edges.keys] at ha ⊢; exact Or.inr ha) (by simpa using hfuel)
        · rw [collectList_descend g f cur post hy ?_ (by rw [Edges.put_of_not_mem hcur]; exact hrec)]
          · simp [pairsRev]
          · rw [Edges.put_of_not_mem hcur]
            rw [Bool.eq_false_iff]
            intro hsome
            rw [Edges.get?_isSome] at hsome
            simp only [Edges.keys, List.map_cons, List.mem_cons] at hsome
            rcases hsome with h | h
            · exact hne h
            · exact hyk h
        · intro x hx
          have hx' : x ∈ (cur :: y :: z :: r).dropLast := by
            simp only [List.dropLast_cons_cons, List.mem_cons] at hx ⊢
            exact Or.inr hx
          have hxne : x ≠ cur := by
            rintro rfl
            have := List.dropLast_subset _ hx
            exact (List.nodup_cons.1 hnd).1 this
          simp only [Edges.keys, List.map_cons, List.mem_cons, not_or]
          exact ⟨hxne, hkeys x hx'⟩

theorem collectCycle_seg {g : Graph} {st : List Status} {a b : Nat} {cs : List Nat}
    (hlen : st.length = g.length) (h : CycleSeg g st a b cs) :
    collectCycle g st b [(a, b)] = (true, pairsRev cs ++ [(a, b)]) := by
  unfold collectCycle
  cases cs with
  | nil => have := h.head; simp at this
  | cons c r =>
    have hc : c = b := by have := h.head; simpa using this
    subst hc
    cases r with
    | nil =>
      have ha : c = a := by have := h.last; simpa using this
      subst ha
      obtain ⟨pre, post, hsucc, hpre⟩ := h.close.notActive
      rw [hsucc, collectList_skip g st _ c pre _ _ hpre]
      rw [collectList_hit g _ c post (h.act c (by simp))]
      · simp [pairsRev, Edges.put]
      · simp [Edges.put, Edges.get?]
    | cons y r =>
      have hlast := h.last
      refine collectList_chain g st a (y :: r) c [(a, c)] g.length (by simp) h.chain h.act h.nodup ?_ hlast
        (by simp [Edges.keys]) ?_
      · intro x hx
        simp only [Edges.keys, List.map_cons, List.map_nil, List.mem_singleton]
        rintro rfl
        have hd := List.dropLast_append_getLast? x hlast
        have hnd := h.nodup
        rw [← hd, List.nodup_append] at hnd
        exact hnd.2.2 x hx x (by simp) rfl
      · have := length_le_of_nodup_lt h.nodup (h.lt hlen)
        simp at this ⊢
        omega

end AL.Needs
