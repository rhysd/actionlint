import AL.Model.Lint
/-
  C15 lemmas, part 2: lexical paths.  `cleanComps` pushes proper components and pops on `..`;
  `rel` in closed form; `join base (rel base targ) = targ` for clean absolute paths; the result of
  `pathFromProjectRoot ∘ displayPath` is `rel root (absOf cwd p)`.
-/
namespace AL.Lint

/-- a proper path component: not empty, not `.`, not `..` -/
def Good (c : String) : Prop := c ≠ "" ∧ c ≠ "." ∧ c ≠ ".."

theorem cleanComps_nil (abs : Bool) (acc : List String) : cleanComps abs [] acc = acc.reverse := by
  simp [cleanComps]

theorem cleanComps_good_cons {abs : Bool} {c : String} (hc : Good c) (rest acc : List String) :
    cleanComps abs (c :: rest) acc = cleanComps abs rest (c :: acc) := by
  obtain ⟨h1, h2, h3⟩ := hc
  simp [cleanComps, h1, h2, h3]

/-- proper components are pushed -/
theorem cleanComps_good_append {abs : Bool} (l rest acc : List String) (hl : ∀ c ∈ l, Good c) :
    cleanComps abs (l ++ rest) acc = cleanComps abs rest (l.reverse ++ acc) := by
  induction l generalizing acc with
  | nil => simp
  | cons c cs ih =>
    rw [List.cons_append, cleanComps_good_cons (hl c (by simp)), ih _ (fun d hd => hl d (by simp [hd]))]
    simp

theorem cleanComps_dotdot_cons {abs : Bool} {top : String} (ht : top ≠ "..") (rest below : List String) :
    cleanComps abs (".." :: rest) (top :: below) = cleanComps abs rest below := by
  rw [cleanComps]; simp [ht]

/-- `k` times `..` pops `k` proper components -/
theorem cleanComps_dotdots {abs : Bool} (k : Nat) (rest acc : List String) (hk : k ≤ acc.length)
    (hacc : ∀ c ∈ acc, c ≠ "..") :
    cleanComps abs (List.replicate k ".." ++ rest) acc = cleanComps abs rest (acc.drop k) := by
  induction k generalizing acc with
  | zero => simp
  | succ k ih =>
    cases acc with
    | nil => simp at hk
    | cons top below =>
      rw [List.replicate_succ, List.cons_append, cleanComps_dotdot_cons (hacc top (by simp))]
      rw [ih below (by simpa using hk) (fun c hc => hacc c (by simp [hc]))]
      simp

/-- the result of cleaning an absolute path has proper components only -/
theorem cleanComps_abs_good (l acc : List String) (hacc : ∀ c ∈ acc, Good c) :
    ∀ c ∈ cleanComps true l acc, Good c := by
  fun_induction cleanComps true l acc with
  | case1 acc => simpa using hacc
  | case2 c rest acc h ih => exact ih hacc
  | case3 rest _ _ ih => exact ih hacc
  | case4 rest h => simp at h
  | case5 rest below _ ih => exact absurd rfl (hacc ".." (by simp)).2.2
  | case6 rest top below _ _ ih => exact ih (fun d hd => hacc d (by simp [hd]))
  | case7 c rest acc h1 h2 ih =>
    apply ih
    intro d hd
    rcases List.mem_cons.1 hd with rfl | hd
    · simp only [Bool.or_eq_true, decide_eq_true_eq, not_or] at h1
      exact ⟨h1.1, h1.2, h2⟩
    · exact hacc d hd

theorem commonPrefixLen_le_left (a b : List String) : commonPrefixLen a b ≤ a.length := by
  fun_induction commonPrefixLen a b <;> simp <;> omega

theorem commonPrefixLen_le_right (a b : List String) : commonPrefixLen a b ≤ b.length := by
  fun_induction commonPrefixLen a b <;> simp <;> omega

theorem commonPrefixLen_take (a b : List String) :
    a.take (commonPrefixLen a b) = b.take (commonPrefixLen a b) := by
  fun_induction commonPrefixLen a b <;> simp_all

theorem commonPrefixLen_of_prefix (a r : List String) : commonPrefixLen a (a ++ r) = a.length := by
  induction a with
  | nil => cases r <;> simp [commonPrefixLen]
  | cons x xs ih => simp [commonPrefixLen, ih]

/-- `rel` in closed form when it succeeds -/
theorem rel_eq_some (base targ : FPath) (habs : base.abs = targ.abs) (hb : ∀ c ∈ base.comps, c ≠ "..") :
    rel base targ = some
      { abs := false
        comps := List.replicate (base.comps.length - commonPrefixLen base.comps targ.comps) ".." ++
                 targ.comps.drop (commonPrefixLen base.comps targ.comps) } := by
  unfold rel
  have : (List.drop (commonPrefixLen base.comps targ.comps) base.comps).contains ".." = false := by
    rw [Bool.eq_false_iff]
    intro h
    have := List.mem_of_mem_drop (List.contains_iff_mem.1 h)
    exact hb _ this rfl
  rw [if_neg (by simp [habs])]
  simp only []
  rw [if_neg (by rw [this]; simp)]
  simp [List.map_const']

theorem rel_none_of_abs_ne (base targ : FPath) (habs : base.abs ≠ targ.abs) : rel base targ = none := by
  unfold rel; simp [habs]

/-- join base (..^(|base|-n) ++ targ.drop n) = targ -/
theorem cleanComps_rel (b t : List String) (hb : ∀ c ∈ b, Good c) (ht : ∀ c ∈ t, Good c) :
    cleanComps true (b ++ (List.replicate (b.length - commonPrefixLen b t) ".." ++ t.drop (commonPrefixLen b t))) [] = t := by
  have hn := commonPrefixLen_le_left b t
  have htk := commonPrefixLen_take b t
  generalize commonPrefixLen b t = n at *
  rw [cleanComps_good_append _ _ _ hb, List.append_nil,
    cleanComps_dotdots _ _ _ (by simp) (fun c hc => (hb c (by simpa using hc)).2.2)]
  have := cleanComps_good_append (abs := true) (t.drop n) [] (b.reverse.drop (b.length - n))
    (fun c hc => ht c (List.mem_of_mem_drop hc))
  rw [List.append_nil] at this
  rw [this, cleanComps_nil, List.reverse_append, List.reverse_reverse]
  have h2 : (List.drop (b.length - n) b.reverse).reverse = b.take n := by
    rw [List.drop_reverse, List.reverse_reverse]
    congr 1; omega
  rw [h2, htk, List.take_append_drop]

/-- clean absolute path. Props/C15.lean states the same predicate as `AL.C15.CleanAbs`, so that the property reads
without this file; `C15.cleanAbs_iff` identifies the two. -/
def CleanAbsL (p : FPath) : Prop := p.abs = true ∧ ∀ c ∈ p.comps, Good c

/-- (d) of Props/C15.lean with the shape of the result -/
theorem rel_join (base targ : FPath) (hb : CleanAbsL base) (ht : CleanAbsL targ) :
    ∃ r, rel base targ = some r ∧ r.abs = false ∧ join base r = targ := by
  refine ⟨_, rel_eq_some base targ (hb.1.trans ht.1.symm) (fun c hc => (hb.2 c hc).2.2), rfl, ?_⟩
  obtain ⟨ta, tc⟩ := targ
  simp only [join, FPath.mk.injEq]
  exact ⟨hb.1.trans ht.1.symm, by rw [hb.1]; exact cleanComps_rel _ _ hb.2 ht.2⟩

theorem join_cleanAbs (cwd p : FPath) (h : cwd.abs = true) : CleanAbsL (join cwd p) := by
  refine ⟨h, ?_⟩
  simp only [join, h]
  exact cleanComps_abs_good _ [] (by simp)

theorem absOf_cleanAbs (cwd p : FPath) (h : cwd.abs = true) (hp : p.abs = true → CleanAbsL p) :
    CleanAbsL (absOf cwd p) := by
  unfold absOf
  split
  next h' => exact hp h'
  next => exact join_cleanAbs cwd p h

/-- the path matched against the `paths` globs is `Rel(root, abs path of the file)`; the
`return path` fallback of `pathFromProjectRoot` is never taken -/
theorem pathFromProjectRoot_display (cwd root p : FPath) (hc : CleanAbsL cwd) (hr : CleanAbsL root)
    (hp : p.abs = true → CleanAbsL p) :
    rel root (absOf cwd p) = some (pathFromProjectRoot cwd root (displayPath cwd p)) := by
  obtain ⟨r', hr', -⟩ := rel_join root (absOf cwd p) hr (absOf_cleanAbs cwd p hc.1 hp)
  cases hpa : p.abs with
  | true =>
    obtain ⟨r, h1, h2, h3⟩ := rel_join cwd p hc (hp hpa)
    have habs : absOf cwd p = p := by simp [absOf, hpa]
    rw [habs] at hr' ⊢
    simp only [displayPath, h1, pathFromProjectRoot, h2, h3]
    simp [hr']
  | false =>
    have hn : rel cwd p = none := rel_none_of_abs_ne cwd p (by rw [hc.1, hpa]; simp)
    have habs : absOf cwd p = join cwd p := by simp [absOf, hpa]
    rw [habs] at hr' ⊢
    simp only [displayPath, hn, pathFromProjectRoot, hpa]
    simp [hr']

theorem knows_iff (root p : FPath) : knows root p = true ↔ ∃ rest, p.comps = root.comps ++ rest := by
  unfold knows
  rw [List.isPrefixOf_iff_prefix]
  exact exists_congr fun _ => eq_comm

/-- inside the project: the root-relative path has no `..` -/
theorem rel_of_knows (root a : FPath) (hr : CleanAbsL root) (ha : CleanAbsL a) (hk : knows root a = true) :
    ∃ r, rel root a = some r ∧ join root r = a ∧ ∀ c ∈ r.comps, c ≠ ".." := by
  obtain ⟨rest, hrest⟩ := (knows_iff root a).1 hk
  have h1 := rel_eq_some root a (hr.1.trans ha.1.symm) (fun c hc => (hr.2 c hc).2.2)
  obtain ⟨r, h2, _, h3⟩ := rel_join root a hr ha
  refine ⟨r, h2, h3, ?_⟩
  rw [h1] at h2
  cases h2
  simp only [hrest, commonPrefixLen_of_prefix, Nat.sub_self, List.replicate_zero, List.nil_append,
    List.drop_left]
  intro c hc
  exact (ha.2 c (by rw [hrest]; simp [hc])).2.2

end AL.Lint
