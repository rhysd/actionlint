import AL.Lemmas.ParseWfStores
import AL.Lemmas.ParseWfClean
/-
  The shape of a section parser of parse.go: `parseMapping`, a loop over its result, final checks (`Sect`, `Sect.run`), the
  parser functions as runs of their loop bodies (`parseX_eq_run`), mapping and sequence nodes with one distinguished
  place (`MapCtx`, `SeqCtx`), and what a section parser does around one key (`mappingLoop_at`, `parseMapping_at`, `Sect.run_at`).
  Namespaces: `Sect`, `mapNode` and the `_eq_run` equations are in `AL.C13P`, `seqNode` in `AL.C13D`, the contexts, the
  `_at` lemmas and, at the end of the file, the equations of `services:`, `outputs:`, `matrix:` in `AL.C13D3`.
-/
namespace AL.C13P
open AL.PW AL.Yaml AL.Ast

/-! ### the shape of a section parser -/


structure Sect (σ ρ : Type) where
  step : σ → KV → σ × List PErr
  init : σ
  finish : σ → ρ × List PErr

def Sect.run {σ ρ : Type} (S : Sect σ ρ) (cfg : Cfg) (what : String) (n : Node) (allowEmpty cs : Bool) : R ρ :=
  let m := parseMapping cfg what n allowEmpty cs
  let r := loop S.step S.init m.1
  let f := S.finish r.1
  (f.1, m.2 ++ r.2 ++ f.2)

/-- the `Content` of a mapping node with the given key/value pairs -/
def flatten : List (Node × Node) → List Node
  | [] => []
  | (k, v) :: rest => k :: v :: flatten rest

@[simp] theorem pairs_flatten (ps : List (Node × Node)) : pairs (flatten ps) = ps := by
  induction ps with
  | nil => rfl
  | cons p rest ih => obtain ⟨k, v⟩ := p; simp [flatten, pairs, ih]

def mapNode (tag : String) (line col : Nat) (ps : List (Node × Node)) : Node :=
  .mk .mapping tag "" false line col (flatten ps)

theorem parseMapping_mapNode (cfg : Cfg) (what tag : String) (l c : Nat) (ps : List (Node × Node)) (allowEmpty cs : Bool) :
    parseMapping cfg what (mapNode tag l c ps) allowEmpty cs =
      ((mappingLoop cfg what cs ps []).1,
       (mappingLoop cfg what cs ps []).2 ++
        (if !allowEmpty && (mappingLoop cfg what cs ps []).1.isEmpty then [⟨⟨l, c⟩, "mapping-empty", [what]⟩] else [])) := by
  simp [parseMapping, mapNode, Node.isNull, Node.kind, Node.content, errAt, Node.pos, Node.line, Node.col]

/-- the first pair is never a repetition, so the result is empty only for the empty mapping -/
theorem mappingLoop_isEmpty (cfg : Cfg) (what : String) (cs : Bool) : ∀ ps : List (Node × Node),
    (mappingLoop cfg what cs ps []).1.isEmpty = ps.isEmpty
  | [] => rfl
  | (kn, vn) :: rest => by rw [mappingLoop_cons]; rfl

/-- a key node that `parseMapping` accepts silently: a scalar with a non-empty value -/
def GoodKey (kn : Node) : Prop := (parseString kn false).2 = []

theorem goodKey_of_scalar (kn : Node) (h1 : kn.kind = .scalar) (h2 : kn.value ≠ "") : GoodKey kn := by
  simp [GoodKey, parseString, checkString, h1, h2]

theorem parseString_good (kn : Node) (h : GoodKey kn) : (parseString kn false).1 = ⟨kn.value, kn.quoted, kn.pos⟩ := by
  by_cases hk : kn.kind = .scalar
  · by_cases hv : kn.value = ""
    · simp [GoodKey, parseString, checkString, hk, hv] at h
    · simp [parseString, checkString, hk, hv, newString]
  · simp [GoodKey, parseString, checkString, hk] at h

theorem keyId_cs (cfg : Cfg) (kn : Node) (h : GoodKey kn) : keyId cfg true kn = kn.value := by
  simp only [keyId, parseString_good kn h, ↓reduceIte]

/-! ### the sections, one by one: the loop body as a `Sect`, the parser function as its `run` -/

def workflowSect (cfg : Cfg) (doc : Node) : Sect Workflow Workflow where
  step := workflowKey cfg
  init := {}
  finish := fun w => (w,
    (if w.on.isNone then [errAt doc "workflow-no-on" []] else []) ++
    (if w.jobs.isNone then [errAt doc "workflow-no-jobs" []] else []))

theorem parse_eq_run (cfg : Cfg) (doc root : Node) (rest : List Node) (h : (fixDocPos doc).content = root :: rest) :
    parse cfg doc = (workflowSect cfg (fixDocPos doc)).run cfg "workflow" root false true := by
  simp only [parse, h, Sect.run, workflowSect, List.append_assoc]

def jobSect (cfg : Cfg) (id : Str) : Sect JobSt Job where
  step := jobKey cfg
  init := { job := { id := id, pos := id.pos } }
  finish := jobFinish id

theorem parseJob_eq_run (cfg : Cfg) (id : Str) (n : Node) :
    parseJob cfg id n = (jobSect cfg id).run cfg (jobWhat id.value) n false true := by
  simp only [parseJob, Sect.run, jobSect]

def stepSect (cfg : Cfg) (n : Node) : Sect StepSt Step where
  step := stepKey cfg
  init := { step := { pos := n.pos } }
  finish := fun st => (st.step, stepFinish n st)

theorem parseStep_eq_run (cfg : Cfg) (n : Node) :
    parseStep cfg n = (stepSect cfg n).run cfg "element of \"steps\" section" n false true := by
  simp only [parseStep, Sect.run, stepSect]

@[simp] theorem mapNode_kind (tag : String) (l c : Nat) (ps : List (Node × Node)) : (mapNode tag l c ps).kind = .mapping := rfl

def plain {σ : Type} (step : σ → KV → σ × List PErr) (init : σ) : Sect σ σ := ⟨step, init, fun s => (s, [])⟩

theorem plain_run {σ : Type} (step : σ → KV → σ × List PErr) (init : σ) (cfg : Cfg) (what : String) (n : Node) (ae cs : Bool) :
    (plain step init).run cfg what n ae cs =
      ((loop step init (parseMapping cfg what n ae cs).1).1,
       (parseMapping cfg what n ae cs).2 ++ (loop step init (parseMapping cfg what n ae cs).1).2) := by
  simp [Sect.run, plain]

theorem parseWebhookEvent_eq_run (cfg : Cfg) (name : Str) (n : Node) :
    parseWebhookEvent cfg name n =
      (.webhook ((plain (webhookKey name) { hook := name, pos := name.pos }).run cfg (sectionWhat name.value) n true true).1,
       ((plain (webhookKey name) { hook := name, pos := name.pos }).run cfg (sectionWhat name.value) n true true).2) := by
  simp [parseWebhookEvent, plain_run, parseSectionMapping]

/-- events: `workflow_dispatch:` -/
def dispatchStep (cfg : Cfg) : Option (List (String × DispatchInput)) → KV → Option (List (String × DispatchInput)) × List PErr :=
  fun st kv =>
    if kv.id ≠ "inputs" then (st, [unexpectedKey kv.key "workflow_dispatch" ["inputs"]])
    else
      let inputs := parseSectionMapping cfg "inputs" kv.val true false
      let is := mapKVs (dispatchInput cfg) inputs.1
      (some is.1, inputs.2 ++ is.2)

theorem parseWorkflowDispatchEvent_eq_run (cfg : Cfg) (pos : Pos) (n : Node) :
    parseWorkflowDispatchEvent cfg pos n =
      (.dispatch ((plain (dispatchStep cfg) none).run cfg (sectionWhat "workflow_dispatch") n true true).1 pos,
       ((plain (dispatchStep cfg) none).run cfg (sectionWhat "workflow_dispatch") n true true).2) := by
  rw [plain_run]; rfl

theorem dispatchInput_eq_run (cfg : Cfg) (input : KV) :
    dispatchInput cfg input =
      (let r := (plain dispatchAttr {}).run cfg "input settings of workflow_dispatch event" input.val true true
       (⟨input.key, r.1.desc, r.1.req, r.1.dflt, r.1.ty, r.1.opts⟩, r.2)) := by
  simp [dispatchInput, plain_run]

/-- events: `repository_dispatch:` -/
def repoDispatchStep : Option (List Str) → KV → Option (List Str) × List PErr :=
  fun st kv =>
    if kv.id = "types" then
      let t := parseStringOrStringSequence "types" kv.val false false
      (t.1, t.2)
    else (st, [unexpectedKey kv.key "repository_dispatch" ["types"]])

theorem parseRepositoryDispatchEvent_eq_run (cfg : Cfg) (pos : Pos) (n : Node) :
    parseRepositoryDispatchEvent cfg pos n =
      (.repoDispatch ((plain repoDispatchStep none).run cfg (sectionWhat "repository_dispatch") n true true).1 pos,
       ((plain repoDispatchStep none).run cfg (sectionWhat "repository_dispatch") n true true).2) := by
  rw [plain_run]; rfl

theorem parseWorkflowCallEvent_eq_run (cfg : Cfg) (pos : Pos) (n : Node) :
    parseWorkflowCallEvent cfg pos n =
      (let r := (plain (callEventKey cfg) {}).run cfg (sectionWhat "workflow_call") n true true
       (.call r.1.inputs r.1.secrets r.1.outputs pos, r.2)) := by
  simp [parseWorkflowCallEvent, plain_run, parseSectionMapping]

def callInputSect (kv : KV) : Sect (CallInput × Bool) CallInput where
  step := callInputAttr
  init := ({ name := kv.key, id := kv.id }, false)
  finish := fun st => (st.1, if !st.2 then [⟨kv.key.pos, "call-input-type-missing", [kv.key.value]⟩] else [])

theorem callInput_eq_run (cfg : Cfg) (kv : KV) :
    callInput cfg kv = (callInputSect kv).run cfg "input of workflow_call event" kv.val true true := by
  simp only [callInput, Sect.run, callInputSect]

theorem callSecret_eq_run (cfg : Cfg) (kv : KV) :
    callSecret cfg kv = (plain callSecretAttr { name := kv.key }).run cfg "secret of workflow_call event" kv.val true true := by
  simp [callSecret, plain_run]

def callOutputSect (kv : KV) : Sect CallOutput CallOutput where
  step := callOutputAttr
  init := { name := kv.key }
  finish := fun st => (st, if st.value.isNone then [⟨kv.key.pos, "call-output-value-missing", [kv.key.value]⟩] else [])

theorem callOutput_eq_run (cfg : Cfg) (kv : KV) :
    callOutput cfg kv = (callOutputSect kv).run cfg "output of workflow_call event" kv.val true true := by
  simp only [callOutput, Sect.run, callOutputSect]

/-- `defaults:` and `defaults.run:` -/
def defaultsStep (cfg : Cfg) : Option DefaultsRun → KV → Option DefaultsRun × List PErr :=
  fun st kv =>
    if kv.id ≠ "run" then (st, [unexpectedKey kv.key "defaults" ["run"]])
    else
      let mm := parseSectionMapping cfg "run" kv.val false true
      let rr := loop defaultsRunKey { pos := kv.key.pos } mm.1
      (some rr.1, mm.2 ++ rr.2)

def defaultsSect (cfg : Cfg) (pos : Pos) (n : Node) : Sect (Option DefaultsRun) Defaults where
  step := defaultsStep cfg
  init := none
  finish := fun r => (⟨r, pos⟩, if r.isNone then [errAt n "defaults-no-run" []] else [])

theorem parseDefaults_eq_run (cfg : Cfg) (pos : Pos) (n : Node) :
    parseDefaults cfg pos n = (defaultsSect cfg pos n).run cfg (sectionWhat "defaults") n false true := rfl

/-- `concurrency:` (mapping form) -/
def concurrencySect (pos : Pos) : Sect (Concurrency × Bool) Concurrency where
  step := concurrencyKey
  init := ({ pos := pos }, false)
  finish := fun st => (st.1, if !st.2 then [⟨pos, "concurrency-no-group", []⟩] else [])

theorem parseConcurrency_eq_run (cfg : Cfg) (pos : Pos) (tag : String) (l c : Nat) (ps : List (Node × Node)) :
    parseConcurrency cfg pos (mapNode tag l c ps) =
      (concurrencySect pos).run cfg (sectionWhat "concurrency") (mapNode tag l c ps) false true := by
  simp [parseConcurrency, Sect.run, concurrencySect, parseSectionMapping]

/-- `environment:` (mapping form) -/
def environmentSect (pos : Pos) : Sect (Environment × Bool) Environment where
  step := environmentKey
  init := ({ pos := pos }, false)
  finish := fun st => (st.1, if !st.2 then [⟨pos, "environment-no-name", []⟩] else [])

theorem parseEnvironment_eq_run (cfg : Cfg) (pos : Pos) (tag : String) (l c : Nat) (ps : List (Node × Node)) :
    parseEnvironment cfg pos (mapNode tag l c ps) =
      (environmentSect pos).run cfg (sectionWhat "environment") (mapNode tag l c ps) false true := by
  simp [parseEnvironment, Sect.run, environmentSect, parseSectionMapping]

theorem parseStrategy_eq_run (cfg : Cfg) (pos : Pos) (n : Node) :
    parseStrategy cfg pos n = (plain (strategyKey cfg) { pos := pos }).run cfg (sectionWhat "strategy") n false true := by
  simp [parseStrategy, plain_run, parseSectionMapping]

theorem parseContainer_eq_run (cfg : Cfg) (sec : String) (pos : Pos) (tag : String) (l c : Nat) (ps : List (Node × Node)) :
    parseContainer cfg sec pos (mapNode tag l c ps) =
      (plain (containerKey cfg sec) { pos := pos }).run cfg (sectionWhat sec) (mapNode tag l c ps) false true := by
  simp [parseContainer, plain_run, parseSectionMapping]

/-- a mapping node is not a placeholder, whatever its tag: its value is empty -/
theorem _root_.AL.C13D.mayParseExpression_mapNode (tag : String) (l c : Nat) (ps : List (Node × Node)) :
    mayParseExpression (mapNode tag l c ps) = none := by
  simp only [mayParseExpression, mapNode, Node.tag, Node.value, isExprAssigned_nil]
  by_cases h : tag ≠ "!!str" <;> simp [h]

theorem parseRunsOn_eq_run (cfg : Cfg) (tag : String) (l c : Nat) (ps : List (Node × Node)) :
    parseRunsOn cfg (mapNode tag l c ps) =
      (plain runsOnKey {}).run cfg (sectionWhat "runs-on") (mapNode tag l c ps) false true := by
  simp only [parseRunsOn, AL.C13D.mayParseExpression_mapNode, plain_run, parseSectionMapping]
  rfl

/-! ### sections of free names -/

theorem mapKVs_eq_loop {β : Type} (f : KV → R β) (kvs : List KV) :
    ∀ acc : List (String × β),
      loop (fun st kv => (st ++ [(kv.id, (f kv).1)], (f kv).2)) acc kvs = (acc ++ (mapKVs f kvs).1, (mapKVs f kvs).2) := by
  rw [mapKVs_mapR]
  exact loop_snoc_eq_mapR (fun kv => ((kv.id, (f kv).1), (f kv).2)) (fun _ _ => rfl) kvs

def mapSect {β : Type} (f : KV → R β) : Sect (List (String × β)) (List (String × β)) :=
  plain (fun st kv => (st ++ [(kv.id, (f kv).1)], (f kv).2)) []

theorem mapSect_run {β : Type} (f : KV → R β) (cfg : Cfg) (what : String) (n : Node) (ae cs : Bool) :
    (mapSect f).run cfg what n ae cs =
      ((mapKVs f (parseMapping cfg what n ae cs).1).1, (parseMapping cfg what n ae cs).2 ++ (mapKVs f (parseMapping cfg what n ae cs).1).2) := by
  simp [mapSect, plain_run, mapKVs_eq_loop]

theorem loop_inv {σ : Type} (step : σ → KV → σ × List PErr) (P : σ → Prop) (kvs : List KV)
    (h : ∀ s kv, kv ∈ kvs → P s → P (step s kv).1) : ∀ init, P init → P (loop step init kvs).1 :=
  loop_invariant step P kvs h

/-- the final checks of a step are positioned at the step's node: the same position whatever the pairs of the mapping -/
theorem parseStep_mapNode (cfg : Cfg) (tag : String) (l c : Nat) (ps : List (Node × Node)) :
    parseStep cfg (mapNode tag l c ps) =
      (stepSect cfg (mapNode tag l c [])).run cfg "element of \"steps\" section" (mapNode tag l c ps) false true := by
  simp only [parseStep, Sect.run, stepSect]
  rfl

end AL.C13P

namespace AL.C13D
open AL.PW AL.Yaml AL.Ast AL.C13P

def seqNode (tag : String) (l c : Nat) (cs : List Node) : Node := .mk .sequence tag "" false l c cs

theorem parseEvents_mapNode (cfg : Cfg) (pos : Pos) (tag : String) (l c : Nat) (ps : List (Node × Node)) :
    parseEvents cfg pos (mapNode tag l c ps) =
      (some ((plain (eventOfKey cfg) []).run cfg (sectionWhat "on") (mapNode tag l c ps) false true).1,
       ((plain (eventOfKey cfg) []).run cfg (sectionWhat "on") (mapNode tag l c ps) false true).2) := by
  simp [parseEvents, mapNode, Node.kind, plain_run, parseSectionMapping]

theorem isExprAssigned_empty : AL.Yaml.isExprAssigned "" = false := AL.PW.isExprAssigned_nil

theorem callInputs_eq_loop (cfg : Cfg) (kvs : List KV) : ∀ acc : List CallInput,
    loop (fun st kv => (st ++ [(callInput cfg kv).1], (callInput cfg kv).2)) acc kvs =
      (acc ++ (callInputs cfg kvs).1, (callInputs cfg kvs).2) := by
  rw [callInputs_mapR]
  exact loop_snoc_eq_mapR (callInput cfg) (fun _ _ => rfl) kvs

end AL.C13D

namespace AL.C13D3
open AL.PW AL.Yaml AL.Ast AL.C13P AL.C13D

/-! ### contexts -/

/-- a mapping node with one distinguished pair: `pre ++ (key, ·) :: post` -/
structure MapCtx where
  tag : String
  l : Nat
  c : Nat
  pre : List (Node × Node)
  key : Node
  post : List (Node × Node)

def MapCtx.at (m : MapCtx) (v : Node) : Node := mapNode m.tag m.l m.c (m.pre ++ (m.key, v) :: m.post)

/-- a sequence node with one distinguished element -/
structure SeqCtx where
  tag : String
  l : Nat
  c : Nat
  before : List Node
  after : List Node

def SeqCtx.at (s : SeqCtx) (v : Node) : Node := seqNode s.tag s.l s.c (s.before ++ v :: s.after)

/-! ### a section parser around one key -/

/-- an entry of the result of `mappingLoop` was not seen before -/
theorem mappingLoop_unseen (cfg : Cfg) (what : String) (cs : Bool) (l : List (Node × Node)) :
    ∀ (seen : List (String × Yaml.Pos)) (kv : KV), kv ∈ (mappingLoop cfg what cs l seen).1 → lookupSeen kv.id seen = none :=
  fun seen => (mappingLoop_ids_nodup cfg what cs l seen).2

/-- for the first key with a given id `mappingLoop` hands out one entry, with the key's value; the entries around it and the
diagnostics do not depend on that value -/
theorem mappingLoop_at (cfg : Cfg) (what : String) (cs : Bool) (kn : Node) (post : List (Node × Node)) :
    ∀ (pre : List (Node × Node)) (seen : List (String × Yaml.Pos)),
      lookupSeen (keyId cfg cs kn) seen = none → (∀ q ∈ pre, keyId cfg cs q.1 ≠ keyId cfg cs kn) →
      ∃ kvs₁ kvs₂ es,
        (∀ vn, mappingLoop cfg what cs (pre ++ (kn, vn) :: post) seen =
          (kvs₁ ++ ⟨keyId cfg cs kn, (parseString kn false).1, vn⟩ :: kvs₂, es)) ∧
        (∀ kv ∈ kvs₁, ∃ q ∈ pre, kv.id = keyId cfg cs q.1) ∧
        (∀ kv ∈ kvs₂, (∃ q ∈ post, kv.id = keyId cfg cs q.1) ∧ kv.id ≠ keyId cfg cs kn) := by
  intro pre seen hs hne
  -- after `pre` the id is still unseen, so the key opens the rest of the loop with an entry of its own
  have hS : lookupSeen (keyId cfg cs kn) (AL.C09D.seenAfter cfg cs pre seen) = none :=
    (lookupSeen_seenAfter_none cfg cs _ pre seen).2 ⟨hs, hne⟩
  refine ⟨_, _, _, fun vn => (by
    simp only [mappingLoop_append, mappingLoop_cons, hS]
    rfl), fun kv hkv => ?_, fun kv hkv => ⟨?_, fun hid => ?_⟩⟩
  · obtain ⟨q, hq, hq', _⟩ := mappingLoop_ids cfg what cs pre _ kv hkv
    exact ⟨q, hq, hq'⟩
  · obtain ⟨q, hq, hq', _⟩ := mappingLoop_ids cfg what cs post _ kv hkv
    exact ⟨q, hq, hq'⟩
  · have := mappingLoop_unseen cfg what cs post _ kv hkv
    rw [lookupSeen_snoc, hid, hS] at this
    simp at this

theorem mappingLoop_value' (cfg : Cfg) (what : String) (cs : Bool) (kn vn vn' : Node) (post : List (Node × Node)) :
    ∀ (pre : List (Node × Node)) (seen : List (String × Yaml.Pos)),
      lookupSeen (keyId cfg cs kn) seen = none → (∀ q ∈ pre, keyId cfg cs q.1 ≠ keyId cfg cs kn) →
      ∃ kvs₁ kvs₂ es, mappingLoop cfg what cs (pre ++ (kn, vn) :: post) seen =
          (kvs₁ ++ ⟨keyId cfg cs kn, (parseString kn false).1, vn⟩ :: kvs₂, es) ∧
        mappingLoop cfg what cs (pre ++ (kn, vn') :: post) seen =
          (kvs₁ ++ ⟨keyId cfg cs kn, (parseString kn false).1, vn'⟩ :: kvs₂, es) ∧
        ∀ kv ∈ kvs₁, ∃ q ∈ pre, kv.id = keyId cfg cs q.1 := by
  intro pre seen hs hne
  obtain ⟨k1, k2, es, e, h1, _⟩ := mappingLoop_at cfg what cs kn post pre seen hs hne
  exact ⟨k1, k2, es, e vn, e vn', h1⟩

/-- **`parseMapping` around one key** of a mapping node (the first with its id): one entry with the key's value between entries
`k1`, `k2` that come from the pairs before and after it; these and the diagnostics `es` do not depend on the value. The result
is not empty, so `es` holds no "mapping-empty" -/
theorem parseMapping_at (cfg : Cfg) (what : String) (ae cs : Bool) (m : MapCtx)
    (hfirst : ∀ q ∈ m.pre, keyId cfg cs q.1 ≠ keyId cfg cs m.key) :
    ∃ (k1 k2 : List KV) (es : List PErr),
      (∀ kv ∈ k1, ∃ q ∈ m.pre, kv.id = keyId cfg cs q.1) ∧
      (∀ kv ∈ k2, (∃ q ∈ m.post, kv.id = keyId cfg cs q.1) ∧ kv.id ≠ keyId cfg cs m.key) ∧
      ∀ v, parseMapping cfg what (m.at v) ae cs = (k1 ++ ⟨keyId cfg cs m.key, (parseString m.key false).1, v⟩ :: k2, es) := by
  obtain ⟨k1, k2, es, e, h1, h2⟩ := mappingLoop_at cfg what cs m.key m.post m.pre [] rfl hfirst
  refine ⟨k1, k2, es, h1, h2, fun v => ?_⟩
  have hemp : (k1 ++ ⟨keyId cfg cs m.key, (parseString m.key false).1, v⟩ :: k2).isEmpty = false := by cases k1 <;> rfl
  simp only [MapCtx.at, parseMapping_mapNode, e, hemp]
  simp

/-- **a section parser around one key** (the first with its id): `parseMapping` (the stage `((), es)`: by `parseMapping_at`
its diagnostics do not depend on the key's value), the keys before it, the key itself, the keys after it, the final checks, in
sequence. Only the step at the key sees the value -/
theorem Sect.run_at {σ ρ : Type} (S : Sect σ ρ) (cfg : Cfg) (what : String) (ae cs : Bool) (m : MapCtx)
    (hfirst : ∀ q ∈ m.pre, keyId cfg cs q.1 ≠ keyId cfg cs m.key) :
    ∃ (k1 k2 : List KV) (es : List PErr),
      (∀ kv ∈ k1, ∃ q ∈ m.pre, kv.id = keyId cfg cs q.1) ∧
      (∀ kv ∈ k2, (∃ q ∈ m.post, kv.id = keyId cfg cs q.1) ∧ kv.id ≠ keyId cfg cs m.key) ∧
      ∀ v, S.run cfg what (m.at v) ae cs =
        seqR (seqR (seqR (seqR ((), es) fun _ => loop S.step S.init k1)
          fun s => S.step s ⟨keyId cfg cs m.key, (parseString m.key false).1, v⟩) fun s => loop S.step s k2) S.finish := by
  obtain ⟨k1, k2, es, h1, h2, e⟩ := parseMapping_at cfg what ae cs m hfirst
  refine ⟨k1, k2, es, h1, h2, fun v => ?_⟩
  simp only [Sect.run, e, loop_split, seqR, List.append_assoc]

theorem checkSequence_at (sec : String) (s : SeqCtx) (x : Node) : checkSequence sec (s.at x) false = (true, []) := by
  simp [checkSequence, SeqCtx.at, seqNode, Node.kind, Node.content, checkNotEmpty]

/-- `services:` on a mapping node: a section of free names, the result wrapped -/
theorem parseServices_mapNode (cfg : Cfg) (tag : String) (l c : Nat) (ps : List (Node × Node)) :
    parseServices cfg (mapNode tag l c ps) = store (fun r => (⟨some r, none, ⟨l, c⟩⟩ : Services))
      ((mapSect fun s => let c := parseContainer cfg "services" s.key.pos s.val; ((⟨s.key, c.1⟩ : Service), c.2)).run cfg
        (sectionWhat "services") (mapNode tag l c ps) false false) := by
  simp only [parseServices, mayParseExpression_mapNode, parseSectionMapping, mapSect_run]
  rfl

section
variable (cfg : Cfg) (tag : String) (l c : Nat)

/-- `outputs:`: a section of free names whose final check (not empty) is positioned at the node -/
def outputsSect (n0 : Node) : Sect (List (String × Output)) (List (String × Output)) where
  step := (mapSect fun kv => let v := parseString kv.val true; ((⟨kv.key, v.1⟩ : Output), v.2)).step
  init := []
  finish := fun r => (r, (checkNotEmpty "outputs" r.length n0).2)

theorem parseOutputs_eq_run (ps : List (Node × Node)) :
    parseOutputs cfg (mapNode tag l c ps) =
      (outputsSect (mapNode tag l c [])).run cfg (sectionWhat "outputs") (mapNode tag l c ps) false false := by
  have e : ∀ n0 n : Node, (outputsSect n0).run cfg (sectionWhat "outputs") n false false =
      (((mapSect fun kv => let v := parseString kv.val true; ((⟨kv.key, v.1⟩ : Output), v.2)).run cfg (sectionWhat "outputs") n false false).1,
       ((mapSect fun kv => let v := parseString kv.val true; ((⟨kv.key, v.1⟩ : Output), v.2)).run cfg (sectionWhat "outputs") n false false).2 ++
         (checkNotEmpty "outputs"
           ((mapSect fun kv => let v := parseString kv.val true; ((⟨kv.key, v.1⟩ : Output), v.2)).run cfg (sectionWhat "outputs") n false false).1.length n0).2) := by
    intro n0 n
    simp [Sect.run, outputsSect, mapSect, plain]
  rw [e, mapSect_run]
  simp only [parseOutputs, parseSectionMapping]
  rfl

theorem parseMatrix_mapNode (pos : Yaml.Pos) (ps : List (Node × Node)) :
    parseMatrix cfg pos (mapNode tag l c ps) = store id
      ((plain (matrixKey cfg) { rows := some [], pos := pos }).run cfg (sectionWhat "matrix") (mapNode tag l c ps) false false) := by
  simp [parseMatrix, plain_run, parseSectionMapping, store]

end

end AL.C13D3
