import AL.Lemmas.C14DBase
import AL.Lemmas.C05DJob
import AL.Props.C08Parse
/-
  Lemmas for AL.Props.C14Doc: the interface of a reusable workflow READ FROM ITS DOCUMENT.

  `readMeta cfg cd` is written without the parser and without the decoder: it walks `on:` → `workflow_call:` →
  `inputs:` / `secrets:` / `outputs:` with `attr` and lists the entries. Here: the reader; `sect_field`, through which the
  C14D files read a field of a section parser's state off the node; and per section that what the parser stores for an
  accepted section node is the reader's list. AL/Lemmas/C14DCalleeDoc lifts this to the document.
-/
namespace AL.C14D
open AL.Yaml AL.PW AL.Ast AL.CallMeta AL.C10M

/-! ### the reader -/

def trueWords : List String := ["true", "True", "TRUE"]

def saysTrue (n : Node) : Bool := n.kind = .scalar && n.tag = "!!bool" && trueWords.contains n.value

def hasDefault (v : Node) : Bool :=
  match attr "default" v with
  | some d => !d.isNull
  | none => false

def requiredTrue (v : Node) : Bool :=
  match attr "required" v with
  | some r => saysTrue r
  | none => false

/-- an input must be supplied: `required: true` and no (non-null) `default:` -/
def inputRequired (v : Node) : Bool := requiredTrue v && !hasDefault v

def typeOf (v : Node) : CallMeta.Ty :=
  match attr "type" v with
  | some t => tyOfString t.value
  | none => .any

/-- the key/value pairs of a section node (nothing for a node that is not a mapping, e.g. `inputs:` with no value) -/
def secEntries (n : Node) : List (Node × Node) := if n.kind = .mapping then pairs n.content else []

/-- the entries of the section `name` of a `workflow_call:` node -/
def sectionOf (name : String) (c : Node) : List (Node × Node) :=
  match attr name c with
  | some s => secEntries s
  | none => []

def inputsOf (cfg : Cfg) (c : Node) : List (String × CallMeta.Input) :=
  (sectionOf "inputs" c).map fun q => (cfg.lower q.1.value, ⟨q.1.value, inputRequired q.2, typeOf q.2⟩)

def secretsOf (cfg : Cfg) (c : Node) : List (String × CallMeta.Secret) :=
  (sectionOf "secrets" c).map fun q => (cfg.lower q.1.value, ⟨q.1.value, requiredTrue q.2⟩)

def outputsOf (cfg : Cfg) (c : Node) : List (String × String) :=
  (sectionOf "outputs" c).map fun q => (cfg.lower q.1.value, q.1.value)

def readCall (cfg : Cfg) : Option Node → Meta
  | some c => { inputs := inputsOf cfg c, outputs := outputsOf cfg c, secrets := secretsOf cfg c }
  | none => {}

def rootOf (doc : Node) : Option Node := doc.content.head?

def onNode (doc : Node) : Option Node := (rootOf doc).bind (attr "on")

def callNode (doc : Node) : Option Node := (onNode doc).bind (attr "workflow_call")

/-- the entries of `on.workflow_call.<name>` of a document -/
def entries (name : String) (doc : Node) : List (Node × Node) :=
  match callNode doc with
  | some c => sectionOf name c
  | none => []

/-- **the interface of a reusable workflow, read from its document** -/
def readMeta (cfg : Cfg) (doc : Node) : Meta := readCall cfg (callNode doc)

/-! ### attributes -/

theorem attr_eq (name : String) (v : Node) (hs : Sane v) (hk : v.kind = .mapping ∨ v.isNull = true) :
    valueOf name (pairs v.content) = attr name v := by
  rcases hk with hk | hk
  · simp [attr, hk]
  · have hsc := (null_tag v hk).1
    rw [pairs_of_null v hs hk]
    simp [attr, hsc, valueOf]

theorem secEntries_eq (v : Node) (hs : Sane v) (hk : v.kind = .mapping ∨ v.isNull = true) : pairs v.content = secEntries v := by
  rcases hk with hk | hk
  · simp [secEntries, hk]
  · have hsc := (null_tag v hk).1
    rw [pairs_of_null v hs hk]
    simp [secEntries, hsc]

/-- **reading a section of fixed keys off the node** (`PW.section_reads` in terms of `attr`). A field of the loop state that
only the iteration of `key` writes, `val old v` for the value node `v`: after a silent case-sensitive `parseMapping` and a silent
key loop it is `val` of what is written under `key` (or as it was), and `ok` holds of that node: whatever the silence of its
iteration says about it. Where an empty value is allowed (`ae`) the node may be a null, which `attr` does not enter: yaml.v3's
guarantee that a null has no children (`Sane`) makes the two agree -/
theorem sect_field {σ α : Type} (cfg : Cfg) (what : String) (n : Node) (ae : Bool) (step : σ → KV → σ × List PErr) (init : σ)
    (get : σ → α) (key : String) (val : α → Node → α) (ok : Node → Prop)
    (hkeep : ∀ st kv, kv.id ≠ key → get (step st kv).1 = get st)
    (hset : ∀ st kv, kv.id = key → (step st kv).2 = [] → get (step st kv).1 = val (get st) kv.val ∧ ok kv.val)
    (hs : ae = true → Sane n)
    (hm : (parseMapping cfg what n ae true).2 = []) (hl : (loop step init (parseMapping cfg what n ae true).1).2 = []) :
    get (loop step init (parseMapping cfg what n ae true).1).1 = (attr key n).elim (get init) (val (get init)) ∧
    ∀ v, attr key n = some v → ok v := by
  obtain ⟨hf, hok⟩ := section_reads cfg what n ae step init get key (fun kv => val (get init) kv.val) (fun kv => ok kv.val) hkeep
    (fun st kv hk hc h0 => h0 ▸ hset st kv hk hc) hm hl
  have ha : attr key n = (AL.C05D.mpair n key).map (·.2) := by
    cases ae with
    | false => exact (mget_eq_attr cfg what n true hm key).symm
    | true =>
      exact ((find_pair_value key (pairs n.content)).trans (attr_eq key n (hs rfl) (parseMapping_silent cfg what n true true hm).1)).symm
  rw [ha]
  cases hp : AL.C05D.mpair n key with
  | none => rw [hp] at hf; exact ⟨hf, nofun⟩
  | some p => rw [hp] at hf; exact ⟨hf, fun v hv => Option.some.inj hv ▸ hok p hp⟩

/-- looking an id up among the entries of a case-sensitive mapping, then using the entry -/
theorem match_find {α : Type} (cfg : Cfg) (name : String) (f : KV → α) (d : α) (l : List (Node × Node)) :
    ((l.map (mkKV cfg true)).find? (fun kv => kv.id = name)).elim d f =
      (l.find? (fun q => q.1.value = name)).elim d (fun q => f (mkKV cfg true q)) := by
  rw [find_mkKV]
  cases l.find? (fun q => q.1.value = name) <;> rfl

theorem match_find_val {α : Type} (cfg : Cfg) (name : String) (f : Node → α) (d : α) (l : List (Node × Node)) :
    ((l.map (mkKV cfg true)).find? (fun kv => kv.id = name)).elim d (fun kv => f kv.val) = (valueOf name l).elim d f := by
  rw [match_find cfg name (fun kv => f kv.val) d l, ← find_pair_value]
  cases l.find? (fun q => q.1.value = name) <;> rfl

theorem parseBool_saysTrue (r : Node) (hs : Sane r) (hstr : r.tag ≠ "!!str") (h : (parseBool r).2 = []) :
    boolOf (parseBool r).1 = saysTrue r := by
  -- of the six spellings of a `!!bool`, the ones that fold to `true` are the three of `trueWords`
  have hw : ∀ w ∈ boolWords, decide (asciiLower w = "true") = trueWords.contains w := by decide +kernel
  simp only [parseBool] at h ⊢
  by_cases hk : r.kind = .scalar
  · by_cases hb : r.tag = "!!bool"
    · simp only [hk, hb, ne_eq, not_true_eq_false, decide_false, Bool.false_and, Bool.or_self, Bool.false_eq_true, if_false,
        show ("!!bool" = "!!str") = False from by decide, boolOf, saysTrue, decide_true, Bool.true_and]
      exact hw _ (hs.boolValue hb)
    · simp [hk, hb, hstr] at h
  · simp [hk] at h

/-! ### one input -/

theorem callInputAttr_required_keep (st : CallInput × Bool) (kv : KV) (hne : kv.id ≠ "required") :
    (callInputAttr st kv).1.1.required = st.1.required :=
  (PW.callInputAttr_frame st kv).required hne

theorem callInputAttr_dflt_keep (st : CallInput × Bool) (kv : KV) (hne : kv.id ≠ "default") :
    (callInputAttr st kv).1.1.dflt = st.1.dflt :=
  (PW.callInputAttr_frame st kv).dflt hne

theorem callInputAttr_type_keep (st : CallInput × Bool) (kv : KV) (hne : kv.id ≠ "type") :
    (callInputAttr st kv).1.1.type = st.1.type :=
  ((PW.callInputAttr_frame st kv).type hne).1

/-- what the iteration of `type:` makes of the declared type -/
def tyOfValue (old : CallMeta.Ty) (s : String) : CallMeta.Ty :=
  match s with
  | "boolean" => .bool
  | "number" => .number
  | "string" => .string
  | _ => old

theorem tyOfValue_any (s : String) : tyOfValue .any s = tyOfString s := by
  unfold tyOfValue tyOfString
  rfl

/-- `required:` of an accepted input or secret: the parsed flag is `true` iff the node says so -/
theorem required_read {σ : Type} (cfg : Cfg) (what : String) (v : Node) (hs : SaneTo 1 v) (hnp : NoPH v)
    (step : σ → KV → σ × List PErr) (init : σ) (get : σ → Bool) (h0 : get init = false)
    (hset : ∀ st a, a.id = "required" → (step st a).2 = (parseBool a.val).2 ∧ get (step st a).1 = boolOf (parseBool a.val).1)
    (hkeep : ∀ st a, a.id ≠ "required" → get (step st a).1 = get st)
    (hm : (parseMapping cfg what v true true).2 = []) (hl : (loop step init (parseMapping cfg what v true true).1).2 = []) :
    get (loop step init (parseMapping cfg what v true true).1).1 = requiredTrue v := by
  obtain ⟨hf, hok⟩ := sect_field cfg what v true step init get "required" (fun _ r => boolOf (parseBool r).1) (fun r => (parseBool r).2 = [])
    hkeep (fun st a ha hc => ⟨(hset st a ha).2, (hset st a ha).1 ▸ hc⟩) (fun _ => hs.sane) hm hl
  rw [hf, requiredTrue]
  cases hv : attr "required" v with
  | none => exact h0
  | some r =>
    obtain ⟨k, hmem, hkv⟩ := attr_mem hv
    exact parseBool_saysTrue r (hs.2 (k, r) hmem).2 (hnp (k, r) hmem hkv) (hok r hv)

/-- **one entry of `inputs:`**: what the parser makes of it, in terms of the entry's node -/
theorem callInput_read (cfg : Cfg) (kv : KV) (hs : SaneTo 1 kv.val) (hnp : NoPH kv.val) (hc : (callInput cfg kv).2 = []) :
    inputOfAst (callInput cfg kv).1 = ⟨kv.key.value, inputRequired kv.val, typeOf kv.val⟩ := by
  have hname := (AL.C08P.callInput_id cfg kv).2
  simp only [callInput] at hc hname ⊢
  obtain ⟨hm, hl⟩ := List.append_eq_nil_iff.1 (List.append_eq_nil_iff.1 hc).1
  have hreq := required_read cfg _ kv.val hs hnp callInputAttr _ (fun st => boolOf st.1.required) rfl
    (fun st a ha => by simp only [callInputAttr, ha, and_self]) (fun st a ha => by rw [callInputAttr_required_keep st a ha]) hm hl
  have hdf := (sect_field cfg _ kv.val true callInputAttr _ (fun st => st.1.dflt.isNone) "default"
    (fun old d => if d.isNull then old else false) (fun _ => True) (fun st a ha => by rw [callInputAttr_dflt_keep st a ha])
    (fun st a ha _ => by
      simp only [callInputAttr, ha, and_true]
      split <;> rfl)
    (fun _ => hs.sane) hm hl).1
  have hty := (sect_field cfg _ kv.val true callInputAttr _ (fun st => tyOfAst st.1.type) "type" (fun old t => tyOfValue old t.value)
    (fun _ => True) (fun st a ha => by rw [callInputAttr_type_keep st a ha])
    (fun st a ha _ => by
      simp only [callInputAttr, ha, tyOfValue, and_true]
      split <;> simp_all [tyOfAst])
    (fun _ => hs.sane) hm hl).1
  simp only [inputOfAst, hname, hreq, hdf, hty, inputRequired, hasDefault, typeOf]
  congr 2
  · cases attr "default" kv.val with
    | none => rfl
    | some d => cases hn : d.isNull <;> simp [hn]
  · cases attr "type" kv.val with
    | none => rfl
    | some t => exact tyOfValue_any t.value

theorem callInputs_fst (cfg : Cfg) : ∀ (kvs : List KV), (callInputs cfg kvs).1 = kvs.map fun kv => (callInput cfg kv).1 :=
  fun kvs => by rw [callInputs_mapR, mapR_fst]

theorem callInputs_clean (cfg : Cfg) : ∀ (kvs : List KV), (callInputs cfg kvs).2 = [] → ∀ kv ∈ kvs, (callInput cfg kv).2 = [] :=
  fun _ h => mapR_silent.1 (callInputs_mapR cfg ▸ h)

/-! ### one secret -/

theorem callSecretAttr_required_keep (st : CallSecret) (kv : KV) (hne : kv.id ≠ "required") :
    (callSecretAttr st kv).1.required = st.required :=
  (callSecretAttr_frame st kv).2.2 hne

theorem callSecret_read (cfg : Cfg) (kv : KV) (hs : SaneTo 1 kv.val) (hnp : NoPH kv.val) (hc : (callSecret cfg kv).2 = []) :
    (callSecret cfg kv).1.name = kv.key ∧ boolOf (callSecret cfg kv).1.required = requiredTrue kv.val := by
  simp only [callSecret] at hc ⊢
  obtain ⟨hm, hl⟩ := List.append_eq_nil_iff.1 hc
  exact ⟨loop_invariant callSecretAttr (fun st => st.name = kv.key) _ (fun s a _ hp => (callSecretAttr_frame s a).1.trans hp) _ rfl,
    required_read cfg _ kv.val hs hnp callSecretAttr _ (fun st => boolOf st.required) rfl
      (fun st a ha => by simp only [callSecretAttr, ha, and_self]) (fun st a ha => by rw [callSecretAttr_required_keep st a ha]) hm hl⟩

/-! ### the three sections -/

/-- `inputs:` — the part of the interface the parser's result gives, as a list over the entries of the node -/
theorem inputs_read (cfg : Cfg) (n : Node) (hs : SaneTo 2 n) (hnp : NoPH2 n)
    (hm : (parseSectionMapping cfg "inputs" n true false).2 = [])
    (hc : (callInputs cfg (parseSectionMapping cfg "inputs" n true false).1).2 = []) :
    (callInputs cfg (parseSectionMapping cfg "inputs" n true false).1).1.foldl (fun m i => put m i.id (inputOfAst i)) [] =
      (secEntries n).map fun q => (cfg.lower q.1.value, (⟨q.1.value, inputRequired q.2, typeOf q.2⟩ : CallMeta.Input)) := by
  simp only [parseSectionMapping] at hm hc ⊢
  obtain ⟨hkind, heq, hnd, _, _⟩ := parseMapping_clean_eq cfg _ n true false hm
  rw [heq] at hc ⊢
  rw [callInputs_fst]
  have hclean := callInputs_clean cfg _ hc
  rw [foldl_put_distinct (fun i : CallInput => i.id) inputOfAst]
  · rw [List.nil_append, List.map_map, List.map_map, ← secEntries_eq n hs.sane hkind]
    apply List.map_congr_left
    intro q hq
    simp only [Function.comp]
    have h1 := (AL.C08P.callInput_id cfg (mkKV cfg false q)).1
    have h2 := callInput_read cfg (mkKV cfg false q) (hs.2 q hq).2 (hnp q hq) (hclean _ (List.mem_map.2 ⟨q, hq, rfl⟩))
    rw [h1, h2]
    rfl
  · simp only [List.map_nil, List.nil_append, List.map_map]
    have : ((fun i : CallInput => i.id) ∘ (fun kv => (callInput cfg kv).1) ∘ mkKV cfg false) = ((·.id) ∘ mkKV cfg false) := by
      funext q
      simp only [Function.comp]
      exact (AL.C08P.callInput_id cfg (mkKV cfg false q)).1
    rw [this, ← List.map_map]
    exact hnd

theorem secrets_read (cfg : Cfg) (n : Node) (hs : SaneTo 2 n) (hnp : NoPH2 n)
    (hm : (parseSectionMapping cfg "secrets" n true false).2 = [])
    (hc : (mapKVs (callSecret cfg) (parseSectionMapping cfg "secrets" n true false).1).2 = []) :
    (mapKVs (callSecret cfg) (parseSectionMapping cfg "secrets" n true false).1).1.foldl
        (fun m s => put m s.1 (⟨s.2.name.value, boolOf s.2.required⟩ : CallMeta.Secret)) [] =
      (secEntries n).map fun q => (cfg.lower q.1.value, (⟨q.1.value, requiredTrue q.2⟩ : CallMeta.Secret)) := by
  simp only [parseSectionMapping] at hm hc ⊢
  obtain ⟨hkind, heq, hnd, _, _⟩ := parseMapping_clean_eq cfg _ n true false hm
  rw [heq] at hc ⊢
  rw [mapKVs_fst]
  have hclean := mapKVs_clean_all (callSecret cfg) _ hc
  rw [foldl_put_distinct (fun s : String × CallSecret => s.1) (fun s => (⟨s.2.name.value, boolOf s.2.required⟩ : CallMeta.Secret))]
  · rw [List.nil_append, List.map_map, List.map_map, ← secEntries_eq n hs.sane hkind]
    apply List.map_congr_left
    intro q hq
    simp only [Function.comp]
    obtain ⟨h1, h2⟩ := callSecret_read cfg (mkKV cfg false q) (hs.2 q hq).2 (hnp q hq) (hclean _ (List.mem_map.2 ⟨q, hq, rfl⟩))
    rw [h1, h2]
    rfl
  · simp only [List.map_nil, List.nil_append, List.map_map]
    have : ((fun s : String × CallSecret => s.1) ∘ (fun kv => (kv.id, (callSecret cfg kv).1)) ∘ mkKV cfg false) = ((·.id) ∘ mkKV cfg false) := rfl
    rw [this, ← List.map_map]
    exact hnd

theorem outputs_read (cfg : Cfg) (n : Node) (hs : Sane n)
    (hm : (parseSectionMapping cfg "outputs" n true false).2 = []) :
    (mapKVs (callOutput cfg) (parseSectionMapping cfg "outputs" n true false).1).1.foldl
        (fun m o => put m o.1 o.2.name.value) [] =
      (secEntries n).map fun q => (cfg.lower q.1.value, q.1.value) := by
  simp only [parseSectionMapping] at hm ⊢
  obtain ⟨hkind, heq, hnd, _, _⟩ := parseMapping_clean_eq cfg _ n true false hm
  rw [heq]
  rw [mapKVs_fst]
  rw [foldl_put_distinct (fun s : String × CallOutput => s.1) (fun s => s.2.name.value)]
  · rw [List.nil_append, List.map_map, List.map_map, ← secEntries_eq n hs hkind]
    apply List.map_congr_left
    intro q _
    simp only [Function.comp]
    rw [output_entry]
    rfl
  · simp only [List.map_nil, List.nil_append, List.map_map]
    have : ((fun s : String × CallOutput => s.1) ∘ (fun kv => (kv.id, (callOutput cfg kv).1)) ∘ mkKV cfg false) = ((·.id) ∘ mkKV cfg false) := rfl
    rw [this, ← List.map_map]
    exact hnd

end AL.C14D
