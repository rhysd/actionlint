import AL.Model.Lexer
import AL.Lemmas.Scan
/-
  Scanner / lexer-state invariants for the lexer model.
  The scanner is seen through `Scanner.unread` (AL/Lemmas/Scan.lean), the characters it can still deliver.

  * `SInv src s pre`  : the scanner `s` runs over `src`, `pre` are the characters already consumed;
                        `srcPos` = bytes of all characters read (look-ahead included),
                        `pos.off = srcPos - lastCharLen` = bytes of `pre`; for a one-line ASCII source
                        (`Flat`) `line = 1` and `column` = characters read.
  * `LInv src done st`: lexer state: `src = done ++ st.buf ++ unread`, `start` is the position after `done`.
  * `Steps st x st'`  : `st'` is reached from `st` by `x.length` successful `Next()` calls which delivered `x`.
  * `adv st n`        : the state after `n` calls of `Next()`; `Steps` as a function (`adv_spec`), and what the
                        scanner loops compute (`eatWhile_adv`).
-/
namespace AL.Lex
open AL

/-! ### what `scanErrs`, `error`, `next` leave alone; `next` and `peek` in terms of `unread` -/

@[simp] theorem scanErrs_buf (st : LexState) (es : List ScanErr) : (st.scanErrs es).buf = st.buf := by
  induction es generalizing st with
  | nil => rfl
  | cons e es ih => simp only [LexState.scanErrs]; rw [ih]; split <;> rfl

@[simp] theorem scanErrs_start (st : LexState) (es : List ScanErr) : (st.scanErrs es).start = st.start := by
  induction es generalizing st with
  | nil => rfl
  | cons e es ih => simp only [LexState.scanErrs]; rw [ih]; split <;> rfl

theorem scanErrs_err_none {st : LexState} {es : List ScanErr} (h : (st.scanErrs es).err = none) : st.err = none := by
  induction es generalizing st with
  | nil => exact h
  | cons e es ih =>
    simp only [LexState.scanErrs] at h
    have := ih h
    cases hst : st.err with
    | none => rfl
    | some e' => simp [hst] at this

theorem scanErrs_err_some {st : LexState} {es : List ScanErr} {e : LexErr} (h : st.err = some e) :
    (st.scanErrs es).err = some e := by
  induction es generalizing st with
  | nil => exact h
  | cons e' es ih =>
    simp only [LexState.scanErrs]
    apply ih
    split
    · exact h
    · rename_i h'; rw [h] at h'; cases h'

@[simp] theorem error_buf (st : LexState) (m : LexMsg) : (st.error m).buf = st.buf := by
  unfold LexState.error; split <;> rfl

@[simp] theorem error_start (st : LexState) (m : LexMsg) : (st.error m).start = st.start := by
  unfold LexState.error; split <;> rfl

theorem error_err_ne_none (st : LexState) (m : LexMsg) : (st.error m).err ≠ none := by
  unfold LexState.error; split
  · rename_i h; simp [h]
  · simp

theorem next_none {st : LexState} (h : st.scan.ch = none) : st.next = st := by
  unfold LexState.next
  rw [Scanner.next_of_none h]
  rfl

theorem next_some {st : LexState} {c : Sym} (h : st.scan.ch = some c) :
    st.next = ({ st with scan := st.scan.read.1, buf := st.buf ++ [c] } : LexState).scanErrs st.scan.read.2 := by
  unfold LexState.next
  rw [Scanner.next_of_some h]

theorem next_buf_some {st : LexState} {c : Sym} (h : st.scan.ch = some c) : st.next.buf = st.buf ++ [c] := by
  rw [next_some h]; simp

@[simp] theorem next_start (st : LexState) : st.next.start = st.start := by
  cases h : st.scan.ch with
  | none => rw [next_none h]
  | some c => rw [next_some h]; simp

theorem next_unread_some {st : LexState} {c : Sym} (h : st.scan.ch = some c) :
    st.next.scan.unread = st.scan.rest := by
  rw [LexState.next_scan, Scanner.next_of_some h]; exact Scanner.read_unread _

theorem next_unread (st : LexState) : st.next.scan.unread = st.scan.unread.tail := by
  rw [LexState.next_scan]; exact Scanner.next_unread _

theorem next_err_none {st : LexState} (h : st.next.err = none) : st.err = none := by
  cases hc : st.scan.ch with
  | none => rw [next_none hc] at h; exact h
  | some c => rw [next_some hc] at h; have := scanErrs_err_none h; exact this

theorem peek_some {st : LexState} {r : Nat} (h : st.peek = some r) : ∃ c, st.scan.ch = some c ∧ c.r = r := by
  unfold LexState.peek Scanner.peek at h
  cases hc : st.scan.ch with
  | none => simp [hc] at h
  | some c => exact ⟨c, rfl, by simpa [hc] using h⟩

theorem peek_none {st : LexState} (h : st.peek = none) : st.scan.ch = none := by
  unfold LexState.peek Scanner.peek at h
  cases hc : st.scan.ch with
  | none => rfl
  | some c => simp [hc] at h

/-! ### byte length, one-line ASCII sources -/

def bytes (l : List Sym) : Nat := (l.map (·.w)).sum

@[simp] theorem bytes_nil : bytes [] = 0 := rfl
@[simp] theorem bytes_cons (c : Sym) (l : List Sym) : bytes (c :: l) = c.w + bytes l := by simp [bytes]
@[simp] theorem bytes_append (a b : List Sym) : bytes (a ++ b) = bytes a + bytes b := by simp [bytes]

/-- one-line ASCII source (every character is one byte, no newline, valid UTF-8) -/
def Flat (src : List Sym) : Prop := ∀ s ∈ src, s.w = 1 ∧ s.r ≠ 10 ∧ s.bad = false

theorem Flat.bytes_eq {src : List Sym} (h : Flat src) : bytes src = src.length := by
  induction src with
  | nil => rfl
  | cons c l ih =>
    have h1 := (h c (by simp)).1
    have := ih (fun s hs => h s (by simp [hs]))
    simp [h1, this]; omega

theorem Flat.of_append_left {a b : List Sym} (h : Flat (a ++ b)) : Flat a := fun s hs => h s (by simp [hs])

/-! ### the scanner invariant -/

structure SInv (src : List Sym) (s : Scanner) (pre : List Sym) : Prop where
  split  : src = pre ++ s.unread
  srcPos : s.srcPos = bytes pre + s.lastCharLen
  lcl    : s.lastCharLen = (s.ch.map (·.w)).getD 0
  flat   : Flat src → s.line = 1 ∧ s.lastLineLen = 0 ∧ s.column = (if src = [] then 0 else pre.length + 1)

theorem SInv.read {src : List Sym} {s : Scanner} {pre : List Sym} {c : Sym}
    (h : SInv src s pre) (hc : s.ch = some c) : SInv src s.read.1 (pre ++ [c]) := by
  have hsplit : src = pre ++ c :: s.rest := by simpa [Scanner.unread_of_some hc] using h.split
  have hl : s.lastCharLen = c.w := by simpa [hc] using h.lcl
  obtain ⟨hw, hp⟩ := s.read_width
  refine ⟨by rw [Scanner.read_unread]; simpa using hsplit, ?_, hw, fun hf => ?_⟩
  · rw [hp, h.srcPos, hl, bytes_append, bytes_cons, bytes_nil]; omega
  · obtain ⟨h1, h2, h3⟩ := h.flat hf
    rw [if_neg (by rw [hsplit]; simp)] at h3 ⊢
    -- no line feed is read, and behind `c`, of width 1, even EOF counts as a column
    obtain ⟨n, -, hn1, h'⟩ := s.read_pos
    cases hn1 (.inr (by rw [hl, (hf c (by rw [hsplit]; simp)).1]; nofun))
    obtain ⟨e1, e2, e3⟩ := h'.resolve_right fun ⟨⟨d, r, hr, hd⟩, _⟩ => (hf d (by rw [hsplit, hr]; simp)).2.1 hd
    exact ⟨e1.trans h1, e2.trans h2, by rw [e3, h3, List.length_append]; rfl⟩

theorem pos_off (s : Scanner) : s.pos.off = s.srcPos - s.lastCharLen := by
  unfold Scanner.pos; (repeat' split) <;> rfl

theorem SInv.pos_off {src : List Sym} {s : Scanner} {pre : List Sym} (h : SInv src s pre) :
    s.pos.off = bytes pre := by
  rw [Lex.pos_off, h.srcPos]; omega

theorem SInv.pos_flat {src : List Sym} {s : Scanner} {pre : List Sym} (h : SInv src s pre) (hf : Flat src) :
    s.pos.line = 1 ∧ s.pos.col = pre.length + 1 := by
  obtain ⟨h1, h2, h3⟩ := h.flat hf
  have hs := h.split
  unfold Scanner.pos
  by_cases hsrc : src = []
  · simp only [hsrc, if_true] at h3
    have : pre = [] := by rw [hsrc] at hs; simp at hs; exact hs.1
    simp [h3, h2, this]
  · simp only [hsrc, if_false] at h3
    simp [h3, h1]

/-- the state right after `Init` + loading the first look-ahead character -/
theorem SInv.first (src : List Sym) : SInv src (({ rest := src } : Scanner).read).1 [] := by
  obtain ⟨hw, hp⟩ := ({ rest := src } : Scanner).read_width
  refine ⟨by rw [Scanner.read_unread]; rfl, by simpa using hp, hw, fun hf => ?_⟩
  cases src with
  | nil => exact ⟨rfl, rfl, rfl⟩
  | cons c rest =>
    obtain ⟨n, -, hn1, h'⟩ := ({ rest := c :: rest } : Scanner).read_pos
    cases hn1 (.inl (List.cons_ne_nil _ _))
    rw [if_neg (List.cons_ne_nil _ _)]
    exact h'.resolve_right fun ⟨⟨d, r, hr, hd⟩, _⟩ => (hf d (by cases hr; simp)).2.1 hd

/-! ### the lexer-state invariant -/

structure LInv (src done : List Sym) (st : LexState) : Prop where
  scan      : SInv src st.scan (done ++ st.buf)
  startOff  : st.start.off = bytes done
  startFlat : Flat src → st.start.line = 1 ∧ st.start.col = done.length + 1

theorem LInv.split {src done : List Sym} {st : LexState} (h : LInv src done st) :
    src = done ++ st.buf ++ st.scan.unread := h.scan.split

theorem LInv.scanErrs {src done : List Sym} {st : LexState} (h : LInv src done st) (es : List ScanErr) :
    LInv src done (st.scanErrs es) :=
  ⟨by simpa using h.scan, by simpa using h.startOff, by simpa using h.startFlat⟩

theorem LInv.error {src done : List Sym} {st : LexState} (h : LInv src done st) (m : LexMsg) :
    LInv src done (st.error m) :=
  ⟨by simpa using h.scan, by simpa using h.startOff, by simpa using h.startFlat⟩

theorem LInv.next {src done : List Sym} {st : LexState} (h : LInv src done st) : LInv src done st.next := by
  cases hc : st.scan.ch with
  | none => rw [next_none hc]; exact h
  | some c =>
    rw [next_some hc]
    apply LInv.scanErrs
    refine ⟨?_, h.startOff, h.startFlat⟩
    have := h.scan.read hc
    simpa [List.append_assoc] using this

theorem LInv.token {src done : List Sym} {st : LexState} (h : LInv src done st) (k : TokKind) :
    LInv src (done ++ st.buf) (st.token k).2 := by
  refine ⟨by simpa [LexState.token] using h.scan, ?_, ?_⟩
  · simpa [LexState.token] using h.scan.pos_off
  · intro hf; simpa [LexState.token] using h.scan.pos_flat hf

theorem LInv.init (src : List Sym) : LInv src [] (lexInit src) := by
  have h0 := SInv.first src
  unfold lexInit
  cases src with
  | nil => exact LInv.scanErrs ⟨h0, rfl, fun _ => ⟨rfl, rfl⟩⟩ _
  | cons c r =>
    rw [Scanner.init_cons]
    by_cases hb : (c.r = 0xFEFF && !c.bad) = true
    · simp only [hb, if_true]
      exact LInv.scanErrs ⟨h0.read (Scanner.read_ch _), rfl, fun _ => ⟨rfl, rfl⟩⟩ _
    · simp only [hb]
      exact LInv.scanErrs ⟨h0, rfl, fun _ => ⟨rfl, rfl⟩⟩ _

/-! ### consuming characters -/

inductive Steps : LexState → List Sym → LexState → Prop
  | refl (st : LexState) : Steps st [] st
  | next {st : LexState} {c : Sym} {x : List Sym} {st' : LexState} :
      st.scan.ch = some c → Steps st.next x st' → Steps st (c :: x) st'

theorem Steps.one {st : LexState} {c : Sym} (h : st.scan.ch = some c) : Steps st [c] st.next :=
  .next h (.refl _)

theorem Steps.trans {a b c : LexState} {x y : List Sym} (h1 : Steps a x b) (h2 : Steps b y c) :
    Steps a (x ++ y) c := by
  induction h1 with
  | refl => exact h2
  | next hc _ ih => exact .next hc (ih h2)

theorem Steps.snoc {a b : LexState} {x : List Sym} {c : Sym} (h1 : Steps a x b) (hc : b.scan.ch = some c) :
    Steps a (x ++ [c]) b.next := h1.trans (.one hc)

theorem Steps.buf {a b : LexState} {x : List Sym} (h : Steps a x b) : b.buf = a.buf ++ x := by
  induction h with
  | refl => simp
  | next hc _ ih => rw [ih, next_buf_some hc]; simp

theorem Steps.start {a b : LexState} {x : List Sym} (h : Steps a x b) : b.start = a.start := by
  induction h with
  | refl => rfl
  | next hc _ ih => rw [ih, next_start]

theorem Steps.unread {a b : LexState} {x : List Sym} (h : Steps a x b) : a.scan.unread = x ++ b.scan.unread := by
  induction h with
  | refl => simp
  | @next st c x st' hc _ ih =>
    rw [Scanner.unread_of_some hc, ← next_unread_some hc, ih]; rfl

theorem Steps.err_none {a b : LexState} {x : List Sym} (h : Steps a x b) (hb : b.err = none) : a.err = none := by
  induction h with
  | refl => exact hb
  | next hc _ ih => exact next_err_none (ih hb)

theorem Steps.linv {a b : LexState} {x : List Sym} (h : Steps a x b) {src done : List Sym}
    (hi : LInv src done a) : LInv src done b := by
  induction h with
  | refl => exact hi
  | next hc _ ih => exact ih hi.next

theorem Steps.remaining {a b : LexState} {x : List Sym} (h : Steps a x b) :
    b.scan.remaining + x.length = a.scan.remaining := by
  rw [Scanner.remaining_eq_unread, Scanner.remaining_eq_unread, h.unread]; simp; omega

/-! ### `n` calls of `Next()` -/

theorem ch_of_unread {st : LexState} {c : Sym} {u : List Sym} (h : st.scan.unread = c :: u) :
    st.scan.ch = some c := by
  rw [← Scanner.unread_head, h]; rfl

theorem ch_of_unread_nil {st : LexState} (h : st.scan.unread = []) : st.scan.ch = none :=
  (Scanner.unread_eq_nil _).1 h

theorem next_unread_cons {st : LexState} {c : Sym} {u : List Sym} (h : st.scan.unread = c :: u) :
    st.next.scan.unread = u := by
  rw [next_unread, h]; rfl

/-- `n` calls of `Next()` -/
def adv (st : LexState) : Nat → LexState
  | 0 => st
  | n + 1 => adv st.next n

@[simp] theorem adv_zero (st : LexState) : adv st 0 = st := rfl
theorem adv_succ (st : LexState) (n : Nat) : adv st (n + 1) = adv st.next n := rfl
theorem adv_one (st : LexState) : adv st 1 = st.next := rfl

theorem adv_adv (st : LexState) (a b : Nat) : adv (adv st a) b = adv st (a + b) := by
  induction a generalizing st with
  | zero => simp
  | succ n ih => rw [adv_succ, ih, Nat.add_right_comm, adv_succ]

theorem adv_next (st : LexState) (a : Nat) : (adv st a).next = adv st (a + 1) := by
  rw [← adv_one (adv st a), adv_adv]

/-- `adv` is the functional form of `Steps`: it consumes any prefix of the unread input -/
theorem adv_spec : ∀ (x : List Sym) (st : LexState) (u : List Sym), st.scan.unread = x ++ u →
    Steps st x (adv st x.length) ∧ (adv st x.length).scan.unread = u
  | [], st, u, h => ⟨.refl _, h⟩
  | c :: x, st, u, h => by
    have hc := ch_of_unread h
    have := adv_spec x st.next u (next_unread_cons h)
    exact ⟨.next hc this.1, this.2⟩

/-! ### when `Next()` records no error -/

/-- a character `text/scanner` does not complain about -/
def Clean (d : Sym) : Prop := d.bad = false ∧ d.r ≠ 0

theorem next_err_clean {st : LexState} (he : st.err = none)
    (hc : ∀ d, st.next.scan.ch = some d → Clean d) : st.next.err = none := by
  cases hch : st.scan.ch with
  | none => rw [next_none hch]; exact he
  | some c =>
    rw [next_some hch] at hc ⊢
    rw [(Scanner.read_errs_nil _).2 fun d hd => hc d (by simpa using hd)]
    exact he

theorem mem_of_head?_append {α} {x u : List α} {d : α} (h : (x ++ u).head? = some d) : d ∈ x ++ u.head?.toList := by
  cases x with
  | nil => simpa using h
  | cons e x => simp at h; simp [h]

/-- the same with the unread input spelled out as `c :: x ++ u`: of what lies behind `c`, only the first
character is looked at -/
theorem next_err_clean' {st : LexState} {c : Sym} {x u : List Sym} (h : st.scan.unread = c :: x ++ u)
    (he : st.err = none) (hc : ∀ d ∈ (c :: x ++ u.head?.toList).tail, Clean d) : st.next.err = none := by
  have hu : st.next.scan.unread = x ++ u := next_unread_cons h
  exact next_err_clean he fun d hd => hc d (mem_of_head?_append (by rw [← hu, Scanner.unread_of_some hd]; rfl))

theorem Steps.err_clean {a b : LexState} {x : List Sym} (h : Steps a x b) (he : a.err = none)
    (hc : ∀ d ∈ (x ++ b.scan.unread.head?.toList).tail, Clean d) : b.err = none := by
  induction h with
  | refl => exact he
  | @next st c x st' hch hs ih =>
    have hu : st.scan.unread = c :: x ++ st'.scan.unread := by
      rw [Scanner.unread_of_some hch, ← next_unread_some hch, hs.unread]; rfl
    exact ih (next_err_clean' hu he hc) fun d hd => hc d (List.mem_of_mem_tail hd)

/-! ### `eatWhile`, `skipWhite` -/

theorem eatWhile_adv (p : Nat → Bool) (st : LexState) :
    eatWhile p st = adv st (st.scan.unread.takeWhile (fun c => p c.r)).length := by
  fun_induction eatWhile p st with
  | case1 st h => simp [(Scanner.unread_eq_nil _).2 h]
  | case2 st c h hp ih =>
    rw [ih, next_unread_some h, Scanner.unread_of_some h]
    simp [hp, adv_succ]
  | case3 st c h hp =>
    rw [Scanner.unread_of_some h]
    simp [hp]

theorem eatWhile_spec (p : Nat → Bool) (st : LexState) :
    ∃ x, Steps st x (eatWhile p st) ∧ ∀ c ∈ x, p c.r = true := by
  rw [eatWhile_adv]
  exact ⟨_, (adv_spec _ st _ List.takeWhile_append_dropWhile.symm).1,
    List.all_eq_true.1 List.all_takeWhile⟩

/-- `skipWhite`: the skipped characters are whitespace; if something was skipped the token buffer is reset. -/
theorem skipWhite_spec (st : LexState) :
    ∃ gap, (∀ s ∈ gap, isWhitespace s.r = true) ∧
      st.scan.unread = gap ++ (skipWhite st).scan.unread ∧
      (∀ c, (skipWhite st).scan.unread.head? = some c → isWhitespace c.r = false) ∧
      (gap = [] → skipWhite st = st) ∧ (gap ≠ [] → (skipWhite st).buf = []) ∧
      (∀ src done, LInv src done st →
        LInv src (if gap = [] then done else done ++ st.buf ++ gap) (skipWhite st)) ∧
      (st.err = none → (∀ d ∈ (gap ++ (skipWhite st).scan.unread.head?.toList).tail, Clean d) →
        (skipWhite st).err = none) := by
  fun_induction skipWhite st with
  | case1 st h =>
    refine ⟨[], by simp, by simp, ?_, fun _ => rfl, by simp, by simp, fun he _ => he⟩
    intro c hc; rw [(Scanner.unread_eq_nil _).2 h] at hc; cases hc
  | case2 st c h hw st1 ih =>
    obtain ⟨gap, g1, g2, g3, g5, g6, g7, g8⟩ := ih
    have hu : st.scan.unread = c :: gap ++ (skipWhite { st1 with start := st1.scan.pos, buf := [] }).scan.unread := by
      rw [Scanner.unread_of_some h, List.cons_append, ← g2]; exact congrArg _ (next_unread_some h).symm
    refine ⟨c :: gap, ?_, hu, g3, by simp, ?_, ?_, ?_⟩
    · intro s hs; simp at hs; rcases hs with rfl | hs
      · exact hw
      · exact g1 s hs
    · intro _
      by_cases hg : gap = []
      · rw [g5 hg]
      · exact g6 hg
    · intro src done hi
      simp only [reduceCtorEq, if_false]
      have h1 : LInv src done st1 := hi.next
      have hb : st1.buf = st.buf ++ [c] := next_buf_some h
      have h2 : LInv src (done ++ st.buf ++ [c]) { st1 with start := st1.scan.pos, buf := [] } := by
        refine ⟨?_, ?_, ?_⟩
        · have := h1.scan; rw [hb] at this; simpa [List.append_assoc] using this
        · have := h1.scan.pos_off; rw [hb] at this; simpa [List.append_assoc] using this
        · intro hf; have := h1.scan.pos_flat hf; rw [hb] at this; simpa [List.append_assoc] using this
      have := g7 src _ h2
      by_cases hg : gap = []
      · simpa [hg] using this
      · simpa [hg, List.append_assoc] using this
    · intro he hc
      exact g8 (next_err_clean' hu he hc) fun d hd => hc d (List.mem_of_mem_tail hd)
  | case3 st c h hw =>
    refine ⟨[], by simp, by simp, ?_, fun _ => rfl, by simp, by simp, fun he _ => he⟩
    intro d hd; rw [Scanner.unread_of_some h] at hd; cases hd; simpa using hw

end AL.Lex
