import AL.Lemmas.C08DNorm
/-
  C08 on the parser, section by section: re-spelling the keys of a case-insensitive mapping (`KeyRecased`) gives the same
  section of the AST but for the NAME strings of the entries (same ids, same positions, same values: equal normal forms),
  and diagnostics at the same sites with the same codes (`Sim`). Stated on the parse functions of `AL.PW`.
-/
namespace AL.C08D
open AL.PW AL.Yaml AL.Ast AL.C13P

variable {cfg : Cfg} {f : String → String}

/-! ### what the parse functions read of the node itself is the same -/

theorem KeyRecased.newString {n n' : Node} (h : KeyRecased f n n') : newString n' = newString n := by
  simp only [AL.PW.newString, h.value, h.quoted, h.pos]

theorem KeyRecased.parseExpression {n n' : Node} (h : KeyRecased f n n') (what : String) : parseExpression n' what = parseExpression n what := by
  simp only [AL.PW.parseExpression, h.value, errAt, h.pos, h.newString]

theorem KeyRecased.mayParseExpression {n n' : Node} (h : KeyRecased f n n') : mayParseExpression n' = mayParseExpression n := by
  simp only [AL.PW.mayParseExpression, h.value, h.tag, h.newString]

theorem KeyRecased.isNull {n n' : Node} (h : KeyRecased f n n') : n'.isNull = n.isNull := by
  simp only [Node.isNull, h.kind, h.tag]

theorem sim_append3 {a a' b b' c c' : List PErr} (h1 : SameSites a a') (h2 : SameSites b b') (h3 : SameSites c c') :
    SameSites (a ++ b ++ c) (a' ++ b' ++ c') := (h1.append h2).append h3

/-- what `parseMapping` hands out for the two nodes is alike; a section parser goes on with `Sim.seq` from here -/
theorem KeyRecased.parseMapping {n n' : Node} (h : KeyRecased f n n') (hf : ∀ a b, f a = f b → cfg.lower a = cfg.lower b)
    (what : String) (ae : Bool) :
    Sim (List.map (nKV f)) (AL.PW.parseMapping cfg what n ae false) (AL.PW.parseMapping cfg what n' ae false) :=
  parseMapping_alike cfg f hf what what n n' ae h

/-! ### `env:` -/

/-- **`env:`** (of the workflow, a job, a step, a container, a service) -/
theorem parseEnv_recase (hf : ∀ a b, f a = f b → cfg.lower a = cfg.lower b) {n n' : Node} (h : KeyRecased f n n') :
    Sim (nEnv f) (parseEnv cfg n) (parseEnv cfg n') := by
  simp only [parseEnv, h.kind, h.parseExpression]
  split
  · exact ⟨rfl, rfl⟩
  · exact (h.parseMapping hf "env" false).seq fun kvs kvs' hk =>
      (mapKVs_sim f _ _ (nEnvVar f) (fun kv kv' hk => named_sim f (fun k x => (⟨k, x⟩ : EnvVar)) (fun n => parseString n true)
        (nEnvVar f) (fun k k' x hx => by simp only [nEnvVar, hx]) hk) kvs kvs' hk).map (nEnv f) (fun x => ⟨some x, none⟩)
        fun x y e => by simp only [nEnv, Option.map_some, e]

/-! ### `with:` of a step -/

theorem withLoop_sim (F : Folds) : ∀ (kvs kvs' : List KV) (e e' : ExecAction), kvs.map (nKV F.input) = kvs'.map (nKV F.input) →
    nAct F e = nAct F e' → Sim (nAct F) (loop withKey e kvs) (loop withKey e' kvs') := by
  apply loop_sim F.input withKey withKey (nAct F)
  intro s s' kv kv' hs hk
  obtain ⟨hk1, hk2, hk3⟩ := nKV_eq hk
  obtain ⟨u, i, ep, a⟩ := s
  obtain ⟨u', i', ep', a'⟩ := s'
  simp only [nAct, ExecAction.mk.injEq] at hs
  obtain ⟨rfl, hi, rfl, rfl⟩ := hs
  simp -iota only [withKey, hk1, hk3]
  split
  · exact ⟨by simp only [nAct, hi], rfl⟩
  · exact ⟨by simp only [nAct, hi], rfl⟩
  · refine ⟨?_, rfl⟩
    simp only [nAct, Option.map_some, ExecAction.mk.injEq, true_and, and_true, Option.some.injEq, nAssoc_append, nAssoc_cons, nAssoc_nil,
      nInput, hk2]
    congr 1
    cases i <;> cases i' <;> simp_all

/-- **`with:` of a step**, as `parseStep` reads it -/
theorem stepWith_recase (F : Folds) (hf : ∀ a b, F.input a = F.input b → cfg.lower a = cfg.lower b) {n n' : Node} (h : KeyRecased F.input n n')
    (e0 : ExecAction) :
    Sim (nAct F)
      (let m := parseSectionMapping cfg "with" n false false; let r := loop withKey { e0 with inputs := some [] } m.1; (r.1, m.2 ++ r.2))
      (let m := parseSectionMapping cfg "with" n' false false; let r := loop withKey { e0 with inputs := some [] } m.1; (r.1, m.2 ++ r.2)) :=
  (h.parseMapping hf _ false).seq fun kvs kvs' hk => withLoop_sim F kvs kvs' _ _ hk rfl

/-! ### `with:` / `secrets:` of a job that calls a reusable workflow -/

theorem callArgs_sim (f : String → String) (kvs kvs' : List KV) (h : kvs.map (nKV f) = kvs'.map (nKV f)) :
    Sim (nAssoc (nArg f)) (callArgs kvs) (callArgs kvs') :=
  mapKVs_sim f _ _ (nArg f) (fun kv kv' hk => named_sim f (fun k x => (⟨k, x⟩ : CallArg)) (fun n => parseString n true) (nArg f)
    (fun k k' x hx => by simp only [nArg, hx]) hk) kvs kvs' h

/-- **`with:` / `secrets:` of a call**, as `parseJob` reads them (`sec` is "with" or "secrets") -/
theorem callArgs_recase (hf : ∀ a b, f a = f b → cfg.lower a = cfg.lower b) (sec : String) {n n' : Node} (h : KeyRecased f n n') :
    Sim (nAssoc (nArg f))
      (let m := parseSectionMapping cfg sec n false false; let r := callArgs m.1; (r.1, m.2 ++ r.2))
      (let m := parseSectionMapping cfg sec n' false false; let r := callArgs m.1; (r.1, m.2 ++ r.2)) :=
  (h.parseMapping hf _ false).seq (callArgs_sim f)

/-! ### `outputs:` of a job -/

theorem nAssoc_length {β β' : Type} (N : β → β') (l : List (String × β)) : (nAssoc N l).length = l.length := by simp [nAssoc]

theorem parseOutputs_recase (hf : ∀ a b, f a = f b → cfg.lower a = cfg.lower b) {n n' : Node} (h : KeyRecased f n n') :
    Sim (nAssoc (nOutput f)) (parseOutputs cfg n) (parseOutputs cfg n') := by
  obtain ⟨i1, i2⟩ := h.parseMapping (cfg := cfg) hf (sectionWhat "outputs") false
  obtain ⟨j1, j2⟩ := mapKVs_sim f _ _ (nOutput f) (fun kv kv' hk =>
    named_sim f (fun k x => (⟨k, x⟩ : Output)) (fun n => parseString n true) (nOutput f)
      (fun k k' x hx => by simp only [nOutput, hx]) hk) _ _ i1
  have hl := congrArg List.length j1
  simp only [nAssoc_length] at hl
  simp only [parseOutputs, parseSectionMapping, checkNotEmpty, errAt, h.pos, hl]
  refine ⟨j1, sim_append3 i2 j2 ?_⟩
  split
  · exact SameSites.one _ _ _ _
  · rfl

/-! ### `services:` -/

theorem parseServices_recase (F : Folds) (hf : ∀ a b, F.service a = F.service b → cfg.lower a = cfg.lower b) {n n' : Node}
    (h : KeyRecased F.service n n') : Sim (nServices F) (parseServices cfg n) (parseServices cfg n') := by
  simp only [parseServices, h.mayParseExpression, h.pos]
  split
  · exact ⟨rfl, rfl⟩
  · exact (h.parseMapping hf _ false).seq fun kvs kvs' hk =>
      (mapKVs_sim F.service _ _ (nService F) (fun kv kv' hk => by
        obtain ⟨_, hk2, hk3⟩ := nKV_eq hk
        simp only [hk3, (nStr_eq hk2).2.2]
        exact ⟨by simp only [nService, hk2], rfl⟩) kvs kvs' hk).map (nServices F) (fun x => ⟨some x, none, n.pos⟩)
        fun x y e => by simp only [nServices, Option.map_some, e]

/-! ### `matrix:` -/

theorem nAssoc_setAssoc {β β' : Type} (N : β → β') (k : String) (v : β) : ∀ (l : List (String × β)),
    nAssoc N (setAssoc k v l) = setAssoc k (N v) (nAssoc N l)
  | [] => rfl
  | (k', v') :: rest => by
    simp only [setAssoc, nAssoc_cons]
    split
    · rfl
    · simp only [nAssoc_cons, nAssoc_setAssoc N k v rest]

theorem matrixLoop_sim (f : String → String) : ∀ (kvs kvs' : List KV) (m m' : Matrix), kvs.map (nKV f) = kvs'.map (nKV f) →
    nMatrix f m = nMatrix f m' → Sim (nMatrix f) (loop (matrixKey cfg) m kvs) (loop (matrixKey cfg) m' kvs') := by
  apply loop_sim f (matrixKey cfg) (matrixKey cfg) (nMatrix f)
  intro s s' kv kv' hs hk
  obtain ⟨hk1, hk2, hk3⟩ := nKV_eq hk
  obtain ⟨r, i, x, e, p⟩ := s
  obtain ⟨r', i', x', e', p'⟩ := s'
  simp only [nMatrix, Matrix.mk.injEq] at hs
  obtain ⟨hr, hi, hx, rfl, rfl⟩ := hs
  have hrows : nAssoc (nRow f) (r.getD []) = nAssoc (nRow f) (r'.getD []) := by
    cases r <;> cases r' <;> simp_all
  simp -iota only [matrixKey, hk1, hk3]
  split
  · exact ⟨by simp only [nMatrix, hr, hx], rfl⟩
  · exact ⟨by simp only [nMatrix, hr, hi], rfl⟩
  · split
    · refine ⟨?_, rfl⟩
      simp only [nMatrix, Option.map_some, hi, hx, nAssoc_setAssoc, hrows]
    · split
      · exact ⟨by simp only [nMatrix, hr, hi, hx], rfl⟩
      · refine ⟨?_, rfl⟩
        simp only [nMatrix, Option.map_some, hi, hx, nAssoc_setAssoc, hrows, nRow, hk2]

/-- **`matrix:`**: the names of the rows -/
theorem parseMatrix_recase (hf : ∀ a b, f a = f b → cfg.lower a = cfg.lower b) (pos : Yaml.Pos) {n n' : Node} (h : KeyRecased f n n') :
    Sim (nMatrix f) (parseMatrix cfg pos n) (parseMatrix cfg pos n') := by
  simp only [parseMatrix, h.kind, h.parseExpression, h.pos]
  split
  · exact ⟨rfl, rfl⟩
  · exact (h.parseMapping hf _ false).seq fun kvs kvs' hk => matrixLoop_sim f kvs kvs' _ _ hk rfl

theorem matrixAssigns_sim (f : String → String) : ∀ (kvs kvs' : List KV), kvs.map (nKV f) = kvs'.map (nKV f) →
    Sim (nAssoc (nAssign f)) (matrixAssigns cfg kvs) (matrixAssigns cfg kvs')
  | [], [], _ => ⟨rfl, rfl⟩
  | [], _ :: _, h => by simp at h
  | _ :: _, [], h => by simp at h
  | kv :: rest, kv' :: rest', h => by
    simp only [List.map_cons, List.cons.injEq] at h
    obtain ⟨h1, h2⟩ := h
    obtain ⟨hk1, hk2, hk3⟩ := nKV_eq h1
    obtain ⟨i1, i2⟩ := matrixAssigns_sim f rest rest' h2
    simp only [matrixAssigns, hk1, hk3]
    refine ⟨?_, SameSites.rfl'.append i2⟩
    cases (rawValue cfg kv'.val).1 with
    | none => exact i1
    | some x =>
      simp only [nAssoc_cons, nAssign, hk2, i1]

/-- **an element of `include:` / `exclude:`**: the keys of one combination -/
theorem matrixCombos_recase (hf : ∀ a b, f a = f b → cfg.lower a = cfg.lower b) (sec : String) {c c' : Node} (h : KeyRecased f c c')
    (b : List Node) : ∀ a : List Node,
      Sim (List.map (nCombo f)) (matrixCombos cfg sec (a ++ c :: b)) (matrixCombos cfg sec (a ++ c' :: b)) := by
  intro a
  have hc : Sim (Option.map (nCombo f)) (C13D3.matrixCombo cfg sec c) (C13D3.matrixCombo cfg sec c') := by
    simp only [C13D3.matrixCombo, h.kind, h.parseExpression]
    split
    · exact ⟨rfl, rfl⟩
    · exact (h.parseMapping hf _ false).seq fun kvs kvs' hk =>
        (matrixAssigns_sim f kvs kvs' hk).map (Option.map (nCombo f)) (fun x => some ⟨some x, none⟩)
          fun x y e => by simp only [Option.map_some, nCombo, e]
  -- the two lists differ at one element, whose results are alike (`hc`)
  rw [matrixCombos_filterMapR, filterMapR_at, filterMapR_at]
  exact Sim.seq_right _ (Sim.seq hc fun y y' hy => Sim.seq_right _
    ⟨by simp only [List.map_append, ← Option.toList_map, hy], rfl⟩)

/-! ### `on.workflow_call`, `on.workflow_dispatch` -/

theorem callInput_sim (f : String → String) {kv kv' : KV} (hk : nKV f kv = nKV f kv') :
    Sim (nCallInput f) (callInput cfg kv) (callInput cfg kv') := by
  obtain ⟨hk1, hk2, hk3⟩ := nKV_eq hk
  have hp := (nStr_eq hk2).2.2
  obtain ⟨j1, j2⟩ := loop_frame callInputAttr callInputAttr (fun st : CallInput × Bool => (nCallInput f st.1, st.2))
    (fun s s' a hs => by
      obtain ⟨⟨n, d, df, r, t, i⟩, b⟩ := s
      obtain ⟨⟨n', d', df', r', t', i'⟩, b'⟩ := s'
      simp only [nCallInput, Prod.mk.injEq, CallInput.mk.injEq] at hs
      obtain ⟨⟨hn, rfl, rfl, rfl, rfl, rfl⟩, rfl⟩ := hs
      simp -iota only [callInputAttr]
      split
      · exact ⟨by simp only [nCallInput, hn], rfl⟩
      · exact ⟨by simp only [nCallInput, hn], rfl⟩
      · split
        · exact ⟨by simp only [nCallInput, hn], rfl⟩
        · exact ⟨by simp only [nCallInput, hn], rfl⟩
      · split <;> exact ⟨by simp only [nCallInput, hn], rfl⟩
      · exact ⟨by simp only [nCallInput, hn], rfl⟩)
    (parseMapping cfg "input of workflow_call event" kv.val true true).1
    ({ name := kv.key, id := kv.id }, false) ({ name := kv'.key, id := kv'.id }, false)
    (by simp only [nCallInput, hk1, hk2])
  simp only [Prod.mk.injEq] at j1
  simp only [callInput, ← hk3, hp]
  refine ⟨j1.1, sim_append3 SameSites.rfl' j2 ?_⟩
  rw [j1.2]
  split
  · exact SameSites.one _ _ _ _
  · rfl

theorem callInputs_sim (f : String → String) : ∀ (kvs kvs' : List KV), kvs.map (nKV f) = kvs'.map (nKV f) →
    Sim (List.map (nCallInput f)) (callInputs cfg kvs) (callInputs cfg kvs') := by
  rw [callInputs_mapR]
  exact mapR_sim (nKV f) _ _ (nCallInput f) fun _ _ hk => callInput_sim f hk

theorem callSecret_sim (f : String → String) {kv kv' : KV} (hk : nKV f kv = nKV f kv') :
    Sim (nCallSecret f) (callSecret cfg kv) (callSecret cfg kv') := by
  obtain ⟨hk1, hk2, hk3⟩ := nKV_eq hk
  simp only [callSecret, ← hk3]
  exact Sim.seq_right _ (loop_frame callSecretAttr callSecretAttr (nCallSecret f)
    (fun s s' a hs => by
      obtain ⟨n, d, r⟩ := s
      obtain ⟨n', d', r'⟩ := s'
      simp only [nCallSecret, CallSecret.mk.injEq] at hs
      obtain ⟨hn, rfl, rfl⟩ := hs
      simp -iota only [callSecretAttr]
      split <;> exact ⟨by simp only [nCallSecret, hn], rfl⟩)
    _ { name := kv.key } { name := kv'.key } (by simp only [nCallSecret, hk2]))

theorem callOutput_sim (f : String → String) {kv kv' : KV} (hk : nKV f kv = nKV f kv') :
    Sim (nCallOutput f) (callOutput cfg kv) (callOutput cfg kv') := by
  obtain ⟨hk1, hk2, hk3⟩ := nKV_eq hk
  have hp := (nStr_eq hk2).2.2
  obtain ⟨j1, j2⟩ := loop_frame callOutputAttr callOutputAttr (nCallOutput f)
    (fun s s' a hs => by
      obtain ⟨n, d, r⟩ := s
      obtain ⟨n', d', r'⟩ := s'
      simp only [nCallOutput, CallOutput.mk.injEq] at hs
      obtain ⟨hn, rfl, rfl⟩ := hs
      simp -iota only [callOutputAttr]
      split <;> exact ⟨by simp only [nCallOutput, hn], rfl⟩)
    (parseMapping cfg "output of workflow_call event" kv.val true true).1
    { name := kv.key } { name := kv'.key } (by simp only [nCallOutput, hk2])
  have hv := congrArg CallOutput.value j1
  simp only [nCallOutput] at hv
  simp only [callOutput, ← hk3, hp]
  refine ⟨j1, sim_append3 SameSites.rfl' j2 ?_⟩
  rw [hv]
  split
  · exact SameSites.one _ _ _ _
  · rfl

/-- the state of the loop of `parseWorkflowCallEvent`, normalised -/
def nCallEventSt (f : String → String) (st : CallEventSt) : CallEventSt :=
  ⟨st.inputs.map (List.map (nCallInput f)), st.secrets.map (nAssoc (nCallSecret f)), st.outputs.map (nAssoc (nCallOutput f))⟩

/-- **`inputs:` / `secrets:` / `outputs:` of `workflow_call`**, as the loop of `parseWorkflowCallEvent` reads them -/
theorem callEventKey_recase (hf : ∀ a b, f a = f b → cfg.lower a = cfg.lower b) (st : CallEventSt) (id : String) (k : Str) {n n' : Node}
    (h : KeyRecased f n n') : Sim (nCallEventSt f) (callEventKey cfg st ⟨id, k, n⟩) (callEventKey cfg st ⟨id, k, n'⟩) := by
  simp -iota only [callEventKey]
  split
  · exact (h.parseMapping hf _ true).seq fun kvs kvs' hk =>
      (callInputs_sim f kvs kvs' hk).map (nCallEventSt f) (fun x => { st with inputs := some x })
        fun x y e => by simp only [nCallEventSt, Option.map_some, e]
  · exact (h.parseMapping hf _ true).seq fun kvs kvs' hk =>
      (mapKVs_sim f _ _ (nCallSecret f) (fun _ _ hk => callSecret_sim f hk) kvs kvs' hk).map (nCallEventSt f)
        (fun x => { st with secrets := some x }) fun x y e => by simp only [nCallEventSt, Option.map_some, e]
  · exact (h.parseMapping hf _ true).seq fun kvs kvs' hk =>
      (mapKVs_sim f _ _ (nCallOutput f) (fun _ _ hk => callOutput_sim f hk) kvs kvs' hk).map (nCallEventSt f)
        (fun x => { st with outputs := some x }) fun x y e => by simp only [nCallEventSt, Option.map_some, e]
  · exact ⟨rfl, rfl⟩

theorem dispatchInput_sim (f : String → String) {kv kv' : KV} (hk : nKV f kv = nKV f kv') :
    Sim (nDispatchInput f) (dispatchInput cfg kv) (dispatchInput cfg kv') := by
  obtain ⟨hk1, hk2, hk3⟩ := nKV_eq hk
  simp only [dispatchInput, ← hk3]
  exact ⟨by simp only [nDispatchInput, hk2], rfl⟩

/-- **`inputs:` of `workflow_dispatch`**, as the loop of `parseWorkflowDispatchEvent` reads it -/
theorem dispatchInputs_recase (hf : ∀ a b, f a = f b → cfg.lower a = cfg.lower b) (st : Option (List (String × DispatchInput))) (k : Str)
    {n n' : Node} (h : KeyRecased f n n') :
    Sim (Option.map (nAssoc (nDispatchInput f))) (dispatchStep cfg st ⟨"inputs", k, n⟩) (dispatchStep cfg st ⟨"inputs", k, n'⟩) := by
  simp only [dispatchStep, ne_eq, not_true_eq_false, if_false]
  exact (h.parseMapping hf _ true).seq fun kvs kvs' hk =>
    (mapKVs_sim f _ _ (nDispatchInput f) (fun _ _ hk => dispatchInput_sim f hk) kvs kvs' hk).map (Option.map _) some
      fun x y e => by simp only [Option.map_some, e]

end AL.C08D
