import AL.Lemmas.GlobBasic
import AL.Spec.GlobSyntax
/-
  The validator state relative to the pattern (`GInv`). While the scanner is on line 1 its `column` equals the
  number of characters read (look-ahead included; one more once EOF has been read), hence every reported column
  is inside the pattern and points at the character returned by the most recent `Next`. As long as nothing is
  reported, every character read is free of NUL and invalid UTF-8.
-/
namespace AL.Glob
open AL AL.Spec

/-- Every character has a positive byte width (true for decoded UTF-8). -/
def PosW (src : List Sym) : Prop := ∀ c ∈ src, 0 < c.w

/-- Position bookkeeping when `k` characters have been read and the last read was a character: on line 1
`column` counts them, and just after the first line break `lastLineLen` does. Everywhere else `errCol` is 0. -/
def PosA (k : Nat) (s : Scanner) : Prop :=
  1 ≤ s.line ∧ (s.line = 1 → s.column = k) ∧ (s.line = 2 → s.column = 0 → s.lastLineLen = k)

/-- Scanner invariant relative to the source it was initialised with; `del` are the characters delivered so far
(the look-ahead is read, not delivered). `k + 1` characters have been read as far as `column` knows: that is
`del.length + 1`, except that reading EOF after a character of width 0 (excluded by `PosW`) does not advance.
(`Lex.SInv src s pre` of LexerInv.lean is the lexer's counterpart: other argument order, byte offsets and one-line
columns instead of `PosA`.) -/
def SInv (src del : List Sym) (s : Scanner) : Prop :=
  src = del ++ pending s ∧ ∃ k, PosA (k + 1) s ∧ k ≤ del.length ∧ (PosW src → k = del.length) ∧
    ∀ c, s.ch = some c → s.lastCharLen = c.w ∧ k = del.length

theorem errCol_posA {k : Nat} {s : Scanner} (h : PosA (k + 1) s) : errCol s = 0 ∨ errCol s = k := by
  obtain ⟨h1, h2, h3⟩ := h
  have e : errCol s = if s.column > 0 then (if s.line > 1 then 0 else s.column - 1)
      else if s.lastLineLen > 0 then (if s.line - 1 > 1 then 0 else s.lastLineLen - 1) else 0 := by
    unfold errCol Scanner.pos
    simp only []
    (repeat' split) <;> rfl
  rw [e]
  split
  · split
    · exact .inl rfl
    · exact .inr (by rw [h2 (by omega)]; rfl)
  · split
    · split
      · exact .inl rfl
      · have hl : s.line = 2 := by omega
        exact .inr (by rw [h3 hl (by omega)]; rfl)
    · exact .inl rfl

/-- A `read` counts the character it installs; what `read_pos` says, for `PosA`. -/
theorem read_posA {k : Nat} (s : Scanner) (h : PosA k s) :
    ∃ n ≤ 1, (s.rest ≠ [] ∨ s.lastCharLen ≠ 0 → n = 1) ∧ PosA (k + n) s.read.1 := by
  obtain ⟨n, hn, hn1, h'⟩ := s.read_pos
  obtain ⟨h1, h2, h3⟩ := h
  refine ⟨n, hn, hn1, ?_⟩
  obtain ⟨e1, e2, e3⟩ | ⟨⟨d, r, hr, -⟩, e1, e2, e3⟩ := h'
  · refine ⟨e1 ▸ h1, fun hl => ?_, fun hl hc => ?_⟩
    · rw [e3, h2 (e1 ▸ hl)]
    · have := h3 (e1 ▸ hl) (by omega)
      omega
  · cases hn1 (.inl (by rw [hr]; nofun))
    refine ⟨by omega, fun hl => by omega, fun hl _ => ?_⟩
    have := h2 (by omega)
    omega

theorem allOk_snoc {pre : List Sym} {d : Sym} (h : AllOk pre) (hd : OkSym d) : AllOk (pre ++ [d]) := by
  intro x hx
  rcases List.mem_append.1 hx with hx | hx
  · exact h x hx
  · cases List.mem_singleton.1 hx; exact hd

/-- `errCol` is 0 or the number of characters delivered. -/
theorem SInv.errCol {src del : List Sym} {s : Scanner} (h : SInv src del s) :
    errCol s ≤ src.length ∧ (PosW src → errCol s ≠ 0 → errCol s = del.length) := by
  obtain ⟨hsrc, k, hp, hk, hW, _⟩ := h
  have := errCol_posA hp
  have hlen : src.length = del.length + (pending s).length := by rw [hsrc, List.length_append]
  exact ⟨by omega, fun hw h0 => by rw [← hW hw]; exact this.resolve_left h0⟩

/-- The `read` by which `Next` delivers the look-ahead `c`. -/
theorem read_SInv {src del : List Sym} (s : Scanner) (c : Sym) (h : SInv src del s) (hc : s.ch = some c) :
    SInv src (del ++ [c]) s.read.1 := by
  obtain ⟨hsrc, k, hp, _, _, hch⟩ := h
  obtain ⟨hw, rfl⟩ := hch c hc
  obtain ⟨n, hn, hn1, hA⟩ := read_posA s hp
  have hl : (del ++ [c]).length = del.length + 1 := List.length_append
  rw [Nat.add_right_comm] at hA
  refine ⟨?_, del.length + n, hA, by omega, fun hW => ?_, fun d hd => ?_⟩
  · rw [hsrc, show pending s.read.1 = s.rest from s.read_unread]
    simp [pending, hc]
  · have : 0 < c.w := hW c (by rw [hsrc]; simp [pending, hc])
    rw [hn1 (.inr (by omega)), hl]
  · have hne : s.rest ≠ [] := fun h0 => by rw [Scanner.read_ch, h0] at hd; cases hd
    rw [hn1 (.inl hne), hl]
    exact ⟨by simpa [hd] using s.read_width.1, rfl⟩

/-- The character a message names, if any. -/
def namedChar : GMsg → Option Nat
  | .unexpected (some ch) _ _ => some ch
  | .invalidRef (some ch) _ => some ch
  | _ => none

/-- A report is well placed: its column is inside the pattern and, if it is not the fallback 0, the
character the message names is the character at that column. -/
def Good (src : List Sym) (e : GErr) : Prop :=
  e.col ≤ src.length ∧
  ∀ ch, namedChar e.msg = some ch → PosW src → e.col ≠ 0 → (src[e.col - 1]?).map (·.r) = some ch

/-- A scanner error is reported at the position of the scanner that has just read the character, so it is well placed
as soon as that scanner is. -/
theorem good_of_read {src del : List Sym} {s : Scanner} (h : SInv src del s.read.1) :
    ∀ e ∈ scanErrs s.read.2, Good src e := by
  intro e he
  obtain ⟨e0, h0, rfl⟩ := List.mem_map.1 he
  refine ⟨?_, nofun⟩
  rw [s.read_errs_pos e0 h0]
  exact h.errCol.1

/-- Validator-state invariant, relative to the pattern: the scanner has delivered `del` with consistent positions,
every report so far is well placed, and as long as there is no report every character read is fine. -/
def GInv (src : List Sym) (st : GState) : Prop :=
  ∃ del, SInv src del st.scan ∧ (∀ e ∈ st.errs, Good src e) ∧
    (st.errs = [] → AllOk del ∧ ∀ c, st.scan.ch = some c → OkSym c)

theorem init_GInv (c : Sym) (t : List Sym) : GInv (c :: t) (start (c :: t)) := by
  have hS1 : SInv (c :: t) [] ({ rest := c :: t } : Scanner).read.1 := by
    obtain ⟨n, -, hn1, hA⟩ := read_posA (k := 0) { rest := c :: t } ⟨Nat.le_refl _, fun _ => rfl, fun h => by cases h⟩
    rw [hn1 (.inl (List.cons_ne_nil _ _))] at hA
    exact ⟨(Scanner.read_unread { rest := c :: t }).symm, 0, hA, Nat.le_refl _, fun _ => rfl, fun d hd =>
      ⟨by simpa [hd] using (Scanner.read_width { rest := c :: t }).1, rfl⟩⟩
  unfold start
  rw [Scanner.init_cons]
  split
  · -- the byte-order mark is delivered by a second `read`, and is itself a character the scanner accepts
    rename_i hb
    simp only [Bool.and_eq_true, decide_eq_true_eq, Bool.not_eq_true'] at hb
    have hS2 := read_SInv _ c hS1 (Scanner.advance_ch ..)
    exact ⟨_, hS2, good_of_read hS2, fun he =>
      ⟨allOk_snoc nofun ⟨hb.2, by omega⟩, (Scanner.read_errs_nil _).1 (List.map_eq_nil_iff.1 he)⟩⟩
  · exact ⟨[], hS1, good_of_read hS1, fun he => ⟨nofun, (Scanner.read_errs_nil _).1 (List.map_eq_nil_iff.1 he)⟩⟩

theorem GInv.next {src : List Sym} {st : GState} (h : GInv src st) : GInv src st.next.2 := by
  cases hc : st.scan.ch with
  | none => rw [GState.next_eof hc]; exact h
  | some c =>
    obtain ⟨del, hS, hG, hO⟩ := h
    have h1 := read_SInv st.scan c hS hc
    unfold GState.next
    rw [Scanner.next_of_some hc]
    refine ⟨_, h1, List.forall_mem_append.2 ⟨hG, good_of_read h1⟩, fun he => ?_⟩
    obtain ⟨he1, he2⟩ := List.append_eq_nil_iff.1 he
    exact ⟨allOk_snoc (hO he1).1 ((hO he1).2 c hc), (Scanner.read_errs_nil _).1 (List.map_eq_nil_iff.1 he2)⟩

theorem GInv.last_none {src : List Sym} {st : GState} (h : GInv src st) : Last src none st :=
  let ⟨del, hS, _⟩ := h
  ⟨del, hS.1, nofun⟩

/-- A report that names the character delivered last (or none) keeps the invariant: unless `errCol` is 0, it is the
number of characters delivered, that is the column of the last of them. -/
theorem GInv.error {src : List Sym} {st : GState} (h : GInv src st) (m : GMsg) (hl : Last src (namedChar m) st) :
    GInv src (st.error m) := by
  obtain ⟨del, hS, hG, _⟩ := h
  refine ⟨del, hS, List.forall_mem_append.2 ⟨hG, fun e he => ?_⟩, fun he => absurd he (GState.error_errs_ne_nil _ _)⟩
  cases List.mem_singleton.1 he
  refine ⟨hS.errCol.1, fun ch hn hW h0 => ?_⟩
  obtain ⟨del', hdel, hx⟩ := hl
  cases (List.append_left_inj (gp st)).1 (hdel.symm.trans hS.1)
  have hcol : errCol st.scan = del.length := hS.errCol.2 hW h0
  change (src[errCol st.scan - 1]?).map (·.r) = some ch
  rw [hcol] at h0 ⊢
  rw [hdel, List.getElem?_append_left (Nat.sub_one_lt h0), ← List.getLast?_eq_getElem?]
  exact hx ch hn

/-- Once everything is read without a report, every character of the pattern is fine. -/
theorem GInv.allOk {src : List Sym} {st : GState} (h : GInv src st) (hch : st.scan.ch = none) (he : st.errs = []) :
    AllOk src := by
  obtain ⟨del, ⟨hsrc, _⟩, _, hO⟩ := h
  rw [hsrc, (pending_eq_nil _).2 hch, List.append_nil]
  exact (hO he).1

end AL.Glob
