import AL.Lemmas.GlobCol
/-
  Every report of the validator is well placed (`Good`): `GInv` is an invariant of the validator.
-/
namespace AL.Glob
open AL

theorem namedChar_unexpected (o : Option Nat) (w : What) (y : Why) : namedChar (.unexpected o w y) = o := by
  cases o <;> rfl

theorem namedChar_invalidRef (o : Option Nat) (y : RefWhy) : namedChar (.invalidRef o y) = o := by
  cases o <;> rfl

/-- Every report names the character last returned by `Next`, and `errCol` still points at it. -/
theorem loop_GInv (src : List Sym) (isRef : Bool) (st : GState) (h : GInv src st) : GInv src (loop isRef st) :=
  let ⟨_, h'⟩ := loop_lift (fun c s => GInv src s ∧ Last src c s)
    (fun _ _ h => ⟨h.1.next, h.2.next⟩)
    (fun c _ w y h => ⟨h.1.error _ ((namedChar_unexpected c w y).symm ▸ h.2), h.2⟩)
    (fun c _ y h => ⟨h.1.error _ ((namedChar_invalidRef c y).symm ▸ h.2), h.2⟩)
    (fun _ _ _ h => h) isRef st none ⟨h, h.last_none⟩
  h'.1

theorem GInv.good {src : List Sym} {st : GState} (h : GInv src st) : ∀ e ∈ st.errs, Good src e :=
  let ⟨_, _, hG, _⟩ := h; hG

theorem GInv.with_prec {src : List Sym} {st : GState} (h : GInv src st) (p : Bool) : GInv src { st with prec := p } := h

theorem validate_good (isRef : Bool) (src : List Sym) : ∀ e ∈ validate isRef src, Good src e := by
  unfold validate
  simp only []
  cases src with
  | nil => 
    intro e he
    simp only [List.isEmpty_nil, if_true, List.mem_singleton] at he
    subst he
    exact ⟨Nat.le_refl _, by simp [namedChar]⟩
  | cons c t =>
    simp only [List.isEmpty_cons, Bool.false_eq_true, if_false]
    have h := init_GInv c t
    unfold start at h
    generalize ({ scan := (Scanner.init (c :: t)).1, errs := scanErrs (Scanner.init (c :: t)).2 } : GState) = st at h
    split
    · rename_i h47
      split
      · have h1 := h.next.error (.invalidRef (some 47) .startsWith) (h.last_none.peek h47)
        exact (loop_GInv _ _ _ (h1.with_prec true)).good
      · exact (loop_GInv _ _ _ h).good
    · rename_i h33
      split
      · exact (h.next.error (.unexpected (some 33) .neg .follow) (h.last_none.peek h33)).good
      · exact (loop_GInv _ _ _ (h.next.with_prec false)).good
    · exact (loop_GInv _ _ _ h).good
end AL.Glob
