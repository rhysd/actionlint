/-
  Comparisons given as `Bool` functions, as the Go code has them (`less`, `IsBefore`). An order supplies one fact:
  `StrictWeak lt`, or `KeyOrder lt key` when its classes of incomparable elements have a name (the sort key); both are
  closed under `comap` and lexicographic composition, so the orders of the model are built from `<` on `Nat` and `String`.
  An insertion supplies one fact: `Insert before ins`, which is `InsertSort lt ins` when `before` is the order itself.
  What the selection loops, `sort.Stable` and `sort.Strings` need (least element, permutation, sortedness, uniqueness,
  stability, commutation with `filter` and `map`) is proved from these, once. Beside them two facts about lists read by a
  key: the filter by a key at a `cons`, and `find?_key_of_mem` (pairwise distinct keys: looking up the key of a member finds it).
-/
namespace AL.Order

/-- `lt` is a strict weak order: irreflexive, asymmetric, and "not less" is transitive (so incomparable elements,
those with equal sort keys, form classes) -/
structure StrictWeak {α : Type} (lt : α → α → Bool) : Prop where
  irrefl : ∀ a, lt a a = false
  asymm : ∀ {a b}, lt a b = true → lt b a = false
  negTrans : ∀ {a b c}, lt a b = false → lt b c = false → lt a c = false

namespace StrictWeak
variable {α : Type} {lt : α → α → Bool} (h : StrictWeak lt)
include h

theorem lt_of_lt_of_not {x y z : α} (hxy : lt x y = true) (hzy : lt z y = false) : lt x z = true := by
  cases hxz : lt x z with
  | true => rfl
  | false => rw [h.negTrans hxz hzy] at hxy; cases hxy

theorem trans {a b c : α} (hab : lt a b = true) (hbc : lt b c = true) : lt a c = true :=
  h.lt_of_lt_of_not hab (h.asymm hbc)

/-- an order on keys is an order on what carries them -/
theorem comap {β : Type} (f : β → α) : StrictWeak fun a b => lt (f a) (f b) :=
  ⟨fun _ => h.irrefl _, h.asymm, h.negTrans⟩

/-- pointwise equal comparisons -/
theorem congr {lt' : α → α → Bool} (e : ∀ a b, lt' a b = lt a b) : StrictWeak lt' :=
  (funext fun a => funext (e a) : lt' = lt) ▸ h

/-- first by `lt`, what `lt` leaves incomparable by `lt₂` -/
theorem lex {lt₂ : α → α → Bool} (h₂ : StrictWeak lt₂) : StrictWeak fun a b => lt a b || (!lt b a && lt₂ a b) := by
  have hf : ∀ a b, (lt a b || (!lt b a && lt₂ a b)) = false ↔ lt a b = false ∧ (lt b a = false → lt₂ a b = false) :=
    fun a b => by cases lt a b <;> cases lt b a <;> simp
  refine ⟨fun a => (hf a a).2 ⟨h.irrefl a, fun _ => h₂.irrefl a⟩, fun {a b} hab => (hf b a).2 ?_,
    fun {a b c} hab hbc => ?_⟩
  · have hab : (lt a b || (!lt b a && lt₂ a b)) = true := hab
    cases h1 : lt a b with
    | true => exact ⟨h.asymm h1, fun hn => Bool.noConfusion hn⟩
    | false =>
      rw [h1, Bool.false_or, Bool.and_eq_true, Bool.not_eq_true'] at hab
      exact ⟨hab.1, fun _ => h₂.asymm hab.2⟩
  · obtain ⟨ab, ab'⟩ := (hf a b).1 hab
    obtain ⟨bc, bc'⟩ := (hf b c).1 hbc
    exact (hf a c).2 ⟨h.negTrans ab bc, fun ca => h₂.negTrans (ab' (h.negTrans bc ca)) (bc' (h.negTrans ca ab))⟩

end StrictWeak

/-- a strict weak order whose classes are named: neither of two elements is less iff they have the same `key` -/
structure KeyOrder {α κ : Type} (lt : α → α → Bool) (key : α → κ) : Prop where
  sw : StrictWeak lt
  incomp : ∀ {a b}, lt a b = false ∧ lt b a = false ↔ key a = key b

namespace KeyOrder
variable {α κ : Type} {lt : α → α → Bool} {key : α → κ}

theorem nat : KeyOrder (fun a b : Nat => decide (a < b)) id :=
  ⟨⟨fun a => decide_eq_false (Nat.lt_irrefl a), fun h => by simp only [decide_eq_true_eq, decide_eq_false_iff_not] at *; omega,
    fun h h' => by simp only [decide_eq_false_iff_not] at *; omega⟩, by simp only [decide_eq_false_iff_not, id]; omega⟩

theorem string : KeyOrder (fun a b : String => decide (a < b)) id := by
  refine ⟨⟨fun a => decide_eq_false (String.lt_irrefl a), fun h => ?_, fun h h' => ?_⟩, ?_⟩
  · exact decide_eq_false (String.lt_asymm (of_decide_eq_true h))
  · rw [decide_eq_false_iff_not, String.not_lt] at *
    exact String.le_trans h' h
  · simp only [decide_eq_false_iff_not, String.not_lt, id]
    exact ⟨fun h => String.le_antisymm h.2 h.1, fun h => h ▸ ⟨String.le_refl _, String.le_refl _⟩⟩

theorem comap (h : KeyOrder lt key) {β : Type} (f : β → α) : KeyOrder (fun a b => lt (f a) (f b)) fun a => key (f a) :=
  ⟨h.sw.comap f, h.incomp⟩

theorem congr (h : KeyOrder lt key) {lt' : α → α → Bool} (e : ∀ a b, lt' a b = lt a b) : KeyOrder lt' key :=
  (funext fun a => funext (e a) : lt' = lt) ▸ h

/-- the lexicographic order as the code writes it: where the first keys agree by `lt₂`, else by `lt` -/
theorem lex [DecidableEq κ] (h : KeyOrder lt key) {κ₂ : Type} {lt₂ : α → α → Bool} {key₂ : α → κ₂} (h₂ : KeyOrder lt₂ key₂) :
    KeyOrder (fun a b => if key a = key b then lt₂ a b else lt a b) fun a => (key a, key₂ a) := by
  refine ⟨(h.sw.lex h₂.sw).congr fun a b => ?_, fun {a b} => ?_⟩
  · by_cases e : key a = key b
    · obtain ⟨x, y⟩ := h.incomp.2 e
      rw [if_pos e, x, y]
      rfl
    · rw [if_neg e]
      cases x : lt a b with
      | true => rfl
      | false =>
        cases y : lt b a with
        | true => rfl
        | false => exact absurd (h.incomp.1 ⟨x, y⟩) e
  · rw [Prod.mk.injEq]
    by_cases e : key a = key b
    · rw [if_pos e, if_pos e.symm, h₂.incomp]
      exact ⟨fun h => ⟨e, h⟩, fun h => h.2⟩
    · rw [if_neg e, if_neg (Ne.symm e), h.incomp]
      exact ⟨fun h => absurd h e, fun h => absurd h.1 e⟩

/-- with an injective key the order is total: incomparable elements are equal -/
theorem eq_of_not_lt (h : KeyOrder lt key) (hinj : Function.Injective key) {a b : α} (h₁ : lt a b = false)
    (h₂ : lt b a = false) : a = b :=
  hinj (h.incomp.1 ⟨h₁, h₂⟩)

theorem lt_of_not_lt (h : KeyOrder lt key) (hinj : Function.Injective key) {a b : α} (h₁ : lt a b = false) (hne : a ≠ b) :
    lt b a = true := by
  cases h₂ : lt b a with
  | true => rfl
  | false => exact absurd (h.eq_of_not_lt hinj h₁ h₂) hne

end KeyOrder

/-- `for x := range xs { if x < found { found = x } }`: the result is a member that no member is less than
(`pickStart` of rule_job_needs.go, `AL.SrcPos.selectFirst`) -/
theorem foldl_min {α : Type} {lt : α → α → Bool} (h : StrictWeak lt) (xs : List α) (x : α) :
    xs.foldl (fun s n => if lt n s then n else s) x ∈ x :: xs ∧
      ∀ y ∈ x :: xs, lt y (xs.foldl (fun s n => if lt n s then n else s) x) = false := by
  induction xs generalizing x with
  | nil => simp [h.irrefl]
  | cons k xs ih =>
    rw [List.foldl_cons]
    -- the fold goes on from `m`, the lesser of `x` and `k`
    generalize hm : (if lt k x = true then k else x) = m
    have hxk : (m = x ∨ m = k) ∧ lt x m = false ∧ lt k m = false := by
      split at hm <;> subst hm
      · next hk => exact ⟨.inr rfl, h.asymm hk, h.irrefl _⟩
      · next hk => exact ⟨.inl rfl, h.irrefl _, by simpa using hk⟩
    obtain ⟨hmem, hmin⟩ := ih m
    have hm' := hmin m List.mem_cons_self
    refine ⟨?_, fun n hn => ?_⟩
    · rcases List.mem_cons.1 hmem with e | e
      · rw [e]; rcases hxk.1 with rfl | rfl <;> simp
      · simp [e]
    · rcases List.mem_cons.1 hn with rfl | hn
      · exact h.negTrans hxk.2.1 hm'
      · rcases List.mem_cons.1 hn with rfl | hn
        · exact h.negTrans hxk.2.2 hm'
        · exact hmin n (List.mem_cons_of_mem _ hn)

/-- sorted: no later element is less than an earlier one -/
abbrev Sorted {α : Type} (lt : α → α → Bool) (l : List α) : Prop := l.Pairwise fun a b => lt b a = false

/-- where the key is injective (`<` on `String`, on positions) a sorted permutation is unique -/
theorem Sorted.eq_of_perm {α κ : Type} {lt : α → α → Bool} {key : α → κ} (h : KeyOrder lt key) (hinj : Function.Injective key)
    {l₁ l₂ : List α} (h₁ : Sorted lt l₁) (h₂ : Sorted lt l₂) (hp : l₁.Perm l₂) : l₁ = l₂ :=
  List.Perm.eq_of_pairwise (le := fun a b => lt b a = false) (fun _ _ _ _ hab hba => h.eq_of_not_lt hinj hba hab) h₁ h₂ hp

theorem filter_key_cons_of_eq {α κ : Type} [DecidableEq κ] {key : α → κ} {x : α} {k : κ} (h : key x = k) (xs : List α) :
    (x :: xs).filter (fun a => key a = k) = x :: xs.filter (fun a => key a = k) :=
  List.filter_cons_of_pos (decide_eq_true h)

theorem filter_key_cons_of_ne {α κ : Type} [DecidableEq κ] {key : α → κ} {x : α} {k : κ} (h : key x ≠ k) (xs : List α) :
    (x :: xs).filter (fun a => key a = k) = xs.filter (fun a => key a = k) :=
  List.filter_cons_of_neg fun e => h (of_decide_eq_true e)

/-- in a list with pairwise distinct keys, looking up the key of a member finds that member -/
theorem find?_key_of_mem {α κ : Type} [DecidableEq κ] (key : α → κ) :
    {l : List α} → l.Pairwise (fun a b => key a ≠ key b) → ∀ {a : α}, a ∈ l → l.find? (key · = key a) = some a
  | x :: xs, h, a, ha => by
    rw [List.pairwise_cons] at h
    rcases List.mem_cons.1 ha with rfl | hm
    · simp
    · rw [List.find?_cons_of_neg (by simpa using h.1 a hm)]
      exact find?_key_of_mem key h.2 hm

/-- two sorted lists that agree on every key class are equal: equal keys are contiguous and the blocks come in
strictly increasing key order -/
theorem Sorted.eq_of_filter_key_eq {α κ : Type} [DecidableEq κ] {lt : α → α → Bool} {key : α → κ} (h : KeyOrder lt key)
    {l₁ l₂ : List α} (h₁ : Sorted lt l₁) (h₂ : Sorted lt l₂)
    (hk : ∀ k, l₁.filter (fun a => key a = k) = l₂.filter (fun a => key a = k)) : l₁ = l₂ := by
  induction l₁ generalizing l₂ with
  | nil =>
    cases l₂ with
    | nil => rfl
    | cons y ys =>
      have := hk (key y)
      rw [filter_key_cons_of_eq rfl] at this
      cases this
  | cons x xs ih =>
    cases l₂ with
    | nil =>
      have := hk (key x)
      rw [filter_key_cons_of_eq rfl] at this
      cases this
    | cons y ys =>
      have hs₁ := List.pairwise_cons.1 h₁
      have hs₂ := List.pairwise_cons.1 h₂
      -- the two heads have the same key
      have hxy : key x = key y := by
        refine Classical.byContradiction fun hne => hne ?_
        -- otherwise `x` occurs in `ys` and `y` occurs in `xs`, so neither is less than the other
        have hx : x ∈ (y :: ys).filter (fun a => key a = key x) := by
          rw [← hk (key x), filter_key_cons_of_eq rfl]
          exact List.mem_cons_self
        have hy : y ∈ (x :: xs).filter (fun a => key a = key y) := by
          rw [hk (key y), filter_key_cons_of_eq rfl]
          exact List.mem_cons_self
        rw [filter_key_cons_of_ne (Ne.symm hne)] at hx
        rw [filter_key_cons_of_ne hne] at hy
        exact h.incomp.1 ⟨hs₂.1 x (List.mem_filter.1 hx).1, hs₁.1 y (List.mem_filter.1 hy).1⟩
      -- hence they are the same element
      have hhead := hk (key x)
      rw [filter_key_cons_of_eq rfl, filter_key_cons_of_eq hxy.symm] at hhead
      obtain ⟨rfl, _⟩ := List.cons.inj hhead
      congr 1
      refine ih hs₁.2 hs₂.2 fun k => ?_
      have := hk k
      by_cases e : key x = k
      · rw [filter_key_cons_of_eq e, filter_key_cons_of_eq e] at this
        exact (List.cons.inj this).2
      · rw [filter_key_cons_of_ne e, filter_key_cons_of_ne e] at this
        exact this

/-- `ins x` puts `x` in front of the first `y` with `before x y` (the two equations hold by `rfl` or by unfolding
for the insertions of the model) -/
structure Insert {α : Type} (before : α → α → Bool) (ins : α → List α → List α) : Prop where
  nil : ∀ x, ins x [] = [x]
  cons : ∀ x y ys, ins x (y :: ys) = if before x y then x :: y :: ys else y :: ins x ys

namespace Insert
variable {α : Type} {before : α → α → Bool} {ins : α → List α → List α} (s : Insert before ins)
include s

theorem perm (x : α) (l : List α) : (ins x l).Perm (x :: l) := by
  induction l with
  | nil => rw [s.nil]
  | cons y ys ih =>
    rw [s.cons]
    split
    · exact .refl _
    · exact (ih.cons y).trans (.swap x y ys)

theorem mem {x z : α} {l : List α} : z ∈ ins x l ↔ z = x ∨ z ∈ l := by
  rw [(s.perm x l).mem_iff, List.mem_cons]

theorem foldl_perm (l acc : List α) : (l.foldl (fun acc x => ins x acc) acc).Perm (acc ++ l) := by
  induction l generalizing acc with
  | nil => simp
  | cons x xs ih =>
    exact (ih _).trans (((s.perm x acc).append_right xs).trans (by simpa using List.perm_middle.symm))

/-- the same sort written as a `foldr` (`SrcPos.sortByPos`, `PW.sortStrings`) -/
theorem foldr_perm (l : List α) : (l.foldr ins []).Perm l := by
  induction l with
  | nil => exact .refl _
  | cons x xs ih => exact (s.perm x _).trans (ih.cons x)

/-- inserting keeps a list sorted w.r.t. any order `lt` that `before` follows where `lt` decides: `before = lt` puts `x`
behind the elements with its key, `before x y = !lt y x` (insertion by `≤`) in front of them -/
theorem sorted {lt : α → α → Bool} (sw : StrictWeak lt) (hpos : ∀ x y, before x y = true → lt y x = false)
    (hneg : ∀ x y, before x y = false → lt x y = false) (x : α) {l : List α} (h : Sorted lt l) : Sorted lt (ins x l) := by
  induction l with
  | nil => rw [s.nil]; exact List.pairwise_singleton _ _
  | cons y ys ih =>
    rw [s.cons]
    obtain ⟨hy, hys⟩ := List.pairwise_cons.1 h
    split
    next hxy =>
      refine List.pairwise_cons.2 ⟨fun z hz => ?_, h⟩
      rcases List.mem_cons.1 hz with rfl | hz
      · exact hpos _ _ hxy
      · exact sw.negTrans (hy z hz) (hpos _ _ hxy)
    next hxy =>
      refine List.pairwise_cons.2 ⟨fun z hz => ?_, ih hys⟩
      rcases s.mem.1 hz with rfl | hz
      · exact hneg _ _ (Bool.eq_false_iff.2 hxy)
      · exact hy z hz

theorem foldl_sorted {lt : α → α → Bool} (sw : StrictWeak lt) (hpos : ∀ x y, before x y = true → lt y x = false)
    (hneg : ∀ x y, before x y = false → lt x y = false) (l : List α) {acc : List α} (h : Sorted lt acc) :
    Sorted lt (l.foldl (fun acc x => ins x acc) acc) := by
  induction l generalizing acc with
  | nil => exact h
  | cons x xs ih => exact ih (s.sorted sw hpos hneg x h)

theorem filter_of_neg (p : α → Bool) (x : α) (l : List α) (hx : p x = false) : (ins x l).filter p = l.filter p := by
  induction l with
  | nil => rw [s.nil]; simp [hx]
  | cons y ys ih =>
    rw [s.cons]
    split
    · simp [List.filter_cons, hx]
    · simp only [List.filter_cons, ih]

variable {β : Type} {before' : β → β → Bool} {ins' : β → List β → List β} (s' : Insert before' ins')
include s'

/-- a map that keeps the comparisons of `x` with the members of `l` commutes with inserting `x` into `l` -/
theorem ins_map (f : α → β) (x : α) (l : List α) (h : ∀ y ∈ l, before' (f x) (f y) = before x y) :
    ins' (f x) (l.map f) = (ins x l).map f := by
  induction l with
  | nil => rw [List.map_nil, s.nil, s'.nil]; rfl
  | cons y ys ih =>
    rw [List.map_cons, s.cons, s'.cons, h y List.mem_cons_self, ih fun z hz => h z (List.mem_cons_of_mem _ hz)]
    split <;> rfl

/-- a map that keeps the comparisons among the elements commutes with the insertion sort -/
theorem foldl_map (f : α → β) (l acc : List α) (h : ∀ x ∈ acc ++ l, ∀ y ∈ acc ++ l, before' (f x) (f y) = before x y) :
    (l.map f).foldl (fun acc x => ins' x acc) (acc.map f) = (l.foldl (fun acc x => ins x acc) acc).map f := by
  induction l generalizing acc with
  | nil => rfl
  | cons x xs ih =>
    have hx : x ∈ acc ++ x :: xs := List.mem_append_right _ List.mem_cons_self
    have hmem : ∀ {a}, a ∈ ins x acc ++ xs → a ∈ acc ++ x :: xs :=
      (((s.perm x acc).append_right xs).trans List.perm_middle.symm).mem_iff.1
    rw [List.map_cons, List.foldl_cons, List.foldl_cons,
      s.ins_map s' f x acc fun y hy => h x hx y (List.mem_append_left _ hy)]
    exact ih (ins x acc) fun a ha b hb => h a (hmem ha) b (hmem hb)

end Insert

/-- insertion by the order itself, in front of the first greater element: elements with equal keys stay in the order in
which they were inserted (`sort.Stable`). The insertion sorts of `AL.Lint`, `AL.Rules` and `AL.SrcPos` are instances. -/
structure InsertSort {α : Type} (lt : α → α → Bool) (ins : α → List α → List α) : Prop extends Insert lt ins where
  sw : StrictWeak lt

namespace InsertSort
variable {α : Type} {lt : α → α → Bool} {ins : α → List α → List α} (s : InsertSort lt ins)
include s

theorem sorted (x : α) {l : List α} (h : Sorted lt l) : Sorted lt (ins x l) :=
  s.toInsert.sorted s.sw (fun _ _ => s.sw.asymm) (fun _ _ h => h) x h

theorem foldl_sorted (l : List α) {acc : List α} (h : Sorted lt acc) : Sorted lt (l.foldl (fun acc x => ins x acc) acc) :=
  s.toInsert.foldl_sorted s.sw (fun _ _ => s.sw.asymm) (fun _ _ h => h) l h

theorem foldr_sorted (l : List α) : Sorted lt (l.foldr ins []) := by
  induction l with
  | nil => exact .nil
  | cons x xs ih => exact s.sorted x ih

/-- Inserting commutes with filtering a sorted list. -/
theorem filter_of_pos (p : α → Bool) (x : α) (l : List α) (hs : Sorted lt l) (hx : p x = true) :
    ins x (l.filter p) = (ins x l).filter p := by
  induction l with
  | nil => simp [s.nil, hx]
  | cons y ys ih =>
    obtain ⟨hy, hys⟩ := List.pairwise_cons.1 hs
    have ih := ih hys
    rw [s.cons]
    split
    next hxy =>
      rw [List.filter_cons (x := x), hx, if_pos rfl, List.filter_cons]
      split
      · rw [s.cons, if_pos hxy]
      · -- `x` is less than everything in `ys`, so it stays in front of what the filter leaves of `ys`
        generalize hq : ys.filter p = q
        cases q with
        | nil => rw [s.nil]
        | cons z zs =>
          have hz : z ∈ ys := (List.mem_filter.1 (hq ▸ List.mem_cons_self)).1
          rw [s.cons, if_pos (s.sw.lt_of_lt_of_not hxy (hy z hz))]
    next hxy =>
      rw [List.filter_cons, List.filter_cons]
      split
      · rw [s.cons, if_neg hxy, ih]
      · exact ih

/-- Filtering before or after the insertion sort is the same. -/
theorem foldl_filter (p : α → Bool) (l : List α) {acc : List α} (hs : Sorted lt acc) :
    (l.filter p).foldl (fun acc x => ins x acc) (acc.filter p) =
      (l.foldl (fun acc x => ins x acc) acc).filter p := by
  induction l generalizing acc with
  | nil => rfl
  | cons x xs ih =>
    rw [List.filter_cons, List.foldl_cons, ← ih (s.sorted x hs)]
    cases hx : p x with
    | true => rw [if_pos rfl, List.foldl_cons, s.filter_of_pos p x acc hs hx]
    | false => rw [if_neg Bool.false_ne_true, s.filter_of_neg p x acc hx]

/-! stability -/

theorem of_not_lt {x : α} {l : List α} (h : ∀ y ∈ l, lt x y = false) : ins x l = l ++ [x] := by
  induction l with
  | nil => exact s.nil x
  | cons y ys ih =>
    rw [s.cons, if_neg (Bool.eq_false_iff.1 (h y List.mem_cons_self)), ih fun z hz => h z (List.mem_cons_of_mem _ hz)]
    rfl

variable {κ : Type} {key : α → κ} (hk : KeyOrder lt key)
include hk

/-- elements that all have the same key are left in the order they come in -/
theorem foldl_of_key_eq {k : κ} (l acc : List α) (h : ∀ a ∈ acc ++ l, key a = k) :
    l.foldl (fun acc x => ins x acc) acc = acc ++ l := by
  induction l generalizing acc with
  | nil => exact (List.append_nil acc).symm
  | cons x xs ih =>
    have hx : key x = k := h x (List.mem_append_right _ List.mem_cons_self)
    rw [List.foldl_cons, s.of_not_lt fun y hy => (hk.incomp.2 (hx.trans (h y (List.mem_append_left _ hy)).symm)).1,
      ih (acc ++ [x]) (by rwa [List.append_assoc]), List.append_assoc]
    rfl

/-- stability: the elements of each key class keep their original order (filtering commutes with the sort, and the
class on its own is not rearranged) -/
theorem foldl_filter_key [DecidableEq κ] (k : κ) (l : List α) :
    (l.foldl (fun acc x => ins x acc) []).filter (fun a => key a = k) = l.filter (fun a => key a = k) := by
  rw [← s.foldl_filter (fun a => key a = k) l .nil, List.filter_nil, s.foldl_of_key_eq hk (k := k), List.nil_append]
  intro a ha
  simpa using (List.mem_filter.1 ha).2

/-- the sort depends only on the key classes of its input -/
theorem foldl_eq_of_filter_key_eq [DecidableEq κ] {l₁ l₂ : List α}
    (h : ∀ k, l₁.filter (fun a => key a = k) = l₂.filter (fun a => key a = k)) :
    l₁.foldl (fun acc x => ins x acc) [] = l₂.foldl (fun acc x => ins x acc) [] :=
  Sorted.eq_of_filter_key_eq hk (s.foldl_sorted l₁ .nil) (s.foldl_sorted l₂ .nil) fun k => by
    rw [s.foldl_filter_key hk, s.foldl_filter_key hk, h k]

end InsertSort
end AL.Order
