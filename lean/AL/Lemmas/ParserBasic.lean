import AL.Model.Parser
import AL.Spec.ExprGrammar
/-
  Basic facts about the token cursor of the parser model (`cur`, `adv`) on streams that end with END,
  the shape shared by the three binary levels of the parser (`binLevel`), and small facts about the
  grammar relation `Der` (the first token of a sentence).
-/
namespace AL.Parse
open AL AL.Lex AL.Spec

/-- the stream is non-empty and its last token is END -/
def endsEnd : Toks → Bool
  | [] => false
  | [t] => t.tok.kind = .end
  | _ :: rest => endsEnd rest

theorem endsEnd_ne_nil {ts : Toks} (h : endsEnd ts = true) : ts ≠ [] := by
  intro h0; subst h0; simp [endsEnd] at h

theorem endsEnd_append {pre rest : Toks} (h : rest ≠ []) : endsEnd (pre ++ rest) = endsEnd rest := by
  induction pre with
  | nil => rfl
  | cons a pre ih =>
    cases hp : pre ++ rest with
    | nil => simp at hp; exact absurd hp.2 h
    | cons b l => rw [List.cons_append, hp, endsEnd, ← hp, ih]; simp

theorem endsEnd_append_singleton (init : Toks) (last : ATok) (h : last.tok.kind = .end) :
    endsEnd (init ++ [last]) = true := by
  rw [endsEnd_append (List.cons_ne_nil _ _)]; exact decide_eq_true h

/-- the one fact about the cursor that everything else uses: if the current token is of a kind other than END, the
stream (ending in END) has a proper tail, `adv` moves to it, and it still ends in END -/
theorem step_kind {ts : Toks} (h : endsEnd ts = true) {k : TokKind} (hk : (cur ts).tok.kind = k) (hne : k ≠ .end) :
    ∃ t rest, ts = t :: rest ∧ adv ts = rest ∧ endsEnd rest = true ∧ t.tok.kind = k := by
  match ts, h with
  | [t], h => simp [endsEnd] at h; rw [← hk] at hne; exact absurd h hne
  | t :: u :: rest, h => exact ⟨t, u :: rest, rfl, rfl, by simpa [endsEnd] using h, hk⟩

theorem cur_cons (t : ATok) (rest : Toks) : cur (t :: rest) = t := rfl

theorem adv_cons {t : ATok} {rest : Toks} (h : rest ≠ []) : adv (t :: rest) = rest := by
  cases rest with
  | nil => exact absurd rfl h
  | cons u r => rfl

theorem adv_cons2 (t u : ATok) (rest : Toks) : adv (t :: u :: rest) = u :: rest := rfl

theorem cur_append_cons (t : ATok) (pre rest : Toks) : cur (t :: pre ++ rest) = t := rfl

theorem unescape_eq_strValue (l : List Sym) : parsePrimary.unescape l = strValue l := by
  fun_induction strValue l with
  | case1 a b rest h ih => rw [parsePrimary.unescape, if_pos h, ih]
  | case2 a b rest h ih => rw [parsePrimary.unescape, if_neg h, ih]
  | case3 l h => rw [parsePrimary.unescape]; exact h


/-- The shape shared by `parseLogicalOr`, `parseLogicalAnd` and `parseCompare` (with the fuel already handed
to `sub` and `self`): an operand of the next level, then, if an operator of this level follows, the rest of
this level. -/
def binLevel {α : Type} (sub self : Toks → PRes) (op : TokKind → Option α) (mk : α → Expr → Expr → Expr)
    (ts : Toks) : PRes :=
  match sub ts with
  | .error e => .error e
  | .ok (l, ts1) =>
    match op (cur ts1).tok.kind with
    | none => .ok (l, ts1)
    | some a =>
      match self (adv ts1) with
      | .error e => .error e
      | .ok (r, ts2) => .ok (mk a l r, ts2)

/-- the operator test of the two logical levels: `kd` is the operator's token kind, `a` what it denotes -/
def logOp (kd : TokKind) (a : LogKind) (k : TokKind) : Option LogKind := if k = kd then some a else none

theorem logOp_eq_some {kd a k b} : logOp kd a k = some b ↔ k = kd ∧ b = a := by
  unfold logOp; split
  · simp [*, eq_comm]
  · simp [*]

theorem parseLogicalOr_succ (f : Nat) (ts : Toks) :
    parseLogicalOr (f + 1) ts = binLevel (parseLogicalAnd f) (parseLogicalOr f) (logOp .or .or) Expr.logical ts := by
  rw [parseLogicalOr, binLevel]
  cases parseLogicalAnd f ts with
  | error e => rfl
  | ok r =>
    by_cases h : (cur r.2).tok.kind = .or
    · simp only [logOp, h, ne_eq, not_true_eq_false, if_true, if_false]; rfl
    · simp only [logOp, h, ne_eq, not_false_eq_true, if_true, if_false]

theorem parseLogicalAnd_succ (f : Nat) (ts : Toks) :
    parseLogicalAnd (f + 1) ts = binLevel (parseCompare f) (parseLogicalAnd f) (logOp .and .and) Expr.logical ts := by
  rw [parseLogicalAnd, binLevel]
  cases parseCompare f ts with
  | error e => rfl
  | ok r =>
    by_cases h : (cur r.2).tok.kind = .and
    · simp only [logOp, h, ne_eq, not_true_eq_false, if_true, if_false]; rfl
    · simp only [logOp, h, ne_eq, not_false_eq_true, if_true, if_false]

theorem parseCompare_succ (f : Nat) (ts : Toks) :
    parseCompare (f + 1) ts = binLevel (parsePrefix f) (parseCompare f) cmpOf Expr.cmp ts := by
  rw [parseCompare, binLevel]
  cases parsePrefix f ts with
  | error e => rfl
  | ok r =>
    obtain ⟨l, ts1⟩ := r
    simp only []
    generalize (cur ts1).tok.kind = k
    cases k <;> rfl


def headKinds : Level → TokKind → Bool
  | .postfix, k | .primary, k => k = .ident || k = .lparen || k = .int || k = .float || k = .string
  | _, k => k = .ident || k = .lparen || k = .int || k = .float || k = .string || k = .not

def HeadOk (L : Level) (ts : List Tok) : Prop := ∃ t rest, ts = t :: rest ∧ headKinds L t.kind = true

theorem HeadOk.append {L ts} (h : HeadOk L ts) (more : List Tok) : HeadOk L (ts ++ more) := by
  obtain ⟨t, rest, rfl, hk⟩ := h; exact ⟨t, rest ++ more, rfl, hk⟩

/-- `!` is the only first token that the levels above `postfix` add -/
theorem HeadOk.of_postfix {L ts} (h : HeadOk .postfix ts) : HeadOk L ts := by
  obtain ⟨t, rest, rfl, hk⟩ := h
  refine ⟨t, rest, rfl, ?_⟩
  cases L <;> first | exact hk | exact (Bool.or_eq_true _ _).mpr (.inl hk)

/-- The levels `or` … `unary` have the same first tokens, and so have `postfix` and `primary` (`headKinds`
computes): a step up keeps the head, except from `postfix` to `unary`. -/
theorem der_head {L ts e} (h : Der L ts e) : HeadOk L ts := by
  refine Der.rec (motive_1 := fun L ts _ _ => HeadOk L ts) (motive_2 := fun _ _ _ => True)
    ?_ ?_ ?_ ?_ ?_ ?_ ?_ ?_ ?_ ?_ ?_ ?_ ?_ ?_ ?_ ?_ ?_ ?_ ?_ ?_ ?_ h
  · intro ts e _ ih; exact ih
  · intro l r o el er _ _ _ ih _; exact HeadOk.append ih _
  · intro ts e _ ih; exact ih
  · intro l r o el er _ _ _ ih _; exact HeadOk.append ih _
  · intro ts e _ ih; exact ih
  · intro l r o k el er _ _ _ ih _; exact HeadOk.append ih _
  · intro ts e _ ih; exact ih.of_postfix
  · intro ts o e ho _ _; exact ⟨o, ts, rfl, by rw [ho]; rfl⟩
  · intro ts e _ ih; exact ih
  · intro ts d i e _ _ _ ih; exact HeadOk.append ih _
  · intro ts d s e _ _ _ ih; exact HeadOk.append ih _
  · intro ts lb idx rb e ei _ _ _ _ ih _; rw [List.append_assoc]; exact HeadOk.append ih _
  · intro t v ht _; exact ⟨t, [], rfl, by rw [ht]; rfl⟩
  · intro t ht _; exact ⟨t, [], rfl, by rw [ht]; rfl⟩
  · intro t ht; exact ⟨t, [], rfl, by rw [ht]; rfl⟩
  · intro t ht; exact ⟨t, [], rfl, by rw [ht]; rfl⟩
  · intro t lp rp ht _ _; exact ⟨t, _, rfl, by rw [ht]; rfl⟩
  · intro t lp rp args es ht _ _ _ _; exact ⟨t, _, rfl, by rw [ht]; rfl⟩
  · intro lp ts rp e hl _ _ _; exact ⟨lp, _, rfl, by rw [hl]; rfl⟩
  · intros; trivial
  · intros; trivial

theorem derArgs_head {ts es} (h : DerArgs ts es) : HeadOk .or ts := by
  cases h with
  | one h => exact der_head h
  | more h _ _ => exact (der_head h).append _

theorem der_ne_nil {L ts e} (h : Der L ts e) : ts ≠ [] := by
  obtain ⟨t, rest, rfl, -⟩ := der_head h; exact List.cons_ne_nil _ _

end AL.Parse
