import AL.Lemmas.C03PSect
/-
  C03Parse: `strategy:` — `parseRawYAMLValue` keeps every scalar below a matrix value at any nesting depth
  (`rawValue_leaf`, by recursion over the node), rows / `include` / `exclude` (`parseMatrix_leaf`), `fail-fast`,
  `max-parallel` (`parseStrategy_leaf`).
-/
namespace AL.C03P
open AL.PW AL.Yaml AL.Ast AL.C03R

/-! ### raw YAML values -/

mutual
/-- **matrix values, any depth**: every scalar below the node is a string of the raw value, or `parseRawYAMLValue`
reports -/
theorem rawValue_leaf (cfg : Cfg) (v : Node) : ∀ (n : Node), v ∈ leaves n → (rawValue cfg n).2 = [] →
    ∃ r, (rawValue cfg n).1 = some r ∧ Rep v (rawStrs r)
  | .mk .scalar t val q l c cs, hv, _ => by
    simp only [leaves, List.mem_singleton] at hv
    subst hv
    refine ⟨.str val ⟨l, c⟩, by simp [rawValue], ?_⟩
    rw [rawStrs]
    exact ⟨_, List.mem_singleton.2 rfl, rfl, rfl⟩
  | .mk .sequence t val q l c cs, hv, h => by
    simp only [leaves] at hv
    simp only [rawValue] at h ⊢
    refine ⟨_, rfl, ?_⟩
    rw [rawStrs]
    exact rawSeq_leaf cfg v cs hv h
  | .mk .mapping t val q l c cs, hv, h => by
    simp only [leaves] at hv
    simp only [rawValue, append_nil_iff] at h ⊢
    refine ⟨_, rfl, ?_⟩
    rw [rawStrs]
    exact rawProps_leaf cfg v cs [] hv h.1 h.2
  | .mk .document _ _ _ _ _ _, hv, _ => by simp [leaves] at hv
  | .mk .alias _ _ _ _ _ _, hv, _ => by simp [leaves] at hv
theorem rawSeq_leaf (cfg : Cfg) (v : Node) : ∀ (cs : List Node), v ∈ leavesSeq cs → (rawSeq cfg cs).2 = [] →
    Rep v (rawStrsL (rawSeq cfg cs).1)
  | [], hv, _ => by simp [leavesSeq] at hv
  | c :: cs, hv, h => by
    simp only [leavesSeq, List.mem_append] at hv
    simp only [rawSeq, append_nil_iff] at h ⊢
    rcases hv with hv | hv
    · obtain ⟨r, hr, hrep⟩ := rawValue_leaf cfg v c hv h.1
      simp only [hr, rawStrsL]
      exact hrep.left
    · have := rawSeq_leaf cfg v cs hv h.2
      cases (rawValue cfg c).1 with
      | none => exact this
      | some x => simp only [rawStrsL]; exact this.right
theorem rawProps_leaf (cfg : Cfg) (v : Node) : ∀ (cs : List Node) (seen : List (String × Yaml.Pos)), v ∈ leavesMap cs →
    (rawProps cfg cs seen).2.1 = [] → (rawProps cfg cs seen).2.2 = [] → Rep v (rawStrsP (rawProps cfg cs seen).1)
  | [], _, hv, _, _ => by simp [leavesMap] at hv
  | [_], _, hv, _, _ => by simp [leavesMap] at hv
  | kn :: vn :: rest, seen, hv, h1, h2 => by
    simp only [leavesMap, List.mem_append] at hv
    rw [rawProps] at h1 h2 ⊢
    cases hl : lookupSeen (cfg.lower (parseString kn false).1.value) seen with
    | some pos => simp [hl] at h1
    | none =>
      simp only [hl, append_nil_iff] at h1 h2 ⊢
      rcases hv with hv | hv
      · obtain ⟨r, hr, hrep⟩ := rawValue_leaf cfg v vn hv h2.1
        simp only [hr, rawStrsP]
        exact hrep.left
      · have := rawProps_leaf cfg v rest _ hv h1.2 h2.2
        cases (rawValue cfg vn).1 with
        | none => exact this
        | some x => simp only [rawStrsP]; exact this.right
end

/-! ### `include:` / `exclude:` -/

theorem matrixAssigns_leaf (cfg : Cfg) (v : Node) : ∀ (kvs : List KV) (kv : KV), kv ∈ kvs → v ∈ leaves kv.val →
    (matrixAssigns cfg kvs).2 = [] → Rep v ((matrixAssigns cfg kvs).1.flatMap fun p => rawStrs p.2.value) := by
  intro kvs kv hk hv h
  rw [matrixAssigns_filterMapR] at h ⊢
  obtain ⟨r, hr, hrep⟩ := rawValue_leaf cfg v kv.val hv (filterMapR_silent.1 h kv hk)
  exact Rep.flatMap (List.mem_filterMap.2 ⟨kv, hk, by rw [matrixAssign, hr]; rfl⟩) hrep

theorem matrixCombos_leaf (cfg : Cfg) (sec : String) (v : Node) : ∀ (cs : List Node), v ∈ cs.flatMap leaves →
    (matrixCombos cfg sec cs).2 = [] → Rep v ((matrixCombos cfg sec cs).1.flatMap comboStrs)
  | [], hv, _ => by simp at hv
  | c :: cs, hv, h => by
    simp only [List.flatMap_cons, List.mem_append] at hv
    simp only [matrixCombos] at h ⊢
    split at h
    · rename_i hk
      simp only [hk, ↓reduceIte]
      simp only [append_nil_iff] at h
      have he := parseExpression_clean c "mapping of matrix combination" h.1
      simp only [he, List.flatMap_cons]
      rcases hv with hv | hv
      · rw [leaves_scalar c hk, List.mem_singleton] at hv
        subst hv
        exact Rep.left (by simp only [comboStrs]; exact Rep.newString _)
      · exact (matrixCombos_leaf cfg sec v cs hv h.2).right
    · rename_i hk
      simp only [hk, ↓reduceIte, List.flatMap_cons]
      simp only [append_nil_iff] at h
      rcases hv with hv | hv
      · refine Rep.left ?_
        simp only [comboStrs, Option.getD_some]
        obtain ⟨kv, hkv, k, _, hvk⟩ := mapScalars_clean cfg _ c false false _ v (leaves_mapScalars cfg _ c false v hv h.1.1) h.1.1
        exact matrixAssigns_leaf cfg v _ kv hkv hvk h.1.2
      · exact (matrixCombos_leaf cfg sec v cs hv h.2).right

theorem parseMatrixCombinations_leaf (cfg : Cfg) (sec : String) (n : Node) (v : Node) (hv : v ∈ leaves n)
    (h : (parseMatrixCombinations cfg sec n).2 = []) : Rep v (combosStrs (parseMatrixCombinations cfg sec n).1) := by
  simp only [parseMatrixCombinations] at h ⊢
  split at h
  · rename_i hk
    simp only [hk, ↓reduceIte]
    rw [leaves_scalar n hk, List.mem_singleton] at hv
    subst hv
    simp only [combosStrs, parseExpression_clean v "array of matrix combination" h]
    exact Rep.newString _
  · rename_i hk
    simp only [hk, ↓reduceIte]
    split at h
    · rename_i hc
      have := checkSequence_clean sec n false h
      simp [this.2] at hc
    · rename_i hc
      simp only [hc]
      simp only [append_nil_iff] at h
      have hs := (checkSequence_clean sec n false h.1).1
      rw [leaves_sequence n hs] at hv
      simp only [Bool.false_eq_true, ↓reduceIte, combosStrs, Option.getD_some]
      exact matrixCombos_leaf cfg sec v _ hv h.2

/-! ### the rows -/

theorem mem_setAssoc_self {β : Type} (k : String) (x : β) : ∀ (l : List (String × β)), (k, x) ∈ setAssoc k x l
  | [] => by simp [setAssoc]
  | (k', x') :: rest => by
    simp only [setAssoc]
    split
    · exact List.mem_cons_self ..
    · exact List.mem_cons_of_mem _ (mem_setAssoc_self k x rest)

theorem mem_setAssoc_of_ne {β : Type} (k k' : String) (x y : β) (hne : k' ≠ k) : ∀ (l : List (String × β)),
    (k, y) ∈ l → (k, y) ∈ setAssoc k' x l
  | [], h => by cases h
  | (k'', x'') :: rest, h => by
    simp only [setAssoc]
    rcases List.mem_cons.1 h with e | h
    · cases e
      rw [if_neg (fun e => hne e.symm)]
      exact List.mem_cons_self ..
    · split
      · exact List.mem_cons_of_mem _ h
      · exact List.mem_cons_of_mem _ (mem_setAssoc_of_ne k k' x y hne rest h)

def matrixK (k : String) (st : Matrix) : List Str :=
  match k with
  | "include" => combosStrs st.incl
  | "exclude" => combosStrs st.excl
  | _ => ((st.rows.getD []).filter fun p => p.1 = k).flatMap fun p => rowStrs p.2

theorem rows_pres (k k' : String) (r : MatrixRow) (l : List (String × MatrixRow)) (hne : k' ≠ k) (s : Str)
    (hs : s ∈ (l.filter fun p => p.1 = k).flatMap fun p => rowStrs p.2) :
    s ∈ ((setAssoc k' r l).filter fun p => p.1 = k).flatMap fun p => rowStrs p.2 := by
  simp only [List.mem_flatMap, List.mem_filter, decide_eq_true_eq] at hs ⊢
  obtain ⟨p, ⟨hp, hk⟩, hs⟩ := hs
  obtain ⟨pk, pr⟩ := p
  simp only at hk
  subst hk
  exact ⟨(pk, pr), ⟨mem_setAssoc_of_ne _ _ _ _ hne _ hp, rfl⟩, hs⟩

theorem matrixK_pres (cfg : Cfg) (k : String) (st : Matrix) (kv : KV) (hne : kv.id ≠ k) :
    ∀ s ∈ matrixK k st, s ∈ matrixK k (matrixKey cfg st kv).1 := by
  intro s hs
  simp only [matrixKey]
  split
  all_goals (simp only [matrixK] at hs ⊢; split at hs)
  all_goals first | exact hs | exact absurd ‹kv.id = _› hne | skip
  · split
    · exact hs
    · split <;> exact hs
  · split
    · exact hs
    · split <;> exact hs
  · split
    · exact rows_pres _ _ _ _ hne s hs
    · split
      · exact hs
      · exact rows_pres _ _ _ _ hne s hs

theorem matrixKey_expr (cfg : Cfg) (st : Matrix) (kv : KV) : (matrixKey cfg st kv).1.expr = st.expr := by
  simp only [matrixKey]
  split
  · rfl
  · rfl
  · split
    · rfl
    · split <;> rfl

theorem matrixK_sub (k : String) (st : Matrix) (he : st.expr = none) : ∀ s ∈ matrixK k st, s ∈ matrixStrs st := by
  intro s hs
  simp only [matrixK] at hs
  simp only [matrixStrs, he, List.mem_append]
  split at hs
  · exact Or.inr hs
  · exact Or.inl (Or.inl hs)
  · refine Or.inl (Or.inr ?_)
    simp only [List.mem_flatMap, List.mem_filter] at hs ⊢
    obtain ⟨p, ⟨hp, _⟩, hs⟩ := hs
    exact ⟨p, hp, hs⟩

theorem matrixKey_store (cfg : Cfg) (st : Matrix) (kv : KV) (v : Node) (hv : v ∈ leaves kv.val)
    (hc : (matrixKey cfg st kv).2 = []) : Rep v (matrixK kv.id (matrixKey cfg st kv).1) := by
  revert hc
  simp only [matrixKey]
  split
  next h => intro hc; simp only [h, matrixK]; exact parseMatrixCombinations_leaf cfg _ _ v hv hc
  next h => intro hc; simp only [h, matrixK]; exact parseMatrixCombinations_leaf cfg _ _ v hv hc
  next h1 h2 =>
    have hK : ∀ st, matrixK kv.id st = ((st.rows.getD []).filter fun p => p.1 = kv.id).flatMap fun p => rowStrs p.2 := by
      intro st
      simp only [matrixK]
      try (split <;> first | exact absurd ‹kv.id = _› h1 | exact absurd ‹kv.id = _› h2 | rfl)
    rw [hK]
    split
    · rename_i hk
      intro hc
      rw [leaves_scalar _ hk, List.mem_singleton] at hv
      subst hv
      refine Rep.flatMap (a := (kv.id, _)) (List.mem_filter.2 ⟨mem_setAssoc_self _ _ _, by simp⟩) ?_
      simp only [rowStrs, parseExpression_clean kv.val "array value for matrix variations" hc]
      exact Rep.newString _
    · rename_i hk
      split
      · rename_i hcs
        intro hc
        have := checkSequence_clean "matrix values" kv.val false hc
        simp [this.2] at hcs
      · intro hc
        simp only [append_nil_iff] at hc
        have hs := (checkSequence_clean "matrix values" kv.val false hc.1).1
        rw [leaves_sequence _ hs, ← leavesSeq_eq] at hv
        refine Rep.flatMap (a := (kv.id, _)) (List.mem_filter.2 ⟨mem_setAssoc_self _ _ _, by simp⟩) ?_
        simp only [rowStrs, Option.getD_some]
        exact rawSeq_leaf cfg v _ hv hc.2

theorem parseMatrix_leaf (cfg : Cfg) (pos : Yaml.Pos) (n : Node) (v : Node) (hv : v ∈ leaves n)
    (h : (parseMatrix cfg pos n).2 = []) : Rep v (matrixStrs (parseMatrix cfg pos n).1) := by
  simp only [parseMatrix, parseSectionMapping] at h ⊢
  split at h
  · rename_i hk
    simp only [hk, ↓reduceIte]
    rw [leaves_scalar n hk, List.mem_singleton] at hv
    subst hv
    simp only [matrixStrs, parseExpression_clean v "matrix" h]
    exact Rep.newString _
  · rename_i hk
    simp only [hk, ↓reduceIte]
    simp only [append_nil_iff] at h
    obtain ⟨k, hk⟩ := sect_leaves cfg _ n false (matrixKey cfg) _ v hv matrixK h.1 h.2
      (fun kv st hvk hc => matrixKey_store cfg st kv v hvk hc) (matrixK_pres cfg)
    refine hk.mono (matrixK_sub k _ ?_)
    exact loop_inv (matrixKey cfg) (fun st => st.expr = none) (fun st kv h => by rw [matrixKey_expr]; exact h) _ _ rfl

/-! ### `strategy:` -/

/-- every value string below `strategy:` — for a job with this strategy, `matrixOfStrs` and `strategyStrs` of
AL.Props.C03Rule together (`strat_mem`) -/
def strategyAllStrs (s : Strategy) : List Str :=
  (match s.matrix with | some m => matrixStrs m | none => []) ++ boolStrs s.failFast ++ intStrs s.maxParallel

def strategyK (k : String) (st : Strategy) : List Str :=
  match k with
  | "matrix" => (match st.matrix with | some m => matrixStrs m | none => [])
  | "fail-fast" => boolStrs st.failFast
  | "max-parallel" => intStrs st.maxParallel
  | _ => []

theorem strategyK_pres (cfg : Cfg) (k : String) (st : Strategy) (kv : KV) (hne : kv.id ≠ k) :
    ∀ s ∈ strategyK k st, s ∈ strategyK k (strategyKey cfg st kv).1 := by
  have F := strategyKey_frame cfg st kv
  unfold strategyK
  split
  · rw [F.matrix hne]; exact fun _ h => h
  · rw [F.failFast hne]; exact fun _ h => h
  · rw [F.maxParallel hne]; exact fun _ h => h
  · exact fun _ h => h

theorem strategyK_sub (k : String) (st : Strategy) : ∀ s ∈ strategyK k st, s ∈ strategyAllStrs st := by
  intro s hs
  simp only [strategyK] at hs
  simp only [strategyAllStrs, List.mem_append]
  split at hs
  · exact Or.inl (Or.inl hs)
  · exact Or.inl (Or.inr hs)
  · exact Or.inr hs
  · cases hs

theorem strategyKey_store (cfg : Cfg) (st : Strategy) (kv : KV) (v : Node) (hv : v ∈ strategyKeyScalars kv.id kv.val)
    (hc : (strategyKey cfg st kv).2 = []) : Rep v (strategyK kv.id (strategyKey cfg st kv).1) := by
  revert hc
  simp only [strategyKey]
  split
  next h => intro hc; simp only [h, strategyKeyScalars] at hv; simp only [h, strategyK]; exact parseMatrix_leaf cfg _ _ v hv hc
  next h => intro hc; simp only [h, strategyKeyScalars] at hv; simp only [h, strategyK]; exact parseBool_leaf _ v hv hc
  next h => intro hc; simp only [h, strategyKeyScalars] at hv; simp only [h, strategyK]; exact parseMaxParallel_leaf cfg _ v hv hc
  next => intro hc; simp at hc

theorem parseStrategy_leaf (cfg : Cfg) (pos : Yaml.Pos) (n : Node) (v : Node) (hv : v ∈ strategyScalars n)
    (h : (parseStrategy cfg pos n).2 = []) : Rep v (strategyAllStrs (parseStrategy cfg pos n).1) := by
  simp only [parseStrategy, parseSectionMapping, append_nil_iff] at h ⊢
  obtain ⟨k, hk⟩ := sect_K cfg _ n false true (strategyKey cfg) _ strategyKeyScalars v hv strategyK h.1 h.2
    (by
      intro kv k st hid hvk hc
      have := hid rfl
      subst this
      exact strategyKey_store cfg st kv v hvk hc)
    (strategyK_pres cfg)
  exact hk.mono (strategyK_sub k _)

end AL.C03P
