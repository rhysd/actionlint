import AL.Lemmas.C14DCaller
/-
  Lemmas for AL.Props.C14Doc: a step node the parser accepts — `parseStep_action_read`: with `uses:` it is an action
  step, `uses` is the scalar, the inputs are the entries of `with:` other than `entrypoint` / `args`, ids = folded keys.
-/
namespace AL.C14D
open AL.Yaml AL.PW AL.Ast AL.C10M

def execUses : Exec → Option Str
  | .action e => e.uses
  | _ => none

def execInputs : Exec → Option (List (String × Input))
  | .action e => e.inputs
  | _ => none

theorem withKey_uses (st : ExecAction) (kv : KV) : (withKey st kv).1.uses = st.uses :=
  (withKey_frame st kv).uses

theorem withKey_loop_uses (kvs : List KV) (e0 : ExecAction) : (loop withKey e0 kvs).1.uses = e0.uses :=
  loop_withKey_frame kvs e0

theorem withKey_inputs (st : ExecAction) (kv : KV) (l : List (String × Input)) (h : st.inputs = some l) :
    (withKey st kv).1.inputs = some (l ++ (withEntry kv).toList) := by
  rw [withKey_inputs_eq, h]
  cases withEntry kv <;> simp

theorem withKey_loop_inputs : ∀ (kvs : List KV) (e0 : ExecAction) (l : List (String × Input)), e0.inputs = some l →
    (loop withKey e0 kvs).1.inputs = some (l ++ kvs.filterMap withEntry)
  | kvs, e0, l, h => by
    rw [loop_withKey_inputs, h]
    cases kvs.filterMap withEntry <;> simp

theorem withEntries_read (cfg : Cfg) : ∀ (l : List (Node × Node)),
    (∀ q ∈ l, (withEntry (mkKV cfg false q)).isSome = true → (parseString q.2 true).2 = []) →
    (l.map (mkKV cfg false)).filterMap withEntry =
      (l.filter fun q => cfg.lower q.1.value ≠ "entrypoint" && cfg.lower q.1.value ≠ "args").map
        fun q => (cfg.lower q.1.value, (⟨newString q.1, newString q.2⟩ : Input))
  | [], _ => rfl
  | q :: rest, h => by
    have ih := withEntries_read cfg rest (fun q' hq' => h q' (List.mem_cons_of_mem _ hq'))
    simp only [List.map_cons, List.filterMap_cons, List.filter_cons]
    by_cases he : cfg.lower q.1.value = "entrypoint"
    · have : withEntry (mkKV cfg false q) = none := by simp [withEntry, mkKV_id_ci, he]
      simp [this, he, ih]
    · by_cases ha : cfg.lower q.1.value = "args"
      · have : withEntry (mkKV cfg false q) = none := by simp [withEntry, mkKV_id_ci, ha]
        simp [this, ha, ih]
      · have hw : withEntry (mkKV cfg false q) = some (cfg.lower q.1.value, ⟨newString q.1, (parseString q.2 true).1⟩) := by
          simp [withEntry, mkKV_id_ci, he, ha]
          exact ⟨rfl, rfl⟩
        have hc := h q (List.mem_cons_self ..) (by rw [hw]; rfl)
        have h2 := (AL.C03P.parseString_clean q.2 true hc).2
        rw [h2] at hw
        simp [hw, he, ha, ih]

/-- `with:` of a step, accepted by the parser: the inputs it yields -/
theorem stepWith_read (cfg : Cfg) (w : Node) (e0 : ExecAction) (h0 : e0.inputs = some [])
    (hm : (parseSectionMapping cfg "with" w false false).2 = [])
    (hl : (loop withKey e0 (parseSectionMapping cfg "with" w false false).1).2 = []) :
    (loop withKey e0 (parseSectionMapping cfg "with" w false false).1).1.inputs = some (stepArgs cfg w) := by
  simp only [parseSectionMapping] at hm hl ⊢
  obtain ⟨_, heq, _, _, _⟩ := parseMapping_clean_eq cfg _ w false false hm
  rw [heq] at hl ⊢
  rw [withKey_loop_inputs _ e0 [] h0, List.nil_append, stepArgs]
  congr 1
  apply withEntries_read
  intro q hq hsome
  exact withLoop_silent _ e0 hl (mkKV cfg false q) (List.mem_map.2 ⟨q, hq, rfl⟩) hsome

/-! ### `stepKey` -/

theorem stepKey_uses_keep (cfg : Cfg) (st : StepSt) (kv : KV) (hne : kv.id ≠ "uses") :
    execUses (stepKey cfg st kv).1.step.exec = execUses st.step.exec :=
  (stepKey_frame cfg st kv).uses hne

theorem stepKey_inputs_keep (cfg : Cfg) (st : StepSt) (kv : KV) (hne : kv.id ≠ "with") :
    execInputs (stepKey cfg st kv).1.step.exec = execInputs st.step.exec :=
  (stepKey_frame cfg st kv).inputs hne

theorem stepKey_uses_set (cfg : Cfg) (st : StepSt) (kv : KV) (hk : kv.id = "uses") (hc : (stepKey cfg st kv).2 = []) :
    execUses (stepKey cfg st kv).1.step.exec = some (parseString kv.val false).1 :=
  ((stepKey_writes cfg st kv hc).uses hk).1

theorem stepKey_with_set (cfg : Cfg) (st : StepSt) (kv : KV) (hk : kv.id = "with") (hc : (stepKey cfg st kv).2 = []) :
    execInputs (stepKey cfg st kv).1.step.exec = some (stepArgs cfg kv.val) := by
  obtain ⟨e, he, h1, h2⟩ := (stepKey_writes cfg st kv hc).withArgs hk
  rw [he]
  exact stepWith_read cfg kv.val _ rfl h1 h2

theorem parseStep_uses (cfg : Cfg) (sn : Node) (hc : (parseStep cfg sn).2 = []) :
    execUses (parseStep cfg sn).1.exec = (attr "uses" sn).map newString :=
  (parseStep_uses_reads cfg sn hc).1.trans (congrArg _ (mget_eq_attr cfg _ sn true (AL.C05D.parseStep_clean cfg sn hc).1 "uses"))

/-- **a step with `uses:`** (accepted by the parser): an action step; `uses` and the inputs are what the node says -/
theorem parseStep_action_read (cfg : Cfg) (sn : Node) (hc : (parseStep cfg sn).2 = []) (vU : Node) (hu : attr "uses" sn = some vU) :
    ∃ e, (parseStep cfg sn).1.exec = .action e ∧ e.uses = some (newString vU) ∧ e.inputs = stepWith cfg sn := by
  have huses := parseStep_uses cfg sn hc
  rw [hu] at huses
  obtain ⟨hm, hl⟩ := AL.C05D.parseStep_clean cfg sn hc
  have hwith : execInputs (parseStep cfg sn).1.exec = stepWith cfg sn :=
    (sect_field cfg _ sn false (stepKey cfg) _ (fun st => execInputs st.step.exec) "with" (fun _ w => some (stepArgs cfg w))
      (fun _ => True) (stepKey_inputs_keep cfg) (fun st kv hk hst => ⟨stepKey_with_set cfg st kv hk hst, trivial⟩) nofun hm hl).1.trans
      (by rw [stepWith]; cases attr "with" sn <;> rfl)
  cases hex : (parseStep cfg sn).1.exec with
  | none => rw [hex] at huses; cases huses
  | run r => rw [hex] at huses; cases huses
  | action e =>
    rw [hex] at huses hwith
    exact ⟨e, rfl, huses, hwith⟩

theorem parseStep_nouses (cfg : Cfg) (sn : Node) (hc : (parseStep cfg sn).2 = []) (hu : attr "uses" sn = none) :
    execUses (parseStep cfg sn).1.exec = none := by
  rw [parseStep_uses cfg sn hc, hu]
  rfl

end AL.C14D
