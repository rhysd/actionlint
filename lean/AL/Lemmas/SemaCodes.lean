import AL.Lemmas.SemaAvail
/-
  The codes of the semantic checker. `keep_errs` (AL.Lemmas.SemaAvail) leaves two producers for a code outside
  `localCodes`: the `.var` case and the overload resolution of a call. Their codes are `varCallCodes` and `callCodes`,
  so a code in none of the three lists is never emitted by `check` (`check_code_free`): the codes of the layers above the
  checker (`syntax-error` of lexer and parser, `untrusted` of the untrusted-input check) are instances.
-/
namespace AL.Sema
open AL

/-- the codes of the `.var` case and of the special-function check of `resolveCall` -/
def varCallCodes : List String := ["undefined-variable", "context-not-allowed", "special-func-not-allowed"]

/-- the two codes of the layers above the checker are in none of its lists (one evaluation) -/
theorem codes_not_sema :
    ("untrusted" ∉ varCallCodes ∧ "untrusted" ∉ callCodes ∧ "untrusted" ∉ localCodes) ∧
    "syntax-error" ∉ varCallCodes ∧ "syntax-error" ∉ callCodes ∧ "syntax-error" ∉ localCodes := by decide +kernel

theorem keep_var_free {k : String} (hv : k ∉ varCallCodes) (Γ : Env) (n : String) :
    keep k (check Γ (.var n)).errs = [] :=
  keep_eq_nil_of_codes (check_var_codes Γ n) fun h => hv (List.mem_append_left ["special-func-not-allowed"] h)

theorem keep_resolveCall_free {k : String} (hv : k ∉ varCallCodes) (hc : k ∉ callCodes) (Γ : Env) (c : String)
    (sigs : List Sig) (fl : Option String) (tys : List Ty) : keep k (resolveCall Γ c sigs fl tys).2 = [] :=
  keep_eq_nil_of_codes (resolveCall_codes Γ c sigs fl tys) fun h =>
    (List.mem_cons.1 h).elim (fun h => hv (h ▸ by simp [varCallCodes])) hc

mutual
theorem srcErrs_free {k : String} (hv : k ∉ varCallCodes) (hc : k ∉ callCodes) (Γ : Env) : ∀ (e : E), srcErrs Γ k e = []
  | .null => by simp [srcErrs]
  | .bool => by simp [srcErrs]
  | .num => by simp [srcErrs]
  | .str _ => by simp [srcErrs]
  | .var n => by rw [srcErrs]; exact keep_var_free hv Γ n
  | .objDeref r _ => by rw [srcErrs]; exact srcErrs_free hv hc Γ r
  | .arrDeref r => by rw [srcErrs]; exact srcErrs_free hv hc Γ r
  | .index r i => by rw [srcErrs, srcErrs_free hv hc Γ r, srcErrs_free hv hc Γ i]; rfl
  | .not e => by rw [srcErrs]; exact srcErrs_free hv hc Γ e
  | .cmp _ l r => by rw [srcErrs, srcErrs_free hv hc Γ l, srcErrs_free hv hc Γ r]; rfl
  | .logical _ l r => by rw [srcErrs, srcErrs_free hv hc Γ l, srcErrs_free hv hc Γ r]; rfl
  | .call c args => by
    rw [srcErrs]
    split
    · rfl
    · rw [srcErrsList_free hv hc Γ args, keep_resolveCall_free hv hc]; rfl
theorem srcErrsList_free {k : String} (hv : k ∉ varCallCodes) (hc : k ∉ callCodes) (Γ : Env) :
    ∀ (es : List E), srcErrsList Γ k es = []
  | [] => by rw [srcErrsList]
  | e :: es => by rw [srcErrsList, srcErrs_free hv hc Γ e, srcErrsList_free hv hc Γ es]; rfl
end

/-- **the codes of the semantic checker**: a code in none of the three lists is never emitted, whatever the environment
and the expression -/
theorem check_code_free {k : String} (hv : k ∉ varCallCodes) (hc : k ∉ callCodes) (hl : k ∉ localCodes) (Γ : Env) (e : E) :
    ∀ x ∈ (check Γ e).errs, x.code ≠ k := by
  intro x hx hcode
  have : x ∈ keep k (check Γ e).errs := mem_keep.2 ⟨hx, hcode⟩
  rw [keep_errs Γ k hl e, srcErrs_free hv hc] at this
  cases this

end AL.Sema
