import AL.Model.Glob
import AL.Lemmas.Scan
/-
  Basic facts about the glob model: the list of characters still deliverable by `Next`
  (`pending`), the character delivered last (`Last`), and "errors only grow".
  `pending` is `Scanner.unread` under the name the statements about the validator use (the two unfold to the same
  term), so the lemmas of AL/Lemmas/Scan.lean apply to it as they stand.
-/
namespace AL.Glob
open AL

/-- Characters the scanner can still deliver through `Next` (look-ahead first). -/
def pending (s : Scanner) : List Sym :=
  match s.ch with
  | some c => c :: s.rest
  | none => []

theorem pending_eq_nil (s : Scanner) : pending s = [] ↔ s.ch = none := s.unread_eq_nil

theorem init_pending (src : List Sym) :
    pending (Scanner.init src).1 =
      match src with
      | [] => []
      | c :: t => if c.r = 0xFEFF && !c.bad then t else c :: t :=
  Scanner.init_unread src

/-- Pending characters of a validator state. -/
abbrev gp (st : GState) : List Sym := pending st.scan

theorem GState.next_fst (st : GState) : st.next.1 = (gp st).head? := st.next_fst_ch.trans st.scan.unread_head.symm
theorem GState.gp_next (st : GState) : gp st.next.2 = (gp st).tail := st.scan.next_unread
theorem GState.peek_eq (st : GState) : st.peek = (gp st).head?.map (·.r) := st.scan.peek_eq_unread
@[simp] theorem GState.gp_error (st : GState) (m : GMsg) : gp (st.error m) = gp st := rfl
@[simp] theorem GState.next_prec (st : GState) : st.next.2.prec = st.prec := rfl
@[simp] theorem GState.error_prec (st : GState) (m : GMsg) : (st.error m).prec = st.prec := rfl
theorem GState.next_errs (st : GState) : st.next.2.errs = st.errs ++ scanErrs st.scan.next.2.2 := rfl
theorem GState.error_errs (st : GState) (m : GMsg) : (st.error m).errs = st.errs ++ [⟨errCol st.scan, m⟩] := rfl

/-- The state `validate` starts from. -/
def start (src : List Sym) : GState := { scan := (Scanner.init src).1, errs := scanErrs (Scanner.init src).2 }

theorem symRune_eq (o : Option Sym) : symRune o = o.map (·.r) := by cases o <;> rfl

theorem peek_none_iff (st : GState) : st.peek = none ↔ gp st = [] := by
  rw [GState.peek_eq]
  cases gp st <;> simp

theorem gp_cons_of_ne_nil {st : GState} (h : gp st ≠ []) : ∃ c, st.next.1 = some c ∧ gp st = c :: gp st.next.2 := by
  rw [GState.gp_next, GState.next_fst]
  cases hg : gp st with
  | nil => exact absurd hg h
  | cons c t => exact ⟨c, rfl, rfl⟩

theorem gp_cons_of_peek {st : GState} {x : Nat} (h : st.peek = some x) : ∃ c, c.r = x ∧ gp st = c :: gp st.next.2 := by
  obtain ⟨c, hc, hg⟩ := gp_cons_of_ne_nil (fun h0 => by rw [(peek_none_iff st).2 h0] at h; cases h)
  rw [st.peek_eq_next, hc] at h
  exact ⟨c, Option.some.inj h, hg⟩

theorem gp_of_ch {st : GState} {c : Sym} (h : st.scan.ch = some c) : gp st = c :: gp st.next.2 := by
  rw [GState.gp_next]; simp [gp, pending, h]

/-- The pattern `src` splits into the characters delivered so far and those pending, and the variable `c` of
`validateNext`, if it holds a character, holds the one delivered last. The end-of-ref rule and every report
look at `c`; this is what ties them to a place in the pattern. -/
def Last (src : List Sym) (c : Option Nat) (st : GState) : Prop :=
  ∃ del, src = del ++ gp st ∧ ∀ x, c = some x → del.getLast?.map (·.r) = some x

theorem Last.init (st : GState) : Last (gp st) none st := ⟨[], rfl, nofun⟩

theorem Last.next {src : List Sym} {c : Option Nat} {st : GState} (h : Last src c st) :
    Last src (symRune st.next.1) st.next.2 := by
  obtain ⟨del, hs, _⟩ := h
  unfold Last
  rw [GState.next_fst, GState.gp_next]
  cases hg : gp st with
  | nil => exact ⟨del, by rw [hs, hg]; rfl, nofun⟩
  | cons d t => exact ⟨del ++ [d], by rw [hs, hg]; simp, fun x hx => by simpa [symRune] using hx⟩

/-- Reports and assignments to `prec` leave the scanner alone, so `Last` holds of the variable `c` throughout. -/
theorem Last.switchBody {src : List Sym} {c : Option Nat} {st0 : GState} (h : Last src c st0) (isRef prec0 : Bool) :
    Last src (switchBody isRef prec0 c st0).cOf (switchBody isRef prec0 c st0).state :=
  switchBody_lift (Last src) (fun _ _ h => h.next) (fun _ _ _ _ h => h) (fun _ _ _ h => h) isRef prec0 c st0 h

theorem Last.finishNext {src : List Sym} {r : SwitchRes} (h : Last src r.cOf r.state) (isRef : Bool) :
    Last src r.cOf (finishNext isRef r).2 :=
  finishNext_lift (Last src) (fun _ _ _ h => h) (fun _ _ _ h => h) isRef r h

theorem Last.validateNext {src : List Sym} {c : Option Nat} {st : GState} (h : Last src c st) (isRef : Bool) :
    ∃ c', Last src c' (validateNext isRef st).2 :=
  ⟨_, (h.next.switchBody isRef st.prec).finishNext isRef⟩

theorem Last.peek {src : List Sym} {c : Option Nat} {st : GState} {x : Nat} (h : Last src c st)
    (hx : st.peek = some x) : Last src (some x) st.next.2 := by
  rw [← hx, st.peek_eq_next]
  exact h.next

theorem Last.last {src : List Sym} {x : Nat} {st : GState} (h : Last src (some x) st) (hnil : gp st = []) :
    src.getLast?.map (·.r) = some x := by
  obtain ⟨del, hs, hl⟩ := h
  rw [hs, hnil, List.append_nil]
  exact hl x rfl

theorem GState.next_eof {st : GState} (h : st.scan.ch = none) : st.next = (none, st) := by
  simp [GState.next, Scanner.next_of_none h, scanErrs]

/-- At EOF the validator stops without a report. -/
theorem validateNext_eof (isRef : Bool) (st : GState) (h : st.scan.ch = none) :
    validateNext isRef st = (false, { st with prec := true }) := by
  unfold validateNext
  rw [GState.next_eof h]
  simp [symRune, switchBody, finishNext, GState.peek, Scanner.peek, h]

theorem loop_eof (isRef : Bool) (st : GState) (h : st.scan.ch = none) : (loop isRef st).errs = st.errs := by
  rw [loop.eq_1, dif_pos h, validateNext_eof isRef st h]

/-! ### Errors only grow -/

theorem GState.next_prefix (st : GState) : st.errs <+: st.next.2.errs := List.prefix_append _ _

theorem GState.error_prefix (st : GState) (m : GMsg) : st.errs <+: (st.error m).errs := List.prefix_append _ _

theorem GState.error_errs_ne_nil (st : GState) (m : GMsg) : (st.error m).errs ≠ [] := by
  simp [GState.error_errs]

theorem nil_of_prefix_nil {α} {a b : List α} (h : a <+: b) (hb : b = []) : a = [] := by
  subst hb; simpa using h

section Prefix
variable {es : List GErr}

theorem prefix_next (s : GState) (h : es <+: s.errs) : es <+: s.next.2.errs := h.trans s.next_prefix
theorem prefix_error (s : GState) (m : GMsg) (h : es <+: s.errs) : es <+: (s.error m).errs := h.trans (s.error_prefix m)

end Prefix

theorem classLoop_prefix (st : GState) (n : Nat) : st.errs <+: (classLoop st n).2.2.errs :=
  classLoop_inv (st.errs <+: ·.errs) prefix_next prefix_error st n (List.prefix_refl _)

theorem finishNext_prefix (isRef : Bool) (r : SwitchRes) : r.state.errs <+: (finishNext isRef r).2.errs :=
  finishNext_inv (r.state.errs <+: ·.errs) prefix_error (fun _ _ h => h) isRef r (List.prefix_refl _)

theorem loop_prefix (isRef : Bool) (st : GState) : st.errs <+: (loop isRef st).errs :=
  loop_inv (st.errs <+: ·.errs) prefix_next prefix_error (fun _ _ h => h) isRef st (List.prefix_refl _)

end AL.Glob
