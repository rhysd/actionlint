import AL.Lemmas.GlobSound
/-
  Completeness: every pattern of the declarative syntax (loose class members) passes the validator. An error-free
  state is seen through `Abs` (what is pending, `prec`); on such a state the switch and `finishNext` have three more
  equations beside those of GlobSound.lean (`switchBody_bslash_path`, `switchBody_class`, `finishNext_ok`), and
  `loop_of_switch` is one iteration of the loop given the outcome of the switch.
-/
namespace AL.Glob
open AL AL.Spec

/-- An error-free validator state seen abstractly: pending characters (all fine) and `prec`. -/
def Abs (st : GState) (l : List Sym) (p : Bool) : Prop :=
  gp st = l ∧ st.prec = p ∧ st.errs = [] ∧ AllOk l

theorem Abs.next {st : GState} {c : Sym} {l : List Sym} {p : Bool} (h : Abs st (c :: l) p) :
    st.next.1 = some c ∧ Abs st.next.2 l p := by
  obtain ⟨hg, hp, he, hok⟩ := h
  refine ⟨by rw [GState.next_fst, hg]; rfl, by rw [GState.gp_next, hg]; rfl, hp, ?_, fun x hx => hok x (List.mem_cons_of_mem _ hx)⟩
  rw [GState.next_errs, he, List.nil_append, scanErrs_nil, Scanner.next_errs_nil]
  intro d hd
  change (gp st)[1]? = some d at hd
  rw [hg] at hd
  exact hok d (List.mem_cons_of_mem _ (List.mem_of_getElem? (by simpa using hd)))

theorem Abs.peek {st : GState} {l : List Sym} {p : Bool} (h : Abs st l p) : st.peek = l.head?.map (·.r) := by
  rw [GState.peek_eq, h.1]

theorem Abs.ch {st : GState} {c : Sym} {l : List Sym} {p : Bool} (h : Abs st (c :: l) p) : st.scan.ch = some c := by
  have := h.1
  unfold gp pending at this
  cases hc : st.scan.ch with
  | none => simp [hc] at this
  | some d => simp [hc] at this; rw [this.1]

theorem Abs.with_prec {st : GState} {l : List Sym} {p : Bool} (h : Abs st l p) (q : Bool) :
    Abs { st with prec := q } l q := ⟨h.1, rfl, h.2.2.1, h.2.2.2⟩

/-! The class loop on a character that is not reported, by what follows it. -/
section ClassLoop
variable {st : GState} {c : Sym} (n : Nat) (hch : st.scan.ch = some c)
include hch

theorem classLoop_close (hc : c.r = 93) : classLoop st n = (.closed (some 93), n, st.next.2) := by
  unfold classLoop
  split
  · rename_i h0
    cases hch.symm.trans h0
  · rename_i c0 h0
    cases hch.symm.trans h0
    simp only [hc, if_true]

theorem classLoop_single (hc : c.r ≠ 93) (hpk : st.next.2.peek ≠ some 45) :
    classLoop st n = classLoop st.next.2 (n + 1) := by
  rw [classLoop]
  split
  · rename_i h0
    cases hch.symm.trans h0
  · rename_i c0 h0
    cases hch.symm.trans h0
    simp only [hc, if_false, hpk, ne_eq, not_false_eq_true, if_true]

theorem classLoop_range {hi : Sym} (hc : c.r ≠ 93) (hpk : st.next.2.peek = some 45)
    (hn : st.next.2.next.2.next.1 = some hi) (h93 : hi.r ≠ 93) (hle : c.r ≤ hi.r) :
    classLoop st n = classLoop st.next.2.next.2.next.2 (n + 2) := by
  have hpk2 : st.next.2.next.2.peek = some hi.r := by rw [GState.peek_eq_next, hn]; rfl
  rw [classLoop]
  split
  · rename_i h0
    cases hch.symm.trans h0
  · rename_i c0 h0
    cases hch.symm.trans h0
    simp only [hc, if_false, hpk, ne_eq, not_true_eq_false]
    split
    · rename_i h
      rw [hpk2] at h
      exact absurd (Option.some.inj h) h93
    · rename_i h
      rw [hpk2] at h
      cases h
    · simp only [hn, symRune, Option.getD_some, Nat.not_lt.2 hle, if_false]

end ClassLoop

theorem classLoop_complete (isRef : Bool) {l : List Sym} {items : List Item} {rest : List Sym}
    (hb : ClassBody false isRef l items rest) :
    ∀ (st : GState) (n : Nat) (p : Bool), Abs st l p →
      ∃ st', classLoop st n = (.closed (some 93), n + weight items, st') ∧ Abs st' rest p := by
  induction hb with
  | close c rest hc =>
    intro st n p ha
    exact ⟨st.next.2, classLoop_close n ha.ch hc, ha.next.2⟩
  | single c l items rest hm hh hb ih =>
    intro st n p ha
    obtain ⟨st', he, ha'⟩ := ih st.next.2 (n + 1) p ha.next.2
    refine ⟨st', ?_, ha'⟩
    rw [classLoop_single n ha.ch hm.1 (by rw [ha.next.2.peek]; exact hh), he, Nat.add_assoc]
    rfl
  | range lo d hi l items rest hm hd hm2 hle hb ih =>
    intro st n p ha
    have h2 := ha.next.2
    have h4 := h2.next
    obtain ⟨st', he, ha'⟩ := ih st.next.2.next.2.next.2 (n + 2) p h4.2.next.2
    refine ⟨st', ?_, ha'⟩
    rw [classLoop_range n ha.ch hm.1 (by rw [h2.peek]; simp [hd]) h4.2.next.1 hm2.1 hle, he, Nat.add_assoc]
    rfl

theorem switchBody_bslash_path (p : Bool) (st0 : GState) {l : List Sym} {q : Bool}
    (hl : ∀ d, l.head? = some d → ¬ PathEscapable d.r) (ha : Abs st0 l q) :
    switchBody false p (some 92) st0 = .ok (some 92, true, st0) := by
  refine switchBody_bslash fun x hpk => ?_
  rw [ha.peek] at hpk
  cases hh : l.head? with
  | none => rw [hh] at hpk; cases hpk
  | some d =>
    rw [hh] at hpk
    cases hpk
    exact hl d hh

theorem switchBody_class (isRef p : Bool) (o : Sym) (st0 : GState) (l : List Sym) (items : List Item)
    (rest : List Sym) (q : Bool) (ho : o.r = 91) (hb : ClassBody false isRef l items rest) (hok : ClassOK items)
    (ha : Abs st0 l q) :
    ∃ st', switchBody isRef p (some o.r) st0 = .ok (some 93, true, st') ∧ Abs st' rest q := by
  obtain ⟨st', he, ha'⟩ := classLoop_complete isRef hb st0 0 q ha
  refine ⟨st', ?_, ha'⟩
  have hpk : st0.peek ≠ some 93 := by
    rw [ha.peek]
    cases hb with
    | close c rest hc => exact absurd rfl hok.1
    | single c l items rest hm _ _ => simpa using hm.1
    | range lo d hi l items rest hm _ _ _ _ => simpa using hm.1
  rw [Nat.zero_add] at he
  rw [ho, switchBody_cls hpk he, if_neg (weight_ne_one hok)]

theorem finishNext_ok (isRef : Bool) (c' : Option Nat) (pr q : Bool) (st1 : GState) (rest : List Sym)
    (ha : Abs st1 rest q) (hend : rest = [] → isRef = true → c' ≠ some 47 ∧ c' ≠ some 46) :
    finishNext isRef (.ok (c', pr, st1)) = (!rest.isEmpty, { st1 with prec := pr }) := by
  cases rest with
  | nil =>
    rw [finishNext_end ha.1, if_neg fun h => h.2.elim (hend rfl h.1).1 (hend rfl h.1).2]
    rfl
  | cons a b =>
    rw [finishNext_more (ha.1 ▸ List.cons_ne_nil a b)]
    rfl

/-- One iteration of the loop on an abstract state, given the outcome of the switch. The rule about the end of a
ref needs nothing from the switch: the character it looks at is the one delivered last (`Last.switchBody`). -/
theorem loop_of_switch {src : List Sym} {isRef : Bool} {st st1 : GState} {c : Sym} {l rest : List Sym} {p pr q : Bool}
    {c0 c' : Option Nat} (hJ : Last src c0 st) (hE : EndOK isRef src)
    (ha : Abs st (c :: l) p) (hsw : switchBody isRef p (some c.r) st.next.2 = .ok (c', pr, st1)) (ha1 : Abs st1 rest q)
    (ih : ∀ st' c'', Abs st' rest pr → Last src c'' st' → (loop isRef st').errs = []) : (loop isRef st).errs = [] := by
  have hJ1 := hJ.next.switchBody isRef p
  rw [ha.next.1, symRune, hsw] at hJ1
  have hJ2 := hJ1.finishNext isRef
  have hend : rest = [] → isRef = true → c' ≠ some 47 ∧ c' ≠ some 46 := fun hr hi =>
    have hg : gp st1 = [] := ha1.1.trans hr
    ⟨fun hc => (hE hi).1 (Last.last (hc ▸ hJ1) hg), fun hc => (hE hi).2 (Last.last (hc ▸ hJ1) hg)⟩
  have hv := finishNext_ok isRef c' pr q st1 rest ha1 hend
  have ha' := ha1.with_prec pr
  rw [hv] at hJ2
  have hch : ¬ st.scan.ch = none := by rw [ha.ch]; simp
  rw [loop.eq_1]
  unfold validateNext
  simp only [hch, ↓reduceDIte, ha.next.1, symRune, ha.2.1, hsw, hv]
  cases rest with
  | nil => simpa using ha'.2.2.1
  | cons a b => simpa using ih _ _ ha' hJ2

theorem loop_complete {src : List Sym} (isRef : Bool) (hend : EndOK isRef src) {p : Bool} {l : List Sym}
    (hE : Elems false isRef p l) : ∀ st c, Abs st l p → Last src c st → (loop isRef st).errs = [] := by
  induction hE with
  | nil p =>
    intro st _ ha _
    rw [loop_eof isRef st ((pending_eq_nil _).1 ha.1)]
    exact ha.2.2.1
  | ord p c rest hord _ ih =>
    intro st _ ha hJ
    exact loop_of_switch hJ hend ha (switchBody_ord hord) ha.next.2 ih
  | bslash p c rest hr hc hl _ ih =>
    intro st _ ha hJ
    subst hr
    exact loop_of_switch hJ hend ha (by rw [hc]; exact switchBody_bslash_path p st.next.2 hl ha.next.2) ha.next.2 ih
  | esc p b c rest hb hesc _ ih =>
    intro st _ ha hJ
    exact loop_of_switch hJ hend ha
      (by rw [hb]; exact switchBody_escapable hesc (by rw [ha.next.2.peek]; rfl)) ha.next.2.next.2 ih
  | star p c rest hc _ ih =>
    intro st _ ha hJ
    exact loop_of_switch hJ hend ha (by rw [hc]; rfl) ha.next.2 ih
  | opt c rest hc _ ih =>
    intro st _ ha hJ
    exact loop_of_switch hJ hend ha (switchBody_opt hc) ha.next.2 ih
  | cls p o l items rest ho hb hok _ ih =>
    intro st _ ha hJ
    obtain ⟨st1, hsw, ha1⟩ := switchBody_class isRef p o st.next.2 l items rest p ho hb hok ha.next.2
    exact loop_of_switch hJ hend ha hsw ha1 ih

theorem init_Abs (src : List Sym) (hok : AllOk (pending (Scanner.init src).1)) :
    Abs (start src) (pending (Scanner.init src).1) false :=
  ⟨rfl, rfl, (scanErrs_nil _).2 ((Scanner.init_errs_nil src).2 fun c hc => hok c (List.mem_of_mem_head? hc)), hok⟩

theorem entry_Abs {st : GState} {l : List Sym} (h : Abs st l false) : Abs (entry st) (body l) false := by
  unfold entry body
  rw [h.peek]
  split
  · cases l with
    | nil => contradiction
    | cons c t => exact h.next.2.with_prec false
  · exact h

/-- What completeness uses of a pattern that is valid or, behind a byte-order mark, empty. -/
theorem valid_or_nil {isRef : Bool} {l : List Sym} (h : l = [] ∨ ValidGlobLoose isRef l) :
    AllOk l ∧ (isRef = true → l.head?.map (·.r) ≠ some 47) ∧ (l = [] ∨ body l ≠ []) ∧
      Elems false isRef false (body l) ∧ EndOK isRef l := by
  rcases h with rfl | ⟨h1, h2, h3, h4⟩
  · exact ⟨nofun, fun _ => nofun, .inl rfl, .nil false, fun _ => ⟨nofun, nofun⟩⟩
  · exact ⟨h1, fun hr => (h4 hr).1, .inr h2, h3, fun hr => (h4 hr).2⟩

/-- Converse of `validate_sound_eff`. -/
theorem validate_complete_eff (isRef : Bool) (src : List Sym) (hne : src ≠ [])
    (h : pending (Scanner.init src).1 = [] ∨ ValidGlobLoose isRef (pending (Scanner.init src).1)) :
    validate isRef src = [] := by
  cases src with
  | nil => exact absurd rfl hne
  | cons c t =>
    obtain ⟨hall, h47, hb, hE, hend⟩ := valid_or_nil h
    obtain ⟨c', hJ⟩ := entry_last (Last.init (start (c :: t)))
    exact (validate_nil_iff isRef c t).2
      ⟨h47, hb, loop_complete isRef hend hE _ _ (entry_Abs (init_Abs (c :: t) hall)) hJ⟩

theorem validate_complete (isRef : Bool) (src : List Sym) (hb : NoBOM src) (h : ValidGlobLoose isRef src) :
    validate isRef src = [] := by
  have hne : src ≠ [] := by
    intro h0; subst h0; exact h.2.1 rfl
  refine validate_complete_eff isRef src hne (.inr ?_)
  rw [init_gp src hb]
  exact h

end AL.Glob
