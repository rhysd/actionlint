import AL.Lemmas.LexerSpell
/-
  The lexer as a function of the unread runes. What `Next` does after the blanks depends on the state only through
  `ahead st = runes st.scan.unread`; buffer, start position and error slot are bookkeeping that `adv` carries along.
  `pAt l r` says what `lexAt st r` does when `ahead st = l`: `none` = the empty END with an error recorded,
  `some (k, n)` = `n` characters consumed and a token of kind `k` emitted. Each helper of `Next` has its counterpart
  `p…` on lists, written branch by branch after it, and `…_agrees` relates the two; `lexAt_agrees` is the sum.
  After that a fact about `Next` on a given input is a fact about lists.
-/
namespace AL.Lex
open AL AL.Spec

abbrev Res := Option (TokKind × Nat)

/-- `o`, found after `n` characters were consumed -/
def shift (n : Nat) : Res → Res
  | some (k, m) => some (k, n + m)
  | none => none

/-- how many characters `eatWhile p` consumes -/
def span (p : Nat → Bool) (l : List Nat) : Nat := (l.takeWhile p).length

/-- `finishNum` -/
def pFinish (l : List Nat) (k : TokKind) : Res :=
  match l.head? with
  | some r => if isAlnum r then none else some (k, 0)
  | none => some (k, 0)

/-- `lexHexInt` -/
def pHex (l : List Nat) : Res :=
  if l.head? = some 48 then shift 1 (pFinish l.tail .int)
  else if l.head?.any isHexNum then
    shift (span isHexNum l.tail + 1) (pFinish (l.drop (span isHexNum l.tail + 1)) .int)
  else none

/-- `eatDigits` -/
def pDigits (l : List Nat) : Nat := span isNum l.tail + 1

/-- the optional `-` -/
def pSign (l : List Nat) : Nat := if l.head? = some 45 then 1 else 0

/-- `numInt`; the flag says that `0x` was read -/
def pInt (l : List Nat) : Option (Nat × Bool) :=
  if l.head? = some 48 then (if l.tail.head? = some 120 then some (2, true) else some (1, false))
  else if l.head?.any isNum then some (pDigits l, false) else none

/-- `numFrac` -/
def pFrac (l : List Nat) : Option (Nat × TokKind) :=
  if l.head? = some 46 then
    if l.tail.head?.any isNum then some (pDigits l.tail + 1, .float) else none
  else some (0, .int)

/-- `lexExponent` -/
def pExp (l : List Nat) : Option Nat :=
  let s := pSign l.tail + 1
  if (l.drop s).head? = some 48 then some (s + 1)
  else if (l.drop s).head?.any isNum then some (s + pDigits (l.drop s)) else none

/-- `numTail` -/
def pTail (l : List Nat) (k : TokKind) : Res :=
  if l.head? = some 101 || l.head? = some 69 then
    match pExp l with
    | none => none
    | some n => shift n (pFinish (l.drop n) .float)
  else pFinish l k

/-- `lexNum` after the sign -/
def pNum1 (l : List Nat) : Res :=
  match pInt l with
  | none => none
  | some (n, true) => shift n (pHex (l.drop n))
  | some (n, false) =>
    shift n <|
      match pFrac (l.drop n) with
      | none => none
      | some (m, k) => shift m (pTail ((l.drop n).drop m) k)

/-- `lexNum` -/
def pNum (l : List Nat) : Res := shift (pSign l) (pNum1 (l.drop (pSign l)))

/-- `lexString`: the head of the list is the character under the cursor (the opening quote at first) -/
def pStr : List Nat → Res
  | [] => none
  | [_] => none
  | _ :: c :: t =>
    if c = 39 then (if t.head? ≠ some 39 then some (.string, 2) else shift 2 (pStr t))
    else shift 1 (pStr (c :: t))

/-- `lexPair` -/
def pPair (l : List Nat) (second : Nat) (k : TokKind) : Res :=
  if l.tail.head? ≠ some second then none else some (k, 2)

/-- `lexOptEq` -/
def pOptEq (l : List Nat) (k kEq : TokKind) : Res :=
  if l.tail.head? = some 61 then some (kEq, 2) else some (k, 1)

/-- `lexAt` -/
def pAt (l : List Nat) (r : Nat) : Res :=
  if isAlpha r || r = 95 then some (.ident, span isIdentChar l.tail + 1)
  else if isNum r || r = 45 then pNum l
  else match r with
    | 39 => pStr l
    | 125 => pPair l 125 .end
    | 33 => pOptEq l .not .notEq
    | 60 => pOptEq l .less .lessEq
    | 62 => pOptEq l .greater .greaterEq
    | 61 => pPair l 61 .eq
    | 38 => pPair l 38 .and
    | 124 => pPair l 124 .or
    | 40 => some (.lparen, 1)
    | 41 => some (.rparen, 1)
    | 91 => some (.lbracket, 1)
    | 93 => some (.rbracket, 1)
    | 46 => some (.dot, 1)
    | 42 => some (.star, 1)
    | 44 => some (.comma, 1)
    | _ => none

/-- `Next` after the blanks -/
def pNext (l : List Nat) : Res :=
  match l.head? with
  | none => none
  | some r => pAt l r

/-! ### the model agrees with it -/

/-- the runes the scanner can still deliver -/
def ahead (st : LexState) : List Nat := runes st.scan.unread

/-- `R` is what the pure result prescribes for a helper started in `st` -/
def Agrees (st : LexState) (R : Tok × LexState) : Res → Prop
  | none => IsFail R
  | some (k, n) => R = (adv st n).token k

theorem peek_ahead (st : LexState) : st.peek = (ahead st).head? := by
  rw [ahead, runes, List.head?_map]; exact st.scan.peek_eq_unread

theorem ahead_next (st : LexState) : ahead st.next = (ahead st).tail := by
  rw [ahead, next_unread, ahead]; cases st.scan.unread <;> rfl

theorem ahead_adv (st : LexState) (n : Nat) : ahead (adv st n) = (ahead st).drop n := by
  induction n generalizing st with
  | zero => rfl
  | succ n ih => rw [adv_succ, ih, ahead_next, List.drop_tail]

theorem ahead_cons {st : LexState} {c : Sym} (h : st.scan.ch = some c) : ahead st = c.r :: ahead st.next := by
  rw [ahead, ahead, Scanner.unread_of_some h, next_unread_some h]; rfl

theorem ahead_nil {st : LexState} (h : st.scan.ch = none) : ahead st = [] := by
  rw [ahead, (Scanner.unread_eq_nil _).2 h]; rfl

theorem eatWhile_span (p : Nat → Bool) (st : LexState) : eatWhile p st = adv st (span p (ahead st)) := by
  rw [eatWhile_adv, span, ahead, runes, List.takeWhile_map, List.length_map]; rfl

theorem eatDigits_eq (st : LexState) : eatDigits st = adv st (pDigits (ahead st)) := by
  rw [eatDigits, eatWhile_span, ahead_next]; rfl

theorem sign_eq (st : LexState) : (if st.peek = some 45 then st.next else st) = adv st (pSign (ahead st)) := by
  rw [pSign, ← peek_ahead]; split <;> rfl

/-- a helper that runs after `n` characters were consumed -/
theorem Agrees.shift {st st' : LexState} {R : Tok × LexState} {n : Nat} {o : Res} (hs : st' = adv st n)
    (h : Agrees st' R o) : Agrees st R (shift n o) := by
  subst hs
  match o, h with
  | none, h => exact h
  | some (k, m), h => exact h.trans (by rw [adv_adv])

theorem finishNum_agrees (st : LexState) (k : TokKind) (wh : Where) :
    Agrees st (finishNum st k wh) (pFinish (ahead st) k) := by
  unfold finishNum pFinish
  rw [peek_ahead]
  cases (ahead st).head? with
  | none => rfl
  | some r =>
    cases h : isAlnum r <;> simp only [h, Bool.false_eq_true, if_true, if_false]
    · rfl
    · exact isFail_unexpected _ _ _

theorem lexHexInt_agrees (st : LexState) : Agrees st (lexHexInt st) (pHex (ahead st)) := by
  unfold lexHexInt pHex
  rw [← peek_ahead]
  split
  · rename_i h
    rw [if_pos h, ← ahead_next]
    exact (finishNum_agrees st.next .int .afterHex).shift rfl
  · rename_i r hne
    rw [if_neg (fun h => hne h)]
    generalize st.peek = r
    cases r with
    | none => exact isFail_unexpected _ _ _
    | some x =>
      simp only [Option.any]
      by_cases h : isHexNum x = true <;>
        simp only [h, Bool.not_true, Bool.not_false, Bool.false_eq_true, if_false, if_true]
      · rw [eatWhile_span, ← ahead_next, ← ahead_adv, ← adv_succ]
        exact (finishNum_agrees _ .int .afterHex).shift rfl
      · exact isFail_unexpected _ _ _

/-- the same for the parts of `lexNum` that hand on a state and a flag -/
def AgreesE {α : Type} (st : LexState) : Except (Tok × LexState) (LexState × α) → Option (Nat × α) → Prop
  | .error e, none => IsFail e
  | .ok (st', a), some (n, b) => st' = adv st n ∧ a = b
  | _, _ => False

theorem numInt_agrees (st : LexState) : AgreesE st (numInt st) (pInt (ahead st)) := by
  unfold numInt pInt
  rw [← peek_ahead, ← ahead_next, ← peek_ahead]
  split
  · rename_i h
    rw [if_pos h]
    dsimp only
    split <;> exact ⟨rfl, rfl⟩
  · rename_i r hne
    rw [if_neg (fun h => hne h)]
    generalize st.peek = r
    cases r with
    | none => exact isFail_unexpected _ _ _
    | some x =>
      simp only [Option.any]
      by_cases h : isNum x = true <;>
        simp only [h, Bool.not_true, Bool.not_false, Bool.false_eq_true, if_false, if_true]
      · exact ⟨eatDigits_eq st, rfl⟩
      · exact isFail_unexpected _ _ _

theorem numFrac_agrees (st : LexState) : AgreesE st (numFrac st) (pFrac (ahead st)) := by
  unfold numFrac pFrac
  rw [← peek_ahead, ← ahead_next, ← peek_ahead]
  split
  · dsimp only
    generalize hr : st.next.peek = r
    cases r with
    | none => exact isFail_unexpected _ _ _
    | some x =>
      simp only [Option.any]
      by_cases h : isNum x = true <;>
        simp only [h, Bool.not_true, Bool.not_false, Bool.false_eq_true, if_false, if_true]
      · exact ⟨eatDigits_eq st.next, rfl⟩
      · exact isFail_unexpected _ _ _
  · exact ⟨rfl, rfl⟩

def AgreesS (st : LexState) : Except (Tok × LexState) LexState → Option Nat → Prop
  | .error e, none => IsFail e
  | .ok st', some n => st' = adv st n
  | _, _ => False

theorem lexExponent_agrees (st : LexState) : AgreesS st (lexExponent st) (pExp (ahead st)) := by
  unfold lexExponent pExp
  dsimp only
  rw [sign_eq st.next, ← adv_succ, ← ahead_adv, ← ahead_next]
  generalize hst2 : adv st (pSign (ahead st.next) + 1) = st2
  rw [← peek_ahead]
  split
  · rename_i h
    rw [if_pos h]
    exact hst2 ▸ adv_next st _
  · rename_i r hne
    rw [if_neg (fun h => hne h)]
    generalize st2.peek = r
    cases r with
    | none => exact isFail_unexpected _ _ _
    | some x =>
      simp only [Option.any]
      by_cases h : isNum x = true <;>
        simp only [h, Bool.not_true, Bool.not_false, Bool.false_eq_true, if_false, if_true]
      · rw [eatDigits_eq, ← hst2, adv_adv]; rfl
      · exact isFail_unexpected _ _ _

theorem numTail_agrees (st : LexState) (k : TokKind) : Agrees st (numTail st k) (pTail (ahead st) k) := by
  unfold numTail pTail
  rw [← peek_ahead]
  split
  · have := lexExponent_agrees st
    unfold AgreesS at this
    split at this
    · rename_i e h1 h2; rw [h1, h2]; exact this
    · rename_i st' n h1 h2; rw [h1, h2, this]
      exact (ahead_adv st n ▸ finishNum_agrees _ .float .afterNumber).shift rfl
    · exact this.elim
  · exact finishNum_agrees st k .afterNumber

theorem lexNum_agrees (st : LexState) : Agrees st (lexNum st) (pNum (ahead st)) := by
  rw [lexNum_eq, sign_eq]
  refine Agrees.shift rfl ?_
  rw [← ahead_adv]
  generalize adv st (pSign (ahead st)) = st1
  unfold pNum1
  have hI := numInt_agrees st1
  unfold AgreesE at hI
  split at hI
  · rename_i e h1 h2; rw [h1, h2]; exact hI
  · rename_i st2 b n b' h1 h2
    obtain ⟨rfl, rfl⟩ := hI
    rw [h1, h2]
    cases b <;> dsimp only
    · refine Agrees.shift rfl ?_
      rw [← ahead_adv]
      generalize adv st1 n = st2
      have hF := numFrac_agrees st2
      unfold AgreesE at hF
      split at hF
      · rename_i e h3 h4; rw [h3, h4]; exact hF
      · rename_i st3 k m k' h3 h4
        obtain ⟨rfl, rfl⟩ := hF
        rw [h3, h4]
        exact (ahead_adv st2 m ▸ numTail_agrees _ _).shift rfl
      · exact hF.elim
    · exact (ahead_adv st1 n ▸ lexHexInt_agrees _).shift rfl
  · exact hI.elim

theorem lexString_agrees (st : LexState) : Agrees st (lexString st) (pStr (ahead st)) := by
  fun_induction lexString st with
  | case1 st h => rw [ahead_nil h]; exact isFail_unexpected _ _ _
  | case2 st c0 h st1 h1 => rw [ahead_cons h, ahead_nil h1]; exact isFail_unexpected _ _ _
  | case3 st c0 h st1 c h1 hq st2 hne =>
    rw [ahead_cons h, ahead_cons h1, pStr, if_pos hq, ← peek_ahead, if_pos hne]; rfl
  | case4 st c0 h st1 c h1 hq st2 hne ih =>
    rw [ahead_cons h, ahead_cons h1, pStr, if_pos hq, ← peek_ahead, if_neg hne]
    exact ih.shift rfl
  | case5 st c0 h st1 c h1 hq ih =>
    rw [ahead_cons h, ahead_cons h1, pStr, if_neg hq, ← ahead_cons h1]
    exact ih.shift rfl

theorem lexPair_agrees (st : LexState) (second : Nat) (k : TokKind) (wh : Where) :
    Agrees st (lexPair st second k wh) (pPair (ahead st) second k) := by
  unfold lexPair pPair
  rw [← ahead_next, ← peek_ahead]
  dsimp only
  split
  · exact isFail_unexpected _ _ _
  · rfl

theorem lexOptEq_agrees (st : LexState) (k kEq : TokKind) :
    Agrees st (lexOptEq st k kEq) (pOptEq (ahead st) k kEq) := by
  unfold lexOptEq pOptEq
  rw [← ahead_next, ← peek_ahead]
  dsimp only
  split <;> rfl

theorem lexAt_agrees (st : LexState) (r : Nat) : Agrees st (lexAt st r) (pAt (ahead st) r) := by
  unfold lexAt pAt
  split
  · rw [eatWhile_span, ahead_next]; rfl
  · split
    · exact lexNum_agrees st
    · split
      · exact lexString_agrees st
      · exact lexPair_agrees ..
      · exact lexOptEq_agrees ..
      · exact lexOptEq_agrees ..
      · exact lexOptEq_agrees ..
      · exact lexPair_agrees ..
      · exact lexPair_agrees ..
      · exact lexPair_agrees ..
      · rfl
      · rfl
      · rfl
      · rfl
      · rfl
      · rfl
      · rfl
      -- no character of the table: `pAt` falls through its own copy of the table under the same fifteen hypotheses
      · rw [pAt.match_1.eq_16]
        · exact isFail_unexpected _ _ _
        all_goals assumption

theorem lexNext_agrees (st0 : LexState) : Agrees (skipWhite st0) (lexNext st0) (pNext (ahead (skipWhite st0))) := by
  rw [lexNext_eq, pNext, ← peek_ahead]
  cases (skipWhite st0).peek with
  | none => exact ⟨rfl, rfl, error_err_ne_none _ _⟩
  | some r => exact lexAt_agrees _ r

end AL.Lex
