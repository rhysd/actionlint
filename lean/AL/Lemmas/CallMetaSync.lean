import AL.Model.CallMeta
import AL.Lemmas.ParseWfKeys
import AL.Lemmas.ParseWfLoop
import AL.Lemmas.ParseWfClean
import AL.Lemmas.StructDecode
/-
  Lemmas for AL.Props.C10Meta (`Sane`, `null_tag`, `pairs_of_null` also serve AL.Lemmas.C14DCallee and
  C14DAction): the parser's loops over a mapping it accepts without a diagnostic (`mappingLoop`, `loop`)
  run in lock-step with yaml.v3's struct-filling loop (`structLoop`) over the same mapping (`struct_sync`); instantiated for
  the attributes of an input, of a secret, and for the three sections of `workflow_call:`.
  `Sane` / `SaneTo` state what yaml.v3 guarantees about the nodes of the tree it builds (the harness checks it on every
  generated tree) and exclude the two things the model does not follow: alias nodes and `!!binary`.
  The parser side is read through AL.Lemmas.ParseWfClean: an accepted `parseMapping` is the key loop over the pairs
  (`parseMapping_silent_loop`; one step of it, `mappingLoop_clean_cons`, is what `struct_sync` walks along), its entries are
  `kvOf` of the pairs, with distinct ids (`parseMapping_silent`), whence yaml.v3's check for a repeated key passes.
-/

namespace AL.C10M
open AL.Yaml AL.Ast AL.PW AL.CallMeta

/-- what `gopkg.in/yaml.v3` guarantees about a node of the tree it builds (checked on every generated tree by the
harness), minus the two things the model does not follow (alias, `!!binary`) -/
structure Sane (n : Node) : Prop where
  notAlias : n.kind ≠ .alias
  notBinary : n.tag ≠ "!!binary"
  leaf : n.kind = .scalar → n.content = []
  noValue : n.kind ≠ .scalar → n.value = ""
  nullValue : n.tag = "!!null" → n.value ∈ nullWords
  boolValue : n.tag = "!!bool" → n.value ∈ boolWords

def SaneTo : Nat → Node → Prop
  | 0, n => Sane n
  | d + 1, n => Sane n ∧ ∀ q ∈ pairs n.content, SaneTo d q.1 ∧ SaneTo d q.2

theorem SaneTo.sane {d : Nat} {n : Node} (h : SaneTo d n) : Sane n := by
  cases d with
  | zero => exact h
  | succ d => exact h.1

theorem parseString_clean (k : Node) (h : (parseString k false).2 = []) :
    k.kind = .scalar ∧ k.value ≠ "" ∧ (parseString k false).1 = newString k :=
  ⟨(parseString_silent k false h).1, (parseString_silent k false h).2.1 rfl, (parseString_silent k false h).2.2⟩

def idOf (cfg : Cfg) (cs : Bool) (k : Node) : String := if cs then k.value else cfg.lower k.value

theorem mappingLoop_clean_cons (cfg : Cfg) (what : String) (cs : Bool) (k v : Node) (rest : List (Node × Node))
    (seen : List (String × Pos)) (h : (mappingLoop cfg what cs ((k, v) :: rest) seen).2 = []) :
    k.kind = .scalar ∧ k.value ≠ "" ∧ lookupSeen (idOf cfg cs k) seen = none ∧
    (mappingLoop cfg what cs ((k, v) :: rest) seen).1 =
      ⟨idOf cfg cs k, newString k, v⟩ :: (mappingLoop cfg what cs rest (seen ++ [(idOf cfg cs k, k.pos)])).1 ∧
    (mappingLoop cfg what cs rest (seen ++ [(idOf cfg cs k, k.pos)])).2 = [] := by
  rw [mappingLoop_cons] at h ⊢
  cases hl : lookupSeen (keyId cfg cs k) seen with
  | some p => simp [hl] at h
  | none =>
    simp only [hl, List.append_eq_nil_iff] at h ⊢
    obtain ⟨hk, hv, hs⟩ := parseString_clean k h.1
    have hid : keyId cfg cs k = idOf cfg cs k := keyId_silent cfg cs k h.1
    have hp : (parseString k false).1.pos = k.pos := parseString_at k false
    rw [hid, hp] at h
    rw [hid] at hl
    rw [hid, hp, hs]
    exact ⟨hk, hv, hl, rfl, h.2⟩

theorem parseMapping_clean (cfg : Cfg) (what : String) (n : Node) (cs : Bool)
    (h : (parseMapping cfg what n true cs).2 = []) :
    (n.isNull = true ∨ n.kind = .mapping) ∧
    (parseMapping cfg what n true cs).1 = (mappingLoop cfg what cs (pairs n.content) []).1 ∧
    (mappingLoop cfg what cs (pairs n.content) []).2 = [] := by
  obtain ⟨hk, he, hs, -⟩ := parseMapping_silent_loop cfg what n true cs h
  exact ⟨hk.symm, he, hs⟩

/-- pairwise distinct key texts: yaml.v3's check for a repeated key passes -/
theorem hasDupKey_of_nodup : ∀ (l : List (Node × Node)), (l.map (·.1.value)).Nodup → hasDupKey l = false
  | [], _ => rfl
  | (k, v) :: rest, h => by
    simp only [List.map_cons, List.nodup_cons, List.mem_map, not_exists, not_and] at h
    simp only [hasDupKey, Bool.or_eq_false_iff, List.any_eq_false, Bool.and_eq_true, decide_eq_true_eq, not_and]
    exact ⟨fun q hq _ e => h.1 q hq e, hasDupKey_of_nodup rest h.2⟩

/-- a mapping the parser accepts, its keys taken as written, has no repeated key: the ids of its entries are the key texts -/
theorem noDup_of_silent (cfg : Cfg) (what : String) (n : Node) (ae : Bool) (h : (parseMapping cfg what n ae true).2 = []) :
    hasDupKey (pairs n.content) = false := by
  have hnd := (parseMapping_silent cfg what n ae true h).2.2.1
  rw [List.map_map] at hnd
  exact hasDupKey_of_nodup _ hnd

/-- the pairs of a null node (a scalar) -/
theorem pairs_of_null (v : Node) (hs : Sane v) (hn : v.isNull = true) : pairs v.content = [] := by
  have hk : v.kind = .scalar := by
    simp only [Node.isNull, Bool.and_eq_true, decide_eq_true_eq] at hn
    exact hn.1
  rw [hs.leaf hk]; rfl

theorem null_tag (v : Node) (hn : v.isNull = true) : v.kind = .scalar ∧ v.tag = "!!null" := by
  simpa [Node.isNull] using hn

/-- a section the parser accepts is null (yaml.v3 leaves the zero value) or a mapping without a repeated key: decoding it
is `structLoop` over its pairs -/
theorem structDecode_of_clean {σ : Type} (cfg : Cfg) (what : String) (v : Node) (hsv : Sane v)
    (hm : (parseMapping cfg what v true true).2 = []) (fields : List String) (set : σ → String → Node → D σ) (sy sy' : σ)
    (hdec : structLoop fields set (pairs v.content) [] sy = .ok sy') : structDecode fields set sy v = .ok sy' := by
  refine structDecode_eq_ok.2 ?_
  rcases (parseMapping_silent cfg what v true true hm).1 with hmap | hn
  · exact .inl ⟨hmap, noDup_of_silent cfg what v true hm, hdec⟩
  · rw [pairs_of_null v hsv hn] at hdec
    exact .inr ⟨(null_tag v hn).1, (null_tag v hn).2, (Except.ok.inj hdec).symm⟩

/-- the loop of a section parser over the keys of a mapping the parser accepts, and yaml.v3's loop that fills a struct
from the same mapping, step by step -/
theorem struct_sync {σa σy : Type} (cfg : Cfg) (what : String) (fields allowed : List String)
    (step : σa → KV → σa × List PErr) (set : σy → String → Node → D σy)
    (Rel : List (String × Pos) → σa → σy → Prop) (P : Node → Node → Prop)
    (hallowed : ∀ a ∈ allowed, a ≠ "<<" ∧ a ∉ nullWords)
    (hstep : ∀ (seen : List (String × Pos)) (sa : σa) (sy : σy) (k v : Node), Rel seen sa sy → k.kind = .scalar →
        lookupSeen k.value seen = none → P k v →
        (step sa ⟨k.value, newString k, v⟩).2 = [] →
        k.value ∈ allowed ∧
        (k.value ∈ fields → ∃ sy', set sy k.value v = .ok sy' ∧
            Rel (seen ++ [(k.value, k.pos)]) (step sa ⟨k.value, newString k, v⟩).1 sy') ∧
        (k.value ∉ fields → Rel (seen ++ [(k.value, k.pos)]) (step sa ⟨k.value, newString k, v⟩).1 sy)) :
    ∀ (l : List (Node × Node)) (seen : List (String × Pos)) (done : List String) (sa : σa) (sy : σy),
      (mappingLoop cfg what true l seen).2 = [] →
      (loop step sa (mappingLoop cfg what true l seen).1).2 = [] →
      (∀ q ∈ l, Sane q.1 ∧ P q.1 q.2) →
      (∀ name ∈ done, lookupSeen name seen ≠ none) →
      Rel seen sa sy →
      ∃ sy', structLoop fields set l done sy = .ok sy' ∧
        ∃ seen', Rel seen' (loop step sa (mappingLoop cfg what true l seen).1).1 sy' := by
  intro l
  induction l with
  | nil =>
    intro seen done sa sy _ _ _ _ hrel
    exact ⟨sy, rfl, seen, by simpa [mappingLoop] using hrel⟩
  | cons q rest ih =>
    obtain ⟨k, v⟩ := q
    intro seen done sa sy hm hl hP hdone hrel
    obtain ⟨hk, _, hls, hkvs, hr⟩ := mappingLoop_clean_cons cfg what true k v rest seen hm
    simp only [idOf, if_true] at hls hkvs hr
    rw [hkvs, loop_cons] at hl
    rw [hkvs, loop_cons]
    have hs1 := (List.append_eq_nil_iff.mp hl).1
    have hs2 := (List.append_eq_nil_iff.mp hl).2
    obtain ⟨hsane, hp⟩ := hP (k, v) (by simp)
    obtain ⟨hal, hin, hout⟩ := hstep seen sa sy k v hrel hk hls hp hs1
    obtain ⟨hne, hnn⟩ := hallowed _ hal
    have hmerge : isMerge k = false := by simp [isMerge, hne]
    have hdec : decStr k = .ok k.value := by
      have htag : k.tag ≠ "!!null" := fun e => hnn (hsane.nullValue e)
      simp [decStr, hk, htag, hsane.notBinary]
    have hdone' : ∀ name ∈ k.value :: done, lookupSeen name (seen ++ [(k.value, k.pos)]) ≠ none := by
      intro name hn
      rw [lookupSeen_snoc]
      rcases List.mem_cons.mp hn with rfl | hn
      · simp [hls]
      · cases hq : lookupSeen name seen with
        | some p => simp
        | none => exact absurd hq (hdone name hn)
    have hP' : ∀ q ∈ rest, Sane q.1 ∧ P q.1 q.2 := fun q hq => hP q (List.mem_cons_of_mem _ hq)
    simp only [structLoop, hmerge, hdec]
    by_cases hf : k.value ∈ fields
    · have hnd : k.value ∉ done := fun hd => hdone _ hd hls
      obtain ⟨sy1, hset, hrel1⟩ := hin hf
      simp only [hf, hnd, hset, if_true, if_false]
      exact ih _ (k.value :: done) _ sy1 hr hs2 hP' hdone' hrel1
    · simp only [hf, if_false]
      refine ih _ done _ sy hr hs2 hP' ?_ (hout hf)
      intro name hn
      exact hdone' name (List.mem_cons_of_mem _ hn)

end AL.C10M

namespace AL.C10M
open AL.Yaml AL.Ast AL.PW AL.CallMeta

/-- the six spellings yaml.v3 resolves to `!!bool`: the parser's `EqualFold(·, "true")` and the decoder's table agree -/
theorem boolWords_true : ∀ w ∈ boolWords,
    (w ∈ ["true", "True", "TRUE"] ∧ asciiLower w = "true") ∨
    (w ∉ ["true", "True", "TRUE"] ∧ w ∈ ["false", "False", "FALSE"] ∧ asciiLower w ≠ "true") := by decide +kernel

/-- `parseBool` accepts the node as a literal: a `!!bool` scalar -/
theorem parseBool_clean (v : Node) (hs : Sane v) (hstr : v.tag ≠ "!!str") (h : (parseBool v).2 = []) :
    decBool v = .ok (boolOf (parseBool v).1) := by
  simp only [parseBool] at h ⊢
  by_cases hk : v.kind = .scalar
  · by_cases hb : v.tag = "!!bool"
    · have hn : ¬ ("!!bool" = "!!null") := by decide
      have hbin : ¬ ("!!bool" = "!!binary") := by decide
      have hst : ¬ ("!!bool" = "!!str") := by decide
      simp only [hk, hb, ne_eq, not_true_eq_false, decide_false, Bool.false_or, Bool.false_and, Bool.false_eq_true,
        if_false, hst, boolOf, decBool, hn, hbin, if_true]
      rcases boolWords_true _ (hs.boolValue hb) with ⟨h1, h2⟩ | ⟨h1, h2, h3⟩
      · simp only [h1, if_true, h2, decide_true]
      · simp only [h1, if_false, h2, if_true, h3, decide_false]
    · simp [hk, hb, hstr] at h
  · simp [hk] at h

def InRel (seen : List (String × Pos)) (sa : CallInput × Bool) (sy : InSt) : Prop :=
  sy.required = boolOf sa.1.required ∧ sy.dflt.isSome = sa.1.dflt.isSome ∧ tyOfString sy.ty = tyOfAst sa.1.type ∧
  (lookupSeen "default" seen = none → sa.1.dflt = none)

def InP (k v : Node) : Prop := Sane v ∧ (k.value = "required" → v.tag ≠ "!!str")

theorem lookup_default_snoc (seen : List (String × Pos)) (name : String) (p : Pos) (hne : name ≠ "default")
    (h : lookupSeen "default" (seen ++ [(name, p)]) = none) : lookupSeen "default" seen = none := by
  rw [lookupSeen_snoc] at h
  cases hq : lookupSeen "default" seen with
  | some q => simp [hq] at h
  | none => rfl

theorem input_step (seen : List (String × Pos)) (sa : CallInput × Bool) (sy : InSt) (k v : Node)
    (hrel : InRel seen sa sy) (_hk : k.kind = .scalar) (hls : lookupSeen k.value seen = none) (hp : InP k v)
    (hc : (callInputAttr sa ⟨k.value, newString k, v⟩).2 = []) :
    k.value ∈ ["description", "required", "default", "type"] ∧
    (k.value ∈ ["required", "default", "type"] → ∃ sy', setInput sy k.value v = .ok sy' ∧
        InRel (seen ++ [(k.value, k.pos)]) (callInputAttr sa ⟨k.value, newString k, v⟩).1 sy') ∧
    (k.value ∉ ["required", "default", "type"] →
        InRel (seen ++ [(k.value, k.pos)]) (callInputAttr sa ⟨k.value, newString k, v⟩).1 sy) := by
  obtain ⟨hr1, hr2, hr3, hr4⟩ := hrel
  obtain ⟨hsv, hreq⟩ := hp
  by_cases h1 : k.value = "description"
  · simp only [callInputAttr, h1] at hc ⊢
    refine ⟨by simp, fun h => absurd h (by decide), fun _ => ⟨hr1, hr2, hr3, ?_⟩⟩
    intro h; exact hr4 (lookup_default_snoc seen _ _ (by decide) h)
  by_cases h2 : k.value = "required"
  · simp only [callInputAttr, h2] at hc ⊢
    have hb := parseBool_clean v hsv (hreq h2) hc
    refine ⟨by simp, fun _ => ⟨{ sy with required := boolOf (parseBool v).1 }, ?_, ?_⟩, fun h => absurd (by simp) h⟩
    · simp [setInput, hb, Except.map]
    · refine ⟨rfl, hr2, hr3, ?_⟩
      intro h; exact hr4 (lookup_default_snoc seen _ _ (by decide) h)
  by_cases h3 : k.value = "default"
  · rw [h3] at hls
    have hd0 := hr4 hls
    simp only [callInputAttr, h3] at hc ⊢
    by_cases hn : v.isNull = true
    · simp only [hn, if_true] at hc ⊢
      refine ⟨by simp, fun _ => ⟨{ sy with dflt := none }, ?_, ?_⟩, fun h => absurd (by simp) h⟩
      · simp [setInput, decStrPtr, hn, Except.map]
      · refine ⟨hr1, by simp [hd0], hr3, fun _ => hd0⟩
    · simp only [hn] at hc ⊢
      simp only [Bool.false_eq_true, if_false] at hc ⊢
      have hkind : v.kind = .scalar := by
        simp only [parseString, checkString] at hc
        by_cases hk : v.kind = .scalar
        · exact hk
        · simp [hk] at hc
      have htag : v.tag ≠ "!!null" := by
        intro e; apply hn; simp [Node.isNull, hkind, e]
      refine ⟨by simp, fun _ => ⟨{ sy with dflt := some v.value }, ?_, ?_⟩, fun h => absurd (by simp) h⟩
      · simp [setInput, decStrPtr, hn, decStr, hkind, htag, hsv.notBinary, Except.map]
      · refine ⟨hr1, by simp, hr3, ?_⟩
        intro h
        rw [lookupSeen_snoc, hls] at h
        simp at h
  by_cases h4 : k.value = "type"
  · simp only [callInputAttr, h4] at hc ⊢
    have hkind : v.kind = .scalar := by
      by_cases hk : v.kind = .scalar
      · exact hk
      · exfalso
        have := hsv.noValue hk
        rw [this] at hc
        simp at hc
    -- a value that is one of the three type names is not a spelling of null, so it is decoded as it stands
    have hset : v.value ∉ nullWords → setInput sy "type" v = .ok { sy with ty := v.value } := fun hnw => by
      have htag : v.tag ≠ "!!null" := fun e => hnw (hsv.nullValue e)
      simp [setInput, decStr, hkind, htag, hsv.notBinary, Except.map]
    have hdflt := fun h => hr4 (lookup_default_snoc seen "type" k.pos (by decide) h)
    refine ⟨by simp, fun _ => ?_, fun h => absurd (by simp) h⟩
    split
    · rename_i heq
      exact ⟨_, hset (by rw [heq]; decide), hr1, hr2, by simp [tyOfString, tyOfAst, heq], hdflt⟩
    · rename_i heq
      exact ⟨_, hset (by rw [heq]; decide), hr1, hr2, by simp [tyOfString, tyOfAst, heq], hdflt⟩
    · rename_i heq
      exact ⟨_, hset (by rw [heq]; decide), hr1, hr2, by simp [tyOfString, tyOfAst, heq], hdflt⟩
    · rename_i t1 t2 t3
      exfalso
      split at hc
      · rename_i heq; exact t1 heq
      · rename_i heq; exact t2 heq
      · rename_i heq; exact t3 heq
      · exact List.cons_ne_nil _ _ hc
  · exfalso
    simp only [callInputAttr] at hc
    simp at hc

end AL.C10M

namespace AL.C10M
open AL.Yaml AL.Ast AL.PW AL.CallMeta

def NoPH (v : Node) : Prop := ∀ a ∈ pairs v.content, a.1.value = "required" → a.2.tag ≠ "!!str"

theorem input_entry (cfg : Cfg) (k v : Node) (id : String) (hs : SaneTo 1 v) (hnp : NoPH v)
    (hc : (callInput cfg ⟨id, newString k, v⟩).2 = []) :
    ∃ r, decInput v = .ok r ∧
      inputOfAst (callInput cfg ⟨id, newString k, v⟩).1 = ⟨k.value, r.1, r.2⟩ ∧
      (callInput cfg ⟨id, newString k, v⟩).1.id = id := by
  simp only [callInput] at hc ⊢
  obtain ⟨hc1, hc3⟩ := List.append_eq_nil_iff.1 hc
  obtain ⟨hm, hl⟩ := List.append_eq_nil_iff.1 hc1
  obtain ⟨_, hm1, hm2⟩ := parseMapping_clean cfg _ v true hm
  rw [hm1] at hl ⊢
  have hkeep := loop_invariant callInputAttr (fun st => st.1.name = newString k ∧ st.1.id = id)
    (mappingLoop cfg "input of workflow_call event" true (pairs v.content) []).1
    (fun s kv _ hp => ⟨(callInputAttr_frame s kv).name.trans hp.1, (callInputAttr_frame s kv).id.trans hp.2⟩)
    ({ name := newString k, id := id }, false) ⟨rfl, rfl⟩
  have hsync := struct_sync cfg "input of workflow_call event" ["required", "default", "type"]
    ["description", "required", "default", "type"] callInputAttr setInput InRel InP
    (by intro a ha; simp only [List.mem_cons, List.not_mem_nil, or_false] at ha
        rcases ha with rfl | rfl | rfl | rfl <;> simp [nullWords])
    input_step (pairs v.content) [] [] ({ name := newString k, id := id }, false) {} hm2 hl
    (by intro q hq
        have := hs.2 q hq
        exact ⟨this.1, this.2, hnp q hq⟩)
    (by simp)
    ⟨rfl, rfl, rfl, fun _ => rfl⟩
  obtain ⟨sy', hdec, seen', hr1, hr2, hr3, _⟩ := hsync
  have hdecode := structDecode_of_clean cfg _ v hs.sane hm _ _ _ _ hdec
  refine ⟨(sy'.required && sy'.dflt.isNone, tyOfString sy'.ty), by simp [decInput, hdecode, Except.map], ?_, hkeep.2⟩
  have : sy'.dflt.isNone = (loop callInputAttr ({ name := newString k, id := id }, false)
      (mappingLoop cfg "input of workflow_call event" true (pairs v.content) []).1).1.1.dflt.isNone := by
    rw [← Option.not_isSome, ← Option.not_isSome, hr2]
  simp only [inputOfAst]
  rw [hkeep.1]
  simp [this, newString, hr1, hr3]

end AL.C10M

namespace AL.C10M
open AL.Yaml AL.Ast AL.PW AL.CallMeta

/-! ### secrets -/

def SecRel (_seen : List (String × Pos)) (sa : CallSecret) (sy : SecSt) : Prop := sy.required = boolOf sa.required

theorem secret_step (seen : List (String × Pos)) (sa : CallSecret) (sy : SecSt) (k v : Node)
    (hrel : SecRel seen sa sy) (_hk : k.kind = .scalar) (_hls : lookupSeen k.value seen = none) (hp : InP k v)
    (hc : (callSecretAttr sa ⟨k.value, newString k, v⟩).2 = []) :
    k.value ∈ ["description", "required"] ∧
    (k.value ∈ ["name", "required"] → ∃ sy', setSecret sy k.value v = .ok sy' ∧
        SecRel (seen ++ [(k.value, k.pos)]) (callSecretAttr sa ⟨k.value, newString k, v⟩).1 sy') ∧
    (k.value ∉ ["name", "required"] →
        SecRel (seen ++ [(k.value, k.pos)]) (callSecretAttr sa ⟨k.value, newString k, v⟩).1 sy) := by
  obtain ⟨hsv, hreq⟩ := hp
  by_cases h1 : k.value = "description"
  · simp only [callSecretAttr, h1] at hc ⊢
    exact ⟨by simp, fun h => absurd h (by decide), fun _ => hrel⟩
  by_cases h2 : k.value = "required"
  · simp only [callSecretAttr, h2] at hc ⊢
    have hb := parseBool_clean v hsv (hreq h2) hc
    refine ⟨by simp, fun _ => ⟨{ sy with required := boolOf (parseBool v).1 }, ?_, rfl⟩, fun h => absurd (by simp) h⟩
    simp [setSecret, hb, Except.map]
  · exfalso
    simp only [callSecretAttr] at hc
    simp at hc

theorem secret_entry (cfg : Cfg) (k v : Node) (id : String) (hs : SaneTo 1 v) (hnp : NoPH v)
    (hc : (callSecret cfg ⟨id, newString k, v⟩).2 = []) :
    decSecret v = .ok (boolOf (callSecret cfg ⟨id, newString k, v⟩).1.required) ∧
      (callSecret cfg ⟨id, newString k, v⟩).1.name = newString k := by
  simp only [callSecret] at hc ⊢
  obtain ⟨hm, hl⟩ := List.append_eq_nil_iff.1 hc
  obtain ⟨_, hm1, hm2⟩ := parseMapping_clean cfg _ v true hm
  rw [hm1] at hl ⊢
  have hkeep := loop_invariant callSecretAttr (fun st => st.name = newString k)
    (mappingLoop cfg "secret of workflow_call event" true (pairs v.content) []).1
    (fun s kv _ hp => (callSecretAttr_frame s kv).1.trans hp) { name := newString k } rfl
  have hsync := struct_sync cfg "secret of workflow_call event" ["name", "required"]
    ["description", "required"] callSecretAttr setSecret SecRel InP
    (by intro a ha; simp only [List.mem_cons, List.not_mem_nil, or_false] at ha
        rcases ha with rfl | rfl <;> simp [nullWords])
    secret_step (pairs v.content) [] [] { name := newString k } {} hm2 hl
    (by intro q hq
        have := hs.2 q hq
        exact ⟨this.1, this.2, hnp q hq⟩)
    (by simp) rfl
  obtain ⟨sy', hdec, seen', hr⟩ := hsync
  have hdecode := structDecode_of_clean cfg _ v hs.sane hm _ _ _ _ hdec
  refine ⟨?_, hkeep⟩
  simp only [SecRel] at hr
  simp [decSecret, hdecode, Except.map, hr]

/-! ### outputs -/

theorem output_entry (cfg : Cfg) (kv : KV) : (callOutput cfg kv).1.name = kv.key := by
  simp only [callOutput]
  exact loop_invariant callOutputAttr (fun st => st.name = kv.key) _
    (fun s a _ hp => (callOutputAttr_frame s a).1.trans hp) { name := kv.key } rfl

/-! ### the three maps -/

def NoPH2 (v : Node) : Prop := ∀ e ∈ pairs v.content, NoPH e.2

theorem inputs_sync (cfg : Cfg) : ∀ (l : List (Node × Node)) (m : List (String × CallMeta.Input)),
    (callInputs cfg (l.map (C05D.kvOf cfg false))).2 = [] →
    (∀ q ∈ l, SaneTo 1 q.2 ∧ NoPH q.2) →
    decInputsLoop cfg l m =
      .ok ((callInputs cfg (l.map (C05D.kvOf cfg false))).1.foldl (fun m i => put m i.id (inputOfAst i)) m)
  | [], m, _, _ => by simp [callInputs, decInputsLoop]
  | (k, v) :: rest, m, hc, hP => by
    simp only [List.map_cons, C05D.kvOf, C03P.keyOf, Bool.false_eq_true, if_false, callInputs] at hc ⊢
    obtain ⟨hc1, hc2⟩ := List.append_eq_nil_iff.1 hc
    obtain ⟨hsv, hnp⟩ := hP (k, v) (by simp)
    obtain ⟨r, hdec, hin, hid⟩ := input_entry cfg k v (cfg.lower k.value) hsv hnp hc1
    simp only [decInputsLoop, hdec, List.foldl_cons]
    rw [hin, hid]
    exact inputs_sync cfg rest _ hc2 (fun q hq => hP q (List.mem_cons_of_mem _ hq))

theorem secrets_sync (cfg : Cfg) : ∀ (l : List (Node × Node)) (m : List (String × CallMeta.Secret)),
    (mapKVs (callSecret cfg) (l.map (C05D.kvOf cfg false))).2 = [] →
    (∀ q ∈ l, SaneTo 1 q.2 ∧ NoPH q.2) →
    decSecretsLoop cfg l m =
      .ok ((mapKVs (callSecret cfg) (l.map (C05D.kvOf cfg false))).1.foldl
        (fun m s => put m s.1 ⟨s.2.name.value, boolOf s.2.required⟩) m)
  | [], m, _, _ => by simp [mapKVs, decSecretsLoop]
  | (k, v) :: rest, m, hc, hP => by
    simp only [List.map_cons, C05D.kvOf, C03P.keyOf, Bool.false_eq_true, if_false, mapKVs] at hc ⊢
    obtain ⟨hc1, hc2⟩ := List.append_eq_nil_iff.1 hc
    obtain ⟨hsv, hnp⟩ := hP (k, v) (by simp)
    obtain ⟨hdec, hname⟩ := secret_entry cfg k v (cfg.lower k.value) hsv hnp hc1
    simp only [decSecretsLoop, hdec, List.foldl_cons]
    rw [hname]
    simp only [newString]
    exact secrets_sync cfg rest _ hc2 (fun q hq => hP q (List.mem_cons_of_mem _ hq))

theorem outputs_sync (cfg : Cfg) : ∀ (l : List (Node × Node)) (m : List (String × String)),
    l.foldl (fun m kv => put m (cfg.lower kv.1.value) kv.1.value) m =
      (mapKVs (callOutput cfg) (l.map (C05D.kvOf cfg false))).1.foldl (fun m o => put m o.1 o.2.name.value) m
  | [], m => by simp [mapKVs]
  | (k, v) :: rest, m => by
    simp only [List.map_cons, C05D.kvOf, C03P.keyOf, Bool.false_eq_true, if_false, mapKVs, List.foldl_cons]
    rw [output_entry]
    simp only [newString]
    exact outputs_sync cfg rest _

end AL.C10M

namespace AL.C10M
open AL.Yaml AL.Ast AL.PW AL.CallMeta

def EvRel (_seen : List (String × Pos)) (sa : CallEventSt) (sy : Meta) : Prop :=
  sy = fromAst sa.inputs sa.secrets sa.outputs

def EvP (_k v : Node) : Prop := SaneTo 2 v ∧ NoPH2 v

theorem sane_entries {v : Node} (hs : SaneTo 2 v) (hnp : NoPH2 v) :
    ∀ q ∈ pairs v.content, SaneTo 1 q.2 ∧ NoPH q.2 :=
  fun q hq => ⟨(hs.2 q hq).2, hnp q hq⟩

/-- a section decoded through its `UnmarshalYAML` method, when the parser accepted it: null leaves the zero value, which is
what the decoder's loop makes of no pair; a mapping goes through the loop over its pairs -/
theorem viaUnmarshaler_of_kind {α : Type} (dec : Node → D (List α)) (decLoop : List (Node × Node) → D (List α)) (v : Node)
    (hsv : Sane v) (hdec : v.kind = .mapping → dec v = decLoop (pairs v.content)) (h0 : decLoop [] = .ok [])
    (hkind : v.kind = .mapping ∨ v.isNull = true) : viaUnmarshaler dec v = decLoop (pairs v.content) := by
  rcases hkind with hmap | hn
  · have hnn : v.isNull = false := by simp [Node.isNull, hmap]
    simp only [viaUnmarshaler, hnn, Bool.false_eq_true, if_false, hdec hmap]
  · simp only [viaUnmarshaler, hn, if_true, pairs_of_null v hsv hn, h0]

theorem event_step (cfg : Cfg) (seen : List (String × Pos)) (sa : CallEventSt) (sy : Meta) (k v : Node)
    (hrel : EvRel seen sa sy) (_hk : k.kind = .scalar) (_hls : lookupSeen k.value seen = none) (hp : EvP k v)
    (hc : (callEventKey cfg sa ⟨k.value, newString k, v⟩).2 = []) :
    k.value ∈ ["inputs", "outputs", "secrets"] ∧
    (k.value ∈ ["inputs", "outputs", "secrets"] → ∃ sy', setMeta cfg sy k.value v = .ok sy' ∧
        EvRel (seen ++ [(k.value, k.pos)]) (callEventKey cfg sa ⟨k.value, newString k, v⟩).1 sy') ∧
    (k.value ∉ ["inputs", "outputs", "secrets"] →
        EvRel (seen ++ [(k.value, k.pos)]) (callEventKey cfg sa ⟨k.value, newString k, v⟩).1 sy) := by
  obtain ⟨hs, hnp⟩ := hp
  have hsv : Sane v := hs.sane
  have hent := sane_entries hs hnp
  simp only [EvRel] at hrel ⊢
  by_cases h1 : k.value = "inputs"
  · simp only [callEventKey, h1, parseSectionMapping] at hc ⊢
    obtain ⟨hm, hl⟩ := List.append_eq_nil_iff.1 hc
    obtain ⟨hkind, hm1, -⟩ := parseMapping_silent cfg _ v true false hm
    rw [hm1] at hl ⊢
    have hsync := inputs_sync cfg (pairs v.content) [] hl hent
    generalize hX : List.foldl (fun m i => put m i.id (inputOfAst i)) []
      (callInputs cfg ((pairs v.content).map (C05D.kvOf cfg false))).1 = X at hsync
    refine ⟨by simp, fun _ => ⟨{ sy with inputs := X }, ?_, ?_⟩, fun h => absurd (by simp) h⟩
    · simp only [setMeta, viaUnmarshaler_of_kind (decInputs cfg) (decInputsLoop cfg · []) v hsv
        (fun hk => by simp only [decInputs, hk]) rfl hkind, hsync, Except.map]
    · subst hX; rw [hrel]; simp [fromAst]
  by_cases h2 : k.value = "secrets"
  · simp only [callEventKey, h2, parseSectionMapping] at hc ⊢
    obtain ⟨hm, hl⟩ := List.append_eq_nil_iff.1 hc
    obtain ⟨hkind, hm1, -⟩ := parseMapping_silent cfg _ v true false hm
    rw [hm1] at hl ⊢
    have hsync := secrets_sync cfg (pairs v.content) [] hl hent
    generalize hX : List.foldl (fun m (s : String × CallSecret) => put m s.1 (⟨s.2.name.value, boolOf s.2.required⟩ : CallMeta.Secret)) []
      (mapKVs (callSecret cfg) ((pairs v.content).map (C05D.kvOf cfg false))).1 = X at hsync
    refine ⟨by simp, fun _ => ⟨{ sy with secrets := X }, ?_, ?_⟩, fun h => absurd (by simp) h⟩
    · simp only [setMeta, viaUnmarshaler_of_kind (decSecrets cfg) (decSecretsLoop cfg · []) v hsv
        (fun hk => by simp only [decSecrets, hk]) rfl hkind, hsync, Except.map]
    · subst hX; rw [hrel]; simp [fromAst]
  by_cases h3 : k.value = "outputs"
  · simp only [callEventKey, h3, parseSectionMapping] at hc ⊢
    obtain ⟨hkind, hm1, -⟩ := parseMapping_silent cfg _ v true false (List.append_eq_nil_iff.1 hc).1
    rw [hm1]
    have hsync := outputs_sync cfg (pairs v.content) []
    generalize hX : List.foldl (fun m (o : String × CallOutput) => put m o.1 o.2.name.value) []
      (mapKVs (callOutput cfg) ((pairs v.content).map (C05D.kvOf cfg false))).1 = X at hsync
    refine ⟨by simp, fun _ => ⟨{ sy with outputs := X }, ?_, ?_⟩, fun h => absurd (by simp) h⟩
    · simp only [setMeta, viaUnmarshaler_of_kind (decOutputs cfg)
        (fun l => .ok (l.foldl (fun m kv => put m (cfg.lower kv.1.value) kv.1.value) [])) v hsv
        (fun hk => by simp only [decOutputs, hk]) rfl hkind, hsync, Except.map]
    · subst hX; rw [hrel]; simp [fromAst]
  · exfalso
    simp only [callEventKey] at hc
    simp at hc

end AL.C10M
