import AL.Lemmas.C11DBase
import AL.Lemmas.DocReads
import AL.Props.C11Rule
/-
  AL.Props.C11Doc, one step: the three fields of a parsed step the untrusted-input check depends on — the script of
  `run:` (`runOf`), the action name of `uses:` (`usesOf`), the inputs of `with:` (`inputsOf`) — in terms of what is
  WRITTEN in the step node (the readers of AL/Spec/ScriptScalars.lean).

    * unconditionally (`parseStep_run_opt`, `parseStep_uses_opt`, `parseStep_inputs_opt`): each field is empty, or made
      from the node `lookup` finds — `parseStep` stores nothing else there;
    * for a step `parseStep` accepts silently (`parseStep_run_clean`, `parseStep_uses_clean`, `parseStep_inputs_clean`):
      each field IS `newString` of that node, which is a scalar;
    * hence `execScriptKStrs_from_nodes` (every script string of the parsed step, with its key, comes from a node of
      `stepScriptKNodes`) and `execScriptKStrs_clean` (for an accepted step the two lists are equal, in order).
-/
namespace AL.C11D
open AL.PW AL.Yaml AL.Ast AL.C03P AL.C05D AL.C11R
open AL.C12R (tag mem_tag)

/-! ### the three fields -/

def usesOf (s : Step) : Option Str := match s.exec with | .action a => a.uses | _ => none

/-- the inputs of a step (`with:` without `entrypoint` and `args`) -/
def inputsOf (s : Step) : List (String × Input) := match s.exec with | .action a => a.inputs.getD [] | _ => []

def scriptInputs (l : List (String × Input)) : List Str := (l.filter fun kv => kv.1 = "script").map (·.2.value)

/-- the script strings of a step, by the three fields -/
theorem execScriptKStrs_fields (lower : String → String) (s : Step) :
    execScriptKStrs lower s.exec =
      tag "jobs.<job_id>.steps.run" (runOf s).toList ++
      if isGithubScript lower (usesOf s) then tag "jobs.<job_id>.steps.with" (scriptInputs (inputsOf s)) else [] := by
  cases h : s.exec with
  | none => simp [execScriptKStrs, runOf, usesOf, h, isGithubScript, tag]
  | run r => simp [execScriptKStrs, runOf, usesOf, h, isGithubScript]
  | action a => simp [execScriptKStrs, runOf, usesOf, inputsOf, scriptInputs, h, tag]

/-! ### the loop over `with:` -/

/-- the inputs the loop over the entries of `with:` stores -/
def withInputs (kvs : List KV) : List (String × Input) :=
  kvs.filterMap fun kv =>
    if kv.id = "entrypoint" ∨ kv.id = "args" then none else some (kv.id, ⟨kv.key, (parseString kv.val true).1⟩)

theorem withKey_uses (st : ExecAction) (kv : KV) : (withKey st kv).1.uses = st.uses :=
  (withKey_frame st kv).uses

theorem withLoop_uses : ∀ (kvs : List KV) (init : ExecAction), (loop withKey init kvs).1.uses = init.uses :=
  loop_withKey_frame

theorem withInputs_eq (kvs : List KV) : withInputs kvs = kvs.filterMap AL.C14D.withEntry := rfl

theorem withKey_inputs (st : ExecAction) (kv : KV) :
    (withKey st kv).1.inputs.getD [] = st.inputs.getD [] ++ withInputs [kv] := by
  rw [withKey_inputs_eq, withInputs_eq, List.filterMap_cons, List.filterMap_nil]
  cases AL.C14D.withEntry kv <;> simp

theorem withInputs_cons (kv : KV) (rest : List KV) : withInputs (kv :: rest) = withInputs [kv] ++ withInputs rest := by
  simp only [withInputs, List.filterMap_cons]
  split <;> simp

theorem withLoop_inputs : ∀ (kvs : List KV) (init : ExecAction),
    (loop withKey init kvs).1.inputs.getD [] = init.inputs.getD [] ++ withInputs kvs
  | kvs, init => by
    rw [loop_withKey_inputs, withInputs_eq]
    cases kvs.filterMap AL.C14D.withEntry <;> simp

/-- the `script` inputs the loop stores are the entries with the id `script` -/
theorem scriptInputs_withInputs : ∀ (kvs : List KV),
    scriptInputs (withInputs kvs) = (kvs.filter fun kv => kv.id = "script").map fun kv => (parseString kv.val true).1
  | [] => rfl
  | kv :: rest => by
    have ih := scriptInputs_withInputs rest
    simp only [scriptInputs] at ih ⊢
    rw [withInputs_cons, List.filter_append, List.map_append, ih]
    by_cases hs : kv.id = "script"
    · simp [withInputs, hs]
    · by_cases he : kv.id = "entrypoint" ∨ kv.id = "args"
      · simp [withInputs, he, hs]
      · simp [withInputs, he, hs]

/-- **the `script` input of a parsed `with:` node is made from the node under the key that folds to `script`** — the first
one; unconditionally -/
theorem scriptInputs_with (cfg : Cfg) (w : Node) :
    scriptInputs (withInputs (parseSectionMapping cfg "with" w false false).1) =
      ((lookupFolded cfg.lower w "script").map fun x => (parseString x true).1).toList := by
  have hf := filter_eq_find?_toList (fun kv : KV => kv.id) "script" _ (parseMapping_nodup cfg (sectionWhat "with") w false false)
  rw [scriptInputs_withInputs, parseSectionMapping, hf, ← parseMapping_find_ci cfg _ w "script"]
  cases (parseMapping cfg (sectionWhat "with") w false false).1.find? (fun kv => kv.id = "script") <;> rfl

/-! ### `stepKey`: who writes the three fields -/

theorem stepKey_run_opt (cfg : Cfg) (st : StepSt) (kv : KV) (h : kv.id = "run") :
    runOf (stepKey cfg st kv).1.step = some (parseString kv.val false).1 ∨ runOf (stepKey cfg st kv).1.step = runOf st.step := by
  unfold stepKey
  simp only [h]
  cases he : st.step.exec <;> simp only [runOf, he, or_true, true_or]

theorem inputsOf_eq (s : Step) : inputsOf s = (s.exec.ofAction (·.inputs)).getD [] := by
  unfold inputsOf Exec.ofAction
  cases s.exec <;> rfl

theorem stepKey_uses_ne (cfg : Cfg) (st : StepSt) (kv : KV) (h : kv.id ≠ "uses") :
    usesOf (stepKey cfg st kv).1.step = usesOf st.step :=
  (stepKey_frame cfg st kv).uses h

theorem stepKey_uses_opt (cfg : Cfg) (st : StepSt) (kv : KV) (h : kv.id = "uses") :
    usesOf (stepKey cfg st kv).1.step = some (parseString kv.val false).1 ∨ usesOf (stepKey cfg st kv).1.step = usesOf st.step := by
  unfold stepKey
  simp only [h]
  cases he : st.step.exec <;> simp only [usesOf, he, or_true, true_or]

theorem stepKey_uses_eq (cfg : Cfg) (st : StepSt) (kv : KV) (h : kv.id = "uses") (hc : (stepKey cfg st kv).2 = []) :
    usesOf (stepKey cfg st kv).1.step = some (parseString kv.val false).1 ∧ (parseString kv.val false).2 = [] :=
  (stepKey_writes cfg st kv hc).uses h

theorem stepKey_inputs_ne (cfg : Cfg) (st : StepSt) (kv : KV) (h : kv.id ≠ "with") :
    inputsOf (stepKey cfg st kv).1.step = inputsOf st.step := by
  rw [inputsOf_eq, inputsOf_eq, (stepKey_frame cfg st kv).inputs h]

theorem stepKey_inputs_opt (cfg : Cfg) (st : StepSt) (kv : KV) (h : kv.id = "with") :
    inputsOf (stepKey cfg st kv).1.step = withInputs (parseSectionMapping cfg "with" kv.val false false).1 ∨
    inputsOf (stepKey cfg st kv).1.step = inputsOf st.step := by
  unfold stepKey
  simp only [h]
  cases he : st.step.exec <;>
    simp only [inputsOf, he, withLoop_inputs, Option.getD_some, List.nil_append, or_true, true_or]

theorem stepKey_inputs_eq (cfg : Cfg) (st : StepSt) (kv : KV) (h : kv.id = "with") (hc : (stepKey cfg st kv).2 = []) :
    inputsOf (stepKey cfg st kv).1.step = withInputs (parseSectionMapping cfg "with" kv.val false false).1 ∧
    (parseSectionMapping cfg "with" kv.val false false).2 = [] ∧
    ∃ init, (loop withKey init (parseSectionMapping cfg "with" kv.val false false).1).2 = [] := by
  obtain ⟨e, he, h1, h2⟩ := (stepKey_writes cfg st kv hc).withArgs h
  exact ⟨by simp only [inputsOf, he, withLoop_inputs, Option.getD_some, List.nil_append], h1, _, h2⟩

/-! ### a parsed step, unconditionally -/

theorem parseStep_step (cfg : Cfg) (n : Node) :
    (parseStep cfg n).1 =
      (loop (stepKey cfg) { step := { pos := n.pos } } (parseMapping cfg "element of \"steps\" section" n false true).1).1.step := rfl

/-- a field of the parsed step that only the iteration of the key `k` writes is that of the empty step, or made from the
node written under `k:` -/
theorem parseStep_field_opt {α : Type} (cfg : Cfg) (n : Node) (F : Step → α) (k : String) (G : Node → α)
    (hne : ∀ st kv, kv.id ≠ k → F (stepKey cfg st kv).1.step = F st.step)
    (hopt : ∀ st kv, kv.id = k → F (stepKey cfg st kv).1.step = G kv.val ∨ F (stepKey cfg st kv).1.step = F st.step) :
    F (parseStep cfg n).1 = F { pos := n.pos } ∨ ∃ x, lookup n k = some x ∧ F (parseStep cfg n).1 = G x := by
  rcases sect_field_opt cfg "element of \"steps\" section" n true (stepKey cfg) { step := { pos := n.pos } }
    (fun st => F st.step) k (fun kv => G kv.val) hne hopt with h | ⟨kv, hf, h⟩
  · exact Or.inl h
  · refine Or.inr ⟨kv.val, ?_, h⟩
    rw [← parseMapping_find_cs cfg "element of \"steps\" section" n k, hf]
    rfl

/-- **the script of a parsed step is empty, or made from the node written under `run:`** — whatever else the step node
holds, whatever `parseStep` reports -/
theorem parseStep_run_opt (cfg : Cfg) (n : Node) :
    runOf (parseStep cfg n).1 = none ∨
    ∃ x, lookup n "run" = some x ∧ runOf (parseStep cfg n).1 = some (parseString x false).1 :=
  parseStep_field_opt cfg n runOf "run" (fun x => some (parseString x false).1) (stepKey_run_ne cfg) (stepKey_run_opt cfg)

/-- the action name of a parsed step is empty, or made from the node written under `uses:` -/
theorem parseStep_uses_opt (cfg : Cfg) (n : Node) :
    usesOf (parseStep cfg n).1 = none ∨
    ∃ x, lookup n "uses" = some x ∧ usesOf (parseStep cfg n).1 = some (parseString x false).1 :=
  parseStep_field_opt cfg n usesOf "uses" (fun x => some (parseString x false).1) (stepKey_uses_ne cfg) (stepKey_uses_opt cfg)

/-- the inputs of a parsed step are none, or those of the node written under `with:` -/
theorem parseStep_inputs_opt (cfg : Cfg) (n : Node) :
    inputsOf (parseStep cfg n).1 = [] ∨
    ∃ w, lookup n "with" = some w ∧
      inputsOf (parseStep cfg n).1 = withInputs (parseSectionMapping cfg "with" w false false).1 :=
  parseStep_field_opt cfg n inputsOf "with" (fun w => withInputs (parseSectionMapping cfg "with" w false false).1)
    (stepKey_inputs_ne cfg) (stepKey_inputs_opt cfg)

/-- `isGithubScript` on the string `parseString` makes of a node is the document's test on the node's text -/
theorem isGithubScript_parseString (lower : String → String) (x : Node) (ae : Bool) :
    isGithubScript lower (some (parseString x ae).1) = (lower (text x)).startsWith "actions/github-script@" := by
  simp only [isGithubScript, parseString_value]

/-- **every script string of a parsed step, with its key, is made from a node at a script position of the step node** —
unconditionally: `parseStep` stores nothing else in `run` / the `script` input of an `actions/github-script` step -/
theorem execScriptKStrs_from_nodes (cfg : Cfg) (n : Node) :
    ∀ p ∈ execScriptKStrs cfg.lower (parseStep cfg n).1.exec,
      ∃ q ∈ stepScriptKNodes cfg.lower n, p.2 = q.2 ∧ ∃ ae, p.1 = (parseString q.1 ae).1 := by
  intro p hp
  rw [execScriptKStrs_fields, List.mem_append] at hp
  obtain ⟨s, key⟩ := p
  rcases hp with hp | hp
  · obtain ⟨hs, rfl⟩ := mem_tag.1 hp
    have hr := AL.C03R.mem_toList hs
    rcases parseStep_run_opt cfg n with h | ⟨x, hx, h⟩
    · rw [h] at hr; cases hr
    · rw [h] at hr
      cases hr
      refine ⟨(x, "jobs.<job_id>.steps.run"), ?_, rfl, false, rfl⟩
      simp [stepScriptKNodes, stepRunNodes, hx]
  · split at hp
    · rename_i hg
      obtain ⟨hs, rfl⟩ := mem_tag.1 hp
      have hgs : isGithubScriptStep cfg.lower n = true := by
        rcases parseStep_uses_opt cfg n with h | ⟨x, hx, h⟩
        · rw [h] at hg; cases hg
        · rw [h, isGithubScript_parseString] at hg
          simp [isGithubScriptStep, hx, hg]
      rcases parseStep_inputs_opt cfg n with h | ⟨w, hw, h⟩
      · rw [h] at hs; cases hs
      · rw [h, scriptInputs_with] at hs
        have hl := AL.C03R.mem_toList hs
        cases hx : lookupFolded cfg.lower w "script" with
        | none => rw [hx] at hl; cases hl
        | some x =>
          rw [hx] at hl
          cases hl
          refine ⟨(x, "jobs.<job_id>.steps.with"), ?_, rfl, true, rfl⟩
          simp [stepScriptKNodes, stepScriptInputNodes, hgs, hw, hx]
    · cases hp

/-! ### a step `parseStep` accepts silently -/

/-- **the script of an accepted step is the scalar written under `run:`** -/
theorem parseStep_run_clean (cfg : Cfg) (n : Node) (h : (parseStep cfg n).2 = []) :
    runOf (parseStep cfg n).1 = (lookup n "run").map newString ∧ ∀ x, lookup n "run" = some x → x.kind = .scalar := by
  obtain ⟨hm, hr⟩ := parseStep_clean cfg n h
  obtain ⟨hf, hok⟩ := section_reads_str cfg _ n false (stepKey cfg) _ (fun st => runOf st.step) "run" rfl
    (stepKey_run_ne cfg) (stepKey_run_eq cfg) hm hr
  rw [lookup_eq_mget cfg _ n true hm]
  exact ⟨hf, fun x hx => (hok x hx).1⟩

/-- the action name of an accepted step is the scalar written under `uses:` -/
theorem parseStep_uses_clean (cfg : Cfg) (n : Node) (h : (parseStep cfg n).2 = []) :
    usesOf (parseStep cfg n).1 = (lookup n "uses").map newString ∧ ∀ x, lookup n "uses" = some x → x.kind = .scalar := by
  rw [lookup_eq_mget cfg _ n true (parseStep_clean cfg n h).1]
  exact ⟨(parseStep_uses_reads cfg n h).1, fun x hx => ((parseStep_uses_reads cfg n h).2 x hx).1⟩

/-- the inputs of an accepted step are those of the node written under `with:`, which was accepted silently too (its
mapping, and the loop over its entries from some initial state) -/
theorem parseStep_inputs_clean (cfg : Cfg) (n : Node) (h : (parseStep cfg n).2 = []) :
    match lookup n "with" with
    | some w =>
      inputsOf (parseStep cfg n).1 = withInputs (parseSectionMapping cfg "with" w false false).1 ∧
      (parseSectionMapping cfg "with" w false false).2 = [] ∧
      ∃ init, (loop withKey init (parseSectionMapping cfg "with" w false false).1).2 = []
    | none => inputsOf (parseStep cfg n).1 = [] := by
  obtain ⟨hm, hr⟩ := parseStep_clean cfg n h
  obtain ⟨hf, hok⟩ := section_reads cfg _ n false (stepKey cfg) { step := { pos := n.pos } } (fun st => inputsOf st.step) "with"
    (fun kv => withInputs (parseSectionMapping cfg "with" kv.val false false).1)
    (fun kv => (parseSectionMapping cfg "with" kv.val false false).2 = [] ∧
      ∃ init, (loop withKey init (parseSectionMapping cfg "with" kv.val false false).1).2 = [])
    (stepKey_inputs_ne cfg) (fun st kv hk hs _ => stepKey_inputs_eq cfg st kv hk hs) hm hr
  rw [lookup_eq_mget cfg _ n true hm, mget, parseStep_step, hf]
  cases hp : mpair n "with" with
  | none => rfl
  | some p => exact ⟨rfl, hok p hp⟩

/-- the `script` input of an accepted `with:` node is a scalar -/
theorem with_script_scalar (cfg : Cfg) (w : Node) (init : ExecAction)
    (hr : (loop withKey init (parseSectionMapping cfg "with" w false false).1).2 = []) :
    ∀ x, lookupFolded cfg.lower w "script" = some x → x.kind = .scalar := by
  intro x hx
  rw [← parseMapping_find_ci cfg (sectionWhat "with") w "script"] at hx
  cases hf : (parseMapping cfg (sectionWhat "with") w false false).1.find? (fun kv => kv.id = "script") with
  | none => rw [hf] at hx; cases hx
  | some kv =>
    rw [hf] at hx
    cases hx
    have hmem : kv ∈ (parseSectionMapping cfg "with" w false false).1 := List.mem_of_find?_eq_some hf
    have hid : kv.id = "script" := by simpa using List.find?_some hf
    have : (parseString kv.val true).2 = [] := withLoop_silent _ init hr kv hmem (by simp [AL.C14D.withEntry, hid])
    exact (parseString_clean kv.val true this).1

/-- **the script strings of an accepted step ARE the nodes at the script positions of the step node** — in order, each
with its key, each a scalar, each turned into a `*String` by `newString` (text, quoting, position) -/
theorem execScriptKStrs_clean (cfg : Cfg) (n : Node) (h : (parseStep cfg n).2 = []) :
    execScriptKStrs cfg.lower (parseStep cfg n).1.exec = (stepScriptKNodes cfg.lower n).map (fun q => (newString q.1, q.2)) ∧
    ∀ q ∈ stepScriptKNodes cfg.lower n, q.1.kind = .scalar := by
  obtain ⟨hrun, hrs⟩ := parseStep_run_clean cfg n h
  obtain ⟨huses, hus⟩ := parseStep_uses_clean cfg n h
  have hin := parseStep_inputs_clean cfg n h
  have hg : isGithubScript cfg.lower (usesOf (parseStep cfg n).1) = isGithubScriptStep cfg.lower n := by
    rw [huses]
    simp only [isGithubScriptStep]
    cases hu : lookup n "uses" with
    | none => rfl
    | some u => simp only [Option.map_some, isGithubScript, newString_value, text_scalar (hus u hu)]
  rw [execScriptKStrs_fields, hrun, hg]
  simp only [stepScriptKNodes, stepRunNodes, stepScriptInputNodes, List.map_append]
  cases hgs : isGithubScriptStep cfg.lower n with
  | false =>
    simp only [Bool.false_eq_true, ↓reduceIte, List.map_nil, List.append_nil, List.mem_map]
    refine ⟨?_, ?_⟩
    · cases lookup n "run" <;> rfl
    · rintro q ⟨x, hx, rfl⟩
      exact hrs x (AL.C03R.mem_toList hx)
  | true =>
    simp only [↓reduceIte]
    cases hw : lookup n "with" with
    | none =>
      rw [hw] at hin
      simp only [hin, scriptInputs, List.filter_nil, List.map_nil, tag, Option.bind_none, Option.toList_none, List.append_nil,
        List.mem_map]
      refine ⟨?_, ?_⟩
      · cases lookup n "run" <;> rfl
      · rintro q ⟨x, hx, rfl⟩
        exact hrs x (AL.C03R.mem_toList hx)
    | some w =>
      rw [hw] at hin
      obtain ⟨hi, _, init, hl⟩ := hin
      have hsc := with_script_scalar cfg w init hl
      rw [hi, scriptInputs_with]
      simp only [Option.bind_some]
      refine ⟨?_, ?_⟩
      · congr 1
        · cases lookup n "run" <;> rfl
        · cases hx : lookupFolded cfg.lower w "script" with
          | none => rfl
          | some x =>
            simp only [Option.map_some, Option.toList_some, tag, List.map_cons, List.map_nil,
              (parseString_scalar_allowEmpty x (hsc x hx))]
      · intro q hq
        simp only [List.mem_append, List.mem_map] at hq
        rcases hq with ⟨x, hx, rfl⟩ | ⟨x, hx, rfl⟩
        · exact hrs x (AL.C03R.mem_toList hx)
        · exact hsc x (AL.C03R.mem_toList hx)

end AL.C11D
