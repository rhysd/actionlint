import AL.Model.Projects
/-
  Lemmas about the `Projects.At` model: `findRootRev` walks the reversed path, the invariants are stated about
  `l.reverse` (the directory in its natural order).
-/
namespace AL.Projects

/-- `findRootRev` returns the longest prefix of the (un-reversed) directory that is a root, and nothing only if no
prefix is one -/
theorem findRootRev_spec (isRoot : List String → Bool) : ∀ l : List String,
    match findRootRev isRoot l with
    | some r => isRoot r = true ∧ r <+: l.reverse ∧
        ∀ r', r' <+: l.reverse → isRoot r' = true → r'.length ≤ r.length
    | none => ∀ r, r <+: l.reverse → isRoot r = false := by
  intro l
  induction l with
  | nil =>
    rw [findRootRev]
    by_cases h : isRoot [] = true
    · rw [if_pos h]; exact ⟨h, List.prefix_refl _, fun r' hp _ => hp.length_le⟩
    · rw [if_neg h]
      intro r hr
      rw [List.reverse_nil, List.prefix_nil] at hr
      subst hr
      simpa using h
  | cons c up ih =>
    rw [findRootRev]
    by_cases h : isRoot (c :: up).reverse = true
    · rw [if_pos h]; exact ⟨h, List.prefix_refl _, fun r' hp _ => hp.length_le⟩
    · -- a prefix of `up.reverse ++ [c]` is the whole directory, which is no root, or a prefix of `up.reverse`
      rw [if_neg h]
      rw [List.reverse_cons] at h ⊢
      cases hf : findRootRev isRoot up with
      | none =>
        rw [hf] at ih
        intro r hr
        rcases List.prefix_concat_iff.mp hr with rfl | hp
        · simpa using h
        · exact ih r hp
      | some r =>
        rw [hf] at ih
        obtain ⟨h1, h2, h3⟩ := ih
        refine ⟨h1, List.prefix_append_of_prefix h2, fun r' hp hr => ?_⟩
        rcases List.prefix_concat_iff.mp hp with rfl | hp'
        · exact absurd hr h
        · exact h3 r' hp' hr

theorem findRoot_spec (isRoot : List String → Bool) (p : List String) :
    match findRoot isRoot p with
    | some r => isRoot r = true ∧ r <+: p ∧ ∀ r', r' <+: p → isRoot r' = true → r'.length ≤ r.length
    | none => ∀ r, r <+: p → isRoot r = false := by
  have := findRootRev_spec isRoot p.reverse
  rwa [List.reverse_reverse] at this

theorem lookup_fst (isRoot : List String → Bool) (known : Known) (p : List String) :
    (lookup isRoot known p).1 = findRoot isRoot p := by
  unfold lookup
  split
  · rename_i h; rw [h]
  · rename_i r h
    rw [h]
    split <;> rfl

theorem lookup_nodup (isRoot : List String → Bool) (known : Known) (p : List String) (hk : known.Nodup) :
    (lookup isRoot known p).2.Nodup := by
  unfold lookup
  split
  · exact hk
  · rename_i r h
    split
    · exact hk
    · rename_i hc
      have hnot : r ∉ known := by
        intro hm
        exact hc (List.contains_iff_mem.mpr hm)
      rw [List.nodup_append]
      refine ⟨hk, by simp, ?_⟩
      intro a ha b hb
      have : b = r := by simpa using hb
      subst this
      intro hab
      subst hab
      exact hnot ha

theorem atAll_fst (isRoot : List String → Bool) :
    ∀ (ps : List (List String)) (known : Known), (atAll isRoot known ps).1 = ps.map (findRoot isRoot) := by
  intro ps
  induction ps with
  | nil => intro known; rfl
  | cons p ps ih =>
    intro known
    simp only [atAll, List.map_cons, ih, lookup_fst]

theorem atAll_nodup (isRoot : List String → Bool) :
    ∀ (ps : List (List String)) (known : Known), known.Nodup → (atAll isRoot known ps).2.Nodup := by
  intro ps
  induction ps with
  | nil => intro known hk; exact hk
  | cons p ps ih =>
    intro known hk
    simp only [atAll]
    exact ih _ (lookup_nodup isRoot known p hk)

end AL.Projects
