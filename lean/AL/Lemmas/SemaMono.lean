import AL.Lemmas.SemaMonoOps
import AL.Lemmas.SemaFold
/-
  C06 (e), (g): the checker is monotone in the context types (for `Looser`/`LooserD`, in well-formed
  environments with `SameRet`), and its event stream does not depend on the context types at all.
  The first two by recursion on the expression over `sem`, for all modes at once; the third is read off `evsOf`.
-/
namespace AL.Sema
open AL AL.Ty AL.Spec

/-! ### every computed type is well formed -/

theorem logicalTy_wf {lm : Option Bool} {a b : Ty} (ha : wf a = true) (hb : wf b = true) :
    wf (logicalTy lm a b) = true := by
  cases lm
  · exact hb
  · exact merge_wf _ _ ha hb

theorem sem_wf {Γ : Env} (hΓ : WfEnv Γ) : ∀ (e : E) (m : Option Bool), wf (sem Γ m e).ty = true
  | .null, _ | .bool, _ | .num, _ | .str _, _ | .cmp _ _ _, _ => rfl
  | .var n, _ => by
    simp only [sem, wrap_ty]
    cases hl : Ty.lookup n Γ.vars with
    | none => rfl
    | some t => exact lookup_wf _ hΓ.vars hl
  | .objDeref r _, _ => objDerefTy_wf _ _ _ (sem_wf hΓ r none)
  | .arrDeref r, _ => arrDerefTy_wf (sem_wf hΓ r none)
  | .index r _, _ => indexTy_wf _ _ _ (sem_wf hΓ r none)
  | .call c args, _ => by
    simp only [sem, wrap_ty]
    cases hl : lookupFuncs (Γ.lower c) Γ.funcs with
    | none => rfl
    | some sigs => exact resolveCall_wf Γ hΓ.fromJson _ _ (hΓ.funcs _ _ (lookupFuncs_mem _ hl)) _ _
  | .not o, none => rfl
  | .not o, some b => sem_wf hΓ o (some (!b))
  | .logical op l r, m => by
    have h := logicalTy_wf (lm := leftMode m op) (sem_wf hΓ l (leftMode m op)) (sem_wf hΓ r none)
    cases m <;> exact h

theorem check_wf {Γ : Env} (hΓ : WfEnv Γ) (e : E) : wf (check Γ e).ty = true := by
  rw [check_eq_sem]; exact sem_wf hΓ e none
theorem narrow_wf {Γ : Env} (hΓ : WfEnv Γ) (e : E) (b : Bool) : wf (narrow Γ e b).ty = true :=
  narrow_eq_sem Γ e b ▸ sem_wf hΓ e (some b)

/-! ### monotonicity -/

theorem logicalTy_mono {lm : Option Bool} {a a' b b' : Ty} (hw : wf b = true) (ha : LooserD a a')
    (hb : LooserD b b') : LooserD (logicalTy lm a b) (logicalTy lm a' b') := by
  cases lm
  · exact hb
  · exact merge_mono _ _ _ _ hw ha hb

/-- the invariant of the recursion: accepted before ⇒ accepted after, with a looser type -/
def Mono (r r' : R) : Prop := r.errs = [] → r'.errs = [] ∧ LooserD r.ty r'.ty

/-- the node's own enter/leave events do not matter -/
theorem Mono.wrap {a a' : R} (h : Mono a a') {l l' : String → String} {e e' : E} :
    Mono (wrap l e a) (wrap l' e' a') := h

/-- a node with one checked child: the rule has to be monotone at the child's types -/
theorem Mono.node {a a' : R} (ha : Mono a a') {rule rule' : Ty → Ty × List SemaErr}
    (h : LooserD a.ty a'.ty → (rule a.ty).2 = [] → (rule' a'.ty).2 = [] ∧ LooserD (rule a.ty).1 (rule' a'.ty).1) :
    Mono (.node rule a) (.node rule' a') := by
  intro he
  obtain ⟨he1, he2⟩ := List.append_eq_nil_iff.mp he
  obtain ⟨a1, a2⟩ := ha he1
  obtain ⟨r1, r2⟩ := h a2 he2
  exact ⟨show a'.errs ++ _ = [] by rw [a1, r1]; rfl, r2⟩

/-- the same with two children -/
theorem Mono.node₂ {a a' b b' : R} (ha : Mono a a') (hb : Mono b b') {rule rule' : Ty → Ty → Ty × List SemaErr}
    (h : LooserD a.ty a'.ty → LooserD b.ty b'.ty → (rule a.ty b.ty).2 = [] →
      (rule' a'.ty b'.ty).2 = [] ∧ LooserD (rule a.ty b.ty).1 (rule' a'.ty b'.ty).1) :
    Mono (.node₂ rule a b) (.node₂ rule' a' b') := by
  intro he
  obtain ⟨he12, he3⟩ := List.append_eq_nil_iff.mp he
  obtain ⟨he1, he2⟩ := List.append_eq_nil_iff.mp he12
  obtain ⟨a1, a2⟩ := ha he1
  obtain ⟨b1, b2⟩ := hb he2
  obtain ⟨r1, r2⟩ := h a2 b2 he3
  exact ⟨show a'.errs ++ b'.errs ++ _ = [] by rw [a1, b1, r1]; rfl, r2⟩

/-- two sub-results in sequence: the diagnostics are concatenated, the type is built from the two types -/
theorem Mono.seq {a a' b b' : R} (ha : Mono a a') (hb : Mono b b') {f : Ty → Ty → Ty}
    (rule : LooserD a.ty a'.ty → LooserD b.ty b'.ty → LooserD (f a.ty b.ty) (f a'.ty b'.ty)) :
    Mono (.seq f a b) (.seq f a' b') := by
  intro he
  obtain ⟨he1, he2⟩ := List.append_eq_nil_iff.mp he
  obtain ⟨a1, a2⟩ := ha he1
  obtain ⟨b1, b2⟩ := hb he2
  exact ⟨show a'.errs ++ b'.errs = [] by rw [a1, b1]; rfl, rule a2 b2⟩

mutual
theorem sem_mono {Γ : Env} {vs : List (String × Ty)} (hΓ : WfEnv Γ) (hvs : LooserDProps Γ.vars vs)
    (hsame : SameRet Γ.funcs) : ∀ (e : E) (m : Option Bool), Mono (sem Γ m e) (sem (Γ.setVars vs) m e)
  | .null, _ | .bool, _ | .num, _ | .str _, _ => fun _ => ⟨rfl, LooserD.refl _⟩
  | .var n, _ => by
    simp only [sem]
    intro he
    rcases hvs.lookup (k := n) with ⟨h1, h2⟩ | ⟨t, t', h1, h2, ht⟩
    · simp [h1] at he
    · simp only [wrap_errs, wrap_ty, setVars_vars, h1, h2] at he ⊢
      exact ⟨he, ht⟩
  | .objDeref r p, _ => ((sem_mono hΓ hvs hsame r none).node (objDerefTy_mono Γ _ p)).wrap
  | .arrDeref r, _ => ((sem_mono hΓ hvs hsame r none).node arrDerefTy_mono).wrap
  | .index r i, _ =>
    ((sem_mono hΓ hvs hsame i none).node₂ (sem_mono hΓ hvs hsame r none) (indexTy_mono Γ _)).wrap
  | .cmp op l r, _ => by
    refine ((sem_mono hΓ hvs hsame l none).node₂ (sem_mono hΓ hvs hsame r none) fun hl hr he => ⟨?_, .bool⟩).wrap
    have hv : validCompare op (sem Γ none l).ty (sem Γ none r).ty = true := by
      cases hv : validCompare op (sem Γ none l).ty (sem Γ none r).ty
      · rw [hv] at he; cases he
      · rfl
    show (if validCompare op _ _ = true then [] else _) = []
    rw [validCompare_mono op hl.toW hr.toW hv, if_pos rfl]
  | .call c args, _ => by
    simp only [sem, setVars_funcs, setVars_lower]
    cases hl : lookupFuncs (Γ.lower c) Γ.funcs with
    | none => intro he; cases he
    | some sigs =>
      intro he
      obtain ⟨he1, he2⟩ := List.append_eq_nil_iff.mp he
      obtain ⟨ih1, ih2⟩ := semArgs_mono hΓ hvs hsame args he1
      obtain ⟨r1, r2⟩ := resolveCall_mono Γ vs c sigs _ (hsame _ _ (lookupFuncs_mem _ hl)) ih2 he2
      exact ⟨by simp only [wrap_errs, ih1, r1]; rfl, r2⟩
  | .not o, none =>
    ((sem_mono hΓ hvs hsame o none).node fun _ _ => ⟨by simp only [assignable_bool, if_true], .bool⟩).wrap
  | .not o, some b => sem_mono hΓ hvs hsame o (some (!b))
  | .logical op l r, m => by
    have h := (sem_mono hΓ hvs hsame l (leftMode m op)).seq (f := logicalTy (leftMode m op))
      (sem_mono hΓ hvs hsame r none) (logicalTy_mono (sem_wf hΓ r none))
    cases m <;> exact h
theorem semArgs_mono {Γ : Env} {vs : List (String × Ty)} (hΓ : WfEnv Γ) (hvs : LooserDProps Γ.vars vs)
    (hsame : SameRet Γ.funcs) : ∀ es : List E, (semArgs Γ es).2.1 = [] →
    (semArgs (Γ.setVars vs) es).2.1 = [] ∧ LooserDs (semArgs Γ es).1 (semArgs (Γ.setVars vs) es).1
  | [] => fun _ => ⟨rfl, .nil⟩
  | a :: rest => by
    intro he
    obtain ⟨he1, he2⟩ := List.append_eq_nil_iff.mp he
    obtain ⟨a1, a2⟩ := sem_mono hΓ hvs hsame a none he1
    obtain ⟨r1, r2⟩ := semArgs_mono hΓ hvs hsame rest he2
    exact ⟨by simp only [semArgs, a1, r1]; rfl, .cons a2 r2⟩
end

/-- C06 (e'): monotonicity of the checker for `LooserD` (context types may even differ in `deref` flags). -/
theorem check_mono {Γ Γ' : Env} (e : E) (h : LooserEnvD Γ Γ') (hΓ : WfEnv Γ) (hsame : SameRet Γ.funcs)
    (he : (check Γ e).errs = []) : (check Γ' e).errs = [] ∧ LooserD (check Γ e).ty (check Γ' e).ty := by
  rw [h.eq_setVars, check_eq_sem] at *
  rw [check_eq_sem]
  exact sem_mono hΓ h.vars hsame e none he

theorem LooserEnvD.of_looserEnv {Γ Γ' : Env} (h : LooserEnv Γ Γ') : LooserEnvD Γ Γ' :=
  ⟨LooserDProps.of_looser h.vars, h.funcs, h.specialFuncs, h.availCtx, h.availSpecial, h.configVars, h.lower,
   h.fromJson⟩

/-- C06 (e) at full strength: with the ORIGINAL environment relation `LooserEnv`. -/
theorem check_mono_full {Γ Γ' : Env} (e : E) (h : LooserEnv Γ Γ') (hΓ : WfEnv Γ) (hsame : SameRet Γ.funcs)
    (he : (check Γ e).errs = []) : (check Γ' e).errs = [] ∧ LooserD (check Γ e).ty (check Γ' e).ty :=
  check_mono e (LooserEnvD.of_looserEnv h) hΓ hsame he

/-! ### events -/

/-- C06 (g): the event stream is the same whatever the context types are. -/
theorem check_evs {Γ Γ' : Env} (e : E) (h : LooserEnv Γ Γ') : (check Γ e).evs = (check Γ' e).evs := by
  have hd : Insecure.dfnOf Γ' = Insecure.dfnOf Γ := by unfold Insecure.dfnOf; rw [h.funcs]
  rw [check_evs_eq, check_evs_eq, hd, h.lower]

end AL.Sema
