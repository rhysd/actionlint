import AL.Lemmas.LexerStream
import AL.Lemmas.LexerPure
/-
  Completeness direction: the pure scanner of `LexerPure` on an input that starts with a correctly spelled token
  (`pNext_complete`, lemmas about lists only), and through `lexNext_agrees` the same for `Next` (`lexNext_complete`).
-/
namespace AL.Lex
open AL AL.Spec

/-- the rune at the head of a list of characters -/
def nxt (u : List Sym) : Option Nat := u.head?.map (·.r)

@[simp] theorem nxt_nil : nxt [] = none := rfl
@[simp] theorem nxt_cons (c : Sym) (u : List Sym) : nxt (c :: u) = some c.r := rfl

theorem takeWhile_exact {α} (p : α → Bool) (x u : List α) (hx : ∀ c ∈ x, p c = true)
    (hu : ∀ c, u.head? = some c → p c = false) : (x ++ u).takeWhile p = x := by
  rw [List.takeWhile_append_of_pos hx]
  cases u with
  | nil => simp
  | cons d u => simp [hu d rfl]

/-! ### characters -/

theorem isNum_alnum {r : Nat} (h : isNum r = true) : isAlnum r = true := by simp [isAlnum, h]
theorem isHexNum_alnum {r : Nat} (h : isHexNum r = true) : isAlnum r = true := by
  simp [isHexNum, isAlnum, isAlpha, isNum] at h ⊢; omega
/-- `p` holds of alphanumeric characters only: where no alphanumeric character follows, no `p`-character follows -/
theorem any_of_alnum {p : Nat → Bool} (hp : ∀ {r}, p r = true → isAlnum r = true) {o : Option Nat}
    (h : o.any isAlnum = false) : o.any p = false := by
  cases o with
  | none => rfl
  | some r => exact Bool.eq_false_iff.2 fun h' => Bool.eq_false_iff.1 h (hp h')

theorem runes_eq_nil {l : List Sym} (h : runes l = []) : l = [] := by simpa [runes] using h

theorem runes_eq_cons {l : List Sym} {r : Nat} {rs : List Nat} (h : runes l = r :: rs) :
    ∃ c cs, l = c :: cs ∧ c.r = r ∧ runes cs = rs := by
  cases l with
  | nil => simp at h
  | cons c cs => simp at h; exact ⟨c, cs, rfl, h.1, h.2⟩

/-! ### the pure scanner on a spelled input -/

/-- the completeness direction of `span`: a run of `p`-characters followed by something else -/
theorem span_append {p : Nat → Bool} {v u : List Nat} (hv : ∀ x ∈ v, p x = true) (hu : u.head?.any p = false) :
    span p (v ++ u) = v.length := by
  rw [span, takeWhile_exact p v u hv]
  intro c hc; rw [hc] at hu; exact hu

theorem pFinish_of {u : List Nat} (k : TokKind) (h : u.head?.any isAlnum = false) : pFinish u k = some (k, 0) := by
  unfold pFinish
  cases hl : u.head? with
  | none => rfl
  | some r => rw [hl] at h; simp only [Option.any] at h; simp [h]

theorem pHex_complete {b u : List Nat} (hb : HexBody b) (hu : u.head?.any isAlnum = false) :
    pHex (b ++ u) = some (.int, b.length) := by
  rcases hb with rfl | ⟨d, ds, rfl, hd, hd0, hds⟩
  · simp [pHex, pFinish_of _ hu, shift]
  · simp [pHex, hd0, hd, span_append hds (any_of_alnum isHexNum_alnum hu), pFinish_of _ hu, shift]

/-! ### numbers -/

theorem pSign_of {m w : List Nat} (hm : (m = [] ∧ w.head? ≠ some 45) ∨ m = [45]) : pSign (m ++ w) = m.length := by
  rcases hm with ⟨rfl, hw⟩ | rfl
  · simp [pSign, hw]
  · rfl

theorem decInt_head {ip : List Nat} (h : DecInt ip) : ∃ d ds, ip = d :: ds ∧ isNum d = true ∧ (d = 48 → ds = []) ∧
    ∀ x ∈ ds, isNum x = true := by
  rcases h with rfl | ⟨d, ds, rfl, h1, h2, h3⟩
  · exact ⟨48, [], rfl, rfl, fun _ => rfl, by simp⟩
  · exact ⟨d, ds, rfl, by simp [isNum]; omega, fun h => by omega, h3⟩

theorem pInt_dec {ip w : List Nat} (hip : DecInt ip) (hw : w.head?.any isNum = false) (hx : w.head? ≠ some 120) :
    pInt (ip ++ w) = some (ip.length, false) := by
  obtain ⟨d, ds, rfl, hd, h0, hds⟩ := decInt_head hip
  by_cases h48 : d = 48
  · cases h0 h48; simp [pInt, h48, hx]
  · simp [pInt, h48, hd, pDigits, span_append hds hw]

theorem pFrac_none {w : List Nat} (h : w.head? ≠ some 46) : pFrac w = some (0, .int) := by
  simp [pFrac, h]

theorem pFrac_some {ds w : List Nat} (hds : Digits1 ds) (hw : w.head?.any isNum = false) :
    pFrac (46 :: ds ++ w) = some (ds.length + 1, .float) := by
  obtain ⟨hne, hall⟩ := hds
  cases ds with
  | nil => exact absurd rfl hne
  | cons d ds =>
    have hd : isNum d = true := hall d (by simp)
    simp [pFrac, hd, pDigits, span_append (fun x hx => hall x (List.mem_cons_of_mem _ hx)) hw]

theorem pExp_of {e : Nat} {sg ds u : List Nat} (hsg : sg = [] ∨ sg = [45]) (hds : DecInt ds)
    (hu : ds ≠ [48] → u.head?.any isNum = false) : pExp (e :: sg ++ ds ++ u) = some ((e :: sg ++ ds).length) := by
  obtain ⟨d, t, rfl, hd, h0, ht⟩ := decInt_head hds
  have hs : pSign (sg ++ d :: (t ++ u)) = sg.length := pSign_of (by
    rcases hsg with rfl | rfl
    · exact .inl ⟨rfl, by intro h; cases h; exact absurd hd (by decide)⟩
    · exact .inr rfl)
  unfold pExp
  simp only [List.cons_append, List.tail_cons, List.append_assoc, hs, List.drop_succ_cons, List.drop_left]
  by_cases h48 : d = 48
  · cases h0 h48; simp [h48]
  · simp [h48, hd, pDigits, span_append ht (hu (by simp [h48]))]; omega

theorem pTail_none {u : List Nat} (k : TokKind) (hu : u.head?.any isAlnum = false) : pTail u k = some (k, 0) := by
  have h1 : u.head? ≠ some 101 := fun h => by rw [h] at hu; cases hu
  have h2 : u.head? ≠ some 69 := fun h => by rw [h] at hu; cases hu
  simp [pTail, h1, h2, pFinish_of k hu]

theorem pTail_exp {e : Nat} {sg ds u : List Nat} (k : TokKind) (he : e = 101 ∨ e = 69) (hsg : sg = [] ∨ sg = [45])
    (hds : DecInt ds) (hu : u.head?.any isAlnum = false) :
    pTail (e :: sg ++ ds ++ u) k = some (.float, (e :: sg ++ ds).length) := by
  unfold pTail
  rw [pExp_of hsg hds fun _ => any_of_alnum isNum_alnum hu]
  dsimp only
  rw [List.drop_left]
  rcases he with rfl | rfl <;> simp [pFinish_of _ hu, shift]

theorem decInt_head_num {ip : List Nat} (h : DecInt ip) (w : List Nat) : (ip ++ w).head? ≠ some 45 := by
  obtain ⟨d, ds, rfl, hd, -, -⟩ := decInt_head h
  intro h45; cases h45; exact absurd hd (by decide)

theorem shift_shift (a b : Nat) (o : Res) : shift a (shift b o) = shift (a + b) o := by
  match o with
  | none => rfl
  | some (k, m) => simp [shift, Nat.add_assoc]

/-- sign, integer part and optional fraction of a decimal number: what remains is `pTail` -/
theorem pNum_prefix {m ip frac w : List Nat} (hm : m = [] ∨ m = [45]) (hip : DecInt ip)
    (hfrac : frac = [] ∨ ∃ ds, frac = 46 :: ds ∧ Digits1 ds)
    (hw : w.head?.any isNum = false) (hx : w.head? ≠ some 120) (hdot : frac = [] → w.head? ≠ some 46) :
    pNum (m ++ (ip ++ (frac ++ w))) =
      shift (m.length + ip.length + frac.length) (pTail w (if frac = [] then .int else .float)) := by
  have hi : pInt (ip ++ (frac ++ w)) = some (ip.length, false) := by
    rcases hfrac with rfl | ⟨ds, rfl, -⟩
    · exact pInt_dec hip hw hx
    · exact pInt_dec hip rfl (by simp)
  rw [pNum, pSign_of (hm.imp_left fun h => ⟨h, decInt_head_num hip _⟩), List.drop_left, pNum1, hi]
  dsimp only
  rw [List.drop_left]
  rcases hfrac with rfl | ⟨ds, rfl, hds⟩
  · rw [List.nil_append, pFrac_none (hdot rfl)]; simp [shift_shift]
  · rw [pFrac_some hds hw]
    dsimp only
    rw [List.drop_left' (by simp), shift_shift, shift_shift]; simp

theorem optMinus_split {P : List Nat → Prop} {v : List Nat} (h : optMinus P v) :
    ∃ m w, v = m ++ w ∧ (m = [] ∨ m = [45]) ∧ P w := by
  rcases h with h | ⟨t, rfl, h⟩
  · exact ⟨[], v, rfl, .inl rfl, h⟩
  · exact ⟨[45], t, rfl, .inr rfl, h⟩

/-- a decimal number `ip frac exp` (signed integer part, fraction, exponent) followed by `u` -/
theorem pNum_dec {ip frac exp u : List Nat} (hip : optMinus DecInt ip)
    (hfrac : frac = [] ∨ ∃ ds, frac = 46 :: ds ∧ Digits1 ds)
    (hexp : exp = [] ∨ ∃ e ds, exp = e :: ds ∧ (e = 101 ∨ e = 69) ∧ optMinus DecInt ds)
    (hu : u.head?.any isAlnum = false) (hdot : frac = [] → exp = [] → u.head? ≠ some 46) :
    pNum (ip ++ frac ++ exp ++ u) =
      some (if frac = [] ∧ exp = [] then .int else .float, (ip ++ frac ++ exp).length) := by
  obtain ⟨m, ip, rfl, hm, hip⟩ := optMinus_split hip
  simp only [List.append_assoc]
  rcases hexp with rfl | ⟨e, ds, rfl, he, hds⟩
  · rw [List.nil_append, pNum_prefix hm hip hfrac (any_of_alnum isNum_alnum hu) (fun h => by rw [h] at hu; cases hu)
      (fun h => hdot h rfl), pTail_none _ hu]
    simp [shift, Nat.add_assoc]
  · rw [pNum_prefix hm hip hfrac (by rcases he with rfl | rfl <;> rfl) (by rcases he with rfl | rfl <;> simp)
      (fun _ => by rcases he with rfl | rfl <;> simp)]
    obtain ⟨sg, ds', rfl, hsg, hds'⟩ := optMinus_split hds
    have := pTail_exp (u := u) (if frac = [] then TokKind.int else .float) he hsg hds' hu
    simp only [List.cons_append, List.append_assoc] at this ⊢
    rw [this]; simp [shift, Nat.add_assoc]

theorem pNum_hex {l u : List Nat} (h : optMinus HexInt l) (hu : u.head?.any isAlnum = false) :
    pNum (l ++ u) = some (.int, l.length) := by
  obtain ⟨m, w, rfl, hm, body, rfl, hb⟩ := optMinus_split h
  rw [List.append_assoc, pNum, pSign_of (hm.imp_left fun h => ⟨h, by simp⟩), List.drop_left, pNum1]
  simp [pInt, pHex_complete hb hu, shift]; omega

/-! ### strings, dispatch -/

theorem pStr_complete {body : List Nat} (hb : StrBody body) (c0 : Nat) {u : List Nat} (hu : u.head? ≠ some 39) :
    pStr (c0 :: (body ++ 39 :: u)) = some (.string, body.length + 2) := by
  induction hb generalizing c0 with
  | nil => simp [pStr, hu]
  | char c rest hc _ ih => simp [pStr, hc, ih c, shift]; omega
  | esc rest _ ih => simp [pStr, ih 39, shift]; omega

theorem pAt_num {l : List Nat} {r : Nat} (hr : isNum r = true ∨ r = 45) : pAt l r = pNum l := by
  have h1 : ¬ (isAlpha r || decide (r = 95)) = true := by
    rcases hr with hr | rfl
    · simp only [isNum, Bool.and_eq_true, decide_eq_true_eq] at hr
      simp only [isAlpha, Bool.or_eq_true, Bool.and_eq_true, decide_eq_true_eq]; omega
    · decide
  have h2 : (isNum r || decide (r = 45)) = true := by rcases hr with hr | rfl <;> simp [*]
  unfold pAt; rw [if_neg h1, if_pos h2]

theorem pNext_num {l : List Nat} {r : Nat} (h : l.head? = some r) (hr : isNum r = true ∨ r = 45) :
    pNext l = pNum l := by
  rw [pNext, h]; exact pAt_num hr

/-- a number starts with a digit or `-` -/
theorem optMinus_head {P : List Nat → Prop} {l : List Nat} (h : optMinus P l)
    (hP : ∀ l, P l → ∃ d t, l = d :: t ∧ isNum d = true) : ∃ r t, l = r :: t ∧ (isNum r = true ∨ r = 45) := by
  rcases h with h | ⟨t, rfl, -⟩
  · obtain ⟨d, t, rfl, hd⟩ := hP l h; exact ⟨d, t, rfl, .inl hd⟩
  · exact ⟨45, t, rfl, .inr rfl⟩

theorem decInt_digit {l : List Nat} (h : DecInt l) : ∃ d t, l = d :: t ∧ isNum d = true := by
  obtain ⟨d, t, e, hd, -⟩ := decInt_head h; exact ⟨d, t, e, hd⟩

/-- can the character after a token of kind `k` extend it (or make the lexer reject it)? -/
def extendsTok : TokKind → Option Nat → Bool
  | .ident, some r => isIdentChar r
  | .int, some r => isAlnum r || r == 46
  | .float, some r => isAlnum r
  | .string, some r => r == 39
  | .not, some r => r == 61
  | .less, some r => r == 61
  | .greater, some r => r == 61
  | _, _ => false

theorem extendsTok_ident (o : Option Nat) : extendsTok .ident o = o.any isIdentChar := by cases o <;> rfl
theorem extendsTok_float (o : Option Nat) : extendsTok .float o = o.any isAlnum := by cases o <;> rfl
theorem extendsTok_int (o : Option Nat) : extendsTok .int o = (o.any isAlnum || o == some 46) := by
  cases o <;> rfl

/-- completeness of the pure scanner: a correctly spelled token that the next character cannot extend is scanned -/
theorem pNext_complete {k : TokKind} {val : List Sym} {u : List Nat} (hs : Spelling k val) (hne : val ≠ [])
    (hext : extendsTok k u.head? = false) : pNext (runes val ++ u) = some (k, val.length) := by
  have hlen : val.length = (runes val).length := by simp [runes]
  have hne' : runes val ≠ [] := fun h => hne (runes_eq_nil h)
  rw [hlen]; unfold Spelling at hs
  generalize runes val = v at hs hne' ⊢
  cases k with
  | unknown => exact absurd hs id
  | «end» =>
    rcases hs with rfl | rfl
    · rfl
    · exact absurd rfl hne'
  | ident =>
    obtain ⟨c, cs, rfl, hc, hcs⟩ := hs
    have hc' : (isAlpha c || decide (c = 95)) = true := by rcases hc with h | h <;> simp [h]
    rw [extendsTok_ident] at hext
    show pAt (c :: cs ++ u) c = _
    unfold pAt; rw [if_pos hc', List.cons_append, List.tail_cons, span_append hcs hext]; rfl
  | string =>
    obtain ⟨body, rfl, hb⟩ := hs
    have := pStr_complete hb 39 (u := u) (fun h => by rw [h] at hext; cases hext)
    show pStr (39 :: body ++ [39] ++ u) = _
    simpa using this
  | int =>
    rw [extendsTok_int, Bool.or_eq_false_iff] at hext
    have hdot : u.head? ≠ some 46 := by simpa using hext.2
    obtain ⟨r, t, rfl, hr⟩ : ∃ r t, v = r :: t ∧ (isNum r = true ∨ r = 45) :=
      hs.elim (optMinus_head · fun _ => decInt_digit) (optMinus_head · fun _ ⟨_, e, _⟩ => ⟨48, _, e, rfl⟩)
    rw [pNext_num (l := r :: t ++ u) rfl hr]
    rcases hs with hs | hs
    · simpa using pNum_dec (frac := []) (exp := []) hs (.inl rfl) (.inl rfl) hext.1 (fun _ _ => hdot)
    · exact pNum_hex hs hext.1
  | float =>
    rw [extendsTok_float] at hext
    obtain ⟨ip, frac, exp, hip, hfrac, hexp, hfe, rfl⟩ := hs
    obtain ⟨r, t, rfl, hr⟩ := optMinus_head hip fun _ => decInt_digit
    have hk : ¬ (frac = [] ∧ exp = []) := fun h => by rcases hfe with h' | h' <;> simp [h.1, h.2] at h'
    rw [pNext_num (l := r :: t ++ frac ++ exp ++ u) rfl hr,
      pNum_dec hip hfrac hexp hext (fun h1 h2 => absurd ⟨h1, h2⟩ hk), if_neg hk]
  | lparen | rparen | lbracket | rbracket | dot | star | comma =>
    subst hs; rfl
  | not | less | greater =>
    subst hs
    have h61 : u.head? ≠ some 61 := fun h => by rw [h] at hext; cases hext
    show pOptEq _ _ _ = _
    simp [pOptEq, h61]
  | lessEq | greaterEq | notEq | eq | and | or =>
    subst hs; rfl

theorem nxt_runes (u : List Sym) : nxt u = (runes u).head? := by cases u <;> rfl

/-- (m) of Props/C04Lex: completeness of `Next` for one token, after blanks. -/
theorem lexNext_complete {st : LexState} {k : TokKind} {val rest : List Sym}
    (hs : Spelling k val) (hne : val ≠ []) (hu : (skipWhite st).scan.unread = val ++ rest)
    (hext : extendsTok k (nxt rest) = false) :
    lexNext st = (adv (skipWhite st) val.length).token k := by
  have := lexNext_agrees st
  rwa [ahead, hu, runes_append, pNext_complete hs hne (nxt_runes rest ▸ hext)] at this

end AL.Lex
