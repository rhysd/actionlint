import AL.Spec.KeyedScalars
import AL.Lemmas.C03PBase

/-
  The keyed walk: what AL.Props.C03Parse ("the parser drops no value scalar silently") and AL.Props.C12Parse ("every position
  of the DOCUMENT is checked under the workflow key of its position") share. Above the `…Key_store` lemmas the parser is
  walked once, with the key (the `namespace AL.C12P` blocks of AL/Lemmas/C03PStep … C03PWf); the statements without a key are
  the projections to the first components.

  * `keyedScalars_fst` — the first components of the keyed walk over the document ARE `valueScalars doc` (the two walks
    agree on WHICH scalars are values);
  * `RepK v key l` — the document scalar `v` is one of the AST strings of `l`, paired there with the key `key`;
  * forgetting the key: `RepK.all` (from a `parse…_leafK` its `parse…_leaf`), `sub_of_keyed` (from a field ↔ key table
    `…K_keyed` the inclusion `…K_sub` / `…K_final`), `sub_of_fst`;
  * the keyed counterparts of `mapScalars_clean`, `sect_keyed`, `sect_K` of AL/Lemmas/C03PBase.lean (the two walks meet
    `parseMapping` through the same `walk_clean`, the key loop through the same `loop_keyed`), and `sect_tag`: a section whose
    document side is `under (kname k) (g k y)` per key takes the `…Key_store` / `…K_pres` lemmas, which know no key, as they
    stand.
-/
namespace AL.C12P
open AL.PW AL.Yaml AL.Ast AL.C03P AL.C03R AL.C12R

/-! ### the document side: the keyed walk lists exactly the value scalars -/

theorem mem_under {key k : String} {l : List Node} {v : Node} : (v, k) ∈ under key l ↔ v ∈ l ∧ k = key := by
  simp only [under, List.mem_map, Prod.mk.injEq]
  constructor
  · rintro ⟨a, ha, rfl, rfl⟩; exact ⟨ha, rfl⟩
  · rintro ⟨ha, rfl⟩; exact ⟨v, ha, rfl, rfl⟩

@[simp] theorem under_fst (key : String) (l : List Node) : (under key l).map Prod.fst = l := by
  simp [under, Function.comp_def]

@[simp] theorem under_nil (key : String) : under key [] = [] := rfl

theorem flatMap_fst {α : Type} (l : List α) (f : α → List (Node × String)) (g : α → List Node)
    (h : ∀ a, (f a).map Prod.fst = g a) : (l.flatMap f).map Prod.fst = l.flatMap g := by
  induction l with
  | nil => rfl
  | cons a rest ih => simp only [List.flatMap_cons, List.map_append, h, ih]

theorem mapKeyed_fst (n : Node) (dflt : String) (g : String → Node → List (Node × String)) (g' : String → Node → List Node)
    (h : ∀ k y, (g k y).map Prod.fst = g' k y) : (mapKeyed n dflt g).map Prod.fst = mapScalars n g' := by
  simp only [mapKeyed, mapScalars]
  split
  · exact flatMap_fst _ _ _ (fun p => h p.1.value p.2)
  · exact under_fst _ _

theorem subKeyed_fst (n : Node) (dflt : String) (g : String → Node → List (Node × String))
    (h : ∀ k y, (g k y).map Prod.fst = leaves y) : (subKeyed n dflt g).map Prod.fst = leaves n := by
  simp only [subKeyed]
  split
  · rename_i hk
    rw [leaves_mapping n hk]
    exact flatMap_fst _ _ _ (fun p => h p.1.value p.2)
  · exact under_fst _ _

theorem seqKeyed_fst (n : Node) (dflt : String) (g : Node → List (Node × String)) (g' : Node → List Node)
    (h : ∀ c, (g c).map Prod.fst = g' c) : (seqKeyed n dflt g).map Prod.fst = seqScalars n g' := by
  simp only [seqKeyed, seqScalars]
  split
  · exact flatMap_fst _ _ _ h
  · exact under_fst _ _

/-- the workflow key of the scalars below the key `k` of a step -/
def stepKeyOf (k : String) : String :=
  match k with
  | "name" => "jobs.<job_id>.steps.name"
  | "if" => "jobs.<job_id>.steps.if"
  | "run" => "jobs.<job_id>.steps.run"
  | "working-directory" => "jobs.<job_id>.steps.working-directory"
  | "env" => "jobs.<job_id>.steps.env"
  | "with" => "jobs.<job_id>.steps.with"
  | "continue-on-error" => "jobs.<job_id>.steps.continue-on-error"
  | "timeout-minutes" => "jobs.<job_id>.steps.timeout-minutes"
  | _ => ""

theorem stepKeyKeyed_eq (k : String) (x : Node) : stepKeyKeyed k x = under (stepKeyOf k) (stepKeyScalars k x) := by
  simp only [stepKeyKeyed]
  split <;> simp [stepKeyOf, stepKeyScalars]

theorem stepKeyKeyed_fst (k : String) (x : Node) : (stepKeyKeyed k x).map Prod.fst = stepKeyScalars k x := by
  rw [stepKeyKeyed_eq, under_fst]

theorem stepKeyed_fst (n : Node) : (stepKeyed n).map Prod.fst = stepScalars n :=
  mapKeyed_fst n _ _ _ stepKeyKeyed_fst

theorem stepsKeyed_fst (n : Node) : (stepsKeyed n).map Prod.fst = stepsScalars n :=
  seqKeyed_fst n _ _ _ stepKeyed_fst

theorem containerKeyKeyed_fst (a b c : String) (k : String) (y : Node) : (containerKeyKeyed a b c k y).map Prod.fst = leaves y := by
  simp only [containerKeyKeyed]
  split <;> exact under_fst _ _

theorem containerKeyed_fst (a b c : String) (x : Node) : (containerKeyed a b c x).map Prod.fst = leaves x :=
  subKeyed_fst x _ _ (containerKeyKeyed_fst a b c)

theorem servicesKeyed_fst (x : Node) : (servicesKeyed x).map Prod.fst = servicesScalars x := by
  simp only [servicesKeyed, servicesScalars, exprPos]
  split
  · exact mapKeyed_fst x _ _ _ (fun _ c => containerKeyed_fst _ _ _ c)
  · rfl

theorem environmentKeyed_fst (x : Node) : (environmentKeyed x).map Prod.fst = leaves x := by
  refine subKeyed_fst x _ _ ?_
  intro k y
  simp only [environmentKeyKeyed]
  split <;> exact under_fst _ _

/-- the workflow key of the scalars below the key `k` of a job (for the keys whose scalars all lie under one key) -/
def jobKeyOf (k : String) : String :=
  match k with
  | "name" => "jobs.<job_id>.name"
  | "if" => "jobs.<job_id>.if"
  | "runs-on" => "jobs.<job_id>.runs-on"
  | "env" => "jobs.<job_id>.env"
  | "concurrency" => "jobs.<job_id>.concurrency"
  | "outputs" => "jobs.<job_id>.outputs.<output_id>"
  | "continue-on-error" => "jobs.<job_id>.continue-on-error"
  | "timeout-minutes" => "jobs.<job_id>.timeout-minutes"
  | "defaults" => "jobs.<job_id>.defaults.run"
  | "strategy" => "jobs.<job_id>.strategy"
  | "with" => "jobs.<job_id>.with.<with_id>"
  | "secrets" => "jobs.<job_id>.secrets.<secrets_id>"
  | _ => ""

/-- the job keys whose scalars all lie under one workflow key -/
def JobPlain (k : String) : Prop := k ≠ "steps" ∧ k ≠ "container" ∧ k ≠ "services" ∧ k ≠ "environment"

theorem jobKeyKeyed_eq (k : String) (x : Node) (hk : JobPlain k) :
    jobKeyKeyed k x = under (jobKeyOf k) (jobKeyScalars k x) := by
  obtain ⟨h1, h2, h3, h4⟩ := hk
  unfold jobKeyKeyed
  split
  -- the tags count the branches of `jobKeyKeyed` (Spec/KeyedScalars): 6 `environment`, 13 `container`, 14 `services`, 15 `steps`,
  -- 17 `secrets`, 18 the default
  case h_6 => exact absurd rfl h4
  case h_13 => exact absurd rfl h2
  case h_14 => exact absurd rfl h3
  case h_15 => exact absurd rfl h1
  case h_17 =>
    simp only [jobKeyOf, jobKeyScalars]
    split <;> rfl
  case h_18 => simp only [jobKeyOf, jobKeyScalars]
  all_goals rfl

theorem jobKeyKeyed_fst (k : String) (x : Node) : (jobKeyKeyed k x).map Prod.fst = jobKeyScalars k x := by
  by_cases hk : JobPlain k
  · rw [jobKeyKeyed_eq k x hk, under_fst]
  simp only [JobPlain, ne_eq, Classical.not_and_iff_not_or_not, Classical.not_not] at hk
  rcases hk with rfl | rfl | rfl | rfl
  · exact stepsKeyed_fst x
  · exact containerKeyed_fst _ _ _ x
  · exact servicesKeyed_fst x
  · exact environmentKeyed_fst x

theorem jobKeyed_fst (n : Node) : (jobKeyed n).map Prod.fst = jobScalars n :=
  mapKeyed_fst n _ _ _ jobKeyKeyed_fst

theorem jobsKeyed_fst (n : Node) : (jobsKeyed n).map Prod.fst = jobsScalars n :=
  mapKeyed_fst n _ _ _ (fun _ j => jobKeyed_fst j)

theorem callInputAttrKeyed_fst (k : String) (y : Node) : (callInputAttrKeyed k y).map Prod.fst = callInputAttrScalars k y := by
  simp only [callInputAttrKeyed]
  split
  · simp only [callInputAttrScalars]
    split <;> simp
  · simp

theorem callOutputAttrKeyed_fst (k : String) (z : Node) : (callOutputAttrKeyed k z).map Prod.fst = leaves z := by
  simp only [callOutputAttrKeyed]
  split <;> exact under_fst _ _

theorem callKeyKeyed_fst (k : String) (y : Node) : (callKeyKeyed k y).map Prod.fst = callKeyScalars k y := by
  simp only [callKeyKeyed]
  split
  · simp only [callKeyScalars]
    exact mapKeyed_fst y _ _ _ (fun _ spec => mapKeyed_fst spec _ _ _ callInputAttrKeyed_fst)
  · simp only [callKeyScalars]
    exact mapKeyed_fst y _ _ _ (fun _ spec => mapKeyed_fst spec _ _ _ callOutputAttrKeyed_fst)
  · simp

theorem callKeyed_fst (x : Node) : (callKeyed x).map Prod.fst = callScalars x :=
  mapKeyed_fst x _ _ _ callKeyKeyed_fst

theorem eventKeyed_fst (k : String) (x : Node) : (eventKeyed k x).map Prod.fst = eventScalars k x := by
  simp only [eventKeyed]
  split
  · simp only [eventScalars]
    exact callKeyed_fst x
  · simp

theorem onKeyed_fst (x : Node) : (onKeyed x).map Prod.fst = onScalars x := by
  simp only [onKeyed]
  split
  · rename_i hk
    simp only [onScalars, hk]
    exact mapKeyed_fst x _ _ _ eventKeyed_fst
  · simp

theorem workflowKeyKeyed_fst (k : String) (x : Node) : (workflowKeyKeyed k x).map Prod.fst = workflowKeyScalars k x := by
  simp only [workflowKeyKeyed]
  split
  all_goals first
    | (simp [workflowKeyScalars, onKeyed_fst, jobsKeyed_fst]; done)
    | skip

/-- **the two walks agree on WHICH scalars are values**: the first components of `keyedScalars doc` are `valueScalars doc`,
in the same order — no value scalar is missing from the keyed walk, none is added -/
theorem keyedScalars_fst (doc : Node) : (keyedScalars doc).map Prod.fst = valueScalars doc := by
  simp only [keyedScalars, valueScalars]
  cases doc.content with
  | nil => rfl
  | cons root rest => exact mapKeyed_fst _ _ _ _ workflowKeyKeyed_fst

theorem every_scalar_keyed (doc : Node) (v : Node) (hv : v ∈ valueScalars doc) : ∃ key, (v, key) ∈ keyedScalars doc := by
  rw [← keyedScalars_fst] at hv
  obtain ⟨⟨v', k⟩, hp, rfl⟩ := List.mem_map.1 hv
  exact ⟨k, hp⟩

theorem keyed_is_scalar (doc : Node) (v : Node) (key : String) (hv : (v, key) ∈ keyedScalars doc) : v ∈ valueScalars doc := by
  rw [← keyedScalars_fst]
  exact List.mem_map.2 ⟨(v, key), hv, rfl⟩

/-! ### the AST side -/

/-- the document scalar `v` is one of the strings of the keyed enumeration `l` — same text, same position — and is paired
there with the key `key` -/
def RepK (v : Node) (key : String) (l : List (Str × String)) : Prop := ∃ s, (s, key) ∈ l ∧ s.value = v.value ∧ s.pos = v.pos

theorem RepK.mono {v : Node} {key : String} {l l' : List (Str × String)} (h : RepK v key l) (hs : ∀ p ∈ l, p ∈ l') :
    RepK v key l' := by
  obtain ⟨s, hm, e⟩ := h
  exact ⟨s, hs _ hm, e⟩

theorem RepK.left {v : Node} {key : String} {a b : List (Str × String)} (h : RepK v key a) : RepK v key (a ++ b) :=
  h.mono fun _ hs => List.mem_append_left _ hs
theorem RepK.right {v : Node} {key : String} {a b : List (Str × String)} (h : RepK v key b) : RepK v key (a ++ b) :=
  h.mono fun _ hs => List.mem_append_right _ hs

theorem RepK.flatMap {α : Type} {v : Node} {key : String} {l : List α} {f : α → List (Str × String)} {a : α} (ha : a ∈ l)
    (h : RepK v key (f a)) : RepK v key (l.flatMap f) := by
  obtain ⟨s, hm, e⟩ := h
  exact ⟨s, List.mem_flatMap.2 ⟨a, ha, hm⟩, e⟩

theorem RepK.nil {v : Node} {key : String} (h : RepK v key []) : False := by
  obtain ⟨s, hm, _⟩ := h
  cases hm

/-- a string of `l`, all of which lie under `key` -/
theorem RepK.of_rep {v : Node} {l : List Str} (h : Rep v l) (key : String) : RepK v key (tag key l) := by
  obtain ⟨s, hm, e⟩ := h
  exact ⟨s, mem_tag.2 ⟨hm, rfl⟩, e⟩

theorem RepK.rep {v : Node} {key : String} {l : List (Str × String)} (h : RepK v key l) : Rep v (l.map Prod.fst) := by
  obtain ⟨s, hm, e⟩ := h
  exact ⟨s, List.mem_map.2 ⟨_, hm, rfl⟩, e⟩

theorem tag_mono {key : String} {l l' : List Str} (h : ∀ s ∈ l, s ∈ l') : ∀ p ∈ tag key l, p ∈ tag key l' := by
  rintro ⟨s, k⟩ hp
  obtain ⟨hs, rfl⟩ := mem_tag.1 hp
  exact mem_tag.2 ⟨h s hs, rfl⟩

/-- the scalars under one key: the C03Parse theorem of the section carries over -/
theorem RepK.of_under {v : Node} {key K : String} {l : List Node} {strs : List Str} (hv : (v, key) ∈ under K l)
    (h : v ∈ l → Rep v strs) : RepK v key (tag K strs) := by
  obtain ⟨hm, rfl⟩ := mem_under.1 hv
  exact RepK.of_rep (h hm) _

/-- forgetting the key: if every keyed scalar of `D` is kept, with its key, in `A`, every scalar of `D` is in `A` -/
theorem RepK.all {D : List (Node × String)} {A : List (Str × String)} {d : List Node} {a : List Str}
    (h : ∀ v key, (v, key) ∈ D → RepK v key A) (hd : D.map Prod.fst = d) (ha : A.map Prod.fst = a) :
    ∀ v ∈ d, Rep v a := by
  subst hd ha
  intro v hv
  obtain ⟨⟨v, key⟩, hp, rfl⟩ := List.mem_map.1 hv
  exact (h v key hp).rep

/-- a field ↔ key table gives the plain inclusion -/
theorem sub_of_keyed {K : List Str} {A : List (Str × String)} {a : List Str} {key : String}
    (h : ∀ s ∈ K, (s, key) ∈ A) (ha : A.map Prod.fst = a) : ∀ s ∈ K, s ∈ a :=
  fun s hs => ha ▸ List.mem_map.2 ⟨_, h s hs, rfl⟩

/-- an inclusion of keyed lists is an inclusion of their first components -/
theorem sub_of_fst {K A : List (Str × String)} {k a : List Str} (h : ∀ p ∈ K, p ∈ A) (hk : K.map Prod.fst = k)
    (ha : A.map Prod.fst = a) : ∀ s ∈ k, s ∈ a := by
  subst hk ha
  intro s hs
  obtain ⟨p, hp, rfl⟩ := List.mem_map.1 hs
  exact List.mem_map.2 ⟨p, h p hp, rfl⟩

/-! ### the keyed walk meets `parseMapping` -/

theorem mapKeyed_clean (cfg : Cfg) (what : String) (n : Node) (ae cs : Bool) (dflt : String)
    (g : String → Node → List (Node × String)) (v : Node) (key : String)
    (hv : (v, key) ∈ mapKeyed n dflt g) (h : (parseMapping cfg what n ae cs).2 = []) :
    ∃ kv ∈ (parseMapping cfg what n ae cs).1, ∃ k, (cs = true → k = kv.id) ∧ (v, key) ∈ g k kv.val :=
  walk_clean cfg what n ae cs g (under dflt (leaves n)) (v, key) hv h

/-- where the mapping must not be empty the node is a mapping, and `subKeyed` is `mapKeyed` -/
theorem subKeyed_clean (cfg : Cfg) (what : String) (n : Node) (cs : Bool) (dflt : String)
    (g : String → Node → List (Node × String)) (h : (parseMapping cfg what n false cs).2 = []) :
    subKeyed n dflt g = mapKeyed n dflt g := by
  have hk := parseMapping_clean_notnull cfg what n cs h
  simp [subKeyed, mapKeyed, hk]

variable {σ : Type}

theorem sect_keyedK (cfg : Cfg) (what : String) (n : Node) (ae cs : Bool) (step : σ → KV → σ × List PErr) (init : σ)
    (dflt : String) (g : String → Node → List (Node × String)) (v : Node) (key : String) (hv : (v, key) ∈ mapKeyed n dflt g)
    (I Q : String → σ → Prop) (hI0 : ∀ k, I k init)
    (hm : (parseMapping cfg what n ae cs).2 = [])
    (hr : (loop step init (parseMapping cfg what n ae cs).1).2 = [])
    (H : ∀ (kv : KV) (k : String), (cs = true → k = kv.id) → (v, key) ∈ g k kv.val →
      (∀ st kv', kv'.id ≠ kv.id → I kv.id st → I kv.id (step st kv').1) ∧
      (∀ st, I kv.id st → (step st kv).2 = [] → Q kv.id (step st kv).1) ∧
      (∀ st kv', kv'.id ≠ kv.id → Q kv.id st → (step st kv').2 = [] → Q kv.id (step st kv').1)) :
    ∃ k, Q k (loop step init (parseMapping cfg what n ae cs).1).1 := by
  obtain ⟨kv, hkv, k, hk, hvk⟩ := mapKeyed_clean cfg what n ae cs dflt g v key hv hm
  obtain ⟨h1, h2, h3⟩ := H kv k hk hvk
  exact ⟨kv.id, loop_keyed step (I kv.id) (Q kv.id) kv h1 h2 h3 _ (parseMapping_nodup cfg what n ae cs) hkv init (hI0 _) hr⟩

/-- the keyed `sect_K`: the scalar is one of the keyed strings `K id st` the loop state holds under the id of the entry it
lies below, WITH ITS KEY; `K id` is only touched by the iteration of `id` -/
theorem sect_KK (cfg : Cfg) (what : String) (n : Node) (ae cs : Bool) (step : σ → KV → σ × List PErr) (init : σ)
    (dflt : String) (g : String → Node → List (Node × String)) (v : Node) (key : String) (hv : (v, key) ∈ mapKeyed n dflt g)
    (K : String → σ → List (Str × String))
    (hm : (parseMapping cfg what n ae cs).2 = [])
    (hr : (loop step init (parseMapping cfg what n ae cs).1).2 = [])
    (hstore : ∀ (kv : KV) (k : String) (st : σ), (cs = true → k = kv.id) → (v, key) ∈ g k kv.val → (step st kv).2 = [] →
      RepK v key (K kv.id (step st kv).1))
    (hpres : ∀ (k : String) (st : σ) (kv : KV), kv.id ≠ k → ∀ p ∈ K k st, p ∈ K k (step st kv).1) :
    ∃ k, RepK v key (K k (loop step init (parseMapping cfg what n ae cs).1).1) :=
  sect_keyedK cfg what n ae cs step init dflt g v key hv (fun _ _ => True) (fun k st => RepK v key (K k st))
    (fun _ => trivial) hm hr
    (fun kv k hk hvk => ⟨fun _ _ _ _ => trivial, fun st _ hc => hstore kv k st hk hvk hc,
      fun st kv' hne hq _ => hq.mono (hpres kv.id st kv' hne)⟩)

/-- **a section whose keys each lie under ONE workflow key** (`kname id`), in a case-sensitive mapping: `…_store` and
`…_pres` of C03Parse carry over; the scalar is among the strings held under the id `k` of its entry, and its key is
`kname k` -/
theorem sect_tag (cfg : Cfg) (what : String) (n : Node) (ae : Bool) (step : σ → KV → σ × List PErr) (init : σ)
    (dflt : String) (kname : String → String) (g : String → Node → List Node) (v : Node) (key : String)
    (hv : (v, key) ∈ mapKeyed n dflt (fun k y => under (kname k) (g k y))) (K : String → σ → List Str)
    (hm : (parseMapping cfg what n ae true).2 = [])
    (hr : (loop step init (parseMapping cfg what n ae true).1).2 = [])
    (hstore : ∀ (kv : KV) (st : σ), v ∈ g kv.id kv.val → (step st kv).2 = [] → Rep v (K kv.id (step st kv).1))
    (hpres : ∀ (k : String) (st : σ) (kv : KV), kv.id ≠ k → ∀ s ∈ K k st, s ∈ K k (step st kv).1) :
    ∃ k, key = kname k ∧ Rep v (K k (loop step init (parseMapping cfg what n ae true).1).1) := by
  obtain ⟨k, hk, hq⟩ := sect_keyedK cfg what n ae true step init dflt _ v key hv (fun _ _ => True)
    (fun k st => key = kname k ∧ Rep v (K k st)) (fun _ => trivial) hm hr
    (by
      intro kv k hid hvk
      have := hid rfl
      subst this
      obtain ⟨hvk, hkey⟩ := mem_under.1 hvk
      exact ⟨fun _ _ _ _ => trivial, fun st _ hc => ⟨hkey, hstore kv st hvk hc⟩,
        fun st kv' hne hq _ => ⟨hq.1, hq.2.mono (hpres kv.id st kv' hne)⟩⟩)
  exact ⟨k, hk, hq⟩

/-- `sect_tag` as the sections use it: composed with the field ↔ key table of the section (`hkeyed`) -/
theorem sect_tagK (cfg : Cfg) (what : String) (n : Node) (ae : Bool) (step : σ → KV → σ × List PErr) (init : σ)
    (dflt : String) (gK : String → Node → List (Node × String)) (kname : String → String) (g : String → Node → List Node)
    (hg : ∀ k y, gK k y = under (kname k) (g k y)) (v : Node) (key : String) (hv : (v, key) ∈ mapKeyed n dflt gK)
    (K : String → σ → List Str) (L : List (Str × String))
    (hm : (parseMapping cfg what n ae true).2 = [])
    (hr : (loop step init (parseMapping cfg what n ae true).1).2 = [])
    (hstore : ∀ (kv : KV) (st : σ), v ∈ g kv.id kv.val → (step st kv).2 = [] → Rep v (K kv.id (step st kv).1))
    (hpres : ∀ (k : String) (st : σ) (kv : KV), kv.id ≠ k → ∀ s ∈ K k st, s ∈ K k (step st kv).1)
    (hkeyed : ∀ k, ∀ s ∈ K k (loop step init (parseMapping cfg what n ae true).1).1, (s, kname k) ∈ L) :
    RepK v key L := by
  rw [show gK = fun k y => under (kname k) (g k y) from funext fun k => funext (hg k)] at hv
  obtain ⟨k, rfl, s, hs, e⟩ := sect_tag cfg what n ae step init dflt kname g v key hv K hm hr hstore hpres
  exact ⟨s, hkeyed k s hs, e⟩

end AL.C12P
