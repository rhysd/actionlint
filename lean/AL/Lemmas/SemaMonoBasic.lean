import AL.Model.Sema
import AL.Lemmas.TyMerge
import AL.Lemmas.SemaMonoCompare
/-
  C06: unfolding lemmas for `check`/`narrow`/`checkArgs` (they are compiled by well-founded recursion, so
  `rfl`/`decide` do not unfold them), the overload loop of a call in closed form (`resolveCall_eq`), environments that
  differ only in `vars`, and the well-formedness of environments. The unfolding lemmas serve every file that opens the
  checker (SemaFold, SemaAvail, SemaScope, Props/C05Scope, C06Rule, C12Rule), not C06 alone.
-/
namespace AL.Sema
open AL AL.Ty AL.Spec

def isVarsVar : E → Bool
  | .var "vars" => true
  | _ => false

@[simp] theorem wrap_ty (l : String → String) (e : E) (b : R) : (wrap l e b).ty = b.ty := rfl
@[simp] theorem wrap_errs (l : String → String) (e : E) (b : R) : (wrap l e b).errs = b.errs := rfl
@[simp] theorem wrap_evs (l : String → String) (e : E) (b : R) :
    (wrap l e b).evs = enterOf l e ++ b.evs ++ [.leave (leaveOf l e)] := rfl

section unfold
variable (Γ : Env)

theorem check_null : check Γ .null = wrap Γ.lower .null ⟨.null, [], []⟩ := by
  conv => lhs; unfold check
theorem check_bool : check Γ .bool = wrap Γ.lower .bool ⟨.bool, [], []⟩ := by
  conv => lhs; unfold check
theorem check_num : check Γ .num = wrap Γ.lower .num ⟨.number, [], []⟩ := by
  conv => lhs; unfold check
theorem check_str (v : String) : check Γ (.str v) = wrap Γ.lower (.str v) ⟨.string, [], []⟩ := by
  conv => lhs; unfold check

theorem check_var (name : String) :
    check Γ (.var name) = wrap Γ.lower (.var name)
      (match Ty.lookup name Γ.vars with
      | none => ⟨.any, [err "undefined-variable" [name]], []⟩
      | some t =>
        ⟨t, if Γ.availCtx.contains (Γ.lower name) then [] else [err "context-not-allowed" [name]], []⟩) := by
  conv => lhs; unfold check
  rfl

theorem check_objDeref (recv : E) (prop : String) :
    check Γ (.objDeref recv prop) = wrap Γ.lower (.objDeref recv prop)
      ⟨(objDerefTy Γ (isVarsVar recv) prop (check Γ recv).ty).1,
       (check Γ recv).errs ++ (objDerefTy Γ (isVarsVar recv) prop (check Γ recv).ty).2,
       (check Γ recv).evs⟩ := by
  conv => lhs; unfold check
  rfl

theorem check_arrDeref (recv : E) :
    check Γ (.arrDeref recv) = wrap Γ.lower (.arrDeref recv)
      ⟨(arrDerefTy (check Γ recv).ty).1, (check Γ recv).errs ++ (arrDerefTy (check Γ recv).ty).2,
       (check Γ recv).evs⟩ := by
  conv => lhs; unfold check

theorem check_index (operand idx : E) :
    check Γ (.index operand idx) = wrap Γ.lower (.index operand idx)
      ⟨(indexTy Γ (strLit? idx) (check Γ idx).ty (check Γ operand).ty).1,
       (check Γ idx).errs ++ (check Γ operand).errs ++
         (indexTy Γ (strLit? idx) (check Γ idx).ty (check Γ operand).ty).2,
       (check Γ idx).evs ++ (check Γ operand).evs⟩ := by
  conv => lhs; unfold check

theorem check_call (c : String) (args : List E) :
    check Γ (.call c args) = wrap Γ.lower (.call c args)
      (match lookupFuncs (Γ.lower c) Γ.funcs with
      | none => ⟨.any, [err "undefined-function" [c]], []⟩
      | some sigs =>
        ⟨(resolveCall Γ c sigs (args.head?.bind strLit?) (checkArgs Γ args).1).1,
         (checkArgs Γ args).2.1 ++ (resolveCall Γ c sigs (args.head?.bind strLit?) (checkArgs Γ args).1).2,
         (checkArgs Γ args).2.2⟩) := by
  conv => lhs; unfold check
  rfl

theorem check_not (operand : E) :
    check Γ (.not operand) = wrap Γ.lower (.not operand)
      ⟨.bool, (check Γ operand).errs ++
        (if Ty.assignable .bool (check Γ operand).ty then [] else [err "not-operand" [tyStr (check Γ operand).ty]]),
       (check Γ operand).evs⟩ := by
  conv => lhs; unfold check

theorem check_cmp (op : CmpOp) (l r : E) :
    check Γ (.cmp op l r) = wrap Γ.lower (.cmp op l r)
      ⟨.bool, (check Γ l).errs ++ (check Γ r).errs ++
        (if validCompare op (check Γ l).ty (check Γ r).ty then []
         else [err "bad-compare" [tyStr (check Γ l).ty, tyStr (check Γ r).ty, cmpStr op]]),
       (check Γ l).evs ++ (check Γ r).evs⟩ := by
  conv => lhs; unfold check

/-- the truthiness with which `&&`/`||` narrow their left operand -/
def opTruthy : LogOp → Bool
  | .and => false
  | .or => true

theorem check_logical (op : LogOp) (l r : E) :
    check Γ (.logical op l r) = wrap Γ.lower (.logical op l r)
      ⟨Ty.merge (narrow Γ l (opTruthy op)).ty (check Γ r).ty,
       (narrow Γ l (opTruthy op)).errs ++ (check Γ r).errs,
       (narrow Γ l (opTruthy op)).evs ++ (check Γ r).evs⟩ := by
  conv => lhs; unfold check
  cases op <;> rfl

theorem narrow_and_true (l r : E) :
    narrow Γ (.logical .and l r) true =
      ⟨(check Γ r).ty, (check Γ l).errs ++ (check Γ r).errs, (check Γ l).evs ++ (check Γ r).evs⟩ := by
  conv => lhs; unfold narrow

theorem narrow_or_false (l r : E) :
    narrow Γ (.logical .or l r) false =
      ⟨(check Γ r).ty, (check Γ l).errs ++ (check Γ r).errs, (check Γ l).evs ++ (check Γ r).evs⟩ := by
  conv => lhs; unfold narrow

theorem narrow_and_false (l r : E) :
    narrow Γ (.logical .and l r) false =
      ⟨Ty.merge (narrow Γ l false).ty (check Γ r).ty, (narrow Γ l false).errs ++ (check Γ r).errs,
       (narrow Γ l false).evs ++ (check Γ r).evs⟩ := by
  conv => lhs; unfold narrow

theorem narrow_or_true (l r : E) :
    narrow Γ (.logical .or l r) true =
      ⟨Ty.merge (narrow Γ l true).ty (check Γ r).ty, (narrow Γ l true).errs ++ (check Γ r).errs,
       (narrow Γ l true).evs ++ (check Γ r).evs⟩ := by
  conv => lhs; unfold narrow

theorem narrow_not (operand : E) (t : Bool) : narrow Γ (.not operand) t = narrow Γ operand (!t) := by
  conv => lhs; unfold narrow

theorem narrow_other (e : E) (x : Bool) (h1 : ∀ op l r, e = .logical op l r → False)
    (h2 : ∀ operand, e = .not operand → False) : narrow Γ e x = check Γ e := by
  cases e with
  | logical op l r => exact (h1 _ _ _ rfl).elim
  | not o => exact (h2 _ rfl).elim
  | _ => conv => lhs; unfold narrow

theorem checkArgs_nil : checkArgs Γ [] = ([], [], []) := by
  conv => lhs; unfold checkArgs

theorem checkArgs_cons (a : E) (rest : List E) :
    checkArgs Γ (a :: rest) =
      ((check Γ a).ty :: (checkArgs Γ rest).1, (check Γ a).errs ++ (checkArgs Γ rest).2.1,
       (check Γ a).evs ++ (checkArgs Γ rest).2.2) := by
  conv => lhs; unfold checkArgs

end unfold

/-- the overload loop in closed form: the result for the first signature that fits, or `any` with one
diagnostic per signature -/
theorem resolveCall_go_eq (Γ : Env) (c : String) (fl : Option String) (tys : List Ty) :
    ∀ (sigs : List Sig) (errs : List SemaErr), resolveCall.go Γ c fl tys sigs errs =
      match sigs.find? (fun s => (checkSig s tys).isNone) with
      | some s => builtinCall Γ c s fl tys.length
      | none => (.any, errs ++ sigs.filterMap (checkSig · tys))
  | [], errs => by simp [resolveCall.go]
  | s :: rest, errs => by
    rw [resolveCall.go]
    cases hs : checkSig s tys with
    | none => simp [hs]
    | some e => simp [hs, resolveCall_go_eq Γ c fl tys rest (errs ++ [e])]

theorem resolveCall_eq (Γ : Env) (c : String) (sigs : List Sig) (fl : Option String) (tys : List Ty) :
    resolveCall Γ c sigs fl tys =
      match sigs.find? (fun s => (checkSig s tys).isNone) with
      | some s => builtinCall Γ c s fl tys.length
      | none => (.any, sigs.filterMap (checkSig · tys)) := by
  rw [resolveCall, resolveCall_go_eq]; rfl

/-! ### environments -/

/-- the same environment with other context types -/
def Env.setVars (Γ : Env) (vs : List (String × Ty)) : Env := { Γ with vars := vs }

@[simp] theorem setVars_vars (Γ : Env) (vs : List (String × Ty)) : (Γ.setVars vs).vars = vs := rfl
@[simp] theorem setVars_funcs (Γ : Env) (vs : List (String × Ty)) : (Γ.setVars vs).funcs = Γ.funcs := rfl
@[simp] theorem setVars_availCtx (Γ : Env) (vs : List (String × Ty)) : (Γ.setVars vs).availCtx = Γ.availCtx := rfl
@[simp] theorem setVars_lower (Γ : Env) (vs : List (String × Ty)) : (Γ.setVars vs).lower = Γ.lower := rfl

/-- `LooserEnv` for the deref-aware relation: the context types are `LooserD`-related, everything
else is equal. -/
structure LooserEnvD (Γ Γ' : Env) : Prop where
  vars         : LooserDProps Γ.vars Γ'.vars
  funcs        : Γ'.funcs = Γ.funcs
  specialFuncs : Γ'.specialFuncs = Γ.specialFuncs
  availCtx     : Γ'.availCtx = Γ.availCtx
  availSpecial : Γ'.availSpecial = Γ.availSpecial
  configVars   : Γ'.configVars = Γ.configVars
  lower        : Γ'.lower = Γ.lower
  fromJson     : Γ'.fromJson = Γ.fromJson

theorem LooserEnvD.eq_setVars {Γ Γ' : Env} (h : LooserEnvD Γ Γ') : Γ' = Γ.setVars Γ'.vars := by
  obtain ⟨_, h2, h3, h4, h5, h6, h7, h8⟩ := h
  cases Γ; cases Γ'
  simp only at h2 h3 h4 h5 h6 h7 h8
  simp [Env.setVars, h2, h3, h4, h5, h6, h7, h8]

/-- every type the checker can get hold of is well formed: context types, function results and the
types of JSON literals. (True of every environment the driver builds: it sorts property lists, the
generated tables are sorted, and `typeOfJSONValue` is modelled with sorted lists.) -/
structure WfEnv (Γ : Env) : Prop where
  vars     : wfProps Γ.vars = true
  funcs    : ∀ n sigs, (n, sigs) ∈ Γ.funcs → ∀ s ∈ sigs, wf s.ret = true
  fromJson : ∀ s t, Γ.fromJson s = .ok t → wf t = true

theorem lookupFuncs_mem {k : String} {sigs : List Sig} :
    (fs : List (String × List Sig)) → lookupFuncs k fs = some sigs → (k, sigs) ∈ fs
  | [], h => by simp [lookupFuncs] at h
  | (k', v) :: rest, h => by
    simp only [lookupFuncs] at h
    split at h
    · next hk => cases h; simp [hk]
    · exact List.mem_cons_of_mem _ (lookupFuncs_mem rest h)

end AL.Sema
