import AL.Lemmas.RenderMatch
/-
  C16 helper lemmas, part 3: inversion of the lazy searches and of the whole pattern (what a successful match tells
  about the input: `matchMsg_some`, `matchFile_some`, `matchTail_goodTail`, `matcher_shape`) and decidable checkers for
  the "no such infix" side conditions (`noInnerBracket`, `noColonDigit`).
-/
namespace AL.Render

/-! ### decidable "no suffix starts with …" -/

/-- no non-empty suffix of `s` satisfies `p` -/
def noneStarts (p : List Char → Bool) : List Char → Bool
  | [] => true
  | c :: r => !p (c :: r) && noneStarts p r

theorem noneStarts_spec (p : List Char → Bool) : ∀ (s : List Char), noneStarts p s = true →
    ∀ a b, s = a ++ b → b ≠ [] → p b = false
  | [], _, a, b, hab, hb => by
    have : b = [] := by
      have := congrArg List.length hab
      simp at this
      exact List.eq_nil_of_length_eq_zero (by omega)
    exact absurd this hb
  | c :: r, h, a, b, hab, hb => by
    simp only [noneStarts, Bool.and_eq_true, Bool.not_eq_true'] at h
    cases a with
    | nil =>
      simp only [List.nil_append] at hab
      rw [← hab]; exact h.1
    | cons x a' =>
      simp only [List.cons_append, List.cons.injEq] at hab
      exact noneStarts_spec p r h.2 a' b hab.2 hb

/-- `s` starts with ` [` -/
def startsBracket : List Char → Bool
  | ' ' :: '[' :: _ => true
  | _ => false

/-- `s` starts with `:` and a digit -/
def startsColonDigit : List Char → Bool
  | ':' :: c :: _ => isDigit c
  | _ => false

/-- checker for "` [` does not occur after the first character" -/
def noInnerBracket (m : List Char) : Bool := noneStarts startsBracket m.tail

/-- checker for "no `:` is followed by a digit" -/
def noColonDigit (f : List Char) : Bool := noneStarts startsColonDigit f

/-- the conclusion has the shape of `C16.Faithful.msgNoBracket` (Props/C16.lean) -/
theorem noInnerBracket_spec {m : List Char} (h : noInnerBracket m = true) :
    ∀ a b, m = a ++ [' ', '['] ++ b → a = [] := by
  intro a b hab
  cases a with
  | nil => rfl
  | cons x a' =>
    have := noneStarts_spec startsBracket m.tail h a' (' ' :: '[' :: b) (by rw [hab]; simp) (by simp)
    simp [startsBracket] at this

theorem noColonDigit_spec {f : List Char} (h : noColonDigit f = true) :
    ∀ a c b, f = a ++ ':' :: c :: b → isDigit c = false := by
  intro a c b hab
  have := noneStarts_spec startsColonDigit f h a (':' :: c :: b) hab (by simp)
  simpa [startsColonDigit] using this

/-! ### `sepPrefix` needs a `:` followed by a digit -/

theorem sepPrefix_colonDigit {s : List Char} (h : sepPrefix s = true) :
    ∃ c r, s = ':' :: c :: r ∧ isDigit c = true := by
  unfold sepPrefix at h
  cases hp : stage s with
  | none => simp [hp] at h
  | some p =>
    obtain ⟨hs, hne, hd, _⟩ := stage_some hp
    cases hp1 : p.1 with
    | nil => exact absurd hp1 hne
    | cons c r =>
      refine ⟨c, r ++ p.2, ?_, hd c (by rw [hp1]; simp)⟩
      rw [hs, hp1]; rfl


theorem matchMsg_some (s acc m k : List Char) (h : matchMsg acc s = some (m, k)) :
    ∃ m', m = acc ++ m' ∧ m' ≠ [] ∧ AllDot m' ∧ s = m' ++ ' ' :: '[' :: (k ++ [']']) ∧ k ≠ [] ∧ AllDot k ∧
      ∀ p1 p2, m' = p1 ++ p2 → p1 ≠ [] → p2 ≠ [] → matchKind (p2 ++ ' ' :: '[' :: (k ++ [']'])) = none := by
  rw [matchMsg_eq_lazyPlus] at h
  obtain ⟨pre, rest, hs, hpre, hf, hpd, hrest, hmin⟩ := lazyPlus_some matchKind s acc m k h
  obtain ⟨hr, hk, hkd⟩ := matchKind_some hrest
  subst hr
  exact ⟨pre, hf, hpre, hpd, hs, hk, hkd, hmin⟩

theorem matchFile_some (s acc f : List Char) (x : Nat × Nat × List Char × List Char)
    (h : matchFile acc s = some (f, x)) :
    ∃ pre rest, s = pre ++ rest ∧ pre ≠ [] ∧ f = acc ++ pre ∧ AllDot pre ∧ matchTail rest = some x ∧
      ∀ p1 p2, pre = p1 ++ p2 → p1 ≠ [] → p2 ≠ [] → matchTail (p2 ++ rest) = none := by
  rw [matchFile_eq_lazyPlus] at h
  exact lazyPlus_some matchTail s acc f x h

/-! ### what the pattern accepts has the shape of a header line

The facts about an accepted line in AL.Props.C16 and AL.Props.C16Print (it has no line terminator, it contains `:`, it
ends with `]`) are read off `matcher_shape`. -/

theorem GoodTail.allDot {T : List Char} (h : GoodTail T) : AllDot T := by
  obtain ⟨d1, d2, m, k, _, _, hd1, hd2, _, hm, _, hk, rfl⟩ := h.ex
  simp only [AllDot, List.forall_mem_cons, List.forall_mem_append, List.not_mem_nil, false_imp_iff, implies_true, dot_colon,
    dot_space, dot_lbracket, dot_rbracket, true_and, and_true]
  exact ⟨allDot_of_digits hd1, allDot_of_digits hd2, hm, hk⟩

theorem GoodTail.head {T : List Char} (h : GoodTail T) : ∃ r, T = ':' :: r := by
  obtain ⟨d1, d2, m, k, _, _, _, _, _, _, _, _, rfl⟩ := h.ex
  exact ⟨_, rfl⟩

theorem GoodTail.last {T : List Char} (h : GoodTail T) : ∃ t, T = t ++ [']'] := by
  obtain ⟨d1, d2, m, k, _, _, _, _, _, _, _, _, rfl⟩ := h.ex
  exact ⟨':' :: (d1 ++ ':' :: (d2 ++ ':' :: ' ' :: (m ++ ' ' :: '[' :: k))), by simp⟩

/-- what `matchTail` accepts is `:d1:d2: m [k]`. (Not stated: the converse, that every `GoodTail` is accepted — with the
message cut where the lazy search stops; it follows from `matchTail_digits` and `matchMsg_isSome`.) -/
theorem matchTail_goodTail {s : List Char} {x : Nat × Nat × List Char × List Char} (h : matchTail s = some x) :
    GoodTail s := by
  rw [matchTail_eq_stage] at h
  cases hp : stage s with
  | none => rw [hp] at h; cases h
  | some p =>
    obtain ⟨hs, h1, hd1, _⟩ := stage_some hp
    rw [hp] at h
    simp only at h
    cases hq : stage p.2 with
    | none => rw [hq] at h; cases h
    | some q =>
      obtain ⟨hs2, h2, hd2, _⟩ := stage_some hq
      rw [hq] at h
      simp only at h
      split at h
      · rename_i r5 hr4
        obtain ⟨mk, hm, _⟩ := Option.map_eq_some_iff.1 h
        obtain ⟨m, _, hm1, hm2, hr5, hk1, hk2, _⟩ := matchMsg_some r5 [] mk.1 mk.2 hm
        exact ⟨p.1, q.1, m, mk.2, h1, h2, hd1, hd2, hm1, hm2, hk1, hk2, by rw [hs, hs2, hr4, hr5]⟩
      · cases h

/-- what the problem matcher accepts: a run of `.`-characters (the file group), then `:d1:d2: m [k]` -/
theorem matcher_shape {l : List Char} {d : Diag} (h : matcher l = some d) :
    ∃ pre rest, l = pre ++ rest ∧ AllDot pre ∧ GoodTail rest := by
  unfold matcher at h
  cases hm : matchFile [] l with
  | none => rw [hm] at h; cases h
  | some y =>
    obtain ⟨pre, rest, hs, _, _, hp, ht, _⟩ := matchFile_some l [] y.1 y.2 hm
    exact ⟨pre, rest, hs, hp, matchTail_goodTail ht⟩

end AL.Render
