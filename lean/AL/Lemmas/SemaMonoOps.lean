import AL.Lemmas.SemaMonoBasic
/-
  C06: monotonicity (for `LooserD`) and well-formedness preservation of the non-recursive type rules
  `objDerefTy`, `arrDerefTy`, `indexTy`, `checkSig`, `resolveCall`.
-/
namespace AL.Sema
open AL AL.Ty AL.Spec

/-! ### the rules do not look at `vars` -/

theorem builtinCall_setVars (Γ : Env) (vs : List (String × Ty)) : builtinCall (Γ.setVars vs) = builtinCall Γ := rfl

/-! ### object dereference -/

theorem objDerefTy_mono (Γ : Env) (b : Bool) (p : String) {t t' : Ty} (h : LooserD t t')
    (he : (objDerefTy Γ b p t).2 = []) :
    (objDerefTy Γ b p t').2 = [] ∧ LooserD (objDerefTy Γ b p t).1 (objDerefTy Γ b p t').1 := by
  cases h with
  | any => exact ⟨rfl, .any _⟩
  | null | number | bool | string => simp [objDerefTy] at he
  | @arr e e' d d' hel hc =>
    cases d with
    | false => simp [objDerefTy] at he
    | true =>
      have hd' : d' = true := hc rfl
      subst hd'
      cases hel with
      | any =>
        refine ⟨by simp [objDerefTy], ?_⟩
        have : ∃ X, (objDerefTy Γ b p (.arr e true)).1 = .arr X true := by
          cases e with
          | any => exact ⟨_, rfl⟩
          | obj eps em =>
            simp only [objDerefTy] at he ⊢
            cases hl : Ty.lookup p eps with
            | some pt => simp
            | none =>
              cases em with
              | some mt => simp
              | none => simp [hl] at he
          | _ => simp [objDerefTy] at he
        obtain ⟨X, hX⟩ := this
        rw [hX]
        simp only [objDerefTy]
        exact .arr (.any _) (fun _ => rfl)
      | null | number | bool | string | arr _ _ => simp [objDerefTy] at he
      | obj hp hm =>
        simp only [objDerefTy] at he ⊢
        rcases hp.lookup (k := p) with ⟨h1, h2⟩ | ⟨pt, pt', h1, h2, hpt⟩
        · cases hm with
          | none | opened => simp [h1] at he
          | some hmt => simp only [h1, h2]; exact ⟨by simp, .arr hmt (fun _ => rfl)⟩
        · simp only [h1, h2]; exact ⟨by simp, .arr hpt (fun _ => rfl)⟩
  | obj hp hm =>
    simp only [objDerefTy] at he ⊢
    rcases hp.lookup (k := p) with ⟨h1, h2⟩ | ⟨pt, pt', h1, h2, hpt⟩
    · cases hm with
      | none | opened => simp [h1] at he
      | some hmt =>
        simp only [h1, h2] at he ⊢
        exact ⟨he, hmt⟩
    · simp only [h1, h2]; exact ⟨by simp, hpt⟩

theorem objDerefTy_wf (Γ : Env) (b : Bool) (p : String) {t : Ty} (h : wf t = true) :
    wf (objDerefTy Γ b p t).1 = true := by
  cases t with
  | obj ps m =>
    rw [wf_obj] at h
    simp only [Bool.and_eq_true] at h
    simp only [objDerefTy]
    cases hl : Ty.lookup p ps with
    | some pt => exact lookup_wf ps h.1.2 hl
    | none =>
      cases m with
      | some mt => simpa [wfOpt] using h.2
      | none => rfl
  | arr e d =>
    cases d with
    | false => rfl
    | true =>
      cases e with
      | any => exact h
      | obj eps em =>
        simp only [wf] at h
        rw [wf_obj] at h
        simp only [Bool.and_eq_true] at h
        cases hl : Ty.lookup p eps with
        | some pt => simp [objDerefTy, hl, wf, lookup_wf eps h.1.2 hl]
        | none =>
          cases em with
          | some mt => simpa [objDerefTy, hl, wf, wfOpt] using h.2
          | none => simp [objDerefTy, hl, wf]
      | _ => rfl
  | _ => rfl

/-! ### array dereference `.*` -/

def objOrAny (p : String × Ty) : Bool :=
  match p.2 with
  | .obj _ _ => true
  | .any => true
  | _ => false

theorem arrDerefTy_obj_none (ps : List (String × Ty)) :
    arrDerefTy (.obj ps none) =
      if ps.any objOrAny then (.arr .any true, []) else (.any, [err "filter-no-object-elem" [tyStr (.obj ps none)]]) := rfl

theorem any_objOrAny_mono : {ps ps' : List (String × Ty)} → LooserDProps ps ps' →
    ps.any objOrAny = true → ps'.any objOrAny = true
  | _, _, .nil => fun h => h
  | _, _, .cons (k := k) (t := t) (t' := t') h hr => fun ha => by
    simp only [List.any_cons, Bool.or_eq_true] at ha ⊢
    rcases ha with ha | ha
    · left
      cases h <;> simp_all [objOrAny]
    · exact .inr (any_objOrAny_mono hr ha)

theorem arrDerefTy_shape {t : Ty} (he : (arrDerefTy t).2 = []) : ∃ X, (arrDerefTy t).1 = .arr X true := by
  cases t with
  | any => exact ⟨_, rfl⟩
  | arr e d => exact ⟨_, rfl⟩
  | obj ps m =>
    cases m with
    | none =>
      rw [arrDerefTy_obj_none] at he ⊢
      split at he
      · next h => simp [h]
      · simp at he
    | some mt =>
      cases mt with
      | any | obj _ _ => exact ⟨_, rfl⟩
      | _ => simp [arrDerefTy] at he
  | _ => simp [arrDerefTy] at he

theorem arrDerefTy_mono {t t' : Ty} (h : LooserD t t') (he : (arrDerefTy t).2 = []) :
    (arrDerefTy t').2 = [] ∧ LooserD (arrDerefTy t).1 (arrDerefTy t').1 := by
  cases h with
  | any =>
    obtain ⟨X, hX⟩ := arrDerefTy_shape he
    rw [hX]
    exact ⟨rfl, .arr (.any _) (fun _ => rfl)⟩
  | null | number | bool | string => simp [arrDerefTy] at he
  | arr hel _ => exact ⟨rfl, .arr hel (fun _ => rfl)⟩
  | @obj ps ps' m m' hp hm =>
    cases hm with
    | none =>
      rw [arrDerefTy_obj_none] at he ⊢
      rw [arrDerefTy_obj_none]
      split at he
      · next h => simp only [h, any_objOrAny_mono hp h, if_true]; exact ⟨trivial, LooserD.refl _⟩
      · simp at he
    | opened =>
      obtain ⟨X, hX⟩ := arrDerefTy_shape he
      rw [hX]
      exact ⟨rfl, .arr (.any _) (fun _ => rfl)⟩
    | some hmt =>
      cases hmt with
      | any =>
        obtain ⟨X, hX⟩ := arrDerefTy_shape he
        rw [hX]
        exact ⟨rfl, .arr (.any _) (fun _ => rfl)⟩
      | null | number | bool | string | arr _ _ => simp [arrDerefTy] at he
      | obj hp2 hm2 => exact ⟨rfl, .arr (.obj hp2 hm2) (fun _ => rfl)⟩

theorem arrDerefTy_wf {t : Ty} (h : wf t = true) : wf (arrDerefTy t).1 = true := by
  cases t with
  | arr e d => exact h
  | obj ps m =>
    cases m with
    | none =>
      rw [arrDerefTy_obj_none]
      split <;> rfl
    | some mt =>
      rw [wf_obj] at h
      simp only [Bool.and_eq_true, wfOpt] at h
      cases mt with
      | obj _ _ => exact h.2
      | _ => rfl
  | _ => rfl

/-! ### index access -/

theorem indexTy_mono (Γ : Env) (lit : Option String) {idx idx' t t' : Ty} (hi : LooserD idx idx')
    (h : LooserD t t') (he : (indexTy Γ lit idx t).2 = []) :
    (indexTy Γ lit idx' t').2 = [] ∧ LooserD (indexTy Γ lit idx t).1 (indexTy Γ lit idx' t').1 := by
  cases h with
  | any => exact ⟨rfl, .any _⟩
  | null | number | bool | string => simp [indexTy] at he
  | arr hel _ =>
    cases hi with
    | any =>
      cases idx with
      | any | number => exact ⟨rfl, hel⟩
      | _ => simp [indexTy] at he
    | number => exact ⟨rfl, hel⟩
    | _ => simp [indexTy] at he
  | obj hp hm =>
    cases hi with
    | any => exact ⟨rfl, .any _⟩
    | string =>
      cases lit with
      | some v =>
        simp only [indexTy] at he ⊢
        rcases hp.lookup (k := Γ.lower v) with ⟨h1, h2⟩ | ⟨pt, pt', h1, h2, hpt⟩
        · cases hm with
          | none | opened => simp [h1] at he
          | some hmt => simp only [h1, h2]; exact ⟨trivial, hmt⟩
        · simp only [h1, h2]; exact ⟨trivial, hpt⟩
      | none =>
        cases hm with
        | none | opened => exact ⟨rfl, .any _⟩
        | some hmt => exact ⟨rfl, hmt⟩
    | _ => simp [indexTy] at he

theorem indexTy_wf (Γ : Env) (lit : Option String) (idx : Ty) {t : Ty} (h : wf t = true) :
    wf (indexTy Γ lit idx t).1 = true := by
  cases t with
  | arr e d =>
    simp only [wf] at h
    cases idx <;> first | exact h | rfl
  | obj ps m =>
    rw [wf_obj] at h
    simp only [Bool.and_eq_true] at h
    cases idx with
    | string =>
      cases lit with
      | some v =>
        simp only [indexTy]
        cases hl : Ty.lookup (Γ.lower v) ps with
        | some pt => exact lookup_wf ps h.1.2 hl
        | none =>
          cases m with
          | some mt => simpa [wfOpt] using h.2
          | none => rfl
      | none =>
        cases m with
        | some mt => simpa [indexTy, wfOpt] using h.2
        | none => rfl
    | _ => rfl
  | _ => rfl

/-! ### calls -/

/-- pointwise `LooserD` on argument type lists -/
inductive LooserDs : List Ty → List Ty → Prop
  | nil : LooserDs [] []
  | cons {t t' : Ty} {ts ts' : List Ty} : LooserD t t' → LooserDs ts ts' → LooserDs (t :: ts) (t' :: ts')

theorem LooserDs.length_eq : {ts ts' : List Ty} → LooserDs ts ts' → ts'.length = ts.length
  | _, _, .nil => rfl
  | _, _, .cons _ h => by simp [h.length_eq]

theorem LooserDs.drop : {ts ts' : List Ty} → LooserDs ts ts' → ∀ n, LooserDs (ts.drop n) (ts'.drop n)
  | _, _, .nil, n => by simpa using LooserDs.nil
  | _, _, .cons h hr, 0 => .cons h hr
  | _, _, .cons _ hr, n + 1 => by simpa using hr.drop n

theorem fixed_mono : (ps : List Ty) → {as as' : List Ty} → LooserDs as as' → ∀ i,
    firstBadArg.fixed ps as i = none → firstBadArg.fixed ps as' i = none
  | [], _, _, _, _, _ => by simp [firstBadArg.fixed]
  | _ :: _, _, _, .nil, _, _ => by simp [firstBadArg.fixed]
  | p :: ps, _, _, .cons (t := a) (t' := a') h hr, i, he => by
    simp only [firstBadArg.fixed] at he ⊢
    split at he
    · cases he
    · next hna =>
      have ha : Ty.assignable p a = true := by simpa using hna
      simp only [assignable_mono h.toW p ha, Bool.not_true, Bool.false_eq_true, if_false]
      exact fixed_mono ps hr _ he

/-- the variadic tail is the fixed check against the last parameter repeated -/
theorem rest_eq_fixed (p : Ty) : ∀ (as : List Ty) (i : Nat),
    firstBadArg.rest p as i = firstBadArg.fixed (List.replicate as.length p) as i
  | [], _ => by simp [firstBadArg.rest, firstBadArg.fixed]
  | a :: as, i => by
    simp only [firstBadArg.rest, firstBadArg.fixed, List.length_cons, List.replicate_succ, rest_eq_fixed p as]

theorem rest_mono (p : Ty) {as as' : List Ty} (h : LooserDs as as') (i : Nat)
    (he : firstBadArg.rest p as i = none) : firstBadArg.rest p as' i = none := by
  rw [rest_eq_fixed] at he ⊢
  rw [h.length_eq]
  exact fixed_mono _ h i he

theorem firstBadArg_mono (params : List Ty) (variadic : Bool) {as as' : List Ty} (h : LooserDs as as')
    (he : firstBadArg params variadic as = none) : firstBadArg params variadic as' = none := by
  unfold firstBadArg at he ⊢
  cases hf : firstBadArg.fixed params as 1 with
  | some x => simp [hf] at he
  | none =>
    simp only [hf] at he
    simp only [fixed_mono params h 1 hf]
    cases variadic with
    | false => rfl
    | true =>
      simp only [if_true] at he ⊢
      cases hl : params.getLast? with
      | none => rfl
      | some p =>
        simp only [hl] at he ⊢
        exact rest_mono p (h.drop _) _ he

theorem checkSig_eq_none (s : Sig) (as : List Ty) :
    checkSig s as = none ↔
      ((s.variadic && decide (s.params.length > as.length)) ||
        (!s.variadic && decide (s.params.length ≠ as.length))) = false ∧
      firstBadArg s.params s.variadic as = none := by
  unfold checkSig
  simp only []
  by_cases hc : ((s.variadic && decide (s.params.length > as.length)) ||
        (!s.variadic && decide (s.params.length ≠ as.length))) = true
  · rw [if_pos hc]
    constructor
    · intro h; cases h
    · intro h; rw [hc] at h; cases h.1
  · rw [if_neg hc]
    have hc' := Bool.eq_false_iff.mpr hc
    cases hf : firstBadArg s.params s.variadic as with
    | none => exact ⟨fun _ => ⟨hc', rfl⟩, fun _ => rfl⟩
    | some x =>
      obtain ⟨i, a, p⟩ := x
      constructor
      · intro h; cases h
      · intro h; cases h.2

theorem checkSig_mono (s : Sig) {as as' : List Ty} (h : LooserDs as as') (he : checkSig s as = none) :
    checkSig s as' = none := by
  rw [checkSig_eq_none] at he ⊢
  rw [h.length_eq]
  exact ⟨he.1, firstBadArg_mono _ _ h he.2⟩

theorem builtinCall_ret (Γ : Env) (c : String) {s s' : Sig} (h : s.ret = s'.ret) (fl : Option String) (n : Nat) :
    builtinCall Γ c s fl n = builtinCall Γ c s' fl n := by
  simp only [builtinCall, h]

theorem resolveCall_mono (Γ : Env) (vs : List (String × Ty)) (c : String) (sigs : List Sig) (fl : Option String)
    {tys tys' : List Ty} (hsame : ∀ s₁ ∈ sigs, ∀ s₂ ∈ sigs, s₁.ret = s₂.ret) (h : LooserDs tys tys')
    (he : (resolveCall Γ c sigs fl tys).2 = []) :
    (resolveCall (Γ.setVars vs) c sigs fl tys').2 = [] ∧
      LooserD (resolveCall Γ c sigs fl tys).1 (resolveCall (Γ.setVars vs) c sigs fl tys').1 := by
  rw [resolveCall_eq] at he ⊢
  rw [resolveCall_eq]
  cases hf : sigs.find? (fun s => (checkSig s tys).isNone) with
  | some s =>
    -- the signature that fitted still fits, so some signature is found; all have the same result type
    have hn : checkSig s tys' = none := checkSig_mono s h (by simpa using List.find?_some hf)
    have hm := List.mem_of_find?_eq_some hf
    cases hf' : sigs.find? (fun s => (checkSig s tys').isNone) with
    | none => exact absurd (List.find?_eq_none.1 hf' s hm) (by simp [hn])
    | some s' =>
      simp only [hf] at he ⊢
      rw [builtinCall_setVars, h.length_eq, builtinCall_ret Γ c (hsame s' (List.mem_of_find?_eq_some hf') s hm)]
      exact ⟨he, LooserD.refl _⟩
  | none =>
    -- no signature fitted and yet no diagnostic: there was no signature
    simp only [hf] at he
    cases sigs with
    | nil => exact ⟨rfl, .any _⟩
    | cons s rest =>
      have := List.find?_eq_none.1 hf s (List.mem_cons_self ..)
      cases hs : checkSig s tys with
      | none => simp [hs] at this
      | some e => simp [hs] at he

theorem builtinCall_wf (Γ : Env) (hj : ∀ s t, Γ.fromJson s = .ok t → wf t = true) (c : String) (s : Sig)
    (hs : wf s.ret = true) (fl : Option String) (n : Nat) : wf (builtinCall Γ c s fl n).1 = true := by
  unfold builtinCall
  simp only []
  split
  · split <;> exact hs
  · split
    · split
      · exact hs
      · split
        · next t ht => exact hj _ _ ht
        · exact hs
        · exact hs
    · exact hs

theorem resolveCall_wf (Γ : Env) (hj : ∀ s t, Γ.fromJson s = .ok t → wf t = true) (c : String)
    (sigs : List Sig) (hs : ∀ s ∈ sigs, wf s.ret = true) (fl : Option String) (tys : List Ty) :
    wf (resolveCall Γ c sigs fl tys).1 = true := by
  rw [resolveCall_eq]
  split
  · next s hf => exact builtinCall_wf Γ hj c s (hs s (List.mem_of_find?_eq_some hf)) fl _
  · rfl

end AL.Sema
