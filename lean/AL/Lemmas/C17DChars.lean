import AL.Lemmas.C17DRule
/-
  For AL.Props.C17Doc. The characters the validator reads (`AL.Rules.symsOf`: Go's `utf8.DecodeRune` over the bytes of the string) are
  the characters of the Lean string, one `Sym` per `Char` (`symsOf_chars`): Lean's UTF-8 encoder (`String.utf8EncodeChar`)
  followed by the model's decoder (`AL.decodeOne`) is the identity on Unicode scalar values.
-/
namespace AL.C17D
open AL AL.Rules

theorem ba_loop (bs : ByteArray) : ∀ (k i : Nat) (r : List UInt8), bs.size - i = k →
    ByteArray.toList.loop bs i r = r.reverse ++ bs.data.toList.drop i
  | 0, i, r, h => by
    rw [ByteArray.toList.loop]
    have : ¬ i < bs.size := by omega
    simp only [this, if_false]
    have hs : bs.data.size = bs.size := ByteArray.size_data
    have : bs.data.toList.length ≤ i := by rw [Array.length_toList]; omega
    rw [List.drop_eq_nil_of_le this, List.append_nil]
  | k + 1, i, r, h => by
    rw [ByteArray.toList.loop]
    have hi : i < bs.size := by omega
    simp only [hi, if_true]
    rw [ba_loop bs k (i + 1) _ (by omega)]
    have hs : bs.data.size = bs.size := ByteArray.size_data
    have hi' : i < bs.data.toList.length := by rw [Array.length_toList]; omega
    rw [List.reverse_cons, List.append_assoc, List.singleton_append]
    congr 1
    rw [← List.getElem_cons_drop hi']
    congr 1
    cases bs with
    | mk d =>
      simp only [ByteArray.get!]
      have : i < d.size := by simpa using hi'
      simp [this]

theorem ba_toList (bs : ByteArray) : bs.toList = bs.data.toList := by
  unfold ByteArray.toList
  rw [ba_loop bs _ 0 [] rfl]
  simp

theorem toUTF8_toList (s : String) : s.toUTF8.toList = s.toList.flatMap String.utf8EncodeChar := by
  rw [ba_toList, String.toUTF8_eq_toByteArray, ← String.utf8Encode_toList, List.utf8Encode, List.data_toByteArray]

theorem char_valid (c : Char) : c.toNat < 0xd800 ∨ (0xdfff < c.toNat ∧ c.toNat < 0x110000) := c.valid

theorem utf8Size_eq (c : Char) : c.utf8Size =
    if c.toNat ≤ 0x7f then 1 else if c.toNat ≤ 0x7ff then 2 else if c.toNat ≤ 0xffff then 3 else 4 := by
  simp only [Char.utf8Size, Char.toNat, UInt32.le_iff_toNat_le, UInt32.toNat_ofNatLT]

/-- the bytes of the UTF-8 encoding of the code point `v` -/
def encNat (v : Nat) : List Nat :=
  if v ≤ 0x7f then [v]
  else if v ≤ 0x7ff then [v / 64 % 0x20 + 0xc0, v % 0x40 + 0x80]
  else if v ≤ 0xffff then [v / 4096 % 0x10 + 0xe0, v / 64 % 0x40 + 0x80, v % 0x40 + 0x80]
  else [v / 262144 % 0x08 + 0xf0, v / 4096 % 0x40 + 0x80, v / 64 % 0x40 + 0x80, v % 0x40 + 0x80]

/-- a byte of the encoder fits in eight bits -/
theorem mod_add_byte (x : Nat) {m k : Nat} (hm : 0 < m) (h : m + k ≤ 256) : (x % m + k) % 2 ^ 8 = x % m + k :=
  Nat.mod_eq_of_lt (Nat.lt_of_lt_of_le (Nat.add_lt_add_right (Nat.mod_lt x hm) k) h)

theorem encode_toNat (c : Char) : (String.utf8EncodeChar c).map (·.toNat) = encNat c.toNat := by
  simp only [String.utf8EncodeChar, encNat, Char.toNat]
  generalize c.val.toNat = v
  split
  · simp only [List.map_cons, List.map_nil, UInt8.toNat_ofNat']
    rw [Nat.mod_eq_of_lt (by omega)]
  · split
    · simp (disch := decide) only [List.map_cons, List.map_nil, UInt8.toNat_ofNat', mod_add_byte]
    · split <;> simp (disch := decide) only [List.map_cons, List.map_nil, UInt8.toNat_ofNat', mod_add_byte]

theorem decodeOne_2 (b0 b1 : Nat) (rest : List Nat) (h0 : 0xC2 ≤ b0) (h0' : b0 < 0xE0) (h1 : 0x80 ≤ b1) (h1' : b1 ≤ 0xBF) :
    decodeOne (b0 :: b1 :: rest) = some (⟨(b0 - 0xC0) * 64 + (b1 - 0x80), 2, false⟩, rest) := by
  have a1 : ¬ b0 < 0x80 := by omega
  have a2 : ¬ b0 < 0xC2 := by omega
  have a4 : isCont b1 = true := by simp [isCont]; omega
  simp only [decodeOne, a1, a2, h0', a4, if_true, if_false]

theorem decodeOne_3 (b0 b1 b2 : Nat) (rest : List Nat) (h0 : 0xE0 ≤ b0) (h0' : b0 < 0xF0)
    (h1 : (if b0 = 0xE0 then 0xA0 else 0x80) ≤ b1) (h1' : b1 ≤ (if b0 = 0xED then 0x9F else 0xBF)) (h2 : 0x80 ≤ b2) (h2' : b2 ≤ 0xBF) :
    decodeOne (b0 :: b1 :: b2 :: rest) = some (⟨(b0 - 0xE0) * 4096 + (b1 - 0x80) * 64 + (b2 - 0x80), 3, false⟩, rest) := by
  have a1 : ¬ b0 < 0x80 := by omega
  have a2 : ¬ b0 < 0xC2 := by omega
  have a3 : ¬ b0 < 0xE0 := by omega
  have a4 : isCont b2 = true := by simp [isCont]; omega
  simp only [decodeOne, a1, a2, a3, h0', a4, if_true, if_false, decide_eq_true h1, decide_eq_true h1', Bool.and_self]

theorem decodeOne_4 (b0 b1 b2 b3 : Nat) (rest : List Nat) (h0 : 0xF0 ≤ b0) (h0' : b0 < 0xF5)
    (h1 : (if b0 = 0xF0 then 0x90 else 0x80) ≤ b1) (h1' : b1 ≤ (if b0 = 0xF4 then 0x8F else 0xBF)) (h2 : 0x80 ≤ b2) (h2' : b2 ≤ 0xBF)
    (h3 : 0x80 ≤ b3) (h3' : b3 ≤ 0xBF) :
    decodeOne (b0 :: b1 :: b2 :: b3 :: rest) =
      some (⟨(b0 - 0xF0) * 262144 + (b1 - 0x80) * 4096 + (b2 - 0x80) * 64 + (b3 - 0x80), 4, false⟩, rest) := by
  have a1 : ¬ b0 < 0x80 := by omega
  have a2 : ¬ b0 < 0xC2 := by omega
  have a3 : ¬ b0 < 0xE0 := by omega
  have a3' : ¬ b0 < 0xF0 := by omega
  have a4 : isCont b2 = true := by simp [isCont]; omega
  have a5 : isCont b3 = true := by simp [isCont]; omega
  simp only [decodeOne, a1, a2, a3, a3', h0', a4, a5, if_true, if_false, decide_eq_true h1, decide_eq_true h1', Bool.and_self]

theorem digits64 (v : Nat) : ∃ q r, r < 64 ∧ v = q * 64 + r ∧ v / 64 = q ∧ v % 64 = r :=
  ⟨v / 64, v % 64, Nat.mod_lt _ (by decide), (Nat.div_add_mod' v 64).symm, rfl, rfl⟩

theorem cont_range {c : Nat} (hc : c < 64) : 0x80 ≤ c + 128 ∧ c + 128 ≤ 0xBF := ⟨Nat.le_add_left _ _, by omega⟩

/- `v` is written in base-64 digits first and each `omega` gets only the bounds it needs: with `/`, `%` of `v` in the
goal, or with all bounds in the context, `omega` is slow. -/
theorem decodeOne_encNat (v : Nat) (hv : v < 0xd800 ∨ (0xdfff < v ∧ v < 0x110000)) (rest : List Nat) :
    decodeOne (encNat v ++ rest) =
      some (⟨v, if v ≤ 0x7f then 1 else if v ≤ 0x7ff then 2 else if v ≤ 0xffff then 3 else 4, false⟩, rest) := by
  unfold encNat
  by_cases h1 : v ≤ 0x7f
  · have : v < 0x80 := by omega
    simp [h1, decodeOne, this]
  · by_cases h2 : v ≤ 0x7ff
    · simp only [h1, h2, if_true, if_false, List.cons_append, List.nil_append]
      clear hv
      obtain ⟨a, b, hb, rfl, e1, e2⟩ := digits64 v
      rw [e1, e2]; clear e1 e2
      have ha : 2 ≤ a ∧ a < 32 := by omega
      rw [Nat.mod_eq_of_lt ha.2, decodeOne_2 _ _ rest (by omega) (by omega) (cont_range hb).1 (cont_range hb).2]
      simp only [Nat.add_sub_cancel]
    · by_cases h3 : v ≤ 0xffff
      · simp only [h1, h2, h3, if_true, if_false, List.cons_append, List.nil_append]
        clear h1
        rw [show v / 4096 = v / 64 / 64 from (Nat.div_div_eq_div_mul v 64 64).symm]
        obtain ⟨q, c, hc, rfl, e1, e2⟩ := digits64 v
        rw [e1, e2]; clear e1 e2
        obtain ⟨a, b, hb, rfl, e1, e2⟩ := digits64 q
        rw [e1, e2]; clear e1 e2
        -- not overlong (`a = 0`: at least 0x800), not a surrogate (`a = 13`: below 0xd800)
        have ha : a < 16 := by clear hv h2; omega
        have hlo : a = 0 → 32 ≤ b := by clear hv h3; omega
        have hhi : a = 13 → b < 32 := by clear h2 h3; omega
        clear hv h2 h3
        rw [Nat.mod_eq_of_lt ha,
          decodeOne_3 _ _ _ rest (Nat.le_add_left _ _) (by omega) (by split <;> omega) (by split <;> omega)
            (cont_range hc).1 (cont_range hc).2]
        simp only [Nat.add_sub_cancel, Nat.add_mul, Nat.mul_assoc]
      · simp only [h1, h2, h3, if_false, List.cons_append, List.nil_append]
        clear h1 h2
        rw [show v / 262144 = v / 64 / 64 / 64 by rw [Nat.div_div_eq_div_mul, Nat.div_div_eq_div_mul],
          show v / 4096 = v / 64 / 64 from (Nat.div_div_eq_div_mul v 64 64).symm]
        obtain ⟨q, d, hd, rfl, e1, e2⟩ := digits64 v
        rw [e1, e2]; clear e1 e2
        obtain ⟨q, c, hc, rfl, e1, e2⟩ := digits64 q
        rw [e1, e2]; clear e1 e2
        obtain ⟨a, b, hb, rfl, e1, e2⟩ := digits64 q
        rw [e1, e2]; clear e1 e2
        -- not overlong (`a = 0`: at least 0x10000), not beyond 0x10ffff (`a = 4`)
        have ha : a < 5 := by omega
        have hlo : a = 0 → 16 ≤ b := by clear hv; omega
        have hhi : a = 4 → b < 16 := by clear h3; omega
        clear hv h3
        rw [Nat.mod_eq_of_lt (by omega : a < 8),
          decodeOne_4 _ _ _ _ rest (Nat.le_add_left _ _) (by omega) (by split <;> omega) (by split <;> omega)
            (cont_range hc).1 (cont_range hc).2 (cont_range hd).1 (cont_range hd).2]
        simp only [Nat.add_sub_cancel, Nat.add_mul, Nat.mul_assoc]

/-- a character as the validator's scanner sees it: code point, width of its UTF-8 encoding, well-formed -/
def symOfChar (c : Char) : Sym := ⟨c.toNat, c.utf8Size, false⟩

theorem decodeUtf8_chars : ∀ (cs : List Char),
    decodeUtf8 ((cs.flatMap String.utf8EncodeChar).map (·.toNat)) = cs.map symOfChar
  | [] => by simp [decodeUtf8_nil]
  | c :: cs => by
    have h := decodeOne_encNat c.toNat (char_valid c) (((cs.flatMap String.utf8EncodeChar).map (·.toNat)))
    rw [← utf8Size_eq, ← encode_toNat] at h
    simp only [List.flatMap_cons, List.map_append, List.map_cons]
    rw [decodeUtf8_step h, decodeUtf8_chars cs]
    rfl

/-- **the characters the validator reads are the characters of the string** -/
theorem symsOf_chars (s : String) : symsOf s = s.toList.map symOfChar := by
  unfold symsOf
  rw [toUTF8_toList, decodeUtf8_chars]

end AL.C17D
