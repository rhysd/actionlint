import AL.Lemmas.C08DRules
/-
  The ASCII folding (`A`–`Z` ↦ `a`–`z`) keeps everything the rules read of an id as written: emptiness, whether it holds a
  placeholder, whether it matches the naming convention. So re-casing an id in the ASCII sense is an `IdFold` as soon as
  `lower` does not tell the two spellings apart (`IdFold.ascii`). For the placeholder test: a map of the text that neither
  creates nor destroys a character of the pattern does not move the match (`indexOf_map`).
-/
namespace AL.C08D
open AL AL.Ast AL.Rules AL.C08R

theorem fC_cases (P : Char → Prop) (hup : ∀ n : Fin 26, P (Char.ofNat (65 + n.val))) (hother : ∀ c, ¬('A' ≤ c ∧ c ≤ 'Z') → P c) :
    ∀ c, P c := by
  intro c
  by_cases h : 'A' ≤ c ∧ c ≤ 'Z'
  · have h1 : 65 ≤ c.toNat := by
      have := h.1
      rw [Char.le_def] at this
      exact this
    have h2 : c.toNat ≤ 90 := by
      have := h.2
      rw [Char.le_def] at this
      exact this
    have := hup ⟨c.toNat - 65, by omega⟩
    simp only at this
    have e : 65 + (c.toNat - 65) = c.toNat := by omega
    rw [e, Char.ofNat_toNat] at this
    exact this
  · exact hother c h

theorem asciiLower_toList (s : String) : (AL.PW.asciiLower s).toList = s.toList.map fC := by
  simp only [AL.PW.asciiLower, String.toList_ofList]
  rfl

theorem fC_other (c : Char) (h : ¬('A' ≤ c ∧ c ≤ 'Z')) : fC c = c := by simp [fC, h]

theorem fC_beq (p : Char) (hp : ∀ n : Fin 26, (p == fC (Char.ofNat (65 + n.val))) = (p == Char.ofNat (65 + n.val))) :
    ∀ c, (p == fC c) = (p == c) :=
  fC_cases _ hp (fun c h => by rw [fC_other c h])

theorem isPrefixOf_map (g : Char → Char) : ∀ (pat : List Char), (∀ p ∈ pat, ∀ c, (p == g c) = (p == c)) → ∀ l : List Char,
    pat.isPrefixOf (l.map g) = pat.isPrefixOf l
  | [], _, l => by simp
  | p :: ps, h, [] => by simp
  | p :: ps, h, c :: cs => by
    simp only [List.map_cons, List.isPrefixOf_cons_cons, h p (by simp) c,
      isPrefixOf_map g ps (fun q hq => h q (by simp [hq])) cs]

theorem indexOf_map (g : Char → Char) (pat : List Char) (hp : ∀ p ∈ pat, ∀ c, (p == g c) = (p == c)) : ∀ (l : List Char) (i : Nat),
    AL.Matrix.indexOf pat (l.map g) i = AL.Matrix.indexOf pat l i
  | [], i => rfl
  | c :: cs, i => by
    have := isPrefixOf_map g pat hp (c :: cs)
    simp only [List.map_cons] at this
    simp only [List.map_cons, AL.Matrix.indexOf, this, indexOf_map g pat hp cs (i + 1)]

theorem open_stable : ∀ p ∈ "${{".toList, ∀ c, (p == fC c) = (p == c) := by
  intro p hp
  have : p = '$' ∨ p = '{' := by
    have : "${{".toList = ['$', '{', '{'] := by decide
    rw [this] at hp
    simp only [List.mem_cons, List.not_mem_nil, or_false] at hp
    rcases hp with h | h | h <;> simp [h]
  rcases this with rfl | rfl
  · exact fC_beq _ (by decide)
  · exact fC_beq _ (by decide)

theorem close_stable : ∀ p ∈ "}}".toList, ∀ c, (p == fC c) = (p == c) := by
  intro p hp
  have : p = '}' := by
    have : "}}".toList = ['}', '}'] := by decide
    rw [this] at hp
    simp only [List.mem_cons, List.not_mem_nil, or_false] at hp
    rcases hp with h | h <;> simp [h]
  subst this
  exact fC_beq _ (by decide)

theorem containsExpr_asciiLower (s : String) : AL.Matrix.containsExpr (AL.PW.asciiLower s) = AL.Matrix.containsExpr s := by
  simp only [AL.Matrix.containsExpr, asciiLower_toList, indexOf_map fC _ open_stable]
  cases AL.Matrix.indexOf "${{".toList s.toList 0 with
  | none => rfl
  | some i =>
    simp only [← List.map_drop, indexOf_map fC _ close_stable]

theorem isIdStart_fC : ∀ c, isIdStart (fC c) = isIdStart c :=
  fC_cases _ (by decide) (fun c h => by rw [fC_other c h])

theorem isIdChar_fC : ∀ c, isIdChar (fC c) = isIdChar c :=
  fC_cases _ (by decide) (fun c h => by rw [fC_other c h])

theorem matchesIdPattern_asciiLower (s : String) : matchesIdPattern (AL.PW.asciiLower s) = matchesIdPattern s := by
  simp only [matchesIdPattern, asciiLower_toList]
  cases s.toList with
  | nil => rfl
  | cons c cs =>
    simp only [List.map_cons, isIdStart_fC, List.all_map]
    congr 2
    funext x
    exact isIdChar_fC x

theorem asciiLower_empty (s : String) : AL.PW.asciiLower s = "" ↔ s = "" := by
  constructor
  · intro h
    have := congrArg String.toList h
    rw [asciiLower_toList] at this
    have h0 : "".toList = [] := by decide
    rw [h0, List.map_eq_nil_iff] at this
    have e : s = String.ofList s.toList := (String.ofList_toList).symm
    rw [e, this]
  · rintro rfl
    decide

/-- **the ASCII folding is a fold of ids** for every `lower` that does not tell `X` from `x` -/
theorem IdFold.ascii {lower : String → String} (hl : ∀ a, lower (AL.PW.asciiLower a) = lower a) : IdFold lower AL.PW.asciiLower :=
  ⟨hl, asciiLower_empty, containsExpr_asciiLower, matchesIdPattern_asciiLower⟩

/-- `hl` of `IdFold.ascii` for `lower := asciiLower` (what the examples run with) -/
theorem asciiLower_idem (a : String) : AL.PW.asciiLower (AL.PW.asciiLower a) = AL.PW.asciiLower a := by
  have h : ∀ c, fC (fC c) = fC c := fC_cases _ (by decide) (fun c h => by rw [fC_other c h, fC_other c h])
  have e : (AL.PW.asciiLower (AL.PW.asciiLower a)).toList = (AL.PW.asciiLower a).toList := by
    rw [asciiLower_toList, asciiLower_toList, List.map_map]
    apply List.map_congr_left
    intro c _
    exact h c
  calc AL.PW.asciiLower (AL.PW.asciiLower a)
      = String.ofList (AL.PW.asciiLower (AL.PW.asciiLower a)).toList := (String.ofList_toList).symm
    _ = String.ofList (AL.PW.asciiLower a).toList := by rw [e]
    _ = AL.PW.asciiLower a := String.ofList_toList

end AL.C08D
