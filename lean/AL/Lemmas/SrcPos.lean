import AL.Model.SrcPos
import AL.Lemmas.Order
/-
  Lemmas about `AL.SrcPos`: `isBefore` is the lexicographic strict total order on (line, col); the selection
  fold computes the minimum; insertion sort yields a sorted permutation (`Order.Sorted isBefore`: no later position is
  before an earlier one), which is unique among permutations.
-/
namespace AL.SrcPos

/-- `isBefore` orders by line, then column -/
theorem isBefore_key : Order.KeyOrder isBefore fun p => (p.line, p.col) :=
  ((Order.KeyOrder.nat.comap fun p : P => p.line).lex (Order.KeyOrder.nat.comap fun p : P => p.col)).congr fun p q => by
    show isBefore p q = if p.line = q.line then decide (p.col < q.col) else decide (p.line < q.line)
    unfold isBefore
    by_cases h : p.line = q.line
    · rw [if_pos h, h, if_neg (Nat.lt_irrefl _), if_neg (Nat.lt_irrefl _)]
    · rw [if_neg h]
      by_cases h1 : p.line < q.line
      · rw [if_pos h1, decide_eq_true h1]
      · rw [if_neg h1, if_pos (by omega), decide_eq_false h1]

theorem key_injective : Function.Injective fun p : P => (p.line, p.col) := fun p q h => by
  cases p; cases q; cases h; rfl

theorem isBefore_sw : Order.StrictWeak isBefore := isBefore_key.sw

/-- from "not before" and distinctness, the converse holds -/
theorem isBefore_of_not {p q : P} (h : isBefore p q = false) (hne : p ≠ q) : isBefore q p = true :=
  isBefore_key.lt_of_not_lt key_injective h hne

theorem isBefore_total {p q : P} (h : p ≠ q) : isBefore p q = true ∨ isBefore q p = true := by
  cases h' : isBefore p q with
  | true => exact .inl rfl
  | false => exact .inr (isBefore_of_not h' h)

/-! ### selection -/

/-- the step of the selection loop -/
def step (found y : P) : P := if isBefore y found then y else found

theorem selectFirst_cons (x : P) (xs : List P) : selectFirst (x :: xs) = some (xs.foldl step x) := rfl

/-- `m` is a least element of `l`: a member that is before every other member -/
def IsMin (m : P) (l : List P) : Prop := m ∈ l ∧ ∀ y ∈ l, y = m ∨ isBefore m y = true

theorem foldl_step_isMin (xs : List P) (x : P) : IsMin (xs.foldl step x) (x :: xs) := by
  obtain ⟨hmem, hmin⟩ := Order.foldl_min isBefore_sw xs x
  refine ⟨hmem, fun y hy => ?_⟩
  by_cases hym : y = xs.foldl step x
  · exact .inl hym
  · exact .inr (isBefore_of_not (hmin y hy) hym)

theorem selectFirst_isMin {l : List P} {m : P} (h : selectFirst l = some m) : IsMin m l := by
  cases l with
  | nil => cases h
  | cons x xs =>
    rw [selectFirst_cons] at h
    cases h
    exact foldl_step_isMin xs x

theorem IsMin.unique {m m' : P} {l l' : List P} (hmem : ∀ x, x ∈ l ↔ x ∈ l')
    (h : IsMin m l) (h' : IsMin m' l') : m = m' := by
  rcases h'.2 m ((hmem m).mp h.1) with e | b
  · exact e
  · rcases h.2 m' ((hmem m').mpr h'.1) with e | b'
    · exact e.symm
    · rw [isBefore_sw.asymm b] at b'; cases b'

theorem selectFirst_perm {l₁ l₂ : List P} (hp : l₁.Perm l₂) : selectFirst l₁ = selectFirst l₂ := by
  cases h₁ : selectFirst l₁ with
  | none =>
    cases l₁ with
    | nil => rw [hp.symm.eq_nil]; rfl
    | cons x xs => cases h₁
  | some m =>
    cases h₂ : selectFirst l₂ with
    | none =>
      cases l₂ with
      | nil => rw [hp.eq_nil] at h₁; cases h₁
      | cons x xs => cases h₂
    | some m' =>
      rw [IsMin.unique (fun x => hp.mem_iff) (selectFirst_isMin h₁) (selectFirst_isMin h₂)]

/-! ### sorting -/

theorem sortP : Order.InsertSort isBefore insert := ⟨⟨fun _ => rfl, fun _ _ _ => rfl⟩, isBefore_sw⟩

theorem sortByPos_eq_foldr : ∀ l : List P, sortByPos l = l.foldr insert []
  | [] => rfl
  | x :: xs => congrArg (insert x) (sortByPos_eq_foldr xs)

theorem sortByPos_perm (l : List P) : (sortByPos l).Perm l := sortByPos_eq_foldr l ▸ sortP.foldr_perm l

theorem sortByPos_sorted (l : List P) : Order.Sorted isBefore (sortByPos l) := sortByPos_eq_foldr l ▸ sortP.foldr_sorted l

theorem sortByPos_perm_eq {l₁ l₂ : List P} (hp : l₁.Perm l₂) : sortByPos l₁ = sortByPos l₂ :=
  Order.Sorted.eq_of_perm isBefore_key key_injective (sortByPos_sorted l₁) (sortByPos_sorted l₂)
    ((sortByPos_perm l₁).trans (hp.trans (sortByPos_perm l₂).symm))

/-- with distinct positions the sorted list is strictly increasing -/
theorem sortByPos_strict {l : List P} (hn : l.Nodup) :
    (sortByPos l).Pairwise (fun a b => isBefore a b = true) := by
  have hn' : (sortByPos l).Nodup := (sortByPos_perm l).nodup_iff.mpr hn
  have hs := sortByPos_sorted l
  have := hs.and hn'
  exact this.imp (fun ⟨hle, hne⟩ => isBefore_of_not hle (fun e => hne e.symm))

end AL.SrcPos
