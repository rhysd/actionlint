import AL.Lemmas.GlobSpecFacts
import AL.Lemmas.GlobBasic
import AL.Lemmas.GlobGood
/-
  Soundness: an error-free run of the validator yields a derivation of the declarative syntax
  (with unrestricted class members). First the equations of `switchBody` by the kind of the character
  just read and those of `finishNext`, which completeness uses as well.
-/
namespace AL.Glob
open AL AL.Spec


section Switch
variable {isRef p : Bool} {st0 : GState}

theorem switchBody_plain {c : Sym} (h : Ordinary true c) :
    switchBody isRef p (some c.r) st0 = .ok (some c.r, true, st0) := by
  simp only [Ordinary, LineBreak, RefInvalid, not_or, forall_const] at h
  obtain ⟨_, _, _, _, _, ⟨_, _⟩, _, _, _, _, _⟩ := h
  generalize ho : some c.r = o
  unfold switchBody
  split <;> first | rfl | exact absurd (Option.some.inj ho) (by assumption)

theorem switchBody_refInvalid {x : Nat} (h : RefInvalid x) : switchBody isRef p (some x) st0 =
    .ok (some x, true, if isRef then st0.error (.invalidRef (some x) .chars) else st0) := by
  rcases h with rfl | rfl | rfl | rfl | rfl <;> rfl

theorem switchBody_ord {c : Sym} (h : Ordinary isRef c) :
    switchBody isRef p (some c.r) st0 = .ok (some c.r, true, st0) := by
  by_cases hr : RefInvalid c.r
  · cases isRef with
    | true => exact absurd hr (h.2.2.2.2.2.2 rfl)
    | false => exact switchBody_refInvalid hr
  · exact switchBody_plain ⟨h.1, h.2.1, h.2.2.1, h.2.2.2.1, h.2.2.2.2.1, h.2.2.2.2.2.1, fun _ => hr⟩

theorem switchBody_linebreak {x : Nat} (h : LineBreak x) : (switchBody isRef p (some x) st0).state.errs ≠ [] := by
  rcases h with rfl | rfl
  · unfold switchBody
    simp only []
    split <;> exact GState.error_errs_ne_nil _ _
  · exact GState.error_errs_ne_nil _ _

theorem switchBody_opt {x : Nat} (h : x = 63 ∨ x = 43) : switchBody isRef p (some x) st0 =
    .ok (some x, false,
      if !p then st0.error (.unexpected (some x) (if x = 63 then .qmark else .plus) .prec) else st0) := by
  rcases h with rfl | rfl <;> rfl

theorem switchBody_star : switchBody isRef p (some 42) st0 = .ok (some 42, false, st0) := rfl

/-- `\` before one of `[ ? * + \ !`: the pair is consumed; a ref filter may only escape the last three. -/
theorem switchBody_esc {x : Nat} (hx : PathEscapable x) (hpk : st0.peek = some x) :
    switchBody isRef p (some 92) st0 = .ok (some x, true,
      if isRef = true ∧ (x = 91 ∨ x = 63 ∨ x = 42) then st0.next.2.error (.invalidRef (some x) .chars)
      else st0.next.2) := by
  have e : symRune st0.next.1 = some x := by rw [← st0.peek_eq_next, hpk]
  rcases hx with rfl | rfl | rfl | rfl | rfl | rfl <;> simp [switchBody, hpk, e]

theorem switchBody_escapable {x : Nat} (hx : Escapable isRef x) (hpk : st0.peek = some x) :
    switchBody isRef p (some 92) st0 = .ok (some x, true, st0.next.2) := by
  rw [switchBody_esc (escapable_iff.1 hx).1 hpk, if_neg (escapable_iff.1 hx).2]

/-- `\` before anything else stands for itself in a path filter and is reported in a ref filter. -/
theorem switchBody_bslash (hpk : ∀ x, st0.peek = some x → ¬ PathEscapable x) :
    switchBody isRef p (some 92) st0 =
      if isRef then
        .ok (symRune (st0.error (.invalidRef (some 92) .esc)).next.1, true, (st0.error (.invalidRef (some 92) .esc)).next.2)
      else .ok (some 92, true, st0) := by
  unfold PathEscapable at hpk
  unfold switchBody
  simp only []
  split <;> first | rfl | (rename_i h; exact absurd (by decide) (hpk _ h))

theorem switchBody_cls_empty (hpk : st0.peek = some 93) : switchBody isRef p (some 91) st0 =
    .ok (some 93, true, st0.next.2.error (.unexpected (some 93) .classContent .empty)) := by
  have e : symRune st0.next.1 = some 93 := by rw [← st0.peek_eq_next, hpk]
  simp only [switchBody, hpk, e, if_true]

theorem switchBody_cls_eof {n : Nat} {st1 : GState} (hpk : st0.peek ≠ some 93) (hcl : classLoop st0 0 = (.eof, n, st1)) :
    switchBody isRef p (some 91) st0 = .error st1 := by
  simp only [switchBody, hpk, hcl, if_false]

theorem switchBody_cls {last : Option Nat} {n : Nat} {st1 : GState} (hpk : st0.peek ≠ some 93)
    (hcl : classLoop st0 0 = (.closed last, n, st1)) :
    switchBody isRef p (some 91) st0 =
      .ok (last, true, if n = 1 then st1.error (.unexpected last .classMatch .single) else st1) := by
  simp only [switchBody, hpk, hcl, if_false]

end Switch

section Finish
variable {isRef pr : Bool} {c' : Option Nat} {st1 : GState}

theorem finishNext_more (h : gp st1 ≠ []) : finishNext isRef (.ok (c', pr, st1)) = (true, { st1 with prec := pr }) := by
  have hpk : ({ st1 with prec := pr } : GState).peek ≠ none := fun h0 => h ((peek_none_iff st1).1 h0)
  simp only [finishNext, hpk, if_false]

/-- At the end of the pattern a ref filter is checked for a trailing `/` or `.`. -/
theorem finishNext_end (h : gp st1 = []) : finishNext isRef (.ok (c', pr, st1)) =
    (false, if isRef = true ∧ (c' = some 47 ∨ c' = some 46) then
      ({ st1 with prec := pr } : GState).error (.invalidRef c' .endsWith) else { st1 with prec := pr }) := by
  have hpk : ({ st1 with prec := pr } : GState).peek = none := (peek_none_iff st1).2 h
  simp only [finishNext, hpk, if_true, Bool.and_eq_true, Bool.or_eq_true, decide_eq_true_eq]

end Finish


theorem classLoop_sound (isRef : Bool) (st : GState) (n : Nat) (h : (classLoop st n).2.2.errs = []) :
    ∃ items, (classLoop st n).1 = .closed (some 93) ∧ (classLoop st n).2.1 = n + weight items ∧
      ClassBody false isRef (gp st) items (gp (classLoop st n).2.2) := by
  have he : ∀ (s : GState) m, (s.error m).errs ≠ [] := GState.error_errs_ne_nil
  fun_induction classLoop st n with
  | case1 st n hch => exact absurd h (he _ _)
  | case2 st n c0 hch st1 hlt h93 =>
    have hg := gp_of_ch hch
    exact ⟨[], rfl, rfl, by rw [hg]; exact .close c0 _ h93⟩
  | case3 st n c0 hch st1 hlt h93 hpk ih =>
    have hg := gp_of_ch hch
    obtain ⟨items, h1, h2, h3⟩ := ih h
    refine ⟨.single c0 :: items, h1, by rw [h2]; simp [weight]; omega, ?_⟩
    rw [hg]
    refine .single c0 _ _ _ ⟨h93, by simp⟩ ?_ h3
    rw [← GState.peek_eq]; exact hpk
  | case4 st n c0 hch st1 hlt h93 hpk st2 hle2 hp2 st3 => exact absurd h (he _ _)
  | case5 st n c0 hch st1 hlt h93 hpk st2 hle2 hp2 ih =>
    exfalso
    obtain ⟨items, h1, h2, h3⟩ := ih h
    rw [(peek_none_iff st2).1 hp2] at h3
    exact classBody_ne_nil h3
  | case6 st n c0 hch st1 hlt h93 hpk st2 hle2 v hv hp2 r3 st3 hle3 e hgt ih =>
    have h' := nil_of_prefix_nil (classLoop_prefix ..) h
    exact absurd h' (he _ _)
  | case7 st n c0 hch st1 hlt h93 hpk st2 hle2 v hv hp2 r3 st3 hle3 e hgt ih =>
    have hg := gp_of_ch hch
    have hpk' : st1.peek = some 45 := by simpa using hpk
    obtain ⟨d, hd, hg1⟩ := gp_cons_of_peek hpk'
    obtain ⟨d2, hd2, hg2⟩ := gp_cons_of_peek hp2
    obtain ⟨items, h1, h2, h3⟩ := ih h
    refine ⟨.range c0 d2 :: items, h1, by rw [h2]; simp [weight]; omega, ?_⟩
    rw [hg]
    simp +zetaDelta only [hg1, hg2]
    have he2 : e = some d2.r := by
      simp +zetaDelta only [GState.next_fst, hg2, List.head?_cons, symRune]
    refine .range c0 d d2 _ _ _ ⟨h93, by simp⟩ hd ⟨fun h93' => hv (by rw [← hd2]; exact h93'), by simp⟩ ?_ h3
    rw [he2] at hgt
    simpa using hgt

/-- An error-free switch has consumed one element of the syntax. -/
theorem switchBody_sound (isRef p : Bool) (c0 : Sym) (st0 : GState)
    (h : (switchBody isRef p (some c0.r) st0).state.errs = []) :
    ∃ y pr st1, switchBody isRef p (some c0.r) st0 = .ok (some y, pr, st1) ∧
      (Elems false isRef pr (gp st1) → Elems false isRef p (c0 :: gp st0)) := by
  have he : ∀ (s : GState) m, (s.error m).errs ≠ [] := GState.error_errs_ne_nil
  rcases char_cases c0 with h92 | hopt | h42 | h91 | hlb | hri | hord
  · -- `\`
    by_cases hx : ∃ x, st0.peek = some x ∧ PathEscapable x
    · obtain ⟨x, hpk, hx⟩ := hx
      obtain ⟨d, hd, hg⟩ := gp_cons_of_peek hpk
      rw [h92, switchBody_esc hx hpk] at h ⊢
      by_cases hr : isRef = true ∧ (x = 91 ∨ x = 63 ∨ x = 42)
      · rw [if_pos hr] at h
        exact absurd h (he _ _)
      · rw [if_neg hr]
        refine ⟨_, _, _, rfl, fun hE => ?_⟩
        rw [hg]
        exact .esc _ c0 d _ h92 (by rw [hd]; exact escapable_iff.2 ⟨hx, hr⟩) hE
    · rw [h92, switchBody_bslash (fun x hpk hx' => hx ⟨x, hpk, hx'⟩)] at h ⊢
      cases isRef with
      | true => exact absurd (nil_of_prefix_nil (GState.next_prefix _) h) (he _ _)
      | false =>
        refine ⟨_, _, _, rfl, fun hE => .bslash _ c0 _ rfl h92 (fun d hd hpe => hx ⟨d.r, ?_, hpe⟩) hE⟩
        rw [GState.peek_eq, hd]; rfl
  · -- `?`, `+`
    rw [switchBody_opt hopt] at h ⊢
    cases p with
    | false => exact absurd h (he _ _)
    | true => exact ⟨_, _, _, rfl, fun hE => .opt c0 _ hopt hE⟩
  · rw [h42, switchBody_star]
    exact ⟨_, _, _, rfl, fun hE => .star _ c0 _ h42 hE⟩
  · -- `[`
    rw [h91] at h ⊢
    by_cases hpk : st0.peek = some 93
    · rw [switchBody_cls_empty hpk] at h
      exact absurd h (he _ _)
    · have hs := classLoop_sound isRef st0 0
      generalize hcl : classLoop st0 0 = r at hs
      obtain ⟨e, n, st1⟩ := r
      cases e with
      | eof =>
        rw [switchBody_cls_eof hpk hcl] at h
        obtain ⟨_, h1, _⟩ := hs h
        cases h1
      | closed last =>
        rw [switchBody_cls hpk hcl] at h ⊢
        by_cases hn : n = 1
        · rw [if_pos hn] at h
          exact absurd h (he _ _)
        · rw [if_neg hn] at h ⊢
          obtain ⟨items, h1, h2, hb⟩ := hs h
          simp only [ClassEnd.closed.injEq, Nat.zero_add] at h1 h2 hb
          subst h1
          refine ⟨_, _, _, rfl, fun hE => .cls _ c0 _ items _ h91 hb ⟨?_, ?_⟩ hE⟩
          · intro h0
            subst h0
            obtain ⟨c, hgp, hc93⟩ := classBody_nil_items hb
            apply hpk
            rw [GState.peek_eq, hgp]
            simp [hc93]
          · intro c hcs
            subst hcs
            exact hn h2
  · exact absurd h (switchBody_linebreak hlb)
  · rw [switchBody_refInvalid hri] at h ⊢
    cases isRef with
    | true => exact absurd h (he _ _)
    | false => exact ⟨_, _, _, rfl, fun hE => .ord _ c0 _ (ordinary_of_refInvalid hri) hE⟩
  · rw [switchBody_plain hord]
    exact ⟨_, _, _, rfl, fun hE => .ord _ c0 _ (ordinary_mono (fun _ => rfl) hord) hE⟩

/-- For refs: the last character is neither `/` nor `.`. -/
def EndOK (isRef : Bool) (l : List Sym) : Prop :=
  isRef = true → l.getLast?.map (·.r) ≠ some 47 ∧ l.getLast?.map (·.r) ≠ some 46

/-- One error-free `validateNext` call, read backwards: what holds of the rest holds of the whole. -/
theorem validateNext_sound {src : List Sym} {c : Option Nat} (isRef : Bool) (st : GState) (hJ : Last src c st)
    (hne : gp st ≠ []) (h : (validateNext isRef st).2.errs = []) :
    ((validateNext isRef st).1 = false ↔ gp (validateNext isRef st).2 = []) ∧
    (Elems false isRef (validateNext isRef st).2.prec (gp (validateNext isRef st).2) →
      Elems false isRef st.prec (gp st)) ∧
    (gp (validateNext isRef st).2 = [] → EndOK isRef src) := by
  have he : ∀ (s : GState) m, (s.error m).errs ≠ [] := GState.error_errs_ne_nil
  obtain ⟨c0, hc0, hg⟩ := gp_cons_of_ne_nil hne
  have hJ1 := hJ.next.switchBody isRef st.prec
  unfold validateNext at h ⊢
  simp only [] at h ⊢
  have h1 := nil_of_prefix_nil (finishNext_prefix ..) h
  rw [hc0] at h h1 hJ1 ⊢
  simp only [symRune] at h h1 hJ1 ⊢
  obtain ⟨y, pr, st1, heq, hE⟩ := switchBody_sound isRef st.prec c0 st.next.2 h1
  rw [heq] at h hJ1 ⊢
  have hJ1 : Last src (some y) st1 := hJ1
  rw [hg]
  by_cases hnil : gp st1 = []
  · rw [finishNext_end hnil] at h ⊢
    by_cases hc : isRef = true ∧ (some y = some 47 ∨ some y = some 46)
    · rw [if_pos hc] at h
      exact absurd h (he _ _)
    · rw [if_neg hc]
      refine ⟨iff_of_true rfl hnil, hE, fun _ hr => ?_⟩
      rw [hJ1.last hnil]
      exact not_or.1 fun ho => hc ⟨hr, ho⟩
  · rw [finishNext_more hnil]
    exact ⟨iff_of_false nofun hnil, hE, fun h0 => absurd h0 hnil⟩

theorem loop_suffix (src : List Sym) (isRef : Bool) (st : GState) (h : gp st <:+ src) : gp (loop isRef st) <:+ src :=
  loop_inv (fun s => gp s <:+ src) (fun s h => by rw [s.gp_next]; exact (List.tail_suffix _).trans h)
    (fun _ _ h => h) (fun _ _ h => h) isRef st h

/-! ### The loop -/

theorem loop_sound {src : List Sym} (isRef : Bool) (st : GState) {c : Option Nat} (hJ : Last src c st)
    (h : (loop isRef st).errs = []) :
    Elems false isRef st.prec (gp st) ∧ (gp st ≠ [] → EndOK isRef src) ∧ gp (loop isRef st) = [] := by
  fun_induction loop isRef st generalizing c with
  | case1 st r =>
    rename_i hch
    have hg : gp st = [] := (pending_eq_nil _).2 hch
    refine ⟨by rw [hg]; exact .nil _, fun hne => absurd hg hne, ?_⟩
    have e : r = _ := validateNext_eof isRef st hch
    rw [e]
    exact hg
  | case2 st r hch hr =>
    rename_i ih
    have hne : gp st ≠ [] := fun h0 => hch ((pending_eq_nil _).1 h0)
    have h1 : (validateNext isRef st).2.errs = [] := nil_of_prefix_nil (loop_prefix ..) h
    obtain ⟨ha, hb, _⟩ := validateNext_sound isRef st hJ hne h1
    obtain ⟨c', hJ'⟩ := hJ.validateNext isRef
    obtain ⟨ih1, ih2, ih3⟩ := ih hJ' h
    exact ⟨hb ih1, fun _ => ih2 fun h0 => absurd (ha.2 h0) (by simpa using hr), ih3⟩
  | case3 st r hch =>
    rename_i hr
    have hne : gp st ≠ [] := fun h0 => hch ((pending_eq_nil _).1 h0)
    obtain ⟨ha, hb, hc⟩ := validateNext_sound isRef st hJ hne h
    have hnil := ha.1 (by simpa using hr)
    refine ⟨hb ?_, fun _ => hc hnil, hnil⟩
    rw [hnil]; exact .nil _

theorem loop_allOk (src : List Sym) (isRef : Bool) (st : GState) (h : GInv src st)
    (he : (loop isRef st).errs = []) : AllOk src :=
  (loop_GInv src isRef st h).allOk ((pending_eq_nil _).1 (loop_sound isRef st (Last.init st) he).2.2) he

/-! ### Scanner reports; patterns without a byte-order mark -/

theorem scanErrs_nil (l : List ScanErr) : scanErrs l = [] ↔ l = [] := by
  unfold scanErrs; simp

/-- The pattern does not begin with a byte-order mark (which the scanner would drop silently). -/
def NoBOM (src : List Sym) : Prop := src.head?.map (·.r) ≠ some 0xFEFF

instance (src : List Sym) : Decidable (NoBOM src) := by unfold NoBOM; infer_instance

theorem init_gp (src : List Sym) (hb : NoBOM src) : pending (Scanner.init src).1 = src := by
  rw [init_pending]
  cases src with
  | nil => rfl
  | cons c t =>
    have hc : c.r ≠ 0xFEFF := by simpa [NoBOM] using hb
    simp [hc]

/-! ### Before the loop -/

/-- The state in which `validate` enters its loop unless it has reported something before: behind a leading `!`. -/
def entry (st : GState) : GState := if st.peek = some 33 then { st.next.2 with prec := false } else st

theorem entry_gp (st : GState) : gp (entry st) = body (gp st) := by
  unfold entry body
  rw [← st.peek_eq, ← st.gp_next]
  split <;> rfl

/-- What holds of a state and of the state behind its next character (with `prec` off) holds of `entry`. -/
theorem entry_ind {P : GState → Prop} {st : GState} (h0 : P st) (h1 : P { st.next.2 with prec := false }) :
    P (entry st) := by
  unfold entry
  split
  · exact h1
  · exact h0

theorem entry_prec {st : GState} (h : st.prec = false) : (entry st).prec = false :=
  entry_ind (P := (·.prec = false)) h rfl

theorem entry_last {src : List Sym} {c : Option Nat} {st : GState} (h : Last src c st) :
    ∃ c', Last src c' (entry st) :=
  entry_ind (P := fun s => ∃ c', Last src c' s) ⟨_, h⟩ ⟨_, h.next⟩

/-- `validate` reports nothing iff the pattern passes the two checks made before the loop (a ref filter does not
start with `/`, a `!` is followed by something) and the loop, entered behind a leading `!`, reports nothing. -/
theorem validate_nil_iff (isRef : Bool) (c : Sym) (t : List Sym) :
    validate isRef (c :: t) = [] ↔
      (isRef = true → (gp (start (c :: t))).head?.map (·.r) ≠ some 47) ∧
      (gp (start (c :: t)) = [] ∨ body (gp (start (c :: t))) ≠ []) ∧
      (loop isRef (entry (start (c :: t)))).errs = [] := by
  have he : ∀ (s : GState) m, (s.error m).errs ≠ [] := GState.error_errs_ne_nil
  unfold validate start
  simp only [List.isEmpty_cons, Bool.false_eq_true, if_false]
  generalize ({ scan := (Scanner.init (c :: t)).1, errs := scanErrs (Scanner.init (c :: t)).2 } : GState) = st
  have hpeek := st.peek_eq
  unfold entry body
  rw [← hpeek]
  split
  · rename_i h47
    have hne : gp st ≠ [] := fun h0 => by rw [(peek_none_iff st).2 h0] at h47; cases h47
    simp only [h47, Option.some.injEq, Nat.reduceEqDiff, if_false, ne_eq, not_true_eq_false, imp_false, hne, false_or,
      not_false_eq_true, true_and]
    split
    · rename_i hr
      exact iff_of_false (fun h => absurd (nil_of_prefix_nil (loop_prefix ..) h) (he _ _)) (fun h => h.1 hr)
    · rename_i hr
      exact (and_iff_right hr).symm
  · rename_i h33
    have hne : gp st ≠ [] := fun h0 => by rw [(peek_none_iff st).2 h0] at h33; cases h33
    simp only [h33, if_true, Option.some.injEq, Nat.reduceEqDiff, ne_eq, not_false_eq_true, implies_true, true_and, hne,
      false_or]
    rw [← st.gp_next, ← peek_none_iff]
    split
    · rename_i hpk
      exact iff_of_false (he _ _) (fun h => h.1 hpk)
    · rename_i hpk
      exact (and_iff_right hpk).symm
  · rename_i h47 h33
    rw [if_neg h33, if_neg h33]
    exact ⟨fun h => ⟨fun _ => h47, Decidable.em _, h⟩, fun h => h.2.2⟩

/-- What the validator accepts, in terms of the pattern as the scanner delivers it (a leading byte-order mark is
dropped, and nothing may be left). -/
theorem validate_sound_eff (isRef : Bool) (src : List Sym) (h : validate isRef src = []) :
    src ≠ [] ∧ (pending (Scanner.init src).1 = [] ∨ ValidGlobLoose isRef (pending (Scanner.init src).1)) := by
  cases src with
  | nil => simp [validate] at h
  | cons c t =>
    obtain ⟨h47, hb, h⟩ := (validate_nil_iff isRef c t).1 h
    have hok : GInv (c :: t) (start (c :: t)) := init_GInv c t
    -- what `init` leaves to be delivered is a suffix of the source
    obtain ⟨del, hdel, _⟩ := hok.last_none
    obtain ⟨c', hJ⟩ := entry_last (Last.init (start (c :: t)))
    have hS := loop_sound isRef _ hJ h
    rw [entry_gp, entry_prec rfl] at hS
    exact ⟨nofun, hb.imp_right fun hb =>
      ⟨fun x hx => loop_allOk _ isRef _ (entry_ind hok hok.next) h x (hdel ▸ List.mem_append_right del hx), hb, hS.1,
        fun hr => ⟨h47 hr, hS.2.1 hb hr⟩⟩⟩

theorem validate_sound (isRef : Bool) (src : List Sym) (hb : NoBOM src) (h : validate isRef src = []) :
    ValidGlobLoose isRef src := by
  obtain ⟨hne, h⟩ := validate_sound_eff isRef src h
  rw [init_gp src hb] at h
  exact h.resolve_left hne

end AL.Glob
