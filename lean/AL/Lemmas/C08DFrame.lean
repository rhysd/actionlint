import AL.Lemmas.C08DSect
/-
  The loop bodies of `parseStep`, `parseJob` and `parse` carry alike states to alike states (`*_frame`), and so do the final
  checks (`*Finish_frame`): what the parser does AFTER the place where two documents differ in the spelling of a name.
-/
namespace AL.C08D
open AL.PW AL.Yaml AL.Ast AL.C13P

variable (F : Folds) (cfg : Cfg)

def nStepSt (st : StepSt) : StepSt := { st with step := nStep F st.step }
def nJobSt (st : JobSt) : JobSt := { st with job := nJob F st.job, call := nCall F st.call }

theorem nAct_reset {e e' : ExecAction} (h : nAct F e = nAct F e') :
    nAct F { e with inputs := some [] } = nAct F { e' with inputs := some [] } := by
  obtain ⟨u, i, ep, a⟩ := e
  obtain ⟨u', i', ep', a'⟩ := e'
  simp only [nAct, ExecAction.mk.injEq] at h ⊢
  obtain ⟨rfl, _, rfl, rfl⟩ := h
  simp

theorem Sim.of_eq {σ σ' : Type} {N : σ → σ'} {a b : σ} {es : List PErr} (h : N a = N b) : Sim N (a, es) (b, es) := ⟨h, rfl⟩

theorem stepKey_frame (s s' : StepSt) (kv : KV) (h : nStepSt F s = nStepSt F s') :
    Sim (nStepSt F) (stepKey cfg s kv) (stepKey cfg s' kv) := by
  obtain ⟨⟨id, cond, name, exec, env, coe, tm, pos⟩, wd⟩ := s
  obtain ⟨⟨id', cond', name', exec', env', coe', tm', pos'⟩, wd'⟩ := s'
  simp only [nStepSt, nStep, StepSt.mk.injEq, Step.mk.injEq] at h
  obtain ⟨⟨hid, rfl, rfl, hexec, henv, rfl, rfl, rfl⟩, rfl⟩ := h
  simp -iota only [stepKey]
  split
  · exact ⟨by simp only [nStepSt, nStep, hexec, henv], rfl⟩
  · exact ⟨by simp only [nStepSt, nStep, hid, hexec, henv], rfl⟩
  · exact ⟨by simp only [nStepSt, nStep, hid, hexec, henv], rfl⟩
  · exact ⟨by simp only [nStepSt, nStep, hid, hexec], rfl⟩
  · exact ⟨by simp only [nStepSt, nStep, hid, hexec, henv], rfl⟩
  · exact ⟨by simp only [nStepSt, nStep, hid, hexec, henv], rfl⟩
  · -- uses
    cases exec <;> cases exec' <;> simp only [nExec, reduceCtorEq, Exec.action.injEq, Exec.run.injEq] at hexec
    · exact ⟨by simp only [nStepSt, nStep, hid, henv], rfl⟩
    · subst hexec; exact ⟨by simp only [nStepSt, nStep, hid, henv], rfl⟩
    · rename_i e e'
      refine ⟨?_, rfl⟩
      obtain ⟨u, i, ep, a⟩ := e
      obtain ⟨u', i', ep', a'⟩ := e'
      simp only [nAct, ExecAction.mk.injEq] at hexec
      obtain ⟨_, hi, rfl, rfl⟩ := hexec
      simp only [nStepSt, nStep, hid, henv, nExec, nAct, hi]
  · -- with
    cases exec <;> cases exec' <;> simp only [nExec, reduceCtorEq, Exec.action.injEq, Exec.run.injEq] at hexec
    · exact ⟨by simp only [nStepSt, nStep, hid, henv], rfl⟩
    · subst hexec; exact ⟨by simp only [nStepSt, nStep, hid, henv], rfl⟩
    · rename_i e e'
      obtain ⟨j1, j2⟩ := withLoop_sim F (parseSectionMapping cfg "with" kv.val false false).1 _ _ _ rfl (nAct_reset F hexec)
      exact ⟨by simp only [nStepSt, nStep, hid, henv, nExec, j1], SameSites.rfl'.append j2⟩
  · -- run
    cases exec <;> cases exec' <;> simp only [nExec, reduceCtorEq, Exec.action.injEq, Exec.run.injEq] at hexec
    · exact ⟨by simp only [nStepSt, nStep, hid, henv], rfl⟩
    · subst hexec; exact ⟨by simp only [nStepSt, nStep, hid, henv], rfl⟩
    · exact ⟨by simp only [nStepSt, nStep, hid, henv, nExec, hexec], rfl⟩
  · -- shell
    cases exec <;> cases exec' <;> simp only [nExec, reduceCtorEq, Exec.action.injEq, Exec.run.injEq] at hexec
    · exact ⟨by simp only [nStepSt, nStep, hid, henv], rfl⟩
    · subst hexec; exact ⟨by simp only [nStepSt, nStep, hid, henv], rfl⟩
    · exact ⟨by simp only [nStepSt, nStep, hid, henv, nExec, hexec], rfl⟩
  · -- working-directory
    cases exec <;> cases exec' <;> simp only [nExec, reduceCtorEq, Exec.action.injEq, Exec.run.injEq] at hexec
    · exact ⟨by simp only [nStepSt, nStep, hid, henv], rfl⟩
    · subst hexec; exact ⟨by simp only [nStepSt, nStep, hid, henv], rfl⟩
    · exact ⟨by simp only [nStepSt, nStep, hid, henv, nExec, hexec], rfl⟩
  · exact ⟨by simp only [nStepSt, nStep, hid, hexec, henv], rfl⟩

theorem stepFinish_frame (n : Node) (s s' : StepSt) (h : nStepSt F s = nStepSt F s') :
    Sim (nStep F) (s.step, stepFinish n s) (s'.step, stepFinish n s') := by
  obtain ⟨⟨id, cond, name, exec, env, coe, tm, pos⟩, wd⟩ := s
  obtain ⟨⟨id', cond', name', exec', env', coe', tm', pos'⟩, wd'⟩ := s'
  simp only [nStepSt, nStep, StepSt.mk.injEq, Step.mk.injEq] at h
  obtain ⟨⟨hid, rfl, rfl, hexec, henv, rfl, rfl, rfl⟩, rfl⟩ := h
  refine ⟨by simp only [nStep, hid, hexec, henv], ?_⟩
  simp only [stepFinish]
  cases exec <;> cases exec' <;> simp only [nExec, reduceCtorEq, Exec.action.injEq, Exec.run.injEq] at hexec
  · rfl
  · subst hexec; rfl
  · rename_i e e'
    have := congrArg ExecAction.uses hexec
    simp only [nAct] at this
    simp only [this]
    rfl

theorem nJobSt_inj {j j' : Job} {c c' : WorkflowCall} {sk sk' ck ck' : Option Str} (h : nJobSt F ⟨j, c, sk, ck⟩ = nJobSt F ⟨j', c', sk', ck'⟩) :
    nJob F j = nJob F j' ∧ nCall F c = nCall F c' ∧ sk = sk' ∧ ck = ck' :=
  JobSt.mk.inj h

/-- alike states stay alike under an update `u` of the job that commutes with the normal form -/
theorem Sim.jobUpd {j j' a a' : Job} {c c' : WorkflowCall} {sk ck : Option Str} {es : List PErr} (u : Job → Job)
    (hj : nJob F j = nJob F j') (hc : nCall F c = nCall F c') (ha : nJob F a = u (nJob F j)) (ha' : nJob F a' = u (nJob F j')) :
    Sim (nJobSt F) (⟨a, c, sk, ck⟩, es) (⟨a', c', sk, ck⟩, es) :=
  ⟨by simp only [nJobSt, ha, ha', hj, hc], rfl⟩

theorem Sim.callUpd {j j' : Job} {c c' a a' : WorkflowCall} {sk ck : Option Str} {es : List PErr} (u : WorkflowCall → WorkflowCall)
    (hj : nJob F j = nJob F j') (hc : nCall F c = nCall F c') (ha : nCall F a = u (nCall F c)) (ha' : nCall F a' = u (nCall F c')) :
    Sim (nJobSt F) (⟨j, a, sk, ck⟩, es) (⟨j', a', sk, ck⟩, es) :=
  ⟨by simp only [nJobSt, ha, ha', hj, hc], rfl⟩

/-- the loop body of `parseJob`: every branch sets fields to values that do not depend on the state, which commutes
with the normal form. `-iota`: otherwise `simp` tries every equation of the twenty-way match. -/
theorem jobKey_frame (s s' : JobSt) (kv : KV) (h : nJobSt F s = nJobSt F s') :
    Sim (nJobSt F) (jobKey cfg s kv) (jobKey cfg s' kv) := by
  obtain ⟨j, c, sk, ck⟩ := s
  obtain ⟨j', c', sk', ck'⟩ := s'
  obtain ⟨hj, hc, rfl, rfl⟩ := nJobSt_inj F h
  simp -iota only [jobKey]
  split
  · exact .jobUpd F (fun t => { t with name := _ }) hj hc rfl rfl
  · split <;> exact .jobUpd F (fun t => { t with needs := _ }) hj hc rfl rfl
  · exact .jobUpd F (fun t => { t with runsOn := _ }) hj hc rfl rfl
  · exact .jobUpd F (fun t => { t with permissions := _ }) hj hc rfl rfl
  · exact .jobUpd F (fun t => { t with environment := _ }) hj hc rfl rfl
  · exact .jobUpd F (fun t => { t with concurrency := _ }) hj hc rfl rfl
  · exact .jobUpd F (fun t => { t with outputs := _ }) hj hc rfl rfl
  · exact .jobUpd F (fun t => { t with env := _ }) hj hc rfl rfl
  · exact .jobUpd F (fun t => { t with defaults := _ }) hj hc rfl rfl
  · exact .jobUpd F (fun t => { t with cond := _ }) hj hc rfl rfl
  · exact .jobUpd F (fun t => { t with steps := _ }) hj hc rfl rfl
  · exact .jobUpd F (fun t => { t with timeoutMinutes := _ }) hj hc rfl rfl
  · exact .jobUpd F (fun t => { t with strategy := _ }) hj hc rfl rfl
  · exact .jobUpd F (fun t => { t with continueOnError := _ }) hj hc rfl rfl
  · exact .jobUpd F (fun t => { t with container := _ }) hj hc rfl rfl
  · exact .jobUpd F (fun t => { t with services := _ }) hj hc rfl rfl
  · exact .callUpd F (fun t => { t with uses := _ }) hj hc rfl rfl
  · exact .callUpd F (fun t => { t with inputs := _ }) hj hc rfl rfl
  · split
    · split
      · exact .callUpd F (fun t => { t with inheritSecrets := _ }) hj hc rfl rfl
      · exact .callUpd F id hj hc rfl rfl
    · exact .callUpd F (fun t => { t with secrets := _ }) hj hc rfl rfl
  · exact .of_eq h

theorem option_map_isNone {α β : Type} {g : α → β} {a b : Option α} (h : a.map g = b.map g) : a.isNone = b.isNone := by
  cases a <;> cases b <;> simp_all

theorem option_map_isSome {α β : Type} {g : α → β} {a b : Option α} (h : a.map g = b.map g) : a.isSome = b.isSome := by
  cases a <;> cases b <;> simp_all

/-- the checks after the loop of `parseJob`, for two ids at the same position: the text of the id goes into messages only -/
theorem jobFinish_frame (jid jid' : Str) (hj : jid.pos = jid'.pos) (s s' : JobSt) (h : nJobSt F s = nJobSt F s') :
    Sim (nJob F) (jobFinish jid s) (jobFinish jid' s') := by
  obtain ⟨j, c, sk, ck⟩ := s
  obtain ⟨j', c', sk', ck'⟩ := s'
  obtain ⟨hJ, hC, rfl, rfl⟩ := nJobSt_inj F h
  have hu : c.uses = c'.uses := (congrArg WorkflowCall.uses hC :)
  have hs : j.steps.isNone = j'.steps.isNone := option_map_isNone (congrArg Job.steps hJ :)
  have hr : j.runsOn.isNone = j'.runsOn.isNone := congrArg Option.isNone (congrArg Job.runsOn hJ :)
  simp only [jobFinish, hj, hu, hs, hr]
  split
  · cases sk
    · refine ⟨?_, rfl⟩
      show ({ nJob F j with workflowCall := some (nCall F c) } : Job) = { nJob F j' with workflowCall := some (nCall F c') }
      rw [hJ, hC]
    · exact ⟨hJ, rfl⟩
  · refine ⟨hJ, sim_append3 ?_ ?_ ?_⟩
    · split <;> rfl
    · split <;> rfl
    · cases ck <;> rfl

/-- **`parseJob` under two spellings of the job id** (the key of `jobs:`) -/
theorem parseJob_id_sim (jid jid' : Str) (hj : nStr F.jobId jid = nStr F.jobId jid') (n : Node) :
    Sim (nJob F) (parseJob cfg jid n) (parseJob cfg jid' n) := by
  have hp := (nStr_eq hj).2.2
  obtain ⟨i1, i2⟩ := parseMapping_what cfg (jobWhat jid.value) (jobWhat jid'.value) n false true
  obtain ⟨j1, j2⟩ := loop_frame (jobKey cfg) (jobKey cfg) (nJobSt F) (fun s s' kv hs => jobKey_frame F cfg s s' kv hs)
    (parseMapping cfg (jobWhat jid.value) n false true).1 { job := { id := jid, pos := jid.pos } } { job := { id := jid', pos := jid'.pos } }
    (by simp only [nJobSt, nJob, hj, hp])
  obtain ⟨k1, k2⟩ := jobFinish_frame F jid jid' hp _ _ j1
  simp only [parseJob, ← i1]
  exact ⟨k1, sim_append3 i2 j2 k2⟩

theorem workflowKey_frame (w w' : Workflow) (kv : KV) (h : nWf F w = nWf F w') :
    Sim (nWf F) (workflowKey cfg w kv) (workflowKey cfg w' kv) := by
  simp -iota only [workflowKey]
  split
  · exact .of_eq (congrArg (β := Workflow) (fun t : Workflow => { t with name := _ }) h)
  · exact .of_eq (congrArg (β := Workflow) (fun t : Workflow => { t with on := _ }) h)
  · exact .of_eq (congrArg (β := Workflow) (fun t : Workflow => { t with permissions := _ }) h)
  · exact .of_eq (congrArg (β := Workflow) (fun t : Workflow => { t with env := _ }) h)
  · exact .of_eq (congrArg (β := Workflow) (fun t : Workflow => { t with defaults := _ }) h)
  · exact .of_eq (congrArg (β := Workflow) (fun t : Workflow => { t with concurrency := _ }) h)
  · exact .of_eq (congrArg (β := Workflow) (fun t : Workflow => { t with jobs := _ }) h)
  · exact .of_eq (congrArg (β := Workflow) (fun t : Workflow => { t with runName := _ }) h)
  · exact .of_eq h

theorem workflowFinish_frame (doc : Node) (w w' : Workflow) (h : nWf F w = nWf F w') :
    Sim (nWf F) ((workflowSect cfg doc).finish w) ((workflowSect cfg doc).finish w') := by
  refine ⟨h, ?_⟩
  have h1 : w.on.isNone = w'.on.isNone := option_map_isNone (g := List.map (nEvent F.event)) (congrArg Workflow.on h)
  have h2 : w.jobs.isNone = w'.jobs.isNone := option_map_isNone (g := nAssoc (nJob F)) (congrArg Workflow.jobs h)
  simp only [workflowSect, h1, h2]
  rfl

end AL.C08D
