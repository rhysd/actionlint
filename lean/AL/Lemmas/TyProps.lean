import AL.Model.Sema
/-
  The property list of an object type as a finite map: `Ty.lookup` after `Ty.setProp`, and the two ways the scope
  bookkeeping builds such a list by a fold: steps that only ever add keys (a key is present afterwards iff it was
  present before or some step added it), and the first-wins guarded insert of `calcNeedsType`, whose result has a
  closed form. Nothing here asks the list to be sorted or its keys to be distinct.
  The facts about one `setProp` are in the namespace `AL.Visit`, under the names by which the files about the scope
  bookkeeping call them; the folds are in `AL.Ty`.
-/
namespace AL.Visit
open AL AL.Sema

/-! ### `Ty.lookup` / `Ty.setProp` -/

/-- holds for every list (sorted or not, with or without repeated keys) -/
theorem lookup_setProp (k : String) (v : Ty) (x : String) :
    (ps : List (String × Ty)) →
      Ty.lookup x (Ty.setProp k v ps) = if x = k then some v else Ty.lookup x ps
  | [] => by
    by_cases h : x = k
    · subst h; simp [Ty.setProp, Ty.lookup]
    · have h' : ¬ k = x := fun e => h e.symm
      simp [Ty.setProp, Ty.lookup, h, h']
  | (k', v') :: rest => by
    simp only [Ty.setProp]
    by_cases h1 : k' = k
    · subst h1
      by_cases h : x = k'
      · subst h; simp [Ty.lookup]
      · have h' : ¬ k' = x := fun e => h e.symm
        simp [Ty.lookup, h, h']
    · simp only [h1, if_false]
      by_cases h2 : k < k'
      · simp only [h2, if_true]
        by_cases h : x = k
        · subst h; simp [Ty.lookup]
        · have h' : ¬ k = x := fun e => h e.symm
          simp [Ty.lookup, h, h']
      · simp only [h2, if_false]
        by_cases h : x = k
        · subst h
          simp [Ty.lookup, h1, lookup_setProp x v x rest]
        · simp [Ty.lookup, h, lookup_setProp k v x rest]

theorem lookup_setProp_self (k : String) (v : Ty) (ps : List (String × Ty)) :
    Ty.lookup k (Ty.setProp k v ps) = some v := by
  simp [lookup_setProp]

theorem lookup_setProp_ne {k x : String} (h : x ≠ k) (v : Ty) (ps : List (String × Ty)) :
    Ty.lookup x (Ty.setProp k v ps) = Ty.lookup x ps := by
  simp [lookup_setProp, h]

theorem mem_setProp {k : String} {v : Ty} {a : String × Ty} :
    {ps : List (String × Ty)} → a ∈ Ty.setProp k v ps → a = (k, v) ∨ a ∈ ps
  | [], h => by
    simp [Ty.setProp] at h
    exact Or.inl h
  | (k', v') :: rest, h => by
    simp only [Ty.setProp] at h
    split at h
    · rcases List.mem_cons.1 h with h | h
      · exact Or.inl h
      · exact Or.inr (List.mem_cons_of_mem _ h)
    · split at h
      · rcases List.mem_cons.1 h with h | h
        · exact Or.inl h
        · exact Or.inr h
      · rcases List.mem_cons.1 h with h | h
        · exact Or.inr (h ▸ List.mem_cons_self)
        · rcases mem_setProp h with h | h
          · exact Or.inl h
          · exact Or.inr (List.mem_cons_of_mem _ h)

end AL.Visit

namespace AL.Ty
open AL

theorem hasKey_setProp {k x : String} {v : Ty} {ps : List (String × Ty)} :
    (lookup x (setProp k v ps)).isSome = true ↔ (lookup x ps).isSome = true ∨ x = k := by
  rw [AL.Visit.lookup_setProp]
  by_cases h : x = k <;> simp [h]

/-! ### folds that only add -/

/-- a fold whose every step adds to what holds of the accumulator exactly what `N` says of the element -/
theorem foldl_or_iff {α β : Type} {K : β → Prop} {N : α → Prop} {step : β → α → β}
    (h : ∀ b a, K (step b a) ↔ K b ∨ N a) :
    ∀ (l : List α) (b : β), K (l.foldl step b) ↔ K b ∨ ∃ a ∈ l, N a
  | [], b => by simp
  | a :: l, b => by
    rw [List.foldl_cons, foldl_or_iff h l, h, or_assoc]
    simp

/-- the keys after a fold over property lists whose every step adds the keys `N` says -/
theorem hasKey_foldl {α : Type} {N : α → Prop} {step : List (String × Ty) → α → List (String × Ty)} (x : String)
    (h : ∀ ps a, (lookup x (step ps a)).isSome = true ↔ (lookup x ps).isSome = true ∨ N a)
    (l : List α) (ps : List (String × Ty)) :
    (lookup x (l.foldl step ps)).isSome = true ↔ (lookup x ps).isSome = true ∨ ∃ a ∈ l, N a :=
  foldl_or_iff (K := fun ps => (lookup x ps).isSome = true) h l ps

/-- the keys after binding `key a` for every `a` of `l`, whatever is bound to it -/
theorem hasKey_foldl_setProp {α : Type} (key : α → String) (val : List (String × Ty) → α → Ty) (x : String)
    (l : List α) (ps : List (String × Ty)) :
    (lookup x (l.foldl (fun ps a => setProp (key a) (val ps a) ps) ps)).isSome = true ↔
      (lookup x ps).isSome = true ∨ x ∈ l.map key := by
  rw [hasKey_foldl (N := fun a => x = key a) x (fun _ _ => hasKey_setProp)]
  simp only [List.mem_map, eq_comm (a := x)]

theorem foldl_congr {α β : Type} {f g : β → α → β} :
    ∀ {l : List α} (b : β), (∀ b, ∀ a ∈ l, f b a = g b a) → l.foldl f b = l.foldl g b
  | [], _, _ => rfl
  | a :: l, b, h => by
    rw [List.foldl_cons, List.foldl_cons, h b a (List.mem_cons_self ..)]
    exact foldl_congr _ fun b x hx => h b x (List.mem_cons_of_mem _ hx)

/-- a fold on a pair that acts on each component by itself (an object type: its properties and its mapped type) -/
theorem foldl_pair {α β γ δ : Type} {step : β → α → β} {f : γ → α → γ} {g : δ → α → δ} {mk : γ → δ → β}
    (h : ∀ c d a, step (mk c d) a = mk (f c a) (g d a)) :
    ∀ (l : List α) (c : γ) (d : δ), l.foldl step (mk c d) = mk (l.foldl f c) (l.foldl g d)
  | [], _, _ => rfl
  | a :: l, c, d => by
    rw [List.foldl_cons, h, foldl_pair h l]
    rfl

/-! ### first-wins guarded insert (`calcNeedsType`) -/

/-- bind `k` to `v` unless `k` is bound already or there is nothing to bind -/
def insertNew (k : String) (v : Option Ty) (ps : List (String × Ty)) : List (String × Ty) :=
  if (lookup k ps).isSome then ps else match v with
    | none => ps
    | some t => setProp k t ps

theorem lookup_insertNew (k x : String) (v : Option Ty) (ps : List (String × Ty)) :
    lookup x (insertNew k v ps) = (lookup x ps).or (if x = k then v else none) := by
  unfold insertNew
  split
  · next h =>
    by_cases hx : x = k
    · subst hx
      cases hl : lookup x ps <;> simp_all
    · simp [hx]
  · next h =>
    cases v with
    | none => simp
    | some t =>
      rw [AL.Visit.lookup_setProp]
      by_cases hx : x = k
      · subst hx
        simp at h
        simp [h]
      · simp [hx]

/-- the accumulator after inserting, first come first served, `f (key a)` under `key a` for every `a` of `l` -/
theorem lookup_foldl_insertNew {α : Type} (key : α → String) (f : String → Option Ty) (x : String) :
    ∀ (l : List α) (acc : List (String × Ty)),
      lookup x (l.foldl (fun ps a => insertNew (key a) (f (key a)) ps) acc) =
        (lookup x acc).or (if x ∈ l.map key then f x else none)
  | [], acc => by simp
  | a :: l, acc => by
    rw [List.foldl_cons, lookup_foldl_insertNew key f x l, lookup_insertNew, Option.or_assoc, List.map_cons]
    congr 1
    by_cases hx : x = key a
    · simp only [hx, List.mem_cons, true_or, if_true]
      split
      · exact Option.or_self
      · exact Option.or_none
    · simp only [hx, List.mem_cons, false_or, if_false, Option.none_or]

end AL.Ty
