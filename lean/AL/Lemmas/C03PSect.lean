import AL.Lemmas.C03PStep
/-
  C03Parse: the sections a job and the workflow share or a job alone has — `defaults`, `concurrency`, `environment`,
  `outputs` (and `with` / `secrets` of a call, of the same shape), `container`, `services`, `runs-on`. For each section
  with a key loop: the strings the loop holds under a key (`…K`), that the iteration of a key stores every scalar below its
  value there (`…Key_store`, or inside the section's theorem), that the other iterations leave them alone (`…K_pres`),
  and the section's theorem (`parse…_leaf`).
  `container`, `services` and `environment` are the sections whose scalars lie under more than one workflow key: their
  theorems are proved with the key (`namespace AL.C12P` below: `…KeyOf`, the field ↔ key table `…K_keyed`, `parse…_leafK`),
  and `…K_sub`, `parse…_leaf` are the projections (last block).
-/
namespace AL.C03P
open AL.PW AL.Yaml AL.Ast AL.C03R

/-! ### `defaults:` -/

def defaultsRunK (k : String) (st : DefaultsRun) : List Str :=
  match k with
  | "shell" => st.shell.toList
  | "working-directory" => st.workingDirectory.toList
  | _ => []

theorem defaultsRunK_pres (k : String) (st : DefaultsRun) (kv : KV) (hne : kv.id ≠ k) :
    ∀ s ∈ defaultsRunK k st, s ∈ defaultsRunK k (defaultsRunKey st kv).1 := by
  obtain ⟨_, h1, h2⟩ := defaultsRunKey_frame st kv
  unfold defaultsRunK
  split
  · rw [h1 hne]; exact fun _ h => h
  · rw [h2 hne]; exact fun _ h => h
  · exact fun _ h => h

theorem defaultsRunKey_store (st : DefaultsRun) (kv : KV) (v : Node) (hv : v ∈ leaves kv.val)
    (hc : (defaultsRunKey st kv).2 = []) : Rep v (defaultsRunK kv.id (defaultsRunKey st kv).1) := by
  revert hc
  simp only [defaultsRunKey]
  split
  next h => intro hc; simp only [h, defaultsRunK]; exact parseString_leaf _ _ v hv hc
  next h => intro hc; simp only [h, defaultsRunK]; exact parseString_leaf _ _ v hv hc
  next => intro hc; simp at hc

theorem defaultsRunK_sub (k : String) (st : DefaultsRun) : ∀ s ∈ defaultsRunK k st, s ∈ st.shell.toList ++ st.workingDirectory.toList := by
  intro s
  simp only [List.mem_append]
  unfold defaultsRunK
  split <;> intro hs <;> first | (simp only [hs, true_or, or_true]; done) | cases hs

theorem parseDefaults_leaf (cfg : Cfg) (pos : Yaml.Pos) (n : Node) (v : Node) (hv : v ∈ leaves n)
    (h : (parseDefaults cfg pos n).2 = []) : Rep v (defaultsStrs (some (parseDefaults cfg pos n).1)) := by
  unfold parseDefaults parseSectionMapping at h ⊢
  simp only [append_nil_iff] at h
  obtain ⟨⟨hm, hr⟩, _⟩ := h
  obtain ⟨kv, -, hid, -, hvk, hc, he⟩ := sect_single cfg _ n false true _ none "run" (fun st kv hne => by simp [hne])
    (fun _ x => leaves x) v (leaves_mapScalars cfg _ n true v hv hm) hm hr
  simp only [he, defaultsStrs, hid, ne_eq, not_true_eq_false, ↓reduceIte, append_nil_iff] at hc ⊢
  obtain ⟨k, hk⟩ := sect_leaves cfg _ kv.val true defaultsRunKey _ v hvk defaultsRunK hc.1 hc.2
    (fun kv st hv hc => defaultsRunKey_store st kv v hv hc) defaultsRunK_pres
  exact hk.mono (defaultsRunK_sub k _)

/-! ### `concurrency:` -/

def concurrencyK (k : String) (st : Concurrency × Bool) : List Str :=
  match k with
  | "group" => st.1.group.toList
  | "cancel-in-progress" => boolStrs st.1.cancelInProgress
  | _ => []

theorem concurrencyK_pres (k : String) (st : Concurrency × Bool) (kv : KV) (hne : kv.id ≠ k) :
    ∀ s ∈ concurrencyK k st, s ∈ concurrencyK k (concurrencyKey st kv).1 := by
  obtain ⟨_, h1, h2⟩ := concurrencyKey_frame st kv
  unfold concurrencyK
  split
  · rw [(h1 hne).1]; exact fun _ h => h
  · rw [h2 hne]; exact fun _ h => h
  · exact fun _ h => h

theorem concurrencyK_sub (k : String) (st : Concurrency × Bool) : ∀ s ∈ concurrencyK k st, s ∈ concurrencyStrs (some st.1) := by
  intro s
  simp only [concurrencyStrs, List.mem_append]
  unfold concurrencyK
  split <;> intro hs <;> first | (simp only [hs, true_or, or_true]; done) | cases hs

theorem parseConcurrency_leaf (cfg : Cfg) (pos : Yaml.Pos) (n : Node) (v : Node) (hv : v ∈ concurrencyScalars n)
    (h : (parseConcurrency cfg pos n).2 = []) : Rep v (concurrencyStrs (some (parseConcurrency cfg pos n).1)) := by
  simp only [parseConcurrency, parseSectionMapping] at h ⊢
  simp only [concurrencyScalars] at hv
  split at h
  · rename_i hk
    simp only [hk, ↓reduceIte] at hv ⊢
    exact (parseString_leaf _ _ v hv h).mono (by simp [concurrencyStrs])
  · rename_i hk
    simp only [hk, ↓reduceIte] at hv ⊢
    simp only [append_nil_iff] at h
    obtain ⟨⟨hm, hr⟩, _⟩ := h
    obtain ⟨k, hk⟩ := sect_K cfg _ n false true concurrencyKey _ _ v hv concurrencyK hm hr
      (by
        intro kv k st hid hvk
        have := hid rfl
        subst this
        simp only [concurrencyKey]
        split
        next h => intro hc; simp only [h, concurrencyKeyScalars] at hvk; simp only [h, concurrencyK]; exact parseString_leaf _ _ v hvk hc
        next h => intro hc; simp only [h, concurrencyKeyScalars] at hvk; simp only [h, concurrencyK]; exact parseBool_leaf _ v hvk hc
        next => intro hc; simp at hc)
      concurrencyK_pres
    exact hk.mono (concurrencyK_sub k _)

/-! ### `environment:` -/

def environmentK (k : String) (st : Environment × Bool) : List Str :=
  match k with
  | "name" => st.1.name.toList
  | "url" => st.1.url.toList
  | _ => []

theorem environmentK_pres (k : String) (st : Environment × Bool) (kv : KV) (hne : kv.id ≠ k) :
    ∀ s ∈ environmentK k st, s ∈ environmentK k (environmentKey st kv).1 := by
  obtain ⟨_, h1, h2⟩ := environmentKey_frame st kv
  unfold environmentK
  split
  · rw [(h1 hne).1]; exact fun _ h => h
  · rw [h2 hne]; exact fun _ h => h
  · exact fun _ h => h

def environmentStrs (e : Environment) : List Str := e.name.toList ++ e.url.toList

/-! ### `outputs:` of a job, `with:` / `secrets:` of a call -/

theorem parseOutputs_leaf (cfg : Cfg) (n : Node) (v : Node) (hv : v ∈ leaves n) (h : (parseOutputs cfg n).2 = []) :
    Rep v ((parseOutputs cfg n).1.map (·.2.value)) := by
  simp only [parseOutputs, parseSectionMapping, append_nil_iff] at h ⊢
  exact strMap_leaf hv h.1.1 h.1.2 (·.value) fun _ => ⟨rfl, rfl⟩

theorem callArgs_leaf (cfg : Cfg) (sec : String) (n : Node) (v : Node) (hv : v ∈ leaves n)
    (hm : (parseSectionMapping cfg sec n false false).2 = [])
    (hr : (callArgs (parseSectionMapping cfg sec n false false).1).2 = []) :
    Rep v ((callArgs (parseSectionMapping cfg sec n false false).1).1.map (·.2.value)) :=
  strMap_leaf hv hm hr (·.value) fun _ => ⟨rfl, rfl⟩

/-! ### `container:` -/

def credentialsK (k : String) (st : Credentials) : List Str :=
  match k with
  | "username" => st.username.toList
  | "password" => st.password.toList
  | _ => []

theorem credentialsK_pres (k : String) (st : Credentials) (kv : KV) (hne : kv.id ≠ k) :
    ∀ s ∈ credentialsK k st, s ∈ credentialsK k (credentialsKey st kv).1 := by
  obtain ⟨_, h1, h2⟩ := credentialsKey_frame st kv
  unfold credentialsK
  split
  · rw [h1 hne]; exact fun _ h => h
  · rw [h2 hne]; exact fun _ h => h
  · exact fun _ h => h

theorem credentialsK_sub (k : String) (st : Credentials) : ∀ s ∈ credentialsK k st, s ∈ st.username.toList ++ st.password.toList := by
  intro s
  simp only [List.mem_append]
  unfold credentialsK
  split <;> intro hs <;> first | (simp only [hs, true_or, or_true]; done) | cases hs

theorem credentials_leaf (cfg : Cfg) (n : Node) (init : Credentials) (v : Node) (hv : v ∈ leaves n)
    (hm : (parseSectionMapping cfg "credentials" n false true).2 = [])
    (hr : (loop credentialsKey init (parseSectionMapping cfg "credentials" n false true).1).2 = []) :
    Rep v ((loop credentialsKey init (parseSectionMapping cfg "credentials" n false true).1).1.username.toList ++
      (loop credentialsKey init (parseSectionMapping cfg "credentials" n false true).1).1.password.toList) := by
  obtain ⟨k, hk⟩ := sect_leaves cfg _ n true credentialsKey init v hv credentialsK hm hr
    (by
      intro kv st hvk
      simp only [credentialsKey]
      split
      next h => intro hc; simp only [h, credentialsK]; exact parseString_leaf _ _ v hvk hc
      next h => intro hc; simp only [h, credentialsK]; exact parseString_leaf _ _ v hvk hc
      next => intro hc; simp at hc)
    credentialsK_pres
  exact hk.mono (credentialsK_sub k _)

def containerK (k : String) (st : Container) : List Str :=
  match k with
  | "image" => st.image.toList
  | "credentials" => (match st.credentials with | some cr => cr.username.toList ++ cr.password.toList | none => [])
  | "env" => envStrs st.env
  | "ports" => st.ports.getD []
  | "volumes" => st.volumes.getD []
  | "options" => st.options.toList
  | _ => []

theorem containerK_pres (cfg : Cfg) (sec : String) (k : String) (st : Container) (kv : KV) (hne : kv.id ≠ k) :
    ∀ s ∈ containerK k st, s ∈ containerK k (containerKey cfg sec st kv).1 := by
  have F := containerKey_frame cfg sec st kv
  unfold containerK
  split
  · rw [F.image hne]; exact fun _ h => h
  · rw [F.credentials hne]; exact fun _ h => h
  · rw [F.env hne]; exact fun _ h => h
  · rw [F.ports hne]; exact fun _ h => h
  · rw [F.volumes hne]; exact fun _ h => h
  · rw [F.options hne]; exact fun _ h => h
  · exact fun _ h => h

theorem containerKey_store (cfg : Cfg) (sec : String) (st : Container) (kv : KV) (v : Node) (hv : v ∈ leaves kv.val)
    (hc : (containerKey cfg sec st kv).2 = []) : Rep v (containerK kv.id (containerKey cfg sec st kv).1) := by
  revert hc
  simp only [containerKey]
  split
  next h => intro hc; simp only [h, containerK]; exact parseString_leaf _ _ v hv hc
  next h =>
    split
    · intro hc; simp at hc
    · intro hc
      simp only [h, containerK]
      simp only [append_nil_iff] at hc
      exact credentials_leaf cfg _ _ v hv hc.1 hc.2
  next h => intro hc; simp only [h, containerK]; exact parseEnv_leaf cfg _ v hv hc
  next h => intro hc; simp only [h, containerK]; exact parseStringSequence_leaf _ _ _ _ v hv hc
  next h => intro hc; simp only [h, containerK]; exact parseStringSequence_leaf _ _ _ _ v hv hc
  next h => intro hc; simp only [h, containerK]; exact parseString_leaf _ _ v hv hc
  next => intro hc; simp at hc

/-! ### positions that take one `${{ }}` in place of a collection: `services`, `runs-on`, `runs-on.labels` -/

theorem isExprAssigned_empty : AL.Yaml.isExprAssigned "" = false := AL.PW.isExprAssigned_nil

theorem mayParseExpression_some (x : Node) (e : Str) (h : mayParseExpression x = some e) : e = newString x := by
  simp only [mayParseExpression] at h
  split at h
  · cases h
  · split at h
    · cases h
    · exact (Option.some.inj h).symm

theorem mayParseExpression_coll (x : Node) (hk : x.kind ≠ .scalar) (hok : (x.kind = .scalar || x.value = "") = true) :
    mayParseExpression x = none := by
  have hv : x.value = "" := by simpa [hk] using hok
  simp only [mayParseExpression, hv, isExprAssigned_empty]
  split <;> rfl

theorem mem_exprPos {x v : Node} {l : List Node} (h : v ∈ exprPos x l) : v ∈ l ∧ (x.kind = .scalar || x.value = "") = true := by
  simp only [exprPos] at h
  split at h
  · exact ⟨h, by assumption⟩
  · cases h

/-! ### `runs-on:` -/

def runsOnK (k : String) (st : Runner) : List Str :=
  match k with
  | "labels" => (match st.labelsExpr with | some e => [e] | none => st.labels.getD [])
  | "group" => st.group.toList
  | _ => []

theorem runsOnK_pres (k : String) (st : Runner) (kv : KV) (hne : kv.id ≠ k) :
    ∀ s ∈ runsOnK k st, s ∈ runsOnK k (runsOnKey st kv).1 := by
  obtain ⟨h1, h2⟩ := runsOnKey_frame st kv
  unfold runsOnK
  split
  · rw [(h1 hne).1, (h1 hne).2]; exact fun _ h => h
  · rw [h2 hne]; exact fun _ h => h
  · exact fun _ h => h

theorem runsOnK_sub (k : String) (st : Runner) : ∀ s ∈ runsOnK k st, s ∈ runnerStrs (some st) := by
  intro s hs
  simp only [runsOnK] at hs
  simp only [runnerStrs, List.mem_append]
  split at hs
  · exact Or.inl hs
  · exact Or.inr hs
  · cases hs

/-- a scalar at a position that takes a string, a sequence of strings or one `${{ }}` -/
theorem exprOrStrings_leaf (sec : String) (n : Node) (v : Node) (hv : v ∈ leaves n) (hok : (n.kind = .scalar || n.value = "") = true)
    (hns : n.kind = .scalar ∨ n.kind = .sequence) :
    match mayParseExpression n with
    | some e => Rep v [e]
    | none => (parseStringOrStringSequence sec n false false).2 = [] →
        Rep v ((parseStringOrStringSequence sec n false false).1.getD []) := by
  split
  · rename_i e he
    rw [mayParseExpression_some n e he]
    have hk : n.kind = .scalar := by
      cases hk : n.kind <;> first | rfl | (rw [mayParseExpression_coll n (by simp [hk]) hok] at he; cases he)
    rw [leaves_scalar n hk, List.mem_singleton] at hv
    subst hv
    exact Rep.newString _
  · intro h
    exact parseStringOrStringSequence_leaf sec n false v hv h

theorem runsOnKey_labelsExpr (st : Runner) (kv : KV) (hne : kv.id ≠ "labels") :
    (runsOnKey st kv).1.labelsExpr = st.labelsExpr :=
  ((runsOnKey_frame st kv).1 hne).2

theorem runsOnKey_store (st : Runner) (kv : KV) (v : Node) (hv : v ∈ runsOnKeyScalars kv.id kv.val)
    (hI : kv.id = "labels" → st.labelsExpr = none)
    (hc : (runsOnKey st kv).2 = []) : Rep v (runsOnK kv.id (runsOnKey st kv).1) := by
  revert hc
  simp only [runsOnKey]
  split
  next h =>
    simp only [h, runsOnKeyScalars] at hv
    obtain ⟨hv, hok⟩ := mem_exprPos hv
    simp only [h, runsOnK]
    split
    · rename_i e he
      intro _
      simp only
      rw [mayParseExpression_some _ e he]
      have hk : kv.val.kind = .scalar := by
        cases hk : kv.val.kind <;> first | rfl | (rw [mayParseExpression_coll kv.val (by simp [hk]) hok] at he; cases he)
      rw [leaves_scalar _ hk, List.mem_singleton] at hv
      subst hv
      exact Rep.newString _
    · intro hc
      simp only [hI h]
      exact parseStringOrStringSequence_leaf _ _ _ v hv hc
  next h =>
    intro hc; simp only [h, runsOnKeyScalars] at hv; simp only [h, runsOnK]
    exact parseString_leaf _ _ v hv hc
  next => intro hc; simp at hc

theorem parseRunsOn_leaf (cfg : Cfg) (n : Node) (v : Node) (hv : v ∈ runsOnScalars n) (h : (parseRunsOn cfg n).2 = []) :
    Rep v (runnerStrs (some (parseRunsOn cfg n).1)) := by
  obtain ⟨hv, hok⟩ := mem_exprPos hv
  simp only [parseRunsOn, parseSectionMapping] at h ⊢
  split at h
  · rename_i e he
    simp only [runnerStrs]
    refine Rep.left ?_
    rw [mayParseExpression_some n e he]
    have hk : n.kind = .scalar := by
      cases hk : n.kind <;> first | rfl | (rw [mayParseExpression_coll n (by simp [hk]) hok] at he; cases he)
    simp only [hk, reduceCtorEq, ↓reduceIte] at hv
    rw [leaves_scalar n hk, List.mem_singleton] at hv
    subst hv
    exact Rep.newString _
  · rename_i he
    split at h
    · rename_i hk
      simp only [hk, ↓reduceIte, runnerStrs]
      have hnm : n.kind ≠ .mapping := by
        simp only [Bool.or_eq_true, decide_eq_true_eq] at hk
        rcases hk with hk | hk <;> simp [hk]
      simp only [hnm, ↓reduceIte] at hv
      exact (parseStringOrStringSequence_leaf _ _ _ v hv h).left
    · rename_i hk
      simp only [hk]
      simp only [append_nil_iff] at h
      have hm := parseMapping_clean_notnull cfg _ n true h.1
      simp only [hm, ↓reduceIte] at hv
      obtain ⟨k, hk⟩ := sect_keyed cfg _ n false true runsOnKey _ runsOnKeyScalars v hv
        (fun k st => k = "labels" → st.labelsExpr = none) (fun k st => Rep v (runsOnK k st)) (fun _ _ => rfl) h.1 h.2
        (by
          intro kv k hid hvk
          have := hid rfl
          subst this
          refine ⟨?_, fun st hI hc => runsOnKey_store st kv v hvk hI hc, fun st kv' hne hq _ => hq.mono (runsOnK_pres kv.id st kv' hne)⟩
          intro st kv' hne hI hl
          rw [runsOnKey_labelsExpr st kv' (by rw [← hl]; exact hne)]
          exact hI hl)
      exact hk.mono (runsOnK_sub k _)

end AL.C03P

/-! ### `container:`, `services:`, `environment:` with the key -/
namespace AL.C12P
open AL.PW AL.Yaml AL.Ast AL.C03P AL.C03R AL.C12R

/-! ### `container:` / one service -/

def containerKeyOf (kSect kCred kEnv : String) (k : String) : String :=
  match k with
  | "credentials" => kCred
  | "env" => kEnv
  | _ => kSect

theorem containerKeyKeyed_eq (a b c : String) (k : String) (y : Node) :
    containerKeyKeyed a b c k y = under (containerKeyOf a b c k) (leaves y) := by
  simp only [containerKeyKeyed]
  split <;> simp [containerKeyOf]

/-- the field ↔ key table of a container -/
theorem containerK_keyed (a b c : String) (k : String) (st : Container) :
    ∀ s ∈ containerK k st, (s, containerKeyOf a b c k) ∈ containerKStrs (some st) a b c a := by
  intro s hs
  simp only [containerK] at hs
  simp only [containerKStrs, List.mem_append]
  split at hs
  all_goals first
    | (simp_all [containerKeyOf, mem_tag]; done)
    | (cases hcr : st.credentials <;> simp_all [containerKeyOf, mem_tag])

/-- `container:` / one service: every scalar below it is stored in the field that is checked under the scalar's key -/
theorem parseContainer_leafK (cfg : Cfg) (sec : String) (pos : Yaml.Pos) (n : Node) (a b c : String) (v : Node) (key : String)
    (hv : (v, key) ∈ containerKeyed a b c n) (h : (parseContainer cfg sec pos n).2 = []) :
    RepK v key (containerKStrs (some (parseContainer cfg sec pos n).1) a b c a) := by
  simp only [parseContainer, parseSectionMapping] at h ⊢
  simp only [containerKeyed] at hv
  split at h
  · rename_i hk
    simp only [hk, ↓reduceIte]
    have hnm : n.kind ≠ .mapping := by simp [hk]
    simp only [subKeyed, hnm, ↓reduceIte] at hv
    obtain ⟨hvl, rfl⟩ := mem_under.1 hv
    obtain ⟨s, hs, e⟩ := parseString_leaf _ _ v hvl h
    refine ⟨s, ?_, e⟩
    rw [List.mem_singleton] at hs
    subst hs
    simp [containerKStrs, mem_tag]
  · rename_i hk
    simp only [hk, ↓reduceIte]
    simp only [append_nil_iff] at h
    rw [subKeyed_clean cfg _ n true _ _ h.1] at hv
    exact sect_tagK cfg _ n false (containerKey cfg sec) _ a _ (containerKeyOf a b c) (fun _ x => leaves x)
      (containerKeyKeyed_eq a b c) v key hv containerK _ h.1 h.2
      (fun kv st hvk hc => containerKey_store cfg sec st kv v hvk hc) (containerK_pres cfg sec)
      (fun k => containerK_keyed a b c k _)

/-! ### `services:` -/

theorem parseServices_leafK (cfg : Cfg) (n : Node) (v : Node) (key : String) (hv : (v, key) ∈ servicesKeyed n)
    (h : (parseServices cfg n).2 = []) : RepK v key (servicesKStrs (some (parseServices cfg n).1)) := by
  simp only [servicesKeyed] at hv
  split at hv
  case isFalse => cases hv
  rename_i hok
  simp only [parseServices, parseSectionMapping] at h ⊢
  split at h
  · rename_i e he
    simp only [servicesKStrs, Option.toList_some]
    refine RepK.left ?_
    rw [mayParseExpression_some n e he]
    have hk : n.kind = .scalar := by
      cases hk : n.kind <;> first | rfl | (rw [mayParseExpression_coll n (by simp [hk]) hok] at he; cases he)
    have hnn : n.isNull = false := by
      simp only [mayParseExpression] at he
      split at he
      · cases he
      · rename_i ht
        simp only [ne_eq, Decidable.not_not] at ht
        simp [Node.isNull, ht]
    simp only [mapKeyed, hk, hnn] at hv
    simp only [reduceCtorEq, decide_false, Bool.or_self, Bool.false_eq_true, ↓reduceIte] at hv
    obtain ⟨hvl, rfl⟩ := mem_under.1 hv
    rw [leaves_scalar n hk, List.mem_singleton] at hvl
    subst hvl
    exact RepK.of_rep (Rep.newString _) _
  · rename_i he
    simp only [servicesKStrs]
    simp only [append_nil_iff] at h
    obtain ⟨kv, hkv, k, _, hvk⟩ := mapKeyed_clean cfg _ n false false _ _ v key hv h.1
    obtain ⟨h1, h2⟩ := mapKVs_clean _ _ h.2 kv hkv
    refine RepK.right ?_
    simp only [Option.getD_some]
    exact RepK.flatMap h2 (parseContainer_leafK cfg "services" _ _ _ _ _ v key hvk h1)

/-! ### `environment:` -/

/-- the strings of an environment with their keys: the list `AL.C12R.jobPostKStrs` spells out for `environment = some e` -/
def environmentKStrs (e : Environment) : List (Str × String) :=
  tag "jobs.<job_id>.environment" e.name.toList ++ tag "jobs.<job_id>.environment.url" e.url.toList

def environmentKeyOf (k : String) : String :=
  match k with
  | "url" => "jobs.<job_id>.environment.url"
  | _ => "jobs.<job_id>.environment"

theorem environmentKeyKeyed_eq (k : String) (y : Node) : environmentKeyKeyed k y = under (environmentKeyOf k) (leaves y) := by
  simp only [environmentKeyKeyed]
  split <;> simp [environmentKeyOf]

theorem environmentK_keyed (k : String) (st : Environment × Bool) :
    ∀ s ∈ environmentK k st, (s, environmentKeyOf k) ∈ environmentKStrs st.1 := by
  intro s hs
  simp only [environmentK] at hs
  simp only [environmentKStrs, List.mem_append]
  split at hs <;> simp_all [environmentKeyOf, mem_tag]

theorem parseEnvironment_leafK (cfg : Cfg) (pos : Yaml.Pos) (n : Node) (v : Node) (key : String)
    (hv : (v, key) ∈ environmentKeyed n) (h : (parseEnvironment cfg pos n).2 = []) :
    RepK v key (environmentKStrs (parseEnvironment cfg pos n).1) := by
  simp only [parseEnvironment, parseSectionMapping] at h ⊢
  simp only [environmentKeyed] at hv
  split at h
  · rename_i hk
    simp only [hk, ↓reduceIte]
    have hnm : n.kind ≠ .mapping := by simp [hk]
    simp only [subKeyed, hnm, ↓reduceIte] at hv
    obtain ⟨hvl, rfl⟩ := mem_under.1 hv
    obtain ⟨s, hs, e⟩ := parseString_leaf _ _ v hvl h
    refine ⟨s, ?_, e⟩
    rw [List.mem_singleton] at hs
    subst hs
    simp [environmentKStrs, mem_tag]
  · rename_i hk
    simp only [hk, ↓reduceIte]
    simp only [append_nil_iff] at h
    obtain ⟨⟨hm, hr⟩, _⟩ := h
    rw [subKeyed_clean cfg _ n true _ _ hm] at hv
    exact sect_tagK cfg _ n false environmentKey _ _ _ environmentKeyOf (fun _ x => leaves x) environmentKeyKeyed_eq v key hv
      environmentK _ hm hr
      (by
        intro kv st hvk
        simp only [environmentKey]
        split
        next h => intro hc; simp only [h, environmentK]; exact (parseString_leaf _ _ v hvk hc).mono (by simp)
        next h => intro hc; simp only [h, environmentK]; exact (parseString_leaf _ _ v hvk hc).mono (by simp)
        next => intro hc; simp at hc)
      environmentK_pres (fun k => environmentK_keyed k _)

end AL.C12P

/-! ### … and without -/
namespace AL.C03P
open AL.PW AL.Yaml AL.Ast AL.C03R AL.C12R AL.C12P

theorem environmentKStrs_fst (e : Environment) : (environmentKStrs e).map Prod.fst = environmentStrs e := by
  simp only [environmentKStrs, environmentStrs, List.map_append, tag_fst]

theorem environmentK_sub (k : String) (st : Environment × Bool) : ∀ s ∈ environmentK k st, s ∈ environmentStrs st.1 :=
  sub_of_keyed (environmentK_keyed k st) (environmentKStrs_fst _)

theorem parseEnvironment_leaf (cfg : Cfg) (pos : Yaml.Pos) (n : Node) (v : Node) (hv : v ∈ leaves n)
    (h : (parseEnvironment cfg pos n).2 = []) : Rep v (environmentStrs (parseEnvironment cfg pos n).1) :=
  RepK.all (fun v key hv => parseEnvironment_leafK cfg pos n v key hv h) (environmentKeyed_fst n) (environmentKStrs_fst _) v hv

theorem containerK_sub (k : String) (st : Container) : ∀ s ∈ containerK k st, s ∈ containerStrs (some st) :=
  sub_of_keyed (containerK_keyed "" "" "" k st) (containerKStrs_fst ..)

/-- `container:` / one service: an image name or a mapping -/
theorem parseContainer_leaf (cfg : Cfg) (sec : String) (pos : Yaml.Pos) (n : Node) (v : Node) (hv : v ∈ leaves n)
    (h : (parseContainer cfg sec pos n).2 = []) : Rep v (containerStrs (some (parseContainer cfg sec pos n).1)) :=
  RepK.all (fun v key hv => parseContainer_leafK cfg sec pos n "" "" "" v key hv h) (containerKeyed_fst "" "" "" n)
    (containerKStrs_fst ..) v hv

theorem parseServices_leaf (cfg : Cfg) (n : Node) (v : Node) (hv : v ∈ servicesScalars n) (h : (parseServices cfg n).2 = []) :
    Rep v (servicesStrs (some (parseServices cfg n).1)) :=
  RepK.all (fun v key hv => parseServices_leafK cfg n v key hv h) (servicesKeyed_fst n) (servicesKStrs_fst _) v hv

end AL.C03P
