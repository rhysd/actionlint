import AL.Lemmas.C14DCallee
import AL.Lemmas.StructDecode
/-
  Lemmas for AL.Props.C14Doc: the interface of a LOCAL ACTION read from the document of its `action.yml`.
  There is no parser for this file in actionlint: `yaml.Unmarshal` (AL.ActionDecode.fromDoc) is the only reader, so the
  statement is about the decoder: when it succeeds, its inputs / outputs are `actionInputs` / `actionOutputs`, written
  with `attr` only.
-/
namespace AL.C14D
open AL.Yaml AL.PW AL.CallMeta

/-! ### the reader -/

/-- the node decodes to the Go bool `true`: the literal, or — yaml.v3 accepts YAML 1.1's words when the target is a bool —
one of `y Y yes Yes YES on On ON` resolved as a string -/
def yamlTrue (n : Node) : Bool :=
  n.kind = .scalar &&
    ((n.tag = "!!bool" && trueWords.contains n.value) ||
     (n.tag ≠ "!!null" && n.tag ≠ "!!bool" && n.tag ≠ "!!binary" && !nonStringTags.contains n.tag && yesWords.contains n.value))

def actRequiredTrue (v : Node) : Bool :=
  match attr "required" v with
  | some r => yamlTrue r
  | none => false

/-- an input of an action must be supplied: `required:` true and no (non-null) `default:` -/
def actInputRequired (v : Node) : Bool := actRequiredTrue v && !hasDefault v

/-- the entries of the top-level section `name` of `action.yml` -/
def actSection (name : String) (doc : Node) : List (Node × Node) :=
  match (rootOf doc).bind (attr name) with
  | some s => secEntries s
  | none => []

def actionInputs (cfg : Cfg) (doc : Node) : List (String × String × Bool) :=
  (actSection "inputs" doc).map fun q => (cfg.lower q.1.value, q.1.value, actInputRequired q.2)

def actionOutputs (cfg : Cfg) (doc : Node) : List (String × String) :=
  (actSection "outputs" doc).map fun q => (cfg.lower q.1.value, q.1.value)

/-- a key tagged `!!null` is spelled like a null (what yaml.v3 guarantees) -/
def KeyOk (k : Node) : Prop := k.tag = "!!null" → k.value ∈ nullWords

theorem KeyOk.of_sane {k : Node} (h : AL.C10M.Sane k) : KeyOk k := h.nullValue

/-- the keys the reader looks at are sound: the top-level keys and the keys of every entry of `inputs:` -/
def ActionSane (doc : Node) : Prop :=
  (∀ root, rootOf doc = some root → ∀ q ∈ pairs root.content, KeyOk q.1) ∧
  (∀ q ∈ actSection "inputs" doc, ∀ a ∈ pairs q.2.content, KeyOk a.1)

def keyOkB (k : Node) : Bool := k.tag != "!!null" || nullWords.contains k.value

def actionSaneB (doc : Node) : Bool :=
  (match rootOf doc with
   | some root => (pairs root.content).all fun q => keyOkB q.1
   | none => true) &&
  (actSection "inputs" doc).all fun q => (pairs q.2.content).all fun a => keyOkB a.1

theorem keyOkB_sound {k : Node} (h : keyOkB k = true) : KeyOk k := by
  intro ht
  simp only [keyOkB, Bool.or_eq_true, bne_iff_ne, ne_eq, List.contains_iff_mem] at h
  exact h.resolve_left (fun c => c ht)

theorem actionSaneB_sound (doc : Node) (h : actionSaneB doc = true) : ActionSane doc := by
  simp only [actionSaneB, Bool.and_eq_true, List.all_eq_true] at h
  refine ⟨?_, fun q hq a ha => keyOkB_sound (h.2 q hq a ha)⟩
  intro root hr q hq
  rw [hr] at h
  exact keyOkB_sound (List.all_eq_true.1 h.1 q hq)

/-! ### yaml.v3's struct decoding: one field -/

theorem decStr_key (k : Node) (hk : KeyOk k) (key : String) (hn : key ∉ nullWords) (s : String) (h : decStr k = .ok s) :
    s = key ↔ k.value = key := by
  simp only [decStr] at h
  split at h
  · cases h
  · split at h
    · rename_i ht
      simp only [Except.ok.injEq] at h
      subst h
      have hv := hk ht
      constructor
      · intro e; subst e; simp [nullWords] at hn
      · intro e; rw [e] at hv; exact absurd hv hn
    · split at h
      · cases h
      · simp only [Except.ok.injEq] at h; subst h; exact Iff.rfl
  · cases h

section Field
variable {σ α : Type} (fields : List String) (set : σ → String → Node → D σ) (get : σ → α) (key : String)
  (R : Node → α → Prop)
  (hset : ∀ st v st', set st key v = .ok st' → R v (get st'))
  (hkeep : ∀ st name v st', name ≠ key → set st name v = .ok st' → get st' = get st)
include hkeep

/-- once the field `key` has been set no later pair touches it -/
theorem structLoop_done : ∀ (l : List (Node × Node)) (done : List String) (st st' : σ), key ∈ done →
    structLoop fields set l done st = .ok st' → get st' = get st :=
  fun l done st st' hd h =>
    (AL.CallMeta.structLoop_field get key (fun _ _ => True) hkeep (fun _ _ _ _ => trivial) l done st st' h).1 (.inr (.inl hd))

include hset
/-- **the field `key` of a struct yaml.v3 fills from a mapping**: set from the value under the key `key` (and then `R`
holds of that value and the field), or left alone when the mapping has no such key -/
theorem structLoop_field (hkf : key ∈ fields) : ∀ (l : List (Node × Node)) (done : List String) (st st' : σ), key ∉ done →
    (∀ q ∈ l, ∀ s, decStr q.1 = .ok s → (s = key ↔ q.1.value = key)) →
    structLoop fields set l done st = .ok st' →
    (∀ v, valueOf key l = some v → R v (get st')) ∧ (valueOf key l = none → get st' = get st) := by
  intro l done st st' _ hk h
  obtain ⟨h1, h2⟩ := AL.CallMeta.structLoop_field get key R hkeep hset l done st st' h
  refine ⟨fun v hv => ?_, fun hv => h1 (.inr (.inr fun q hq hd => valueOf_none hv q hq ((hk q hq key hd).1 rfl)))⟩
  obtain ⟨k, hq, hkv⟩ := valueOf_mem hv
  obtain ⟨s, hs⟩ := (AL.CallMeta.structLoop_keys l done st st' h _ hq).2
  exact (h2 hkf _ hq (((hk _ hq s hs).2 hkv) ▸ hs)).2

theorem structDecode_field (hkf : key ∈ fields) (hn : key ∉ nullWords) (init : σ) (n : Node) (st' : σ)
    (hkeys : ∀ q ∈ pairs n.content, KeyOk q.1)
    (h : structDecode fields set init n = .ok st') :
    (∀ v, attr key n = some v → R v (get st')) ∧ (attr key n = none → get st' = get init) := by
  rcases AL.CallMeta.structDecode_eq_ok.1 h with ⟨hm, _, hl⟩ | ⟨hsc, _, rfl⟩
  · simp only [attr, hm, if_true]
    exact structLoop_field fields set get key R hset hkeep hkf _ [] init st' (by simp)
      (fun q hq s hs => decStr_key q.1 (hkeys q hq) key hn s hs) hl
  · simp [attr, hsc]

end Field

/-! ### one input of an action -/

theorem decBool_yamlTrue (n : Node) (b : Bool) (h : decBool n = .ok b) : b = yamlTrue n := by
  simp only [decBool] at h
  split at h
  · cases h
  · rename_i hk
    simp only [yamlTrue, hk, decide_true, Bool.true_and]
    -- the chain of `if`s of `decBool`, one condition at a time (`split at h` on the whole chain is slow)
    by_cases ht : n.tag = "!!null"
    · rw [if_pos ht] at h
      cases h
      simp [ht]
    rw [if_neg ht] at h
    by_cases hnb : n.tag = "!!binary"
    · rw [if_pos hnb] at h; cases h
    rw [if_neg hnb] at h
    by_cases hb : n.tag = "!!bool"
    · rw [if_pos hb] at h
      by_cases hv : n.value ∈ ["true", "True", "TRUE"]
      · rw [if_pos hv] at h
        cases h
        have hc : n.value ∈ trueWords := hv
        simp [hb, hc]
      · rw [if_neg hv] at h
        by_cases hv2 : n.value ∈ ["false", "False", "FALSE"]
        · rw [if_pos hv2] at h
          cases h
          have hc : ¬ n.value ∈ trueWords := hv
          simp [hb, hc]
        · rw [if_neg hv2] at h; cases h
    rw [if_neg hb] at h
    by_cases hns : n.tag ∈ nonStringTags
    · rw [if_pos hns] at h; cases h
    rw [if_neg hns] at h
    by_cases hy : n.value ∈ yesWords
    · rw [if_pos hy] at h
      cases h
      simp [hb, ht, hnb, hns, hy]
    · rw [if_neg hy] at h
      by_cases hn : n.value ∈ noWords
      · rw [if_pos hn] at h
        cases h
        simp [hb, hy]
      · rw [if_neg hn] at h; cases h
  · cases h

theorem setIn_required_keep (st : AL.ActionDecode.InSt) (name : String) (v : Node) (st' : AL.ActionDecode.InSt)
    (hne : name ≠ "required") (h : AL.ActionDecode.setIn st name v = .ok st') : st'.required = st.required := by
  rcases setIn_ok st name v st' h with ⟨e, _⟩ | ⟨_, _, hk⟩ | ⟨_, _, hk, _⟩
  · exact absurd e hne
  · exact hk
  · exact hk

theorem setIn_dflt_keep (st : AL.ActionDecode.InSt) (name : String) (v : Node) (st' : AL.ActionDecode.InSt)
    (hne : name ≠ "default") (h : AL.ActionDecode.setIn st name v = .ok st') : st'.dflt = st.dflt := by
  rcases setIn_ok st name v st' h with ⟨_, _, hk⟩ | ⟨e, _⟩ | ⟨_, _, _, hk⟩
  · exact hk
  · exact absurd e hne
  · exact hk

/-- **one entry of `inputs:` of `action.yml`**: `Required` as yaml.v3 decodes it is `actInputRequired` of the entry's node -/
theorem action_decInput_read (v : Node) (hkeys : ∀ a ∈ pairs v.content, KeyOk a.1) (r : Bool)
    (h : AL.ActionDecode.decInput v = .ok r) : r = actInputRequired v := by
  simp only [AL.ActionDecode.decInput] at h
  obtain ⟨st, hst, hr⟩ := AL.C14W.map_ok h
  subst hr
  obtain ⟨r1, r2⟩ := structDecode_field ["required", "default"] AL.ActionDecode.setIn (fun s => s.required) "required"
    (fun n b => decBool n = .ok b)
    (by intro s n s' hs
        simp only [AL.ActionDecode.setIn] at hs
        obtain ⟨b, hb, e⟩ := AL.C14W.map_ok hs
        rw [e]; exact hb)
    (fun s name n s' hne hs => setIn_required_keep s name n s' hne hs)
    (by simp) (by simp [nullWords]) {} v st hkeys hst
  obtain ⟨d1, d2⟩ := structDecode_field ["required", "default"] AL.ActionDecode.setIn (fun s => s.dflt) "default"
    (fun n x => decStrPtr n = .ok x)
    (by intro s n s' hs
        simp only [AL.ActionDecode.setIn] at hs
        obtain ⟨b, hb, e⟩ := AL.C14W.map_ok hs
        rw [e]; exact hb)
    (fun s name n s' hne hs => setIn_dflt_keep s name n s' hne hs)
    (by simp) (by simp [nullWords]) {} v st hkeys hst
  have hreq : st.required = actRequiredTrue v := by
    simp only [actRequiredTrue]
    cases ha : attr "required" v with
    | none => exact r2 ha
    | some rn => exact decBool_yamlTrue rn _ (r1 rn ha)
  have hdf : st.dflt.isNone = !hasDefault v := by
    simp only [hasDefault]
    cases ha : attr "default" v with
    | none => rw [d2 ha]; rfl
    | some dn =>
      have := d1 dn ha
      simp only [decStrPtr] at this
      split at this
      · rename_i hn
        simp only [Except.ok.injEq] at this
        rw [← this]; simp [hn]
      · rename_i hn
        obtain ⟨a, _, e⟩ := AL.C14W.map_ok this
        rw [e]
        simp [hn]
  simp only [actInputRequired, hreq, hdf]

theorem action_decInputsLoop_read (cfg : Cfg) : ∀ (l : List (Node × Node)) (acc res : List (String × String × Bool)),
    (∀ q ∈ l, ∀ a ∈ pairs q.2.content, KeyOk a.1) →
    AL.ActionDecode.decInputsLoop cfg l acc = .ok res →
    res = acc ++ l.map fun q => (cfg.lower q.1.value, q.1.value, actInputRequired q.2)
  | [], acc, res, _, h => by
    simp only [AL.ActionDecode.decInputsLoop, Except.ok.injEq] at h
    simp [h]
  | (k, v) :: rest, acc, res, hk, h => by
    simp only [AL.ActionDecode.decInputsLoop] at h
    split at h
    · cases h
    · rename_i r hr
      split at h
      · cases h
      · have := action_decInputsLoop_read cfg rest _ res (fun q hq => hk q (List.mem_cons_of_mem _ hq)) h
        rw [this, action_decInput_read v (hk (k, v) (List.mem_cons_self ..)) r hr]
        simp

theorem action_decOutputsLoop_read (cfg : Cfg) : ∀ (l : List (Node × Node)) (acc res : List (String × String)),
    AL.ActionDecode.decOutputsLoop cfg l acc = .ok res →
    res = acc ++ l.map fun q => (cfg.lower q.1.value, q.1.value)
  | [], acc, res, h => by
    simp only [AL.ActionDecode.decOutputsLoop, Except.ok.injEq] at h
    simp [h]
  | (k, v) :: rest, acc, res, h => by
    simp only [AL.ActionDecode.decOutputsLoop] at h
    split at h
    · cases h
    · rw [action_decOutputsLoop_read cfg rest _ res h]
      simp

/-! ### the whole `action.yml` -/

theorem action_setMeta_inputs_keep (cfg : Cfg) (st : AL.ActionDecode.Decoded) (name : String) (v : Node) (st' : AL.ActionDecode.Decoded)
    (hne : name ≠ "inputs") (h : AL.ActionDecode.setMeta cfg st name v = .ok st') : st'.inputs = st.inputs := by
  simp only [AL.ActionDecode.setMeta] at h
  split at h
  · obtain ⟨a, _, e⟩ := AL.C14W.map_ok h; rw [e]
  · obtain ⟨a, _, e⟩ := AL.C14W.map_ok h; rw [e]
  · exact absurd rfl hne
  · obtain ⟨a, _, e⟩ := AL.C14W.map_ok h; rw [e]
  · obtain ⟨a, _, e⟩ := AL.C14W.map_ok h; rw [e]
  · obtain ⟨a, _, e⟩ := AL.C14W.map_ok h; rw [e]
  · simp only [Except.ok.injEq] at h; rw [← h]

theorem action_setMeta_outputs_keep (cfg : Cfg) (st : AL.ActionDecode.Decoded) (name : String) (v : Node) (st' : AL.ActionDecode.Decoded)
    (hne : name ≠ "outputs") (h : AL.ActionDecode.setMeta cfg st name v = .ok st') : st'.outputs = st.outputs := by
  simp only [AL.ActionDecode.setMeta] at h
  split at h
  · obtain ⟨a, _, e⟩ := AL.C14W.map_ok h; rw [e]
  · obtain ⟨a, _, e⟩ := AL.C14W.map_ok h; rw [e]
  · obtain ⟨a, _, e⟩ := AL.C14W.map_ok h; rw [e]
  · exact absurd rfl hne
  · obtain ⟨a, _, e⟩ := AL.C14W.map_ok h; rw [e]
  · obtain ⟨a, _, e⟩ := AL.C14W.map_ok h; rw [e]
  · simp only [Except.ok.injEq] at h; rw [← h]

/-- **`action.yml`**: when `yaml.Unmarshal` succeeds, the inputs and outputs of the metadata are the ones read from the
document -/
theorem action_fromDoc_read (cfg : Cfg) (doc : Node) (hs : ActionSane doc) (d : AL.ActionDecode.Decoded)
    (h : AL.ActionDecode.fromDoc cfg doc = .ok d) :
    d.inputs = actionInputs cfg doc ∧ d.outputs = actionOutputs cfg doc := by
  simp only [AL.ActionDecode.fromDoc] at h
  cases hd : doc.content with
  | nil =>
    simp only [hd, Except.ok.injEq] at h
    subst h
    simp [actionInputs, actionOutputs, actSection, rootOf, hd]
  | cons root rest =>
    simp only [hd] at h
    have hroot : rootOf doc = some root := by simp [rootOf, hd]
    have hkeys := hs.1 root hroot
    obtain ⟨i1, i2⟩ := structDecode_field ["name", "description", "inputs", "outputs", "runs", "branding"]
      (AL.ActionDecode.setMeta cfg) (fun s => s.inputs) "inputs"
      (fun n ins => viaUnmarshaler (AL.ActionDecode.decInputs cfg) n = .ok ins)
      (by intro s n s' hs'
          simp only [AL.ActionDecode.setMeta] at hs'
          obtain ⟨b, hb, e⟩ := AL.C14W.map_ok hs'
          rw [e]; exact hb)
      (fun s name n s' hne hs' => action_setMeta_inputs_keep cfg s name n s' hne hs')
      (by simp) (by simp [nullWords]) {} root d hkeys h
    obtain ⟨o1, o2⟩ := structDecode_field ["name", "description", "inputs", "outputs", "runs", "branding"]
      (AL.ActionDecode.setMeta cfg) (fun s => s.outputs) "outputs"
      (fun n outs => viaUnmarshaler (AL.ActionDecode.decOutputs cfg) n = .ok outs)
      (by intro s n s' hs'
          simp only [AL.ActionDecode.setMeta] at hs'
          obtain ⟨b, hb, e⟩ := AL.C14W.map_ok hs'
          rw [e]; exact hb)
      (fun s name n s' hne hs' => action_setMeta_outputs_keep cfg s name n s' hne hs')
      (by simp) (by simp [nullWords]) {} root d hkeys h
    refine ⟨?_, ?_⟩
    · have hsec : ∀ q ∈ actSection "inputs" doc, ∀ a ∈ pairs q.2.content, KeyOk a.1 := hs.2
      simp only [actionInputs]
      simp only [actSection, hroot, Option.bind_some] at hsec ⊢
      cases ha : attr "inputs" root with
      | none => rw [i2 ha]; rfl
      | some n =>
        rw [ha] at hsec
        have := i1 n ha
        simp only [viaUnmarshaler] at this
        split at this
        · rename_i hn
          simp only [Except.ok.injEq] at this
          have hk : n.kind = .scalar := (AL.C10M.null_tag n hn).1
          simp [← this, secEntries, hk]
        · simp only [AL.ActionDecode.decInputs] at this
          split at this
          · cases this
          · rename_i hm
            simp only [secEntries, hm, if_true] at hsec ⊢
            rw [action_decInputsLoop_read cfg _ [] _ hsec this, List.nil_append]
          · cases this
    · simp only [actionOutputs, actSection, hroot, Option.bind_some]
      cases ha : attr "outputs" root with
      | none => rw [o2 ha]; rfl
      | some n =>
        have := o1 n ha
        simp only [viaUnmarshaler] at this
        split at this
        · rename_i hn
          simp only [Except.ok.injEq] at this
          have hk : n.kind = .scalar := (AL.C10M.null_tag n hn).1
          simp [← this, secEntries, hk]
        · simp only [AL.ActionDecode.decOutputs] at this
          split at this
          · cases this
          · rename_i hm
            simp only [secEntries, hm, if_true]
            rw [action_decOutputsLoop_read cfg _ [] _ this, List.nil_append]
          · cases this

end AL.C14D
