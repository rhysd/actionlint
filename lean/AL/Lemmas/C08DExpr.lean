import AL.Lemmas.C08DAscii
import AL.Props.C12Rule
/-
  The expression rule (`AL.RuleExpr.rule`) on an AST and on its normal form. The rule does not read the names of `with:`
  inputs, of the arguments of a call, of job outputs and of services at all; it reads a step id through `lower` — and, when the
  id holds a placeholder, as an expression (those ids are left out here: `StaticIds`).
-/
namespace AL.C08D
open AL AL.Ast AL.RuleExpr AL.Sema

/-- the folds the expression rule is shown to be blind to: every other kind of name (`env`, `jobId`, `matrix`, `event`) is
left alone, i.e. folded by `id` -/
def EF (F : Folds) : Folds := { input := F.input, stepId := F.stepId, arg := F.arg, output := F.output, service := F.service }

theorem nWf_EF (F : Folds) (hE : F.env = id) (hJ : F.jobId = id) (hM : F.matrix = id) (hV : F.event = id) : EF F = F := by
  obtain ⟨a, b, c, d, e, f, g, h, i⟩ := F
  simp only at hE hJ hM hV
  subst hE; subst hJ; subst hM; subst hV
  rfl

variable (F : Folds)

theorem nContainer_EF (c : Container) : nContainer (EF F) c = c := nContainer_env_id (EF F) rfl c

theorem nStrategy_EF (s : Strategy) : nStrategy (EF F) s = s := by
  obtain ⟨m, ff, mp, p⟩ := s
  simp only [nStrategy, EF, option_map_id' _ nMatrix_id]

theorem nEvent_id (e : Event) : nEvent id e = e := by
  cases e with
  | webhook h => rfl
  | schedule c p => rfl
  | repoDispatch t p => rfl
  | dispatch ins p =>
    simp only [nEvent]
    congr 1
    exact option_map_id' _ (nAssoc_id' _ (fun x => rfl)) ins
  | call ins secs outs p =>
    simp only [nEvent]
    congr 1
    · exact option_map_id' _ (list_map_id' _ (fun x => rfl)) ins
    · exact option_map_id' _ (nAssoc_id' _ (fun x => rfl)) secs
    · exact option_map_id' _ (nAssoc_id' _ (fun x => rfl)) outs

theorem stepExec_n (cx : Cx) (e : Exec) : stepExec cx (nExec (EF F) e) = stepExec cx e := by
  cases e with
  | none => rfl
  | run e => rfl
  | action e =>
    simp only [nExec, stepExec, nAct]
    congr 2
    congr 1
    congr 1
    cases e.inputs with
    | none => rfl
    | some l =>
      simp only [Option.map_some, Option.getD_some, nAssoc, List.flatMap_map]
      rfl

theorem stepDiags_n (cx : Cx) (n : Step) : stepDiags cx (nStep (EF F) n) = stepDiags cx n := by
  simp only [stepDiags, nStep, stepExec_n]
  simp only [EF, option_map_nEnv_id]

/-- a step id that holds a placeholder is not re-spelled (it is also read as an expression) -/
def IdOk (f : String → String) (st : Step) : Prop :=
  ∀ id, st.id = some id → AL.Rules.containsExpr id = false ∨ f id.value = id.value

/-- every step id of the workflow is static, or kept as written by the fold -/
def IdsOk (f : String → String) (w : Workflow) : Prop :=
  ∀ j ∈ AL.Rules.jobsOf w, ∀ st ∈ AL.Rules.stepsOf j, IdOk f st

theorem IdsOk.id (w : Workflow) : IdsOk id w := fun _ _ _ _ _ _ => Or.inr rfl

theorem visitStep_n (cx : Cx) (hf : IdFold cx.lower F.stepId) (n : Step) (hs : IdOk F.stepId n) :
    visitStep cx (nStep (EF F) n) = visitStep cx n := by
  have hid : (nStep (EF F) n).id = n.id.map (nStr F.stepId) := rfl
  have hx : (nStep (EF F) n).exec = nExec (EF F) n.exec := rfl
  simp only [visitStep, hid, stepDiags_n, hx, stepExec_n]
  cases h : n.id with
  | none => rfl
  | some id =>
    rcases hs id h with hd | hk
    · have hd' : AL.Rules.containsExpr ⟨F.stepId id.value, id.quoted, id.pos⟩ = false := by
        simp only [AL.Rules.containsExpr, hf.expr] at hd ⊢
        exact hd
      simp only [Option.map_some, hd, hd', nStr, hf.lower]
      rfl
    · simp only [Option.map_some, nStr, hk]

theorem visitSteps_n : ∀ (steps : List Step) (cx : Cx), IdFold cx.lower F.stepId →
    (∀ st ∈ steps, IdOk F.stepId st) →
    visitSteps cx (steps.map (nStep (EF F))) = visitSteps cx steps
  | [], _, _, _ => rfl
  | s :: rest, cx, hf, hs => by
    simp only [List.map_cons, visitSteps, visitStep_n F cx hf s (hs s (by simp))]
    have hl : (visitStep cx s).1.lower = cx.lower := (AL.C08R.visitStep_proj cx s).2
    rw [visitSteps_n rest (visitStep cx s).1 (by rw [hl]; exact hf) (fun st hst => hs st (by simp [hst]))]

theorem lookupJob_nAssoc (N : Job → Job) (i : String) : ∀ (jobs : List (String × Job)),
    lookupJob i (nAssoc N jobs) = (lookupJob i jobs).map N
  | [] => rfl
  | (k, j) :: rest => by
    simp only [nAssoc_cons, lookupJob]
    split
    · rfl
    · exact lookupJob_nAssoc N i rest

theorem declaredOutputsTy_n (j : Job) : declaredOutputsTy (nJob (EF F) j) = declaredOutputsTy j := by
  simp only [declaredOutputsTy, nJob]
  cases j.outputs with
  | none => rfl
  | some l => simp only [Option.map_some, Option.getD_some, nAssoc, List.foldl_map]

theorem needsTy_n (outs : List (String × Ty)) (lower : String → String) (jobs : List (String × Job)) (n : Job) :
    needsTy outs lower (nAssoc (nJob (EF F)) jobs) (nJob (EF F) n) = needsTy outs lower jobs n := by
  have h1 : (nJob (EF F) n).needs = n.needs := by
    simp only [nJob, EF]
    exact option_map_id' _ (list_map_id' _ (fun x => rfl)) n.needs
  have h2 : (nJob (EF F) n).id = n.id := rfl
  simp only [needsTy, h1, h2, lookupJob_nAssoc]
  congr 1
  congr 1
  funext ps id
  split
  · rfl
  · split
    · rfl
    · cases lookupJob (lower id.value) jobs with
      | none => rfl
      | some j =>
        simp only [Option.map_some, declaredOutputsTy_n]
        have : (nJob (EF F) j).workflowCall.isNone = j.workflowCall.isNone := by
          simp only [nJob]; cases j.workflowCall <;> rfl
        rw [this]

theorem jobsTyOf_n (jobs : List (String × Job)) : jobsTyOf (nAssoc (nJob (EF F)) jobs) = jobsTyOf jobs := by
  simp only [jobsTyOf, nAssoc, List.foldl_map, declaredOutputsTy_n]
  congr 2
  funext ps kv
  have : (nJob (EF F) kv.2).workflowCall.isSome = kv.2.workflowCall.isSome := by
    simp only [nJob]; cases kv.2.workflowCall <;> rfl
  rw [this]

theorem checkWorkflowCall_n (cx : Cx) (c : Option WorkflowCall) : checkWorkflowCall cx (c.map (nCall (EF F))) = checkWorkflowCall cx c := by
  cases c with
  | none => rfl
  | some c =>
    simp only [Option.map_some, checkWorkflowCall, nCall]
    cases c.uses with
    | none => rfl
    | some u =>
      simp only
      congr 1
      · congr 1
        cases c.inputs with
        | none => rfl
        | some l =>
          simp only [Option.map_some, Option.getD_some, nAssoc, List.flatMap_map]
          rfl
      · cases c.secrets with
        | none => rfl
        | some l =>
          simp only [Option.map_some, Option.getD_some, nAssoc, List.flatMap_map]
          rfl

theorem servicesDiags_n (cx : Cx) (s : Option Services) : servicesDiags cx (s.map (nServices (EF F))) = servicesDiags cx s := by
  cases s with
  | none => rfl
  | some s =>
    simp only [Option.map_some, servicesDiags, nServices]
    congr 1
    cases s.value with
    | none => rfl
    | some l =>
      simp only [Option.map_some, Option.getD_some, nAssoc, List.flatMap_map, nService, nContainer_EF]

theorem jobPre_n (cx : Cx) (n : Job) : jobPre cx (nJob (EF F) n) = jobPre cx n := by
  have h1 : (nJob (EF F) n).needs = n.needs := by
    simp only [nJob, EF]
    exact option_map_id' _ (list_map_id' _ (fun x => rfl)) n.needs
  have h2 : (nJob (EF F) n).env = n.env := by simp only [nJob, EF, option_map_nEnv_id]
  have h3 : (nJob (EF F) n).strategy = n.strategy := by
    simp only [nJob]; exact option_map_id' _ (nStrategy_EF F) n.strategy
  have h4 : (nJob (EF F) n).container = n.container := by
    simp only [nJob]; exact option_map_id' _ (nContainer_EF F) n.container
  have h5 : (nJob (EF F) n).services = n.services.map (nServices (EF F)) := rfl
  have h6 : (nJob (EF F) n).workflowCall = n.workflowCall.map (nCall (EF F)) := rfl
  simp only [jobPre, h1, h2, h3, h4, h5, h6, servicesDiags_n, checkWorkflowCall_n]
  rfl

theorem jobPost_n (cx : Cx) (n : Job) : jobPost cx (nJob (EF F) n) = jobPost cx n := by
  simp only [jobPost, nJob]
  congr 1
  cases n.outputs with
  | none => rfl
  | some l => simp only [Option.map_some, Option.getD_some, nAssoc, List.flatMap_map]; rfl

theorem jobMatrix_n (cx : Cx) (isNum : IsNumber) (n : Job) : jobMatrix cx isNum (nJob (EF F) n) = jobMatrix cx isNum n := by
  have h3 : (nJob (EF F) n).strategy = n.strategy := by
    simp only [nJob]; exact option_map_id' _ (nStrategy_EF F) n.strategy
  simp only [jobMatrix, h3]

theorem visitJob_n (cx0 : Cx) (hf : IdFold cx0.lower F.stepId) (isNum : IsNumber) (jobs : List (String × Job)) (n : Job)
    (hs : ∀ st ∈ AL.Rules.stepsOf n, IdOk F.stepId st) :
    visitJob cx0 isNum (nAssoc (nJob (EF F)) jobs) (nJob (EF F) n) = visitJob cx0 isNum jobs n := by
  have h2 : (nJob (EF F) n).id = n.id := rfl
  have h7 : (nJob (EF F) n).steps = n.steps.map (List.map (nStep (EF F))) := rfl
  have hst : (Option.map (List.map (nStep (EF F))) n.steps).getD [] = (n.steps.getD []).map (nStep (EF F)) := by
    cases n.steps <;> rfl
  simp only [visitJob, h2, h7, hst, needsTy_n, jobMatrix_n, jobPre_n, jobPost_n]
  rw [visitSteps_n F (n.steps.getD []) _ (by
    cases (jobMatrix _ isNum n).1 <;> exact hf) hs]

/-- **the expression rule on the normal form** (names of `with:` inputs, of call arguments, of job outputs, of services; step ids that
hold no placeholder): literally the same diagnostics -/
theorem ruleExpr_n (lower : String → String) (hf : IdFold lower F.stepId) (isNum : IsNumber) (proj : ProjView) (w : Workflow)
    (hs : IdsOk F.stepId w) : rule lower isNum (nWf (EF F) w) proj = rule lower isNum w proj := by
  have hon : (nWf (EF F) w).on = w.on := by
    simp only [nWf, EF]
    exact option_map_id' _ (list_map_id' _ nEvent_id) w.on
  have henv : (nWf (EF F) w).env = w.env := by simp only [nWf, EF, option_map_nEnv_id]
  have hjobs : (nWf (EF F) w).jobs.getD [] = nAssoc (nJob (EF F)) (w.jobs.getD []) := by
    simp only [nWf]; cases w.jobs <;> rfl
  have hname : (nWf (EF F) w).name = w.name := rfl
  have hrn : (nWf (EF F) w).runName = w.runName := rfl
  have hd : (nWf (EF F) w).defaults = w.defaults := rfl
  have hc : (nWf (EF F) w).concurrency = w.concurrency := rfl
  have hempty : (nAssoc (nJob (EF F)) (w.jobs.getD [])).isEmpty = (w.jobs.getD []).isEmpty := by
    cases w.jobs.getD [] <;> rfl
  have hl : (visitEvents { lower := lower, proj := proj } (w.on.getD [])).1.lower = lower :=
    AL.C12R.visitEvents_lower _ _
  have hdj : ((nAssoc (nJob (EF F)) (w.jobs.getD [])).flatMap fun kv =>
        visitJob (visitEvents { lower := lower, proj := proj } (w.on.getD [])).1 isNum (nAssoc (nJob (EF F)) (w.jobs.getD [])) kv.2) =
      (w.jobs.getD []).flatMap fun kv => visitJob (visitEvents { lower := lower, proj := proj } (w.on.getD [])).1 isNum (w.jobs.getD []) kv.2 := by
    simp only [nAssoc, List.flatMap_map]
    apply AL.C08R.flatMap_congr'
    intro kv hkv
    exact visitJob_n F _ (by rw [hl]; exact hf) isNum _ kv.2 (hs kv.2 (by
      simp only [AL.Rules.jobsOf, List.mem_map]; exact ⟨kv, hkv, rfl⟩))
  simp only [rule, hon, henv, hjobs, hname, hrn, hd, hc, jobsTyOf_n, hempty, hdj]

/-- whether each step id holds a placeholder, in order -/
def exprFlags (w : Workflow) : List Bool :=
  (AL.Rules.jobsOf w).flatMap fun j => (AL.Rules.stepsOf j).flatMap fun st =>
    match st.id with
    | some id => [AL.Rules.containsExpr id]
    | none => []

/-- no step id holds a placeholder -/
def StaticIds (w : Workflow) : Prop := ∀ b ∈ exprFlags w, b = false

theorem StaticIds.idsOk {w : Workflow} (h : StaticIds w) (f : String → String) : IdsOk f w := by
  intro j hj st hst id hid
  refine Or.inl (h _ ?_)
  simp only [exprFlags, List.mem_flatMap]
  exact ⟨j, hj, st, hst, by simp [hid]⟩

theorem exprFlags_n {lower : String → String} (G : Folds) (hf : IdFold lower G.stepId) (w : Workflow) : exprFlags (nWf G w) = exprFlags w := by
  simp only [exprFlags, jobsOf_nWf]
  apply flatMap_norm_eq
  intro j
  simp only [stepsOf_nJob]
  apply flatMap_norm_eq
  intro st
  have hid : (nStep G st).id = st.id.map (nStr G.stepId) := rfl
  rw [hid]
  cases st.id with
  | none => rfl
  | some id => simp only [Option.map_some, AL.Rules.containsExpr, nStr, hf.expr]

/-- two ASTs with the same normal form: if the step ids of one are static, so are those of the other -/
theorem StaticIds.transfer {lower : String → String} (G : Folds) (hf : IdFold lower G.stepId) {w w' : Workflow} (h : nWf G w = nWf G w')
    (hs : StaticIds w) : StaticIds w' := by
  simp only [StaticIds] at hs ⊢
  rw [← exprFlags_n G hf w', ← h, exprFlags_n G hf w]
  exact hs

end AL.C08D
