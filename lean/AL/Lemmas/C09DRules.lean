import AL.Lemmas.C09DParse
import AL.Lemmas.C09DNeeds
import AL.Props.C09All
import AL.Props.C09Rules
import AL.Props.C09Expr
import AL.Props.C05Expr
/-
  Helper definitions and lemmas for AL.Props.C09Doc on the side of the rules: the names the statements use
  (`idsOf`, `needsDup`, `needsUndef`, `NoCyclicReport`, `Unneeded`, `headerCx`, `exprHeader`, `exprOutputs`, `stepsCx`,
  `jobHead`, `stepOwn` …) and the small facts about them; `lint` as a permutation of parser diagnostics ++ `rules`.
-/
namespace AL.C09D
open AL.PW AL.Yaml AL.Ast AL.C13P AL.C13D AL.C13D3

/-! ### job-needs -/

section Rules
open AL.Rules AL.C09A AL.C18P

variable (lower : String → String) (isNum urlOk : String → Bool) (lc : LabelCfg)

/-- the workflow-level diagnostics do not look at the jobs -/
theorem header_withJobs (W : Workflow) (js js' : List (String × Job)) :
    header lower isNum (withJobs W js) lc = header lower isNum (withJobs W js') lc := rfl

theorem jobsIn_withJobs (W : Workflow) (js : List (String × Job)) :
    jobsIn (withJobs W js) = js.map fun p => needsJobIn p.2 := by
  simp [jobsIn, jobsOf]

def idsOf (js : List (String × Job)) : List String := js.map fun p => lower p.2.id.value

theorem jobsIn_ids (W : Workflow) (js : List (String × Job)) :
    ((jobsIn (withJobs W js)).map fun j => lower j.idValue) = idsOf lower js := by
  simp [jobsIn_withJobs, idsOf, needsJobIn]

def needsDup (j : Job) : List Diag := (dupOf lower (needsJobIn j)).map needsDiag

/-- the job's `needs-undefined` reports in a workflow whose jobs have the folded ids `ids` -/
def needsUndef (ids : List String) (j : Job) : List Diag := (undefOf lower ids (needsJobIn j)).map needsDiag

def NoCyclicReport (w : Workflow) : Prop := ∀ d ∈ ruleJobNeeds lower w, d.code ≠ "needs-cyclic"

theorem noCyclic_check (w : Workflow) (h : NoCyclicReport lower w) :
    ∀ c, Needs.Diag.cyclic c ∉ Needs.check lower (jobsIn w) (List.range (jobsIn w).length) := by
  intro c hc
  exact h _ (by rw [ruleJobNeeds_eq]; exact List.mem_map.2 ⟨_, hc, rfl⟩) rfl

/-- nobody among `js` names the id `x` in `needs:` -/
def Unneeded (x : String) (js : List (String × Job)) : Prop :=
  ∀ p ∈ js, ∀ n ∈ p.2.needs.getD [], lower n.value ≠ x

theorem unneeded_of_jobsOf (x : String) (w W : Workflow) (js : List (String × Job)) (e : w = withJobs W js)
    (h : ∀ j ∈ jobsOf w, ∀ n ∈ j.needs.getD [], lower n.value ≠ x) : Unneeded lower x js := by
  subst e
  exact fun p hp n hn => h p.2 (List.mem_map.2 ⟨p, hp, rfl⟩) n hn

theorem unneeded_normNeeds (x : String) (j : Job) (h : ∀ n ∈ j.needs.getD [], lower n.value ≠ x) :
    x ∉ (Needs.normNeeds lower (needsJobIn j).needs []).1 := by
  intro hm
  have := (normNeeds_mem lower x _ []).1 hm
  simp only [List.not_mem_nil, false_or, needsJobIn, List.mem_map] at this
  obtain ⟨_, nr, ⟨s, hs, rfl⟩, e⟩ := this
  exact h s hs e

/-- the new job names existing jobs only: it has no `needs-undefined` of its own -/
theorem needsUndef_nil (ids : List String) (j : Job) (h : ∀ n ∈ j.needs.getD [], lower n.value ∈ ids) :
    needsUndef lower ids j = [] := by
  simp only [needsUndef, undefOf]
  split
  · rfl
  · simp only [List.map_eq_nil_iff, List.filter_eq_nil_iff]
    intro dep hdep
    have := (normNeeds_mem lower dep _ []).1 hdep
    simp only [List.not_mem_nil, false_or, needsJobIn, List.mem_map] at this
    obtain ⟨_, nr, ⟨s, hs, rfl⟩, e⟩ := this
    simp [← e, h s hs]

/-- a job's `needs-undefined`s depend on the ids of the workflow's jobs as a set -/
theorem needsUndef_congr (ids ids' : List String) (j : Job) (h : ∀ x, x ∈ ids ↔ x ∈ ids') :
    needsUndef lower ids j = needsUndef lower ids' j := by
  simp only [needsUndef, undefOf]
  split
  · rfl
  · congr 2
    apply List.filter_congr
    intro dep _
    simp only [List.contains_eq_mem, Bool.not_eq_eq_eq_not, Bool.not_not]
    exact decide_eq_decide.2 (h dep)

end Rules

/-! ### the expression rule -/

section Expr
open AL.RuleExpr AL.C09E

theorem visitEvent_lower (cx : Cx) (e : Ast.Event) : (visitEvent cx e).1.lower = cx.lower := by
  cases e with
  | call inputs secrets outputs pos => simp only [visitEvent]; split <;> rfl
  | _ => rfl

theorem visitEvents_lower (es : List Ast.Event) : ∀ cx : Cx, (visitEvents cx es).1.lower = cx.lower := by
  induction es with
  | nil => intro cx; rfl
  | cons e rest ih => intro cx; simp only [visitEvents]; rw [ih, visitEvent_lower]

theorem lookupJob_insert (i k : String) (x : Job) (J₂ : List (String × Job)) (h : k ≠ i) :
    ∀ J₁ : List (String × Job), lookupJob i (J₁ ++ (k, x) :: J₂) = lookupJob i (J₁ ++ J₂)
  | [] => by simp [lookupJob, h]
  | (k', j') :: rest => by
    simp only [List.cons_append, lookupJob]
    split
    · rfl
    · exact lookupJob_insert i k x J₂ h rest

/-- the scope the workflow header leaves for the jobs -/
def headerCx (lower : String → String) (W : Workflow) (proj : ProjView) : Cx :=
  (visitEvents { lower := lower, proj := proj } (W.on.getD [])).1

/-- the workflow declares no `on.workflow_call.outputs` (the only place of the header that reads the `jobs` context) -/
def NoCallOutputs (W : Workflow) : Prop := (findCallOutputs (W.on.getD [])).getD [] = []

/-- what the rule reports before it visits the jobs: the workflow's name, `on:`, run-name, env, defaults, concurrency -/
def exprHeader (lower : String → String) (W : Workflow) (proj : ProjView) : List RuleExpr.Diag :=
  RuleExpr.checkString { lower := lower, proj := proj } W.name "" ++
  (visitEvents { lower := lower, proj := proj } (W.on.getD [])).2 ++
  (RuleExpr.checkString (headerCx lower W proj) W.runName "run-name" ++ RuleExpr.checkEnv (headerCx lower W proj) W.env "env" ++
    RuleExpr.checkDefaults (headerCx lower W proj) W.defaults "" ++
    RuleExpr.checkConcurrency (headerCx lower W proj) W.concurrency "concurrency")

/-- the last part of the rule: the values of `on.workflow_call.outputs`, checked with the `jobs` context of ALL jobs -/
def exprOutputs (lower : String → String) (W : Workflow) (js : List (String × Job)) (proj : ProjView) : List RuleExpr.Diag :=
  match findCallOutputs (W.on.getD []) with
  | some outs =>
    if outs.isEmpty || js.isEmpty then []
    else outs.flatMap fun kv =>
      RuleExpr.checkString { headerCx lower W proj with jobsTy := some (jobsTyOf js) } kv.2.value "on.workflow_call.outputs.<output_id>.value"
  | none => []

/-- the rule = header, one block per job, `workflow_call` outputs -/
theorem rule_eq (lower : String → String) (isNum : IsNumber) (proj : ProjView) (W : Workflow) (js : List (String × Job)) :
    rule lower isNum (withJobs W js) proj =
      exprHeader lower W proj ++ js.flatMap (fun kv => visitJob (headerCx lower W proj) isNum js kv.2) ++ exprOutputs lower W js proj := by
  simp only [rule, exprHeader, exprOutputs, headerCx, Option.getD_some, List.append_assoc]
  rfl

theorem exprOutputs_nil (lower : String → String) (W : Workflow) (js : List (String × Job)) (proj : ProjView)
    (h : NoCallOutputs W) : exprOutputs lower W js proj = [] := by
  simp only [NoCallOutputs] at h
  simp only [exprOutputs]
  cases hf : findCallOutputs (W.on.getD []) with
  | none => rfl
  | some outs =>
    rw [hf] at h
    simp only [Option.getD_some] at h
    subst h
    rfl

/-- the scope under which the first step of a job is checked -/
def stepsCx (cx0 : Cx) (isNum : IsNumber) (jobs : List (String × Job)) (n : Job) : Cx :=
  let view := cx0.proj.jobView n.id.value
  let cx1 : Cx := { cx0 with job := view, st := { cx0.st with needsTy := some (needsTy view.outs cx0.lower jobs n) } }
  let cx : Cx := match (jobMatrix cx1 isNum n).1 with
    | some t => { cx1 with st := { cx1.st with matrixTy := some t } }
    | none => cx1
  { cx with st := { cx.st with stepsTy := some AL.Visit.emptyStrict } }

/-- what the rule reports for a job before its steps -/
def jobHead (cx0 : Cx) (isNum : IsNumber) (jobs : List (String × Job)) (n : Job) : List RuleExpr.Diag :=
  let view := cx0.proj.jobView n.id.value
  let cx1 : Cx := { cx0 with job := view, st := { cx0.st with needsTy := some (needsTy view.outs cx0.lower jobs n) } }
  let cx : Cx := match (jobMatrix cx1 isNum n).1 with
    | some t => { cx1 with st := { cx1.st with matrixTy := some t } }
    | none => cx1
  (jobMatrix cx1 isNum n).2 ++ jobPre cx n

theorem visitJob_eq (cx0 : Cx) (isNum : IsNumber) (jobs : List (String × Job)) (n : Job) :
    visitJob cx0 isNum jobs n =
      jobHead cx0 isNum jobs n ++ (visitSteps (stepsCx cx0 isNum jobs n) (n.steps.getD [])).2 ++
        jobPost (visitSteps (stepsCx cx0 isNum jobs n) (n.steps.getD [])).1 n := rfl

/-- what the other jobs see of a job does not include its steps -/
theorem lookupJob_replace (i k : String) (a b : Job) (J₂ : List (String × Job)) (h : jobView a = jobView b) :
    ∀ J₁ : List (String × Job), (lookupJob i (J₁ ++ (k, a) :: J₂)).map jobView = (lookupJob i (J₁ ++ (k, b) :: J₂)).map jobView
  | [] => by
    simp only [List.nil_append, lookupJob]
    split
    · simp [h]
    · rfl
  | (k', j') :: rest => by
    simp only [List.cons_append, lookupJob]
    split
    · rfl
    · exact lookupJob_replace i k a b J₂ h rest

theorem jobsTyOf_steps (J₂ : List (String × Job)) (k : String) (Jb : Job) (S S' : Option (List Step)) :
    ∀ J₁ : List (String × Job), jobsTyOf (J₁ ++ (k, { Jb with steps := S }) :: J₂) = jobsTyOf (J₁ ++ (k, { Jb with steps := S' }) :: J₂) := by
  intro J₁
  simp only [jobsTyOf, List.foldl_append, List.foldl_cons]
  rfl

theorem needsTy_steps (outs : List (String × AL.Ty)) (lower : String → String) (J₁ J₂ : List (String × Job)) (k : String) (Jb : Job)
    (S S' : Option (List Step)) (n : Job) :
    needsTy outs lower (J₁ ++ (k, { Jb with steps := S }) :: J₂) n = needsTy outs lower (J₁ ++ (k, { Jb with steps := S' }) :: J₂) n :=
  needsTy_congr outs lower _ _ n (fun _ _ => lookupJob_replace _ k { Jb with steps := S } { Jb with steps := S' } J₂ rfl J₁)

theorem exprOutputs_steps (lower : String → String) (W : Workflow) (proj : ProjView) (J₁ J₂ : List (String × Job)) (k : String) (Jb : Job)
    (S S' : Option (List Step)) :
    exprOutputs lower W (J₁ ++ (k, { Jb with steps := S }) :: J₂) proj = exprOutputs lower W (J₁ ++ (k, { Jb with steps := S' }) :: J₂) proj := by
  have e : ∀ x : String × Job, (J₁ ++ x :: J₂).isEmpty = false := by intro x; cases J₁ <;> rfl
  simp only [exprOutputs, jobsTyOf_steps J₂ k Jb S S' J₁, e]

end Expr

/-! ### `lint` -/

section Lint
open AL.Rules AL.C09A AL.C18P

variable (cfg : Cfg) (isNum urlOk : String → Bool) (lc : LabelCfg)

theorem lint_perm (doc : Node) :
    (lint cfg isNum urlOk doc lc).Perm ((parse cfg doc).2.map ofPErr ++ rules cfg.lower isNum urlOk (parse cfg doc).1 lc) :=
  AL.C09R.stableSort_perm _

theorem lint_perm_add (doc doc' : Node) (O : List PErr) (Y : List Diag) (hp : (parse cfg doc').2.Perm ((parse cfg doc).2 ++ O))
    (hr : (rules cfg.lower isNum urlOk (parse cfg doc').1 lc).Perm (rules cfg.lower isNum urlOk (parse cfg doc).1 lc ++ Y)) :
    (lint cfg isNum urlOk doc' lc).Perm (lint cfg isNum urlOk doc lc ++ (O.map ofPErr ++ Y)) := by
  refine (lint_perm cfg isNum urlOk lc doc').trans (((hp.map ofPErr).append hr).trans ?_)
  rw [List.map_append]
  exact (perm_interchange _ _ _ _).trans ((lint_perm cfg isNum urlOk lc doc).symm.append_right _)

/-- the folded ids of the jobs of a parsed document are pairwise distinct (`C18P.parsed_job_ids_nodup`) -/
theorem parsed_idsOf_nodup (doc : Node) (W : Workflow) (js : List (String × Job)) (h : (parse cfg doc).1 = withJobs W js) :
    (idsOf cfg.lower js).Nodup := by
  have := parsed_job_ids_nodup cfg doc
  rw [h] at this
  simpa [jobsOf, idsOf, Function.comp_def] using this

/-- what job-needs reports is reported by the linter -/
theorem needs_mem_lint (doc : Node) (d : Diag) (h : d ∈ ruleJobNeeds cfg.lower (parse cfg doc).1) :
    d ∈ lint cfg isNum urlOk doc lc := by
  rw [(lint_perm cfg isNum urlOk lc doc).mem_iff]
  simp only [rules, List.mem_append, h, true_or, or_true]

def cycPart : Option Needs.CycleDiag → List Needs.Diag
  | some c => [Needs.Diag.cyclic c]
  | none => []

/-- job-needs from its parts when nothing is undefined (`h1`); each part is given by an equation, so that the cycle search
(well-founded recursive) can be evaluated apart, on the literal graph -/
theorem ruleJobNeeds_of (lower : String → String) (w : Workflow) (d0 : List Needs.Diag) (g : Needs.Graph) (order : List Nat)
    (r : Option Needs.CycleDiag)
    (h1 : (Needs.resolve (nodesOf lower (jobsIn w))).2 = []) (h2 : (Needs.visitJobs lower (jobsIn w) []).2 = d0)
    (h3 : List.range (jobsIn w).length = order) (h4 : graphOf lower (jobsIn w) = g) (h5 : Needs.cycleDiag g order = r) :
    ruleJobNeeds lower w = (d0 ++ cycPart r).map needsDiag := by
  rw [ruleJobNeeds_eq, check_eq, h1, h2, h3, h4, h5]
  cases r <;> simp [cycPart]

end Lint

/-! ### the AST-only rules and the steps of a job -/

section StepRules
open AL.Rules AL.C09A

/-- the platform the steps of a job run on, as rule shell-name sees it -/
def jobPlatform (lower : String → String) (j : Job) : Platform :=
  match j.runsOn with | some r => platformOf lower r | none => Platform.any

def shellStep (lower : String → String) (pf : Platform) (st : Step) : List Diag :=
  match st.exec with
  | .run e => checkShellName lower pf e.shell
  | _ => []

def deprecatedStep (st : Step) : List Diag :=
  match st.exec with
  | .run e =>
    (match e.run with
     | some r => (findDeprecated (r.value.length + 1) r.value.toList).map fun cmd => ⟨r.pos, "deprecated-commands", "deprecated-command", [cmd]⟩
     | none => [])
  | _ => []

/-- `RuleID.seen` after the steps `S` -/
def idSeen (lower : String → String) : List Step → List (String × Rules.Pos) → List (String × Rules.Pos)
  | [], seen => seen
  | st :: rest, seen =>
    match st.id with
    | none => idSeen lower rest seen
    | some s =>
      match Rules.lookupSeen (lower s.value) seen with
      | some _ => idSeen lower rest seen
      | none => idSeen lower rest (seen ++ [(lower s.value, s.pos)])

theorem idSteps_append (lower : String → String) (b : List Step) : ∀ (a : List Step) (seen : List (String × Rules.Pos)),
    idSteps lower (a ++ b) seen = idSteps lower a seen ++ idSteps lower b (idSeen lower a seen)
  | [], seen => by simp [idSteps, idSeen]
  | st :: rest, seen => by
    simp only [List.cons_append, idSteps, idSeen]
    cases st.id with
    | none => exact idSteps_append lower b rest seen
    | some s =>
      simp only
      cases Rules.lookupSeen (lower s.value) seen with
      | some prev => simp only [idSteps_append lower b rest seen, List.append_assoc]
      | none => simp only [idSteps_append lower b rest, List.append_assoc]

/-- everything the AST-only rules report about ONE step: a function of the step, of the job's platform, and of the ids of
the earlier steps -/
def stepOwn (lower : String → String) (urlOk : String → Bool) (Jb : Job) (S : List Step) (st : Step) : List Diag :=
  shellStep lower (jobPlatform lower Jb) st ++ actionStep urlOk st ++ checkEnv st.env ++
  idSteps lower [st] (idSeen lower S []) ++ deprecatedStep st ++ checkIfCond st.cond

end StepRules

end AL.C09D
