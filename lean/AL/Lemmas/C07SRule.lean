import AL.Lemmas.C07SValue
/-
  C07Sites, rule side: a diagnostic of rule_expression.go sits at one of the strings of the AST value the check was given.
  Contrapositive form, so that the same decomposition lemmas (`AllI` of a structure = `AllI` of its fields) drive the proofs:
  `NS d x` — "`d` sits at none of the strings of `x`" — implies `d ∉ check … x …`.
-/
namespace AL.C07S
open AL AL.Ast AL.Sema AL.RuleExpr

def NotAt (d : Diag) : Item → Prop
  | .str s => d.site ≠ s.pos
  | .pos _ => True

abbrev NS {α} [HasItems α] (d : Diag) (x : α) : Prop := AllI (NotAt d) x

variable {d : Diag}

@[simp] theorem NotAt_str {s : Str} : NotAt d (.str s) ↔ d.site ≠ s.pos := Iff.rfl
@[simp] theorem NotAt_pos {p : Pos} : NotAt d (.pos p) ↔ True := Iff.rfl

theorem NS_getD {α} [HasItems α] {o : Option (List α)} (h : NS d o) : ∀ x ∈ o.getD [], NS d x :=
  fun _ => h.mem_getD

/-! ### the checks of one string -/

theorem at_not {s : Str} (h : d.site ≠ s.pos) (es : List SemaErr) : d ∉ at_ s es := by
  simp only [at_, List.mem_map, not_exists, not_and]
  intro e _ he
  subst he
  exact h rfl

theorem checkStrU_not (cx : Cx) (u : Bool) {o : Option Str} (h : NS d o) (key : String) : d ∉ (checkStrU cx u o key).2 := by
  cases o with
  | none => simp [checkStrU]
  | some s =>
    have hs : d.site ≠ s.pos := by simpa using h
    simp only [checkStrU]
    split <;> exact at_not hs _

theorem checkString_not (cx : Cx) {o : Option Str} (h : NS d o) (key : String) : d ∉ checkString cx o key :=
  checkStrU_not cx false h key
theorem checkScriptString_not (cx : Cx) {o : Option Str} (h : NS d o) (key : String) : d ∉ checkScriptString cx o key :=
  checkStrU_not cx true h key

theorem checkStrings_not (cx : Cx) {o : Option (List Str)} (h : NS d o) (key : String) : d ∉ checkStrings cx o key := by
  simp only [checkStrings]
  exact not_mem_flatMap fun s hs => checkString_not cx (IOk_some.2 (h.mem_getD hs)) key

theorem checkOneExpression_not (cx : Cx) {o : Option Str} (h : NS d o) (what key : String) :
    d ∉ (checkOneExpression cx o what key).2 := by
  cases o with
  | none => simp [checkOneExpression]
  | some s =>
    have hs : d.site ≠ s.pos := by simpa using h
    simp only [checkOneExpression]
    split <;> exact at_not hs _

theorem mustBe_not (p : Ty → Bool) (code what : String) {o : Option Str} (h : NS d o) {r : Option Ty × List Diag} (hr : d ∉ r.2) :
    d ∉ (mustBe p code what o r).2 := by
  unfold mustBe
  split
  · rename_i s _ _
    split
    · exact hr
    · exact List.not_mem_append hr (at_not (by simpa using h) _)
  · exact hr

theorem checkObjectExpression_not (cx : Cx) {o : Option Str} (h : NS d o) (what key : String) :
    d ∉ (checkObjectExpression cx o what key).2 := mustBe_not _ _ _ h (checkOneExpression_not cx h what key)
theorem checkArrayExpression_not (cx : Cx) {o : Option Str} (h : NS d o) (what key : String) :
    d ∉ (checkArrayExpression cx o what key).2 := mustBe_not _ _ _ h (checkOneExpression_not cx h what key)
theorem checkNumberExpression_not (cx : Cx) {o : Option Str} (h : NS d o) (what key : String) :
    d ∉ (checkNumberExpression cx o what key).2 := mustBe_not _ _ _ h (checkOneExpression_not cx h what key)

theorem checkBool_not (cx : Cx) {b : Option BoolV} (h : NS d b) (key : String) : d ∉ checkBool cx b key := by
  cases b with
  | none => simp [checkBool]
  | some b =>
    have he : NS d b.expr := (IOk_BoolV.1 (IOk_some.1 h)).1
    unfold checkBool
    dsimp only
    split
    · simp
    · rename_i e hex
      rw [hex] at he
      have h1 := checkOneExpression_not cx he "bool value" key
      have hs : d.site ≠ e.pos := by simpa using he
      split
      · exact h1
      · exact h1
      · simp only [List.mem_append, not_or]; exact ⟨h1, at_not hs _⟩
      · exact h1

theorem checkInt_not (cx : Cx) {i : Option IntV} (h : NS d i) (key : String) : d ∉ checkInt cx i key := by
  cases i with
  | none => simp [checkInt]
  | some i => exact checkNumberExpression_not cx (IOk_IntV.1 (IOk_some.1 h)).1 _ key

theorem checkFloat_not (cx : Cx) {f : Option FloatV} (h : NS d f) (key : String) : d ∉ checkFloat cx f key := by
  cases f with
  | none => simp [checkFloat]
  | some f => exact checkNumberExpression_not cx (IOk_FloatV.1 (IOk_some.1 h)).1 _ key

/-! ### sections -/

theorem checkEnv_not (cx : Cx) {env : Option Ast.Env} (h : NS d env) (key : String) : d ∉ RuleExpr.checkEnv cx env key := by
  cases env with
  | none => simp [RuleExpr.checkEnv]
  | some e =>
    have he := IOk_Env.1 (IOk_some.1 h)
    unfold RuleExpr.checkEnv
    dsimp only
    split
    · rename_i vars hv
      refine not_mem_flatMap fun kv hkv => ?_
      have hkv' := IOk_EnvVar.1 (IOk_entry.1 ((he.1.of_some hv).mem hkv))
      exact List.not_mem_append (checkString_not cx (IOk_some.2 hkv'.1) key) (checkString_not cx (IOk_some.2 hkv'.2) key)
    · exact checkObjectExpression_not cx he.2 _ key

theorem checkContainer_not (cx : Cx) {c : Option Container} (h : NS d c) (key pre : String) :
    d ∉ checkContainer cx c key pre := by
  cases c with
  | none => simp [checkContainer]
  | some c =>
    have hc := IOk_Container.1 (IOk_some.1 h)
    simp only [checkContainer, List.mem_append, not_or]
    refine ⟨⟨⟨⟨⟨checkString_not cx hc.1 _, ?_⟩, checkEnv_not cx hc.2.2.1 _⟩, checkStrings_not cx hc.2.2.2.1 _⟩,
      checkStrings_not cx hc.2.2.2.2.1 _⟩, checkString_not cx hc.2.2.2.2.2.1 _⟩
    split
    · rename_i cr hcr
      have hcr' := IOk_Credentials.1 (hc.2.1.of_some hcr)
      exact List.not_mem_append (checkString_not cx hcr'.1 _) (checkString_not cx hcr'.2.1 _)
    · simp

theorem checkConcurrency_not (cx : Cx) {c : Option Concurrency} (h : NS d c) (key : String) :
    d ∉ checkConcurrency cx c key := by
  cases c with
  | none => simp [checkConcurrency]
  | some c =>
    have hc := IOk_Concurrency.1 (IOk_some.1 h)
    simp only [checkConcurrency, List.mem_append, not_or]
    exact ⟨checkString_not cx hc.1 _, checkBool_not cx hc.2.1 _⟩

theorem checkDefaults_not (cx : Cx) {x : Option Defaults} (h : NS d x) (key : String) : d ∉ checkDefaults cx x key := by
  cases x with
  | none => simp [checkDefaults]
  | some x =>
    have hx := IOk_Defaults.1 (IOk_some.1 h)
    unfold checkDefaults
    dsimp only
    split
    · simp
    · rename_i r hr
      have hr' := IOk_DefaultsRun.1 (hx.1.of_some hr)
      exact List.not_mem_append (checkString_not cx hr'.1 _) (checkString_not cx hr'.2.1 _)

theorem checkIfCondition_not (cx : Cx) {o : Option Str} (h : NS d o) (key : String) : d ∉ checkIfCondition cx o key := by
  cases o with
  | none => simp [checkIfCondition]
  | some s =>
    have hs : d.site ≠ s.pos := by simpa using h
    have hu := checkStrU_not cx false h key
    have hnb : ∀ t : Ty, d ∉ (match t with
        | .bool => ([] : List Diag) | .any => []
        | t => if Ty.assignable .bool t then [] else at_ s [err "if-cond-type" [tyStr t]]) := by
      intro t
      split
      · simp
      · simp
      · split
        · simp
        · exact at_not hs _
    unfold checkIfCondition
    dsimp only
    split
    · split
      · split
        · simp only [List.mem_append, not_or]; exact ⟨hu, hnb _⟩
        · exact hu
      · exact hu
    · split
      · exact at_not hs _
      · exact hnb _

/-! ### the matrix -/

theorem rawStringTy_not (cx : Cx) (isNum : IsNumber) (v : String) (p : Pos) (h : d.site ≠ p) :
    d ∉ (rawStringTy cx isNum v p).2 :=
  AL.Cover.rawStringTy_snd cx isNum v p ▸ at_not (s := ⟨v, false, p⟩) h _

/-! The diagnostics of a raw value are those of its strings (`AL.Cover.rawTy_snd`), and its strings are among its items
(`rawStrs_sall`). -/

theorem rawTy_not (cx : Cx) (isNum : IsNumber) : ∀ (v : AL.Matrix.Raw), NS d v → d ∉ (rawTy cx isNum v).2 :=
  fun v h => AL.Cover.rawTy_snd cx isNum v ▸ not_mem_flatMap fun s hs => at_not (rawStrs_sall v h s hs) _
theorem rawFold_not (cx : Cx) (isNum : IsNumber) : ∀ (acc : Ty) (vs : List AL.Matrix.Raw), NS d vs → d ∉ (rawFold cx isNum acc vs).2 :=
  fun acc vs h => AL.Cover.rawFold_snd cx isNum acc vs ▸ not_mem_flatMap fun s hs => at_not (rawStrsL_sall vs h s hs) _
theorem rawProps_not (cx : Cx) (isNum : IsNumber) : ∀ (ps : List (String × AL.Matrix.Raw)), NS d ps → d ∉ (RuleExpr.rawProps cx isNum ps).2 :=
  fun ps h => AL.Cover.rawProps_snd cx isNum ps ▸ not_mem_flatMap fun s hs => at_not (rawStrsP_sall ps h s hs) _

theorem rowTy_not (cx : Cx) (isNum : IsNumber) {r : MatrixRow} (h : NS d r) : d ∉ (rowTy cx isNum r).2 := by
  have hr := IOk_MatrixRow.1 h
  unfold rowTy
  split
  · rename_i e he
    exact checkArrayExpression_not cx (he ▸ hr.2.2) _ _
  · have hv : NS d (r.values.getD []) := IOk_getD hr.2.1
    split
    · simp
    · rename_i v vs hvs
      rw [hvs] at hv
      have := IOk_cons.1 hv
      simp only [List.mem_append, not_or]
      exact ⟨rawTy_not cx isNum v this.1, rawFold_not cx isNum _ vs this.2⟩

theorem assigns_not (cx : Cx) (isNum : IsNumber) {c : MatrixCombination} (h : NS d c) :
    ∀ kv ∈ c.assigns.getD [], d ∉ (rawTy cx isNum kv.2.value).2 := by
  intro kv hkv
  exact rawTy_not cx isNum _ (IOk_MatrixAssign.1 ((IOk_MatrixCombination.1 h).1.entry hkv)).2

theorem excludeDiags_not (cx : Cx) (isNum : IsNumber) {ex : Option MatrixCombinations} (h : NS d ex) :
    d ∉ excludeDiags cx isNum ex := by
  cases ex with
  | none => simp [excludeDiags]
  | some ex =>
    have hx := IOk_MatrixCombinations.1 (IOk_some.1 h)
    unfold excludeDiags
    dsimp only
    split
    · rename_i e he
      have he' : NS d (some e) := he ▸ hx.2
      have h1 := checkArrayExpression_not cx he' "exclude" "jobs.<job_id>.strategy"
      split
      · split
        · exact h1
        · exact List.not_mem_append h1 (at_not (by simpa using he') _)
      · exact h1
    · refine not_mem_flatMap fun c hc => ?_
      have hc' := hx.1.mem_getD hc
      split
      · rename_i e he
        exact checkObjectExpression_not cx (he ▸ (IOk_MatrixCombination.1 hc').2) _ _
      · exact not_mem_flatMap (assigns_not cx isNum hc')

theorem foldl_not {α σ : Type} (step : σ × List Diag → α → σ × List Diag) (l : List α)
    (hstep : ∀ acc x, x ∈ l → d ∉ acc.2 → d ∉ (step acc x).2) :
    ∀ acc, d ∉ acc.2 → d ∉ (l.foldl step acc).2 :=
  fun _ h => List.foldlRecOn (motive := fun acc : σ × List Diag => d ∉ acc.2) l step h fun acc hacc x hx => hstep acc x hx hacc

theorem includeCombo_not (cx : Cx) (isNum : IsNumber) {acc : Ty × List Diag} (hacc : d ∉ acc.2) {c : MatrixCombination} (h : NS d c) :
    d ∉ (includeCombo cx isNum acc c).2 := by
  unfold includeCombo
  split
  · rename_i e he
    have h1 := List.not_mem_append hacc (checkOneExpression_not cx (he ▸ (IOk_MatrixCombination.1 h).2)
      "matrix combination at element of include section" "jobs.<job_id>.strategy")
    dsimp only
    split <;> exact h1
  · refine foldl_not _ _ ?_ acc hacc
    intro a kv hkv ha
    have h1 := List.not_mem_append ha (assigns_not cx isNum h kv hkv)
    dsimp only
    split <;> exact h1

theorem matrixExprTy_not (cx : Cx) {e : Str} (h : d.site ≠ e.pos) : d ∉ (matrixExprTy cx e).2 := by
  have := checkObjectExpression_not (d := d) cx (o := some e) (by simpa using h) "matrix" "jobs.<job_id>.strategy"
  simp only [matrixExprTy]
  split <;> exact this

theorem checkMatrix_not (cx : Cx) (isNum : IsNumber) {m : Ast.Matrix} (h : NS d m) : d ∉ (checkMatrix cx isNum m).2 := by
  have hm := IOk_Matrix.1 h
  unfold checkMatrix
  split
  · rename_i e he
    exact matrixExprTy_not cx (AllI_str.1 (hm.2.2.2.1.of_some he))
  · dsimp only
    -- the fold over the rows, under a name
    generalize hR : List.foldl _ ([], []) (m.rows.getD []) = rows
    have hrows : d ∉ excludeDiags cx isNum m.excl ++ rows.2 := by
      rw [← hR]
      refine List.not_mem_append (excludeDiags_not cx isNum hm.2.2.1) (foldl_not _ _ ?_ _ List.not_mem_nil)
      intro acc kv hkv ha
      exact List.not_mem_append ha (rowTy_not cx isNum (hm.1.entry hkv))
    split
    · exact hrows
    · rename_i inc hinc
      have hi' := IOk_MatrixCombinations.1 (hm.2.1.of_some hinc)
      split
      · rename_i e he
        exact List.not_mem_append hrows (checkOneExpression_not cx (he ▸ hi'.2) "include" "jobs.<job_id>.strategy")
      · refine List.not_mem_append hrows (foldl_not _ _ ?_ _ List.not_mem_nil)
        intro acc c hc ha
        exact includeCombo_not cx isNum ha (hi'.1.mem_getD hc)

/-! ### steps -/

theorem stepExec_not (cx : Cx) {e : Exec} (h : NS d e) : d ∉ (stepExec cx e).1 := by
  cases e with
  | none => simp [stepExec]
  | run e =>
    have he := IOk_ExecRun.1 (IOk_exec_run.1 h)
    simp only [stepExec, List.mem_append, not_or]
    exact ⟨⟨checkScriptString_not cx he.1 _, checkString_not cx he.2.1 _⟩, checkString_not cx he.2.2.1 _⟩
  | action e =>
    have he := IOk_ExecAction.1 (IOk_exec_action.1 h)
    simp only [stepExec, List.mem_append, not_or]
    refine ⟨⟨⟨checkString_not cx he.1 _, ?_⟩, checkString_not cx he.2.2.1 _⟩, checkString_not cx he.2.2.2 _⟩
    refine not_mem_flatMap fun kv hkv => ?_
    have := IOk_some.2 (IOk_Input.1 (he.2.1.entry hkv)).2
    exact not_mem_ite (checkScriptString_not cx this _) (checkString_not cx this _)

theorem stepDiags_not (cx : Cx) {n : Step} (h : NS d n) : d ∉ stepDiags cx n := by
  have hn := h.step
  simp only [stepDiags, List.mem_append, not_or]
  exact ⟨⟨⟨⟨⟨checkString_not cx hn.name _, checkIfCondition_not cx hn.cond _⟩, stepExec_not cx hn.exec⟩,
    checkEnv_not cx hn.env _⟩, checkBool_not cx hn.continueOnError _⟩, checkFloat_not cx hn.timeoutMinutes _⟩

theorem visitStep_not (cx : Cx) {n : Step} (h : NS d n) : d ∉ (visitStep cx n).2 := by
  have h1 := stepDiags_not cx h
  unfold visitStep
  split
  · exact h1
  · rename_i id hid
    refine List.not_mem_append h1 ?_
    split
    · exact checkString_not cx (hid ▸ h.step.id) ""
    · simp

theorem visitSteps_not : ∀ (steps : List Step) (cx : Cx), NS d steps → d ∉ (visitSteps cx steps).2
  | [], _, _ => by simp [visitSteps]
  | s :: ss, cx, h => by
    have := IOk_cons.1 h
    simp only [visitSteps, List.mem_append, not_or]
    exact ⟨visitStep_not cx this.1, visitSteps_not ss _ this.2⟩

/-! ### jobs -/

theorem typedInput_not (cx : Cx) (u : Str) {kv : String × CallArg} (h : d.site ≠ kv.2.value.pos) (ts : List Ty) :
    d ∉ typedInput cx u kv ts := by
  unfold typedInput
  split
  · simp
  · split
    · simp
    · split
      · simp
      · dsimp only
        split
        · simp
        · exact fun hd => h (List.mem_singleton.1 hd ▸ rfl)
theorem checkWorkflowCall_not (cx : Cx) {c : Option WorkflowCall} (h : NS d c) : d ∉ checkWorkflowCall cx c := by
  cases c with
  | none => simp [checkWorkflowCall]
  | some c =>
    have hc := IOk_WorkflowCall.1 (IOk_some.1 h)
    unfold checkWorkflowCall
    dsimp only
    split
    · simp
    · rename_i u hu
      refine List.not_mem_append (List.not_mem_append (checkString_not cx (hu ▸ hc.1) _) ?_) ?_
      · refine not_mem_flatMap fun kv hkv => ?_
        have := (IOk_CallArg.1 (hc.2.1.entry hkv)).2
        exact List.not_mem_append (checkStrU_not cx false (IOk_some.2 this) _) (typedInput_not cx u (AllI_str.1 this) _)
      · exact not_mem_flatMap fun kv hkv => checkString_not cx (IOk_some.2 (IOk_CallArg.1 (hc.2.2.entry hkv)).2) _

theorem runsOnDiags_not (cx : Cx) {r : Option Runner} (h : NS d r) : d ∉ runsOnDiags cx r := by
  cases r with
  | none => simp [runsOnDiags]
  | some r =>
    have hr := IOk_Runner.1 (IOk_some.1 h)
    simp only [runsOnDiags, List.mem_append, not_or]
    refine ⟨?_, checkString_not cx hr.2.2 _⟩
    split
    · rename_i e he
      have he' : NS d (some e) := he ▸ hr.2.1
      have h1 := checkOneExpression_not cx he' "runner label at \"runs-on\" section" "jobs.<job_id>.runs-on"
      split
      · exact h1
      · exact h1
      · exact h1
      · exact List.not_mem_append h1 (at_not (by simpa using he') _)
      · exact h1
    · exact not_mem_flatMap fun l hl => checkString_not cx (IOk_some.2 (hr.1.mem_getD hl)) _
theorem strategyDiags_not (cx : Cx) {s : Option Strategy} (h : NS d s) : d ∉ strategyDiags cx s := by
  cases s with
  | none => simp [strategyDiags]
  | some s =>
    have hs := IOk_Strategy.1 (IOk_some.1 h)
    simp only [strategyDiags, List.mem_append, not_or]
    exact ⟨checkBool_not cx hs.2.1 _, checkInt_not cx hs.2.2.1 _⟩

theorem servicesDiags_not (cx : Cx) {s : Option Services} (h : NS d s) : d ∉ servicesDiags cx s := by
  cases s with
  | none => simp [servicesDiags]
  | some s =>
    have hs := IOk_Services.1 (IOk_some.1 h)
    simp only [servicesDiags, List.mem_append, not_or]
    exact ⟨checkObjectExpression_not cx hs.2.1 _ _, not_mem_flatMap fun kv hkv =>
      checkContainer_not cx (IOk_some.2 (IOk_Service.1 (hs.1.entry hkv)).2) _ _⟩

theorem jobPre_not (cx : Cx) {n : Job} (h : NS d n) : d ∉ jobPre cx n := by
  have hn := h.job
  simp only [jobPre, List.mem_append, not_or]
  exact ⟨⟨⟨⟨⟨⟨⟨⟨⟨⟨⟨⟨checkString_not cx hn.name _, checkStrings_not cx hn.needs _⟩, runsOnDiags_not cx hn.runsOn⟩,
    checkConcurrency_not cx hn.concurrency _⟩, checkEnv_not cx hn.env _⟩, checkDefaults_not cx hn.defaults _⟩,
    checkIfCondition_not cx hn.cond _⟩, strategyDiags_not cx hn.strategy⟩, checkBool_not cx hn.continueOnError _⟩,
    checkFloat_not cx hn.timeoutMinutes _⟩, checkContainer_not cx hn.container _ _⟩, servicesDiags_not cx hn.services⟩,
    checkWorkflowCall_not cx hn.workflowCall⟩

theorem jobPost_not (cx : Cx) {n : Job} (h : NS d n) : d ∉ jobPost cx n := by
  have hn := h.job
  refine List.not_mem_append ?_ (not_mem_flatMap fun kv hkv =>
    checkString_not cx (IOk_some.2 (IOk_Output.1 (hn.outputs.entry hkv)).2) _)
  split
  · rename_i e he
    have he' := IOk_Environment.1 (hn.environment.of_some he)
    exact List.not_mem_append (checkString_not cx he'.1 _) (checkString_not cx he'.2.1 _)
  · simp

theorem jobMatrix_not (cx : Cx) (isNum : IsNumber) {n : Job} (h : NS d n) : d ∉ (jobMatrix cx isNum n).2 := by
  unfold jobMatrix
  split
  · rename_i s hs
    split
    · rename_i m hm
      exact checkMatrix_not cx isNum (h.jobMatrix hs hm)
    · simp
  · simp

theorem visitJob_not (cx0 : Cx) (isNum : IsNumber) (jobs : List (String × Job)) {n : Job} (h : NS d n) :
    d ∉ visitJob cx0 isNum jobs n := by
  simp only [visitJob, List.mem_append, not_or]
  exact ⟨⟨⟨jobMatrix_not _ isNum h, jobPre_not _ h⟩, visitSteps_not _ _ (IOk_getD h.job.steps)⟩, jobPost_not _ h⟩

/-! ### events -/

theorem callInputs_not (cx : Cx) : ∀ (ins : List Ast.CallInput) (acc : List (String × Ty)), NS d ins →
    d ∉ (RuleExpr.callInputs cx acc ins).2
  | [], _, _ => by simp [RuleExpr.callInputs]
  | i :: rest, acc, h => by
    have hh := IOk_cons.1 h
    have hi := IOk_CallInput.1 hh.1
    have ih := callInputs_not cx rest (acc ++ [(i.id, callTy i.type)]) hh.2
    -- the type check of the default value reports at the default value
    have hat : ∀ dd, i.dflt = some dd → ∀ es, d ∉ at_ dd es := fun dd hd es =>
      at_not (AllI_str.1 (hi.2.2.1.of_some hd)) es
    simp only [RuleExpr.callInputs, List.mem_append, not_or]
    refine ⟨⟨⟨⟨checkString_not _ hi.2.1 _, checkBool_not _ hi.2.2.2 _⟩, checkStrU_not _ false hi.2.2.1 _⟩, ?_⟩, ih⟩
    split
    · rename_i hd
      simp only [hd]
      split
      · split
        · simp
        · simp
        · exact hat _ hd _
      · simp
    · rename_i hd
      simp only [hd]
      split
      · split
        · simp
        · simp
        · exact hat _ hd _
      · simp
    · simp
theorem filterDiags_not (cx : Cx) {x : Option Filter} (h : NS d x) : d ∉ filterDiags cx x := by
  cases x with
  | none => simp [filterDiags]
  | some f => exact checkStrings_not cx (IOk_Filter.1 (IOk_some.1 h)).2 _

theorem webhookDiags_not (cx : Cx) {e : WebhookEvent} (h : NS d e) : d ∉ webhookDiags cx e := by
  obtain ⟨_, h1, h2, h3, h4, h5, h6, h7, h8, _⟩ := IOk_WebhookEvent.1 h
  simp only [webhookDiags, List.mem_append, not_or]
  exact ⟨⟨⟨⟨⟨⟨⟨checkStrings_not cx h1 _, filterDiags_not cx h2⟩, filterDiags_not cx h3⟩, filterDiags_not cx h4⟩,
    filterDiags_not cx h5⟩, filterDiags_not cx h6⟩, filterDiags_not cx h7⟩, checkStrings_not cx h8 _⟩

theorem dispatchInputDiags_not (cx : Cx) {i : DispatchInput} (h : NS d i) : d ∉ dispatchInputDiags cx i := by
  obtain ⟨_, h1, h2, h3, h4⟩ := IOk_DispatchInput.1 h
  simp only [dispatchInputDiags, List.mem_append, not_or]
  exact ⟨⟨⟨checkString_not cx h1 _, checkString_not cx h3 _⟩, checkBool_not cx h2 _⟩, checkStrings_not cx h4 _⟩

theorem callSecretDiags_not (cx : Cx) {s : CallSecret} (h : NS d s) : d ∉ callSecretDiags cx s := by
  obtain ⟨_, h1, h2⟩ := IOk_CallSecret.1 h
  simp only [callSecretDiags, List.mem_append, not_or]
  exact ⟨checkString_not cx h1 _, checkBool_not cx h2 _⟩

theorem visitEvent_not (cx : Cx) {e : Ast.Event} (h : NS d e) : d ∉ (visitEvent cx e).2 := by
  cases e with
  | webhook e => exact webhookDiags_not cx (IOk_webhook.1 h)
  | schedule cron p => exact checkStrings_not cx (o := some cron) (IOk_some.2 (IOk_schedule.1 h).1) _
  | dispatch inputs p =>
    simp only [visitEvent]
    exact not_mem_flatMap fun kv hkv => dispatchInputDiags_not cx ((IOk_dispatch.1 h).1.entry hkv)
  | repoDispatch types p => exact checkStrings_not cx (IOk_repoDispatch.1 h).1 _
  | call inputs secrets outputs p =>
    obtain ⟨h1, h2, h3, _⟩ := IOk_call.1 h
    simp only [visitEvent, List.mem_append, not_or]
    refine ⟨⟨callInputs_not _ _ _ (IOk_getD h1), ?_⟩, ?_⟩
    · exact not_mem_flatMap fun kv hkv => callSecretDiags_not _ (h2.entry hkv)
    · exact not_mem_flatMap fun kv hkv => checkString_not _ (IOk_CallOutput.1 (h3.entry hkv)).2.1 _

theorem visitEvents_not : ∀ (es : List Ast.Event) (cx : Cx), NS d es → d ∉ (visitEvents cx es).2
  | [], _, _ => by simp [visitEvents]
  | e :: es, cx, h => by
    have := IOk_cons.1 h
    simp only [visitEvents, List.mem_append, not_or]
    exact ⟨visitEvent_not cx this.1, visitEvents_not es _ this.2⟩

theorem findCallOutputs_not : ∀ (es : List Ast.Event), NS d es → ∀ outs, findCallOutputs es = some outs → NS d outs :=
  findCallOutputs_all

/-- **the whole rule**: a diagnostic that sits at none of the strings of the workflow is not reported -/
theorem rule_not (lower : String → String) (isNum : IsNumber) (w : Workflow) (proj : ProjView) (h : NS d w) :
    d ∉ rule lower isNum w proj := by
  obtain ⟨hname, hrun, hon, _, henv, hdef, hconc, hjobs⟩ := IOk_Workflow.1 h
  have hon' : NS d (w.on.getD []) := IOk_getD hon
  simp only [rule, List.mem_append, not_or]
  refine ⟨⟨⟨⟨checkString_not _ hname _, visitEvents_not _ _ hon'⟩, ⟨⟨⟨checkString_not _ hrun _, checkEnv_not _ henv _⟩,
    checkDefaults_not _ hdef _⟩, checkConcurrency_not _ hconc _⟩⟩, ?_⟩, ?_⟩
  · exact not_mem_flatMap fun kv hkv => visitJob_not _ isNum _ (hjobs.entry hkv)
  · split
    · rename_i outs ho
      have houts := findCallOutputs_not _ hon' outs ho
      split
      · simp
      · exact not_mem_flatMap fun kv hkv =>
          checkString_not _ (IOk_CallOutput.1 (IOk_entry.1 (houts.mem hkv))).2.2 _
    · simp

end AL.C07S
