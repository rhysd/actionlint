import AL.Spec.ScriptScalars
import AL.Lemmas.C05DJob
/-
  Infrastructure for AL.Props.C11Doc ("untrusted-input reports, from the DOCUMENT"):

  * `parseString` and the TEXT of a node (`AL.C11D.text`, AL/Spec/ScriptScalars.lean): whatever the node, whatever `allowEmpty`, the `*String`
    `parseString` returns has the node's text and the node's position; it has a non-empty text only for a scalar node,
    and then it is `newString` of it;
  * `parseMapping` with `allowEmpty = false`, UNCONDITIONALLY (no "clean" hypothesis): the entry filed under an id is the
    one built from the FIRST pair whose key has that id (`mappingLoop_find`, `parseMapping_find`); every entry comes from a
    pair (`parseMapping_mem`);
  * the key loop, unconditionally: a field only the iteration of the id `k` writes — and that iteration either writes
    `f kv` or leaves it (`loop_field_opt`);
  * "clean" bridges from the readers of AL/Spec/ScriptScalars.lean (`entries`, `lookup`: by kind and text) to the readers
    of AL/Lemmas/ParseWfClean.lean (`mpair`, `mget`: over `pairs`, by value) — they agree on a node `parseMapping` accepts silently.
-/
namespace AL.C11D
open AL.PW AL.Yaml AL.Ast AL.C03P AL.C05D

/-! ### `parseString` and the text of a node -/

theorem text_scalar {n : Node} (h : n.kind = .scalar) : text n = n.value := by simp [text, h]

theorem text_not_scalar {n : Node} (h : n.kind ≠ .scalar) : text n = "" := by simp [text, h]

theorem text_ne_empty {n : Node} (h : text n ≠ "") : n.kind = .scalar ∧ text n = n.value := by
  by_cases hk : n.kind = .scalar
  · exact ⟨hk, text_scalar hk⟩
  · exact absurd (text_not_scalar hk) h

/-- **the `*String` `parseString` returns has the TEXT of the node** — the value of a scalar, nothing for a collection
(the placeholder) — whatever `allowEmpty` -/
theorem parseString_value (n : Node) (ae : Bool) : (parseString n ae).1.value = text n := by
  by_cases hk : n.kind = .scalar <;> by_cases he : n.value = "" <;> cases ae <;>
    simp [parseString, checkString, text, hk, he, newString]

theorem parseString_pos (n : Node) (ae : Bool) : (parseString n ae).1.pos = n.pos :=
  parseString_at n ae

/-- a `*String` with a text comes from a scalar node and is `newString` of it: text, quoting, position -/
theorem parseString_of_value_ne (n : Node) (ae : Bool) (h : (parseString n ae).1.value ≠ "") :
    n.kind = .scalar ∧ (parseString n ae).1 = newString n := by
  by_cases hk : n.kind = .scalar <;> by_cases he : n.value = "" <;> cases ae <;>
    simp_all [parseString, checkString, newString]

theorem newString_value (n : Node) : (newString n).value = n.value := rfl
theorem newString_pos (n : Node) : (newString n).pos = n.pos := rfl

/-- the id `parseMapping` files a key node under, by the node's text -/
theorem keyId_text (cfg : Cfg) (cs : Bool) (kn : Node) :
    keyId cfg cs kn = if cs then text kn else cfg.lower (text kn) := by
  simp only [keyId, parseString_value]

/-- the entry `parseMapping` builds from a pair, whatever the key node -/
def kvAt (cfg : Cfg) (cs : Bool) (p : Node × Node) : KV := ⟨keyId cfg cs p.1, (parseString p.1 false).1, p.2⟩

/-! ### `parseMapping`, unconditionally -/

/-- **the entry with the id `k` is the one built from the FIRST pair whose key has the id `k`** (later ones are reported
and dropped) -/
theorem mappingLoop_find (cfg : Cfg) (what : String) (cs : Bool) (k : String) :
    ∀ (l : List (Node × Node)) (seen : List (String × Yaml.Pos)), lookupSeen k seen = none →
      (mappingLoop cfg what cs l seen).1.find? (fun kv => kv.id = k) =
        (l.find? fun p => keyId cfg cs p.1 = k).map (kvAt cfg cs)
  | [], _, _ => by simp [mappingLoop]
  | (kn, vn) :: rest, seen, hs => by
    rw [mappingLoop_cons]
    by_cases hk : keyId cfg cs kn = k
    · rw [hk, hs]
      simp only [List.find?_cons, hk, decide_true, Option.map_some, kvAt]
    · cases hl : lookupSeen (keyId cfg cs kn) seen with
      | some pos =>
        simp only [List.find?_cons, hk, decide_false]
        exact mappingLoop_find cfg what cs k rest seen hs
      | none =>
        simp only [List.find?_cons, hk, decide_false]
        exact mappingLoop_find cfg what cs k rest _ (by rw [lookupSeen_snoc_ne _ _ hk]; exact hs)

theorem mappingLoop_mem (cfg : Cfg) (what : String) (cs : Bool) :
    ∀ (l : List (Node × Node)) (seen : List (String × Yaml.Pos)),
      ∀ kv ∈ (mappingLoop cfg what cs l seen).1, ∃ p ∈ l, kv = kvAt cfg cs p := fun l seen kv h => by
  obtain ⟨q, hq, h1, h2, h3⟩ := mappingLoop_ids cfg what cs l seen kv h
  refine ⟨q, hq, ?_⟩
  cases kv
  cases h1
  cases h2
  cases h3
  rfl

/-- what `parseMapping` hands out where the mapping must not be empty: the loop over the pairs of a mapping node, nothing
for any other node -/
theorem parseMapping_fst (cfg : Cfg) (what : String) (n : Node) (cs : Bool) :
    (parseMapping cfg what n false cs).1 = (mappingLoop cfg what cs (entries n) []).1 := by
  by_cases hk : n.kind = .mapping
  · have hn : n.isNull = false := by simp [Node.isNull, hk]
    simp [parseMapping, entries, hk, hn]
  · simp only [parseMapping, entries, hk, ↓reduceIte]
    cases hn : n.isNull <;> simp [hk, mappingLoop]

/-- **`parseMapping` with `allowEmpty = false`, whatever the node: the entry with the id `k` comes from the first pair of
the node whose key has that id** -/
theorem parseMapping_find (cfg : Cfg) (what : String) (n : Node) (cs : Bool) (k : String) :
    (parseMapping cfg what n false cs).1.find? (fun kv => kv.id = k) =
      ((entries n).find? fun p => keyId cfg cs p.1 = k).map (kvAt cfg cs) := by
  rw [parseMapping_fst]
  exact mappingLoop_find cfg what cs k _ [] rfl

/-- every entry comes from a pair of the node (`allowEmpty = false`) -/
theorem parseMapping_mem (cfg : Cfg) (what : String) (n : Node) (cs : Bool) :
    ∀ kv ∈ (parseMapping cfg what n false cs).1, ∃ p ∈ entries n, kv = kvAt cfg cs p := by
  rw [parseMapping_fst]
  exact mappingLoop_mem cfg what cs _ []

/-- the value `parseMapping` files under the id `k` of a case-sensitive mapping is `lookup n k` -/
theorem parseMapping_find_cs (cfg : Cfg) (what : String) (n : Node) (k : String) :
    ((parseMapping cfg what n false true).1.find? (fun kv => kv.id = k)).map (·.val) = lookup n k := by
  rw [parseMapping_find]
  simp only [lookup, keyId_text, ↓reduceIte, Option.map_map]
  rfl

/-- the value `parseMapping` files under the id `k` of a case-insensitive mapping is `lookupFolded cfg.lower n k` -/
theorem parseMapping_find_ci (cfg : Cfg) (what : String) (n : Node) (k : String) :
    ((parseMapping cfg what n false false).1.find? (fun kv => kv.id = k)).map (·.val) = lookupFolded cfg.lower n k := by
  rw [parseMapping_find]
  simp only [lookupFolded, keyId_text, Bool.false_eq_true, ↓reduceIte, Option.map_map]
  rfl

/-! ### lists with pairwise distinct ids -/

/-- among pairwise distinct ids, the entries with the id `k` are the entry `find?` finds -/
theorem filter_eq_find?_toList {α : Type} (id : α → String) (k : String) : ∀ (l : List α), (l.map id).Nodup →
    l.filter (fun x => id x = k) = (l.find? (fun x => id x = k)).toList
  | [], _ => rfl
  | x :: rest, hnd => by
    simp only [List.map_cons, List.nodup_cons, List.mem_map, not_exists, not_and] at hnd
    by_cases hx : id x = k
    · have : rest.filter (fun y => id y = k) = [] := by
        apply List.filter_eq_nil_iff.2
        intro y hy
        simp only [decide_eq_true_eq]
        intro e
        exact hnd.1 y hy (by rw [e, hx])
      simp [hx, this]
    · simp only [List.filter_cons, hx, decide_false, Bool.false_eq_true, ↓reduceIte, List.find?_cons]
      exact filter_eq_find?_toList id k rest hnd.2

/-! ### the key loop, unconditionally -/

variable {σ τ : Type}

/-- **a field of the loop state that only the iteration of the id `k` touches — and that iteration writes `f kv` or leaves
it** (e.g. `run:` of a step: refused after `uses:`): after the loop it is what it was, or `f` of an entry with that id -/
theorem loop_field_opt (step : σ → KV → σ × List PErr) (π : σ → τ) (k : String) (f : KV → τ)
    (hne : ∀ st kv, kv.id ≠ k → π (step st kv).1 = π st)
    (heq : ∀ st kv, kv.id = k → π (step st kv).1 = f kv ∨ π (step st kv).1 = π st) :
    ∀ (kvs : List KV) (init : σ),
      π (loop step init kvs).1 = π init ∨ ∃ kv ∈ kvs, kv.id = k ∧ π (loop step init kvs).1 = f kv := fun kvs init =>
  loop_invariant step (fun s => π s = π init ∨ ∃ kv ∈ kvs, kv.id = k ∧ π s = f kv) kvs
    (fun s kv hm hp => by
      by_cases hx : kv.id = k
      · rcases heq s kv hx with h' | h'
        · exact Or.inr ⟨kv, hm, hx, h'⟩
        · rw [h']
          exact hp
      · rw [hne s kv hx]
        exact hp) init (Or.inl rfl)

/-- the same after `parseMapping`: the entry is the one `find?` finds -/
theorem sect_field_opt (cfg : Cfg) (what : String) (n : Node) (cs : Bool) (step : σ → KV → σ × List PErr) (init : σ)
    (π : σ → τ) (k : String) (f : KV → τ)
    (hne : ∀ st kv, kv.id ≠ k → π (step st kv).1 = π st)
    (heq : ∀ st kv, kv.id = k → π (step st kv).1 = f kv ∨ π (step st kv).1 = π st) :
    π (loop step init (parseMapping cfg what n false cs).1).1 = π init ∨
    ∃ kv, (parseMapping cfg what n false cs).1.find? (fun kv => kv.id = k) = some kv ∧
      π (loop step init (parseMapping cfg what n false cs).1).1 = f kv := by
  rcases loop_field_opt step π k f hne heq (parseMapping cfg what n false cs).1 init with h | ⟨kv, hm, hk, e⟩
  · exact Or.inl h
  · exact Or.inr ⟨kv, find?_of_mem_nodup (·.id) k _ (parseMapping_nodup cfg what n false cs) kv hm hk, e⟩

/-- a field EVERY iteration of the id `k` writes, after `parseMapping` (unconditional form of `AL.C05D.sect_field`) -/
theorem sect_field_find (cfg : Cfg) (what : String) (n : Node) (cs : Bool) (step : σ → KV → σ × List PErr) (init : σ)
    (π : σ → τ) (k : String) (f : KV → τ)
    (hne : ∀ st kv, kv.id ≠ k → π (step st kv).1 = π st)
    (heq : ∀ st kv, kv.id = k → π (step st kv).1 = f kv) :
    π (loop step init (parseMapping cfg what n false cs).1).1 =
      match (parseMapping cfg what n false cs).1.find? (fun kv => kv.id = k) with
      | some kv => f kv
      | none => π init :=
  loop_field step π k f hne heq _ init (parseMapping_nodup cfg what n false cs)

/-! ### clean bridges: the two families of readers agree on what `parseMapping` accepts -/

theorem mappingLoop_clean_keys (cfg : Cfg) (what : String) (cs : Bool) :
    ∀ (l : List (Node × Node)) (seen : List (String × Yaml.Pos)), (mappingLoop cfg what cs l seen).2 = [] →
      ∀ p ∈ l, p.1.kind = .scalar :=
  fun l seen h p hp => ((mappingLoop_silent cfg what cs l seen h).2 p hp).1

/-- a node `parseMapping` accepts silently where the mapping must not be empty: a mapping whose keys are scalars -/
theorem parseMapping_clean_keys (cfg : Cfg) (what : String) (n : Node) (cs : Bool)
    (h : (parseMapping cfg what n false cs).2 = []) :
    n.kind = .mapping ∧ entries n = pairs n.content ∧ ∀ p ∈ pairs n.content, p.1.kind = .scalar := by
  obtain ⟨-, -, -, hkeys, hne⟩ := parseMapping_silent cfg what n false cs h
  exact ⟨(hne rfl).1, by simp [entries, (hne rfl).1], fun p hp => (hkeys p hp).1⟩

theorem find?_congr_mem {α : Type} {p q : α → Bool} : ∀ {l : List α}, (∀ a ∈ l, p a = q a) → l.find? p = l.find? q
  | [], _ => rfl
  | x :: rest, h => by
    simp only [List.find?_cons, h x (List.mem_cons_self ..)]
    cases q x
    · exact find?_congr_mem fun a ha => h a (List.mem_cons_of_mem _ ha)
    · rfl

/-- on such a node `lookup` (by kind and text) is `mget` (by value) -/
theorem lookup_eq_mget (cfg : Cfg) (what : String) (n : Node) (cs : Bool) (h : (parseMapping cfg what n false cs).2 = [])
    (k : String) : lookup n k = mget n k := by
  obtain ⟨_, he, hs⟩ := parseMapping_clean_keys cfg what n cs h
  simp only [lookup, mget, mpair, he]
  congr 1
  exact find?_congr_mem fun p hp => by rw [text_scalar (hs p hp)]

/-- on such a node the keys are pairwise distinct (as ids), so EVERY pair is the one `find?` finds under its id -/
theorem find?_of_mem_clean (cfg : Cfg) (what : String) (n : Node) (cs : Bool) (h : (parseMapping cfg what n false cs).2 = [])
    (idf : Node → String) (hid : ∀ p ∈ pairs n.content, idf p.1 = keyOf cfg cs p.1) (p : Node × Node) (hp : p ∈ entries n) :
    (entries n).find? (fun q => idf q.1 = idf p.1) = some p := by
  obtain ⟨_, he, _⟩ := parseMapping_clean_keys cfg what n cs h
  have hnd := (parseMapping_silent cfg what n false cs h).2.2.1
  rw [List.map_map] at hnd
  rw [he] at hp ⊢
  refine find?_of_mem_nodup (fun q : Node × Node => idf q.1) (idf p.1) _ ?_ p hp rfl
  have : (pairs n.content).map (fun q => idf q.1) = (pairs n.content).map ((fun kv : KV => kv.id) ∘ kvOf cfg cs) :=
    List.map_congr_left fun q hq => by simp [kvOf, hid q hq]
  rw [this]
  exact hnd

/-- in a mapping of fixed keys `parseMapping` accepts, the value of EVERY pair is what `lookup` finds under its key -/
theorem lookup_of_mem_clean (cfg : Cfg) (what : String) (n : Node) (h : (parseMapping cfg what n false true).2 = [])
    (p : Node × Node) (hp : p ∈ entries n) : lookup n (text p.1) = some p.2 := by
  obtain ⟨_, _, hs⟩ := parseMapping_clean_keys cfg what n true h
  have := find?_of_mem_clean cfg what n true h text (fun q hq => by simp [keyOf, text_scalar (hs q hq)]) p hp
  simp only [lookup, this, Option.map_some]

theorem lookupFolded_of_mem_clean (cfg : Cfg) (what : String) (n : Node) (h : (parseMapping cfg what n false false).2 = [])
    (p : Node × Node) (hp : p ∈ entries n) : lookupFolded cfg.lower n (cfg.lower (text p.1)) = some p.2 := by
  obtain ⟨_, _, hs⟩ := parseMapping_clean_keys cfg what n false h
  have := find?_of_mem_clean cfg what n false h (fun kn => cfg.lower (text kn))
    (fun q hq => by simp [keyOf, text_scalar (hs q hq)]) p hp
  simp only [lookupFolded, this, Option.map_some]

end AL.C11D
