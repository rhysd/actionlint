import AL.Model.ParseStep
/-
  Helper lemmas for AL.Props.C03Step: the state of the `parseStep` loop after a prefix `l` of distinct known keys is a
  closed-form function of the lookups in `l` (`invS` for script steps, `invA` for action steps; both are `base`, the
  fields of the keys every step may have, around their own `exec` and `workDir`); the diagnostics list is carried
  along untouched by the known keys.
-/
namespace AL.ParseStep

/-- first value stored under key `k` -/
def get (k : String) : List (String × V) → Option V
  | [] => none
  | (k', v) :: rest => if k' = k then some v else get k rest

@[simp] theorem get_nil (k : String) : get k [] = none := rfl

theorem get_cons (k k' : String) (v : V) (l : List (String × V)) :
    get k ((k', v) :: l) = if k' = k then some v else get k l := rfl

theorem get_append (k : String) (l m : List (String × V)) :
    get k (l ++ m) = (get k l).or (get k m) := by
  induction l with
  | nil => simp
  | cons kv l ih =>
    obtain ⟨k', v⟩ := kv
    by_cases h : k' = k <;> simp [get_cons, h, ih]

theorem get_eq_none_of_not_mem {k : String} {l : List (String × V)} (h : k ∉ l.map (·.1)) : get k l = none := by
  induction l with
  | nil => rfl
  | cons kv l ih =>
    obtain ⟨k', v⟩ := kv
    simp only [List.map_cons, List.mem_cons, not_or] at h
    rw [get_cons, if_neg (fun e => h.1 e.symm), ih h.2]

theorem get_snoc_ne {k k' : String} (v : V) (l : List (String × V)) (h : k' ≠ k) :
    get k (l ++ [(k', v)]) = get k l := by
  simp [get_append, get_cons, h]

theorem get_snoc_self {k : String} (v : V) {l : List (String × V)} (h : get k l = none) :
    get k (l ++ [(k, v)]) = some v := by
  simp [get_append, get_cons, h]

theorem get_eq_some_iff {k : String} {v : V} {l : List (String × V)} (nd : (l.map (·.1)).Nodup) :
    get k l = some v ↔ (k, v) ∈ l := by
  induction l with
  | nil => simp
  | cons kv l ih =>
    obtain ⟨k', v'⟩ := kv
    simp only [List.map_cons, List.nodup_cons] at nd
    rw [get_cons]
    by_cases h : k' = k
    · subst h
      have : (k', v) ∉ l := fun hm => nd.1 (List.mem_map.2 ⟨_, hm, rfl⟩)
      simp [this, eq_comm]
    · have h' : ¬ k = k' := fun e => h e.symm
      simp [h, h', ih nd.2]

theorem get_perm {l l' : List (String × V)} (p : l.Perm l') (nd : (l.map (·.1)).Nodup) (k : String) :
    get k l' = get k l := by
  have nd' : (l'.map (·.1)).Nodup := (p.map _).nodup_iff.1 nd
  apply Option.ext
  intro v
  rw [get_eq_some_iff nd, get_eq_some_iff nd', p.mem_iff]


def commonKnown : List String := ["id", "if", "name", "env", "continue-on-error", "timeout-minutes"]
def scriptKnown : List String := commonKnown ++ ["run", "shell", "working-directory"]
def actionKnown : List String := commonKnown ++ ["uses", "with"]

variable (ds : List Diag) (l : List (String × V)) (k : String) (v : V)

theorem stepKey_unknown (st : St) (hk : k ∉ scriptKnown ++ ["uses", "with"]) :
    stepKey st (k, v) = { st with diags := st.diags ++ [.unexpectedKey k] } := by
  simp only [scriptKnown, commonKnown, List.cons_append, List.nil_append, List.mem_cons, List.not_mem_nil,
    or_false, not_or] at hk
  obtain ⟨h1, h2, h3, h4, h5, h6, h7, h8, h9, h10, h11⟩ := hk
  simp [stepKey, *]

theorem not_mem_of_nodup_append_cons {l m : List (String × V)} {kv : String × V}
    (nd : ((l ++ kv :: m).map (·.1)).Nodup) : kv.1 ∉ l.map (·.1) := by
  simp only [List.map_append, List.map_cons, List.nodup_append, List.mem_cons, List.nodup_cons] at nd
  intro hm
  exact nd.2.2 _ hm _ (Or.inl rfl) rfl

/-- a closed form `inv` that every fresh key of `K` extends describes the loop over distinct keys of `K` -/
theorem foldl_inv {inv : List (String × V) → St} {K : List String}
    (hstep : ∀ l k v, k ∈ K → get k l = none → stepKey (inv l) (k, v) = inv (l ++ [(k, v)]))
    (m : List (String × V)) :
    ∀ l, (∀ kv ∈ m, kv.1 ∈ K) → ((l ++ m).map (·.1)).Nodup → m.foldl stepKey (inv l) = inv (l ++ m) := by
  induction m with
  | nil => intro l _ _; simp
  | cons kv m ih =>
    intro l hk nd
    obtain ⟨k, v⟩ := kv
    have hn : get k l = none := get_eq_none_of_not_mem (not_mem_of_nodup_append_cons nd)
    have e : l ++ (k, v) :: m = (l ++ [(k, v)]) ++ m := by simp
    rw [List.foldl_cons, hstep l k v (hk _ (List.mem_cons_self ..)) hn, e]
    exact ih _ (fun kv h => hk kv (List.mem_cons_of_mem _ h)) (e ▸ nd)


/-- the step whose common fields are the lookups in `l` -/
def stepOf (e : Exec) : Step :=
  { id := get "id" l, cond := get "if" l, name := get "name" l, env := get "env" l,
    continueOnError := get "continue-on-error" l, timeoutMinutes := get "timeout-minutes" l, exec := e }

/-- loop state around a given `exec` and `workDir` -/
def base (e : Exec) (w : Option V) : St := { step := stepOf l e, workDir := w, diags := ds }

theorem stepKey_base (e : Exec) (w : Option V) (hk : k ∈ commonKnown) (hn : get k l = none) :
    stepKey (base ds l e w) (k, v) = base ds (l ++ [(k, v)]) e w := by
  simp only [commonKnown, List.mem_cons, List.not_mem_nil, or_false] at hk
  rcases hk with rfl | rfl | rfl | rfl | rfl | rfl <;>
    simp [stepKey, base, stepOf, get_snoc_ne, get_snoc_self _ hn]

theorem base_snoc (e : Exec) (w : Option V) (hk : k ∉ commonKnown) :
    base ds (l ++ [(k, v)]) e w = base ds l e w := by
  simp only [commonKnown, List.mem_cons, List.not_mem_nil, or_false, not_or] at hk
  simp [base, stepOf, get_snoc_ne, hk]

/-- a common key is none of the keys an `exec` is built from, so their lookups do not see it -/
theorem get_snoc_common (hc : k ∈ commonKnown) {k' : String}
    (hk' : k' ∈ ["run", "shell", "working-directory", "uses", "with"]) : get k' (l ++ [(k, v)]) = get k' l := by
  refine get_snoc_ne v l (ne_of_mem_of_not_mem hk' ?_).symm
  simp only [commonKnown, List.mem_cons, List.not_mem_nil, or_false] at hc
  rcases hc with rfl | rfl | rfl | rfl | rfl | rfl <;> simp

/-! ### script steps -/

def execS : Exec :=
  if (get "run" l).isSome || (get "shell" l).isSome then
    .run (get "run" l) (get "shell" l) (get "working-directory" l)
  else .none

/-- loop state after the distinct script-step keys `l`, with diagnostics `ds` reported so far -/
def invS : St := base ds l (execS l) (get "working-directory" l)

theorem invS_nil : invS [] [] = {} := rfl

theorem stepKey_invS (hk : k ∈ scriptKnown) (hn : get k l = none) :
    stepKey (invS ds l) (k, v) = invS ds (l ++ [(k, v)]) := by
  rcases List.mem_append.1 hk with hc | hs
  · rw [invS, stepKey_base ds l k v _ _ hc hn, invS, execS, execS, get_snoc_common l k v hc (by simp),
      get_snoc_common l k v hc (by simp), get_snoc_common l k v hc (by simp)]
  · simp only [List.mem_cons, List.not_mem_nil, or_false] at hs
    rcases hs with rfl | rfl | rfl
    · rw [invS, invS, base_snoc _ _ _ _ _ _ (by simp [commonKnown])]
      cases hs : get "shell" l <;> simp [stepKey, base, stepOf, execS, get_snoc_ne, get_snoc_self _ hn, hn, hs]
    · rw [invS, invS, base_snoc _ _ _ _ _ _ (by simp [commonKnown])]
      cases hr : get "run" l <;> simp [stepKey, base, stepOf, execS, get_snoc_ne, get_snoc_self _ hn, hn, hr]
    · rw [invS, invS, base_snoc _ _ _ _ _ _ (by simp [commonKnown])]
      cases hs : get "shell" l <;> cases hr : get "run" l <;>
        simp [stepKey, base, stepOf, execS, get_snoc_ne, get_snoc_self _ hn, hs, hr]

theorem finish_invS (hr : (get "run" l).isSome) :
    finish (invS ds l) = (stepOf l (.run (get "run" l) (get "shell" l) (get "working-directory" l)), ds) := by
  cases h : get "run" l <;> simp_all [finish, invS, base, stepOf, execS]

theorem parseStep_script (nd : (l.map (·.1)).Nodup) (hk : ∀ kv ∈ l, kv.1 ∈ scriptKnown)
    (hr : (get "run" l).isSome) :
    parseStep l = (stepOf l (.run (get "run" l) (get "shell" l) (get "working-directory" l)), []) := by
  have := foldl_inv (stepKey_invS []) l [] hk (by simpa using nd)
  rw [invS_nil, List.nil_append] at this
  rw [parseStep, this, finish_invS [] l hr]

theorem parseStep_script_unknown (pre post : List (String × V)) (hu : k ∉ scriptKnown ++ ["uses", "with"])
    (nd : ((pre ++ post).map (·.1)).Nodup)
    (hk : ∀ kv ∈ pre ++ post, kv.1 ∈ scriptKnown) (hr : (get "run" (pre ++ post)).isSome) :
    parseStep (pre ++ (k, v) :: post) = ((parseStep (pre ++ post)).1, [.unexpectedKey k]) := by
  have hpre := foldl_inv (stepKey_invS []) pre []
    (fun kv h => hk kv (List.mem_append_left _ h))
    (by
      have : ((pre ++ post).map (·.1)) = pre.map (·.1) ++ post.map (·.1) := by simp
      rw [this] at nd
      simpa using (List.nodup_append.1 nd).1)
  rw [invS_nil, List.nil_append] at hpre
  have hpost := foldl_inv (stepKey_invS [Diag.unexpectedKey k]) post pre
    (fun kv h => hk kv (List.mem_append_right _ h)) nd
  have hstep : stepKey (invS [] pre) (k, v) = invS [Diag.unexpectedKey k] pre := stepKey_unknown k v _ hu
  rw [parseStep_script _ nd hk hr]
  rw [parseStep, List.foldl_append, List.foldl_cons, hpre, hstep, hpost, finish_invS _ _ hr]

/-! ### action steps -/

def execA : Exec :=
  if (get "uses" l).isSome || (get "with" l).isSome then .action (get "uses" l) (get "with" l) else .none

def invA : St := base ds l (execA l) none

theorem invA_nil : invA [] [] = {} := rfl

theorem stepKey_invA (hk : k ∈ actionKnown) (hn : get k l = none) :
    stepKey (invA ds l) (k, v) = invA ds (l ++ [(k, v)]) := by
  rcases List.mem_append.1 hk with hc | hs
  · rw [invA, stepKey_base ds l k v _ _ hc hn, invA, execA, execA, get_snoc_common l k v hc (by simp),
      get_snoc_common l k v hc (by simp)]
  · simp only [List.mem_cons, List.not_mem_nil, or_false] at hs
    rcases hs with rfl | rfl
    · rw [invA, invA, base_snoc _ _ _ _ _ _ (by simp [commonKnown])]
      cases hw : get "with" l <;> simp [stepKey, base, stepOf, execA, get_snoc_ne, get_snoc_self _ hn, hn, hw]
    · rw [invA, invA, base_snoc _ _ _ _ _ _ (by simp [commonKnown])]
      cases hu : get "uses" l <;> simp [stepKey, base, stepOf, execA, get_snoc_ne, get_snoc_self _ hn, hn, hu]

theorem finish_invA (hr : (get "uses" l).isSome) :
    finish (invA ds l) = (stepOf l (.action (get "uses" l) (get "with" l)), ds) := by
  cases h : get "uses" l <;> simp_all [finish, invA, base, stepOf, execA]

theorem parseStep_action (nd : (l.map (·.1)).Nodup) (hk : ∀ kv ∈ l, kv.1 ∈ actionKnown)
    (hr : (get "uses" l).isSome) :
    parseStep l = (stepOf l (.action (get "uses" l) (get "with" l)), []) := by
  have := foldl_inv (stepKey_invA []) l [] hk (by simpa using nd)
  rw [invA_nil, List.nil_append] at this
  rw [parseStep, this, finish_invA [] l hr]

end AL.ParseStep
