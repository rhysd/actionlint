import AL.Lemmas.ParseWfLoop
/-
  The list parsers of parse.go (`parseStrings`, `stepsOf`, `callInputs`, `mapKVs`; `rawSeq`, `matrixAssigns`, `scheduleItems`,
  `matrixCombos`, which leave out the elements that come back nil) are one traversal: each element yields a result and
  diagnostics, the results are collected, the diagnostics concatenated. With the equations `stepsOf cfg = mapR (parseStep cfg)` …
  a fact about one of them is a fact about `List.map` / `List.filterMap` / `List.flatMap` and needs no induction of its own:
  what the pass does around one element is `mapR_at` / `filterMapR_at`, and a key loop whose body appends what it makes of
  the entry is such a pass (`loop_snoc_eq_mapR` / `loop_snoc_eq_filterMapR`).
  (`eventsOfSeq` has no equation here: its element step has five branches and one lemma per cluster.)
  `rawProps`, the model's one-pass copy of `parseMapping` followed by the value loop, is put in that form as well.
  Where the model writes the element step inline it is named here: `matrixAssign`, `rawProp`, and in namespace `AL.C13D3`
  `scheduleItem`, `matrixCombo`.
-/
namespace AL.PW
open AL.Yaml AL.Ast

variable {α β : Type}

/-- one pass over a list with a parser that reports: the results, the diagnostics in order -/
def mapR (f : α → R β) (l : List α) : R (List β) := (l.map fun a => (f a).1, l.flatMap fun a => (f a).2)

theorem mapR_fst (f : α → R β) (l : List α) : (mapR f l).1 = l.map fun a => (f a).1 := rfl

theorem mapR_silent {f : α → R β} {l : List α} : (mapR f l).2 = [] ↔ ∀ a ∈ l, (f a).2 = [] := List.flatMap_eq_nil_iff

theorem mapR_append (f : α → R β) (a b : List α) :
    mapR f (a ++ b) = ((mapR f a).1 ++ (mapR f b).1, (mapR f a).2 ++ (mapR f b).2) := by
  simp only [mapR, List.map_append, List.flatMap_append]

/-- one pass around one element -/
theorem mapR_at (f : α → R β) (a b : List α) (x : α) :
    mapR f (a ++ x :: b) = seqR (mapR f a) fun A => seqR (f x) fun y => seqR (mapR f b) fun B => (A ++ y :: B, []) := by
  simp only [mapR, seqR, List.map_append, List.map_cons, List.flatMap_append, List.flatMap_cons, List.append_nil]

/-- a key loop whose body appends what it makes of the entry is the pass with that parser -/
theorem loop_snoc_eq_mapR (f : KV → R β) {step : List β → KV → R (List β)}
    (h : ∀ st kv, step st kv = (st ++ [(f kv).1], (f kv).2)) (kvs : List KV) :
    ∀ acc : List β, loop step acc kvs = (acc ++ (mapR f kvs).1, (mapR f kvs).2) := by
  induction kvs with
  | nil =>
    intro acc
    simp [mapR]
  | cons kv rest ih =>
    intro acc
    rw [loop_cons, ih, h]
    simp [mapR]

/-- how the `…_mapR` equations below are proved: a function that satisfies the recursion equations of the model's list
parsers is `mapR f` -/
theorem eq_mapR (f : α → R β) (F : List α → R (List β)) (h0 : F [] = ([], []))
    (hc : ∀ a l, F (a :: l) = ((f a).1 :: (F l).1, (f a).2 ++ (F l).2)) : ∀ l, F l = mapR f l
  | [] => h0
  | a :: l => by
    rw [hc, eq_mapR f F h0 hc l]
    rfl

theorem stepsOf_mapR (cfg : Cfg) : stepsOf cfg = mapR (parseStep cfg) := funext (eq_mapR _ _ rfl fun _ _ => rfl)

theorem parseStrings_mapR (ae : Bool) : parseStrings ae = mapR (parseString · ae) := funext (eq_mapR _ _ rfl fun _ _ => rfl)

theorem callInputs_mapR (cfg : Cfg) : callInputs cfg = mapR (callInput cfg) := funext (eq_mapR _ _ rfl fun _ _ => rfl)

theorem mapKVs_mapR {γ : Type} (f : KV → R γ) : mapKVs f = mapR (fun kv => ((kv.id, (f kv).1), (f kv).2)) :=
  funext (eq_mapR _ _ rfl fun _ _ => rfl)

/-! ### elements that yield nothing are left out -/

/-- one pass with a parser that may yield nothing for an element (nil in parse.go) -/
def filterMapR (f : α → R (Option β)) (l : List α) : R (List β) := (l.filterMap fun a => (f a).1, l.flatMap fun a => (f a).2)

theorem filterMapR_fst (f : α → R (Option β)) (l : List α) : (filterMapR f l).1 = l.filterMap fun a => (f a).1 := rfl

theorem filterMapR_silent {f : α → R (Option β)} {l : List α} : (filterMapR f l).2 = [] ↔ ∀ a ∈ l, (f a).2 = [] :=
  List.flatMap_eq_nil_iff

theorem filterMapR_at (f : α → R (Option β)) (a b : List α) (x : α) :
    filterMapR f (a ++ x :: b) =
      seqR (filterMapR f a) fun A => seqR (f x) fun y => seqR (filterMapR f b) fun B => (A ++ y.toList ++ B, []) := by
  simp only [filterMapR, seqR, List.filterMap_append, List.filterMap_cons, List.flatMap_append, List.flatMap_cons, List.append_nil,
    List.append_assoc]
  cases (f x).1 <;> rfl

theorem loop_snoc_eq_filterMapR (f : KV → R (Option β)) {step : List β → KV → R (List β)}
    (h : ∀ st kv, step st kv = (st ++ (f kv).1.toList, (f kv).2)) (kvs : List KV) :
    ∀ acc : List β, loop step acc kvs = (acc ++ (filterMapR f kvs).1, (filterMapR f kvs).2) := by
  induction kvs with
  | nil =>
    intro acc
    simp [filterMapR]
  | cons kv rest ih =>
    intro acc
    rw [loop_cons, ih, h]
    cases hx : (f kv).1 <;> simp [filterMapR, hx]

theorem eq_filterMapR (f : α → R (Option β)) (F : List α → R (List β)) (h0 : F [] = ([], []))
    (hc : ∀ a l, F (a :: l) = ((match (f a).1 with | some x => x :: (F l).1 | none => (F l).1), (f a).2 ++ (F l).2)) :
    ∀ l, F l = filterMapR f l
  | [] => h0
  | a :: l => by
    rw [hc, eq_filterMapR f F h0 hc l]
    simp only [filterMapR, List.filterMap_cons, List.flatMap_cons]
    cases (f a).1 <;> rfl

theorem rawSeq_filterMapR (cfg : Cfg) : rawSeq cfg = filterMapR (rawValue cfg) :=
  funext (eq_filterMapR _ _ (by rw [rawSeq]) fun c cs => by
    rw [rawSeq]
    cases (rawValue cfg c).1 <;> rfl)

/-- what `matrixAssigns` makes of one entry -/
def matrixAssign (cfg : Cfg) (kv : KV) : R (Option (String × MatrixAssign)) :=
  ((rawValue cfg kv.val).1.map fun x => (kv.id, ⟨kv.key, x⟩), (rawValue cfg kv.val).2)

theorem matrixAssigns_filterMapR (cfg : Cfg) : matrixAssigns cfg = filterMapR (matrixAssign cfg) :=
  funext (eq_filterMapR _ _ rfl fun kv l => by
    simp only [matrixAssigns, matrixAssign]
    cases (rawValue cfg kv.val).1 <;> rfl)

end AL.PW

namespace AL.C13D3
open AL.PW AL.Yaml AL.Ast

/-- one element of the `schedule:` sequence; `none` = reported and dropped -/
def scheduleItem (cfg : Cfg) (c : Node) : R (Option Str) :=
  let m := parseMapping cfg "element of \"schedule\" section" c false true
  match m.1 with
  | [kv] =>
    if kv.id ≠ "cron" then (none, m.2 ++ [errAt c "schedule-element" []])
    else
      let s := parseString kv.val false
      (some s.1, m.2 ++ s.2)
  | _ => (none, m.2 ++ [errAt c "schedule-element" []])

/-- one element of `include:` / `exclude:`; `none` = a scalar that is not a placeholder (reported and dropped) -/
def matrixCombo (cfg : Cfg) (sec : String) (c : Node) : R (Option MatrixCombination) :=
  if c.kind = .scalar then
    let e := parseExpression c "mapping of matrix combination"
    (match e.1 with | some s => some ⟨none, some s⟩ | none => none, e.2)
  else
    let m := parseMapping cfg ("element in \"" ++ sec ++ "\" section") c false false
    let a := matrixAssigns cfg m.1
    (some ⟨some a.1, none⟩, m.2 ++ a.2)

end AL.C13D3

namespace AL.PW
open AL.Yaml AL.Ast
open AL.C13D3 (scheduleItem matrixCombo)

theorem scheduleItems_filterMapR (cfg : Cfg) : scheduleItems cfg = filterMapR (scheduleItem cfg) :=
  funext (eq_filterMapR _ _ rfl fun c cs => by
    simp only [scheduleItems, scheduleItem]
    generalize parseMapping cfg "element of \"schedule\" section" c false true = m
    obtain ⟨kvs, es⟩ := m
    cases kvs with
    | nil => simp
    | cons kv rest =>
      cases rest with
      | nil => by_cases hk : kv.id = "cron" <;> simp [hk]
      | cons _ _ => simp)

theorem matrixCombos_filterMapR (cfg : Cfg) (sec : String) : matrixCombos cfg sec = filterMapR (matrixCombo cfg sec) :=
  funext (eq_filterMapR _ _ rfl fun c cs => by
    simp only [matrixCombos, matrixCombo]
    by_cases hk : c.kind = .scalar
    · simp only [hk, ↓reduceIte]
      cases (parseExpression c "mapping of matrix combination").1 <;> rfl
    · simp only [hk, ↓reduceIte, List.append_assoc])

/-- what the value loop of `parseRawYAMLValue` makes of one entry of an object -/
def rawProp (cfg : Cfg) (kv : KV) : R (Option (String × Raw)) :=
  ((rawValue cfg kv.val).1.map fun x => (kv.id, x), (rawValue cfg kv.val).2)

/-- `rawProps` is the key loop of a case-insensitive `parseMapping` over the pairs, then the value loop over its entries -/
theorem rawProps_pairs (cfg : Cfg) : ∀ (cs : List Node) (seen : List (String × Pos)),
    rawProps cfg cs seen =
      ((filterMapR (rawProp cfg) (mappingLoop cfg "matrix row value" false (pairs cs) seen).1).1,
       ((mappingLoop cfg "matrix row value" false (pairs cs) seen).2,
        (filterMapR (rawProp cfg) (mappingLoop cfg "matrix row value" false (pairs cs) seen).1).2))
  | [], _ => by simp [rawProps, pairs, mappingLoop, filterMapR]
  | [_], _ => by simp [rawProps, pairs, mappingLoop, filterMapR]
  | kn :: vn :: rest, seen => by
    simp only [pairs, rawProps.eq_1, mappingLoop_cons, keyId]
    cases hl : lookupSeen (cfg.lower (parseString kn false).1.value) seen with
    | some pos => simp [rawProps_pairs cfg rest, hl]
    | none =>
      simp [rawProps_pairs cfg rest, hl, filterMapR, rawProp]
      cases h : (rawValue cfg vn).1 <;> simp [h]

end AL.PW
