import AL.Model.Proc
/-
  Lemmas for C20 (g)–(k): the inductive invariant of the concurrency protocol and progress.
-/
namespace AL.Proc

/-! ### counting -/

theorem count_nil (p : PC) : count [] p = 0 := rfl

theorem count_cons (p q : PC) (l : List PC) :
    count (q :: l) p = (if q = p then 1 else 0) + count l p := by
  simp only [count, List.filter_cons]
  by_cases h : q = p
  · simp only [h, decide_true, if_true, List.length_cons]; omega
  · simp [h]

/-- replacing one entry changes a sum of weights by the difference of the two weights -/
theorem sum_map_set (w : PC → Nat) (pcs : List PC) (i : Nat) (r q : PC) (h : pcs[i]? = some r) :
    ((setPc pcs i q).map w).sum + w r = (pcs.map w).sum + w q := by
  induction pcs generalizing i with
  | nil => simp at h
  | cons c cs ih =>
    cases i with
    | zero =>
      simp at h; subst h
      simp only [setPc, List.set_cons_zero, List.map_cons, List.sum_cons]; omega
    | succ i =>
      simp at h
      have := ih i h
      simp only [setPc, List.set_cons_succ, List.map_cons, List.sum_cons] at this ⊢
      omega

theorem count_eq_sum (l : List PC) (p : PC) : count l p = (l.map fun x => if x = p then 1 else 0).sum := by
  induction l with
  | nil => rfl
  | cons c cs ih => rw [count_cons, ih, List.map_cons, List.sum_cons]

theorem count_set (pcs : List PC) (i : Nat) (r q : PC) (h : pcs[i]? = some r) (p : PC) :
    count (setPc pcs i q) p + (if r = p then 1 else 0) = count pcs p + (if q = p then 1 else 0) := by
  rw [count_eq_sum, count_eq_sum]
  exact sum_map_set _ pcs i r q h

theorem count_eq_zero (l : List PC) (p : PC) (h : ∀ x ∈ l, x ≠ p) : count l p = 0 := by
  induction l with
  | nil => rfl
  | cons c cs ih =>
    rw [count_cons, ih (fun x hx => h x (List.mem_cons_of_mem _ hx))]
    have := h c (List.mem_cons_self)
    simp [this]

theorem count_replicate_ne (n : Nat) (p q : PC) (h : q ≠ p) : count (List.replicate n q) p = 0 :=
  count_eq_zero _ _ (fun x hx => by rw [List.eq_of_mem_replicate hx]; exact h)

theorem exists_of_count_pos (l : List PC) (p : PC) (h : 0 < count l p) : ∃ i : Nat, l[i]? = some p := by
  induction l with
  | nil => simp [count] at h
  | cons c cs ih =>
    rw [count_cons] at h
    by_cases hc : c = p
    · exact ⟨0, by simp [hc]⟩
    · simp [hc] at h
      obtain ⟨i, hi⟩ := ih h
      exact ⟨i + 1, by rw [List.getElem?_cons_succ]; exact hi⟩

/-! ### the invariant -/

/-- The invariant of the scheduler model; it is inductive as it stands. Props/C20.lean states the same fields as
`AL.C20.Inv`, so that the property reads without this file; `C20.inv_of_inv'` and `C20.inv'_of_inv` convert. -/
structure Inv' (s : State) : Prop where
  permits : s.sema + count s.pcs .running = s.par
  wgCount : s.wg = count s.pcs .added + count s.pcs .running + count s.pcs .released
  afterVisit : s.visiting = false → ∀ p ∈ s.pcs, p = .idle ∨ p = .done
  order1 : s.egWaited = true → s.visiting = false
  order2 : s.procWaited = true → s.egWaited = true ∧ s.wg = 0
  order3 : s.returned = true → s.procWaited = true

theorem init_inv (par n : Nat) : Inv' (init par n) where
  permits := by simp [init, count_replicate_ne]
  wgCount := by simp [init, count_replicate_ne]
  afterVisit := by simp [init]
  order1 := by simp [init]
  order2 := by simp [init]
  order3 := by simp [init]

/-- a state whose `pcs[i]` is not idle/done is still visiting -/
theorem visiting_of_busy (s : State) (hi : Inv' s) (i : Nat) (p : PC) (h : s.pcs[i]? = some p)
    (h1 : p ≠ .idle) (h2 : p ≠ .done) : s.visiting = true := by
  cases hv : s.visiting with
  | true => rfl
  | false =>
    have := hi.afterVisit hv p (List.mem_of_getElem? h)
    cases this <;> contradiction

/-- Moving invocation `i` from `r` to `q` keeps the invariant when `sema` and `wg` change by what `r` and `q`
differ in: holding a permit (`running`) and being counted by the wait group. An invocation is in flight, so
`visiting` holds and the ordering clauses are vacuous or unchanged. -/
theorem Inv'.move {s : State} (hi : Inv' s) {i : Nat} {r q : PC} (hpc : s.pcs[i]? = some r)
    (hv : s.visiting = true) {sema' wg' : Nat}
    (hs : sema' + (if q = .running then 1 else 0) = s.sema + (if r = .running then 1 else 0))
    (hg : wg' + ((if r = .added then 1 else 0) + (if r = .running then 1 else 0) +
        (if r = .released then 1 else 0)) =
      s.wg + ((if q = .added then 1 else 0) + (if q = .running then 1 else 0) +
        (if q = .released then 1 else 0))) :
    Inv' { s with pcs := setPc s.pcs i q, sema := sema', wg := wg' } := by
  have c2 := count_set s.pcs i r q hpc .running
  have hp : sema' + count (setPc s.pcs i q) .running = s.par := by have := hi.permits; omega
  have hw : wg' = count (setPc s.pcs i q) .added + count (setPc s.pcs i q) .running +
      count (setPc s.pcs i q) .released := by
    have c1 := count_set s.pcs i r q hpc .added
    have c3 := count_set s.pcs i r q hpc .released
    have := hi.wgCount
    clear hs
    omega
  have hne : s.egWaited ≠ true := fun h => by have := hi.order1 h; rw [hv] at this; cases this
  exact ⟨hp, hw, fun h => absurd (hv.symm.trans h) Bool.noConfusion,
    fun h => absurd h hne, fun h => absurd (hi.order2 h).1 hne, hi.order3⟩

theorem step_inv (s s' : State) (a : Act) (hi : Inv' s) (h : step s a = some s') : Inv' s' := by
  cases a with
  | submit i =>
    simp only [step, Bool.and_eq_true, decide_eq_true_eq, Option.ite_none_right_eq_some,
      Option.some.injEq] at h
    obtain ⟨⟨hv, hpc⟩, rfl⟩ := h
    exact hi.move hpc hv (by simp) (by simp)
  | acquire i =>
    simp only [step, Bool.and_eq_true, decide_eq_true_eq, Option.ite_none_right_eq_some,
      Option.some.injEq] at h
    obtain ⟨⟨hpc, hsem⟩, rfl⟩ := h
    exact hi.move hpc (visiting_of_busy s hi i _ hpc (by decide) (by decide)) (by simp; omega) (by simp)
  | finish i =>
    simp only [step, Option.ite_none_right_eq_some, Option.some.injEq] at h
    obtain ⟨hpc, rfl⟩ := h
    exact hi.move hpc (visiting_of_busy s hi i _ hpc (by decide) (by decide)) (by simp) (by simp)
  | callback i =>
    simp only [step, Option.ite_none_right_eq_some, Option.some.injEq] at h
    obtain ⟨hpc, rfl⟩ := h
    have hpos : 0 < s.wg := by
      have := count_set s.pcs i _ .done hpc .released
      have := hi.wgCount
      simp at *; omega
    exact hi.move hpc (visiting_of_busy s hi i _ hpc (by decide) (by decide)) (by simp) (by simp; omega)
  | visitDone =>
    simp only [step, Bool.and_eq_true, Option.ite_none_right_eq_some, Option.some.injEq] at h
    obtain ⟨⟨hv, hall⟩, rfl⟩ := h
    refine ⟨hi.permits, hi.wgCount, ?_, ?_, hi.order2, hi.order3⟩
    · intro _ p hp
      have := List.all_eq_true.mp hall p hp
      simpa using this
    · intro _; rfl
  | egWait =>
    simp only [step, Bool.and_eq_true, Bool.not_eq_eq_eq_not, Bool.not_true,
      Option.ite_none_right_eq_some, Option.some.injEq] at h
    obtain ⟨⟨hv, he⟩, rfl⟩ := h
    exact ⟨hi.permits, hi.wgCount, hi.afterVisit, fun _ => hv,
      fun h => ⟨rfl, (hi.order2 h).2⟩, hi.order3⟩
  | procWait =>
    simp only [step, Bool.and_eq_true, decide_eq_true_eq, Bool.not_eq_eq_eq_not, Bool.not_true,
      Option.ite_none_right_eq_some, Option.some.injEq] at h
    obtain ⟨⟨⟨he, hw⟩, hp⟩, rfl⟩ := h
    exact ⟨hi.permits, hi.wgCount, hi.afterVisit, hi.order1, fun _ => ⟨he, hw⟩, fun h => by
      have := hi.order3 h; simp [hp] at this⟩
  | ret =>
    simp only [step, Bool.and_eq_true, Bool.not_eq_eq_eq_not, Bool.not_true,
      Option.ite_none_right_eq_some, Option.some.injEq] at h
    obtain ⟨⟨hp, hr⟩, rfl⟩ := h
    exact ⟨hi.permits, hi.wgCount, hi.afterVisit, hi.order1, hi.order2, fun _ => hp⟩

/-- what every enabled action preserves holds along every schedule -/
theorem exec_induction {P : State → Prop} (hstep : ∀ s s' a, P s → step s a = some s' → P s')
    (s s' : State) (sched : List Act) (hs : P s) (h : exec s sched = some s') : P s' := by
  induction sched generalizing s with
  | nil => cases h; exact hs
  | cons a as ih =>
    rw [exec] at h
    cases hsa : step s a with
    | none => rw [hsa] at h; cases h
    | some s1 => rw [hsa] at h; exact ih s1 (hstep s s1 a hs hsa) h

theorem reachable_inv (par n : Nat) (sched : List Act) (s : State)
    (h : exec (init par n) sched = some s) : Inv' s :=
  exec_induction step_inv _ _ sched (init_inv par n) h

/-! ### `par` and the number of invocations never change -/

theorem step_par (s s' : State) (a : Act) (h : step s a = some s') :
    s'.par = s.par ∧ s'.pcs.length = s.pcs.length := by
  cases a <;> simp only [step, Option.ite_none_right_eq_some, Option.some.injEq] at h <;>
    obtain ⟨_, rfl⟩ := h <;> simp [setPc]

theorem exec_par (s s' : State) (sched : List Act) (h : exec s sched = some s') :
    s'.par = s.par ∧ s'.pcs.length = s.pcs.length :=
  exec_induction (P := fun t => t.par = s.par ∧ t.pcs.length = s.pcs.length)
    (fun t t' a ht hs => by have := step_par t t' a hs; omega) s s' sched ⟨rfl, rfl⟩ h

theorem reachable_par (par n : Nat) (sched : List Act) (s : State)
    (h : exec (init par n) sched = some s) : s.par = par ∧ s.pcs.length = n := by
  simpa [init] using exec_par _ _ _ h

/-! ### consequences -/

theorem inv_bounded (s : State) (hi : Inv' s) : count s.pcs .running ≤ s.par := by
  have := hi.permits; omega

theorem inv_sema_le (s : State) (hi : Inv' s) : s.sema ≤ s.par := by
  have := hi.permits; omega

theorem inv_collected (s : State) (hi : Inv' s) (hr : s.returned = true) :
    ∀ p ∈ s.pcs, p = .idle ∨ p = .done :=
  hi.afterVisit (hi.order1 (hi.order2 (hi.order3 hr)).1)

theorem inv_no_add (s : State) (hi : Inv' s) (hp : s.procWaited = true) (i : Nat) :
    step s (.submit i) = none := by
  have := hi.order1 (hi.order2 hp).1
  simp [step, this]

end AL.Proc
