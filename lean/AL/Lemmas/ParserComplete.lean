import AL.Lemmas.ParserFuel
/-
  Completeness of the parser model w.r.t. the grammar relation: a sentence of level `L` followed by a
  token outside the follow set `cont L` is parsed to its tree and the parser stops right behind it.
  One claim per level, proved by recursion over the derivation (`Der.rec`), with explicit fuel bounds.
-/
namespace AL.Parse
open AL AL.Lex AL.Spec

/-- tokens that continue a sentence of the given level (one token of look-ahead) -/
def cont : Level → TokKind → Bool
  | .or, k => k = .or || k = .and || (cmpOf k).isSome || k = .dot || k = .lbracket || k = .lparen
  | .and, k => k = .and || (cmpOf k).isSome || k = .dot || k = .lbracket || k = .lparen
  | .cmp, k => (cmpOf k).isSome || k = .dot || k = .lbracket || k = .lparen
  | .unary, k => k = .dot || k = .lbracket || k = .lparen
  | .postfix, k => k = .dot || k = .lbracket || k = .lparen
  | .primary, k => k = .lparen

theorem cont_or_false {k} : cont .or k = false ↔ k ≠ .or ∧ cont .and k = false := by
  simp only [cont, Bool.or_assoc, Bool.or_eq_false_iff, decide_eq_false_iff_not, ne_eq]
theorem cont_and_false {k} : cont .and k = false ↔ k ≠ .and ∧ cont .cmp k = false := by
  simp only [cont, Bool.or_assoc, Bool.or_eq_false_iff, decide_eq_false_iff_not, ne_eq]
theorem cont_cmp_false {k} : cont .cmp k = false ↔ cmpOf k = none ∧ cont .unary k = false := by
  simp only [cont, Bool.or_assoc, Bool.or_eq_false_iff, Option.isSome_eq_false_iff, Option.isNone_iff_eq_none]
theorem cont_unary_false {k} : cont .unary k = false ↔ k ≠ .dot ∧ k ≠ .lbracket ∧ k ≠ .lparen := by
  simp only [cont, Bool.or_assoc, Bool.or_eq_false_iff, decide_eq_false_iff_not, ne_eq]
theorem cont_primary_false {k} : cont .primary k = false ↔ k ≠ .lparen := by
  simp only [cont, decide_eq_false_iff_not, ne_eq]

/-! ### splitting an annotated stream along its token list -/

theorem tk_eq_append {pre : Toks} {a b : List Tok} (h : tk pre = a ++ b) :
    ∃ pa pb, pre = pa ++ pb ∧ tk pa = a ∧ tk pb = b := List.map_eq_append_iff.mp h

theorem tk_eq_cons {pre : Toks} {t : Tok} {b : List Tok} (h : tk pre = t :: b) :
    ∃ a pb, pre = a :: pb ∧ a.tok = t ∧ tk pb = b := List.map_eq_cons_iff.mp h

theorem tk_eq_nil {pre : Toks} (h : tk pre = []) : pre = [] := List.map_eq_nil_iff.mp h

/-! ### the claims -/

def CLevel (p : Nat → Toks → PRes) (c : Nat) (L : Level) (ts : List Tok) (e : Expr) : Prop :=
  ∀ pre rest, tk pre = ts → rest ≠ [] → cont L (cur rest).tok.kind = false →
    ∀ f, 6 * (pre ++ rest).length + c ≤ f → p f (pre ++ rest) = .ok (e, rest)

/-- after a postfix sentence the parser is inside the postfix loop, holding its tree, and has spent at most
one unit of fuel per token and one more -/
def CPost (ts : List Tok) (e : Expr) : Prop :=
  ∀ pre rest, tk pre = ts → rest ≠ [] → (cur rest).tok.kind ≠ .lparen →
    ∀ f, 6 * (pre ++ rest).length + 2 ≤ f →
      ∃ g, f ≤ g + (ts.length + 1) ∧ parsePostfix f (pre ++ rest) = postfixLoop g e rest

def CArgs (ts : List Tok) (es : List Expr) : Prop :=
  ∀ pre rp rest acc, tk pre = ts → rp.tok.kind = .rparen → rest ≠ [] →
    ∀ f, 6 * (pre ++ rp :: rest).length + 7 ≤ f → argsLoop f acc (pre ++ rp :: rest) = .ok (acc ++ es, rest)

def Claim (L : Level) (ts : List Tok) (e : Expr) : Prop :=
  match L with
  | .or => CLevel parseLogicalOr 6 .or ts e
  | .and => CLevel parseLogicalAnd 5 .and ts e
  | .cmp => CLevel parseCompare 4 .cmp ts e
  | .unary => CLevel parsePrefix 3 .unary ts e
  | .postfix => CPost ts e
  | .primary => CLevel parsePrimary 1 .primary ts e

theorem succ_of_le {n c f : Nat} (h : n + (c + 1) ≤ f) : ∃ f', f = f' + 1 := ⟨f - 1, by omega⟩

/-- the three binary levels at once: a sentence that is an operand alone … -/
theorem c_up {α : Type} {p sub : Nat → Toks → PRes} {op : TokKind → Option α} {mk : α → Expr → Expr → Expr}
    {c : Nat} {L' L : Level} (hp : ∀ f ts, p (f + 1) ts = binLevel (sub f) (p f) op mk ts)
    (hcont : ∀ {k}, cont L k = false → op k = none ∧ cont L' k = false)
    {ts e} (ih : CLevel sub c L' ts e) : CLevel p (c + 1) L ts e := by
  intro pre rest hpre hrest hc f hf
  obtain ⟨f, rfl⟩ := succ_of_le hf
  obtain ⟨h1, h2⟩ := hcont hc
  rw [hp, binLevel, ih pre rest hpre hrest h2 f (by omega)]
  simp only [h1]

/-- … and an operand, an operator, and the rest -/
theorem c_bin {α : Type} {p sub : Nat → Toks → PRes} {op : TokKind → Option α} {mk : α → Expr → Expr → Expr}
    {c : Nat} {L' L : Level} (hp : ∀ f ts, p (f + 1) ts = binLevel (sub f) (p f) op mk ts)
    {l r o a el er} (ih1 : CLevel sub c L' l el) (ho : op o.kind = some a) (hco : cont L' o.kind = false)
    (ih2 : CLevel p (c + 1) L r er) : CLevel p (c + 1) L (l ++ o :: r) (mk a el er) := by
  intro pre rest hpre hrest hcont f hf
  obtain ⟨pl, pr0, rfl, rfl, h2⟩ := tk_eq_append hpre
  obtain ⟨ao, pr, rfl, rfl, rfl⟩ := tk_eq_cons h2
  obtain ⟨f, rfl⟩ := succ_of_le hf
  rw [List.append_assoc, List.cons_append] at hf ⊢
  simp only [List.length_append, List.length_cons] at hf
  have h1 := ih1 pl (ao :: (pr ++ rest)) rfl (List.cons_ne_nil _ _) hco f
    (by simp only [List.length_append, List.length_cons]; omega)
  have h2 := ih2 pr rest rfl hrest hcont f (by simp only [List.length_append]; omega)
  rw [hp, binLevel, h1]
  simp only [cur_cons, ho]
  rw [adv_cons (by simp [hrest]), h2]

theorem cont_unary_of_cmpOf {k a} (h : cmpOf k = some a) : cont .unary k = false := by
  cases k <;> first | rfl | cases h

theorem c_unaryNot {ts o e} (ho : o.kind = .not) (ih : CLevel parsePrefix 3 .unary ts e) :
    CLevel parsePrefix 3 .unary (o :: ts) (.not e) := by
  intro pre rest hpre hrest hcont f hf
  obtain ⟨ao, pr, rfl, rfl, rfl⟩ := tk_eq_cons hpre
  obtain ⟨f, rfl⟩ := succ_of_le hf
  simp only [List.cons_append, List.length_append, List.length_cons] at hf ⊢
  have h2 := ih pr rest rfl hrest hcont f (by simp only [List.length_append]; omega)
  rw [parsePrefix]
  simp only [cur_cons, ho, ne_eq, not_true_eq_false, if_false]
  rw [adv_cons (by simp [hrest]), h2]

/-- leaving the postfix loop -/
theorem loop_exit {f ret rest} (h : cont .postfix (cur rest).tok.kind = false) :
    postfixLoop (f + 1) ret rest = .ok (ret, rest) := by
  have hc := cont_unary_false.mp h
  rw [postfixLoop]
  split
  · rename_i hk; exact absurd hk hc.1
  · rename_i hk; exact absurd hk hc.2.1
  · rfl

theorem c_unaryUp {ts e} (hd : Der .postfix ts e) (ih : CPost ts e) : CLevel parsePrefix 3 .unary ts e := by
  intro pre rest hpre hrest hcont f hf
  obtain ⟨f, rfl⟩ := succ_of_le hf
  obtain ⟨g, hg, hk⟩ := ih pre rest hpre hrest (cont_unary_false.mp hcont).2.2 f (by omega)
  obtain ⟨t, r, rfl, hh⟩ := der_head hd
  obtain ⟨a, pr, rfl, rfl, rfl⟩ := tk_eq_cons hpre
  have hnot : a.tok.kind ≠ .not := fun h0 => by rw [h0] at hh; cases hh
  rw [parsePrefix, if_pos (by rw [List.cons_append, cur_cons]; exact hnot), hk]
  rw [List.length_append, List.length_cons] at hf
  rw [List.length_cons, List.length_map] at hg
  cases g with
  | zero => omega
  | succ g => exact loop_exit hcont

theorem c_postUp {ts e} (ih : CLevel parsePrimary 1 .primary ts e) : CPost ts e := by
  intro pre rest hpre hrest hcont f hf
  obtain ⟨f, rfl⟩ := succ_of_le hf
  refine ⟨f, by omega, ?_⟩
  rw [parsePostfix, ih pre rest hpre hrest (cont_primary_false.mpr hcont) f (by omega)]

/-- One iteration of the postfix loop: if the loop, holding `e` in front of the tokens `suf` (which do not start
with `(`), gets to `e'` behind them in one iteration, then `e'` is what the parser holds after `ts ++ suf`.
The fuel left after `ts` covers six units per remaining token, enough for an index expression inside `suf`. -/
theorem CPost.step {ts suf suf' : List Tok} {t : Tok} {e e' : Expr} (ih : CPost ts e) (hsuf : suf = t :: suf')
    (ht : t.kind ≠ .lparen)
    (hstep : ∀ psuf rest g, tk psuf = suf → rest ≠ [] → 6 * (psuf ++ rest).length ≤ g →
      postfixLoop (g + 1) e (psuf ++ rest) = postfixLoop g e' rest) :
    CPost (ts ++ suf) e' := by
  intro pre rest hpre hrest hcont f hf
  obtain ⟨p, s, rfl, rfl, hs⟩ := tk_eq_append hpre
  obtain ⟨a, s', rfl, rfl, -⟩ := tk_eq_cons (hs.trans hsuf)
  rw [List.append_assoc] at hf ⊢
  obtain ⟨g, hg, hk⟩ := ih p (a :: s' ++ rest) rfl (List.cons_ne_nil _ _) ht f hf
  rw [List.length_append] at hf
  rw [List.length_map] at hg
  cases g with
  | zero => omega
  | succ g =>
    refine ⟨g, ?_, ?_⟩
    · rw [List.length_append, hsuf, List.length_cons, List.length_map]; omega
    · rw [hk, hstep _ rest g hs hrest (by omega)]

theorem tk_eq_pair {pre : Toks} {a b : Tok} (h : tk pre = [a, b]) : ∃ x y, pre = [x, y] ∧ x.tok = a ∧ y.tok = b := by
  obtain ⟨x, s, rfl, hx, h1⟩ := tk_eq_cons h
  obtain ⟨y, s', rfl, hy, h2⟩ := tk_eq_cons h1
  exact ⟨x, y, by rw [tk_eq_nil h2], hx, hy⟩

theorem c_postProp {ts d i e} (ih : CPost ts e) (hd : d.kind = .dot) (hi : i.kind = .ident) :
    CPost (ts ++ [d, i]) (.objDeref e i.val) :=
  ih.step rfl (by rw [hd]; decide) fun psuf rest g hp hrest _ => by
    obtain ⟨ad, ai, rfl, rfl, rfl⟩ := tk_eq_pair hp
    rw [postfixLoop]
    simp only [List.cons_append, List.nil_append, cur_cons, hd, adv_cons2, hi, adv_cons hrest]

theorem c_postStar {ts d s e} (ih : CPost ts e) (hd : d.kind = .dot) (hs : s.kind = .star) :
    CPost (ts ++ [d, s]) (.arrDeref e) :=
  ih.step rfl (by rw [hd]; decide) fun psuf rest g hp hrest _ => by
    obtain ⟨ad, ai, rfl, rfl, rfl⟩ := tk_eq_pair hp
    rw [postfixLoop]
    simp only [List.cons_append, List.nil_append, cur_cons, hd, adv_cons2, hs, adv_cons hrest]

theorem c_postIndex {ts lb idx rb e ei} (ih : CPost ts e) (hl : lb.kind = .lbracket)
    (ih2 : CLevel parseLogicalOr 6 .or idx ei) (hr : rb.kind = .rbracket) :
    CPost (ts ++ lb :: idx ++ [rb]) (.index e ei) := by
  rw [List.append_assoc]
  refine ih.step rfl (by rw [hl]; decide) fun psuf rest g hp hrest hg => ?_
  obtain ⟨alb, s1, rfl, rfl, h3⟩ := tk_eq_cons hp
  obtain ⟨pidx, s2, rfl, rfl, h4⟩ := tk_eq_append h3
  obtain ⟨arb, s3, rfl, rfl, h5⟩ := tk_eq_cons h4
  cases tk_eq_nil h5
  have e1 : alb :: (pidx ++ [arb]) ++ rest = alb :: (pidx ++ arb :: rest) := by simp
  rw [e1] at hg ⊢
  have h1 := ih2 pidx (arb :: rest) rfl (List.cons_ne_nil _ _) (by rw [cur_cons, hr]; rfl) g
    (by simp only [List.length_append, List.length_cons] at hg ⊢; omega)
  rw [postfixLoop]
  simp only [cur_cons, hl, adv_cons (rest := pidx ++ arb :: rest) (by simp), h1, hr, ne_eq, not_true_eq_false,
    if_false, adv_cons hrest]

/-- a primary that is one token: what `parsePrimary` returns on a stream that starts with it -/
theorem c_primOne {t : Tok} {e : Expr}
    (h : ∀ (a : ATok) (rest : Toks) (f : Nat), a.tok = t → rest ≠ [] → (cur rest).tok.kind ≠ .lparen →
      parsePrimary (f + 1) (a :: rest) = .ok (e, rest)) :
    CLevel parsePrimary 1 .primary [t] e := by
  intro pre rest hpre hrest hcont f hf
  obtain ⟨a, s, rfl, ha, h2⟩ := tk_eq_cons hpre
  cases tk_eq_nil h2
  obtain ⟨f, rfl⟩ := succ_of_le hf
  exact h a rest f ha hrest (cont_primary_false.mp hcont)

theorem c_primInt {t v} (ht : t.kind = .int) (hv : parseIntLit t.val = some v) :
    CLevel parsePrimary 1 .primary [t] (.int v) :=
  c_primOne fun a rest f ha hrest _ => by
    subst ha
    rw [parsePrimary]
    simp only [cur_cons, ht, hv, adv_cons hrest]

theorem c_primFloat {t} (ht : t.kind = .float) (hv : floatOverflows t.val = false) :
    CLevel parsePrimary 1 .primary [t] (.float t.val) :=
  c_primOne fun a rest f ha hrest _ => by
    subst ha
    rw [parsePrimary]
    simp [cur_cons, ht, hv, adv_cons hrest]

theorem c_primStr {t} (ht : t.kind = .string) :
    CLevel parsePrimary 1 .primary [t] (.str (strValue ((t.val.drop 1).dropLast))) :=
  c_primOne fun a rest f ha hrest _ => by
    subst ha
    rw [parsePrimary]
    simp only [cur_cons, ht, adv_cons hrest, unescape_eq_strValue]

theorem c_primIdent {t} (ht : t.kind = .ident) :
    CLevel parsePrimary 1 .primary [t] (keywordOrVar t.val) :=
  c_primOne fun a rest f ha hrest hc => by
    subst ha
    rw [parsePrimary]
    simp only [cur_cons, ht, adv_cons hrest, hc, if_false, keyword_eq]

theorem c_primCall0 {t lp rp} (ht : t.kind = .ident) (hl : lp.kind = .lparen) (hr : rp.kind = .rparen) :
    CLevel parsePrimary 1 .primary [t, lp, rp] (.call t.val []) := by
  intro pre rest hpre hrest hcont f hf
  obtain ⟨a, s, rfl, rfl, h2⟩ := tk_eq_cons hpre
  obtain ⟨alp, s1, rfl, rfl, h3⟩ := tk_eq_cons h2
  obtain ⟨arp, s2, rfl, rfl, h4⟩ := tk_eq_cons h3
  have := tk_eq_nil h4; subst this
  obtain ⟨f, rfl⟩ := succ_of_le hf
  rw [parsePrimary]
  simp only [List.cons_append, List.nil_append, cur_cons, ht, adv_cons (rest := alp :: arp :: rest) (by simp), hl,
    adv_cons (rest := arp :: rest) (by simp), hr, adv_cons hrest, if_true]

theorem c_primCall {t lp rp args es} (ht : t.kind = .ident) (hl : lp.kind = .lparen) (hd : DerArgs args es)
    (ih : CArgs args es) (hr : rp.kind = .rparen) :
    CLevel parsePrimary 1 .primary (t :: lp :: args ++ [rp]) (.call t.val es) := by
  intro pre rest hpre hrest hcont f hf
  have e0 : t :: lp :: args ++ [rp] = t :: lp :: (args ++ [rp]) := by simp
  rw [e0] at hpre
  obtain ⟨a, s, rfl, rfl, h2⟩ := tk_eq_cons hpre
  obtain ⟨alp, s1, rfl, rfl, h3⟩ := tk_eq_cons h2
  obtain ⟨pargs, s2, rfl, rfl, h4⟩ := tk_eq_append h3
  obtain ⟨arp, s3, rfl, rfl, h5⟩ := tk_eq_cons h4
  have := tk_eq_nil h5; subst this
  obtain ⟨f, rfl⟩ := succ_of_le hf
  have e1 : (a :: alp :: (pargs ++ [arp])) ++ rest = a :: alp :: (pargs ++ arp :: rest) := by simp
  rw [e1] at hf ⊢
  simp only [List.length_append, List.length_cons] at hf
  -- the first argument does not start with `)`
  obtain ⟨h0, r0, hh, hk0⟩ := derArgs_head hd
  obtain ⟨a0, pr0, rfl, rfl, _⟩ := tk_eq_cons hh
  have hnr : a0.tok.kind ≠ .rparen := by
    intro h0; rw [h0] at hk0; simp [headKinds] at hk0
  have h1 := ih (a0 :: pr0) arp rest [] rfl hr hrest f
    (by simp only [List.length_append, List.length_cons] at hf ⊢; omega)
  rw [parsePrimary]
  simp only [List.cons_append] at h1 ⊢
  simp only [cur_cons, ht, adv_cons2, hl, hnr, if_true, if_false]
  rw [h1]; rfl

theorem c_primParen {lp ts rp e} (hl : lp.kind = .lparen) (ih : CLevel parseLogicalOr 6 .or ts e)
    (hr : rp.kind = .rparen) : CLevel parsePrimary 1 .primary (lp :: ts ++ [rp]) e := by
  intro pre rest hpre hrest hcont f hf
  have e0 : lp :: ts ++ [rp] = lp :: (ts ++ [rp]) := by simp
  rw [e0] at hpre
  obtain ⟨alp, s1, rfl, rfl, h3⟩ := tk_eq_cons hpre
  obtain ⟨pts, s2, rfl, rfl, h4⟩ := tk_eq_append h3
  obtain ⟨arp, s3, rfl, rfl, h5⟩ := tk_eq_cons h4
  have := tk_eq_nil h5; subst this
  obtain ⟨f, rfl⟩ := succ_of_le hf
  have e1 : (alp :: (pts ++ [arp])) ++ rest = alp :: (pts ++ arp :: rest) := by simp
  rw [e1] at hf ⊢
  simp only [List.length_append, List.length_cons] at hf
  have h1 := ih pts (arp :: rest) rfl (by simp) (by rw [cur_cons, hr]; rfl) f
    (by simp only [List.length_append, List.length_cons]; omega)
  rw [parsePrimary]
  simp only [cur_cons, hl, adv_cons (rest := pts ++ arp :: rest) (by simp), h1, hr, adv_cons hrest, if_true]

theorem c_argsOne {ts e} (ih : CLevel parseLogicalOr 6 .or ts e) : CArgs ts [e] := by
  intro pre rp rest acc hpre hr hrest f hf
  obtain ⟨f, rfl⟩ := succ_of_le hf
  have h1 := ih pre (rp :: rest) hpre (by simp) (by rw [cur_cons, hr]; rfl) f (by omega)
  rw [argsLoop, h1]
  simp only [cur_cons, hr, adv_cons hrest]

theorem c_argsMore {ts c rest' e es} (ih : CLevel parseLogicalOr 6 .or ts e) (hc : c.kind = .comma)
    (ih2 : CArgs rest' es) : CArgs (ts ++ c :: rest') (e :: es) := by
  intro pre rp rest acc hpre hr hrest f hf
  obtain ⟨p1, s, rfl, rfl, h2⟩ := tk_eq_append hpre
  obtain ⟨ac, p2, rfl, rfl, rfl⟩ := tk_eq_cons h2
  obtain ⟨f, rfl⟩ := succ_of_le hf
  have e1 : (p1 ++ ac :: p2) ++ rp :: rest = p1 ++ ac :: (p2 ++ rp :: rest) := by simp
  rw [e1] at hf ⊢
  simp only [List.length_append, List.length_cons] at hf
  have h1 := ih p1 (ac :: (p2 ++ rp :: rest)) rfl (by simp) (by rw [cur_cons, hc]; rfl) f
    (by simp only [List.length_append, List.length_cons]; omega)
  have h3 := ih2 p2 rp rest (acc ++ [e]) rfl hr hrest f
    (by simp only [List.length_append, List.length_cons]; omega)
  rw [argsLoop, h1]
  simp only [cur_cons, hc, adv_cons (rest := p2 ++ rp :: rest) (by simp), h3, List.append_assoc, List.cons_append,
    List.nil_append]

theorem complete_all {L ts e} (h : Der L ts e) : Claim L ts e := by
  refine Der.rec (motive_1 := fun L ts e _ => Claim L ts e) (motive_2 := fun ts es _ => CArgs ts es)
    ?_ ?_ ?_ ?_ ?_ ?_ ?_ ?_ ?_ ?_ ?_ ?_ ?_ ?_ ?_ ?_ ?_ ?_ ?_ ?_ ?_ h
  · intro ts e _ ih
    exact c_up parseLogicalOr_succ (fun h => ⟨if_neg (cont_or_false.mp h).1, (cont_or_false.mp h).2⟩) ih
  · intro l r o el er _ ho _ ih1 ih2
    exact c_bin parseLogicalOr_succ ih1 (if_pos ho) (by rw [ho]; rfl) ih2
  · intro ts e _ ih
    exact c_up parseLogicalAnd_succ (fun h => ⟨if_neg (cont_and_false.mp h).1, (cont_and_false.mp h).2⟩) ih
  · intro l r o el er _ ho _ ih1 ih2
    exact c_bin parseLogicalAnd_succ ih1 (if_pos ho) (by rw [ho]; rfl) ih2
  · intro ts e _ ih; exact c_up parseCompare_succ cont_cmp_false.mp ih
  · intro l r o k el er _ ho _ ih1 ih2; exact c_bin parseCompare_succ ih1 ho (cont_unary_of_cmpOf ho) ih2
  · intro ts e hd ih; exact c_unaryUp hd ih
  · intro ts o e ho _ ih; exact c_unaryNot ho ih
  · intro ts e _ ih; exact c_postUp ih
  · intro ts d i e _ hd hi ih; exact c_postProp ih hd hi
  · intro ts d s e _ hd hs ih; exact c_postStar ih hd hs
  · intro ts lb idx rb e ei _ hl _ hr ih ih2; exact c_postIndex ih hl ih2 hr
  · intro t v ht hv; exact c_primInt ht hv
  · intro t ht hv; exact c_primFloat ht hv
  · intro t ht; exact c_primStr ht
  · intro t ht; exact c_primIdent ht
  · intro t lp rp ht hl hr; exact c_primCall0 ht hl hr
  · intro t lp rp args es ht hl hd hr ih; exact c_primCall ht hl hd ih hr
  · intro lp ts rp e hl _ hr ih; exact c_primParen hl ih hr
  · intro ts e _ ih; exact c_argsOne ih
  · intro ts c rest e es _ hc _ ih ih2; exact c_argsMore ih hc ih2

/-- completeness at the top level, with the explicit fuel bound -/
theorem complete_or {ts e} (h : Der .or ts e) {pre rest : Toks} (hpre : tk pre = ts) (hrest : rest ≠ [])
    (hcont : cont .or (cur rest).tok.kind = false) {f : Nat} (hf : 6 * (pre ++ rest).length + 6 ≤ f) :
    parseLogicalOr f (pre ++ rest) = .ok (e, rest) :=
  complete_all h pre rest hpre hrest hcont f hf

end AL.Parse
