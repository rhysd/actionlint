import AL.Lemmas.C03PJob
/-
  C03Parse / C12Parse, level 3, second half: the job after `jobFinish`. With the key (`namespace AL.C12P`): the keyed strings
  of the loop state (`jobKK`: `steps`, `container`, `services`, `environment` carry the keys of their own sections, any other
  key `k` the one key `jobKeyOf k`), `jobKeyKK_store`, `jobKK_pres`; a silent `jobFinish` changes `workflowCall` only
  (`jobFinish_clean`), so the field ↔ key table of the finished job (`jobK_keyed`, `jobKK_final`) is read off `jobKStrs`;
  `parseJob_leafK` and the `jobs:` section. Without the key: `jobK_final`, `parseJob_leaf`, `parseJobs_leaf` are the projections.
-/
namespace AL.C03P
open AL.PW AL.Yaml AL.Ast AL.C03R

theorem strat_mem (j : Job) (s : Str) (hs : s ∈ match j.strategy with | some sg => strategyAllStrs sg | none => []) :
    (s ∈ match j.strategy with
      | some s => (match s.matrix with | some m => matrixStrs m | none => [])
      | none => []) ∨ s ∈ strategyStrs j.strategy := by
  cases hst : j.strategy with
  | none => simp [hst] at hs
  | some sg =>
    simp only [hst, strategyAllStrs, strategyStrs, List.mem_append] at hs ⊢
    rcases hs with (hs | hs) | hs
    · exact Or.inl hs
    · exact Or.inr (Or.inl hs)
    · exact Or.inr (Or.inr hs)

theorem env_mem (j : Job) (s : Str) (hs : s ∈ match j.environment with | some e => environmentStrs e | none => []) :
    s ∈ match j.environment with | some e => e.name.toList ++ e.url.toList | none => [] := by
  cases he : j.environment with
  | none => simp [he] at hs
  | some e => simpa [he, environmentStrs] using hs

end AL.C03P

/-! ### with the key -/
namespace AL.C12P
open AL.PW AL.Yaml AL.Ast AL.C03P AL.C03R AL.C12R

/-- the keyed strings the loop of `parseJob` holds under the key `k` -/
def jobKK (k : String) (st : JobSt) : List (Str × String) :=
  match k with
  | "steps" => (st.job.steps.getD []).flatMap stepKStrs
  | "container" =>
    containerKStrs st.job.container "jobs.<job_id>.container" "jobs.<job_id>.container.credentials"
      "jobs.<job_id>.container.env.<env_id>" "jobs.<job_id>.container"
  | "services" => servicesKStrs st.job.services
  | "environment" => (match st.job.environment with | some e => environmentKStrs e | none => [])
  | _ => tag (jobKeyOf k) (jobK k st)

theorem jobKK_plain (k : String) (st : JobSt) (hk : JobPlain k) : jobKK k st = tag (jobKeyOf k) (jobK k st) := by
  obtain ⟨h1, h2, h3, h4⟩ := hk
  simp only [jobKK]

theorem jobKey_steps (cfg : Cfg) (st : JobSt) (kv : KV) (hne : kv.id ≠ "steps") : (jobKey cfg st kv).1.job.steps = st.job.steps :=
  (jobKey_frame cfg st kv).steps hne

theorem jobKey_container (cfg : Cfg) (st : JobSt) (kv : KV) (hne : kv.id ≠ "container") :
    (jobKey cfg st kv).1.job.container = st.job.container :=
  (jobKey_frame cfg st kv).container hne

theorem jobKey_services (cfg : Cfg) (st : JobSt) (kv : KV) (hne : kv.id ≠ "services") :
    (jobKey cfg st kv).1.job.services = st.job.services :=
  (jobKey_frame cfg st kv).services hne

theorem jobKey_environment (cfg : Cfg) (st : JobSt) (kv : KV) (hne : kv.id ≠ "environment") :
    (jobKey cfg st kv).1.job.environment = st.job.environment :=
  (jobKey_frame cfg st kv).environment hne

theorem jobKK_pres (cfg : Cfg) (k : String) (st : JobSt) (kv : KV) (hne : kv.id ≠ k) :
    ∀ p ∈ jobKK k st, p ∈ jobKK k (jobKey cfg st kv).1 := by
  intro p hp
  by_cases h1 : k = "steps"
  · subst h1; simp only [jobKK] at hp ⊢; rw [jobKey_steps cfg st kv hne]; exact hp
  by_cases h2 : k = "container"
  · subst h2; simp only [jobKK] at hp ⊢; rw [jobKey_container cfg st kv hne]; exact hp
  by_cases h3 : k = "services"
  · subst h3; simp only [jobKK] at hp ⊢; rw [jobKey_services cfg st kv hne]; exact hp
  by_cases h4 : k = "environment"
  · subst h4; simp only [jobKK] at hp ⊢; rw [jobKey_environment cfg st kv hne]; exact hp
  rw [jobKK_plain k _ ⟨h1, h2, h3, h4⟩] at hp ⊢
  exact tag_mono (jobK_pres cfg k st kv hne) p hp

theorem jobKeyKK_store (cfg : Cfg) (st : JobSt) (kv : KV) (v : Node) (key : String)
    (hv : (v, key) ∈ jobKeyKeyed kv.id kv.val) (hc : (jobKey cfg st kv).2 = []) :
    RepK v key (jobKK kv.id (jobKey cfg st kv).1) := by
  by_cases hk : JobPlain kv.id
  · rw [jobKeyKeyed_eq _ _ hk] at hv
    rw [jobKK_plain _ _ hk]
    exact RepK.of_under hv (fun hvk => jobKey_store cfg st kv v hvk hc)
  -- one of the four sections: `jobKey` stores what the parser of the section returns, which keeps the key
  generalize hr : jobKey cfg st kv = r at hc ⊢
  unfold jobKey at hr
  simp only [JobPlain, ne_eq, Classical.not_and_iff_not_or_not, Classical.not_not] at hk
  rcases hk with h | h | h | h <;> simp only [h] at hr <;> subst hr <;> rw [h] at hv ⊢
  · exact parseSteps_leafK cfg _ v key hv hc
  · exact parseContainer_leafK cfg _ _ _ _ _ _ v key hv hc
  · exact parseServices_leafK cfg _ v key hv hc
  · exact parseEnvironment_leafK cfg _ _ v key hv hc

theorem jobFinish_cases (id : Str) (st : JobSt) :
    (jobFinish id st).1 = st.job ∨ (jobFinish id st).1 = { st.job with workflowCall := some st.call } := by
  simp only [jobFinish]
  split
  · split
    · exact Or.inl rfl
    · exact Or.inr rfl
  · exact Or.inl rfl

theorem strat_memK (j : Job) (s : Str) (hs : s ∈ match j.strategy with | some sg => strategyAllStrs sg | none => []) :
    (s, "jobs.<job_id>.strategy") ∈ tag "jobs.<job_id>.strategy" (matrixOfStrs j) ∨
      (s, "jobs.<job_id>.strategy") ∈ tag "jobs.<job_id>.strategy" (strategyStrs j.strategy) := by
  rcases strat_mem j s hs with h | h
  · exact Or.inl (mem_tag.2 ⟨by unfold matrixOfStrs; exact h, rfl⟩)
  · exact Or.inr (mem_tag.2 ⟨h, rfl⟩)

/-- a silent `jobFinish` changes `workflowCall` only: to the call the loop collected if there was a `uses:`; without one, no
key of a call was seen -/
theorem jobFinish_clean (id : Str) (st : JobSt) (hc : (jobFinish id st).2 = []) :
    ∃ wc, (jobFinish id st).1 = { st.job with workflowCall := wc } ∧
      ((∃ u, st.call.uses = some u ∧ wc = some st.call) ∨ (st.call.uses = none ∧ st.callOnlyKey = none)) := by
  simp only [jobFinish] at hc ⊢
  cases hu : st.call.uses with
  | some u =>
    simp only [hu, Option.isSome_some, ↓reduceIte] at hc
    cases hk : st.stepsOnlyKey with
    | some k => simp [hk] at hc
    | none => exact ⟨_, rfl, Or.inl ⟨u, rfl, rfl⟩⟩
  | none =>
    simp only [hu, Option.isSome_none, Bool.false_eq_true, ↓reduceIte, append_nil_iff] at hc
    cases hk : st.callOnlyKey with
    | some k => simp [hk] at hc
    | none => exact ⟨_, rfl, Or.inr ⟨rfl, rfl⟩⟩

/-- the table for the keys of a call: `uses` has no row, `with` and `secrets` have theirs -/
theorem callK_keyed (st : JobSt) (wc : Option WorkflowCall)
    (hcall : (∃ u, st.call.uses = some u ∧ wc = some st.call) ∨ (st.call.uses = none ∧ st.callOnlyKey = none)) :
    (∀ s ∈ st.call.uses.toList, (s, "") ∈ callKStrs wc) ∧
    (∀ s ∈ (if st.callOnlyKey.isSome then (st.call.inputs.getD []).map (·.2.value) else []),
      (s, "jobs.<job_id>.with.<with_id>") ∈ callKStrs wc) ∧
    (∀ s ∈ (if st.callOnlyKey.isSome then (st.call.secrets.getD []).map (·.2.value) else []),
      (s, "jobs.<job_id>.secrets.<secrets_id>") ∈ callKStrs wc) := by
  rcases hcall with ⟨u, hu, rfl⟩ | ⟨hu, hk⟩
  · simp only [callKStrs, hu, List.mem_append, mem_tag, and_true]
    refine ⟨fun s hs => Or.inl (Or.inl hs), fun s hs => ?_, fun s hs => ?_⟩
    · split at hs
      · exact Or.inl (Or.inr hs)
      · cases hs
    · split at hs
      · exact Or.inr hs
      · cases hs
  · simp [hu, hk]

/-- **the field ↔ key table of a job** (the keys whose scalars lie under one workflow key) -/
theorem jobK_keyed (id : Str) (k : String) (st : JobSt) (hk : JobPlain k) (hc : (jobFinish id st).2 = []) :
    ∀ s ∈ jobK k st, (s, jobKeyOf k) ∈ jobKStrs (jobFinish id st).1 := by
  intro s hs
  obtain ⟨wc, hJ, hcall⟩ := jobFinish_clean id st hc
  obtain ⟨huses, hwith, hsecrets⟩ := callK_keyed st wc hcall
  rw [hJ]
  have hpre : ∀ {p}, p ∈ jobPreKStrs { st.job with workflowCall := wc } → p ∈ jobKStrs { st.job with workflowCall := wc } :=
    fun h => List.mem_append_left _ (List.mem_append_left _ (List.mem_append_right _ h))
  -- split while the goal is small: `jobKStrs` stays folded until a branch looks its row up
  unfold jobK at hs
  split at hs
  -- the tags count the branches of `jobK`: 2 `needs`, 4 `environment`, 6 `outputs`, 10 `steps`, 12 `strategy`, 14 `container`,
  -- 15 `services`, 16 `uses`, 17 `with`, 18 `secrets`, 19 the default
  case h_4 => exact absurd rfl hk.2.2.2
  case h_10 => exact absurd rfl hk.1
  case h_14 => exact absurd rfl hk.2.1
  case h_15 => exact absurd rfl hk.2.2.1
  case h_16 => exact hpre (List.mem_append_right _ (huses s hs))
  case h_17 => exact hpre (List.mem_append_right _ (hwith s hs))
  case h_18 => exact hpre (List.mem_append_right _ (hsecrets s hs))
  case h_19 => cases hs
  case h_12 =>
    rcases strat_memK st.job s hs with h | h
    · exact List.mem_append_left _ (List.mem_append_left _ (List.mem_append_left _ h))
    · refine hpre ?_
      simp only [jobPreKStrs, jobKeyOf, List.mem_append, h, true_or, or_true]
  case h_6 => exact List.mem_append_right _ (List.mem_append_right _ (mem_tag.2 ⟨hs, rfl⟩))
  case h_2 =>
    refine hpre ?_
    simp only [jobPreKStrs, show jobKeyOf "needs" = "" from rfl, List.mem_append, mem_tag.2 ⟨hs, rfl⟩, true_or, or_true]
  all_goals
    refine hpre ?_
    simp only [jobPreKStrs, jobKeyOf, List.mem_append, mem_tag.2 ⟨hs, rfl⟩, true_or, or_true]

/-- what the loop of `parseJob` holds under a job key is listed by `jobKStrs` of the finished job — with the same keys -/
theorem jobKK_final (id : Str) (k : String) (st : JobSt) (hc : (jobFinish id st).2 = []) :
    ∀ p ∈ jobKK k st, p ∈ jobKStrs (jobFinish id st).1 := by
  intro p hp
  obtain ⟨wc, hJ, -⟩ := jobFinish_clean id st hc
  by_cases h1 : k = "steps"
  · subst h1
    simp only [jobKK] at hp
    simp only [hJ, jobKStrs, List.mem_append]
    exact Or.inl (Or.inr hp)
  by_cases h2 : k = "container"
  · subst h2
    simp only [jobKK] at hp
    simp only [hJ, jobKStrs, jobPreKStrs, List.mem_append]
    simp only [hp, true_or, or_true]
  by_cases h3 : k = "services"
  · subst h3
    simp only [jobKK] at hp
    simp only [hJ, jobKStrs, jobPreKStrs, List.mem_append]
    simp only [hp, true_or, or_true]
  by_cases h4 : k = "environment"
  · subst h4
    simp only [jobKK] at hp
    simp only [hJ, jobKStrs, jobPostKStrs, List.mem_append]
    cases he : st.job.environment with
    | none => simp [he] at hp
    | some e =>
      simp only [he, environmentKStrs, List.mem_append] at hp ⊢
      simp only [hp, true_or, or_true]
  rw [jobKK_plain k _ ⟨h1, h2, h3, h4⟩] at hp
  obtain ⟨s, k'⟩ := p
  obtain ⟨hs, rfl⟩ := mem_tag.1 hp
  exact jobK_keyed id k st ⟨h1, h2, h3, h4⟩ hc s hs

/-- **level 3, clean form, with the key.** When `parseJob` appends no diagnostic, every value scalar of the job node is
one of the value strings of the job, listed there under the workflow key of the scalar's position in the document. -/
theorem parseJob_leafK (cfg : Cfg) (id : Str) (n : Node) (v : Node) (key : String) (hv : (v, key) ∈ jobKeyed n)
    (hc : (parseJob cfg id n).2 = []) : RepK v key (jobKStrs (parseJob cfg id n).1) := by
  simp only [parseJob, append_nil_iff] at hc ⊢
  obtain ⟨⟨hm, hr⟩, hf⟩ := hc
  obtain ⟨k, hk⟩ := sect_KK cfg _ n false true (jobKey cfg) _ "" jobKeyKeyed v key hv jobKK hm hr
    (fun kv k st hid => hid rfl ▸ jobKeyKK_store cfg st kv v key)
    (jobKK_pres cfg)
  exact hk.mono (jobKK_final id k _ hf)

theorem parseJobs_leafK (cfg : Cfg) (n : Node) (v : Node) (key : String) (hv : (v, key) ∈ jobsKeyed n)
    (h : (parseJobs cfg n).2 = []) : RepK v key ((parseJobs cfg n).1.flatMap fun kv => jobKStrs kv.2) := by
  simp only [parseJobs, parseSectionMapping, append_nil_iff] at h ⊢
  obtain ⟨kv, hkv, k, _, hvk⟩ := mapKeyed_clean cfg _ n false false _ _ v key hv h.1
  obtain ⟨h1, h2⟩ := mapKVs_clean _ _ h.2 kv hkv
  exact RepK.flatMap h2 (parseJob_leafK cfg kv.key kv.val v key hvk h1)

end AL.C12P

/-! ### without the key -/
namespace AL.C03P
open AL.PW AL.Yaml AL.Ast AL.C03R AL.C12R AL.C12P

theorem jobKK_fst (k : String) (st : JobSt) : (jobKK k st).map Prod.fst = jobK k st := by
  unfold jobKK
  split
  · exact C12R.flatMap_fst _ _ _ stepKStrs_fst
  · exact containerKStrs_fst ..
  · exact servicesKStrs_fst _
  · unfold jobK
    cases st.job.environment <;> simp only [environmentKStrs_fst, List.map_nil]
  · exact tag_fst _ _

theorem jobK_final (id : Str) (k : String) (st : JobSt) (hc : (jobFinish id st).2 = []) :
    ∀ s ∈ jobK k st, s ∈ jobStrs (jobFinish id st).1 :=
  sub_of_fst (jobKK_final id k st hc) (jobKK_fst k st) (jobKStrs_fst _)

/-- **level 3, clean form.** When `parseJob` appends no diagnostic, every value scalar of the job node is one of the value
strings of the job. -/
theorem parseJob_leaf (cfg : Cfg) (id : Str) (n : Node) (v : Node) (hv : v ∈ jobScalars n) (hc : (parseJob cfg id n).2 = []) :
    Rep v (jobStrs (parseJob cfg id n).1) :=
  RepK.all (fun v key hv => parseJob_leafK cfg id n v key hv hc) (jobKeyed_fst n) (jobKStrs_fst _) v hv

theorem parseJobs_leaf (cfg : Cfg) (n : Node) (v : Node) (hv : v ∈ jobsScalars n) (h : (parseJobs cfg n).2 = []) :
    Rep v ((parseJobs cfg n).1.flatMap fun kv => jobStrs kv.2) :=
  RepK.all (fun v key hv => parseJobs_leafK cfg n v key hv h) (jobsKeyed_fst n)
    (C12R.flatMap_fst _ _ _ fun kv => jobKStrs_fst kv.2) v hv

end AL.C03P
