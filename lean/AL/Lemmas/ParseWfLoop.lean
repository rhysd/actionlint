import AL.Model.ParseWf
import AL.Lemmas.Order
/-
  Generic lemmas about the two loops every section parser of parse.go is made of:
  `mappingLoop` (the key loop of `parseMapping`) and `loop` (the `for _, kv := range …` over its result).

  * `loop`: `loop_cons`, `loop_append`; `seqR`, the sequencing of two results with their diagnostics, in which `loop_split`
    writes the loop around one entry; `loop_skip_perm`.
  * `mappingLoop`: `keyId` (the id a key node is filed under), `mappingLoop_cons`, `mappingLoop_congr`; the append law
    `mappingLoop_append`, where the second half starts from what the first has seen (`seenAfter`, declared in namespace
    `AL.C09D`; read by `lookupSeen_seenAfter` through `firstPos`, `lookupSeen_seenAfter_none`); inserting a pair with a new id,
    `mappingLoop_insert`; where the entries come from, `mappingLoop_ids`.
  * At the head of the file, lists with pairwise distinct keys: `split_at_key`, `find?_of_mem_nodup` (in `AL.C11D`), `single_of_all_eq`.
-/
namespace AL.PW
open AL.Yaml AL.Ast

/-! ### lists with pairwise distinct keys -/

/-- an element of a list with pairwise distinct keys: no element before it or after it has its key -/
theorem split_at_key {α β : Type} (f : α → β) {l : List α} {a : α} (hnd : (l.map f).Nodup) (hm : a ∈ l) :
    ∃ l1 l2, l = l1 ++ a :: l2 ∧ (∀ x ∈ l1, f x ≠ f a) ∧ ∀ x ∈ l2, f x ≠ f a := by
  obtain ⟨l1, l2, rfl⟩ := List.append_of_mem hm
  simp only [List.map_append, List.map_cons, List.nodup_append, List.nodup_cons, List.mem_map, List.mem_cons] at hnd
  exact ⟨l1, l2, rfl, fun x hx e => hnd.2.2 _ ⟨x, hx, rfl⟩ _ (Or.inl rfl) e, fun x hx e => hnd.2.1.1 ⟨x, hx, e⟩⟩

/-- a non-empty list whose elements all have the same key, the keys being pairwise distinct, is a singleton: an accepted
section that allows one key only (`defaults:`, an item of `schedule:`) holds exactly one pair -/
theorem single_of_all_eq {α β : Type} (f : α → β) (k : β) :
    ∀ (l : List α), l ≠ [] → (l.map f).Nodup → (∀ p ∈ l, f p = k) → ∃ p, l = [p]
  | [], h, _, _ => (h rfl).elim
  | [p], _, _, _ => ⟨p, rfl⟩
  | p :: q :: _, _, hnd, hk => by
    have hp := hk p (List.mem_cons_self ..)
    have hq := hk q (List.mem_cons_of_mem _ (List.mem_cons_self ..))
    simp [hp, hq] at hnd

end AL.PW

namespace AL.C11D

/-- among pairwise distinct keys, an element is the one `find?` finds under its key -/
theorem find?_of_mem_nodup {α : Type} (id : α → String) (k : String) : ∀ (l : List α), (l.map id).Nodup →
    ∀ a ∈ l, id a = k → l.find? (fun x => id x = k) = some a :=
  fun _ hnd _ ha hk => hk ▸ AL.Order.find?_key_of_mem id (List.pairwise_map.1 hnd) ha

end AL.C11D

namespace AL.PW
open AL.Yaml AL.Ast

variable {σ : Type}

/-! ### `loop` -/

theorem foldl_acc (step : σ → KV → σ × List PErr) (kvs : List KV) :
    ∀ (s : σ) (es : List PErr),
      kvs.foldl (fun acc kv => let r := step acc.1 kv; (r.1, acc.2 ++ r.2)) (s, es) =
        ((kvs.foldl (fun acc kv => let r := step acc.1 kv; (r.1, acc.2 ++ r.2)) (s, [])).1,
         es ++ (kvs.foldl (fun acc kv => let r := step acc.1 kv; (r.1, acc.2 ++ r.2)) (s, [])).2) := by
  induction kvs with
  | nil => intro s es; simp
  | cons kv rest ih =>
    intro s es
    simp only [List.foldl_cons, List.nil_append]
    rw [ih (step s kv).1 (es ++ (step s kv).2), ih (step s kv).1 (step s kv).2]
    simp [List.append_assoc]

@[simp] theorem loop_nil (step : σ → KV → σ × List PErr) (init : σ) : loop step init [] = (init, []) := rfl

theorem loop_cons (step : σ → KV → σ × List PErr) (init : σ) (kv : KV) (rest : List KV) :
    loop step init (kv :: rest) =
      ((loop step (step init kv).1 rest).1, (step init kv).2 ++ (loop step (step init kv).1 rest).2) := by
  unfold loop
  simp only [List.foldl_cons, List.nil_append]
  rw [foldl_acc]

theorem loop_append (step : σ → KV → σ × List PErr) (a b : List KV) :
    ∀ init : σ, loop step init (a ++ b) =
      ((loop step (loop step init a).1 b).1, (loop step init a).2 ++ (loop step (loop step init a).1 b).2) := by
  induction a with
  | nil => intro init; simp
  | cons kv rest ih =>
    intro init
    simp only [List.cons_append, loop_cons, ih, List.append_assoc]

/-- `R` is a writer: run `f` on the result of `a`, the diagnostics of `a` first. The model does not use it: it writes
`let m := …; let r := … m.1; (r.1, m.2 ++ r.2)`, which is this by unfolding. The statements about what happens around one key
(`loop_split`, `Sect.run_at`, the store equations of ParseWfStores) are written with it -/
def seqR {α β : Type} (a : R α) (f : α → R β) : R β := ((f a.1).1, a.2 ++ (f a.1).2)

/-- the key loop around one entry: the entries before it, the entry, the entries after it, in sequence -/
theorem loop_split (step : σ → KV → σ × List PErr) (init : σ) (k1 k2 : List KV) (kv : KV) :
    loop step init (k1 ++ kv :: k2) = seqR (seqR (loop step init k1) (fun s => step s kv)) (fun s => loop step s k2) := by
  rw [loop_append, loop_cons]
  simp only [seqR, List.append_assoc]

/-- an iteration that leaves the state alone and reports `es` can be spliced in anywhere: the state afterwards is the
same, the diagnostics are, up to their order, those of the loop without it and `es` -/
theorem loop_skip_perm (step : σ → KV → σ × List PErr) (kv : KV) (es : List PErr) (h : ∀ s, step s kv = (s, es))
    (init : σ) (pre post : List KV) :
    (loop step init (pre ++ kv :: post)).1 = (loop step init (pre ++ post)).1 ∧
    (loop step init (pre ++ kv :: post)).2.Perm (es ++ (loop step init (pre ++ post)).2) := by
  rw [loop_append, loop_cons, h, loop_append]
  exact ⟨rfl, List.perm_append_comm_assoc _ _ _⟩

/-! ### `mappingLoop` -/

/-- the id under which `parseMapping` files a key node -/
def keyId (cfg : Cfg) (caseSensitive : Bool) (kn : Node) : String :=
  if caseSensitive then (parseString kn false).1.value else cfg.lower (parseString kn false).1.value

theorem lookupSeen_snoc (id id' : String) (p : Pos) (seen : List (String × Pos)) :
    lookupSeen id (seen ++ [(id', p)]) =
      match lookupSeen id seen with
      | some q => some q
      | none => if id' = id then some p else none := by
  induction seen with
  | nil => simp [lookupSeen]
  | cons x rest ih =>
    obtain ⟨k, q⟩ := x
    simp only [List.cons_append, lookupSeen]
    split
    · rfl
    · exact ih

theorem lookupSeen_snoc_ne {id id' : String} (p : Pos) (seen : List (String × Pos)) (h : id' ≠ id) :
    lookupSeen id (seen ++ [(id', p)]) = lookupSeen id seen := by
  rw [lookupSeen_snoc]
  cases lookupSeen id seen <;> simp [h]

theorem mappingLoop_cons (cfg : Cfg) (what : String) (cs : Bool) (kn vn : Node) (rest : List (Node × Node))
    (seen : List (String × Pos)) :
    mappingLoop cfg what cs ((kn, vn) :: rest) seen =
      match lookupSeen (keyId cfg cs kn) seen with
      | some pos =>
        ((mappingLoop cfg what cs rest seen).1,
         (parseString kn false).2 ++ [⟨(parseString kn false).1.pos, "key-duplicated",
            [(parseString kn false).1.value, what, posString pos,
             if cs then "" else ". note that this key is case insensitive"]⟩] ++ (mappingLoop cfg what cs rest seen).2)
      | none =>
        (⟨keyId cfg cs kn, (parseString kn false).1, vn⟩ ::
            (mappingLoop cfg what cs rest (seen ++ [(keyId cfg cs kn, (parseString kn false).1.pos)])).1,
         (parseString kn false).2 ++
            (mappingLoop cfg what cs rest (seen ++ [(keyId cfg cs kn, (parseString kn false).1.pos)])).2) := by
  simp only [mappingLoop, keyId]
  split <;> rename_i h <;> simp only [h]

/-- `mappingLoop` looks at `seen` only through the ids of the keys it processes -/
theorem mappingLoop_congr (cfg : Cfg) (what : String) (cs : Bool) (l : List (Node × Node)) :
    ∀ seen seen' : List (String × Pos),
      (∀ q ∈ l, lookupSeen (keyId cfg cs q.1) seen = lookupSeen (keyId cfg cs q.1) seen') →
      mappingLoop cfg what cs l seen = mappingLoop cfg what cs l seen' := by
  induction l with
  | nil => intros; rfl
  | cons q rest ih =>
    intro seen seen' h
    obtain ⟨kn, vn⟩ := q
    have hk := h (kn, vn) (by simp)
    simp only at hk
    rw [mappingLoop_cons, mappingLoop_cons, ← hk]
    cases hl : lookupSeen (keyId cfg cs kn) seen with
    | some pos =>
      simp only
      rw [ih seen seen' (fun q hq => h q (by simp [hq]))]
    | none =>
      simp only
      have : mappingLoop cfg what cs rest (seen ++ [(keyId cfg cs kn, (parseString kn false).1.pos)]) =
             mappingLoop cfg what cs rest (seen' ++ [(keyId cfg cs kn, (parseString kn false).1.pos)]) := by
        apply ih
        intro q hq
        rw [lookupSeen_snoc, lookupSeen_snoc, h q (by simp [hq])]
      rw [this]

/-- the position `parseMapping` remembers for an id: the first key node with that id -/
def firstPos (cfg : Cfg) (cs : Bool) (id : String) : List (Node × Node) → Option Pos
  | [] => none
  | (kn, _) :: rest => if keyId cfg cs kn = id then some (parseString kn false).1.pos else firstPos cfg cs id rest

theorem firstPos_isSome (cfg : Cfg) (cs : Bool) (id : String) : ∀ l : List (Node × Node),
    (firstPos cfg cs id l).isSome ↔ ∃ q ∈ l, keyId cfg cs q.1 = id
  | [] => by simp [firstPos]
  | (kn, vn) :: l => by
    by_cases h : keyId cfg cs kn = id
    · simp only [firstPos, h, ↓reduceIte, Option.isSome_some, List.mem_cons, exists_eq_or_imp, true_or]
    · simp only [firstPos, h, ↓reduceIte, firstPos_isSome cfg cs id l, List.mem_cons, exists_eq_or_imp, false_or]

end AL.PW

namespace AL.C09D
open AL.PW AL.Yaml AL.Ast

/-- the `seen` table of `parseMapping` after the pairs `ps` -/
def seenAfter (cfg : Cfg) (cs : Bool) : List (Node × Node) → List (String × Yaml.Pos) → List (String × Yaml.Pos)
  | [], seen => seen
  | p :: rest, seen =>
    match lookupSeen (keyId cfg cs p.1) seen with
    | some _ => seenAfter cfg cs rest seen
    | none => seenAfter cfg cs rest (seen ++ [(keyId cfg cs p.1, (parseString p.1 false).1.pos)])

end AL.C09D

namespace AL.PW
open AL.Yaml AL.Ast
open AL.C09D (seenAfter)

theorem mappingLoop_append (cfg : Cfg) (what : String) (cs : Bool) (b : List (Node × Node)) :
    ∀ (a : List (Node × Node)) (seen : List (String × Pos)),
      mappingLoop cfg what cs (a ++ b) seen =
        ((mappingLoop cfg what cs a seen).1 ++ (mappingLoop cfg what cs b (seenAfter cfg cs a seen)).1,
         (mappingLoop cfg what cs a seen).2 ++ (mappingLoop cfg what cs b (seenAfter cfg cs a seen)).2)
  | [], seen => by simp [mappingLoop, seenAfter]
  | (kn, vn) :: rest, seen => by
    simp only [List.cons_append, mappingLoop_cons, seenAfter]
    cases lookupSeen (keyId cfg cs kn) seen with
    | some pos => simp only [mappingLoop_append cfg what cs b rest seen, List.append_assoc]
    | none => simp only [mappingLoop_append cfg what cs b rest, List.cons_append, List.append_assoc]

/-- looking an id up after a prefix: what was there before, else the first key of the prefix with that id -/
theorem lookupSeen_seenAfter (cfg : Cfg) (cs : Bool) (id : String) :
    ∀ (l : List (Node × Node)) (seen : List (String × Pos)),
      lookupSeen id (seenAfter cfg cs l seen) = (lookupSeen id seen).or (firstPos cfg cs id l)
  | [], seen => by simp [seenAfter, firstPos]
  | (kn, vn) :: l, seen => by
    rw [seenAfter, firstPos]
    cases hk : lookupSeen (keyId cfg cs kn) seen with
    | some pos =>
      simp only [lookupSeen_seenAfter cfg cs id l seen]
      split
      · rename_i h
        subst h
        simp [hk]
      · rfl
    | none =>
      simp only [lookupSeen_seenAfter cfg cs id l (seen ++ _), lookupSeen_snoc]
      cases lookupSeen id seen with
      | some q => rfl
      | none =>
        simp only [Option.none_or]
        split <;> rfl

/-- an id is unseen after `ps` iff it was unseen before and no key of `ps` has it -/
theorem lookupSeen_seenAfter_none (cfg : Cfg) (cs : Bool) (id : String) (ps : List (Node × Node)) (seen : List (String × Pos)) :
    lookupSeen id (seenAfter cfg cs ps seen) = none ↔ (lookupSeen id seen = none ∧ ∀ q ∈ ps, keyId cfg cs q.1 ≠ id) := by
  rw [lookupSeen_seenAfter, Option.or_eq_none_iff, ← Option.not_isSome_iff_eq_none (o := firstPos _ _ _ _),
    firstPos_isSome]
  simp only [not_exists, not_and]

/-- a pair whose id is new (not in the table, not among the pairs around it): exactly one more entry, at its place; the
key's own diagnostics at their place; nothing else changes -/
theorem mappingLoop_insert (cfg : Cfg) (what : String) (cs : Bool) (pre post : List (Node × Node)) (kn vn : Node)
    (seen : List (String × Pos)) (hs : lookupSeen (keyId cfg cs kn) seen = none)
    (hfresh : ∀ q ∈ pre ++ post, keyId cfg cs q.1 ≠ keyId cfg cs kn) :
    mappingLoop cfg what cs (pre ++ (kn, vn) :: post) seen =
      ((mappingLoop cfg what cs pre seen).1 ++
          ⟨keyId cfg cs kn, (parseString kn false).1, vn⟩ :: (mappingLoop cfg what cs post (seenAfter cfg cs pre seen)).1,
       (mappingLoop cfg what cs pre seen).2 ++
          ((parseString kn false).2 ++ (mappingLoop cfg what cs post (seenAfter cfg cs pre seen)).2)) := by
  have hS : lookupSeen (keyId cfg cs kn) (seenAfter cfg cs pre seen) = none :=
    (lookupSeen_seenAfter_none cfg cs _ pre seen).2 ⟨hs, fun q hq => hfresh q (List.mem_append_left _ hq)⟩
  -- having seen the new id changes nothing for `post`, where no key has it
  have hc : mappingLoop cfg what cs post (seenAfter cfg cs pre seen ++ [(keyId cfg cs kn, (parseString kn false).1.pos)]) =
      mappingLoop cfg what cs post (seenAfter cfg cs pre seen) :=
    mappingLoop_congr cfg what cs post _ _ fun q hq =>
      lookupSeen_snoc_ne _ _ (Ne.symm (hfresh q (List.mem_append_right _ hq)))
  rw [mappingLoop_append, mappingLoop_cons, hS]
  simp only [hc]

theorem mappingLoop_ids (cfg : Cfg) (what : String) (cs : Bool) (l : List (Node × Node)) :
    ∀ (seen : List (String × Pos)) (kv : KV), kv ∈ (mappingLoop cfg what cs l seen).1 →
      ∃ q ∈ l, kv.id = keyId cfg cs q.1 ∧ kv.key = (parseString q.1 false).1 ∧ kv.val = q.2 := by
  induction l with
  | nil => intro seen kv h; cases h
  | cons q rest ih =>
    intro seen kv h
    obtain ⟨kn, vn⟩ := q
    rw [mappingLoop_cons] at h
    cases hl : lookupSeen (keyId cfg cs kn) seen with
    | some pos =>
      rw [hl] at h
      obtain ⟨q, hq, hh⟩ := ih seen kv h
      exact ⟨q, by simp [hq], hh⟩
    | none =>
      rw [hl] at h
      rcases List.mem_cons.1 h with rfl | h
      · exact ⟨(kn, vn), by simp, rfl, rfl, rfl⟩
      · obtain ⟨q, hq, hh⟩ := ih _ kv h
        exact ⟨q, by simp [hq], hh⟩

end AL.PW
