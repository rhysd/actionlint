import AL.Props.C14Wf
import AL.Lemmas.ParseWfClean
/-
  Lemmas for AL.Props.C14Doc. The document-side readers `valueOf` / `attr` (the value under the first key spelled `name` of
  a mapping node), and the shared facts about a section parser on a mapping it accepts WITHOUT a diagnostic
  (AL.Lemmas.ParseWfClean) under the names and with the entry `mkKV` the C14D files use:

  * `parseMapping_clean_eq` — `parseMapping` returns one entry per pair, in order: the id is the key (folded in a
    case-insensitive mapping), the key string is the key node, the value is the value node; the ids are pairwise distinct;
  * `loop_field_clean` — a field of the loop state that only the iteration of ONE id writes ends up as what that iteration
    wrote (or as it was, when the mapping has no such key);
  * `mget_eq_attr` — on an accepted mapping `attr` reads what `AL.C05D.mget` reads.

  Reading a section in terms of `attr` is `sect_field` in AL.Lemmas.C14DCallee (over `PW.section_reads`).
-/
namespace AL.C14D
open AL.Yaml AL.PW AL.Ast

/-! ### the document-side reader of one mapping -/

def valueOf (name : String) : List (Node × Node) → Option Node
  | [] => none
  | (k, v) :: rest => if k.value = name then some v else valueOf name rest

def attr (name : String) (n : Node) : Option Node := if n.kind = .mapping then valueOf name (pairs n.content) else none

/-- `valueOf` is `find?` by key text; what follows about it are the library's facts about `find?` -/
theorem find_pair_value (name : String) : ∀ (l : List (Node × Node)),
    (l.find? (fun q => q.1.value = name)).map (·.2) = valueOf name l
  | [] => rfl
  | (k, v) :: rest => by
    simp only [List.find?_cons, valueOf]
    by_cases h : k.value = name
    · simp [h]
    · simp only [h, decide_false, if_false]
      exact find_pair_value name rest

theorem valueOf_mem {name : String} : ∀ {l : List (Node × Node)} {v : Node}, valueOf name l = some v →
    ∃ k, (k, v) ∈ l ∧ k.value = name := by
  intro l v h
  rw [← find_pair_value, Option.map_eq_some_iff] at h
  obtain ⟨⟨k, _⟩, hf, rfl⟩ := h
  exact ⟨k, List.mem_of_find?_eq_some hf, by simpa using List.find?_some hf⟩

theorem valueOf_none {name : String} : ∀ {l : List (Node × Node)}, valueOf name l = none → ∀ q ∈ l, q.1.value ≠ name := by
  intro l h q hq
  rw [← find_pair_value, Option.map_eq_none_iff] at h
  simpa using List.find?_eq_none.1 h q hq

/-- with pairwise distinct key texts, "the first" is "the" -/
theorem valueOf_of_mem {name : String} : ∀ {l : List (Node × Node)} {k v : Node}, (l.map (·.1.value)).Nodup → (k, v) ∈ l →
    k.value = name → valueOf name l = some v := by
  intro l k v hnd hm hk
  rw [← find_pair_value, AL.C11D.find?_of_mem_nodup (·.1.value) name l hnd (k, v) hm hk]
  rfl

theorem attr_mem {name : String} {n v : Node} (h : attr name n = some v) : ∃ k, (k, v) ∈ pairs n.content ∧ k.value = name := by
  rw [attr] at h
  split at h
  · exact valueOf_mem h
  · cases h

/-! ### `parseMapping`, clean: the list of entries -/

/-- the entry `parseMapping` makes of a pair -/
def mkKV (cfg : Cfg) (cs : Bool) (q : Node × Node) : KV := ⟨AL.C10M.idOf cfg cs q.1, newString q.1, q.2⟩

theorem mappingLoop_clean_eq (cfg : Cfg) (what : String) (cs : Bool) : ∀ (l : List (Node × Node)) (seen : List (String × Yaml.Pos)),
    (mappingLoop cfg what cs l seen).2 = [] → (mappingLoop cfg what cs l seen).1 = l.map (mkKV cfg cs) ∧
      ∀ q ∈ l, q.1.kind = .scalar ∧ q.1.value ≠ "" :=
  mappingLoop_silent cfg what cs

/-- **`parseMapping` on a mapping it accepts**: the node is a mapping or null, the entries are the pairs in order, their
ids are pairwise distinct, every key is a non-empty scalar -/
theorem parseMapping_clean_eq (cfg : Cfg) (what : String) (n : Node) (ae cs : Bool) (h : (parseMapping cfg what n ae cs).2 = []) :
    (n.kind = .mapping ∨ n.isNull = true) ∧
    (parseMapping cfg what n ae cs).1 = (pairs n.content).map (mkKV cfg cs) ∧
    (((pairs n.content).map (mkKV cfg cs)).map (·.id)).Nodup ∧
    (∀ q ∈ pairs n.content, q.1.kind = .scalar ∧ q.1.value ≠ "") ∧
    (ae = false → n.kind = .mapping ∧ pairs n.content ≠ []) :=
  parseMapping_silent cfg what n ae cs h

theorem mkKV_id_cs (cfg : Cfg) (q : Node × Node) : (mkKV cfg true q).id = q.1.value := rfl
theorem mkKV_id_ci (cfg : Cfg) (q : Node × Node) : (mkKV cfg false q).id = cfg.lower q.1.value := rfl

/-- in a case-sensitive mapping, looking an id up among the entries is looking the key up among the pairs -/
theorem find_mkKV (cfg : Cfg) (name : String) : ∀ (l : List (Node × Node)),
    (l.map (mkKV cfg true)).find? (fun kv => kv.id = name) =
      match l.find? (fun q => q.1.value = name) with
      | some q => some (mkKV cfg true q)
      | none => none
  | l => (find_kvOf cfg name l).trans (by cases l.find? (fun q => q.1.value = name) <;> rfl)

theorem find_pair_key (name : String) : ∀ (l : List (Node × Node)) (q : Node × Node),
    l.find? (fun q => q.1.value = name) = some q → q ∈ l ∧ q.1.value = name := by
  intro l q h
  exact ⟨List.mem_of_find?_eq_some h, by simpa using List.find?_some h⟩

/-- `attr` and `AL.C05D.mget` read the same value off a node `parseMapping` accepts where the mapping must not be empty (it is
a mapping): what is proved about an accepted document in the one vocabulary (AL.Lemmas.ParseWfClean, AL.Lemmas.C05DJob)
serves in the other -/
theorem mget_eq_attr (cfg : Cfg) (what : String) (n : Node) (cs : Bool) (h : (parseMapping cfg what n false cs).2 = [])
    (k : String) : AL.C05D.mget n k = attr k n := by
  rw [attr, if_pos (AL.C03P.parseMapping_clean_notnull cfg what n cs h)]
  exact find_pair_value k (pairs n.content)

/-! ### `loop`: a field written by the iteration of one id -/

variable {σ : Type}

/-- **a field of the loop state that only the iteration of the id `key` writes** (`hkeep`), and that iteration writes
`val old kv` (`hset`) — both asked of silent iterations only: after a silent loop over entries with pairwise distinct ids
the field is what the iteration of `key` wrote, or what it was when there is no such entry -/
theorem loop_field_clean {α : Type} (step : σ → KV → σ × List PErr) (get : σ → α) (key : String) (val : α → KV → α)
    (hset : ∀ st kv, kv.id = key → (step st kv).2 = [] → get (step st kv).1 = val (get st) kv)
    (hkeep : ∀ st kv, kv.id ≠ key → (step st kv).2 = [] → get (step st kv).1 = get st) :
    ∀ (kvs : List KV) (init : σ), (kvs.map (·.id)).Nodup → (loop step init kvs).2 = [] →
      get (loop step init kvs).1 = (kvs.find? (fun kv => kv.id = key)).elim (get init) (val (get init)) :=
  fun kvs init hnd hc => (loop_reads step get key (val (get init)) (fun _ => True) (get init) hkeep
    (fun st kv hk hs h0 => ⟨h0 ▸ hset st kv hk hs, trivial⟩) kvs init hnd hc rfl).1

theorem loop_clean_mem (step : σ → KV → σ × List PErr) : ∀ (kvs : List KV) (init : σ), (loop step init kvs).2 = [] →
    ∀ kv ∈ kvs, ∃ st, (step st kv).2 = [] :=
  loop_silent_mem step

theorem mapKVs_fst {β : Type} (f : KV → R β) : ∀ (kvs : List KV), (mapKVs f kvs).1 = kvs.map fun kv => (kv.id, (f kv).1) :=
  fun kvs => by rw [mapKVs_mapR, mapR_fst]

theorem mapKVs_clean_all {β : Type} (f : KV → R β) (kvs : List KV) (h : (mapKVs f kvs).2 = []) : ∀ kv ∈ kvs, (f kv).2 = [] := by
  rw [mapKVs_mapR] at h
  exact mapR_silent.1 h

/-! ### `put` on distinct keys is `append` -/

theorem foldl_put_distinct {α β : Type} (key : β → String) (val : β → α) : ∀ (l : List β) (m : List (String × α)),
    ((m.map (·.1)) ++ l.map key).Nodup →
    l.foldl (fun m x => AL.CallMeta.put m (key x) (val x)) m = m ++ l.map fun x => (key x, val x)
  | [], m, _ => by simp
  | x :: rest, m, h => by
    have hx : key x ∉ m.map (·.1) := by
      intro hm
      rw [List.nodup_append] at h
      exact h.2.2 _ hm _ (by simp) rfl
    have hput : AL.CallMeta.put m (key x) (val x) = m ++ [(key x, val x)] := by
      unfold AL.CallMeta.put
      have : m.any (fun e => decide (e.1 = key x)) = false := by
        rw [List.any_eq_false]
        intro e he
        simp only [decide_eq_true_eq]
        intro ee
        exact hx (List.mem_map.2 ⟨e, he, ee⟩)
      simp [this]
    simp only [List.foldl_cons, hput]
    rw [foldl_put_distinct key val rest]
    · simp
    · simpa [List.map_append, List.append_assoc] using h

end AL.C14D
