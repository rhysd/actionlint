import AL.Model.Visit
import AL.Lemmas.Visit
/-
  Lemmas about the type `checkMatrix` computes for the `matrix` context (AL/Model/Visit.lean: `matrixLitTy`,
  `includeCombo`, `matrixExprTy`): the literal include entries keep the object an object, keep its `mapped` part, and
  fold `Ty.setProp` over its properties, so that the keys are read off by `Ty.hasKey_foldl_setProp`.
-/
namespace AL.Visit
open AL AL.Sema

/-! ### literal include entries -/

theorem includeCombo_assigns_nil (ev : Ev) (o : Ty) : includeCombo ev o (.assigns []) = o := rfl

/-- one `key: value` of a literal include entry, on the properties of the matrix object -/
def assignProp (ev : Ev) (ps : List (String × Ty)) (kv : String × RawV) : List (String × Ty) :=
  Ty.setProp kv.1 (match Ty.lookup kv.1 ps with
    | some t => Ty.merge t (rawTy ev kv.2)
    | none => rawTy ev kv.2) ps

/-- a literal include entry leaves an object an object with the same `mapped` part -/
theorem includeCombo_assigns (ev : Ev) (ps : List (String × Ty)) (m : Option Ty) (as : List (String × RawV)) :
    includeCombo ev (.obj ps m) (.assigns as) = .obj (as.foldl (assignProp ev) ps) m :=
  List.foldl_hom (fun ps => Ty.obj ps m) (g₁ := assignProp ev) (H := fun _ _ => rfl)

/-- the `include:` loop over entries that are all literal mappings -/
theorem foldl_includeCombo_assigns (ev : Ev) (ps : List (String × Ty)) (m : Option Ty)
    (ass : List (List (String × RawV))) :
    (ass.map ComboM.assigns).foldl (includeCombo ev) (.obj ps m) =
      .obj (ass.foldl (fun ps as => as.foldl (assignProp ev) ps) ps) m := by
  rw [List.foldl_map]
  exact List.foldl_hom (fun ps => Ty.obj ps m) (H := fun ps as => includeCombo_assigns ev ps m as)

theorem hasKey_assigns (ev : Ev) (x : String) (ps : List (String × Ty)) (as : List (String × RawV)) :
    (Ty.lookup x (as.foldl (assignProp ev) ps)).isSome = true ↔
      (Ty.lookup x ps).isSome = true ∨ x ∈ as.map (·.1) :=
  Ty.hasKey_foldl_setProp Prod.fst _ x as ps

/-! ### `matrixLitTy`, unfolded per shape of `include` -/

theorem matrixLitTy_none (ev : Ev) (rows : List (String × RowM)) :
    matrixLitTy ev rows .none =
      .obj (rows.foldl (fun ps kr => Ty.setProp kr.1 (rowTy ev kr.2) ps) []) none := rfl

theorem matrixLitTy_combos (ev : Ev) (rows : List (String × RowM)) (cs : List ComboM) :
    matrixLitTy ev rows (.combos cs) =
      cs.foldl (includeCombo ev)
        (.obj (rows.foldl (fun ps kr => Ty.setProp kr.1 (rowTy ev kr.2) ps) []) none) := rfl

/-- the literal matrix with literal include entries: a strict object whose keys are the row keys and the assigned
keys -/
theorem matrixLitTy_assigns (ev : Ev) (rows : List (String × RowM)) (ass : List (List (String × RawV))) :
    ∃ ps, matrixLitTy ev rows (.combos (ass.map .assigns)) = .obj ps none ∧
      ∀ x, (Ty.lookup x ps).isSome = true ↔ (x ∈ rows.map (·.1) ∨ ∃ as ∈ ass, x ∈ as.map (·.1)) := by
  refine ⟨_, (matrixLitTy_combos ev rows _).trans (foldl_includeCombo_assigns ev _ none ass), fun x => ?_⟩
  rw [Ty.hasKey_foldl x (hasKey_assigns ev x), Ty.hasKey_foldl_setProp Prod.fst fun _ kr => rowTy ev kr.2]
  simp [Ty.lookup]

theorem matrixLitTy_expr_open (ev : Ev) (rows : List (String × RowM)) (e : E)
    (h : ∀ el d, ev e ≠ some (Ty.arr el d)) : matrixLitTy ev rows (.expr e) = emptyLoose := by
  show (match ev e with
    | some (.arr elem _) =>
      (match Ty.merge (.obj (rows.foldl (fun ps kr => Ty.setProp kr.1 (rowTy ev kr.2) ps) []) none) elem with
      | .obj ps m => Ty.obj ps m
      | _ => emptyLoose)
    | _ => emptyLoose) = emptyLoose
  split
  · next elem d heq => exact absurd heq (h elem d)
  · rfl

theorem matrixExprTy_open (ev : Ev) (e : E) (h : ∀ ps m, ev e ≠ some (Ty.obj ps m)) :
    matrixExprTy ev e = emptyLoose := by
  unfold matrixExprTy
  split
  · next ps m heq => exact absurd heq (h ps m)
  · rfl

/-! ### an include element that is an expression -/

theorem merge_obj_any (ps : List (String × Ty)) (m : Option Ty) : Ty.merge (.obj ps m) .any = .any := rfl

theorem includeCombo_expr_any (ev : Ev) (ps : List (String × Ty)) (m : Option Ty) (e : E)
    (h : ev e = some Ty.any) : includeCombo ev (.obj ps m) (.expr e) = .obj ps (some .any) := by
  unfold includeCombo
  simp only [h, merge_obj_any]
  rfl

end AL.Visit
