import AL.Lemmas.C13Path
/-
  Helper lemmas for AL.Props.C09Doc: block moves under `List.Perm`, the key loop of `parseMapping` as a function of the
  list of pairs (`kept`, over `seenAfter` of AL.Lemmas.ParseWfLoop), `mapKVs` as a map, and the lifting of a CHANGED
  sub-result through the enclosing parsers (`Split`):
  where `C13D3.Path` carries an unchanged result and extra diagnostics, `Split` says that the enclosing parser looks at
  the sub-node only through the sub-parser: its result is `put` of the sub-result, its diagnostics are the sub-parser's,
  between two fixed lists.
-/
namespace AL.C09D
open AL.PW AL.Yaml AL.Ast AL.C13P AL.C13D AL.C13D3

/-! ### moving whole blocks: the multiset statements of `C09Doc` are compositions of these -/

theorem perm_interchange {α : Type} (a b c d : List α) : (a ++ b ++ (c ++ d)).Perm (a ++ c ++ (b ++ d)) := by
  rw [List.append_assoc, List.append_assoc]
  refine List.Perm.append_left a ?_
  rw [← List.append_assoc, ← List.append_assoc]
  exact List.Perm.append_right d List.perm_append_comm

theorem perm_move_last {α : Type} (a p b : List α) : (a ++ (p ++ b)).Perm ((a ++ b) ++ p) := by
  rw [List.append_assoc]
  exact List.perm_append_comm.append_left a

theorem perm_block_last {α : Type} (a s p b : List α) : (a ++ ((s ++ p) ++ b)).Perm ((a ++ (s ++ b)) ++ p) := by
  rw [List.append_assoc s p b, ← List.append_assoc a s, ← List.append_assoc a s]
  exact perm_move_last (a ++ s) p b

theorem perm_flatMap_insert {α β : Type} (f : α → List β) (l₁ l₂ : List α) (x : α) :
    ((l₁ ++ x :: l₂).flatMap f).Perm ((l₁ ++ l₂).flatMap f ++ f x) := by
  rw [List.flatMap_append, List.flatMap_append, List.flatMap_cons]
  exact perm_move_last _ _ _

theorem perm_flatMap_replace {α β : Type} (f : α → List β) (l₁ l₂ : List α) (x' x : α) (o : List β) (h : (f x').Perm (f x ++ o)) :
    ((l₁ ++ x' :: l₂).flatMap f).Perm ((l₁ ++ x :: l₂).flatMap f ++ o) := by
  rw [List.flatMap_append, List.flatMap_append, List.flatMap_cons, List.flatMap_cons]
  exact ((h.append_right _).append_left _).trans (perm_block_last _ _ _ _)

/-! ### `mappingLoop` as a function of the pairs -/

/-- the entry `parseMapping` makes of a key/value pair -/
def kvOf (cfg : Cfg) (cs : Bool) (p : Node × Node) : KV := ⟨keyId cfg cs p.1, (parseString p.1 false).1, p.2⟩

/-- the pairs `parseMapping` keeps: those whose (folded) id was not seen before -/
def kept (cfg : Cfg) (cs : Bool) : List (Node × Node) → List (String × Yaml.Pos) → List (Node × Node)
  | [], _ => []
  | p :: rest, seen =>
    match lookupSeen (keyId cfg cs p.1) seen with
    | some _ => kept cfg cs rest seen
    | none => p :: kept cfg cs rest (seen ++ [(keyId cfg cs p.1, (parseString p.1 false).1.pos)])

theorem mappingLoop_kept (cfg : Cfg) (what : String) (cs : Bool) : ∀ (ps : List (Node × Node)) (seen : List (String × Yaml.Pos)),
    (mappingLoop cfg what cs ps seen).1 = (kept cfg cs ps seen).map (kvOf cfg cs)
  | [], _ => rfl
  | (kn, vn) :: rest, seen => by
    rw [mappingLoop_cons]
    simp only [kept]
    cases lookupSeen (keyId cfg cs kn) seen with
    | some pos => exact mappingLoop_kept cfg what cs rest seen
    | none => simp only [List.map_cons, kvOf]; rw [mappingLoop_kept cfg what cs rest]

theorem mappingLoop_append (cfg : Cfg) (what : String) (cs : Bool) (b : List (Node × Node)) :
    ∀ (a : List (Node × Node)) (seen : List (String × Yaml.Pos)),
    mappingLoop cfg what cs (a ++ b) seen =
      ((mappingLoop cfg what cs a seen).1 ++ (mappingLoop cfg what cs b (seenAfter cfg cs a seen)).1,
       (mappingLoop cfg what cs a seen).2 ++ (mappingLoop cfg what cs b (seenAfter cfg cs a seen)).2) :=
  PW.mappingLoop_append cfg what cs b

theorem kept_append (cfg : Cfg) (cs : Bool) (b : List (Node × Node)) :
    ∀ (a : List (Node × Node)) (seen : List (String × Yaml.Pos)),
    kept cfg cs (a ++ b) seen = kept cfg cs a seen ++ kept cfg cs b (seenAfter cfg cs a seen)
  | [], seen => by simp [kept, seenAfter]
  | p :: rest, seen => by
    simp only [List.cons_append, kept, seenAfter]
    cases lookupSeen (keyId cfg cs p.1) seen with
    | some pos => exact kept_append cfg cs b rest seen
    | none => simp only [kept_append cfg cs b rest, List.cons_append]

theorem lookupSeen_seenAfter_none (cfg : Cfg) (cs : Bool) (id : String) :
    ∀ (ps : List (Node × Node)) (seen : List (String × Yaml.Pos)),
    lookupSeen id (seenAfter cfg cs ps seen) = none ↔ (lookupSeen id seen = none ∧ ∀ q ∈ ps, keyId cfg cs q.1 ≠ id) :=
  PW.lookupSeen_seenAfter_none cfg cs id

theorem mappingLoop_insert (cfg : Cfg) (what : String) (cs : Bool) (pre post : List (Node × Node)) (kn vn : Node)
    (seen : List (String × Yaml.Pos)) (hs : lookupSeen (keyId cfg cs kn) seen = none)
    (hfresh : ∀ q ∈ pre ++ post, keyId cfg cs q.1 ≠ keyId cfg cs kn) :
    mappingLoop cfg what cs (pre ++ (kn, vn) :: post) seen =
      ((mappingLoop cfg what cs pre seen).1 ++ kvOf cfg cs (kn, vn) :: (mappingLoop cfg what cs post (seenAfter cfg cs pre seen)).1,
       (mappingLoop cfg what cs pre seen).2 ++ ((parseString kn false).2 ++ (mappingLoop cfg what cs post (seenAfter cfg cs pre seen)).2)) :=
  PW.mappingLoop_insert cfg what cs pre post kn vn seen hs hfresh

theorem fresh_insert {cfg : Cfg} {cs : Bool} {pre post : List (Node × Node)} {p : Node × Node} {id : String}
    (h : ∀ q ∈ pre ++ post, keyId cfg cs q.1 ≠ id) (hp : keyId cfg cs p.1 ≠ id) : ∀ q ∈ pre ++ p :: post, keyId cfg cs q.1 ≠ id := by
  rw [List.forall_mem_append] at h ⊢
  exact ⟨h.1, List.forall_mem_cons.2 ⟨hp, h.2⟩⟩

theorem kept_insert (cfg : Cfg) (cs : Bool) (pre post : List (Node × Node)) (kn vn : Node)
    (seen : List (String × Yaml.Pos)) (hs : lookupSeen (keyId cfg cs kn) seen = none)
    (hfresh : ∀ q ∈ pre ++ post, keyId cfg cs q.1 ≠ keyId cfg cs kn) :
    kept cfg cs (pre ++ (kn, vn) :: post) seen =
      kept cfg cs pre seen ++ (kn, vn) :: kept cfg cs post (seenAfter cfg cs pre seen) := by
  have hS : lookupSeen (keyId cfg cs kn) (seenAfter cfg cs pre seen) = none :=
    (lookupSeen_seenAfter_none cfg cs _ pre seen).2 ⟨hs, fun q hq => hfresh q (List.mem_append_left _ hq)⟩
  rw [kept_append]
  congr 1
  simp only [kept, hS]
  congr 1
  -- the table with the new id behaves like the one without on `post`
  have : ∀ (l : List (Node × Node)) (s s' : List (String × Yaml.Pos)),
      (∀ q ∈ l, lookupSeen (keyId cfg cs q.1) s = lookupSeen (keyId cfg cs q.1) s') → kept cfg cs l s = kept cfg cs l s' := by
    intro l
    induction l with
    | nil => intros; rfl
    | cons q rest ih =>
      intro s s' h
      have hq := h q (by simp)
      simp only [kept, ← hq]
      cases hl : lookupSeen (keyId cfg cs q.1) s with
      | some pos => exact ih s s' (fun q' hq' => h q' (by simp [hq']))
      | none =>
        simp only
        congr 1
        apply ih
        intro q' hq'
        rw [lookupSeen_snoc, lookupSeen_snoc, h q' (by simp [hq'])]
  apply this
  intro q hq
  exact lookupSeen_snoc_ne _ _ (Ne.symm (hfresh q (List.mem_append_right _ hq)))

/-- pairwise distinct ids, none in the table: every pair is kept, the diagnostics are those of the key nodes -/
theorem mappingLoop_nodup_ids (cfg : Cfg) (what : String) (cs : Bool) : ∀ (ps : List (Node × Node)) (seen : List (String × Yaml.Pos)),
    (ps.map fun p => keyId cfg cs p.1).Nodup → (∀ q ∈ ps, lookupSeen (keyId cfg cs q.1) seen = none) →
    kept cfg cs ps seen = ps ∧ (mappingLoop cfg what cs ps seen).2 = ps.flatMap (fun p => (parseString p.1 false).2)
  | [], _, _, _ => ⟨rfl, rfl⟩
  | (kn, vn) :: rest, seen, hn, hs => by
    have h0 := hs (kn, vn) (by simp)
    simp only at h0
    simp only [List.map_cons, List.nodup_cons, List.mem_map, not_exists, not_and] at hn
    have hs' : ∀ q ∈ rest, lookupSeen (keyId cfg cs q.1) (seen ++ [(keyId cfg cs kn, (parseString kn false).1.pos)]) = none := by
      intro q hq
      rw [lookupSeen_snoc_ne _ _ (fun e => hn.1 q hq e.symm)]
      exact hs q (List.mem_cons_of_mem _ hq)
    obtain ⟨ih1, ih2⟩ := mappingLoop_nodup_ids cfg what cs rest _ hn.2 hs'
    rw [mappingLoop_cons]
    simp only [kept, h0, ih1, ih2, List.flatMap_cons, and_self]

/-! ### `mapKVs` -/

theorem mapKVs_eq_map {β : Type} (f : KV → R β) : ∀ kvs : List KV,
    mapKVs f kvs = (kvs.map (fun kv => (kv.id, (f kv).1)), kvs.flatMap (fun kv => (f kv).2)) :=
  congrFun (mapKVs_mapR f)

/-! ### `loop`: an update of the state that the other iterations leave alone -/

theorem loop_commute {σ : Type} (step : σ → KV → σ × List PErr) (upd : σ → σ) (kvs : List KV)
    (h : ∀ s kv, kv ∈ kvs → step (upd s) kv = (upd (step s kv).1, (step s kv).2)) :
    ∀ init, loop step (upd init) kvs = (upd (loop step init kvs).1, (loop step init kvs).2) := by
  induction kvs with
  | nil => intro init; rfl
  | cons kv rest ih =>
    intro init
    rw [loop_cons, loop_cons, h init kv (by simp)]
    simp only
    rw [ih (fun s kv' hm => h s kv' (List.mem_cons_of_mem _ hm))]

/-! ### `Split`: the enclosing parser sees a sub-node only through the sub-parser -/

/-- `P` on `ctx v` is `put` of the result of `Q` on `v`; its diagnostics are `A`, those of `Q` on `v`, `B` — whatever `v` -/
def Split {H α β : Type} (P : Node → R α) (Q : H → R β) (ctx : H → Node) (put : β → α) (A B : List PErr) : Prop :=
  ∀ v, P (ctx v) = (put (Q v).1, A ++ ((Q v).2 ++ B))

theorem Split.trans {H α β γ : Type} {P : Node → R α} {Q : Node → R β} {T : H → R γ} {c₁ : Node → Node} {c₂ : H → Node}
    {p₁ : β → α} {p₂ : γ → β} {A₁ B₁ A₂ B₂ : List PErr}
    (h₁ : Split P Q c₁ p₁ A₁ B₁) (h₂ : Split Q T c₂ p₂ A₂ B₂) :
    Split P T (fun v => c₁ (c₂ v)) (fun x => p₁ (p₂ x)) (A₁ ++ A₂) (B₂ ++ B₁) := by
  intro v
  rw [h₁ (c₂ v), h₂ v]
  simp only [List.append_assoc]

/-- the generic edge: a section parser and the value `emb h` of one of its keys (the first with its id), when the loop
body stores `Q`'s result with `upd` (on a state `base s` that does not depend on the value), keeps `Q`'s diagnostics, and
the iterations of the other keys and the final checks commute with `upd` (`hfin`: on an updated state the final checks are
`fin` of the state without the update, the stored value being `put` into their result) -/
theorem Sect.split {H σ ρ β : Type} (S : Sect σ ρ) (cfg : Cfg) (what : String) (cs : Bool) (m : MapCtx) (emb : H → Node)
    (Q : H → R β) (upd : β → σ → σ) (base : σ → σ) (put : β → ρ → ρ) (fin : σ → ρ × List PErr)
    (hfirst : ∀ q ∈ m.pre, keyId cfg cs q.1 ≠ keyId cfg cs m.key)
    (hstep : ∀ s h, S.step s ⟨keyId cfg cs m.key, (parseString m.key false).1, emb h⟩ = (upd (Q h).1 (base s), (Q h).2))
    (hcomm : ∀ b s kv, kv.id ≠ keyId cfg cs m.key → S.step (upd b s) kv = (upd b (S.step s kv).1, (S.step s kv).2))
    (hfin : ∀ b s, S.finish (upd b s) = (put b (fin s).1, (fin s).2)) :
    ∃ (r : ρ) (A B : List PErr), Split (fun n => S.run cfg what n false cs) Q (fun h => m.at (emb h)) (fun b => put b r) A B := by
  obtain ⟨k1, k2, es, -, hk2, e⟩ := Sect.run_at S cfg what false cs m hfirst
  refine ⟨(fin (loop S.step (base (loop S.step S.init k1).1) k2).1).1, es ++ (loop S.step S.init k1).2,
    (loop S.step (base (loop S.step S.init k1).1) k2).2 ++ (fin (loop S.step (base (loop S.step S.init k1).1) k2).1).2, fun v => ?_⟩
  simp only [e, seqR, hstep]
  rw [loop_commute S.step (upd (Q v).1) k2 (fun s kv hkv => hcomm _ s kv (hk2 kv hkv).2)]
  simp only [hfin, List.append_assoc]

/-! ### the `jobs:` mapping: names for the parts of `parseJobs`' result -/

abbrev withJobs (W : Workflow) (js : List (String × Job)) : Workflow := { W with jobs := some js }


/-- what `parseJobs` makes of one pair of the `jobs:` mapping: the job and its diagnostics -/
def jobOfPair (cfg : Cfg) (p : Node × Node) : R Job := parseJob cfg (parseString p.1 false).1 p.2

/-- the entry of `Workflow.Jobs` for a pair: keyed by the folded id -/
def jobEntry (cfg : Cfg) (p : Node × Node) : String × Job := (keyId cfg false p.1, (jobOfPair cfg p).1)

/-- `"jobs" section should not be empty`, at the `jobs:` mapping -/
def emptyErr (l c : Nat) : PErr := ⟨⟨l, c⟩, "mapping-empty", [sectionWhat "jobs"]⟩

theorem kept_isEmpty (cfg : Cfg) (cs : Bool) (ps : List (Node × Node)) : (kept cfg cs ps []).isEmpty = ps.isEmpty := by
  cases ps with
  | nil => rfl
  | cons p rest => simp [kept, lookupSeen]

/-- the jobs, the key diagnostics and the job diagnostics of a run of pairs, the table of seen ids being `seen` -/
def jobsOfPairs (cfg : Cfg) (ps : List (Node × Node)) (seen : List (String × Yaml.Pos)) : List (String × Job) :=
  (kept cfg false ps seen).map (jobEntry cfg)
def keyDiags (cfg : Cfg) (ps : List (Node × Node)) (seen : List (String × Yaml.Pos)) : List PErr :=
  (mappingLoop cfg (sectionWhat "jobs") false ps seen).2
def jobDiags (cfg : Cfg) (ps : List (Node × Node)) (seen : List (String × Yaml.Pos)) : List PErr :=
  (kept cfg false ps seen).flatMap (fun p => (jobOfPair cfg p).2)

theorem pairs_cons_fresh (cfg : Cfg) (post : List (Node × Node)) (kn vn : Node) (seen : List (String × Yaml.Pos))
    (hs : lookupSeen (keyId cfg false kn) seen = none) (hfresh : ∀ q ∈ post, keyId cfg false q.1 ≠ keyId cfg false kn) :
    jobsOfPairs cfg ((kn, vn) :: post) seen = jobEntry cfg (kn, vn) :: jobsOfPairs cfg post seen ∧
    keyDiags cfg ((kn, vn) :: post) seen = (parseString kn false).2 ++ keyDiags cfg post seen ∧
    jobDiags cfg ((kn, vn) :: post) seen = (jobOfPair cfg (kn, vn)).2 ++ jobDiags cfg post seen := by
  have h1 : kept cfg false ((kn, vn) :: post) seen = (kn, vn) :: kept cfg false post seen :=
    kept_insert cfg false [] post kn vn seen hs hfresh
  have h2 : mappingLoop cfg (sectionWhat "jobs") false ((kn, vn) :: post) seen =
      (kvOf cfg false (kn, vn) :: (mappingLoop cfg (sectionWhat "jobs") false post seen).1,
       (parseString kn false).2 ++ (mappingLoop cfg (sectionWhat "jobs") false post seen).2) :=
    mappingLoop_insert cfg (sectionWhat "jobs") false [] post kn vn seen hs hfresh
  simp only [jobsOfPairs, keyDiags, jobDiags, h1, h2, List.map_cons, List.flatMap_cons, and_self]

theorem parseSteps_seqNode (cfg : Cfg) (tag : String) (l c : Nat) (c0 : Node) (t : List Node) :
    parseSteps cfg (seqNode tag l c (c0 :: t)) = (some (stepsOf cfg (c0 :: t)).1, (stepsOf cfg (c0 :: t)).2) := by
  simp [parseSteps, checkSequence, seqNode, Node.kind, Node.content, checkNotEmpty]

end AL.C09D
