import AL.Lemmas.ParserBasic
/-
  Soundness of the parser model w.r.t. the grammar relation: one invariant per parser function,
  proved together by induction on the fuel.
-/
namespace AL.Parse
open AL AL.Lex AL.Spec

abbrev tk (ts : Toks) : List Tok := ts.map (·.tok)

/-- what a level function (with its fuel) returns on a stream ending in END is a sentence of its level -/
def Sound (p : Toks → PRes) (L : Level) : Prop :=
  ∀ ts e rest, endsEnd ts = true → p ts = .ok (e, rest) →
    endsEnd rest = true ∧ ∃ pre, ts = pre ++ rest ∧ Der L (tk pre) e

/-- invariant of the six level functions -/
def SLevel (p : Nat → Toks → PRes) (L : Level) (f : Nat) : Prop := Sound (p f) L

/-- invariant of the postfix loop: it extends whatever postfix sentence denotes `ret` -/
def SLoop (f : Nat) : Prop :=
  ∀ ret ts e rest, endsEnd ts = true → postfixLoop f ret ts = .ok (e, rest) →
    endsEnd rest = true ∧ ∃ pre, ts = pre ++ rest ∧
      ∀ pre0, Der .postfix pre0 ret → Der .postfix (pre0 ++ tk pre) e

/-- invariant of the argument loop: arguments, then `)` -/
def SArgs (f : Nat) : Prop :=
  ∀ acc ts es rest, endsEnd ts = true → argsLoop f acc ts = .ok (es, rest) →
    endsEnd rest = true ∧ ∃ pre rp es', ts = pre ++ rp :: rest ∧ rp.tok.kind = .rparen ∧
      es = acc ++ es' ∧ DerArgs (tk pre) es'

structure SAll (f : Nat) : Prop where
  or      : SLevel parseLogicalOr .or f
  and     : SLevel parseLogicalAnd .and f
  cmp     : SLevel parseCompare .cmp f
  unary   : SLevel parsePrefix .unary f
  post    : SLevel parsePostfix .postfix f
  prim    : SLevel parsePrimary .primary f
  loop    : SLoop f
  args    : SArgs f

theorem cmpOf_ne_end {k : TokKind} {c : CmpKind} (h : cmpOf k = some c) : k ≠ .end := by
  intro h0; subst h0; simp [cmpOf] at h

/-- the three binary levels at once: `p` has the shape `binLevel`, the grammar has the two matching rules -/
theorem sound_bin {α : Type} {p sub self : Toks → PRes} {op : TokKind → Option α} {mk : α → Expr → Expr → Expr}
    {L' L : Level} (hp : ∀ ts, p ts = binLevel sub self op mk ts)
    (hsub : Sound sub L') (hself : Sound self L)
    (hop : ∀ {k a}, op k = some a → k ≠ .end)
    (up : ∀ {ts e}, Der L' ts e → Der L ts e)
    (bin : ∀ {l r o a el er}, Der L' l el → op o.kind = some a → Der L r er → Der L (l ++ o :: r) (mk a el er)) :
    Sound p L := by
  intro ts e rest hE h
  rw [hp, binLevel] at h
  split at h
  · cases h
  · rename_i l ts1 h1
    obtain ⟨hE1, pre1, rfl, hd1⟩ := hsub _ _ _ hE h1
    split at h
    · cases h; exact ⟨hE1, pre1, rfl, up hd1⟩
    · rename_i a ha
      obtain ⟨t, r1, rfl, hadv, hE2, htk⟩ := step_kind hE1 rfl (hop ha)
      rw [hadv] at h
      split at h
      · cases h
      · rename_i r ts2 h2
        cases h
        obtain ⟨hE3, pre2, rfl, hd2⟩ := hself _ _ _ hE2 h2
        refine ⟨hE3, pre1 ++ t :: pre2, by simp, ?_⟩
        simpa [tk] using bin hd1 (by rw [htk]; exact ha) hd2

theorem sound_or {f} (hAnd : SLevel parseLogicalAnd .and f) (hOr : SLevel parseLogicalOr .or f) :
    SLevel parseLogicalOr .or (f + 1) :=
  sound_bin (parseLogicalOr_succ f) hAnd hOr (fun h => by rw [(logOp_eq_some.mp h).1]; decide) .orUp
    fun h1 ho h2 => by obtain ⟨hk, rfl⟩ := logOp_eq_some.mp ho; exact .orBin h1 hk h2

theorem sound_and {f} (hCmp : SLevel parseCompare .cmp f) (hAnd : SLevel parseLogicalAnd .and f) :
    SLevel parseLogicalAnd .and (f + 1) :=
  sound_bin (parseLogicalAnd_succ f) hCmp hAnd (fun h => by rw [(logOp_eq_some.mp h).1]; decide) .andUp
    fun h1 ho h2 => by obtain ⟨hk, rfl⟩ := logOp_eq_some.mp ho; exact .andBin h1 hk h2

theorem sound_cmp {f} (hPre : SLevel parsePrefix .unary f) (hCmp : SLevel parseCompare .cmp f) :
    SLevel parseCompare .cmp (f + 1) :=
  sound_bin (parseCompare_succ f) hPre hCmp cmpOf_ne_end .cmpUp .cmpBin

theorem sound_prefix {f} (hPost : SLevel parsePostfix .postfix f) (hPre : SLevel parsePrefix .unary f) :
    SLevel parsePrefix .unary (f + 1) := by
  intro ts e rest hE h
  rw [parsePrefix] at h
  split at h
  · obtain ⟨hE1, pre1, rfl, hd1⟩ := hPost _ _ _ hE h
    exact ⟨hE1, pre1, rfl, .unaryUp hd1⟩
  · rename_i hk
    have hk : (cur ts).tok.kind = .not := by simpa using hk
    obtain ⟨t, r1, rfl, hadv, hE2, htk⟩ := step_kind hE hk (by decide)
    rw [hadv] at h
    split at h
    · cases h
    · rename_i o ts1 h1
      cases h
      obtain ⟨hE3, pre2, rfl, hd2⟩ := hPre _ _ _ hE2 h1
      exact ⟨hE3, t :: pre2, by simp, .unaryNot htk hd2⟩

theorem sound_postfix {f} (hPrim : SLevel parsePrimary .primary f) (hLoop : SLoop f) :
    SLevel parsePostfix .postfix (f + 1) := by
  intro ts e rest hE h
  rw [parsePostfix] at h
  split at h
  · cases h
  · rename_i e0 ts1 h1
    obtain ⟨hE1, pre1, rfl, hd1⟩ := hPrim _ _ _ hE h1
    obtain ⟨hE2, pre2, rfl, hd2⟩ := hLoop _ _ _ _ hE1 h
    refine ⟨hE2, pre1 ++ pre2, by simp, ?_⟩
    simpa [tk] using hd2 _ (.postUp hd1)

theorem sound_loop {f} (hOr : SLevel parseLogicalOr .or f) (hLoop : SLoop f) : SLoop (f + 1) := by
  intro ret ts e rest hE h
  rw [postfixLoop] at h
  split at h
  · -- '.'
    rename_i hk
    obtain ⟨d, r1, rfl, hadv, hE1, hdk⟩ := step_kind hE hk (by decide)
    simp only [hadv] at h
    split at h
    · rename_i hk2
      obtain ⟨s, r2, rfl, hadv2, hE2, hsk⟩ := step_kind hE1 hk2 (by decide)
      rw [hadv2] at h
      obtain ⟨hE3, pre, rfl, hd⟩ := hLoop _ _ _ _ hE2 h
      refine ⟨hE3, d :: s :: pre, by simp, ?_⟩
      intro pre0 h0
      simpa [tk] using hd _ (.postStar h0 hdk hsk)
    · rename_i hk2
      obtain ⟨i, r2, rfl, hadv2, hE2, hik⟩ := step_kind hE1 hk2 (by decide)
      rw [hadv2] at h
      obtain ⟨hE3, pre, rfl, hd⟩ := hLoop _ _ _ _ hE2 h
      refine ⟨hE3, d :: i :: pre, by simp, ?_⟩
      intro pre0 h0
      simpa [tk, cur_cons] using hd _ (.postProp h0 hdk hik)
    · cases h
  · -- '['
    rename_i hk
    obtain ⟨lb, r1, rfl, hadv, hE1, hlk⟩ := step_kind hE hk (by decide)
    rw [hadv] at h
    split at h
    · cases h
    · rename_i idx ts1 h1
      obtain ⟨hE2, pre1, rfl, hd1⟩ := hOr _ _ _ hE1 h1
      split at h
      · cases h
      · rename_i hk2
        have hk2 : (cur ts1).tok.kind = .rbracket := by simpa using hk2
        obtain ⟨rb, r2, rfl, hadv2, hE3, hrk⟩ := step_kind hE2 hk2 (by decide)
        rw [hadv2] at h
        obtain ⟨hE4, pre, rfl, hd⟩ := hLoop _ _ _ _ hE3 h
        refine ⟨hE4, lb :: pre1 ++ rb :: pre, by simp, ?_⟩
        intro pre0 h0
        simpa [tk] using hd _ (.postIndex h0 hlk hd1 hrk)
  · cases h
    refine ⟨hE, [], by simp, ?_⟩
    intro pre0 h0; simpa using h0

theorem keyword_eq (val : List Sym) (ts : Toks) :
    (if val.map (·.r) = [110, 117, 108, 108] then (Except.ok (Expr.null, ts) : PRes)
     else if val.map (·.r) = [116, 114, 117, 101] then .ok (.bool true, ts)
     else if val.map (·.r) = [102, 97, 108, 115, 101] then .ok (.bool false, ts)
     else .ok (.var val, ts)) = .ok (keywordOrVar val, ts) := by
  by_cases h1 : val.map (·.r) = [110, 117, 108, 108]
  · simp [keywordOrVar, h1]
  · by_cases h2 : val.map (·.r) = [116, 114, 117, 101]
    · simp [keywordOrVar, h2]
    · by_cases h3 : val.map (·.r) = [102, 97, 108, 115, 101]
      · simp [keywordOrVar, h3]
      · simp [keywordOrVar, h1, h2, h3]

theorem sound_primary {f} (hOr : SLevel parseLogicalOr .or f) (hArgs : SArgs f) :
    SLevel parsePrimary .primary (f + 1) := by
  intro ts e rest hE h
  rw [parsePrimary] at h
  simp only at h
  split at h
  · -- IDENT
    rename_i hk
    obtain ⟨t, r1, rfl, hadv, hE1, htk⟩ := step_kind hE hk (by decide)
    simp only [hadv, cur_cons] at h
    by_cases hk2 : (cur r1).tok.kind = .lparen
    · rw [if_pos hk2] at h
      obtain ⟨lp, r2, rfl, hadv2, hE2, hlk⟩ := step_kind hE1 hk2 (by decide)
      simp only [hadv2] at h
      split at h
      · rename_i hk3
        obtain ⟨rp, r3, rfl, hadv3, hE3, hrk⟩ := step_kind hE2 hk3 (by decide)
        rw [hadv3] at h
        cases h
        exact ⟨hE3, [t, lp, rp], by simp, .primCall0 htk hlk hrk⟩
      · split at h
        · cases h
        · rename_i args ts3 h3
          cases h
          obtain ⟨hE3, pre, rp, es', rfl, hrk, hes, hd⟩ := hArgs _ _ _ _ hE2 h3
          simp only [List.nil_append] at hes
          subst hes
          refine ⟨hE3, t :: lp :: pre ++ [rp], by simp, ?_⟩
          simpa [tk] using .primCall htk hlk hd hrk
    · rw [if_neg hk2, keyword_eq] at h
      cases h
      exact ⟨hE1, [t], by simp, .primIdent htk⟩
  · -- '('
    rename_i hk
    obtain ⟨lp, r1, rfl, hadv, hE1, hlk⟩ := step_kind hE hk (by decide)
    rw [hadv] at h
    split at h
    · cases h
    · rename_i nested ts1 h1
      obtain ⟨hE2, pre1, rfl, hd1⟩ := hOr _ _ _ hE1 h1
      split at h
      · rename_i hk2
        obtain ⟨rp, r2, rfl, hadv2, hE3, hrk⟩ := step_kind hE2 hk2 (by decide)
        rw [hadv2] at h
        cases h
        refine ⟨hE3, lp :: pre1 ++ [rp], by simp, ?_⟩
        simpa [tk] using .primParen hlk hd1 hrk
      · cases h
  · -- INT
    rename_i hk
    obtain ⟨t, r1, rfl, hadv, hE1, htk⟩ := step_kind hE hk (by decide)
    simp only [hadv, cur_cons] at h
    split at h
    · rename_i v hv
      cases h
      exact ⟨hE1, [t], by simp, .primInt htk hv⟩
    · cases h
  · -- FLOAT
    rename_i hk
    obtain ⟨t, r1, rfl, hadv, hE1, htk⟩ := step_kind hE hk (by decide)
    simp only [hadv, cur_cons] at h
    split at h
    · cases h
    · rename_i hv
      cases h
      exact ⟨hE1, [t], by simp, .primFloat htk (by simpa using hv)⟩
  · -- STRING
    rename_i hk
    obtain ⟨t, r1, rfl, hadv, hE1, htk⟩ := step_kind hE hk (by decide)
    simp only [hadv, cur_cons, unescape_eq_strValue] at h
    cases h
    exact ⟨hE1, [t], by simp, .primStr htk⟩
  · cases h

theorem sound_args {f} (hOr : SLevel parseLogicalOr .or f) (hArgs : SArgs f) : SArgs (f + 1) := by
  intro acc ts es rest hE h
  rw [argsLoop] at h
  split at h
  · cases h
  · rename_i arg ts1 h1
    obtain ⟨hE1, pre1, rfl, hd1⟩ := hOr _ _ _ hE h1
    split at h
    · rename_i hk
      obtain ⟨c, r1, rfl, hadv, hE2, hck⟩ := step_kind hE1 hk (by decide)
      rw [hadv] at h
      obtain ⟨hE3, pre, rp, es', rfl, hrk, hes, hd⟩ := hArgs _ _ _ _ hE2 h
      refine ⟨hE3, pre1 ++ c :: pre, rp, arg :: es', by simp, hrk, by simp [hes], ?_⟩
      simpa [tk] using .more hd1 hck hd
    · rename_i hk
      obtain ⟨rp, r1, rfl, hadv, hE2, hrk⟩ := step_kind hE1 hk (by decide)
      rw [hadv] at h
      cases h
      exact ⟨hE2, pre1, rp, [arg], rfl, hrk, rfl, .one hd1⟩
    · cases h

theorem sound_all : ∀ f, SAll f := by
  intro f
  induction f with
  | zero =>
    refine ⟨?_, ?_, ?_, ?_, ?_, ?_, ?_, ?_⟩
    · intro ts e rest _ h; simp [parseLogicalOr] at h
    · intro ts e rest _ h; simp [parseLogicalAnd] at h
    · intro ts e rest _ h; simp [parseCompare] at h
    · intro ts e rest _ h; simp [parsePrefix] at h
    · intro ts e rest _ h; simp [parsePostfix] at h
    · intro ts e rest _ h; simp [parsePrimary] at h
    · intro ret ts e rest _ h; simp [postfixLoop] at h
    · intro acc ts es rest _ h; simp [argsLoop] at h
  | succ f ih =>
    obtain ⟨hOr, hAnd, hCmp, hPre, hPost, hPrim, hLoop, hArgs⟩ := ih
    exact ⟨sound_or hAnd hOr, sound_and hCmp hAnd, sound_cmp hPre hCmp, sound_prefix hPost hPre,
      sound_postfix hPrim hLoop, sound_primary hOr hArgs, sound_loop hOr hLoop, sound_args hOr hArgs⟩

end AL.Parse
