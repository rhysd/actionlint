import AL.Lemmas.ParseWfSect
/-
  The Path calculus: how a fact about one section parser becomes a fact about the parse of the whole document.

  `Path P Q ctx` : the parser `P`, run on the node `ctx v`, runs the parser `Q` on the sub-node `v`, and
    * (cong) whatever replaces `v` by a `v'` on which `Q` gives the same result and the same diagnostics plus `es`
      makes `P` give the same result and the same diagnostics plus `es` on `ctx v'`;
    * (mem)  every diagnostic of `Q v` is a diagnostic of `P (ctx v)`.
  Paths compose (`Path.trans`), every edge of the workflow syntax is a path (`Sect.edge` and its instances `e_*`), so for
  every chain of sections from the root to a mapping M a key-level fact about M's own diagnostics is a fact about the
  diagnostics of the whole document (`Path.adds`, `Path.reported`; `Path.ins`, `Path.dup` in Props/C13Doc): one line per section.
  An edge is proved by writing down what the loop body does at that key: it applies the sub-parser to the value, stores the
  result and passes the diagnostics on (`Path.of_store` with the key's equation from `Lemmas/ParseWfStores`, `Path.of_eq` where
  the equation is written on the spot; `Path.of_eq_append` when the loop body adds diagnostics of its own).
-/
namespace AL.C13D
open AL.PW AL.Yaml AL.Ast AL.C13P

/-- `n'` parses like `n` under `P`, with the extra diagnostics `es` -/
def Ext {α : Type} (P : Node → R α) (n n' : Node) (es : List PErr) : Prop :=
  (P n').1 = (P n).1 ∧ (P n').2.Perm (es ++ (P n).2)

/-- the same on results, where no node is in sight (two entries of a key loop, two stages of a sequence) -/
def ExtR {α : Type} (es : List PErr) (a a' : R α) : Prop := a'.1 = a.1 ∧ a'.2.Perm (es ++ a.2)

theorem Ext.iff_extR {α : Type} {P : Node → R α} {n n' : Node} {es : List PErr} : Ext P n n' es ↔ ExtR es (P n) (P n') := Iff.rfl

/-- sequencing respects `ExtR`: in the first part … -/
theorem ExtR.seq {α β : Type} {es : List PErr} {a a' : R α} (h : ExtR es a a') (f : α → R β) : ExtR es (seqR a f) (seqR a' f) := by
  obtain ⟨h1, h2⟩ := h
  simp only [ExtR, seqR, h1]
  exact ⟨trivial, (h2.append_right _).trans (List.Perm.of_eq (List.append_assoc ..))⟩

/-- … and in the second -/
theorem ExtR.seq_right {α β : Type} {es : List PErr} (a : R α) {f f' : α → R β} (h : ExtR es (f a.1) (f' a.1)) :
    ExtR es (seqR a f) (seqR a f') :=
  ⟨h.1, (h.2.append_left _).trans (List.perm_append_comm_assoc ..)⟩

theorem mem_seq_left {α β : Type} {a : R α} (f : α → R β) {e : PErr} (h : e ∈ a.2) : e ∈ (seqR a f).2 :=
  List.mem_append_left _ h

theorem mem_seq_right {α β : Type} (a : R α) {f : α → R β} {e : PErr} (h : e ∈ (f a.1).2) : e ∈ (seqR a f).2 :=
  List.mem_append_right _ h

def docNode (root : Node) : Node := .mk .document "" "" false 1 1 [root]

/-- the hypotheses that place a sub-section under the key `name` of a case-sensitive mapping: a job, and equally the
workflow, `on:`, an event, `defaults`, a container (`MapCtx.Keyed` is this on a `MapCtx`) -/
structure AtJobKey (cfg : Cfg) (name : String) (pre : List (Node × Node)) (kn : Node) : Prop where
  good : GoodKey kn
  value : kn.value = name
  first : ∀ q ∈ pre, keyId cfg true q.1 ≠ name

/-- `doc'` parses to the same AST as `doc` with exactly the one diagnostic `e` more -/
def AddsExactly (cfg : Cfg) (doc doc' : Node) (e : PErr) : Prop :=
  (parse cfg doc').1 = (parse cfg doc).1 ∧ (parse cfg doc').2.Perm (e :: (parse cfg doc).2)

end AL.C13D

namespace AL.C13D3
open AL.PW AL.Yaml AL.Ast AL.C13P AL.C13D

/-! ### paths -/

structure Path {α β : Type} (P : Node → R α) (Q : Node → R β) (ctx : Node → Node) : Prop where
  cong : ∀ v v' es, Ext Q v v' es → Ext P (ctx v) (ctx v') es
  mem : ∀ v e, e ∈ (Q v).2 → e ∈ (P (ctx v)).2

theorem Path.refl {α : Type} (P : Node → R α) : Path P P id := ⟨fun _ _ _ h => h, fun _ _ h => h⟩

theorem Path.trans {α β γ : Type} {P : Node → R α} {Q : Node → R β} {T : Node → R γ} {c₁ c₂ : Node → Node}
    (h₁ : Path P Q c₁) (h₂ : Path Q T c₂) : Path P T (fun v => c₁ (c₂ v)) :=
  ⟨fun v v' es h => h₁.cong _ _ es (h₂.cong v v' es h), fun v e h => h₁.mem _ e (h₂.mem v e h)⟩

/-- the parent may be presented differently on the nodes the context produces (a wrapper around the result) -/
theorem Path.wrap {α α' β : Type} {P : Node → R α} {P' : Node → R α'} {Q : Node → R β} {ctx : Node → Node} (f : α' → α)
    (h : Path P' Q ctx) (he : ∀ v, P (ctx v) = (f (P' (ctx v)).1, (P' (ctx v)).2)) : Path P Q ctx := by
  refine ⟨fun v v' es hx => ?_, fun v e hx => ?_⟩
  · have := h.cong v v' es hx
    simp only [Ext, he]
    exact ⟨by rw [this.1], this.2⟩
  · rw [he]; exact h.mem v e hx

theorem Path.of_eq {α β : Type} {P : Node → R α} {Q : Node → R β} (g : β → α) (h : ∀ v, P v = (g (Q v).1, (Q v).2)) :
    Path P Q id :=
  Path.wrap g (Path.refl Q) h

theorem Path.of_store {α β : Type} {P : Node → R α} {Q : Node → R β} {g : β → α} (h : ∀ v, P v = store g (Q v)) : Path P Q id :=
  Path.of_eq g h

theorem Path.of_eq_append {α β : Type} {P : Node → R α} {Q : Node → R β} (g : β → α) (x : β → List PErr)
    (h : ∀ v, P v = (g (Q v).1, (Q v).2 ++ x (Q v).1)) : Path P Q id := by
  have e : ∀ v, P v = seqR (Q v) fun r => (g r, x r) := h
  refine ⟨fun v v' es hx => ?_, fun v x hx => ?_⟩
  · simp only [Ext.iff_extR, id, e] at hx ⊢
    exact hx.seq _
  · rw [id, e]
    exact mem_seq_left _ hx

/-- `Path.cong` for the whole file and one diagnostic: a change of the sub-node that is invisible in the sub-parser's result
and adds exactly `e` to its diagnostics is invisible in the whole AST and adds exactly `e` to the diagnostics of the file -/
theorem Path.adds {β : Type} {cfg : Cfg} {Q : Node → R β} {ctx : Node → Node} (hp : Path (parse cfg) Q ctx)
    {v v' : Node} {e : PErr} (h : Ext Q v v' [e]) : AddsExactly cfg (ctx v) (ctx v') e :=
  hp.cong v v' [e] h

/-- `Path.mem` for the whole file: a diagnostic of the sub-parser is a diagnostic of the file -/
theorem Path.reported {β : Type} {cfg : Cfg} {Q : Node → R β} {ctx : Node → Node} (hp : Path (parse cfg) Q ctx)
    {v : Node} {e : PErr} (h : e ∈ (Q v).2) : e ∈ (parse cfg (ctx v)).2 :=
  hp.mem v e h

/-! ### contexts -/

/-- the distinguished key is the fixed key `name` of a case-sensitive section, and the first one with that name -/
def MapCtx.Keyed (cfg : Cfg) (m : MapCtx) (name : String) : Prop := AtJobKey cfg name m.pre m.key

/-- the distinguished key is a free name of a case-insensitive section, and the first one with that name (folded) -/
def MapCtx.Free (cfg : Cfg) (m : MapCtx) : Prop := ∀ q ∈ m.pre, keyId cfg false q.1 ≠ keyId cfg false m.key

instance (cfg : Cfg) (m : MapCtx) : Decidable (m.Free cfg) :=
  inferInstanceAs (Decidable (∀ q ∈ m.pre, keyId cfg false q.1 ≠ keyId cfg false m.key))

/-! ### the generic edge: a section parser and the value of one of its keys -/

/-- one iteration that differs by `es` in the state the loop is in when it gets there (same state afterwards) makes the loop
differ by `es` -/
theorem loop_ext_at {σ : Type} (step : σ → KV → σ × List PErr) (kv kv' : KV) (es : List PErr)
    (init : σ) (pre post : List KV)
    (h : (step (loop step init pre).1 kv').1 = (step (loop step init pre).1 kv).1 ∧
      (step (loop step init pre).1 kv').2.Perm (es ++ (step (loop step init pre).1 kv).2)) :
    (loop step init (pre ++ kv' :: post)).1 = (loop step init (pre ++ kv :: post)).1 ∧
    (loop step init (pre ++ kv' :: post)).2.Perm (es ++ (loop step init (pre ++ kv :: post)).2) := by
  rw [loop_split, loop_split]
  refine (ExtR.seq_right _ ?_).seq _
  exact h

/-- **the generic edge.** A section parser of the shape `Sect.run` on a mapping node, and a sub-node `v` inside the value
`inner v` of one of its keys (the first with its id): if — in every state the loop can be in when it reaches that key (`I`) —
the loop body is a path from itself to `Q` on the sub-node, then so is the section parser -/
theorem Sect.edge_at {σ ρ β : Type} (S : Sect σ ρ) (cfg : Cfg) (what : String) (ae cs : Bool) (m : MapCtx) (Q : Node → R β)
    (I : σ → Prop) (inner : Node → Node)
    (hfirst : ∀ q ∈ m.pre, keyId cfg cs q.1 ≠ keyId cfg cs m.key)
    (hI0 : I S.init)
    (hI : ∀ s kv, (∃ q ∈ m.pre, kv.id = keyId cfg cs q.1) → I s → I (S.step s kv).1)
    (hstep : ∀ s, I s → Path (fun v => S.step s ⟨keyId cfg cs m.key, (parseString m.key false).1, v⟩) Q inner) :
    Path (fun n => S.run cfg what n ae cs) Q (fun v => m.at (inner v)) := by
  obtain ⟨k1, k2, es, h1, -, e⟩ := Sect.run_at S cfg what ae cs m hfirst
  have hs := hstep _ (loop_inv S.step I k1 (fun s kv hm hs => hI s kv (h1 kv hm) hs) _ hI0)
  refine ⟨fun v v' es' hx => ?_, fun v x hx => ?_⟩
  · simp only [Ext.iff_extR, e]
    refine ((ExtR.seq_right _ ?_).seq _).seq _
    exact Ext.iff_extR.1 (hs.cong v v' es' hx)
  · rw [e]
    exact mem_seq_left _ (mem_seq_left _ (mem_seq_right _ (hs.mem v x hx)))

theorem Sect.edge {σ ρ β : Type} (S : Sect σ ρ) (cfg : Cfg) (what : String) (ae cs : Bool) (m : MapCtx) (Q : Node → R β)
    (I : σ → Prop)
    (hfirst : ∀ q ∈ m.pre, keyId cfg cs q.1 ≠ keyId cfg cs m.key)
    (hI0 : I S.init)
    (hI : ∀ s kv, (∃ q ∈ m.pre, kv.id = keyId cfg cs q.1) → I s → I (S.step s kv).1)
    (hstep : ∀ s, I s → Path (fun v => S.step s ⟨keyId cfg cs m.key, (parseString m.key false).1, v⟩) Q id) :
    Path (fun n => S.run cfg what n ae cs) Q m.at :=
  Sect.edge_at S cfg what ae cs m Q I id hfirst hI0 hI hstep

/-- the usual case: the loop body does not look at its state to decide what to do with the key -/
theorem Sect.edge' {σ ρ β : Type} (S : Sect σ ρ) (cfg : Cfg) (what : String) (ae cs : Bool) (m : MapCtx) (Q : Node → R β)
    (hfirst : ∀ q ∈ m.pre, keyId cfg cs q.1 ≠ keyId cfg cs m.key)
    (hstep : ∀ s, Path (fun v => S.step s ⟨keyId cfg cs m.key, (parseString m.key false).1, v⟩) Q id) :
    Path (fun n => S.run cfg what n ae cs) Q m.at :=
  Sect.edge S cfg what ae cs m Q (fun _ => True) hfirst trivial (fun _ _ _ _ => trivial) (fun s _ => hstep s)

/-- the state of a section's loop after the whole mapping, from what happens around one key (the first with its id): `I`
holds up to that key, the key turns `I` into `J`, the later keys keep `J` -/
theorem loop_at_key {σ : Type} (step : σ → KV → σ × List PErr) (init : σ) (cfg : Cfg) (what : String) (ae cs : Bool)
    (m : MapCtx) (v : Node) (I J : σ → Prop)
    (hfirst : ∀ q ∈ m.pre, keyId cfg cs q.1 ≠ keyId cfg cs m.key)
    (hI0 : I init)
    (hI : ∀ s kv, (∃ q ∈ m.pre, kv.id = keyId cfg cs q.1) → I s → I (step s kv).1)
    (hkey : ∀ s, I s → J (step s ⟨keyId cfg cs m.key, (parseString m.key false).1, v⟩).1)
    (hJ : ∀ s kv, (∃ q ∈ m.post, kv.id = keyId cfg cs q.1) → kv.id ≠ keyId cfg cs m.key → J s → J (step s kv).1) :
    J (loop step init (parseMapping cfg what (m.at v) ae cs).1).1 := by
  obtain ⟨k1, k2, es, h1, h2, e⟩ := parseMapping_at cfg what ae cs m hfirst
  rw [e v]
  exact loop_around step I J k1 k2 _ (fun s kv hm => hI s kv (h1 kv hm)) hkey (fun s kv hm => hJ s kv (h2 kv hm).1 (h2 kv hm).2) init hI0

theorem MapCtx.Keyed.id {cfg : Cfg} {m : MapCtx} {name : String} (h : m.Keyed cfg name) : keyId cfg true m.key = name := by
  rw [keyId_cs cfg m.key h.good, h.value]

theorem MapCtx.Keyed.first' {cfg : Cfg} {m : MapCtx} {name : String} (h : m.Keyed cfg name) :
    ∀ q ∈ m.pre, keyId cfg true q.1 ≠ keyId cfg true m.key := by
  intro q hq; rw [h.id]; exact h.first q hq

theorem Sect.edge_keyed {σ ρ β : Type} (S : Sect σ ρ) (cfg : Cfg) (what : String) (ae : Bool) (m : MapCtx) (name : String)
    (hk : m.Keyed cfg name) (Q : Node → R β)
    (hstep : ∀ s, Path (fun v => S.step s ⟨name, (parseString m.key false).1, v⟩) Q id) :
    Path (fun n => S.run cfg what n ae true) Q m.at :=
  Sect.edge' S cfg what ae true m Q hk.first' (fun s => hk.id ▸ hstep s)

/-! ### the edges of the workflow syntax -/

/-- the workflow's key loop on the root node of a document (the final checks are positioned at the document node, whose
position `parse` fixes to 1:1) -/
def wfRun (cfg : Cfg) (root : Node) : R Workflow :=
  (workflowSect cfg (docNode (mapNode "" 0 0 []))).run cfg "workflow" root false true

theorem parse_docNode (cfg : Cfg) (root : Node) : parse cfg (docNode root) = wfRun cfg root :=
  parse_eq_run cfg (docNode root) root [] rfl

/-- document → root node -/
theorem path_root (cfg : Cfg) : Path (parse cfg) (wfRun cfg) docNode :=
  ⟨fun v v' es h => by simpa only [Ext, parse_docNode] using h, fun v e h => by rw [parse_docNode]; exact h⟩

theorem wf_edge {β : Type} (cfg : Cfg) (m : MapCtx) (name : String) (hk : m.Keyed cfg name) (Q : Node → R β)
    (hstep : ∀ w, Path (fun v => workflowKey cfg w ⟨name, (parseString m.key false).1, v⟩) Q id) :
    Path (wfRun cfg) Q m.at :=
  Sect.edge_keyed (workflowSect cfg (docNode (mapNode "" 0 0 []))) cfg "workflow" false m name hk Q hstep

theorem job_edge {β : Type} (cfg : Cfg) (jid : Str) (m : MapCtx) (name : String) (hk : m.Keyed cfg name) (Q : Node → R β)
    (hstep : ∀ s, Path (fun v => jobKey cfg s ⟨name, (parseString m.key false).1, v⟩) Q id) :
    Path (parseJob cfg jid) Q m.at :=
  Sect.edge_keyed (jobSect cfg jid) cfg (jobWhat jid.value) false m name hk Q hstep

section
variable (cfg : Cfg) (m : MapCtx)

theorem e_wf_on (hk : m.Keyed cfg "on") : Path (wfRun cfg) (parseEvents cfg (parseString m.key false).1.pos) m.at :=
  wf_edge cfg m "on" hk _ fun w => Path.of_store (workflowKey_on cfg w _)

theorem e_wf_permissions (hk : m.Keyed cfg "permissions") :
    Path (wfRun cfg) (parsePermissions cfg (parseString m.key false).1.pos) m.at :=
  wf_edge cfg m "permissions" hk _ fun w => Path.of_store (workflowKey_permissions cfg w _)

theorem e_wf_env (hk : m.Keyed cfg "env") : Path (wfRun cfg) (parseEnv cfg) m.at :=
  wf_edge cfg m "env" hk _ fun w => Path.of_store (workflowKey_env cfg w _)

theorem e_wf_defaults (hk : m.Keyed cfg "defaults") :
    Path (wfRun cfg) (parseDefaults cfg (parseString m.key false).1.pos) m.at :=
  wf_edge cfg m "defaults" hk _ fun w => Path.of_store (workflowKey_defaults cfg w _)

theorem e_wf_concurrency (hk : m.Keyed cfg "concurrency") :
    Path (wfRun cfg) (parseConcurrency cfg (parseString m.key false).1.pos) m.at :=
  wf_edge cfg m "concurrency" hk _ fun w => Path.of_store (workflowKey_concurrency cfg w _)

theorem e_wf_jobs (hk : m.Keyed cfg "jobs") : Path (wfRun cfg) (parseJobs cfg) m.at :=
  wf_edge cfg m "jobs" hk _ fun w => Path.of_store (workflowKey_jobs cfg w _)

end

/-- a section of free names (`mapKVs`): the section → the value of one name -/
theorem mapSect_edge {β : Type} (f : KV → R β) (cfg : Cfg) (what : String) (ae cs : Bool) (m : MapCtx)
    (hfirst : ∀ q ∈ m.pre, keyId cfg cs q.1 ≠ keyId cfg cs m.key) :
    Path (fun n => (mapSect f).run cfg what n ae cs) (fun v => f ⟨keyId cfg cs m.key, (parseString m.key false).1, v⟩) m.at :=
  Sect.edge' (mapSect f) cfg what ae cs m _ hfirst (fun s => Path.of_eq (fun r => s ++ [(keyId cfg cs m.key, r)]) (fun _ => by rfl))

section
variable (cfg : Cfg) (jid : Str) (m : MapCtx)

theorem e_jobs_job (hk : m.Free cfg) : Path (parseJobs cfg) (parseJob cfg (parseString m.key false).1) m.at :=
  Path.wrap id (mapSect_edge (fun kv => parseJob cfg kv.key kv.val) cfg (sectionWhat "jobs") false false m hk)
    (by intro v; simp only [parseJobs, parseSectionMapping, mapSect_run]; rfl)

theorem e_job_runsOn (hk : m.Keyed cfg "runs-on") : Path (parseJob cfg jid) (parseRunsOn cfg) m.at :=
  job_edge cfg jid m "runs-on" hk _ fun s => Path.of_store (jobKey_runsOn cfg s _)

theorem e_job_permissions (hk : m.Keyed cfg "permissions") :
    Path (parseJob cfg jid) (parsePermissions cfg (parseString m.key false).1.pos) m.at :=
  job_edge cfg jid m "permissions" hk _ fun s => Path.of_store (jobKey_permissions cfg s _)

theorem e_job_environment (hk : m.Keyed cfg "environment") :
    Path (parseJob cfg jid) (parseEnvironment cfg (parseString m.key false).1.pos) m.at :=
  job_edge cfg jid m "environment" hk _ fun s => Path.of_store (jobKey_environment cfg s _)

theorem e_job_concurrency (hk : m.Keyed cfg "concurrency") :
    Path (parseJob cfg jid) (parseConcurrency cfg (parseString m.key false).1.pos) m.at :=
  job_edge cfg jid m "concurrency" hk _ fun s => Path.of_store (jobKey_concurrency cfg s _)

theorem e_job_outputs (hk : m.Keyed cfg "outputs") : Path (parseJob cfg jid) (parseOutputs cfg) m.at :=
  job_edge cfg jid m "outputs" hk _ fun s => Path.of_store (jobKey_outputs cfg s _)

theorem e_job_env (hk : m.Keyed cfg "env") : Path (parseJob cfg jid) (parseEnv cfg) m.at :=
  job_edge cfg jid m "env" hk _ fun s => Path.of_store (jobKey_env cfg s _)

theorem e_job_defaults (hk : m.Keyed cfg "defaults") :
    Path (parseJob cfg jid) (parseDefaults cfg (parseString m.key false).1.pos) m.at :=
  job_edge cfg jid m "defaults" hk _ fun s => Path.of_store (jobKey_defaults cfg s _)

theorem e_job_steps (hk : m.Keyed cfg "steps") : Path (parseJob cfg jid) (parseSteps cfg) m.at :=
  job_edge cfg jid m "steps" hk _ fun s => Path.of_store (jobKey_steps cfg s _)

theorem e_job_strategy (hk : m.Keyed cfg "strategy") :
    Path (parseJob cfg jid) (parseStrategy cfg (parseString m.key false).1.pos) m.at :=
  job_edge cfg jid m "strategy" hk _ fun s => Path.of_store (jobKey_strategy cfg s _)

theorem e_job_container (hk : m.Keyed cfg "container") :
    Path (parseJob cfg jid) (parseContainer cfg "container" (parseString m.key false).1.pos) m.at :=
  job_edge cfg jid m "container" hk _ fun s => Path.of_store (jobKey_container cfg s _)

theorem e_job_services (hk : m.Keyed cfg "services") : Path (parseJob cfg jid) (parseServices cfg) m.at :=
  job_edge cfg jid m "services" hk _ fun s => Path.of_store (jobKey_services cfg s _)

/-- `with:` of a job that calls a reusable workflow: the job → the mapping as `parseMapping` reads it -/
theorem e_job_with (hk : m.Keyed cfg "with") :
    Path (parseJob cfg jid) (fun v => parseMapping cfg (sectionWhat "with") v false false) m.at :=
  job_edge cfg jid m "with" hk _ (fun s => Path.of_eq_append
    (fun r => { s with call := { s.call with inputs := some (callArgs r).1 }, callOnlyKey := some (parseString m.key false).1 })
    (fun r => (callArgs r).2) (fun _ => by
      rw [jobKey_with]
      rfl))

end

/-! #### `secrets:` of a calling job -/

theorem e_job_secrets (cfg : Cfg) (jid : Str) (m : MapCtx) (hk : m.Keyed cfg "secrets") :
    Path (parseJob cfg jid) (jobSecrets cfg) m.at :=
  job_edge cfg jid m "secrets" hk _ fun s => Path.of_store (jobKey_secrets cfg s _)

/-! #### `steps:` and a step -/

/-- a loop over the elements of a sequence node, each element parsed on its own -/
theorem seq_edge {β γ : Type} (F : List Node → R γ) (f : Node → R β) (comb : β → γ → γ)
    (hcons : ∀ c cs, F (c :: cs) = (comb (f c).1 (F cs).1, (f c).2 ++ (F cs).2)) (b : List Node) :
    ∀ a : List Node, (∀ v v' es, Ext f v v' es → (F (a ++ v' :: b)).1 = (F (a ++ v :: b)).1 ∧
        (F (a ++ v' :: b)).2.Perm (es ++ (F (a ++ v :: b)).2)) ∧
      (∀ v e, e ∈ (f v).2 → e ∈ (F (a ++ v :: b)).2) := by
  have hc : ∀ c cs, F (c :: cs) = seqR (f c) fun x => (comb x (F cs).1, (F cs).2) := hcons
  intro a
  induction a with
  | nil =>
    refine ⟨fun v v' es h => ?_, fun v e he => ?_⟩
    · simp only [List.nil_append, hc]
      exact (Ext.iff_extR.1 h).seq _
    · rw [List.nil_append, hc]
      exact mem_seq_left _ he
  | cons c rest ih =>
    refine ⟨fun v v' es h => ?_, fun v e he => ?_⟩
    · simp only [List.cons_append, hc]
      exact ExtR.seq_right _ ⟨congrArg (comb _) (ih.1 v v' es h).1, (ih.1 v v' es h).2⟩
    · rw [List.cons_append, hc]
      exact mem_seq_right _ (ih.2 v e he)

/-- `seq_edge` as a path, for a parser that wraps the loop's result -/
theorem seq_path {α β γ : Type} {P : Node → R α} (F : List Node → R γ) (f : Node → R β) (comb : β → γ → γ)
    (hcons : ∀ c cs, F (c :: cs) = (comb (f c).1 (F cs).1, (f c).2 ++ (F cs).2)) (g : γ → α) (s : SeqCtx)
    (hP : ∀ x, P (s.at x) = (g (F (s.before ++ x :: s.after)).1, (F (s.before ++ x :: s.after)).2)) : Path P f s.at :=
  Path.wrap g (P' := fun n => F n.content)
    ⟨(seq_edge F f comb hcons s.after s.before).1, (seq_edge F f comb hcons s.after s.before).2⟩ hP

theorem e_steps_step (cfg : Cfg) (s : SeqCtx) : Path (parseSteps cfg) (parseStep cfg) s.at :=
  seq_path (stepsOf cfg) (parseStep cfg) List.cons (fun _ _ => rfl) some s (fun x => by
    simp only [parseSteps, checkSequence_at, Bool.not_true, Bool.false_eq_true, ↓reduceIte, List.nil_append]; rfl)

/-- a step → the value of one of its keys; `I` is what is known of the loop's state when it reaches that key -/
theorem step_edge {β : Type} (cfg : Cfg) (m : MapCtx) (name : String) (hk : m.Keyed cfg name) (Q : Node → R β)
    (I : StepSt → Prop) (hI0 : ∀ pos, I { step := { pos := pos } })
    (hI : ∀ s kv, (∃ q ∈ m.pre, kv.id = keyId cfg true q.1) → I s → I (stepKey cfg s kv).1)
    (hstep : ∀ s, I s → Path (fun v => stepKey cfg s ⟨name, (parseString m.key false).1, v⟩) Q id) :
    Path (parseStep cfg) Q m.at :=
  Path.wrap id
    (Sect.edge (stepSect cfg (mapNode m.tag m.l m.c [])) cfg "element of \"steps\" section" false true m Q I hk.first'
      (hI0 _) hI (fun s hs => hk.id ▸ hstep s hs))
    (fun _ => (parseStep_mapNode cfg m.tag m.l m.c _).trans (Prod.eta _).symm)

theorem e_step_env (cfg : Cfg) (m : MapCtx) (hk : m.Keyed cfg "env") : Path (parseStep cfg) (parseEnv cfg) m.at :=
  step_edge cfg m "env" hk _ (fun _ => True) (fun _ => trivial) (fun _ _ _ _ => trivial)
    fun s _ => Path.of_store (stepKey_env cfg s _)

/-! one key of a step and `exec`: the first of `uses` / `with` / `run` / `shell` decides between action and script; after that
only `uses:` sets `uses`, only `run:` sets `run` -/

theorem withKey_uses (kvs : List KV) : ∀ e : ExecAction, (loop withKey e kvs).1.uses = e.uses :=
  loop_withKey_frame kvs

theorem stepKey_exec_none (cfg : Cfg) (st : StepSt) (kv : KV) (h1 : kv.id ≠ "uses") (h2 : kv.id ≠ "with") (h3 : kv.id ≠ "run")
    (h4 : kv.id ≠ "shell") (hs : st.step.exec = .none) : (stepKey cfg st kv).1.step.exec = .none := by
  fun_cases stepKey cfg st kv <;> first | exact hs | contradiction | simp_all

theorem stepKey_exec_not_run (cfg : Cfg) (st : StepSt) (kv : KV) (h1 : kv.id ≠ "run") (h2 : kv.id ≠ "shell")
    (hs : ∀ e, st.step.exec ≠ .run e) : ∀ e, (stepKey cfg st kv).1.step.exec ≠ .run e := by
  fun_cases stepKey cfg st kv <;> first | exact hs | contradiction | exact fun _ => Exec.noConfusion | simp_all

theorem stepKey_exec_action (cfg : Cfg) (st : StepSt) (kv : KV) (e : ExecAction) (h : kv.id ≠ "uses")
    (hs : st.step.exec = .action e) : ∃ e', (stepKey cfg st kv).1.step.exec = .action e' ∧ e'.uses = e.uses := by
  obtain ⟨⟨_, _, _, x, _, _, _, _⟩, _⟩ := st
  subst hs
  fun_cases stepKey cfg _ kv <;>
    first | contradiction | exact ⟨_, rfl, rfl⟩ | (injections; subst_vars; exact ⟨_, rfl, withKey_uses _ _⟩)

theorem stepKey_exec_run (cfg : Cfg) (st : StepSt) (kv : KV) (e : ExecRun) (h : kv.id ≠ "run")
    (hs : st.step.exec = .run e) : ∃ e', (stepKey cfg st kv).1.step.exec = .run e' ∧ e'.run = e.run := by
  obtain ⟨⟨_, _, _, x, _, _, _, _⟩, _⟩ := st
  subst hs
  fun_cases stepKey cfg _ kv <;> first | contradiction | exact ⟨_, rfl, rfl⟩ | (injections; subst_vars; exact ⟨_, rfl, rfl⟩)

/-- `with:` of a step → the mapping as `parseMapping` reads it — PROVIDED no `run:` / `shell:` key comes before `with:` in the
step (otherwise `with:` is reported as a whole and its value is not looked at, see `step_with_after_run_not_parsed`) -/
theorem e_step_with (cfg : Cfg) (m : MapCtx) (hk : m.Keyed cfg "with")
    (hrun : ∀ q ∈ m.pre, keyId cfg true q.1 ≠ "run" ∧ keyId cfg true q.1 ≠ "shell") :
    Path (parseStep cfg) (fun v => parseMapping cfg (sectionWhat "with") v false false) m.at :=
  step_edge cfg m "with" hk _ (fun st => ∀ e, st.step.exec ≠ .run e) (fun _ => by simp)
    (fun s kv ⟨q, hq, hid⟩ hs =>
      stepKey_exec_not_run cfg s kv (hid ▸ (hrun q hq).1) (hid ▸ (hrun q hq).2) hs)
    (by
      intro s hs
      cases hx : s.step.exec with
      | run e => exact absurd hx (hs e)
      | none =>
        exact Path.of_eq_append (fun r => { s with step := { s.step with exec := .action (loop withKey { inputs := some [] } r).1 } })
          (fun r => (loop withKey { inputs := some [] } r).2) (fun _ => by simp only [stepKey, hx, parseSectionMapping])
      | action e =>
        exact Path.of_eq_append (fun r => { s with step := { s.step with exec := .action (loop withKey { e with inputs := some [] } r).1 } })
          (fun r => (loop withKey { e with inputs := some [] } r).2) (fun _ => by simp only [stepKey, hx, parseSectionMapping]))

/-! #### container, services, credentials -/

theorem container_edge {β : Type} (cfg : Cfg) (sec : String) (pos : Yaml.Pos) (m : MapCtx) (name : String) (hk : m.Keyed cfg name)
    (Q : Node → R β)
    (hstep : ∀ s, Path (fun v => containerKey cfg sec s ⟨name, (parseString m.key false).1, v⟩) Q id) :
    Path (parseContainer cfg sec pos) Q m.at :=
  Path.wrap id
    (Sect.edge_keyed (plain (containerKey cfg sec) { pos := pos }) cfg (sectionWhat sec) false m name hk Q hstep)
    (fun _ => (parseContainer_eq_run ..).trans (Prod.eta _).symm)

theorem e_container_env (cfg : Cfg) (sec : String) (pos : Yaml.Pos) (m : MapCtx) (hk : m.Keyed cfg "env") :
    Path (parseContainer cfg sec pos) (parseEnv cfg) m.at :=
  container_edge cfg sec pos m "env" hk _ fun s => Path.of_store (containerKey_env cfg sec s _)

/-- `credentials:` as `containerKey` reads it (without the "both username and password" check, which belongs to the
container's loop body) -/
def credentialsP (cfg : Cfg) (pos : Yaml.Pos) (n : Node) : R Credentials :=
  (plain credentialsKey { pos := pos }).run cfg (sectionWhat "credentials") n false true

theorem containerKey_credentials (cfg : Cfg) (sec : String) (st : Container) (key : Str) (v : Node) :
    containerKey cfg sec st ⟨"credentials", key, v⟩ =
      if (credentialsP cfg key.pos v).1.username.isNone || (credentialsP cfg key.pos v).1.password.isNone then
        (st, (credentialsP cfg key.pos v).2 ++ [⟨key.pos, "credentials-pair", []⟩])
      else ({ st with credentials := some (credentialsP cfg key.pos v).1 }, (credentialsP cfg key.pos v).2) := by
  simp only [containerKey, credentialsP, plain_run, parseSectionMapping]
  rfl

theorem e_container_credentials (cfg : Cfg) (sec : String) (pos : Yaml.Pos) (m : MapCtx) (hk : m.Keyed cfg "credentials") :
    Path (parseContainer cfg sec pos) (credentialsP cfg (parseString m.key false).1.pos) m.at :=
  container_edge cfg sec pos m "credentials" hk _ (fun s => Path.of_eq_append
    (fun r => if r.username.isNone || r.password.isNone then s else { s with credentials := some r })
    (fun r => if r.username.isNone || r.password.isNone then [⟨(parseString m.key false).1.pos, "credentials-pair", []⟩] else [])
    (fun v => by rw [containerKey_credentials]; split <;> simp [*]))

theorem e_services_service (cfg : Cfg) (m : MapCtx) (hk : m.Free cfg) :
    Path (parseServices cfg) (parseContainer cfg "services" (parseString m.key false).1.pos) m.at :=
  Path.wrap (fun r => (⟨some r, none, ⟨m.l, m.c⟩⟩ : Services))
    (Sect.edge' _ cfg (sectionWhat "services") false false m _ hk
      (fun s => Path.of_eq (fun c => s ++ [(keyId cfg false m.key, ⟨(parseString m.key false).1, c⟩)]) (fun _ => by rfl)))
    (fun _ => parseServices_mapNode cfg m.tag m.l m.c _)

/-! #### strategy, matrix, defaults -/

theorem e_strategy_matrix (cfg : Cfg) (pos : Yaml.Pos) (m : MapCtx) (hk : m.Keyed cfg "matrix") :
    Path (parseStrategy cfg pos) (parseMatrix cfg (parseString m.key false).1.pos) m.at :=
  Path.wrap id
    (Sect.edge_keyed (plain (strategyKey cfg) { pos := pos }) cfg (sectionWhat "strategy") false m "matrix" hk _
      fun s => Path.of_store (strategyKey_matrix cfg s (parseString m.key false).1))
    (fun _ => (parseStrategy_eq_run ..).trans (Prod.eta _).symm)

/-- `defaults.run` as `parseDefaults` reads it -/
def defaultsRunP (cfg : Cfg) (pos : Yaml.Pos) (n : Node) : R DefaultsRun :=
  (plain defaultsRunKey { pos := pos }).run cfg (sectionWhat "run") n false true

theorem e_defaults_run (cfg : Cfg) (pos : Yaml.Pos) (m : MapCtx) (hk : m.Keyed cfg "run") :
    Path (parseDefaults cfg pos) (defaultsRunP cfg (parseString m.key false).1.pos) m.at :=
  Path.wrap id
    (Sect.edge_keyed (defaultsSect cfg pos (mapNode m.tag m.l m.c [])) cfg (sectionWhat "defaults") false m "run" hk _
      fun s => Path.of_eq some fun _ => by
        simp only [defaultsSect, defaultsStep, defaultsRunP, plain_run, parseSectionMapping, ne_eq, not_true_eq_false, if_false])
    (fun _ => by rfl)

/-! #### `on:` and the events -/

theorem on_edge {β : Type} (cfg : Cfg) (pos : Yaml.Pos) (m : MapCtx) (name : String) (hk : m.Keyed cfg name) (Q : Node → R β)
    (hstep : ∀ s, Path (fun v => eventOfKey cfg s ⟨name, (parseString m.key false).1, v⟩) Q id) :
    Path (parseEvents cfg pos) Q m.at :=
  Path.wrap some
    (Sect.edge_keyed (plain (eventOfKey cfg) []) cfg (sectionWhat "on") false m name hk Q hstep)
    (fun _ => parseEvents_mapNode cfg pos m.tag m.l m.c _)

section
variable (cfg : Cfg) (pos : Yaml.Pos) (m : MapCtx)

theorem e_on_call (hk : m.Keyed cfg "workflow_call") :
    Path (parseEvents cfg pos) (parseWorkflowCallEvent cfg (parseString m.key false).1.pos) m.at :=
  on_edge cfg pos m "workflow_call" hk _ fun s => Path.of_store (eventOfKey_workflow_call cfg s _)

theorem e_on_dispatch (hk : m.Keyed cfg "workflow_dispatch") :
    Path (parseEvents cfg pos) (parseWorkflowDispatchEvent cfg (parseString m.key false).1.pos) m.at :=
  on_edge cfg pos m "workflow_dispatch" hk _ fun s => Path.of_store (eventOfKey_workflow_dispatch cfg s _)

theorem e_on_repoDispatch (hk : m.Keyed cfg "repository_dispatch") :
    Path (parseEvents cfg pos) (parseRepositoryDispatchEvent cfg (parseString m.key false).1.pos) m.at :=
  on_edge cfg pos m "repository_dispatch" hk _ fun s => Path.of_store (eventOfKey_repository_dispatch cfg s _)

theorem e_on_schedule (hk : m.Keyed cfg "schedule") :
    Path (parseEvents cfg pos) (parseScheduleEvent cfg (parseString m.key false).1.pos) m.at :=
  on_edge cfg pos m "schedule" hk _ fun s => Path.of_store (eventOfKey_schedule cfg s _)

/-- any other event name is a webhook event -/
theorem e_on_webhook (name : String) (hk : m.Keyed cfg name)
    (hWeb : name ∉ ["schedule", "workflow_dispatch", "repository_dispatch", "workflow_call"]) :
    Path (parseEvents cfg pos) (parseWebhookEvent cfg (parseString m.key false).1) m.at :=
  on_edge cfg pos m name hk _ fun s => Path.of_store fun v => eventOfKey_webhook cfg s _ v name hWeb

end

/-- the `inputs:` / `secrets:` / `outputs:` mappings of `workflow_call`, as `callEventKey` reads them -/
def callInputsP (cfg : Cfg) (n : Node) : R (List CallInput) :=
  (plain (fun (st : List CallInput) kv => (st ++ [(callInput cfg kv).1], (callInput cfg kv).2)) []).run cfg (sectionWhat "inputs") n true false
def callSecretsP (cfg : Cfg) (n : Node) : R (List (String × CallSecret)) :=
  (mapSect (callSecret cfg)).run cfg (sectionWhat "secrets") n true false
def callOutputsP (cfg : Cfg) (n : Node) : R (List (String × CallOutput)) :=
  (mapSect (callOutput cfg)).run cfg (sectionWhat "outputs") n true false
/-- the `inputs:` mapping of `workflow_dispatch` -/
def dispatchInputsP (cfg : Cfg) (n : Node) : R (List (String × DispatchInput)) :=
  (mapSect (dispatchInput cfg)).run cfg (sectionWhat "inputs") n true false

theorem call_edge {β : Type} (cfg : Cfg) (pos : Yaml.Pos) (m : MapCtx) (name : String) (hk : m.Keyed cfg name) (Q : Node → R β)
    (hstep : ∀ s, Path (fun v => callEventKey cfg s ⟨name, (parseString m.key false).1, v⟩) Q id) :
    Path (parseWorkflowCallEvent cfg pos) Q m.at :=
  Path.wrap (fun r => .call r.inputs r.secrets r.outputs pos)
    (Sect.edge_keyed (plain (callEventKey cfg) {}) cfg (sectionWhat "workflow_call") true m name hk Q hstep)
    (fun _ => parseWorkflowCallEvent_eq_run cfg pos _)

section
variable (cfg : Cfg) (pos : Yaml.Pos) (m : MapCtx)

theorem e_call_inputs (hk : m.Keyed cfg "inputs") : Path (parseWorkflowCallEvent cfg pos) (callInputsP cfg) m.at :=
  call_edge cfg pos m "inputs" hk _ fun s => Path.of_store fun v => by
    rw [callEventKey_inputs, callInputsP, plain_run, callInputs_eq_loop]
    rfl

theorem e_call_secrets (hk : m.Keyed cfg "secrets") : Path (parseWorkflowCallEvent cfg pos) (callSecretsP cfg) m.at :=
  call_edge cfg pos m "secrets" hk _ fun s => Path.of_store fun v => by
    rw [callEventKey_secrets, callSecretsP, mapSect_run]
    rfl

theorem e_call_outputs (hk : m.Keyed cfg "outputs") : Path (parseWorkflowCallEvent cfg pos) (callOutputsP cfg) m.at :=
  call_edge cfg pos m "outputs" hk _ fun s => Path.of_store fun v => by
    rw [callEventKey_outputs, callOutputsP, mapSect_run]
    rfl

theorem e_callInputs_input (hk : m.Free cfg) :
    Path (callInputsP cfg) (fun v => callInput cfg ⟨keyId cfg false m.key, (parseString m.key false).1, v⟩) m.at :=
  Sect.edge' (plain (fun (st : List CallInput) kv => (st ++ [(callInput cfg kv).1], (callInput cfg kv).2)) []) cfg
    (sectionWhat "inputs") true false m _ hk (fun s => Path.of_eq (fun r => s ++ [r]) (fun _ => by rfl))

theorem e_callSecrets_secret (hk : m.Free cfg) :
    Path (callSecretsP cfg) (fun v => callSecret cfg ⟨keyId cfg false m.key, (parseString m.key false).1, v⟩) m.at :=
  mapSect_edge (callSecret cfg) cfg (sectionWhat "secrets") true false m hk

theorem e_callOutputs_output (hk : m.Free cfg) :
    Path (callOutputsP cfg) (fun v => callOutput cfg ⟨keyId cfg false m.key, (parseString m.key false).1, v⟩) m.at :=
  mapSect_edge (callOutput cfg) cfg (sectionWhat "outputs") true false m hk

theorem e_dispatch_inputs (hk : m.Keyed cfg "inputs") : Path (parseWorkflowDispatchEvent cfg pos) (dispatchInputsP cfg) m.at :=
  Path.wrap (fun r => .dispatch r pos)
    (Sect.edge_keyed (plain (dispatchStep cfg) none) cfg (sectionWhat "workflow_dispatch") true m "inputs" hk _
      fun s => Path.of_eq some fun _ => by
        simp only [plain, dispatchStep, dispatchInputsP, mapSect_run, parseSectionMapping, ne_eq, not_true_eq_false, if_false])
    (fun _ => parseWorkflowDispatchEvent_eq_run cfg pos _)

theorem e_dispatchInputs_input (hk : m.Free cfg) :
    Path (dispatchInputsP cfg) (fun v => dispatchInput cfg ⟨keyId cfg false m.key, (parseString m.key false).1, v⟩) m.at :=
  mapSect_edge (dispatchInput cfg) cfg (sectionWhat "inputs") true false m hk

end

/-! #### `schedule:` and its items -/

theorem scheduleItems_cons (cfg : Cfg) (c : Node) (cs : List Node) :
    scheduleItems cfg (c :: cs) =
      ((match (scheduleItem cfg c).1 with | some s => s :: (scheduleItems cfg cs).1 | none => (scheduleItems cfg cs).1),
       (scheduleItem cfg c).2 ++ (scheduleItems cfg cs).2) := by
  simp only [scheduleItems_filterMapR, filterMapR, List.filterMap_cons, List.flatMap_cons]
  cases (scheduleItem cfg c).1 <;> rfl

theorem e_schedule_item (cfg : Cfg) (pos : Yaml.Pos) (s : SeqCtx) : Path (parseScheduleEvent cfg pos) (scheduleItem cfg) s.at :=
  seq_path (scheduleItems cfg) (scheduleItem cfg) (fun o r => match o with | some x => x :: r | none => r)
    (scheduleItems_cons cfg) (fun r => some (.schedule r pos)) s (fun x => by
      simp only [parseScheduleEvent, checkSequence_at, Bool.not_true, Bool.false_eq_true, ↓reduceIte, List.nil_append]; rfl)

/-! ### paths from the document to the usual places

The contexts are named after what they are the mapping of: `mW` the workflow (root), `mJ` `jobs:`, `mK` a job, `sS` its
`steps:`, `mP` a step; below `on:`, `mJ` is `on:`, `mE` an event, `mI` one of its `inputs:` / `secrets:` / `outputs:`. -/

section
variable (cfg : Cfg) (mW mJ mK mP : MapCtx) (sS : SeqCtx)

theorem path_wf {β : Type} {Q : Node → R β} (h : Path (wfRun cfg) Q mW.at) : Path (parse cfg) Q (fun v => docNode (mW.at v)) :=
  (path_root cfg).trans h

theorem path_job (hW : mW.Keyed cfg "jobs") (hJ : mJ.Free cfg) :
    Path (parse cfg) (parseJob cfg (parseString mJ.key false).1) (fun v => docNode (mW.at (mJ.at v))) :=
  (path_wf cfg mW (e_wf_jobs cfg mW hW)).trans (e_jobs_job cfg mJ hJ)

theorem path_job_key {β : Type} {Q : Node → R β} (hW : mW.Keyed cfg "jobs") (hJ : mJ.Free cfg)
    (h : Path (parseJob cfg (parseString mJ.key false).1) Q mK.at) :
    Path (parse cfg) Q (fun v => docNode (mW.at (mJ.at (mK.at v)))) :=
  (path_job cfg mW mJ hW hJ).trans h

theorem path_step (hW : mW.Keyed cfg "jobs") (hJ : mJ.Free cfg) (hK : mK.Keyed cfg "steps") :
    Path (parse cfg) (parseStep cfg) (fun v => docNode (mW.at (mJ.at (mK.at (sS.at v))))) :=
  (path_job_key cfg mW mJ mK hW hJ (e_job_steps cfg _ mK hK)).trans (e_steps_step cfg sS)

theorem path_step_key {β : Type} {Q : Node → R β} (hW : mW.Keyed cfg "jobs") (hJ : mJ.Free cfg) (hK : mK.Keyed cfg "steps")
    (h : Path (parseStep cfg) Q mP.at) :
    Path (parse cfg) Q (fun v => docNode (mW.at (mJ.at (mK.at (sS.at (mP.at v)))))) :=
  (path_step cfg mW mJ mK sS hW hJ hK).trans h

theorem path_event {β : Type} {Q : Node → R β} (hW : mW.Keyed cfg "on")
    (h : Path (parseEvents cfg (parseString mW.key false).1.pos) Q mJ.at) :
    Path (parse cfg) Q (fun v => docNode (mW.at (mJ.at v))) :=
  (path_wf cfg mW (e_wf_on cfg mW hW)).trans h

end

end AL.C13D3
