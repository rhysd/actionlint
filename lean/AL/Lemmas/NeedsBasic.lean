import AL.Model.Needs
import AL.Spec.Digraph
/-
  What the front half of the Needs model reports and builds (`normNeeds`, `visitJobs`, `resolve`), `indexOf?`, `countNew`,
  and the fuel-independence of `visitList`: for (d), (e), (f) of Props/C18.lean and for every later file that reasons
  about `check`.
-/
namespace AL.Needs

/-! ### `indexOf?` -/

theorem indexOf?_isNone (nodes : List RawNode) (d : String) :
    (indexOf? nodes d).isNone = true ↔ ∀ m ∈ nodes, m.id ≠ d := by
  simp [indexOf?, List.findIdx_lt_length]

theorem indexOf?_lt (nodes : List RawNode) (d : String) (i : Nat) (h : indexOf? nodes d = some i) :
    i < nodes.length := by
  simp only [indexOf?] at h
  split at h
  · cases h; assumption
  · cases h

/-! ### `normNeeds`, `visitJobs`, `resolve`: what they report and what they build -/

theorem normNeeds_reports (lower : String → String) (ns : List NeedRef) (acc : List String) :
    ∀ d ∈ (normNeeds lower ns acc).2, ∃ r ∈ ns, d = .dupNeeds r.pos r.value := by
  induction ns generalizing acc with
  | nil => simp [normNeeds]
  | cons j rest ih =>
    have tail : ∀ acc', ∀ d ∈ (normNeeds lower rest acc').2, ∃ r ∈ j :: rest, d = .dupNeeds r.pos r.value :=
      fun acc' d hd => (ih acc' d hd).imp fun r h => ⟨List.mem_cons_of_mem _ h.1, h.2⟩
    intro d hd
    simp only [normNeeds] at hd
    split at hd
    · rcases List.mem_cons.1 hd with rfl | hd
      · exact ⟨j, List.mem_cons_self, rfl⟩
      · exact tail _ d hd
    · split at hd <;> exact tail _ d hd

/-- every report of `VisitJobPre` is about one of the jobs: a repeated `needs:` entry of it, or its id seen before -/
theorem visitJobs_reports (lower : String → String) (jobs : List JobIn) (nodes : List RawNode) :
    ∀ d ∈ (visitJobs lower jobs nodes).2, ∃ j ∈ jobs,
      (∃ r ∈ j.needs, d = .dupNeeds r.pos r.value) ∨ ∃ q, d = .dupJob j.jobPos j.idValue q := by
  induction jobs generalizing nodes with
  | nil => simp [visitJobs]
  | cons j rest ih =>
    have tail : ∀ nodes', ∀ d ∈ (visitJobs lower rest nodes').2, ∃ j' ∈ j :: rest,
        (∃ r ∈ j'.needs, d = .dupNeeds r.pos r.value) ∨ ∃ q, d = .dupJob j'.jobPos j'.idValue q :=
      fun nodes' d hd => (ih nodes' d hd).imp fun j' h => ⟨List.mem_cons_of_mem _ h.1, h.2⟩
    have here : ∀ d ∈ (normNeeds lower j.needs []).2, ∃ j' ∈ j :: rest,
        (∃ r ∈ j'.needs, d = .dupNeeds r.pos r.value) ∨ ∃ q, d = .dupJob j'.jobPos j'.idValue q :=
      fun d hd => ⟨j, List.mem_cons_self, .inl (normNeeds_reports _ _ _ d hd)⟩
    intro d hd
    simp only [visitJobs] at hd
    split at hd
    · rcases List.mem_append.1 hd with hd | hd
      · exact here d hd
      · exact tail _ d hd
    · simp only [List.mem_append] at hd
      rcases hd with (hd | hd) | hd
      · exact here d hd
      · split at hd
        · rw [List.mem_singleton.1 hd]; exact ⟨j, List.mem_cons_self, .inr ⟨_, rfl⟩⟩
        · cases hd
      · exact tail _ d hd

/-- with pairwise distinct (and new) folded ids, `VisitJobPre` appends one node per job with a non-empty id and reports
the jobs' own repeated `needs:` entries, nothing else -/
theorem visitJobs_eq_of_nodup (lower : String → String) : ∀ (jobs : List JobIn) (nodes : List RawNode),
    (nodes.map (·.id) ++ (jobs.map fun j => lower j.idValue).filter (· ≠ "")).Nodup →
    visitJobs lower jobs nodes =
      (nodes ++ (jobs.filter fun j => lower j.idValue ≠ "").map fun j =>
          { id := lower j.idValue, pos := j.idPos, needs := (normNeeds lower j.needs []).1 },
       jobs.flatMap fun j => (normNeeds lower j.needs []).2)
  | [], nodes, _ => by simp [visitJobs]
  | j :: rest, nodes, h => by
    rw [visitJobs]
    by_cases hid : lower j.idValue = ""
    · rw [visitJobs_eq_of_nodup lower rest nodes (by simpa [List.filter_cons, hid] using h)]
      simp [hid]
    · have h1 : (nodes.map (·.id) ++ lower j.idValue :: (rest.map fun j => lower j.idValue).filter (· ≠ "")).Nodup := by
        simpa [List.filter_cons, hid] using h
      -- the id of `j` is new: no node to replace, no `dupJob`
      have hnew : ∀ n ∈ nodes, n.id ≠ lower j.idValue := fun n hn e =>
        (List.nodup_append.1 h1).2.2 n.id (List.mem_map.2 ⟨n, hn, rfl⟩) _ List.mem_cons_self e
      have hfind : nodes.find? (fun n => decide (n.id = lower j.idValue)) = none := by
        rw [List.find?_eq_none]; intro n hn; simpa using hnew n hn
      have hany : nodes.any (fun n => decide (n.id = lower j.idValue)) = false := by
        rw [List.any_eq_false]; intro n hn; simpa using hnew n hn
      have ih := visitJobs_eq_of_nodup lower rest
        (nodes ++ [{ id := lower j.idValue, pos := j.idPos, needs := (normNeeds lower j.needs []).1 }]) (by simpa using h1)
      simp [hid, hfind, hany, ih]

/-- `resolve` only ever stores indices of nodes -/
theorem resolve_wf (nodes : List RawNode) : AL.Spec.WF (resolve nodes).1 := by
  intro v w hw
  simp only [resolve, Graph.succ, List.getElem?_map, List.length_map] at hw ⊢
  cases hv : nodes[v]? with
  | none => simp [hv] at hw
  | some n =>
    simp only [hv, Option.map_some, Option.getD_some, List.mem_filterMap] at hw
    obtain ⟨d, _, hd⟩ := hw
    exact indexOf?_lt nodes d w hd

/-- every report of the resolution loop is a dangling reference of one of the nodes -/
theorem resolve_reports (nodes : List RawNode) :
    ∀ d ∈ (resolve nodes).2, ∃ n ∈ nodes, ∃ dep ∈ n.needs, d = .undefined n.pos n.id dep := by
  intro d hd
  simp only [resolve, List.mem_flatMap, List.mem_map, List.mem_filter] at hd
  obtain ⟨n, hn, dep, ⟨hdep, _⟩, rfl⟩ := hd
  exact ⟨n, hn, dep, hdep, rfl⟩

/-! ### A decidable check for `WF` (used for concrete examples) -/

def wfCheck (g : Graph) : Bool := g.all fun n => n.resolved.all (· < g.length)

theorem wf_of_wfCheck {g : Graph} (h : wfCheck g = true) : AL.Spec.WF g := by
  intro v w hw
  unfold Graph.succ at hw
  cases hg : g[v]? with
  | none => simp [hg] at hw
  | some n =>
    simp only [hg, Option.map_some, Option.getD_some] at hw
    simp only [wfCheck, List.all_eq_true, decide_eq_true_eq] at h
    exact h n (List.mem_of_getElem? hg) w hw

/-! ### `countNew` -/

theorem countNew_le_length (st : List Status) : countNew st ≤ st.length := by
  unfold countNew
  exact List.length_filter_le _ _

theorem countNew_pos_of_new {st : List Status} {w : Nat} (h : st[w]? = some .new) : 0 < countNew st := by
  unfold countNew
  rw [List.length_pos_iff_exists_mem]
  refine ⟨.new, ?_⟩
  rw [List.mem_filter]
  exact ⟨List.mem_of_getElem? h, by simp⟩

theorem countNew_set_new {st : List Status} {w : Nat} {s : Status} (h : st[w]? = some .new) (hs : s ≠ .new) :
    countNew (setStatus st w s) + 1 = countNew st := by
  obtain ⟨hlt, hw⟩ := List.getElem?_eq_some_iff.1 h
  have := countNew_pos_of_new h
  unfold countNew setStatus at *
  rw [← List.countP_eq_length_filter] at this
  rw [← List.countP_eq_length_filter, ← List.countP_eq_length_filter, List.countP_set hlt]
  simp only [hw, hs, decide_true, decide_false, if_true, Bool.false_eq_true, if_false]
  omega

theorem countNew_set_notnew_le (st : List Status) (w : Nat) {s : Status} (hs : s ≠ .new) :
    countNew (setStatus st w s) ≤ countNew st := by
  unfold countNew setStatus
  rw [← List.countP_eq_length_filter, ← List.countP_eq_length_filter]
  rcases Nat.lt_or_ge w st.length with hlt | hge
  · rw [List.countP_set hlt]
    simp only [hs, decide_false, Bool.false_eq_true, if_false]
    omega
  · rw [List.set_eq_of_length_le hge]
    exact Nat.le_refl _

/-! ### One-step unfoldings of `visitList` -/

theorem visitList_nil (g : Graph) (fuel : Nat) (st : List Status) (v : Nat) :
    visitList g fuel st v [] = (none, setStatus st v .finished) := by
  rw [visitList.eq_1]

theorem visitList_cons_active (g : Graph) (fuel : Nat) {st : List Status} (v : Nat) {w : Nat} (ws : List Nat)
    (h : st[w]? = some .active) : visitList g fuel st v (w :: ws) = (some (v, w), st) := by
  cases fuel with
  | zero => rw [visitList.eq_2]; simp [h]
  | succ f => rw [visitList.eq_3]; simp [h]

theorem visitList_cons_skip (g : Graph) (fuel : Nat) {st : List Status} (v : Nat) {w : Nat} (ws : List Nat)
    (h1 : st[w]? ≠ some .active) (h2 : st[w]? ≠ some .new) :
    visitList g fuel st v (w :: ws) = visitList g fuel st v ws := by
  cases fuel with
  | zero =>
    rw [visitList.eq_2]
    split
    · exact absurd ‹_› h1
    · exact absurd ‹_› h2
    · rfl
  | succ f =>
    rw [visitList.eq_3]
    split
    · exact absurd ‹_› h1
    · exact absurd ‹_› h2
    · rfl

theorem visitList_cons_new_some (g : Graph) (f : Nat) {st : List Status} (v : Nat) {w : Nat} (ws : List Nat)
    (h : st[w]? = some .new) {e : Nat × Nat} {st2 : List Status}
    (heq : visitList g f (setStatus st w .active) w (g.succ w) = (some e, st2)) :
    visitList g (f + 1) st v (w :: ws) = (some e, st2) := by
  rw [visitList.eq_3]; simp [h, heq]

theorem visitList_cons_new_none (g : Graph) (f : Nat) {st : List Status} (v : Nat) {w : Nat} (ws : List Nat)
    (h : st[w]? = some .new) {st2 : List Status}
    (heq : visitList g f (setStatus st w .active) w (g.succ w) = (none, st2)) :
    visitList g (f + 1) st v (w :: ws) = visitList g (f + 1) st2 v ws := by
  rw [visitList.eq_3]; simp [h, heq]

theorem visitList_cons_new_zero (g : Graph) {st : List Status} (v : Nat) {w : Nat} (ws : List Nat)
    (h : st[w]? = some .new) : visitList g 0 st v (w :: ws) = (none, st) := by
  rw [visitList.eq_2]; simp [h]

/-! ### Fuel -/

theorem visitList_countNew_le (g : Graph) (fuel : Nat) (st : List Status) (v : Nat) (ws : List Nat) :
    countNew (visitList g fuel st v ws).2 ≤ countNew st := by
  fun_induction visitList g fuel st v ws with
  | case1 fuel st v => exact countNew_set_notnew_le _ _ (by decide)
  | case2 fuel st v w ws h => exact Nat.le_refl _
  | case3 st v w ws h => exact Nat.le_refl _
  | case4 st v w ws h fuel' st1 e st2 heq ih =>
    rw [heq] at ih
    have := countNew_set_notnew_le st w (s := .active) (by decide)
    exact Nat.le_trans ih this
  | case5 st v w ws h fuel' st1 st2 heq ih1 ih2 =>
    rw [heq] at ih1
    have := countNew_set_notnew_le st w (s := .active) (by decide)
    exact Nat.le_trans ih2 (Nat.le_trans ih1 this)
  | case6 fuel st v w ws h1 h2 ih => exact ih

theorem visitList_fuel_irrel (g : Graph) (f1 f2 : Nat) (st : List Status) (v : Nat) (ws : List Nat)
    (h1 : countNew st ≤ f1) (h2 : countNew st ≤ f2) :
    visitList g f1 st v ws = visitList g f2 st v ws := by
  fun_induction visitList g f1 st v ws generalizing f2 with
  | case1 fuel st v => simp [visitList_nil]
  | case2 fuel st v w ws h => rw [visitList_cons_active _ _ _ _ h]
  | case3 st v w ws h =>
    have := countNew_pos_of_new h
    omega
  | case4 st v w ws h fuel' st1 e st2 heq ih =>
    have hc := countNew_set_new (s := .active) h (by decide)
    cases f2 with
    | zero => have := countNew_pos_of_new h; omega
    | succ f2' =>
      have := ih f2' (by simp only [st1]; omega) (by simp only [st1]; omega)
      rw [heq] at this
      rw [visitList_cons_new_some _ _ _ _ h this.symm]
  | case5 st v w ws h fuel' st1 st2 heq ih1 ih2 =>
    have hc := countNew_set_new (s := .active) h (by decide)
    cases f2 with
    | zero => have := countNew_pos_of_new h; omega
    | succ f2' =>
      have e1 := ih1 f2' (by simp only [st1]; omega) (by simp only [st1]; omega)
      have hle : countNew st2 ≤ countNew st1 := by
        have := visitList_countNew_le g fuel' st1 w (g.succ w)
        rw [heq] at this; exact this
      rw [heq] at e1
      rw [visitList_cons_new_none _ _ _ _ h e1.symm]
      exact ih2 (f2' + 1) (by simp only [st1] at hle; omega) (by simp only [st1] at hle; omega)
  | case6 fuel st v w ws hna hnn ih =>
    rw [visitList_cons_skip _ _ _ _ hna hnn]
    exact ih f2 h1 h2

end AL.Needs
