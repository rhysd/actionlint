import AL.Model.Rules
import AL.Model.Visit
import AL.Model.ExprConv
import AL.Model.Proc
import AL.Gen.Popular
/-
  rule_expression.go as a whole, over the AST of AL.PW: which strings are checked, with which workflow key and in which
  mode (`VisitWorkflowPre`, `VisitJobPre`, `VisitStep`, `VisitJobPost`, `VisitWorkflowPost` and every `checkX` helper), the
  loop over the placeholders of a string (`checkExprsIn`: lexer, parser, semantic check under the scope in effect), the
  checks the rule puts on top of the expression's type, the types of `matrix`, `steps`, `needs`, `inputs`, `secrets`, `jobs`.

  The scope bookkeeping re-uses AL.Visit (`St`, `Header`, `mkEnv`, …); the expression checker is AL.Sema, the untrusted
  input machine AL.Insecure, lexer / parser AL.Lex / AL.Parse. A diagnostic is (the position of the string it comes from,
  code, arguments): positions inside a string are the subject of AL.Positions. Local actions and local reusable workflows
  are looked up in a project: what the project says about the reusable workflows a job calls or needs comes in through
  `ProjView` (computed by AL.ProjCall); with the empty view the model is the rule for a file linted without a project.
  The outputs of a local ACTION come in the same way, through `ProjView.actionOutputs` (`none` where the project has no
  metadata for the spec, as for every spec under the empty view).
-/
namespace AL.RuleExpr
open AL AL.Ast AL.Sema
open AL.Visit (St Header mkEnv emptyStrict emptyLoose loosen erase mergeInclude)

abbrev Pos := AL.Yaml.Pos

structure Diag where
  site : Pos
  code : String
  args : List String
deriving Repr, DecidableEq, Inhabited

/-- what a project contributes to the checks of ONE job (computed by AL.ProjCall from what is on disk and from the
cache of interfaces; everything empty for a file linted without a project) -/
structure ProjJob where
  /-- needed job id ↦ type of its `outputs`, when the needed job calls a reusable workflow whose interface is known -/
  outs : List (String × Ty) := []
  /-- the declared inputs (id ↦ name, type) of the workflow this job calls, when `checkWorkflowCall` got its interface -/
  inputs : Option (List (String × (String × Ty))) := none

structure ProjView where
  /-- id of the visited job ↦ its view -/
  jobs : List (String × ProjJob) := []
  /-- `strconv.ParseFloat(v, 64)` succeeds -/
  isNumber : String → Bool := fun _ => false
  /-- spec of a local action ↦ the type of its `outputs`, when the project has its metadata (`typeOfActionOutputs`) -/
  actionOutputs : String → Option Ty := fun _ => none
  /-- `config-variables` of the configuration file (`none` = nil: `vars.*` is not checked) -/
  configVars : Option (List String) := none

def ProjView.jobView (p : ProjView) (id : String) : ProjJob :=
  match p.jobs.find? (·.1 = id) with
  | some e => e.2
  | none => {}

/-- the part of the rule's state an expression is checked under -/
structure Cx where
  lower : String → String
  hdr : Header := ⟨none, none, none⟩
  jobsTy : Option Ty := none
  st : St := St.init
  proj : ProjView := {}
  /-- the view of the job being visited -/
  job : ProjJob := {}

def bytesOf (s : String) : List Nat := s.toUTF8.toList.map (·.toNat)

/-- `checkSemanticsOfExprNode`: the semantic check of a parsed placeholder under the scope in effect -/
def checkParsed (cx : Cx) (key : String) (untrusted : Bool) (pe : AL.Parse.Expr) (off : Nat) : Option (Ty × Nat) × List SemaErr :=
  let r := check { mkEnv cx.lower cx.hdr cx.jobsTy cx.st key with configVars := cx.proj.configVars } (toE cx.lower pe)
  let u := if untrusted then (AL.Insecure.run AL.Gen.untrustedRoots r.evs).map fun paths => err "untrusted" paths else []
  let errs := r.errs ++ u
  if errs.isEmpty then (some (r.ty, off), []) else (none, errs)

/-- `checkSemantics` for the text after one `${{`: the type, the lexer's offset, the diagnostics -/
def checkOne (cx : Cx) (key : String) (untrusted : Bool) (rest : List Nat) : Option (Ty × Nat) × List SemaErr :=
  match AL.Lex.lexExpression (decodeUtf8 rest), AL.Parse.parseToks (AL.Lex.tokens (decodeUtf8 rest)) with
  | .ok (_, off), .ok pe => checkParsed cx key untrusted pe off
  | _, _ => (none, [err "syntax-error" []])

/-- the loop of `checkExprsIn`; `none` = `ok` is false -/
def scan (cx : Cx) (key : String) (untrusted : Bool) : Nat → List Nat → List Ty → Option (List Ty) × List SemaErr
  | 0, _, ts => (some ts, [])
  | fuel + 1, s, ts =>
    match AL.Proc.indexOf AL.Proc.open3 s 0 with
    | none => (some ts, [])
    | some idx =>
      let rest := s.drop (idx + 3)
      match checkOne cx key untrusted rest with
      | (none, errs) => (none, errs)
      | (some (ty, off), _) =>
        if off = 0 then (some [], [])
        else scan cx key untrusted fuel (rest.drop off) (ts ++ [ty])

/-- `checkExprsIn` -/
def checkExprsIn (cx : Cx) (key : String) (untrusted : Bool) (s : String) : Option (List Ty) × List SemaErr :=
  scan cx key untrusted (bytesOf s).length (bytesOf s) []

def at_ (s : Str) (es : List SemaErr) : List Diag := es.map fun e => ⟨s.pos, e.code, e.args⟩

/-- `checkTemplateEvaluatedType` -/
def templateDiags (ts : List Ty) : List SemaErr :=
  ts.flatMap fun t => match t with
    | .obj .. => [err "template-type" [tyStr t]]
    | .arr .. => [err "template-type" [tyStr t]]
    | .null => [err "template-type" [tyStr t]]
    | _ => []

/-- `checkString` / `checkScriptString`: the types of the placeholders (nil when a placeholder has a diagnostic) -/
def checkStrU (cx : Cx) (untrusted : Bool) (s : Option Str) (key : String) : List Ty × List Diag :=
  match s with
  | none => ([], [])
  | some str =>
    match checkExprsIn cx key untrusted str.value with
    | (none, es) => ([], at_ str es)
    | (some ts, es) => (ts, at_ str (es ++ templateDiags ts))

def checkString (cx : Cx) (s : Option Str) (key : String) : List Diag := (checkStrU cx false s key).2
def checkScriptString (cx : Cx) (s : Option Str) (key : String) : List Diag := (checkStrU cx true s key).2
def checkStrings (cx : Cx) (ss : Option (List Str)) (key : String) : List Diag :=
  (ss.getD []).flatMap fun s => checkString cx (some s) key

/-- `checkOneExpression` -/
def checkOneExpression (cx : Cx) (s : Option Str) (what key : String) : Option Ty × List Diag :=
  match s with
  | none => (none, [])
  | some str =>
    match checkExprsIn cx key false str.value with
    | (none, es) => (none, at_ str es)
    | (some [t], es) => (some t, at_ str es)
    | (some ts, es) => (none, at_ str (es ++ [err "one-expression" [what, toString ts.length]]))

def mustBe (p : Ty → Bool) (code what : String) (s : Option Str) (r : Option Ty × List Diag) : Option Ty × List Diag :=
  match r.1, s with
  | some t, some str => if p t then r else (none, r.2 ++ at_ str [err code [what, tyStr t]])
  | _, _ => r

def isObjOrAny : Ty → Bool | .obj .. => true | .any => true | _ => false
def isArrOrAny : Ty → Bool | .arr .. => true | .any => true | _ => false
def isNumOrAny : Ty → Bool | .number => true | .any => true | _ => false

def checkObjectExpression (cx : Cx) (s : Option Str) (what key : String) : Option Ty × List Diag :=
  mustBe isObjOrAny "must-be-object" what s (checkOneExpression cx s what key)
def checkArrayExpression (cx : Cx) (s : Option Str) (what key : String) : Option Ty × List Diag :=
  mustBe isArrOrAny "must-be-array" what s (checkOneExpression cx s what key)
def checkNumberExpression (cx : Cx) (s : Option Str) (what key : String) : Option Ty × List Diag :=
  mustBe isNumOrAny "must-be-number" what s (checkOneExpression cx s what key)

/-- `checkBool` -/
def checkBool (cx : Cx) (b : Option BoolV) (key : String) : List Diag :=
  match b with
  | none => []
  | some b =>
    match b.expr with
    | none => []
    | some e =>
      let r := checkOneExpression cx (some e) "bool value" key
      match r.1 with
      | some .bool => r.2
      | some .any => r.2
      | some t => r.2 ++ at_ e [err "must-be-bool" [tyStr t]]
      | none => r.2

def checkInt (cx : Cx) (i : Option IntV) (key : String) : List Diag :=
  match i with
  | none => []
  | some i => (checkNumberExpression cx i.expr "integer value" key).2

def checkFloat (cx : Cx) (f : Option FloatV) (key : String) : List Diag :=
  match f with
  | none => []
  | some f => (checkNumberExpression cx f.expr "float number value" key).2

/-- `checkEnv` -/
def checkEnv (cx : Cx) (env : Option Ast.Env) (key : String) : List Diag :=
  match env with
  | none => []
  | some e =>
    match e.vars with
    | some vars => vars.flatMap fun kv => checkString cx (some kv.2.name) key ++ checkString cx (some kv.2.value) key
    | none => (checkObjectExpression cx e.expr "env" key).2

/-- `checkContainer` -/
def checkContainer (cx : Cx) (c : Option Container) (key childPrefix : String) : List Diag :=
  match c with
  | none => []
  | some c =>
    let child := if childPrefix ≠ "" then key ++ "." ++ childPrefix else key
    checkString cx c.image key ++
    (match c.credentials with
     | some cr => checkString cx cr.username (child ++ ".credentials") ++ checkString cx cr.password (child ++ ".credentials")
     | none => []) ++
    checkEnv cx c.env (child ++ ".env.<env_id>") ++
    checkStrings cx c.ports key ++ checkStrings cx c.volumes key ++ checkString cx c.options key

def checkConcurrency (cx : Cx) (c : Option Concurrency) (key : String) : List Diag :=
  match c with
  | none => []
  | some c => checkString cx c.group key ++ checkBool cx c.cancelInProgress key

def checkDefaults (cx : Cx) (d : Option Defaults) (key : String) : List Diag :=
  match d with
  | none => []
  | some d =>
    match d.run with
    | none => []
    | some r => checkString cx r.shell key ++ checkString cx r.workingDirectory key

/-- `checkIfCondition` -/
def checkIfCondition (cx : Cx) (s : Option Str) (key : String) : List Diag :=
  match s with
  | none => []
  | some str =>
    let notBool (t : Ty) : List Diag :=
      match t with
      | .bool => [] | .any => []
      -- `BoolType.Assignable`: every type converts to bool except that the check is on assignability
      | t => if Ty.assignable .bool t then [] else at_ str [err "if-cond-type" [tyStr t]]
    if AL.Rules.containsExpr str then
      let r := checkStrU cx false (some str) key
      match r.1 with
      | [t] => if AL.Yaml.isExprAssigned str.value then r.2 ++ notBool t else r.2
      | _ => r.2
    else
      -- the whole value is an expression: `src + "}}"`
      match checkOne cx key false (bytesOf str.value ++ [125, 125]) with
      | (none, es) => at_ str es
      | (some (t, _), _) => notBool t

/-! ### the matrix -/

/-- `strconv.ParseFloat(s, 64)` succeeds -/
abbrev IsNumber := String → Bool

def trimmed (s : String) : String := String.ofList (AL.Yaml.trimSpace s.toList)

/-- `checkRawYAMLString` -/
def rawStringTy (cx : Cx) (isNum : IsNumber) (v : String) (pos : Pos) : Ty × List Diag :=
  let r := checkExprsIn cx "jobs.<job_id>.strategy" false v
  let ds := at_ ⟨v, false, pos⟩ r.2
  if AL.Yaml.isExprAssigned v then
    match r.1 with
    | some [t] => (t, ds)
    | _ => (.any, ds)
  else
    let s := trimmed v
    if s = "true" || s = "false" then (.bool, ds)
    else if s = "null" then (.null, ds)
    else if isNum s then (.number, ds)
    else (.string, ds)

mutual
/-- `checkRawYAMLValue` -/
def rawTy (cx : Cx) (isNum : IsNumber) : AL.Matrix.Raw → Ty × List Diag
  | .str v p => rawStringTy cx isNum v p
  | .arr es _ =>
    match es with
    | [] => (.arr .any false, [])
    | e :: rest =>
      let h := rawTy cx isNum e
      let r := rawFold cx isNum h.1 rest
      (.arr r.1 false, h.2 ++ r.2)
  | .obj ps _ =>
    let r := rawProps cx isNum ps
    (.obj r.1 none, r.2)
def rawFold (cx : Cx) (isNum : IsNumber) (acc : Ty) : List AL.Matrix.Raw → Ty × List Diag
  | [] => (acc, [])
  | v :: vs =>
    let t := rawTy cx isNum v
    let r := rawFold cx isNum (Ty.merge acc t.1) vs
    (r.1, t.2 ++ r.2)
def rawProps (cx : Cx) (isNum : IsNumber) : List (String × AL.Matrix.Raw) → List (String × Ty) × List Diag
  | [] => ([], [])
  | (k, v) :: ps =>
    let t := rawTy cx isNum v
    let r := rawProps cx isNum ps
    (Ty.setProp k t.1 r.1, t.2 ++ r.2)
end

/-- `checkMatrixRow` -/
def rowTy (cx : Cx) (isNum : IsNumber) (r : MatrixRow) : Ty × List Diag :=
  match r.expr with
  | some e =>
    let a := checkArrayExpression cx (some e) "matrix row" "jobs.<job_id>.strategy"
    (match a.1 with | some (.arr el _) => el | _ => .any, a.2)
  | none =>
    match r.values.getD [] with
    | [] => (.any, [])
    | v :: vs =>
      let h := rawTy cx isNum v
      let f := rawFold cx isNum h.1 vs
      (f.1, h.2 ++ f.2)

/-- the `exclude` part of `checkMatrix`: diagnostics only -/
def excludeDiags (cx : Cx) (isNum : IsNumber) (ex : Option MatrixCombinations) : List Diag :=
  match ex with
  | none => []
  | some ex =>
    match ex.expr with
    | some e =>
      let a := checkArrayExpression cx (some e) "exclude" "jobs.<job_id>.strategy"
      (match a.1 with
       | some (.arr el _) => if isObjOrAny el then a.2 else a.2 ++ at_ e [err "must-be-object" ["exclude", tyStr el]]
       | _ => a.2)
    | none =>
      (ex.combinations.getD []).flatMap fun c =>
        match c.expr with
        | some e => (checkObjectExpression cx (some e) "exclude" "jobs.<job_id>.strategy").2
        | none => (c.assigns.getD []).flatMap fun kv => (rawTy cx isNum kv.2.value).2

/-- one `include` combination folded into the matrix type -/
def includeCombo (cx : Cx) (isNum : IsNumber) (acc : Ty × List Diag) (c : MatrixCombination) : Ty × List Diag :=
  match c.expr with
  | some e =>
    let r := checkOneExpression cx (some e) "matrix combination at element of include section" "jobs.<job_id>.strategy"
    match r.1 with
    | none => (acc.1, acc.2 ++ r.2)
    | some ty =>
      (match Ty.merge acc.1 ty with
       | .obj ps m => .obj ps m
       | _ => loosen acc.1, acc.2 ++ r.2)
  | none =>
    (c.assigns.getD []).foldl (fun a kv =>
      let t := rawTy cx isNum kv.2.value
      match a.1 with
      | .obj ps m =>
        let ty' := match Ty.lookup kv.1 ps with
          | some old => Ty.merge old t.1
          | none => t.1
        (.obj (Ty.setProp kv.1 ty' ps) m, a.2 ++ t.2)
      | o => (o, a.2 ++ t.2)) acc

/-- `checkMatrixExpression` -/
def matrixExprTy (cx : Cx) (e : Str) : Ty × List Diag :=
  let r := checkObjectExpression cx (some e) "matrix" "jobs.<job_id>.strategy"
  match r.1 with
  | some (.obj ps m) =>
    let ps1 := match Ty.lookup "include" ps with
      | some (.arr (.obj ips _) _) => mergeInclude (erase "include" ps) ips
      | some _ => erase "include" ps
      | none => ps
    (.obj (erase "exclude" ps1) m, r.2)
  | _ => (emptyLoose, r.2)

/-- `checkMatrix` -/
def checkMatrix (cx : Cx) (isNum : IsNumber) (m : Matrix) : Ty × List Diag :=
  match m.expr with
  | some e => matrixExprTy cx e
  | none =>
    let ex := excludeDiags cx isNum m.excl
    let rows := (m.rows.getD []).foldl (fun (acc : List (String × Ty) × List Diag) kv =>
      let t := rowTy cx isNum kv.2
      (Ty.setProp kv.1 t.1 acc.1, acc.2 ++ t.2)) ([], [])
    let o : Ty := .obj rows.1 none
    match m.incl with
    | none => (o, ex ++ rows.2)
    | some inc =>
      match inc.expr with
      | some e =>
        let r := checkOneExpression cx (some e) "include" "jobs.<job_id>.strategy"
        (match r.1 with
         | some (.arr el _) =>
           (match Ty.merge o el with
            | .obj ps mm => .obj ps mm
            | _ => emptyLoose)
         | _ => emptyLoose, ex ++ rows.2 ++ r.2)
      | none =>
        let r := (inc.combinations.getD []).foldl (includeCombo cx isNum) (o, [])
        (r.1, ex ++ rows.2 ++ r.2)

/-! ### steps, jobs -/

/-- the bundled-action part of `typeOfActionOutputs` / `getActionOutputsType`: the regenerated table (local actions, from the
project's view: `actionOutputsTy`) -/
def popularOutputs (spec : String) : Option Ty :=
  match AL.Gen.popularChunks.findSome? (fun ch => ch.find? (·.1 = spec)) with
  | some (_, _, outs, _, skipOutputs) =>
    if skipOutputs then some emptyLoose
    else some (.obj (outs.foldl (fun ps o => Ty.setProp (AL.PW.asciiLower o.1) .string ps) []) none)
  | none => none

def mapOfString : Ty := .obj [] (some .string)

def actionOutputsTy (localOuts : String → Option Ty) (spec : Option Str) : Ty :=
  match spec with
  | none => mapOfString
  | some s =>
    if s.value.startsWith "./" then (localOuts s.value).getD mapOfString
    else if s.value.startsWith "actions/github-script@" then emptyLoose
    else (popularOutputs s.value).getD mapOfString

/-- the `switch e := n.Exec.(type)` of `VisitStep`: diagnostics and the action spec -/
def stepExec (cx : Cx) : Exec → List Diag × Option Str
  | .run e =>
    (checkScriptString cx e.run "jobs.<job_id>.steps.run" ++ checkString cx e.shell "" ++
      checkString cx e.workingDirectory "jobs.<job_id>.steps.working-directory", none)
  | .action e =>
    (checkString cx e.uses "" ++
      ((e.inputs.getD []).flatMap fun kv =>
        if (match e.uses with | some u => (cx.lower u.value).startsWith "actions/github-script@" | none => false) && kv.1 = "script" then
          checkScriptString cx (some kv.2.value) "jobs.<job_id>.steps.with"
        else checkString cx (some kv.2.value) "jobs.<job_id>.steps.with") ++
      checkString cx e.entrypoint "jobs.<job_id>.steps.with" ++ checkString cx e.args "jobs.<job_id>.steps.with", e.uses)
  | .none => ([], none)

/-- everything `VisitStep` checks before it looks at the id -/
def stepDiags (cx : Cx) (n : Step) : List Diag :=
  checkString cx n.name "jobs.<job_id>.steps.name" ++ checkIfCondition cx n.cond "jobs.<job_id>.steps.if" ++
  (stepExec cx n.exec).1 ++
  checkEnv cx n.env "jobs.<job_id>.steps.env" ++ checkBool cx n.continueOnError "jobs.<job_id>.steps.continue-on-error" ++
  checkFloat cx n.timeoutMinutes "jobs.<job_id>.steps.timeout-minutes"

/-- `VisitStep`: the diagnostics of the step and the steps type afterwards -/
def visitStep (cx : Cx) (n : Step) : Cx × List Diag :=
  match n.id with
  | none => (cx, stepDiags cx n)
  | some id =>
    let dyn := AL.Rules.containsExpr id
    let d4 := if dyn then checkString cx (some id) "" else []
    let stepsTy := cx.st.stepsTy.map fun t =>
      let t := if dyn then loosen t else t
      match t with
      | .obj ps m => .obj (Ty.setProp (cx.lower id.value) (.obj [("conclusion", .string), ("outcome", .string), ("outputs", actionOutputsTy cx.proj.actionOutputs (stepExec cx n.exec).2)] none) ps) m
      | t => t
    ({ cx with st := { cx.st with stepsTy := stepsTy } }, stepDiags cx n ++ d4)

def visitSteps (cx : Cx) : List Step → Cx × List Diag
  | [] => (cx, [])
  | s :: ss =>
    let r := visitStep cx s
    let r' := visitSteps r.1 ss
    (r'.1, r.2 ++ r'.2)

def lookupJob (i : String) : List (String × Job) → Option Job
  | [] => none
  | (k, j) :: rest => if k = i then some j else lookupJob i rest

def declaredOutputsTy (j : Job) : Ty :=
  .obj ((j.outputs.getD []).foldl (fun ps kv => Ty.setProp kv.1 .string ps) []) none

/-- `calcNeedsType`; `outs`: the outputs of the needed jobs that call a reusable workflow with a known interface
(`getWorkflowCallOutputsType`) — `{string => string}` for the others -/
def needsTy (outs : List (String × Ty)) (lower : String → String) (jobs : List (String × Job)) (job : Job) : Ty :=
  .obj ((job.needs.getD []).foldl (fun ps id =>
    let i := lower id.value
    if i = lower job.id.value then ps
    else if (Ty.lookup i ps).isSome then ps
    else match lookupJob i jobs with
      | none => ps
      | some j =>
        let outs := if j.workflowCall.isNone then declaredOutputsTy j else (Ty.lookup i outs).getD mapOfString
        Ty.setProp i (.obj [("outputs", outs), ("result", .string)] none) ps) []) none

/-- the type of the value supplied for an input of a called workflow (`checkWorkflowCall`): by spelling when it has no
placeholder, the placeholder's type when the value IS one placeholder, else string -/
def suppliedTy (cx : Cx) (v : Str) (ts : List Ty) : Ty :=
  match ts with
  | [] =>
    let t := String.ofList (AL.Yaml.trimSpace v.value.toList)
    if t = "null" then .null
    else if t = "true" || t = "false" then .bool
    else if cx.proj.isNumber t then .number
    else .string
  | [t] => if AL.Yaml.isExprAssigned v.value then t else .string
  | _ => .string

/-- the typed check of one `with:` entry against the called workflow's declared input -/
def typedInput (cx : Cx) (u : Str) (kv : String × CallArg) (ts : List Ty) : List Diag :=
  match cx.job.inputs with
  | none => []
  | some ins =>
    match ins.find? (·.1 = kv.1) with
    | none => []
    | some (_, (name, decl)) =>
      if decl.isAny then []
      else
        let ty := suppliedTy cx kv.2.value ts
        if Ty.assignable decl ty then []
        else [⟨kv.2.value.pos, "call-input-type", [name, tyStr decl, u.value, tyStr ty]⟩]

/-- `checkWorkflowCall`: the strings, and — when the project knows the called workflow's interface — the types of the
supplied inputs -/
def checkWorkflowCall (cx : Cx) (c : Option WorkflowCall) : List Diag :=
  match c with
  | none => []
  | some c =>
    match c.uses with
    | none => []
    | some u =>
      checkString cx (some u) "" ++
      ((c.inputs.getD []).flatMap fun kv =>
        let r := checkStrU cx false (some kv.2.value) "jobs.<job_id>.with.<with_id>"
        r.2 ++ typedInput cx u kv r.1) ++
      ((c.secrets.getD []).flatMap fun kv => checkString cx (some kv.2.value) "jobs.<job_id>.secrets.<secrets_id>")

def runsOnDiags (cx : Cx) (r : Option Runner) : List Diag :=
  match r with
  | none => []
  | some r =>
    (match r.labelsExpr with
     | some e =>
       let t := checkOneExpression cx (some e) "runner label at \"runs-on\" section" "jobs.<job_id>.runs-on"
       (match t.1 with
        | some (.arr ..) => t.2 | some .string => t.2 | some .any => t.2
        | some ty => t.2 ++ at_ e [err "runs-on-type" [tyStr ty]]
        | none => t.2)
     | none => (r.labels.getD []).flatMap fun l => checkString cx (some l) "jobs.<job_id>.runs-on") ++
    checkString cx r.group "jobs.<job_id>.runs-on"

def strategyDiags (cx : Cx) (s : Option Strategy) : List Diag :=
  match s with
  | some s => checkBool cx s.failFast "jobs.<job_id>.strategy" ++ checkInt cx s.maxParallel "jobs.<job_id>.strategy"
  | none => []

def servicesDiags (cx : Cx) (s : Option Services) : List Diag :=
  match s with
  | some s =>
    (checkObjectExpression cx s.expr "services" "jobs.<job_id>.services").2 ++
    ((s.value.getD []).flatMap fun kv => checkContainer cx (some kv.2.container) "jobs.<job_id>.services" "<service_id>")
  | none => []

/-- `VisitJobPre` after the matrix: everything checked under the job's scope before its steps -/
def jobPre (cx : Cx) (n : Job) : List Diag :=
  checkString cx n.name "jobs.<job_id>.name" ++ checkStrings cx n.needs "" ++ runsOnDiags cx n.runsOn ++
  checkConcurrency cx n.concurrency "jobs.<job_id>.concurrency" ++ checkEnv cx n.env "jobs.<job_id>.env" ++
  checkDefaults cx n.defaults "jobs.<job_id>.defaults.run" ++ checkIfCondition cx n.cond "jobs.<job_id>.if" ++
  strategyDiags cx n.strategy ++
  checkBool cx n.continueOnError "jobs.<job_id>.continue-on-error" ++ checkFloat cx n.timeoutMinutes "jobs.<job_id>.timeout-minutes" ++
  checkContainer cx n.container "jobs.<job_id>.container" "" ++ servicesDiags cx n.services ++
  checkWorkflowCall cx n.workflowCall

/-- `VisitJobPost` -/
def jobPost (cx : Cx) (n : Job) : List Diag :=
  (match n.environment with
   | some e => checkString cx e.name "jobs.<job_id>.environment" ++ checkString cx e.url "jobs.<job_id>.environment.url"
   | none => []) ++
  ((n.outputs.getD []).flatMap fun kv => checkString cx (some kv.2.value) "jobs.<job_id>.outputs.<output_id>")

/-- the matrix of the job: its type (if any) and its diagnostics -/
def jobMatrix (cx : Cx) (isNum : IsNumber) (n : Job) : Option Ty × List Diag :=
  match n.strategy with
  | some s =>
    (match s.matrix with
     | some m => let r := checkMatrix cx isNum m; (some r.1, r.2)
     | none => (none, []))
  | none => (none, [])

/-- `VisitJobPre`, the steps, `VisitJobPost` -/
def visitJob (cx0 : Cx) (isNum : IsNumber) (jobs : List (String × Job)) (n : Job) : List Diag :=
  let view := cx0.proj.jobView n.id.value
  let cx1 : Cx := { cx0 with job := view, st := { cx0.st with needsTy := some (needsTy view.outs cx0.lower jobs n) } }
  let mx := jobMatrix cx1 isNum n
  let cx : Cx := match mx.1 with
    | some t => { cx1 with st := { cx1.st with matrixTy := some t } }
    | none => cx1
  let cxS : Cx := { cx with st := { cx.st with stepsTy := some emptyStrict } }
  let rs := visitSteps cxS (n.steps.getD [])
  mx.2 ++ jobPre cx n ++ rs.2 ++ jobPost rs.1 n

/-! ### the workflow -/

def dispatchTy : DispatchInputType → Ty
  | .boolean => .bool | .number => .number | .string => .string | .choice => .string | .environment => .string | .none => .any

def callTy : CallInputType → Ty
  | .string => .string | .boolean => .bool | .number => .number | .invalid => .any

/-- the inputs of `workflow_call`, in order: each is checked with the inputs declared before it in scope -/
def callInputs (cx : Cx) : List (String × Ty) → List Ast.CallInput → List (String × Ty) × List Diag
  | acc, [] => (acc, [])
  | acc, i :: rest =>
    let cxi : Cx := { cx with hdr := { cx.hdr with callInputs := some acc } }
    let d1 := checkString cxi i.description "" ++ checkBool cxi i.required ""
    let ts := checkStrU cxi false i.dflt "on.workflow_call.inputs.<inputs_id>.default"
    let assigned := match i.dflt with | some d => AL.Yaml.isExprAssigned d.value | none => false
    let d2 := match i.type, ts.1, i.dflt with
      | .boolean, [t], some d => if assigned then (match t with | .bool => [] | .any => [] | t => at_ d [err "input-default-bool" [i.name.value, tyStr t]]) else []
      | .number, [t], some d => if assigned then (match t with | .number => [] | .any => [] | t => at_ d [err "input-default-number" [i.name.value, tyStr t]]) else []
      | _, _, _ => []
    let r := callInputs cx (acc ++ [(i.id, callTy i.type)]) rest
    (r.1, d1 ++ ts.2 ++ d2 ++ r.2)

def filterDiags (cx : Cx) (x : Option Filter) : List Diag :=
  match x with
  | some f => checkStrings cx f.values ""
  | none => []

def webhookDiags (cx : Cx) (e : WebhookEvent) : List Diag :=
  checkStrings cx e.types "" ++ filterDiags cx e.branches ++ filterDiags cx e.branchesIgnore ++ filterDiags cx e.tags ++
  filterDiags cx e.tagsIgnore ++ filterDiags cx e.paths ++ filterDiags cx e.pathsIgnore ++ checkStrings cx e.workflows ""

def dispatchInputDiags (cx : Cx) (i : DispatchInput) : List Diag :=
  checkString cx i.description "" ++ checkString cx i.dflt "" ++ checkBool cx i.required "" ++ checkStrings cx i.options ""

def callSecretDiags (cx : Cx) (s : CallSecret) : List Diag := checkString cx s.description "" ++ checkBool cx s.required ""

/-- one event of `on:` (`VisitWorkflowPre`) -/
def visitEvent (cx : Cx) : Ast.Event → Cx × List Diag
  | .webhook e => (cx, webhookDiags cx e)
  | .schedule cron _ => (cx, checkStrings cx (some cron) "")
  | .dispatch inputs _ =>
    let ins := inputs.getD []
    ({ cx with hdr := { cx.hdr with dispatchInputs := some (ins.map fun kv => (kv.1, dispatchTy kv.2.type)) } },
     ins.flatMap fun kv => dispatchInputDiags cx kv.2)
  | .repoDispatch types _ => (cx, checkStrings cx types "")
  | .call inputs secrets outputs _ =>
    let r := callInputs { cx with hdr := { cx.hdr with callInputs := some [] } } [] (inputs.getD [])
    let cx1 : Cx := { cx with hdr := { cx.hdr with callInputs := some r.1 } }
    let ds := (secrets.getD []).flatMap fun kv => callSecretDiags cx1 kv.2
    let cx2 : Cx := match secrets with
      | some ss => { cx1 with hdr := { cx1.hdr with callSecrets := some (ss.map (·.1)) } }
      | none => cx1
    let dout := (outputs.getD []).flatMap fun kv => checkString cx2 kv.2.description ""
    (cx2, r.2 ++ ds ++ dout)

def visitEvents (cx : Cx) : List Ast.Event → Cx × List Diag
  | [] => (cx, [])
  | e :: es =>
    let r := visitEvent cx e
    let r' := visitEvents r.1 es
    (r'.1, r.2 ++ r'.2)

/-- `checkWorkflowCallOutputs`: the `jobs` context -/
def jobsTyOf (jobs : List (String × Job)) : Ty :=
  .obj (jobs.foldl (fun ps kv =>
    Ty.setProp kv.1 (.obj [("outputs", if kv.2.workflowCall.isSome then emptyLoose else declaredOutputsTy kv.2)] none) ps) []) none

def findCallOutputs : List Ast.Event → Option (List (String × CallOutput))
  | [] => none
  | .call _ _ outs _ :: _ => some (outs.getD [])
  | _ :: rest => findCallOutputs rest

/-- the whole rule on one workflow -/
def rule (lower : String → String) (isNum : IsNumber) (w : Workflow) (proj : ProjView := {}) : List Diag :=
  let cx0 : Cx := { lower := lower, proj := proj }
  let dName := checkString cx0 w.name ""
  let ev := visitEvents cx0 (w.on.getD [])
  let cx := ev.1
  let top := checkString cx w.runName "run-name" ++ checkEnv cx w.env "env" ++ checkDefaults cx w.defaults "" ++
    checkConcurrency cx w.concurrency "concurrency"
  let jobs := w.jobs.getD []
  let dj := jobs.flatMap fun kv => visitJob cx isNum jobs kv.2
  let dOut := match findCallOutputs (w.on.getD []) with
    | some outs =>
      if outs.isEmpty || jobs.isEmpty then []
      else
        let cxo : Cx := { cx with jobsTy := some (jobsTyOf jobs) }
        outs.flatMap fun kv => checkString cxo kv.2.value "on.workflow_call.outputs.<output_id>.value"
    | none => []
  dName ++ ev.2 ++ top ++ dj ++ dOut

end AL.RuleExpr
