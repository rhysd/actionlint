import AL.Model.ParseWf
import AL.Model.Needs
import AL.Model.Glob
import AL.Gen.Webhooks
import AL.Gen.RunnerLabels
import AL.Model.ExprConv
import AL.Gen.Popular
import AL.Model.Cron
/-
  The rules that need nothing but the AST, as functions of the AST the parser model produces, and the tail of
  `Linter.check` (all diagnostics of the parser and of the rules, stably sorted by position):

    rule_matrix.go       (through AL.Matrix)      rule_credentials.go     rule_job_needs.go (through AL.Needs)
    rule_env_var.go      rule_id.go               rule_glob.go (through AL.Glob)
    rule_permissions.go  rule_if_cond.go          rule_shell_name.go      rule_deprecated_commands.go
    rule_events.go (the CRON check through AL.Cron)   rule_runner_label.go    rule_action.go / rule_workflow_call.go (no project)

  (`rules`, at the end of the file, concatenates them in the order in which linter.go creates them). The visitor (pass.go) walks `Workflow.Jobs`, a Go map: here the jobs are visited
  in the order of the association list (source order). A rule's state that lives across callbacks is explicit
  (`RuleID.seen`, `RuleJobNeeds.nodes`).
-/
namespace AL.Rules
open AL.Yaml AL.Ast

abbrev Pos := AL.Yaml.Pos

structure Diag where
  pos : Pos
  kind : String
  code : String
  args : List String
deriving Repr, DecidableEq, Inhabited

def containsExpr (s : Str) : Bool := AL.Matrix.containsExpr s.value

/-- `Pos.IsBefore` -/
def isBefore (a b : Pos) : Bool := a.line < b.line || (a.line = b.line && a.col < b.col)

def jobsOf (w : Workflow) : List Job := (w.jobs.getD []).map (·.2)
def stepsOf (j : Job) : List Step := j.steps.getD []

/-! ### rule_id.go -/

def isIdStart (c : Char) : Bool := ('a' ≤ c && c ≤ 'z') || ('A' ≤ c && c ≤ 'Z') || c = '_'
def isIdChar (c : Char) : Bool := isIdStart c || ('0' ≤ c && c ≤ '9') || c = '-'

/-- `jobIDPattern = ^[a-zA-Z_][a-zA-Z0-9_-]*$` -/
def matchesIdPattern (s : String) : Bool :=
  match s.toList with
  | [] => false
  | c :: cs => isIdStart c && cs.all isIdChar

/-- `validateConvention` -/
def validateConvention (id : Option Str) (what : String) : List Diag :=
  match id with
  | none => []
  | some s =>
    if s.value = "" || containsExpr s || matchesIdPattern s.value then []
    else [⟨s.pos, "id", "id-convention", [what, s.value]⟩]

def lookupSeen (id : String) : List (String × Pos) → Option Pos
  | [] => none
  | (k, p) :: rest => if k = id then some p else lookupSeen id rest

/-- `RuleID.VisitStep` over the steps of one job; `seen` is `rule.seen` -/
def idSteps (lower : String → String) : List Step → List (String × Pos) → List Diag
  | [], _ => []
  | st :: rest, seen =>
    match st.id with
    | none => idSteps lower rest seen
    | some s =>
      let conv := validateConvention (some s) "step"
      let id := lower s.value
      match lookupSeen id seen with
      | some prev => conv ++ [⟨s.pos, "id", "step-id-duplicate", [s.value, AL.PW.posString prev]⟩] ++ idSteps lower rest seen
      | none => conv ++ idSteps lower rest (seen ++ [(id, s.pos)])

/-- `VisitJobPre` (fresh `seen`), the steps, `VisitJobPost` -/
def idJob (lower : String → String) (j : Job) : List Diag :=
  validateConvention (some j.id) "job" ++
  (j.needs.getD []).flatMap (fun n => validateConvention (some n) "job") ++
  idSteps lower (stepsOf j) []

def ruleId (lower : String → String) (w : Workflow) : List Diag := (jobsOf w).flatMap (idJob lower)

/-! ### rule_env_var.go -/

/-- `strings.ContainsAny(name, "&= \t")` -/
def badEnvName (s : String) : Bool := s.toList.any fun c => c = '&' || c = '=' || c = ' ' || c = '\t'

def checkEnv (env : Option Env) : List Diag :=
  match env with
  | none => []
  | some e =>
    if e.expr.isSome then []
    else (e.vars.getD []).flatMap fun kv =>
      if containsExpr kv.2.name then []
      else if badEnvName kv.2.name.value then [⟨kv.2.name.pos, "env-var", "env-var-name", [kv.2.name.value]⟩]
      else []

def envVarJob (j : Job) : List Diag :=
  checkEnv j.env ++
  (match j.container with | some c => checkEnv c.env | none => []) ++
  (match j.services with
   | some s => (s.value.getD []).flatMap fun kv => checkEnv kv.2.container.env
   | none => []) ++
  (stepsOf j).flatMap fun st => checkEnv st.env

def ruleEnvVar (w : Workflow) : List Diag := checkEnv w.env ++ (jobsOf w).flatMap envVarJob

/-! ### rule_credentials.go -/

def checkCredContainer (whereKind whereArg : String) (c : Container) : List Diag :=
  match c.credentials with
  | none => []
  | some cr =>
    match cr.password with
    | none => []
    | some p => if AL.Yaml.isExprAssigned p.value then [] else [⟨p.pos, "credentials", "password-literal", [whereKind, whereArg]⟩]

def credentialsJob (j : Job) : List Diag :=
  (match j.container with | some c => checkCredContainer "container" "" c | none => []) ++
  (match j.services with
   | some s => (s.value.getD []).flatMap fun kv => checkCredContainer "service" kv.2.name.value kv.2.container
   | none => [])

def ruleCredentials (w : Workflow) : List Diag := (jobsOf w).flatMap credentialsJob

/-! ### rule_permissions.go -/

def allPermissionScopes : List String :=
  ["actions", "attestations", "checks", "contents", "deployments", "id-token", "issues", "discussions", "packages",
   "pages", "pull-requests", "repository-projects", "security-events", "statuses"]

def checkPermissions (p : Option Permissions) : List Diag :=
  match p with
  | none => []
  | some p =>
    match p.all with
    | some a => if a.value = "write-all" || a.value = "read-all" then [] else [⟨a.pos, "permissions", "permission-all", [a.value]⟩]
    | none =>
      (p.scopes.getD []).flatMap fun kv =>
        let n := kv.2.name.value
        (if allPermissionScopes.contains n then [] else [⟨kv.2.name.pos, "permissions", "permission-scope", [n]⟩]) ++
        (if kv.2.value.value = "read" || kv.2.value.value = "write" || kv.2.value.value = "none" then []
         else [⟨kv.2.value.pos, "permissions", "permission-value", [kv.2.value.value, n]⟩])

def rulePermissions (w : Workflow) : List Diag :=
  checkPermissions w.permissions ++ (jobsOf w).flatMap fun j => checkPermissions j.permissions

/-! ### rule_if_cond.go -/

def checkIfCond (s : Option Str) : List Diag :=
  match s with
  | none => []
  | some n =>
    if !containsExpr n then []
    else
      let v := n.value.toList
      if "${{".toList.isPrefixOf v && hasSuffix "}}".toList v && countOcc "${{".toList v 0 = 1 then []
      else [⟨n.pos, "if-cond", "if-cond-always-true", [n.value]⟩]

def ruleIfCond (w : Workflow) : List Diag :=
  (jobsOf w).flatMap fun j => checkIfCond j.cond ++ (stepsOf j).flatMap fun st => checkIfCond st.cond

/-! ### rule_job_needs.go through AL.Needs -/

def toNP (p : Pos) : AL.Needs.P := ⟨p.line, p.col⟩
def ofNP (p : AL.Needs.P) : Pos := ⟨p.line, p.col⟩

def needsJobIn (j : Job) : AL.Needs.JobIn :=
  { idValue := j.id.value, idPos := toNP j.id.pos, jobPos := toNP j.pos,
    needs := (j.needs.getD []).map fun n => ⟨n.value, toNP n.pos⟩ }

def needsDiag : AL.Needs.Diag → Diag
  | .dupNeeds pos value => ⟨ofNP pos, "job-needs", "needs-duplicate", [value]⟩
  | .dupJob pos idValue prev => ⟨ofNP pos, "job-needs", "job-id-duplicate", [idValue, AL.PW.posString (ofNP prev)]⟩
  | .undefined pos id dep => ⟨ofNP pos, "job-needs", "needs-undefined", [id, dep]⟩
  | .cyclic d => ⟨ofNP d.pos, "job-needs", "needs-cyclic", [",".intercalate d.path]⟩

def ruleJobNeeds (lower : String → String) (w : Workflow) : List Diag :=
  let jobs := (jobsOf w).map needsJobIn
  (AL.Needs.check lower jobs (List.range jobs.length)).map needsDiag

/-! ### rule_matrix.go through AL.Matrix -/

def matrixCombos (c : Option MatrixCombinations) : Option AL.Matrix.Combos :=
  c.map fun cs =>
    if cs.expr.isSome then AL.Matrix.Combos.expr
    else .list ((cs.combinations.getD []).map fun x =>
      if x.expr.isSome then AL.Matrix.Combo.expr
      else .assigns ((x.assigns.getD []).map fun kv => ⟨kv.1, kv.2.key.pos, kv.2.value⟩))

def matrixOf (m : Matrix) : AL.Matrix.Mat :=
  { pos := m.pos,
    -- a row is left out of the exclude check iff `Expression != nil`; a scalar row that is not a placeholder (the parser
    -- reported it) has neither expression nor values: it takes part with no values
    rows := (m.rows.getD []).map fun kv => ⟨kv.1, if kv.2.expr.isSome then none else some (kv.2.values.getD [])⟩,
    incl := matrixCombos m.incl, excl := matrixCombos m.excl }

def matrixDiag : AL.Matrix.Diag → Diag
  | .dup pos _ prev => ⟨pos, "matrix", "matrix-duplicate", [AL.PW.posString prev]⟩
  | .noVariation pos => ⟨pos, "matrix", "matrix-no-variation", []⟩
  | .unknownKey pos key _ => ⟨pos, "matrix", "matrix-exclude-unknown-key", [key]⟩
  | .noMatch pos key => ⟨pos, "matrix", "matrix-exclude-no-match", [key]⟩

def matrixJob (j : Job) : List Diag :=
  match j.strategy with
  | none => []
  | some s =>
    match s.matrix with
    | none => []
    | some m => if m.expr.isSome then [] else (AL.Matrix.check (matrixOf m)).map matrixDiag

def ruleMatrix (w : Workflow) : List Diag := (jobsOf w).flatMap matrixJob

/-! ### rule_glob.go through AL.Glob -/

open AL.Glob in
def globCode : GMsg → String
  | .emptyPattern => "empty"
  | .scan .nul => "scan,nul"
  | .scan .utf8 => "scan,utf8"
  | .unexpected ch w y =>
    let whatS : What → String
      | .none => "-" | .qmark => "q" | .plus => "p" | .classContent => "cc" | .classEnd => "ce"
      | .range => "cr" | .classMatch => "cm" | .neg => "neg"
    let whyS : Why → String
      | .prec => "prec" | .empty => "empty" | .missing => "missing" | .noEnd => "noend"
      | .single => "single" | .newline => "nl" | .follow => "follow"
      | .badRange lo hi => s!"range:{lo}:{hi}"
    s!"unexp,{match ch with | some r => toString r | none => "EOF"},{whatS w},{whyS y}"
  | .invalidRef ch y =>
    let refWhyS : RefWhy → String
      | .chars => "chars" | .esc => "esc" | .endsWith => "end" | .startsWith => "start"
    s!"ref,{(ch.getD 65533)},{refWhyS y}"
  | .leadingSpace => "lead"
  | .trailingSpace => "trail"

def symsOf (s : String) : List AL.Sym := AL.decodeUtf8 (s.toUTF8.toList.map (·.toNat))

/-- `globErrors` -/
def globErrors (errs : List AL.Glob.GErr) (v : Str) : List Diag :=
  errs.map fun e =>
    let col := v.pos.col + (if v.quoted then 1 else 0) + (if e.col ≠ 0 then e.col - 1 else 0)
    ⟨⟨v.pos.line, col⟩, "glob", "glob", [globCode e.msg]⟩

def checkGlobs (isRef : Bool) (f : Option Filter) : List Diag :=
  match f with
  | none => []
  | some f => (f.values.getD []).flatMap fun v =>
    if v.value = "" then []
    else globErrors (if isRef then AL.Glob.validateRef (symsOf v.value) else AL.Glob.validatePath (symsOf v.value)) v

def ruleGlob (w : Workflow) : List Diag :=
  (w.on.getD []).flatMap fun e =>
    match e with
    | .webhook h =>
      checkGlobs true h.branches ++ checkGlobs true h.branchesIgnore ++ checkGlobs true h.tags ++ checkGlobs true h.tagsIgnore ++
      checkGlobs false h.paths ++ checkGlobs false h.pathsIgnore
    | _ => []

/-! ### rule_shell_name.go -/

inductive Platform where | any | macOrLinux | windows
deriving Repr, DecidableEq

def availableShells : Platform → List String
  | .any => ["bash", "pwsh", "python", "sh", "cmd", "powershell"]
  | .windows => ["bash", "pwsh", "python", "cmd", "powershell"]
  | .macOrLinux => ["bash", "pwsh", "python", "sh"]

def labelPlatform (lower : String → String) (label : String) : Platform :=
  let l := lower label
  if l.startsWith "windows-" || l = "windows" then .windows
  else if l.startsWith "macos-" || l.startsWith "ubuntu-" || l = "macos" || l = "linux" then .macOrLinux
  else .any

/-- `getPlatformFromRunner`: the loop over the labels; `none` = two different platforms were seen -/
def platformLoop (lower : String → String) : List Str → Platform → Platform
  | [], ret => ret
  | l :: rest, ret =>
    let k := labelPlatform lower l.value
    if k = .any then platformLoop lower rest ret
    else if ret ≠ .any && ret ≠ k then .any
    else platformLoop lower rest k

def platformOf (lower : String → String) (r : Runner) : Platform := platformLoop lower (r.labels.getD []) .any

def containsSub (pat s : String) : Bool := (AL.Matrix.indexOf pat.toList s.toList 0).isSome

/-- `checkShellName` -/
def checkShellName (lower : String → String) (pf : Platform) (node : Option Str) : List Diag :=
  match node with
  | none => []
  | some n =>
    if containsSub "{0}" n.value then []
    else if containsExpr n then []
    else
      let name := lower n.value
      if (availableShells pf).contains name then []
      else
        let on := match pf with
          | .windows => if (availableShells .any).contains name then " on Windows" else ""
          | .macOrLinux => if (availableShells .any).contains name then " on macOS or Linux" else ""
          | .any => ""
        [⟨n.pos, "shell-name", "shell-name", [n.value, on]⟩]

def defaultsShell (d : Option Defaults) : Option Str :=
  match d with
  | some d => (match d.run with | some r => r.shell | none => none)
  | none => none

/-- `VisitJobPre`, the steps, `VisitJobPost` (which clears the platform: every job starts from `any`) -/
def shellNameJob (lower : String → String) (j : Job) : List Diag :=
  let pf := match j.runsOn with | some r => platformOf lower r | none => Platform.any
  (match j.runsOn with
   | some _ => checkShellName lower pf (defaultsShell j.defaults)
   | none => []) ++
  (stepsOf j).flatMap fun st => match st.exec with
    | .run e => checkShellName lower pf e.shell
    | _ => []

def ruleShellName (lower : String → String) (w : Workflow) : List Diag :=
  checkShellName lower .any (defaultsShell w.defaults) ++ (jobsOf w).flatMap (shellNameJob lower)

/-! ### rule_runner_label.go (the labels of the configuration file come in through `LabelCfg`; empty without configuration) -/

/-- `strings.EqualFold(l, p)` for an ASCII lower-case pattern `p`: only ASCII letters, U+017F (ſ) and U+212A (K) fold to ASCII letters -/
def foldAscii (s : String) : String :=
  String.ofList (s.toList.map fun c =>
    if c.toNat = 0x17F then 's' else if c.toNat = 0x212A then 'k'
    else if 'A' ≤ c ∧ c ≤ 'Z' then Char.ofNat (c.toNat + 32) else c)

/-- what the rules are told about the world outside the file: the labels of the configuration file
(`self-hosted-runner.labels`, glob patterns) and Go's `path.Match` on them (`pmatch pattern label` = `none` when the pattern is
malformed), and the zone names `time.LoadLocation` knows besides "", "UTC" and "Local" (the CRON check of rule_events.go;
the default knows none: `TZ=Asia/Tokyo …` is then a bad location) -/
structure LabelCfg where
  known : List String := []
  pmatch : String → String → Option Bool := fun _ _ => some false
  zoneKnown : List Char → Bool := fun _ => false

/-- the loop over the configured label patterns in `verifyRunnerLabel`: `none` = no pattern matches, `some []` = one does,
`some [d]` = a malformed pattern was met first -/
def knownLoop (lc : LabelCfg) (label : Str) : List String → Option (List Diag)
  | [] => none
  | k :: rest =>
    match lc.pmatch k label.value with
    | none => some [⟨label.pos, "runner-label", "label-pattern-invalid", [k]⟩]
    | some true => some []
    | some false => knownLoop lc label rest

/-- `verifyRunnerLabel`: the compatibility set (0 = `compatInvalid`) and the diagnostic for an unknown label -/
def verifyRunnerLabel (lower : String → String) (label : Str) (lc : LabelCfg := {}) : Nat × List Diag :=
  match AL.Gen.runnerCompats.find? (·.1 = lower label.value) with
  | some (_, c) => (c, [])
  | none =>
    if AL.Gen.runnerOtherLabels.any (fun p => foldAscii label.value = p) then (0, [])
    else match knownLoop lc label lc.known with
      | some ds => (0, ds)
      | none => (0, [⟨label.pos, "runner-label", "label-unknown", [label.value]⟩])

/-- `tryToGetLabelsInMatrix`: `${{ matrix.<prop> }}` resolved against the rows and the include entries of a literal matrix -/
def labelsInMatrix (lower : String → String) (label : Str) (m : Option Matrix) : List Str :=
  match m with
  | none => []
  | some m =>
    if !AL.Yaml.isExprAssigned label.value then []
    else
      let l := String.ofList (AL.Yaml.trimSpace label.value.toList)
      let bytes := (l.toUTF8.toList.map (·.toNat)).drop 3
      match AL.Parse.parseToks (AL.Lex.tokens (AL.decodeUtf8 bytes)) with
      | .error _ => []
      | .ok pe =>
        match AL.toE lower pe with
        | .objDeref (.var "matrix") prop =>
          let fromRows := match m.rows with
            | some rows =>
              (match rows.find? (·.1 = prop) with
               | some (_, row) => (row.values.getD []).filterMap fun v => match v with
                 | .str s p => if AL.Matrix.containsExpr s then none else some (⟨s, false, p⟩ : Str)
                 | _ => none
               | none => [])
            | none => []
          let fromInc := match m.incl with
            | some inc => (inc.combinations.getD []).filterMap fun c =>
              match c.assigns with
              | some as =>
                (match as.find? (·.1 = prop) with
                 | some (_, a) => (match a.value with
                   | .str s p => if AL.Matrix.containsExpr s then none else some (⟨s, false, p⟩ : Str)
                   | _ => none)
                 | none => none)
              | none => none
            | none => []
          fromRows ++ fromInc
        | _ => []

abbrev Compats := List (Nat × Str)

/-- `checkConflict`: the earliest (by position) registered label whose set is disjoint from `comp` -/
def conflictWith (compats : Compats) (comp : Nat) : Option Str :=
  compats.foldl (fun found cl =>
    if Nat.land cl.1 comp = 0 then
      match found with
      | none => some cl.2
      | some f => if isBefore cl.2.pos f.pos then some cl.2 else found
    else found) none

def conflictDiag (label found : Str) : Diag :=
  ⟨label.pos, "runner-label", "label-conflict", [label.value, found.value, AL.PW.posString found.pos]⟩

def registerCompat (compats : Compats) (comp : Nat) (label : Str) : Compats :=
  if compats.any (·.1 = comp) then compats else compats ++ [(comp, label)]

/-- `checkCompat` -/
def checkCompat (compats : Compats) (comp : Nat) (label : Str) : Compats × List Diag :=
  if comp = 0 then (compats, [])
  else match conflictWith compats comp with
    | some f => (compats, [conflictDiag label f])
    | none => (registerCompat compats comp label, [])

/-- `checkCombiCompat`: all labels a matrix expression may yield are checked against what was registered before them;
the survivors are registered afterwards -/
def checkCombiCompat (compats : Compats) (cls : List (Nat × Str)) : Compats × List Diag :=
  let checked := cls.map fun cl =>
    if cl.1 ≠ 0 then
      match conflictWith compats cl.1 with
      | some f => ((0, cl.2), [conflictDiag cl.2 f])
      | none => (cl, [])
    else (cl, [])
  let compats' := checked.foldl (fun cs x => if x.1.1 ≠ 0 then registerCompat cs x.1.1 x.1.2 else cs) compats
  (compats', checked.flatMap (·.2))

/-- `checkLabelAndConflict` -/
def checkLabelAndConflict (lc : LabelCfg) (lower : String → String) (m : Option Matrix) (acc : Compats × List Diag) (l : Str) : Compats × List Diag :=
  if containsExpr l then
    let ss := labelsInMatrix lower l m
    let vs := ss.map fun s => (verifyRunnerLabel lower s lc, s)
    let r := checkCombiCompat acc.1 (vs.map fun x => (x.1.1, x.2))
    (r.1, acc.2 ++ vs.flatMap (·.1.2) ++ r.2)
  else
    let v := verifyRunnerLabel lower l lc
    let r := checkCompat acc.1 v.1 l
    (r.1, acc.2 ++ v.2 ++ r.2)

/-- `VisitJobPre` -/
def runnerLabelJob (lower : String → String) (j : Job) (lc : LabelCfg := {}) : List Diag :=
  match j.runsOn with
  | none => []
  | some r =>
    let m := match j.strategy with | some s => s.matrix | none => none
    match r.labels.getD [] with
    | [l] =>
      if containsExpr l then (labelsInMatrix lower l m).flatMap fun s => (verifyRunnerLabel lower s lc).2
      else (verifyRunnerLabel lower l lc).2
    | ls =>
      match r.labelsExpr with
      | some e => (checkLabelAndConflict lc lower m ([], []) e).2
      | none => (ls.foldl (checkLabelAndConflict lc lower m) ([], [])).2

def ruleRunnerLabel (lower : String → String) (w : Workflow) (lc : LabelCfg := {}) : List Diag :=
  (jobsOf w).flatMap (fun j => runnerLabelJob lower j lc)

/-! ### rule_deprecated_commands.go -/

def isReSpace (c : Char) : Bool := c = '\t' || c = '\n' || c = '\x0c' || c = '\r' || c = ' '
def isAsciiLetter (c : Char) : Bool := ('a' ≤ c && c ≤ 'z') || ('A' ≤ c && c ≤ 'Z')

/-- `::(save-state|set-output|set-env)\s+name=[a-zA-Z][a-zA-Z_-]*::\S+` or `::(add-path)::\S+` at the head of `cs`:
the command and what is left after the match -/
def matchDeprecated (cs : List Char) : Option (String × List Char) :=
  if !"::".toList.isPrefixOf cs then none
  else
    let r := cs.drop 2
    let named (cmd : String) : Option (String × List Char) :=
      if !cmd.toList.isPrefixOf r then none
      else
        let r1 := r.drop cmd.length
        let r2 := r1.dropWhile isReSpace
        if r2.length = r1.length then none
        else if !"name=".toList.isPrefixOf r2 then none
        else
          match r2.drop 5 with
          | c :: r3 =>
            if !isAsciiLetter c then none
            else
              let r4 := r3.dropWhile fun c => isAsciiLetter c || c = '_' || c = '-'
              if !"::".toList.isPrefixOf r4 then none
              else
                let r5 := r4.drop 2
                let r6 := r5.dropWhile fun c => !isReSpace c
                if r6.length = r5.length then none else some (cmd, r6)
          | [] => none
    match named "save-state" with
    | some x => some x
    | none =>
      match named "set-output" with
      | some x => some x
      | none =>
        match named "set-env" with
        | some x => some x
        | none =>
          if !"add-path::".toList.isPrefixOf r then none
          else
            let r5 := r.drop 10
            let r6 := r5.dropWhile fun c => !isReSpace c
            if r6.length = r5.length then none else some ("add-path", r6)

/-- `FindAllStringSubmatch(s, -1)`: leftmost, non-overlapping -/
def findDeprecated : Nat → List Char → List String
  | 0, _ => []
  | _, [] => []
  | fuel + 1, c :: cs =>
    match matchDeprecated (c :: cs) with
    | some (cmd, rest) => cmd :: findDeprecated fuel rest
    | none => findDeprecated fuel cs

def ruleDeprecatedCommands (w : Workflow) : List Diag :=
  (jobsOf w).flatMap fun j => (stepsOf j).flatMap fun st =>
    match st.exec with
    | .run e =>
      (match e.run with
       | some r => (findDeprecated (r.value.length + 1) r.value.toList).map fun cmd => ⟨r.pos, "deprecated-commands", "deprecated-command", [cmd]⟩
       | none => [])
    | _ => []

/-! ### rule_events.go (the CRON check is `robfig/cron`: AL.Cron) -/

/-- `%g` of `next.Sub(start).Seconds()` for the values the interval of `checkCron` can take when it is below five minutes: a
whole number of seconds that is not negative (the activations of a parsed schedule are at second 0 of a minute: `60`, `120`,
`180`, `240`, and `0` for a schedule that never fires: both `Next` calls come back with the zero time) is printed in decimal
digits; the saturated negative duration (`Next(start)` finds nothing although `start` is a time after the epoch: the two calls
cannot disagree like this on a schedule the parser builds, the tie `CR` reports it as `cron/one-next-zero` if they ever do) is
`-9.223372036854776e+09`; any other number is outside what the model renders and is marked as such (`ns=…`, not Go's text). -/
def gapText (ns : Int) : String :=
  if 0 ≤ ns ∧ ns % 1000000000 = 0 ∧ ns / 1000000000 < 1000000 then toString (ns / 1000000000).toNat
  else if ns = AL.Cron.minDuration then "-9.223372036854776e+09"
  else "ns=" ++ toString ns

/-- the three `rule.Errorf` of `checkCron`, at `spec.Pos`; the text of the parser's error is not part of the diagnostic -/
def cronDiag (pos : Pos) : AL.Cron.Diag' → Diag
  | .noScheduleAfterZone spec => ⟨pos, "events", "cron-no-schedule", [String.ofList spec]⟩
  | .invalidFormat spec _ => ⟨pos, "events", "cron-invalid", [String.ofList spec]⟩
  | .tooFrequent ns => ⟨pos, "events", "cron-too-frequent", [gapText ns]⟩

/-- `checkCron` on one entry of `schedule`. A schedule in a zone other than UTC (`outOfScope`) parses, and that is all the
model says about it: whether it is too frequent is not modelled (`cronUnmodelled` lists these entries) -/
def cronEntry (zk : List Char → Bool) (s : Str) : List Diag :=
  match AL.Cron.checkCron zk s.value with
  | .diags l => l.map (cronDiag s.pos)
  | .outOfScope _ => []

/-- is the interval of this entry outside the model (a zone other than UTC)? -/
def cronEntryUnmodelled (zk : List Char → Bool) (s : Str) : Bool :=
  match AL.Cron.checkCron zk s.value with
  | .diags _ => false
  | .outOfScope _ => true

/-- the `for _, c := range e.Cron` of `checkEvent` -/
def checkScheduleEvent (zk : List Char → Bool) (cron : List Str) : List Diag := cron.flatMap (cronEntry zk)

def filterEmpty (f : Option Filter) : Bool :=
  match f with
  | none => true
  | some f => (f.values.getD []).isEmpty

/-- `checkExclusiveFilters` -/
def exclusiveFilters (filter ignore : Option Filter) (hook : String) (available : List String) : List Diag :=
  if available.contains hook then
    match filter, ignore with
    | some f, some i =>
      if !filterEmpty (some f) && !filterEmpty (some i) then
        let p := if isBefore f.name.pos i.name.pos then i.name.pos else f.name.pos
        [⟨p, "events", "filters-exclusive", [f.name.value, i.name.value, hook]⟩]
      else []
    | _, _ => []
  else
    (match filter with
     | some f => if !filterEmpty (some f) then [⟨f.name.pos, "events", "filter-not-available", [f.name.value, hook]⟩] else []
     | none => []) ++
    (match ignore with
     | some i => if !filterEmpty (some i) then [⟨i.name.pos, "events", "filter-not-available", [i.name.value, hook]⟩] else []
     | none => [])

/-- `checkWebhookEvent` -/
def checkWebhookEvent (e : WebhookEvent) : List Diag :=
  let hook := e.hook.value
  match AL.Gen.webhookTypes.find? (·.1 = hook) with
  | none => [⟨e.pos, "events", "unknown-webhook", [hook]⟩]
  | some (_, expected) =>
    let types := e.types.getD []
    let dTypes :=
      if expected.isEmpty && !types.isEmpty then [⟨e.hook.pos, "events", "types-not-allowed", [hook]⟩]
      else types.flatMap fun ty => if expected.contains ty.value then [] else [⟨ty.pos, "events", "invalid-activity-type", [ty.value, hook]⟩]
    let wfs := e.workflows.getD []
    let dWf :=
      if hook = "workflow_run" then (if wfs.isEmpty then [⟨e.pos, "events", "workflow-run-no-workflows", []⟩] else [])
      else (if !wfs.isEmpty then [⟨e.pos, "events", "workflows-not-allowed", [hook]⟩] else [])
    dTypes ++ dWf ++
    exclusiveFilters e.paths e.pathsIgnore hook ["push", "pull_request", "pull_request_target"] ++
    exclusiveFilters e.branches e.branchesIgnore hook ["merge_group", "push", "pull_request", "pull_request_target", "workflow_run"] ++
    exclusiveFilters e.tags e.tagsIgnore hook ["push"]

/-- `checkWorkflowCallEvent` -/
def checkCallEvent (lower : String → String) (isNum : String → Bool) (inputs : List CallInput) : List Diag :=
  inputs.flatMap fun i =>
    match i.dflt with
    | none => []
    | some d =>
      (if !containsExpr d then
        (match i.type with
         | .number => if isNum d.value then [] else [⟨d.pos, "events", "call-default-not-number", [i.name.value, d.value]⟩]
         | .boolean => if lower d.value = "true" || lower d.value = "false" then [] else [⟨d.pos, "events", "call-default-not-bool", [i.name.value, d.value]⟩]
         | _ => [])
       else []) ++
      (if (match i.required with | some r => r.value | none => false) then [⟨d.pos, "events", "call-default-and-required", [i.name.value, d.value]⟩] else [])

def dupOptions : List Str → List String → List Diag × List String
  | [], seen => ([], seen)
  | o :: rest, seen =>
    if seen.contains o.value then
      let r := dupOptions rest seen
      ((⟨o.pos, "events", "option-duplicated", [o.value]⟩ : Diag) :: r.1, r.2)
    else dupOptions rest (seen ++ [o.value])

/-- `checkWorkflowDispatchEvent` -/
def checkDispatchEvent (lower : String → String) (isNum : String → Bool) (inputs : List (String × DispatchInput)) (pos : Pos) : List Diag :=
  (inputs.flatMap fun kv =>
    let n := kv.1
    let i := kv.2
    let opts := i.options.getD []
    if i.type = .choice then
      if opts.isEmpty then [⟨i.name.pos, "events", "choice-without-options", [n]⟩]
      else
        let r := dupOptions opts []
        r.1.map (fun d => { d with args := d.args ++ [n] }) ++
        (match i.dflt with
         | some d => if r.2.contains d.value then [] else [⟨d.pos, "events", "default-not-in-options", [d.value, n]⟩]
         | none => [])
    else
      (if !opts.isEmpty then [⟨i.name.pos, "events", "options-without-choice", [n]⟩] else []) ++
      (match i.dflt with
       | some d =>
         (match i.type with
          | .number => if isNum d.value then [] else [⟨d.pos, "events", "dispatch-default-not-number", [i.name.value, d.value]⟩]
          | .boolean => if lower d.value = "true" || lower d.value = "false" then [] else [⟨d.pos, "events", "dispatch-default-not-bool", [n, d.value]⟩]
          | _ => [])
       | none => [])) ++
  (if inputs.length > 10 then [⟨pos, "events", "too-many-inputs", [toString inputs.length]⟩] else [])

/-- `VisitWorkflowPre`: `checkEvent` on every event in the order of `on:` -/
def ruleEvents (lower : String → String) (isNum : String → Bool) (w : Workflow) (lc : LabelCfg := {}) : List Diag :=
  (w.on.getD []).flatMap fun e =>
    match e with
    | .webhook h => checkWebhookEvent h
    | .schedule cron _ => checkScheduleEvent lc.zoneKnown cron
    | .dispatch inputs pos => checkDispatchEvent lower isNum (inputs.getD []) pos
    | .call inputs _ _ _ => checkCallEvent lower isNum (inputs.getD [])
    | _ => []

/-- the positions of the `schedule` entries whose interval the model does not judge (zone other than UTC), in source order:
at these positions a `cron-too-frequent` diagnostic of the implementation has no counterpart in `ruleEvents` -/
def cronUnmodelled (w : Workflow) (lc : LabelCfg := {}) : List Pos :=
  (w.on.getD []).flatMap fun e =>
    match e with
    | .schedule cron _ => (cron.filter (cronEntryUnmodelled lc.zoneKnown)).map (·.pos)
    | _ => []

/-! ### rule_action.go (for a file linted without a project: local actions are not looked up) -/

def indexOfChar (c : Char) : List Char → Nat → Option Nat
  | [], _ => none
  | x :: xs, i => if x = c then some i else indexOfChar c xs (i + 1)

def popularEntry (spec : String) : Option (List (String × String × Bool) × Bool) :=
  match AL.Gen.popularChunks.findSome? (fun ch => ch.find? (·.1 = spec)) with
  | some (_, ins, _, skipInputs, _) => some (ins, skipInputs)
  | none => none

/-- `checkAction` for a bundled action: inputs that are not declared (at the input's name), then the required inputs that
are not supplied, in the order of the sorted ids (all at `uses:`) -/
def checkActionInputs (spec : String) (declared : List (String × String × Bool)) (e : ExecAction) (usesPos : Pos) : List Diag :=
  let given := e.inputs.getD []
  (given.flatMap fun kv =>
    if declared.any (·.1 = kv.1) then [] else [⟨kv.2.name.pos, "action", "input-undefined", [kv.2.name.value, spec]⟩]) ++
  ((declared.foldr (fun d acc => AL.PW.insertSorted d.1 acc) []).flatMap fun id =>
    match declared.find? (·.1 = id) with
    | some (_, name, true) => if given.any (·.1 = id) then [] else [⟨usesPos, "action", "input-missing", [name, spec]⟩]
    | _ => [])

/-- `checkRepoAction` -/
def checkRepoAction (spec : String) (e : ExecAction) (usesPos : Pos) : List Diag :=
  let s := spec.toList
  match indexOfChar '@' s 0 with
  | none => [⟨usesPos, "action", "action-format", [spec, "ref is missing"]⟩]
  | some at_ =>
    let ref := s.drop (at_ + 1)
    let s1 := s.take at_
    match indexOfChar '/' s1 0 with
    | none => [⟨usesPos, "action", "action-format", [spec, "owner is missing"]⟩]
    | some sl =>
      let owner := s1.take sl
      let s2 := s1.drop (sl + 1)
      let repo := match indexOfChar '/' s2 0 with | some i => s2.take i | none => s2
      let dFmt := if owner.isEmpty || repo.isEmpty || ref.isEmpty then
        [(⟨usesPos, "action", "action-format", [spec, "owner and repo and ref should not be empty"]⟩ : Diag)] else []
      dFmt ++
      (match popularEntry spec with
       | none => if AL.Gen.outdatedSpecs.contains spec then [⟨usesPos, "action", "action-outdated", [spec]⟩] else []
       | some (ins, skip) => if skip then [] else checkActionInputs spec ins e usesPos)

/-- `checkDockerAction`; `urlOk` is `url.Parse` succeeding -/
def checkDockerAction (urlOk : String → Bool) (uri : String) (usesPos : Pos) : List Diag :=
  let rest := uri.toList.drop 9
  let (uri', tag, tagExists) : String × String × Bool :=
    match indexOfChar ':' rest 0 with
    | some i => (String.ofList (uri.toList.take (9 + i)), String.ofList (uri.toList.drop (9 + i + 1)), true)
    | none => (uri, "", false)
  (if urlOk uri' then [] else [⟨usesPos, "action", "docker-uri-invalid", [uri', tag]⟩]) ++
  (if tagExists && tag = "" then [⟨usesPos, "action", "docker-tag-empty", [uri']⟩] else [])

def actionStep (urlOk : String → Bool) (st : Step) : List Diag :=
  match st.exec with
  | .action e =>
    (match e.uses with
     | none => []
     | some u =>
       if containsExpr u then []
       else if u.value.startsWith "./" then []
       else if u.value.startsWith "docker://" then checkDockerAction urlOk u.value u.pos
       else checkRepoAction u.value e u.pos)
  | _ => []

def ruleAction (urlOk : String → Bool) (w : Workflow) : List Diag :=
  (jobsOf w).flatMap fun j => (stepsOf j).flatMap (actionStep urlOk)

/-! ### rule_workflow_call.go (without a project: the format of `uses:` only) -/

/-- `isWorkflowCallUsesLocalFormat` -/
def isLocalCallFormat (u : String) : Bool :=
  if !u.startsWith "./" then false
  else
    let r := u.toList.drop 2
    match indexOfChar '@' r 0 with
    | some i => if i > 0 then false else !r.isEmpty
    | none => !r.isEmpty

/-- `isWorkflowCallUsesRepoFormat` -/
def isRepoCallFormat (u : String) : Bool :=
  if u.startsWith "." then false
  else
    let s := u.toList
    match indexOfChar '/' s 0 with
    | none => false
    | some i =>
      if i = 0 then false
      else
        let s1 := s.drop (i + 1)
        match indexOfChar '/' s1 0 with
        | none => false
        | some j =>
          if j = 0 then false
          else
            let s2 := s1.drop (j + 1)
            match indexOfChar '@' s2 0 with
            | none => false
            | some k => if k = 0 then false else !(s2.drop (k + 1)).isEmpty

def workflowCallJob (j : Job) : List Diag :=
  match j.workflowCall with
  | none => []
  | some c =>
    match c.uses with
    | none => []
    | some u =>
      if u.value = "" || containsExpr u then []
      else if isLocalCallFormat u.value then []
      else if isRepoCallFormat u.value then []
      else [⟨u.pos, "workflow-call", "call-format", [u.value]⟩]

def ruleWorkflowCall (w : Workflow) : List Diag := (jobsOf w).flatMap workflowCallJob

/-! ### the tail of `Linter.check` -/

def less (a b : Diag) : Bool := if a.pos.line = b.pos.line then a.pos.col < b.pos.col else a.pos.line < b.pos.line

def insertStable (x : Diag) : List Diag → List Diag
  | [] => [x]
  | y :: ys => if less x y then x :: y :: ys else y :: insertStable x ys

/-- `sort.Stable(ByErrorPosition(all))` within one file -/
def stableSort (l : List Diag) : List Diag := l.foldl (fun acc x => insertStable x acc) []

def ofPErr (e : AL.PW.PErr) : Diag := ⟨e.pos, "syntax-check", e.code, e.args⟩

/-- all diagnostics of the modelled rules, in the order of linter.go's rule list -/
def rules (lower : String → String) (isNum urlOk : String → Bool) (w : Workflow) (lc : LabelCfg := {}) : List Diag :=
  ruleMatrix w ++ ruleCredentials w ++ ruleShellName lower w ++ ruleRunnerLabel lower w lc ++ ruleEvents lower isNum w lc ++ ruleJobNeeds lower w ++
  ruleAction urlOk w ++ ruleEnvVar w ++ ruleId lower w ++ ruleGlob w ++ rulePermissions w ++ ruleWorkflowCall w ++ ruleDeprecatedCommands w ++ ruleIfCond w

/-- `Linter.check` restricted to the parser and the modelled rules -/
def lint (cfg : AL.PW.Cfg) (isNum urlOk : String → Bool) (doc : Node) (lc : LabelCfg := {}) : List Diag :=
  let r := AL.PW.parse cfg doc
  stableSort (r.2.map ofPErr ++ rules cfg.lower isNum urlOk r.1 lc)

end AL.Rules
