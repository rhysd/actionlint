import AL.Model.Hex
/-
  Model of the subset of Go's `text/scanner` used by glob.go and expr_lexer.go:
  `Init`, `Peek`, `Next`, `Pos` and the `Error` callback (raised on NUL and on invalid UTF-8 while the
  look-ahead character is read). Positions: `line`, `column` count runes *read* (look-ahead included),
  `offset` counts bytes.

  The look-ahead is loaded eagerly by `init` (Go loads it lazily at the first `Peek`/`Next`; both
  users call `Peek`/`Next` before anything else that could observe the difference, except `Pos()`
  on a never-read scanner, which yields 1:1 in both).
-/
namespace AL

inductive ScanErrKind where | nul | utf8
deriving Repr, DecidableEq, Inhabited

structure Pos where
  line : Nat
  col  : Nat
  off  : Nat
deriving Repr, DecidableEq, Inhabited

structure ScanErr where
  kind : ScanErrKind
  pos  : Pos
deriving Repr, DecidableEq, Inhabited

structure Scanner where
  rest        : List Sym          -- not yet read
  ch          : Option Sym := none  -- look-ahead; `none` = EOF
  srcPos      : Nat := 0          -- bytes read (look-ahead included)
  line        : Nat := 1
  column      : Nat := 0
  lastLineLen : Nat := 0
  lastCharLen : Nat := 0
deriving Repr, Inhabited

def Scanner.pos (s : Scanner) : Pos :=
  let off := s.srcPos - s.lastCharLen
  if s.column > 0 then ⟨s.line, s.column, off⟩
  else if s.lastLineLen > 0 then ⟨s.line - 1, s.lastLineLen, off⟩
  else ⟨1, 1, off⟩

/-- Bookkeeping of `Scanner.next()` (the unexported reader) after character `c` was read. -/
def Scanner.advance (s : Scanner) (c : Sym) (rest : List Sym) : Scanner × List ScanErr :=
  let s1 := { s with rest := rest, ch := some c, srcPos := s.srcPos + c.w, lastCharLen := c.w, column := s.column + 1 }
  if c.bad then (s1, [⟨.utf8, s1.pos⟩])
  else if c.r = 0 then (s1, [⟨.nul, s1.pos⟩])
  else if c.r = 10 then ({ s1 with line := s1.line + 1, lastLineLen := s1.column, column := 0 }, [])
  else (s1, [])

/-- `Scanner.next()`: read one character into the look-ahead; errors are those passed to the `Error`
callback, positioned by `Pos()` at the moment of the call. -/
def Scanner.read (s : Scanner) : Scanner × List ScanErr :=
  match s.rest with
  | [] => ({ s with ch := none, column := if s.lastCharLen > 0 then s.column + 1 else s.column, lastCharLen := 0 }, [])
  | c :: rest => s.advance c rest

/-- Whatever the character, `advance` installs it as look-ahead in front of `rest` and counts its bytes; only
the line bookkeeping and the errors depend on which character it is. -/
theorem Scanner.advance_fields (s : Scanner) (c : Sym) (rest : List Sym) :
    (s.advance c rest).1.rest = rest ∧ (s.advance c rest).1.ch = some c ∧
    (s.advance c rest).1.srcPos = s.srcPos + c.w ∧ (s.advance c rest).1.lastCharLen = c.w := by
  unfold Scanner.advance
  (repeat' split) <;> exact ⟨rfl, rfl, rfl, rfl⟩

theorem Scanner.advance_of_ne_lf (s : Scanner) {c : Sym} (rest : List Sym) (h : c.r ≠ 10) :
    (s.advance c rest).1 =
      { s with rest := rest, ch := some c, srcPos := s.srcPos + c.w, lastCharLen := c.w, column := s.column + 1 } := by
  unfold Scanner.advance
  (repeat' split) <;> first | rfl | contradiction

@[simp] theorem Scanner.advance_rest (s : Scanner) (c : Sym) (rest : List Sym) : (s.advance c rest).1.rest = rest :=
  (s.advance_fields c rest).1

@[simp] theorem Scanner.advance_ch (s : Scanner) (c : Sym) (rest : List Sym) : (s.advance c rest).1.ch = some c :=
  (s.advance_fields c rest).2.1

theorem Scanner.read_rest (s : Scanner) : (s.read).1.rest = s.rest.tail := by
  unfold Scanner.read; cases s.rest <;> simp

theorem Scanner.read_ch (s : Scanner) : (s.read).1.ch = s.rest.head? := by
  unfold Scanner.read; cases s.rest <;> simp

/-- `Init` followed by loading the look-ahead, skipping a BOM at the very beginning. -/
def Scanner.init (src : List Sym) : Scanner × List ScanErr :=
  let s0 : Scanner := { rest := src }
  let (s1, e1) := s0.read
  match s1.ch with
  | some c => if c.r = 0xFEFF && !c.bad then let (s2, e2) := s1.read; (s2, e1 ++ e2) else (s1, e1)
  | none => (s1, e1)

/-- `Peek()`. -/
def Scanner.peek (s : Scanner) : Option Nat := s.ch.map (·.r)

/-- `Next()`: returns the look-ahead and reads one more character unless at EOF. -/
def Scanner.next (s : Scanner) : Option Sym × Scanner × List ScanErr :=
  match s.ch with
  | some c => let (s2, e2) := s.read; (some c, s2, e2)
  | none => (none, s, [])

/-- Number of characters the scanner can still deliver through `Next`. -/
def Scanner.remaining (s : Scanner) : Nat :=
  match s.ch with
  | some _ => s.rest.length + 1
  | none => 0

theorem Scanner.next_remaining_le (s : Scanner) : (s.next).2.1.remaining ≤ s.remaining := by
  unfold Scanner.next Scanner.remaining
  cases hc : s.ch with
  | none => simp [hc]
  | some c =>
    simp only [Scanner.read_ch, Scanner.read_rest]
    cases s.rest <;> simp

theorem Scanner.next_remaining_lt (s : Scanner) (h : s.ch ≠ none) : (s.next).2.1.remaining < s.remaining := by
  unfold Scanner.next Scanner.remaining
  cases hc : s.ch with
  | none => exact absurd hc h
  | some c =>
    simp only [Scanner.read_ch, Scanner.read_rest]
    cases s.rest <;> simp

end AL
