import AL.Model.Scan
/-
  Model of glob.go (`validateGlob`, `ValidateRefGlob`, `ValidatePathGlob`), statement by statement.
  Messages are data: `GMsg` enumerates the templates, characters are code points (`none` = EOF).
-/
namespace AL.Glob
open AL

inductive What where
  | none | qmark | plus | classContent | classEnd | range | classMatch | neg
deriving Repr, DecidableEq, Inhabited

inductive Why where
  | prec | empty | missing | noEnd | single | newline | follow
  | badRange (lo hi : Nat)
deriving Repr, DecidableEq, Inhabited

inductive RefWhy where
  | chars | esc | endsWith | startsWith
deriving Repr, DecidableEq, Inhabited

inductive GMsg where
  | emptyPattern
  | scan (k : ScanErrKind)
  | unexpected (ch : Option Nat) (what : What) (why : Why)   -- `none` = EOF
  | invalidRef (ch : Option Nat) (why : RefWhy)              -- `none` = rune -1 (Peek at EOF)
  | leadingSpace
  | trailingSpace
deriving Repr, DecidableEq, Inhabited

structure GErr where
  col : Nat
  msg : GMsg
deriving Repr, DecidableEq, Inhabited

structure GState where
  scan : Scanner
  prec : Bool := false
  errs : List GErr := []
deriving Repr, Inhabited

/-- Column reported by `globValidator.error` for the scanner's current position. -/
def errCol (s : Scanner) : Nat :=
  let p := s.pos
  if p.line > 1 then 0 else p.col - 1

def scanErrs (es : List ScanErr) : List GErr :=
  es.map fun e => ⟨if e.pos.line > 1 then 0 else e.pos.col - 1, .scan e.kind⟩

def GState.error (st : GState) (m : GMsg) : GState :=
  { st with errs := st.errs ++ [⟨errCol st.scan, m⟩] }

/-- `v.scan.Next()` on the validator state; scanner errors raised while reading are appended. -/
def GState.next (st : GState) : Option Sym × GState :=
  let (c, s, e) := st.scan.next
  (c, { st with scan := s, errs := st.errs ++ scanErrs e })

def GState.peek (st : GState) : Option Nat := st.scan.peek

def symRune : Option Sym → Option Nat
  | some c => some c.r
  | none => none

@[simp] theorem GState.next_scan (st : GState) : (st.next).2.scan = (st.scan.next).2.1 := rfl
@[simp] theorem GState.error_scan (st : GState) (m : GMsg) : (st.error m).scan = st.scan := rfl

theorem GState.next_le (st : GState) : (st.next).2.scan.remaining ≤ st.scan.remaining :=
  Scanner.next_remaining_le st.scan

theorem GState.next_lt (st : GState) (h : st.scan.ch ≠ none) : (st.next).2.scan.remaining < st.scan.remaining :=
  Scanner.next_remaining_lt st.scan h

/-- Result of the character-class loop (`Loop:` in glob.go). -/
inductive ClassEnd where
  | closed (last : Option Nat)   -- left by `break Loop`; `last` is the value of `c`
  | eof                          -- `return false` from `validateNext`
deriving Repr, DecidableEq

/-- The `Loop:` of `validateNext`, with `chars` as accumulator. -/
def classLoop (st : GState) (chars : Nat) : ClassEnd × Nat × GState :=
  match hch : st.scan.ch with
  | none =>
    -- c = Next() = EOF
    (.eof, chars, (st.next).2.error (.unexpected none .classEnd .missing))
  | some c0 =>
    let st1 := (st.next).2
    have hlt : st1.scan.remaining < st.scan.remaining := st.next_lt (by simp [hch])
    if c0.r = 93 then  -- ']'
      (.closed (some 93), chars, st1)
    else if st1.peek ≠ some 45 then  -- not '-'
      classLoop st1 (chars + 1)
    else
      -- range: eat '-'
      let st2 := (st1.next).2
      have hle2 : st2.scan.remaining ≤ st1.scan.remaining := st1.next_le
      match st2.peek with
      | some 93 =>
        let st3 := (st2.next).2
        (.closed (some 93), chars + 2, st3.error (.unexpected (some 93) .range .noEnd))
      | none => classLoop st2 (chars + 2)
      | some _ =>
        let r3 := st2.next
        let st3 := r3.2
        have hle3 : st3.scan.remaining ≤ st2.scan.remaining := st2.next_le
        let e := symRune r3.1
        if c0.r > e.getD 0 then
          classLoop (st3.error (.unexpected e .range (.badRange c0.r (e.getD 0)))) (chars + 2)
        else classLoop st3 (chars + 2)
termination_by st.scan.remaining
decreasing_by
  all_goals (first | exact hlt | omega | (simp +zetaDelta only [GState.error_scan] at *; omega))

abbrev SwitchRes := Except GState (Option Nat × Bool × GState)

def SwitchRes.state : SwitchRes → GState
  | .ok (_, _, s) => s
  | .error s => s

/-- The `switch c { … }` of `validateNext`: `.ok (c, prec, state)` when control reaches the code after
the switch, `.error state` for the `return false` inside the character-class loop. `prec0` is `v.prec`
on entry, `c` the character just returned by `Next`, `st0` the state after that `Next`. -/
def switchBody (isRef : Bool) (prec0 : Bool) (c : Option Nat) (st0 : GState) : SwitchRes :=
  match c with
  | some 92 => -- '\\'
    (match st0.peek with
    | some 91 | some 63 | some 42 => -- '[', '?', '*'
      let r1 := st0.next
      let st1 := r1.2
      let st2 := if isRef then st1.error (.invalidRef (symRune r1.1) .chars) else st1
      .ok (symRune r1.1, true, st2)
    | some 43 | some 92 | some 33 => -- '+', '\\', '!'
      let r1 := st0.next
      .ok (symRune r1.1, true, r1.2)
    | _ =>
      if isRef then
        let st1 := st0.error (.invalidRef (some 92) .esc)
        let r2 := st1.next
        .ok (symRune r2.1, true, r2.2)
      else .ok (c, true, st0))
  | some 63 => -- '?'
    let st1 := if !prec0 then st0.error (.unexpected (some 63) .qmark .prec) else st0
    .ok (c, false, st1)
  | some 43 => -- '+'
    let st1 := if !prec0 then st0.error (.unexpected (some 43) .plus .prec) else st0
    .ok (c, false, st1)
  | some 42 => .ok (c, false, st0) -- '*'
  | some 91 => -- '['
    if st0.peek = some 93 then
      let r1 := st0.next
      .ok (symRune r1.1, true, r1.2.error (.unexpected (some 93) .classContent .empty))
    else
      match classLoop st0 0 with
      | (.eof, _, st1) => .error st1
      | (.closed last, chars, st1) =>
        let st2 := if chars = 1 then st1.error (.unexpected last .classMatch .single) else st1
        .ok (last, true, st2)
  | some 13 => -- '\r'
    if st0.peek = some 10 then
      let r1 := st0.next
      .ok (symRune r1.1, true, r1.2.error (.unexpected (symRune r1.1) .none .newline))
    else .ok (c, true, st0.error (.unexpected c .none .newline))
  | some 10 => .ok (c, true, st0.error (.unexpected (some 10) .none .newline))
  | some 32 | some 9 | some 126 | some 94 | some 58 => -- ' ', '\t', '~', '^', ':'
    .ok (c, true, if isRef then st0.error (.invalidRef c .chars) else st0)
  | _ => .ok (c, true, st0)

/-- Code of `validateNext` after the switch. -/
def finishNext (isRef : Bool) : SwitchRes → Bool × GState
  | .error st1 => (false, st1)
  | .ok (c', prec, st1) =>
    let st2 := { st1 with prec := prec }
    if st2.peek = none then
      let st3 := if isRef && (c' = some 47 || c' = some 46) then st2.error (.invalidRef c' .endsWith) else st2
      (false, st3)
    else (true, st2)

/-- One `validateNext` call: whether the loop continues, and the new state. -/
def validateNext (isRef : Bool) (st : GState) : Bool × GState :=
  let r0 := st.next
  finishNext isRef (switchBody isRef st.prec (symRune r0.1) r0.2)

/-- The value of the variable `c` when the class loop is left. -/
def ClassEnd.last : ClassEnd → Option Nat
  | .closed last => last
  | .eof => none

/-- The value of the variable `c` after the switch. -/
def SwitchRes.cOf : SwitchRes → Option Nat
  | .ok (c, _, _) => c
  | .error _ => none

theorem GState.next_fst_ch (st : GState) : st.next.1 = st.scan.ch := by
  unfold GState.next Scanner.next
  cases st.scan.ch <;> rfl

theorem GState.peek_eq_next (st : GState) : st.peek = symRune st.next.1 := by
  rw [st.next_fst_ch]
  unfold GState.peek Scanner.peek
  cases st.scan.ch <;> rfl

theorem of_ite {α : Sort _} {P : α → Prop} {b : Prop} [Decidable b] {x y : α} (hx : P x) (hy : P y) :
    P (if b then x else y) := by
  split <;> assumption

/-! ### Invariants of the validator

Every statement of `validateNext` is a `Next`, a report or an assignment to `prec`, and every report
names the character `c` that the last `Next` returned. So a predicate `J c state` kept by these
operations is kept by the whole validator. -/
section Lift
variable (J : Option Nat → GState → Prop)
  (hn : ∀ c s, J c s → J (symRune s.next.1) s.next.2)
  (hu : ∀ c s w y, J c s → J c (s.error (.unexpected c w y)))
  (hr : ∀ c s y, J c s → J c (s.error (.invalidRef c y)))
include hn hu

theorem classLoop_lift (st : GState) (n : Nat) (c : Option Nat) (h : J c st) :
    J (classLoop st n).1.last (classLoop st n).2.2 := by
  have h1 := hn _ _ h
  fun_induction classLoop st n generalizing c with
  | case1 st n hch =>
    rw [st.next_fst_ch, hch] at h1
    exact hu _ _ _ _ h1
  | case2 st n c0 hch st1 hlt h93 =>
    rw [st.next_fst_ch, hch, symRune, h93] at h1
    exact h1
  | case3 st n c0 hch st1 hlt h93 hpk ih => exact ih _ h1 (hn _ _ h1)
  | case4 st n c0 hch st1 hlt h93 hpk st2 hle2 hp2 st3 =>
    have h3 := hn _ _ (hn _ _ h1)
    rw [← GState.peek_eq_next, hp2] at h3
    exact hu _ _ _ _ h3
  | case5 st n c0 hch st1 hlt h93 hpk st2 hle2 hp2 ih => exact ih _ (hn _ _ h1) (hn _ _ (hn _ _ h1))
  | case6 st n c0 hch st1 hlt h93 hpk st2 hle2 v hv hp2 r3 st3 hle3 e hgt ih =>
    have h3 := hu _ _ .range (.badRange c0.r (e.getD 0)) (hn _ _ (hn _ _ h1))
    exact ih _ h3 (hn _ _ h3)
  | case7 st n c0 hch st1 hlt h93 hpk st2 hle2 v hv hp2 r3 st3 hle3 e hgt ih =>
    exact ih _ (hn _ _ (hn _ _ h1)) (hn _ _ (hn _ _ (hn _ _ h1)))

include hr

theorem switchBody_lift (isRef prec0 : Bool) (c : Option Nat) (st0 : GState) (h : J c st0) :
    J (switchBody isRef prec0 c st0).cOf (switchBody isRef prec0 c st0).state := by
  have h1 := hn _ _ h
  have hc := classLoop_lift J hn hu st0 0 c h
  unfold switchBody
  split
  · -- `\`
    split
    iterate 3 exact of_ite (P := J _) (hr _ _ _ h1) h1
    iterate 3 exact h1
    split
    · exact hn _ _ (hr _ _ _ h)
    · exact h
  · exact of_ite (P := J _) (hu _ _ _ _ h) h
  · exact of_ite (P := J _) (hu _ _ _ _ h) h
  · exact h
  · -- `[`
    split
    · rename_i hpk
      rw [st0.peek_eq_next] at hpk
      rw [hpk] at h1
      simp only [SwitchRes.cOf, SwitchRes.state, hpk]
      exact hu _ _ _ _ h1
    · split
      all_goals rename_i heq; rw [heq] at hc
      · exact hc
      · exact of_ite (P := J _) (hu _ _ _ _ hc) hc
  · -- `\r`
    split
    · exact hu _ _ _ _ h1
    · exact hu _ _ _ _ h
  · exact hu _ _ _ _ h
  iterate 5 exact of_ite (P := J _) (hr _ _ _ h) h
  exact h

omit hn hu in
theorem finishNext_lift (hp : ∀ c s p, J c s → J c { s with prec := p }) (isRef : Bool) (r : SwitchRes)
    (h : J r.cOf r.state) : J r.cOf (finishNext isRef r).2 := by
  unfold finishNext
  split
  · exact h
  · simp only []
    split
    · exact of_ite (P := J _) (hr _ _ _ (hp _ _ _ h)) (hp _ _ _ h)
    · exact hp _ _ _ h

theorem validateNext_lift (hp : ∀ c s p, J c s → J c { s with prec := p }) (isRef : Bool) (st : GState)
    (c : Option Nat) (h : J c st) : ∃ c', J c' (validateNext isRef st).2 :=
  ⟨_, finishNext_lift J hr hp isRef _ (switchBody_lift J hn hu hr isRef _ _ _ (hn _ _ h))⟩

end Lift

/-! The common case: a predicate on states kept by `Next`, by any report and by assignments to `prec`. -/
section Inv
variable (I : GState → Prop) (hn : ∀ s, I s → I s.next.2) (he : ∀ s m, I s → I (s.error m))
include hn he

theorem classLoop_inv (st : GState) (n : Nat) (h : I st) : I (classLoop st n).2.2 :=
  classLoop_lift (fun _ => I) (fun _ => hn) (fun _ _ _ _ => he _ _) st n none h

theorem switchBody_inv (isRef prec0 : Bool) (c : Option Nat) (st0 : GState) (h : I st0) :
    I (switchBody isRef prec0 c st0).state :=
  switchBody_lift (fun _ => I) (fun _ => hn) (fun _ _ _ _ => he _ _) (fun _ _ _ => he _ _) isRef prec0 c st0 h

variable (hp : ∀ s p, I s → I { s with prec := p })
include hp

omit hn in
theorem finishNext_inv (isRef : Bool) (r : SwitchRes) (h : I r.state) : I (finishNext isRef r).2 :=
  finishNext_lift (fun _ => I) (fun _ _ _ => he _ _) (fun _ => hp) isRef r h

end Inv

theorem switchBody_le (isRef prec0 : Bool) (c : Option Nat) (st0 : GState) :
    (switchBody isRef prec0 c st0).state.scan.remaining ≤ st0.scan.remaining :=
  switchBody_inv (·.scan.remaining ≤ st0.scan.remaining) (fun s h => Nat.le_trans s.next_le h) (fun _ _ h => h)
    isRef prec0 c st0 (Nat.le_refl _)

theorem finishNext_scan (isRef : Bool) (r : SwitchRes) : (finishNext isRef r).2.scan = r.state.scan :=
  finishNext_inv (·.scan = r.state.scan) (fun _ _ h => h) (fun _ _ h => h) isRef r rfl

theorem validateNext_lt (isRef : Bool) (st : GState) (h : st.scan.ch ≠ none) :
    (validateNext isRef st).2.scan.remaining < st.scan.remaining := by
  unfold validateNext
  simp only [finishNext_scan]
  have := switchBody_le isRef st.prec (symRune st.next.1) st.next.2
  have := st.next_lt h
  omega

/-- `for v.validateNext() {}`. -/
def loop (isRef : Bool) (st : GState) : GState :=
  let r := validateNext isRef st
  if h : st.scan.ch = none then r.2
  else if r.1 then loop isRef r.2 else r.2
termination_by st.scan.remaining
decreasing_by exact validateNext_lt isRef st h

theorem loop_lift (J : Option Nat → GState → Prop)
    (hn : ∀ c s, J c s → J (symRune s.next.1) s.next.2)
    (hu : ∀ c s w y, J c s → J c (s.error (.unexpected c w y)))
    (hr : ∀ c s y, J c s → J c (s.error (.invalidRef c y)))
    (hp : ∀ c s p, J c s → J c { s with prec := p })
    (isRef : Bool) (st : GState) (c : Option Nat) (h : J c st) : ∃ c', J c' (loop isRef st) := by
  have hv := validateNext_lift J hn hu hr hp isRef
  fun_induction loop isRef st generalizing c with
  | case1 st r hch => exact hv st c h
  | case2 st r hch hr ih =>
    obtain ⟨c', h'⟩ := hv st c h
    exact ih c' h'
  | case3 st r hch hr => exact hv st c h

theorem loop_inv (I : GState → Prop) (hn : ∀ s, I s → I s.next.2) (he : ∀ s m, I s → I (s.error m))
    (hp : ∀ s p, I s → I { s with prec := p }) (isRef : Bool) (st : GState) (h : I st) : I (loop isRef st) :=
  let ⟨_, h'⟩ := loop_lift (fun _ => I) (fun _ => hn) (fun _ _ _ _ => he _ _) (fun _ _ _ => he _ _) (fun _ => hp)
    isRef st none h
  h'

/-- `globValidator.validate`. -/
def validate (isRef : Bool) (src : List Sym) : List GErr :=
  let (sc, e0) := Scanner.init src
  if src.isEmpty then [⟨0, .emptyPattern⟩]
  else
    let st : GState := { scan := sc, errs := scanErrs e0 }
    match st.peek with
    | some 47 => -- '/'
      if isRef then
        let st1 := (st.next).2
        let st2 := st1.error (.invalidRef (some 47) .startsWith)
        (loop isRef { st2 with prec := true }).errs
      else (loop isRef st).errs
    | some 33 => -- '!'
      let st1 := (st.next).2
      if st1.peek = none then
        (st1.error (.unexpected (some 33) .neg .follow)).errs
      else (loop isRef { st1 with prec := false }).errs
    | _ => (loop isRef st).errs

/-- `ValidateRefGlob`. -/
def validateRef (src : List Sym) : List GErr := validate true src

/-- `ValidatePathGlob`; `byteLen` is `len(pat)`. -/
def validatePath (src : List Sym) : List GErr :=
  let byteLen := (src.map (·.w)).sum
  if src.head?.map (·.r) = some 32 then [⟨0, .leadingSpace⟩]
  else if src.getLast?.map (·.r) = some 32 then [⟨byteLen, .trailingSpace⟩]
  else validate false src

end AL.Glob
