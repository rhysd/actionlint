/-
  Model of expr_type.go: the structural type system (`Assignable`, `Merge`, `String`, `EqualTypes`,
  `typeOfJSONValue`). Pointer types are values; `ObjectType.Props` is an association list with
  pairwise distinct (lower-case) keys; `Mapped = nil` (strict object) is `none`.
-/
namespace AL

inductive Ty where
  | any | null | number | bool | string
  | obj (props : List (String × Ty)) (mapped : Option Ty)
  | arr (elem : Ty) (deref : Bool)
deriving Repr, Inhabited

namespace Ty

def lookup (k : String) : List (String × Ty) → Option Ty
  | [] => none
  | (k', v) :: rest => if k' = k then some v else lookup k rest

def isAny : Ty → Bool
  | .any => true
  | _ => false

/-- insertion into a key-sorted association list. Neither this nor `sortByKey` is used by the model or the driver:
property lists are built, and kept sorted, by `setProp` below. -/
def insertSorted (k : String) (v : Ty) : List (String × Ty) → List (String × Ty)
  | [] => [(k, v)]
  | (k', v') :: rest => if k < k' then (k, v) :: (k', v') :: rest else (k', v') :: insertSorted k v rest

def sortByKey (l : List (String × Ty)) : List (String × Ty) :=
  l.foldl (fun acc kv => insertSorted kv.1 kv.2 acc) []

/-- replace a binding, or insert it at its place in key order. All `obj` property lists of the model
are kept sorted by key (the driver sorts its inputs), so that "iterate in sorted key order" — what
`Merge` does since the determinism fix — is list order. -/
def setProp (k : String) (v : Ty) : List (String × Ty) → List (String × Ty)
  | [] => [(k, v)]
  | (k', v') :: rest =>
    if k' = k then (k, v) :: rest
    else if k < k' then (k, v) :: (k', v') :: rest
    else (k', v') :: setProp k v rest

mutual
/-- `l.Assignable(r)`: a value of type `r` can be passed where `l` is expected. -/
def assignable : Ty → Ty → Bool
  | .any, _ => true
  | .bool, _ => true
  | .null, r => (match r with | .null | .any => true | _ => false)
  | .number, r => (match r with | .number | .any => true | _ => false)
  | .string, r => (match r with | .string | .number | .any => true | _ => false)
  | .arr e _, r => (match r with | .any => true | .arr e' _ => assignable e e' | _ => false)
  | .obj ps m, r =>
    match r with
    | .any => true
    | .obj qs m' =>
      (match m with
      | some mt =>
        (match m' with
        | some mt' => assignable mt mt'
        | none => allAssignableFrom mt qs)
      | none =>
        (match m' with
        | some mt' => propsAssignableTo ps mt'
        | none => propsCover ps qs))
    | _ => false
/-- `for _, t := range other.Props { if !ty.Mapped.Assignable(t) … }` -/
def allAssignableFrom (mt : Ty) : List (String × Ty) → Bool
  | [] => true
  | (_, t) :: rest => assignable mt t && allAssignableFrom mt rest
/-- `for _, t := range ty.Props { if !t.Assignable(other.Mapped) … }` -/
def propsAssignableTo : List (String × Ty) → Ty → Bool
  | [], _ => true
  | (_, t) :: rest, m => assignable t m && propsAssignableTo rest m
/-- `for n, r := range other.Props { l, ok := ty.Props[n]; !ok || !l.Assignable(r) … }`
(recursion on the receiver's props: for each binding of `qs` look it up in `ps`) -/
def propsCover (ps : List (String × Ty)) : List (String × Ty) → Bool
  | [] => true
  | (n, r) :: rest => lookupAssignable ps n r && propsCover ps rest
def lookupAssignable : List (String × Ty) → String → Ty → Bool
  | [], _, _ => false
  | (k, l) :: rest, n, r => if k = n then assignable l r else lookupAssignable rest n r
end

def equalTypes (l r : Ty) : Bool := assignable l r && assignable r l

/-- Scalar part of `Merge`; objects and arrays are handled in `merge`. -/
def mergeScalar : Ty → Ty → Ty
  | .any, _ => .any
  | .null, .null => .null
  | .null, _ => .any
  | .number, .number => .number
  | .number, .string => .string
  | .number, _ => .any
  | .bool, .bool => .bool
  | .bool, .string => .string
  | .bool, _ => .any
  | .string, .string => .string
  | .string, .number => .string
  | .string, .bool => .string
  | .string, _ => .any
  | _, _ => .any

mutual
/-- `ty.Merge(other)`. The other object's properties are folded in sorted key order (as the code does). -/
def merge : Ty → Ty → Ty
  | .obj ps m, .obj qs m' =>
    if ps.isEmpty && (match m' with | some .any => true | _ => false) then .obj qs m'
    else if qs.isEmpty && (match m with | some .any => true | _ => false) then .obj ps m
    else
      let mapped0 : Option Ty := match m, m' with
        | none, _ => m'
        | some a, none => some a
        | some a, some b => some (merge a b)
      mergeProps ps mapped0 qs
  | .arr e d, .arr e' d' =>
    if e.isAny then .arr e (d || d')
    else if e'.isAny then .arr e' (d || d')
    else .arr (merge e e') false
  | .obj _ _, _ => .any
  | .arr _ _, _ => .any
  | l, r => mergeScalar l r
/-- the loop over `other.Props` (a key-sorted list): accumulates props and mapped -/
def mergeProps (props : List (String × Ty)) (mapped : Option Ty) : List (String × Ty) → Ty
  | [] => .obj props mapped
  | (n, r) :: rest =>
    match lookup n props with
    | some l => mergeProps (setProp n (merge l r) props) mapped rest
    | none =>
      let mapped' := match mapped with
        | some mt => some (merge mt r)
        | none => none
      mergeProps (setProp n r props) mapped' rest
end

end Ty
end AL
