import AL.Model.Sema
/-
  Mini JSON reader (RFC 8259 as accepted by Go's encoding/json) and `typeOfJSONValue`.
  Used for the `fromJSON('…')` special case. Only the accept/reject verdict and the shape of the value
  are modelled (not the error offset, not number values).
-/
namespace AL.Json
open AL AL.Sema

inductive JVal where
  | null | bool | num | str
  | arr (es : List JVal)
  | obj (ms : List (String × JVal))
deriving Repr, Inhabited

def isWs (c : Char) : Bool := c = ' ' || c = '\n' || c = '\r' || c = '\t'
def isDigit (c : Char) : Bool := '0' ≤ c && c ≤ '9'
def isHex (c : Char) : Bool := isDigit c || ('a' ≤ c && c ≤ 'f') || ('A' ≤ c && c ≤ 'F')

def skipWs : List Char → List Char
  | c :: cs => if isWs c then skipWs cs else c :: cs
  | [] => []

theorem skipWs_le (cs : List Char) : (skipWs cs).length ≤ cs.length := by
  induction cs with
  | nil => simp [skipWs]
  | cons c cs ih => simp only [skipWs]; split <;> simp <;> omega

/-- string body after the opening quote: returns the decoded text (escapes resolved only as far as
key comparison needs: `\uXXXX` of ASCII and simple escapes) and the rest after the closing quote -/
def parseStr : List Char → List Char → Option (String × List Char)
  | [], _ => none
  | '"' :: rest, acc => some (String.ofList acc, rest)
  | '\\' :: c :: rest, acc =>
    if c = 'u' then
      match rest with
      | a :: b :: c' :: d :: rest' =>
        if isHex a && isHex b && isHex c' && isHex d then
          let v (x : Char) : Nat := if isDigit x then x.toNat - 48 else if 'a' ≤ x then x.toNat - 87 else x.toNat - 55
          parseStr rest' (acc ++ [Char.ofNat (v a * 4096 + v b * 256 + v c' * 16 + v d)])
        else none
      | _ => none
    else if c = '"' || c = '\\' || c = '/' then parseStr rest (acc ++ [c])
    else if c = 'b' then parseStr rest (acc ++ [Char.ofNat 8])
    else if c = 'f' then parseStr rest (acc ++ [Char.ofNat 12])
    else if c = 'n' then parseStr rest (acc ++ ['\n'])
    else if c = 'r' then parseStr rest (acc ++ ['\r'])
    else if c = 't' then parseStr rest (acc ++ ['\t'])
    else none
  | ['\\'], _ => none
  | c :: rest, acc => if c.toNat < 0x20 then none else parseStr rest (acc ++ [c])

theorem parseStr_lt (cs acc : List Char) (s : String) (rest : List Char) (h : parseStr cs acc = some (s, rest)) :
    rest.length < cs.length := by
  fun_induction parseStr cs acc
  -- each branch fails, returns what follows the closing quote, or goes on with a proper tail
  all_goals first
    | (cases h <;> exact Nat.lt_succ_self _)
    | (have := ‹_ → _› h; simp only [List.length_cons]; omega)

def takeDigits : List Char → List Char
  | c :: cs => if isDigit c then takeDigits cs else c :: cs
  | [] => []

theorem takeDigits_le (cs : List Char) : (takeDigits cs).length ≤ cs.length := by
  induction cs with
  | nil => simp [takeDigits]
  | cons c cs ih => simp only [takeDigits]; split <;> simp <;> omega

/-- JSON number: `-? (0 | [1-9][0-9]*) (\.[0-9]+)? ([eE][+-]?[0-9]+)?`; returns the rest -/
def parseNum (cs : List Char) : Option (List Char) :=
  let cs1 := match cs with | '-' :: r => r | _ => cs
  let afterInt : Option (List Char) := match cs1 with
    | '0' :: r => some r
    | c :: r => if isDigit c then some (takeDigits r) else none
    | [] => none
  match afterInt with
  | none => none
  | some r1 =>
    let afterFrac : Option (List Char) := match r1 with
      | '.' :: d :: r => if isDigit d then some (takeDigits r) else none
      | ['.'] => none
      | _ => some r1
    match afterFrac with
    | none => none
    | some r2 =>
      match r2 with
      | e :: r =>
        if e = 'e' || e = 'E' then
          let r' := match r with | '+' :: x => x | '-' :: x => x | _ => r
          match r' with
          | d :: x => if isDigit d then some (takeDigits x) else none
          | [] => none
        else some r2
      | [] => some r2

mutual
/-- value, with `fuel` bounding the nesting depth (callers pass the input length) -/
def parseVal : Nat → List Char → Option (JVal × List Char)
  | 0, _ => none
  | f + 1, cs =>
    match skipWs cs with
    | 'n' :: 'u' :: 'l' :: 'l' :: r => some (.null, r)
    | 't' :: 'r' :: 'u' :: 'e' :: r => some (.bool, r)
    | 'f' :: 'a' :: 'l' :: 's' :: 'e' :: r => some (.bool, r)
    | '"' :: r => (parseStr r []).map fun (_, r') => (.str, r')
    | '[' :: r =>
      (match skipWs r with
      | ']' :: r' => some (.arr [], r')
      | _ => parseElems f r [])
    | '{' :: r =>
      (match skipWs r with
      | '}' :: r' => some (.obj [], r')
      | _ => parseMembers f r [])
    | c :: r => if c = '-' || isDigit c then (parseNum (c :: r)).map fun r' => (.num, r') else none
    | [] => none
def parseElems : Nat → List Char → List JVal → Option (JVal × List Char)
  | 0, _, _ => none
  | f + 1, cs, acc =>
    match parseVal f cs with
    | none => none
    | some (v, r) =>
      match skipWs r with
      | ',' :: r' => parseElems f r' (acc ++ [v])
      | ']' :: r' => some (.arr (acc ++ [v]), r')
      | _ => none
def parseMembers : Nat → List Char → List (String × JVal) → Option (JVal × List Char)
  | 0, _, _ => none
  | f + 1, cs, acc =>
    match skipWs cs with
    | '"' :: r =>
      (match parseStr r [] with
      | none => none
      | some (k, r1) =>
        match skipWs r1 with
        | ':' :: r2 =>
          (match parseVal f r2 with
          | none => none
          | some (v, r3) =>
            match skipWs r3 with
            | ',' :: r4 => parseMembers f r4 (acc ++ [(k, v)])
            | '}' :: r4 => some (.obj (acc ++ [(k, v)]), r4)
            | _ => none)
        | _ => none)
    | _ => none
end

def parse (s : String) : Option JVal :=
  match parseVal (2 * s.length + 2) s.toList with
  | some (v, r) => if (skipWs r).isEmpty then some v else none
  | none => none

mutual
/-- `typeOfJSONValue` (keys folded with `lower`, visited in sorted order so that the later key wins) -/
def typeOf (lower : String → String) : JVal → Ty
  | .null => .null
  | .bool => .bool
  | .num => .number
  | .str => .string
  | .arr es => .arr (elemTy lower es none) false
  | .obj ms => .obj (memberTys lower ms []) none
def elemTy (lower : String → String) : List JVal → Option Ty → Ty
  | [], none => .any
  | [], some t => t
  | e :: es, none => elemTy lower es (some (typeOf lower e))
  | e :: es, some t => elemTy lower es (some (Ty.merge t (typeOf lower e)))
/-- the Go code stores into a map in sorted key order: a later (greater) original key overwrites an
earlier one that folds to the same name. `acc` holds (original key, folded key, type). -/
def memberTys (lower : String → String) : List (String × JVal) → List (String × String × Ty) → List (String × Ty)
  | [], acc =>
    -- resolve collisions: for each folded key keep the binding with the greatest original key; JSON
    -- duplicates (same original key) keep the last one
    let folded := acc.foldl (fun (m : List (String × String × Ty)) (e : String × String × Ty) =>
      match m.find? (fun x => x.2.1 = e.2.1) with
      | some old => if old.1 ≤ e.1 then m.map (fun x => if x.2.1 = e.2.1 then e else x) else m
      | none => m ++ [e]) []
    folded.foldl (fun ps e => Ty.setProp e.2.1 e.2.2 ps) []
  | (k, v) :: rest, acc => memberTys lower rest (acc ++ [(k, lower k, typeOf lower v)])
end

def fromJson (lower : String → String) (s : String) : JsonRes :=
  match parse s with
  | some v => .ok (typeOf lower v)
  | none => .syntaxErr

end AL.Json
