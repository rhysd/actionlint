import AL.Model.ParseWf
/-
  reusable_workflow.go: the two derivations of a reusable workflow's interface.

  * `fromAst`  — `WriteWorkflowCallEvent`: from the `WorkflowCallEvent` of the AST (the called workflow was linted in the
                 same run),
  * `fromYaml` — `parseReusableWorkflowMetadata` + the `UnmarshalYAML` methods: from a re-parse of the file; the decoding
                 `gopkg.in/yaml.v3` does on the way (struct fields by exact key, typed `bool` / `string` / `*string`
                 targets, unique keys of known fields, null → zero value) is modelled as far as these types use it.

  Go maps are association lists; `put` is `m[k] = v`. An alias node and a `!!binary` scalar make the model answer
  `unsupported` (the model does not follow `yaml.Node.Alias` and has no base64 decoder); a `<<` merge key likewise.
-/
namespace AL.CallMeta
open AL.Yaml AL.Ast AL.PW

inductive Ty where
  | any | bool | number | string
deriving Repr, DecidableEq, Inhabited

structure Input where
  name : String
  required : Bool
  ty : Ty
deriving Repr, DecidableEq

structure Secret where
  name : String
  required : Bool
deriving Repr, DecidableEq

structure Meta where
  inputs : List (String × Input) := []
  outputs : List (String × String) := []
  secrets : List (String × Secret) := []
deriving Repr, DecidableEq

/-- `m[k] = v` -/
def put {α : Type} (m : List (String × α)) (k : String) (v : α) : List (String × α) :=
  if m.any (·.1 = k) then m.map (fun e => if e.1 = k then (k, v) else e) else m ++ [(k, v)]

/-! ### from the AST: `WriteWorkflowCallEvent` -/

def tyOfAst : CallInputType → Ty
  | .boolean => .bool
  | .number => .number
  | .string => .string
  | .invalid => .any

def boolOf (b : Option BoolV) : Bool :=
  match b with
  | some v => v.value
  | none => false

def inputOfAst (i : CallInput) : Input :=
  ⟨i.name.value, boolOf i.required && i.dflt.isNone, tyOfAst i.type⟩

def fromAst (inputs : Option (List CallInput)) (secrets : Option (List (String × CallSecret)))
    (outputs : Option (List (String × CallOutput))) : Meta :=
  { inputs := (inputs.getD []).foldl (fun m i => put m i.id (inputOfAst i)) []
    outputs := (outputs.getD []).foldl (fun m o => put m o.1 o.2.name.value) []
    secrets := (secrets.getD []).foldl (fun m s => put m s.1 ⟨s.2.name.value, boolOf s.2.required⟩) [] }

def fromEvent : Event → Option Meta
  | .call i s o _ => some (fromAst i s o)
  | _ => none

/-- `RuleWorkflowCall.VisitWorkflowPre`: the first `workflow_call` event of `on:` is written to the cache -/
def fromEvents : List Event → Option Meta
  | [] => none
  | e :: rest => match fromEvent e with
    | some m => some m
    | none => fromEvents rest

/-! ### from the file: yaml.v3 decoding -/

inductive E where
  | decode        -- yaml.v3 / UnmarshalYAML returns an error
  | unsupported   -- alias, !!binary, merge key: outside the model
  | notFound      -- no `on:` / no `workflow_call` in it
deriving Repr, DecidableEq

abbrev D := Except E

def yesWords : List String := ["y", "Y", "yes", "Yes", "YES", "on", "On", "ON"]
def noWords : List String := ["n", "N", "no", "No", "NO", "off", "Off", "OFF"]

/-- the tags whose plain scalars `resolve` turns into something that is not a string -/
def nonStringTags : List String := ["!!int", "!!float", "!!timestamp"]

/-- decoding into a `bool` -/
def decBool (n : Node) : D Bool :=
  match n.kind with
  | .alias => .error .unsupported
  | .scalar =>
    if n.tag = "!!null" then .ok false
    else if n.tag = "!!binary" then .error .unsupported
    else if n.tag = "!!bool" then
      if n.value ∈ ["true", "True", "TRUE"] then .ok true
      else if n.value ∈ ["false", "False", "FALSE"] then .ok false
      else .error .unsupported      -- yaml.v3 does not produce such a node
    else if n.tag ∈ nonStringTags then .error .decode
    else if n.value ∈ yesWords then .ok true
    else if n.value ∈ noWords then .ok false
    else .error .decode
  | _ => .error .decode

/-- decoding into a `string` -/
def decStr (n : Node) : D String :=
  match n.kind with
  | .alias => .error .unsupported
  | .scalar =>
    if n.tag = "!!null" then .ok ""
    else if n.tag = "!!binary" then .error .unsupported
    else .ok n.value
  | _ => .error .decode

/-- decoding into a `*string` -/
def decStrPtr (n : Node) : D (Option String) :=
  if n.isNull then .ok none else (decStr n).map some

def isMerge (k : Node) : Bool :=
  k.kind = .scalar && k.value = "<<" && (k.tag = "" || k.tag = "!" || k.tag = "!!merge")

/-- `d.mapping` with `uniqueKeys`: two keys of the same kind and value, whether they name a field or not -/
def hasDupKey : List (Node × Node) → Bool
  | [] => false
  | (k, _) :: rest => rest.any (fun q => q.1.kind = k.kind && q.1.value = k.value) || hasDupKey rest

/-- `d.mappingStruct`: the loop over the keys of a mapping that fills a struct; `set st name v` decodes the value node
`v` into the field `name`. A known field given twice is an error, other keys are skipped (after decoding the key into a
string) -/
def structLoop {σ : Type} (fields : List String) (set : σ → String → Node → D σ) :
    List (Node × Node) → List String → σ → D σ
  | [], _, st => .ok st
  | (k, v) :: rest, done, st =>
    if isMerge k then .error .unsupported
    else match decStr k with
      | .error e => .error e
      | .ok name =>
        if name ∈ fields then
          if name ∈ done then .error .decode
          else match set st name v with
            | .error e => .error e
            | .ok st' => structLoop fields set rest (name :: done) st'
        else structLoop fields set rest done st

/-- decoding a node into a struct whose zero value is `init` -/
def structDecode {σ : Type} (fields : List String) (set : σ → String → Node → D σ) (init : σ) (n : Node) : D σ :=
  match n.kind with
  | .alias => .error .unsupported
  | .mapping => if hasDupKey (pairs n.content) then .error .decode else structLoop fields set (pairs n.content) [] init
  | .scalar => if n.tag = "!!null" then .ok init else .error .decode
  | _ => .error .decode

def tyOfString : String → Ty
  | "boolean" => .bool
  | "number" => .number
  | "string" => .string
  | _ => .any

/-- the anonymous struct `metadata` of `ReusableWorkflowMetadataInput.UnmarshalYAML` -/
structure InSt where
  required : Bool := false
  dflt : Option String := none
  ty : String := ""

def setInput (st : InSt) (name : String) (v : Node) : D InSt :=
  match name with
  | "required" => (decBool v).map fun b => { st with required := b }
  | "default" => (decStrPtr v).map fun d => { st with dflt := d }
  | "type" => (decStr v).map fun t => { st with ty := t }
  | _ => .ok st

/-- `ReusableWorkflowMetadataInput.UnmarshalYAML` (not called for a null node: all fields zero, `Type` then set to any) -/
def decInput (v : Node) : D (Bool × Ty) :=
  (structDecode ["required", "default", "type"] setInput {} v).map fun st =>
    (st.required && st.dflt.isNone, tyOfString st.ty)

def decInputsLoop (cfg : Cfg) : List (Node × Node) → List (String × Input) → D (List (String × Input))
  | [], m => .ok m
  | (k, v) :: rest, m =>
    match decInput v with
    | .error e => .error e
    | .ok r => decInputsLoop cfg rest (put m (cfg.lower k.value) ⟨k.value, r.1, r.2⟩)

/-- `ReusableWorkflowMetadataInputs.UnmarshalYAML` -/
def decInputs (cfg : Cfg) (n : Node) : D (List (String × Input)) :=
  match n.kind with
  | .alias => .error .unsupported
  | .mapping => decInputsLoop cfg (pairs n.content) []
  | _ => .error .decode

/-- `ReusableWorkflowMetadataSecret`: fields `name` (no tag: the lower-cased field name) and `required` -/
structure SecSt where
  name : String := ""
  required : Bool := false

def setSecret (st : SecSt) (name : String) (v : Node) : D SecSt :=
  match name with
  | "name" => (decStr v).map fun s => { st with name := s }
  | "required" => (decBool v).map fun b => { st with required := b }
  | _ => .ok st

/-- decoding a `ReusableWorkflowMetadataSecret`; `Name` is overwritten with the key afterwards -/
def decSecret (v : Node) : D Bool :=
  (structDecode ["name", "required"] setSecret {} v).map (·.required)

def decSecretsLoop (cfg : Cfg) : List (Node × Node) → List (String × Secret) → D (List (String × Secret))
  | [], m => .ok m
  | (k, v) :: rest, m =>
    match decSecret v with
    | .error e => .error e
    | .ok r => decSecretsLoop cfg rest (put m (cfg.lower k.value) ⟨k.value, r⟩)

/-- `ReusableWorkflowMetadataSecrets.UnmarshalYAML` -/
def decSecrets (cfg : Cfg) (n : Node) : D (List (String × Secret)) :=
  match n.kind with
  | .alias => .error .unsupported
  | .mapping => decSecretsLoop cfg (pairs n.content) []
  | _ => .error .decode

/-- `ReusableWorkflowMetadataOutputs.UnmarshalYAML`: the keys only -/
def decOutputs (cfg : Cfg) (n : Node) : D (List (String × String)) :=
  match n.kind with
  | .alias => .error .unsupported
  | .mapping => .ok ((pairs n.content).foldl (fun m kv => put m (cfg.lower kv.1.value) kv.1.value) [])
  | _ => .error .decode

/-- a field with an `UnmarshalYAML` method: the method is not called for a null node, the field gets its zero value -/
def viaUnmarshaler {α : Type} (dec : Node → D (List α)) (n : Node) : D (List α) :=
  if n.isNull then .ok [] else dec n

def setMeta (cfg : Cfg) (st : Meta) (name : String) (v : Node) : D Meta :=
  match name with
  | "inputs" => (viaUnmarshaler (decInputs cfg) v).map fun i => { st with inputs := i }
  | "outputs" => (viaUnmarshaler (decOutputs cfg) v).map fun o => { st with outputs := o }
  | "secrets" => (viaUnmarshaler (decSecrets cfg) v).map fun s => { st with secrets := s }
  | _ => .ok st

/-- decoding the value of the `workflow_call:` key into `ReusableWorkflowMetadata` -/
def fromYaml (cfg : Cfg) (n : Node) : D Meta :=
  structDecode ["inputs", "outputs", "secrets"] (setMeta cfg) {} n

def findCallKey (cfg : Cfg) : List (Node × Node) → Option Node
  | [] => none
  | (k, v) :: rest => if cfg.lower k.value = "workflow_call" then some v else findCallKey cfg rest

/-- `parseReusableWorkflowMetadata` from the value of `on:` -/
def fromOn (cfg : Cfg) (on : Node) : D Meta :=
  match on.kind with
  | .mapping =>
    match findCallKey cfg (pairs on.content) with
    | some v => fromYaml cfg v
    | none => .error .notFound
  | .scalar => if cfg.lower on.value = "workflow_call" then .ok {} else .error .notFound
  | .sequence => if on.content.any (fun c => cfg.lower c.value = "workflow_call") then .ok {} else .error .notFound
  | _ => .error .notFound

/-- `yaml.Unmarshal(src, &struct{ On yaml.Node })` then `parseReusableWorkflowMetadata`: from the document node. A field
of type `yaml.Node` takes the value node as it is (also an alias or a null) -/
def fromDoc (cfg : Cfg) (doc : Node) : D Meta :=
  match doc.content with
  | [] => .error .notFound
  | root :: _ =>
    match structDecode ["on"] (fun (st : Option Node) name v => if name = "on" then .ok (some v) else .ok st) none root with
    | .error e => .error e
    | .ok none => .error .notFound
    | .ok (some on) => fromOn cfg on

/-- the AST side for a whole document -/
def fromDocAst (cfg : Cfg) (doc : Node) : Option Meta :=
  fromEvents ((parse cfg doc).1.on.getD [])


/-! ### the domain on which the two derivations are proved to agree (AL.Props.C10Meta), as a computable test -/

def nullWords : List String := ["", "~", "null", "Null", "NULL"]
def boolWords : List String := ["true", "True", "TRUE", "false", "False", "FALSE"]

/-- what yaml.v3 guarantees about a node it builds, minus alias and `!!binary` -/
def saneNodeB (n : Node) : Bool :=
  (n.kind != .alias) && (n.tag != "!!binary") && (n.kind != .scalar || n.content.isEmpty) &&
  (n.kind == .scalar || n.value == "") && (n.tag != "!!null" || nullWords.contains n.value) &&
  (n.tag != "!!bool" || boolWords.contains n.value)

def saneB : Nat → Node → Bool
  | 0, n => saneNodeB n
  | d + 1, n => saneNodeB n && (pairs n.content).all fun q => saneB d q.1 && saneB d q.2

/-- no `required:` of an input / secret is a `!!str` scalar (a `${{ }}` placeholder) -/
def noPlaceholderB (n : Node) : Bool :=
  (pairs n.content).all fun sec => (pairs sec.2.content).all fun ent => (pairs ent.2.content).all fun a =>
    a.1.value != "required" || a.2.tag != "!!str"

/-- the value of `on: → workflow_call:` (exact spelling) of a document, if the document has that shape -/
def findKey (name : String) : List (Node × Node) → Option Node
  | [] => none
  | (k, v) :: rest => if k.kind = .scalar && k.value = name then some v else findKey name rest

def callNode (doc : Node) : Option Node :=
  match doc.content with
  | [] => none
  | root :: _ =>
    match findKey "on" (pairs root.content) with
    | none => none
    | some on => findKey "workflow_call" (pairs on.content)

/-- the hypotheses of the document-level theorem (AL.C10M.document_interface_agrees_checked) -/
def onOkB (cfg : Cfg) (on : Node) : Bool :=
  (pairs on.content).all fun q =>
    (cfg.lower q.1.value != "workflow_call" || q.1.value == "workflow_call") &&
    (q.1.value != "workflow_call" || (saneB 3 q.2 && noPlaceholderB q.2))

def docHypB (cfg : Cfg) (doc : Node) : Bool :=
  match doc.content with
  | [] => false
  | root :: _ => (pairs root.content).all fun q => saneNodeB q.1 && (q.1.value != "on" || onOkB cfg q.2)

end AL.CallMeta
