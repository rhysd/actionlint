/-
  Glue: hex <-> bytes, UTF-8 decoding with Go's `utf8.DecodeRune` semantics
  (an invalid or truncated sequence yields U+FFFD of width 1).
  The hex coding is the driver's line protocol; `Sym` is the character type of the scanner models, whose
  theorems are stated over `List Sym`. The theorems here characterise one `decodeOne` step.
-/
namespace AL

/-- One decoded source character as `text/scanner.next` sees it. -/
structure Sym where
  r   : Nat          -- code point (0xFFFD when `bad`)
  w   : Nat          -- width in bytes
  bad : Bool := false  -- invalid UTF-8 (RuneError with width 1)
deriving Repr, DecidableEq, Inhabited

def hexVal (c : Char) : Option Nat :=
  if '0' ≤ c ∧ c ≤ '9' then some (c.toNat - '0'.toNat)
  else if 'a' ≤ c ∧ c ≤ 'f' then some (c.toNat - 'a'.toNat + 10)
  else if 'A' ≤ c ∧ c ≤ 'F' then some (c.toNat - 'A'.toNat + 10)
  else none

def unhexChars : List Char → Option (List Nat)
  | [] => some []
  | [_] => none
  | a :: b :: rest => do
    let x ← hexVal a
    let y ← hexVal b
    let t ← unhexChars rest
    pure ((x * 16 + y) :: t)

/-- `"-"` encodes the empty string so that every argument is a non-empty word. -/
def unhex (s : String) : Option (List Nat) :=
  if s = "-" then some [] else unhexChars s.toList

def hexDigit (n : Nat) : Char :=
  if n < 10 then Char.ofNat ('0'.toNat + n) else Char.ofNat ('a'.toNat + n - 10)

def hexBytes (bs : List Nat) : String :=
  if bs.isEmpty then "-" else String.ofList (bs.flatMap fun b => [hexDigit (b / 16), hexDigit (b % 16)])

def isCont (b : Nat) : Bool := 0x80 ≤ b && b ≤ 0xBF

/-- Go's `utf8.DecodeRune` on the head of `bs`. -/
def decodeOne : List Nat → Option (Sym × List Nat)
  | [] => none
  | b0 :: rest =>
    let badSym : Sym := { r := 0xFFFD, w := 1, bad := true }
    if b0 < 0x80 then some ({ r := b0, w := 1 }, rest)
    else if b0 < 0xC2 then some (badSym, rest)
    else if b0 < 0xE0 then
      match rest with
      | b1 :: r1 => if isCont b1 then some ({ r := (b0 - 0xC0) * 64 + (b1 - 0x80), w := 2 }, r1) else some (badSym, rest)
      | _ => some (badSym, rest)
    else if b0 < 0xF0 then
      match rest with
      | b1 :: b2 :: r2 =>
        let lo := if b0 = 0xE0 then 0xA0 else 0x80
        let hi := if b0 = 0xED then 0x9F else 0xBF
        if lo ≤ b1 && b1 ≤ hi && isCont b2 then
          some ({ r := (b0 - 0xE0) * 4096 + (b1 - 0x80) * 64 + (b2 - 0x80), w := 3 }, r2)
        else some (badSym, rest)
      | _ => some (badSym, rest)
    else if b0 < 0xF5 then
      match rest with
      | b1 :: b2 :: b3 :: r3 =>
        let lo := if b0 = 0xF0 then 0x90 else 0x80
        let hi := if b0 = 0xF4 then 0x8F else 0xBF
        if lo ≤ b1 && b1 ≤ hi && isCont b2 && isCont b3 then
          some ({ r := (b0 - 0xF0) * 262144 + (b1 - 0x80) * 4096 + (b2 - 0x80) * 64 + (b3 - 0x80), w := 4 }, r3)
        else some (badSym, rest)
      | _ => some (badSym, rest)
    else some (badSym, rest)

/-- one summand of a decoded code point already reaches 128 -/
theorem ge128_of_sub_mul {x m k n : Nat} (hx : n + m ≤ x) (hk : 0x80 ≤ n * k) : 0x80 ≤ (x - m) * k :=
  Nat.le_trans hk (Nat.mul_le_mul_right k (Nat.le_sub_of_add_le hx))

/-- three bytes whose second byte respects its lower bound decode to 128 or more … -/
theorem decodeOne_three_ge {a b c : Nat} (ha : ¬ a < 0xE0) (hb : (if a = 0xE0 then 0xA0 else 0x80) ≤ b) :
    ¬ (a - 0xE0) * 4096 + (b - 0x80) * 64 + (c - 0x80) < 0x80 := by
  refine fun h => Nat.not_le_of_lt h (Nat.le_trans ?_ (Nat.le_add_right _ _))
  by_cases he : a = 0xE0
  · rw [if_pos he] at hb
    exact Nat.le_trans (ge128_of_sub_mul (n := 32) hb (by decide)) (Nat.le_add_left _ _)
  · exact Nat.le_trans (ge128_of_sub_mul (n := 1) (by omega) (by decide)) (Nat.le_add_right _ _)

/-- … and so does one of four bytes -/
theorem decodeOne_four_ge {a b c d : Nat} (ha : ¬ a < 0xF0) (hb : (if a = 0xF0 then 0x90 else 0x80) ≤ b) :
    ¬ (a - 0xF0) * 262144 + (b - 0x80) * 4096 + (c - 0x80) * 64 + (d - 0x80) < 0x80 := by
  refine fun h => Nat.not_le_of_lt h
    (Nat.le_trans ?_ (Nat.le_trans (Nat.le_add_right _ ((c - 0x80) * 64)) (Nat.le_add_right _ _)))
  by_cases he : a = 0xF0
  · rw [if_pos he] at hb
    exact Nat.le_trans (ge128_of_sub_mul (n := 16) hb (by decide)) (Nat.le_add_left _ _)
  · exact Nat.le_trans (ge128_of_sub_mul (n := 1) (by omega) (by decide)) (Nat.le_add_right _ _)

/-- What `decodeOne` returns on `b0 :: rest`, whatever the branch: a symbol of positive width `w` with the input after
exactly `w` bytes; a code point below 128 is the lead byte itself (the bounds on the second byte rule out overlong
forms). The proof follows the tree of the definition; `split` on the whole body is very slow. -/
theorem decodeOne_cons (b0 : Nat) (rest : List Nat) :
    ∃ s, decodeOne (b0 :: rest) = some (s, rest.drop (s.w - 1)) ∧ 0 < s.w ∧ (s.r < 0x80 → s.r = b0) := by
  have bad : ∀ r : List Nat, ∃ s, some ((⟨0xFFFD, 1, true⟩ : Sym), r) = some (s, r.drop (s.w - 1)) ∧ 0 < s.w ∧
      (s.r < 0x80 → s.r = b0) := fun r => ⟨_, rfl, Nat.succ_pos _, fun h => absurd h (by decide)⟩
  simp only [decodeOne]
  by_cases h1 : b0 < 0x80
  · rw [if_pos h1]; exact ⟨_, rfl, Nat.succ_pos _, fun _ => rfl⟩
  rw [if_neg h1]
  by_cases h2 : b0 < 0xC2
  · rw [if_pos h2]; exact bad _
  rw [if_neg h2]
  by_cases h3 : b0 < 0xE0
  · rw [if_pos h3]
    match rest with
    | [] => exact bad _
    | b1 :: r1 =>
      simp only []
      cases isCont b1
      · exact bad _
      · exact ⟨_, rfl, Nat.succ_pos _, fun h => absurd h (Nat.not_lt_of_le
          (Nat.le_trans (ge128_of_sub_mul (n := 2) (Nat.le_of_not_lt h2) (by decide)) (Nat.le_add_right _ _)))⟩
  rw [if_neg h3]
  by_cases h4 : b0 < 0xF0
  · rw [if_pos h4]
    match rest with
    | [] | [_] => exact bad _
    | b1 :: b2 :: r2 =>
      simp only []
      generalize hc : (_ && isCont b2) = c
      cases c
      · exact bad _
      · simp only [Bool.and_eq_true, decide_eq_true_eq] at hc
        exact ⟨_, rfl, Nat.succ_pos _, fun h => absurd h (decodeOne_three_ge h3 hc.1.1)⟩
  rw [if_neg h4]
  by_cases h5 : b0 < 0xF5
  · rw [if_pos h5]
    match rest with
    | [] | [_] | [_, _] => exact bad _
    | b1 :: b2 :: b3 :: r3 =>
      simp only []
      generalize hc : (_ && isCont b3) = c
      cases c
      · exact bad _
      · simp only [Bool.and_eq_true, decide_eq_true_eq] at hc
        exact ⟨_, rfl, Nat.succ_pos _, fun h => absurd h (decodeOne_four_ge h4 hc.1.1.1)⟩
  · rw [if_neg h5]; exact bad _

/-- the same read off a given result -/
theorem decodeOne_some {bs : List Nat} {s : Sym} {rest : List Nat} (h : decodeOne bs = some (s, rest)) :
    ∃ b0 r0, bs = b0 :: r0 ∧ rest = r0.drop (s.w - 1) ∧ 0 < s.w ∧ (s.r < 0x80 → s.r = b0) := by
  match bs, h with
  | b0 :: r0, h =>
    obtain ⟨s', h', hw, hr⟩ := decodeOne_cons b0 r0
    obtain ⟨rfl, rfl⟩ := Prod.mk.inj (Option.some.inj (h.symm.trans h'))
    exact ⟨b0, r0, rfl, rfl, hw, hr⟩

theorem decodeOne_shorter {bs : List Nat} {s : Sym} {rest : List Nat}
    (h : decodeOne bs = some (s, rest)) : rest.length < bs.length := by
  obtain ⟨b0, r0, rfl, rfl, -⟩ := decodeOne_some h
  simp only [List.length_drop, List.length_cons]
  omega

def decodeUtf8 (bs : List Nat) : List Sym :=
  match h : decodeOne bs with
  | none => []
  | some (s, rest) => s :: decodeUtf8 rest
termination_by bs.length
decreasing_by exact decodeOne_shorter h

theorem decodeUtf8_empty : decodeUtf8 [] = [] := by
  rw [decodeUtf8]; simp [decodeOne]

theorem decodeUtf8_cons {bs : List Nat} {s : Sym} {rest : List Nat} (h : decodeOne bs = some (s, rest)) :
    decodeUtf8 bs = s :: decodeUtf8 rest := by
  rw [decodeUtf8]
  split
  · rename_i h'; rw [h] at h'; cases h'
  · rename_i s' rest' h'
    obtain ⟨rfl, rfl⟩ := Prod.mk.inj (Option.some.inj (h.symm.trans h'))
    rfl

/-- UTF-8 encoding of a code point (for echoing characters back in outputs). -/
def encodeRune (r : Nat) : List Nat :=
  if r < 0x80 then [r]
  else if r < 0x800 then [0xC0 + r / 64, 0x80 + r % 64]
  else if r < 0x10000 then [0xE0 + r / 4096, 0x80 + (r / 64) % 64, 0x80 + r % 64]
  else [0xF0 + r / 262144, 0x80 + (r / 4096) % 64, 0x80 + (r / 64) % 64, 0x80 + r % 64]

end AL
