import AL.Model.Ty
/-
  Model of expr_sema.go: `ExprSemanticsChecker.check` and everything below it, with the stream of
  enter/leave events it feeds to the untrusted-input checker. The expression type `E` is the AST of
  expr_ast.go with names already folded where the parser folds them (variable and property names
  lower-cased); function names keep their spelling and are folded here, as in the Go code.
  Types are immutable values (after the fix of the in-place `Deref = true`), so checking an
  expression cannot change the environment seen by the next one.
-/
namespace AL.Sema
open AL

inductive CmpOp where | less | lessEq | greater | greaterEq | eq | notEq
deriving Repr, DecidableEq, Inhabited

inductive LogOp where | and | or
deriving Repr, DecidableEq, Inhabited

inductive E where
  | null | bool | num
  | str (v : String)
  | var (name : String)
  | call (callee : String) (args : List E)
  | objDeref (recv : E) (prop : String)
  | arrDeref (recv : E)
  | index (operand : E) (idx : E)
  | not (e : E)
  | cmp (op : CmpOp) (l r : E)
  | logical (op : LogOp) (l r : E)
deriving Repr, Inhabited

structure Sig where
  name     : String
  ret      : Ty
  params   : List Ty
  variadic : Bool := false
deriving Repr, Inhabited

inductive JsonRes where
  | ok (t : Ty)
  | syntaxErr
  | otherErr
deriving Repr, Inhabited

structure Env where
  vars         : List (String × Ty)
  funcs        : List (String × List Sig)          -- keys lower-case
  specialFuncs : List String                         -- names of the special functions (lower-case)
  availCtx     : List String
  availSpecial : List String
  configVars   : Option (List String)
  lower        : String → String
  fromJson     : String → JsonRes                    -- json.Unmarshal + typeOfJSONValue (see AL/Model/Json.lean)

structure SemaErr where
  code : String
  args : List String := []
deriving Repr, DecidableEq, Inhabited

/-- What `OnVisitNodeLeave` dispatches on. -/
inductive LeaveKind where
  | var (name : String)
  | objDeref (prop : String)
  | indexLit (prop : String)   -- `x['lit']`, property folded
  | index
  | arrDeref
  | safeCall                   -- contains / startsWith / endsWith
  | other
deriving Repr, DecidableEq, Inhabited

inductive Ev where
  | enterSafeCall
  | leave (k : LeaveKind)
deriving Repr, DecidableEq, Inhabited

/-! ### `String()` of types -/

mutual
def tyStr : Ty → String
  | .any => "any" | .null => "null" | .number => "number" | .bool => "bool" | .string => "string"
  | .arr e _ => "array<" ++ tyStr e ++ ">"
  | .obj ps m =>
    match m with
    | some .any => "object"
    | some mt => "{string => " ++ tyStr mt ++ "}"
    | none => "{" ++ propsStr ps true ++ "}"
def propsStr : List (String × Ty) → Bool → String
  | [], _ => ""
  | (n, t) :: rest, first => (if first then "" else "; ") ++ n ++ ": " ++ tyStr t ++ propsStr rest false
end

def sigStr (s : Sig) : String :=
  s.name ++ "(" ++ ", ".intercalate (s.params.map tyStr) ++ (if s.variadic then "..." else "") ++ ") -> " ++ tyStr s.ret

def isSafeCall (lower : String → String) (callee : String) : Bool :=
  let c := lower callee
  c = "contains" || c = "startswith" || c = "endswith"

/-! ### helpers of the individual `check*` functions (non-recursive parts) -/

def err (code : String) (args : List String := []) : SemaErr := ⟨code, args⟩

/-- `checkConfigVariables` -/
def checkConfigVar (env : Env) (prop : String) : List SemaErr :=
  if prop.startsWith "github_" then [err "cfgvar-prefix" [prop]]
  else if prop.toList.any (fun r => !(('0' ≤ r && r ≤ '9') || ('a' ≤ r && r ≤ 'z') || r = '_')) then [err "cfgvar-chars" [prop]]
  else match env.configVars with
    | none => []
    | some [] => [err "cfgvar-empty" [prop]]
    | some vs => if vs.any (fun v => env.lower v = env.lower prop) then [] else [err "cfgvar-undefined" [prop]]

/-- type rule of `checkObjectDeref` once the receiver's type is known -/
def objDerefTy (env : Env) (recvIsVarsVar : Bool) (prop : String) (t : Ty) : Ty × List SemaErr :=
  match t with
  | .any => (.any, [])
  | .obj ps m =>
    (match Ty.lookup prop ps with
    | some pt => (pt, [])
    | none =>
      match m with
      | some mt => (mt, if recvIsVarsVar then checkConfigVar env prop else [])
      | none => (.any, [err "prop-undefined" [prop, tyStr t]]))
  | .arr elem deref =>
    if !deref then (.any, [err "deref-not-object" [prop, tyStr t]])
    else (match elem with
      | .any => (t, [])
      | .obj eps em =>
        (match Ty.lookup prop eps with
        | some pt => (.arr pt true, [])
        | none =>
          match em with
          | some mt => (.arr mt true, [])
          | none => (.arr .any true, [err "filter-prop-undefined" [prop, tyStr elem]]))
      | _ => (.any, [err "filter-not-object" [prop, tyStr elem]]))
  | _ => (.any, [err "deref-not-object" [prop, tyStr t]])

/-- type rule of `checkArrayDeref` -/
def arrDerefTy (t : Ty) : Ty × List SemaErr :=
  match t with
  | .any => (.arr .any true, [])
  | .arr elem _ => (.arr elem true, [])
  | .obj ps m =>
    (match m with
    | some .any => (.arr .any true, [])
    | some (.obj mps mm) => (.arr (.obj mps mm) true, [])
    | some mt => (.any, [err "filter-elems-not-object" [tyStr mt, tyStr t]])
    | none =>
      if ps.any (fun p => match p.2 with | .obj _ _ => true | .any => true | _ => false) then (.arr .any true, [])
      else (.any, [err "filter-no-object-elem" [tyStr t]]))
  | _ => (.any, [err "filter-bad-receiver" [tyStr t]])

/-- type rule of `checkIndexAccess`; `lit` is the index when it is a string literal -/
def indexTy (env : Env) (lit : Option String) (idx : Ty) (t : Ty) : Ty × List SemaErr :=
  match t with
  | .any => (.any, [])
  | .arr elem _ =>
    (match idx with
    | .any | .number => (elem, [])
    | _ => (.any, [err "index-not-number" [tyStr idx]]))
  | .obj ps m =>
    (match idx with
    | .any => (.any, [])
    | .string =>
      (match lit with
      | some v =>
        (match Ty.lookup (env.lower v) ps with
        | some pt => (pt, [])
        | none =>
          match m with
          | some mt => (mt, [])
          | none => (.any, [err "prop-undefined" [v, tyStr t]]))
      | none =>
        match m with
        | some mt => (mt, [])
        | none => (.any, []))
    | _ => (.any, [err "index-not-string" [tyStr idx]]))
  | _ => (.any, [err "index-bad-operand" [tyStr t]])

/-- `validateCompareOpOperands` -/
def validCompare : CmpOp → Ty → Ty → Bool
  | op, l, r =>
    match op with
    | .eq | .notEq =>
      (match l with
      | .any | .null => true
      | .number | .bool | .string => (match r with | .obj _ _ | .arr _ _ => false | _ => true)
      | .obj _ _ => (match r with | .obj _ _ | .null | .any => true | _ => false)
      | .arr le _ => (match r with
        | .arr re _ => validCompare op le re
        | .null | .any => true
        | _ => false))
    | _ =>
      (match l with
      | .any | .number | .string => (match r with | .null | .bool | .obj _ _ | .arr _ _ => false | _ => true)
      | _ => false)

def cmpStr : CmpOp → String
  | .less => "<" | .lessEq => "<=" | .greater => ">" | .greaterEq => ">=" | .eq => "==" | .notEq => "!="

def ordinal (i : Nat) : String :=
  let suffix :=
    if i % 10 = 1 ∧ i % 100 ≠ 11 then "st"
    else if i % 10 = 2 ∧ i % 100 ≠ 12 then "nd"
    else if i % 10 = 3 ∧ i % 100 ≠ 13 then "rd"
    else "th"
  toString i ++ suffix

/-- the two assignability loops of `checkFuncSignature`: first failing argument, 1-based -/
def firstBadArg (params : List Ty) (variadic : Bool) (args : List Ty) : Option (Nat × Ty × Ty) :=
  let rec fixed : List Ty → List Ty → Nat → Option (Nat × Ty × Ty)
    | p :: ps, a :: as, i => if !Ty.assignable p a then some (i, a, p) else fixed ps as (i + 1)
    | _, _, _ => none
  match fixed params args 1 with
  | some x => some x
  | none =>
    if variadic then
      match params.getLast? with
      | none => none
      | some p =>
        let rec rest : List Ty → Nat → Option (Nat × Ty × Ty)
          | [], _ => none
          | a :: as, i => if !Ty.assignable p a then some (i, a, p) else rest as (i + 1)
        rest (args.drop params.length) (params.length + 1)
    else none

/-- `checkFuncSignature` -/
def checkSig (sig : Sig) (args : List Ty) : Option SemaErr :=
  let lp := sig.params.length
  let la := args.length
  if (sig.variadic && lp > la) || (!sig.variadic && lp ≠ la) then
    some (err "arg-count" [sigStr sig, if sig.variadic then "at least" else "", toString lp, toString la])
  else match firstBadArg sig.params sig.variadic args with
    | some (i, a, p) => some (err "arg-type" [ordinal i, tyStr a, tyStr p, sigStr sig])
    | none => none

/-- `parseFormatFuncSpecifiers`: the set of `{N}` indices of a format string -/
def formatHolders (f : String) : List Nat :=
  let rec go : List Char → Nat → Option (Nat × List Char) → List Nat → List Nat
    -- `start`: `none` = -1; `some (pos, digits)` = a '{' was seen at pos-1 and `digits` followed so far
    | [], _, _, acc => acc
    | r :: rest, i, start, acc =>
      if r = '{' then
        (match start with
        | some (s, _) => if s = i then go rest (i + 1) none acc else go rest (i + 1) (some (i + 1, [])) acc
        | none => go rest (i + 1) (some (i + 1, [])) acc)
      else match start with
        | some (s, ds) =>
          if '0' ≤ r && r ≤ '9' then go rest (i + 1) (some (s, ds ++ [r])) acc
          else if r = '}' && s < i then
            let n := ds.foldl (fun a d => a * 10 + (d.toNat - 48)) 0
            go rest (i + 1) none (if acc.contains n then acc else acc ++ [n])
          else go rest (i + 1) none acc
        | none => go rest (i + 1) none acc
  go f.toList 0 none []

def insertNat (n : Nat) : List Nat → List Nat
  | [] => [n]
  | m :: rest => if n ≤ m then n :: m :: rest else m :: insertNat n rest

/-- diagnostics of the `format` special case: unused arguments in index order, then surplus
placeholders in ascending order -/
def formatErrs (fmt : String) (nargs : Nat) : List SemaErr :=
  let holders := formatHolders fmt
  let missing := (List.range nargs).filter (fun i => !holders.contains i)
  let surplus := (holders.filter (fun i => i ≥ nargs)).foldl (fun acc n => insertNat n acc) []
  missing.map (fun i => err "format-unused-arg" [fmt, toString i]) ++
  surplus.map (fun i => err "format-surplus-holder" [fmt, toString i, toString nargs])

/-- `checkSpecialFunctionAvailability` -/
def specialFuncErrs (env : Env) (callee : String) : List SemaErr :=
  let f := env.lower callee
  if !env.specialFuncs.contains f then []
  else if env.availSpecial.contains f then []
  else [err "special-func-not-allowed" [callee]]

/-- `checkBuiltinFuncCall` once a signature matched; `firstLit` is `n.Args[0]` when it is a string literal -/
def builtinCall (env : Env) (callee : String) (sig : Sig) (firstLit : Option String) (nargs : Nat) : Ty × List SemaErr :=
  let e0 := specialFuncErrs env callee
  let c := env.lower callee
  if c = "format" then
    match firstLit with
    | none => (sig.ret, e0)
    | some lit => (sig.ret, e0 ++ formatErrs lit (nargs - 1))
  else if c = "fromjson" then
    match firstLit with
    | none => (sig.ret, e0)
    | some lit =>
      match env.fromJson lit with
      | .ok t => (t, e0)
      | .syntaxErr => (sig.ret, e0 ++ [err "broken-json" []])
      | .otherErr => (sig.ret, e0)
  else (sig.ret, e0)

/-- overload resolution of `checkFuncCall` -/
def resolveCall (env : Env) (callee : String) (sigs : List Sig) (firstLit : Option String) (tys : List Ty) : Ty × List SemaErr :=
  let rec go : List Sig → List SemaErr → Ty × List SemaErr
    | [], errs => (.any, errs)
    | s :: rest, errs =>
      match checkSig s tys with
      | none => builtinCall env callee s firstLit tys.length
      | some e => go rest (errs ++ [e])
  go sigs []

def strLit? : E → Option String
  | .str v => some v
  | _ => none

def lookupFuncs (k : String) : List (String × List Sig) → Option (List Sig)
  | [] => none
  | (k', v) :: rest => if k' = k then some v else lookupFuncs k rest

structure R where
  ty   : Ty
  errs : List SemaErr
  evs  : List Ev
deriving Inhabited

def leaveOf (lower : String → String) : E → LeaveKind
  | .var n => .var n
  | .objDeref _ p => .objDeref p
  | .index _ (.str v) => .indexLit (lower v)
  | .index _ _ => .index
  | .arrDeref _ => .arrDeref
  | .call c _ => if isSafeCall lower c then .safeCall else .other
  | _ => .other

def enterOf (lower : String → String) : E → List Ev
  | .call c _ => if isSafeCall lower c then [.enterSafeCall] else []
  | _ => []

/-- the `defer`red leave event and the enter event around a `check` body -/
def wrap (lower : String → String) (e : E) (body : R) : R :=
  ⟨body.ty, body.errs, enterOf lower e ++ body.evs ++ [.leave (leaveOf lower e)]⟩

mutual
/-- `sema.check(expr)`: type, diagnostics in order, and the enter/leave events -/
def check (env : Env) : E → R
  | .null => wrap env.lower .null ⟨.null, [], []⟩
  | .bool => wrap env.lower .bool ⟨.bool, [], []⟩
  | .num => wrap env.lower .num ⟨.number, [], []⟩
  | .str v => wrap env.lower (.str v) ⟨.string, [], []⟩
  | .var name =>
    wrap env.lower (.var name)
      (match Ty.lookup name env.vars with
      | none => ⟨.any, [err "undefined-variable" [name]], []⟩
      | some t =>
        ⟨t, if env.availCtx.contains (env.lower name) then [] else [err "context-not-allowed" [name]], []⟩)
  | .objDeref recv prop =>
    let r := check env recv
    let isVars := match recv with | .var "vars" => true | _ => false
    let (t, es) := objDerefTy env isVars prop r.ty
    wrap env.lower (.objDeref recv prop) ⟨t, r.errs ++ es, r.evs⟩
  | .arrDeref recv =>
    let r := check env recv
    let (t, es) := arrDerefTy r.ty
    wrap env.lower (.arrDeref recv) ⟨t, r.errs ++ es, r.evs⟩
  | .index operand idx =>
    let ri := check env idx
    let ro := check env operand
    let (t, es) := indexTy env (strLit? idx) ri.ty ro.ty
    wrap env.lower (.index operand idx) ⟨t, ri.errs ++ ro.errs ++ es, ri.evs ++ ro.evs⟩
  | .call callee args =>
    wrap env.lower (.call callee args)
      (match lookupFuncs (env.lower callee) env.funcs with
      | none => ⟨.any, [err "undefined-function" [callee]], []⟩
      | some sigs =>
        let ra := checkArgs env args
        let (t, es) := resolveCall env callee sigs (args.head?.bind strLit?) ra.1
        ⟨t, ra.2.1 ++ es, ra.2.2⟩)
  | .not operand =>
    let r := check env operand
    wrap env.lower (.not operand)
      ⟨.bool, r.errs ++ (if Ty.assignable .bool r.ty then [] else [err "not-operand" [tyStr r.ty]]), r.evs⟩
  | .cmp op l r =>
    let rl := check env l
    let rr := check env r
    wrap env.lower (.cmp op l r)
      ⟨.bool, rl.errs ++ rr.errs ++ (if validCompare op rl.ty rr.ty then [] else [err "bad-compare" [tyStr rl.ty, tyStr rr.ty, cmpStr op]]), rl.evs ++ rr.evs⟩
  | .logical op l r =>
    -- checkLogicalOp: `&&` narrows the left side as falsy, `||` as truthy
    let rl := narrow env l (match op with | .and => false | .or => true)
    let rr := check env r
    wrap env.lower (.logical op l r) ⟨Ty.merge rl.ty rr.ty, rl.errs ++ rr.errs, rl.evs ++ rr.evs⟩

/-- `checkWithNarrowing(n, isTruthy)` -/
def narrow (env : Env) : E → Bool → R
  | .logical .and l r, true =>
    let rl := check env l
    let rr := check env r
    ⟨rr.ty, rl.errs ++ rr.errs, rl.evs ++ rr.evs⟩
  | .logical .or l r, false =>
    let rl := check env l
    let rr := check env r
    ⟨rr.ty, rl.errs ++ rr.errs, rl.evs ++ rr.evs⟩
  | .logical op l r, _ =>
    -- `return sema.checkLogicalOp(n)`: no enter/leave for `n` itself
    let rl := narrow env l (match op with | .and => false | .or => true)
    let rr := check env r
    ⟨Ty.merge rl.ty rr.ty, rl.errs ++ rr.errs, rl.evs ++ rr.evs⟩
  | .not operand, t => narrow env operand (!t)
  | e, _ => check env e

def checkArgs (env : Env) : List E → List Ty × List SemaErr × List Ev
  | [] => ([], [], [])
  | a :: rest =>
    let r := check env a
    let rs := checkArgs env rest
    (r.ty :: rs.1, r.errs ++ rs.2.1, r.evs ++ rs.2.2)
end

end AL.Sema
