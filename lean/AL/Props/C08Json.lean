import AL.Model.Json
/-
  C08 — "the keywords true, false, null and the contents of string literals stay case-sensitive", for the JSON text
  passed to fromJSON: the model's JSON reader accepts the keywords in lower case only. Both theorems are about
  acceptance (`parse … .isSome`) of sample texts; the parsed values do not occur in them.
-/
namespace AL.Props.C08Json
open AL.Json

/-- `true`, `false`, `null` are values; any other letter case of them is not JSON -/
theorem json_keywords_case_sensitive :
    (parse "true").isSome = true ∧ (parse "false").isSome = true ∧ (parse "null").isSome = true ∧
    (parse "TRUE").isSome = false ∧ (parse "True").isSome = false ∧ (parse "FALSE").isSome = false ∧
    (parse "False").isSome = false ∧ (parse "NULL").isSome = false ∧ (parse "Null").isSome = false ∧
    (parse "[TRUE]").isSome = false ∧ (parse "{\"a\": Null}").isSome = false ∧ (parse "{\"A\": tRue}").isSome = false ∧
    (parse "[true, false, null]").isSome = true := by
  decide +kernel

/-- a JSON string may contain a keyword in any case: the text is accepted (what value it yields is not stated) -/
theorem json_string_values_kept :
    (parse "\"TRUE\"").isSome = true ∧ (parse "[\"Null\", \"tRue\"]").isSome = true := by
  decide +kernel

end AL.Props.C08Json
