import AL.Model.Positions
import AL.Lemmas.Positions
/-
  C03 (inside one string) — `checkExprsIn` (model: AL.Positions.exprOffsets) hands every placeholder of a string to the
  checker: the first `${{` is always reached, after a placeholder that checked cleanly the scan resumes right behind it,
  and a string with a single `${{` — the situation of the property: one scalar replaced by one malformed placeholder —
  always yields exactly that one expression, whatever the lexer consumes.
  `consume rest` = bytes the lexer consumed of the text after `${{` (0 = an error was reported, the loop stops).
  Statements first (`def …_statement : Prop`), their proofs after them.
-/
namespace AL.Props.C03Scan
open AL.Positions AL.Proc

/-- (a) a string that contains `${{` has its first occurrence handed to the checker first -/
def first_found_statement : Prop :=
  ∀ (consume : List Nat → Nat) (s : List Nat) (off k : Nat), indexOf open3 s 0 = some k →
    (exprOffsets consume s.length s off).head? = some (off + k + 3)

/-- (b) a string without `${{` yields nothing -/
def none_found_statement : Prop :=
  ∀ (consume : List Nat → Nat) (s : List Nat) (off : Nat), indexOf open3 s 0 = none →
    exprOffsets consume s.length s off = []

/-- (c) the fuel `len(s)` handed in by the caller is never the reason the scan stops: more fuel changes nothing -/
def fuel_irrelevant_statement : Prop :=
  ∀ (consume : List Nat → Nat) (s : List Nat) (off fuel : Nat), s.length ≤ fuel →
    exprOffsets consume fuel s off = exprOffsets consume s.length s off

/-- (d) after a placeholder that was checked without error the scan resumes right behind what the lexer consumed -/
def resumes_statement : Prop :=
  ∀ (consume : List Nat → Nat) (s : List Nat) (off k : Nat), indexOf open3 s 0 = some k →
    consume (s.drop (k + 3)) ≠ 0 →
    exprOffsets consume s.length s off =
      (off + k + 3) :: exprOffsets consume ((s.drop (k + 3)).drop (consume (s.drop (k + 3)))).length
        ((s.drop (k + 3)).drop (consume (s.drop (k + 3)))) (off + k + 3 + consume (s.drop (k + 3)))

/-- (e) the lexer reported an error: the scan stops after that placeholder (the diagnostic exists) -/
def stops_at_error_statement : Prop :=
  ∀ (consume : List Nat → Nat) (s : List Nat) (off k : Nat), indexOf open3 s 0 = some k →
    consume (s.drop (k + 3)) = 0 →
    exprOffsets consume s.length s off = [off + k + 3]

/-- (f) the situation of the property: exactly one `${{` in the string. It is handed to the checker exactly once,
whatever the lexer does with it (well-formed, malformed, unterminated). -/
def single_placeholder_statement : Prop :=
  ∀ (consume : List Nat → Nat) (s : List Nat) (off k : Nat), indexOf open3 s 0 = some k →
    indexOf open3 (s.drop (k + 3)) 0 = none →
    exprOffsets consume s.length s off = [off + k + 3]

/-! ### Proofs (helper lemmas: AL/Lemmas/Positions.lean, AL/Lemmas/ProcSanitize.lean)

All six statements hold for every `consume`. The fuel edge cases are harmless: a hit of `${{` at `k`
gives `k + 3 ≤ s.length`, so the caller's fuel is positive and what is left after a placeholder is at least three
bytes shorter than `s` — also when `consume` returns more than what is left (`List.drop` then yields `[]`) —
while the fuel decreases by one per step. -/

theorem first_found : first_found_statement := by
  intro consume s off k h
  rw [exprOffsets_len_some consume s off k h]
  split <;> simp only [List.head?_cons, Option.some.injEq] <;> omega

theorem none_found : none_found_statement :=
  fun consume s off h => exprOffsets_none consume s.length s off h

theorem fuel_irrelevant : fuel_irrelevant_statement :=
  fun consume s off fuel h => exprOffsets_fuel consume fuel s.length s off h (Nat.le_refl _)

theorem resumes : resumes_statement := by
  intro consume s off k h hc
  rw [exprOffsets_len_some consume s off k h, if_neg hc]
  simp only [Nat.add_assoc]

theorem stops_at_error : stops_at_error_statement := by
  intro consume s off k h hc
  rw [exprOffsets_len_some consume s off k h, if_pos hc]
  simp only [Nat.add_assoc]

theorem single_placeholder : single_placeholder_statement := by
  intro consume s off k h hn
  rw [exprOffsets_len_some consume s off k h]
  split
  · simp only [Nat.add_assoc]
  · rw [exprOffsets_none _ _ _ _ (indexOf_none_drop open3 _ _ hn)]
    simp only [Nat.add_assoc]

/-! ### Non-vacuity on concrete bytes -/

/-- a `consume` that returns the distance to just after the first `}}` (0 when there is none) -/
def consumeToClose (s : List Nat) : Nat :=
  match indexOf close2 s 0 with
  | some k => k + 2
  | none => 0

/-- the bytes of `a ${{ x }} b ${{ y`: a closed placeholder followed by an unterminated one -/
def exTwo : List Nat := "a ${{ x }} b ${{ y".toList.map (·.toNat)

/-- the bytes of `run ${{ oops`: a single, unterminated placeholder -/
def exOne : List Nat := "run ${{ oops".toList.map (·.toNat)

/-- (a), (d), (e): first hit at byte 2, the lexer consumes 5 bytes, the scan resumes at byte 10, finds the second
`${{` (expression at byte 16) and stops there because the lexer reports an error -/
example : indexOf open3 exTwo 0 = some 2 ∧ consumeToClose (exTwo.drop (2 + 3)) = 5 ∧
    exprOffsets consumeToClose exTwo.length exTwo 0 = [5, 16] ∧
    indexOf open3 (exTwo.drop 10) 0 = some 3 ∧ consumeToClose ((exTwo.drop 10).drop (3 + 3)) = 0 ∧
    exprOffsets consumeToClose (exTwo.drop 10).length (exTwo.drop 10) 10 = [16] := by decide +kernel

/-- (f): exactly one `${{`; it is handed over once whatever the lexer consumes (0, 1, or more than what is left) -/
example : indexOf open3 exOne 0 = some 4 ∧ indexOf open3 (exOne.drop (4 + 3)) 0 = none ∧
    exprOffsets consumeToClose exOne.length exOne 0 = [7] ∧
    exprOffsets (fun _ => 1) exOne.length exOne 0 = [7] ∧
    exprOffsets (fun _ => 1000) exOne.length exOne 0 = [7] := by decide +kernel

/-- (b), (c): nothing without `${{`; surplus fuel changes nothing -/
example : indexOf open3 (exTwo.take 2) 0 = none ∧ exprOffsets consumeToClose 2 (exTwo.take 2) 0 = [] ∧
    exprOffsets consumeToClose 1000 exTwo 0 = exprOffsets consumeToClose exTwo.length exTwo 0 := by decide +kernel

end AL.Props.C03Scan
