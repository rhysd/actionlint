import AL.Props.C19Parse
import AL.Props.C05Doc
/-
  C19 from the DOCUMENT: the `matrix-duplicate` report of rule matrix in terms of what is WRITTEN under a literal `matrix:`.

  Document side (node tree + the parser's raw value of one element):
    `docMatrixRows cfg mx`  the pairs written under `matrix:` whose folded key is neither `include` nor `exclude`
    `docRaw cfg c`          the raw value `parseRawYAMLValue` builds from the element `c`
    `DocSame cfg a b`       `AL.Spec.Same` (structural equality modulo the order of mapping members, positions ignored) of
                            the raw values of two elements

  For a document the parser accepts without a diagnostic and a job whose `matrix:` is written as a mapping:
    matrix_rows_written   the rows of the matrix of the AST are the rows written, in order; a row written as a sequence holds
                          the raw values of its elements, in order
    doc_dup_at_pos        **a duplicate is reported at position `pos` iff some row sequence has at `pos` an element that is
                          the same value as an EARLIER element written in that sequence**
    docSame_scalars       for two scalar elements: the same text

  The loop of `parseMatrix` over the rows (`rowOf`, `matrixKey_rows`, `loop_rows`, also in `AL.C19D`) is followed in
  AL/Lemmas/C05DMatrix.lean.
-/
namespace AL.C19D
open AL AL.PW AL.Ast AL.Spec AL.C03P AL.C05D AL.C19P

/-! ## the parser's raw values of the elements of a sequence -/

/-- the raw value `parseRawYAMLValue` builds from an element -/
def docRaw (cfg : Cfg) (c : Yaml.Node) : Matrix.Raw := ((rawValue cfg c).1).getD (.str "" ⟨0, 0⟩)

/-- two elements are the same value -/
def DocSame (cfg : Cfg) (a b : Yaml.Node) : Prop := Same (docRaw cfg a) (docRaw cfg b)

theorem rawValue_pos (cfg : Cfg) (n : Yaml.Node) (x : Matrix.Raw) (h : (rawValue cfg n).1 = some x) : x.pos = n.pos := by
  obtain ⟨k, t, v, q, l, c, cs⟩ := n
  cases k <;> simp [rawValue] at h <;> (subst h; rfl)

/-- a sequence accepted without a diagnostic: one raw value per element, in order, at the element's position -/
theorem rawSeq_clean (cfg : Cfg) : ∀ (cs : List Yaml.Node), (rawSeq cfg cs).2 = [] →
    (rawSeq cfg cs).1 = cs.map (docRaw cfg) ∧ ∀ c ∈ cs, (docRaw cfg c).pos = c.pos
  | [], _ => by simp [rawSeq]
  | c :: cs, h => by
    simp only [rawSeq, append_nil_iff] at h
    obtain ⟨x, hx⟩ := rawValue_clean_some cfg c h.1
    obtain ⟨ih1, ih2⟩ := rawSeq_clean cfg cs h.2
    refine ⟨?_, ?_⟩
    · simp only [rawSeq, hx, List.map_cons, ih1, docRaw, Option.getD_some]
    · intro c' hc'
      rcases List.mem_cons.1 hc' with rfl | hc'
      · simp only [docRaw, hx, Option.getD_some]; exact rawValue_pos cfg _ x hx
      · exact ih2 c' hc'

/-- two scalar elements are the same value iff they have the same text -/
theorem docSame_scalars (cfg : Cfg) (a b : Yaml.Node) (ha : a.kind = .scalar) (hb : b.kind = .scalar) :
    DocSame cfg a b ↔ a.value = b.value := by
  obtain ⟨k, t, v, q, l, c, cs⟩ := a
  obtain ⟨k', t', v', q', l', c', cs'⟩ := b
  simp only [Yaml.Node.kind] at ha hb
  subst ha hb
  simp only [DocSame, docRaw, rawValue, Option.getD_some, Yaml.Node.value]
  constructor
  · intro h; cases h; rfl
  · intro h; subst h; exact .str _ _ _

/-! ## the rows of a literal `matrix:` -/

/-- the rows written under a `matrix:` mapping: the pairs whose folded key is neither `include` nor `exclude` -/
def docMatrixRows (cfg : Cfg) (mx : Yaml.Node) : List (Yaml.Node × Yaml.Node) :=
  (Yaml.pairs mx.content).filter fun p => isRowId (cfg.lower p.1.value)

/-- a clean iteration on a row written as a sequence: the sequence was clean -/
theorem matrixKey_row_clean (cfg : Cfg) (st : Ast.Matrix) (kv : KV) (hc : (matrixKey cfg st kv).2 = [])
    (hrow : isRowId kv.id = true) (hs : kv.val.kind ≠ .scalar) : (rawSeq cfg kv.val.content).2 = [] := by
  simp only [isRowId, Bool.and_eq_true, decide_eq_true_eq] at hrow
  revert hc
  simp only [matrixKey]
  split
  · rename_i h; exact absurd h hrow.1
  · rename_i h; exact absurd h hrow.2
  · simp only [hs, if_false]
    split
    · rename_i hcs
      intro hc
      have := checkSequence_clean "matrix values" kv.val false hc
      simp [this.2] at hcs
    · intro hc; exact (append_nil_iff.1 hc).2

/-- **a `matrix:` written as a mapping, accepted without a diagnostic**: its rows are the rows written, in order -/
theorem parseMatrix_rows (cfg : Cfg) (pos : Yaml.Pos) (mx : Yaml.Node) (hk : mx.kind ≠ .scalar) (h : (parseMatrix cfg pos mx).2 = []) :
    (parseMatrix cfg pos mx).1.rows.getD [] = (docMatrixRows cfg mx).map fun p => rowOf cfg (kvOf cfg false p) := by
  simp only [parseMatrix, hk, if_false, append_nil_iff, parseSectionMapping] at h ⊢
  have he := parseMapping_clean_eq cfg (sectionWhat "matrix") mx false false h.1
  have hnd := parseMapping_nodup cfg (sectionWhat "matrix") mx false false
  rw [loop_rows cfg _ _ h.2 hnd (by intro kv _; simp [rowKeys]), he]
  simp only [Option.getD_some, List.nil_append, List.filter_map, List.map_map, docMatrixRows]
  congr 2

/-- a row written as a sequence was read without a diagnostic -/
theorem parseMatrix_row_clean (cfg : Cfg) (pos : Yaml.Pos) (mx : Yaml.Node) (hk : mx.kind ≠ .scalar) (h : (parseMatrix cfg pos mx).2 = [])
    (p : Yaml.Node × Yaml.Node) (hp : p ∈ docMatrixRows cfg mx) (hs : p.2.kind ≠ .scalar) : (rawSeq cfg p.2.content).2 = [] := by
  simp only [parseMatrix, hk, if_false, append_nil_iff, parseSectionMapping] at h
  obtain ⟨hmem, hrow⟩ := List.mem_filter.1 hp
  obtain ⟨st, hc⟩ := sect_clean_at cfg _ mx false false (matrixKey cfg) _ h.1 h.2 p hmem
  have := matrixKey_row_clean cfg st (kvOf cfg false p) hc (by simpa [kvOf_false] using hrow) (by simpa [kvOf_false] using hs)
  simpa [kvOf_false] using this

/-- the view of a row the rule works on -/
def ruleRow (cfg : Cfg) (p : Yaml.Node × Yaml.Node) : Matrix.Row :=
  ⟨cfg.lower p.1.value,
   if p.2.kind = .scalar then
     (if (parseExpression p.2 "array value for matrix variations").1.isSome then none else some [])
   else some (p.2.content.map (docRaw cfg))⟩

/-- **the rows the rule checks are the rows written under `matrix:`**, in order, keyed by the folded key; a row written as
a sequence holds the raw values of its elements, in order (a row written as a scalar holds no value) -/
theorem matrix_rows_written (cfg : Cfg) (pos : Yaml.Pos) (mx : Yaml.Node) (hk : mx.kind ≠ .scalar) (h : (parseMatrix cfg pos mx).2 = []) :
    (Rules.matrixOf (parseMatrix cfg pos mx).1).rows = (docMatrixRows cfg mx).map (ruleRow cfg) := by
  simp only [Rules.matrixOf, parseMatrix_rows cfg pos mx hk h, List.map_map]
  apply List.map_congr_left
  intro p hp
  simp only [Function.comp, rowOf, kvOf_false, ruleRow]
  by_cases hs : p.2.kind = .scalar
  · simp [hs]
  · simp only [hs, if_false, Option.isSome_none, Bool.false_eq_true, Option.getD_some]
    rw [(rawSeq_clean cfg _ (parseMatrix_row_clean cfg pos mx hk h p hp hs)).1]

/-! ## the duplicate report, on the document -/

theorem idx_iff (vs : List Matrix.Raw) (p : Matrix.P) :
    (∃ k, ∃ (hk : k < vs.length), (vs[k]).pos = p ∧ ∃ i, ∃ (hi : i < k), Same (vs[i]'(Nat.lt_trans hi hk)) vs[k]) ↔
    ∃ (k : Nat) (x : Matrix.Raw), vs[k]? = some x ∧ x.pos = p ∧ ∃ (i : Nat) (y : Matrix.Raw), i < k ∧ vs[i]? = some y ∧ Same y x := by
  constructor
  · rintro ⟨k, hk, hp, i, hi, hs⟩
    exact ⟨k, vs[k], List.getElem?_eq_getElem hk, hp, i, vs[i]'(Nat.lt_trans hi hk), hi, List.getElem?_eq_getElem _, hs⟩
  · rintro ⟨k, x, hx, hp, i, y, hi, hy, hs⟩
    obtain ⟨hk, rfl⟩ := List.getElem?_eq_some_iff.1 hx
    obtain ⟨_, rfl⟩ := List.getElem?_eq_some_iff.1 hy
    exact ⟨k, hk, hp, i, hi, hs⟩

/-- **C19 (d) on the document**: for a job whose `matrix:` is written as a mapping, rule matrix reports a duplicate at
position `pos` iff some row written as a sequence has at `pos` an element that is the same value (`DocSame`) as an EARLIER
element written in the same sequence. -/
theorem doc_dup_at_pos (cfg : Cfg) (doc : Yaml.Node) (h : (parse cfg doc).2 = []) (p : Yaml.Node × Yaml.Node) (hp : p ∈ docJobs doc)
    (mx : Yaml.Node) (hmx : docMatrix p.2 = some mx) (hk : mx.kind ≠ .scalar) (pos : Matrix.P) :
    (∃ d ∈ Rules.matrixJob (docJob cfg p), d.code = "matrix-duplicate" ∧ d.pos = pos) ↔
    ∃ row ∈ docMatrixRows cfg mx, row.2.kind ≠ .scalar ∧
      ∃ (k : Nat) (c : Yaml.Node), row.2.content[k]? = some c ∧ c.pos = pos ∧ ∃ (i : Nat) (c' : Yaml.Node), i < k ∧ row.2.content[i]? = some c' ∧ DocSame cfg c' c := by
  obtain ⟨pos0, e, hc⟩ := parseJob_matrix cfg _ _ (job_clean cfg doc h p hp) mx hmx
  have hj : docJob cfg p ∈ Rules.jobsOf (parse cfg doc).1 := by
    have := job_mem cfg doc h p hp
    unfold docJobsAst at this
    exact List.mem_map.2 ⟨_, this, rfl⟩
  obtain ⟨s, hs, hm⟩ := Option.bind_eq_some_iff.1 e
  have he : (parseMatrix cfg pos0 mx).1.expr = none := (parseMatrix_lit cfg pos0 mx hk hc).1
  rw [rule_dup_at_pos cfg doc (docJob cfg p) hj s _ hs hm he pos, matrix_rows_written cfg pos0 mx hk hc]
  simp only [idx_iff, List.mem_map]
  constructor
  · rintro ⟨r, ⟨row, hrow, rfl⟩, vs, hvs, k, x, hx, hpx, i, y, hi, hy, hsame⟩
    by_cases hsc : row.2.kind = .scalar
    · simp only [ruleRow, hsc, if_true] at hvs
      split at hvs
      · cases hvs
      · simp only [Option.some.injEq] at hvs; subst hvs; simp at hx
    · simp only [ruleRow, hsc, if_false, Option.some.injEq] at hvs
      subst hvs
      simp only [List.getElem?_map, Option.map_eq_some_iff] at hx hy
      obtain ⟨c, hc1, rfl⟩ := hx
      obtain ⟨c', hc2, rfl⟩ := hy
      have hposc := (rawSeq_clean cfg _ (parseMatrix_row_clean cfg pos0 mx hk hc row hrow hsc)).2 c (List.mem_of_getElem? hc1)
      exact ⟨row, hrow, hsc, k, c, hc1, by rw [← hposc]; exact hpx, i, c', hi, hc2, hsame⟩
  · rintro ⟨row, hrow, hsc, k, c, hc1, hpc, i, c', hi, hc2, hsame⟩
    have hposc := (rawSeq_clean cfg _ (parseMatrix_row_clean cfg pos0 mx hk hc row hrow hsc)).2 c (List.mem_of_getElem? hc1)
    refine ⟨_, ⟨row, hrow, rfl⟩, row.2.content.map (docRaw cfg), by simp only [ruleRow, hsc, if_false], k, docRaw cfg c, ?_,
      by rw [hposc]; exact hpc, i, docRaw cfg c', hi, ?_, hsame⟩
    · simp [List.getElem?_map, hc1]
    · simp [List.getElem?_map, hc2]

/-- `DocSame` is what `RawYAMLValue.Equals` computes on the raw values of the two elements (decidable on a concrete document) -/
theorem docSame_iff_equals (cfg : Cfg) (a b : Yaml.Node) : DocSame cfg a b ↔ Matrix.equals (docRaw cfg a) (docRaw cfg b) = true :=
  (C19.equals_iff_same_all _ _).symm

/-! ## a concrete document

```
on: push
jobs:
  T:
    runs-on: u
    strategy:
      matrix: { OS: [linux, mac, linux, {k: x, j: y}, {j: y, k: x}],
                ver: [1, 01],
                Include: [{os: win}] }
    steps:
      - run: x
```
-/
section Example

def xCfg : Cfg := ⟨asciiLower, fun _ => none, fun _ => .err⟩
def sc (v : String) (l c : Nat) : Yaml.Node := .mk .scalar "!!str" v false l c []
def mp (l c : Nat) (cs : List Yaml.Node) : Yaml.Node := .mk .mapping "!!map" "" false l c cs
def sq (l c : Nat) (cs : List Yaml.Node) : Yaml.Node := .mk .sequence "!!seq" "" false l c cs
def xM1 : Yaml.Node := mp 6 33 [sc "k" 6 34, sc "x" 6 37, sc "j" 6 40, sc "y" 6 43]
def xM2 : Yaml.Node := mp 6 47 [sc "j" 6 48, sc "y" 6 51, sc "k" 6 54, sc "x" 6 57]
def xOs : Yaml.Node := sq 6 13 [sc "linux" 6 14, sc "mac" 6 21, sc "linux" 6 26, xM1, xM2]
def xVer : Yaml.Node := sq 7 14 [sc "1" 7 15, sc "01" 7 18]
def xMx : Yaml.Node := mp 6 9 [sc "OS" 6 9, xOs, sc "ver" 7 9, xVer, sc "Include" 8 9, sq 8 18 [mp 8 19 [sc "os" 8 20, sc "win" 8 24]]]
def xJob : Yaml.Node := mp 4 5 [sc "runs-on" 4 5, sc "u" 4 14, sc "strategy" 5 5, mp 6 7 [sc "matrix" 6 7, xMx],
  sc "steps" 9 5, sq 10 7 [mp 10 9 [sc "run" 10 9, sc "x" 10 14]]]
def pT : Yaml.Node × Yaml.Node := (sc "T" 3 3, xJob)
def xDoc : Yaml.Node := .mk .document "" "" false 1 1 [mp 1 1 [sc "on" 1 1, sc "push" 1 5, sc "jobs" 2 1, mp 3 3 [pT.1, pT.2]]]

theorem xDoc_clean : (parse xCfg xDoc).2 = [] := by decide +kernel
theorem pT_mem : pT ∈ docJobs xDoc := by rw [show docJobs xDoc = [pT] from rfl]; simp
theorem xMx_written : docMatrix pT.2 = some xMx := by rfl
theorem xMx_kind : xMx.kind ≠ .scalar := by decide
/-- the rows written: `OS` and `ver`; `Include` (folded: `include`) is no row -/
theorem xRows : docMatrixRows xCfg xMx = [(sc "OS" 6 9, xOs), (sc "ver" 7 9, xVer)] := by rfl
theorem xOs_mem : (sc "OS" 6 9, xOs) ∈ docMatrixRows xCfg xMx := by rw [xRows]; simp
theorem xMx_clean : (parseMatrix xCfg ⟨6, 7⟩ xMx).2 = [] := by decide +kernel

/-- what the rule reports on the job (evaluated) -/
theorem xRule : Rules.matrixJob (docJob xCfg pT) =
    [⟨⟨6, 26⟩, "matrix", "matrix-duplicate", ["line:6,col:14"]⟩, ⟨⟨6, 47⟩, "matrix", "matrix-duplicate", ["line:6,col:33"]⟩] := by
  decide +kernel

/-- **from what is written**: the third element of `OS:` is `linux` again — reported at its position -/
theorem example_dup_scalar : ∃ d ∈ Rules.matrixJob (docJob xCfg pT), d.code = "matrix-duplicate" ∧ d.pos = ⟨6, 26⟩ :=
  (doc_dup_at_pos xCfg xDoc xDoc_clean pT pT_mem xMx xMx_written xMx_kind ⟨6, 26⟩).2
    ⟨_, xOs_mem, by decide, 2, sc "linux" 6 26, rfl, rfl, 0, sc "linux" 6 14, by decide, rfl,
      (docSame_scalars xCfg _ _ rfl rfl).2 rfl⟩

/-- `{j: y, k: x}` is the same value as the earlier `{k: x, j: y}` (members in another order) — reported -/
theorem example_dup_mapping : ∃ d ∈ Rules.matrixJob (docJob xCfg pT), d.code = "matrix-duplicate" ∧ d.pos = ⟨6, 47⟩ :=
  (doc_dup_at_pos xCfg xDoc xDoc_clean pT pT_mem xMx xMx_written xMx_kind ⟨6, 47⟩).2
    ⟨_, xOs_mem, by decide, 4, xM2, rfl, rfl, 3, xM1, by decide, rfl, (docSame_iff_equals xCfg xM1 xM2).2 (by decide +kernel)⟩

/-- the other direction: the report at 6:26 comes from an earlier element of a row sequence that is the same value -/
example : ∃ row ∈ docMatrixRows xCfg xMx, row.2.kind ≠ .scalar ∧
    ∃ (k : Nat) (c : Yaml.Node), row.2.content[k]? = some c ∧ c.pos = ⟨6, 26⟩ ∧
      ∃ (i : Nat) (c' : Yaml.Node), i < k ∧ row.2.content[i]? = some c' ∧ DocSame xCfg c' c :=
  (doc_dup_at_pos xCfg xDoc xDoc_clean pT pT_mem xMx xMx_written xMx_kind ⟨6, 26⟩).1
    ⟨_, by rw [xRule]; exact List.mem_cons_self, rfl, rfl⟩

/-- `01` after `1` in `ver:` is NOT a duplicate: the texts differ (no numeric reading), nothing is reported at 7:18 -/
theorem example_no_dup : ¬ DocSame xCfg (sc "1" 7 15) (sc "01" 7 18) ∧
    ¬ ∃ d ∈ Rules.matrixJob (docJob xCfg pT), d.code = "matrix-duplicate" ∧ d.pos = ⟨7, 18⟩ := by
  refine ⟨fun hh => ?_, ?_⟩
  · have := (docSame_scalars xCfg _ _ rfl rfl).1 hh
    simp [sc, Yaml.Node.value] at this
  · rw [xRule]; simp

/-! ### the remaining theorems, on the example -/

example : (docRaw xCfg xM1).pos = xM1.pos := rawValue_pos xCfg xM1 _ rfl
example : (rawSeq xCfg xOs.content).1 = xOs.content.map (docRaw xCfg) ∧ ∀ c ∈ xOs.content, (docRaw xCfg c).pos = c.pos :=
  rawSeq_clean xCfg _ (by decide +kernel)
example : DocSame xCfg (sc "mac" 6 21) (sc "mac" 9 9) := (docSame_scalars xCfg _ _ rfl rfl).2 rfl
example : setAssoc "c" 2 [("a", 0), ("b", 1)] = [("a", 0), ("b", 1)] ++ [("c", 2)] := setAssoc_fresh _ _ _ (by decide)
def xKv : KV := kvOf xCfg false (sc "OS" 6 9, xOs)
def xSt : Ast.Matrix := { rows := some [], pos := ⟨6, 7⟩ }
theorem xKv_clean : (matrixKey xCfg xSt xKv).2 = [] := by decide +kernel
example : (matrixKey xCfg xSt xKv).1.rows.getD [] = xSt.rows.getD [] ++ (if isRowId xKv.id then [rowOf xCfg xKv] else []) :=
  matrixKey_rows xCfg xSt xKv xKv_clean (by simp [rowKeys, xSt])
example : (rawSeq xCfg xKv.val.content).2 = [] := matrixKey_row_clean xCfg xSt xKv xKv_clean (by decide +kernel) (by decide)
example : (loop (matrixKey xCfg) xSt [xKv]).1.rows.getD [] = xSt.rows.getD [] ++ ([xKv].filter fun kv => isRowId kv.id).map (rowOf xCfg) :=
  loop_rows xCfg [xKv] xSt (by decide +kernel) (by simp) (by simp [rowKeys, xSt])
example : (parseMatrix xCfg ⟨6, 7⟩ xMx).1.rows.getD [] = (docMatrixRows xCfg xMx).map fun p => rowOf xCfg (kvOf xCfg false p) :=
  parseMatrix_rows xCfg _ xMx xMx_kind xMx_clean
example : (rawSeq xCfg xOs.content).2 = [] := parseMatrix_row_clean xCfg ⟨6, 7⟩ xMx xMx_kind xMx_clean _ xOs_mem (by decide)
example : (Rules.matrixOf (parseMatrix xCfg ⟨6, 7⟩ xMx).1).rows = (docMatrixRows xCfg xMx).map (ruleRow xCfg) :=
  matrix_rows_written xCfg _ xMx xMx_kind xMx_clean
example : (ruleRow xCfg (sc "ver" 7 9, xVer)) = ⟨"ver", some [.str "1" ⟨7, 15⟩, .str "01" ⟨7, 18⟩]⟩ := by rfl

end Example

end AL.C19D
