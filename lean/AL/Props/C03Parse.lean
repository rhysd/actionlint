import AL.Lemmas.C03PWf
/-
  C03, parser half: **the parser drops no value scalar silently.**

  AL.C03R (`every_placeholder_checked`) says: a malformed placeholder in a string of `valueStrs w` — the value strings of
  the AST — gets a diagnostic at that string. This file closes the gap to the DOCUMENT: every scalar of the yaml.Node
  tree that is a value (`valueScalars doc`, AL/Spec/ValueScalars.lean: mapping values and sequence elements at any depth,
  walked along the documented workflow syntax, written without the parser) is a string of `valueStrs (parse cfg doc).1`
  — same text, same position — or `parse` reports a syntax diagnostic (`no_value_scalar_dropped`); with AL.C03R:
  a malformed placeholder in a value scalar of the document yields a syntax diagnostic or an expression diagnostic at that
  scalar (`placeholder_in_document_reported`). The syntax diagnostic is any diagnostic of `parse` on the document, not
  one tied to the scalar.

  How it is proved. Every parser function is taken in its "clean" case (no diagnostic appended):
    * scalars (`parseString_clean`, `parseString_leaf`, `parseBool_leaf` …)                    AL/Lemmas/C03PBase.lean
    * `parseMapping` returns one entry per pair, with pairwise distinct ids (`parseMapping_clean`, `parseMapping_nodup`);
      the key loop over distinct ids keeps what the iteration of one id stored (`loop_keyed`, `sect_K`)        C03PBase
    * per section: the strings the loop state holds under a key (`…K`), `…_store` (the iteration of a key puts every
      scalar below its value there), `…_pres` (the iterations of the other keys leave them alone), `…_sub` / `…_final`
      (they are among the value strings of the finished node):
      step, `env`, `with` of a step C03PStep · defaults, concurrency, environment, outputs, `with` / `secrets` of a call,
      container, services, runs-on C03PSect · matrix (raw values by recursion over the node), strategy C03PMatrix ·
      job C03PJob, C03PJobFin · `on:` C03PEvents · workflow C03PWf.
    * step, container, services, environment, job, `workflow_call`, `on:` and the workflow are walked once, with the
      workflow key of C12Parse attached (the `namespace AL.C12P` blocks of those files: `…K_keyed`, `parse…_leafK`);
      `…_sub` / `…_final` and `parse…_leaf` forget the key (`RepK.all`, `sub_of_keyed`, AL/Lemmas/C12PBase.lean) through
      `keyedScalars_fst` on the document side and `keyedStrs_fst` on the AST side.
  Level theorems: `scalar_not_dropped`, `step_no_value_dropped`, `job_no_value_dropped`, `on_no_value_dropped`,
  `no_value_scalar_dropped`. Findings (value scalars that ARE dropped silently, each on a concrete witness):
  `finding_bool_tagged_text`, `finding_call_input_null_default` (both + `…_document`),
  `finding_null_tagged_mapping`, `observation_collection_with_text`.
-/
namespace AL.C03P
open AL.PW AL.Yaml AL.Ast AL.C03R

/-! ## the theorems, level by level -/

/-- **level 1: scalars.** `parseString` on a node: every scalar below the node is returned — text and position — or
`parseString` reports. (`parseString_clean`: it is silent only on a scalar; `parseString_not_scalar`,
`parseString_empty`: what it reports and returns otherwise; `parseString_scalar_allowEmpty`: a null node is the empty
string where that is allowed.) -/
theorem scalar_not_dropped (n : Node) (allowEmpty : Bool) (v : Node) (hv : v ∈ leaves n) :
    (parseString n allowEmpty).2 ≠ [] ∨
      ((parseString n allowEmpty).1.value = v.value ∧ (parseString n allowEmpty).1.pos = v.pos) :=
  or_of_clean fun hc => by
    obtain ⟨s, hs, e⟩ := parseString_leaf n allowEmpty v hv hc
    rw [List.mem_singleton] at hs
    subst hs
    exact e

/-- **level 2: a step.** Every value scalar of a step node — below `name`, `if`, `run`, `shell`, `working-directory`,
`uses`, `with.<k>` (with `entrypoint`, `args`), `env.<k>`, `continue-on-error`, `timeout-minutes` and below any other key
but `id` — is a value string of the parsed step, or `parseStep` reports. -/
theorem step_no_value_dropped (cfg : Cfg) (n : Node) (v : Node) (hv : v ∈ stepScalars n) :
    (parseStep cfg n).2 ≠ [] ∨ ∃ s ∈ stepStrs (parseStep cfg n).1, s.value = v.value ∧ s.pos = v.pos :=
  or_of_clean fun hc => parseStep_leaf cfg n v hv hc

/-- **level 3: a job.** Every value scalar of a job node — `name`, `needs`, `runs-on` (labels, group), `env`,
`defaults.run.*`, `if`, `strategy` (matrix values at any nesting depth, `include`, `exclude`, `fail-fast`,
`max-parallel`), `continue-on-error`, `timeout-minutes`, `container.*`, `services.*.*`, `environment.*`, `outputs.*`,
`concurrency.*`, `uses` / `with` / `secrets` of a reusable-workflow call, every step — is a value string of the parsed
job, or `parseJob` reports. -/
theorem job_no_value_dropped (cfg : Cfg) (id : Str) (n : Node) (v : Node) (hv : v ∈ jobScalars n) :
    (parseJob cfg id n).2 ≠ [] ∨ ∃ s ∈ jobStrs (parseJob cfg id n).1, s.value = v.value ∧ s.pos = v.pos :=
  or_of_clean fun hc => parseJob_leaf cfg id n v hv hc

/-- the `on:` section on its own: every value scalar is a string of one of the events (with the output values of
`workflow_call`), or `parseEvents` reports -/
theorem on_no_value_dropped (cfg : Cfg) (pos : Yaml.Pos) (n : Node) (v : Node) (hv : v ∈ onScalars n) :
    (parseEvents cfg pos n).2 ≠ [] ∨ ∃ s ∈ onStrs ((parseEvents cfg pos n).1.getD []), s.value = v.value ∧ s.pos = v.pos :=
  or_of_clean fun hc => parseEvents_leaf cfg pos n v hv hc

/-- **C03, parser half: nothing is dropped silently.** For every document and every configuration of the parser: a value
scalar of the document is a value string of the AST — same text, same position — or the parser reports a syntax
diagnostic (anywhere in the document). -/
theorem no_value_scalar_dropped (cfg : Cfg) (doc : Node) (v : Node) (hv : v ∈ valueScalars doc) :
    (parse cfg doc).2 ≠ [] ∨ ∃ s ∈ valueStrs (parse cfg doc).1, s.value = v.value ∧ s.pos = v.pos :=
  or_of_clean fun hc => parse_leaf cfg doc v hv hc

/-- **C03 end to end.** A malformed placeholder in a value scalar of the DOCUMENT yields a syntax diagnostic of the parser
(anywhere in the document) or a diagnostic of the expression rule located at that scalar: in a document parsed without a
diagnostic no malformed placeholder of a value scalar goes unreported. -/
theorem placeholder_in_document_reported (cfg : Cfg) (lower : String → String) (isNum : AL.RuleExpr.IsNumber) (doc : Node)
    (v : Node) (hv : v ∈ valueScalars doc) (hbad : Malformed v.value) :
    (parse cfg doc).2 ≠ [] ∨ ∃ d ∈ AL.RuleExpr.rule lower isNum (parse cfg doc).1, d.site = v.pos := by
  rcases no_value_scalar_dropped cfg doc v hv with h | ⟨s, hs, hval, hpos⟩
  · exact Or.inl h
  · obtain ⟨d, hd, hsite⟩ := every_placeholder_checked lower isNum (parse cfg doc).1 s hs (by rw [hval]; exact hbad)
    exact Or.inr ⟨d, hd, by rw [hsite, hpos]⟩

/-! ## instances: the hypotheses are met by ordinary documents and both disjuncts occur -/

section Examples

/-- a plain scalar at `line:col` -/
def sc (tag v : String) (l c : Nat) : Node := .mk .scalar tag v false l c []
def mp (l c : Nat) (cs : List Node) : Node := .mk .mapping "!!map" "" false l c cs
def sq (l c : Nat) (cs : List Node) : Node := .mk .sequence "!!seq" "" false l c cs
def key (v : String) (l c : Nat) : Node := sc "!!str" v l c

/-- the configuration the examples run with (ASCII lower-casing; the numbers do not occur) -/
def exCfg : Cfg := ⟨asciiLower, fun _ => none, fun _ => .err⟩

/-! level 1 -/

/-- `run: make` — the scalar is returned -/
example : sc "!!str" "make" 2 8 ∈ leaves (sc "!!str" "make" 2 8) ∧ (parseString (sc "!!str" "make" 2 8) false).2 = [] ∧
    (parseString (sc "!!str" "make" 2 8) false).1 = ⟨"make", false, ⟨2, 8⟩⟩ := ⟨by simp [sc, leaves], rfl, rfl⟩

/-- `run: [make]` — a scalar below a sequence where a string is expected: reported, and NOT returned -/
example : sc "!!str" "make" 2 9 ∈ leaves (sq 2 8 [sc "!!str" "make" 2 9]) ∧
    (parseString (sq 2 8 [sc "!!str" "make" 2 9]) false).2 = [⟨⟨2, 8⟩, "not-scalar-string", ["sequence", "!!seq"]⟩] ∧
    (parseString (sq 2 8 [sc "!!str" "make" 2 9]) false).1.value ≠ "make" :=
  ⟨by simp [sc, sq, leaves, leavesSeq], rfl, by decide⟩

/-! level 2 -/

/--
```
- name: build
  id: b
  run: make ${{
```
-/
def exStep : Node :=
  mp 1 3 [key "name" 1 3, sc "!!str" "build" 1 9, key "id" 2 3, sc "!!str" "b" 2 7, key "run" 3 3, sc "!!str" "make ${{" 3 8]

/-- the value scalars of the step: `name` and `run` — not the `id` -/
example : stepScalars exStep = [sc "!!str" "build" 1 9, sc "!!str" "make ${{" 3 8] := rfl

/-- second disjunct: the step parses silently and the `run` scalar is a value string of the step -/
example (cfg : Cfg) : (parseStep cfg exStep).2 = [] ∧
    ∃ s ∈ stepStrs (parseStep cfg exStep).1, s.value = "make ${{" ∧ s.pos = ⟨3, 8⟩ := by
  have hc : (parseStep cfg exStep).2 = [] := rfl
  have hv : sc "!!str" "make ${{" 3 8 ∈ stepScalars exStep := by
    rw [show stepScalars exStep = [sc "!!str" "build" 1 9, sc "!!str" "make ${{" 3 8] from rfl]; simp
  exact ⟨hc, (step_no_value_dropped cfg exStep _ hv).resolve_left (fun h => h hc)⟩

/-- `- run: make` with `working-directory: [src]`: first disjunct — reported — and the scalar `src` is NOT a value string -/
def exStepBad : Node :=
  mp 1 3 [key "run" 1 3, sc "!!str" "make" 1 8, key "working-directory" 2 3, sq 2 22 [sc "!!str" "src" 2 23]]

/-- the step, evaluated once: `workingDirectory` holds the empty string at the sequence's position -/
theorem exStepBad_parsed (cfg : Cfg) : parseStep cfg exStepBad =
    ({ exec := .run { run := some ⟨"make", false, ⟨1, 8⟩⟩, workingDirectory := some ⟨"", false, ⟨2, 22⟩⟩, runPos := some ⟨1, 3⟩ },
       pos := ⟨1, 3⟩ }, [⟨⟨2, 22⟩, "not-scalar-string", ["sequence", "!!seq"]⟩]) := by rfl

example (cfg : Cfg) : sc "!!str" "src" 2 23 ∈ stepScalars exStepBad ∧
    (parseStep cfg exStepBad).2 = [⟨⟨2, 22⟩, "not-scalar-string", ["sequence", "!!seq"]⟩] ∧
    ¬ ∃ s ∈ stepStrs (parseStep cfg exStepBad).1, s.value = "src" := by
  rw [exStepBad_parsed cfg]
  refine ⟨?_, rfl, by decide⟩
  rw [show stepScalars exStepBad = [sc "!!str" "make" 1 8, sc "!!str" "src" 2 23] from rfl]; simp

/-! level 3 -/

/--
```
build:
  runs-on: ubuntu-latest
  strategy:
    matrix:
      os: [linux, {arch: [x64, "${{"]}]
  steps:
    - run: make
```
-/
def exJob : Node :=
  mp 2 5 [key "runs-on" 2 5, sc "!!str" "ubuntu-latest" 2 14,
    key "strategy" 3 5, mp 4 7 [key "matrix" 4 7, mp 5 9 [key "os" 5 9,
      sq 5 13 [sc "!!str" "linux" 5 14, mp 5 21 [key "arch" 5 22, sq 5 28 [sc "!!str" "x64" 5 29, sc "!!str" "${{" 5 34]]]]],
    key "steps" 6 5, sq 7 7 [mp 7 9 [key "run" 7 9, sc "!!str" "make" 7 14]]]

theorem exJob_scalars : jobScalars exJob =
    [sc "!!str" "ubuntu-latest" 2 14, sc "!!str" "linux" 5 14, sc "!!str" "x64" 5 29, sc "!!str" "${{" 5 34, sc "!!str" "make" 7 14] := rfl

example : jobScalars exJob =
    [sc "!!str" "ubuntu-latest" 2 14, sc "!!str" "linux" 5 14, sc "!!str" "x64" 5 29, sc "!!str" "${{" 5 34, sc "!!str" "make" 7 14] :=
  exJob_scalars

/-- second disjunct: the job parses silently; the scalar three levels down in the matrix is a value string of the job -/
example : (parseJob exCfg ⟨"build", false, ⟨1, 3⟩⟩ exJob).2 = [] ∧
    ∃ s ∈ jobStrs (parseJob exCfg ⟨"build", false, ⟨1, 3⟩⟩ exJob).1, s.value = "${{" ∧ s.pos = ⟨5, 34⟩ := by
  have hc : (parseJob exCfg ⟨"build", false, ⟨1, 3⟩⟩ exJob).2 = [] := by decide +kernel
  have hv : sc "!!str" "${{" 5 34 ∈ jobScalars exJob := by rw [exJob_scalars]; simp
  exact ⟨hc, (job_no_value_dropped exCfg _ exJob _ hv).resolve_left (fun h => h hc)⟩

/-- a job with `env: [A]`: first disjunct — reported — and `A` is NOT a value string -/
def exJobBad : Node :=
  mp 2 5 [key "runs-on" 2 5, sc "!!str" "ubuntu-latest" 2 14, key "env" 3 5, sq 3 10 [sc "!!str" "A" 3 11],
    key "steps" 4 5, sq 5 7 [mp 5 9 [key "run" 5 9, sc "!!str" "make" 5 14]]]

example : sc "!!str" "A" 3 11 ∈ jobScalars exJobBad ∧ (parseJob exCfg ⟨"build", false, ⟨1, 3⟩⟩ exJobBad).2 ≠ [] ∧
    ¬ ∃ s ∈ jobStrs (parseJob exCfg ⟨"build", false, ⟨1, 3⟩⟩ exJobBad).1, s.value = "A" := by
  refine ⟨?_, by decide +kernel⟩
  rw [show jobScalars exJobBad = [sc "!!str" "ubuntu-latest" 2 14, sc "!!str" "A" 3 11, sc "!!str" "make" 5 14] from rfl]; simp

/-! the `on:` section -/

/--
```
on:
  push:
    branches: [main, "${{"]
  workflow_dispatch:
    inputs:
      x: {type: choice, options: [a], default: b}
```
-/
def exOn : Node :=
  mp 2 3 [key "push" 2 3, mp 3 5 [key "branches" 3 5, sq 3 15 [sc "!!str" "main" 3 16, sc "!!str" "${{" 3 22]],
    key "workflow_dispatch" 4 3, mp 5 5 [key "inputs" 5 5, mp 6 7 [key "x" 6 7,
      mp 6 10 [key "type" 6 11, sc "!!str" "choice" 6 17, key "options" 6 25, sq 6 34 [sc "!!str" "a" 6 35],
        key "default" 6 39, sc "!!str" "b" 6 48]]]]

/-- the filter patterns, the options and the default — not the event names (keys), not the input `type` -/
theorem exOn_scalars :
    onScalars exOn = [sc "!!str" "main" 3 16, sc "!!str" "${{" 3 22, sc "!!str" "a" 6 35, sc "!!str" "b" 6 48] := rfl

example : onScalars exOn = [sc "!!str" "main" 3 16, sc "!!str" "${{" 3 22, sc "!!str" "a" 6 35, sc "!!str" "b" 6 48] :=
  exOn_scalars

example : (parseEvents exCfg ⟨1, 1⟩ exOn).2 = [] ∧
    ∃ s ∈ onStrs ((parseEvents exCfg ⟨1, 1⟩ exOn).1.getD []), s.value = "${{" ∧ s.pos = ⟨3, 22⟩ := by
  have hc : (parseEvents exCfg ⟨1, 1⟩ exOn).2 = [] := by decide +kernel
  have hv : sc "!!str" "${{" 3 22 ∈ onScalars exOn := by rw [exOn_scalars]; simp
  exact ⟨hc, (on_no_value_dropped exCfg ⟨1, 1⟩ exOn _ hv).resolve_left (fun h => h hc)⟩

/-- `on: {push: {branches: {a: b}}}`: first disjunct — reported — and `b` is NOT a string of the event -/
def exOnBad : Node :=
  mp 2 3 [key "push" 2 3, mp 3 5 [key "branches" 3 5, mp 3 15 [key "a" 3 16, sc "!!str" "b" 3 19]]]

example : sc "!!str" "b" 3 19 ∈ onScalars exOnBad ∧ (parseEvents exCfg ⟨1, 1⟩ exOnBad).2 ≠ [] ∧
    ¬ ∃ s ∈ onStrs ((parseEvents exCfg ⟨1, 1⟩ exOnBad).1.getD []), s.value = "b" := by
  refine ⟨?_, by decide +kernel⟩
  rw [show onScalars exOnBad = [sc "!!str" "b" 3 19] from rfl]; simp

/-! level 4 and the end-to-end corollary -/

/--
```
run-name: ${{
on:
  workflow_call:
    outputs:
      out: {value: v}
jobs:
  build:  … exJob …
```
-/
def exDoc : Node :=
  .mk .document "" "" false 1 1 [mp 1 1 [key "run-name" 1 1, sc "!!str" "${{" 1 11,
    key "on" 2 1, mp 3 3 [key "workflow_call" 3 3, mp 4 5 [key "outputs" 4 5, mp 5 7 [key "out" 5 7,
      mp 5 12 [key "value" 5 13, sc "!!str" "v" 5 20]]]],
    key "jobs" 6 1, mp 7 3 [key "build" 7 3, exJob]]]

theorem exDoc_scalars : valueScalars exDoc =
    [sc "!!str" "${{" 1 11, sc "!!str" "v" 5 20,
     sc "!!str" "ubuntu-latest" 2 14, sc "!!str" "linux" 5 14, sc "!!str" "x64" 5 29, sc "!!str" "${{" 5 34, sc "!!str" "make" 7 14] := rfl

example : valueScalars exDoc =
    [sc "!!str" "${{" 1 11, sc "!!str" "v" 5 20,
     sc "!!str" "ubuntu-latest" 2 14, sc "!!str" "linux" 5 14, sc "!!str" "x64" 5 29, sc "!!str" "${{" 5 34, sc "!!str" "make" 7 14] :=
  exDoc_scalars

theorem exDoc_clean : (parse exCfg exDoc).2 = [] := by decide +kernel

/-- second disjunct at the top level, in the `on:` section (the output value, checked after the jobs) and deep in a job -/
example : ∀ v ∈ [sc "!!str" "${{" 1 11, sc "!!str" "v" 5 20, sc "!!str" "${{" 5 34],
    ∃ s ∈ valueStrs (parse exCfg exDoc).1, s.value = v.value ∧ s.pos = v.pos := by
  intro v hv
  refine (no_value_scalar_dropped exCfg exDoc v ?_).resolve_left (fun h => h exDoc_clean)
  rw [exDoc_scalars]
  simp only [List.mem_cons, List.not_mem_nil, or_false] at hv ⊢
  rcases hv with rfl | rfl | rfl <;> simp

/-- end to end: the unclosed `${{` of `run-name` and the one in the matrix each get a diagnostic of the expression rule at
their own position — the parser being silent, the second disjunct is the one that holds -/
example (lower : String → String) (isNum : AL.RuleExpr.IsNumber) :
    (∃ d ∈ AL.RuleExpr.rule lower isNum (parse exCfg exDoc).1, d.site = ⟨1, 11⟩) ∧
    (∃ d ∈ AL.RuleExpr.rule lower isNum (parse exCfg exDoc).1, d.site = ⟨5, 34⟩) := by
  constructor
  · exact (placeholder_in_document_reported exCfg lower isNum exDoc (sc "!!str" "${{" 1 11) (by rw [exDoc_scalars]; simp)
      malformed_open).resolve_left (fun h => h exDoc_clean)
  · exact (placeholder_in_document_reported exCfg lower isNum exDoc (sc "!!str" "${{" 5 34) (by rw [exDoc_scalars]; simp)
      malformed_open).resolve_left (fun h => h exDoc_clean)

/-- a document with `name: [x]`: first disjunct — the parser reports — and `x` is NOT a value string of the AST -/
def exDocBad : Node :=
  .mk .document "" "" false 1 1 [mp 1 1 [key "name" 1 1, sq 1 7 [sc "!!str" "x" 1 8], key "on" 2 1, sc "!!str" "push" 2 5,
    key "jobs" 3 1, mp 4 3 [key "build" 4 3, exJob]]]

example : sc "!!str" "x" 1 8 ∈ valueScalars exDocBad ∧
    (parse exCfg exDocBad).2 = [⟨⟨1, 7⟩, "not-scalar-string", ["sequence", "!!seq"]⟩] ∧
    ¬ ∃ s ∈ valueStrs (parse exCfg exDocBad).1, s.value = "x" := by
  refine ⟨?_, by decide +kernel⟩
  rw [show valueScalars exDocBad = [sc "!!str" "x" 1 8, sc "!!str" "ubuntu-latest" 2 14, sc "!!str" "linux" 5 14,
    sc "!!str" "x64" 5 29, sc "!!str" "${{" 5 34, sc "!!str" "make" 7 14] from rfl]; simp

/-! ## findings: where a value scalar IS dropped without a diagnostic

Each is excluded from `valueScalars` at exactly that position (see AL/Spec/ValueScalars.lean) and proved here on a
concrete witness. All need an explicit YAML tag on the scalar (or a tree no YAML text produces), so none is reachable
with a placeholder written the ordinary way. -/

/-- **FINDING 1 (`!!bool`-tagged text).** At a boolean position (`continue-on-error`, `fail-fast`, `cancel-in-progress`,
`required`) a scalar tagged `!!bool` is taken as a literal WHATEVER ITS TEXT: `parseBool` compares the text with "true"
and reports nothing. With an explicit tag (`continue-on-error: !!bool "${{ x"`) the text is dropped silently: no syntax
diagnostic, no string in the AST. (The `!!int` / `!!float` counterparts go through `strconv` and are reported when the
text is not a number.) -/
theorem finding_bool_tagged_text (t : String) (q : Bool) (l c : Nat) (cs : List Node) :
    (parseBool (.mk .scalar "!!bool" t q l c cs)).2 = [] ∧ boolStrs (parseBool (.mk .scalar "!!bool" t q l c cs)).1 = [] := by
  simp [parseBool, Node.kind, Node.tag, boolStrs]

/--
```
on: push
jobs:
  build:
    runs-on: ubuntu-latest
    steps:
      - run: make
        continue-on-error: !!bool "${{ x"
```
-/
def exDocBoolTag : Node :=
  .mk .document "" "" false 1 1 [mp 1 1 [key "on" 1 1, sc "!!str" "push" 1 5,
    key "jobs" 2 1, mp 3 3 [key "build" 3 3, mp 4 5 [key "runs-on" 4 5, sc "!!str" "ubuntu-latest" 4 14,
      key "steps" 5 5, sq 6 7 [mp 6 9 [key "run" 6 9, sc "!!str" "make" 6 14,
        key "continue-on-error" 7 9, sc "!!bool" "${{ x" 7 28]]]]]]

/-- the witness of finding 1 in a whole document: parsed silently, and no string of the AST sits at the scalar's position -/
theorem finding_bool_tagged_text_document :
    (parse exCfg exDocBoolTag).2 = [] ∧ ¬ ∃ s ∈ valueStrs (parse exCfg exDocBoolTag).1, s.pos = ⟨7, 28⟩ := by
  decide +kernel

/-- the scalar is outside `valueScalars` only because of its tag: the same scalar tagged `!!str` is a value scalar -/
example : valueScalars exDocBoolTag = [sc "!!str" "ubuntu-latest" 4 14, sc "!!str" "make" 6 14] := rfl

/-- **FINDING 2 (null `default:` of a `workflow_call` input).** `default:` with a node tagged `!!null` sets no default and
reports nothing, whatever the text of the node (`default: !!null "${{ x"`); for the ordinary null (`default:` / `~` /
`null`) that is the intended reading. -/
theorem finding_call_input_null_default (st : CallInput × Bool) (key : Str) (t : String) (q : Bool) (l c : Nat) (cs : List Node) :
    callInputAttr st ⟨"default", key, .mk .scalar "!!null" t q l c cs⟩ = (st, []) := by
  simp [callInputAttr, Node.isNull, Node.kind, Node.tag]

/--
```
on:
  workflow_call:
    inputs:
      x: {type: string, default: !!null "${{ x"}
jobs: … exJob …
```
-/
def exDocNullDefault : Node :=
  .mk .document "" "" false 1 1 [mp 1 1 [key "on" 1 1, mp 2 3 [key "workflow_call" 2 3, mp 3 5 [key "inputs" 3 5,
      mp 4 7 [key "x" 4 7, mp 4 10 [key "type" 4 11, sc "!!str" "string" 4 17, key "default" 4 25, sc "!!null" "${{ x" 4 34]]]],
    key "jobs" 5 1, mp 6 3 [key "build" 6 3, exJob]]]

theorem finding_call_input_null_default_document :
    (parse exCfg exDocNullDefault).2 = [] ∧ ¬ ∃ s ∈ valueStrs (parse exCfg exDocNullDefault).1, s.pos = ⟨4, 34⟩ := by
  decide +kernel

/-- **FINDING 3 (null-tagged node where a mapping may be empty).** Where the syntax has an optional mapping (`on.<event>`,
`workflow_dispatch.inputs` and each input, `workflow_call.inputs` / `secrets` / `outputs` and each entry) a node tagged
`!!null` is the empty mapping — the intended reading of `push:` — whatever its text: `push: !!null "${{ x"` is parsed
silently. (`mapScalars` takes a null node for the empty mapping.) -/
theorem finding_null_tagged_mapping (cfg : Cfg) (what t : String) (q cs : Bool) (l c : Nat) :
    parseMapping cfg what (.mk .scalar "!!null" t q l c []) true cs = ([], []) := by
  simp [parseMapping, Node.isNull, Node.kind, Node.tag, Node.content, pairs, mappingLoop]

/-- **Observation (model only).** `mayParseExpression` reads the `Value` of the node without looking at its kind. A
collection node with a text — which yaml.v3 never produces — is taken for one `${{ }}`, its content is dropped silently:
the reason for the guard `exprPos` at `services`, `runs-on`, `runs-on.labels`. -/
theorem observation_collection_with_text (cfg : Cfg) :
    parseServices cfg (.mk .mapping "!!str" "${{ x }}" false 3 5 [key "db" 4 7, sc "!!str" "redis" 4 11]) =
      (⟨none, some ⟨"${{ x }}", false, ⟨3, 5⟩⟩, ⟨3, 5⟩⟩, []) := by
  have : mayParseExpression (.mk .mapping "!!str" "${{ x }}" false 3 5 [key "db" 4 7, sc "!!str" "redis" 4 11]) =
      some ⟨"${{ x }}", false, ⟨3, 5⟩⟩ := by decide +kernel
  simp only [parseServices, this]
  rfl

end Examples

end AL.C03P
