import AL.Model.RuleExpr
/-
  C05 on AL.RuleExpr (all of rule_expression.go, tied by `exprwf`): how the rule's state evolves, one RECORD equation per
  state transformer. A step moves `steps` by `AL.Visit.addStep` — the function the scope theorems of AL.Props.C05Visit /
  C09Visit are about — after the step's own strings were checked (`visitStep_fst`, `visitSteps_fst`); an event of `on:`
  moves the header by `eventHdr` (`visitEvent_fst`, `visitEvents_fst`); nothing else moves. What a file needs of the state
  after steps or events (the folding function, the project view, `jobs`, `matrix`, `needs`, …) it reads off these
  equations: `rw`, then `rfl`. The states inside a job are composed from them in AL.Props.C05Scope (`jobCx_eq`, `stepCx_eq`,
  `ruleCx_eq`).
-/
namespace AL.C05E
open AL AL.Ast AL.Sema AL.RuleExpr

/-- the abstract step (AL.Visit) of an AST step -/
def stepM (cx : Cx) (n : Step) : AL.Visit.StepM :=
  { id := n.id.map (·.value),
    idExpr := match n.id with | some i => AL.Rules.containsExpr i | none => false,
    outputs := actionOutputsTy cx.proj.actionOutputs (stepExec cx n.exec).2,
    probes := [] }

/-- **the state after a step** is the state before it with `Visit.addStep` of the step on `steps`: a step's own strings are
checked under the scope BEFORE the step, and nothing but `steps` moves. Every component of the state after a step is read
off this equation (`rw`, then `rfl`). -/
theorem visitStep_fst (cx : Cx) (n : Step) :
    (visitStep cx n).1 =
      { cx with st := { cx.st with stepsTy := cx.st.stepsTy.map fun t => AL.Visit.addStep cx.lower t (stepM cx n) } } := by
  simp only [visitStep, stepM]
  cases hid : n.id with
  | none => cases h : cx.st.stepsTy <;> simp [AL.Visit.addStep, ← h]
  | some id =>
    cases cx.st.stepsTy with
    | none => rfl
    | some t =>
      simp only [Option.map_some, AL.Visit.addStep]
      generalize (if AL.Rules.containsExpr id = true then AL.Visit.loosen t else t) = t'
      cases t' <;> rfl

/-- … after a list of steps: nothing but `steps` has moved (what `steps` is then: `AL.C05S.visitSteps_stepsTy`) -/
theorem visitSteps_fst : ∀ (ss : List Step) (cx : Cx),
    (visitSteps cx ss).1 = { cx with st := { cx.st with stepsTy := (visitSteps cx ss).1.st.stepsTy } }
  | [], _ => rfl
  | s :: ss, cx => by
    simp only [visitSteps]
    rw [visitSteps_fst ss, visitStep_fst cx s]

theorem visitStep_scope (cx : Cx) (n : Step) :
    (visitStep cx n).1.st.stepsTy = cx.st.stepsTy.map (fun t => AL.Visit.addStep cx.lower t (stepM cx n)) ∧
    (visitStep cx n).1.st.matrixTy = cx.st.matrixTy ∧ (visitStep cx n).1.st.needsTy = cx.st.needsTy ∧
    (visitStep cx n).1.hdr = cx.hdr ∧ (visitStep cx n).1.lower = cx.lower ∧ (visitStep cx n).1.jobsTy = cx.jobsTy := by
  rw [visitStep_fst]
  exact ⟨rfl, rfl, rfl, rfl, rfl, rfl⟩

/-- the diagnostics of a step do not depend on the steps after it -/
theorem visitSteps_prefix (cx : Cx) (pre post : List Step) :
    (visitSteps cx (pre ++ post)).2 = (visitSteps cx pre).2 ++ (visitSteps (visitSteps cx pre).1 post).2 ∧
    (visitSteps cx (pre ++ post)).1 = (visitSteps (visitSteps cx pre).1 post).1 := by
  induction pre generalizing cx with
  | nil => simp [visitSteps]
  | cons s rest ih =>
    simp only [List.cons_append, visitSteps]
    obtain ⟨h1, h2⟩ := ih (visitStep cx s).1
    rw [h1, h2]
    simp [List.append_assoc]

theorem visitSteps_scope (steps : List Step) : ∀ (cx : Cx),
    (visitSteps cx steps).1.st.matrixTy = cx.st.matrixTy ∧ (visitSteps cx steps).1.st.needsTy = cx.st.needsTy ∧
    (visitSteps cx steps).1.hdr = cx.hdr ∧ (visitSteps cx steps).1.lower = cx.lower := by
  intro cx
  rw [visitSteps_fst]
  exact ⟨rfl, rfl, rfl, rfl⟩

end AL.C05E

/-! ### the events of `on:` (under the names of AL.Props.C05Scope, whose §4 is about the header they leave) -/

namespace AL.C05S
open AL AL.Ast AL.Sema AL.RuleExpr
open AL.Visit (Header)

/-- what one event of `on:` does to the header (`VisitWorkflowPre`) -/
def eventHdr (hdr : Header) : Ast.Event → Header
  | .dispatch inputs _ => { hdr with dispatchInputs := some ((inputs.getD []).map fun kv => (kv.1, dispatchTy kv.2.type)) }
  | .call inputs secrets _ _ =>
    { hdr with callInputs := some ((inputs.getD []).map fun i => (i.id, callTy i.type)),
               callSecrets := match secrets with | some ss => some (ss.map (·.1)) | none => hdr.callSecrets }
  | _ => hdr

theorem callInputs_fst (cx : Cx) : ∀ (l : List Ast.CallInput) (acc : List (String × Ty)),
    (callInputs cx acc l).1 = acc ++ l.map (fun i => (i.id, callTy i.type)) := by
  intro l
  induction l with
  | nil => intro acc; simp [callInputs]
  | cons i rest ih =>
    intro acc
    simp only [callInputs, ih, List.map_cons, List.append_assoc, List.singleton_append]

/-- **the state after an event**: the header moves by `eventHdr`, nothing else moves -/
theorem visitEvent_fst (cx : Cx) (e : Ast.Event) : (visitEvent cx e).1 = { cx with hdr := eventHdr cx.hdr e } := by
  cases e with
  | call ins secs outs p =>
    simp only [visitEvent, eventHdr, callInputs_fst, List.nil_append]
    cases secs <;> rfl
  | _ => rfl

/-- **the state after `on:`**: the header is `eventHdr` folded over the events; the per-job state, `jobs`, the project are
untouched -/
theorem visitEvents_fst : ∀ (es : List Ast.Event) (cx : Cx),
    (visitEvents cx es).1 = { cx with hdr := es.foldl eventHdr cx.hdr }
  | [], _ => rfl
  | e :: es, cx => by
    simp only [visitEvents, List.foldl_cons]
    rw [visitEvents_fst es, visitEvent_fst cx e]

end AL.C05S
