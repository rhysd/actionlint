import AL.Props.C04
import AL.Props.C04Lex
import AL.Props.C03Parse
import AL.Props.C11Rule
import AL.Lemmas.C04RChain
/-
  C04 on the model of rule_expression.go: **a placeholder whose text is outside the documented expression grammar is
  reported — from the grammar to the diagnostics.**

  AL.C04 ties lexer and parser to the declarative grammar (AL/Spec/ExprLexical.lean: how a token is spelled;
  AL/Spec/ExprGrammar.lean: which token sequences are sentences). Here the grammar is lifted to the TEXT behind a `${{`
  (`Reading`, `InGrammar`, `InGrammarStrict`) and followed through `checkOne` / `checkExprsIn` / the rule / the parser of
  the workflow down to the diagnostics of a document.

    §0  the one syntax code (`syntaxCodes`); the semantic checker never uses it (`check_noSyn`, `checkParsed_noSyn`);
        the verdict of lexer + parser (`accepted`) IS the syntax code of a placeholder, whatever the scope
        (`checkOne_syntax_iff`, `checkOne_syntax_scope_free`)
    §1  the grammar of a placeholder's text; `der_same` (sentences do not depend on positions);
        `accepted_inGrammar` (lexer + parser accept ⇒ in the grammar), `inGrammarStrict_accepted` (in the grammar with
        longest-match tokens and clean characters ⇒ accepted, with the grammar's tree)
    §2  from the grammar to `checkOne` / `checkExprsIn`: `violation_syntax_error`, `violation_syntax_error_split`,
        `unterminated_syntax_error`, `not_inGrammar_of_head`, `malformed_of_violation`
    §3  conversely, a syntax code comes from the grammar only: `checkOne_of_inGrammar`, `inGrammar_no_syntax`,
        `syntax_code_outside_grammar`, `syntax_from_first_bad`, `checkExprsIn_syntax_iff`, `no_syntax_of_all_inGrammar`,
        `single_placeholder_noSyn`
    §4  end to end: `grammar_violation_in_workflow_reported`, `grammar_violation_in_document_reported` (with the syntax
        code, with or without a project; over the coverage chain of AL/Lemmas/C04RChain.lean)
    §5  concrete texts: `${{ a b }}`, `${{ 1 + 2 }}`, `${{ a.'b' }}`, `${{ x[ }}`, `${{ "a" }}`, `echo ${{ a` (reported,
        in every scope), `${{ !x }}` (in the grammar: never a syntax code), documents

  The two directions use two readings of "in the grammar", as AL.C04 does at the level of one token (`lex_spelling'` /
  `lex_tiles` vs `lex_complete`): acceptance implies a READING (`InGrammar`); a reading implies acceptance when its tokens
  are longest-match and its characters valid UTF-8 / not NUL (`InGrammarStrict`). Witnesses that neither can be dropped
  and of the other limits, all in §5: `loose_reading_rejected` (`1.a` reads as `1` `.` `a` but `1.` starts a fraction),
  `bom_accepted_outside_grammar` (the byte-order mark: accepted, no diagnostic, not in the grammar — the finding of
  `AL.C04.lex_spelling_counterexample` at the level of the rule), `close_inside_string` (a `}}` inside a string literal does
  not close the placeholder: the theorems speak of the text behind `${{`, not of the text up to the first `}}`),
  `later_violation_not_reported` (a grammar violation behind a placeholder that has a diagnostic of its own is not
  reported: the known limit `placeholders-after-first-diagnostic`).
-/
namespace AL.C04R
open AL AL.Lex AL.Parse AL.Spec AL.Ast AL.Sema AL.RuleExpr

/-! ## 0. the syntax code -/

/-- the codes `checkOne` uses for what lexer and parser reject: ONE code — the model does not keep the lexer's / parser's
message apart (the message texts are the subject of AL.Msg); every `LexMsg` / `ParseMsg` ends up as this code -/
def syntaxCodes : List String := ["syntax-error"]

def isSyntax (e : SemaErr) : Prop := e.code ∈ syntaxCodes

theorem isSyntax_iff (e : SemaErr) : isSyntax e ↔ e.code = "syntax-error" := by
  simp [isSyntax, syntaxCodes]

instance (e : SemaErr) : Decidable (isSyntax e) := by unfold isSyntax; exact inferInstance

theorem syntaxErr_has : ∃ e ∈ [err "syntax-error" []], isSyntax e :=
  ⟨_, List.mem_singleton.2 rfl, List.mem_singleton.2 rfl⟩

/-- a list of diagnostics without a syntax code -/
def NoSyn (es : List SemaErr) : Prop := ∀ e ∈ es, ¬ isSyntax e

theorem NoSyn.nil : NoSyn [] := fun _ h => nomatch h

theorem noSyn_append {a b : List SemaErr} : NoSyn (a ++ b) ↔ NoSyn a ∧ NoSyn b := by
  simp only [NoSyn, List.mem_append]
  exact ⟨fun h => ⟨fun e he => h e (.inl he), fun e he => h e (.inr he)⟩, fun h e he => he.elim (h.1 e) (h.2 e)⟩

theorem syntax_not_local : "syntax-error" ∉ localCodes := codes_not_sema.2.2.2
theorem syntax_not_call : "syntax-error" ∉ callCodes := codes_not_sema.2.2.1

theorem keep_var_syntax (Γ : Sema.Env) (n : String) : keep "syntax-error" (check Γ (.var n)).errs = [] :=
  keep_var_free codes_not_sema.2.1 Γ n

theorem keep_resolveCall_syntax (Γ : Sema.Env) (c : String) (sigs : List Sig) (fl : Option String) (tys : List Ty) :
    keep "syntax-error" (resolveCall Γ c sigs fl tys).2 = [] :=
  keep_resolveCall_free codes_not_sema.2.1 syntax_not_call Γ c sigs fl tys

theorem srcErrs_syntax (Γ : Sema.Env) : ∀ (e : E), srcErrs Γ "syntax-error" e = [] :=
  srcErrs_free codes_not_sema.2.1 syntax_not_call Γ
theorem srcErrsList_syntax (Γ : Sema.Env) : ∀ (es : List E), srcErrsList Γ "syntax-error" es = [] :=
  srcErrsList_free codes_not_sema.2.1 syntax_not_call Γ

/-- **the semantic checker never emits the syntax code**, whatever the environment and the expression -/
theorem check_noSyn (Γ : Sema.Env) (e : E) : NoSyn (check Γ e).errs :=
  fun x hx hc => check_code_free codes_not_sema.2.1 syntax_not_call syntax_not_local Γ e x hx ((isSyntax_iff x).1 hc)

/-- … nor does the check of a parsed placeholder, with the untrusted-input check on top or not -/
theorem checkParsed_noSyn (cx : Cx) (key : String) (u : Bool) (pe : AL.Parse.Expr) (off : Nat) :
    NoSyn (checkParsed cx key u pe off).2 := by
  unfold checkParsed
  simp only
  generalize hΓ : check _ (toE cx.lower pe) = r
  generalize hU : (if u = true then _ else ([] : List SemaErr)) = us
  have hus : NoSyn us := by
    subst hU
    split
    · intro x hx hc
      rw [isSyntax_iff] at hc
      obtain ⟨p, _, rfl⟩ := List.mem_map.1 hx
      simp [err] at hc
    · exact NoSyn.nil
  split
  · exact NoSyn.nil
  · exact noSyn_append.2 ⟨hΓ ▸ check_noSyn _ _, hus⟩

/-! ### lexer + parser as ONE verdict -/

/-- lexer and parser both accept the text after a `${{` -/
def accepted (src : List Sym) : Bool :=
  match lexExpression src, parseToks (tokens src) with
  | .ok _, .ok _ => true
  | _, _ => false

theorem accepted_iff (src : List Sym) :
    accepted src = true ↔ (∃ ts off, lexExpression src = .ok (ts, off)) ∧ ∃ pe, parseToks (tokens src) = .ok pe := by
  unfold accepted
  constructor
  · intro h
    split at h
    · rename_i r pe h1 h2
      exact ⟨⟨r.1, r.2, h1⟩, pe, h2⟩
    · cases h
  · rintro ⟨⟨ts, off, h1⟩, pe, h2⟩
    rw [h1, h2]

/-- rejected by lexer or parser ⇒ exactly the one syntax diagnostic, and the loop of `checkExprsIn` stops -/
theorem checkOne_of_rejected (cx : Cx) (key : String) (u : Bool) (rest : List Nat)
    (h : accepted (decodeUtf8 rest) = false) : checkOne cx key u rest = (none, [err "syntax-error" []]) := by
  unfold checkOne
  unfold accepted at h
  split
  · rename_i h1 h2
    rw [h1, h2] at h
    cases h
  · rfl

/-- accepted ⇒ the diagnostics are those of the semantic check of the tree -/
theorem checkOne_of_accepted (cx : Cx) (key : String) (u : Bool) (rest : List Nat)
    (h : accepted (decodeUtf8 rest) = true) :
    ∃ ts off pe, lexExpression (decodeUtf8 rest) = .ok (ts, off) ∧ parseToks (tokens (decodeUtf8 rest)) = .ok pe ∧
      checkOne cx key u rest = checkParsed cx key u pe off := by
  obtain ⟨⟨ts, off, h1⟩, pe, h2⟩ := (accepted_iff _).1 h
  exact ⟨ts, off, pe, h1, h2, AL.C03R.checkOne_of_ok cx key u rest h1 h2⟩

/-- **the syntax code of one placeholder is the verdict of lexer + parser** — and of nothing else: not of the scope `cx`,
not of the workflow key, not of the untrusted-input flag -/
theorem checkOne_syntax_iff (cx : Cx) (key : String) (u : Bool) (rest : List Nat) :
    (∃ e ∈ (checkOne cx key u rest).2, isSyntax e) ↔ accepted (decodeUtf8 rest) = false := by
  constructor
  · rintro ⟨e, he, hs⟩
    cases ha : accepted (decodeUtf8 rest) with
    | false => rfl
    | true =>
      obtain ⟨ts, off, pe, -, -, h3⟩ := checkOne_of_accepted cx key u rest ha
      rw [h3] at he
      exact absurd hs (checkParsed_noSyn cx key u pe off e he)
  · intro h
    rw [checkOne_of_rejected cx key u rest h]
    exact syntaxErr_has

/-- a placeholder with a syntax code has exactly that one diagnostic -/
theorem checkOne_syntax_exact (cx : Cx) (key : String) (u : Bool) (rest : List Nat)
    (h : ∃ e ∈ (checkOne cx key u rest).2, isSyntax e) : checkOne cx key u rest = (none, [err "syntax-error" []]) :=
  checkOne_of_rejected cx key u rest ((checkOne_syntax_iff cx key u rest).1 h)

/-- the verdict does not depend on the scope: a syntax code under one scope / key / flag is one under every other -/
theorem checkOne_syntax_scope_free (cx cx' : Cx) (key key' : String) (u u' : Bool) (rest : List Nat)
    (h : ∃ e ∈ (checkOne cx key u rest).2, isSyntax e) : ∃ e ∈ (checkOne cx' key' u' rest).2, isSyntax e :=
  (checkOne_syntax_iff cx' key' u' rest).2 ((checkOne_syntax_iff cx key u rest).1 h)

/-! ## 1. the grammar of a placeholder's text

The documented grammar has two layers: how a token is spelled (`Spelling`, AL/Spec/ExprLexical.lean) and which token
sequences are sentences (`Der`, AL/Spec/ExprGrammar.lean). A text is in the grammar when it can be READ: blanks, a token,
blanks, a token, …, blanks, `}}` — and the tokens are a sentence. -/

/-- what the grammar looks at in a token: kind and text (not where it stands) -/
def kv (t : Tok) : TokKind × List Sym := (t.kind, t.val)

/-- `gaps`, `ts`, `endT` read the text `src` after a `${{` as the expression `e`:
`src = g₀ t₀ g₁ t₁ … gₙ }} …` with blanks `gᵢ`, correctly spelled tokens `tᵢ` that form a sentence denoting `e` -/
structure Reading (src : List Sym) (gaps : List (List Sym)) (ts : List Tok) (endT : Tok) (e : Expr) : Prop where
  len : gaps.length = ts.length + 1
  white : ∀ g ∈ gaps, ∀ s ∈ g, isWhitespace s.r = true
  tiles : AL.C04.interleave gaps (ts ++ [endT]) <+: src
  spelled : ∀ t ∈ ts, t.kind ≠ .end ∧ Spelling t.kind t.val
  close : endT.kind = .end ∧ runes endT.val = [125, 125]
  sentence : Der .or ts e

/-- **the text after `${{` is in the documented grammar** (and denotes `e`) -/
def InGrammar (src : List Sym) (e : Expr) : Prop := ∃ gaps ts endT, Reading src gaps ts endT e

/-- longest match: no token of the reading is continued by the character behind it (`extendsTok`, the side condition of
`AL.C04.lex_complete`); `tail` is the text behind the reading -/
def Greedy : List (List Sym) → List Tok → List Sym → Prop
  | _ :: gs, t :: ts, tail => extendsTok t.kind (nxt (AL.C04.interleave gs ts ++ tail)) = false ∧ Greedy gs ts tail
  | _, _, _ => True

/-- a reading the lexer follows: longest-match tokens; every character of the reading and the one behind `}}` is valid
UTF-8 and not NUL (the scanner reports those); no byte-order mark in front (the scanner drops it) -/
structure StrictReading (src : List Sym) (gaps : List (List Sym)) (ts : List Tok) (endT : Tok) (e : Expr) : Prop
    extends Reading src gaps ts endT e where
  greedy : ∀ tail, src = AL.C04.interleave gaps (ts ++ [endT]) ++ tail → Greedy gaps (ts ++ [endT]) tail
  clean : ∀ tail, src = AL.C04.interleave gaps (ts ++ [endT]) ++ tail →
    ∀ d ∈ AL.C04.interleave gaps (ts ++ [endT]) ++ tail.head?.toList, Clean d
  noBOM : ¬ StartsWithBOM src

def InGrammarStrict (src : List Sym) (e : Expr) : Prop := ∃ gaps ts endT, StrictReading src gaps ts endT e

theorem InGrammarStrict.inGrammar {src : List Sym} {e : Expr} (h : InGrammarStrict src e) : InGrammar src e := by
  obtain ⟨gaps, ts, endT, hr⟩ := h
  exact ⟨gaps, ts, endT, hr.toReading⟩

/-! ### the sentence relation does not look at positions -/

theorem same_append {ts' a b : List Tok} (h : ts'.map kv = (a ++ b).map kv) :
    ∃ a' b', ts' = a' ++ b' ∧ a'.map kv = a.map kv ∧ b'.map kv = b.map kv := by
  rw [List.map_append] at h
  exact List.map_eq_append_iff.mp h

theorem same_cons {ts' : List Tok} {t : Tok} {b : List Tok} (h : ts'.map kv = (t :: b).map kv) :
    ∃ t' b', ts' = t' :: b' ∧ t'.kind = t.kind ∧ t'.val = t.val ∧ b'.map kv = b.map kv := by
  rw [List.map_cons] at h
  obtain ⟨t', b', rfl, h1, h2⟩ := List.map_eq_cons_iff.mp h
  simp only [kv, Prod.mk.injEq] at h1
  exact ⟨t', b', rfl, h1.1, h1.2, h2⟩

theorem same_nil {ts' : List Tok} (h : ts'.map kv = ([] : List Tok).map kv) : ts' = [] := List.map_eq_nil_iff.mp h

theorem same_one {ts' : List Tok} {t : Tok} (h : ts'.map kv = [t].map kv) :
    ∃ t', ts' = [t'] ∧ t'.kind = t.kind ∧ t'.val = t.val := by
  obtain ⟨t', b', rfl, h1, h2, h3⟩ := same_cons h
  rw [same_nil h3]
  exact ⟨t', rfl, h1, h2⟩

/-- **`Der` depends on kinds and texts only** -/
theorem der_same {L : Level} {ts : List Tok} {e : Expr} (h : Der L ts e) :
    ∀ ts' : List Tok, ts'.map kv = ts.map kv → Der L ts' e := by
  refine Der.rec (motive_1 := fun L ts e _ => ∀ ts' : List Tok, ts'.map kv = ts.map kv → Der L ts' e)
    (motive_2 := fun ts es _ => ∀ ts' : List Tok, ts'.map kv = ts.map kv → DerArgs ts' es)
    ?_ ?_ ?_ ?_ ?_ ?_ ?_ ?_ ?_ ?_ ?_ ?_ ?_ ?_ ?_ ?_ ?_ ?_ ?_ ?_ ?_ h
  · intro ts e _ ih ts' h; exact .orUp (ih ts' h)
  · intro l r o el er _ ho _ ih1 ih2 ts' h
    obtain ⟨l', x, rfl, hl, hx⟩ := same_append h
    obtain ⟨o', r', rfl, hk, -, hr⟩ := same_cons hx
    exact .orBin (ih1 l' hl) (hk ▸ ho) (ih2 r' hr)
  · intro ts e _ ih ts' h; exact .andUp (ih ts' h)
  · intro l r o el er _ ho _ ih1 ih2 ts' h
    obtain ⟨l', x, rfl, hl, hx⟩ := same_append h
    obtain ⟨o', r', rfl, hk, -, hr⟩ := same_cons hx
    exact .andBin (ih1 l' hl) (hk ▸ ho) (ih2 r' hr)
  · intro ts e _ ih ts' h; exact .cmpUp (ih ts' h)
  · intro l r o k el er _ ho _ ih1 ih2 ts' h
    obtain ⟨l', x, rfl, hl, hx⟩ := same_append h
    obtain ⟨o', r', rfl, hk, -, hr⟩ := same_cons hx
    exact .cmpBin (ih1 l' hl) (hk ▸ ho) (ih2 r' hr)
  · intro ts e _ ih ts' h; exact .unaryUp (ih ts' h)
  · intro ts o e ho _ ih ts' h
    obtain ⟨o', r', rfl, hk, -, hr⟩ := same_cons h
    exact .unaryNot (hk ▸ ho) (ih r' hr)
  · intro ts e _ ih ts' h; exact .postUp (ih ts' h)
  · intro ts d i e _ hd hi ih ts' h
    obtain ⟨l', x, rfl, hl, hx⟩ := same_append h
    obtain ⟨d', y, rfl, hdk, -, hy⟩ := same_cons hx
    obtain ⟨i', rfl, hik, hiv⟩ := same_one hy
    rw [← hiv]
    exact .postProp (ih l' hl) (hdk ▸ hd) (hik ▸ hi)
  · intro ts d s e _ hd hs ih ts' h
    obtain ⟨l', x, rfl, hl, hx⟩ := same_append h
    obtain ⟨d', y, rfl, hdk, -, hy⟩ := same_cons hx
    obtain ⟨s', rfl, hsk, -⟩ := same_one hy
    exact .postStar (ih l' hl) (hdk ▸ hd) (hsk ▸ hs)
  · intro ts lb idx rb e ei _ hl _ hr ih ih2 ts' h
    obtain ⟨p', z, rfl, hp, hz⟩ := same_append h
    obtain ⟨rb', rfl, hrk, -⟩ := same_one hz
    obtain ⟨l', x, rfl, hl', hx⟩ := same_append hp
    obtain ⟨lb', idx', rfl, hlk, -, hidx⟩ := same_cons hx
    exact Der.postIndex (ih l' hl') (hlk ▸ hl) (ih2 idx' hidx) (hrk ▸ hr)
  · intro t v ht hv ts' h
    obtain ⟨t', rfl, hk, hval⟩ := same_one h
    exact .primInt (hk ▸ ht) (hval ▸ hv)
  · intro t ht hv ts' h
    obtain ⟨t', rfl, hk, hval⟩ := same_one h
    rw [← hval]
    exact .primFloat (hk ▸ ht) (hval ▸ hv)
  · intro t ht ts' h
    obtain ⟨t', rfl, hk, hval⟩ := same_one h
    rw [← hval]
    exact .primStr (hk ▸ ht)
  · intro t ht ts' h
    obtain ⟨t', rfl, hk, hval⟩ := same_one h
    rw [← hval]
    exact .primIdent (hk ▸ ht)
  · intro t lp rp ht hl hr ts' h
    obtain ⟨t', x, rfl, hk, hval, hx⟩ := same_cons h
    obtain ⟨lp', y, rfl, hlk, -, hy⟩ := same_cons hx
    obtain ⟨rp', rfl, hrk, -⟩ := same_one hy
    rw [← hval]
    exact .primCall0 (hk ▸ ht) (hlk ▸ hl) (hrk ▸ hr)
  · intro t lp rp args es ht hl _ hr ih ts' h
    obtain ⟨t', x, rfl, hk, hval, hx⟩ := same_cons h
    obtain ⟨lp', y, rfl, hlk, -, hy⟩ := same_cons hx
    obtain ⟨args', z, rfl, ha, hz⟩ := same_append hy
    obtain ⟨rp', rfl, hrk, -⟩ := same_one hz
    rw [← hval]
    exact .primCall (hk ▸ ht) (hlk ▸ hl) (ih args' ha) (hrk ▸ hr)
  · intro lp ts rp e hl _ hr ih ts' h
    obtain ⟨lp', y, rfl, hlk, -, hy⟩ := same_cons h
    obtain ⟨m', z, rfl, hm, hz⟩ := same_append hy
    obtain ⟨rp', rfl, hrk, -⟩ := same_one hz
    exact .primParen (hlk ▸ hl) (ih m' hm) (hrk ▸ hr)
  · intro ts e _ ih ts' h; exact .one (ih ts' h)
  · intro ts c rest e es _ hc _ ih ih2 ts' h
    obtain ⟨l', x, rfl, hl, hx⟩ := same_append h
    obtain ⟨c', r', rfl, hk, -, hr⟩ := same_cons hx
    exact .more (ih l' hl) (hk ▸ hc) (ih2 r' hr)

/-! ### lexer + parser accept ⇒ the text is in the grammar -/

theorem go_all : ∀ (init : List ATok) (last : ATok) (acc ts : List Tok) (off : Nat),
    last.tok.kind = .end → (∀ a ∈ init, a.tok.kind ≠ .end) →
    lexExpression.go (init ++ [last]) acc = .ok (ts, off) →
    ts = acc ++ (init ++ [last]).map (·.tok) ∧ (∀ a ∈ init, a.err = none) ∧ last.err = none := by
  intro init
  induction init with
  | nil =>
    intro last acc ts off hl _ h
    rw [List.nil_append, go_cons] at h
    cases he : last.err with
    | some e => simp [he] at h
    | none =>
      simp only [he, hl, if_true, Except.ok.injEq, Prod.mk.injEq] at h
      exact ⟨by simp [h.1], by simp, rfl⟩
  | cons a rest ih =>
    intro last acc ts off hl hi h
    rw [List.cons_append, go_cons] at h
    cases he : a.err with
    | some e => simp [he] at h
    | none =>
      have hk : a.tok.kind ≠ .end := hi a (by simp)
      simp only [he, hk, if_false] at h
      obtain ⟨h1, h2, h3⟩ := ih last _ ts off hl (fun b hb => hi b (by simp [hb])) h
      refine ⟨by simp [h1], ?_, h3⟩
      intro b hb
      rcases List.mem_cons.1 hb with rfl | hb
      · exact he
      · exact h2 b hb

theorem go_of_clean : ∀ (init : List ATok) (last : ATok) (acc : List Tok),
    last.tok.kind = .end → (∀ a ∈ init, a.tok.kind ≠ .end) → (∀ a ∈ init, a.err = none) → last.err = none →
    lexExpression.go (init ++ [last]) acc = .ok (acc ++ (init ++ [last]).map (·.tok), last.offset) := by
  intro init
  induction init with
  | nil =>
    intro last acc hl _ _ he
    rw [List.nil_append, go_cons]
    simp [he, hl]
  | cons a rest ih =>
    intro last acc hl hi herr he
    rw [List.cons_append, go_cons]
    have hk : a.tok.kind ≠ .end := hi a (by simp)
    simp only [herr a (by simp), hk, if_false]
    rw [ih last _ hl (fun b hb => hi b (by simp [hb])) (fun b hb => herr b (by simp [hb])) he]
    simp

/-- **lexer + parser accept ⇒ the text is in the documented grammar**, and the tree is the one the grammar assigns
(`lexExpression_run`, the lemma behind `AL.C04.lex_tiles`; `lexExpression_spelling`, `lex_well_ended`, `parse_iff`). The byte-order
mark: see `bom_accepted_outside_grammar`. -/
theorem accepted_inGrammar (src : List Sym) (hb : ¬ StartsWithBOM src) (h : accepted src = true) :
    ∃ e, parseToks (tokens src) = .ok e ∧ InGrammar src e := by
  obtain ⟨⟨ts, off, h1⟩, pe, h2⟩ := (accepted_iff src).1 h
  obtain ⟨init, last, htok, hlast, hinit⟩ := AL.C04.lex_well_ended src
  have h1' : lexExpression.go (tokens src) [] = .ok (ts, off) := h1
  obtain ⟨hts, -, hle⟩ := go_all init last [] ts off hlast hinit (by rw [← htok]; exact h1')
  have hp := h2
  rw [htok] at hp
  obtain ⟨hder, -⟩ := (AL.C04.parse_iff init last pe hlast hinit).1 hp
  obtain ⟨gaps, e2, e3, e4, -⟩ := (lexExpression_run h1).2 hb
  simp only [List.nil_append] at hts
  have hsp := AL.C04.lexExpression_spelling src ts off hb h1
  refine ⟨pe, h2, gaps, init.map (·.tok), last.tok, ?_⟩
  have hts' : ts = init.map (·.tok) ++ [last.tok] := by rw [hts]; simp
  refine ⟨by rw [e2, hts']; simp, e3, ?_, ?_, ⟨hlast, ?_⟩, hder⟩
  · rw [AL.C04.interleave_eq_weave, ← hts']; exact e4
  · intro t ht
    obtain ⟨a, ha, rfl⟩ := List.mem_map.1 ht
    exact ⟨hinit a ha, (hsp a.tok (by rw [hts']; simp; exact .inl ⟨a, ha, rfl⟩)).1⟩
  · exact (hsp last.tok (by rw [hts']; simp)).2 hlast

/-- **outside the grammar ⇒ rejected** (contrapositive) -/
theorem not_inGrammar_rejected (src : List Sym) (hb : ¬ StartsWithBOM src) (h : ∀ e, ¬ InGrammar src e) :
    accepted src = false := by
  cases ha : accepted src with
  | false => rfl
  | true =>
    obtain ⟨e, -, hg⟩ := accepted_inGrammar src hb ha
    exact absurd hg (h e)

/-! ### in the grammar, longest-match tokens, clean characters ⇒ lexer + parser accept -/

theorem mem_head_append {α : Type} (a b : List α) (d : α) (h : d ∈ (a ++ b).head?.toList) : d ∈ a ++ b.head?.toList := by
  cases a with
  | nil => simpa using h
  | cons x xs =>
    simp at h
    simp [h]

theorem extends_end (o : Option Nat) : extendsTok .end o = false := by cases o <;> rfl

theorem spelling_ne_nil {k : TokKind} {val : List Sym} (hs : Spelling k val) (hk : k ≠ .end) : val ≠ [] := by
  intro h
  subst h
  cases k with
  | float =>
    obtain ⟨ip, frac, exp, hip, -, -, -, hl⟩ := hs
    have hip0 : ip = [] := by
      have := congrArg List.length hl
      simp [runes] at this
      exact List.eq_nil_of_length_eq_zero (by omega)
    subst hip0
    rcases hip with h | ⟨t, h, -⟩
    · rcases h with h | ⟨d, ds, h, -⟩ <;> simp at h
    · simp at h
  | ident => obtain ⟨c, cs, h, -⟩ := hs; cases h
  | string => obtain ⟨body, h, -⟩ := hs; cases h
  | int => simp [Spelling, runes, DecInt, HexInt, optMinus] at hs
  | «end» => exact hk rfl
  | unknown => exact hs
  | _ => cases hs

theorem interleave_cons (g : List Sym) (gs : List (List Sym)) (t : Tok) (ts : List Tok) :
    AL.C04.interleave (g :: gs) (t :: ts) = g ++ t.val ++ AL.C04.interleave gs ts := rfl

/-- the lexer follows a strict reading token by token -/
theorem lexAll_complete : ∀ (ts : List Tok) (gaps : List (List Sym)) (endT : Tok) (tail : List Sym) (fuel : Nat)
    (st : LexState), gaps.length = ts.length + 1 → (∀ g ∈ gaps, ∀ s ∈ g, isWhitespace s.r = true) →
    (∀ t ∈ ts, t.kind ≠ .end ∧ Spelling t.kind t.val) → endT.kind = .end → runes endT.val = [125, 125] →
    st.buf = [] → st.err = none → st.scan.unread = AL.C04.interleave gaps (ts ++ [endT]) ++ tail →
    Greedy gaps (ts ++ [endT]) tail → (∀ d ∈ AL.C04.interleave gaps (ts ++ [endT]) ++ tail.head?.toList, Clean d) →
    st.scan.remaining < fuel →
    ∃ init last, lexAll fuel st = init ++ [last] ∧ (init.map (·.tok)).map kv = ts.map kv ∧ last.tok.kind = .end ∧
      (∀ a ∈ init, a.err = none) ∧ last.err = none := by
  intro ts
  induction ts with
  | nil =>
    intro gaps endT tail fuel st hlen hw _ hek hev hbuf herr hu _ hcl hrem
    match gaps, hlen with
    | [g], _ =>
      have hne : endT.val ≠ [] := by intro h0; rw [h0] at hev; simp [runes] at hev
      have hu' : st.scan.unread = g ++ endT.val ++ tail := by
        rw [hu]; simp [AL.C04.interleave]
      obtain ⟨a1, -, -, -, a5⟩ := lexNext_complete' (st := st) (k := .end) (gap := g) (val := endT.val) (rest := tail)
        (.inl hev) hne hbuf hu' (hw g List.mem_cons_self) (extends_end _)
      have e1 := a5 herr (by
        intro d hd
        apply hcl d
        have := List.mem_of_mem_tail hd
        simp [AL.C04.interleave] at this ⊢
        rcases this with h | h | h
        · exact .inl h
        · exact .inr (.inl h)
        · exact .inr (.inr h))
      match fuel, hrem with
      | n + 1, _ =>
        rw [lexAll_succ, if_pos a1]
        exact ⟨[], _, rfl, rfl, a1, (fun _ h => nomatch h), e1⟩
  | cons t ts ih =>
    intro gaps endT tail fuel st hlen hw hsp hek hev hbuf herr hu hgr hcl hrem
    match gaps, hlen with
    | g :: gs, hlen =>
      have hlen' : gs.length = ts.length + 1 := Nat.succ.inj hlen
      obtain ⟨hk, hs⟩ := hsp t List.mem_cons_self
      have hne := spelling_ne_nil hs hk
      have hu' : st.scan.unread = g ++ t.val ++ (AL.C04.interleave gs (ts ++ [endT]) ++ tail) := by
        rw [hu, List.cons_append, interleave_cons]; simp [List.append_assoc]
      have hgr' : extendsTok t.kind (nxt (AL.C04.interleave gs (ts ++ [endT]) ++ tail)) = false ∧
          Greedy gs (ts ++ [endT]) tail := hgr
      obtain ⟨a1, a2, a3, a4, a5⟩ := lexNext_complete' (st := st) (k := t.kind) (gap := g) (val := t.val)
        (rest := AL.C04.interleave gs (ts ++ [endT]) ++ tail) hs hne hbuf hu' (hw g List.mem_cons_self) hgr'.1
      have hcl' : ∀ d ∈ AL.C04.interleave gs (ts ++ [endT]) ++ tail.head?.toList, Clean d := by
        intro d hd
        apply hcl d
        rw [List.cons_append, interleave_cons]
        simp only [List.append_assoc, List.mem_append] at hd ⊢
        exact .inr (.inr hd)
      have e1 := a5 herr (by
        intro d hd
        apply hcl d
        have h1 := List.mem_of_mem_tail hd
        rw [List.cons_append, interleave_cons]
        simp only [List.append_assoc, List.mem_append] at h1 ⊢
        rcases h1 with h | h | h
        · exact .inl h
        · exact .inr (.inl h)
        · exact .inr (.inr (List.mem_append.1 (mem_head_append _ _ d h))))
      have hk1 : (lexNext st).1.kind ≠ .end := by rw [a1]; exact hk
      match fuel, hrem with
      | n + 1, hrem =>
        have hr := lexNext_remaining st hk1
        obtain ⟨init, last, i1, i2, i3, i4, i5⟩ := ih gs endT tail n (lexNext st).2 hlen'
          (fun g' hg' => hw g' (List.mem_cons_of_mem _ hg')) (fun t' ht' => hsp t' (List.mem_cons_of_mem _ ht')) hek hev a4 e1 a3 hgr'.2 hcl'
          (by omega)
        rw [lexAll_succ, if_neg hk1, i1]
        refine ⟨_ :: init, last, rfl, ?_, i3, ?_, i5⟩
        · simp only [List.map_cons, i2, kv, a1, a2]
        · intro a ha
          rcases List.mem_cons.1 ha with rfl | ha
          · exact e1
          · exact i4 a ha

/-- **a strict reading is what lexer + parser do**: accepted, with the tree the grammar assigns
(token by token from `lexNext_complete'`, the step lemma of `AL.C04.lex_complete`; `parse_iff`) -/
theorem strictReading_accepted {src : List Sym} {gaps : List (List Sym)} {ts : List Tok} {endT : Tok} {e : Expr}
    (h : StrictReading src gaps ts endT e) : accepted src = true ∧ parseToks (tokens src) = .ok e := by
  obtain ⟨tail, htail⟩ := h.tiles
  have hb := h.noBOM
  have hcl := h.clean tail htail.symm
  have herr : (lexInit src).err = none := by
    apply lexInit_err hb
    intro c hc
    apply hcl c
    apply mem_head_append
    rw [htail, hc]; simp
  obtain ⟨init, last, i1, i2, i3, i4, i5⟩ := lexAll_complete ts gaps endT tail (src.length + 2) (lexInit src) h.len h.white
    h.spelled h.close.1 h.close.2 (lexInit_buf hb) herr (by rw [lexInit_unread hb, htail]) (h.greedy tail htail.symm) hcl
    (by have := lexInit_remaining src; omega)
  have htok : tokens src = init ++ [last] := i1
  have hinit : ∀ a ∈ init, a.tok.kind ≠ .end := by
    intro a ha
    have : kv a.tok ∈ ts.map kv := by rw [← i2]; simp; exact ⟨a, ha, rfl⟩
    obtain ⟨t, ht, hkv⟩ := List.mem_map.1 this
    simp only [kv, Prod.mk.injEq] at hkv
    rw [← hkv.1]
    exact (h.spelled t ht).1
  have hparse : parseToks (tokens src) = .ok e := by
    rw [htok]
    exact (AL.C04.parse_iff init last e i3 hinit).2 ⟨der_same h.sentence _ i2, i5⟩
  have hlex : lexExpression src = .ok ([] ++ (init ++ [last]).map (·.tok), last.offset) := by
    show lexExpression.go (tokens src) [] = _
    rw [htok]
    exact go_of_clean init last [] i3 hinit i4 i5
  exact ⟨(accepted_iff src).2 ⟨⟨_, _, hlex⟩, e, hparse⟩, hparse⟩

theorem inGrammarStrict_accepted {src : List Sym} {e : Expr} (h : InGrammarStrict src e) :
    accepted src = true ∧ parseToks (tokens src) = .ok e := by
  obtain ⟨gaps, ts, endT, hr⟩ := h
  exact strictReading_accepted hr

/-- the tree of a text in the (strict) grammar is unique -/
theorem inGrammarStrict_unique {src : List Sym} {e e' : Expr} (h : InGrammarStrict src e) (h' : InGrammarStrict src e') :
    e = e' := by
  have h1 := (inGrammarStrict_accepted h).2
  rw [(inGrammarStrict_accepted h').2] at h1
  cases h1; rfl

/-! ## 2. from the grammar to the diagnostics of a string

`v` is the text of a scalar, `idx` the offset of its first `${{`, `(bytesOf v).drop (idx + 3)` everything behind it: where
the placeholder ends is decided by the grammar (a `}}` inside a string literal does not close it). -/

/-- the text behind the `${{` at offset `idx`, as the lexer sees it -/
def behind (v : String) (idx : Nat) : List Sym := decodeUtf8 ((bytesOf v).drop (idx + 3))

/-- **one placeholder**: outside the grammar ⇒ exactly the syntax diagnostic -/
theorem checkOne_violation (cx : Cx) (key : String) (u : Bool) (rest : List Nat) (hb : ¬ StartsWithBOM (decodeUtf8 rest))
    (hg : ∀ e, ¬ InGrammar (decodeUtf8 rest) e) : checkOne cx key u rest = (none, [err "syntax-error" []]) :=
  checkOne_of_rejected cx key u rest (not_inGrammar_rejected _ hb hg)

/-- **the text behind the first `${{` is not in the documented grammar ⇒ every check of the string yields the syntax
diagnostic, and only it** — in every scope, under every key, with the untrusted-input check on or off -/
theorem violation_syntax_error (cx : Cx) (key : String) (u : Bool) (v : String) (idx : Nat)
    (hi : AL.Proc.indexOf AL.Proc.open3 (bytesOf v) 0 = some idx) (hb : ¬ StartsWithBOM (behind v idx))
    (hg : ∀ e, ¬ InGrammar (behind v idx) e) : checkExprsIn cx key u v = (none, [err "syntax-error" []]) :=
  AL.C11R.checkExprsIn_first cx key u v _ rfl idx hi _ (checkOne_violation cx key u _ hb hg)

theorem violation_has_syntax_code (cx : Cx) (key : String) (u : Bool) (v : String) (idx : Nat)
    (hi : AL.Proc.indexOf AL.Proc.open3 (bytesOf v) 0 = some idx) (hb : ¬ StartsWithBOM (behind v idx))
    (hg : ∀ e, ¬ InGrammar (behind v idx) e) : ∃ e ∈ (checkExprsIn cx key u v).2, isSyntax e := by
  rw [violation_syntax_error cx key u v idx hi hb hg]
  exact syntaxErr_has

/-- `${{` does not overlap itself: behind a text without `${{` the first `${{` is the one appended -/
theorem indexOf_open3_append : ∀ (pre rest : List Nat) (i : Nat), AL.Proc.indexOf AL.Proc.open3 pre i = none →
    AL.Proc.indexOf AL.Proc.open3 (pre ++ AL.Proc.open3 ++ rest) i = some (i + pre.length)
  | [], rest, i, _ => rfl
  | c :: cs, rest, i, h => by
    simp only [AL.Proc.indexOf] at h
    split at h
    · cases h
    · rename_i hp
      have ih := indexOf_open3_append cs rest (i + 1) h
      have hnp : ¬ (AL.Proc.open3.isPrefixOf (c :: cs ++ AL.Proc.open3 ++ rest) = true) := by
        match cs, hp with
        | [], _ => simp [AL.Proc.open3, List.isPrefixOf]
        | [d], _ => simp [AL.Proc.open3, List.isPrefixOf]
        | d :: e :: f, hp => simpa [AL.Proc.open3, List.isPrefixOf] using hp
      simp only [List.cons_append, AL.Proc.indexOf] at hnp ⊢
      rw [if_neg hnp]
      simp only [List.append_assoc] at ih ⊢
      rw [ih]
      simp only [List.length_cons]
      congr 1
      omega

/-- the same with the text split as `pre ${{ rest` where `pre` contains no `${{` -/
theorem violation_syntax_error_split (cx : Cx) (key : String) (u : Bool) (v : String) (pre rest : List Nat)
    (hv : bytesOf v = pre ++ AL.Proc.open3 ++ rest) (hpre : AL.Proc.indexOf AL.Proc.open3 pre 0 = none)
    (hb : ¬ StartsWithBOM (decodeUtf8 rest)) (hg : ∀ e, ¬ InGrammar (decodeUtf8 rest) e) :
    checkExprsIn cx key u v = (none, [err "syntax-error" []]) := by
  have hi : AL.Proc.indexOf AL.Proc.open3 (bytesOf v) 0 = some pre.length := by
    rw [hv, indexOf_open3_append pre rest 0 hpre]; simp
  have hd : (bytesOf v).drop (pre.length + 3) = rest := by
    rw [hv, List.append_assoc, List.drop_append]
    simp [AL.Proc.open3]
  apply violation_syntax_error cx key u v pre.length hi
  · unfold behind; rw [hd]; exact hb
  · unfold behind; rw [hd]; exact hg

/-! ### the unterminated placeholder: no `}}` behind the `${{` -/

/-- two consecutive `}` somewhere in the text -/
def hasClose : List Sym → Bool
  | c :: d :: rest => (c.r == 125 && d.r == 125) || hasClose (d :: rest)
  | _ => false

theorem hasClose_append : ∀ (p : List Sym) (c d : Sym) (q : List Sym), c.r = 125 → d.r = 125 →
    hasClose (p ++ c :: d :: q) = true
  | [], c, d, q, hc, hd => by rw [List.nil_append, hasClose, hc, hd]; rfl
  | [x], c, d, q, hc, hd => by
    rw [List.cons_append, List.nil_append, hasClose, hasClose, hc, hd]
    simp only [beq_self_eq_true, Bool.and_self, Bool.true_or, Bool.or_true]
  | x :: y :: p, c, d, q, hc, hd => by
    have ih : hasClose (y :: (p ++ c :: d :: q)) = true := hasClose_append (y :: p) c d q hc hd
    rw [List.cons_append, List.cons_append, hasClose, ih, Bool.or_true]

theorem interleave_snoc : ∀ (ts : List Tok) (gaps : List (List Sym)) (endT : Tok), gaps.length = ts.length + 1 →
    ∃ P, AL.C04.interleave gaps (ts ++ [endT]) = P ++ endT.val := by
  intro ts
  induction ts with
  | nil =>
    intro gaps endT h
    match gaps, h with
    | [g], _ => exact ⟨g, by simp [AL.C04.interleave]⟩
  | cons t ts ih =>
    intro gaps endT h
    match gaps, h with
    | g :: gs, h =>
      obtain ⟨P, hP⟩ := ih gs endT (by simpa using h)
      exact ⟨g ++ t.val ++ P, by rw [List.cons_append, interleave_cons, hP]; simp⟩

/-- a reading ends with `}}` -/
theorem reading_hasClose {src : List Sym} {gaps : List (List Sym)} {ts : List Tok} {endT : Tok} {e : Expr}
    (h : Reading src gaps ts endT e) : hasClose src = true := by
  obtain ⟨tail, htail⟩ := h.tiles
  obtain ⟨P, hP⟩ := interleave_snoc ts gaps endT h.len
  obtain ⟨c, cs, hv, hc, hcs⟩ := runes_eq_cons h.close.2
  obtain ⟨d, ds, hv2, hd, -⟩ := runes_eq_cons hcs
  rw [← htail, hP, hv, hv2, List.append_assoc]
  exact hasClose_append P c d _ hc hd

/-- **no `}}` ⇒ not in the grammar** -/
theorem not_inGrammar_of_no_close (src : List Sym) (h : hasClose src = false) : ∀ e, ¬ InGrammar src e := by
  rintro e ⟨gaps, ts, endT, hr⟩
  rw [reading_hasClose hr] at h
  cases h

/-- **the unterminated placeholder** (`${{` with no `}}` behind it) is reported in every position -/
theorem unterminated_syntax_error (cx : Cx) (key : String) (u : Bool) (v : String) (idx : Nat)
    (hi : AL.Proc.indexOf AL.Proc.open3 (bytesOf v) 0 = some idx) (hb : ¬ StartsWithBOM (behind v idx))
    (hc : hasClose (behind v idx) = false) : checkExprsIn cx key u v = (none, [err "syntax-error" []]) :=
  violation_syntax_error cx key u v idx hi hb (not_inGrammar_of_no_close _ hc)

/-! ### `Malformed` (AL.C03R) from the grammar -/

/-- **C03's hypothesis from the grammar**: the text behind the first `${{` is outside the grammar, and so is the text as a
whole read as a bare condition (`if: v` is the expression `v`; this matters for an `if:` only, and only when `v` has no
`}}` behind its `${{`) -/
theorem malformed_of_violation (v : String) (idx : Nat)
    (hi : AL.Proc.indexOf AL.Proc.open3 (bytesOf v) 0 = some idx) (hb : ¬ StartsWithBOM (behind v idx))
    (hg : ∀ e, ¬ InGrammar (behind v idx) e)
    (hb' : ¬ StartsWithBOM (decodeUtf8 (bytesOf v ++ [125, 125])))
    (hg' : ∀ e, ¬ InGrammar (decodeUtf8 (bytesOf v ++ [125, 125])) e) : AL.C03R.Malformed v := by
  constructor
  · intro cx key u
    rw [violation_syntax_error cx key u v idx hi hb hg]
    exact List.cons_ne_nil _ _
  · intro cx key
    rw [checkOne_violation cx key false _ hb' hg']
    exact List.cons_ne_nil _ _

/-! ### a text whose first significant character cannot start a sentence -/

/-- the characters a sentence can start with: a letter or `_` (identifier), a digit or `-` (number), `'`, `(`, `!` -/
def sentenceStart (r : Nat) : Bool := isAlpha r || r == 95 || isNum r || r == 45 || r == 39 || r == 40 || r == 33

theorem sentence_head_char {k : TokKind} {val : List Sym} (hs : Spelling k val) (hk : headKinds .or k = true) :
    ∃ c cs, val = c :: cs ∧ sentenceStart c.r = true := by
  have key : ∀ r rs, runes val = r :: rs → sentenceStart r = true → ∃ c cs, val = c :: cs ∧ sentenceStart c.r = true := by
    intro r rs h hr
    obtain ⟨c, cs, rfl, hc, -⟩ := runes_eq_cons h
    exact ⟨c, cs, rfl, by rw [hc]; exact hr⟩
  have numHead : ∀ r, (isNum r = true ∨ r = 45) → sentenceStart r = true := by
    intro r hr; rcases hr with hr | rfl
    · simp [sentenceStart, hr]
    · rfl
  have decHead : ∀ l, DecInt l → ∃ r rs, l = r :: rs ∧ isNum r = true := by
    intro l hl
    rcases hl with rfl | ⟨d, ds, rfl, h1, h2, -⟩
    · exact ⟨48, [], rfl, rfl⟩
    · exact ⟨d, ds, rfl, by simp [isNum]; omega⟩
  have optHead : ∀ (P : List Nat → Prop) l, optMinus P l → (∀ l, P l → ∃ r rs, l = r :: rs ∧ isNum r = true) →
      ∃ r rs, l = r :: rs ∧ (isNum r = true ∨ r = 45) := by
    intro P l hl hP
    rcases hl with h | ⟨t, rfl, -⟩
    · obtain ⟨r, rs, rfl, hr⟩ := hP l h; exact ⟨r, rs, rfl, .inl hr⟩
    · exact ⟨45, t, rfl, .inr rfl⟩
  cases k with
  | ident =>
    obtain ⟨r, rs, hl, hr, -⟩ := hs
    refine key _ _ hl ?_
    rcases hr with hr | rfl
    · simp [sentenceStart, hr]
    · rfl
  | string =>
    obtain ⟨body, hl, -⟩ := hs
    exact key _ _ hl rfl
  | int =>
    rcases hs with hs | hs
    · obtain ⟨r, rs, hl, hr⟩ := optHead _ _ hs decHead
      exact key _ _ hl (numHead r hr)
    · obtain ⟨r, rs, hl, hr⟩ := optHead _ _ hs (by
        rintro l ⟨body, rfl, -⟩; exact ⟨48, _, rfl, rfl⟩)
      exact key _ _ hl (numHead r hr)
  | float =>
    obtain ⟨ip, frac, exp, hip, -, -, -, hl⟩ := hs
    obtain ⟨r, rs, rfl, hr⟩ := optHead _ _ hip decHead
    exact key r (rs ++ frac ++ exp) (by simpa using hl) (numHead r hr)
  | lparen => exact key _ _ hs rfl
  | not => exact key _ _ hs rfl
  | _ => cases hk

theorem white_split_unique : ∀ (ws g : List Sym) (c c' : Sym) (r r' : List Sym),
    (∀ s ∈ ws, isWhitespace s.r = true) → (∀ s ∈ g, isWhitespace s.r = true) → isWhitespace c.r = false →
    isWhitespace c'.r = false → ws ++ c :: r = g ++ c' :: r' → c = c'
  | [], [], c, c', r, r', _, _, _, _, h => (List.cons.inj h).1
  | [], x :: g, c, c', r, r', _, hg, hc, _, h => by
    have := hg x List.mem_cons_self
    rw [← (List.cons.inj h).1, hc] at this; cases this
  | w :: ws, [], c, c', r, r', hw, _, _, hc', h => by
    have := hw w List.mem_cons_self
    rw [(List.cons.inj h).1, hc'] at this; cases this
  | w :: ws, x :: g, c, c', r, r', hw, hg, hc, hc', h =>
    white_split_unique ws g c c' r r' (fun s hs => hw s (List.mem_cons_of_mem _ hs))
      (fun s hs => hg s (List.mem_cons_of_mem _ hs)) hc hc' (List.cons.inj h).2

/-- **a text whose first non-blank character cannot start a sentence is not in the grammar** (`${{ "a" }}`, `${{ + 1 }}`,
`${{ ) }}`, `${{ }}`, a text starting with `$`, with a byte-order mark …) -/
theorem not_inGrammar_of_head (src ws : List Sym) (c : Sym) (rest : List Sym) (hsrc : src = ws ++ c :: rest)
    (hws : ∀ s ∈ ws, isWhitespace s.r = true) (hc : isWhitespace c.r = false) (hstart : sentenceStart c.r = false) :
    ∀ e, ¬ InGrammar src e := by
  rintro e ⟨gaps, ts, endT, hr⟩
  obtain ⟨t, ts', rfl, hk⟩ := der_head hr.sentence
  match gaps, hr.len, hr.white, hr.tiles with
  | g :: gs, _, hwh, htiles =>
    obtain ⟨tail, htail⟩ := htiles
    obtain ⟨hke, hs⟩ := hr.spelled t (by simp)
    obtain ⟨c', cs, hv, hc'⟩ := sentence_head_char hs hk
    obtain ⟨c'', cs', hv', hnw⟩ := spelling_head hs (spelling_ne_nil hs hke)
    rw [hv] at hv'
    cases hv'
    have heq : ws ++ c :: rest = g ++ c' :: (cs ++ AL.C04.interleave gs (ts' ++ [endT]) ++ tail) := by
      rw [← hsrc, ← htail, List.cons_append, interleave_cons, hv]; simp
    have := white_split_unique ws g c c' _ _ hws (hwh g (by simp)) hc hnw heq
    rw [this, hc'] at hstart
    cases hstart

/-! ## 3. conversely: a syntax code comes from the grammar only -/

/-- **a placeholder in the grammar never gets a syntax code** — whatever the scope, the key, the flag: its diagnostics are
those of the semantic check of the tree the grammar assigns -/
theorem checkOne_of_inGrammar (cx : Cx) (key : String) (u : Bool) (rest : List Nat) (e : Expr)
    (h : InGrammarStrict (decodeUtf8 rest) e) : ∃ off, checkOne cx key u rest = checkParsed cx key u e off := by
  obtain ⟨ha, hp⟩ := inGrammarStrict_accepted h
  obtain ⟨ts, off, pe, -, h2, h3⟩ := checkOne_of_accepted cx key u rest ha
  rw [hp] at h2
  cases h2
  exact ⟨off, h3⟩

theorem inGrammar_no_syntax (cx : Cx) (key : String) (u : Bool) (rest : List Nat) (e : Expr)
    (h : InGrammarStrict (decodeUtf8 rest) e) : NoSyn (checkOne cx key u rest).2 := by
  obtain ⟨off, ho⟩ := checkOne_of_inGrammar cx key u rest e h
  rw [ho]
  exact checkParsed_noSyn cx key u e off

/-- **a syntax code ⇒ the placeholder is outside the grammar** -/
theorem syntax_code_outside_grammar (cx : Cx) (key : String) (u : Bool) (rest : List Nat)
    (h : ∃ x ∈ (checkOne cx key u rest).2, isSyntax x) : ∀ e, ¬ InGrammarStrict (decodeUtf8 rest) e := by
  intro e hg
  obtain ⟨x, hx, hs⟩ := h
  exact inGrammar_no_syntax cx key u rest e hg x hx hs

/-- **the string**: a diagnostic with a syntax code means that the first placeholder (in loop order) that has any
diagnostic is outside the grammar — unterminated included —, that the placeholders the loop passed before it are in order,
and that the syntax diagnostic is all the string gets -/
theorem syntax_from_first_bad (cx : Cx) (key : String) (u : Bool) (v : String)
    (h : ∃ x ∈ (checkExprsIn cx key u v).2, isSyntax x) :
    ∃ k t idx, AL.C11R.Passed cx key u (bytesOf v) k t ∧ AL.Proc.indexOf AL.Proc.open3 t 0 = some idx ∧
      accepted (decodeUtf8 (t.drop (idx + 3))) = false ∧ (∀ e, ¬ InGrammarStrict (decodeUtf8 (t.drop (idx + 3))) e) ∧
      checkExprsIn cx key u v = (none, [err "syntax-error" []]) := by
  obtain ⟨x, hx, hs⟩ := h
  have hne : (checkExprsIn cx key u v).2 ≠ [] := fun h0 => by rw [h0] at hx; cases hx
  obtain ⟨k, t, idx, hp, hi, h1⟩ := AL.C11R.checkExprsIn_diags_from_first_bad cx key u v hne
  have hsyn : ∃ x ∈ (checkOne cx key u (t.drop (idx + 3))).2, isSyntax x := ⟨x, by rw [h1]; exact hx, hs⟩
  have hex := checkOne_syntax_exact cx key u _ hsyn
  refine ⟨k, t, idx, hp, hi, (checkOne_syntax_iff cx key u _).1 hsyn, syntax_code_outside_grammar cx key u _ hsyn, ?_⟩
  exact AL.C11R.kth_placeholder_reported cx key u v k t hp idx hi _ hex

/-- the exact form: a string gets a syntax code iff the first placeholder that has any diagnostic is rejected by
lexer + parser -/
theorem checkExprsIn_syntax_iff (cx : Cx) (key : String) (u : Bool) (v : String) :
    (∃ x ∈ (checkExprsIn cx key u v).2, isSyntax x) ↔
      ∃ k t idx, AL.C11R.Passed cx key u (bytesOf v) k t ∧ AL.Proc.indexOf AL.Proc.open3 t 0 = some idx ∧
        accepted (decodeUtf8 (t.drop (idx + 3))) = false := by
  constructor
  · intro h
    obtain ⟨k, t, idx, hp, hi, ha, -, -⟩ := syntax_from_first_bad cx key u v h
    exact ⟨k, t, idx, hp, hi, ha⟩
  · rintro ⟨k, t, idx, hp, hi, ha⟩
    rw [AL.C11R.kth_placeholder_reported cx key u v k t hp idx hi _ (checkOne_of_rejected cx key u _ ha)]
    exact syntaxErr_has

/-- **every placeholder the loop reaches is in the grammar ⇒ no syntax code on the string** -/
theorem no_syntax_of_all_inGrammar (cx : Cx) (key : String) (u : Bool) (v : String)
    (h : ∀ k t idx, AL.C11R.Passed cx key u (bytesOf v) k t → AL.Proc.indexOf AL.Proc.open3 t 0 = some idx →
      ∃ e, InGrammarStrict (decodeUtf8 (t.drop (idx + 3))) e) : NoSyn (checkExprsIn cx key u v).2 := by
  intro x hx hs
  obtain ⟨k, t, idx, hp, hi, -, hout, -⟩ := syntax_from_first_bad cx key u v ⟨x, hx, hs⟩
  obtain ⟨e, he⟩ := h k t idx hp hi
  exact hout e he

theorem ite_some_fst {α β : Type} (c : Prop) [Decidable c] (a : α) (b : List β) (p : α)
    (h : (if c then (some a, ([] : List β)) else (none, b)).1 = some p) : p = a := by
  split at h <;> simp_all

theorem checkParsed_off (cx : Cx) (key : String) (u : Bool) (pe : AL.Parse.Expr) (off : Nat) (ty : Ty) (off' : Nat)
    (h : (checkParsed cx key u pe off).1 = some (ty, off')) : off' = off := by
  unfold checkParsed at h
  have := ite_some_fst _ _ _ _ h
  simp only [Prod.mk.injEq] at this
  exact this.2

/-- nothing behind the placeholder the lexer delimits opens another one -/
def nothingBehind (rest : List Nat) : Bool :=
  match lexExpression (decodeUtf8 rest) with
  | .ok (_, off) => (AL.Proc.indexOf AL.Proc.open3 (rest.drop off) 0).isNone
  | .error _ => true

/-- **a string with ONE placeholder that lexer + parser accept never gets a syntax code** -/
theorem single_placeholder_noSyn (cx : Cx) (key : String) (u : Bool) (v : String) (b : List Nat) (hb : bytesOf v = b)
    (idx : Nat) (hi : AL.Proc.indexOf AL.Proc.open3 b 0 = some idx) (ha : accepted (decodeUtf8 (b.drop (idx + 3))) = true)
    (hn : nothingBehind (b.drop (idx + 3)) = true) : NoSyn (checkExprsIn cx key u v).2 := by
  obtain ⟨ts, off, pe, hlex, -, hco⟩ := checkOne_of_accepted cx key u _ ha
  unfold nothingBehind at hn
  rw [hlex] at hn
  simp only [Option.isNone_iff_eq_none] at hn
  simp only [checkExprsIn, hb]
  cases b with
  | nil => simp [AL.Proc.indexOf, AL.Proc.open3] at hi
  | cons x xs =>
    simp only [List.length_cons]
    rw [scan]
    simp only [hi]
    have hns := checkParsed_noSyn cx key u pe off
    cases hr : checkOne cx key u ((x :: xs).drop (idx + 3)) with
    | mk r errs =>
      rw [hco] at hr
      rw [hr] at hns
      cases r with
      | none => exact hns
      | some p =>
        obtain ⟨ty, off'⟩ := p
        have hoff := checkParsed_off cx key u pe off ty off' (by rw [hr])
        subst hoff
        simp only
        split
        · exact NoSyn.nil
        · cases xs.length with
          | zero => exact NoSyn.nil
          | succ n =>
            rw [scan]
            simp only [hn]
            exact NoSyn.nil

/-! ## 4. end to end: the document -/

/-- the code of a diagnostic is a syntax code -/
def SyntaxCode (c : String) : Prop := c ∈ syntaxCodes

theorem syntaxCode_iff (c : String) : SyntaxCode c ↔ c = "syntax-error" := by simp [SyntaxCode, syntaxCodes]

theorem syntax_error_has (es : List SemaErr) (h : es = [err "syntax-error" []]) : ∃ e ∈ es, SyntaxCode e.code := by
  subst h
  exact syntaxErr_has

/-- **the hypothesis of the coverage chain, from the grammar**: the text behind the first `${{` is outside the grammar
(unterminated included); and — for the bare `if:` reading, which the rule uses only for a text WITHOUT a complete
placeholder — the text has a `}}` behind its `${{`, or is as a whole outside the grammar too -/
theorem badSyntax_of_violation (v : String) (idx : Nat)
    (hi : AL.Proc.indexOf AL.Proc.open3 (bytesOf v) 0 = some idx) (hb : ¬ StartsWithBOM (behind v idx))
    (hg : ∀ e, ¬ InGrammar (behind v idx) e)
    (hc : AL.Matrix.containsExpr v = true ∨ (¬ StartsWithBOM (decodeUtf8 (bytesOf v ++ [125, 125])) ∧
      ∀ e, ¬ InGrammar (decodeUtf8 (bytesOf v ++ [125, 125])) e)) : Chain.BadQ SyntaxCode v := by
  constructor
  · intro cx key u
    exact syntax_error_has _ (by rw [violation_syntax_error cx key u v idx hi hb hg])
  · rcases hc with hc | ⟨hb', hg'⟩
    · exact .inl hc
    · exact .inr fun cx key => syntax_error_has _ (by rw [checkOne_violation cx key false _ hb' hg'])

/-- the same from the verdict of lexer + parser (for concrete texts) -/
theorem badSyntax_of_rejected (v : String) (b : List Nat) (hb : bytesOf v = b) (idx : Nat)
    (hi : AL.Proc.indexOf AL.Proc.open3 b 0 = some idx) (hr : accepted (decodeUtf8 (b.drop (idx + 3))) = false)
    (hc : AL.Matrix.containsExpr v = true ∨ accepted (decodeUtf8 (b ++ [125, 125])) = false) : Chain.BadQ SyntaxCode v := by
  constructor
  · intro cx key u
    refine syntax_error_has _ ?_
    rw [AL.C11R.checkExprsIn_first cx key u v b hb idx hi _ (checkOne_of_rejected cx key u _ hr)]
  · rcases hc with hc | hc
    · exact .inl hc
    · exact .inr fun cx key => syntax_error_has _ (by rw [hb, checkOne_of_rejected cx key false _ hc])

/-- **the rule**: in every workflow AST, linted with or without a project, a value string whose first placeholder is outside
the grammar gets a diagnostic WITH A SYNTAX CODE located at that string — in every section, at every depth, under every
scope -/
theorem grammar_violation_in_workflow_reported (lower : String → String) (isNum : IsNumber) (w : Workflow) (proj : ProjView)
    (s : Str) (hm : s ∈ AL.C03R.valueStrs w) (idx : Nat)
    (hi : AL.Proc.indexOf AL.Proc.open3 (bytesOf s.value) 0 = some idx) (hb : ¬ StartsWithBOM (behind s.value idx))
    (hg : ∀ e, ¬ InGrammar (behind s.value idx) e)
    (hc : AL.Matrix.containsExpr s.value = true ∨ (¬ StartsWithBOM (decodeUtf8 (bytesOf s.value ++ [125, 125])) ∧
      ∀ e, ¬ InGrammar (decodeUtf8 (bytesOf s.value ++ [125, 125])) e)) :
    ∃ d ∈ rule lower isNum w proj, d.site = s.pos ∧ d.code ∈ syntaxCodes :=
  Chain.every_placeholder_checked lower isNum w proj s hm (badSyntax_of_violation s.value idx hi hb hg hc)

/-- **C04 end to end.** A value scalar of the DOCUMENT whose first placeholder is outside the documented grammar
(unterminated included) yields some diagnostic of the workflow parser (where and of which kind is not stated), or a
diagnostic of the expression rule with a syntax code located at that scalar. (`hc`: the scalar has a `}}` behind its `${{` — or is, as a whole, not an expression
either: that is what an `if:` without a complete placeholder is read as; `not_inGrammar_of_head` discharges it for a
scalar starting with `$`.) -/
theorem grammar_violation_in_document_reported (cfg : AL.PW.Cfg) (lower : String → String) (isNum : IsNumber)
    (proj : ProjView) (doc v : AL.Yaml.Node) (hv : v ∈ AL.C03P.valueScalars doc) (idx : Nat)
    (hi : AL.Proc.indexOf AL.Proc.open3 (bytesOf v.value) 0 = some idx) (hb : ¬ StartsWithBOM (behind v.value idx))
    (hg : ∀ e, ¬ InGrammar (behind v.value idx) e)
    (hc : AL.Matrix.containsExpr v.value = true ∨ (¬ StartsWithBOM (decodeUtf8 (bytesOf v.value ++ [125, 125])) ∧
      ∀ e, ¬ InGrammar (decodeUtf8 (bytesOf v.value ++ [125, 125])) e)) :
    (AL.PW.parse cfg doc).2 ≠ [] ∨
      ∃ d ∈ rule lower isNum (AL.PW.parse cfg doc).1 proj, d.site = v.pos ∧ d.code ∈ syntaxCodes := by
  rcases AL.C03P.no_value_scalar_dropped cfg doc v hv with h | ⟨s, hs, hval, hpos⟩
  · exact .inl h
  · obtain ⟨d, hd, hsite, hcode⟩ := grammar_violation_in_workflow_reported lower isNum _ proj s hs idx
      (by rw [hval]; exact hi) (by rw [hval]; exact hb) (by rw [hval]; exact hg) (by rw [hval]; exact hc)
    exact .inr ⟨d, hd, by rw [hsite, hpos], hcode⟩

theorem unterminated_in_document_reported (cfg : AL.PW.Cfg) (lower : String → String) (isNum : IsNumber)
    (proj : ProjView) (doc v : AL.Yaml.Node) (hv : v ∈ AL.C03P.valueScalars doc) (idx : Nat)
    (hi : AL.Proc.indexOf AL.Proc.open3 (bytesOf v.value) 0 = some idx) (hb : ¬ StartsWithBOM (behind v.value idx))
    (hcl : hasClose (behind v.value idx) = false)
    (hc : ¬ StartsWithBOM (decodeUtf8 (bytesOf v.value ++ [125, 125])) ∧
      ∀ e, ¬ InGrammar (decodeUtf8 (bytesOf v.value ++ [125, 125])) e) :
    (AL.PW.parse cfg doc).2 ≠ [] ∨
      ∃ d ∈ rule lower isNum (AL.PW.parse cfg doc).1 proj, d.site = v.pos ∧ d.code ∈ syntaxCodes :=
  grammar_violation_in_document_reported cfg lower isNum proj doc v hv idx hi hb (not_inGrammar_of_no_close _ hcl) (.inr hc)

/-- a value scalar every check of whose text yields the syntax code (`Chain.BadQ SyntaxCode`; for a concrete text this comes
from the verdict of lexer + parser, `badSyntax_of_rejected`) -/
theorem rejected_in_document_reported (cfg : AL.PW.Cfg) (lower : String → String) (isNum : IsNumber)
    (proj : ProjView) (doc v : AL.Yaml.Node) (hv : v ∈ AL.C03P.valueScalars doc) (h : Chain.BadQ SyntaxCode v.value) :
    (AL.PW.parse cfg doc).2 ≠ [] ∨
      ∃ d ∈ rule lower isNum (AL.PW.parse cfg doc).1 proj, d.site = v.pos ∧ d.code ∈ syntaxCodes := by
  rcases AL.C03P.no_value_scalar_dropped cfg doc v hv with h' | ⟨s, hs, hval, hpos⟩
  · exact .inl h'
  · obtain ⟨d, hd, hsite, hcode⟩ := Chain.every_placeholder_checked lower isNum _ proj s hs (by rw [hval]; exact h)
    exact .inr ⟨d, hd, by rw [hsite, hpos], hcode⟩

/-! ## 5. concrete texts

First what the instances are read off: the verdict of lexer + parser on a text (`rejected_text`, `lexOk`, `parseOk`,
`accepted_eq`, `lexed_syntax_iff`) and on its token kinds (`tokens_not_sentence`, `tokens_sentence`), for any text. -/

section Examples
open AL.C04 (ascii)

theorem noBOM_of_head {src : List Sym} (r : Nat) (h : src.head?.map (·.r) = some r) (hr : r ≠ 0xFEFF) :
    ¬ StartsWithBOM src := by
  rintro ⟨d, rest, rfl, hd, -⟩
  exact hr (hd ▸ (Option.some.inj h).symm)

/-- a text, its bytes, its first `${{`: rejected by lexer + parser ⇒ the syntax diagnostic in every scope -/
theorem rejected_text (cx : Cx) (key : String) (u : Bool) (v : String) (b : List Nat) (hb : bytesOf v = b) (idx : Nat)
    (hi : AL.Proc.indexOf AL.Proc.open3 b 0 = some idx) (hr : accepted (decodeUtf8 (b.drop (idx + 3))) = false) :
    checkExprsIn cx key u v = (none, [err "syntax-error" []]) :=
  AL.C11R.checkExprsIn_first cx key u v b hb idx hi _ (checkOne_of_rejected cx key u _ hr)

/-- rejected ⇒ not in the (strict) grammar: the contrapositive of `inGrammarStrict_accepted` -/
theorem rejected_not_inGrammarStrict (src : List Sym) (h : accepted src = false) : ∀ e, ¬ InGrammarStrict src e := by
  intro e hg
  rw [(inGrammarStrict_accepted hg).1] at h
  cases h

def lexOk (src : List Sym) : Bool := match lexExpression src with | .ok _ => true | .error _ => false
def parseOk (src : List Sym) : Bool := match parseToks (tokens src) with | .ok _ => true | .error _ => false

/-- the lexer accepts, the parser does not ⇒ the token sequence is not a sentence of the grammar (`parse_iff`) -/
theorem tokens_not_sentence (src : List Sym) (hl : lexOk src = true) (hp : parseOk src = false) :
    ∀ e, ¬ Der .or (((tokens src).dropLast).map (·.tok)) e := by
  intro e hd
  obtain ⟨init, last, htok, hlast, hinit⟩ := AL.C04.lex_well_ended src
  unfold lexOk at hl
  split at hl
  · rename_i r h1
    have h1' : lexExpression.go (tokens src) [] = .ok (r.1, r.2) := h1
    obtain ⟨-, -, hle⟩ := go_all init last [] r.1 r.2 hlast hinit (by rw [← htok]; exact h1')
    rw [htok, List.dropLast_concat] at hd
    have := (AL.C04.parse_iff init last e hlast hinit).2 ⟨hd, hle⟩
    unfold parseOk at hp
    rw [htok, this] at hp
    cases hp
  · cases hl

/-- the same from ONE run of the lexer: the kinds it finds, its verdict and the parser's -/
theorem kinds_not_sentence (src : List Sym) (ks : List TokKind)
    (h : (decide (((tokens src).dropLast).map (·.tok.kind) = ks) && lexOk src && !parseOk src) = true) :
    ((tokens src).dropLast).map (·.tok.kind) = ks ∧ ∀ e, ¬ Der .or (((tokens src).dropLast).map (·.tok)) e := by
  simp only [Bool.and_eq_true, decide_eq_true_eq, Bool.not_eq_true'] at h
  exact ⟨h.1.1, tokens_not_sentence src h.1.2 h.2⟩

/-- conversely: lexer and parser accept ⇒ the token sequence is a sentence -/
theorem tokens_sentence (src : List Sym) (hp : parseOk src = true) :
    ∃ e, Der .or (((tokens src).dropLast).map (·.tok)) e := by
  obtain ⟨init, last, htok, hlast, hinit⟩ := AL.C04.lex_well_ended src
  unfold parseOk at hp
  split at hp
  · rename_i e h
    rw [htok] at h
    rw [htok, List.dropLast_concat]
    exact ⟨e, ((AL.C04.parse_iff init last e hlast hinit).1 h).1⟩
  · cases hp

theorem accepted_eq (src : List Sym) : accepted src = (lexOk src && parseOk src) := by
  unfold accepted lexOk parseOk
  cases lexExpression src <;> cases parseToks (tokens src) <;> rfl

/-- **on a text the lexer accepts, the syntax code is exactly "the tokens are not a sentence of the grammar"** (the
parser half of the correspondence is exact: `AL.C04.parse_iff`) -/
theorem lexed_syntax_iff (cx : Cx) (key : String) (u : Bool) (rest : List Nat) (hl : lexOk (decodeUtf8 rest) = true) :
    (∃ x ∈ (checkOne cx key u rest).2, isSyntax x) ↔
      ∀ e, ¬ Der .or (((tokens (decodeUtf8 rest)).dropLast).map (·.tok)) e := by
  rw [checkOne_syntax_iff, accepted_eq, hl, Bool.true_and]
  constructor
  · intro hp; exact tokens_not_sentence _ hl hp
  · intro h
    cases hp : parseOk (decodeUtf8 rest) with
    | false => rfl
    | true =>
      obtain ⟨e, he⟩ := tokens_sentence _ hp
      exact absurd he (h e)

/-! #### `${{ a b }}`: two operands without an operator -/

def bAB : List Nat := [36, 123, 123, 32, 97, 32, 98, 32, 125, 125]
theorem bytes_ab : bytesOf "${{ a b }}" = bAB := by decide +kernel
theorem rejected_ab : accepted (decodeUtf8 (bAB.drop (0 + 3))) = false := by decide +kernel

theorem ab_syntax_error (cx : Cx) (key : String) (u : Bool) :
    checkExprsIn cx key u "${{ a b }}" = (none, [err "syntax-error" []]) :=
  rejected_text cx key u _ bAB bytes_ab 0 (by decide +kernel) rejected_ab

/-- the lexer is content: IDENT IDENT — which is not a sentence -/
theorem ab_not_sentence : ((tokens (ascii " a b }}")).dropLast).map (·.tok.kind) = [.ident, .ident] ∧
    ∀ e, ¬ Der .or (((tokens (ascii " a b }}")).dropLast).map (·.tok)) e :=
  kinds_not_sentence _ _ (by decide +kernel)

theorem ab_not_inGrammarStrict : ∀ e, ¬ InGrammarStrict (decodeUtf8 (bAB.drop (0 + 3))) e :=
  rejected_not_inGrammarStrict _ rejected_ab

/-! #### `${{ 1 + 2 }}`: there is no arithmetic in the grammar (`+` starts no token) -/

def b1p2 : List Nat := [36, 123, 123, 32, 49, 32, 43, 32, 50, 32, 125, 125]
theorem bytes_1p2 : bytesOf "${{ 1 + 2 }}" = b1p2 := by decide +kernel
theorem rejected_1p2 : accepted (decodeUtf8 (b1p2.drop (0 + 3))) = false := by decide +kernel

theorem onePlusTwo_syntax_error (cx : Cx) (key : String) (u : Bool) :
    checkExprsIn cx key u "${{ 1 + 2 }}" = (none, [err "syntax-error" []]) :=
  rejected_text cx key u _ b1p2 bytes_1p2 0 (by decide +kernel) rejected_1p2

/-- here it is the LEXER that rejects -/
theorem onePlusTwo_lexer : lexOk (ascii " 1 + 2 }}") = false := by decide +kernel

theorem onePlusTwo_not_inGrammarStrict : ∀ e, ¬ InGrammarStrict (decodeUtf8 (b1p2.drop (0 + 3))) e :=
  rejected_not_inGrammarStrict _ rejected_1p2

/-! #### `${{ a.'b' }}`: a property is an identifier or `*`, not a string -/

def bADotStr : List Nat := [36, 123, 123, 32, 97, 46, 39, 98, 39, 32, 125, 125]
theorem bytes_aDotStr : bytesOf "${{ a.'b' }}" = bADotStr := by decide +kernel
theorem rejected_aDotStr : accepted (decodeUtf8 (bADotStr.drop (0 + 3))) = false := by decide +kernel

theorem aDotStr_syntax_error (cx : Cx) (key : String) (u : Bool) :
    checkExprsIn cx key u "${{ a.'b' }}" = (none, [err "syntax-error" []]) :=
  rejected_text cx key u _ bADotStr bytes_aDotStr 0 (by decide +kernel) rejected_aDotStr

theorem aDotStr_not_sentence : ((tokens (ascii " a.'b' }}")).dropLast).map (·.tok.kind) = [.ident, .dot, .string] ∧
    ∀ e, ¬ Der .or (((tokens (ascii " a.'b' }}")).dropLast).map (·.tok)) e :=
  kinds_not_sentence _ _ (by decide +kernel)

/-! #### `${{ x[ }}`: an index that is never closed -/

def bXBr : List Nat := [36, 123, 123, 32, 120, 91, 32, 125, 125]
theorem bytes_xBr : bytesOf "${{ x[ }}" = bXBr := by decide +kernel
theorem rejected_xBr : accepted (decodeUtf8 (bXBr.drop (0 + 3))) = false := by decide +kernel

theorem xBr_syntax_error (cx : Cx) (key : String) (u : Bool) :
    checkExprsIn cx key u "${{ x[ }}" = (none, [err "syntax-error" []]) :=
  rejected_text cx key u _ bXBr bytes_xBr 0 (by decide +kernel) rejected_xBr

theorem xBr_not_sentence : ((tokens (ascii " x[ }}")).dropLast).map (·.tok.kind) = [.ident, .lbracket] ∧
    ∀ e, ¬ Der .or (((tokens (ascii " x[ }}")).dropLast).map (·.tok)) e :=
  kinds_not_sentence _ _ (by decide +kernel)

/-! #### `${{ !x }}` is fine: in the grammar, hence never a syntax code — whatever `x` is in the scope -/

def bNotX : List Nat := [36, 123, 123, 32, 33, 120, 32, 125, 125]
theorem bytes_notX : bytesOf "${{ !x }}" = bNotX := by decide +kernel

def tNot : Tok := ⟨.not, ascii "!", 1, 1, 2⟩
def tX : Tok := ⟨.ident, ascii "x", 2, 1, 3⟩
def tEnd : Tok := ⟨.end, ascii "}}", 4, 1, 5⟩

theorem notX_decoded : decodeUtf8 (bNotX.drop (0 + 3)) = ascii " !x }}" := by decide +kernel

theorem notX_tiles : AL.C04.interleave [ascii " ", [], ascii " "] ([tNot, tX] ++ [tEnd]) = ascii " !x }}" := by decide +kernel

theorem ascii_clean (s : String) (h : ∀ c ∈ s.toList, c.toNat ≠ 0) : ∀ d ∈ ascii s, Clean d := by
  intro d hd
  simp only [ascii, List.mem_map] at hd
  obtain ⟨c, hc, rfl⟩ := hd
  exact ⟨rfl, h c hc⟩

/-- the reading of ` !x }}`: blank `!` `x` blank `}}`, the sentence `! IDENT` -/
theorem notX_reading : StrictReading (ascii " !x }}") [ascii " ", [], ascii " "] [tNot, tX] tEnd (.not (.var (ascii "x"))) where
  len := rfl
  white := by decide +kernel
  tiles := ⟨[], by decide +kernel⟩
  spelled := by
    intro t ht
    simp only [List.mem_cons, List.not_mem_nil, or_false] at ht
    rcases ht with rfl | rfl
    · exact ⟨by decide +kernel, show runes (ascii "!") = [33] by decide +kernel⟩
    · exact ⟨by decide +kernel, 120, [], by decide +kernel, .inl (by decide +kernel), by simp⟩
  close := ⟨rfl, by decide +kernel⟩
  sentence := .orUp (.andUp (.cmpUp (.unaryNot (o := tNot) rfl (.unaryUp (.postUp (.primIdent (t := tX) rfl))))))
  greedy := by
    intro tail h
    have : tail = [] := by rw [notX_tiles] at h; simpa using h
    subst this
    exact ⟨by decide +kernel, by decide +kernel, by decide +kernel, trivial⟩
  clean := by
    intro tail h
    have : tail = [] := by rw [notX_tiles] at h; simpa using h
    subst this
    rw [notX_tiles]
    simp only [List.head?_nil, Option.toList_none, List.append_nil]
    exact ascii_clean _ (by decide +kernel)
  noBOM := noBOM_of_head 32 (by decide +kernel) (by decide +kernel)

theorem notX_inGrammar : InGrammarStrict (decodeUtf8 (bNotX.drop (0 + 3))) (.not (.var (ascii "x"))) := by
  rw [notX_decoded]
  exact ⟨_, _, _, notX_reading⟩

/-- in every scope, under every key: the diagnostics of `${{ !x }}` are those of the semantic check of `!x` — never a syntax
code -/
theorem notX_no_syntax_code (cx : Cx) (key : String) (u : Bool) : NoSyn (checkExprsIn cx key u "${{ !x }}").2 :=
  single_placeholder_noSyn cx key u _ bNotX bytes_notX 0 (by decide +kernel) (inGrammarStrict_accepted notX_inGrammar).1
    (by decide +kernel)

/-! #### `${{ "a" }}`: double quotes — the grammar has `'…'` only; `${{ a`: unterminated. Here the hypotheses of
`violation_syntax_error` / `unterminated_syntax_error` are discharged on the grammar side, without running lexer or parser -/

def bDq : List Nat := [36, 123, 123, 32, 34, 97, 34, 32, 125, 125]
theorem bytes_dq : bytesOf "${{ \"a\" }}" = bDq := by decide +kernel
theorem dq_decoded : behind "${{ \"a\" }}" 0 = ascii " \"a\" }}" := by unfold behind; rw [bytes_dq]; decide +kernel

theorem dq_not_inGrammar : ∀ e, ¬ InGrammar (behind "${{ \"a\" }}" 0) e := by
  rw [dq_decoded]
  exact not_inGrammar_of_head _ (ascii " ") ⟨34, 1, false⟩ (ascii "a\" }}") (by decide +kernel) (by decide +kernel) (by decide +kernel) (by decide +kernel)

theorem dq_syntax_error (cx : Cx) (key : String) (u : Bool) :
    checkExprsIn cx key u "${{ \"a\" }}" = (none, [err "syntax-error" []]) := by
  apply violation_syntax_error cx key u _ 0 (by rw [bytes_dq]; decide +kernel) ?_ dq_not_inGrammar
  rw [dq_decoded]
  exact noBOM_of_head 32 (by decide +kernel) (by decide +kernel)

def bOpenA : List Nat := [101, 99, 104, 111, 32, 36, 123, 123, 32, 97]
theorem bytes_openA : bytesOf "echo ${{ a" = bOpenA := by decide +kernel
theorem openA_decoded : behind "echo ${{ a" 5 = ascii " a" := by unfold behind; rw [bytes_openA]; decide +kernel

/-- `run: echo ${{ a` — the placeholder is never closed -/
theorem openA_syntax_error (cx : Cx) (key : String) (u : Bool) :
    checkExprsIn cx key u "echo ${{ a" = (none, [err "syntax-error" []]) := by
  apply unterminated_syntax_error cx key u _ 5 (by rw [bytes_openA]; decide +kernel)
  · rw [openA_decoded]
    exact noBOM_of_head 32 (by decide +kernel) (by decide +kernel)
  · rw [openA_decoded]; decide +kernel

/-- … and it is `Malformed` in the sense of C03: reported in EVERY position, a bare `if:` included (read as a whole,
`echo ${{ a` is not an expression either: `$` starts no token — the reading would have to go through it, there being no
`}}` before) -/
theorem openA_malformed : AL.C03R.Malformed "echo ${{ a" := by
  constructor
  · intro cx key u; rw [openA_syntax_error]; exact List.cons_ne_nil _ _
  · intro cx key
    rw [checkOne_of_rejected cx key false _ (by rw [bytes_openA]; decide +kernel)]
    exact List.cons_ne_nil _ _

/-! #### the second placeholder: `${{ true }} ${{ b c }}` — the loop passes the first, the second is outside the grammar -/

def bTrueBC : List Nat :=
  [36, 123, 123, 32, 116, 114, 117, 101, 32, 125, 125, 32, 36, 123, 123, 32, 98, 32, 99, 32, 125, 125]
theorem bytes_trueBC : bytesOf "${{ true }} ${{ b c }}" = bTrueBC := by decide +kernel

theorem trueBC_syntax_error (cx : Cx) (key : String) (u : Bool) :
    checkExprsIn cx key u "${{ true }} ${{ b c }}" = (none, [err "syntax-error" []]) := by
  have hp : AL.C11R.Passed cx key u (bytesOf "${{ true }} ${{ b c }}") 1 ((bTrueBC.drop (0 + 3)).drop 8) := by
    rw [bytes_trueBC]
    exact AL.C11R.Passed.step (idx := 0) (by decide +kernel) (AL.C11R.checkOne_of_parsesBoolLit cx key u _ 8 (by decide +kernel))
      (by decide +kernel) (AL.C11R.Passed.zero _)
  exact AL.C11R.kth_placeholder_reported cx key u _ 1 _ hp 1 (by decide +kernel) _
    (checkOne_of_rejected cx key u _ (by decide +kernel))

/-! #### the two limits of the correspondence, on witnesses -/

/-- **byte-order mark** (the finding of `AL.C04.lex_spelling_counterexample`, at the level of the rule): in
`${{<U+FEFF>a }}` the scanner drops the mark, the identifier keeps it in its text; lexer and parser accept, no syntax
diagnostic in any scope — and the text is NOT in the grammar (U+FEFF starts no token). Why `¬ StartsWithBOM` is a
hypothesis of `accepted_inGrammar` / `violation_syntax_error`. -/
theorem bom_accepted_outside_grammar :
    (∀ (cx : Cx) (key : String) (u : Bool), NoSyn (checkOne cx key u [239, 187, 191, 97, 32, 125, 125]).2) ∧
    (∀ e, ¬ InGrammar (decodeUtf8 [239, 187, 191, 97, 32, 125, 125]) e) := by
  have hd : decodeUtf8 [239, 187, 191, 97, 32, 125, 125] = ⟨0xFEFF, 3, false⟩ :: ascii "a }}" := by decide +kernel
  constructor
  · intro cx key u x hx hs
    have := (checkOne_syntax_iff cx key u _).1 ⟨x, hx, hs⟩
    rw [show accepted (decodeUtf8 [239, 187, 191, 97, 32, 125, 125]) = true from by decide +kernel] at this
    cases this
  · rw [hd]
    exact not_inGrammar_of_head _ [] ⟨0xFEFF, 3, false⟩ (ascii "a }}") rfl (by simp) (by decide +kernel) (by decide +kernel)

def t1 : Tok := ⟨.int, ascii "1", 1, 1, 2⟩
def tDot : Tok := ⟨.dot, ascii ".", 2, 1, 3⟩
def tA : Tok := ⟨.ident, ascii "a", 3, 1, 4⟩

/-- **longest match is part of the grammar**: ` 1.a }}` can be READ as `1` `.` `a` — a sentence — but `1.` starts a
fraction (`AL.C04.lex_complete`'s side condition) and the lexer rejects: `InGrammar` alone does not imply acceptance,
`InGrammarStrict` does. -/
theorem loose_reading_rejected : InGrammar (ascii " 1.a }}") (.objDeref (.int 1) (ascii "a")) ∧
    accepted (ascii " 1.a }}") = false ∧ ∀ e, ¬ InGrammarStrict (ascii " 1.a }}") e := by
  have hrej : accepted (ascii " 1.a }}") = false := by decide +kernel
  refine ⟨⟨[ascii " ", [], [], ascii " "], [t1, tDot, tA], tEnd, rfl, by decide +kernel, ⟨[], by decide +kernel⟩, ?_, ⟨rfl, by decide +kernel⟩, ?_⟩,
    hrej, rejected_not_inGrammarStrict _ hrej⟩
  · intro t ht
    simp only [List.mem_cons, List.not_mem_nil, or_false] at ht
    rcases ht with rfl | rfl | rfl
    · exact ⟨by decide +kernel, .inl (.inl (.inr ⟨49, [], by decide +kernel, by decide +kernel, by decide +kernel, by simp⟩))⟩
    · exact ⟨by decide +kernel, show runes (ascii ".") = [46] by decide +kernel⟩
    · exact ⟨by decide +kernel, 97, [], by decide +kernel, .inl (by decide +kernel), by simp⟩
  · exact .orUp (.andUp (.cmpUp (.unaryUp (.postProp (ts := [t1]) (d := tDot) (i := tA)
      (.postUp (.primInt (t := t1) rfl (by decide +kernel))) rfl rfl))))

/-! #### where a placeholder ends is the lexer's business; what is behind a first diagnostic is not looked at -/

/-- **Observation.** A `}}` inside a string literal does not close the placeholder: `${{ 'a}}' }}` is ONE placeholder, the
string `'a}}'` — in the grammar, accepted, the lexer's offset (9) is behind the second `}}`. (Hence the theorems above speak
of the text behind `${{`, not of "the text up to the first `}}`": cut at the first `}}`, the body ` 'a` would be outside
the grammar. `ContainsExpression` (ast.go) does look for a `}}` textually: any `}}` behind the first `${{`.) -/
theorem close_inside_string :
    (lexExpression (decodeUtf8 [32, 39, 97, 125, 125, 39, 32, 125, 125])).toOption.map
      (fun r => (r.1.map (·.kind), r.2)) = some ([.string, .end], 9) ∧
    accepted (decodeUtf8 [32, 39, 97, 125, 125, 39, 32, 125, 125]) = true ∧
    accepted (decodeUtf8 [32, 39, 97, 125, 125]) = false := by
  refine ⟨by decide +kernel, by decide +kernel, by decide +kernel⟩

def bTitleAB : List Nat :=
  [36, 123, 123, 32, 103, 105, 116, 104, 117, 98, 46, 101, 118, 101, 110, 116, 46, 105, 115, 115, 117, 101, 46, 116, 105,
   116, 108, 101, 32, 125, 125, 32, 36, 123, 123, 32, 97, 32, 98, 32, 125, 125]
theorem bytes_titleAB : bytesOf "${{ github.event.issue.title }} ${{ a b }}" = bTitleAB := by decide +kernel

/-- **the limit `placeholders-after-first-diagnostic`, for syntax**: in a script, `${{ github.event.issue.title }} ${{ a b }}`
gets the diagnostics of the first placeholder only — the string IS reported, but the grammar violation behind is not: no
syntax code. (`violation_syntax_error` is about the FIRST placeholder; `syntax_from_first_bad` says exactly which
placeholder a syntax code belongs to.) -/
theorem later_violation_not_reported (cx : Cx) (hl : AL.C11R.KeepsTitle cx.lower) (key : String) :
    checkExprsIn cx key true "${{ github.event.issue.title }} ${{ a b }}" =
      checkExprsIn cx key true "${{ github.event.issue.title }}" ∧
    (checkExprsIn cx key true "${{ github.event.issue.title }} ${{ a b }}").2 ≠ [] ∧
    NoSyn (checkExprsIn cx key true "${{ github.event.issue.title }} ${{ a b }}").2 := by
  have h1 : checkExprsIn cx key true "${{ github.event.issue.title }} ${{ a b }}" =
      checkExprsIn cx key true "${{ github.event.issue.title }}" := by
    rw [AL.C11R.title_scan cx hl key]
    have := AL.C11R.chain_text_untrusted cx key _ bTitleAB bytes_titleAB 0 (by decide +kernel) "github" ["title", "issue", "event"] 28
      (by decide +kernel) ["github.event.issue.title"]
      (by simp only [List.map, hl.github, hl.event, hl.issue, hl.title]; exact AL.C11R.title_report)
    simpa only [List.map, hl.github, hl.event, hl.issue, hl.title] using this
  refine ⟨h1, ?_, ?_⟩
  · rw [h1, AL.C11R.title_scan cx hl key]; simp
  · rw [h1, AL.C11R.title_scan cx hl key]
    apply noSyn_append.2
    refine ⟨check_noSyn _ _, ?_⟩
    intro x hx hs
    rw [List.mem_singleton.1 hx, isSyntax_iff] at hs
    simp [err] at hs

/-! #### on documents -/

theorem bytes_open : bytesOf "${{" = [36, 123, 123] := by decide +kernel

/-- `${{` alone, as a whole closed by `}}`, is no expression: `$` starts no token -/
theorem open_whole_not_inGrammar : ¬ StartsWithBOM (decodeUtf8 (bytesOf "${{" ++ [125, 125])) ∧
    ∀ e, ¬ InGrammar (decodeUtf8 (bytesOf "${{" ++ [125, 125])) e := by
  have hd : decodeUtf8 (bytesOf "${{" ++ [125, 125]) = ascii "${{}}" := by rw [bytes_open]; decide +kernel
  rw [hd]
  constructor
  · exact noBOM_of_head 36 (by decide +kernel) (by decide +kernel)
  · exact not_inGrammar_of_head _ [] ⟨36, 1, false⟩ (ascii "{{}}") (by decide +kernel) (by simp) (by decide +kernel) (by decide +kernel)

/-- the document of AL.C03P (`run-name: ${{`, and `${{` three levels down in a matrix): both unterminated placeholders get a
diagnostic WITH THE SYNTAX CODE at their own position, with or without a project -/
example (lower : String → String) (isNum : IsNumber) (proj : ProjView) :
    (∃ d ∈ rule lower isNum (AL.PW.parse AL.C03P.exCfg AL.C03P.exDoc).1 proj, d.site = ⟨1, 11⟩ ∧ d.code ∈ syntaxCodes) ∧
    (∃ d ∈ rule lower isNum (AL.PW.parse AL.C03P.exCfg AL.C03P.exDoc).1 proj, d.site = ⟨5, 34⟩ ∧ d.code ∈ syntaxCodes) := by
  have hbehind : behind "${{" 0 = [] := by unfold behind; rw [bytes_open]; decide +kernel
  have key : ∀ l c, AL.C03P.sc "!!str" "${{" l c ∈ AL.C03P.valueScalars AL.C03P.exDoc →
      ∃ d ∈ rule lower isNum (AL.PW.parse AL.C03P.exCfg AL.C03P.exDoc).1 proj, d.site = ⟨l, c⟩ ∧ d.code ∈ syntaxCodes := by
    intro l c hm
    refine (unterminated_in_document_reported AL.C03P.exCfg lower isNum proj AL.C03P.exDoc _ hm 0
      (by show AL.Proc.indexOf AL.Proc.open3 (bytesOf "${{") 0 = some 0; rw [bytes_open]; decide +kernel) ?_ ?_
      open_whole_not_inGrammar).resolve_left (fun h => h AL.C03P.exDoc_clean)
    · show ¬ StartsWithBOM (behind "${{" 0)
      rw [hbehind]; rintro ⟨d, rest, he, -⟩; cases he
    · show hasClose (behind "${{" 0) = false
      rw [hbehind]; rfl
  exact ⟨key 1 11 (by rw [AL.C03P.exDoc_scalars]; simp), key 5 34 (by rw [AL.C03P.exDoc_scalars]; simp)⟩

theorem contains_ab : AL.Matrix.containsExpr "${{ a b }}" = true := by decide +kernel

/-- `${{ a b }}` in ANY value position of ANY workflow document: some diagnostic of the workflow parser, or a diagnostic
with the syntax code at that scalar — an `if:` included -/
theorem ab_reported_everywhere (cfg : AL.PW.Cfg) (lower : String → String) (isNum : IsNumber) (proj : ProjView)
    (doc v : AL.Yaml.Node) (hv : v ∈ AL.C03P.valueScalars doc) (hval : v.value = "${{ a b }}") :
    (AL.PW.parse cfg doc).2 ≠ [] ∨
      ∃ d ∈ rule lower isNum (AL.PW.parse cfg doc).1 proj, d.site = v.pos ∧ d.code ∈ syntaxCodes :=
  rejected_in_document_reported cfg lower isNum proj doc v hv
    (by rw [hval]; exact badSyntax_of_rejected _ bAB bytes_ab 0 (by decide +kernel) rejected_ab (.inl contains_ab))

/-! #### instances of the remaining theorems with hypotheses -/

theorem notX_noBOM : ¬ StartsWithBOM (ascii " !x }}") := notX_reading.noBOM

/-- `accepted_inGrammar` on ` !x }}` -/
example : ∃ e, parseToks (tokens (ascii " !x }}")) = .ok e ∧ InGrammar (ascii " !x }}") e :=
  accepted_inGrammar _ notX_noBOM (by decide +kernel)

/-- `not_inGrammar_rejected` on ` "a" }}` -/
example : accepted (behind "${{ \"a\" }}" 0) = false :=
  not_inGrammar_rejected _ (by rw [dq_decoded]; exact noBOM_of_head 32 (by decide +kernel) (by decide +kernel))
    dq_not_inGrammar

/-- `checkOne_of_rejected`, `checkOne_syntax_iff`, `checkOne_syntax_exact`, `checkOne_syntax_scope_free` on ` a b }}` -/
example (cx cx' : Cx) (key key' : String) (u u' : Bool) :
    checkOne cx key u (bAB.drop (0 + 3)) = (none, [err "syntax-error" []]) ∧
    (∃ e ∈ (checkOne cx' key' u' (bAB.drop (0 + 3))).2, isSyntax e) := by
  have h1 := checkOne_of_rejected cx key u _ rejected_ab
  have h2 : ∃ e ∈ (checkOne cx key u (bAB.drop (0 + 3))).2, isSyntax e := (checkOne_syntax_iff cx key u _).2 rejected_ab
  exact ⟨checkOne_syntax_exact cx key u _ h2, checkOne_syntax_scope_free cx cx' key key' u u' _ h2⟩

/-- `checkOne_of_accepted`, `checkOne_of_inGrammar`, `inGrammar_no_syntax` on ` !x }}` -/
example (cx : Cx) (key : String) (u : Bool) :
    (∃ off, checkOne cx key u (bNotX.drop (0 + 3)) = checkParsed cx key u (.not (.var (ascii "x"))) off) ∧
    NoSyn (checkOne cx key u (bNotX.drop (0 + 3))).2 :=
  ⟨checkOne_of_inGrammar cx key u _ _ notX_inGrammar, inGrammar_no_syntax cx key u _ _ notX_inGrammar⟩

/-- `syntax_code_outside_grammar` on ` a b }}` -/
example (cx : Cx) (key : String) (u : Bool) : ∀ e, ¬ InGrammarStrict (decodeUtf8 (bAB.drop (0 + 3))) e :=
  syntax_code_outside_grammar cx key u _ ((checkOne_syntax_iff cx key u _).2 rejected_ab)

/-- `der_same`: the sentence `! x` wherever the two tokens stand -/
example (o l c o' l' c' : Nat) :
    Der .or [⟨.not, ascii "!", o, l, c⟩, ⟨.ident, ascii "x", o', l', c'⟩] (.not (.var (ascii "x"))) :=
  der_same notX_reading.sentence _ rfl

/-- `indexOf_open3_append`, `violation_syntax_error_split`: `echo ` + `${{` + ` a` -/
example (cx : Cx) (key : String) (u : Bool) : checkExprsIn cx key u "echo ${{ a" = (none, [err "syntax-error" []]) := by
  apply violation_syntax_error_split cx key u _ [101, 99, 104, 111, 32] [32, 97] (by rw [bytes_openA]; rfl) (by decide +kernel)
  · exact noBOM_of_head 32 (by decide +kernel) (by decide +kernel)
  · have : decodeUtf8 [32, 97] = ascii " a" := by decide +kernel
    rw [this]
    exact not_inGrammar_of_no_close _ (by decide +kernel)

/-- `syntax_from_first_bad`, `checkExprsIn_syntax_iff` on `${{ true }} ${{ b c }}`: the loop passed placeholders, stands at
one that is rejected -/
example (cx : Cx) (key : String) (u : Bool) :
    ∃ k t idx, AL.C11R.Passed cx key u (bytesOf "${{ true }} ${{ b c }}") k t ∧
      AL.Proc.indexOf AL.Proc.open3 t 0 = some idx ∧ accepted (decodeUtf8 (t.drop (idx + 3))) = false :=
  (checkExprsIn_syntax_iff cx key u _).1 (syntax_error_has _ (by rw [trueBC_syntax_error]) |>.imp fun e he =>
    ⟨he.1, he.2⟩)

/-- `no_syntax_of_all_inGrammar` on `${{ !x }}`: the loop reaches one placeholder, which is in the grammar -/
example (cx : Cx) (key : String) (u : Bool) : NoSyn (checkExprsIn cx key u "${{ !x }}").2 := by
  apply no_syntax_of_all_inGrammar
  intro k t idx hp hi
  rw [bytes_notX] at hp
  have h00 : AL.Proc.indexOf AL.Proc.open3 bNotX 0 = some 0 := by decide +kernel
  cases hp with
  | zero =>
    rw [h00] at hi; cases hi
    exact ⟨_, notX_inGrammar⟩
  | @step _ idx' ty off es k' _ hi' h1 h0 hp' =>
    rw [h00] at hi'; cases hi'
    obtain ⟨ts, off', pe, hlex, -, hco⟩ := checkOne_of_accepted cx key u (bNotX.drop (0 + 3))
      (inGrammarStrict_accepted notX_inGrammar).1
    have hoff : off' = 6 := by
      have : (lexExpression (decodeUtf8 (bNotX.drop (0 + 3)))).toOption.map (·.2) = some 6 := by decide +kernel
      rw [hlex] at this
      simpa [Except.toOption] using this
    have : off = off' := checkParsed_off cx key u pe off' ty off (by rw [← hco, h1])
    subst this
    subst hoff
    have hnil : (bNotX.drop (0 + 3)).drop 6 = [] := by decide +kernel
    rw [hnil] at hp'
    cases hp' with
    | zero => rw [AL.C11R.indexOf_open3_nil] at hi; cases hi
    | step hi'' _ _ _ => rw [AL.C11R.indexOf_open3_nil] at hi''; cases hi''

/-- `malformed_of_violation` on `${{ "a" }}` (as a whole, closed by `}}`, it starts with `$`) -/
example : AL.C03R.Malformed "${{ \"a\" }}" := by
  have hd : decodeUtf8 (bytesOf "${{ \"a\" }}" ++ [125, 125]) = ascii "${{ \"a\" }}}}" := by rw [bytes_dq]; decide +kernel
  refine malformed_of_violation _ 0 (by rw [bytes_dq]; decide +kernel) ?_ dq_not_inGrammar ?_ ?_
  · rw [dq_decoded]; exact noBOM_of_head 32 (by decide +kernel) (by decide +kernel)
  · rw [hd]; exact noBOM_of_head 36 (by decide +kernel) (by decide +kernel)
  · rw [hd]
    exact not_inGrammar_of_head _ [] ⟨36, 1, false⟩ (ascii "{{ \"a\" }}}}") (by decide +kernel) (by simp) (by decide +kernel) (by decide +kernel)

/-- `lexed_syntax_iff`, `tokens_sentence`, `inGrammarStrict_unique` -/
example (cx : Cx) (key : String) (u : Bool) : ∃ x ∈ (checkOne cx key u (bAB.drop (0 + 3))).2, isSyntax x :=
  (lexed_syntax_iff cx key u _ (by decide +kernel)).2
    (by rw [show decodeUtf8 (bAB.drop (0 + 3)) = ascii " a b }}" from by decide +kernel]; exact ab_not_sentence.2)
example : ∃ e, Der .or (((tokens (ascii " !x }}")).dropLast).map (·.tok)) e := tokens_sentence _ (by decide +kernel)
example (e : Expr) (h : InGrammarStrict (decodeUtf8 (bNotX.drop (0 + 3))) e) : e = .not (.var (ascii "x")) :=
  inGrammarStrict_unique h notX_inGrammar

end Examples

end AL.C04R
