import AL.Props.C18Parse
import AL.Props.C05Doc
/-
  C18 from the DOCUMENT: the needs graph of what is WRITTEN under `jobs:` (keys) and under each `needs:` (entries), and the
  two reports of rule job-needs in terms of it. For a document the parser accepts without a diagnostic
  (`(parse cfg doc).2 = []`):

    jobsOf_written        the jobs of the AST are the pairs of `jobs:`, in order
    doc_undefined_exact   "needs undefined" at job `p` for `dep` iff `dep` (non-empty) is the folded text of an entry written
                          under `needs:` of `p` and no key of `jobs:` folds to `dep`
    docGraph              the needs graph on the node tree alone: vertices = the pairs of `jobs:` (with a non-empty folded
                          key), in order; `w ∈ succ v` iff an entry of `needs:` of `v` folds to the folded key of `w`
    docGraph_is_rule_graph   same length, same ids, same positions, same edges as the graph the rule builds
    docGraph_cyclic_iff / docGraph_isCycle_iff   hence the same cycles
    doc_no_undefined_iff  no "needs undefined" iff every (non-empty) entry of every `needs:` names a key of `jobs:`
    doc_cyclic_iff, doc_acyclic_none, doc_cyclic_some, doc_printed_is_cycle
-/
namespace AL.C18D
open AL AL.PW AL.Ast AL.Spec AL.C18 AL.C18P AL.C05D

/-! ## 1. the jobs of the AST, the dangling references -/

/-- the jobs the rule walks over are the jobs built from the pairs of `jobs:`, in order -/
theorem jobsOf_written (cfg : Cfg) (doc : Yaml.Node) (h : (parse cfg doc).2 = []) :
    Rules.jobsOf (parse cfg doc).1 = (docJobs doc).map (docJob cfg) := by
  have := jobs_written cfg doc h
  unfold docJobsAst at this
  simp only [Rules.jobsOf, this, List.map_map]
  rfl

theorem docJob_id_value (cfg : Cfg) (p : Yaml.Node × Yaml.Node) : (docJob cfg p).id.value = p.1.value := by
  rw [job_id_written]; rfl

theorem docJob_id_pos (cfg : Cfg) (p : Yaml.Node × Yaml.Node) : (docJob cfg p).id.pos = p.1.pos := by
  rw [job_id_written]; rfl

/-- the folded texts of the entries of a job's `needs` are the folded texts written under `needs:` -/
theorem needs_folded_written (cfg : Cfg) (doc : Yaml.Node) (h : (parse cfg doc).2 = []) (p : Yaml.Node × Yaml.Node)
    (hp : p ∈ docJobs doc) (dep : String) :
    (∃ n ∈ (docJob cfg p).needs.getD [], cfg.lower n.value = dep) ↔ ∃ s ∈ docNeeds p.2, cfg.lower s = dep := by
  rw [← (needs_written cfg doc h p hp).2]
  simp only [List.mem_map]
  constructor
  · rintro ⟨n, hn, e⟩; exact ⟨n.value, ⟨n, hn, rfl⟩, e⟩
  · rintro ⟨s, ⟨n, hn, rfl⟩, e⟩; exact ⟨n, hn, e⟩

/-- **C18 (e) on the document**: rule job-needs reports "needs undefined" at the key `p` of `jobs:` for the name `dep` iff
`dep` is the non-empty folded text of an entry WRITTEN under `needs:` of `p` and no key of `jobs:` folds to `dep`. -/
theorem doc_undefined_exact (cfg : Cfg) (doc : Yaml.Node) (h : (parse cfg doc).2 = []) (pos : Rules.Pos) (i dep : String) :
    (⟨pos, "job-needs", "needs-undefined", [i, dep]⟩ : Rules.Diag) ∈ Rules.ruleJobNeeds cfg.lower (parse cfg doc).1 ↔
      (∃ p ∈ docJobs doc, p.1.pos = pos ∧ cfg.lower p.1.value = i ∧ i ≠ "" ∧ dep ≠ "" ∧
        ∃ s ∈ docNeeds p.2, cfg.lower s = dep) ∧
      ∀ k ∈ docJobIds doc, cfg.lower k ≠ dep := by
  rw [parsed_undefined_exact, jobsOf_written cfg doc h]
  simp only [List.mem_map, docJobIds]
  constructor
  · rintro ⟨j, ⟨p, hp, rfl⟩, h1, h2, h3, h4, h5, h6⟩
    rw [docJob_id_value] at h1 h3
    rw [docJob_id_pos] at h2
    refine ⟨⟨p, hp, h2, h3, h3 ▸ h1, h4, (needs_folded_written cfg doc h p hp dep).1 h5⟩, ?_⟩
    rintro k ⟨q, hq, rfl⟩
    have := h6 _ ⟨q, hq, rfl⟩
    rwa [docJob_id_value] at this
  · rintro ⟨⟨p, hp, h2, h3, h1, h4, h5⟩, h6⟩
    refine ⟨_, ⟨p, hp, rfl⟩, ?_, ?_, ?_, h4, (needs_folded_written cfg doc h p hp dep).2 h5, ?_⟩
    · rw [docJob_id_value, h3]; exact h1
    · rw [docJob_id_pos]; exact h2
    · rw [docJob_id_value]; exact h3
    · rintro j' ⟨q, hq, rfl⟩
      rw [docJob_id_value]
      exact h6 _ ⟨q, hq, rfl⟩

/-! ## 2. the needs graph of the document -/

/-- the vertices: the pairs of `jobs:` whose folded key is not empty, in the order written -/
def docVerts (lower : String → String) (doc : Yaml.Node) : List (Yaml.Node × Yaml.Node) :=
  (docJobs doc).filter fun p => lower p.1.value ≠ ""

/-- the folded keys of the vertices -/
def docVertIds (lower : String → String) (doc : Yaml.Node) : List String := (docVerts lower doc).map fun p => lower p.1.value

/-- the index of the first vertex whose folded key is `d`: `Needs.indexOf?` stated on the list of ids
(`indexOf?_eq_docIndex`) -/
def docIndex (ids : List String) (d : String) : Option Nat :=
  if ids.findIdx (· = d) < ids.length then some (ids.findIdx (· = d)) else none

/-- **the needs graph of the document**, on the node tree alone: one vertex per key of `jobs:` with a non-empty folded
text (`docVerts`), an edge to the vertex whose folded key is the folded text of an entry written under `needs:` -/
def docGraph (lower : String → String) (doc : Yaml.Node) : Needs.Graph :=
  (docVerts lower doc).map fun p =>
    { id := lower p.1.value, pos := ⟨p.1.line, p.1.col⟩,
      resolved := ((docNeeds p.2).map lower).filterMap (docIndex (docVertIds lower doc)) }

theorem docIndex_some (ids : List String) (d : String) (w : Nat) :
    docIndex ids d = some w ↔ ids[w]? = some d ∧ ∀ u, u < w → ids[u]? ≠ some d := by
  unfold docIndex
  constructor
  · intro hh
    split at hh
    · rename_i hlt
      simp only [Option.some.injEq] at hh
      subst hh
      refine ⟨?_, ?_⟩
      · have := List.findIdx_getElem (w := hlt)
        rw [List.getElem?_eq_getElem hlt]
        simpa using this
      · intro u hu e
        have hul : u < ids.length := Nat.lt_trans hu hlt
        have := List.not_of_lt_findIdx hu
        rw [List.getElem?_eq_getElem hul] at e
        simp only [Option.some.injEq] at e
        simp [e] at this
    · cases hh
  · rintro ⟨h1, h2⟩
    obtain ⟨hw, e⟩ := List.getElem?_eq_some_iff.1 h1
    have hfi : ids.findIdx (· = d) = w := by
      apply (List.findIdx_eq hw).2
      refine ⟨by simp [e], ?_⟩
      intro j hj
      have := h2 j hj
      rw [List.getElem?_eq_getElem (Nat.lt_trans hj hw)] at this
      simpa using this
    simp [hfi, hw]

/-- the edges of `docGraph`, read off the document: `w ∈ succ v` iff an entry written under `needs:` of the `v`-th key of
`jobs:` folds to the folded `w`-th key (and `w` is the first such key) -/
theorem docGraph_succ (lower : String → String) (doc : Yaml.Node) (v w : Nat) :
    w ∈ (docGraph lower doc).succ v ↔
      ∃ p, (docVerts lower doc)[v]? = some p ∧ ∃ s ∈ docNeeds p.2,
        (docVertIds lower doc)[w]? = some (lower s) ∧ ∀ u, u < w → (docVertIds lower doc)[u]? ≠ some (lower s) := by
  simp only [Needs.Graph.succ, docGraph, List.getElem?_map]
  cases hv : (docVerts lower doc)[v]? with
  | none => simp
  | some p =>
    simp only [Option.map_some, Option.getD_some, List.mem_filterMap, List.mem_map, Option.some.injEq, exists_eq_left']
    constructor
    · rintro ⟨d, ⟨s, hs, rfl⟩, hd⟩
      exact ⟨s, hs, (docIndex_some _ _ _).1 hd⟩
    · rintro ⟨s, hs, hd⟩
      exact ⟨_, ⟨s, hs, rfl⟩, (docIndex_some _ _ _).2 hd⟩

theorem indexOf?_eq_docIndex (nodes : List Needs.RawNode) (d : String) :
    Needs.indexOf? nodes d = docIndex (nodes.map (·.id)) d := by
  have : nodes.findIdx (fun n => decide (n.id = d)) = (nodes.map (·.id)).findIdx (fun s => decide (s = d)) := by
    induction nodes with
    | nil => rfl
    | cons n rest ih => simp only [List.map_cons, List.findIdx_cons, ih]
  simp only [Needs.indexOf?, docIndex, this, List.length_map]

/-- the nodes the rule collects are built from the vertices of the document -/
theorem nodes_written (cfg : Cfg) (doc : Yaml.Node) (h : (parse cfg doc).2 = []) :
    nodesOf cfg.lower (jobsIn (parse cfg doc).1) =
      (docVerts cfg.lower doc).map fun p => mkNode cfg.lower (Rules.needsJobIn (docJob cfg p)) := by
  rw [parsed_nodes, jobsIn, jobsOf_written cfg doc h, List.map_map, List.filter_map, List.map_map, docVerts]
  congr 1
  apply List.filter_congr
  intro p _
  simp only [Function.comp, Rules.needsJobIn, docJob_id_value]

theorem nodes_ids_written (cfg : Cfg) (doc : Yaml.Node) (h : (parse cfg doc).2 = []) :
    (nodesOf cfg.lower (jobsIn (parse cfg doc).1)).map (·.id) = docVertIds cfg.lower doc := by
  rw [nodes_written cfg doc h, List.map_map, docVertIds]
  apply List.map_congr_left
  intro p _
  simp only [Function.comp, mkNode, Rules.needsJobIn, docJob_id_value]

/-- **`docGraph` is the graph the rule builds**: vertex by vertex the same id and position, and the same edges (the
rule's `resolved` list drops repeated entries, `docGraph` keeps them: the same set of successors). -/
theorem docGraph_is_rule_graph (cfg : Cfg) (doc : Yaml.Node) (h : (parse cfg doc).2 = []) :
    (graphOf cfg.lower (jobsIn (parse cfg doc).1)).length = (docGraph cfg.lower doc).length ∧
    (graphOf cfg.lower (jobsIn (parse cfg doc).1)).map (·.id) = (docGraph cfg.lower doc).map (·.id) ∧
    (graphOf cfg.lower (jobsIn (parse cfg doc).1)).map (·.pos) = (docGraph cfg.lower doc).map (·.pos) ∧
    ∀ v w, w ∈ (graphOf cfg.lower (jobsIn (parse cfg doc).1)).succ v ↔ w ∈ (docGraph cfg.lower doc).succ v := by
  have hn := nodes_written cfg doc h
  have hi := nodes_ids_written cfg doc h
  refine ⟨?_, ?_, ?_, ?_⟩
  · simp only [graphOf, Needs.resolve, hn, docGraph, List.length_map]
  · simp only [graphOf, Needs.resolve, hn, docGraph, List.map_map]
    apply List.map_congr_left
    intro p _
    simp only [Function.comp, mkNode, Rules.needsJobIn, docJob_id_value]
  · simp only [graphOf, Needs.resolve, hn, docGraph, List.map_map]
    apply List.map_congr_left
    intro p _
    simp only [Function.comp, mkNode, Rules.needsJobIn, docJob_id_pos, Rules.toNP]
    rfl
  · intro v w
    simp only [graphOf, Needs.resolve, Needs.Graph.succ, List.getElem?_map, docGraph]
    rw [hn, List.getElem?_map]
    cases hv : (docVerts cfg.lower doc)[v]? with
    | none => simp
    | some p =>
      have hp : p ∈ docJobs doc := (List.mem_filter.1 (List.mem_of_getElem? hv)).1
      simp only [Option.map_some, Option.getD_some, List.mem_filterMap, List.mem_map]
      rw [← hn]
      simp only [indexOf?_eq_docIndex, hi, mkNode, normNeeds_mem, List.not_mem_nil, false_or]
      constructor
      · rintro ⟨d, ⟨_, n, hnn, hd⟩, hw⟩
        simp only [Rules.needsJobIn, List.mem_map] at hnn
        obtain ⟨s, hs, rfl⟩ := hnn
        obtain ⟨s', hs', e⟩ := (needs_folded_written cfg doc h p hp d).1 ⟨s, hs, hd⟩
        exact ⟨d, ⟨s', hs', e⟩, hw⟩
      · rintro ⟨d, ⟨s', hs', e⟩, hw⟩
        obtain ⟨s, hs, hd⟩ := (needs_folded_written cfg doc h p hp d).2 ⟨s', hs', e⟩
        refine ⟨d, ⟨?_, ⟨s.value, Rules.toNP s.pos⟩, ?_, hd⟩, hw⟩
        · rintro rfl
          obtain ⟨h1, _⟩ := (docIndex_some _ _ _).1 hw
          have hm := List.mem_of_getElem? h1
          simp only [docVertIds, docVerts, List.mem_map, List.mem_filter] at hm
          obtain ⟨q, ⟨_, hq⟩, e'⟩ := hm
          simp [e'] at hq
        · simp only [Rules.needsJobIn, List.mem_map]
          exact ⟨s, hs, rfl⟩

/-! ### graphs with the same vertices and edges have the same walks -/

theorem walk_congr (g g' : Needs.Graph) (hl : g.length = g'.length) (hs : ∀ v w, w ∈ g.succ v ↔ w ∈ g'.succ v) :
    ∀ vs, Walk g vs → Walk g' vs := by
  intro vs hw
  induction hw with
  | single v hv => exact .single v (hl ▸ hv)
  | cons v w rest hv he _ ih => exact .cons v w rest (hl ▸ hv) ((hs v w).1 he) ih

theorem isCycle_congr (g g' : Needs.Graph) (hl : g.length = g'.length) (hs : ∀ v w, w ∈ g.succ v ↔ w ∈ g'.succ v)
    (vs : List Nat) : IsCycle g vs ↔ IsCycle g' vs :=
  ⟨fun ⟨a, b, c⟩ => ⟨walk_congr g g' hl hs vs a, b, c⟩,
   fun ⟨a, b, c⟩ => ⟨walk_congr g' g hl.symm (fun v w => (hs v w).symm) vs a, b, c⟩⟩

/-- the cycles of the rule's graph are the cycles of the document's graph -/
theorem docGraph_isCycle_iff (cfg : Cfg) (doc : Yaml.Node) (h : (parse cfg doc).2 = []) (vs : List Nat) :
    IsCycle (graphOf cfg.lower (jobsIn (parse cfg doc).1)) vs ↔ IsCycle (docGraph cfg.lower doc) vs :=
  have hh := docGraph_is_rule_graph cfg doc h
  isCycle_congr _ _ hh.1 hh.2.2.2 vs

theorem docGraph_cyclic_iff (cfg : Cfg) (doc : Yaml.Node) (h : (parse cfg doc).2 = []) :
    Cyclic (graphOf cfg.lower (jobsIn (parse cfg doc).1)) ↔ Cyclic (docGraph cfg.lower doc) :=
  ⟨fun ⟨vs, hv⟩ => ⟨vs, (docGraph_isCycle_iff cfg doc h vs).1 hv⟩,
   fun ⟨vs, hv⟩ => ⟨vs, (docGraph_isCycle_iff cfg doc h vs).2 hv⟩⟩

theorem docGraph_idOf (cfg : Cfg) (doc : Yaml.Node) (h : (parse cfg doc).2 = []) (v : Nat) :
    Needs.idOf (graphOf cfg.lower (jobsIn (parse cfg doc).1)) v = Needs.idOf (docGraph cfg.lower doc) v := by
  have := congrArg (fun l => (l[v]?).getD "") (docGraph_is_rule_graph cfg doc h).2.1
  simpa [Needs.idOf, List.getElem?_map] using this

theorem docGraph_posOf (cfg : Cfg) (doc : Yaml.Node) (h : (parse cfg doc).2 = []) (v : Nat) :
    Needs.posOf (graphOf cfg.lower (jobsIn (parse cfg doc).1)) v = Needs.posOf (docGraph cfg.lower doc) v := by
  have := congrArg (fun l => (l[v]?).getD ⟨0, 0⟩) (docGraph_is_rule_graph cfg doc h).2.2.1
  simpa [Needs.posOf, List.getElem?_map] using this

/-! ## 3. the cyclic-dependency report, on the document -/

/-- every non-empty folded entry written under a `needs:` (of a job with a non-empty folded key) names a key of `jobs:` -/
def DocNeedsDefined (lower : String → String) (doc : Yaml.Node) : Prop :=
  ∀ p ∈ docJobs doc, lower p.1.value ≠ "" → ∀ s ∈ docNeeds p.2, lower s ≠ "" → ∃ k ∈ docJobIds doc, lower k = lower s

/-- no "needs undefined" report iff every entry of every `needs:` names a key of `jobs:` -/
theorem doc_no_undefined_iff (cfg : Cfg) (doc : Yaml.Node) (h : (parse cfg doc).2 = []) :
    (∀ d ∈ Rules.ruleJobNeeds cfg.lower (parse cfg doc).1, d.code ≠ "needs-undefined") ↔ DocNeedsDefined cfg.lower doc := by
  constructor
  · intro hu p hp hne s hs hsne
    apply Classical.byContradiction
    intro hno
    have hmem := (doc_undefined_exact cfg doc h p.1.pos (cfg.lower p.1.value) (cfg.lower s)).2
      ⟨⟨p, hp, rfl, rfl, hne, hsne, s, hs, rfl⟩, fun k hk e => hno ⟨k, hk, e⟩⟩
    exact hu _ hmem rfl
  · intro hdef d hd hc
    rw [ruleJobNeeds_eq] at hd
    obtain ⟨x, hx, rfl⟩ := List.mem_map.1 hd
    obtain ⟨np, i, dep, rfl⟩ := (needsDiag_code x).2.1.1 hc
    have hmem : (⟨Rules.ofNP np, "job-needs", "needs-undefined", [i, dep]⟩ : Rules.Diag) ∈
        Rules.ruleJobNeeds cfg.lower (parse cfg doc).1 := by
      rw [ruleJobNeeds_eq]; exact List.mem_map.2 ⟨_, hx, rfl⟩
    obtain ⟨⟨p, hp, _, h3, h1, h4, s, hs, e⟩, h6⟩ := (doc_undefined_exact cfg doc h _ i dep).1 hmem
    obtain ⟨k, hk, ek⟩ := hdef p hp (h3 ▸ h1) s hs (e ▸ h4)
    exact h6 k hk (ek.trans e)

/-- **C18 (a)+(b) on the document**: a cyclic-dependency diagnostic is reported iff every entry of every `needs:` names a
key of `jobs:` and the needs graph of the document has a cycle. -/
theorem doc_cyclic_iff (cfg : Cfg) (doc : Yaml.Node) (h : (parse cfg doc).2 = []) :
    (∃ d ∈ Rules.ruleJobNeeds cfg.lower (parse cfg doc).1, d.code = "needs-cyclic") ↔
      DocNeedsDefined cfg.lower doc ∧ Cyclic (docGraph cfg.lower doc) := by
  rw [parsed_cyclic_iff, doc_no_undefined_iff cfg doc h, docGraph_cyclic_iff cfg doc h]

/-- (a) alone: an acyclic document gets no cyclic-dependency report -/
theorem doc_acyclic_none (cfg : Cfg) (doc : Yaml.Node) (h : (parse cfg doc).2 = []) (ha : ¬ Cyclic (docGraph cfg.lower doc)) :
    ∀ d ∈ Rules.ruleJobNeeds cfg.lower (parse cfg doc).1, d.code ≠ "needs-cyclic" :=
  fun d hd hc => ha ((doc_cyclic_iff cfg doc h).1 ⟨d, hd, hc⟩).2

theorem doc_cyclic_some (cfg : Cfg) (doc : Yaml.Node) (h : (parse cfg doc).2 = [])
    (hdef : DocNeedsDefined cfg.lower doc) (hc : Cyclic (docGraph cfg.lower doc)) :
    ∃ d ∈ Rules.ruleJobNeeds cfg.lower (parse cfg doc).1, d.code = "needs-cyclic" :=
  (doc_cyclic_iff cfg doc h).2 ⟨hdef, hc⟩

/-- **C18 (c) on the document**: the message of a cyclic-dependency report spells a cycle of the document's needs graph
(folded keys of `jobs:`), and the report is at the earliest key on it. -/
theorem doc_printed_is_cycle (cfg : Cfg) (doc : Yaml.Node) (h : (parse cfg doc).2 = []) (d : Rules.Diag)
    (hd : d ∈ Rules.ruleJobNeeds cfg.lower (parse cfg doc).1) (hc : d.code = "needs-cyclic") :
    ∃ vs, IsCycle (docGraph cfg.lower doc) vs ∧
      d.args = [",".intercalate (vs.map (Needs.idOf (docGraph cfg.lower doc)))] ∧
      d.pos = Rules.ofNP (Needs.posOf (docGraph cfg.lower doc) (vs.headD 0)) ∧
      ∀ v ∈ vs, ¬ (Needs.posOf (docGraph cfg.lower doc) v).isBefore (Needs.posOf (docGraph cfg.lower doc) (vs.headD 0)) := by
  obtain ⟨vs, h1, h2, h3, h4⟩ := parsed_printed_is_cycle cfg doc d hd hc
  refine ⟨vs, (docGraph_isCycle_iff cfg doc h vs).1 h1, ?_, ?_, ?_⟩
  · rw [h2]
    congr 2
    exact List.map_congr_left fun v _ => docGraph_idOf cfg doc h v
  · rw [h3, docGraph_posOf cfg doc h]
  · intro v hv
    rw [← docGraph_posOf cfg doc h, ← docGraph_posOf cfg doc h]
    exact h4 v hv

/-! ## 4. three concrete three-job documents: a cycle, a dangling reference, a DAG -/

section Examples

abbrev xCfg : Cfg := C18P.exCfg
/-- `{ runs-on: u, steps: [ {run: x} ] }` on line `l`: a job without `needs:` -/
def jobNode0 (l : Nat) : Yaml.Node :=
  mp l 3 [sc "runs-on" l 3, sc "u" l 12, sc "steps" l 30, sq l 37 [mp l 38 [sc "run" l 38, sc "x" l 43]]]

/-- `A: needs [c]`, `b: needs [a]`, `c: needs [B]` — the cycle a → c → b → a, through two foldings -/
def dCyc : Yaml.Node := docOf [sc "A" 3 1, jobNode 3 ["c"], sc "b" 4 1, jobNode 4 ["a"], sc "c" 5 1, jobNode 5 ["B"]]
/-- `A: needs [B, ZZ]`, `b`, `c: needs [a]` — `ZZ` names no job -/
def dDang : Yaml.Node := docOf [sc "A" 3 1, jobNode 3 ["B", "ZZ"], sc "b" 4 1, jobNode0 4, sc "c" 5 1, jobNode 5 ["a"]]
/-- `A`, `b: needs [a]`, `c: needs [A, b, a]` — acyclic; the third entry of `c` repeats the first (folded) -/
def dDag : Yaml.Node := docOf [sc "A" 3 1, jobNode0 3, sc "b" 4 1, jobNode 4 ["a"], sc "c" 5 1, jobNode 5 ["A", "b", "a"]]

/-- where the cycle search runs, the parser is evaluated once per document, here: it accepts the document, and the jobs the
rule sees -/
theorem dCyc_parsed : (parse xCfg dCyc).2 = [] ∧ jobsIn (parse xCfg dCyc).1 = [⟨"A", ⟨3, 1⟩, ⟨3, 1⟩, [⟨"c", ⟨3, 23⟩⟩]⟩,
    ⟨"b", ⟨4, 1⟩, ⟨4, 1⟩, [⟨"a", ⟨4, 23⟩⟩]⟩, ⟨"c", ⟨5, 1⟩, ⟨5, 1⟩, [⟨"B", ⟨5, 23⟩⟩]⟩] := and_jobs_eq_of_code (by decide +kernel)
theorem dDag_parsed : (parse xCfg dDag).2 = [] ∧ jobsIn (parse xCfg dDag).1 = [⟨"A", ⟨3, 1⟩, ⟨3, 1⟩, []⟩,
    ⟨"b", ⟨4, 1⟩, ⟨4, 1⟩, [⟨"a", ⟨4, 23⟩⟩]⟩, ⟨"c", ⟨5, 1⟩, ⟨5, 1⟩, [⟨"A", ⟨5, 23⟩⟩, ⟨"b", ⟨5, 23⟩⟩, ⟨"a", ⟨5, 23⟩⟩]⟩] :=
  and_jobs_eq_of_code (by decide +kernel)
theorem dCyc_clean : (parse xCfg dCyc).2 = [] := dCyc_parsed.1
/-- with a dangling reference the cycle search is not run: parser and rule are evaluated in one go -/
theorem dDang_evaluated : (parse xCfg dDang).2 = [] ∧
    Rules.ruleJobNeeds xCfg.lower (parse xCfg dDang).1 = [⟨⟨3, 1⟩, "job-needs", "needs-undefined", ["a", "zz"]⟩] := by
  decide +kernel
theorem dDang_clean : (parse xCfg dDang).2 = [] := dDang_evaluated.1
theorem dDag_clean : (parse xCfg dDag).2 = [] := dDag_parsed.1

/-- what is written -/
theorem dCyc_written : (docJobs dCyc).map (fun p => (p.1.value, docNeeds p.2)) = [("A", ["c"]), ("b", ["a"]), ("c", ["B"])] := by decide +kernel
theorem dDang_written : (docJobs dDang).map (fun p => (p.1.value, docNeeds p.2)) = [("A", ["B", "ZZ"]), ("b", []), ("c", ["a"])] := by decide +kernel
theorem dDag_written : (docJobs dDag).map (fun p => (p.1.value, docNeeds p.2)) = [("A", []), ("b", ["a"]), ("c", ["A", "b", "a"])] := by decide +kernel

/-- the graphs of the documents -/
theorem docGraph_dCyc : docGraph xCfg.lower dCyc = [⟨"a", ⟨3, 1⟩, [2]⟩, ⟨"b", ⟨4, 1⟩, [0]⟩, ⟨"c", ⟨5, 1⟩, [1]⟩] :=
  graph_eq_of_code (by decide +kernel)
theorem docGraph_dDang : docGraph xCfg.lower dDang = [⟨"a", ⟨3, 1⟩, [1]⟩, ⟨"b", ⟨4, 1⟩, []⟩, ⟨"c", ⟨5, 1⟩, [0]⟩] :=
  graph_eq_of_code (by decide +kernel)
/-- `docGraph` keeps the repeated entry of `c` (edge to `a` twice); the rule's graph has it once — same successors -/
theorem docGraph_dDag : docGraph xCfg.lower dDag = [⟨"a", ⟨3, 1⟩, []⟩, ⟨"b", ⟨4, 1⟩, [0]⟩, ⟨"c", ⟨5, 1⟩, [0, 1, 0]⟩] :=
  graph_eq_of_code (by decide +kernel)
theorem ruleGraph_dDag : graphOf xCfg.lower (jobsIn (parse xCfg dDag).1) =
    [⟨"a", ⟨3, 1⟩, []⟩, ⟨"b", ⟨4, 1⟩, [0]⟩, ⟨"c", ⟨5, 1⟩, [0, 1]⟩] := by
  rw [dDag_parsed.2]; exact graph_eq_of_code (by decide +kernel)

theorem isCycle_dCyc : IsCycle (docGraph xCfg.lower dCyc) [0, 2, 1, 0] := by
  rw [docGraph_dCyc]
  exact ⟨.cons 0 2 [1, 0] (by decide) (by simp [Needs.Graph.succ])
    (.cons 2 1 [0] (by decide) (by simp [Needs.Graph.succ]) (.cons 1 0 [] (by decide) (by simp [Needs.Graph.succ]) (.single 0 (by decide)))),
    by decide, rfl⟩

theorem defined_dCyc : DocNeedsDefined xCfg.lower dCyc := by unfold DocNeedsDefined; decide +kernel
theorem defined_dDag : DocNeedsDefined xCfg.lower dDag := by unfold DocNeedsDefined; decide +kernel
theorem not_defined_dDang : ¬ DocNeedsDefined xCfg.lower dDang := by unfold DocNeedsDefined; decide +kernel

/-- what the rule reports on the three documents (evaluated) -/
theorem rule_dCyc : Rules.ruleJobNeeds xCfg.lower (parse xCfg dCyc).1 = [⟨⟨3, 1⟩, "job-needs", "needs-cyclic", ["a,c,b,a"]⟩] :=
  ruleJobNeeds_eval _ _ _ 32 _ dCyc_parsed.2 (by decide +kernel)
theorem rule_dDang : Rules.ruleJobNeeds xCfg.lower (parse xCfg dDang).1 = [⟨⟨3, 1⟩, "job-needs", "needs-undefined", ["a", "zz"]⟩] :=
  dDang_evaluated.2
theorem rule_dDag : Rules.ruleJobNeeds xCfg.lower (parse xCfg dDag).1 = [⟨⟨5, 23⟩, "job-needs", "needs-duplicate", ["a"]⟩] :=
  ruleJobNeeds_eval _ _ _ 32 _ dDag_parsed.2 (by decide +kernel)

/-- **the cycle document**: everything written under `needs:` names a job, the document's graph has the cycle
a → c → b → a, so (by `doc_cyclic_some`, without evaluating the rule) a cyclic-dependency diagnostic is reported -/
theorem example_cycle : ∃ d ∈ Rules.ruleJobNeeds xCfg.lower (parse xCfg dCyc).1, d.code = "needs-cyclic" :=
  doc_cyclic_some xCfg dCyc dCyc_clean defined_dCyc ⟨_, isCycle_dCyc⟩

/-- **the dangling document**: `ZZ` under `needs:` of `A` folds to `zz`, no key of `jobs:` does: reported at `A` (3:1),
by `doc_undefined_exact` from what is written; and no cyclic-dependency report -/
theorem example_dangling :
    (⟨⟨3, 1⟩, "job-needs", "needs-undefined", ["a", "zz"]⟩ : Rules.Diag) ∈ Rules.ruleJobNeeds xCfg.lower (parse xCfg dDang).1 ∧
    ¬ ∃ d ∈ Rules.ruleJobNeeds xCfg.lower (parse xCfg dDang).1, d.code = "needs-cyclic" := by
  refine ⟨(doc_undefined_exact xCfg dDang dDang_clean ⟨3, 1⟩ "a" "zz").2 ?_, ?_⟩
  · refine ⟨⟨(sc "A" 3 1, jobNode 3 ["B", "ZZ"]), ?_, rfl, by decide +kernel, by decide, by decide, "ZZ", ?_, by decide +kernel⟩, ?_⟩
    · rw [show docJobs dDang = [(sc "A" 3 1, jobNode 3 ["B", "ZZ"]), (sc "b" 4 1, jobNode0 4), (sc "c" 5 1, jobNode 5 ["a"])] from rfl]
      exact List.mem_cons_self
    · rw [show docNeeds (sc "A" 3 1, jobNode 3 ["B", "ZZ"]).2 = ["B", "ZZ"] from rfl]; simp
    · rw [show docJobIds dDang = ["A", "b", "c"] from rfl]; decide +kernel
  · intro hc
    exact not_defined_dDang ((doc_cyclic_iff xCfg dDang dDang_clean).1 hc).1

/-- **the DAG document**: no cycle in the document's graph -/
theorem acyclic_dDag : ¬ Cyclic (docGraph xCfg.lower dDag) := by
  intro hc
  obtain ⟨d, hd, hcode⟩ := doc_cyclic_some xCfg dDag dDag_clean defined_dDag hc
  rw [rule_dDag] at hd
  simp only [List.mem_cons, List.not_mem_nil, or_false] at hd
  subst hd
  simp at hcode
theorem example_dag : ∀ d ∈ Rules.ruleJobNeeds xCfg.lower (parse xCfg dDag).1, d.code ≠ "needs-cyclic" :=
  doc_acyclic_none xCfg dDag dDag_clean acyclic_dDag

/-! ### every theorem with hypotheses, on the three documents -/

example : Rules.jobsOf (parse xCfg dCyc).1 = (docJobs dCyc).map (docJob xCfg) := jobsOf_written _ _ dCyc_clean
example : (docJob xCfg (sc "A" 3 1, jobNode 3 ["c"])).id.value = "A" := docJob_id_value _ _
example : (docJob xCfg (sc "A" 3 1, jobNode 3 ["c"])).id.pos = ⟨3, 1⟩ := docJob_id_pos _ _
theorem pA_mem : (sc "A" 3 1, jobNode 3 ["B", "ZZ"]) ∈ docJobs dDang := by
  rw [show docJobs dDang = [(sc "A" 3 1, jobNode 3 ["B", "ZZ"]), (sc "b" 4 1, jobNode0 4), (sc "c" 5 1, jobNode 5 ["a"])] from rfl]
  exact List.mem_cons_self
example : (∃ n ∈ (docJob xCfg (sc "A" 3 1, jobNode 3 ["B", "ZZ"])).needs.getD [], xCfg.lower n.value = "zz") ↔
    ∃ s ∈ docNeeds (sc "A" 3 1, jobNode 3 ["B", "ZZ"]).2, xCfg.lower s = "zz" :=
  needs_folded_written xCfg dDang dDang_clean _ pA_mem "zz"
/-- the other direction of `doc_undefined_exact`: from the report to what is written -/
example : (∃ p ∈ docJobs dDang, p.1.pos = ⟨3, 1⟩ ∧ xCfg.lower p.1.value = "a" ∧ "a" ≠ "" ∧ "zz" ≠ "" ∧
      ∃ s ∈ docNeeds p.2, xCfg.lower s = "zz") ∧ ∀ k ∈ docJobIds dDang, xCfg.lower k ≠ "zz" :=
  (doc_undefined_exact xCfg dDang dDang_clean ⟨3, 1⟩ "a" "zz").1 (by rw [rule_dDang]; simp)
/-- `B` under `needs:` of `A` folds to the key `b`: not reported -/
example : (⟨⟨3, 1⟩, "job-needs", "needs-undefined", ["a", "b"]⟩ : Rules.Diag) ∉ Rules.ruleJobNeeds xCfg.lower (parse xCfg dDang).1 := by
  intro hm
  have := ((doc_undefined_exact xCfg dDang dDang_clean ⟨3, 1⟩ "a" "b").1 hm).2 "b" (by rw [show docJobIds dDang = ["A", "b", "c"] from rfl]; simp)
  exact this (by decide +kernel)
example : docIndex ["a", "b", "c"] "b" = some 1 := by
  refine (docIndex_some _ _ _).2 ⟨rfl, ?_⟩
  intro u hu
  have hu0 : u = 0 := by omega
  subst hu0
  decide
example : docIndex ["a", "b", "a"] "a" = some 0 ∧ docIndex ["a", "b"] "zz" = none := by decide
example : 2 ∈ (docGraph xCfg.lower dCyc).succ 0 :=
  (docGraph_succ xCfg.lower dCyc 0 2).2 ⟨(sc "A" 3 1, jobNode 3 ["c"]), by rfl, "c", by rw [show docNeeds (sc "A" 3 1, jobNode 3 ["c"]).2 = ["c"] from rfl]; simp,
    by decide +kernel, by decide +kernel⟩
example : Needs.indexOf? [⟨"a", ⟨1, 1⟩, []⟩, ⟨"b", ⟨2, 1⟩, []⟩] "b" = docIndex ["a", "b"] "b" := indexOf?_eq_docIndex _ _
example : nodesOf xCfg.lower (jobsIn (parse xCfg dDag).1) =
    (docVerts xCfg.lower dDag).map fun p => mkNode xCfg.lower (Rules.needsJobIn (docJob xCfg p)) := nodes_written _ _ dDag_clean
example : (nodesOf xCfg.lower (jobsIn (parse xCfg dDag).1)).map (·.id) = docVertIds xCfg.lower dDag := nodes_ids_written _ _ dDag_clean
example : docVertIds xCfg.lower dDag = ["a", "b", "c"] := by decide +kernel
/-- on `dDag` the two graphs differ as lists (`[0, 1]` vs `[0, 1, 0]` at `c`) and agree as graphs -/
example : (graphOf xCfg.lower (jobsIn (parse xCfg dDag).1)).length = (docGraph xCfg.lower dDag).length ∧
    (graphOf xCfg.lower (jobsIn (parse xCfg dDag).1)).map (·.id) = (docGraph xCfg.lower dDag).map (·.id) ∧
    (graphOf xCfg.lower (jobsIn (parse xCfg dDag).1)).map (·.pos) = (docGraph xCfg.lower dDag).map (·.pos) ∧
    ∀ v w, w ∈ (graphOf xCfg.lower (jobsIn (parse xCfg dDag).1)).succ v ↔ w ∈ (docGraph xCfg.lower dDag).succ v :=
  docGraph_is_rule_graph _ _ dDag_clean
example : Walk (graphOf xCfg.lower (jobsIn (parse xCfg dCyc).1)) [0, 2, 1, 0] :=
  walk_congr _ _ (docGraph_is_rule_graph xCfg dCyc dCyc_clean).1.symm
    (fun v w => ((docGraph_is_rule_graph xCfg dCyc dCyc_clean).2.2.2 v w).symm) _ isCycle_dCyc.1
example : IsCycle (graphOf xCfg.lower (jobsIn (parse xCfg dCyc).1)) [0, 2, 1, 0] ↔ IsCycle (docGraph xCfg.lower dCyc) [0, 2, 1, 0] :=
  isCycle_congr _ _ (docGraph_is_rule_graph xCfg dCyc dCyc_clean).1 (docGraph_is_rule_graph xCfg dCyc dCyc_clean).2.2.2 _
example : IsCycle (graphOf xCfg.lower (jobsIn (parse xCfg dCyc).1)) [0, 2, 1, 0] :=
  (docGraph_isCycle_iff xCfg dCyc dCyc_clean _).2 isCycle_dCyc
example : Cyclic (graphOf xCfg.lower (jobsIn (parse xCfg dCyc).1)) :=
  (docGraph_cyclic_iff xCfg dCyc dCyc_clean).2 ⟨_, isCycle_dCyc⟩
example : Needs.idOf (graphOf xCfg.lower (jobsIn (parse xCfg dCyc).1)) 2 = Needs.idOf (docGraph xCfg.lower dCyc) 2 :=
  docGraph_idOf _ _ dCyc_clean 2
example : Needs.posOf (graphOf xCfg.lower (jobsIn (parse xCfg dCyc).1)) 2 = Needs.posOf (docGraph xCfg.lower dCyc) 2 :=
  docGraph_posOf _ _ dCyc_clean 2
example : ∀ d ∈ Rules.ruleJobNeeds xCfg.lower (parse xCfg dCyc).1, d.code ≠ "needs-undefined" :=
  (doc_no_undefined_iff xCfg dCyc dCyc_clean).2 defined_dCyc
example : ¬ ∀ d ∈ Rules.ruleJobNeeds xCfg.lower (parse xCfg dDang).1, d.code ≠ "needs-undefined" :=
  fun hh => not_defined_dDang ((doc_no_undefined_iff xCfg dDang dDang_clean).1 hh)
example : DocNeedsDefined xCfg.lower dCyc ∧ Cyclic (docGraph xCfg.lower dCyc) :=
  (doc_cyclic_iff xCfg dCyc dCyc_clean).1 ⟨_, by rw [rule_dCyc]; exact List.mem_cons_self, rfl⟩
/-- the printed cycle `a,c,b,a` is a cycle of the document's graph, reported at the earliest key on it -/
example : ∃ vs, IsCycle (docGraph xCfg.lower dCyc) vs ∧
    ["a,c,b,a"] = [",".intercalate (vs.map (Needs.idOf (docGraph xCfg.lower dCyc)))] ∧
    (⟨3, 1⟩ : Rules.Pos) = Rules.ofNP (Needs.posOf (docGraph xCfg.lower dCyc) (vs.headD 0)) ∧
    ∀ v ∈ vs, ¬ (Needs.posOf (docGraph xCfg.lower dCyc) v).isBefore (Needs.posOf (docGraph xCfg.lower dCyc) (vs.headD 0)) :=
  doc_printed_is_cycle xCfg dCyc dCyc_clean ⟨⟨3, 1⟩, "job-needs", "needs-cyclic", ["a,c,b,a"]⟩
    (by rw [rule_dCyc]; exact List.mem_cons_self) rfl

end Examples

end AL.C18D
