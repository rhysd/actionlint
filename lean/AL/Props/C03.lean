import AL.Model.Facts
import AL.Spec.Syntax
import AL.Gen.Syntax
/-
  C03 — every ${{ }} placeholder in a workflow is checked.
  The theorems below are re-checked against the REGENERATED facts (AL/Gen/Syntax.lean) on every run:
  a new AST field that holds user text but is not handed to a `check…` method, a `check…` call that
  disappears, or a `case "key"` that stores its value into a field of another key (the `volumes` →
  `Ports` defect) makes one of them fail.
-/
namespace AL.C03
open AL.Facts AL.Spec.Syntax

/-- (struct, field) pairs that some `rule.check…(x.Field, …)` call of rule_expression.go receives -/
def checkedLeaves : List (String × String) := AL.Gen.exprCheckSites.map fun s => (s.2.1, s.2.2.1)

/-- (a) coverage: every AST field that holds user text is checked or is a documented exemption. -/
def coverage_check : Bool :=
  AL.Gen.astLeaves.all fun l => checkedLeaves.contains (l.1, l.2.1) || exemptLeaves.contains (l.1, l.2.1)

/-- (b) and no exemption is stale or shadows a checked field. -/
def exemptions_check : Bool :=
  exemptLeaves.all fun e => (AL.Gen.astLeaves.any fun l => (l.1, l.2.1) = e) && !checkedLeaves.contains e

-- (a) and (b) compare the same two tables, `astLeaves` and `checkedLeaves`; evaluated together, their literals are
-- unpacked once.
theorem leaves_checks : coverage_check = true ∧ exemptions_check = true := by decide +kernel

theorem coverage : coverage_check = true := leaves_checks.1

theorem exemptions_exact : exemptions_check = true := leaves_checks.2

/-- (c) routing: every `case "key"` of the parser stores into a field (or local) named after the key,
or is a documented exception. This is the fact that separates `case "volumes": ret.Volumes = …` from
`case "volumes": ret.Ports = …`. -/
def routing_check : Bool :=
  AL.Gen.parseCases.all fun c =>
    c.2.1 = "" || keyMatchesSomeField c.2.1 c.2.2 || renamedCases.contains (c.1, c.2.1)

/-- `s` with ASCII capitals lower-cased and every `-`, `_`, `$` dropped, as characters: `squash` before it is packed
into a `String` again. -/
def squashChars (s : String) : List Char :=
  (s.toList.map fun c => if 'A' ≤ c ∧ c ≤ 'Z' then Char.ofNat (c.toNat + 32) else c).filter
    fun c => c ≠ '-' ∧ c ≠ '_' ∧ c ≠ '$'

theorem squash_eq (s : String) : squash s = String.ofList (squashChars s) := by
  simp only [squash, lowerAscii, squashChars, String.toList_ofList]

theorem keyMatchesSomeField_eq (key : String) (fields : List String) :
    keyMatchesSomeField key fields = fields.any fun f => squashChars f = squashChars key := by
  simp only [keyMatchesSomeField, squash_eq, String.ofList_inj]

-- Evaluated on `squashChars`: comparing two `squash`ed strings as such makes the kernel encode every character list to
-- UTF-8 and decode it again, which is far slower than the comparison itself.
theorem routing : routing_check = true := by
  have h : routing_check = AL.Gen.parseCases.all fun c =>
      c.2.1 = "" || (c.2.2.any fun f => squashChars f = squashChars c.2.1) || renamedCases.contains (c.1, c.2.1) := by
    simp only [routing_check, keyMatchesSomeField_eq]
  rw [h]
  decide +kernel

end AL.C03
