import AL.Props.C13Parse
/-
  C08 on the model of the workflow parser (AL.PW, tied by `parsewf`): "the parser lower-cases the ids of case-insensitive
  mappings (jobs, inputs, secrets, outputs, with, env, matrix, services)". For every node tree, jobs, env vars, job
  outputs, services and permission scopes are keyed by `cfg.lower` (Go: `strings.ToLower`) of the name as written. For
  the inputs of `workflow_dispatch` / `workflow_call` the folded ids are a hypothesis; for `with:` / `secrets:` of a
  calling job and for matrix rows only "the map key is the id handed in" is stated. Not covered: a step's `with:`,
  `secrets` / `outputs` of `workflow_call`, matrix `include` / `exclude`.
-/
namespace AL.C08P
open AL.PW AL.Yaml AL.Ast AL.C13P

/-- what `parseMapping` hands out: the id is the key folded (case-insensitive mapping) / the key itself (case-sensitive) -/
theorem parseMapping_ids (cfg : Cfg) (what : String) (n : Node) (ae cs : Bool) :
    ∀ kv ∈ (parseMapping cfg what n ae cs).1, kv.id = if cs then kv.key.value else cfg.lower kv.key.value := by
  intro kv h
  simp only [parseMapping] at h
  split at h
  · cases h
  · split at h
    · cases h
    · obtain ⟨q, _, h1, h2, _⟩ := mappingLoop_ids cfg what cs _ _ kv h
      rw [h1, h2, keyId]

theorem parseMapping_ids_folded (cfg : Cfg) (what : String) (n : Node) (ae : Bool) :
    ∀ kv ∈ (parseMapping cfg what n ae false).1, kv.id = cfg.lower kv.key.value := by
  intro kv h; simpa using parseMapping_ids cfg what n ae false kv h

theorem mapKVs_mem {β : Type} (f : KV → R β) (kvs : List KV) :
    ∀ p ∈ (mapKVs f kvs).1, ∃ kv ∈ kvs, p.1 = kv.id ∧ p.2 = (f kv).1 := by
  rw [mapKVs_mapR]
  intro p h
  obtain ⟨kv, hk, rfl⟩ := List.mem_map.1 h
  exact ⟨kv, hk, rfl, rfl⟩

/-- the job node keeps the id it was parsed under -/
theorem parseJob_id (cfg : Cfg) (id : Str) (n : Node) : (parseJob cfg id n).1.id = id := by
  have h : (loop (jobKey cfg) { job := { id := id, pos := id.pos } } (parseMapping cfg (jobWhat id.value) n false true).1).1.job.id = id := by
    apply loop_inv (jobKey cfg) (fun st => st.job.id = id)
    · intro s kv _ hs
      rw [(PW.jobKey_frame cfg s kv).id, hs]
    · rfl
  simp only [parseJob, jobFinish]
  split
  · split <;> simp [h]
  · simp [h]

/-- `Workflow.Jobs` is keyed by the lower-cased job id -/
theorem jobs_keys_folded (cfg : Cfg) (n : Node) : ∀ p ∈ (parseJobs cfg n).1, p.1 = cfg.lower p.2.id.value := by
  intro p h
  obtain ⟨kv, hm, h1, h2⟩ := mapKVs_mem _ _ p h
  rw [h1, h2, parseJob_id]
  exact parseMapping_ids_folded cfg _ n false kv hm

/-- `Env.Vars` is keyed by the lower-cased variable name -/
theorem env_keys_folded (cfg : Cfg) (n : Node) (vars : List (String × EnvVar)) (h : (parseEnv cfg n).1.vars = some vars) :
    ∀ p ∈ vars, p.1 = cfg.lower p.2.name.value := by
  intro p hp
  simp only [parseEnv] at h
  split at h
  · cases h
  · simp only [Option.some.injEq] at h
    subst h
    obtain ⟨kv, hm, h1, h2⟩ := mapKVs_mem _ _ p hp
    rw [h1, h2]
    exact parseMapping_ids_folded cfg _ n false kv hm

/-- `Job.Outputs` is keyed by the lower-cased output name -/
theorem outputs_keys_folded (cfg : Cfg) (n : Node) : ∀ p ∈ (parseOutputs cfg n).1, p.1 = cfg.lower p.2.name.value := by
  intro p hp
  obtain ⟨kv, hm, h1, h2⟩ := mapKVs_mem _ _ p hp
  rw [h1, h2]
  exact parseMapping_ids_folded cfg _ n false kv hm

/-- `with:` / `secrets:` of a job that calls a reusable workflow: keyed by the id handed in, folded or not -/
theorem callArgs_keys (kvs : List KV) : ∀ p ∈ (callArgs kvs).1, ∃ kv ∈ kvs, p.1 = kv.id ∧ p.2.name = kv.key := by
  intro p hp
  obtain ⟨kv, hm, h1, h2⟩ := mapKVs_mem _ _ p hp
  exact ⟨kv, hm, h1, by rw [h2]⟩

/-- `Services.Value` is keyed by the lower-cased service name -/
theorem services_keys_folded (cfg : Cfg) (n : Node) (m : List (String × Service)) (h : (parseServices cfg n).1.value = some m) :
    ∀ p ∈ m, p.1 = cfg.lower p.2.name.value := by
  intro p hp
  simp only [parseServices] at h
  split at h
  · cases h
  · simp only [Option.some.injEq] at h
    subst h
    obtain ⟨kv, hm, h1, h2⟩ := mapKVs_mem _ _ p hp
    rw [h1, h2]
    exact parseMapping_ids_folded cfg _ n false kv hm

/-- `Permissions.Scopes` is keyed by the lower-cased scope name -/
theorem permissions_keys_folded (cfg : Cfg) (pos : Pos) (n : Node) (m : List (String × PermissionScope))
    (h : (parsePermissions cfg pos n).1.scopes = some m) : ∀ p ∈ m, p.1 = cfg.lower p.2.name.value := by
  intro p hp
  simp only [parsePermissions] at h
  split at h
  · cases h
  · simp only [Option.some.injEq] at h
    subst h
    obtain ⟨kv, hm, h1, h2⟩ := mapKVs_mem _ _ p hp
    rw [h1, h2]
    exact parseMapping_ids_folded cfg _ n true kv hm

/-- the inputs of `workflow_dispatch`, given that the ids handed in are folded (`hk`) -/
theorem dispatchInputs_keys_folded (cfg : Cfg) (kvs : List KV) (hk : ∀ kv ∈ kvs, kv.id = cfg.lower kv.key.value) :
    ∀ p ∈ (mapKVs (dispatchInput cfg) kvs).1, p.1 = cfg.lower p.2.name.value := by
  intro p hp
  obtain ⟨kv, hm, h1, h2⟩ := mapKVs_mem _ _ p hp
  rw [h1, h2, hk kv hm]
  simp [dispatchInput]

/-- an input of `workflow_call` keeps the id and the key it was parsed under -/
theorem callInput_id (cfg : Cfg) (kv : KV) : (callInput cfg kv).1.id = kv.id ∧ (callInput cfg kv).1.name = kv.key := by
  have h : let st := (loop callInputAttr ({ name := kv.key, id := kv.id }, false) (parseMapping cfg "input of workflow_call event" kv.val true true).1).1
      st.1.id = kv.id ∧ st.1.name = kv.key := by
    apply loop_inv callInputAttr (fun st => st.1.id = kv.id ∧ st.1.name = kv.key)
    · intro s a _ hs
      simp only [callInputAttr]
      split <;> (try split) <;> simp_all
    · exact ⟨rfl, rfl⟩
  simpa [callInput] using h

theorem callInputs_ids_folded (cfg : Cfg) (kvs : List KV) (hk : ∀ kv ∈ kvs, kv.id = cfg.lower kv.key.value) :
    ∀ i ∈ (callInputs cfg kvs).1, i.id = cfg.lower i.name.value := by
  intro i h
  rw [callInputs_mapR] at h
  obtain ⟨kv, hm, rfl⟩ := List.mem_map.1 h
  rw [(callInput_id cfg kv).1, (callInput_id cfg kv).2]
  exact hk kv hm

/-- a mapping inside a matrix value, one level: `RawYAMLObject.Props` is keyed by the lower-cased string of some node of
`Content` (not said: that the node stands at a key position) -/
theorem rawProps_keys (cfg : Cfg) : ∀ (cs : List Node) (seen : List (String × Pos)),
    ∀ p ∈ (rawProps cfg cs seen).1, ∃ kn ∈ cs, p.1 = cfg.lower (parseString kn false).1.value
  | [], _ => by intro p h; simp [rawProps] at h
  | [_], _ => by intro p h; simp [rawProps] at h
  | kn :: vn :: rest, seen => by
    intro p h
    rw [rawProps] at h
    simp only at h
    split at h
    · obtain ⟨k, hk, e⟩ := rawProps_keys cfg rest seen p h
      exact ⟨k, by simp [hk], e⟩
    · split at h
      · rcases List.mem_cons.1 h with rfl | h
        · exact ⟨kn, by simp, rfl⟩
        · obtain ⟨k, hk, e⟩ := rawProps_keys cfg rest _ p h
          exact ⟨k, by simp [hk], e⟩
      · obtain ⟨k, hk, e⟩ := rawProps_keys cfg rest _ p h
        exact ⟨k, by simp [hk], e⟩

/-- `Matrix.Rows` is keyed by ids handed in (an invariant of the `matrixKey` loop) -/
theorem matrix_rows_keys (cfg : Cfg) (kvs : List KV) :
    ∀ (st : Matrix), (∀ rows, st.rows = some rows → ∀ p ∈ rows, ∃ kv ∈ kvs, p.1 = kv.id) →
      ∀ rows, (loop (matrixKey cfg) st kvs).1.rows = some rows → ∀ p ∈ rows, ∃ kv ∈ kvs, p.1 = kv.id := by
  intro st h0
  apply loop_inv (matrixKey cfg) (fun st => ∀ rows, st.rows = some rows → ∀ p ∈ rows, ∃ kv ∈ kvs, p.1 = kv.id) kvs _ st h0
  intro s kv hm hs
  simp only [matrixKey]
  have hset : ∀ (row : MatrixRow) rows, some (setAssoc kv.id row (s.rows.getD [])) = some rows → ∀ p ∈ rows, ∃ kv ∈ kvs, p.1 = kv.id := by
    intro row rows e p hp
    simp only [Option.some.injEq] at e
    subst e
    rcases AL.C19P.setAssoc_mem _ _ _ p hp with rfl | hp
    · exact ⟨kv, hm, rfl⟩
    · cases hr : s.rows with
      | none => simp [hr] at hp
      | some rows => exact hs rows hr p (by simpa [hr] using hp)
  split
  · exact hs
  · exact hs
  · split
    · exact hset _
    · split
      · exact hs
      · exact hset _

end AL.C08P
