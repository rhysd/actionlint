import AL.Model.Visit
import AL.Lemmas.VisitMatrix
import AL.Lemmas.TyWf
/-
  C05 — "matrix sees exactly the row keys plus include keys … Where the defining section is given by an expression
  instead of a literal, references into it are not reported": the type `checkMatrix` computes for the `matrix` context in
  the model AL.Visit.
  Statements first (`def …_statement : Prop`), their proofs after them.
-/
namespace AL.Props.C05Matrix
open AL AL.Sema AL.Visit

def propsOf : Ty → List (String × Ty)
  | .obj ps _ => ps
  | _ => []

def mappedOf : Ty → Option Ty
  | .obj _ m => m
  | _ => none

/-- include entries that are all literal mappings -/
def allAssigns : List ComboM → Prop
  | [] => True
  | .assigns _ :: cs => allAssigns cs
  | .expr _ :: _ => False

def comboKeys : ComboM → List String
  | .assigns as => as.map (·.1)
  | .expr _ => []

/-- (a) literal rows and literal include entries: `matrix` is a strict object … -/
def literal_matrix_strict_statement : Prop :=
  ∀ (ev : Visit.Ev) (rows : List (String × RowM)) (cs : List ComboM), allAssigns cs →
    mappedOf (matrixLitTy ev rows (.combos cs)) = none ∧ ∃ ps, matrixLitTy ev rows (.combos cs) = .obj ps none

/-- (b) … whose keys are exactly the row keys plus the keys of the include entries -/
def literal_matrix_keys_statement : Prop :=
  ∀ (ev : Visit.Ev) (rows : List (String × RowM)) (cs : List ComboM) (x : String), allAssigns cs →
    ((Ty.lookup x (propsOf (matrixLitTy ev rows (.combos cs)))).isSome = true ↔
      (x ∈ rows.map (·.1) ∨ ∃ c ∈ cs, x ∈ comboKeys c))

/-- (c) without include the keys are exactly the row keys -/
def rows_only_keys_statement : Prop :=
  ∀ (ev : Visit.Ev) (rows : List (String × RowM)) (x : String),
    (Ty.lookup x (propsOf (matrixLitTy ev rows .none))).isSome = true ↔ x ∈ rows.map (·.1)

/-- (d) `include: ${{ … }}` whose type is not a known array: every reference into `matrix` is accepted -/
def include_expression_open_statement : Prop :=
  ∀ (ev : Visit.Ev) (rows : List (String × RowM)) (e : E),
    (∀ el d, ev e ≠ some (Ty.arr el d)) → matrixLitTy ev rows (.expr e) = emptyLoose

/-- (e) `matrix: ${{ … }}` whose type is not a known object: likewise -/
def matrix_expression_open_statement : Prop :=
  ∀ (ev : Visit.Ev) (e : E), (∀ ps m, ev e ≠ some (Ty.obj ps m)) → matrixExprTy ev e = emptyLoose

/-- (f) an include element that is an expression of unknown type opens the matrix object (its known keys stay) -/
def include_element_any_opens_statement : Prop :=
  ∀ (ev : Visit.Ev) (ps : List (String × Ty)) (e : E), ev e = some Ty.any →
    includeCombo ev (Ty.obj ps none) (.expr e) = Ty.obj ps (some Ty.any)

/-! ### proofs -/

theorem allAssigns_map :
    ∀ (cs : List ComboM), allAssigns cs → ∃ ass : List (List (String × RawV)), cs = ass.map ComboM.assigns
  | [], _ => ⟨[], rfl⟩
  | .assigns as :: cs, h => by
    obtain ⟨ass, rfl⟩ := allAssigns_map cs h
    exact ⟨as :: ass, rfl⟩
  | .expr _ :: _, h => h.elim

/-- the literal matrix with literal include entries, as an object: strict, keys = row keys + include keys -/
theorem literal_matrix_shape (ev : Visit.Ev) (rows : List (String × RowM)) (cs : List ComboM) (h : allAssigns cs) :
    ∃ ps, matrixLitTy ev rows (.combos cs) = .obj ps none ∧
      ∀ x, (Ty.lookup x ps).isSome = true ↔ (x ∈ rows.map (·.1) ∨ ∃ c ∈ cs, x ∈ comboKeys c) := by
  obtain ⟨ass, rfl⟩ := allAssigns_map cs h
  obtain ⟨ps, e, k⟩ := matrixLitTy_assigns ev rows ass
  refine ⟨ps, e, fun x => (k x).trans (or_congr_right ?_)⟩
  constructor
  · rintro ⟨as, ha, hx⟩
    exact ⟨_, List.mem_map_of_mem ha, hx⟩
  · rintro ⟨c, hc, hx⟩
    obtain ⟨as, ha, rfl⟩ := List.mem_map.1 hc
    exact ⟨as, ha, hx⟩

theorem literal_matrix_strict : literal_matrix_strict_statement := by
  intro ev rows cs h
  obtain ⟨ps, e, _⟩ := literal_matrix_shape ev rows cs h
  exact ⟨by rw [e]; rfl, ps, e⟩

theorem literal_matrix_keys : literal_matrix_keys_statement := by
  intro ev rows cs x h
  obtain ⟨ps, e, k⟩ := literal_matrix_shape ev rows cs h
  rw [e]
  exact k x

theorem rows_only_keys : rows_only_keys_statement := by
  intro ev rows x
  rw [matrixLitTy_none, propsOf, Ty.hasKey_foldl_setProp Prod.fst fun _ kr => rowTy ev kr.2]
  simp [Ty.lookup]

theorem include_expression_open : include_expression_open_statement :=
  fun ev rows e h => matrixLitTy_expr_open ev rows e h

theorem matrix_expression_open : matrix_expression_open_statement :=
  fun ev e h => matrixExprTy_open ev e h

/-- `Ty.merge (.obj ps none) .any = .any` is not an object, so `includeCombo` takes the `loosen` branch: the known keys
stay, `mapped` becomes `any`. -/
theorem include_element_any_opens : include_element_any_opens_statement :=
  fun ev ps e h => includeCombo_expr_any ev ps none e h

/-! ### the statements on concrete data: rows `os`, `ver`; include entries assigning `os` and `extra` -/

def exRows : List (String × RowM) :=
  [("os", .values [.string, .string]), ("ver", .values [.number, .string])]
def exCombos : List ComboM :=
  [.assigns [("os", .string), ("extra", .bool)], .assigns [("extra", .expr (.str "x"))]]

/-- strict object with exactly the keys `extra`, `os`, `ver` (key-sorted) -/
example : matrixLitTy (fun _ => none) exRows (.combos exCombos) =
    .obj [("extra", .any), ("os", .string), ("ver", .string)] none := by
  rfl

example : allAssigns exCombos ∧ (∃ c ∈ exCombos, "extra" ∈ comboKeys c) ∧ ¬ (∃ c ∈ exCombos, "nope" ∈ comboKeys c) := by
  simp [allAssigns, exCombos, comboKeys]

/-- an include element of type `any` after the literal ones: the three keys stay, the object is open -/
example : matrixLitTy (fun _ => some Ty.any) exRows (.combos (exCombos ++ [.expr (.str "y")])) =
    .obj [("extra", .any), ("os", .string), ("ver", .string)] (some .any) := by
  rfl

end AL.Props.C05Matrix
