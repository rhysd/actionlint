import AL.Model.Calls
import AL.Lemmas.Calls
/-
  C14 — calls are checked exactly against the callee's declared interface: statements (a)–(f) about the
  model `AL.Calls.checkAction` / `checkCall` and their proofs.
-/
namespace AL.C14
open AL.Calls

def Distinct (decls : List Decl) : Prop := (decls.map (·.id)).Nodup

/-- (a) an input is reported as undefined iff the callee does not declare it. -/
def undefined_exact_statement : Prop :=
  ∀ (decls : List Decl) (supplied : List String) (k : String),
    Diag.undefinedInput k ∈ checkAction decls supplied ↔ (k ∈ supplied ∧ ∀ d ∈ decls, d.id ≠ k)

/-- (b) a required input is reported as missing iff it is not supplied. -/
def missing_exact_statement : Prop :=
  ∀ (decls : List Decl) (supplied : List String) (n : String), Distinct decls →
    (Diag.missingInput n ∈ checkAction decls supplied ↔ ∃ d ∈ decls, d.name = n ∧ d.required = true ∧ d.id ∉ supplied)

/-- (c) nothing else is ever reported, each thing once: the report list has no duplicates when the
supplied ids and the declared names are distinct. -/
def nothing_else_statement : Prop :=
  ∀ (decls : List Decl) (supplied : List String), Distinct decls → supplied.Nodup → (decls.map (·.name)).Nodup →
    (checkAction decls supplied).Nodup

/-- (d) the output does not depend on the order in which the declarations are stored (Go map): permuting
them gives the same report list. -/
def decl_order_irrelevant_statement : Prop :=
  ∀ (d₁ d₂ : List Decl) (supplied : List String), Distinct d₁ → d₁.Perm d₂ → checkAction d₁ supplied = checkAction d₂ supplied

/-- (e) reusable workflows: with `secrets: inherit` no secret is ever reported; otherwise secrets are
checked like inputs. -/
def inherit_statement : Prop :=
  ∀ (inputs secrets : List Decl) (w s : List String),
    (∀ x ∈ checkCall inputs secrets w s true, ∀ n, x ≠ .missingSecret n ∧ x ≠ .undefinedSecret n) ∧
    (∀ n, Distinct secrets → (Diag.missingSecret n ∈ checkCall inputs secrets w s false ↔ ∃ d ∈ secrets, d.name = n ∧ d.required = true ∧ d.id ∉ s)) ∧
    (∀ k, Diag.undefinedSecret k ∈ checkCall inputs secrets w s false ↔ (k ∈ s ∧ ∀ d ∈ secrets, d.id ≠ k))

/-- (f) "required" means declared required AND no default (the three derivations agree on this). -/
def required_statement : Prop :=
  effectiveRequired true false = true ∧ effectiveRequired true true = false ∧ ∀ h, effectiveRequired false h = false

/-! ## Proofs -/

/-! ### concrete data used in the examples -/

/-- an action with three inputs, stored in a non-sorted order; `token` and `path` are required -/
def exDecls : List Decl :=
  [⟨"token", "Token", true⟩, ⟨"depth", "Depth", false⟩, ⟨"path", "Path", true⟩]
/-- the same interface in another storage order -/
def exDecls' : List Decl :=
  [⟨"path", "Path", true⟩, ⟨"token", "Token", true⟩, ⟨"depth", "Depth", false⟩]
/-- `with:` supplies `depth`, an unknown `tokne`, and nothing else -/
def exWith : List String := ["tokne", "depth"]

theorem inj_undefinedInput : ∀ a b, Diag.undefinedInput a = Diag.undefinedInput b → a = b :=
  fun _ _ h => Diag.undefinedInput.inj h
theorem inj_missingInput : ∀ a b, Diag.missingInput a = Diag.missingInput b → a = b :=
  fun _ _ h => Diag.missingInput.inj h
theorem inj_undefinedSecret : ∀ a b, Diag.undefinedSecret a = Diag.undefinedSecret b → a = b :=
  fun _ _ h => Diag.undefinedSecret.inj h
theorem inj_missingSecret : ∀ a b, Diag.missingSecret a = Diag.missingSecret b → a = b :=
  fun _ _ h => Diag.missingSecret.inj h

/-! ### (a) -/

theorem undefined_exact : undefined_exact_statement := by
  intro decls supplied k
  rw [checkAction_eq, List.mem_append, mem_undefinedOf_iff inj_undefinedInput]
  constructor
  · rintro (h | h)
    · exact h
    · obtain ⟨d, _, he, _⟩ := mem_missingOf_elim h
      cases he
  · exact .inl

theorem exCheck : checkAction exDecls exWith =
    [.undefinedInput "tokne", .missingInput "Path", .missingInput "Token"] := by decide +kernel
example : checkAction exDecls exWith =
    [.undefinedInput "tokne", .missingInput "Path", .missingInput "Token"] := exCheck
example : Diag.undefinedInput "tokne" ∈ checkAction exDecls exWith := by rw [exCheck]; decide
example : Diag.undefinedInput "depth" ∉ checkAction exDecls exWith := by rw [exCheck]; decide

/-! ### (b) -/

theorem missing_exact : missing_exact_statement := by
  intro decls supplied n hd
  rw [checkAction_eq, List.mem_append, ← mem_missingOf_iff inj_missingInput hd]
  constructor
  · rintro (h | h)
    · obtain ⟨k, he⟩ := mem_undefinedOf_elim h
      cases he
    · exact h
  · exact .inr

example : Diag.missingInput "Token" ∈ checkAction exDecls exWith := by rw [exCheck]; decide
example : Diag.missingInput "Depth" ∉ checkAction exDecls exWith := by rw [exCheck]; decide
example : checkAction exDecls ["token", "path"] = [] := by decide +kernel

/-- `Distinct` is needed in (b): with two declarations of one id only the first is looked up, so the
required second one is never reported (cannot happen for a Go map). -/
theorem missing_exact_needs_distinct :
    ¬ ∀ (decls : List Decl) (supplied : List String) (n : String),
      (Diag.missingInput n ∈ checkAction decls supplied ↔
        ∃ d ∈ decls, d.name = n ∧ d.required = true ∧ d.id ∉ supplied) := by
  intro h
  have := (h [⟨"a", "A", false⟩, ⟨"a", "B", true⟩] [] "B").2 ⟨⟨"a", "B", true⟩, by decide, rfl, rfl, by decide⟩
  revert this
  decide

/-! ### (c) -/

theorem nothing_else : nothing_else_statement := by
  intro decls supplied hd hs hn
  rw [checkAction_eq, List.nodup_append]
  refine ⟨undefinedOf_nodup inj_undefinedInput hs, missingOf_nodup inj_missingInput hd hn, ?_⟩
  intro a ha b hb hab
  obtain ⟨k, rfl⟩ := mem_undefinedOf_elim ha
  obtain ⟨d, _, he, _⟩ := mem_missingOf_elim hb
  rw [he] at hab
  cases hab

example : (checkAction exDecls exWith).Nodup := by rw [exCheck]; decide
-- a `with:` key given twice (impossible in YAML: duplicate keys are a parse error) would be reported twice
example : checkAction exDecls ["x", "x", "token", "path"] = [.undefinedInput "x", .undefinedInput "x"] := by
  decide +kernel

/-! ### (d) -/

theorem decl_order_irrelevant : decl_order_irrelevant_statement := by
  intro d₁ d₂ supplied hd hp
  rw [checkAction_eq, checkAction_eq, undefinedOf_perm supplied hp, missingOf_perm supplied hd hp]

example : exDecls.Perm exDecls' := by decide +kernel
example : checkAction exDecls exWith = checkAction exDecls' exWith := by rw [exCheck]; decide +kernel
example : sortS ["token", "depth", "path"] = ["depth", "path", "token"] := by decide +kernel

/-! ### (e) -/

theorem inherit : inherit_statement := by
  intro inputs secrets w s
  refine ⟨?_, ?_, ?_⟩
  · intro x hx n
    rw [checkCall_eq] at hx
    simp only [if_true, List.append_nil, List.mem_append] at hx
    rcases hx with hx | hx
    · obtain ⟨d, _, rfl, _⟩ := mem_missingOf_elim hx
      exact ⟨fun h => (by cases h), fun h => (by cases h)⟩
    · obtain ⟨k, rfl⟩ := mem_undefinedOf_elim hx
      exact ⟨fun h => (by cases h), fun h => (by cases h)⟩
  · intro n hd
    rw [← mem_missingOf_iff inj_missingSecret hd, checkCall_eq]
    simp only [Bool.false_eq_true, if_false, List.mem_append]
    constructor
    · rintro ((h | h) | h | h)
      · obtain ⟨d, _, he, _⟩ := mem_missingOf_elim h; cases he
      · obtain ⟨k, he⟩ := mem_undefinedOf_elim h; cases he
      · exact h
      · obtain ⟨k, he⟩ := mem_undefinedOf_elim h; cases he
    · exact fun h => .inr (.inl h)
  · intro k
    rw [← mem_undefinedOf_iff inj_undefinedSecret, checkCall_eq]
    simp only [Bool.false_eq_true, if_false, List.mem_append]
    constructor
    · rintro ((h | h) | h | h)
      · obtain ⟨d, _, he, _⟩ := mem_missingOf_elim h; cases he
      · obtain ⟨k, he⟩ := mem_undefinedOf_elim h; cases he
      · obtain ⟨d, _, he, _⟩ := mem_missingOf_elim h; cases he
      · exact h
    · exact fun h => .inr (.inr h)

/-- a reusable workflow with one required input and two secrets (one required) -/
def exIns : List Decl := [⟨"env", "env", true⟩]
def exSecs : List Decl := [⟨"npm_token", "NPM_TOKEN", true⟩, ⟨"extra", "extra", false⟩]

example : checkCall exIns exSecs ["env"] ["bogus"] false =
    [.missingSecret "NPM_TOKEN", .undefinedSecret "bogus"] := by decide +kernel
example : checkCall exIns exSecs ["env"] ["bogus"] true = [] := by decide +kernel
example : checkCall exIns exSecs ["nev"] [] true = [.missingInput "env", .undefinedInput "nev"] := by decide +kernel

/-! ### (f) -/

theorem required : required_statement := by
  refine ⟨rfl, rfl, fun h => ?_⟩
  cases h <;> rfl

example : effectiveRequired true false = true := by decide
example : effectiveRequired true true = false := by decide

end AL.C14
