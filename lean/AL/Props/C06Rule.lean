import AL.Props.C05Scope
import AL.Props.C06
import AL.Model.ProjCall
/-
  C06 on AL.RuleExpr (all of rule_expression.go over the real AST): UNKNOWN TYPES ARE SILENT, at workflow level.
  AL.Props.C06 is the checker side (monotonicity of `check` under `Looser` environments); AL.Props.C05Scope says what each
  scope object is. Here: where `any` / loose objects come from in a workflow, and that nothing below them is reported.

    §0  below an unknown type        Acc, below, okPath, below_silent, any_below_silent, okPathObj, loose_below_silent,
                                     eq_any_silent, cmp_any_any_silent, less_any_iff, args_any_fit, call_any_args,
                                     rule_type_checks_accept_any
    §1  action outputs               outputs_unknown_action / _unreadable_local / _run_step / _github_script / _popular / _local,
                                     popular_outputs_shape, UnknownOutputs, stepOutputs_unknown; InJob, AfterSteps, jobCx_inJob,
                                     stepCx_after, jobCxPost_after; steps_outputs_ty, steps_outputs_silent,
                                     steps_outputs_open_silent, steps_outputs_any_below_silent, steps_outputs_strict_iff
    §2  needs of a reusable workflow needs_outputs_ty, needs_outputs_unknown_silent, needs_outputs_known_iff,
                                     callee_outputs_exact, needs_outputs_declared_iff
    §3  matrix                       matrix_var, matrix_open_silent, matrix_unknown_below_silent, matrix_expr_unknown,
                                     matrix_expr_silent, matrix_expr_open_silent, matrix_include_expr_unknown,
                                     matrix_include_expr_silent, matrix_include_entry_silent, rowTy_expr_any, matrix_row_any,
                                     matrix_row_below_silent; check_fromJSON_vars_env, job_strategy_any (fromJSON of a non-literal)
    §4  inputs                       dispatchTy_any_iff, dispatchTy_choice_environment, callTy_any_iff, inputs_any, inputs_prop_ty,
                                     inputs_any_below_silent, untyped_dispatch_input_silent, untyped_call_input_silent,
                                     typedInput_any
    §5  monotonicity                 envOf_looserD, state_mono (the environment is monotone in the per-job state);
                                     envOf_wf, afterSteps_wf, checkMatrix_lit_wf, ruleCx_wf (the representation invariant holds
                                     for every workflow); matrix_looser_mono(_wf), row_replaced_mono(_wf),
                                     include_entry_appended_mono_wf; matrix_replaced_mono_partial (5c: NOT reached in general)

  Where the model (hence actionlint) departs from the LETTER of the property — all proved below on witnesses:
    * the outputs of an unknown action are NOT `any` but `{string => string}`: `steps.<id>.outputs.<name>` is never
      reported, but it is a string, so `steps.<id>.outputs.<name>.<x>` IS reported (`unknown_outputs_deeper_reported`) and so
      is `steps.<id>.outputs.*` (`unknown_outputs_star_reported`); the same for `needs.<job>.outputs` of a reusable workflow
      whose interface is not known;
    * after `.*` the type is `array<any>`: an ARRAY, so a string index below it is reported (`star_then_lit_reported`);
    * an ordering comparison of an unknown value with a value statically known to be bool / null / object / array is
      reported (`any_less_bool_reported`, `less_any_iff`) — the known side is to blame;
    * `choice` / `environment` inputs are strings (known), only an input WITHOUT `type:` is `any`;
    * replacing the WHOLE matrix (or the whole `include:`) by an expression gives the empty open object, which has fewer
      keys than the literal one: not `Looser`-related, so the monotonicity theorem of AL.Props.C06 does not apply (5c).
-/
namespace AL.C06R
open AL AL.Ast AL.Sema AL.RuleExpr AL.C05S
open AL.Visit (St Header mkEnv emptyStrict emptyLoose loosen erase mergeInclude lookup_setProp)

/-! ## 0. below an unknown type nothing is reported -/

/-- one access below a value: `.name`, `['key']`, `[0]`, `.*` -/
inductive Acc where
  | prop (name : String)
  | lit (key : String)
  | num
  | star
deriving Repr, DecidableEq

/-- `e` followed by the accesses `p` -/
def below : E → List Acc → E
  | e, [] => e
  | e, .prop n :: r => below (.objDeref e n) r
  | e, .lit k :: r => below (.index e (.str k)) r
  | e, .num :: r => below (.index e .num) r
  | e, .star :: r => below (.arrDeref e) r

/-- the access paths along which the type stays unknown (`any`, or — after `.*` — `array<any>`): everything, except a
string index on the result of `.*`, directly or after property accesses (that IS an array: "index-not-number"). The
flag says "the value is the result of `.*`". -/
def okPath : Bool → List Acc → Bool
  | _, [] => true
  | a, .prop _ :: r => okPath a r
  | _, .star :: r => okPath true r
  | _, .num :: r => okPath false r
  | false, .lit _ :: r => okPath false r
  | true, .lit _ :: _ => false

def unknownTy (a : Bool) : Ty := if a then .arr .any true else .any

theorem objDerefTy_unknown (Γ : AL.Sema.Env) (b : Bool) (n : String) (a : Bool) :
    objDerefTy Γ b n (unknownTy a) = (unknownTy a, []) := by cases a <;> rfl
theorem indexTy_unknown (Γ : AL.Sema.Env) (a : Bool) : indexTy Γ none .number (unknownTy a) = (.any, []) := by cases a <;> rfl
theorem arrDerefTy_unknown (a : Bool) : arrDerefTy (unknownTy a) = (unknownTy true, []) := by cases a <;> rfl

/-- **below a value of unknown type no access is reported**, and the type stays unknown -/
theorem below_silent (Γ : AL.Sema.Env) : ∀ (p : List Acc) (e : E) (a : Bool),
    (check Γ e).errs = [] → (check Γ e).ty = unknownTy a → okPath a p = true →
    (check Γ (below e p)).errs = [] ∧ ∃ a', (check Γ (below e p)).ty = unknownTy a' := by
  intro p
  induction p with
  | nil => intro e a h1 h2 _; exact ⟨h1, a, h2⟩
  | cons x r ih =>
    intro e a h1 h2 hp
    cases x with
    | prop n =>
      refine ih (.objDeref e n) a ?_ ?_ hp <;>
        simp only [check_objDeref, wrap_errs, wrap_ty, h1, h2, objDerefTy_unknown, List.append_nil]
    | lit k =>
      cases a with
      | true => cases hp
      | false =>
        refine ih (.index e (.str k)) false ?_ ?_ hp <;>
          simp only [check_index, check_str, wrap_errs, wrap_ty, h1, h2, List.append_nil] <;> rfl
    | num =>
      refine ih (.index e .num) false ?_ ?_ hp <;>
        simp only [check_index, check_num, wrap_errs, wrap_ty, h1, h2, strLit?, indexTy_unknown, List.append_nil] <;> rfl
    | star =>
      refine ih (.arrDeref e) true ?_ ?_ hp <;>
        simp only [check_arrDeref, wrap_errs, wrap_ty, h1, h2, arrDerefTy_unknown, List.append_nil]

/-- the case of a silent expression of type `any` -/
theorem any_below_silent (Γ : AL.Sema.Env) (e : E) (p : List Acc) (h1 : (check Γ e).errs = []) (h2 : (check Γ e).ty = .any)
    (hp : okPath false p = true) : (check Γ (below e p)).errs = [] :=
  (below_silent Γ p e false h1 h2 hp).1

/-- the accesses along which an OPEN object without properties (`{string => any}`, what `NewEmptyObjectType()` builds)
stays silent: a number index on the object itself is "index-not-string" -/
def okPathObj : List Acc → Bool
  | [] => true
  | .prop _ :: r => okPath false r
  | .lit _ :: r => okPath false r
  | .star :: r => okPath true r
  | .num :: _ => false

/-- **a context that is the empty open object: nothing below it is reported** (`ctx.a.b`, `ctx['k'].x`, `ctx.*.y` …) -/
theorem loose_below_silent (Γ : AL.Sema.Env) (ctx : String) (p : List Acc)
    (hl : Ty.lookup ctx Γ.vars = some (.obj [] (some .any))) (ha : Γ.availCtx.contains (Γ.lower ctx) = true)
    (hctx : ctx ≠ "vars") (hp : okPathObj p = true) : (check Γ (below (.var ctx) p)).errs = [] := by
  obtain ⟨v1, v2⟩ := check_var_ok Γ ctx _ hl ha
  cases p with
  | nil => exact v2
  | cons x r =>
    cases x with
    | prop n =>
      obtain ⟨t, e⟩ := check_ctx_prop Γ ctx n _ hl ha
      exact any_below_silent Γ _ r (by rw [e]; simp [objDerefTy, Ty.lookup, hctx]) (by rw [t]; rfl) hp
    | lit k =>
      obtain ⟨t, e⟩ := check_ctx_index Γ ctx k _ hl ha
      exact any_below_silent Γ _ r (by rw [e]; rfl) (by rw [t]; rfl) hp
    | num => cases hp
    | star =>
      refine (below_silent Γ r (.arrDeref (.var ctx)) true ?_ ?_ hp).1 <;>
        simp only [check_arrDeref, wrap_errs, wrap_ty, v1, v2] <;> rfl

/-- `==` / `!=` with an unknown operand on either side is never reported -/
theorem eq_any_silent (Γ : AL.Sema.Env) (op : CmpOp) (hop : op = .eq ∨ op = .notEq) (l r : E)
    (hl : (check Γ l).errs = []) (hr : (check Γ r).errs = [])
    (hany : (check Γ l).ty = .any ∨ (check Γ r).ty = .any) : (check Γ (.cmp op l r)).errs = [] := by
  rw [check_cmp]
  simp only [wrap_errs, hl, hr, List.nil_append]
  have : validCompare op (check Γ l).ty (check Γ r).ty = true := by
    rcases hany with h | h
    · rw [h]; rcases hop with rfl | rfl <;> simp [validCompare]
    · rw [h]; rcases hop with rfl | rfl <;> cases (check Γ l).ty <;> simp [validCompare]
  simp [this]

/-- every comparison of two unknown operands is silent -/
theorem cmp_any_any_silent (Γ : AL.Sema.Env) (op : CmpOp) (l r : E)
    (hl : (check Γ l).errs = []) (hr : (check Γ r).errs = [])
    (h1 : (check Γ l).ty = .any) (h2 : (check Γ r).ty = .any) : (check Γ (.cmp op l r)).errs = [] := by
  rw [check_cmp]
  simp only [wrap_errs, hl, hr, List.nil_append, h1, h2]
  cases op <;> simp [validCompare]

/-- an ordering comparison with an unknown LEFT operand is reported iff the right one is statically null / bool / object /
array (it is the known side that cannot be ordered) -/
theorem less_any_iff (Γ : AL.Sema.Env) (op : CmpOp) (hop : op ≠ .eq ∧ op ≠ .notEq) (l r : E)
    (hl : (check Γ l).errs = []) (hr : (check Γ r).errs = []) (h1 : (check Γ l).ty = .any) :
    (check Γ (.cmp op l r)).errs = [] ↔
      ((check Γ r).ty = .any ∨ (check Γ r).ty = .number ∨ (check Γ r).ty = .string) := by
  rw [check_cmp]
  simp only [wrap_errs, hl, hr, List.nil_append, h1]
  -- the four ordering operators treat the operand types alike
  have hv : ∀ t, validCompare op .any t = validCompare .less .any t := by
    intro t
    cases op <;> first | rfl | exact absurd rfl hop.1 | exact absurd rfl hop.2
  rw [hv]
  cases (check Γ r).ty <;> simp [validCompare]

/-- arguments of unknown type fit the fixed parameters: the first of the two assignability loops of `checkFuncSignature`
(`rest_any` is the loop over the variadic parameter, `args_any_fit` both, i.e. `firstBadArg`) -/
theorem fixed_any (ps : List Ty) : ∀ (as : List Ty) (i : Nat), (∀ a ∈ as, a = .any) → firstBadArg.fixed ps as i = none := by
  induction ps with
  | nil => intro as i _; cases as <;> rfl
  | cons p rest ih =>
    intro as i h
    cases as with
    | nil => rfl
    | cons a r =>
      have ha : a = .any := h a (List.mem_cons_self ..)
      subst ha
      simp only [firstBadArg.fixed, Ty.assignable_any_right, Bool.not_true, Bool.false_eq_true, if_false]
      exact ih r (i + 1) (fun a' ha' => h a' (List.mem_cons_of_mem _ ha'))

theorem rest_any (p : Ty) : ∀ (as : List Ty) (i : Nat), (∀ a ∈ as, a = .any) → firstBadArg.rest p as i = none := by
  intro as
  induction as with
  | nil => intro i _; rfl
  | cons a r ih =>
    intro i h
    have ha : a = .any := h a (List.mem_cons_self ..)
    subst ha
    simp only [firstBadArg.rest, Ty.assignable_any_right, Bool.not_true, Bool.false_eq_true, if_false]
    exact ih (i + 1) (fun a' ha' => h a' (List.mem_cons_of_mem _ ha'))

theorem args_any_fit (params : List Ty) (variadic : Bool) (args : List Ty) (h : ∀ a ∈ args, a = .any) :
    firstBadArg params variadic args = none := by
  unfold firstBadArg
  rw [fixed_any params args 1 h]
  cases variadic with
  | false => rfl
  | true =>
    simp only [if_true]
    cases params.getLast? with
    | none => rfl
    | some p => exact rest_any p _ _ (fun a ha => h a (List.mem_of_mem_drop ha))

/-- … so a call whose arguments are all of unknown type can only be reported for their NUMBER -/
theorem call_any_args (sig : Sig) (args : List Ty) (h : ∀ a ∈ args, a = .any) :
    checkSig sig args = none ∨ ∃ as, checkSig sig args = some (err "arg-count" as) := by
  unfold checkSig
  simp only [args_any_fit sig.params sig.variadic args h]
  split
  · exact Or.inr ⟨_, rfl⟩
  · exact Or.inl rfl

/-- checks the RULE puts on top of an expression's type accept `any`: interpolation into a string and the "must be
object / array / number" checks of `mustBe` (not covered: `checkBool`, `runsOnDiags`, `checkIfCondition`) -/
theorem rule_type_checks_accept_any :
    templateDiags [.any] = [] ∧ isObjOrAny .any = true ∧ isArrOrAny .any = true ∧ isNumOrAny .any = true ∧
    (∀ (p : Ty → Bool) (code what : String) (s : Option Str) (ds : List Diag), p .any = true →
      mustBe p code what s (some .any, ds) = (some .any, ds)) := by
  refine ⟨rfl, rfl, rfl, rfl, fun p code what s ds hp => ?_⟩
  cases s with
  | none => rfl
  | some str => simp [mustBe, hp]

/-! ### §0 on concrete data -/

/-- `matrix : {cfg: any; os: string}` (AL.C06.exΓ'): `matrix.cfg` is silent, of type `any` -/
theorem cfg_any : (check AL.C06.exΓ' (.objDeref (.var "matrix") "cfg")).errs = [] ∧
    (check AL.C06.exΓ' (.objDeref (.var "matrix") "cfg")).ty = .any := by
  rw [check_eq_sem]
  exact ⟨rfl, rfl⟩

example : (check AL.C06.exΓ' (below (.objDeref (.var "matrix") "cfg")
    [.prop "a", .prop "b", .lit "k", .num, .star, .prop "c", .star])).errs = [] :=
  any_below_silent _ _ _ cfg_any.1 cfg_any.2 rfl

/-- after `.*` the value is an ARRAY (`array<any>`): a string index on it is reported — not an unknown type any more -/
theorem star_then_lit_reported :
    (check AL.C06.exΓ' (below (.objDeref (.var "matrix") "cfg") [.star, .lit "k"])).errs =
      [err "index-not-number" ["string"]] := by
  rw [check_eq_sem]
  rfl

/-- `matrix.cfg < true` with `matrix.cfg : any` IS reported: `true` can never be ordered -/
theorem any_less_bool_reported :
    (check AL.C06.exΓ' (.cmp .less (.objDeref (.var "matrix") "cfg") .bool)).errs =
      [err "bad-compare" ["any", "bool", "<"]] := by
  rw [check_eq_sem]
  rfl

example : (check AL.C06.exΓ' (.cmp .less (.objDeref (.var "matrix") "cfg") .num)).errs = [] :=
  (less_any_iff _ .less ⟨by decide, by decide⟩ _ _ cfg_any.1 (by rw [check_eq_sem]; rfl) cfg_any.2).2
    (Or.inr (Or.inl (by rw [check_eq_sem]; rfl)))

example : (check AL.C06.exΓ' (.cmp .eq .bool (.objDeref (.var "matrix") "cfg"))).errs = [] :=
  eq_any_silent _ .eq (Or.inl rfl) _ _ (by rw [check_eq_sem]; rfl) cfg_any.1 (Or.inr cfg_any.2)

example : (check AL.C06.exΓ' (.cmp .greaterEq (.objDeref (.var "matrix") "cfg") (.objDeref (.var "matrix") "cfg"))).errs = [] :=
  cmp_any_any_silent _ _ _ _ cfg_any.1 cfg_any.1 cfg_any.2 cfg_any.2

example : firstBadArg [.string, .arr .string false] true [.any, .any, .any] = none :=
  args_any_fit _ _ _ (by simp)

/-- an environment with the open `needs` of AL.C05.exΓ: `needs.*.x`, `needs['j'].outputs.o` are silent -/
example : (check AL.C05.exΓ (below (.var "needs") [.star, .prop "x"])).errs = [] ∧
    (check AL.C05.exΓ (below (.var "needs") [.lit "j", .prop "outputs", .prop "o"])).errs = [] :=
  ⟨loose_below_silent _ "needs" _ rfl rfl (by decide) rfl, loose_below_silent _ "needs" _ rfl rfl (by decide) rfl⟩

/-! ## 1. the outputs of an action that is not known

`getActionOutputsType`: a `run:` step, an action that is neither bundled nor a readable local action → `{string => string}`;
`actions/github-script` and the bundled actions whose outputs are not listed → the empty open object; a bundled action →
a STRICT object with exactly its outputs. -/

theorem outputs_run_step (lo : String → Option Ty) : actionOutputsTy lo none = .obj [] (some .string) := rfl

/-- an action that is not local, not github-script and not in the bundled table -/
theorem outputs_unknown_action (lo : String → Option Ty) (s : Str) (h1 : s.value.startsWith "./" = false)
    (h2 : s.value.startsWith "actions/github-script@" = false) (h3 : popularOutputs s.value = none) :
    actionOutputsTy lo (some s) = .obj [] (some .string) := by
  simp [actionOutputsTy, h1, h2, h3, mapOfString]

/-- a local action whose metadata the project does not have (no project, no `action.yml`, broken `action.yml`) -/
theorem outputs_unreadable_local (lo : String → Option Ty) (s : Str) (h1 : s.value.startsWith "./" = true)
    (h2 : lo s.value = none) : actionOutputsTy lo (some s) = .obj [] (some .string) := by
  simp [actionOutputsTy, h1, h2, mapOfString]

/-- … and one it has: whatever the metadata says -/
theorem outputs_local (lo : String → Option Ty) (s : Str) (t : Ty) (h1 : s.value.startsWith "./" = true)
    (h2 : lo s.value = some t) : actionOutputsTy lo (some s) = t := by
  simp [actionOutputsTy, h1, h2]

theorem outputs_github_script (lo : String → Option Ty) (s : Str) (h1 : s.value.startsWith "./" = false)
    (h2 : s.value.startsWith "actions/github-script@" = true) : actionOutputsTy lo (some s) = .obj [] (some .any) := by
  simp [actionOutputsTy, h1, h2, emptyLoose]

theorem outputs_popular (lo : String → Option Ty) (s : Str) (t : Ty) (h1 : s.value.startsWith "./" = false)
    (h2 : s.value.startsWith "actions/github-script@" = false) (h3 : popularOutputs s.value = some t) :
    actionOutputsTy lo (some s) = t := by
  simp [actionOutputsTy, h1, h2, h3]

/-- what the table of bundled actions gives for `spec`: `emptyLoose` when its entry says "outputs unknown" (`SkipOutputs`),
else the fold of the entry's output names -/
theorem popularOutputs_some (spec : String) (t : Ty) (h : popularOutputs spec = some t) :
    t = emptyLoose ∨
    ∃ ins outs dep, (∃ ch ∈ AL.Gen.popularChunks, (spec, ins, outs, dep, false) ∈ ch) ∧
      t = .obj (outs.foldl (fun ps o => Ty.setProp (AL.PW.asciiLower o.1) .string ps) []) none := by
  unfold popularOutputs at h
  cases hf : AL.Gen.popularChunks.findSome? (fun ch => ch.find? (·.1 = spec)) with
  | none => rw [hf] at h; cases h
  | some e =>
    obtain ⟨sp, ins, outs, dep, skip⟩ := e
    rw [hf] at h
    simp only at h
    cases skip with
    | true => left; simp only [if_true, Option.some.injEq] at h; exact h.symm
    | false =>
      right
      simp only [Bool.false_eq_true, if_false, Option.some.injEq] at h
      obtain ⟨ch, hch, hfind⟩ := List.exists_of_findSome?_eq_some hf
      have hm := List.mem_of_find?_eq_some hfind
      have hp := List.find?_some hfind
      simp only [decide_eq_true_eq] at hp
      subst hp
      exact ⟨ins, outs, dep, ⟨ch, hch, hm⟩, h.symm⟩

/-- **a bundled action**: the empty open object when the table says "outputs unknown" (`SkipOutputs`), else a STRICT object
whose keys are exactly the (lower-cased) output names of the table entry, all strings -/
theorem popular_outputs_shape (spec : String) (t : Ty) (h : popularOutputs spec = some t) :
    t = .obj [] (some .any) ∨
    ∃ ps ins outs dep, t = .obj ps none ∧ (∃ ch ∈ AL.Gen.popularChunks, (spec, ins, outs, dep, false) ∈ ch) ∧
      ∀ name, Ty.lookup name ps = if name ∈ outs.map (fun o => AL.PW.asciiLower o.1) then some .string else none := by
  rcases popularOutputs_some spec t h with rfl | ⟨ins, outs, dep, hm, rfl⟩
  · exact .inl rfl
  · refine .inr ⟨_, ins, outs, dep, rfl, hm, fun name => ?_⟩
    have := lookup_foldKeys (fun o : String × String => AL.PW.asciiLower o.1) name outs []
    simpa [Ty.lookup] using this

/-- the outputs type of a step: it depends on the step's `uses:` and the project's local actions only -/
def stepOutputs (proj : ProjView) (s : Step) : Ty :=
  actionOutputsTy proj.actionOutputs (match s.exec with | .action e => e.uses | _ => none)

theorem stepM_outputs (cx : Cx) (s : Step) : (AL.C05E.stepM cx s).outputs = stepOutputs cx.proj s := by
  simp only [AL.C05E.stepM, stepOutputs]
  cases s.exec <;> rfl

/-- a step "of unknown outputs": a `run:` step, or `uses:` of an action that is neither bundled, nor github-script, nor a
local action whose metadata the project has -/
def UnknownOutputs (proj : ProjView) (s : Step) : Prop :=
  match s.exec with
  | .action e =>
    (match e.uses with
     | some u =>
       (u.value.startsWith "./" = true ∧ proj.actionOutputs u.value = none) ∨
       (u.value.startsWith "./" = false ∧ u.value.startsWith "actions/github-script@" = false ∧ popularOutputs u.value = none)
     | none => True)
  | _ => True

theorem stepOutputs_unknown (proj : ProjView) (s : Step) (h : UnknownOutputs proj s) :
    stepOutputs proj s = .obj [] (some .string) := by
  unfold UnknownOutputs at h
  unfold stepOutputs
  cases he : s.exec with
  | none => rfl
  | run e => rfl
  | action e =>
    rw [he] at h
    simp only at h ⊢
    cases hu : e.uses with
    | none => rfl
    | some u =>
      rw [hu] at h
      simp only at h
      rcases h with ⟨h1, h2⟩ | ⟨h1, h2, h3⟩
      · exact outputs_unreadable_local _ u h1 h2
      · exact outputs_unknown_action _ u h1 h2 h3

/-! ### what the checker makes of `ctx.<j>.outputs.<name>` -/

theorem objDerefTy_found (Γ : AL.Sema.Env) (b : Bool) (name : String) (ps : List (String × Ty)) (m : Option Ty) (pt : Ty)
    (h : Ty.lookup name ps = some pt) : objDerefTy Γ b name (.obj ps m) = (pt, []) := by
  simp only [objDerefTy, h]

/-- `ctx.<j>.outputs` where `ctx` is an object (strict or not) that has `<j>`, an object that has `outputs` -/
theorem check_ctx_j_outputs (Γ : AL.Sema.Env) (ctx j : String) (ps js : List (String × Ty)) (m mj : Option Ty) (outs : Ty)
    (hl : Ty.lookup ctx Γ.vars = some (.obj ps m)) (ha : Γ.availCtx.contains (Γ.lower ctx) = true)
    (hj : Ty.lookup j ps = some (.obj js mj)) (ho : Ty.lookup "outputs" js = some outs) :
    (check Γ (.objDeref (.objDeref (.var ctx) j) "outputs")).errs = [] ∧
    (check Γ (.objDeref (.objDeref (.var ctx) j) "outputs")).ty = outs := by
  obtain ⟨t1, e1⟩ := check_ctx_prop Γ ctx j _ hl ha
  rw [objDerefTy_found Γ _ j ps m _ hj] at t1 e1
  obtain ⟨t2, e2⟩ := check_prop_of Γ (.objDeref (.var ctx) j) "outputs" _ rfl t1 e1
  rw [objDerefTy_found Γ _ "outputs" js mj _ ho] at t2 e2
  exact ⟨e2, t2⟩

/-- a property of an OPEN object that is not a bare variable: never reported; its type is the declared one, else the
mapped type -/
theorem check_prop_of_open (Γ : AL.Sema.Env) (recv : E) (name : String) (qs : List (String × Ty)) (mt : Ty)
    (hv : isVarsVar recv = false) (h1 : (check Γ recv).errs = []) (h2 : (check Γ recv).ty = .obj qs (some mt)) :
    (check Γ (.objDeref recv name)).errs = [] ∧ (check Γ (.objDeref recv name)).ty = (Ty.lookup name qs).getD mt := by
  obtain ⟨t, e⟩ := check_prop_of Γ recv name _ hv h2 h1
  rw [t, e]
  cases h : Ty.lookup name qs <;> simp [objDerefTy, h]

/-- … of a STRICT one: reported iff not declared -/
theorem check_prop_of_strict (Γ : AL.Sema.Env) (recv : E) (name : String) (os : List (String × Ty))
    (hv : isVarsVar recv = false) (h1 : (check Γ recv).errs = []) (h2 : (check Γ recv).ty = .obj os none) :
    ((check Γ (.objDeref recv name)).errs ≠ [] ↔ Ty.lookup name os = none) ∧
    (AL.C05.undefinedProp name (check Γ (.objDeref recv name)) ↔ Ty.lookup name os = none) := by
  obtain ⟨_, e⟩ := check_prop_of Γ recv name _ hv h2 h1
  unfold AL.C05.undefinedProp
  rw [e]
  cases h : Ty.lookup name os with
  | none =>
    rw [objDerefTy_strict_none Γ _ name os h]
    exact ⟨by simp, fun _ => rfl, fun _ => ⟨[tyStr (.obj os none)], List.mem_singleton.2 rfl⟩⟩
  | some pt =>
    rw [objDerefTy_strict_some Γ _ name os pt h]
    exact ⟨by simp, fun ⟨_, hm⟩ => by simp at hm, fun h' => nomatch h'⟩

/-! ### the rule's state inside a job -/

/-- `cx` is the rule's state somewhere inside job `n`: `needs`, `matrix`, the header and the folding are the job's -/
structure InJob (cx0 : Cx) (isNum : IsNumber) (jobs : List (String × Job)) (n : Job) (cx : Cx) : Prop where
  needs : cx.st.needsTy = some (needsTy (cx0.proj.jobView n.id.value).outs cx0.lower jobs n)
  matrix : cx.st.matrixTy = (jobCx cx0 isNum jobs n).st.matrixTy
  hdr : cx.hdr = cx0.hdr
  lower : cx.lower = cx0.lower

/-- … after the steps `pre` of the job were visited: `steps` is built from exactly those -/
structure AfterSteps (cx0 : Cx) (isNum : IsNumber) (jobs : List (String × Job)) (n : Job) (pre : List Step) (cx : Cx) : Prop
    extends InJob cx0 isNum jobs n cx where
  steps : cx.st.stepsTy = some (stepsAfter (jobCxS cx0 isNum jobs n) pre)

/-- a context the key's row lists (under the workflow's folding) is available in every environment inside the job -/
theorem InJob.avail {cx0 : Cx} {isNum : IsNumber} {jobs : List (String × Job)} {n : Job} {cx : Cx}
    (hcx : InJob cx0 isNum jobs n cx) (key ctx : String) (ha : (AL.Visit.availability key).1.contains (cx0.lower ctx) = true) :
    (envOf cx key).availCtx.contains ((envOf cx key).lower ctx) = true := by
  rw [envOf_avail, hcx.lower]; exact ha

/-- `VisitJobPre` (the job's own strings) -/
theorem jobCx_inJob (cx0 : Cx) (isNum : IsNumber) (jobs : List (String × Job)) (n : Job) :
    InJob cx0 isNum jobs n (jobCx cx0 isNum jobs n) := by
  obtain ⟨a, _, _, c, d, _, _⟩ := jobCx_scope cx0 isNum jobs n
  exact ⟨a, rfl, c, d⟩

/-- the step that follows the steps `pre` -/
theorem stepCx_after (cx0 : Cx) (isNum : IsNumber) (jobs : List (String × Job)) (n : Job) (pre : List Step) :
    AfterSteps cx0 isNum jobs n pre (stepCx cx0 isNum jobs n pre) := by
  obtain ⟨s, nd, m, h, l⟩ := stepCx_scope cx0 isNum jobs n pre
  exact ⟨⟨nd.trans (jobCx_scope cx0 isNum jobs n).1, m, h, l⟩, s⟩

/-- `VisitJobPost` (the job's `outputs` and `environment`): after ALL steps -/
theorem jobCxPost_after (cx0 : Cx) (isNum : IsNumber) (jobs : List (String × Job)) (n : Job) :
    AfterSteps cx0 isNum jobs n (n.steps.getD []) (jobCxPost cx0 isNum jobs n) :=
  stepCx_after cx0 isNum jobs n (n.steps.getD [])

/-! ### `steps.<id>.outputs` -/

theorem stepEntry_outputs (cx : Cx) (s : Step) :
    ∃ js, stepEntry cx s = .obj js none ∧ Ty.lookup "outputs" js = some (stepOutputs cx.proj s) := by
  refine ⟨_, rfl, ?_⟩
  rw [← stepM_outputs]
  simp [Ty.lookup]

/-- **`steps.<x>.outputs` after the steps `pre`, one of which has the id `x`**: never reported (whether or not `steps` was
opened by an id with a placeholder), and its type is the outputs type of A step of `pre` with that id -/
theorem steps_outputs_ty (cx0 : Cx) (isNum : IsNumber) (jobs : List (String × Job)) (n : Job) (pre : List Step) (cx : Cx)
    (hcx : AfterSteps cx0 isNum jobs n pre cx) (key x : String)
    (ha : (AL.Visit.availability key).1.contains (cx0.lower "steps") = true)
    (hex : ∃ s ∈ pre, ∃ id, s.id = some id ∧ cx0.lower id.value = x) :
    ∃ s ∈ pre, (∃ id, s.id = some id ∧ cx0.lower id.value = x) ∧
      (check (envOf cx key) (.objDeref (.objDeref (.var "steps") x) "outputs")).errs = [] ∧
      (check (envOf cx key) (.objDeref (.objDeref (.var "steps") x) "outputs")).ty = stepOutputs cx0.proj s := by
  have hlowS : (jobCxS cx0 isNum jobs n).lower = cx0.lower := by rw [jobCxS, jobCx_eq]; rfl
  have hprojS : (jobCxS cx0 isNum jobs n).proj = cx0.proj := by rw [jobCxS, jobCx_eq]; rfl
  obtain ⟨ps, m, hobj⟩ := addStepFold_obj (jobCxS cx0 isNum jobs n).lower
    (pre.map (AL.C05E.stepM (jobCxS cx0 isNum jobs n))) [] none
  have hobj' : stepsAfter (jobCxS cx0 isNum jobs n) pre = .obj ps m := hobj
  have hk := (stepsAfter_keys (jobCxS cx0 isNum jobs n) pre x).2 (by rw [hlowS]; exact hex)
  obtain ⟨t, ht⟩ := Option.isSome_iff_exists.1 hk
  obtain ⟨s, hs, id, hid, hx, hte⟩ := stepsAfter_entry (jobCxS cx0 isNum jobs n) pre x t ht
  rw [hobj'] at ht
  simp only [propsOf] at ht
  obtain ⟨js, hjs, hout⟩ := stepEntry_outputs (jobCxS cx0 isNum jobs n) s
  rw [hprojS] at hout
  have hl : Ty.lookup "steps" (envOf cx key).vars = some (.obj ps m) := by
    rw [envOf_vars, (scope_st _ _ _ _ _).2.1, hcx.steps, hobj']; rfl
  rw [hte, hjs] at ht
  obtain ⟨e, ty⟩ := check_ctx_j_outputs (envOf cx key) "steps" x ps js m none _ hl (hcx.toInJob.avail key _ ha) ht hout
  exact ⟨s, hs, ⟨id, hid, by rw [← hlowS]; exact hx⟩, e, ty⟩

/-- **a step whose action is not known: `steps.<id>.outputs.<anything>` is never reported** in a later step of the job
(`cx = stepCx …`) or in the job's outputs (`cx = jobCxPost …`) — for every name; it is a string -/
theorem steps_outputs_silent (cx0 : Cx) (isNum : IsNumber) (jobs : List (String × Job)) (n : Job) (pre : List Step) (cx : Cx)
    (hcx : AfterSteps cx0 isNum jobs n pre cx) (key x name : String)
    (ha : (AL.Visit.availability key).1.contains (cx0.lower "steps") = true)
    (hex : ∃ s ∈ pre, ∃ id, s.id = some id ∧ cx0.lower id.value = x)
    (hall : ∀ s ∈ pre, ∀ id, s.id = some id → cx0.lower id.value = x → UnknownOutputs cx0.proj s) :
    (check (envOf cx key) (.objDeref (.objDeref (.objDeref (.var "steps") x) "outputs") name)).errs = [] ∧
    (check (envOf cx key) (.objDeref (.objDeref (.objDeref (.var "steps") x) "outputs") name)).ty = .string := by
  obtain ⟨s, hs, ⟨id, hid, hx⟩, e, ty⟩ := steps_outputs_ty cx0 isNum jobs n pre cx hcx key x ha hex
  rw [stepOutputs_unknown cx0.proj s (hall s hs id hid hx)] at ty
  have := check_prop_of_open (envOf cx key) _ name [] .string rfl e ty
  simpa [Ty.lookup] using this

/-- the general form: every step with that id has SOME open outputs object (`{string => string}`, the empty open object of
github-script, an open object from a local action's metadata): no output name is reported -/
theorem steps_outputs_open_silent (cx0 : Cx) (isNum : IsNumber) (jobs : List (String × Job)) (n : Job) (pre : List Step) (cx : Cx)
    (hcx : AfterSteps cx0 isNum jobs n pre cx) (key x name : String)
    (ha : (AL.Visit.availability key).1.contains (cx0.lower "steps") = true)
    (hex : ∃ s ∈ pre, ∃ id, s.id = some id ∧ cx0.lower id.value = x)
    (hall : ∀ s ∈ pre, ∀ id, s.id = some id → cx0.lower id.value = x → ∃ qs mt, stepOutputs cx0.proj s = .obj qs (some mt)) :
    (check (envOf cx key) (.objDeref (.objDeref (.objDeref (.var "steps") x) "outputs") name)).errs = [] := by
  obtain ⟨s, hs, ⟨id, hid, hx⟩, e, ty⟩ := steps_outputs_ty cx0 isNum jobs n pre cx hcx key x ha hex
  obtain ⟨qs, mt, hq⟩ := hall s hs id hid hx
  rw [hq] at ty
  exact (check_prop_of_open (envOf cx key) _ name qs mt rfl e ty).1

/-- **outputs that are the empty open object** (`actions/github-script`, a bundled action whose outputs are not listed):
`steps.<id>.outputs.<name>` is `any`, and NOTHING below it is reported (`.x.y`, `['k']`, `.*`, …) -/
theorem steps_outputs_any_below_silent (cx0 : Cx) (isNum : IsNumber) (jobs : List (String × Job)) (n : Job) (pre : List Step)
    (cx : Cx) (hcx : AfterSteps cx0 isNum jobs n pre cx) (key x name : String) (p : List Acc)
    (ha : (AL.Visit.availability key).1.contains (cx0.lower "steps") = true)
    (hex : ∃ s ∈ pre, ∃ id, s.id = some id ∧ cx0.lower id.value = x)
    (hall : ∀ s ∈ pre, ∀ id, s.id = some id → cx0.lower id.value = x → stepOutputs cx0.proj s = .obj [] (some .any))
    (hp : okPath false p = true) :
    (check (envOf cx key) (below (.objDeref (.objDeref (.objDeref (.var "steps") x) "outputs") name) p)).errs = [] := by
  obtain ⟨s, hs, ⟨id, hid, hx⟩, e, ty⟩ := steps_outputs_ty cx0 isNum jobs n pre cx hcx key x ha hex
  rw [hall s hs id hid hx] at ty
  obtain ⟨e', ty'⟩ := check_prop_of_open (envOf cx key) _ name [] .any rfl e ty
  exact any_below_silent _ _ p e' (by simpa [Ty.lookup] using ty') hp

/-- **contrast — a step whose action has STRICT outputs** (a bundled action, see `popular_outputs_shape`; a local action
with metadata): `steps.<id>.outputs.<name>` is reported iff `<name>` is not one of them -/
theorem steps_outputs_strict_iff (cx0 : Cx) (isNum : IsNumber) (jobs : List (String × Job)) (n : Job) (pre : List Step) (cx : Cx)
    (hcx : AfterSteps cx0 isNum jobs n pre cx) (key x name : String) (os : List (String × Ty))
    (ha : (AL.Visit.availability key).1.contains (cx0.lower "steps") = true)
    (hex : ∃ s ∈ pre, ∃ id, s.id = some id ∧ cx0.lower id.value = x)
    (hall : ∀ s ∈ pre, ∀ id, s.id = some id → cx0.lower id.value = x → stepOutputs cx0.proj s = .obj os none) :
    ((check (envOf cx key) (.objDeref (.objDeref (.objDeref (.var "steps") x) "outputs") name)).errs ≠ [] ↔
      Ty.lookup name os = none) ∧
    (AL.C05.undefinedProp name (check (envOf cx key) (.objDeref (.objDeref (.objDeref (.var "steps") x) "outputs") name)) ↔
      Ty.lookup name os = none) := by
  obtain ⟨s, hs, ⟨id, hid, hx⟩, e, ty⟩ := steps_outputs_ty cx0 isNum jobs n pre cx hcx key x ha hex
  rw [hall s hs id hid hx] at ty
  exact check_prop_of_strict (envOf cx key) _ name os rfl e ty

/-- **the outputs of an unknown action are strings, not `any`**: one level deeper IS reported — `steps.<id>.outputs.<name>.<y>`
gets "receiver of object dereference must be object but got string" (the type is KNOWN to be string) -/
theorem unknown_outputs_deeper_reported (cx0 : Cx) (isNum : IsNumber) (jobs : List (String × Job)) (n : Job) (pre : List Step)
    (cx : Cx) (hcx : AfterSteps cx0 isNum jobs n pre cx) (key x name y : String)
    (ha : (AL.Visit.availability key).1.contains (cx0.lower "steps") = true)
    (hex : ∃ s ∈ pre, ∃ id, s.id = some id ∧ cx0.lower id.value = x)
    (hall : ∀ s ∈ pre, ∀ id, s.id = some id → cx0.lower id.value = x → UnknownOutputs cx0.proj s) :
    (check (envOf cx key) (.objDeref (.objDeref (.objDeref (.objDeref (.var "steps") x) "outputs") name) y)).errs =
      [err "deref-not-object" [y, "string"]] := by
  obtain ⟨e, ty⟩ := steps_outputs_silent cx0 isNum jobs n pre cx hcx key x name ha hex hall
  obtain ⟨_, e'⟩ := check_prop_of (envOf cx key) _ y _ rfl ty e
  rw [e']
  simp [objDerefTy, tyStr]

/-- … and so is `steps.<id>.outputs.*` ("elements of object at receiver of object filtering must be object") -/
theorem unknown_outputs_star_reported (cx0 : Cx) (isNum : IsNumber) (jobs : List (String × Job)) (n : Job) (pre : List Step)
    (cx : Cx) (hcx : AfterSteps cx0 isNum jobs n pre cx) (key x : String)
    (ha : (AL.Visit.availability key).1.contains (cx0.lower "steps") = true)
    (hex : ∃ s ∈ pre, ∃ id, s.id = some id ∧ cx0.lower id.value = x)
    (hall : ∀ s ∈ pre, ∀ id, s.id = some id → cx0.lower id.value = x → UnknownOutputs cx0.proj s) :
    (check (envOf cx key) (.arrDeref (.objDeref (.objDeref (.var "steps") x) "outputs"))).errs =
      [err "filter-elems-not-object" ["string", "{string => string}"]] := by
  obtain ⟨s, hs, ⟨id, hid, hx⟩, e, ty⟩ := steps_outputs_ty cx0 isNum jobs n pre cx hcx key x ha hex
  rw [stepOutputs_unknown cx0.proj s (hall s hs id hid hx)] at ty
  rw [check_arrDeref]
  simp only [wrap_errs, e, ty, List.nil_append]
  simp [arrDerefTy, tyStr]

theorem opt_tyEq {o : Option Ty} {t : Ty} (h : (match o with | some t' => tyEq t' t | none => false) = true) : o = some t := by
  cases o with
  | none => cases h
  | some t' => rw [tyEq_sound t' t h]

/-! ### §1 on concrete data: `U` (unknown action), `cache` (bundled), `gs` (github-script), `loc` (local), `r` (run) -/

private def p0 : AL.Yaml.Pos := ⟨1, 1⟩
private def str (v : String) : Str := ⟨v, false, p0⟩
private def noNum : IsNumber := fun _ => false
def keyRun : String := "jobs.<job_id>.steps.run"
def keyOut : String := "jobs.<job_id>.outputs.<output_id>"

def stU : Step := { id := some (str "U"), exec := .action { uses := some (str "some/unknown-action@v1") }, pos := p0 }
def stC : Step := { id := some (str "cache"), exec := .action { uses := some (str "actions/cache@v4") }, pos := p0 }
def stG : Step := { id := some (str "gs"), exec := .action { uses := some (str "actions/github-script@v7") }, pos := p0 }
def stL : Step := { id := some (str "loc"), exec := .action { uses := some (str "./my-action") }, pos := p0 }
def stR : Step := { id := some (str "r"), exec := .run { run := some (str "echo") }, pos := p0 }
def stLast : Step := { exec := .run { run := some (str "echo ${{ steps.u.outputs.x }}") }, pos := p0 }
def exPre : List Step := [stU, stC, stG, stL, stR]
def jEx : Job := { id := str "j", steps := some (exPre ++ [stLast]), pos := p0 }

theorem av_steps_run : (AL.Visit.availability keyRun).1.contains (cxL.lower "steps") = true := available_run "steps" (by simp)
theorem av_steps_out : (AL.Visit.availability keyOut).1.contains (cxL.lower "steps") = true := available_job_outputs

/-- the two lookups in the table of bundled actions, decided together (each alone would decode the keys the search passes) -/
theorem popular_rows : (popularOutputs "some/unknown-action@v1").isNone = true ∧
    (match popularOutputs "actions/cache@v4" with
     | some t => tyEq t (.obj [("cache-hit", .string)] none)
     | none => false) = true := by decide +kernel
theorem popular_unknown : popularOutputs "some/unknown-action@v1" = none := Option.isNone_iff_eq_none.1 popular_rows.1
theorem popular_cache : popularOutputs "actions/cache@v4" = some (.obj [("cache-hit", .string)] none) :=
  opt_tyEq popular_rows.2

theorem uses_unknown : (str "some/unknown-action@v1").value.startsWith "./" = false ∧
    (str "some/unknown-action@v1").value.startsWith "actions/github-script@" = false := by decide +kernel
theorem uses_cache : (str "actions/cache@v4").value.startsWith "./" = false ∧
    (str "actions/cache@v4").value.startsWith "actions/github-script@" = false := by decide +kernel
theorem uses_gs : (str "actions/github-script@v7").value.startsWith "./" = false ∧
    (str "actions/github-script@v7").value.startsWith "actions/github-script@" = true := by decide +kernel
theorem uses_local : (str "./my-action").value.startsWith "./" = true := by decide +kernel

theorem stU_unknown : UnknownOutputs cxL.proj stU := Or.inr ⟨uses_unknown.1, uses_unknown.2, popular_unknown⟩
theorem stL_unknown : UnknownOutputs cxL.proj stL := Or.inl ⟨uses_local, rfl⟩
theorem stR_unknown : UnknownOutputs cxL.proj stR := trivial

/-- `actions/cache@v4` is bundled: STRICT outputs `{cache-hit: string}` -/
theorem stC_outputs : stepOutputs cxL.proj stC = .obj [("cache-hit", .string)] none :=
  outputs_popular _ _ _ uses_cache.1 uses_cache.2 popular_cache
theorem stG_outputs : stepOutputs cxL.proj stG = .obj [] (some .any) :=
  outputs_github_script _ _ uses_gs.1 uses_gs.2

example : ∃ t, popularOutputs "actions/cache@v4" = some t := ⟨_, popular_cache⟩

/-- the hypotheses about `exPre`, once for each id -/
theorem exPre_id (x : String) (s0 : Step) (i0 : Str) (hs0 : s0 ∈ exPre) (hi0 : s0.id = some i0) (hx0 : cxL.lower i0.value = x)
    (huniq : ∀ s ∈ exPre, ∀ id, s.id = some id → cxL.lower id.value = x → s = s0) (P : Step → Prop) (h0 : P s0) :
    (∃ s ∈ exPre, ∃ id, s.id = some id ∧ cxL.lower id.value = x) ∧
    (∀ s ∈ exPre, ∀ id, s.id = some id → cxL.lower id.value = x → P s) :=
  ⟨⟨s0, hs0, i0, hi0, hx0⟩, fun s hs id hid hx => by rw [huniq s hs id hid hx]; exact h0⟩

theorem uniq_u : ∀ s ∈ exPre, ∀ id, s.id = some id → cxL.lower id.value = "u" → s = stU := by
  intro s hs id hid hx
  simp only [exPre, List.mem_cons, List.not_mem_nil, or_false] at hs
  rcases hs with rfl | rfl | rfl | rfl | rfl
  · rfl
  all_goals (cases hid; exact absurd hx (by decide +kernel))

theorem uniq_cache : ∀ s ∈ exPre, ∀ id, s.id = some id → cxL.lower id.value = "cache" → s = stC := by
  intro s hs id hid hx
  simp only [exPre, List.mem_cons, List.not_mem_nil, or_false] at hs
  rcases hs with rfl | rfl | rfl | rfl | rfl
  · cases hid; exact absurd hx (by decide +kernel)
  · rfl
  all_goals (cases hid; exact absurd hx (by decide +kernel))

theorem uniq_gs : ∀ s ∈ exPre, ∀ id, s.id = some id → cxL.lower id.value = "gs" → s = stG := by
  intro s hs id hid hx
  simp only [exPre, List.mem_cons, List.not_mem_nil, or_false] at hs
  rcases hs with rfl | rfl | rfl | rfl | rfl
  · cases hid; exact absurd hx (by decide +kernel)
  · cases hid; exact absurd hx (by decide +kernel)
  · rfl
  all_goals (cases hid; exact absurd hx (by decide +kernel))

/-- in the step after `U` (unknown action), `cache`, `gs`, `loc`, `r`: **`steps.u.outputs.<anything>` is not reported**, for
every name; it is a string, so `steps.u.outputs.x.y` and `steps.u.outputs.*` ARE reported -/
example (name : String) :
    (check (envOf (stepCx cxL noNum [] jEx exPre) keyRun)
      (.objDeref (.objDeref (.objDeref (.var "steps") "u") "outputs") name)).errs = [] ∧
    (check (envOf (stepCx cxL noNum [] jEx exPre) keyRun)
      (.objDeref (.objDeref (.objDeref (.objDeref (.var "steps") "u") "outputs") name) "y")).errs =
        [err "deref-not-object" ["y", "string"]] ∧
    (check (envOf (stepCx cxL noNum [] jEx exPre) keyRun)
      (.arrDeref (.objDeref (.objDeref (.var "steps") "u") "outputs"))).errs =
        [err "filter-elems-not-object" ["string", "{string => string}"]] := by
  obtain ⟨hex, hall⟩ := exPre_id "u" stU (str "U") (by simp [exPre]) rfl (by decide +kernel) uniq_u (UnknownOutputs cxL.proj) stU_unknown
  exact ⟨(steps_outputs_silent cxL noNum [] jEx exPre _ (stepCx_after ..) keyRun "u" name av_steps_run hex hall).1,
    unknown_outputs_deeper_reported cxL noNum [] jEx exPre _ (stepCx_after ..) keyRun "u" name "y" av_steps_run hex hall,
    unknown_outputs_star_reported cxL noNum [] jEx exPre _ (stepCx_after ..) keyRun "u" av_steps_run hex hall⟩

/-- github-script: `steps.gs.outputs.result.a['k'].*.b` is silent -/
example : (check (envOf (stepCx cxL noNum [] jEx exPre) keyRun)
      (below (.objDeref (.objDeref (.objDeref (.var "steps") "gs") "outputs") "result")
        [.prop "a", .lit "k", .star, .prop "b"])).errs = [] := by
  obtain ⟨hex, hall⟩ := exPre_id "gs" stG (str "gs") (by simp [exPre]) rfl (by decide +kernel) uniq_gs
    (fun s => stepOutputs cxL.proj s = .obj [] (some .any)) stG_outputs
  exact steps_outputs_any_below_silent cxL noNum [] jEx exPre _ (stepCx_after ..) keyRun "gs" "result" _ av_steps_run hex hall rfl

/-- the bundled `actions/cache@v4`: `steps.cache.outputs.cache-hit` is fine, `steps.cache.outputs.hit` is reported (in a
`run:` after the steps `exPre`) -/
example : (check (envOf (stepCx cxL noNum [] jEx exPre) keyRun)
      (.objDeref (.objDeref (.objDeref (.var "steps") "cache") "outputs") "cache-hit")).errs = [] ∧
    AL.C05.undefinedProp "hit" (check (envOf (stepCx cxL noNum [] jEx exPre) keyRun)
      (.objDeref (.objDeref (.objDeref (.var "steps") "cache") "outputs") "hit")) := by
  obtain ⟨hex, hall⟩ := exPre_id "cache" stC (str "cache") (by simp [exPre]) rfl (by decide +kernel) uniq_cache
    (fun s => stepOutputs cxL.proj s = .obj [("cache-hit", .string)] none) stC_outputs
  have h := fun name => steps_outputs_strict_iff cxL noNum [] jEx exPre _ (stepCx_after ..) keyRun "cache" name _ av_steps_run hex hall
  refine ⟨Decidable.byContradiction fun hne => ?_, (h "hit").2.2 (by decide)⟩
  exact absurd ((h "cache-hit").1.1 hne) (by decide)

/-- the same in the job's `outputs:` for the unknown action (all steps of the job are in scope there) -/
example (name : String) : (check (envOf (jobCxPost cxL noNum [] jEx) keyOut)
      (.objDeref (.objDeref (.objDeref (.var "steps") "u") "outputs") name)).errs = [] := by
  have huniq : ∀ s ∈ jEx.steps.getD [], ∀ id, s.id = some id → cxL.lower id.value = "u" → s = stU := by
    intro s hs id hid hx
    rcases List.mem_append.1 (show s ∈ exPre ++ [stLast] from hs) with h | h
    · exact uniq_u s h id hid hx
    · rw [List.mem_singleton.1 h] at hid; cases hid
  exact (steps_outputs_silent cxL noNum [] jEx _ _ (jobCxPost_after ..) keyOut "u" name av_steps_out
    ⟨stU, by simp [jEx, exPre], str "U", rfl, by decide +kernel⟩
    (fun s hs id hid hx => by rw [huniq s hs id hid hx]; exact stU_unknown)).1

/-! ## 2. `needs.<job>.outputs` of a job that calls a reusable workflow -/

/-- **`needs.<i>.outputs`** for a directly needed existing job `j`: never reported; its type is the declared outputs of `j`,
or — when `j` calls a reusable workflow — what the project knows of the callee's interface, else `{string => string}` -/
theorem needs_outputs_ty (cx0 : Cx) (isNum : IsNumber) (jobs : List (String × Job)) (n : Job) (cx : Cx)
    (hcx : InJob cx0 isNum jobs n cx) (key i : String) (j : Job)
    (ha : (AL.Visit.availability key).1.contains (cx0.lower "needs") = true)
    (hin : i ∈ (n.needs.getD []).map (fun id => cx0.lower id.value)) (hself : i ≠ cx0.lower n.id.value)
    (hj : lookupJob i jobs = some j) :
    (check (envOf cx key) (.objDeref (.objDeref (.var "needs") i) "outputs")).errs = [] ∧
    (check (envOf cx key) (.objDeref (.objDeref (.var "needs") i) "outputs")).ty =
      (if j.workflowCall.isNone then declaredOutputsTy j
       else (Ty.lookup i (cx0.proj.jobView n.id.value).outs).getD (.obj [] (some .string))) := by
  obtain ⟨ps, e, h⟩ := needs_exact (cx0.proj.jobView n.id.value).outs cx0.lower jobs n
  have hl : Ty.lookup "needs" (envOf cx key).vars = some (.obj ps none) := by
    rw [envOf_vars, (scope_st _ _ _ _ _).1, hcx.needs, e]; rfl
  have hi : Ty.lookup i ps = some (needEntry (cx0.proj.jobView n.id.value).outs i j) := by
    rw [h i]; simp only [hin, hself, ne_eq, not_false_eq_true, and_self, if_true, hj, Option.map_some]
  exact check_ctx_j_outputs (envOf cx key) "needs" i ps _ none none _ hl (hcx.avail key _ ha) hi (by simp [Ty.lookup, mapOfString])

/-- **a needed job that calls a reusable workflow whose interface is NOT known** (not local, no project, unreadable file):
`needs.<job>.outputs.<anything>` is never reported; it is a string -/
theorem needs_outputs_unknown_silent (cx0 : Cx) (isNum : IsNumber) (jobs : List (String × Job)) (n : Job) (cx : Cx)
    (hcx : InJob cx0 isNum jobs n cx) (key i name : String) (j : Job)
    (ha : (AL.Visit.availability key).1.contains (cx0.lower "needs") = true)
    (hin : i ∈ (n.needs.getD []).map (fun id => cx0.lower id.value)) (hself : i ≠ cx0.lower n.id.value)
    (hj : lookupJob i jobs = some j) (hcall : j.workflowCall.isSome = true)
    (hunk : Ty.lookup i (cx0.proj.jobView n.id.value).outs = none) :
    (check (envOf cx key) (.objDeref (.objDeref (.objDeref (.var "needs") i) "outputs") name)).errs = [] ∧
    (check (envOf cx key) (.objDeref (.objDeref (.objDeref (.var "needs") i) "outputs") name)).ty = .string := by
  obtain ⟨e, ty⟩ := needs_outputs_ty cx0 isNum jobs n cx hcx key i j ha hin hself hj
  rw [Option.isNone_eq_false_iff.2 hcall, hunk] at ty
  have := check_prop_of_open (envOf cx key) _ name [] .string rfl e (by simpa using ty)
  simpa [Ty.lookup] using this

/-- … so, like the outputs of an unknown action, one level deeper is reported (the type is known: string) -/
theorem needs_outputs_unknown_deeper_reported (cx0 : Cx) (isNum : IsNumber) (jobs : List (String × Job)) (n : Job) (cx : Cx)
    (hcx : InJob cx0 isNum jobs n cx) (key i name y : String) (j : Job)
    (ha : (AL.Visit.availability key).1.contains (cx0.lower "needs") = true)
    (hin : i ∈ (n.needs.getD []).map (fun id => cx0.lower id.value)) (hself : i ≠ cx0.lower n.id.value)
    (hj : lookupJob i jobs = some j) (hcall : j.workflowCall.isSome = true)
    (hunk : Ty.lookup i (cx0.proj.jobView n.id.value).outs = none) :
    (check (envOf cx key) (.objDeref (.objDeref (.objDeref (.objDeref (.var "needs") i) "outputs") name) y)).errs =
      [err "deref-not-object" [y, "string"]] := by
  obtain ⟨e, ty⟩ := needs_outputs_unknown_silent cx0 isNum jobs n cx hcx key i name j ha hin hself hj hcall hunk
  obtain ⟨_, e'⟩ := check_prop_of (envOf cx key) _ y _ rfl ty e
  rw [e']
  simp [objDerefTy, tyStr]

/-- **… whose interface IS known** (the project's view has the callee's outputs as a strict object — `callee_outputs_exact`):
`needs.<job>.outputs.<name>` is reported iff `<name>` is not an output the callee declares -/
theorem needs_outputs_known_iff (cx0 : Cx) (isNum : IsNumber) (jobs : List (String × Job)) (n : Job) (cx : Cx)
    (hcx : InJob cx0 isNum jobs n cx) (key i name : String) (j : Job) (os : List (String × Ty))
    (ha : (AL.Visit.availability key).1.contains (cx0.lower "needs") = true)
    (hin : i ∈ (n.needs.getD []).map (fun id => cx0.lower id.value)) (hself : i ≠ cx0.lower n.id.value)
    (hj : lookupJob i jobs = some j) (hcall : j.workflowCall.isSome = true)
    (hknown : Ty.lookup i (cx0.proj.jobView n.id.value).outs = some (.obj os none)) :
    ((check (envOf cx key) (.objDeref (.objDeref (.objDeref (.var "needs") i) "outputs") name)).errs ≠ [] ↔
      Ty.lookup name os = none) ∧
    (AL.C05.undefinedProp name (check (envOf cx key) (.objDeref (.objDeref (.objDeref (.var "needs") i) "outputs") name)) ↔
      Ty.lookup name os = none) := by
  obtain ⟨e, ty⟩ := needs_outputs_ty cx0 isNum jobs n cx hcx key i j ha hin hself hj
  rw [Option.isNone_eq_false_iff.2 hcall, hknown] at ty
  exact check_prop_of_strict (envOf cx key) _ name os rfl e (by simpa using ty)

/-- what the project puts into `outs` for a callee it could read (`getWorkflowCallOutputsType`, AL.ProjCall.outsFound): a
STRICT object with exactly the outputs the callee's `workflow_call` declares, all strings -/
theorem callee_outputs_exact (m : AL.CallMeta.Meta) :
    ∃ os, AL.ProjCall.outputsTy m = .obj os none ∧
      ∀ name, Ty.lookup name os = if name ∈ m.outputs.map (·.1) then some .string else none := by
  refine ⟨_, rfl, fun name => ?_⟩
  have := lookup_foldKeys (fun o : String × String => o.1) name m.outputs []
  simpa [Ty.lookup] using this

/-- a needed job WITH steps, for contrast: reported iff not a declared output of that job (AL.C05S.needs_outputs_exact) -/
theorem needs_outputs_declared_iff (cx0 : Cx) (isNum : IsNumber) (jobs : List (String × Job)) (n : Job) (cx : Cx)
    (hcx : InJob cx0 isNum jobs n cx) (key i name : String) (j : Job)
    (ha : (AL.Visit.availability key).1.contains (cx0.lower "needs") = true)
    (hin : i ∈ (n.needs.getD []).map (fun id => cx0.lower id.value)) (hself : i ≠ cx0.lower n.id.value)
    (hj : lookupJob i jobs = some j) (hcall : j.workflowCall = none) :
    (check (envOf cx key) (.objDeref (.objDeref (.objDeref (.var "needs") i) "outputs") name)).errs ≠ [] ↔
      name ∉ (j.outputs.getD []).map (·.1) := by
  obtain ⟨e, ty⟩ := needs_outputs_ty cx0 isNum jobs n cx hcx key i j ha hin hself hj
  obtain ⟨os, eo, ho⟩ := declaredOutputs_exact j
  rw [hcall, eo] at ty
  rw [(check_prop_of_strict (envOf cx key) _ name os rfl e (by simpa using ty)).1, ho name]
  by_cases h : name ∈ (j.outputs.getD []).map (·.1) <;> simp [h]

/-! ## 3. `matrix` given by an expression -/

/-- `matrix` as the checker sees it anywhere inside a job that has a matrix -/
theorem matrix_var (cx0 : Cx) (isNum : IsNumber) (jobs : List (String × Job)) (n : Job) (cx : Cx)
    (hcx : InJob cx0 isNum jobs n cx) (m : Matrix) (hm : matrixOf n = some m) (key : String) :
    Ty.lookup "matrix" (envOf cx key).vars = some (checkMatrix (jobCx1 cx0 jobs n) isNum m).1 := by
  rw [envOf_vars, (scope_st _ _ _ _ _).2.2, hcx.matrix, jobCx_eq, hm]
  rfl

theorem matrix_avail (cx0 : Cx) (isNum : IsNumber) (jobs : List (String × Job)) (n : Job) (cx : Cx)
    (hcx : InJob cx0 isNum jobs n cx) (key : String)
    (ha : (AL.Visit.availability key).1.contains (cx0.lower "matrix") = true) :
    (envOf cx key).availCtx.contains ((envOf cx key).lower "matrix") = true :=
  hcx.avail key "matrix" ha

/-- **an OPEN matrix object: no `matrix.<name>` is reported**, anywhere in the job (its own strings, its steps, its outputs) -/
theorem matrix_open_silent (cx0 : Cx) (isNum : IsNumber) (jobs : List (String × Job)) (n : Job) (cx : Cx)
    (hcx : InJob cx0 isNum jobs n cx) (m : Matrix) (hm : matrixOf n = some m) (ps : List (String × Ty)) (mt : Ty)
    (hopen : (checkMatrix (jobCx1 cx0 jobs n) isNum m).1 = .obj ps (some mt)) (key name : String)
    (ha : (AL.Visit.availability key).1.contains (cx0.lower "matrix") = true) :
    (check (envOf cx key) (.objDeref (.var "matrix") name)).errs = [] ∧
    (check (envOf cx key) (.objDeref (.var "matrix") name)).ty = (Ty.lookup name ps).getD mt := by
  have hl := matrix_var cx0 isNum jobs n cx hcx m hm key
  rw [hopen] at hl
  obtain ⟨t, e⟩ := check_ctx_prop (envOf cx key) "matrix" name _ hl (matrix_avail cx0 isNum jobs n cx hcx key ha)
  rw [t, e]
  cases h : Ty.lookup name ps <;> simp [objDerefTy, h]

/-- **the EMPTY open matrix object: nothing below `matrix` is reported** (`matrix.a.b`, `matrix['k'].x`, `matrix.*.y` …) -/
theorem matrix_unknown_below_silent (cx0 : Cx) (isNum : IsNumber) (jobs : List (String × Job)) (n : Job) (cx : Cx)
    (hcx : InJob cx0 isNum jobs n cx) (m : Matrix) (hm : matrixOf n = some m)
    (hopen : (checkMatrix (jobCx1 cx0 jobs n) isNum m).1 = .obj [] (some .any)) (key : String) (p : List Acc)
    (ha : (AL.Visit.availability key).1.contains (cx0.lower "matrix") = true) (hp : okPathObj p = true) :
    (check (envOf cx key) (below (.var "matrix") p)).errs = [] := by
  have hl := matrix_var cx0 isNum jobs n cx hcx m hm key
  rw [hopen] at hl
  exact loose_below_silent (envOf cx key) "matrix" p hl (matrix_avail cx0 isNum jobs n cx hcx key ha) (by decide) hp

/-- `matrix: ${{ … }}` whose type is NOT statically an object (unknown, or the expression has a diagnostic of its own, or
it is no object at all — then "must-be-object" is reported at the matrix): the EMPTY open object -/
theorem matrix_expr_unknown (cx : Cx) (isNum : IsNumber) (m : Matrix) (e : Str) (he : m.expr = some e)
    (hun : ∀ ps mm, (checkObjectExpression cx (some e) "matrix" "jobs.<job_id>.strategy").1 ≠ some (.obj ps mm)) :
    (checkMatrix cx isNum m).1 = .obj [] (some .any) := by
  simp only [checkMatrix, he, matrixExprTy]
  generalize (checkObjectExpression cx (some e) "matrix" "jobs.<job_id>.strategy").1 = o at hun
  cases o with
  | none => rfl
  | some t =>
    cases t with
    | obj ps mm => exact absurd rfl (hun ps mm)
    | _ => rfl

/-- **3a. `matrix: ${{ <unknown> }}`: nothing below `matrix` is reported in the job** -/
theorem matrix_expr_silent (cx0 : Cx) (isNum : IsNumber) (jobs : List (String × Job)) (n : Job) (cx : Cx)
    (hcx : InJob cx0 isNum jobs n cx) (m : Matrix) (hm : matrixOf n = some m) (e : Str) (he : m.expr = some e)
    (hun : ∀ ps mm, (checkObjectExpression (jobCx1 cx0 jobs n) (some e) "matrix" "jobs.<job_id>.strategy").1 ≠ some (.obj ps mm))
    (key : String) (p : List Acc)
    (ha : (AL.Visit.availability key).1.contains (cx0.lower "matrix") = true) (hp : okPathObj p = true) :
    (check (envOf cx key) (below (.var "matrix") p)).errs = [] :=
  matrix_unknown_below_silent cx0 isNum jobs n cx hcx m hm (matrix_expr_unknown _ isNum m e he hun) key p ha hp

/-- … and when the expression's type is an OPEN object (`${{ secrets }}`, `${{ github.event }}` …): no `matrix.<name>` is
reported (AL.C05S.matrix_expr_open) -/
theorem matrix_expr_open_silent (cx0 : Cx) (isNum : IsNumber) (jobs : List (String × Job)) (n : Job) (cx : Cx)
    (hcx : InJob cx0 isNum jobs n cx) (m : Matrix) (hm : matrixOf n = some m) (e : Str) (he : m.expr = some e)
    (hns : ∀ ps, (checkObjectExpression (jobCx1 cx0 jobs n) (some e) "matrix" "jobs.<job_id>.strategy").1 ≠ some (.obj ps none))
    (key name : String) (ha : (AL.Visit.availability key).1.contains (cx0.lower "matrix") = true) :
    (check (envOf cx key) (.objDeref (.var "matrix") name)).errs = [] := by
  obtain ⟨ps, mt, h⟩ := matrix_expr_open (jobCx1 cx0 jobs n) isNum m e he hns
  exact (matrix_open_silent cx0 isNum jobs n cx hcx m hm ps mt h key name ha).1

/-- `include: ${{ … }}` whose type is not statically an array of objects: the EMPTY open object (the row keys are dropped) -/
theorem matrix_include_expr_unknown (cx : Cx) (isNum : IsNumber) (m : Matrix) (inc : MatrixCombinations) (e : Str)
    (he : m.expr = none) (hi : m.incl = some inc) (hie : inc.expr = some e)
    (hun : ∀ qs m' d, (checkOneExpression cx (some e) "include" "jobs.<job_id>.strategy").1 ≠ some (.arr (.obj qs m') d)) :
    (checkMatrix cx isNum m).1 = .obj [] (some .any) := by
  rcases matrix_include_expr cx isNum m inc e he hi hie with h | ⟨qs, m', d, _, _, h, _⟩
  · exact h
  · exact absurd h (hun qs m' d)

/-- **3b. `include: ${{ <unknown> }}`: nothing below `matrix` is reported in the job** (not even for names that are no row) -/
theorem matrix_include_expr_silent (cx0 : Cx) (isNum : IsNumber) (jobs : List (String × Job)) (n : Job) (cx : Cx)
    (hcx : InJob cx0 isNum jobs n cx) (m : Matrix) (hm : matrixOf n = some m) (inc : MatrixCombinations) (e : Str)
    (he : m.expr = none) (hi : m.incl = some inc) (hie : inc.expr = some e)
    (hun : ∀ qs m' d, (checkOneExpression (jobCx1 cx0 jobs n) (some e) "include" "jobs.<job_id>.strategy").1 ≠
      some (.arr (.obj qs m') d))
    (key : String) (p : List Acc)
    (ha : (AL.Visit.availability key).1.contains (cx0.lower "matrix") = true) (hp : okPathObj p = true) :
    (check (envOf cx key) (below (.var "matrix") p)).errs = [] :=
  matrix_unknown_below_silent cx0 isNum jobs n cx hcx m hm
    (matrix_include_expr_unknown _ isNum m inc e he hi hie hun) key p ha hp

/-- **3c. an `include` entry `- ${{ <unknown> }}`** (its type is not statically a strict object, and it has no diagnostic of
its own): **no `matrix.<name>` is reported in the job** -/
theorem matrix_include_entry_silent (cx0 : Cx) (isNum : IsNumber) (jobs : List (String × Job)) (n : Job) (cx : Cx)
    (hcx : InJob cx0 isNum jobs n cx) (m : Matrix) (hm : matrixOf n = some m) (inc : MatrixCombinations)
    (he : m.expr = none) (hi : m.incl = some inc) (hie : inc.expr = none)
    (pre post : List MatrixCombination) (c : MatrixCombination) (e : Str) (ty : Ty)
    (hcs : inc.combinations.getD [] = pre ++ c :: post) (hc : c.expr = some e)
    (hty : comboExprTy (jobCx1 cx0 jobs n) e = some ty) (hns : ∀ qs, ty ≠ .obj qs none)
    (key name : String) (ha : (AL.Visit.availability key).1.contains (cx0.lower "matrix") = true) :
    (check (envOf cx key) (.objDeref (.var "matrix") name)).errs = [] := by
  obtain ⟨ps, mt, h⟩ := matrix_include_entry_expr_opens (jobCx1 cx0 jobs n) isNum m inc he hi hie pre post c e ty hcs hc hty hns
  exact (matrix_open_silent cx0 isNum jobs n cx hcx m hm ps mt h key name ha).1

/-! ### 3d. a row given by an expression: `matrix.<row>` is `any` -/

/-- a row `k: ${{ … }}` whose type is not statically an array with a known element type: the row's type is `any` -/
theorem rowTy_expr_any (cx : Cx) (isNum : IsNumber) (r : MatrixRow) (e : Str) (he : r.expr = some e)
    (hun : ∀ el d, (checkArrayExpression cx (some e) "matrix row" "jobs.<job_id>.strategy").1 = some (.arr el d) → el = .any) :
    (rowTy cx isNum r).1 = .any := by
  rw [rowTy_expr cx isNum r e he]
  generalize (checkArrayExpression cx (some e) "matrix row" "jobs.<job_id>.strategy").1 = o at hun
  cases o with
  | none => rfl
  | some t =>
    cases t with
    | arr el d => exact hun el d rfl
    | _ => rfl

theorem mergeProps_keeps_any (k : String) : ∀ (qs props : List (String × Ty)) (mapped : Option Ty),
    Ty.lookup k props = some .any →
    ∃ ps' m', Ty.mergeProps props mapped qs = .obj ps' m' ∧ Ty.lookup k ps' = some .any := by
  intro qs
  induction qs with
  | nil => intro props mapped h; exact ⟨props, mapped, rfl, h⟩
  | cons q rest ih =>
    intro props mapped h
    obtain ⟨nm, r⟩ := q
    rw [Ty.mergeProps_cons]
    cases hl : Ty.lookup nm props with
    | some l =>
      simp only
      apply ih
      rw [lookup_setProp]
      by_cases hk : k = nm
      · subst hk
        rw [h] at hl
        cases hl
        simp [Ty.merge_any_left]
      · simp [hk, h]
    | none =>
      simp only
      apply ih
      rw [lookup_setProp]
      have hk : ¬ k = nm := by
        intro e; subst e; rw [h] at hl; cases hl
      simp [hk, h]

theorem merge_obj_keeps_any (k : String) (ps qs : List (String × Ty)) (m m' : Option Ty) (h : Ty.lookup k ps = some .any) :
    ∃ ps' mm, Ty.merge (.obj ps m) (.obj qs m') = .obj ps' mm ∧ Ty.lookup k ps' = some .any := by
  rw [Ty.merge_obj_obj]
  by_cases h1 : (ps.isEmpty && Ty.isSomeAny m') = true
  · simp only [Bool.and_eq_true, List.isEmpty_iff] at h1
    rw [h1.1] at h
    simp [Ty.lookup] at h
  · simp only [h1, Bool.false_eq_true, if_false]
    by_cases h2 : (qs.isEmpty && Ty.isSomeAny m) = true
    · simp only [h2, if_true]
      exact ⟨ps, m, rfl, h⟩
    · simp only [h2, Bool.false_eq_true, if_false]
      exact mergeProps_keeps_any k qs ps _ h

theorem assignsFold_keeps_any (cx : Cx) (isNum : IsNumber) (k : String) :
    ∀ (as : List (String × MatrixAssign)) (ps : List (String × Ty)) (m : Option Ty) (ds : List Diag),
      Ty.lookup k ps = some .any →
      ∃ ps' ds', as.foldl (fun (a : Ty × List Diag) kv =>
          let t := rawTy cx isNum kv.2.value
          match a.1 with
          | .obj ps m =>
            let ty' := match Ty.lookup kv.1 ps with
              | some old => Ty.merge old t.1
              | none => t.1
            (.obj (Ty.setProp kv.1 ty' ps) m, a.2 ++ t.2)
          | o => (o, a.2 ++ t.2)) (.obj ps m, ds) = (.obj ps' m, ds') ∧ Ty.lookup k ps' = some .any := by
  intro as
  induction as with
  | nil => intro ps m ds h; exact ⟨ps, ds, rfl, h⟩
  | cons kv rest ih =>
    intro ps m ds h
    simp only [List.foldl_cons]
    apply ih
    rw [lookup_setProp]
    by_cases hk : k = kv.1
    · rw [← hk, h]
      simp [hk, Ty.merge_any_left]
    · simp [hk, h]

/-- an `include` entry of any kind keeps `matrix.<k> : any` -/
theorem includeCombo_keeps_any (cx : Cx) (isNum : IsNumber) (k : String) (c : MatrixCombination)
    (ps : List (String × Ty)) (m : Option Ty) (ds : List Diag) (h : Ty.lookup k ps = some .any) :
    ∃ ps' m', (includeCombo cx isNum (.obj ps m, ds) c).1 = .obj ps' m' ∧ Ty.lookup k ps' = some .any := by
  cases hc : c.expr with
  | none =>
    simp only [includeCombo, hc]
    obtain ⟨ps', ds', e, hk⟩ := assignsFold_keeps_any cx isNum k (c.assigns.getD []) ps m ds h
    exact ⟨ps', m, congrArg Prod.fst e, hk⟩
  | some e =>
    rw [includeCombo_expr cx isNum c e hc]
    cases comboExprTy cx e with
    | none => exact ⟨ps, m, rfl, h⟩
    | some ty =>
      cases ty with
      | obj qs m' => exact merge_obj_keeps_any k ps qs m m' h
      | _ => exact ⟨ps, some .any, rfl, h⟩

theorem includeFold_keeps_any (cx : Cx) (isNum : IsNumber) (k : String) : ∀ (cs : List MatrixCombination)
    (ps : List (String × Ty)) (m : Option Ty) (ds : List Diag), Ty.lookup k ps = some .any →
    ∃ ps' m', (cs.foldl (includeCombo cx isNum) (.obj ps m, ds)).1 = .obj ps' m' ∧ Ty.lookup k ps' = some .any := by
  intro cs
  induction cs with
  | nil => intro ps m ds h; exact ⟨ps, m, rfl, h⟩
  | cons c rest ih =>
    intro ps m ds h
    simp only [List.foldl_cons]
    obtain ⟨ps1, m1, e1, h1⟩ := includeCombo_keeps_any cx isNum k c ps m ds h
    have hpair : includeCombo cx isNum (.obj ps m, ds) c = (.obj ps1 m1, (includeCombo cx isNum (.obj ps m, ds) c).2) := by
      rw [← e1]
    rw [hpair]
    exact ih ps1 m1 _ h1

/-- **a row given by an expression of unknown type: `matrix` is an object in which that key has type `any`** — with or
without `include:` entries (of any kind; `include: ${{ … }}` as a whole is 3b) -/
theorem matrix_row_any (cx : Cx) (isNum : IsNumber) (m : Matrix) (he : m.expr = none)
    (hinc : ∀ inc, m.incl = some inc → inc.expr = none) (k : String)
    (hex : ∃ kv ∈ m.rows.getD [], kv.1 = k)
    (hall : ∀ kv ∈ m.rows.getD [], kv.1 = k → (rowTy cx isNum kv.2).1 = .any) :
    ∃ ps mm, (checkMatrix cx isNum m).1 = .obj ps mm ∧ Ty.lookup k ps = some .any := by
  have hrow : Ty.lookup k (rowsProps cx isNum (m.rows.getD [])) = some .any := by
    obtain ⟨kv, hkv, hk⟩ := hex
    have hs := (rowsProps_keys cx isNum (m.rows.getD []) k).2 (List.mem_map.2 ⟨kv, hkv, hk⟩)
    obtain ⟨t, ht⟩ := Option.isSome_iff_exists.1 hs
    obtain ⟨kv', hkv', hk', htt⟩ := rowsProps_entry cx isNum _ k t ht
    rw [ht, htt, hall kv' hkv' hk']
  rw [checkMatrix_lit cx isNum m he]
  cases hi : m.incl with
  | none => exact ⟨_, none, rfl, hrow⟩
  | some inc =>
    simp only [hinc inc hi]
    exact includeFold_keeps_any cx isNum k _ _ none [] hrow

/-- **3d. below `matrix.<row>` nothing is reported in the job when the row is an expression of unknown type** -/
theorem matrix_row_below_silent (cx0 : Cx) (isNum : IsNumber) (jobs : List (String × Job)) (n : Job) (cx : Cx)
    (hcx : InJob cx0 isNum jobs n cx) (m : Matrix) (hm : matrixOf n = some m) (he : m.expr = none)
    (hinc : ∀ inc, m.incl = some inc → inc.expr = none) (k : String)
    (hex : ∃ kv ∈ m.rows.getD [], kv.1 = k)
    (hall : ∀ kv ∈ m.rows.getD [], kv.1 = k → (rowTy (jobCx1 cx0 jobs n) isNum kv.2).1 = .any)
    (key : String) (p : List Acc)
    (ha : (AL.Visit.availability key).1.contains (cx0.lower "matrix") = true) (hp : okPath false p = true) :
    (check (envOf cx key) (below (.objDeref (.var "matrix") k) p)).errs = [] := by
  obtain ⟨ps, mm, hmx, hk⟩ := matrix_row_any (jobCx1 cx0 jobs n) isNum m he hinc k hex hall
  have hl := matrix_var cx0 isNum jobs n cx hcx m hm key
  rw [hmx] at hl
  obtain ⟨t, e⟩ := check_ctx_prop (envOf cx key) "matrix" k _ hl (matrix_avail cx0 isNum jobs n cx hcx key ha)
  rw [objDerefTy_found _ _ k ps mm _ hk] at t e
  exact any_below_silent _ _ p e t hp

/-! ### §2 on concrete data: `dep` needs `call` (a reusable workflow of another repository) and `build` (a job with steps) -/

def jCallX : Job := { id := str "call", workflowCall := some { uses := some (str "owner/repo/.github/workflows/w.yml@v1") }, pos := p0 }
def jBuildX : Job := { id := str "build", outputs := some [("art", ⟨str "art", str "x"⟩)], pos := p0 }
def jDepX : Job := { id := str "dep", needs := some [str "Call", str "build"], pos := p0 }
def exJobsX : List (String × Job) := [("call", jCallX), ("build", jBuildX), ("dep", jDepX)]
/-- the same file inside a project that could read the callee: it declares the output `url` -/
def cxProj : Cx :=
  { lower := AL.PW.asciiLower,
    proj := { jobs := [("dep", { outs := [("call", AL.ProjCall.outputsTy { outputs := [("url", "URL")] })] })] } }

theorem av_needs_run : (AL.Visit.availability keyRun).1.contains (cxL.lower "needs") = true := available_run "needs" (by simp)

theorem needs_call : "call" ∈ (jDepX.needs.getD []).map (fun id => AL.PW.asciiLower id.value) ∧
    "call" ≠ AL.PW.asciiLower jDepX.id.value := by decide +kernel

/-- without a project the callee's interface is unknown: **`needs.call.outputs.<anything>` is not reported** (a string: one
level deeper is); `needs.build.outputs.nope` IS reported, `needs.build.outputs.art` is not -/
example (name : String) :
    (check (envOf (jobCx cxL noNum exJobsX jDepX) keyRun)
      (.objDeref (.objDeref (.objDeref (.var "needs") "call") "outputs") name)).errs = [] ∧
    (check (envOf (jobCx cxL noNum exJobsX jDepX) keyRun)
      (.objDeref (.objDeref (.objDeref (.objDeref (.var "needs") "call") "outputs") name) "y")).errs =
        [err "deref-not-object" ["y", "string"]] ∧
    (check (envOf (jobCx cxL noNum exJobsX jDepX) keyRun)
      (.objDeref (.objDeref (.objDeref (.var "needs") "build") "outputs") "nope")).errs ≠ [] ∧
    ¬ (check (envOf (jobCx cxL noNum exJobsX jDepX) keyRun)
      (.objDeref (.objDeref (.objDeref (.var "needs") "build") "outputs") "art")).errs ≠ [] := by
  have hb := fun name => needs_outputs_declared_iff cxL noNum exJobsX jDepX _ (jobCx_inJob ..) keyRun "build" name jBuildX
    av_needs_run (by decide +kernel) (by decide +kernel) rfl rfl
  exact ⟨(needs_outputs_unknown_silent cxL noNum exJobsX jDepX _ (jobCx_inJob ..) keyRun "call" name jCallX av_needs_run
      needs_call.1 needs_call.2 rfl rfl rfl).1,
    needs_outputs_unknown_deeper_reported cxL noNum exJobsX jDepX _ (jobCx_inJob ..) keyRun "call" name "y" jCallX av_needs_run
      needs_call.1 needs_call.2 rfl rfl rfl,
    (hb "nope").2 (by decide), fun h => (hb "art").1 h (by decide)⟩

/-- inside the project: exactly the callee's declared outputs — `needs.call.outputs.url` is fine, `.other` is reported; in a
step of the job as well (`stepCx`) -/
example : ¬ AL.C05.undefinedProp "url" (check (envOf (jobCx cxProj noNum exJobsX jDepX) keyRun)
      (.objDeref (.objDeref (.objDeref (.var "needs") "call") "outputs") "url")) ∧
    AL.C05.undefinedProp "other" (check (envOf (stepCx cxProj noNum exJobsX jDepX []) keyRun)
      (.objDeref (.objDeref (.objDeref (.var "needs") "call") "outputs") "other")) := by
  have hk : Ty.lookup "call" (cxProj.proj.jobView jDepX.id.value).outs = some (.obj [("url", .string)] none) :=
    opt_tyEq (by decide +kernel)
  exact ⟨fun h => absurd ((needs_outputs_known_iff cxProj noNum exJobsX jDepX _ (jobCx_inJob ..) keyRun "call" "url" jCallX _
      av_needs_run needs_call.1 needs_call.2 rfl rfl hk).2.1 h) (by decide),
    (needs_outputs_known_iff cxProj noNum exJobsX jDepX _ (stepCx_after ..).toInJob keyRun "call" "other" jCallX _
      av_needs_run needs_call.1 needs_call.2 rfl rfl hk).2.2 (by decide)⟩

example : ∃ os, AL.ProjCall.outputsTy { outputs := [("url", "URL")] } = .obj os none ∧ Ty.lookup "url" os = some .string ∧
    Ty.lookup "other" os = none := by
  obtain ⟨os, e, h⟩ := callee_outputs_exact { outputs := [("url", "URL")] }
  exact ⟨os, e, by rw [h]; simp, by rw [h]; simp⟩

/-! ### §3 on concrete data: `${{ fromJSON(vars.X) }}` has type `any` in every job of a workflow without header -/

theorem checkConfigVar_congr (Γ Γ' : AL.Sema.Env) (x : String) (h1 : Γ.configVars = Γ'.configVars) (h2 : Γ.lower = Γ'.lower) :
    checkConfigVar Γ x = checkConfigVar Γ' x := by
  unfold checkConfigVar
  rw [h1, h2]

theorem specialFuncErrs_congr (Γ Γ' : AL.Sema.Env) (c : String) (h1 : Γ.lower = Γ'.lower)
    (h2 : Γ.specialFuncs = Γ'.specialFuncs) (h3 : Γ.availSpecial = Γ'.availSpecial) :
    specialFuncErrs Γ c = specialFuncErrs Γ' c := by
  unfold specialFuncErrs
  rw [h1, h2, h3]

/-- `fromJSON(vars.<x>)` — `fromJSON` of a NON-literal — is `any`, silently, in every environment that has the built-in
functions and the built-in `vars` -/
theorem check_fromJSON_vars_env (Γ : AL.Sema.Env) (x : String)
    (hl : Γ.lower "fromJSON" = "fromjson") (hf : lookupFuncs "fromjson" Γ.funcs = some [fromJSONSig])
    (hsp : specialFuncErrs Γ "fromJSON" = [])
    (hv : Ty.lookup "vars" Γ.vars = some (.obj [] (some .string))) (hav : Γ.availCtx.contains (Γ.lower "vars") = true)
    (hx : checkConfigVar Γ x = []) :
    (check Γ (.call "fromJSON" [.objDeref (.var "vars") x])).errs = [] ∧
    (check Γ (.call "fromJSON" [.objDeref (.var "vars") x])).ty = .any := by
  -- `vars.<x>` is a string, with the diagnostics of `checkConfigVar` alone (both by computation of `objDerefTy`)
  obtain ⟨h1, h2⟩ := check_ctx_prop Γ "vars" x _ hv hav
  have b : (check Γ (.objDeref (.var "vars") x)).ty = .string := h1
  exact check_fromJSON Γ (.objDeref (.var "vars") x) hl hf hsp (h2.trans hx) (by rw [b]; simp [Ty.assignable])

/-- one placeholder `${{ fromJSON(vars.<x>) }}` in the `strategy` of ANY job (`jobCx1`: the state the matrix is checked
under) of a workflow without header, linted without project: type `any`, no diagnostic -/
theorem job_strategy_any (jobs : List (String × Job)) (n : Job) (what : String) (s : Str) (idx off : Nat) (x : String)
    (h1 : AL.Proc.indexOf AL.Proc.open3 (bytesOf s.value) 0 = some idx)
    (h2 : parsedIs AL.PW.asciiLower ((bytesOf s.value).drop (idx + 3)) (.call "fromJSON" [.objDeref (.var "vars") x]) off = true)
    (h3 : off ≠ 0) (h4 : AL.Proc.indexOf AL.Proc.open3 (((bytesOf s.value).drop (idx + 3)).drop off) 0 = none)
    (hx : checkConfigVar Γs x = []) :
    checkOneExpression (jobCx1 cxL jobs n) (some s) what "jobs.<job_id>.strategy" = (some .any, []) := by
  have hv : Ty.lookup "vars" (envOf (jobCx1 cxL jobs n) "jobs.<job_id>.strategy").vars = some (.obj [] (some .string)) := by
    rw [envOf_vars, lookup_mkEnv_st "vars" (by decide) (by decide) (by decide) (by decide),
      lookup_stVars_other "vars" (by decide) (by decide) (by decide)]
    rfl
  -- apart from `vars`, the environment is `Γs` whatever the job: the facts about `Γs` serve for every job
  have hc := check_fromJSON_vars_env (envOf (jobCx1 cxL jobs n) "jobs.<job_id>.strategy") x Γs_facts.1 Γs_facts.2.1
    ((specialFuncErrs_congr _ Γs _ rfl rfl rfl).trans Γs_facts.2.2) hv ((envOf_avail ..).trans AL.Visit.available_rows.1.2.2.2.1)
    ((checkConfigVar_congr _ Γs x rfl rfl).trans hx)
  rw [checkOneExpression_one (jobCx1 cxL jobs n) what "jobs.<job_id>.strategy" s idx off _ h1 h2 h3 h4 hc.1]
  exact congrArg (fun t => (some t, ([] : List Diag))) hc.2

/-- the same with the hypotheses about the text in the form in which AL.C05S evaluates them (`vars_texts`) -/
theorem job_strategy_any_of (jobs : List (String × Job)) (n : Job) (what : String) (s : Str) (off : Nat) (x : String)
    (h : VarsText s.value off x) :
    checkOneExpression (jobCx1 cxL jobs n) (some s) what "jobs.<job_id>.strategy" = (some .any, []) := by
  have ht := h.1
  simp only [onePlaceholder, Bool.and_eq_true, beq_iff_eq, bne_iff_ne] at ht
  exact job_strategy_any jobs n what s 0 off x ht.1.1.1 ht.1.1.2 ht.1.2 ht.2 h.2

def rowOs : String × MatrixRow := ("os", ⟨some (str "os"), some [.str "linux" p0, .str "mac" p0], none⟩)
def rowDyn : String × MatrixRow := ("dyn", ⟨some (str "dyn"), none, some (str "${{ fromJSON(vars.LIST) }}")⟩)
def cLit : MatrixCombination := ⟨some [("os", ⟨str "os", .str "win" p0⟩), ("extra", ⟨str "extra", .str "true" p0⟩)], none⟩
def cDyn : MatrixCombination := ⟨none, some (str "${{ fromJSON(vars.ENTRY) }}")⟩
def incDynEntry : MatrixCombinations := ⟨some [cLit, cDyn], none⟩
def incDyn : MatrixCombinations := ⟨none, some (str "${{ fromJSON(vars.INC) }}")⟩
def mExprDyn : Matrix := { rows := none, expr := some (str "${{ fromJSON(vars.M) }}"), pos := p0 }
def mIncDyn : Matrix := { rows := some [rowOs], incl := some incDyn, pos := p0 }
def mDynEntry : Matrix := { rows := some [rowOs], incl := some incDynEntry, pos := p0 }
def mRowDyn : Matrix := { rows := some [rowOs, rowDyn], incl := some ⟨some [cLit], none⟩, pos := p0 }
def jobWith (id : String) (m : Matrix) : Job :=
  { id := str id, strategy := some { matrix := some m, pos := p0 }, steps := some [stR, stLast], pos := p0 }

theorem av_matrix_run : (AL.Visit.availability keyRun).1.contains (cxL.lower "matrix") = true := available_run "matrix" (by simp)
theorem av_matrix_out : (AL.Visit.availability keyOut).1.contains (cxL.lower "matrix") = true := AL.Visit.available_rows.1.2.1 "matrix" (by simp)

/-- the placeholders of the examples in the `strategy` of any job: type `any`, no diagnostic -/
theorem mExprDyn_unknown : ∀ ps mm, (checkObjectExpression (jobCx1 cxL [] (jobWith "me" mExprDyn)) (some (str "${{ fromJSON(vars.M) }}"))
    "matrix" "jobs.<job_id>.strategy").1 ≠ some (.obj ps mm) := by
  intro ps mm h
  rw [checkObjectExpression_ok _ _ "matrix" _ .any
    (job_strategy_any_of [] _ "matrix" (str "${{ fromJSON(vars.M) }}") 20 "m" vars_texts.1) rfl] at h
  cases h

theorem dynRow_any (jobs : List (String × Job)) (n : Job) (r : MatrixRow)
    (he : r.expr = some (str "${{ fromJSON(vars.LIST) }}")) : (rowTy (jobCx1 cxL jobs n) noNum r).1 = .any := by
  refine rowTy_expr_any _ noNum r _ he (fun el d h => ?_)
  rw [checkArrayExpression_ok _ _ "matrix row" _ .any
    (job_strategy_any_of jobs n "matrix row" (str "${{ fromJSON(vars.LIST) }}") 23 "list" vars_texts.2.1) rfl] at h
  cases h

theorem dynEntry_any (jobs : List (String × Job)) (n : Job) :
    comboExprTy (jobCx1 cxL jobs n) (str "${{ fromJSON(vars.ENTRY) }}") = some .any := by
  rw [comboExprTy, job_strategy_any_of jobs n _ (str "${{ fromJSON(vars.ENTRY) }}") 24 "entry" vars_texts.2.2.1]

/-- **`matrix: ${{ fromJSON(vars.M) }}`: `matrix.os.x.*`, `matrix['k']`, `matrix.*.y` are silent** — in the second step of the
job and in the job's outputs -/
example : (check (envOf (stepCx cxL noNum [] (jobWith "me" mExprDyn) [stR]) keyRun)
      (below (.var "matrix") [.prop "os", .prop "x", .star])).errs = [] ∧
    (check (envOf (jobCxPost cxL noNum [] (jobWith "me" mExprDyn)) keyOut) (below (.var "matrix") [.lit "k"])).errs = [] ∧
    (check (envOf (jobCx cxL noNum [] (jobWith "me" mExprDyn)) keyRun) (below (.var "matrix") [.star, .prop "y"])).errs = [] :=
  ⟨matrix_expr_silent cxL noNum [] _ _ (stepCx_after ..).toInJob mExprDyn rfl _ rfl mExprDyn_unknown keyRun _ av_matrix_run rfl,
    matrix_expr_silent cxL noNum [] _ _ (jobCxPost_after ..).toInJob mExprDyn rfl _ rfl mExprDyn_unknown keyOut _ av_matrix_out rfl,
    matrix_expr_silent cxL noNum [] _ _ (jobCx_inJob ..) mExprDyn rfl _ rfl mExprDyn_unknown keyRun _ av_matrix_run rfl⟩

/-- **`include: ${{ fromJSON(vars.INC) }}`** beside the row `os`: `matrix.anything.deeper` is silent -/
example : (check (envOf (stepCx cxL noNum [] (jobWith "mi" mIncDyn) [stR]) keyRun)
      (below (.var "matrix") [.prop "anything", .prop "deeper"])).errs = [] := by
  have hun : ∀ qs m' d, (checkOneExpression (jobCx1 cxL [] (jobWith "mi" mIncDyn)) (some (str "${{ fromJSON(vars.INC) }}"))
      "include" "jobs.<job_id>.strategy").1 ≠ some (.arr (.obj qs m') d) := by
    intro qs m' d h
    rw [job_strategy_any_of [] _ "include" (str "${{ fromJSON(vars.INC) }}") 22 "inc" vars_texts.2.2.2] at h
    cases h
  exact matrix_include_expr_silent cxL noNum [] _ _ (stepCx_after ..).toInJob mIncDyn rfl incDyn _ rfl rfl rfl hun keyRun _
    av_matrix_run rfl

/-- **an include entry `- ${{ fromJSON(vars.ENTRY) }}`** after a literal one: no `matrix.<name>` is reported -/
example (name : String) : (check (envOf (stepCx cxL noNum [] (jobWith "mn" mDynEntry) [stR]) keyRun)
      (.objDeref (.var "matrix") name)).errs = [] :=
  matrix_include_entry_silent cxL noNum [] _ _ (stepCx_after ..).toInJob mDynEntry rfl incDynEntry rfl rfl rfl
    [cLit] [] cDyn _ .any rfl rfl (dynEntry_any ..) (fun _ h => nomatch h) keyRun name av_matrix_run

/-- **a row `dyn: ${{ fromJSON(vars.LIST) }}`** (beside the row `os` and a literal include entry): `matrix.dyn.a['k'].*.b`
is silent; `matrix` itself stays strict (AL.C05S.rowTy_expr) -/
example : (check (envOf (stepCx cxL noNum [] (jobWith "mr" mRowDyn) [stR]) keyRun)
      (below (.objDeref (.var "matrix") "dyn") [.prop "a", .lit "k", .star, .prop "b"])).errs = [] := by
  refine matrix_row_below_silent cxL noNum [] _ _ (stepCx_after ..).toInJob mRowDyn rfl rfl
    (fun inc hi => by cases hi; rfl) "dyn" ⟨rowDyn, by simp [mRowDyn], rfl⟩ ?_ keyRun _ av_matrix_run rfl
  intro kv hkv hk
  simp only [mRowDyn, Option.getD_some, List.mem_cons, List.not_mem_nil, or_false] at hkv
  rcases hkv with rfl | rfl
  · exact absurd hk (by decide)
  · exact dynRow_any _ _ _ rfl

/-! ## 4. `inputs`

`workflow_dispatch` inputs: `boolean` / `number` / `string` by their type, `choice` and `environment` are STRINGS, an input
without `type:` is `any`. `workflow_call` inputs: `string` / `boolean` / `number`, anything else (no `type:`, an unknown
one — reported elsewhere) is `any`. Below an input of type `any` nothing is reported. -/

theorem dispatchTy_any_iff (t : DispatchInputType) : dispatchTy t = .any ↔ t = .none := by
  cases t <;> simp [dispatchTy]

theorem dispatchTy_choice_environment : dispatchTy .choice = .string ∧ dispatchTy .environment = .string := ⟨rfl, rfl⟩

theorem callTy_any_iff (t : CallInputType) : callTy t = .any ↔ t = .invalid := by
  cases t <;> simp [callTy]

theorem declTy_mem (l : List (String × Ty)) (x : String) (t : Ty) (h : declTy l x = some t) : (x, t) ∈ l := by
  unfold declTy at h
  cases hf : l.reverse.find? (·.1 = x) with
  | none => rw [hf] at h; cases h
  | some e =>
    rw [hf] at h
    simp only [Option.map_some, Option.some.injEq] at h
    have hm := List.mem_of_find?_eq_some hf
    have hp := List.find?_some hf
    simp only [decide_eq_true_eq] at hp
    rw [List.mem_reverse] at hm
    obtain ⟨a, b⟩ := e
    simp only at h hp
    rw [← h, ← hp]
    exact hm

/-- a declaration list in which `x` is declared, and only with type `any` -/
theorem declTy_any (l : List (String × Ty)) (x : String) (hex : x ∈ l.map (·.1)) (hall : ∀ e ∈ l, e.1 = x → e.2 = .any) :
    declTy l x = some .any := by
  obtain ⟨t, ht⟩ := Option.isSome_iff_exists.1 ((declTy_isSome l x).2 hex)
  have := hall _ (declTy_mem l x t ht) rfl
  simp only at this
  rw [ht, this]

/-- **an input declared with an unknown type by either event has type `any`** (declared by both: `Merge` with `any` is
`any`) -/
theorem inputs_any (hdr : Header) (x : String)
    (h : declTy (hdr.callInputs.getD []) x = some .any ∨ declTy (hdr.dispatchInputs.getD []) x = some .any) :
    ∃ ps, inputsTyOf hdr = .obj ps none ∧ Ty.lookup x ps = some .any := by
  obtain ⟨ps, e, hl⟩ := inputs_exact hdr
  refine ⟨ps, e, ?_⟩
  rw [hl x]
  rcases h with h | h
  · rw [h]
    cases declTy (hdr.dispatchInputs.getD []) x <;> simp [Ty.merge_any_left]
  · rw [h]
    cases declTy (hdr.callInputs.getD []) x <;> simp [Ty.merge_any_right]

/-- `inputs.<x>` for a declared input: never reported, of its declared type -/
theorem inputs_prop_ty (cx : Cx) (key x : String) (t : Ty)
    (ha : (AL.Visit.availability key).1.contains (cx.lower "inputs") = true)
    (h : Ty.lookup x (propsOf (inputsTyOf cx.hdr)) = some t) :
    (check (envOf cx key) (.objDeref (.var "inputs") x)).errs = [] ∧
    (check (envOf cx key) (.objDeref (.var "inputs") x)).ty = t := by
  obtain ⟨ps, e, _⟩ := inputs_exact cx.hdr
  have hl : Ty.lookup "inputs" (envOf cx key).vars = some (.obj ps none) := by
    rw [envOf_vars, scope_inputs, e]
  rw [e] at h
  simp only [propsOf] at h
  obtain ⟨ty, er⟩ := check_ctx_prop (envOf cx key) "inputs" x _ hl ha
  rw [objDerefTy_found _ _ x ps none _ h] at ty er
  exact ⟨er, ty⟩

/-- **below an input of unknown type nothing is reported** -/
theorem inputs_any_below_silent (cx : Cx) (key x : String) (p : List Acc)
    (ha : (AL.Visit.availability key).1.contains (cx.lower "inputs") = true)
    (h : declTy (cx.hdr.callInputs.getD []) x = some .any ∨ declTy (cx.hdr.dispatchInputs.getD []) x = some .any)
    (hp : okPath false p = true) :
    (check (envOf cx key) (below (.objDeref (.var "inputs") x) p)).errs = [] := by
  obtain ⟨ps, e, hx⟩ := inputs_any cx.hdr x h
  obtain ⟨er, ty⟩ := inputs_prop_ty cx key x .any ha (by rw [e]; exact hx)
  exact any_below_silent _ _ p er ty hp

/-- **a `workflow_dispatch` input without `type:`** (the last `workflow_dispatch` of `on:` declares `x`, and only untyped):
in every state whose header is the workflow's — every job, every step — nothing below `inputs.<x>` is reported -/
theorem untyped_dispatch_input_silent (lower : String → String) (proj : ProjView) (w : Workflow)
    (pre post : List Ast.Event) (ins : Option (List (String × DispatchInput))) (pos : AL.Yaml.Pos)
    (hon : w.on.getD [] = pre ++ .dispatch ins pos :: post) (hpost : ∀ e ∈ post, isDispatch e = false)
    (x : String) (hex : ∃ kv ∈ ins.getD [], kv.1 = x) (hall : ∀ kv ∈ ins.getD [], kv.1 = x → kv.2.type = .none)
    (cx : Cx) (hcx : cx.hdr = (ruleCx lower proj w).hdr) (key : String) (p : List Acc)
    (ha : (AL.Visit.availability key).1.contains (cx.lower "inputs") = true) (hp : okPath false p = true) :
    (check (envOf cx key) (below (.objDeref (.var "inputs") x) p)).errs = [] := by
  refine inputs_any_below_silent cx key x p ha (Or.inr ?_) hp
  rw [hcx, ruleCx_eq, hon, header_dispatch pre post ins pos hpost]
  simp only [Option.getD_some]
  apply declTy_any
  · obtain ⟨kv, hkv, hk⟩ := hex
    simp only [List.map_map, List.mem_map, Function.comp_def]
    exact ⟨kv, hkv, hk⟩
  · intro e he hx
    simp only [List.mem_map] at he
    obtain ⟨kv, hkv, rfl⟩ := he
    simp only at hx ⊢
    rw [hall kv hkv hx]
    rfl

/-- **a `workflow_call` input without a usable `type:`** -/
theorem untyped_call_input_silent (lower : String → String) (proj : ProjView) (w : Workflow)
    (pre post : List Ast.Event) (ins : Option (List Ast.CallInput)) (secs : Option (List (String × CallSecret)))
    (outs : Option (List (String × CallOutput))) (pos : AL.Yaml.Pos)
    (hon : w.on.getD [] = pre ++ .call ins secs outs pos :: post) (hpost : ∀ e ∈ post, isCall e = false)
    (x : String) (hex : ∃ i ∈ ins.getD [], i.id = x) (hall : ∀ i ∈ ins.getD [], i.id = x → i.type = .invalid)
    (cx : Cx) (hcx : cx.hdr = (ruleCx lower proj w).hdr) (key : String) (p : List Acc)
    (ha : (AL.Visit.availability key).1.contains (cx.lower "inputs") = true) (hp : okPath false p = true) :
    (check (envOf cx key) (below (.objDeref (.var "inputs") x) p)).errs = [] := by
  refine inputs_any_below_silent cx key x p ha (Or.inl ?_) hp
  rw [hcx, ruleCx_eq, hon, (header_call pre post ins secs outs pos hpost _).1]
  simp only [Option.getD_some]
  apply declTy_any
  · obtain ⟨i, hi, hk⟩ := hex
    simp only [List.map_map, List.mem_map, Function.comp_def]
    exact ⟨i, hi, hk⟩
  · intro e he hx
    simp only [List.mem_map] at he
    obtain ⟨i, hi, rfl⟩ := he
    simp only at hx ⊢
    rw [hall i hi hx]
    rfl

/-- the header of every state inside a job of the workflow is the workflow's -/
theorem inJob_hdr (lower : String → String) (proj : ProjView) (w : Workflow) (isNum : IsNumber) (jobs : List (String × Job))
    (n : Job) (cx : Cx) (hcx : InJob (ruleCx lower proj w) isNum jobs n cx) :
    cx.hdr = (ruleCx lower proj w).hdr ∧ cx.lower = lower := ⟨hcx.hdr, hcx.lower.trans (congrArg Cx.lower (ruleCx_eq lower proj w))⟩

/-- the typed check of a `with:` value against a called workflow's declared input accepts a value of unknown type -/
theorem typedInput_any (cx : Cx) (u : Str) (kv : String × CallArg) (h : AL.Yaml.isExprAssigned kv.2.value.value = true) :
    typedInput cx u kv [.any] = [] := by
  unfold typedInput
  cases cx.job.inputs with
  | none => rfl
  | some ins =>
    simp only
    cases ins.find? (·.1 = kv.1) with
    | none => rfl
    | some e =>
      obtain ⟨_, nm, decl⟩ := e
      simp only [suppliedTy, h, if_true, Ty.assignable_any_right]
      split <;> rfl

/-! ### §4 on concrete data -/

def evDispatchX : Ast.Event :=
  .dispatch (some [("cfg", ⟨str "cfg", none, none, none, .none, none⟩), ("env", ⟨str "env", none, none, none, .environment, none⟩),
                   ("pick", ⟨str "pick", none, none, none, .choice, some [str "a", str "b"]⟩)]) p0
def evCallX : Ast.Event :=
  .call (some [{ name := str "raw", type := .invalid, id := "raw" }, { name := str "n", type := .number, id := "n" }]) none none p0
def evPushX : Ast.Event := .webhook { hook := str "push", pos := p0 }
def wX : Workflow := { on := some [evDispatchX, evCallX, evPushX], jobs := some [("j", jEx)] }

theorem av_inputs_run : (AL.Visit.availability keyRun).1.contains (AL.PW.asciiLower "inputs") = true := available_run "inputs" (by simp)

/-- `inputs.cfg` (dispatch, untyped) and `inputs.raw` (call, no usable type): everything below is silent, in a step of job `j` -/
example : (check (envOf (stepCx (ruleCx AL.PW.asciiLower {} wX) noNum [("j", jEx)] jEx exPre) keyRun)
      (below (.objDeref (.var "inputs") "cfg") [.prop "a", .lit "k", .star])).errs = [] ∧
    (check (envOf (stepCx (ruleCx AL.PW.asciiLower {} wX) noNum [("j", jEx)] jEx exPre) keyRun)
      (below (.objDeref (.var "inputs") "raw") [.num, .prop "b"])).errs = [] := by
  have hcx := inJob_hdr AL.PW.asciiLower {} wX noNum [("j", jEx)] jEx _
    (stepCx_after (ruleCx AL.PW.asciiLower {} wX) noNum [("j", jEx)] jEx exPre).toInJob
  exact ⟨untyped_dispatch_input_silent AL.PW.asciiLower {} wX [] [evCallX, evPushX] _ p0 rfl (by decide) "cfg"
      ⟨_, List.mem_cons_self .., rfl⟩ (by decide) _ hcx.1 keyRun _ (by rw [hcx.2]; exact av_inputs_run) rfl,
    untyped_call_input_silent AL.PW.asciiLower {} wX [evDispatchX] [evPushX] _ none none p0 rfl (by decide) "raw"
      ⟨_, List.mem_cons_self .., rfl⟩ (by decide) _ hcx.1 keyRun _ (by rw [hcx.2]; exact av_inputs_run) rfl⟩

/-- `choice` and `environment` inputs are strings — KNOWN types: `inputs.pick.x` is reported -/
example : (check (envOf (ruleCx AL.PW.asciiLower {} wX) keyRun) (.objDeref (.var "inputs") "pick")).ty = .string ∧
    (check (envOf (ruleCx AL.PW.asciiLower {} wX) keyRun) (.objDeref (.var "inputs") "env")).ty = .string ∧
    (check (envOf (ruleCx AL.PW.asciiLower {} wX) keyRun) (.objDeref (.objDeref (.var "inputs") "pick") "x")).errs =
      [err "deref-not-object" ["x", "string"]] := by
  have hh : (ruleCx AL.PW.asciiLower {} wX).hdr = (wX.on.getD []).foldl eventHdr ⟨none, none, none⟩ :=
    (ruleCx_scope AL.PW.asciiLower {} wX).2.1
  have hlow : (ruleCx AL.PW.asciiLower {} wX).lower = AL.PW.asciiLower := (ruleCx_scope AL.PW.asciiLower {} wX).2.2.2.1
  have h1 := inputs_prop_ty (ruleCx AL.PW.asciiLower {} wX) keyRun "pick" .string (by rw [hlow]; exact av_inputs_run)
    (by rw [hh]; exact opt_tyEq (by decide +kernel))
  have h2 := inputs_prop_ty (ruleCx AL.PW.asciiLower {} wX) keyRun "env" .string (by rw [hlow]; exact av_inputs_run)
    (by rw [hh]; exact opt_tyEq (by decide +kernel))
  refine ⟨h1.2, h2.2, ?_⟩
  rw [(check_prop_of _ _ "x" _ rfl h1.2 h1.1).2]
  simp [objDerefTy, tyStr]

example : typedInput cxL (str "./w.yml") ("x", ⟨str "x", str "${{ fromJSON(vars.X) }}"⟩) [.any] = [] :=
  typedInput_any _ _ _ (by decide +kernel)

/-! ## 5. monotonicity at workflow level: a looser scope never adds a diagnostic

AL.Props.C06 (`mono'`): `check` is monotone in the environment's context types. Here: the environment
`checkSemanticsOfExprNode` builds is monotone in the per-job state (`matrix`, `steps`, `needs`), so replacing one of them by
a looser type — a row value / the element type of an array replaced by an expression of unknown type — never adds a
diagnostic to ANY expression checked under it. -/

open AL.Ty (LooserD LooserDProps)

/-- everything `mkEnv` does after the per-job state was put in: `secrets`, `inputs`, `github.event.inputs`, `jobs` -/
def secStep (hdr : Header) (v : List (String × Ty)) : List (String × Ty) :=
  match hdr.callSecrets with | some ns => Ty.setProp "secrets" (AL.Visit.secretsTy ns) v | none => v
def callStep (hdr : Header) (v : List (String × Ty)) : List (String × Ty) :=
  match hdr.callInputs with | some is => AL.Visit.updateInputs v (AL.Visit.objOf is) | none => v
def dispStep (hdr : Header) (v : List (String × Ty)) : List (String × Ty) :=
  match hdr.dispatchInputs with
  | some is => AL.Visit.setGithubEventInputs (AL.Visit.updateInputs v (AL.Visit.objOf is)) (is.map (·.1))
  | none => v
def jobsStep (jobsTy : Option Ty) (v : List (String × Ty)) : List (String × Ty) :=
  match jobsTy with | some t => Ty.setProp "jobs" t v | none => v
def afterSt (hdr : Header) (jobsTy : Option Ty) (v3 : List (String × Ty)) : List (String × Ty) :=
  jobsStep jobsTy (dispStep hdr (callStep hdr (secStep hdr v3)))

theorem mkEnv_vars_afterSt (lower : String → String) (hdr : Header) (jobsTy : Option Ty) (st : St) (key : String) :
    (mkEnv lower hdr jobsTy st key).vars = afterSt hdr jobsTy (stVars st) := rfl

/-- two variable lists that differ only by loosening, and not at all in `inputs` and `github` -/
def Rel (a b : List (String × Ty)) : Prop :=
  LooserDProps a b ∧ Ty.lookup "inputs" a = Ty.lookup "inputs" b ∧ Ty.lookup "github" a = Ty.lookup "github" b

theorem Rel.setProp {a b : List (String × Ty)} (k : String) (v : Ty) (h : Rel a b) : Rel (Ty.setProp k v a) (Ty.setProp k v b) :=
  ⟨LooserDProps.setProp (LooserD.refl v) h.1, by rw [lookup_setProp, lookup_setProp, h.2.1],
   by rw [lookup_setProp, lookup_setProp, h.2.2]⟩

theorem updateInputs_eq (vars : List (String × Ty)) (ty : Ty) :
    AL.Visit.updateInputs vars ty =
      match Ty.lookup "inputs" vars with
      | some o => Ty.setProp "inputs" (updInputs o ty) vars
      | none => vars := by
  unfold AL.Visit.updateInputs updInputs
  cases Ty.lookup "inputs" vars with
  | none => rfl
  | some o =>
    cases o with
    | obj ps m =>
      cases ps with
      | nil => cases m <;> rfl
      | cons a r => rfl
    | _ => rfl

theorem Rel.updateInputs {a b : List (String × Ty)} (ty : Ty) (h : Rel a b) :
    Rel (AL.Visit.updateInputs a ty) (AL.Visit.updateInputs b ty) := by
  rw [updateInputs_eq, updateInputs_eq, h.2.1]
  cases Ty.lookup "inputs" b with
  | none => exact h
  | some o => exact h.setProp ..

/-- `UpdateDispatchInputs` on the `github` variable itself -/
def ghUpd (ids : List String) : Ty → Option Ty
  | .obj gps gm =>
    (match Ty.lookup "event" gps with
     | some (.obj eps em) =>
       some (.obj (Ty.setProp "event" (.obj (Ty.setProp "inputs" (AL.Visit.objOf (ids.map fun i => (i, Ty.string))) eps) em) gps) gm)
     | _ => none)
  | _ => none

theorem setGithub_eq (vars : List (String × Ty)) (ids : List String) :
    AL.Visit.setGithubEventInputs vars ids =
      match (Ty.lookup "github" vars).bind (ghUpd ids) with
      | some g => Ty.setProp "github" g vars
      | none => vars := by
  unfold AL.Visit.setGithubEventInputs
  cases Ty.lookup "github" vars with
  | none => rfl
  | some g =>
    cases g with
    | obj gps gm =>
      simp only [Option.bind_some, ghUpd]
      cases Ty.lookup "event" gps with
      | none => rfl
      | some ev => cases ev <;> rfl
    | _ => rfl

theorem Rel.setGithub {a b : List (String × Ty)} (ids : List String) (h : Rel a b) :
    Rel (AL.Visit.setGithubEventInputs a ids) (AL.Visit.setGithubEventInputs b ids) := by
  rw [setGithub_eq, setGithub_eq, h.2.2]
  cases (Ty.lookup "github" b).bind (ghUpd ids) with
  | none => exact h
  | some g => exact h.setProp ..

theorem afterSt_rel (hdr : Header) (jobsTy : Option Ty) {a b : List (String × Ty)} (h : Rel a b) :
    Rel (afterSt hdr jobsTy a) (afterSt hdr jobsTy b) := by
  have h4 : Rel (secStep hdr a) (secStep hdr b) := by
    unfold secStep
    cases hdr.callSecrets with
    | none => exact h
    | some ns => exact h.setProp ..
  have h5 : Rel (callStep hdr (secStep hdr a)) (callStep hdr (secStep hdr b)) := by
    unfold callStep
    cases hdr.callInputs with
    | none => exact h4
    | some is => exact h4.updateInputs _
  have h6 : Rel (dispStep hdr (callStep hdr (secStep hdr a))) (dispStep hdr (callStep hdr (secStep hdr b))) := by
    unfold dispStep
    cases hdr.dispatchInputs with
    | none => exact h5
    | some is => exact (h5.updateInputs _).setGithub _
  unfold afterSt jobsStep
  cases jobsTy with
  | none => exact h6
  | some t => exact h6.setProp ..

/-- `none` stays `none`; a type may get looser -/
inductive OptLooser : Option Ty → Option Ty → Prop
  | none : OptLooser none none
  | some {t t' : Ty} : LooserD t t' → OptLooser (some t) (some t')

theorem OptLooser.refl : (o : Option Ty) → OptLooser o o
  | Option.none => .none
  | Option.some t => .some (LooserD.refl t)

/-- the per-job state got looser -/
structure StLooser (st st' : St) : Prop where
  matrix : OptLooser st.matrixTy st'.matrixTy
  steps : OptLooser st.stepsTy st'.stepsTy
  needs : OptLooser st.needsTy st'.needsTy

def optSet (k : String) (o : Option Ty) (v : List (String × Ty)) : List (String × Ty) :=
  match o with | some t => Ty.setProp k t v | none => v

theorem stVars_optSet (st : St) :
    stVars st = optSet "needs" st.needsTy (optSet "steps" st.stepsTy (optSet "matrix" st.matrixTy AL.Gen.globalVars)) := rfl

theorem optSet_looser (k : String) {o o' : Option Ty} (h : OptLooser o o') {a b : List (String × Ty)} (hab : LooserDProps a b) :
    LooserDProps (optSet k o a) (optSet k o' b) := by
  cases h with
  | none => exact hab
  | some ht => exact LooserDProps.setProp ht hab

theorem stVars_rel {st st' : St} (h : StLooser st st') : Rel (stVars st) (stVars st') :=
  ⟨by rw [stVars_optSet, stVars_optSet]
      exact optSet_looser _ h.needs (optSet_looser _ h.steps (optSet_looser _ h.matrix (LooserDProps.refl _))),
   by rw [lookup_stVars_other "inputs" (by decide) (by decide) (by decide), lookup_stVars_other "inputs" (by decide) (by decide) (by decide)],
   by rw [lookup_stVars_other "github" (by decide) (by decide) (by decide), lookup_stVars_other "github" (by decide) (by decide) (by decide)]⟩

/-- **the environment an expression is checked in is monotone in the per-job state** -/
theorem envOf_looserD (cx cx' : Cx) (key : String) (hl : cx'.lower = cx.lower) (hh : cx'.hdr = cx.hdr)
    (hj : cx'.jobsTy = cx.jobsTy) (hp : cx'.proj.configVars = cx.proj.configVars) (hst : StLooser cx.st cx'.st) :
    LooserEnvD (envOf cx key) (envOf cx' key) := by
  refine ⟨?_, rfl, rfl, rfl, rfl, hp, hl, ?_⟩
  · show LooserDProps (afterSt cx.hdr cx.jobsTy (stVars cx.st)) (afterSt cx'.hdr cx'.jobsTy (stVars cx'.st))
    rw [hh, hj]
    exact (afterSt_rel cx.hdr cx.jobsTy (stVars_rel hst)).1
  · show AL.Json.fromJson cx'.lower = AL.Json.fromJson cx.lower
    rw [hl]

/-- **workflow-level monotonicity**: if the state `cx'` differs from `cx` only in that `matrix` / `steps` / `needs` are
looser, every expression accepted under `cx` (under any workflow key) is accepted under `cx'`, and its type only gets
looser. (`WfEnv`: the representation invariant "property lists are key-sorted", see `envOf_wf`.) -/
theorem state_mono (cx cx' : Cx) (key : String) (e : E) (hl : cx'.lower = cx.lower) (hh : cx'.hdr = cx.hdr)
    (hj : cx'.jobsTy = cx.jobsTy) (hp : cx'.proj.configVars = cx.proj.configVars) (hst : StLooser cx.st cx'.st)
    (hwf : WfEnv (envOf cx key)) (he : (check (envOf cx key) e).errs = []) :
    (check (envOf cx' key) e).errs = [] ∧ LooserD (check (envOf cx key) e).ty (check (envOf cx' key) e).ty :=
  AL.C06.mono' (envOf cx key) (envOf cx' key) e (envOf_looserD cx cx' key hl hh hj hp hst) hwf AL.C06.builtin_same_ret he

/-! ### the representation invariant: every environment the rule builds is well formed -/

open AL.Ty (wf wfProps wfOpt sortedKeys)

theorem optSet_wf (k : String) (o : Option Ty) (v : List (String × Ty)) (ho : wfOpt o = true) (hv : wfProps v = true) :
    wfProps (optSet k o v) = true := by
  cases o with
  | none => exact hv
  | some t => exact Ty.setProp_wfProps ho v hv

/-- a fold of `setProp k string` keeps a property list sorted and well formed -/
theorem foldKeys_wf {α : Type} (key : α → String) : ∀ (l : List α) (acc : List (String × Ty)),
    sortedKeys acc = true → wfProps acc = true →
    sortedKeys (l.foldl (fun ps a => Ty.setProp (key a) .string ps) acc) = true ∧
    wfProps (l.foldl (fun ps a => Ty.setProp (key a) .string ps) acc) = true :=
  fun l acc h1 h2 => ⟨AL.Sema.foldl_setProp_sorted l acc h1, AL.Sema.foldl_setProp_wfProps l (fun _ _ => rfl) acc h2⟩

theorem secretsTy_wf (ns : List String) : wf (AL.Visit.secretsTy ns) = true := by
  have := foldKeys_wf (fun n : String => n) ns
    [("actions_runner_debug", .string), ("actions_step_debug", .string), ("github_token", .string)] (by decide +kernel) rfl
  simp only [AL.Visit.secretsTy, wf, this.1, this.2, Bool.and_self]

theorem objOf_wf (is : List (String × Ty)) (h : ∀ e ∈ is, wf e.2 = true) : wf (AL.Visit.objOf is) = true := by
  simp only [AL.Visit.objOf, wf, AL.Sema.foldl_setProp_sorted is [] rfl, AL.Sema.foldl_setProp_wfProps is h [] rfl, Bool.and_self]

theorem updInputs_wf (o ty : Ty) (ho : wf o = true) (ht : wf ty = true) : wf (updInputs o ty) = true := by
  unfold updInputs
  split
  · exact ht
  · exact Ty.merge_wf ty o ho ht

theorem updateInputs_wf (v : List (String × Ty)) (ty : Ty) (hv : wfProps v = true) (ht : wf ty = true) :
    wfProps (AL.Visit.updateInputs v ty) = true := by
  rw [updateInputs_eq]
  cases h : Ty.lookup "inputs" v with
  | none => exact hv
  | some o => exact Ty.setProp_wfProps (updInputs_wf o ty (Ty.lookup_wf v hv h) ht) v hv

theorem ghUpd_wf (ids : List String) (g g' : Ty) (hg : wf g = true) (h : ghUpd ids g = some g') : wf g' = true := by
  cases g with
  | obj gps gm =>
    simp only [ghUpd] at h
    cases he : Ty.lookup "event" gps with
    | none => rw [he] at h; cases h
    | some ev =>
      rw [he] at h
      cases ev with
      | obj eps em =>
        simp only [Option.some.injEq] at h
        rw [Ty.wf_obj] at hg
        simp only [Bool.and_eq_true] at hg
        have hev := Ty.lookup_wf gps hg.1.2 he
        rw [Ty.wf_obj] at hev
        simp only [Bool.and_eq_true] at hev
        have hstr : wf (AL.Visit.objOf (ids.map fun i => (i, Ty.string))) = true :=
          objOf_wf _ (fun e he => by
            simp only [List.mem_map] at he
            obtain ⟨i, _, rfl⟩ := he
            rfl)
        have hX : wf (.obj (Ty.setProp "inputs" (AL.Visit.objOf (ids.map fun i => (i, Ty.string))) eps) em) = true := by
          rw [Ty.wf_obj]
          simp only [Bool.and_eq_true]
          exact ⟨⟨Ty.setProp_sorted eps hev.1.1, Ty.setProp_wfProps hstr eps hev.1.2⟩, hev.2⟩
        rw [← h, Ty.wf_obj]
        simp only [Bool.and_eq_true]
        exact ⟨⟨Ty.setProp_sorted gps hg.1.1, Ty.setProp_wfProps hX gps hg.1.2⟩, hg.2⟩
      | _ => simp at h
  | _ => simp [ghUpd] at h

theorem setGithub_wf (v : List (String × Ty)) (ids : List String) (hv : wfProps v = true) :
    wfProps (AL.Visit.setGithubEventInputs v ids) = true := by
  rw [setGithub_eq]
  cases hb : (Ty.lookup "github" v).bind (ghUpd ids) with
  | none => exact hv
  | some g' =>
    cases hg : Ty.lookup "github" v with
    | none => rw [hg] at hb; cases hb
    | some g =>
      rw [hg] at hb
      exact Ty.setProp_wfProps (ghUpd_wf ids g g' (Ty.lookup_wf v hv hg) hb) v hv

/-- **every environment `checkSemanticsOfExprNode` builds is well formed** when the types in the rule's state are (the
per-job types, `jobs`, the declared types of the inputs) -/
theorem envOf_wf (cx : Cx) (key : String)
    (hm : wfOpt cx.st.matrixTy = true) (hs : wfOpt cx.st.stepsTy = true) (hn : wfOpt cx.st.needsTy = true)
    (hj : wfOpt cx.jobsTy = true)
    (hc : ∀ is, cx.hdr.callInputs = some is → ∀ e ∈ is, wf e.2 = true)
    (hd : ∀ is, cx.hdr.dispatchInputs = some is → ∀ e ∈ is, wf e.2 = true) : WfEnv (envOf cx key) := by
  refine ⟨?_, AL.C06.builtin_rets_wf, AL.Sema.fromJson_wf cx.lower⟩
  show wfProps (afterSt cx.hdr cx.jobsTy (stVars cx.st)) = true
  have h3 : wfProps (stVars cx.st) = true := by
    rw [stVars_optSet]
    exact optSet_wf _ _ _ hn (optSet_wf _ _ _ hs (optSet_wf _ _ _ hm AL.C06.builtin_vars_wf.1))
  have h4 : wfProps (secStep cx.hdr (stVars cx.st)) = true := by
    unfold secStep
    cases cx.hdr.callSecrets with
    | none => exact h3
    | some ns => exact Ty.setProp_wfProps (secretsTy_wf ns) _ h3
  have h5 : wfProps (callStep cx.hdr (secStep cx.hdr (stVars cx.st))) = true := by
    unfold callStep
    cases hci : cx.hdr.callInputs with
    | none => exact h4
    | some is => exact updateInputs_wf _ _ h4 (objOf_wf is (hc is hci))
  have h6 : wfProps (dispStep cx.hdr (callStep cx.hdr (secStep cx.hdr (stVars cx.st)))) = true := by
    unfold dispStep
    cases hdi : cx.hdr.dispatchInputs with
    | none => exact h5
    | some is => exact setGithub_wf _ _ (updateInputs_wf _ _ h5 (objOf_wf is (hd is hdi)))
  unfold afterSt jobsStep
  cases hjt : cx.jobsTy with
  | none => exact h6
  | some t => rw [hjt] at hj; exact Ty.setProp_wfProps hj _ h6

/-! ### the types the rule puts into its state are well formed -/

theorem declaredOutputsTy_wf (j : Job) : wf (declaredOutputsTy j) = true := by
  have := foldKeys_wf (fun kv : String × Output => kv.1) (j.outputs.getD []) [] rfl rfl
  simp only [declaredOutputsTy, wf, this.1, this.2, Bool.and_self]

theorem needEntry_wf (outs : List (String × Ty)) (i : String) (j : Job) (ho : ∀ t, Ty.lookup i outs = some t → wf t = true) :
    wf (needEntry outs i j) = true := by
  have hX : wf (if j.workflowCall.isNone then declaredOutputsTy j else (Ty.lookup i outs).getD mapOfString) = true := by
    split
    · exact declaredOutputsTy_wf j
    · cases h : Ty.lookup i outs with
      | none => rfl
      | some t => exact ho t h
  have hlt : ("outputs" : String) < "result" := by decide +kernel
  simp only [Option.isNone_iff_eq_none] at hX
  simp [needEntry, wf, sortedKeys, Ty.keysGt, wfProps, hX, hlt]

theorem needsFold_wf (outs : List (String × Ty)) (lower : String → String) (jobs : List (String × Job)) (self : String)
    (ho : ∀ i t, Ty.lookup i outs = some t → wf t = true) : ∀ (needs : List Str) (acc : List (String × Ty)),
    sortedKeys acc = true → wfProps acc = true →
    sortedKeys (needs.foldl (needsStep outs lower jobs self) acc) = true ∧
    wfProps (needs.foldl (needsStep outs lower jobs self) acc) = true := by
  intro needs acc h1 h2
  refine List.foldlRecOn (motive := fun acc : List (String × Ty) => sortedKeys acc = true ∧ wfProps acc = true) needs _ ⟨h1, h2⟩ ?_
  intro acc h id _
  unfold needsStep
  simp only
  split
  · exact h
  · split
    · exact h
    · split
      · exact h
      · exact ⟨Ty.setProp_sorted acc h.1, Ty.setProp_wfProps (needEntry_wf outs _ _ (ho _)) acc h.2⟩

theorem needsTy_wf (outs : List (String × Ty)) (lower : String → String) (jobs : List (String × Job)) (job : Job)
    (ho : ∀ i t, Ty.lookup i outs = some t → wf t = true) : wf (needsTy outs lower jobs job) = true := by
  have := needsFold_wf outs lower jobs (lower job.id.value) ho (job.needs.getD []) [] rfl rfl
  rw [needsTy_eq]
  simp only [wf, this.1, this.2, Bool.and_self]

theorem popularOutputs_wf (spec : String) (t : Ty) (h : popularOutputs spec = some t) : wf t = true := by
  rcases popularOutputs_some spec t h with rfl | ⟨_, outs, _, _, rfl⟩
  · rfl
  · have := foldKeys_wf (fun o : String × String => AL.PW.asciiLower o.1) outs [] rfl rfl
    simp only [wf, this.1, this.2, Bool.and_self]

theorem actionOutputsTy_wf (lo : String → Option Ty) (hlo : ∀ s t, lo s = some t → wf t = true) (spec : Option Str) :
    wf (actionOutputsTy lo spec) = true := by
  unfold actionOutputsTy
  cases spec with
  | none => rfl
  | some s =>
    simp only
    split
    · cases h : lo s.value with
      | none => rfl
      | some t => exact hlo _ t h
    · split
      · rfl
      · cases h : popularOutputs s.value with
        | none => rfl
        | some t => exact popularOutputs_wf _ t h

theorem addStepFold_wf (lower : String → String) : ∀ (ss : List AL.Visit.StepM) (ps : List (String × Ty)) (m : Option Ty),
    (∀ s ∈ ss, wf s.outputs = true) → sortedKeys ps = true → wfProps ps = true → wfOpt m = true →
    wf (ss.foldl (AL.Visit.addStep lower) (.obj ps m)) = true := by
  intro ss
  induction ss with
  | nil =>
    intro ps m _ h1 h2 h3
    rw [List.foldl_nil, Ty.wf_obj]
    simp [h1, h2, h3]
  | cons s rest ih =>
    intro ps m hall h1 h2 h3
    rw [List.foldl_cons, AL.Visit.addStep_split, AL.Visit.stepProps, AL.Visit.stepMapped]
    have hrest : ∀ s' ∈ rest, wf s'.outputs = true := fun s' hs' => hall s' (List.mem_cons_of_mem _ hs')
    cases s.id with
    | none => exact ih ps m hrest h1 h2 h3
    | some id =>
      have hout := hall s (List.mem_cons_self ..)
      have h12 : ("conclusion" : String) < "outcome" := by decide +kernel
      have h13 : ("conclusion" : String) < "outputs" := by decide +kernel
      have h23 : ("outcome" : String) < "outputs" := by decide +kernel
      have hent : wf (.obj [("conclusion", .string), ("outcome", .string), ("outputs", s.outputs)] none) = true := by
        simp [wf, sortedKeys, Ty.keysGt, wfProps, hout, h12, h13, h23]
      refine ih _ _ hrest (Ty.setProp_sorted ps h1) (Ty.setProp_wfProps hent ps h2) ?_
      split
      · rfl
      · exact h3

theorem stepsAfter_wf (cx : Cx) (hlo : ∀ s t, cx.proj.actionOutputs s = some t → wf t = true) (ss : List Step) :
    wf (stepsAfter cx ss) = true := by
  unfold stepsAfter
  refine addStepFold_wf cx.lower _ [] none ?_ rfl rfl rfl
  intro sm hsm
  simp only [List.mem_map] at hsm
  obtain ⟨s, _, rfl⟩ := hsm
  exact actionOutputsTy_wf _ hlo _

/-- the declared types of the inputs in a header -/
def HdrWf (hdr : Header) : Prop :=
  (∀ is, hdr.callInputs = some is → ∀ e ∈ is, wf e.2 = true) ∧
  (∀ is, hdr.dispatchInputs = some is → ∀ e ∈ is, wf e.2 = true)

theorem eventHdr_wf (hdr : Header) (h : HdrWf hdr) (e : Ast.Event) : HdrWf (eventHdr hdr e) := by
  cases e with
  | dispatch ins p =>
    refine ⟨h.1, fun is his x hx => ?_⟩
    simp only [eventHdr, Option.some.injEq] at his
    rw [← his] at hx
    simp only [List.mem_map] at hx
    obtain ⟨kv, _, rfl⟩ := hx
    cases kv.2.type <;> rfl
  | call ins secs outs p =>
    refine ⟨fun is his x hx => ?_, h.2⟩
    simp only [eventHdr, Option.some.injEq] at his
    rw [← his] at hx
    simp only [List.mem_map] at hx
    obtain ⟨i, _, rfl⟩ := hx
    cases i.type <;> rfl
  | webhook _ => exact h
  | schedule _ _ => exact h
  | repoDispatch _ _ => exact h

/-- the header of every workflow is well formed (the declared types are scalars or `any`) -/
theorem ruleCx_hdr_wf (lower : String → String) (proj : ProjView) (w : Workflow) : HdrWf (ruleCx lower proj w).hdr := by
  rw [ruleCx_eq]
  exact List.foldlRecOn (motive := HdrWf) _ eventHdr (And.intro (fun _ h => nomatch h) (fun _ h => nomatch h))
    fun hdr h e _ => eventHdr_wf hdr h e

/-- what comes from outside the file: the types the project's view holds are well formed (proved for the empty view
only, `projWf_empty`) -/
structure ProjWf (proj : ProjView) : Prop where
  outs : ∀ id i t, Ty.lookup i (proj.jobView id).outs = some t → wf t = true
  actions : ∀ s t, proj.actionOutputs s = some t → wf t = true

theorem projWf_empty : ProjWf {} := ⟨fun _ _ _ h => by simp [ProjView.jobView, Ty.lookup] at h, fun _ _ h => nomatch h⟩

/-- **the environment of every state after some steps of a job is well formed**, given that of the job's matrix type -/
theorem afterSteps_wf (cx0 : Cx) (isNum : IsNumber) (jobs : List (String × Job)) (n : Job) (pre : List Step) (cx : Cx)
    (hcx : AfterSteps cx0 isNum jobs n pre cx) (hjobs : wfOpt cx.jobsTy = true) (hhdr : HdrWf cx0.hdr) (hproj : ProjWf cx0.proj)
    (hm : wfOpt (jobCx cx0 isNum jobs n).st.matrixTy = true) (key : String) : WfEnv (envOf cx key) := by
  refine envOf_wf cx key ?_ ?_ ?_ hjobs ?_ ?_
  · rw [hcx.matrix]; exact hm
  · rw [hcx.steps]
    exact stepsAfter_wf _ (by rw [jobCxS, jobCx_eq]; exact hproj.actions) pre
  · rw [hcx.needs]
    exact needsTy_wf _ _ _ _ (hproj.outs _)
  · rw [hcx.hdr]; exact hhdr.1
  · rw [hcx.hdr]; exact hhdr.2

/-! ### 5a. a row value replaced by an expression of unknown type -/

theorem propsFold_looser (post : List (String × Ty)) : ∀ (a b : List (String × Ty)), LooserDProps a b →
    LooserDProps (AL.Visit.propsFold a post) (AL.Visit.propsFold b post) := by
  induction post with
  | nil => intro a b h; exact h
  | cons x rest ih =>
    intro a b h
    exact ih _ _ (LooserDProps.setProp (LooserD.refl x.2) h)

theorem propsFold_replace (k : String) (t : Ty) (post : List (String × Ty)) : ∀ (pre a : List (String × Ty)),
    LooserDProps (AL.Visit.propsFold a (pre ++ (k, t) :: post)) (AL.Visit.propsFold a (pre ++ (k, .any) :: post)) := by
  intro pre
  induction pre with
  | nil =>
    intro a
    exact propsFold_looser post _ _ (LooserDProps.setProp (.any t) (LooserDProps.refl a))
  | cons x rest ih =>
    intro a
    exact ih (Ty.setProp x.1 x.2 a)

/-- the rows object only gets looser when one row is replaced by a row of type `any` -/
theorem rows_replaced_looser (cx : Cx) (isNum : IsNumber) (pre post : List (String × MatrixRow)) (k : String) (r r' : MatrixRow)
    (hany : (rowTy cx isNum r').1 = .any) :
    LooserDProps (rowsProps cx isNum (pre ++ (k, r) :: post)) (rowsProps cx isNum (pre ++ (k, r') :: post)) := by
  unfold rowsProps
  simp only [List.map_append, List.map_cons, hany]
  exact propsFold_replace k _ _ _ []

/-- **the matrix type only gets looser** when (in a matrix of literal rows, without `include:`) the value of one row is
replaced by an expression of unknown type -/
theorem matrix_row_replaced_looser (cx : Cx) (isNum : IsNumber) (m m' : Matrix) (pre post : List (String × MatrixRow)) (k : String)
    (r r' : MatrixRow) (he : m.expr = none) (hi : m.incl = none) (he' : m'.expr = none) (hi' : m'.incl = none)
    (hr : m.rows.getD [] = pre ++ (k, r) :: post) (hr' : m'.rows.getD [] = pre ++ (k, r') :: post)
    (hany : (rowTy cx isNum r').1 = .any) :
    LooserD (checkMatrix cx isNum m).1 (checkMatrix cx isNum m').1 := by
  rw [checkMatrix_lit cx isNum m he, checkMatrix_lit cx isNum m' he', hi, hi', hr, hr']
  exact .obj (rows_replaced_looser cx isNum pre post k r r' hany) .none

theorem needsTy_congr_job (outs : List (String × Ty)) (lower : String → String) (jobs : List (String × Job)) (n n' : Job)
    (hid : n'.id = n.id) (hneeds : n'.needs = n.needs) : needsTy outs lower jobs n' = needsTy outs lower jobs n := by
  unfold needsTy
  rw [hid, hneeds]

theorem jobCx1_congr (cx0 : Cx) (jobs : List (String × Job)) (n n' : Job) (hid : n'.id = n.id) (hneeds : n'.needs = n.needs) :
    jobCx1 cx0 jobs n' = jobCx1 cx0 jobs n := by
  unfold jobCx1
  rw [hid, needsTy_congr_job _ _ _ n n' hid hneeds]

theorem stepsAfter_congr (cx cx' : Cx) (hp : cx'.proj = cx.proj) (hl : cx'.lower = cx.lower) (ss : List Step) :
    stepsAfter cx' ss = stepsAfter cx ss := by
  unfold stepsAfter
  have : AL.C05E.stepM cx' = AL.C05E.stepM cx := by funext s; exact stepM_congr cx cx' hp s
  rw [this, hl]

/-- **workflow-level monotonicity in the matrix**: job `n'` is job `n` with another matrix whose TYPE is looser (same id,
same `needs`). Then after the same steps every expression accepted in `n` is accepted in `n'` — no diagnostic of `check`
is ADDED: no "undefined property", no type mismatch of a function argument or a comparison, nothing. -/
theorem matrix_looser_mono (cx0 : Cx) (isNum : IsNumber) (jobs : List (String × Job)) (n n' : Job)
    (hid : n'.id = n.id) (hneeds : n'.needs = n.needs) (m m' : Matrix) (hm : matrixOf n = some m) (hm' : matrixOf n' = some m')
    (hL : LooserD (checkMatrix (jobCx1 cx0 jobs n) isNum m).1 (checkMatrix (jobCx1 cx0 jobs n) isNum m').1)
    (steps : List Step) (cx cx' : Cx) (hcx : AfterSteps cx0 isNum jobs n steps cx) (hcx' : AfterSteps cx0 isNum jobs n' steps cx')
    (hj : cx'.jobsTy = cx.jobsTy) (hp : cx'.proj.configVars = cx.proj.configVars)
    (key : String) (e : E) (hwf : WfEnv (envOf cx key)) (hok : (check (envOf cx key) e).errs = []) :
    (check (envOf cx' key) e).errs = [] := by
  have h1 := jobCx1_congr cx0 jobs n n' hid hneeds
  have hmx : cx.st.matrixTy = some (checkMatrix (jobCx1 cx0 jobs n) isNum m).1 := by
    rw [hcx.matrix, jobCx_eq, hm]
    rfl
  have hmx' : cx'.st.matrixTy = some (checkMatrix (jobCx1 cx0 jobs n) isNum m').1 := by
    rw [hcx'.matrix, jobCx_eq, hm', h1]
    rfl
  have hS : stepsAfter (jobCxS cx0 isNum jobs n') steps = stepsAfter (jobCxS cx0 isNum jobs n) steps :=
    stepsAfter_congr _ _
      (by simp only [jobCxS, jobCx_eq, jobCx1]) (by simp only [jobCxS, jobCx_eq, jobCx1]) steps
  have hst : StLooser cx.st cx'.st := by
    refine ⟨?_, ?_, ?_⟩
    · rw [hmx, hmx']
      exact .some hL
    · rw [hcx.steps, hcx'.steps, hS]; exact OptLooser.refl _
    · rw [hcx.needs, hcx'.needs, hid, needsTy_congr_job _ _ _ n n' hid hneeds]; exact OptLooser.refl _
  exact (state_mono cx cx' key e (hcx'.lower.trans hcx.lower.symm) (hcx'.hdr.trans hcx.hdr.symm) hj hp hst hwf hok).1

/-- **5a. a row**: the value of one matrix row replaced by an expression of unknown type (matrices of rows, without
`include:`) -/
theorem row_replaced_mono (cx0 : Cx) (isNum : IsNumber) (jobs : List (String × Job)) (n n' : Job)
    (hid : n'.id = n.id) (hneeds : n'.needs = n.needs) (m m' : Matrix) (hm : matrixOf n = some m) (hm' : matrixOf n' = some m')
    (pre post : List (String × MatrixRow)) (k : String) (r r' : MatrixRow)
    (he : m.expr = none) (hi : m.incl = none) (he' : m'.expr = none) (hi' : m'.incl = none)
    (hr : m.rows.getD [] = pre ++ (k, r) :: post) (hr' : m'.rows.getD [] = pre ++ (k, r') :: post)
    (hany : (rowTy (jobCx1 cx0 jobs n) isNum r').1 = .any)
    (steps : List Step) (cx cx' : Cx) (hcx : AfterSteps cx0 isNum jobs n steps cx) (hcx' : AfterSteps cx0 isNum jobs n' steps cx')
    (hj : cx'.jobsTy = cx.jobsTy) (hp : cx'.proj.configVars = cx.proj.configVars)
    (key : String) (e : E) (hwf : WfEnv (envOf cx key)) (hok : (check (envOf cx key) e).errs = []) :
    (check (envOf cx' key) e).errs = [] :=
  matrix_looser_mono cx0 isNum jobs n n' hid hneeds m m' hm hm'
    (matrix_row_replaced_looser _ isNum m m' pre post k r r' he hi he' hi' hr hr' hany) steps cx cx' hcx hcx' hj hp key e hwf hok

/-- besides the scope, the states `stepCx` / `jobCxPost` of a job inherit `jobs` and the project from `cx0` (this lemma
and `stepCx_jobsTy_proj`) -/
theorem visitSteps_jobsTy (ss : List Step) : ∀ (cx : Cx), (visitSteps cx ss).1.jobsTy = cx.jobsTy := by
  intro cx
  rw [AL.C05E.visitSteps_fst]

theorem stepCx_jobsTy_proj (cx0 : Cx) (isNum : IsNumber) (jobs : List (String × Job)) (n : Job) (pre : List Step) :
    (stepCx cx0 isNum jobs n pre).jobsTy = cx0.jobsTy ∧ (stepCx cx0 isNum jobs n pre).proj = cx0.proj := by
  rw [stepCx_eq, jobCx_eq]
  exact ⟨rfl, rfl⟩

/-! ### the matrix type of literal rows is well formed — so 5a needs no hypothesis about the representation -/

theorem checkOne_wf (cx : Cx) (key : String) (rest : List Nat) (t : Ty) (off : Nat) (es : List SemaErr)
    (hΓ : WfEnv (envOf cx key)) (h : checkOne cx key false rest = (some (t, off), es)) : wf t = true := by
  rw [checkOne_eq] at h
  split at h
  · rename_i e off' _
    split at h
    · simp only [Prod.mk.injEq, Option.some.injEq] at h
      rw [← h.1.1]
      exact check_wf hΓ e
    · simp at h
  · simp at h

theorem scan_wf (cx : Cx) (key : String) (hΓ : WfEnv (envOf cx key)) : ∀ (fuel : Nat) (s : List Nat) (ts ts' : List Ty)
    (es : List SemaErr), (∀ t ∈ ts, wf t = true) → scan cx key false fuel s ts = (some ts', es) → ∀ t ∈ ts', wf t = true := by
  intro fuel
  induction fuel with
  | zero =>
    intro s ts ts' es hts h
    simp only [scan, Prod.mk.injEq, Option.some.injEq] at h
    rw [← h.1]; exact hts
  | succ fuel ih =>
    intro s ts ts' es hts h
    simp only [scan] at h
    cases hi : AL.Proc.indexOf AL.Proc.open3 s 0 with
    | none =>
      rw [hi] at h
      simp only [Prod.mk.injEq, Option.some.injEq] at h
      rw [← h.1]; exact hts
    | some idx =>
      rw [hi] at h
      simp only at h
      cases hc : checkOne cx key false (s.drop (idx + 3)) with
      | mk o es1 =>
        rw [hc] at h
        cases o with
        | none => simp at h
        | some p =>
          obtain ⟨ty, off⟩ := p
          simp only at h
          by_cases h0 : off = 0
          · simp only [h0, if_true, Prod.mk.injEq, Option.some.injEq] at h
            rw [← h.1]
            intro t ht; cases ht
          · simp only [h0, if_false] at h
            refine ih _ _ ts' es ?_ h
            intro t ht
            rcases List.mem_append.1 ht with ht | ht
            · exact hts t ht
            · simp only [List.mem_singleton] at ht
              rw [ht]
              exact checkOne_wf cx key _ ty off es1 hΓ hc

theorem checkExprsIn_wf (cx : Cx) (key s : String) (hΓ : WfEnv (envOf cx key)) (ts : List Ty) (es : List SemaErr)
    (h : checkExprsIn cx key false s = (some ts, es)) : ∀ t ∈ ts, wf t = true :=
  scan_wf cx key hΓ _ _ [] ts es (fun _ h => nomatch h) h

theorem checkOneExpression_wf (cx : Cx) (s : Option Str) (what key : String) (hΓ : WfEnv (envOf cx key)) (t : Ty)
    (h : (checkOneExpression cx s what key).1 = some t) : wf t = true := by
  unfold checkOneExpression at h
  cases s with
  | none => simp at h
  | some str =>
    simp only at h
    cases hc : checkExprsIn cx key false str.value with
    | mk o es =>
      rw [hc] at h
      cases o with
      | none => simp at h
      | some ts =>
        cases ts with
        | nil => simp at h
        | cons t1 r =>
          cases r with
          | nil =>
            simp only [Option.some.injEq] at h
            rw [← h]
            exact checkExprsIn_wf cx key str.value hΓ [t1] es hc t1 (List.mem_singleton.2 rfl)
          | cons _ _ => simp at h

theorem mustBe_fst (p : Ty → Bool) (code what : String) (s : Option Str) (r : Option Ty × List Diag) (t : Ty)
    (h : (mustBe p code what s r).1 = some t) : r.1 = some t := by
  unfold mustBe at h
  split at h
  · split at h
    · exact h
    · simp at h
  · exact h

theorem rawStringTy_wf (cx : Cx) (isNum : IsNumber) (v : String) (pos : AL.Matrix.P) (hΓ : WfEnv (envOf cx "jobs.<job_id>.strategy")) :
    wf (rawStringTy cx isNum v pos).1 = true := by
  unfold rawStringTy
  simp only
  split
  · cases hc : checkExprsIn cx "jobs.<job_id>.strategy" false v with
    | mk o es =>
      cases o with
      | none => rfl
      | some ts =>
        cases ts with
        | nil => rfl
        | cons t1 r =>
          cases r with
          | nil => exact checkExprsIn_wf cx _ v hΓ [t1] es hc t1 (List.mem_singleton.2 rfl)
          | cons _ _ => rfl
  · split
    · rfl
    · split
      · rfl
      · split <;> rfl

theorem rawTy_str (cx : Cx) (isNum : IsNumber) (v : String) (p : AL.Matrix.P) : rawTy cx isNum (.str v p) = rawStringTy cx isNum v p := by
  conv => lhs; unfold rawTy
theorem rawTy_arr_nil (cx : Cx) (isNum : IsNumber) (p : AL.Matrix.P) : rawTy cx isNum (.arr [] p) = (.arr .any false, []) := by
  conv => lhs; unfold rawTy
theorem rawTy_arr_cons (cx : Cx) (isNum : IsNumber) (e : AL.Matrix.Raw) (rest : List AL.Matrix.Raw) (p : AL.Matrix.P) :
    rawTy cx isNum (.arr (e :: rest) p) =
      (.arr (rawFold cx isNum (rawTy cx isNum e).1 rest).1 false,
       (rawTy cx isNum e).2 ++ (rawFold cx isNum (rawTy cx isNum e).1 rest).2) := by
  conv => lhs; unfold rawTy
theorem rawTy_obj (cx : Cx) (isNum : IsNumber) (ps : List (String × AL.Matrix.Raw)) (p : AL.Matrix.P) :
    rawTy cx isNum (.obj ps p) = (.obj (rawProps cx isNum ps).1 none, (rawProps cx isNum ps).2) := by
  conv => lhs; unfold rawTy
theorem rawFold_nil (cx : Cx) (isNum : IsNumber) (acc : Ty) : rawFold cx isNum acc [] = (acc, []) := by
  conv => lhs; unfold rawFold
theorem rawFold_cons (cx : Cx) (isNum : IsNumber) (acc : Ty) (v : AL.Matrix.Raw) (vs : List AL.Matrix.Raw) :
    rawFold cx isNum acc (v :: vs) =
      ((rawFold cx isNum (Ty.merge acc (rawTy cx isNum v).1) vs).1,
       (rawTy cx isNum v).2 ++ (rawFold cx isNum (Ty.merge acc (rawTy cx isNum v).1) vs).2) := by
  conv => lhs; unfold rawFold
theorem rawProps_nil (cx : Cx) (isNum : IsNumber) : rawProps cx isNum [] = ([], []) := by
  conv => lhs; unfold rawProps
theorem rawProps_cons (cx : Cx) (isNum : IsNumber) (k : String) (v : AL.Matrix.Raw) (ps : List (String × AL.Matrix.Raw)) :
    rawProps cx isNum ((k, v) :: ps) =
      (Ty.setProp k (rawTy cx isNum v).1 (rawProps cx isNum ps).1, (rawTy cx isNum v).2 ++ (rawProps cx isNum ps).2) := by
  conv => lhs; unfold rawProps

mutual
theorem rawTy_wf (cx : Cx) (isNum : IsNumber) (hΓ : WfEnv (envOf cx "jobs.<job_id>.strategy")) :
    (v : AL.Matrix.Raw) → wf (rawTy cx isNum v).1 = true
  | .str v p => by rw [rawTy_str]; exact rawStringTy_wf cx isNum v p hΓ
  | .arr [] p => by rw [rawTy_arr_nil]; rfl
  | .arr (e :: rest) p => by
    rw [rawTy_arr_cons]
    simp only [wf]
    exact rawFold_wf cx isNum hΓ rest _ (rawTy_wf cx isNum hΓ e)
  | .obj ps p => by
    rw [rawTy_obj]
    have := rawProps_wf cx isNum hΓ ps
    simp only [wf, this.1, this.2, Bool.and_self]
theorem rawFold_wf (cx : Cx) (isNum : IsNumber) (hΓ : WfEnv (envOf cx "jobs.<job_id>.strategy")) :
    (vs : List AL.Matrix.Raw) → ∀ acc, wf acc = true → wf (rawFold cx isNum acc vs).1 = true
  | [], acc, h => by rw [rawFold_nil]; exact h
  | v :: vs, acc, h => by
    rw [rawFold_cons]
    exact rawFold_wf cx isNum hΓ vs _ (Ty.merge_wf _ acc h (rawTy_wf cx isNum hΓ v))
theorem rawProps_wf (cx : Cx) (isNum : IsNumber) (hΓ : WfEnv (envOf cx "jobs.<job_id>.strategy")) :
    (ps : List (String × AL.Matrix.Raw)) → sortedKeys (rawProps cx isNum ps).1 = true ∧ wfProps (rawProps cx isNum ps).1 = true
  | [] => by rw [rawProps_nil]; exact ⟨rfl, rfl⟩
  | (k, v) :: ps => by
    rw [rawProps_cons]
    have := rawProps_wf cx isNum hΓ ps
    exact ⟨Ty.setProp_sorted _ this.1, Ty.setProp_wfProps (rawTy_wf cx isNum hΓ v) _ this.2⟩
end

theorem rowTy_wf (cx : Cx) (isNum : IsNumber) (hΓ : WfEnv (envOf cx "jobs.<job_id>.strategy")) (r : MatrixRow) :
    wf (rowTy cx isNum r).1 = true := by
  unfold rowTy
  cases he : r.expr with
  | some e =>
    simp only
    cases ha : (checkArrayExpression cx (some e) "matrix row" "jobs.<job_id>.strategy").1 with
    | none => rfl
    | some t =>
      have := checkOneExpression_wf cx (some e) "matrix row" _ hΓ t (mustBe_fst _ _ _ _ _ t ha)
      cases t with
      | arr el d => simpa [wf] using this
      | _ => rfl
  | none =>
    simp only
    cases r.values.getD [] with
    | nil => rfl
    | cons v vs => exact rawFold_wf cx isNum hΓ vs _ (rawTy_wf cx isNum hΓ v)

theorem rowsObj_wf (cx : Cx) (isNum : IsNumber) (hΓ : WfEnv (envOf cx "jobs.<job_id>.strategy")) (rows : List (String × MatrixRow)) :
    wf (.obj (rowsProps cx isNum rows) none) = true := by
  simp only [wf, rowsProps, AL.Visit.propsFold]
  rw [AL.Sema.foldl_setProp_sorted _ [] rfl, AL.Sema.foldl_setProp_wfProps _ ?_ [] rfl]
  · rfl
  · intro e hm
    simp only [List.mem_map] at hm
    obtain ⟨kv, _, rfl⟩ := hm
    exact rowTy_wf cx isNum hΓ kv.2

/-- the matrix type of a matrix of rows (literal or expressions), without `include:`, is well formed -/
theorem checkMatrix_rows_wf (cx : Cx) (isNum : IsNumber) (hΓ : WfEnv (envOf cx "jobs.<job_id>.strategy")) (m : Matrix)
    (he : m.expr = none) (hi : m.incl = none) : wf (checkMatrix cx isNum m).1 = true := by
  rw [checkMatrix_lit cx isNum m he, hi]
  exact rowsObj_wf cx isNum hΓ _

theorem assignsFold_wf (cx : Cx) (isNum : IsNumber) (hΓ : WfEnv (envOf cx "jobs.<job_id>.strategy")) :
    ∀ (as : List (String × MatrixAssign)) (ps : List (String × Ty)) (m : Option Ty) (ds : List Diag),
      wf (.obj ps m) = true →
      wf (as.foldl (fun (a : Ty × List Diag) kv =>
          let t := rawTy cx isNum kv.2.value
          match a.1 with
          | .obj ps m =>
            let ty' := match Ty.lookup kv.1 ps with
              | some old => Ty.merge old t.1
              | none => t.1
            (.obj (Ty.setProp kv.1 ty' ps) m, a.2 ++ t.2)
          | o => (o, a.2 ++ t.2)) (.obj ps m, ds)).1 = true := by
  intro as
  induction as with
  | nil => intro ps m ds h; exact h
  | cons kv rest ih =>
    intro ps m ds h
    simp only [List.foldl_cons]
    apply ih
    rw [Ty.wf_obj] at h ⊢
    simp only [Bool.and_eq_true] at h ⊢
    refine ⟨⟨Ty.setProp_sorted ps h.1.1, Ty.setProp_wfProps ?_ ps h.1.2⟩, h.2⟩
    cases hl : Ty.lookup kv.1 ps with
    | none => exact rawTy_wf cx isNum hΓ _
    | some old => exact Ty.merge_wf _ old (Ty.lookup_wf ps h.1.2 hl) (rawTy_wf cx isNum hΓ _)

theorem includeCombo_wf (cx : Cx) (isNum : IsNumber) (hΓ : WfEnv (envOf cx "jobs.<job_id>.strategy")) (c : MatrixCombination)
    (ps : List (String × Ty)) (m : Option Ty) (ds : List Diag) (h : wf (.obj ps m) = true) :
    wf (includeCombo cx isNum (.obj ps m, ds) c).1 = true := by
  cases hc : c.expr with
  | none =>
    simp only [includeCombo, hc]
    exact assignsFold_wf cx isNum hΓ _ ps m ds h
  | some e =>
    rw [includeCombo_expr cx isNum c e hc]
    cases ht : comboExprTy cx e with
    | none => exact h
    | some ty =>
      have hty : wf ty = true := checkOneExpression_wf cx (some e) _ _ hΓ ty ht
      have hopen : wf (.obj ps (some .any)) = true := by
        rw [Ty.wf_obj] at h ⊢
        simp only [Bool.and_eq_true] at h ⊢
        exact ⟨h.1, rfl⟩
      cases ty with
      | obj qs m' => exact Ty.merge_wf _ _ h hty
      | _ => exact hopen

theorem includeFold_wf (cx : Cx) (isNum : IsNumber) (hΓ : WfEnv (envOf cx "jobs.<job_id>.strategy")) :
    ∀ (cs : List MatrixCombination) (ps : List (String × Ty)) (m : Option Ty) (ds : List Diag), wf (.obj ps m) = true →
    wf (cs.foldl (includeCombo cx isNum) (.obj ps m, ds)).1 = true := by
  intro cs
  induction cs with
  | nil => intro ps m ds h; exact h
  | cons c rest ih =>
    intro ps m ds h
    simp only [List.foldl_cons]
    obtain ⟨ps1, m1, e1, _, _⟩ := includeCombo_step cx isNum c ps m ds
    have hw := includeCombo_wf cx isNum hΓ c ps m ds h
    have hpair : includeCombo cx isNum (.obj ps m, ds) c = (.obj ps1 m1, (includeCombo cx isNum (.obj ps m, ds) c).2) := by
      rw [← e1]
    rw [hpair]
    rw [e1] at hw
    exact ih ps1 m1 _ hw

/-- **the type of every literal matrix** (`matrix:` is a mapping: rows, `include` of any kind) **is well formed** -/
theorem checkMatrix_lit_wf (cx : Cx) (isNum : IsNumber) (hΓ : WfEnv (envOf cx "jobs.<job_id>.strategy")) (m : Matrix)
    (he : m.expr = none) : wf (checkMatrix cx isNum m).1 = true := by
  have hrows : wf (.obj (rowsProps cx isNum (m.rows.getD [])) none) = true := rowsObj_wf cx isNum hΓ _
  rw [checkMatrix_lit cx isNum m he]
  cases m.incl with
  | none => exact hrows
  | some inc =>
    simp only
    cases inc.expr with
    | none => exact includeFold_wf cx isNum hΓ _ _ none [] hrows
    | some e =>
      simp only
      cases hr : (checkOneExpression cx (some e) "include" "jobs.<job_id>.strategy").1 with
      | none => rfl
      | some t =>
        have ht := checkOneExpression_wf cx (some e) _ _ hΓ t hr
        cases t with
        | arr el d =>
          simp only
          have hmw := Ty.merge_wf el _ hrows (by simpa [wf] using ht)
          generalize Ty.merge (.obj (rowsProps cx isNum (m.rows.getD [])) none) el = mt at hmw
          cases mt with
          | obj ps mm => exact hmw
          | _ => rfl
        | _ => rfl

/-- what the state outside the jobs must satisfy for the environments to be well formed — true of the state `rule` visits
every job from (`ruleCx_wf`) -/
structure Cx0Wf (cx0 : Cx) : Prop where
  matrix : wfOpt cx0.st.matrixTy = true
  steps : wfOpt cx0.st.stepsTy = true
  jobs : wfOpt cx0.jobsTy = true
  hdr : HdrWf cx0.hdr
  proj : ProjWf cx0.proj

theorem ruleCx_wf (lower : String → String) (proj : ProjView) (w : Workflow) (hp : ProjWf proj) :
    Cx0Wf (ruleCx lower proj w) := by
  obtain ⟨a, _, c, _, e⟩ := ruleCx_scope lower proj w
  refine ⟨by rw [a]; rfl, by rw [a]; rfl, by rw [c]; rfl, ruleCx_hdr_wf lower proj w, by rw [e]; exact hp⟩

theorem cxL_wf : Cx0Wf cxL :=
  ⟨rfl, rfl, rfl, And.intro (fun _ h => nomatch h) (fun _ h => nomatch h), projWf_empty⟩

/-- the environment the matrix of a job is checked in is well formed -/
theorem jobCx1_wf (cx0 : Cx) (h0 : Cx0Wf cx0) (jobs : List (String × Job)) (n : Job) (key : String) :
    WfEnv (envOf (jobCx1 cx0 jobs n) key) :=
  envOf_wf _ key h0.matrix h0.steps (needsTy_wf _ _ _ _ (h0.proj.outs _)) h0.jobs h0.hdr.1 h0.hdr.2

/-- **workflow-level monotonicity in the matrix, for every workflow**: job `n'` = job `n` (a literal matrix) with another
matrix whose type is looser; after the same steps, whatever `check` accepts in `n` it accepts in `n'` — for every
expression and every workflow key. `Cx0Wf cx0` holds of `ruleCx …` when the project view is well formed (`ruleCx_wf`). -/
theorem matrix_looser_mono_wf (cx0 : Cx) (h0 : Cx0Wf cx0) (isNum : IsNumber) (jobs : List (String × Job)) (n n' : Job)
    (hid : n'.id = n.id) (hneeds : n'.needs = n.needs) (m m' : Matrix) (hm : matrixOf n = some m) (hm' : matrixOf n' = some m')
    (he : m.expr = none)
    (hL : LooserD (checkMatrix (jobCx1 cx0 jobs n) isNum m).1 (checkMatrix (jobCx1 cx0 jobs n) isNum m').1)
    (steps : List Step) (key : String) (e : E)
    (hok : (check (envOf (stepCx cx0 isNum jobs n steps) key) e).errs = []) :
    (check (envOf (stepCx cx0 isNum jobs n' steps) key) e).errs = [] := by
  obtain ⟨j1, p1⟩ := stepCx_jobsTy_proj cx0 isNum jobs n steps
  obtain ⟨j2, p2⟩ := stepCx_jobsTy_proj cx0 isNum jobs n' steps
  have hmwf : wfOpt (jobCx cx0 isNum jobs n).st.matrixTy = true := by
    rw [jobCx_eq, hm]
    exact checkMatrix_lit_wf _ isNum (jobCx1_wf cx0 h0 jobs n _) m he
  have hwf := afterSteps_wf cx0 isNum jobs n steps _ (stepCx_after cx0 isNum jobs n steps) (by rw [j1]; exact h0.jobs)
    h0.hdr h0.proj hmwf key
  exact matrix_looser_mono cx0 isNum jobs n n' hid hneeds m m' hm hm' hL steps _ _
    (stepCx_after cx0 isNum jobs n steps) (stepCx_after cx0 isNum jobs n' steps) (j2.trans j1.symm) (by rw [p2, p1]) key e hwf hok

/-- **5a, for every workflow**: the value of one matrix row (matrices of rows, without `include:`) replaced by an
expression of unknown type never adds a diagnostic to a step of the job -/
theorem row_replaced_mono_wf (cx0 : Cx) (h0 : Cx0Wf cx0) (isNum : IsNumber) (jobs : List (String × Job)) (n n' : Job)
    (hid : n'.id = n.id) (hneeds : n'.needs = n.needs) (m m' : Matrix) (hm : matrixOf n = some m) (hm' : matrixOf n' = some m')
    (pre post : List (String × MatrixRow)) (k : String) (r r' : MatrixRow)
    (he : m.expr = none) (hi : m.incl = none) (he' : m'.expr = none) (hi' : m'.incl = none)
    (hr : m.rows.getD [] = pre ++ (k, r) :: post) (hr' : m'.rows.getD [] = pre ++ (k, r') :: post)
    (hany : (rowTy (jobCx1 cx0 jobs n) isNum r').1 = .any)
    (steps : List Step) (key : String) (e : E)
    (hok : (check (envOf (stepCx cx0 isNum jobs n steps) key) e).errs = []) :
    (check (envOf (stepCx cx0 isNum jobs n' steps) key) e).errs = [] :=
  matrix_looser_mono_wf cx0 h0 isNum jobs n n' hid hneeds m m' hm hm' he
    (matrix_row_replaced_looser _ isNum m m' pre post k r r' he hi he' hi' hr hr' hany) steps key e hok

/-- the matrix type only gets looser when an entry `- ${{ <unknown> }}` is APPENDED to a literal `include:` list: the
object is opened, nothing else changes -/
theorem include_entry_appended_looser (cx : Cx) (isNum : IsNumber) (m m' : Matrix) (inc inc' : MatrixCombinations)
    (c : MatrixCombination) (e : Str) (ty : Ty)
    (he : m.expr = none) (he' : m'.expr = none) (hrows : m'.rows = m.rows)
    (hi : m.incl = some inc) (hi' : m'.incl = some inc') (hie : inc.expr = none) (hie' : inc'.expr = none)
    (hcs : inc'.combinations.getD [] = inc.combinations.getD [] ++ [c]) (hc : c.expr = some e)
    (hty : comboExprTy cx e = some ty) (hno : ∀ qs mm, ty ≠ .obj qs mm) :
    LooserD (checkMatrix cx isNum m).1 (checkMatrix cx isNum m').1 := by
  rw [checkMatrix_lit cx isNum m he, checkMatrix_lit cx isNum m' he', hi, hi', hrows]
  simp only [hie, hie', hcs, List.foldl_append, List.foldl_cons, List.foldl_nil]
  obtain ⟨ps1, m1, e1, _, _⟩ := includeFold_step cx isNum (inc.combinations.getD []) (rowsProps cx isNum (m.rows.getD [])) none []
  generalize hA : (inc.combinations.getD []).foldl (includeCombo cx isNum) (.obj (rowsProps cx isNum (m.rows.getD [])) none, []) = A at e1
  obtain ⟨A1, A2⟩ := A
  simp only at e1
  subst e1
  rw [includeCombo_expr cx isNum c e hc, hty]
  cases ty with
  | obj qs mm => exact absurd rfl (hno qs mm)
  | _ => exact .obj (LooserDProps.refl ps1) (AL.Ty.LooserDMapped.some_any m1)

/-- **5b. an `include` entry**: appending `- ${{ <unknown> }}` to a literal `include:` list never adds a diagnostic to a step
of the job -/
theorem include_entry_appended_mono_wf (cx0 : Cx) (h0 : Cx0Wf cx0) (isNum : IsNumber) (jobs : List (String × Job)) (n n' : Job)
    (hid : n'.id = n.id) (hneeds : n'.needs = n.needs) (m m' : Matrix) (hm : matrixOf n = some m) (hm' : matrixOf n' = some m')
    (inc inc' : MatrixCombinations) (c : MatrixCombination) (e : Str) (ty : Ty)
    (he : m.expr = none) (he' : m'.expr = none) (hrows : m'.rows = m.rows)
    (hi : m.incl = some inc) (hi' : m'.incl = some inc') (hie : inc.expr = none) (hie' : inc'.expr = none)
    (hcs : inc'.combinations.getD [] = inc.combinations.getD [] ++ [c]) (hc : c.expr = some e)
    (hty : comboExprTy (jobCx1 cx0 jobs n) e = some ty) (hno : ∀ qs mm, ty ≠ .obj qs mm)
    (steps : List Step) (key : String) (x : E)
    (hok : (check (envOf (stepCx cx0 isNum jobs n steps) key) x).errs = []) :
    (check (envOf (stepCx cx0 isNum jobs n' steps) key) x).errs = [] :=
  matrix_looser_mono_wf cx0 h0 isNum jobs n n' hid hneeds m m' hm hm' he
    (include_entry_appended_looser _ isNum m m' inc inc' c e ty he he' hrows hi hi' hie hie' hcs hc hty hno) steps key x hok

/-! ### §5 on concrete data: `ver: ['1']` replaced by `ver: ${{ fromJSON(vars.LIST) }}` -/

def rowVer : String × MatrixRow := ("ver", ⟨some (str "ver"), some [.str "1" p0], none⟩)
def rowVerDyn : String × MatrixRow := ("ver", ⟨some (str "ver"), none, some (str "${{ fromJSON(vars.LIST) }}")⟩)
def mVerLit : Matrix := { rows := some [rowOs, rowVer], pos := p0 }
def mVerDyn : Matrix := { rows := some [rowOs, rowVerDyn], pos := p0 }
/-- `matrix.ver == 'x'` -/
def eVer : E := .cmp .eq (.objDeref (.var "matrix") "ver") (.str "x")

theorem mVerLit_ty : (checkMatrix (jobCx1 cxL [] (jobWith "mv" mVerLit)) noNum mVerLit).1 =
    .obj [("os", .string), ("ver", .string)] none := tyEq_sound _ _ (by decide +kernel)

/-- accepted with the literal row … -/
theorem eVer_ok : (check (envOf (stepCx cxL noNum [] (jobWith "mv" mVerLit) [stR]) keyRun) eVer).errs = [] := by
  have hl := matrix_var cxL noNum [] (jobWith "mv" mVerLit) _ (stepCx_after cxL noNum [] (jobWith "mv" mVerLit) [stR]).toInJob
    mVerLit rfl keyRun
  rw [mVerLit_ty] at hl
  obtain ⟨t, e⟩ := check_ctx_prop _ "matrix" "ver" _ hl
    (matrix_avail cxL noNum [] _ _ (stepCx_after cxL noNum [] (jobWith "mv" mVerLit) [stR]).toInJob keyRun av_matrix_run)
  rw [objDerefTy_found _ _ "ver" _ none .string (by simp [Ty.lookup])] at t e
  unfold eVer
  rw [check_cmp]
  simp only [wrap_errs, e, t, check_str, wrap_ty, List.nil_append]
  simp [validCompare]

/-- … hence with the row given by an expression (an instance of `row_replaced_mono_wf`; `matrix.ver` is `any` there) -/
example : (check (envOf (stepCx cxL noNum [] (jobWith "mv" mVerDyn) [stR]) keyRun) eVer).errs = [] :=
  row_replaced_mono_wf cxL cxL_wf noNum [] (jobWith "mv" mVerLit) (jobWith "mv" mVerDyn) rfl rfl mVerLit mVerDyn rfl rfl
    [rowOs] [] "ver" rowVer.2 rowVerDyn.2 rfl rfl rfl rfl rfl rfl (dynRow_any _ _ _ rfl) [stR] keyRun eVer eVer_ok

example : Cx0Wf (ruleCx AL.PW.asciiLower {} wX) := ruleCx_wf _ _ _ projWf_empty

def mIncLit : Matrix := { rows := some [rowOs], incl := some ⟨some [cLit], none⟩, pos := p0 }

theorem mIncLit_ty : (checkMatrix (jobCx1 cxL [] (jobWith "ma" mIncLit)) noNum mIncLit).1 =
    .obj [("extra", .bool), ("os", .string)] none := tyEq_sound _ _ (by decide +kernel)

/-- `matrix.extra` (a key only `include` assigns) is accepted with `include: [{os: win, extra: true}]` … -/
theorem extra_ok : (check (envOf (stepCx cxL noNum [] (jobWith "ma" mIncLit) [stR]) keyRun) (.objDeref (.var "matrix") "extra")).errs = [] := by
  have hl := matrix_var cxL noNum [] (jobWith "ma" mIncLit) _ (stepCx_after cxL noNum [] (jobWith "ma" mIncLit) [stR]).toInJob
    mIncLit rfl keyRun
  rw [mIncLit_ty] at hl
  obtain ⟨_, e⟩ := check_ctx_prop _ "matrix" "extra" _ hl
    (matrix_avail cxL noNum [] _ _ (stepCx_after cxL noNum [] (jobWith "ma" mIncLit) [stR]).toInJob keyRun av_matrix_run)
  rw [objDerefTy_found _ _ "extra" _ none .bool (by simp [Ty.lookup])] at e
  exact e

/-- … hence with `- ${{ fromJSON(vars.ENTRY) }}` appended (an instance of `include_entry_appended_mono_wf`) -/
example : (check (envOf (stepCx cxL noNum [] (jobWith "ma" mDynEntry) [stR]) keyRun) (.objDeref (.var "matrix") "extra")).errs = [] :=
  include_entry_appended_mono_wf cxL cxL_wf noNum [] (jobWith "ma" mIncLit) (jobWith "ma" mDynEntry) rfl rfl mIncLit mDynEntry
    rfl rfl ⟨some [cLit], none⟩ incDynEntry cDyn _ .any rfl rfl rfl rfl rfl rfl rfl rfl rfl (dynEntry_any ..) (fun _ _ h => nomatch h)
    [stR] keyRun _ extra_ok

/-! ### 5c. the whole matrix / the whole `include:` replaced by an expression: NOT reached in general

Full statement (not proved): for jobs `n`, `n'` as in `matrix_looser_mono_wf`, `n` with a literal matrix and `n'` with
`matrix: ${{ <unknown> }}` or `include: ${{ <unknown> }}`,
    (check (envOf (stepCx cx0 isNum jobs n steps) key) e).errs = [] → (check (envOf (stepCx cx0 isNum jobs n' steps) key) e).errs = []
for EVERY expression `e`. The matrix type of `n'` is the EMPTY open object (`matrix_expr_unknown`,
`matrix_include_expr_unknown`): it has FEWER keys than the strict object of `n`, so the two are not related by `Looser` /
`LooserD` (same keys, pointwise looser) and AL.C06.mono' does not apply (the monotonicity of AL.Lemmas.SemaMono is not
proved for a relation that lets an opened object drop keys). What IS proved: for the expressions that are access
paths below `matrix` — the ones "undefined property" is about — nothing at all is reported in `n'`, whatever `n` was. -/
theorem matrix_replaced_mono_partial (cx0 : Cx) (isNum : IsNumber) (jobs : List (String × Job)) (n' : Job) (cx' : Cx)
    (hcx' : InJob cx0 isNum jobs n' cx') (m' : Matrix) (hm' : matrixOf n' = some m')
    (hshape : (∃ e, m'.expr = some e ∧
        ∀ ps mm, (checkObjectExpression (jobCx1 cx0 jobs n') (some e) "matrix" "jobs.<job_id>.strategy").1 ≠ some (.obj ps mm)) ∨
      (∃ inc e, m'.expr = none ∧ m'.incl = some inc ∧ inc.expr = some e ∧
        ∀ qs mq d, (checkOneExpression (jobCx1 cx0 jobs n') (some e) "include" "jobs.<job_id>.strategy").1 ≠
          some (.arr (.obj qs mq) d)))
    (key : String) (p : List Acc)
    (ha : (AL.Visit.availability key).1.contains (cx0.lower "matrix") = true) (hp : okPathObj p = true) :
    (check (envOf cx' key) (below (.var "matrix") p)).errs = [] := by
  rcases hshape with ⟨e, he, hun⟩ | ⟨inc, e, he, hi, hie, hun⟩
  · exact matrix_expr_silent cx0 isNum jobs n' cx' hcx' m' hm' e he hun key p ha hp
  · exact matrix_include_expr_silent cx0 isNum jobs n' cx' hcx' m' hm' inc e he hi hie hun key p ha hp

/-! ### remaining hypotheses, on the data above -/

/-- whatever the job's matrix was before: with `matrix: ${{ fromJSON(vars.M) }}` no access below `matrix` is reported -/
example : (check (envOf (stepCx cxL noNum [] (jobWith "me" mExprDyn) [stR]) keyRun) (below (.var "matrix") [.prop "ver", .prop "x"])).errs = [] :=
  matrix_replaced_mono_partial cxL noNum [] _ _ (stepCx_after ..).toInJob mExprDyn rfl (Or.inl ⟨_, rfl, mExprDyn_unknown⟩)
    keyRun _ av_matrix_run rfl

example (name : String) :
    (check (envOf (stepCx cxL noNum [] (jobWith "me" mExprDyn) [stR]) keyRun) (.objDeref (.var "matrix") name)).errs = [] :=
  matrix_expr_open_silent cxL noNum [] _ _ (stepCx_after ..).toInJob mExprDyn rfl _ rfl (fun ps => mExprDyn_unknown ps none)
    keyRun name av_matrix_run

example : checkSig ⟨"startsWith", .bool, [.string, .string], false⟩ [.any, .any] = none ∨
    ∃ as, checkSig ⟨"startsWith", .bool, [.string, .string], false⟩ [.any, .any] = some (err "arg-count" as) :=
  call_any_args _ _ (by simp)

example : actionOutputsTy (fun _ => none) (some (str "some/unknown-action@v1")) = .obj [] (some .string) :=
  outputs_unknown_action _ _ uses_unknown.1 uses_unknown.2 popular_unknown
example : actionOutputsTy (fun _ => none) (some (str "./my-action")) = .obj [] (some .string) :=
  outputs_unreadable_local _ _ uses_local rfl
example : actionOutputsTy (fun _ => some (.obj [("o", .string)] none)) (some (str "./my-action")) = .obj [("o", .string)] none :=
  outputs_local _ _ _ uses_local rfl
example : actionOutputsTy (fun _ => none) (some (str "actions/github-script@v7")) = .obj [] (some .any) :=
  outputs_github_script _ _ uses_gs.1 uses_gs.2
example : actionOutputsTy (fun _ => none) (some (str "actions/cache@v4")) = .obj [("cache-hit", .string)] none :=
  outputs_popular _ _ _ uses_cache.1 uses_cache.2 popular_cache
/-- the table entry behind it: strict, exactly `cache-hit` -/
example : ∃ ps, popularOutputs "actions/cache@v4" = some (.obj ps none) ∧ Ty.lookup "cache-hit" ps = some .string ∧
    Ty.lookup "hit" ps = none :=
  ⟨_, popular_cache, by simp [Ty.lookup], by simp [Ty.lookup]⟩
example : popularOutputs "actions/cache@v4" = some (.obj [("cache-hit", .string)] none) →
    (.obj [("cache-hit", .string)] none : Ty) = .obj [] (some .any) ∨ ∃ ps ins outs dep, (.obj [("cache-hit", .string)] none : Ty) = .obj ps none ∧
      (∃ ch ∈ AL.Gen.popularChunks, ("actions/cache@v4", ins, outs, dep, false) ∈ ch) ∧
      ∀ name, Ty.lookup name ps = if name ∈ outs.map (fun o => AL.PW.asciiLower o.1) then some .string else none :=
  popular_outputs_shape _ _

/-- the checker-level lemmas on `steps : {build: {outputs: {digest: string}}}` (AL.C05.exΓ) -/
example : (check AL.C05.exΓ (.objDeref (.objDeref (.var "steps") "build") "outputs")).errs = [] ∧
    (check AL.C05.exΓ (.objDeref (.objDeref (.var "steps") "build") "outputs")).ty = .obj [("digest", .string)] none :=
  check_ctx_j_outputs AL.C05.exΓ "steps" "build" _ _ none none _ rfl rfl rfl rfl
example : AL.C05.undefinedProp "sha" (check AL.C05.exΓ (.objDeref (.objDeref (.objDeref (.var "steps") "build") "outputs") "sha")) :=
  ((check_prop_of_strict AL.C05.exΓ _ "sha" [("digest", .string)] rfl
    (check_ctx_j_outputs AL.C05.exΓ "steps" "build" _ _ none none _ rfl rfl rfl rfl).1
    (check_ctx_j_outputs AL.C05.exΓ "steps" "build" _ _ none none _ rfl rfl rfl rfl).2).2).2 rfl
example : (check AL.C05.exΓ (.objDeref (.objDeref (.var "needs") "j") "o")).errs = [] := by
  obtain ⟨t, e⟩ := check_ctx_prop AL.C05.exΓ "needs" "j" _ rfl rfl
  refine (below_silent AL.C05.exΓ [.prop "o"] _ false ?_ ?_ rfl).1
  · rw [e]; rfl
  · rw [t]; rfl
example : objDerefTy AL.C05.exΓ false "digest" (.obj [("digest", .string)] (some .any)) = (.string, []) :=
  objDerefTy_found _ _ _ _ _ _ rfl

/-- open outputs of whatever kind (here: github-script): no output name is reported -/
example (name : String) : (check (envOf (stepCx cxL noNum [] jEx exPre) keyRun)
      (.objDeref (.objDeref (.objDeref (.var "steps") "gs") "outputs") name)).errs = [] := by
  obtain ⟨hex, hall⟩ := exPre_id "gs" stG (str "gs") (by simp [exPre]) rfl (by decide +kernel) uniq_gs
    (fun s => ∃ qs mt, stepOutputs cxL.proj s = .obj qs (some mt)) ⟨[], .any, stG_outputs⟩
  exact steps_outputs_open_silent cxL noNum [] jEx exPre _ (stepCx_after ..) keyRun "gs" name av_steps_run hex hall

end AL.C06R
