import AL.Lemmas.C14DCalleeDoc
import AL.Lemmas.C14DAction
import AL.Lemmas.C14DStep
import AL.Lemmas.C14DSim
import AL.Lemmas.C14DKinds
import AL.Props.C08Rules
import AL.Props.C09Cron
import AL.Props.C06Rule
import AL.Props.C05Proj
/-
  C14 — "calls are checked exactly against the callee's declared interface" — FROM THE TWO DOCUMENTS TO THE DIAGNOSTICS.

  The callee's interface and the caller's `with:` / `secrets:` are read off the yaml.Node trees by readers written with
  `attr` (the value under a key of a mapping) and `secEntries` (the pairs of a node that is a mapping) — no parser, no
  decoder (AL/Lemmas/C14DBase, C14DCallee, C14DCaller, C14DAction; `withEntries`, `secretEntries`, `stepWithEntries`, which
  leaves out the keys that fold to `entrypoint` / `args`, in §3 below):

    entries "inputs" cd        the key/value pairs of `on.workflow_call.inputs` of a called workflow's document
    inputRequired v            `required: true` and no (non-null) `default:`             (requiredTrue v for a secret)
    readMeta cfg cd            the interface: ids = `lower` of the keys, names = the keys, required as above
    actSection "inputs" ad     the pairs of `inputs:` of an `action.yml` document; actInputRequired (yaml.v3's bool decoding)
    jobEntries d               the pairs of `jobs:` of the caller;  withEntries / secretEntries jn, inheritsSecrets jn
    stepNodes jn               the elements of `steps:`;            stepWithEntries sn

  §1  the callee of a call, a reusable workflow: the interface in the AST, the interface file and the reader agree
      (`callee_interface_read`);  §2  the same for the `action.yml` of a local action (`action_interface_read`);
  §3  the caller: the job / step the parser builds carries the `with:` / `secrets:` entries the reader sees, ids folded;
  §4  end to end for a called workflow (`CalleeOk`, `CallResolves`, `CallSite`): the job's diagnostics are `checkLocal` of
      the two documents (`call_view`); each code in terms of the documents (`call_*_doc`); the complete list, nothing
      twice (`call_sig_exact`); the whole file's output (`lint_wc_sound` / `lint_wc_complete`); for one calling job an iff
      on the output of `AL.ProjLint.lint` (`sole_call_*_lint_iff`);
  §5  end to end for a local action (`ActionResolves`, `StepSite`; `step_view`, `sole_step_*_lint_iff`). The metadata `am`
      the project has for the action is given: `ActionResolves` ties its inputs / outputs to the document of `action.yml`,
      nothing derives `env.actions.disk` from that document (for a called workflow `CallResolves.disk` is `diskOfDoc` of
      the callee's document);
  §6  outputs: `steps.<id>.outputs.<x>` and `needs.<job>.outputs.<x>` from the two documents to the expression rule
      (`steps_output_reported_iff_doc`, `needs_output_reported_iff_documents`);
  §7  instances: one callee, three callers, one action.yml: every hypothesis is discharged, both sides of every iff occur
-/
namespace AL.C14D
open AL AL.Yaml AL.PW AL.Ast AL.CallMeta AL.C10M

/-! ## 1. the callee's side: a reusable workflow -/

/-- the test the harness evaluates on every generated tree (AL.CallMeta.docHypB: yaml.v3's guarantees for the
`workflow_call:` section, no alias and no `!!binary` in it, no `!!str` scalar under a `required:`) covers what the reader
needs -/
theorem callee_sane (cfg : Cfg) (cd : Node) (hh : docHypB cfg cd = true) : CalleeSane cd := by
  intro c hc
  cases hd : cd.content with
  | nil => simp [docHypB, hd] at hh
  | cons root rest =>
    simp only [docHypB, hd, List.all_eq_true, Bool.and_eq_true, Bool.or_eq_true, bne_iff_ne, ne_eq] at hh
    simp only [callNode, onNode, rootOf, hd, List.head?_cons, Option.bind_some] at hc
    cases hon : attr "on" root with
    | none => simp [hon] at hc
    | some on =>
      simp only [hon, Option.bind_some] at hc
      obtain ⟨k, hmem, hk⟩ := attr_mem hon
      have hok := onOkB_sound cfg on ((hh (k, on) hmem).2.resolve_left (fun c => c hk))
      obtain ⟨k2, hmem2, hk2⟩ := attr_mem hc
      obtain ⟨h1, h2⟩ := hok.2 (k2, c) hmem2 hk2
      exact ⟨saneB_sound 3 c h1, noPlaceholderB_sound c h2⟩

/-- **C14, the callee's interface, from the document**: for a called workflow's document the parser accepts without a
diagnostic and that passes `docHypB` (yaml.v3's guarantees; no alias, no `!!binary`), `lower` keeping `workflow_call`: the
interface the linter works with — whether taken from the AST (`WriteWorkflowCallEvent`) or decoded from the file
(`parseReusableWorkflowMetadata`) — is the interface READ FROM THE DOCUMENT: ids = folded keys of `on.workflow_call.inputs` / `secrets` / `outputs`, in order,
an input required iff `required: true` and no `default:` -/
theorem callee_interface_read (cfg : Cfg) (cd : Node) (hlow : cfg.lower "workflow_call" = "workflow_call")
    (hh : docHypB cfg cd = true) (hc : (parse cfg cd).2 = []) (m : Meta) (hm : fromDocAst cfg cd = some m) :
    m = readMeta cfg cd ∧ fromDoc cfg cd = .ok (readMeta cfg cd) := by
  have h1 := fromDocAst_read cfg cd hc (callee_sane cfg cd hh) m hm
  exact ⟨h1, h1 ▸ document_interface_agrees_checked cfg cd hlow hh hc m hm⟩

theorem readMeta_inputs (cfg : Cfg) (cd : Node) :
    (readMeta cfg cd).inputs = (entries "inputs" cd).map fun q => (cfg.lower q.1.value, ⟨q.1.value, inputRequired q.2, typeOf q.2⟩) := by
  simp only [readMeta, entries]
  cases callNode cd <;> simp [readCall, inputsOf]

theorem readMeta_secrets (cfg : Cfg) (cd : Node) :
    (readMeta cfg cd).secrets = (entries "secrets" cd).map fun q => (cfg.lower q.1.value, ⟨q.1.value, requiredTrue q.2⟩) := by
  simp only [readMeta, entries]
  cases callNode cd <;> simp [readCall, secretsOf]

theorem readMeta_outputs (cfg : Cfg) (cd : Node) :
    (readMeta cfg cd).outputs = (entries "outputs" cd).map fun q => (cfg.lower q.1.value, q.1.value) := by
  simp only [readMeta, entries]
  cases callNode cd <;> simp [readCall, outputsOf]

theorem declared_input_iff (cfg : Cfg) (cd : Node) (id : String) :
    id ∈ AL.ProjCall.keysOf (readMeta cfg cd).inputs ↔ ∃ q ∈ entries "inputs" cd, cfg.lower q.1.value = id := by
  simp [AL.ProjCall.keysOf, readMeta_inputs]

theorem declared_secret_iff (cfg : Cfg) (cd : Node) (id : String) :
    id ∈ AL.ProjCall.keysOf (readMeta cfg cd).secrets ↔ ∃ q ∈ entries "secrets" cd, cfg.lower q.1.value = id := by
  simp [AL.ProjCall.keysOf, readMeta_secrets]

theorem declared_output_iff (cfg : Cfg) (cd : Node) (id : String) :
    id ∈ (readMeta cfg cd).outputs.map (·.1) ↔ ∃ q ∈ entries "outputs" cd, cfg.lower q.1.value = id := by
  simp [readMeta_outputs]

theorem requiredTrue_iff (v : Node) :
    requiredTrue v = true ↔ ∃ r, attr "required" v = some r ∧ r.kind = .scalar ∧ r.tag = "!!bool" ∧ r.value ∈ trueWords := by
  simp only [requiredTrue]
  cases hr : attr "required" v with
  | none => simp
  | some r =>
    simp only [saysTrue, Bool.and_eq_true, decide_eq_true_eq, List.contains_iff_mem, Option.some.injEq, exists_eq_left']
    exact ⟨fun h => ⟨h.1.1, h.1.2, h.2⟩, fun h => ⟨⟨h.1, h.2.1⟩, h.2.2⟩⟩

theorem hasDefault_false_iff (v : Node) : hasDefault v = false ↔ ¬ ∃ d, attr "default" v = some d ∧ d.isNull = false := by
  simp only [hasDefault]
  cases attr "default" v with
  | none => simp
  | some d => cases hn : d.isNull <;> simp [hn]

theorem inputRequired_iff (v : Node) :
    inputRequired v = true ↔
      (∃ r, attr "required" v = some r ∧ r.kind = .scalar ∧ r.tag = "!!bool" ∧ r.value ∈ trueWords) ∧
      ¬ ∃ d, attr "default" v = some d ∧ d.isNull = false := by
  rw [inputRequired, Bool.and_eq_true, Bool.not_eq_true', requiredTrue_iff, hasDefault_false_iff]

theorem declared_input_entry_iff (cfg : Cfg) (cd : Node) (id : String) (i : CallMeta.Input) :
    (id, i) ∈ (readMeta cfg cd).inputs ↔
      ∃ q ∈ entries "inputs" cd, id = cfg.lower q.1.value ∧ i.name = q.1.value ∧ i.required = inputRequired q.2 ∧ i.ty = typeOf q.2 := by
  rw [readMeta_inputs]
  simp only [List.mem_map, Prod.mk.injEq]
  constructor
  · rintro ⟨q, hq, h1, h2⟩
    exact ⟨q, hq, h1.symm, by rw [← h2], by rw [← h2], by rw [← h2]⟩
  · rintro ⟨q, hq, h1, h2, h3, h4⟩
    refine ⟨q, hq, h1.symm, ?_⟩
    cases i
    simp_all

theorem declared_secret_entry_iff (cfg : Cfg) (cd : Node) (id : String) (s : CallMeta.Secret) :
    (id, s) ∈ (readMeta cfg cd).secrets ↔
      ∃ q ∈ entries "secrets" cd, id = cfg.lower q.1.value ∧ s.name = q.1.value ∧ s.required = requiredTrue q.2 := by
  rw [readMeta_secrets]
  simp only [List.mem_map, Prod.mk.injEq]
  constructor
  · rintro ⟨q, hq, h1, h2⟩
    exact ⟨q, hq, h1.symm, by rw [← h2], by rw [← h2]⟩
  · rintro ⟨q, hq, h1, h2, h3⟩
    refine ⟨q, hq, h1.symm, ?_⟩
    cases s
    simp_all

/-- what reading + decoding the called file gives (`AL.ProjCall.OnDisk`) when the file is the document `cd` -/
def diskOfDoc (cfg : Cfg) (cd : Node) : AL.ProjCall.OnDisk :=
  match fromDoc cfg cd with
  | .ok m => .ok m
  | .error _ => .broken

/-- a called workflow the parser accepts is on disk with the interface read from its document -/
theorem callee_on_disk (cfg : Cfg) (cd : Node) (hlow : cfg.lower "workflow_call" = "workflow_call")
    (hh : docHypB cfg cd = true) (hc : (parse cfg cd).2 = []) (hev : (fromDocAst cfg cd).isSome = true) :
    diskOfDoc cfg cd = .ok (readMeta cfg cd) := by
  cases hm : fromDocAst cfg cd with
  | none => rw [hm] at hev; cases hev
  | some m => simp [diskOfDoc, (callee_interface_read cfg cd hlow hh hc m hm).2]

/-- the ids of the interface read from an accepted document are pairwise distinct -/
theorem readMeta_distinct (cfg : Cfg) (cd : Node) (hlow : cfg.lower "workflow_call" = "workflow_call")
    (hh : docHypB cfg cd = true) (hc : (parse cfg cd).2 = []) (hev : (fromDocAst cfg cd).isSome = true) :
    AL.C14W.MetaDistinct (readMeta cfg cd) := by
  cases hm : fromDocAst cfg cd with
  | none => rw [hm] at hev; cases hev
  | some m =>
    have := (callee_interface_read cfg cd hlow hh hc m hm).1
    exact this ▸ AL.C14W.fromDocAst_distinct cfg cd m hm

/-! ## 2. the callee's side: a local action -/

/-- **C14, the interface of a local action, from `action.yml`**: when `yaml.Unmarshal` accepts the document, the inputs and
outputs of the metadata are the ones read from it: ids = folded keys of `inputs:` / `outputs:`, in order, an input required
iff `required:` decodes to true and there is no (non-null) `default:` -/
theorem action_interface_read (cfg : Cfg) (ad : Node) (hs : actionSaneB ad = true) (d : AL.ActionDecode.Decoded)
    (h : AL.ActionDecode.fromDoc cfg ad = .ok d) :
    d.inputs = actionInputs cfg ad ∧ d.outputs = actionOutputs cfg ad :=
  action_fromDoc_read cfg ad (actionSaneB_sound ad hs) d h

theorem action_declared_input_iff (cfg : Cfg) (ad : Node) (id name : String) (req : Bool) :
    (id, name, req) ∈ actionInputs cfg ad ↔
      ∃ q ∈ actSection "inputs" ad, id = cfg.lower q.1.value ∧ name = q.1.value ∧ req = actInputRequired q.2 := by
  simp only [actionInputs, List.mem_map, Prod.mk.injEq]
  constructor
  · rintro ⟨q, hq, h1, h2, h3⟩; exact ⟨q, hq, h1.symm, h2.symm, h3.symm⟩
  · rintro ⟨q, hq, h1, h2, h3⟩; exact ⟨q, hq, h1.symm, h2.symm, h3.symm⟩

theorem action_declared_output_iff (cfg : Cfg) (ad : Node) (id : String) :
    id ∈ (actionOutputs cfg ad).map (·.1) ↔ ∃ q ∈ actSection "outputs" ad, cfg.lower q.1.value = id := by
  simp [actionOutputs]

/-- an input of a local action is "required" iff `required:` decodes to the Go bool `true` and there is no (non-null)
`default:` — on the node tree -/
theorem actInputRequired_iff (v : Node) :
    actInputRequired v = true ↔
      (∃ r, attr "required" v = some r ∧ yamlTrue r = true) ∧ ¬ ∃ d, attr "default" v = some d ∧ d.isNull = false := by
  rw [actInputRequired, Bool.and_eq_true, Bool.not_eq_true', hasDefault_false_iff, actRequiredTrue]
  cases attr "required" v <;> simp

/-- `required: true` (the literal) is one way to say it -/
theorem yamlTrue_of_saysTrue (r : Node) (h : saysTrue r = true) : yamlTrue r = true := by
  simp only [saysTrue, Bool.and_eq_true, decide_eq_true_eq, List.contains_iff_mem] at h
  simp [yamlTrue, h.1.1, h.1.2, h.2]

/-! ## 3. the caller's side -/

/-- the `WorkflowCall` of a job node with `uses: vU`, read from the node: `with:` / `secrets:` entries under their folded
keys, `secrets: inherit` -/
def callOfJob (cfg : Cfg) (jn vU : Node) : WorkflowCall :=
  { uses := some (newString vU), inputs := withArgs cfg jn, secrets := secretArgs cfg jn, inheritSecrets := inheritsSecrets jn }

def withEntries (jn : Node) : List (Node × Node) :=
  match attr "with" jn with
  | some w => pairs w.content
  | none => []

def secretEntries (jn : Node) : List (Node × Node) :=
  match attr "secrets" jn with
  | some s => if s.kind = .scalar then [] else pairs s.content
  | none => []

def stepWithEntries (cfg : Cfg) (sn : Node) : List (Node × Node) :=
  (withEntries sn).filter fun q => cfg.lower q.1.value ≠ "entrypoint" && cfg.lower q.1.value ≠ "args"

/-- **a job that calls a workflow, in a document the parser accepts**: the AST has the job under its folded key, and its
call is the one read from the job's node -/
theorem parseJob_callOfJob (cfg : Cfg) (id : Str) (jn : Node) (hc : (parseJob cfg id jn).2 = []) (vU : Node)
    (hu : attr "uses" jn = some vU) : (parseJob cfg id jn).1.workflowCall = some (callOfJob cfg jn vU) := by
  obtain ⟨_, c, hw, h1, h2, h3, h4⟩ := parseJob_call_read cfg id jn hc vU hu
  rw [hw]
  cases c
  simp only at h1 h2 h3 h4
  subst h1 h2 h3 h4
  rfl

theorem caller_job_call (cfg : Cfg) (d : Node) (hc : (parse cfg d).2 = []) (q : Node × Node) (hq : q ∈ jobEntries d) (vU : Node)
    (hu : attr "uses" q.2 = some vU) :
    ∃ j, (cfg.lower q.1.value, j) ∈ (parse cfg d).1.jobs.getD [] ∧ j.id = newString q.1 ∧
      j.workflowCall = some (callOfJob cfg q.2 vU) := by
  obtain ⟨hj, hcl, _⟩ := parse_jobs_read cfg d hc
  refine ⟨(parseJob cfg (newString q.1) q.2).1, ?_, AL.C08P.parseJob_id cfg _ _, parseJob_callOfJob cfg _ q.2 (hcl q hq) vU hu⟩
  rw [hj]
  exact List.mem_map.2 ⟨q, hq, rfl⟩

/-- **a job with steps**: the AST has the job under its folded key; it calls nothing; its steps are the elements of
`steps:` -/
theorem caller_job_plain (cfg : Cfg) (d : Node) (hc : (parse cfg d).2 = []) (q : Node × Node) (hq : q ∈ jobEntries d)
    (hu : attr "uses" q.2 = none) :
    ∃ j, (cfg.lower q.1.value, j) ∈ (parse cfg d).1.jobs.getD [] ∧ j.workflowCall = none ∧
      j.steps.getD [] = (stepNodes q.2).map (fun c => (parseStep cfg c).1) := by
  obtain ⟨hj, hcl, _⟩ := parse_jobs_read cfg d hc
  refine ⟨(parseJob cfg (newString q.1) q.2).1, ?_, parseJob_nocall cfg _ q.2 (hcl q hq) hu,
    (parseJob_steps_read cfg _ q.2 (hcl q hq) hu).1⟩
  rw [hj]; exact List.mem_map.2 ⟨q, hq, rfl⟩

/-- **a step that uses an action, in a document the parser accepts**: the AST has an action step with that `uses` whose
inputs are the entries of `with:` (other than `entrypoint` / `args`) under their folded keys -/
theorem caller_step_action (cfg : Cfg) (d : Node) (hc : (parse cfg d).2 = []) (q : Node × Node) (hq : q ∈ jobEntries d)
    (hu : attr "uses" q.2 = none) (sn : Node) (hs : sn ∈ stepNodes q.2) (vU : Node) (hsu : attr "uses" sn = some vU) :
    ∃ j ∈ AL.Rules.jobsOf (parse cfg d).1, ∃ st ∈ AL.Rules.stepsOf j, ∃ e, st.exec = .action e ∧ e.uses = some (newString vU) ∧
      e.inputs = stepWith cfg sn := by
  obtain ⟨hj, hcl, _⟩ := parse_jobs_read cfg d hc
  obtain ⟨hst, hscl⟩ := parseJob_steps_read cfg (newString q.1) q.2 (hcl q hq) hu
  obtain ⟨e, he, h1, h2⟩ := parseStep_action_read cfg sn (hscl sn hs) vU hsu
  refine ⟨(parseJob cfg (newString q.1) q.2).1, ?_, (parseStep cfg sn).1, ?_, e, he, h1, h2⟩
  · simp only [AL.Rules.jobsOf, hj, List.map_map]
    exact List.mem_map.2 ⟨q, hq, rfl⟩
  · simp only [AL.Rules.stepsOf]
    rw [hst]
    exact List.mem_map.2 ⟨sn, hs, rfl⟩

/-- the readers `withArgs`, `secretArgs`, `stepWith` file the entries of `with:` / `secrets:` of a call and of a step's `with:`
under the folded keys, by their definition (this lemma, `secret_ids_folded`, `step_with_ids_folded`); that the parser does
so is `AL.C08R.call_args_folded`, `AL.C08R.step_with_folded` -/
theorem with_ids_folded (cfg : Cfg) (jn : Node) : AL.C08R.ArgsFolded cfg.lower (withArgs cfg jn) := by
  intro kv hkv
  simp only [withArgs] at hkv
  cases ha : attr "with" jn with
  | none => simp [ha] at hkv
  | some w =>
    simp only [ha, Option.map_some, Option.getD_some, argsOf, List.mem_map] at hkv
    obtain ⟨q, _, rfl⟩ := hkv
    rfl

theorem secret_ids_folded (cfg : Cfg) (jn : Node) : AL.C08R.ArgsFolded cfg.lower (secretArgs cfg jn) := by
  intro kv hkv
  simp only [secretArgs] at hkv
  cases ha : attr "secrets" jn with
  | none => simp [ha] at hkv
  | some w =>
    simp only [ha] at hkv
    split at hkv
    · simp at hkv
    · simp only [Option.getD_some, argsOf, List.mem_map] at hkv
      obtain ⟨q, _, rfl⟩ := hkv
      rfl

theorem step_with_ids_folded (cfg : Cfg) (sn : Node) (e : ExecAction) (he : e.inputs = stepWith cfg sn) : AL.C08R.Folded cfg.lower e := by
  intro kv hkv
  rw [he] at hkv
  simp only [stepWith] at hkv
  cases ha : attr "with" sn with
  | none => simp [ha] at hkv
  | some w =>
    simp only [ha, Option.map_some, Option.getD_some, stepArgs, List.mem_map] at hkv
    obtain ⟨q, _, rfl⟩ := hkv
    rfl

/-- what rule workflow-call reads of `with:`: id and key position of every entry -/
theorem callKeys_withArgs (cfg : Cfg) (jn : Node) :
    AL.C08R.callKeys (withArgs cfg jn) = (withEntries jn).map fun q => (cfg.lower q.1.value, q.1.pos) := by
  simp only [AL.C08R.callKeys, withArgs, withEntries]
  cases attr "with" jn with
  | none => rfl
  | some w => simp [argsOf, List.map_map, Function.comp_def, newString]

theorem callKeys_secretArgs (cfg : Cfg) (jn : Node) :
    AL.C08R.callKeys (secretArgs cfg jn) = (secretEntries jn).map fun q => (cfg.lower q.1.value, q.1.pos) := by
  simp only [AL.C08R.callKeys, secretArgs, secretEntries]
  cases attr "secrets" jn with
  | none => rfl
  | some w =>
    simp only
    split
    · rfl
    · simp [argsOf, List.map_map, Function.comp_def, newString]

theorem keysOf_withArgs (cfg : Cfg) (jn : Node) :
    AL.ProjCall.keysOf ((withArgs cfg jn).getD []) = (withEntries jn).map fun q => cfg.lower q.1.value := by
  rw [← AL.C08R.callKeys_fst, callKeys_withArgs, List.map_map]
  rfl

theorem keysOf_secretArgs (cfg : Cfg) (jn : Node) :
    AL.ProjCall.keysOf ((secretArgs cfg jn).getD []) = (secretEntries jn).map fun q => cfg.lower q.1.value := by
  rw [← AL.C08R.callKeys_fst, callKeys_secretArgs, List.map_map]
  rfl

/-! ## 4. end to end: a job that calls a local reusable workflow -/

/-- the called file: a document the parser accepts without a diagnostic (so linting the called file itself is silent about
its syntax), with a `workflow_call` event; `docHypB` — yaml.v3's guarantees about the `workflow_call:` section, no alias and
no `!!binary` in it, the key spelled exactly so, no `!!str` scalar (a `${{ }}` placeholder) under a `required:` -/
structure CalleeOk (cfg : Cfg) (cd : Node) : Prop where
  lower : cfg.lower "workflow_call" = "workflow_call"
  sane : docHypB cfg cd = true
  clean : (parse cfg cd).2 = []
  event : (fromDocAst cfg cd).isSome = true

/-- the environment: the linted file is inside a project, reading and decoding the file behind `spec` gives what
`parseReusableWorkflowMetadata` makes of the document `cd`, and the linted file is not that file -/
structure CallResolves (cfg : Cfg) (env : AL.ProjLint.Env) (spec : String) (cd : Node) : Prop where
  project : env.calls.hasProject = true
  disk : env.calls.disk spec = diskOfDoc cfg cd
  notSelf : env.calls.self ≠ some spec

/-- the call site in the caller's document `d`: the entry `q` of `jobs:` has `uses: vU`, a scalar in the local format
(`./…` without a ref) without a placeholder; the parser accepts `d` -/
structure CallSite (cfg : Cfg) (d : Node) (q : Node × Node) (vU : Node) : Prop where
  clean : (parse cfg d).2 = []
  job : q ∈ jobEntries d
  uses : attr "uses" q.2 = some vU
  noExpr : AL.Matrix.containsExpr vU.value = false
  localFormat : AL.Rules.isLocalCallFormat vU.value = true

theorem localFormat_startsWith (s : String) (h : AL.Rules.isLocalCallFormat s = true) : s.startsWith "./" = true := by
  unfold AL.Rules.isLocalCallFormat at h
  by_cases hs : s.startsWith "./" = true
  · exact hs
  · simp [hs] at h

theorem CallResolves.on_disk {cfg : Cfg} {env : AL.ProjLint.Env} {spec : String} {cd : Node} (hr : CallResolves cfg env spec cd)
    (hcd : CalleeOk cfg cd) : env.calls.disk spec = .ok (readMeta cfg cd) := by
  rw [hr.disk, callee_on_disk cfg cd hcd.lower hcd.sane hcd.clean hcd.event]

theorem CallSite.not_skipped {cfg : Cfg} {d : Node} {q : Node × Node} {vU : Node} (hs : CallSite cfg d q vU) {env : AL.ProjCall.Env}
    (hp : env.hasProject = true) : AL.ProjCall.skipped env vU.value = false := by
  simp [AL.ProjCall.skipped, hp, localFormat_startsWith _ hs.localFormat, hs.noExpr]

/-- in whatever cache the simulation reaches the calling job `q`, rule workflow-call gives it the check of the two documents -/
theorem call_job_wc {cfg : Cfg} {env : AL.ProjLint.Env} {d cd : Node} {q : Node × Node} {vU : Node} (hcd : CalleeOk cfg cd)
    (hs : CallSite cfg d q vU) (hr : CallResolves cfg env vU.value cd) (c : AL.ProjCall.Cache)
    (hc : CallInv vU.value (readMeta cfg cd) c) :
    (AL.ProjCall.wcJob env.calls c (parseJob cfg (newString q.1) q.2).1).2 =
      AL.ProjCall.checkLocal (readMeta cfg cd) (callOfJob cfg q.2 vU) (newString vU) := by
  have hne : ((newString vU).value = "" || AL.Rules.containsExpr (newString vU)) = false := by
    have h1 : vU.value ≠ "" := by
      intro e
      have := hs.localFormat
      rw [e] at this
      revert this
      decide
    simp only [newString, AL.Rules.containsExpr, hs.noExpr, Bool.or_false]
    exact decide_eq_false h1
  exact wcJob_checks (hr.on_disk hcd) (hs.not_skipped hr.project) hs.localFormat c hc _ _ (newString vU)
    (parseJob_callOfJob cfg _ q.2 ((parse_jobs_read cfg d hs.clean).2.1 q hs.job) vU hs.uses) rfl rfl hne

/-- **C14 end to end, the diagnostics of one calling job**: in the simulation of the whole file (every job in source order,
the cache threaded through), the job `q` of the caller's document gets from rule workflow-call exactly
`checkWorkflowCallUsesLocal` of the interface READ FROM THE CALLEE'S DOCUMENT and the call READ FROM THE CALLER'S DOCUMENT —
whatever the other jobs looked up before -/
theorem call_view (cfg : Cfg) (env : AL.ProjLint.Env) (d cd : Node) (q : Node × Node) (vU : Node) (hcd : CalleeOk cfg cd)
    (hs : CallSite cfg d q vU) (hr : CallResolves cfg env vU.value cd) :
    ∃ v ∈ AL.ProjCall.simulate env.calls cfg.lower (parse cfg d).1, v.1 = q.1.value ∧
      v.2.wc = AL.ProjCall.checkLocal (readMeta cfg cd) (callOfJob cfg q.2 vU) (newString vU) := by
  have hmem : (cfg.lower q.1.value, (parseJob cfg (newString q.1) q.2).1) ∈ (parse cfg d).1.jobs.getD [] := by
    rw [(parse_jobs_read cfg d hs.clean).1]
    exact List.mem_map.2 ⟨q, hs.job, rfl⟩
  obtain ⟨v, hv, h1, c', hc', h2⟩ := (simulateJobs_wc (hr.on_disk hcd) hs.localFormat cfg.lower ((parse cfg d).1.jobs.getD [])
    ((parse cfg d).1.jobs.getD []) _ (initialCache_inv hr.notSelf (parse cfg d).1)).1 _ hmem
  exact ⟨v, hv, by rw [h1, AL.C08P.parseJob_id]; rfl, h2.trans (call_job_wc hcd hs hr c' hc')⟩

/-- **an entry of `with:` is reported as undefined iff the callee does not declare it** — on the two documents: a
diagnostic `input-undefined` at the position `p` iff `with:` has a key at `p` to whose folded text no key of the callee's
`on.workflow_call.inputs` folds -/
theorem call_input_undefined_doc (cfg : Cfg) (cd jn vU : Node) (u : Str) (p : AL.Rules.Pos) :
    (p, "input-undefined") ∈ (AL.ProjCall.checkLocal (readMeta cfg cd) (callOfJob cfg jn vU) u).map AL.C08R.sig ↔
      ∃ kv ∈ withEntries jn, kv.1.pos = p ∧ ∀ e ∈ entries "inputs" cd, cfg.lower e.1.value ≠ cfg.lower kv.1.value := by
  rw [AL.C08R.call_input_undefined_iff]
  simp only [callOfJob, callKeys_withArgs, readMeta_inputs, List.mem_map, forall_exists_index, and_imp, forall_apply_eq_imp_iff₂]
  exact ⟨fun ⟨_, ⟨kv, hkv, rfl⟩, h⟩ => ⟨kv, hkv, h⟩, fun ⟨kv, hkv, h⟩ => ⟨_, ⟨kv, hkv, rfl⟩, h⟩⟩

/-- looking an id up in a list built from entries with pairwise distinct ids is choosing the entry -/
theorem exists_find_map {α β : Type} (l : List α) (key : α → String) (mk : α → β)
    (hnd : ((l.map fun q => (key q, mk q)).map (·.1)).Nodup) (P : String → β → Prop) :
    (∃ n i, (l.map fun q => (key q, mk q)).find? (·.1 = n) = some (n, i) ∧ P n i) ↔ ∃ e ∈ l, P (key e) (mk e) := by
  constructor
  · rintro ⟨n, i, hf, hp⟩
    obtain ⟨e, he, h⟩ := List.mem_map.1 (List.mem_of_find?_eq_some hf)
    cases h
    exact ⟨e, he, hp⟩
  · rintro ⟨e, he, hp⟩
    exact ⟨_, _, (AL.C14W.find_iff_mem _ hnd _ _).2 (List.mem_map.2 ⟨e, he, rfl⟩), hp⟩

/-- **a required input is reported as missing iff `with:` does not supply it** — on the two documents: `input-required` (at
`uses:`) iff some entry of the callee's `inputs:` has `required: true`, no `default:`, and no key of `with:` folds to its name -/
theorem call_input_required_doc (cfg : Cfg) (cd jn vU : Node) (u : Str) (hcd : CalleeOk cfg cd) :
    (u.pos, "input-required") ∈ (AL.ProjCall.checkLocal (readMeta cfg cd) (callOfJob cfg jn vU) u).map AL.C08R.sig ↔
      ∃ e ∈ entries "inputs" cd, inputRequired e.2 = true ∧ ∀ kv ∈ withEntries jn, cfg.lower kv.1.value ≠ cfg.lower e.1.value := by
  have hnd := (readMeta_distinct cfg cd hcd.lower hcd.sane hcd.clean hcd.event).1
  rw [AL.C08R.call_input_required_iff]
  rw [readMeta_inputs] at hnd ⊢
  rw [exists_find_map _ _ _ hnd fun n i => i.required = true ∧ ∀ g ∈ AL.C08R.callKeys (callOfJob cfg jn vU).inputs, g.1 ≠ n]
  simp only [callOfJob, callKeys_withArgs, List.mem_map, forall_exists_index, and_imp, forall_apply_eq_imp_iff₂]

theorem call_secret_undefined_doc (cfg : Cfg) (cd jn vU : Node) (u : Str) (p : AL.Rules.Pos) (hinh : inheritsSecrets jn = false) :
    (p, "secret-undefined") ∈ (AL.ProjCall.checkLocal (readMeta cfg cd) (callOfJob cfg jn vU) u).map AL.C08R.sig ↔
      ∃ kv ∈ secretEntries jn, kv.1.pos = p ∧ ∀ e ∈ entries "secrets" cd, cfg.lower e.1.value ≠ cfg.lower kv.1.value := by
  rw [AL.C08R.call_secret_undefined_iff _ _ _ _ hinh]
  simp only [callOfJob, callKeys_secretArgs, readMeta_secrets, List.mem_map, forall_exists_index, and_imp, forall_apply_eq_imp_iff₂]
  exact ⟨fun ⟨_, ⟨kv, hkv, rfl⟩, h⟩ => ⟨kv, hkv, h⟩, fun ⟨kv, hkv, h⟩ => ⟨_, ⟨kv, hkv, rfl⟩, h⟩⟩

theorem call_secret_required_doc (cfg : Cfg) (cd jn vU : Node) (u : Str) (hcd : CalleeOk cfg cd) (hinh : inheritsSecrets jn = false) :
    (u.pos, "secret-required") ∈ (AL.ProjCall.checkLocal (readMeta cfg cd) (callOfJob cfg jn vU) u).map AL.C08R.sig ↔
      ∃ e ∈ entries "secrets" cd, requiredTrue e.2 = true ∧ ∀ kv ∈ secretEntries jn, cfg.lower kv.1.value ≠ cfg.lower e.1.value := by
  have hnd := (readMeta_distinct cfg cd hcd.lower hcd.sane hcd.clean hcd.event).2.2
  rw [AL.C08R.call_secret_required_iff _ _ _ hinh]
  rw [readMeta_secrets] at hnd ⊢
  rw [exists_find_map _ _ _ hnd fun n s => s.required = true ∧ ∀ g ∈ AL.C08R.callKeys (callOfJob cfg jn vU).secrets, g.1 ≠ n]
  simp only [callOfJob, callKeys_secretArgs, List.mem_map, forall_exists_index, and_imp, forall_apply_eq_imp_iff₂]

/-- `secrets: inherit` in the caller's document suppresses every report about secrets -/
theorem call_inherit_no_secret (cfg : Cfg) (cd jn vU : Node) (u : Str) (hinh : inheritsSecrets jn = true) :
    ∀ dg ∈ AL.ProjCall.checkLocal (readMeta cfg cd) (callOfJob cfg jn vU) u, dg.code ≠ "secret-required" ∧ dg.code ≠ "secret-undefined" :=
  AL.C14P.inherit_checks_no_secret _ _ u hinh

theorem call_codes (m : Meta) (c : WorkflowCall) (u : Str) : ∀ dg ∈ AL.ProjCall.checkLocal m c u,
    dg.code = "input-required" ∨ dg.code = "input-undefined" ∨ dg.code = "secret-required" ∨ dg.code = "secret-undefined" := by
  intro dg hdg
  have hm : AL.C08R.sig dg ∈ (AL.ProjCall.checkLocal m c u).map AL.C08R.sig := List.mem_map.2 ⟨dg, hdg, rfl⟩
  rw [AL.C08R.checkLocal_sig] at hm
  simp only [AL.C08R.localCallK, List.mem_append] at hm
  rcases hm with hm | hm
  · rcases AL.C08R.sectionK_codes _ _ _ _ _ _ hm with e | e
    · exact Or.inl e
    · exact Or.inr (Or.inl e)
  · split at hm
    · cases hm
    · rcases AL.C08R.sectionK_codes _ _ _ _ _ _ hm with e | e
      · exact Or.inr (Or.inr (Or.inl e))
      · exact Or.inr (Or.inr (Or.inr e))

/-! ### the whole list of one job: nothing else, nothing twice -/

/-- sites and codes of the check of one section (`inputs` against `with:`, `secrets` against `secrets:`), on the two
documents: `AL.C08R.sectionK` of (folded key, required?) of the callee's entries and (folded key, position of the key) of
the caller's entries — for every declared id in sorted order one "required" at `uses:` if it is required and not supplied,
then for every supplied entry in source order one "undefined" at its key if no declared id equals its id -/
def docSection (cfg : Cfg) (decl : List (Node × Node)) (req : Node → Bool) (given : List (Node × Node)) (usesPos : AL.Rules.Pos)
    (rc uc : String) : List (AL.Rules.Pos × String) :=
  AL.C08R.sectionK (decl.map fun e => (cfg.lower e.1.value, req e.2)) usesPos rc uc (given.map fun g => (cfg.lower g.1.value, g.1.pos))

/-- **C14, the complete list**: sites and codes of everything rule workflow-call reports for the call, as a function of
the two documents — nothing else is reported -/
theorem call_sig_exact (cfg : Cfg) (cd jn vU : Node) (u : Str) :
    (AL.ProjCall.checkLocal (readMeta cfg cd) (callOfJob cfg jn vU) u).map AL.C08R.sig =
      docSection cfg (entries "inputs" cd) inputRequired (withEntries jn) u.pos "input-required" "input-undefined" ++
      (if inheritsSecrets jn then []
       else docSection cfg (entries "secrets" cd) requiredTrue (secretEntries jn) u.pos "secret-required" "secret-undefined") := by
  rw [AL.C08R.checkLocal_sig]
  simp only [AL.C08R.localCallK, docSection, callOfJob, readMeta_inputs, readMeta_secrets, callKeys_withArgs, callKeys_secretArgs,
    List.map_map, Function.comp_def]

theorem sectionK_filter_undefined (declared : List (String × Bool)) (usesPos : AL.Rules.Pos) (rc uc : String)
    (given : List (String × AL.Rules.Pos)) (hne : rc ≠ uc) :
    (AL.C08R.sectionK declared usesPos rc uc given).filter (fun s => s.2 = uc) =
      (given.filter fun g => !(declared.map (·.1)).contains g.1).map fun g => (g.2, uc) := by
  rw [AL.C08R.sectionK_form, List.filter_append, List.map_const', List.filter_replicate_of_neg (by simpa using hne), List.nil_append,
    List.filter_eq_self]
  intro s hs
  obtain ⟨g, _, rfl⟩ := List.mem_map.1 hs
  simp

theorem sectionK_filter_other (declared : List (String × Bool)) (usesPos : AL.Rules.Pos) (rc uc c : String)
    (given : List (String × AL.Rules.Pos)) (h1 : c ≠ rc) (h2 : c ≠ uc) :
    (AL.C08R.sectionK declared usesPos rc uc given).filter (fun s => s.2 = c) = [] := by
  rw [List.filter_eq_nil_iff]
  intro s hs
  rcases AL.C08R.sectionK_codes _ _ _ _ _ s hs with e | e
  · simpa [e] using fun h => h1 h.symm
  · simpa [e] using fun h => h2 h.symm

theorem not_contains_map {α : Type} (f : α → String) (x : String) (l : List α) :
    (!(l.map f).contains x) = l.all fun e => f e != x := by
  induction l with
  | nil => rfl
  | cons a l ih => rw [List.map_cons, List.contains_cons, List.all_cons, Bool.not_or, ih, bne_comm]; rfl

/-- under a code of the inputs' section, only that section contributes -/
theorem call_sig_filter_inputs (cfg : Cfg) (cd jn vU : Node) (u : Str) (c : String) (hc : c = "input-required" ∨ c = "input-undefined") :
    ((AL.ProjCall.checkLocal (readMeta cfg cd) (callOfJob cfg jn vU) u).map AL.C08R.sig).filter (fun s => s.2 = c) =
      (docSection cfg (entries "inputs" cd) inputRequired (withEntries jn) u.pos "input-required" "input-undefined").filter (fun s => s.2 = c) := by
  have hsec : (if inheritsSecrets jn then []
      else docSection cfg (entries "secrets" cd) requiredTrue (secretEntries jn) u.pos "secret-required" "secret-undefined").filter
        (fun s => s.2 = c) = [] := by
    split
    · rfl
    · exact sectionK_filter_other _ _ _ _ _ _ (by rcases hc with rfl | rfl <;> decide) (by rcases hc with rfl | rfl <;> decide)
  rw [call_sig_exact, List.filter_append, hsec, List.append_nil]

/-- **"nothing twice", undefined inputs**: the `input-undefined` diagnostics of the call are, in source order, one for each
entry of `with:` to which no key of the callee's `inputs:` folds — each exactly once, at its key -/
theorem call_input_undefined_once (cfg : Cfg) (cd jn vU : Node) (u : Str) :
    ((AL.ProjCall.checkLocal (readMeta cfg cd) (callOfJob cfg jn vU) u).map AL.C08R.sig).filter (fun s => s.2 = "input-undefined") =
      ((withEntries jn).filter fun g => (entries "inputs" cd).all fun e => cfg.lower e.1.value != cfg.lower g.1.value).map
        fun g => (g.1.pos, "input-undefined") := by
  rw [call_sig_filter_inputs cfg cd jn vU u _ (Or.inr rfl), docSection, sectionK_filter_undefined _ _ _ _ _ (by decide),
    List.filter_map, List.map_map, List.map_map]
  congr 1
  exact List.filter_congr fun g _ => not_contains_map _ _ _

theorem call_secret_undefined_once (cfg : Cfg) (cd jn vU : Node) (u : Str) (hinh : inheritsSecrets jn = false) :
    ((AL.ProjCall.checkLocal (readMeta cfg cd) (callOfJob cfg jn vU) u).map AL.C08R.sig).filter (fun s => s.2 = "secret-undefined") =
      ((secretEntries jn).filter fun g => (entries "secrets" cd).all fun e => cfg.lower e.1.value != cfg.lower g.1.value).map
        fun g => (g.1.pos, "secret-undefined") := by
  rw [call_sig_exact, List.filter_append, docSection, sectionK_filter_other _ _ _ _ _ _ (by decide) (by decide), List.nil_append]
  simp only [hinh, Bool.false_eq_true, if_false]
  rw [docSection, sectionK_filter_undefined _ _ _ _ _ (by decide), List.filter_map, List.map_map, List.map_map]
  congr 1
  exact List.filter_congr fun g _ => not_contains_map _ _ _

theorem insertSorted_perm (x : String) : ∀ (l : List String), (AL.PW.insertSorted x l).Perm (x :: l) :=
  AL.PW.insSorted.perm x

theorem sortStrings_perm : ∀ (l : List String), (AL.PW.sortStrings l).Perm l :=
  AL.PW.sortStrings_perm

/-- the "required" part of a section: as many as there are declared entries that are required and not supplied (declared
ids pairwise distinct) -/
theorem sectionK_required_count (declared : List (String × Bool)) (usesPos : AL.Rules.Pos) (rc uc : String)
    (given : List (String × AL.Rules.Pos)) (hne : rc ≠ uc) (hnd : (declared.map (·.1)).Nodup) :
    ((AL.C08R.sectionK declared usesPos rc uc given).filter (fun s => s.2 = rc)).length =
      (declared.filter fun d => d.2 && !(given.map (·.1)).contains d.1).length := by
  have hB : ((given.filter fun g => !(declared.map (·.1)).contains g.1).map fun g => (g.2, uc)).filter (fun s => s.2 = rc) = [] := by
    rw [List.filter_eq_nil_iff]
    intro s hs
    obtain ⟨g, _, rfl⟩ := List.mem_map.1 hs
    simpa using fun h => hne h.symm
  rw [AL.C08R.sectionK_form, List.filter_append, hB, List.append_nil, List.map_const', List.filter_replicate_of_pos (by simp),
    List.length_replicate, ((sortStrings_perm _).filter _).length_eq, List.filter_map, List.length_map]
  -- on a declared entry, `reqMissing` of its id is the test on the entry: the ids are pairwise distinct
  congr 1
  refine List.filter_congr fun d hd => ?_
  obtain ⟨k, v⟩ := d
  simp only [Function.comp, AL.C08R.reqMissing, (AL.C14W.find_iff_mem declared hnd k v).2 hd]

/-- **"nothing twice", required inputs**: there are as many `input-required` diagnostics as entries of the callee's `inputs:`
that are required and to whose name no key of `with:` folds. An equality of two counts: `sig` (position and code) does not say
which entry a diagnostic names; that they sit at `uses:`, one per declared id in sorted order, is `call_sig_exact` -/
theorem call_input_required_count (cfg : Cfg) (cd jn vU : Node) (u : Str) (hcd : CalleeOk cfg cd) :
    (((AL.ProjCall.checkLocal (readMeta cfg cd) (callOfJob cfg jn vU) u).map AL.C08R.sig).filter (fun s => s.2 = "input-required")).length =
      ((entries "inputs" cd).filter fun e => inputRequired e.2 &&
        (withEntries jn).all fun g => cfg.lower g.1.value != cfg.lower e.1.value).length := by
  have hnd := (readMeta_distinct cfg cd hcd.lower hcd.sane hcd.clean hcd.event).1
  rw [readMeta_inputs, List.map_map] at hnd
  rw [call_sig_filter_inputs cfg cd jn vU u _ (Or.inl rfl), docSection,
    sectionK_required_count _ _ _ _ _ (by decide) (by rw [List.map_map]; exact hnd), List.filter_map, List.length_map]
  congr 1
  apply List.filter_congr
  intro e _
  simp only [Function.comp, List.map_map]
  exact congrArg _ (not_contains_map _ _ _)

/-! ### the whole file's output -/

/-- every diagnostic the simulation attributes to a job is in the output of the project linter -/
theorem lint_wc_complete (cfg : Cfg) (isNum urlOk : String → Bool) (env : AL.ProjLint.Env) (d : Node) (v : String × AL.ProjCall.JobView)
    (hv : v ∈ AL.ProjCall.simulate env.calls cfg.lower (parse cfg d).1) (dg : AL.Rules.Diag) (hdg : dg ∈ v.2.wc) :
    dg ∈ AL.ProjLint.lint cfg isNum urlOk env d :=
  (mem_projLint cfg isNum urlOk env d dg).2 (Or.inr (Or.inr (Or.inl (List.mem_flatMap.2 ⟨v, hv, hdg⟩))))

/-- … and nothing else is reported under the kind "workflow-call" (but the format of `uses:`) -/
theorem lint_wc_sound (cfg : Cfg) (isNum urlOk : String → Bool) (env : AL.ProjLint.Env) (d : Node) (dg : AL.Rules.Diag)
    (hdg : dg ∈ AL.ProjLint.lint cfg isNum urlOk env d) (hk : dg.kind = "workflow-call") (hc : dg.code ≠ "call-format") :
    ∃ v ∈ AL.ProjCall.simulate env.calls cfg.lower (parse cfg d).1, dg ∈ v.2.wc := by
  have := projLint_workflowCall cfg isNum urlOk env d dg hdg hk hc
  simp only [AL.ProjCall.wcRule, List.mem_flatMap] at this
  exact this

/-- **reported, in the output of the whole file**: an entry of `with:` to which no declared input folds gets
"input … is not defined in … reusable workflow" at its key, naming the key as written -/
theorem call_input_undefined_in_lint (cfg : Cfg) (isNum urlOk : String → Bool) (env : AL.ProjLint.Env) (d cd : Node) (q : Node × Node)
    (vU : Node) (hcd : CalleeOk cfg cd) (hs : CallSite cfg d q vU) (hr : CallResolves cfg env vU.value cd)
    (kv : Node × Node) (hkv : kv ∈ withEntries q.2) (hn : ∀ e ∈ entries "inputs" cd, cfg.lower e.1.value ≠ cfg.lower kv.1.value) :
    ∃ dg ∈ AL.ProjLint.lint cfg isNum urlOk env d, dg.kind = "workflow-call" ∧ dg.code = "input-undefined" ∧ dg.pos = kv.1.pos ∧
      dg.args.head? = some kv.1.value := by
  obtain ⟨v, hv, _, hwc⟩ := call_view cfg env d cd q vU hcd hs hr
  have hmem : (cfg.lower kv.1.value, (⟨newString kv.1, newString kv.2⟩ : CallArg)) ∈ (callOfJob cfg q.2 vU).inputs.getD [] := by
    simp only [callOfJob, withArgs]
    simp only [withEntries] at hkv
    cases ha : attr "with" q.2 with
    | none => simp [ha] at hkv
    | some w =>
      simp only [ha] at hkv
      simp only [Option.map_some, Option.getD_some, argsOf]
      exact List.mem_map.2 ⟨kv, hkv, rfl⟩
  have hnot : cfg.lower kv.1.value ∉ AL.ProjCall.keysOf (readMeta cfg cd).inputs := by
    rw [declared_input_iff]
    rintro ⟨e, he, hh⟩
    exact hn e he hh
  obtain ⟨dg, hdg, h1, h2, h3⟩ := (AL.C14P.undefined_input_iff (readMeta cfg cd) (callOfJob cfg q.2 vU) (newString vU) _ hmem).2 (Or.inl hnot)
  refine ⟨dg, lint_wc_complete cfg isNum urlOk env d v hv dg (hwc ▸ hdg), ?_, h1, h2, h3⟩
  exact AL.C09C.kind_checkLocal _ _ _ dg hdg

/-- **reported, in the output of the whole file**: a required input of the callee that `with:` does not supply gets
"input … is required by … reusable workflow" at `uses:` — the exact diagnostic -/
theorem call_input_required_in_lint (cfg : Cfg) (isNum urlOk : String → Bool) (env : AL.ProjLint.Env) (d cd : Node) (q : Node × Node)
    (vU : Node) (hcd : CalleeOk cfg cd) (hs : CallSite cfg d q vU) (hr : CallResolves cfg env vU.value cd)
    (e : Node × Node) (he : e ∈ entries "inputs" cd) (hreq : inputRequired e.2 = true)
    (hn : ∀ kv ∈ withEntries q.2, cfg.lower kv.1.value ≠ cfg.lower e.1.value) :
    (⟨vU.pos, "workflow-call", "input-required", [e.1.value, vU.value]⟩ : AL.Rules.Diag) ∈ AL.ProjLint.lint cfg isNum urlOk env d := by
  obtain ⟨v, hv, _, hwc⟩ := call_view cfg env d cd q vU hcd hs hr
  apply lint_wc_complete cfg isNum urlOk env d v hv
  rw [hwc]
  have hob : AL.C14W.CallObtained cfg (readMeta cfg cd) := by
    cases hm : fromDocAst cfg cd with
    | none => have := hcd.event; rw [hm] at this; cases this
    | some m => exact .doc cd _ (callee_interface_read cfg cd hcd.lower hcd.sane hcd.clean m hm).2
  have := (AL.C14W.required_input_mem_iff cfg (readMeta cfg cd) hob (callOfJob cfg q.2 vU) (newString vU) e.1.value).2
    ⟨cfg.lower e.1.value, ⟨e.1.value, inputRequired e.2, typeOf e.2⟩,
      (declared_input_entry_iff cfg cd _ _).2 ⟨e, he, rfl, rfl, rfl, rfl⟩, rfl, hreq, by
        simp only [callOfJob, keysOf_withArgs, List.mem_map, not_exists, not_and]
        exact fun kv hkv => hn kv hkv⟩
  exact this

/-- **the output of the whole file for a caller with one calling job**: the "workflow-call" diagnostics of `AL.ProjLint.lint`
(other than the format of `uses:`) are, by site and code, exactly those of `checkWorkflowCallUsesLocal` on the two documents -/
theorem sole_call_lint_iff (cfg : Cfg) (isNum urlOk : String → Bool) (env : AL.ProjLint.Env) (d cd : Node)
    (q : Node × Node) (vU : Node) (hcd : CalleeOk cfg cd) (hs : CallSite cfg d q vU) (hr : CallResolves cfg env vU.value cd)
    (hsole : ∀ q' ∈ jobEntries d, q' ≠ q → attr "uses" q'.2 = none) (p : AL.Rules.Pos) (code : String) (hcode : code ≠ "call-format") :
    (∃ dg ∈ AL.ProjLint.lint cfg isNum urlOk env d, dg.kind = "workflow-call" ∧ dg.code = code ∧ dg.pos = p) ↔
      (p, code) ∈ (AL.ProjCall.checkLocal (readMeta cfg cd) (callOfJob cfg q.2 vU) (newString vU)).map AL.C08R.sig := by
  obtain ⟨v, hv, _, hwc⟩ := call_view cfg env d cd q vU hcd hs hr
  constructor
  · rintro ⟨dg, hdg, hk, hc, hp⟩
    obtain ⟨v', hv', hdg'⟩ := lint_wc_sound cfg isNum urlOk env d dg hdg hk (by rw [hc]; exact hcode)
    -- which job is `v'`?
    have hd := hr.on_disk hcd
    have hinv := initialCache_inv (m := readMeta cfg cd) hr.notSelf (parse cfg d).1
    obtain ⟨pj, hpj, _, c', hc', hw'⟩ := (simulateJobs_wc hd hs.localFormat cfg.lower ((parse cfg d).1.jobs.getD [])
      ((parse cfg d).1.jobs.getD []) _ hinv).2 v' hv'
    obtain ⟨hj, hcl, _⟩ := parse_jobs_read cfg d hs.clean
    rw [hj] at hpj
    obtain ⟨q', hq', rfl⟩ := List.mem_map.1 hpj
    by_cases hqq : q' = q
    · subst hqq
      rw [hw', call_job_wc hcd hs hr c' hc'] at hdg'
      exact List.mem_map.2 ⟨dg, hdg', by simp [AL.C08R.sig, hp, hc]⟩
    · exfalso
      have hnc := parseJob_nocall cfg (newString q'.1) q'.2 (hcl q' hq') (hsole q' hq' hqq)
      rw [hw'] at hdg'
      simp [AL.ProjCall.wcJob, hnc] at hdg'
  · intro h
    obtain ⟨dg, hdg, hsig⟩ := List.mem_map.1 h
    simp only [AL.C08R.sig, Prod.mk.injEq] at hsig
    exact ⟨dg, lint_wc_complete cfg isNum urlOk env d v hv dg (hwc ▸ hdg), AL.C09C.kind_checkLocal _ _ _ dg hdg, hsig.2, hsig.1⟩

/-- **C14 on the output of `AL.ProjLint.lint`, iff, undefined input** — for a caller in which `q` is the only job that calls a
workflow: the output has an `input-undefined` diagnostic of rule workflow-call at the position `p` iff `with:` of `q` has a key
at `p` to which no key of the callee's `inputs:` folds -/
theorem sole_call_input_undefined_lint_iff (cfg : Cfg) (isNum urlOk : String → Bool) (env : AL.ProjLint.Env) (d cd : Node)
    (q : Node × Node) (vU : Node) (hcd : CalleeOk cfg cd) (hs : CallSite cfg d q vU) (hr : CallResolves cfg env vU.value cd)
    (hsole : ∀ q' ∈ jobEntries d, q' ≠ q → attr "uses" q'.2 = none) (p : AL.Rules.Pos) :
    (∃ dg ∈ AL.ProjLint.lint cfg isNum urlOk env d, dg.kind = "workflow-call" ∧ dg.code = "input-undefined" ∧ dg.pos = p) ↔
      ∃ kv ∈ withEntries q.2, kv.1.pos = p ∧ ∀ e ∈ entries "inputs" cd, cfg.lower e.1.value ≠ cfg.lower kv.1.value :=
  (sole_call_lint_iff cfg isNum urlOk env d cd q vU hcd hs hr hsole p _ (by decide)).trans
    (call_input_undefined_doc cfg cd q.2 vU (newString vU) p)

/-- **… required input**: the output has an `input-required` diagnostic at `uses:` iff some entry of the callee's `inputs:` is
required (`required: true`, no `default:`) and no key of `with:` folds to its name -/
theorem sole_call_input_required_lint_iff (cfg : Cfg) (isNum urlOk : String → Bool) (env : AL.ProjLint.Env) (d cd : Node)
    (q : Node × Node) (vU : Node) (hcd : CalleeOk cfg cd) (hs : CallSite cfg d q vU) (hr : CallResolves cfg env vU.value cd)
    (hsole : ∀ q' ∈ jobEntries d, q' ≠ q → attr "uses" q'.2 = none) :
    (∃ dg ∈ AL.ProjLint.lint cfg isNum urlOk env d, dg.kind = "workflow-call" ∧ dg.code = "input-required" ∧ dg.pos = vU.pos) ↔
      ∃ e ∈ entries "inputs" cd, inputRequired e.2 = true ∧ ∀ kv ∈ withEntries q.2, cfg.lower kv.1.value ≠ cfg.lower e.1.value :=
  (sole_call_lint_iff cfg isNum urlOk env d cd q vU hcd hs hr hsole vU.pos _ (by decide)).trans
    (call_input_required_doc cfg cd q.2 vU (newString vU) hcd)

/-- **… secrets** (without `secrets: inherit`) -/
theorem sole_call_secret_undefined_lint_iff (cfg : Cfg) (isNum urlOk : String → Bool) (env : AL.ProjLint.Env) (d cd : Node)
    (q : Node × Node) (vU : Node) (hcd : CalleeOk cfg cd) (hs : CallSite cfg d q vU) (hr : CallResolves cfg env vU.value cd)
    (hsole : ∀ q' ∈ jobEntries d, q' ≠ q → attr "uses" q'.2 = none) (hinh : inheritsSecrets q.2 = false) (p : AL.Rules.Pos) :
    (∃ dg ∈ AL.ProjLint.lint cfg isNum urlOk env d, dg.kind = "workflow-call" ∧ dg.code = "secret-undefined" ∧ dg.pos = p) ↔
      ∃ kv ∈ secretEntries q.2, kv.1.pos = p ∧ ∀ e ∈ entries "secrets" cd, cfg.lower e.1.value ≠ cfg.lower kv.1.value :=
  (sole_call_lint_iff cfg isNum urlOk env d cd q vU hcd hs hr hsole p _ (by decide)).trans
    (call_secret_undefined_doc cfg cd q.2 vU (newString vU) p hinh)

theorem sole_call_secret_required_lint_iff (cfg : Cfg) (isNum urlOk : String → Bool) (env : AL.ProjLint.Env) (d cd : Node)
    (q : Node × Node) (vU : Node) (hcd : CalleeOk cfg cd) (hs : CallSite cfg d q vU) (hr : CallResolves cfg env vU.value cd)
    (hsole : ∀ q' ∈ jobEntries d, q' ≠ q → attr "uses" q'.2 = none) (hinh : inheritsSecrets q.2 = false) :
    (∃ dg ∈ AL.ProjLint.lint cfg isNum urlOk env d, dg.kind = "workflow-call" ∧ dg.code = "secret-required" ∧ dg.pos = vU.pos) ↔
      ∃ e ∈ entries "secrets" cd, requiredTrue e.2 = true ∧ ∀ kv ∈ secretEntries q.2, cfg.lower kv.1.value ≠ cfg.lower e.1.value :=
  (sole_call_lint_iff cfg isNum urlOk env d cd q vU hcd hs hr hsole vU.pos _ (by decide)).trans
    (call_secret_required_doc cfg cd q.2 vU (newString vU) hcd hinh)

/-- **… `secrets: inherit`**: nothing about secrets in the whole output -/
theorem sole_call_inherit_lint (cfg : Cfg) (isNum urlOk : String → Bool) (env : AL.ProjLint.Env) (d cd : Node)
    (q : Node × Node) (vU : Node) (hcd : CalleeOk cfg cd) (hs : CallSite cfg d q vU) (hr : CallResolves cfg env vU.value cd)
    (hsole : ∀ q' ∈ jobEntries d, q' ≠ q → attr "uses" q'.2 = none) (hinh : inheritsSecrets q.2 = true) :
    ∀ dg ∈ AL.ProjLint.lint cfg isNum urlOk env d, dg.kind = "workflow-call" → dg.code ≠ "secret-required" ∧ dg.code ≠ "secret-undefined" := by
  intro dg hdg hk
  have key : ∀ code, code ≠ "call-format" → dg.code = code →
      ∃ x ∈ AL.ProjCall.checkLocal (readMeta cfg cd) (callOfJob cfg q.2 vU) (newString vU), x.code = code := by
    intro code hne hc
    have := (sole_call_lint_iff cfg isNum urlOk env d cd q vU hcd hs hr hsole dg.pos code hne).1 ⟨dg, hdg, hk, hc, rfl⟩
    obtain ⟨x, hx, hsig⟩ := List.mem_map.1 this
    simp only [AL.C08R.sig, Prod.mk.injEq] at hsig
    exact ⟨x, hx, hsig.2⟩
  refine ⟨fun hc => ?_, fun hc => ?_⟩
  · obtain ⟨x, hx, hxc⟩ := key _ (by decide) hc
    exact (call_inherit_no_secret cfg cd q.2 vU _ hinh x hx).1 hxc
  · obtain ⟨x, hx, hxc⟩ := key _ (by decide) hc
    exact (call_inherit_no_secret cfg cd q.2 vU _ hinh x hx).2 hxc

/-! ## 5. end to end: a step that uses a local action -/

/-- the environment: the linted file is inside a project and the metadata the project has for `spec` carries the inputs
and outputs `yaml.Unmarshal` decodes from the document `ad` of its `action.yml` (the rest of the metadata — name, `runs`,
branding, paths — is not C14's concern) -/
structure ActionResolves (cfg : Cfg) (env : AL.ProjLint.Env) (spec : String) (ad : Node) (am : AL.ProjAction.ActionMeta) : Prop where
  project : env.actions.hasProject = true
  disk : env.actions.disk spec = .ok am
  sane : actionSaneB ad = true
  decoded : ∃ dd, AL.ActionDecode.fromDoc cfg ad = .ok dd ∧ am.inputs = dd.inputs ∧ am.outputs = dd.outputs

theorem ActionResolves.read {cfg : Cfg} {env : AL.ProjLint.Env} {spec : String} {ad : Node} {am : AL.ProjAction.ActionMeta}
    (h : ActionResolves cfg env spec ad am) : am.inputs = actionInputs cfg ad ∧ am.outputs = actionOutputs cfg ad := by
  obtain ⟨dd, hd, h1, h2⟩ := h.decoded
  obtain ⟨r1, r2⟩ := action_interface_read cfg ad h.sane dd hd
  exact ⟨h1.trans r1, h2.trans r2⟩

theorem ActionResolves.obtained {cfg : Cfg} {env : AL.ProjLint.Env} {spec : String} {ad : Node} {am : AL.ProjAction.ActionMeta}
    (h : ActionResolves cfg env spec ad am) : AL.C14W.ActionObtained am.inputs := by
  obtain ⟨dd, hd, h1, _⟩ := h.decoded
  rw [h1]
  exact .local_ cfg ad dd hd

/-- the step in the caller's document `d`: the element `sn` of `steps:` of the entry `q` of `jobs:` has `uses: vU`, a scalar
starting with `./` without a placeholder; the parser accepts `d` -/
structure StepSite (cfg : Cfg) (d : Node) (q : Node × Node) (sn vU : Node) : Prop where
  clean : (parse cfg d).2 = []
  job : q ∈ jobEntries d
  plain : attr "uses" q.2 = none
  step : sn ∈ stepNodes q.2
  uses : attr "uses" sn = some vU
  noExpr : AL.Matrix.containsExpr vU.value = false
  localSpec : vU.value.startsWith "./" = true

/-- **C14 end to end, the diagnostics of one step that uses a local action**: whatever was looked up before, the output of
the whole file contains the diagnostics of `checkAction`'s input check (`inputDiags`) for the metadata of `action.yml` and
the `with:` of the step as the parser stores it. The checks of the metadata itself (`metadataDiags`, which
`actionStep_checks` allows in front where the action is used first) are not part of the statement -/
theorem step_view (cfg : Cfg) (isNum urlOk : String → Bool) (env : AL.ProjLint.Env) (d ad : Node) (am : AL.ProjAction.ActionMeta)
    (q : Node × Node) (sn vU : Node) (hs : StepSite cfg d q sn vU) (hr : ActionResolves cfg env vU.value ad am) :
    ∃ e : ExecAction, e.uses = some (newString vU) ∧ e.inputs = stepWith cfg sn ∧
      ∀ dg ∈ AL.ProjAction.inputDiags am vU.value e vU.pos, dg ∈ AL.ProjLint.lint cfg isNum urlOk env d := by
  obtain ⟨j, hj, st, hst, e, he, h1, h2⟩ := caller_step_action cfg d hs.clean q hs.job hs.plain sn hs.step vU hs.uses
  refine ⟨e, h1, h2, ?_⟩
  obtain ⟨c', hc', hall⟩ := (simulate_action hr.disk (parse cfg d).1).1 j hj st hst
  obtain ⟨pre, hpre, _⟩ := actionStep_checks hr.disk hr.project hs.localSpec c' hc' st e (newString vU) he h1 rfl
    (by simp [AL.Rules.containsExpr, newString, hs.noExpr])
  intro dg hdg
  apply (mem_projLint cfg isNum urlOk env d dg).2
  refine Or.inr (Or.inr (Or.inr (hall dg ?_)))
  rw [hpre]
  exact List.mem_append_right _ hdg

theorem stepWith_ids (cfg : Cfg) (sn : Node) (e : ExecAction) (he : e.inputs = stepWith cfg sn) :
    e.inputs.getD [] = (stepWithEntries cfg sn).map fun q => (cfg.lower q.1.value, (⟨newString q.1, newString q.2⟩ : Ast.Input)) := by
  rw [he]
  simp only [stepWith, stepWithEntries, withEntries]
  cases attr "with" sn with
  | none => rfl
  | some w => rfl

theorem any_map_fst_false {α β : Type} (F : α → String × β) (id : String) (l : List α) :
    (l.map F).any (·.1 = id) = false ↔ ∀ x ∈ l, (F x).1 ≠ id := by
  simp [List.any_eq_false]

/-- **an entry of a step's `with:` is reported as undefined iff `action.yml` does not declare it** — on the two
documents -/
theorem step_input_undefined_doc (cfg : Cfg) (ad : Node) (am : AL.ProjAction.ActionMeta) (hin : am.inputs = actionInputs cfg ad)
    (sn : Node) (e : ExecAction) (he : e.inputs = stepWith cfg sn) (spec : String) (pos p : AL.Rules.Pos) :
    (∃ dg ∈ AL.ProjAction.inputDiags am spec e pos, dg.code = "local-input-undefined" ∧ dg.pos = p) ↔
      ∃ kv ∈ stepWithEntries cfg sn, kv.1.pos = p ∧ ∀ x ∈ actSection "inputs" ad, cfg.lower x.1.value ≠ cfg.lower kv.1.value := by
  have hany : ∀ id : String, am.inputs.any (·.1 = id) = false ↔ ∀ x ∈ actSection "inputs" ad, cfg.lower x.1.value ≠ id :=
    fun id => hin ▸ any_map_fst_false _ id _
  constructor
  · rintro ⟨dg, hdg, hc, hp⟩
    rcases (AL.ProjAction.mem_inputDiags am spec e pos dg).1 hdg with ⟨kv, hkv, hna, rfl⟩ | ⟨_, _, _, _, rfl⟩
    · rw [stepWith_ids cfg sn e he] at hkv
      obtain ⟨x, hx, rfl⟩ := List.mem_map.1 hkv
      exact ⟨x, hx, hp, (hany _).1 hna⟩
    · simp at hc
  · rintro ⟨kv, hkv, hp, hn⟩
    have hmem : (cfg.lower kv.1.value, (⟨newString kv.1, newString kv.2⟩ : Ast.Input)) ∈ e.inputs.getD [] :=
      stepWith_ids cfg sn e he ▸ List.mem_map.2 ⟨kv, hkv, rfl⟩
    exact ⟨_, (AL.ProjAction.mem_inputDiags am spec e pos _).2 (.inl ⟨_, hmem, (hany _).2 hn, rfl⟩), rfl, hp⟩

/-- **a required input of the action is reported as missing iff the step's `with:` does not supply it** — on the two
documents -/
theorem step_input_missing_doc (cfg : Cfg) (ad : Node) (am : AL.ProjAction.ActionMeta) (hin : am.inputs = actionInputs cfg ad)
    (hob : AL.C14W.ActionObtained am.inputs) (sn : Node) (e : ExecAction) (he : e.inputs = stepWith cfg sn) (spec : String)
    (pos : AL.Rules.Pos) (name : String) :
    (∃ dg ∈ AL.ProjAction.inputDiags am spec e pos, dg.code = "local-input-missing" ∧ dg.args.head? = some name) ↔
      ∃ x ∈ actSection "inputs" ad, x.1.value = name ∧ actInputRequired x.2 = true ∧
        ∀ kv ∈ stepWithEntries cfg sn, cfg.lower kv.1.value ≠ cfg.lower x.1.value := by
  rw [AL.C14W.local_action_missing_mem_iff am hob spec e pos name]
  have hgiven : ∀ id : String, (e.inputs.getD []).any (·.1 = id) = false ↔ ∀ kv ∈ stepWithEntries cfg sn, cfg.lower kv.1.value ≠ id :=
    fun id => stepWith_ids cfg sn e he ▸ any_map_fst_false _ id _
  constructor
  · rintro ⟨id, hmem, hg⟩
    rw [hin] at hmem
    obtain ⟨x, hx, h1, h2, h3⟩ := (action_declared_input_iff cfg ad id name true).1 hmem
    exact ⟨x, hx, h2.symm, h3.symm, by rw [← h1]; exact (hgiven id).1 hg⟩
  · rintro ⟨x, hx, h1, h2, h3⟩
    refine ⟨cfg.lower x.1.value, ?_, (hgiven _).2 h3⟩
    rw [hin]
    exact (action_declared_input_iff cfg ad _ _ _).2 ⟨x, hx, rfl, h1.symm, h2.symm⟩

theorem step_input_undefined_in_lint (cfg : Cfg) (isNum urlOk : String → Bool) (env : AL.ProjLint.Env) (d ad : Node)
    (am : AL.ProjAction.ActionMeta) (q : Node × Node) (sn vU : Node) (hs : StepSite cfg d q sn vU)
    (hr : ActionResolves cfg env vU.value ad am) (kv : Node × Node) (hkv : kv ∈ stepWithEntries cfg sn)
    (hn : ∀ x ∈ actSection "inputs" ad, cfg.lower x.1.value ≠ cfg.lower kv.1.value) :
    ∃ dg ∈ AL.ProjLint.lint cfg isNum urlOk env d, dg.kind = "action" ∧ dg.code = "local-input-undefined" ∧ dg.pos = kv.1.pos := by
  obtain ⟨e, _, he, hall⟩ := step_view cfg isNum urlOk env d ad am q sn vU hs hr
  obtain ⟨dg, hdg, hc, hp⟩ := (step_input_undefined_doc cfg ad am hr.read.1 sn e he vU.value vU.pos kv.1.pos).2 ⟨kv, hkv, rfl, hn⟩
  refine ⟨dg, hall dg hdg, ?_, hc, hp⟩
  have := AL.C09C.kind_localStep env.actions (.found am true) vU.value e vU.pos dg (by simp [AL.ProjAction.localStep, hdg])
  exact this

theorem step_input_missing_in_lint (cfg : Cfg) (isNum urlOk : String → Bool) (env : AL.ProjLint.Env) (d ad : Node)
    (am : AL.ProjAction.ActionMeta) (q : Node × Node) (sn vU : Node) (hs : StepSite cfg d q sn vU)
    (hr : ActionResolves cfg env vU.value ad am) (x : Node × Node) (hx : x ∈ actSection "inputs" ad)
    (hreq : actInputRequired x.2 = true) (hn : ∀ kv ∈ stepWithEntries cfg sn, cfg.lower kv.1.value ≠ cfg.lower x.1.value) :
    ∃ dg ∈ AL.ProjLint.lint cfg isNum urlOk env d, dg.kind = "action" ∧ dg.code = "local-input-missing" ∧
      dg.args.head? = some x.1.value := by
  obtain ⟨e, _, he, hall⟩ := step_view cfg isNum urlOk env d ad am q sn vU hs hr
  obtain ⟨dg, hdg, hc, hp⟩ := (step_input_missing_doc cfg ad am hr.read.1 hr.obtained sn e he vU.value vU.pos x.1.value).2
    ⟨x, hx, rfl, hreq, hn⟩
  refine ⟨dg, hall dg hdg, ?_, hc, hp⟩
  exact AL.C09C.kind_localStep env.actions (.found am true) vU.value e vU.pos dg (by simp [AL.ProjAction.localStep, hdg])

/-- "nothing else": a diagnostic of the local-action input check in the output belongs to some step's `checkLocalAction` -/
theorem lint_action_only (cfg : Cfg) (isNum urlOk : String → Bool) (env : AL.ProjLint.Env) (d : Node) (spec : String)
    (am : AL.ProjAction.ActionMeta) (hdisk : env.actions.disk spec = .ok am) (dg : AL.Rules.Diag)
    (hdg : dg ∈ AL.ProjLint.lint cfg isNum urlOk env d) (hk : dg.kind = "action")
    (hc : dg.code = "local-input-undefined" ∨ dg.code = "local-input-missing") :
    ∃ j ∈ AL.Rules.jobsOf (parse cfg d).1, ∃ st ∈ AL.Rules.stepsOf j, ∃ c', ActInv spec am c' ∧
      dg ∈ (AL.ProjAction.actionStep env.actions c' st).2 :=
  (simulate_action hdisk (parse cfg d).1).2 dg (projLint_localInput cfg isNum urlOk env d dg hdg hk hc)

/-- `checkAction`'s input check reads the `with:` of the step only -/
theorem inputDiags_congr (m : AL.ProjAction.ActionMeta) (spec : String) (e e' : ExecAction) (pos : AL.Rules.Pos) (h : e.inputs = e'.inputs) :
    AL.ProjAction.inputDiags m spec e pos = AL.ProjAction.inputDiags m spec e' pos := by
  simp only [AL.ProjAction.inputDiags, h]

theorem inputDiags_codes (m : AL.ProjAction.ActionMeta) (spec : String) (e : ExecAction) (pos : AL.Rules.Pos) :
    ∀ dg ∈ AL.ProjAction.inputDiags m spec e pos, dg.code = "local-input-undefined" ∨ dg.code = "local-input-missing" := by
  intro dg hdg
  rcases (AL.ProjAction.mem_inputDiags m spec e pos dg).1 hdg with ⟨_, _, _, rfl⟩ | ⟨_, _, _, _, rfl⟩
  · exact Or.inl rfl
  · exact Or.inr rfl

/-- **the output of the whole file for a caller with one step that uses a local action**: the diagnostics of the local-action
input check in `AL.ProjLint.lint` are exactly `checkAction`'s for the metadata of `action.yml` and the `with:` of that step -/
theorem sole_step_lint_iff (cfg : Cfg) (isNum urlOk : String → Bool) (env : AL.ProjLint.Env) (d ad : Node)
    (am : AL.ProjAction.ActionMeta) (q : Node × Node) (sn vU : Node) (hs : StepSite cfg d q sn vU)
    (hr : ActionResolves cfg env vU.value ad am)
    (hsole : ∀ q' ∈ jobEntries d, ∀ sn' ∈ stepNodes q'.2,
      (q' = q ∧ sn' = sn) ∨ ∀ v, attr "uses" sn' = some v → v.value.startsWith "./" = false)
    (dg : AL.Rules.Diag) :
    (dg ∈ AL.ProjLint.lint cfg isNum urlOk env d ∧ dg.kind = "action" ∧ (dg.code = "local-input-undefined" ∨ dg.code = "local-input-missing")) ↔
      dg ∈ AL.ProjAction.inputDiags am vU.value { inputs := stepWith cfg sn } vU.pos := by
  constructor
  · rintro ⟨hdg, hk, hc⟩
    obtain ⟨j, hj, st, hst, c', hc', hmem⟩ := lint_action_only cfg isNum urlOk env d vU.value am hr.disk dg hdg hk hc
    obtain ⟨hjobs, hcl, _⟩ := parse_jobs_read cfg d hs.clean
    simp only [AL.Rules.jobsOf, hjobs, List.map_map, List.mem_map, Function.comp] at hj
    obtain ⟨q', hq', rfl⟩ := hj
    cases hu : attr "uses" q'.2 with
    | some v =>
      exfalso
      have := parseJob_call_nosteps cfg (newString q'.1) q'.2 (hcl q' hq') v hu
      simp [AL.Rules.stepsOf, this] at hst
    | none =>
      obtain ⟨hsteps, hscl⟩ := parseJob_steps_read cfg (newString q'.1) q'.2 (hcl q' hq') hu
      simp only [AL.Rules.stepsOf, hsteps, List.mem_map] at hst
      obtain ⟨sn', hsn', rfl⟩ := hst
      rcases hsole q' hq' sn' hsn' with ⟨rfl, rfl⟩ | hother
      · obtain ⟨e, he, h1, h2⟩ := parseStep_action_read cfg sn' (hscl sn' hsn') vU hs.uses
        obtain ⟨pre, hpre, hpre2⟩ := actionStep_checks hr.disk hr.project hs.localSpec c' hc' _ e (newString vU) he h1 rfl
          (by simp [AL.Rules.containsExpr, newString, hs.noExpr])
        rw [hpre] at hmem
        rcases List.mem_append.1 hmem with hm | hm
        · exfalso
          rcases hpre2 with rfl | rfl
          · cases hm
          · have := notLocal_metadataDiags _ _ _ dg hm
            rcases hc with hc | hc
            · exact this.1 hc
            · exact this.2 hc
        · rw [inputDiags_congr am vU.value _ e vU.pos (by rw [h2])]
          exact hm
      · exfalso
        cases hu' : attr "uses" sn' with
        | none =>
          have hnone := parseStep_nouses cfg sn' (hscl sn' hsn') hu'
          simp only [AL.ProjAction.actionStep] at hmem
          split at hmem
          · rename_i e he
            rw [he] at hnone
            simp only [execUses] at hnone
            simp [hnone] at hmem
          · cases hmem
        | some v =>
          obtain ⟨e, he, h1, _⟩ := parseStep_action_read cfg sn' (hscl sn' hsn') v hu'
          have hns := hother v hu'
          simp only [AL.ProjAction.actionStep, he, h1] at hmem
          split at hmem
          · cases hmem
          · simp [newString, hns] at hmem
  · intro hdg
    obtain ⟨e, _, he, hall⟩ := step_view cfg isNum urlOk env d ad am q sn vU hs hr
    rw [inputDiags_congr am vU.value _ e vU.pos (by rw [he])] at hdg
    refine ⟨hall dg hdg, ?_, inputDiags_codes _ _ _ _ dg hdg⟩
    exact AL.C09C.kind_localStep env.actions (.found am true) vU.value e vU.pos dg (by simp [AL.ProjAction.localStep, hdg])

/-- **C14 on the output of `AL.ProjLint.lint`, iff, local action, undefined input** — for a caller in which `sn` is the only step
that uses a local action: the output has a `local-input-undefined` diagnostic of rule action at the position `p` iff `with:` of
the step has a key (other than `entrypoint` / `args`) at `p` to which no key of `inputs:` of `action.yml` folds -/
theorem sole_step_input_undefined_lint_iff (cfg : Cfg) (isNum urlOk : String → Bool) (env : AL.ProjLint.Env) (d ad : Node)
    (am : AL.ProjAction.ActionMeta) (q : Node × Node) (sn vU : Node) (hs : StepSite cfg d q sn vU)
    (hr : ActionResolves cfg env vU.value ad am)
    (hsole : ∀ q' ∈ jobEntries d, ∀ sn' ∈ stepNodes q'.2,
      (q' = q ∧ sn' = sn) ∨ ∀ v, attr "uses" sn' = some v → v.value.startsWith "./" = false)
    (p : AL.Rules.Pos) :
    (∃ dg ∈ AL.ProjLint.lint cfg isNum urlOk env d, dg.kind = "action" ∧ dg.code = "local-input-undefined" ∧ dg.pos = p) ↔
      ∃ kv ∈ stepWithEntries cfg sn, kv.1.pos = p ∧ ∀ x ∈ actSection "inputs" ad, cfg.lower x.1.value ≠ cfg.lower kv.1.value := by
  rw [← step_input_undefined_doc cfg ad am hr.read.1 sn { inputs := stepWith cfg sn } rfl vU.value vU.pos p]
  constructor
  · rintro ⟨dg, hdg, hk, hc, hp⟩
    exact ⟨dg, (sole_step_lint_iff cfg isNum urlOk env d ad am q sn vU hs hr hsole dg).1 ⟨hdg, hk, Or.inl hc⟩, hc, hp⟩
  · rintro ⟨dg, hdg, hc, hp⟩
    obtain ⟨h1, h2, _⟩ := (sole_step_lint_iff cfg isNum urlOk env d ad am q sn vU hs hr hsole dg).2 hdg
    exact ⟨dg, h1, h2, hc, hp⟩

/-- **… missing input**: the output has a `local-input-missing` diagnostic naming `name` iff some entry `name` of `inputs:` of
`action.yml` is required (`required:` true, no `default:`) and no key of the step's `with:` folds to it -/
theorem sole_step_input_missing_lint_iff (cfg : Cfg) (isNum urlOk : String → Bool) (env : AL.ProjLint.Env) (d ad : Node)
    (am : AL.ProjAction.ActionMeta) (q : Node × Node) (sn vU : Node) (hs : StepSite cfg d q sn vU)
    (hr : ActionResolves cfg env vU.value ad am)
    (hsole : ∀ q' ∈ jobEntries d, ∀ sn' ∈ stepNodes q'.2,
      (q' = q ∧ sn' = sn) ∨ ∀ v, attr "uses" sn' = some v → v.value.startsWith "./" = false)
    (name : String) :
    (∃ dg ∈ AL.ProjLint.lint cfg isNum urlOk env d, dg.kind = "action" ∧ dg.code = "local-input-missing" ∧ dg.args.head? = some name) ↔
      ∃ x ∈ actSection "inputs" ad, x.1.value = name ∧ actInputRequired x.2 = true ∧
        ∀ kv ∈ stepWithEntries cfg sn, cfg.lower kv.1.value ≠ cfg.lower x.1.value := by
  rw [← step_input_missing_doc cfg ad am hr.read.1 hr.obtained sn { inputs := stepWith cfg sn } rfl vU.value vU.pos name]
  constructor
  · rintro ⟨dg, hdg, hk, hc, hp⟩
    exact ⟨dg, (sole_step_lint_iff cfg isNum urlOk env d ad am q sn vU hs hr hsole dg).1 ⟨hdg, hk, Or.inr hc⟩, hc, hp⟩
  · rintro ⟨dg, hdg, hc, hp⟩
    obtain ⟨h1, h2, _⟩ := (sole_step_lint_iff cfg isNum urlOk env d ad am q sn vU hs hr hsole dg).2 hdg
    exact ⟨dg, h1, h2, hc, hp⟩

/-! ## 6. outputs -/

/-- **`needs.<job>.outputs` of a job that calls the workflow**: a strict object whose properties are exactly the folded keys of
`on.workflow_call.outputs` of the callee's document -/
theorem callee_outputs_doc (cfg : Cfg) (cd : Node) :
    ∃ os, AL.ProjCall.outputsTy (readMeta cfg cd) = .obj os none ∧
      ∀ name, (Ty.lookup name os = none ↔ ∀ e ∈ entries "outputs" cd, cfg.lower e.1.value ≠ name) ∧
        (Ty.lookup name os ≠ none → Ty.lookup name os = some .string) := by
  obtain ⟨os, h1, h2⟩ := AL.C06R.callee_outputs_exact (readMeta cfg cd)
  refine ⟨os, h1, fun name => ?_⟩
  rw [h2 name]
  by_cases hm : name ∈ (readMeta cfg cd).outputs.map (·.1)
  · simp only [hm, if_true, reduceCtorEq, false_iff, ne_eq, not_false_eq_true, forall_const, and_true]
    obtain ⟨e, he, hh⟩ := (declared_output_iff cfg cd name).1 hm
    exact fun h => h e he hh
  · simp only [hm, if_false, true_iff, ne_eq, not_true_eq_false, false_implies, and_true]
    intro e he hh
    exact hm ((declared_output_iff cfg cd name).2 ⟨e, he, hh⟩)

/-- **`steps.<id>.outputs` of a step that uses the local action**: a strict object whose properties are exactly the folded keys
of `outputs:` of `action.yml` -/
theorem action_outputs_doc (cfg : Cfg) (ad : Node) (am : AL.ProjAction.ActionMeta) (hout : am.outputs = actionOutputs cfg ad) :
    ∃ os, AL.ProjAction.outputsTy am = .obj os none ∧
      ∀ name, (Ty.lookup name os = none ↔ ∀ x ∈ actSection "outputs" ad, cfg.lower x.1.value ≠ name) ∧
        (Ty.lookup name os ≠ none → Ty.lookup name os = some .string) := by
  refine ⟨_, rfl, fun name => ?_⟩
  have h2 := AL.C05P.lookup_fold_string name (am.outputs.map (·.1)) []
  simp only [Ty.lookup] at h2
  rw [List.foldl_map] at h2
  rw [h2, hout]
  by_cases hm : name ∈ (actionOutputs cfg ad).map (·.1)
  · simp only [hm, if_true, reduceCtorEq, false_iff, ne_eq, not_false_eq_true, forall_const, and_true]
    obtain ⟨e, he, hh⟩ := (action_declared_output_iff cfg ad name).1 hm
    exact fun h => h e he hh
  · simp only [hm, if_false, true_iff, ne_eq, not_true_eq_false, false_implies, and_true]
    intro e he hh
    exact hm ((action_declared_output_iff cfg ad name).2 ⟨e, he, hh⟩)

/-- what the expression rule is told about a step that uses the local action: the outputs type of the metadata on disk -/
theorem local_action_step_outputs (env : AL.ProjLint.Env) (lower : String → String) (isNum : String → Bool) (w : Workflow)
    (spec : String) (am : AL.ProjAction.ActionMeta) (hp : env.actions.hasProject = true) (hd : env.actions.disk spec = .ok am)
    (hs : spec.startsWith "./" = true) (st : Step) (e : ExecAction) (u : Str) (he : st.exec = .action e) (hu : e.uses = some u)
    (hv : u.value = spec) :
    AL.C06R.stepOutputs (AL.ProjLint.viewOf env lower isNum w) st = AL.ProjAction.outputsTy am := by
  subst hv
  simp [AL.C06R.stepOutputs, he, hu, AL.RuleExpr.actionOutputsTy, hs, AL.ProjLint.viewOf, AL.ProjAction.actionOutputs, hp, hd]

section Outputs
open AL.Sema AL.RuleExpr AL.C05S AL.C06R

/-- **`steps.<id>.outputs.<name>` is reported iff `action.yml` does not declare the output** — the callee's side on the
document: in a job whose steps with the (folded) id `x` all use a local action whose metadata has the outputs decoded from
`ad`, the expression is reported iff no key of `outputs:` of `ad` folds to `name` -/
theorem steps_output_reported_iff_doc (cfg : Cfg) (ad : Node) (am : AL.ProjAction.ActionMeta) (hout : am.outputs = actionOutputs cfg ad)
    (cx0 : Cx) (isNum : IsNumber) (jobs : List (String × Job)) (n : Job) (pre : List Step) (cx : Cx)
    (hcx : AfterSteps cx0 isNum jobs n pre cx) (key x name : String)
    (ha : (AL.Visit.availability key).1.contains (cx0.lower "steps") = true)
    (hex : ∃ s ∈ pre, ∃ id, s.id = some id ∧ cx0.lower id.value = x)
    (hall : ∀ s ∈ pre, ∀ id, s.id = some id → cx0.lower id.value = x → stepOutputs cx0.proj s = AL.ProjAction.outputsTy am) :
    (check (envOf cx key) (.objDeref (.objDeref (.objDeref (.var "steps") x) "outputs") name)).errs ≠ [] ↔
      ∀ o ∈ actSection "outputs" ad, cfg.lower o.1.value ≠ name := by
  obtain ⟨os, h1, h2⟩ := action_outputs_doc cfg ad am hout
  rw [h1] at hall
  exact (steps_outputs_strict_iff cx0 isNum jobs n pre cx hcx key x name os ha hex hall).1.trans (h2 name).1

/-- **`needs.<job>.outputs.<name>` is reported iff the called workflow does not declare the output** — the callee's side on
the document: when the project's view has, for the needed job `i`, the outputs type of the interface read from `cd`, the
expression is reported iff no key of `on.workflow_call.outputs` of `cd` folds to `name` -/
theorem needs_output_reported_iff_doc (cfg : Cfg) (cd : Node) (cx0 : Cx) (isNum : IsNumber) (jobs : List (String × Job)) (n : Job)
    (cx : Cx) (hcx : InJob cx0 isNum jobs n cx) (key i name : String) (j : Job)
    (ha : (AL.Visit.availability key).1.contains (cx0.lower "needs") = true)
    (hin : i ∈ (n.needs.getD []).map (fun id => cx0.lower id.value)) (hself : i ≠ cx0.lower n.id.value)
    (hj : lookupJob i jobs = some j) (hcall : j.workflowCall.isSome = true)
    (hknown : Ty.lookup i (cx0.proj.jobView n.id.value).outs = some (AL.ProjCall.outputsTy (readMeta cfg cd))) :
    (check (envOf cx key) (.objDeref (.objDeref (.objDeref (.var "needs") i) "outputs") name)).errs ≠ [] ↔
      ∀ o ∈ entries "outputs" cd, cfg.lower o.1.value ≠ name := by
  obtain ⟨os, h1, h2⟩ := callee_outputs_doc cfg cd
  rw [h1] at hknown
  exact (needs_outputs_known_iff cx0 isNum jobs n cx hcx key i name j os ha hin hself hj hcall hknown).1.trans (h2 name).1

end Outputs

/-! ### `needs.<job>.outputs`, from the two documents to the expression rule -/

theorem nodup_of_map {α β : Type} (f : α → β) : ∀ (l : List α), (l.map f).Nodup → l.Nodup :=
  fun _ => List.Pairwise.of_map f fun _ _ hne e => hne (congrArg f e)

theorem lookupJob_entries {α : Type} (key : α → String) (J : α → Job) : ∀ (l : List α) (x : α), (l.map key).Nodup → x ∈ l →
    AL.RuleExpr.lookupJob (key x) (l.map fun q => (key q, J q)) = some (J x)
  | [], _, _, h => by cases h
  | y :: rest, x, hnd, h => by
    simp only [List.map_cons, List.nodup_cons, List.mem_map, not_exists, not_and] at hnd
    simp only [List.map_cons, AL.RuleExpr.lookupJob]
    rcases List.mem_cons.1 h with rfl | h
    · simp
    · have : key y ≠ key x := fun e => hnd.1 x h e.symm
      simp only [this, if_false]
      exact lookupJob_entries key J rest x hnd.2 h

/-- in a document the parser accepts, the jobs are looked up under their folded keys -/
theorem lookupJob_parse (cfg : Cfg) (d : Node) (hc : (parse cfg d).2 = []) (q : Node × Node) (hq : q ∈ jobEntries d) :
    AL.RuleExpr.lookupJob (cfg.lower q.1.value) ((parse cfg d).1.jobs.getD []) = some (parseJob cfg (newString q.1) q.2).1 := by
  obtain ⟨hj, _, hnd⟩ := parse_jobs_read cfg d hc
  rw [hj]
  exact lookupJob_entries (fun q : Node × Node => cfg.lower q.1.value) (fun q => (parseJob cfg (newString q.1) q.2).1) _ q hnd hq

/-- **what the project's view tells the expression rule about `needs.<i>.outputs`**, from the two documents: in the caller `d`,
for the job `qn` that needs the job `qc` which calls the workflow whose document is `cd`, the view has the outputs type of the
interface read from `cd` -/
theorem needs_view_of_documents (cfg : Cfg) (isNum : String → Bool) (env : AL.ProjLint.Env) (d cd : Node) (qc : Node × Node) (vU : Node)
    (hcd : CalleeOk cfg cd) (hs : CallSite cfg d qc vU) (hr : CallResolves cfg env vU.value cd)
    (qn : Node × Node) (hqn : qn ∈ jobEntries d)
    (hin : cfg.lower qc.1.value ∈ ((parseJob cfg (newString qn.1) qn.2).1.needs.getD []).map (fun id => cfg.lower id.value))
    (hself : cfg.lower qc.1.value ≠ cfg.lower qn.1.value) :
    Ty.lookup (cfg.lower qc.1.value) ((AL.ProjLint.viewOf env cfg.lower isNum (parse cfg d).1).jobView qn.1.value).outs =
      some (AL.ProjCall.outputsTy (readMeta cfg cd)) := by
  obtain ⟨hj, hcl, hnd⟩ := parse_jobs_read cfg d hs.clean
  have hd := hr.on_disk hcd
  have hinv := initialCache_inv (m := readMeta cfg cd) hr.notSelf (parse cfg d).1
  have hskip := hs.not_skipped hr.project
  -- the needing job and its view
  have hnid : (parseJob cfg (newString qn.1) qn.2).1.id.value = qn.1.value := by rw [AL.C08P.parseJob_id]; rfl
  have hmem : (cfg.lower qn.1.value, (parseJob cfg (newString qn.1) qn.2).1) ∈ (parse cfg d).1.jobs.getD [] := by
    rw [hj]; exact List.mem_map.2 ⟨qn, hqn, rfl⟩
  obtain ⟨hkeys, hall⟩ := simulateJobs_outs hd hs.localFormat cfg.lower ((parse cfg d).1.jobs.getD [])
    ((parse cfg d).1.jobs.getD []) _ hinv
  obtain ⟨v, hv, hv1, c', hc', hv2⟩ := hall _ hmem
  rw [hnid] at hv1
  -- the called job
  obtain ⟨_, cc, hw, hu1, _, _, _⟩ := parseJob_call_read cfg (newString qc.1) qc.2 (hcl qc hs.job) vU hs.uses
  have hlk := lookupJob_parse cfg d hs.clean qc hs.job
  have hout := needsLookups_outs hd hskip cfg.lower ((parse cfg d).1.jobs.getD []) (parseJob cfg (newString qn.1) qn.2).1 c' hc'
    (cfg.lower qc.1.value) _ cc (newString vU) hin (by rw [hnid]; exact hself) hlk hw hu1 rfl
  rw [← hv2] at hout
  -- the view is found under the job's id
  have hids : ((AL.ProjCall.simulate env.calls cfg.lower (parse cfg d).1).map (·.1)).Nodup := by
    simp only [AL.ProjCall.simulate]
    rw [hkeys, hj, List.map_map]
    have : ((fun p : String × Job => p.2.id.value) ∘ fun q : Node × Node => (cfg.lower q.1.value, (parseJob cfg (newString q.1) q.2).1)) =
        fun q => q.1.value := by
      funext q
      simp only [Function.comp]
      rw [AL.C08P.parseJob_id]; rfl
    rw [this]
    have h2 : ((jobEntries d).map fun q => cfg.lower q.1.value) = ((jobEntries d).map fun q => q.1.value).map cfg.lower := by
      rw [List.map_map]; rfl
    rw [h2] at hnd
    exact nodup_of_map _ _ hnd
  simp only [AL.ProjLint.viewOf, AL.ProjCall.viewOf, AL.RuleExpr.ProjView.jobView]
  have hfind : ((AL.ProjCall.simulate env.calls cfg.lower (parse cfg d).1).map fun e =>
      (e.1, ({ outs := e.2.outs, inputs := e.2.inputs } : AL.RuleExpr.ProjJob))).find? (fun e => e.1 = qn.1.value) =
      some (qn.1.value, { outs := v.2.outs, inputs := v.2.inputs }) := by
    rw [AL.C14W.find_iff_mem _ (by rw [List.map_map]; exact hids)]
    exact List.mem_map.2 ⟨v, hv, by rw [hv1]⟩
  rw [hfind]
  exact hout

section Outputs2
open AL.Sema AL.RuleExpr AL.C05S AL.C06R

/-- **C14, outputs, end to end for a reusable workflow**: in the caller's document `d` (accepted by the parser), the job `qn` needs
the job `qc`, which calls the local workflow whose document is `cd`; under the project's view of the file, in any context where
`needs` is available, `needs.<qc>.outputs.<name>` is reported iff no key of `on.workflow_call.outputs` of `cd` folds to `name` -/
theorem needs_output_reported_iff_documents (cfg : Cfg) (isNum : String → Bool) (env : AL.ProjLint.Env) (d cd : Node)
    (qc : Node × Node) (vU : Node) (hcd : CalleeOk cfg cd) (hs : CallSite cfg d qc vU) (hr : CallResolves cfg env vU.value cd)
    (qn : Node × Node) (hqn : qn ∈ jobEntries d)
    (cx0 : Cx) (hl : cx0.lower = cfg.lower) (hp : cx0.proj = AL.ProjLint.viewOf env cfg.lower isNum (parse cfg d).1)
    (isNumber : IsNumber) (cx : Cx)
    (hcx : InJob cx0 isNumber ((parse cfg d).1.jobs.getD []) (parseJob cfg (newString qn.1) qn.2).1 cx)
    (key name : String) (ha : (AL.Visit.availability key).1.contains (cx0.lower "needs") = true)
    (hin : cfg.lower qc.1.value ∈ ((parseJob cfg (newString qn.1) qn.2).1.needs.getD []).map (fun id => cfg.lower id.value))
    (hself : cfg.lower qc.1.value ≠ cfg.lower qn.1.value) :
    (check (envOf cx key) (.objDeref (.objDeref (.objDeref (.var "needs") (cfg.lower qc.1.value)) "outputs") name)).errs ≠ [] ↔
      ∀ o ∈ entries "outputs" cd, cfg.lower o.1.value ≠ name := by
  have hnid : (parseJob cfg (newString qn.1) qn.2).1.id.value = qn.1.value := by rw [AL.C08P.parseJob_id]; rfl
  have hw := parseJob_callOfJob cfg (newString qc.1) qc.2 ((parse_jobs_read cfg d hs.clean).2.1 qc hs.job) vU hs.uses
  refine needs_output_reported_iff_doc cfg cd cx0 isNumber _ _ cx hcx key (cfg.lower qc.1.value) name _ ha ?_ ?_
    (lookupJob_parse cfg d hs.clean qc hs.job) (by rw [hw]; rfl) ?_
  · rw [hl]; exact hin
  · rw [hl, hnid]; exact hself
  · rw [hp, hnid]
    exact needs_view_of_documents cfg isNum env d cd qc vU hcd hs hr qn hqn hin hself

end Outputs2

/-! ## 7. instances: the hypotheses are met by ordinary documents, and both sides of every iff occur -/

section Examples

/-!
The called workflow `.github/workflows/w.yml`:
```
on:
  workflow_call:
    inputs:
      Env: {required: true, type: string}
      tag: {type: string, default: x, required: true}
      Dry: {type: boolean}
    secrets:
      TOKEN: {required: true}
      opt: {}
    outputs:
      URL: {value: x}
jobs: {j: {runs-on: u, steps: [{run: x}]}}
```
the caller:
```
on: push
jobs:
  Call:
    uses: ./.github/workflows/w.yml
    with: {ENV: prod, verbose: 1}
    secrets: {Token: x, Other: y}
  other:
    runs-on: u
    steps:
      - uses: ./act
        with: {Depth: 2, extra: 1, args: a}
```
and `act/action.yml`:
```
name: act
description: d
inputs:
  Token: {required: true}
  depth: {default: "1", required: true}
  Flag: {required: yes}
outputs: {Out: {description: o}}
runs: {using: node20, main: index.js}
```
-/

def xCfg : Cfg := ⟨asciiLower, fun _ => none, fun _ => .err⟩
def xs (v : String) (l c : Nat) : Node := .mk .scalar "!!str" v false l c []
def xb (v : String) (l c : Nat) : Node := .mk .scalar "!!bool" v false l c []
def xm (l c : Nat) (cs : List Node) : Node := .mk .mapping "!!map" "" false l c cs
def xq (l c : Nat) (cs : List Node) : Node := .mk .sequence "!!seq" "" false l c cs
def xdoc (root : Node) : Node := .mk .document "" "" false 1 1 [root]

def xiEnv : Node × Node := (xs "Env" 4 7, xm 5 9 [xs "required" 5 9, xb "true" 5 19, xs "type" 6 9, xs "string" 6 15])
def xiTag : Node × Node :=
  (xs "tag" 7 7, xm 8 9 [xs "type" 8 9, xs "string" 8 15, xs "default" 9 9, xs "x" 9 18, xs "required" 10 9, xb "true" 10 19])
def xiDry : Node × Node := (xs "Dry" 11 7, xm 12 9 [xs "type" 12 9, xs "boolean" 12 15])
def xsToken : Node × Node := (xs "TOKEN" 14 7, xm 15 9 [xs "required" 15 9, xb "true" 15 19])
def xsOpt : Node × Node := (xs "opt" 16 7, xm 16 12 [])
def xoUrl : Node × Node := (xs "URL" 18 7, xm 19 9 [xs "value" 19 9, xs "x" 19 16])

def xCallNode : Node :=
  xm 3 5 [xs "inputs" 3 5, xm 4 7 [xiEnv.1, xiEnv.2, xiTag.1, xiTag.2, xiDry.1, xiDry.2],
    xs "secrets" 13 5, xm 14 7 [xsToken.1, xsToken.2, xsOpt.1, xsOpt.2],
    xs "outputs" 17 5, xm 18 7 [xoUrl.1, xoUrl.2]]

def xCallee : Node :=
  xdoc (xm 1 1 [xs "on" 1 1, xm 2 3 [xs "workflow_call" 2 3, xCallNode],
    xs "jobs" 20 1, xm 21 3 [xs "j" 21 3, xm 22 5 [xs "runs-on" 22 5, xs "u" 22 14, xs "steps" 23 5,
      xq 24 7 [xm 24 9 [xs "run" 24 9, xs "x" 24 14]]]]])

theorem xCalleeOk : CalleeOk xCfg xCallee := by
  -- one evaluation: `clean` and `event` both run the parser on `xCallee`, all four fold the same keys
  obtain ⟨h1, h2, h3, h4⟩ : xCfg.lower "workflow_call" = "workflow_call" ∧ docHypB xCfg xCallee = true ∧
      (parse xCfg xCallee).2 = [] ∧ (fromDocAst xCfg xCallee).isSome = true := by decide +kernel
  exact ⟨h1, h2, h3, h4⟩
theorem xCallNodeEq : callNode xCallee = some xCallNode := by rfl
theorem xInputs : entries "inputs" xCallee = [xiEnv, xiTag, xiDry] := by rw [entries, xCallNodeEq]; rfl
theorem xSecretsDecl : entries "secrets" xCallee = [xsToken, xsOpt] := by rw [entries, xCallNodeEq]; rfl
theorem xOutputs : entries "outputs" xCallee = [xoUrl] := by rw [entries, xCallNodeEq]; rfl

def xSpec : String := "./.github/workflows/w.yml"
def xUses : Node := xs xSpec 4 11
def xwEnv : Node × Node := (xs "ENV" 6 7, xs "prod" 6 12)
def xwVerbose : Node × Node := (xs "verbose" 7 7, xs "1" 7 16)
def xcToken : Node × Node := (xs "Token" 9 7, xs "x" 9 14)
def xcOther : Node × Node := (xs "Other" 10 7, xs "y" 10 14)
def xCallJobNode : Node :=
  xm 4 5 [xs "uses" 4 5, xUses, xs "with" 5 5, xm 6 7 [xwEnv.1, xwEnv.2, xwVerbose.1, xwVerbose.2],
    xs "secrets" 8 5, xm 9 7 [xcToken.1, xcToken.2, xcOther.1, xcOther.2]]
def xActUses : Node := xs "./act" 14 15
def xtDepth : Node × Node := (xs "Depth" 16 11, xs "2" 16 18)
def xtExtra : Node × Node := (xs "extra" 17 11, xs "1" 17 18)
def xStepNode : Node :=
  xm 14 9 [xs "uses" 14 9, xActUses, xs "with" 15 9, xm 16 11 [xtDepth.1, xtDepth.2, xtExtra.1, xtExtra.2, xs "args" 18 11, xs "a" 18 17]]
def xOtherJobNode : Node := xm 12 5 [xs "runs-on" 12 5, xs "u" 12 14, xs "steps" 13 5, xq 14 7 [xStepNode]]
def xCallJob : Node × Node := (xs "Call" 3 3, xCallJobNode)
def xOtherJob : Node × Node := (xs "other" 11 3, xOtherJobNode)
def xCaller : Node :=
  xdoc (xm 1 1 [xs "on" 1 1, xs "push" 1 5, xs "jobs" 2 1, xm 3 3 [xCallJob.1, xCallJob.2, xOtherJob.1, xOtherJob.2]])

/-- a second caller: `with: {verbose: 1}` only, and `secrets: inherit` -/
def xCallJobNode2 : Node :=
  xm 4 5 [xs "uses" 4 5, xUses, xs "with" 5 5, xm 6 7 [xwVerbose.1, xwVerbose.2], xs "secrets" 8 5, xs "inherit" 8 14]
def xCallJob2 : Node × Node := (xs "Call" 3 3, xCallJobNode2)
def xCaller2 : Node := xdoc (xm 1 1 [xs "on" 1 1, xs "push" 1 5, xs "jobs" 2 1, xm 3 3 [xCallJob2.1, xCallJob2.2]])

/-- a third caller: `dep` needs `Call`
```
on: push
jobs:
  Call: {uses: ./.github/workflows/w.yml, with: {ENV: prod}, secrets: inherit}
  dep: {needs: Call, runs-on: u, steps: [{run: x}]}
```
-/
def xCallJob3 : Node × Node :=
  (xs "Call" 3 3, xm 4 5 [xs "uses" 4 5, xUses, xs "with" 5 5, xm 6 7 [xwEnv.1, xwEnv.2], xs "secrets" 7 5, xs "inherit" 7 14])
def xDepJob : Node × Node :=
  (xs "dep" 8 3, xm 9 5 [xs "needs" 9 5, xs "Call" 9 12, xs "runs-on" 10 5, xs "u" 10 14, xs "steps" 11 5,
    xq 12 7 [xm 12 9 [xs "run" 12 9, xs "x" 12 14]]])
def xCaller3 : Node :=
  xdoc (xm 1 1 [xs "on" 1 1, xs "push" 1 5, xs "jobs" 2 1, xm 3 3 [xCallJob3.1, xCallJob3.2, xDepJob.1, xDepJob.2]])

def xaToken : Node × Node := (xs "Token" 4 3, xm 5 5 [xs "required" 5 5, xb "true" 5 15])
def xaDepth : Node × Node := (xs "depth" 6 3, xm 7 5 [xs "default" 7 5, xs "1" 7 14, xs "required" 8 5, xb "true" 8 15])
def xaFlag : Node × Node := (xs "Flag" 9 3, xm 10 5 [xs "required" 10 5, xs "yes" 10 15])
def xaOut : Node × Node := (xs "Out" 12 3, xm 13 5 [xs "description" 13 5, xs "o" 13 18])
def xAction : Node :=
  xdoc (xm 1 1 [xs "name" 1 1, xs "act" 1 7, xs "description" 2 1, xs "d" 2 14,
    xs "inputs" 3 1, xm 4 3 [xaToken.1, xaToken.2, xaDepth.1, xaDepth.2, xaFlag.1, xaFlag.2],
    xs "outputs" 11 1, xm 12 3 [xaOut.1, xaOut.2],
    xs "runs" 14 1, xm 15 3 [xs "using" 15 3, xs "node20" 15 10, xs "main" 16 3, xs "index.js" 16 9]])

def xActMeta : AL.ProjAction.ActionMeta :=
  { name := "act", description := "d", runs := { using_ := "node20", main := "index.js" },
    inputs := actionInputs xCfg xAction, outputs := actionOutputs xCfg xAction, dir := "act", path := "act/action.yml" }

def xEnv : AL.ProjLint.Env :=
  { calls := { disk := fun s => if s = xSpec then diskOfDoc xCfg xCallee else .missing },
    actions := { disk := fun s => if s = "./act" then .ok xActMeta else .absent } }

theorem xJobs : jobEntries xCaller = [xCallJob, xOtherJob] := by rfl
theorem xJobs2 : jobEntries xCaller2 = [xCallJob2] := by rfl
theorem xSteps : stepNodes xOtherJob.2 = [xStepNode] := by rfl
theorem xWithEntries : withEntries xCallJobNode = [xwEnv, xwVerbose] := by rfl
theorem xWithEntries' : withEntries xCallJob.2 = [xwEnv, xwVerbose] := xWithEntries
theorem xWithEntries2 : withEntries xCallJob2.2 = [xwVerbose] := by rfl
theorem xSecretEntries : secretEntries xCallJobNode = [xcToken, xcOther] := by rfl
theorem xActInputs : actSection "inputs" xAction = [xaToken, xaDepth, xaFlag] := by rfl
theorem xActOutputs : actSection "outputs" xAction = [xaOut] := by rfl
theorem xStepWithEntries : stepWithEntries xCfg xStepNode = [xtDepth, xtExtra] := by rfl
/-- the `uses:` of the three callers: no placeholder, the local format -/
theorem xUsesFormat : AL.Matrix.containsExpr xUses.value = false ∧ AL.Rules.isLocalCallFormat xUses.value = true := by
  decide +kernel
/-- the parser accepts the three callers: one evaluation, in which the parser's own key literals are decoded once -/
theorem xCallersClean : (parse xCfg xCaller).2 = [] ∧ (parse xCfg xCaller2).2 = [] ∧ (parse xCfg xCaller3).2 = [] := by
  decide +kernel
theorem xCallSite : CallSite xCfg xCaller xCallJob xUses :=
  ⟨xCallersClean.1, by rw [xJobs]; simp, rfl, xUsesFormat.1, xUsesFormat.2⟩
theorem xCallSite2 : CallSite xCfg xCaller2 xCallJob2 xUses :=
  ⟨xCallersClean.2.1, by rw [xJobs2]; simp, rfl, xUsesFormat.1, xUsesFormat.2⟩
theorem xResolves : CallResolves xCfg xEnv xUses.value xCallee :=
  ⟨rfl, by simp only [xEnv]; exact if_pos rfl, by simp [xEnv]⟩
/-- `action.yml` in one evaluation: it is in the decoder's domain and accepted; what the readers find in it; the input check
of the step `xStepNode` against it -/
theorem xActFacts : actionSaneB xAction = true ∧ (AL.ActionDecode.fromDoc xCfg xAction).isOk = true ∧
    actionInputs xCfg xAction = [("token", "Token", true), ("depth", "depth", false), ("flag", "Flag", true)] ∧
    actionOutputs xCfg xAction = [("out", "Out")] ∧
    (AL.ProjAction.inputDiags xActMeta "./act" { inputs := stepWith xCfg xStepNode } ⟨14, 15⟩).map AL.C08R.sig =
      [(⟨17, 11⟩, "local-input-undefined"), (⟨14, 15⟩, "local-input-missing"), (⟨14, 15⟩, "local-input-missing")] := by
  decide +kernel
/-- the decoder accepts `action.yml`; what it decodes is then what `actionInputs` / `actionOutputs` read, by
`action_interface_read` -/
theorem xActResolves : ActionResolves xCfg xEnv xActUses.value xAction xActMeta := by
  have hs := xActFacts.1
  have hok := xActFacts.2.1
  cases h : AL.ActionDecode.fromDoc xCfg xAction with
  | error e => rw [h] at hok; cases hok
  | ok dd =>
    obtain ⟨h1, h2⟩ := action_interface_read xCfg xAction hs dd h
    exact ⟨rfl, by simp only [xEnv]; exact if_pos rfl, hs, dd, h, h1.symm, h2.symm⟩
theorem xStepSite : StepSite xCfg xCaller xOtherJob xStepNode xActUses :=
  ⟨xCallersClean.1, by rw [xJobs]; simp, rfl, by rw [xSteps]; simp, rfl,
    by decide +kernel, by decide +kernel⟩

def xIsNum : String → Bool := fun _ => false
def xUrlOk : String → Bool := fun _ => true

/-! ### §1 -/

example : CalleeSane xCallee := callee_sane xCfg xCallee xCalleeOk.sane

/-- the interface read from `w.yml` and the check of the first two callers against it, one evaluation -/
theorem xCallFacts :
    readMeta xCfg xCallee =
      { inputs := [("env", ⟨"Env", true, .string⟩), ("tag", ⟨"tag", false, .string⟩), ("dry", ⟨"Dry", false, .bool⟩)],
        outputs := [("url", "URL")], secrets := [("token", ⟨"TOKEN", true⟩), ("opt", ⟨"opt", false⟩)] } ∧
    (AL.ProjCall.checkLocal (readMeta xCfg xCallee) (callOfJob xCfg xCallJobNode xUses) (newString xUses)).map AL.C08R.sig =
      [(⟨7, 7⟩, "input-undefined"), (⟨10, 7⟩, "secret-undefined")] ∧
    (AL.ProjCall.checkLocal (readMeta xCfg xCallee) (callOfJob xCfg xCallJobNode2 xUses) (newString xUses)).map AL.C08R.sig =
      [(⟨4, 11⟩, "input-required"), (⟨7, 7⟩, "input-undefined")] := by decide +kernel

/-- the interface read from the document … -/
example : readMeta xCfg xCallee =
    { inputs := [("env", ⟨"Env", true, .string⟩), ("tag", ⟨"tag", false, .string⟩), ("dry", ⟨"Dry", false, .bool⟩)],
      outputs := [("url", "URL")], secrets := [("token", ⟨"TOKEN", true⟩), ("opt", ⟨"opt", false⟩)] } := xCallFacts.1

/-- … is what the AST gives and what decoding the file gives -/
example : fromDocAst xCfg xCallee = some (readMeta xCfg xCallee) ∧ fromDoc xCfg xCallee = .ok (readMeta xCfg xCallee) := by
  cases hm : fromDocAst xCfg xCallee with
  | none => exact absurd xCalleeOk.event (by rw [hm]; decide)
  | some m =>
    obtain ⟨h1, h2⟩ := callee_interface_read xCfg xCallee xCalleeOk.lower xCalleeOk.sane xCalleeOk.clean m hm
    exact ⟨by rw [h1], h2⟩

example : "env" ∈ AL.ProjCall.keysOf (readMeta xCfg xCallee).inputs :=
  (declared_input_iff xCfg xCallee "env").2 ⟨xiEnv, by rw [xInputs]; simp, by decide +kernel⟩
example : "token" ∈ AL.ProjCall.keysOf (readMeta xCfg xCallee).secrets :=
  (declared_secret_iff xCfg xCallee "token").2 ⟨xsToken, by rw [xSecretsDecl]; simp, by decide +kernel⟩
example : "url" ∈ (readMeta xCfg xCallee).outputs.map (·.1) :=
  (declared_output_iff xCfg xCallee "url").2 ⟨xoUrl, by rw [xOutputs]; simp, by decide +kernel⟩
/-- `Env` has `required: true` and no default; `tag` has `required: true` AND a default: not required -/
example : inputRequired xiEnv.2 = true ∧ inputRequired xiTag.2 = false ∧ inputRequired xiDry.2 = false := by decide +kernel
example : inputRequired xiEnv.2 = true :=
  (inputRequired_iff _).2 ⟨⟨xb "true" 5 19, rfl, rfl, rfl, by decide⟩, by rintro ⟨d, hd, _⟩; cases hd⟩
example : requiredTrue xsToken.2 = true := (requiredTrue_iff _).2 ⟨xb "true" 15 19, rfl, rfl, rfl, by decide⟩
theorem xEnvRequired : inputRequired xiEnv.2 = true := by decide +kernel
example : ("env", (⟨"Env", true, .string⟩ : CallMeta.Input)) ∈ (readMeta xCfg xCallee).inputs :=
  (declared_input_entry_iff xCfg xCallee _ _).2 ⟨xiEnv, by rw [xInputs]; simp, by decide +kernel, rfl, xEnvRequired.symm, by decide +kernel⟩
example : ("token", (⟨"TOKEN", true⟩ : CallMeta.Secret)) ∈ (readMeta xCfg xCallee).secrets :=
  (declared_secret_entry_iff xCfg xCallee _ _).2 ⟨xsToken, by rw [xSecretsDecl]; simp, by decide +kernel, rfl, by decide +kernel⟩
example : diskOfDoc xCfg xCallee = .ok (readMeta xCfg xCallee) :=
  callee_on_disk xCfg xCallee xCalleeOk.lower xCalleeOk.sane xCalleeOk.clean xCalleeOk.event
example : AL.C14W.MetaDistinct (readMeta xCfg xCallee) :=
  readMeta_distinct xCfg xCallee xCalleeOk.lower xCalleeOk.sane xCalleeOk.clean xCalleeOk.event

/-! ### §2 -/

/-- `Flag: {required: yes}` IS required: yaml.v3 decodes the word `yes` into the Go bool `true` -/
example : actionInputs xCfg xAction = [("token", "Token", true), ("depth", "depth", false), ("flag", "Flag", true)] :=
  xActFacts.2.2.1
example : actionOutputs xCfg xAction = [("out", "Out")] := xActFacts.2.2.2.1
example : ∃ dd, AL.ActionDecode.fromDoc xCfg xAction = .ok dd ∧ dd.inputs = actionInputs xCfg xAction ∧ dd.outputs = actionOutputs xCfg xAction :=
  let ⟨dd, h, _⟩ := xActResolves.decoded
  ⟨dd, h, action_interface_read xCfg xAction xActResolves.sane dd h⟩
theorem xFlagRequired : actInputRequired xaFlag.2 = true := by decide +kernel
example : ("flag", "Flag", true) ∈ actionInputs xCfg xAction :=
  (action_declared_input_iff xCfg xAction _ _ _).2 ⟨xaFlag, by rw [xActInputs]; simp, by decide +kernel, rfl, xFlagRequired.symm⟩
example : "out" ∈ (actionOutputs xCfg xAction).map (·.1) :=
  (action_declared_output_iff xCfg xAction _).2 ⟨xaOut, by rw [xActOutputs]; simp, by decide +kernel⟩
example : actInputRequired xaFlag.2 = true :=
  (actInputRequired_iff _).2 ⟨⟨xs "yes" 10 15, rfl, by decide +kernel⟩, by rintro ⟨d, hd, _⟩; cases hd⟩
example : yamlTrue (xb "true" 5 15) = true := yamlTrue_of_saysTrue _ (by decide +kernel)

/-! ### §3 -/

example : ∃ j, ("call", j) ∈ (parse xCfg xCaller).1.jobs.getD [] ∧ j.id = newString xCallJob.1 ∧
    j.workflowCall = some (callOfJob xCfg xCallJobNode xUses) :=
  caller_job_call xCfg xCaller xCallSite.clean xCallJob xCallSite.job xUses rfl
/-- the call as the parser stores it: ids are the folded keys -/
example : (AL.C08R.callKeys (callOfJob xCfg xCallJobNode xUses).inputs, AL.C08R.callKeys (callOfJob xCfg xCallJobNode xUses).secrets) =
    ([("env", ⟨6, 7⟩), ("verbose", ⟨7, 7⟩)], [("token", ⟨9, 7⟩), ("other", ⟨10, 7⟩)]) := by decide +kernel
example : AL.C08R.callKeys (withArgs xCfg xCallJobNode) = [("env", ⟨6, 7⟩), ("verbose", ⟨7, 7⟩)] := by
  rw [callKeys_withArgs, xWithEntries]; decide +kernel
example : ∃ j, ("other", j) ∈ (parse xCfg xCaller).1.jobs.getD [] ∧ j.workflowCall = none ∧
    j.steps.getD [] = (stepNodes xOtherJobNode).map (fun c => (parseStep xCfg c).1) :=
  caller_job_plain xCfg xCaller xStepSite.clean xOtherJob xStepSite.job rfl
example : ∃ j ∈ AL.Rules.jobsOf (parse xCfg xCaller).1, ∃ st ∈ AL.Rules.stepsOf j, ∃ e, st.exec = .action e ∧
    e.uses = some (newString xActUses) ∧ e.inputs = stepWith xCfg xStepNode :=
  caller_step_action xCfg xCaller xStepSite.clean xOtherJob xStepSite.job rfl xStepNode xStepSite.step xActUses rfl
example : AL.C08R.Folded xCfg.lower { inputs := stepWith xCfg xStepNode } := step_with_ids_folded xCfg xStepNode _ rfl
example : AL.C08R.ArgsFolded xCfg.lower (withArgs xCfg xCallJobNode) := with_ids_folded xCfg xCallJobNode
example : AL.C08R.ArgsFolded xCfg.lower (secretArgs xCfg xCallJobNode) := secret_ids_folded xCfg xCallJobNode

/-! ### §4 -/

example : xEnv.calls.disk xSpec = .ok (readMeta xCfg xCallee) := xResolves.on_disk xCalleeOk

/-- the diagnostics of the job `Call`: `verbose` is not an input, `Other` not a secret; `ENV` supplies `Env`, `Token`
supplies `TOKEN` -/
example : ∃ v ∈ AL.ProjCall.simulate xEnv.calls xCfg.lower (parse xCfg xCaller).1, v.1 = "Call" ∧
    v.2.wc.map AL.C08R.sig = [(⟨7, 7⟩, "input-undefined"), (⟨10, 7⟩, "secret-undefined")] := by
  obtain ⟨v, hv, h1, h2⟩ := call_view xCfg xEnv xCaller xCallee xCallJob xUses xCalleeOk xCallSite xResolves
  exact ⟨v, hv, h1, by rw [h2]; exact xCallFacts.2.1⟩

/-- the second caller: `Env` is required and not supplied; `secrets: inherit`: nothing about secrets -/
example : ∃ v ∈ AL.ProjCall.simulate xEnv.calls xCfg.lower (parse xCfg xCaller2).1, v.1 = "Call" ∧
    v.2.wc.map AL.C08R.sig = [(⟨4, 11⟩, "input-required"), (⟨7, 7⟩, "input-undefined")] := by
  obtain ⟨v, hv, h1, h2⟩ := call_view xCfg xEnv xCaller2 xCallee xCallJob2 xUses xCalleeOk xCallSite2 xResolves
  exact ⟨v, hv, h1, by rw [h2]; exact xCallFacts.2.2⟩

theorem xNoVerbose : ∀ e ∈ entries "inputs" xCallee, xCfg.lower e.1.value ≠ xCfg.lower xwVerbose.1.value := by
  rw [xInputs]; decide +kernel

theorem xEnvFolds : xCfg.lower xiEnv.1.value = xCfg.lower xwEnv.1.value := by decide +kernel
theorem xTokenFolds : xCfg.lower xsToken.1.value = xCfg.lower xcToken.1.value := by decide +kernel

/-- the second caller's `with:` has no key that folds to `Env` -/
theorem xEnvMissing2 : ∀ kv ∈ withEntries xCallJobNode2, xCfg.lower kv.1.value ≠ xCfg.lower xiEnv.1.value := by
  rw [show withEntries xCallJobNode2 = [xwVerbose] from xWithEntries2]; decide +kernel

/-- no declared secret folds to `Other` -/
theorem xNoOther : ∀ e ∈ entries "secrets" xCallee, xCfg.lower e.1.value ≠ xCfg.lower xcOther.1.value := by
  rw [xSecretsDecl]; decide +kernel

/-- `verbose` (7:7) is reported, `ENV` (6:7) is not: `Env` folds to the same id -/
example : (⟨7, 7⟩, "input-undefined") ∈
      (AL.ProjCall.checkLocal (readMeta xCfg xCallee) (callOfJob xCfg xCallJobNode xUses) (newString xUses)).map AL.C08R.sig ∧
    (⟨6, 7⟩, "input-undefined") ∉
      (AL.ProjCall.checkLocal (readMeta xCfg xCallee) (callOfJob xCfg xCallJobNode xUses) (newString xUses)).map AL.C08R.sig := by
  refine ⟨(call_input_undefined_doc xCfg xCallee xCallJobNode xUses _ _).2 ⟨xwVerbose, by rw [xWithEntries]; simp, rfl, xNoVerbose⟩, ?_⟩
  intro h
  obtain ⟨kv, hkv, hp, hn⟩ := (call_input_undefined_doc xCfg xCallee xCallJobNode xUses _ _).1 h
  rw [xWithEntries] at hkv
  simp only [List.mem_cons, List.not_mem_nil, or_false] at hkv
  rcases hkv with rfl | rfl
  · exact hn xiEnv (by rw [xInputs]; simp) xEnvFolds
  · exact absurd hp (by decide +kernel)

/-- `Env` is required: reported for the second caller, not for the first -/
example : (⟨4, 11⟩, "input-required") ∈
      (AL.ProjCall.checkLocal (readMeta xCfg xCallee) (callOfJob xCfg xCallJobNode2 xUses) (newString xUses)).map AL.C08R.sig :=
  (call_input_required_doc xCfg xCallee xCallJobNode2 xUses (newString xUses) xCalleeOk).2 ⟨xiEnv, by rw [xInputs]; simp, xEnvRequired, xEnvMissing2⟩

example : (⟨10, 7⟩, "secret-undefined") ∈
      (AL.ProjCall.checkLocal (readMeta xCfg xCallee) (callOfJob xCfg xCallJobNode xUses) (newString xUses)).map AL.C08R.sig :=
  (call_secret_undefined_doc xCfg xCallee xCallJobNode xUses _ _ rfl).2 ⟨xcOther, by rw [xSecretEntries]; simp, rfl, xNoOther⟩

/-- `TOKEN` is required and `Token` supplies it: not reported -/
example : (⟨4, 11⟩, "secret-required") ∉
      (AL.ProjCall.checkLocal (readMeta xCfg xCallee) (callOfJob xCfg xCallJobNode xUses) (newString xUses)).map AL.C08R.sig := by
  intro h
  obtain ⟨e, he, hr, hn⟩ := (call_secret_required_doc xCfg xCallee xCallJobNode xUses (newString xUses) xCalleeOk rfl).1 h
  rw [xSecretsDecl] at he
  simp only [List.mem_cons, List.not_mem_nil, or_false] at he
  rcases he with rfl | rfl
  · exact hn xcToken (by rw [xSecretEntries]; simp) xTokenFolds.symm
  · exact absurd hr (by decide +kernel)

example : ∀ dg ∈ AL.ProjCall.checkLocal (readMeta xCfg xCallee) (callOfJob xCfg xCallJobNode2 xUses) (newString xUses),
    dg.code ≠ "secret-required" ∧ dg.code ≠ "secret-undefined" :=
  call_inherit_no_secret xCfg xCallee xCallJobNode2 xUses _ rfl

example : ∀ dg ∈ AL.ProjCall.checkLocal (readMeta xCfg xCallee) (callOfJob xCfg xCallJobNode xUses) (newString xUses),
    dg.code = "input-required" ∨ dg.code = "input-undefined" ∨ dg.code = "secret-required" ∨ dg.code = "secret-undefined" :=
  call_codes _ _ _

/-- the complete list of the job `Call`, from the two documents -/
example : (AL.ProjCall.checkLocal (readMeta xCfg xCallee) (callOfJob xCfg xCallJobNode xUses) (newString xUses)).map AL.C08R.sig =
    docSection xCfg [xiEnv, xiTag, xiDry] inputRequired [xwEnv, xwVerbose] ⟨4, 11⟩ "input-required" "input-undefined" ++
    docSection xCfg [xsToken, xsOpt] requiredTrue [xcToken, xcOther] ⟨4, 11⟩ "secret-required" "secret-undefined" := by
  rw [call_sig_exact, xInputs, xSecretsDecl, xWithEntries, xSecretEntries]
  rfl
/-- each undefined entry once -/
example : ((AL.ProjCall.checkLocal (readMeta xCfg xCallee) (callOfJob xCfg xCallJobNode xUses) (newString xUses)).map AL.C08R.sig).filter
    (fun s => s.2 = "input-undefined") = [(⟨7, 7⟩, "input-undefined")] := by
  rw [call_input_undefined_once]; decide +kernel
example : ((AL.ProjCall.checkLocal (readMeta xCfg xCallee) (callOfJob xCfg xCallJobNode xUses) (newString xUses)).map AL.C08R.sig).filter
    (fun s => s.2 = "secret-undefined") = [(⟨10, 7⟩, "secret-undefined")] := by
  rw [call_secret_undefined_once _ _ _ _ _ rfl]; decide +kernel
/-- the second caller: exactly one required input (`Env`) is missing -/
example : (((AL.ProjCall.checkLocal (readMeta xCfg xCallee) (callOfJob xCfg xCallJobNode2 xUses) (newString xUses)).map AL.C08R.sig).filter
    (fun s => s.2 = "input-required")).length = 1 := by
  rw [call_input_required_count _ _ _ _ _ xCalleeOk]; decide +kernel
example : (AL.C08R.sectionK [("a", true), ("b", true), ("c", false)] ⟨1, 1⟩ "r" "u" [("b", ⟨2, 2⟩), ("x", ⟨3, 3⟩)]).filter (fun s => s.2 = "u") =
    [(⟨3, 3⟩, "u")] := by
  rw [sectionK_filter_undefined _ _ _ _ _ (by decide)]; decide +kernel
example : ((AL.C08R.sectionK [("a", true), ("b", true), ("c", false)] ⟨1, 1⟩ "r" "u" [("b", ⟨2, 2⟩), ("x", ⟨3, 3⟩)]).filter (fun s => s.2 = "r")).length = 1 := by
  rw [sectionK_required_count _ _ _ _ _ (by decide) (by decide)]; decide +kernel
example : (AL.C08R.sectionK [("a", true)] ⟨1, 1⟩ "r" "u" []).filter (fun s => s.2 = "z") = [] :=
  sectionK_filter_other _ _ _ _ _ _ (by decide) (by decide)
example : (AL.PW.sortStrings ["b", "a", "c"]).Perm ["b", "a", "c"] := sortStrings_perm _

/-- in the output of the whole file -/
example : ∃ dg ∈ AL.ProjLint.lint xCfg xIsNum xUrlOk xEnv xCaller, dg.kind = "workflow-call" ∧ dg.code = "input-undefined" ∧
    dg.pos = ⟨7, 7⟩ ∧ dg.args.head? = some "verbose" :=
  call_input_undefined_in_lint xCfg xIsNum xUrlOk xEnv xCaller xCallee xCallJob xUses xCalleeOk xCallSite xResolves xwVerbose
    (by rw [xWithEntries']; simp) xNoVerbose

example : (⟨⟨4, 11⟩, "workflow-call", "input-required", ["Env", xSpec]⟩ : AL.Rules.Diag) ∈ AL.ProjLint.lint xCfg xIsNum xUrlOk xEnv xCaller2 :=
  call_input_required_in_lint xCfg xIsNum xUrlOk xEnv xCaller2 xCallee xCallJob2 xUses xCalleeOk xCallSite2 xResolves xiEnv
    (by rw [xInputs]; simp) xEnvRequired xEnvMissing2

theorem xSole : ∀ q' ∈ jobEntries xCaller, q' ≠ xCallJob → attr "uses" q'.2 = none := by
  intro q' hq' hne
  rw [xJobs] at hq'
  simp only [List.mem_cons, List.not_mem_nil, or_false] at hq'
  rcases hq' with rfl | rfl
  · exact absurd rfl hne
  · rfl

/-- `Call` is the only calling job of the first caller: the whole output has an `input-undefined` at 7:7 and none at 6:7 -/
example : (∃ dg ∈ AL.ProjLint.lint xCfg xIsNum xUrlOk xEnv xCaller, dg.kind = "workflow-call" ∧ dg.code = "input-undefined" ∧ dg.pos = ⟨7, 7⟩) ∧
    ¬ ∃ dg ∈ AL.ProjLint.lint xCfg xIsNum xUrlOk xEnv xCaller, dg.kind = "workflow-call" ∧ dg.code = "input-undefined" ∧ dg.pos = ⟨6, 7⟩ := by
  refine ⟨(sole_call_input_undefined_lint_iff xCfg xIsNum xUrlOk xEnv xCaller xCallee xCallJob xUses xCalleeOk xCallSite xResolves xSole _).2
    ⟨xwVerbose, by rw [xWithEntries']; simp, rfl, xNoVerbose⟩, ?_⟩
  intro h
  obtain ⟨kv, hkv, hp, hn⟩ := (sole_call_input_undefined_lint_iff xCfg xIsNum xUrlOk xEnv xCaller xCallee xCallJob xUses xCalleeOk
    xCallSite xResolves xSole _).1 h
  rw [xWithEntries'] at hkv
  simp only [List.mem_cons, List.not_mem_nil, or_false] at hkv
  rcases hkv with rfl | rfl
  · exact hn xiEnv (by rw [xInputs]; simp) xEnvFolds
  · exact absurd hp (by decide +kernel)

theorem xSole2 : ∀ q' ∈ jobEntries xCaller2, q' ≠ xCallJob2 → attr "uses" q'.2 = none := by
  intro q' hq' hne
  rw [xJobs2] at hq'
  simp only [List.mem_cons, List.not_mem_nil, or_false] at hq'
  exact absurd hq' hne

/-- `Other` (10:7) is not a secret of the callee: a `secret-undefined` there in the whole output — once from the iff by site
and code, once from the iff for undefined secrets -/
example : ∃ dg ∈ AL.ProjLint.lint xCfg xIsNum xUrlOk xEnv xCaller, dg.kind = "workflow-call" ∧ dg.code = "secret-undefined" ∧ dg.pos = ⟨10, 7⟩ :=
  (sole_call_lint_iff xCfg xIsNum xUrlOk xEnv xCaller xCallee xCallJob xUses xCalleeOk xCallSite xResolves xSole ⟨10, 7⟩ _ (by decide)).2
    (by rw [show xCallJob.2 = xCallJobNode from rfl, xCallFacts.2.1]; decide)
example : ∃ dg ∈ AL.ProjLint.lint xCfg xIsNum xUrlOk xEnv xCaller, dg.kind = "workflow-call" ∧ dg.code = "secret-undefined" ∧ dg.pos = ⟨10, 7⟩ :=
  (sole_call_secret_undefined_lint_iff xCfg xIsNum xUrlOk xEnv xCaller xCallee xCallJob xUses xCalleeOk xCallSite xResolves xSole rfl _).2
    ⟨xcOther, by rw [show secretEntries xCallJob.2 = [xcToken, xcOther] from xSecretEntries]; simp, rfl, xNoOther⟩
/-- `Token` supplies `TOKEN`: no `secret-required` anywhere in the output -/
example : ¬ ∃ dg ∈ AL.ProjLint.lint xCfg xIsNum xUrlOk xEnv xCaller, dg.kind = "workflow-call" ∧ dg.code = "secret-required" ∧ dg.pos = ⟨4, 11⟩ := by
  intro h
  obtain ⟨e, he, hr, hn⟩ := (sole_call_secret_required_lint_iff xCfg xIsNum xUrlOk xEnv xCaller xCallee xCallJob xUses xCalleeOk xCallSite
    xResolves xSole rfl).1 h
  rw [xSecretsDecl] at he
  simp only [List.mem_cons, List.not_mem_nil, or_false] at he
  rcases he with rfl | rfl
  · exact hn xcToken (by rw [show secretEntries xCallJob.2 = [xcToken, xcOther] from xSecretEntries]; simp) xTokenFolds.symm
  · exact absurd hr (by decide +kernel)
/-- the second caller: `Env` is required and missing; `secrets: inherit`: nothing about secrets in the whole output -/
example : ∃ dg ∈ AL.ProjLint.lint xCfg xIsNum xUrlOk xEnv xCaller2, dg.kind = "workflow-call" ∧ dg.code = "input-required" ∧ dg.pos = ⟨4, 11⟩ :=
  (sole_call_input_required_lint_iff xCfg xIsNum xUrlOk xEnv xCaller2 xCallee xCallJob2 xUses xCalleeOk xCallSite2 xResolves xSole2).2
    ⟨xiEnv, by rw [xInputs]; simp, xEnvRequired, xEnvMissing2⟩
example : ∀ dg ∈ AL.ProjLint.lint xCfg xIsNum xUrlOk xEnv xCaller2, dg.kind = "workflow-call" →
    dg.code ≠ "secret-required" ∧ dg.code ≠ "secret-undefined" :=
  sole_call_inherit_lint xCfg xIsNum xUrlOk xEnv xCaller2 xCallee xCallJob2 xUses xCalleeOk xCallSite2 xResolves xSole2 rfl

/-- every "workflow-call" diagnostic of the output belongs to a job's view, and vice versa -/
example (dg : AL.Rules.Diag) (hdg : dg ∈ AL.ProjLint.lint xCfg xIsNum xUrlOk xEnv xCaller) (hk : dg.kind = "workflow-call")
    (hc : dg.code = "secret-undefined") : ∃ v ∈ AL.ProjCall.simulate xEnv.calls xCfg.lower (parse xCfg xCaller).1, dg ∈ v.2.wc :=
  lint_wc_sound xCfg xIsNum xUrlOk xEnv xCaller dg hdg hk (by rw [hc]; decide)
example (v : String × AL.ProjCall.JobView) (hv : v ∈ AL.ProjCall.simulate xEnv.calls xCfg.lower (parse xCfg xCaller).1) :
    ∀ dg ∈ v.2.wc, dg ∈ AL.ProjLint.lint xCfg xIsNum xUrlOk xEnv xCaller :=
  fun dg hdg => lint_wc_complete xCfg xIsNum xUrlOk xEnv xCaller v hv dg hdg

/-! ### §5 -/

example : xActMeta.inputs = actionInputs xCfg xAction ∧ xActMeta.outputs = actionOutputs xCfg xAction := xActResolves.read
example : AL.C14W.ActionObtained xActMeta.inputs := xActResolves.obtained

/-- the diagnostics of the step: `extra` is not an input (`Depth` is, `args` is no input at all); `Token` and `Flag` are
required and not supplied -/
example : (AL.ProjAction.inputDiags xActMeta "./act" { inputs := stepWith xCfg xStepNode } ⟨14, 15⟩).map AL.C08R.sig =
    [(⟨17, 11⟩, "local-input-undefined"), (⟨14, 15⟩, "local-input-missing"), (⟨14, 15⟩, "local-input-missing")] :=
  xActFacts.2.2.2.2

example : ∃ e : ExecAction, e.uses = some (newString xActUses) ∧ e.inputs = stepWith xCfg xStepNode ∧
    ∀ dg ∈ AL.ProjAction.inputDiags xActMeta "./act" e ⟨14, 15⟩, dg ∈ AL.ProjLint.lint xCfg xIsNum xUrlOk xEnv xCaller :=
  step_view xCfg xIsNum xUrlOk xEnv xCaller xAction xActMeta xOtherJob xStepNode xActUses xStepSite xActResolves

theorem xNoExtra : ∀ x ∈ actSection "inputs" xAction, xCfg.lower x.1.value ≠ xCfg.lower xtExtra.1.value := by
  rw [xActInputs]; decide +kernel

example : ∃ dg ∈ AL.ProjAction.inputDiags xActMeta "./act" { inputs := stepWith xCfg xStepNode } ⟨14, 15⟩,
    dg.code = "local-input-undefined" ∧ dg.pos = ⟨17, 11⟩ :=
  (step_input_undefined_doc xCfg xAction xActMeta rfl xStepNode _ rfl "./act" ⟨14, 15⟩ ⟨17, 11⟩).2
    ⟨xtExtra, by rw [xStepWithEntries]; simp, rfl, xNoExtra⟩

theorem xDepthFolds : xCfg.lower xaDepth.1.value = xCfg.lower xtDepth.1.value := by decide +kernel

/-- `Depth` (16:11) is declared (as `depth`): not reported -/
example : ¬ ∃ dg ∈ AL.ProjAction.inputDiags xActMeta "./act" { inputs := stepWith xCfg xStepNode } ⟨14, 15⟩,
    dg.code = "local-input-undefined" ∧ dg.pos = ⟨16, 11⟩ := by
  intro h
  obtain ⟨kv, hkv, hp, hn⟩ := (step_input_undefined_doc xCfg xAction xActMeta rfl xStepNode _ rfl "./act" ⟨14, 15⟩ ⟨16, 11⟩).1 h
  rw [xStepWithEntries] at hkv
  simp only [List.mem_cons, List.not_mem_nil, or_false] at hkv
  rcases hkv with rfl | rfl
  · exact hn xaDepth (by rw [xActInputs]; simp) xDepthFolds
  · exact absurd hp (by decide +kernel)

theorem xFlagMissing : ∀ kv ∈ stepWithEntries xCfg xStepNode, xCfg.lower kv.1.value ≠ xCfg.lower xaFlag.1.value := by
  rw [xStepWithEntries]; decide +kernel

example : ∃ dg ∈ AL.ProjAction.inputDiags xActMeta "./act" { inputs := stepWith xCfg xStepNode } ⟨14, 15⟩,
    dg.code = "local-input-missing" ∧ dg.args.head? = some "Flag" :=
  (step_input_missing_doc xCfg xAction xActMeta rfl xActResolves.obtained xStepNode _ rfl "./act" ⟨14, 15⟩ "Flag").2
    ⟨xaFlag, by rw [xActInputs]; simp, rfl, xFlagRequired, xFlagMissing⟩

example : ∃ dg ∈ AL.ProjLint.lint xCfg xIsNum xUrlOk xEnv xCaller, dg.kind = "action" ∧ dg.code = "local-input-undefined" ∧ dg.pos = ⟨17, 11⟩ :=
  step_input_undefined_in_lint xCfg xIsNum xUrlOk xEnv xCaller xAction xActMeta xOtherJob xStepNode xActUses xStepSite xActResolves
    xtExtra (by rw [xStepWithEntries]; simp) xNoExtra

example : ∃ dg ∈ AL.ProjLint.lint xCfg xIsNum xUrlOk xEnv xCaller, dg.kind = "action" ∧ dg.code = "local-input-missing" ∧
    dg.args.head? = some "Flag" :=
  step_input_missing_in_lint xCfg xIsNum xUrlOk xEnv xCaller xAction xActMeta xOtherJob xStepNode xActUses xStepSite xActResolves
    xaFlag (by rw [xActInputs]; simp) xFlagRequired xFlagMissing

example (dg : AL.Rules.Diag) (hdg : dg ∈ AL.ProjLint.lint xCfg xIsNum xUrlOk xEnv xCaller) (hk : dg.kind = "action")
    (hc : dg.code = "local-input-missing") :
    ∃ j ∈ AL.Rules.jobsOf (parse xCfg xCaller).1, ∃ st ∈ AL.Rules.stepsOf j, ∃ c', ActInv "./act" xActMeta c' ∧
      dg ∈ (AL.ProjAction.actionStep xEnv.actions c' st).2 :=
  lint_action_only xCfg xIsNum xUrlOk xEnv xCaller "./act" xActMeta rfl dg hdg hk (Or.inr hc)

theorem xSoleStep : ∀ q' ∈ jobEntries xCaller, ∀ sn' ∈ stepNodes q'.2,
    (q' = xOtherJob ∧ sn' = xStepNode) ∨ ∀ v, attr "uses" sn' = some v → v.value.startsWith "./" = false := by
  intro q' hq' sn' hsn'
  rw [xJobs] at hq'
  simp only [List.mem_cons, List.not_mem_nil, or_false] at hq'
  rcases hq' with rfl | rfl
  · rw [show stepNodes xCallJob.2 = [] from rfl] at hsn'
    cases hsn'
  · rw [xSteps] at hsn'
    simp only [List.mem_cons, List.not_mem_nil, or_false] at hsn'
    exact Or.inl ⟨rfl, hsn'⟩

/-- `./act` is used by one step only: the whole output has a `local-input-undefined` at 17:11 (`extra`) and none at 16:11 (`Depth`) -/
example : (∃ dg ∈ AL.ProjLint.lint xCfg xIsNum xUrlOk xEnv xCaller, dg.kind = "action" ∧ dg.code = "local-input-undefined" ∧ dg.pos = ⟨17, 11⟩) ∧
    ¬ ∃ dg ∈ AL.ProjLint.lint xCfg xIsNum xUrlOk xEnv xCaller, dg.kind = "action" ∧ dg.code = "local-input-undefined" ∧ dg.pos = ⟨16, 11⟩ := by
  refine ⟨(sole_step_input_undefined_lint_iff xCfg xIsNum xUrlOk xEnv xCaller xAction xActMeta xOtherJob xStepNode xActUses xStepSite
    xActResolves xSoleStep _).2 ⟨xtExtra, by rw [xStepWithEntries]; simp, rfl, xNoExtra⟩, ?_⟩
  intro h
  obtain ⟨kv, hkv, hp, hn⟩ := (sole_step_input_undefined_lint_iff xCfg xIsNum xUrlOk xEnv xCaller xAction xActMeta xOtherJob xStepNode
    xActUses xStepSite xActResolves xSoleStep _).1 h
  rw [xStepWithEntries] at hkv
  simp only [List.mem_cons, List.not_mem_nil, or_false] at hkv
  rcases hkv with rfl | rfl
  · exact hn xaDepth (by rw [xActInputs]; simp) xDepthFolds
  · exact absurd hp (by decide +kernel)

/-- `Flag` is required (`required: yes`) and the step does not supply it; `depth` has a default: not reported -/
example : (∃ dg ∈ AL.ProjLint.lint xCfg xIsNum xUrlOk xEnv xCaller, dg.kind = "action" ∧ dg.code = "local-input-missing" ∧ dg.args.head? = some "Flag") ∧
    ¬ ∃ dg ∈ AL.ProjLint.lint xCfg xIsNum xUrlOk xEnv xCaller, dg.kind = "action" ∧ dg.code = "local-input-missing" ∧ dg.args.head? = some "depth" := by
  refine ⟨(sole_step_input_missing_lint_iff xCfg xIsNum xUrlOk xEnv xCaller xAction xActMeta xOtherJob xStepNode xActUses xStepSite
    xActResolves xSoleStep _).2 ⟨xaFlag, by rw [xActInputs]; simp, rfl, xFlagRequired, xFlagMissing⟩, ?_⟩
  intro h
  obtain ⟨x, hx, hname, hreq, _⟩ := (sole_step_input_missing_lint_iff xCfg xIsNum xUrlOk xEnv xCaller xAction xActMeta xOtherJob xStepNode
    xActUses xStepSite xActResolves xSoleStep _).1 h
  rw [xActInputs] at hx
  simp only [List.mem_cons, List.not_mem_nil, or_false] at hx
  rcases hx with rfl | rfl | rfl
  · exact absurd hname (by decide +kernel)
  · exact absurd hreq (by decide +kernel)
  · exact absurd hname (by decide +kernel)

/-- exactly: the three diagnostics of the input check are in the output, and nothing else under these codes -/
example (dg : AL.Rules.Diag) :
    (dg ∈ AL.ProjLint.lint xCfg xIsNum xUrlOk xEnv xCaller ∧ dg.kind = "action" ∧ (dg.code = "local-input-undefined" ∨ dg.code = "local-input-missing")) ↔
      dg ∈ AL.ProjAction.inputDiags xActMeta "./act" { inputs := stepWith xCfg xStepNode } ⟨14, 15⟩ :=
  sole_step_lint_iff xCfg xIsNum xUrlOk xEnv xCaller xAction xActMeta xOtherJob xStepNode xActUses xStepSite xActResolves xSoleStep dg
example : AL.ProjAction.inputDiags xActMeta "./act" { inputs := stepWith xCfg xStepNode, args := some ⟨"a", false, ⟨18, 17⟩⟩ } ⟨14, 15⟩ =
    AL.ProjAction.inputDiags xActMeta "./act" { inputs := stepWith xCfg xStepNode } ⟨14, 15⟩ := inputDiags_congr _ _ _ _ _ rfl
example : ∀ dg ∈ AL.ProjAction.inputDiags xActMeta "./act" { inputs := stepWith xCfg xStepNode } ⟨14, 15⟩,
    dg.code = "local-input-undefined" ∨ dg.code = "local-input-missing" := inputDiags_codes _ _ _ _

/-! ### §6 -/

theorem xUrlId : xCfg.lower xoUrl.1.value = "url" := by decide +kernel
theorem xOutId : xCfg.lower xaOut.1.value = "out" := by decide +kernel
/-- the callee declares no output `other`, nor does the action -/
theorem xNoOtherOutput : ∀ e ∈ entries "outputs" xCallee, xCfg.lower e.1.value ≠ "other" := by
  rw [xOutputs]; decide +kernel
theorem xNoOtherActOutput : ∀ e ∈ actSection "outputs" xAction, xCfg.lower e.1.value ≠ "other" := by
  rw [xActOutputs]; decide +kernel

/-- `needs.<job>.outputs` of a job calling `w.yml`: `url` and nothing else -/
example : ∃ os, AL.ProjCall.outputsTy (readMeta xCfg xCallee) = .obj os none ∧ Ty.lookup "url" os = some .string ∧
    Ty.lookup "other" os = none := by
  obtain ⟨os, h1, h2⟩ := callee_outputs_doc xCfg xCallee
  exact ⟨os, h1, (h2 "url").2 fun hn => (h2 "url").1.1 hn xoUrl (by rw [xOutputs]; simp) xUrlId, (h2 "other").1.2 xNoOtherOutput⟩

/-- `steps.<id>.outputs` of a step using `./act`: `out` and nothing else -/
example : ∃ os, AL.ProjAction.outputsTy xActMeta = .obj os none ∧ Ty.lookup "out" os = some .string ∧ Ty.lookup "other" os = none := by
  obtain ⟨os, h1, h2⟩ := action_outputs_doc xCfg xAction xActMeta rfl
  exact ⟨os, h1, (h2 "out").2 fun hn => (h2 "out").1.1 hn xaOut (by rw [xActOutputs]; simp) xOutId, (h2 "other").1.2 xNoOtherActOutput⟩

section OutputsEx
open AL.Sema AL.RuleExpr AL.C05S AL.C06R

def xP : AL.Yaml.Pos := ⟨1, 1⟩
def xStr (v : String) : Str := ⟨v, false, xP⟩
def xNoNum : IsNumber := fun _ => false
def xKeyRun : String := "jobs.<job_id>.steps.run"
/-- a job whose step `a` uses `./act`, seen from the step after it -/
def xStA : Step := { id := some (xStr "A"), exec := .action { uses := some (xStr "./act") }, pos := xP }
def xJobA : Job := { id := xStr "j", steps := some [xStA, { exec := .run { run := some (xStr "echo") }, pos := xP }], pos := xP }
def xCxA : Cx := { lower := asciiLower, proj := AL.ProjLint.viewOf xEnv asciiLower xIsNum {} }

example : stepOutputs xCxA.proj xStA = AL.ProjAction.outputsTy xActMeta :=
  local_action_step_outputs xEnv asciiLower xIsNum {} "./act" xActMeta rfl rfl (by decide +kernel) xStA _ _ rfl rfl rfl

/-- `steps.a.outputs.out` is fine, `steps.a.outputs.other` is reported -/
example : ¬ (check (envOf (stepCx xCxA xNoNum [] xJobA [xStA]) xKeyRun)
      (.objDeref (.objDeref (.objDeref (.var "steps") "a") "outputs") "out")).errs ≠ [] ∧
    (check (envOf (stepCx xCxA xNoNum [] xJobA [xStA]) xKeyRun)
      (.objDeref (.objDeref (.objDeref (.var "steps") "a") "outputs") "other")).errs ≠ [] := by
  have h := fun name => steps_output_reported_iff_doc xCfg xAction xActMeta rfl xCxA xNoNum [] xJobA [xStA] _ (stepCx_after ..) xKeyRun "a" name
    (available_run "steps" (by simp)) ⟨xStA, by simp, xStr "A", rfl, by decide +kernel⟩
    (by
      intro s hs id _ _
      simp only [List.mem_cons, List.not_mem_nil, or_false] at hs
      subst hs
      exact local_action_step_outputs xEnv asciiLower xIsNum {} "./act" xActMeta rfl rfl (by decide +kernel) xStA _ _ rfl rfl rfl)
  exact ⟨fun hne => (h "out").1 hne xaOut (by rw [xActOutputs]; simp) xOutId, (h "other").2 xNoOtherActOutput⟩

/-- `dep` needs `call`, which calls `w.yml`; the project's view has the outputs type of the interface read from the callee -/
def xJCall : Job := { id := xStr "call", workflowCall := some { uses := some (xStr xSpec) }, pos := xP }
def xJDep : Job := { id := xStr "dep", needs := some [xStr "Call"], pos := xP }
def xJobsN : List (String × Job) := [("call", xJCall), ("dep", xJDep)]
def xCxN : Cx :=
  { lower := asciiLower, proj := { jobs := [("dep", { outs := [("call", AL.ProjCall.outputsTy (readMeta xCfg xCallee))] })] } }

/-- `needs.call.outputs.url` is fine, `needs.call.outputs.other` is reported -/
example : ¬ (check (envOf (jobCx xCxN xNoNum xJobsN xJDep) xKeyRun)
      (.objDeref (.objDeref (.objDeref (.var "needs") "call") "outputs") "url")).errs ≠ [] ∧
    (check (envOf (jobCx xCxN xNoNum xJobsN xJDep) xKeyRun)
      (.objDeref (.objDeref (.objDeref (.var "needs") "call") "outputs") "other")).errs ≠ [] := by
  have h := fun name => needs_output_reported_iff_doc xCfg xCallee xCxN xNoNum xJobsN xJDep _ (jobCx_inJob ..) xKeyRun "call" name xJCall
    (available_run "needs" (by simp)) (by decide +kernel) (by decide +kernel) rfl rfl rfl
  exact ⟨fun hne => (h "url").1 hne xoUrl (by rw [xOutputs]; simp) xUrlId, (h "other").2 xNoOtherOutput⟩

theorem xJobs3 : jobEntries xCaller3 = [xCallJob3, xDepJob] := by rfl
theorem xCallSite3 : CallSite xCfg xCaller3 xCallJob3 xUses :=
  ⟨xCallersClean.2.2, by rw [xJobs3]; simp, rfl, xUsesFormat.1, xUsesFormat.2⟩
/-- the parsed `dep` needs `Call`, another job -/
theorem xDepNeeds :
    xCfg.lower xCallJob3.1.value ∈
      ((parseJob xCfg (newString xDepJob.1) xDepJob.2).1.needs.getD []).map (fun id => xCfg.lower id.value) ∧
    xCfg.lower xCallJob3.1.value ≠ xCfg.lower xDepJob.1.value := by decide +kernel

example : AL.RuleExpr.lookupJob "b" ([("a", 1), ("b", 2)].map fun q : String × Nat => (q.1, ({ id := xStr "j", pos := xP, timeoutMinutes := none } : Job))) =
    some { id := xStr "j", pos := xP } :=
  lookupJob_entries (fun q : String × Nat => q.1) (fun _ => { id := xStr "j", pos := xP }) [("a", 1), ("b", 2)] ("b", 2) (by decide) (by simp)
example : [1, 2, 3].Nodup := nodup_of_map (fun n => n + 1) _ (by decide)

/-- the project's view of `dep`: `needs.call.outputs` has the outputs type of the interface read from `w.yml` -/
example : Ty.lookup "call" ((AL.ProjLint.viewOf xEnv xCfg.lower xIsNum (parse xCfg xCaller3).1).jobView "dep").outs =
    some (AL.ProjCall.outputsTy (readMeta xCfg xCallee)) :=
  needs_view_of_documents xCfg xIsNum xEnv xCaller3 xCallee xCallJob3 xUses xCalleeOk xCallSite3 xResolves xDepJob
    (by rw [xJobs3]; simp) xDepNeeds.1 xDepNeeds.2

def xCx3 : Cx := { lower := asciiLower, proj := AL.ProjLint.viewOf xEnv xCfg.lower xIsNum (parse xCfg xCaller3).1 }

/-- from the two documents to the expression rule: in `dep`, `needs.call.outputs.url` is fine, `needs.call.outputs.other` is
reported -/
example : ¬ (check (envOf (jobCx xCx3 xNoNum ((parse xCfg xCaller3).1.jobs.getD []) (parseJob xCfg (newString xDepJob.1) xDepJob.2).1) xKeyRun)
      (.objDeref (.objDeref (.objDeref (.var "needs") "call") "outputs") "url")).errs ≠ [] ∧
    (check (envOf (jobCx xCx3 xNoNum ((parse xCfg xCaller3).1.jobs.getD []) (parseJob xCfg (newString xDepJob.1) xDepJob.2).1) xKeyRun)
      (.objDeref (.objDeref (.objDeref (.var "needs") "call") "outputs") "other")).errs ≠ [] := by
  have h := fun name => needs_output_reported_iff_documents xCfg xIsNum xEnv xCaller3 xCallee xCallJob3 xUses xCalleeOk xCallSite3 xResolves
    xDepJob (by rw [xJobs3]; simp) xCx3 rfl rfl xNoNum _ (jobCx_inJob ..) xKeyRun name (available_run "needs" (by simp)) xDepNeeds.1
    xDepNeeds.2
  exact ⟨fun hne => (h "url").1 hne xoUrl (by rw [xOutputs]; simp) xUrlId, (h "other").2 xNoOtherOutput⟩

end OutputsEx

end Examples

end AL.C14D
