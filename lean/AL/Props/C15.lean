import AL.Model.Lint
import AL.Lemmas.LintSort
import AL.Lemmas.LintPath
/-
  C15 — ignore patterns are an exact filter; results do not depend on the cwd.
  Statements first (`def …_statement : Prop`), their proofs after them.
-/
namespace AL.C15
open AL.Lint

/-- `l` is sorted: no later element is less than an earlier one. (Nothing about ties: stability is the third conjunct
of (a).) The same predicate as `Order.Sorted less` of AL/Lemmas/Order.lean. -/
def Sorted (l : List D) : Prop := List.Pairwise (fun a b => less b a = false) l

/-- (a) `stableSort` sorts, permutes, and is stable (elements that compare equal keep their order). -/
def stable_sort_spec_statement : Prop :=
  ∀ l : List D, Sorted (stableSort l) ∧ (stableSort l).Perm l ∧
    ∀ a b : D, less a b = false → less b a = false →
      (stableSort l).filter (fun d => d = a ∨ d = b) = l.filter (fun d => d = a ∨ d = b)

/-- (b) THE PROPERTY (filter part): the output is exactly the unfiltered, sorted list minus the ignored
diagnostics, in unchanged order — although the code filters first and sorts afterwards. -/
def filter_exact_statement : Prop :=
  ∀ (ignored : D → Bool) (path : String) (raw : List D),
    (∀ d d', ignored { d with file := d' } = ignored d) →
    checkTail ignored path raw = (checkTail (fun _ => false) path raw).filter (fun d => !ignored d)

/-- (c) exit status: 1 iff at least one diagnostic remains, 0 iff none, 3 for fatal errors, 2 for
invalid flags. -/
def exit_status_statement : Prop :=
  (∀ n, exitStatus (.done n) = 1 ↔ n ≥ 1) ∧ (∀ n, exitStatus (.done n) = 0 ↔ n = 0) ∧
  exitStatus .fatal = 3 ∧ exitStatus .badFlags = 2

/-- clean absolute path: no "", ".", ".." components -/
def CleanAbs (p : FPath) : Prop := p.abs = true ∧ ∀ c ∈ p.comps, c ≠ "" ∧ c ≠ "." ∧ c ≠ ".."

/-- clean path (absolute or relative; `..` only as a leading run of a relative path) -/
def Clean (p : FPath) : Prop :=
  (∀ c ∈ p.comps, c ≠ "" ∧ c ≠ ".") ∧ (p.abs = true → ∀ c ∈ p.comps, c ≠ "..") ∧
  (∀ i j : Nat, i < j → p.comps[j]? = some ".." → p.comps[i]? = some "..")

/-- (d) `Rel` followed by `Join` gives back the target: the display path denotes the same file. -/
def rel_join_statement : Prop :=
  ∀ base targ : FPath, CleanAbs base → CleanAbs targ →
    ∃ r, rel base targ = some r ∧ join base r = targ

/-- (e) THE PROPERTY (cwd part): the path matched against the `paths` globs is the file's path relative
to the repository root, whatever the working directory and the spelling: it only depends on the
absolute path of the file. -/
def cwd_independent_statement : Prop :=
  ∀ (cwd cwd' root p p' : FPath), CleanAbs cwd → CleanAbs cwd' → CleanAbs root → Clean p → Clean p' →
    absOf cwd p = absOf cwd' p' →
    pathFromProjectRoot cwd root (displayPath cwd p) = pathFromProjectRoot cwd' root (displayPath cwd' p')

/-- (f) and it is the root-relative path: for a file inside the repository, `root / result = file`. -/
def root_relative_statement : Prop :=
  ∀ (cwd root p : FPath), CleanAbs cwd → CleanAbs root → Clean p → knows root (absOf cwd p) = true →
    join root (pathFromProjectRoot cwd root (displayPath cwd p)) = absOf cwd p ∧
    ∀ c ∈ (pathFromProjectRoot cwd root (displayPath cwd p)).comps, c ≠ ".."

/-- (g) attribution: a project knows a path iff its root is a whole-component prefix; in particular a
sibling directory that merely shares a name prefix is not known. -/
def knows_components_statement : Prop :=
  ∀ (root p : FPath), knows root p = true ↔ ∃ rest, p.comps = root.comps ++ rest

/-! ## Proofs -/

/-! ### concrete data used in the examples -/

/-- five raw diagnostics (file not yet set); `tieA` and `tieB` sit at the same position 1:5 -/
def exRaw : List D :=
  [⟨"", 3, 1, "m31", "k"⟩, ⟨"", 1, 5, "tieA", "k"⟩, ⟨"", 2, 7, "m27", "k"⟩, ⟨"", 1, 5, "tieB", "k"⟩,
   ⟨"", 1, 2, "m12", "k"⟩]
/-- an ignore pattern matching only the message `tieA` (does not look at the file) -/
def exIgnored (d : D) : Bool := d.msg == "tieA"

-- `ofString` goes through `String.splitOn`/`startsWith`, which the kernel cannot unfold, so the examples
-- use the parsed component lists; the `#guard`s tie them to the spelled strings (evaluated, not proved).
def exCwd : FPath := ⟨true, ["home", "u", "repo", "sub"]⟩
def exRoot : FPath := ⟨true, ["home", "u", "repo"]⟩
def exP1 : FPath := ⟨false, ["..", ".github", "workflows", "a.yml"]⟩
def exP2 : FPath := ⟨true, ["home", "u", "repo", ".github", "workflows", "a.yml"]⟩
def exP3 : FPath := ⟨false, ["..", ".github", "workflows", "a.yml"]⟩
def exRel : FPath := ⟨false, [".github", "workflows", "a.yml"]⟩
#guard ofString "/home/u/repo/sub" = exCwd
#guard ofString "/home/u/repo" = exRoot
#guard ofString "../.github/workflows/a.yml" = exP1
#guard ofString "/home/u/repo/.github/workflows/a.yml" = exP2
#guard ofString "./x/../../.github/workflows/a.yml" = exP3
#guard exRel.toString = ".github/workflows/a.yml"

theorem cleanAbs_iff (p : FPath) : CleanAbs p ↔ CleanAbsL p := Iff.rfl

theorem cleanAbs_of_clean {p : FPath} (h : Clean p) (ha : p.abs = true) : CleanAbsL p :=
  ⟨ha, fun c hc => ⟨(h.1 c hc).1, (h.1 c hc).2, h.2.1 ha c hc⟩⟩

/-! ### (a) -/

/-- The stability clause of (a) quantifies over two *values* `a`, `b` that compare equal; it
follows from the cleaner per-key form `stable_sort_key` below, because `less a b = false ∧ less b a =
false ↔ key a = key b` (`AL.Lint.less_key`: `less` is a strict weak order with these classes). -/
theorem stable_sort_spec : stable_sort_spec_statement := by
  intro l
  refine ⟨stableSort_sorted l, stableSort_perm l, ?_⟩
  intro a b hab hba
  have hk : key a = key b := less_key.incomp.1 ⟨hab, hba⟩
  have hq : ∀ l' : List D, l'.filter (fun d => d = a ∨ d = b) =
      (l'.filter (fun d => key d = key a)).filter (fun d => d = a ∨ d = b) := by
    intro l'
    rw [List.filter_filter]
    apply List.filter_congr
    intro d _
    by_cases h : d = a ∨ d = b
    · have : key d = key a := by rcases h with rfl | rfl <;> simp [hk]
      simp [h, this]
    · simp [h]
  rw [hq (stableSort l), hq l, stableSort_filter_key]

/-- (a′) the stability clause restated per sort key: every class of diagnostics with the same
(file, line, column) appears in the output exactly as in the input. -/
def stable_sort_key_statement : Prop :=
  ∀ (l : List D) (k : String × Nat × Nat),
    (stableSort l).filter (fun d => key d = k) = l.filter (fun d => key d = k)

theorem stable_sort_key : stable_sort_key_statement := fun l k => stableSort_filter_key k l

/-- incomparable under `less` = same (file, line, column) -/
theorem less_tie_iff_key (a b : D) : (less a b = false ∧ less b a = false) ↔ key a = key b :=
  less_key.incomp

example : stableSort exRaw =
    [⟨"", 1, 2, "m12", "k"⟩, ⟨"", 1, 5, "tieA", "k"⟩, ⟨"", 1, 5, "tieB", "k"⟩, ⟨"", 2, 7, "m27", "k"⟩,
     ⟨"", 3, 1, "m31", "k"⟩] := by decide +kernel
example : (stableSort exRaw).filter (fun d => key d = ("", 1, 5)) =
    [⟨"", 1, 5, "tieA", "k"⟩, ⟨"", 1, 5, "tieB", "k"⟩] := by decide +kernel
example : less ⟨"", 1, 5, "tieA", "k"⟩ ⟨"", 1, 5, "tieB", "k"⟩ = false ∧
    less ⟨"", 1, 5, "tieB", "k"⟩ ⟨"", 1, 5, "tieA", "k"⟩ = false := by decide +kernel

/-! ### (b) -/

theorem filter_exact : filter_exact_statement := by
  intro ignored path raw hign
  unfold checkTail filterErrors
  rw [← stableSort_filter]
  congr 1
  rw [List.filter_map]
  have hall : raw.filter (fun d => !(fun _ => false) d) = raw := List.filter_eq_self.2 (by simp)
  rw [hall]
  congr 1
  apply List.filter_congr
  intro d _
  simp [Function.comp, hign d path]

example : (∀ d d', exIgnored { d with file := d' } = exIgnored d) := fun _ _ => rfl
example : checkTail exIgnored "w.yml" exRaw =
    [⟨"w.yml", 1, 2, "m12", "k"⟩, ⟨"w.yml", 1, 5, "tieB", "k"⟩, ⟨"w.yml", 2, 7, "m27", "k"⟩,
     ⟨"w.yml", 3, 1, "m31", "k"⟩] := by decide +kernel
example : checkTail (fun _ => false) "w.yml" exRaw =
    [⟨"w.yml", 1, 2, "m12", "k"⟩, ⟨"w.yml", 1, 5, "tieA", "k"⟩, ⟨"w.yml", 1, 5, "tieB", "k"⟩,
     ⟨"w.yml", 2, 7, "m27", "k"⟩, ⟨"w.yml", 3, 1, "m31", "k"⟩] := by decide +kernel

/-- the hypothesis of (b) is needed: `checkTail` filters *before* it overwrites the file, so an `ignored`
that looks at the file (here: "file is empty", true of every raw diagnostic, false once the path is set)
drops everything on the left and nothing on the right. -/
theorem filter_exact_needs_file_irrelevance :
    ¬ ∀ (ignored : D → Bool) (path : String) (raw : List D),
      checkTail ignored path raw = (checkTail (fun _ => false) path raw).filter (fun d => !ignored d) := by
  intro h
  have := h (fun d => d.file == "") "w.yml" [⟨"", 1, 1, "m", "k"⟩]
  revert this
  decide +kernel

/-! ### (c) -/

theorem exit_status : exit_status_statement := by
  refine ⟨?_, ?_, rfl, rfl⟩
  · intro n; simp only [exitStatus]; split <;> simp <;> omega
  · intro n; simp only [exitStatus]; split <;> simp <;> omega

example : exitStatus (.done (checkTail exIgnored "w.yml" exRaw).length) = 1 := by decide +kernel
example : exitStatus (.done (checkTail (fun _ => true) "w.yml" exRaw).length) = 0 := by decide +kernel

/-! ### (d) -/

theorem rel_join : rel_join_statement := by
  intro base targ hb ht
  obtain ⟨r, h1, _, h2⟩ := AL.Lint.rel_join base targ hb ht
  exact ⟨r, h1, h2⟩

example : CleanAbs exCwd ∧ CleanAbs exP2 := by unfold CleanAbs; decide +kernel
example : rel exCwd exP2 = some exP1 := by decide +kernel
example : join exCwd exP1 = exP2 := by decide +kernel

-- the `CleanAbs base` hypothesis matters: with a `..` left in `base` below the common prefix, `Rel` fails
example : rel ⟨true, ["a", ".."]⟩ ⟨true, ["b"]⟩ = none := by decide +kernel

/-! ### (e) -/

/-- the matched path is `Rel(root, absolute path of the file)`: the `return path` fallback at the end of
`pathFromProjectRoot` is unreachable for clean absolute `cwd`/`root`. -/
theorem matched_path_eq (cwd root p : FPath) (hc : CleanAbs cwd) (hr : CleanAbs root) (hp : Clean p) :
    rel root (absOf cwd p) = some (pathFromProjectRoot cwd root (displayPath cwd p)) :=
  pathFromProjectRoot_display cwd root p hc hr (cleanAbs_of_clean hp)

theorem cwd_independent : cwd_independent_statement := by
  intro cwd cwd' root p p' hc hc' hr hp hp' heq
  have h1 := matched_path_eq cwd root p hc hr hp
  have h2 := matched_path_eq cwd' root p' hc' hr hp'
  rw [heq, h2] at h1
  exact (Option.some.inj h1).symm

example : CleanAbs exCwd ∧ CleanAbs exRoot ∧ Clean exP2 := by
  refine ⟨by unfold CleanAbs; decide +kernel, by unfold CleanAbs; decide +kernel, by decide +kernel,
    by decide +kernel, ?_⟩
  -- `exP2` has no `..` component at all
  intro i j _ h
  exact absurd (List.mem_of_getElem? h) (by decide +kernel)
/-- the absolute, the display and the matched path of each spelling, in one evaluation (the components are decoded once) -/
theorem exMatchedPaths :
    (absOf exCwd exP1 = exP2 ∧ absOf exRoot exRel = exP2 ∧ absOf exCwd exP2 = exP2) ∧
    (displayPath exCwd exP1 = exP1 ∧ displayPath exCwd exP2 = exP1 ∧ displayPath exRoot exP2 = exRel) ∧
    pathFromProjectRoot exCwd exRoot (displayPath exCwd exP1) = exRel ∧
    pathFromProjectRoot exCwd exRoot (displayPath exCwd exP2) = exRel ∧
    pathFromProjectRoot exCwd exRoot (displayPath exCwd exP3) = exRel ∧
    pathFromProjectRoot exRoot exRoot (displayPath exRoot exRel) = exRel := by decide +kernel
example : absOf exCwd exP1 = exP2 ∧ absOf exRoot exRel = exP2 ∧ absOf exCwd exP2 = exP2 := exMatchedPaths.1
example : displayPath exCwd exP1 = exP1 ∧ displayPath exCwd exP2 = exP1 ∧ displayPath exRoot exP2 = exRel :=
  exMatchedPaths.2.1
example : pathFromProjectRoot exCwd exRoot (displayPath exCwd exP1) = exRel := exMatchedPaths.2.2.1
example : pathFromProjectRoot exCwd exRoot (displayPath exCwd exP2) = exRel := exMatchedPaths.2.2.2.1
example : pathFromProjectRoot exCwd exRoot (displayPath exCwd exP3) = exRel := exMatchedPaths.2.2.2.2.1
example : pathFromProjectRoot exRoot exRoot (displayPath exRoot exRel) = exRel := exMatchedPaths.2.2.2.2.2

/-! ### (f) -/

theorem root_relative : root_relative_statement := by
  intro cwd root p hc hr hp hk
  have hA : CleanAbsL (absOf cwd p) := absOf_cleanAbs cwd p hc.1 (cleanAbs_of_clean hp)
  obtain ⟨r, h1, h2, h3⟩ := rel_of_knows root (absOf cwd p) hr hA hk
  have := matched_path_eq cwd root p hc hr hp
  rw [h1] at this
  cases this
  exact ⟨h2, h3⟩

example : knows exRoot (absOf exCwd exP1) = true := by decide +kernel
example : join exRoot (pathFromProjectRoot exCwd exRoot (displayPath exCwd exP1)) = exP2 := by decide +kernel

/-! ### (g) -/

theorem knows_components : knows_components_statement := knows_iff

example : knows ⟨true, ["foo", "bar"]⟩ ⟨true, ["foo", "bar", "x.yaml"]⟩ = true := by decide +kernel
example : knows ⟨true, ["foo", "bar"]⟩ ⟨true, ["foo", "bar2", "x.yaml"]⟩ = false := by decide +kernel
example : knows ⟨true, ["foo", "bar"]⟩ ⟨true, ["foo", "bar"]⟩ = true := by decide +kernel

end AL.C15
