import AL.Lemmas.C11DJob
import AL.Props.C12Parse
/-
  C11 from the DOCUMENT to the diagnostics: **untrusted inputs are reported in the scripts of the document, and only
  there.**

  AL.Props.C11 says WHICH expressions read an untrusted input; AL.Props.C11Rule (`AL.C11R`) says, on the AST, WHERE the
  check is switched on: at the script strings `scriptStrs lower w` (a step's `ExecRun.Run`, the `script` entry of
  `ExecAction.Inputs` of a step whose `Uses`, folded, starts with `actions/github-script@`). This file composes that with
  the parser (`AL.PW.parse`), so that both halves speak about what is WRITTEN in the yaml.Node tree:

    `scriptKScalars lower doc` / `scriptScalars lower doc` (AL/Spec/ScriptScalars.lean) list the script scalars of the
    DOCUMENT — the scalar under `run:` of every element of every job's `steps:`, the scalar under the key `script` (folded)
    of `with:` of a step whose `uses:` text folds to `actions/github-script@…` — each with the workflow key of its position;
    written from the documentation, without the parser.

    §1  the walk: `scriptScalars ⊆ valueScalars` (C03's walk), `scriptKScalars ⊆ keyedScalars` (C12's walk: same keys),
        the keys are `jobs.<job_id>.steps.run` / `jobs.<job_id>.steps.with`; `IsStepRun`, `IsScriptInput`: the two kinds of
        script scalar, spelled out as paths
    §2  parser and walk agree: for a document the parser accepts silently the script strings of the AST ARE the script
        scalars of the document, in order, key by key (`script_strs_are_script_scalars`); unconditionally every script
        string of the AST with a text is a script scalar of the document (`script_string_from_script_scalar`)
    §3  COMPLETENESS from the document: `script_scalar_parsed`, `script_scalar_scanned`,
        `untrusted_in_script_scalar_reported`; `${{ github.event.issue.title }}` in the `run:` / the `script:` of ANY
        document (`run_title_in_document_reported`, `script_title_in_document_reported`)
    §3a "the first occurrence of a key" is not a restriction: for an accepted document every occurrence is the first
        (`isStepRun_of_any`, `isScriptInput_of_any`), so the theorems of §3 hold for a script under ANY occurrence of the key
        (`run_title_in_document_reported_any`, `untrusted_in_any_run_reported`, …)
    §4  PRECISION to the document, WITHOUT a clean-parse hypothesis: `untrusted_only_at_script_scalars`; a document
        without script scalars has no untrusted-input diagnostic (`no_script_scalar_no_untrusted`); for an accepted
        document §3 and §4 in one statement (`doc_untrusted_exact_sites`)
    §5  a concrete document: the same text in `run:` (reported), `env:` (not), `Script:` of `Actions/GitHub-Script@v7`
        (reported), `with:` of another action (not)
    §6  instances of the theorems with hypotheses

  Proof architecture (AL/Lemmas/C11DBase.lean, C11DStep.lean, C11DJob.lean): the three fields of a parsed step the check
  depends on (`runOf`, `usesOf`, `inputsOf`) are, UNCONDITIONALLY, empty or made from the node `lookup` finds under the
  key (`parseMapping` files the FIRST pair with an id under that id and drops the later ones; the key loop lets only the
  iteration of `run` / `uses` / `with` write the field); for an accepted step they ARE `newString` of that node. The
  same for `Job.Steps` and `Workflow.Jobs`, which every iteration of their key writes.
-/
namespace AL.C11D
open AL AL.PW AL.Yaml AL.Ast AL.C03P AL.C12P AL.C11R AL.RuleExpr
open AL.C12R (tag mem_tag)
open AL.Sema (err)
open AL.C05D (runOf)

/-! ## 1. the walk -/

theorem mem_scriptKScalars {lower : String → String} {doc : Node} {p : Node × String} :
    p ∈ scriptKScalars lower doc ↔ p ∈ scriptKNodes lower doc ∧ p.1.kind = .scalar := by
  simp [scriptKScalars]

theorem mem_scriptScalars {lower : String → String} {doc : Node} {v : Node} :
    v ∈ scriptScalars lower doc ↔ ∃ key, (v, key) ∈ scriptKScalars lower doc := by
  simp only [scriptScalars, List.mem_map]
  constructor
  · rintro ⟨⟨v', k⟩, hp, rfl⟩; exact ⟨k, hp⟩
  · rintro ⟨k, hp⟩; exact ⟨(v, k), hp, rfl⟩

theorem scriptKScalars_fst (lower : String → String) (doc : Node) :
    (scriptKScalars lower doc).map Prod.fst = scriptScalars lower doc := rfl

theorem entries_mem {n : Node} {p : Node × Node} (h : p ∈ entries n) : n.kind = .mapping ∧ p ∈ pairs n.content := by
  simp only [entries] at h
  split at h
  · exact ⟨‹_›, h⟩
  · cases h

theorem elements_mem {n c : Node} (h : c ∈ elements n) : n.kind = .sequence ∧ c ∈ n.content := by
  simp only [elements] at h
  split at h
  · exact ⟨‹_›, h⟩
  · cases h

/-- what `lookup` finds under a (non-empty) key `k`: the value of a pair of the mapping whose key is the scalar `k` -/
theorem lookup_some {n x : Node} {k : String} (hk : k ≠ "") (h : lookup n k = some x) :
    n.kind = .mapping ∧ ∃ kn, (kn, x) ∈ pairs n.content ∧ kn.kind = .scalar ∧ kn.value = k := by
  simp only [lookup, Option.map_eq_some_iff] at h
  obtain ⟨p, hp, rfl⟩ := h
  have hm := List.mem_of_find?_eq_some hp
  have ht : text p.1 = k := by simpa using List.find?_some hp
  obtain ⟨h1, h2⟩ := entries_mem hm
  obtain ⟨hs, hv⟩ := text_ne_empty (n := p.1) (by rw [ht]; exact hk)
  exact ⟨h1, p.1, h2, hs, by rw [← hv, ht]⟩

theorem lookupFolded_some {lower : String → String} {n x : Node} {k : String} (h : lookupFolded lower n k = some x) :
    n.kind = .mapping ∧ ∃ kn, (kn, x) ∈ pairs n.content ∧ lower (text kn) = k := by
  simp only [lookupFolded, Option.map_eq_some_iff] at h
  obtain ⟨p, hp, rfl⟩ := h
  have hm := List.mem_of_find?_eq_some hp
  have ht : lower (text p.1) = k := by simpa using List.find?_some hp
  obtain ⟨h1, h2⟩ := entries_mem hm
  exact ⟨h1, p.1, h2, ht⟩

/-- a step node of the document: an element of the sequence under `steps:` of a value of the mapping under `jobs:` of the
root mapping -/
theorem mem_docStepNodes {doc st : Node} :
    st ∈ docStepNodes doc ↔
      ∃ root rest jobs p steps, doc.content = root :: rest ∧ lookup root "jobs" = some jobs ∧ p ∈ entries jobs ∧
        lookup p.2 "steps" = some steps ∧ st ∈ elements steps := by
  simp only [docStepNodes, docJobNodes, jobStepNodes, List.mem_flatMap]
  constructor
  · rintro ⟨job, hjob, steps, hsteps, hst⟩
    cases hc : doc.content with
    | nil => simp [hc] at hjob
    | cons root rest =>
      rw [hc] at hjob
      simp only [List.mem_map, List.mem_flatMap] at hjob
      obtain ⟨p, ⟨jobs, hjobs, hp⟩, rfl⟩ := hjob
      exact ⟨root, rest, jobs, p, steps, rfl, AL.C03R.mem_toList hjobs, hp, AL.C03R.mem_toList hsteps, hst⟩
  · rintro ⟨root, rest, jobs, p, steps, hc, hj, hp, hs, hst⟩
    refine ⟨p.2, ?_, steps, by simp [hs], hst⟩
    simp only [hc, hj, Option.toList_some, List.flatMap_cons, List.flatMap_nil, List.append_nil, List.mem_map]
    exact ⟨p, hp, rfl⟩

/-- the value scalars of a step node of the document, with their keys, are keyed value scalars of the document -/
theorem step_keyed_in_doc {doc st : Node} (h : st ∈ docStepNodes doc) : ∀ q ∈ stepKeyed st, q ∈ keyedScalars doc := by
  intro q hq
  obtain ⟨root, rest, jobs, p, steps, hc, hj, hp, hs, hst⟩ := mem_docStepNodes.1 h
  obtain ⟨hrk, kJobs, hjm, _, hjv⟩ := lookup_some (by decide) hj
  obtain ⟨hjk, hpm⟩ := entries_mem hp
  obtain ⟨hpk, kSteps, hsm, _, hsv⟩ := lookup_some (by decide) hs
  obtain ⟨hsk, hstm⟩ := elements_mem hst
  simp only [keyedScalars, hc, mapKeyed, hrk, decide_true, Bool.true_or, ↓reduceIte, List.mem_flatMap]
  refine ⟨(kJobs, jobs), hjm, ?_⟩
  simp only [hjv, workflowKeyKeyed, jobsKeyed, mapKeyed, hjk, decide_true, Bool.true_or, ↓reduceIte, List.mem_flatMap]
  refine ⟨p, hpm, ?_⟩
  simp only [jobKeyed, mapKeyed, hpk, decide_true, Bool.true_or, ↓reduceIte, List.mem_flatMap]
  refine ⟨(kSteps, steps), hsm, ?_⟩
  simp only [hsv, jobKeyKeyed, stepsKeyed, seqKeyed, hsk, ↓reduceIte, List.mem_flatMap]
  exact ⟨st, hstm, hq⟩

/-- a script scalar of a step node is a value scalar of the step, under the key of its position -/
theorem stepScriptK_keyed {lower : String → String} {st : Node} {q : Node × String} (h : q ∈ stepScriptKNodes lower st)
    (hs : q.1.kind = .scalar) : q ∈ stepKeyed st := by
  obtain ⟨v, key⟩ := q
  simp only [stepScriptKNodes, List.mem_append, List.mem_map, Prod.mk.injEq] at h
  rcases h with ⟨x, hx, rfl, rfl⟩ | ⟨x, hx, rfl, rfl⟩
  · obtain ⟨hk, kRun, hm, _, hv⟩ := lookup_some (by decide) (AL.C03R.mem_toList hx)
    simp only [stepKeyed, mapKeyed, hk, decide_true, Bool.true_or, ↓reduceIte, List.mem_flatMap]
    refine ⟨(kRun, x), hm, ?_⟩
    simp only [hv, stepKeyKeyed, leaves_scalar x hs]
    exact mem_under.2 ⟨List.mem_singleton.2 rfl, rfl⟩
  · simp only [stepScriptInputNodes] at hx
    split at hx
    · have hb := AL.C03R.mem_toList hx
      cases hw : lookup st "with" with
      | none => rw [hw] at hb; cases hb
      | some w =>
        rw [hw] at hb
        simp only [Option.bind_some] at hb
        obtain ⟨hk, kWith, hm, _, hv⟩ := lookup_some (by decide) hw
        obtain ⟨hwk, kScript, hsm, _⟩ := lookupFolded_some hb
        simp only [stepKeyed, mapKeyed, hk, decide_true, Bool.true_or, ↓reduceIte, List.mem_flatMap]
        refine ⟨(kWith, w), hm, ?_⟩
        simp only [hv, stepKeyKeyed]
        refine mem_under.2 ⟨?_, rfl⟩
        rw [leaves_mapping w hwk]
        exact List.mem_flatMap.2 ⟨(kScript, x), hsm, by rw [leaves_scalar x hs]; exact List.mem_singleton.2 rfl⟩
    · cases hx

/-- **the script scalars, with their keys, are keyed value scalars of the document** (C12's walk `keyedScalars`): the
documentation's table gives a `run:` the row `jobs.<job_id>.steps.run`, an input of `with:` the row
`jobs.<job_id>.steps.with` -/
theorem scriptKScalars_sub_keyedScalars (lower : String → String) (doc : Node) :
    ∀ p ∈ scriptKScalars lower doc, p ∈ keyedScalars doc := by
  intro p hp
  obtain ⟨hn, hs⟩ := mem_scriptKScalars.1 hp
  obtain ⟨st, hst, hq⟩ := List.mem_flatMap.1 hn
  exact step_keyed_in_doc hst p (stepScriptK_keyed hq hs)

/-- **the script scalars are value scalars of the document** (C03's walk `valueScalars`) -/
theorem scriptScalars_sub_valueScalars (lower : String → String) (doc : Node) :
    ∀ v ∈ scriptScalars lower doc, v ∈ valueScalars doc := by
  intro v hv
  obtain ⟨key, hk⟩ := mem_scriptScalars.1 hv
  exact keyed_is_scalar doc v key (scriptKScalars_sub_keyedScalars lower doc _ hk)

/-- the key of a script scalar is one of the two -/
theorem scriptKScalars_keys (lower : String → String) (doc : Node) (v : Node) (key : String)
    (h : (v, key) ∈ scriptKScalars lower doc) : key = "jobs.<job_id>.steps.run" ∨ key = "jobs.<job_id>.steps.with" := by
  obtain ⟨hn, _⟩ := mem_scriptKScalars.1 h
  obtain ⟨st, _, hq⟩ := List.mem_flatMap.1 hn
  simp only [stepScriptKNodes, List.mem_append, List.mem_map, Prod.mk.injEq] at hq
  rcases hq with ⟨_, _, _, rfl⟩ | ⟨_, _, _, rfl⟩
  · exact Or.inl rfl
  · exact Or.inr rfl

/-- … hence, in `keyedScalars`, the keys of the script scalars are `jobs.<job_id>.steps.run` / `jobs.<job_id>.steps.with` -/
theorem scriptScalars_keyed (lower : String → String) (doc : Node) (v : Node) (hv : v ∈ scriptScalars lower doc) :
    (v, "jobs.<job_id>.steps.run") ∈ keyedScalars doc ∨ (v, "jobs.<job_id>.steps.with") ∈ keyedScalars doc := by
  obtain ⟨key, hk⟩ := mem_scriptScalars.1 hv
  have := scriptKScalars_sub_keyedScalars lower doc _ hk
  rcases scriptKScalars_keys lower doc v key hk with rfl | rfl
  · exact Or.inl this
  · exact Or.inr this

/-! ### the two kinds of script scalar, as paths -/

/-- `v` is the scalar under `run:` of a step of the document: `jobs: {<id>: {steps: [… {run: v} …]}}` below the root -/
structure IsStepRun (doc v : Node) : Prop where
  path : ∃ st ∈ docStepNodes doc, lookup st "run" = some v
  scalar : v.kind = .scalar

/-- `v` is the scalar under the key `script` (folded) of `with:` of a step of the document whose `uses:` text folds to
`actions/github-script@…` -/
structure IsScriptInput (lower : String → String) (doc v : Node) : Prop where
  path : ∃ st ∈ docStepNodes doc, isGithubScriptStep lower st = true ∧
    ∃ w, lookup st "with" = some w ∧ lookupFolded lower w "script" = some v
  scalar : v.kind = .scalar

theorem stepRun_iff (lower : String → String) (doc v : Node) :
    (v, "jobs.<job_id>.steps.run") ∈ scriptKScalars lower doc ↔ IsStepRun doc v := by
  rw [mem_scriptKScalars]
  simp only [scriptKNodes, List.mem_flatMap, stepScriptKNodes, List.mem_append, List.mem_map, Prod.mk.injEq,
    stepRunNodes, Option.mem_toList]
  constructor
  · rintro ⟨⟨st, hst, h⟩, hs⟩
    rcases h with ⟨x, hx, rfl, _⟩ | ⟨x, _, _, hk⟩
    · exact ⟨⟨st, hst, hx⟩, hs⟩
    · exact absurd hk (by decide)
  · rintro ⟨⟨st, hst, hx⟩, hs⟩
    exact ⟨⟨st, hst, Or.inl ⟨v, hx, rfl, trivial⟩⟩, hs⟩

theorem scriptInput_iff (lower : String → String) (doc v : Node) :
    (v, "jobs.<job_id>.steps.with") ∈ scriptKScalars lower doc ↔ IsScriptInput lower doc v := by
  rw [mem_scriptKScalars]
  simp only [scriptKNodes, List.mem_flatMap, stepScriptKNodes, List.mem_append, List.mem_map, Prod.mk.injEq,
    stepScriptInputNodes]
  constructor
  · rintro ⟨⟨st, hst, h⟩, hs⟩
    rcases h with ⟨x, _, _, hk⟩ | ⟨x, hx, rfl, _⟩
    · exact absurd hk (by decide)
    · split at hx
      · rename_i hg
        have hb := AL.C03R.mem_toList hx
        cases hw : lookup st "with" with
        | none => rw [hw] at hb; cases hb
        | some w =>
          rw [hw] at hb
          exact ⟨⟨st, hst, hg, w, hw, hb⟩, hs⟩
      · cases hx
  · rintro ⟨⟨st, hst, hg, w, hw, hx⟩, hs⟩
    refine ⟨⟨st, hst, Or.inr ⟨v, ?_, rfl, trivial⟩⟩, hs⟩
    simp [hg, hw, hx]

/-- every script scalar is of one of the two kinds -/
theorem scriptScalars_kinds (lower : String → String) (doc v : Node) :
    v ∈ scriptScalars lower doc ↔ IsStepRun doc v ∨ IsScriptInput lower doc v := by
  rw [mem_scriptScalars, ← stepRun_iff lower, ← scriptInput_iff]
  constructor
  · rintro ⟨key, hk⟩
    rcases scriptKScalars_keys lower doc v key hk with rfl | rfl
    · exact Or.inl hk
    · exact Or.inr hk
  · rintro (h | h) <;> exact ⟨_, h⟩

/-! ## 2. parser and walk agree -/

/-- **for a document the parser accepts silently, the script strings of the AST ARE the script scalars of the document** —
in the same order, each with the same key, each turned into a `*String` by `newString` (text, quoting, position) -/
theorem script_strs_are_script_scalars (cfg : Cfg) (doc : Node) (h : (parse cfg doc).2 = []) :
    scriptKStrs cfg.lower (parse cfg doc).1 = (scriptKScalars cfg.lower doc).map (fun q => (newString q.1, q.2)) ∧
    scriptStrs cfg.lower (parse cfg doc).1 = (scriptScalars cfg.lower doc).map newString := by
  obtain ⟨h1, h2⟩ := scriptKStrs_clean cfg doc h
  have hf : scriptKScalars cfg.lower doc = scriptKNodes cfg.lower doc := by
    simp only [scriptKScalars]
    exact List.filter_eq_self.2 fun q hq => by simp [h2 q hq]
  refine ⟨by rw [hf]; exact h1, ?_⟩
  rw [← scriptKStrs_fst, h1, scriptScalars, hf, List.map_map, List.map_map]
  rfl

/-- **every script string of the parsed document that has a text is a script scalar of the document**: same key, and the
string is `newString` of the scalar — UNCONDITIONALLY (whatever the parser reports: the parser stores nothing else in
`ExecRun.Run` / the `script` input of an `actions/github-script` step) -/
theorem script_string_from_script_scalar (cfg : Cfg) (doc : Node) (s : Str) (key : String)
    (h : (s, key) ∈ scriptKStrs cfg.lower (parse cfg doc).1) (hne : s.value ≠ "") :
    ∃ v, (v, key) ∈ scriptKScalars cfg.lower doc ∧ s = newString v := by
  obtain ⟨q, hq, hk, ae, he⟩ := scriptKStrs_from_nodes cfg doc _ h
  simp only at hk he
  obtain ⟨hs, hn⟩ := parseString_of_value_ne q.1 ae (by rw [← he]; exact hne)
  refine ⟨q.1, mem_scriptKScalars.2 ⟨?_, hs⟩, by rw [he, hn]⟩
  rw [hk]
  exact hq

/-- every script string of the parsed document sits at a node at a script position of the document: it has the node's
position and the node's text (`text`: empty for a node that is no scalar) — unconditionally -/
theorem script_string_at_script_node (cfg : Cfg) (doc : Node) (s : Str) (key : String)
    (h : (s, key) ∈ scriptKStrs cfg.lower (parse cfg doc).1) :
    ∃ x, (x, key) ∈ scriptKNodes cfg.lower doc ∧ s.pos = x.pos ∧ s.value = text x := by
  obtain ⟨q, hq, hk, ae, he⟩ := scriptKStrs_from_nodes cfg doc _ h
  simp only at hk he
  refine ⟨q.1, by rw [hk]; exact hq, ?_, ?_⟩
  · rw [he, parseString_pos]
  · rw [he, parseString_value]

/-! ## 3. completeness from the document -/

/-- **a script scalar of an accepted document is a script string of the AST**, under the same key: text, quoting,
position -/
theorem script_scalar_parsed_clean (cfg : Cfg) (doc : Node) (v : Node) (key : String)
    (hv : (v, key) ∈ scriptKScalars cfg.lower doc) (hc : (parse cfg doc).2 = []) :
    (newString v, key) ∈ scriptKStrs cfg.lower (parse cfg doc).1 := by
  rw [(script_strs_are_script_scalars cfg doc hc).1]
  exact List.mem_map.2 ⟨(v, key), hv, rfl⟩

/-- **C11, parser half.** For every document and every configuration of the parser: a script scalar of the document is a
script string of the AST — same key, same text, same position — or the parser reports a syntax diagnostic. -/
theorem script_scalar_parsed (cfg : Cfg) (doc : Node) (v : Node) (key : String)
    (hv : (v, key) ∈ scriptKScalars cfg.lower doc) :
    (parse cfg doc).2 ≠ [] ∨
      ∃ s, (s, key) ∈ scriptKStrs cfg.lower (parse cfg doc).1 ∧ s.value = v.value ∧ s.pos = v.pos :=
  or_of_clean fun hc => ⟨newString v, script_scalar_parsed_clean cfg doc v key hv hc, rfl, rfl⟩

/-- `script_scalar_parsed` without the key -/
theorem script_scalar_parsed' (cfg : Cfg) (doc : Node) (v : Node) (hv : v ∈ scriptScalars cfg.lower doc) :
    (parse cfg doc).2 ≠ [] ∨ ∃ s ∈ scriptStrs cfg.lower (parse cfg doc).1, s.value = v.value ∧ s.pos = v.pos := by
  obtain ⟨key, hk⟩ := mem_scriptScalars.1 hv
  rcases script_scalar_parsed cfg doc v key hk with h | ⟨s, hs, e⟩
  · exact Or.inl h
  · exact Or.inr ⟨s, keyed_is_script _ _ s key hs, e⟩

/-- **a script scalar of the document is scanned with the untrusted-input check ON**, under the key of its position, in
the scope in effect at its step — or the parser reports -/
theorem script_scalar_scanned (cfg : Cfg) (isNum : IsNumber) (proj : ProjView) (doc : Node) (v : Node) (key : String)
    (hv : (v, key) ∈ scriptKScalars cfg.lower doc) :
    (parse cfg doc).2 ≠ [] ∨ ScannedOn cfg.lower proj (rule cfg.lower isNum (parse cfg doc).1 proj) (newString v) key :=
  or_of_clean fun hc =>
    script_scanned_with_flag_on cfg.lower isNum (parse cfg doc).1 proj _ key (script_scalar_parsed_clean cfg doc v key hv hc)

/-- **C11, completeness from the document.** A script scalar of the document whose text has an untrusted input under
the key of its position — in the scopes that fold names as the rule does — gets an untrusted-input diagnostic of the
expression rule AT THAT SCALAR, or the parser reports a syntax diagnostic: in every document, in every job, at every
step, whatever else is there, whatever the project's view. -/
theorem untrusted_in_script_scalar_reported (cfg : Cfg) (isNum : IsNumber) (proj : ProjView) (doc : Node) (v : Node)
    (key : String) (hv : (v, key) ∈ scriptKScalars cfg.lower doc) (hu : UntrustedUnderL cfg.lower key v.value) :
    (parse cfg doc).2 ≠ [] ∨
      ∃ d ∈ rule cfg.lower isNum (parse cfg doc).1 proj, isUntrusted d ∧ d.site = v.pos :=
  or_of_clean fun hc =>
    every_script_checked_L cfg.lower isNum (parse cfg doc).1 proj (newString v) key
      (script_scalar_parsed_clean cfg doc v key hv hc) hu

/-- `untrusted_in_script_scalar_reported` for an accepted document -/
theorem untrusted_in_script_scalar_reported_clean (cfg : Cfg) (isNum : IsNumber) (proj : ProjView) (doc : Node) (v : Node)
    (key : String) (hv : (v, key) ∈ scriptKScalars cfg.lower doc) (hu : UntrustedUnderL cfg.lower key v.value)
    (hc : (parse cfg doc).2 = []) :
    ∃ d ∈ rule cfg.lower isNum (parse cfg doc).1 proj, isUntrusted d ∧ d.site = v.pos :=
  (untrusted_in_script_scalar_reported cfg isNum proj doc v key hv hu).resolve_left fun h => h hc

/-- the text `${{ github.event.issue.title }}` at a script scalar: the diagnostic, exactly -/
theorem title_at_script_scalar_reported (cfg : Cfg) (hl : KeepsTitle cfg.lower) (isNum : IsNumber) (proj : ProjView)
    (doc : Node) (v : Node) (key : String) (hv : (v, key) ∈ scriptKScalars cfg.lower doc)
    (hval : v.value = "${{ github.event.issue.title }}") :
    (parse cfg doc).2 ≠ [] ∨
      (⟨v.pos, "untrusted", ["github.event.issue.title"]⟩ : Diag) ∈ rule cfg.lower isNum (parse cfg doc).1 proj := by
  rcases script_scalar_scanned cfg isNum proj doc v key hv with h | ⟨cx, h1, _, h3⟩
  · exact Or.inl h
  · refine Or.inr (h3 (err "untrusted" ["github.event.issue.title"]) ?_)
    rw [newString_value, hval, title_scan cx (h1 ▸ hl)]
    exact List.mem_append_right _ (List.mem_singleton.2 rfl)

/-- **in EVERY document**: `${{ github.event.issue.title }}` as the `run:` of a step — of whichever job, at whichever
place among the steps, whatever else the document contains — gets the diagnostic of the untrusted-input check, naming the
path, at that scalar, or the parser reports a syntax diagnostic; whatever the project's view; the folding function is one
that leaves `github`, `event`, `issue`, `title` alone, as `strings.ToLower` does -/
theorem run_title_in_document_reported (cfg : Cfg) (hl : KeepsTitle cfg.lower) (isNum : IsNumber) (proj : ProjView)
    (doc v : Node) (h : IsStepRun doc v) (hval : v.value = "${{ github.event.issue.title }}") :
    (parse cfg doc).2 ≠ [] ∨
      (⟨v.pos, "untrusted", ["github.event.issue.title"]⟩ : Diag) ∈ rule cfg.lower isNum (parse cfg doc).1 proj :=
  title_at_script_scalar_reported cfg hl isNum proj doc v _ ((stepRun_iff cfg.lower doc v).2 h) hval

/-- **in EVERY document**: the same as the `script` input (the key in any letter case) of a step whose `uses:`, folded,
starts with `actions/github-script@` -/
theorem script_title_in_document_reported (cfg : Cfg) (hl : KeepsTitle cfg.lower) (isNum : IsNumber) (proj : ProjView)
    (doc v : Node) (h : IsScriptInput cfg.lower doc v) (hval : v.value = "${{ github.event.issue.title }}") :
    (parse cfg doc).2 ≠ [] ∨
      (⟨v.pos, "untrusted", ["github.event.issue.title"]⟩ : Diag) ∈ rule cfg.lower isNum (parse cfg doc).1 proj :=
  title_at_script_scalar_reported cfg hl isNum proj doc v _ ((scriptInput_iff cfg.lower doc v).2 h) hval

/-! ### "the first occurrence" is not a restriction

`lookup` takes the FIRST pair with a key. A document that repeats a key is reported by the parser (`key-duplicated`), so
the theorems above hold for a script written under ANY occurrence of the key: for an accepted document every occurrence
is the first. -/

/-- `v` is the scalar value of SOME pair with the key `run` of a step of the document -/
structure IsStepRunAny (doc v : Node) : Prop where
  path : ∃ st ∈ docStepNodes doc, ∃ kn, (kn, v) ∈ entries st ∧ text kn = "run"
  scalar : v.kind = .scalar

/-- `v` is the scalar value of SOME pair whose key folds to `script` of SOME `with:` of a step of the document that has
SOME `uses:` whose text folds to `actions/github-script@…` -/
structure IsScriptInputAny (lower : String → String) (doc v : Node) : Prop where
  path : ∃ st ∈ docStepNodes doc,
    (∃ ku u, (ku, u) ∈ entries st ∧ text ku = "uses" ∧ (lower (text u)).startsWith "actions/github-script@" = true) ∧
    ∃ kw w, (kw, w) ∈ entries st ∧ text kw = "with" ∧ ∃ ks, (ks, v) ∈ entries w ∧ lower (text ks) = "script"
  scalar : v.kind = .scalar

theorem lookup_mem {n x : Node} {k : String} (h : lookup n k = some x) : ∃ kn, (kn, x) ∈ entries n ∧ text kn = k := by
  simp only [lookup, Option.map_eq_some_iff] at h
  obtain ⟨p, hp, rfl⟩ := h
  exact ⟨p.1, List.mem_of_find?_eq_some hp, by simpa using List.find?_some hp⟩

theorem lookupFolded_mem {lower : String → String} {n x : Node} {k : String} (h : lookupFolded lower n k = some x) :
    ∃ kn, (kn, x) ∈ entries n ∧ lower (text kn) = k := by
  simp only [lookupFolded, Option.map_eq_some_iff] at h
  obtain ⟨p, hp, rfl⟩ := h
  exact ⟨p.1, List.mem_of_find?_eq_some hp, by simpa using List.find?_some hp⟩

/-- the first occurrence is an occurrence -/
theorem IsStepRun.any {doc v : Node} (h : IsStepRun doc v) : IsStepRunAny doc v := by
  obtain ⟨⟨st, hst, hx⟩, hs⟩ := h
  exact ⟨⟨st, hst, lookup_mem hx⟩, hs⟩

theorem IsScriptInput.any {lower : String → String} {doc v : Node} (h : IsScriptInput lower doc v) :
    IsScriptInputAny lower doc v := by
  obtain ⟨⟨st, hst, hg, w, hw, hx⟩, hs⟩ := h
  refine ⟨⟨st, hst, ?_, ?_⟩, hs⟩
  · simp only [isGithubScriptStep] at hg
    cases hu : lookup st "uses" with
    | none => rw [hu] at hg; cases hg
    | some u =>
      rw [hu] at hg
      obtain ⟨ku, hm, hk⟩ := lookup_mem hu
      exact ⟨ku, u, hm, hk, hg⟩
  · obtain ⟨kw, hm, hk⟩ := lookup_mem hw
    exact ⟨kw, w, hm, hk, lookupFolded_mem hx⟩

/-- **in an accepted document every occurrence is the first**: a `run:` scalar -/
theorem isStepRun_of_any (cfg : Cfg) (doc v : Node) (h : IsStepRunAny doc v) (hc : (parse cfg doc).2 = []) :
    IsStepRun doc v := by
  obtain ⟨⟨st, hst, kn, hm, hk⟩, hs⟩ := h
  obtain ⟨hmap, _⟩ := AL.C05D.parseStep_clean cfg st (doc_steps_clean cfg doc hc st hst)
  have := lookup_of_mem_clean cfg _ st hmap (kn, v) hm
  rw [hk] at this
  exact ⟨⟨st, hst, this⟩, hs⟩

/-- `isStepRun_of_any` for the `script` input of an `actions/github-script` step -/
theorem isScriptInput_of_any (cfg : Cfg) (doc v : Node) (h : IsScriptInputAny cfg.lower doc v) (hc : (parse cfg doc).2 = []) :
    IsScriptInput cfg.lower doc v := by
  obtain ⟨⟨st, hst, ⟨ku, u, hum, huk, hus⟩, kw, w, hwm, hwk, ks, hsm, hsk⟩, hs⟩ := h
  have hstep := doc_steps_clean cfg doc hc st hst
  obtain ⟨hmap, _⟩ := AL.C05D.parseStep_clean cfg st hstep
  have hu := lookup_of_mem_clean cfg _ st hmap (ku, u) hum
  have hw := lookup_of_mem_clean cfg _ st hmap (kw, w) hwm
  rw [huk] at hu
  rw [hwk] at hw
  have hin := parseStep_inputs_clean cfg st hstep
  rw [hw] at hin
  have hx := lookupFolded_of_mem_clean cfg _ w hin.2.1 (ks, v) hsm
  rw [hsk] at hx
  exact ⟨⟨st, hst, by simp [isGithubScriptStep, hu, hus], w, hw, hx⟩, hs⟩

/-- **in EVERY document**: `${{ github.event.issue.title }}` under ANY `run:` key of a step is reported at that scalar, or
the parser reports a syntax diagnostic -/
theorem run_title_in_document_reported_any (cfg : Cfg) (hl : KeepsTitle cfg.lower) (isNum : IsNumber) (proj : ProjView)
    (doc v : Node) (h : IsStepRunAny doc v) (hval : v.value = "${{ github.event.issue.title }}") :
    (parse cfg doc).2 ≠ [] ∨
      (⟨v.pos, "untrusted", ["github.event.issue.title"]⟩ : Diag) ∈ rule cfg.lower isNum (parse cfg doc).1 proj :=
  or_of_clean fun hc =>
    (run_title_in_document_reported cfg hl isNum proj doc v (isStepRun_of_any cfg doc v h hc) hval).resolve_left fun e => e hc

/-- `run_title_in_document_reported_any` for the `script` input: under ANY key of `with:` that folds to `script` -/
theorem script_title_in_document_reported_any (cfg : Cfg) (hl : KeepsTitle cfg.lower) (isNum : IsNumber) (proj : ProjView)
    (doc v : Node) (h : IsScriptInputAny cfg.lower doc v) (hval : v.value = "${{ github.event.issue.title }}") :
    (parse cfg doc).2 ≠ [] ∨
      (⟨v.pos, "untrusted", ["github.event.issue.title"]⟩ : Diag) ∈ rule cfg.lower isNum (parse cfg doc).1 proj :=
  or_of_clean fun hc =>
    (script_title_in_document_reported cfg hl isNum proj doc v (isScriptInput_of_any cfg doc v h hc) hval).resolve_left
      fun e => e hc

/-- any script scalar in the wide sense with an untrusted input under its key -/
theorem untrusted_in_any_run_reported (cfg : Cfg) (isNum : IsNumber) (proj : ProjView) (doc v : Node)
    (h : IsStepRunAny doc v) (hu : UntrustedUnderL cfg.lower "jobs.<job_id>.steps.run" v.value) :
    (parse cfg doc).2 ≠ [] ∨ ∃ d ∈ rule cfg.lower isNum (parse cfg doc).1 proj, isUntrusted d ∧ d.site = v.pos :=
  or_of_clean fun hc =>
    untrusted_in_script_scalar_reported_clean cfg isNum proj doc v _
      ((stepRun_iff cfg.lower doc v).2 (isStepRun_of_any cfg doc v h hc)) hu hc

theorem untrusted_in_any_script_input_reported (cfg : Cfg) (isNum : IsNumber) (proj : ProjView) (doc v : Node)
    (h : IsScriptInputAny cfg.lower doc v) (hu : UntrustedUnderL cfg.lower "jobs.<job_id>.steps.with" v.value) :
    (parse cfg doc).2 ≠ [] ∨ ∃ d ∈ rule cfg.lower isNum (parse cfg doc).1 proj, isUntrusted d ∧ d.site = v.pos :=
  or_of_clean fun hc =>
    untrusted_in_script_scalar_reported_clean cfg isNum proj doc v _
      ((scriptInput_iff cfg.lower doc v).2 (isScriptInput_of_any cfg doc v h hc)) hu hc

/-! ## 4. precision to the document -/

theorem bytesOf_empty : bytesOf "" = [] := by decide +kernel

/-- the scan of the empty text yields nothing -/
theorem checkExprsIn_empty (cx : Cx) (key : String) (u : Bool) : (checkExprsIn cx key u "").2 = [] := by
  simp [checkExprsIn, bytesOf_empty, scan]

theorem stepsScans_mem : ∀ (steps : List Step) (cx : Cx) (d : Diag), d ∈ stepsScans cx steps →
    ∃ st ∈ steps, ∃ cx' : Cx, ∃ p ∈ execScriptKStrs cx.lower st.exec, d ∈ scanU cx' p
  | [], _, d, h => by cases h
  | st :: rest, cx, d, h => by
    simp only [stepsScans, List.mem_append, List.mem_flatMap] at h
    rcases h with ⟨p, hp, hd⟩ | h
    · exact ⟨st, List.mem_cons_self .., cx, p, hp, hd⟩
    · obtain ⟨st', hst', cx', p, hp, hd⟩ := stepsScans_mem rest _ d h
      rw [AL.C12R.visitStep_lower] at hp
      exact ⟨st', List.mem_cons_of_mem _ hst', cx', p, hp, hd⟩

/-- AST level, sharpening `AL.C11R.untrusted_only_in_scripts`: an untrusted-input diagnostic is located at a script
string THAT HAS A TEXT (it comes out of the scan of that text) — and carries the key of that string's position -/
theorem untrusted_at_script_with_text (lower : String → String) (isNum : IsNumber) (w : Workflow) (proj : ProjView) :
    ∀ d ∈ rule lower isNum w proj, isUntrusted d →
      ∃ s key, (s, key) ∈ scriptKStrs lower w ∧ d.site = s.pos ∧ s.value ≠ "" := by
  intro d hd hu
  have hm : d ∈ uf (rule lower isNum w proj) := mem_uf.2 ⟨hd, hu⟩
  rw [rule_untrusted_exact] at hm
  obtain ⟨kv, hkv, hm⟩ := List.mem_flatMap.1 hm
  obtain ⟨st, hst, cx', p, hp, hdp⟩ := stepsScans_mem _ _ d hm
  have hlow : (AL.C05S.jobCxS (AL.C05S.ruleCx lower proj w) isNum (w.jobs.getD []) kv.2).lower = lower := by
    rw [(AL.C05S.jobCxS_scope _ isNum _ kv.2).2.2.2.2.1]
    exact AL.C12R.visitEvents_lower _ _
  rw [hlow] at hp
  obtain ⟨s, key⟩ := p
  refine ⟨s, key, job_script_keyed (id := kv.1) (j := kv.2) hkv hst hp, ?_⟩
  simp only [scanU, mem_uf, RuleExpr.at_, List.mem_map] at hdp
  obtain ⟨⟨e, he, rfl⟩, _⟩ := hdp
  refine ⟨rfl, ?_⟩
  intro h0
  rw [h0, checkExprsIn_empty] at he
  cases he

/-- **C11, precision to the document (keyed form).** For EVERY document — accepted by the parser or not —, every
configuration of the parser, every number test and project view: a diagnostic of the expression rule with the code of the
untrusted-input check sits at the position of a node of the document that IS a script scalar (and the rule had the key of
that scalar's position in hand). -/
theorem untrusted_only_at_script_scalars_keyed (cfg : Cfg) (isNum : IsNumber) (proj : ProjView) (doc : Node) :
    ∀ d ∈ rule cfg.lower isNum (parse cfg doc).1 proj, isUntrusted d →
      ∃ v key, (v, key) ∈ scriptKScalars cfg.lower doc ∧ d.site = v.pos := by
  intro d hd hu
  obtain ⟨s, key, hs, hsite, hne⟩ := untrusted_at_script_with_text cfg.lower isNum (parse cfg doc).1 proj d hd hu
  obtain ⟨v, hv, rfl⟩ := script_string_from_script_scalar cfg doc s key hs hne
  exact ⟨v, key, hv, hsite⟩

/-- **C11, precision to the document.** For EVERY document — no clean-parse hypothesis —: every untrusted-input diagnostic
of the expression rule on the parsed document sits at the position of a script scalar of the document: the scalar under
`run:` of a step, or under the `script` key of `with:` of an `actions/github-script` step. No other position — under `env:`,
under `with:` of another action, in `if:`, `name:`, the matrix, `on:` … — carries one, whatever the text there. -/
theorem untrusted_only_at_script_scalars (cfg : Cfg) (isNum : IsNumber) (proj : ProjView) (doc : Node) :
    ∀ d ∈ rule cfg.lower isNum (parse cfg doc).1 proj, isUntrusted d →
      ∃ v ∈ scriptScalars cfg.lower doc, d.site = v.pos := by
  intro d hd hu
  obtain ⟨v, key, hv, hsite⟩ := untrusted_only_at_script_scalars_keyed cfg isNum proj doc d hd hu
  exact ⟨v, mem_scriptScalars.2 ⟨key, hv⟩, hsite⟩

/-- `untrusted_only_at_script_scalars`, the script scalar given by its path -/
theorem untrusted_only_at_run_or_script (cfg : Cfg) (isNum : IsNumber) (proj : ProjView) (doc : Node) :
    ∀ d ∈ rule cfg.lower isNum (parse cfg doc).1 proj, isUntrusted d →
      ∃ v, (IsStepRun doc v ∨ IsScriptInput cfg.lower doc v) ∧ d.site = v.pos := by
  intro d hd hu
  obtain ⟨v, hv, hsite⟩ := untrusted_only_at_script_scalars cfg isNum proj doc d hd hu
  exact ⟨v, (scriptScalars_kinds cfg.lower doc v).1 hv, hsite⟩

/-- a document without script scalars (no `run:`, no `actions/github-script` step with a `script` input) has no
untrusted-input diagnostic at all — whatever it contains elsewhere, whether the parser accepts it or not -/
theorem no_script_scalar_no_untrusted (cfg : Cfg) (isNum : IsNumber) (proj : ProjView) (doc : Node)
    (h : scriptScalars cfg.lower doc = []) : NoU (rule cfg.lower isNum (parse cfg doc).1 proj) := by
  intro d hd hu
  obtain ⟨v, hv, _⟩ := untrusted_only_at_script_scalars cfg isNum proj doc d hd hu
  rw [h] at hv
  cases hv

/-- **both halves in one statement, for an accepted document**: the positions of the untrusted-input diagnostics are
positions of script scalars, and every script scalar whose text has an untrusted input under its key has one -/
theorem doc_untrusted_exact_sites (cfg : Cfg) (isNum : IsNumber) (proj : ProjView) (doc : Node)
    (hc : (parse cfg doc).2 = []) :
    (∀ d ∈ rule cfg.lower isNum (parse cfg doc).1 proj, isUntrusted d → ∃ v ∈ scriptScalars cfg.lower doc, d.site = v.pos) ∧
    (∀ v key, (v, key) ∈ scriptKScalars cfg.lower doc → UntrustedUnderL cfg.lower key v.value →
      ∃ d ∈ rule cfg.lower isNum (parse cfg doc).1 proj, isUntrusted d ∧ d.site = v.pos) :=
  ⟨untrusted_only_at_script_scalars cfg isNum proj doc,
   fun v key hv hu => untrusted_in_script_scalar_reported_clean cfg isNum proj doc v key hv hu hc⟩

/-! ## 5. a concrete document -/

section Examples

/-- the text of the examples: a documented untrusted input -/
def exTitle : String := "${{ github.event.issue.title }}"

/-- the first step: `run:` and `env:` -/
def exStep1 : Node :=
  mp 6 9 [key "run" 6 9, sc "!!str" exTitle 6 14, key "env" 7 9, mp 8 11 [key "T" 8 11, sc "!!str" exTitle 8 14]]

def exWith2 : Node := mp 11 11 [key "Script" 11 11, sc "!!str" exTitle 11 19]

/-- the second step: `Actions/GitHub-Script@v7` with a `Script:` input -/
def exStep2 : Node := mp 9 9 [key "uses" 9 9, sc "!!str" "Actions/GitHub-Script@v7" 9 15, key "with" 10 9, exWith2]

/-- the third step: another action -/
def exStep3 : Node :=
  mp 12 9 [key "uses" 12 9, sc "!!str" "actions/checkout@v4" 12 15, key "with" 13 9, mp 14 11 [key "ref" 14 11, sc "!!str" exTitle 14 16]]

/-- the job `build` and the node under `jobs:` -/
def exJob : Node := mp 4 5 [key "runs-on" 4 5, sc "!!str" "ubuntu-latest" 4 14, key "steps" 5 5, sq 6 7 [exStep1, exStep2, exStep3]]
def exJobs : Node := mp 3 3 [key "build" 3 3, exJob]

/--
```
on: push
jobs:
  build:
    runs-on: ubuntu-latest
    steps:
      - run: ${{ github.event.issue.title }}
        env:
          T: ${{ github.event.issue.title }}
      - uses: Actions/GitHub-Script@v7
        with:
          Script: ${{ github.event.issue.title }}
      - uses: actions/checkout@v4
        with:
          ref: ${{ github.event.issue.title }}
```
the SAME text four times: in `run:` (6:14), in `env:` of that step (8:14), as the `Script:` input of
`Actions/GitHub-Script@v7` (11:19; action name and key in another letter case), in `with:` of another action (14:16) -/
def exDoc : Node :=
  .mk .document "" "" false 1 1 [mp 1 1 [key "on" 1 1, sc "!!str" "push" 1 5, key "jobs" 2 1, exJobs]]

/-- the parser accepts the document silently -/
theorem exDoc_clean : (parse exCfg exDoc).2 = [] := by decide +kernel

/-- the four occurrences are value scalars of the document, with the keys of their positions -/
theorem exDoc_keyed : keyedScalars exDoc =
    [(sc "!!str" "ubuntu-latest" 4 14, "jobs.<job_id>.runs-on"),
     (sc "!!str" exTitle 6 14, "jobs.<job_id>.steps.run"),
     (sc "!!str" exTitle 8 14, "jobs.<job_id>.steps.env"),
     (sc "!!str" "Actions/GitHub-Script@v7" 9 15, ""),
     (sc "!!str" exTitle 11 19, "jobs.<job_id>.steps.with"),
     (sc "!!str" "actions/checkout@v4" 12 15, ""),
     (sc "!!str" exTitle 14 16, "jobs.<job_id>.steps.with")] := by rfl

theorem exDoc_steps : docStepNodes exDoc = [exStep1, exStep2, exStep3] := by rfl

theorem exStep1_scripts (lower : String → String) :
    stepScriptKNodes lower exStep1 = [(sc "!!str" exTitle 6 14, "jobs.<job_id>.steps.run")] := rfl

/-- `Actions/GitHub-Script@v7` folds to `actions/github-script@v7` -/
theorem exStep2_githubScript : isGithubScriptStep asciiLower exStep2 = true := by decide +kernel

/-- the key `Script` folds to `script` -/
theorem exWith2_script : lookupFolded asciiLower exWith2 "script" = some (sc "!!str" exTitle 11 19) := by
  simp [lookupFolded, entries, exWith2, mp, key, sc, Node.kind, Node.content, Node.value, pairs, text,
    show asciiLower "Script" = "script" from by decide +kernel]

theorem exStep2_scripts : stepScriptKNodes asciiLower exStep2 = [(sc "!!str" exTitle 11 19, "jobs.<job_id>.steps.with")] := by
  have hw : lookup exStep2 "with" = some exWith2 := rfl
  have hr : lookup exStep2 "run" = none := rfl
  simp [stepScriptKNodes, stepRunNodes, stepScriptInputNodes, exStep2_githubScript, hw, exWith2_script, hr]

theorem exStep3_not_githubScript : isGithubScriptStep asciiLower exStep3 = false := by decide +kernel

theorem exStep3_scripts : stepScriptKNodes asciiLower exStep3 = [] := by
  have hr : lookup exStep3 "run" = none := rfl
  simp [stepScriptKNodes, stepRunNodes, stepScriptInputNodes, exStep3_not_githubScript, hr]

/-- **two of the four are script scalars**: the `run:` and the `Script:` of `Actions/GitHub-Script@v7` — not the `env:`
value, not the `ref:` of `actions/checkout@v4` (which has the same workflow key as the `Script:`) -/
theorem exDoc_scripts : scriptKScalars exCfg.lower exDoc =
    [(sc "!!str" exTitle 6 14, "jobs.<job_id>.steps.run"), (sc "!!str" exTitle 11 19, "jobs.<job_id>.steps.with")] := by
  show scriptKScalars asciiLower exDoc = _
  simp only [scriptKScalars, scriptKNodes, exDoc_steps, List.flatMap_cons, List.flatMap_nil, exStep1_scripts, exStep2_scripts,
    exStep3_scripts]
  rfl

/-- … and the parsed AST holds exactly these two as script strings (`script_strs_are_script_scalars`) -/
theorem exDoc_scriptKStrs : scriptKStrs asciiLower (parse exCfg exDoc).1 =
    [(⟨exTitle, false, ⟨6, 14⟩⟩, "jobs.<job_id>.steps.run"), (⟨exTitle, false, ⟨11, 19⟩⟩, "jobs.<job_id>.steps.with")] := by
  have := (script_strs_are_script_scalars exCfg exDoc exDoc_clean).1
  rw [exDoc_scripts] at this
  exact this

theorem exDoc_isStepRun : IsStepRun exDoc (sc "!!str" exTitle 6 14) :=
  ⟨⟨exStep1, by rw [exDoc_steps]; simp, rfl⟩, rfl⟩

theorem exDoc_isScriptInput : IsScriptInput asciiLower exDoc (sc "!!str" exTitle 11 19) :=
  ⟨⟨exStep2, by rw [exDoc_steps]; simp, exStep2_githubScript, exWith2, rfl, exWith2_script⟩, rfl⟩

/-- **reported in `run:`** (6:14), whatever the number test and the project's view -/
theorem exDoc_run_reported (isNum : IsNumber) (proj : ProjView) :
    (⟨⟨6, 14⟩, "untrusted", ["github.event.issue.title"]⟩ : Diag) ∈ rule asciiLower isNum (parse exCfg exDoc).1 proj :=
  (run_title_in_document_reported exCfg keepsTitle_asciiLower isNum proj exDoc _ exDoc_isStepRun rfl).resolve_left
    fun h => h exDoc_clean

/-- **reported in the `Script:` of `Actions/GitHub-Script@v7`** (11:19) -/
theorem exDoc_script_reported (isNum : IsNumber) (proj : ProjView) :
    (⟨⟨11, 19⟩, "untrusted", ["github.event.issue.title"]⟩ : Diag) ∈ rule asciiLower isNum (parse exCfg exDoc).1 proj :=
  (script_title_in_document_reported exCfg keepsTitle_asciiLower isNum proj exDoc _ exDoc_isScriptInput rfl).resolve_left
    fun h => h exDoc_clean

/-- **and nowhere else**: every untrusted-input diagnostic on the document sits at 6:14 or at 11:19 -/
theorem exDoc_only_there (isNum : IsNumber) (proj : ProjView) :
    ∀ d ∈ rule asciiLower isNum (parse exCfg exDoc).1 proj, isUntrusted d → d.site = ⟨6, 14⟩ ∨ d.site = ⟨11, 19⟩ := by
  intro d hd hu
  obtain ⟨v, key, hv, hsite⟩ := untrusted_only_at_script_scalars_keyed exCfg isNum proj exDoc d hd hu
  rw [exDoc_scripts] at hv
  simp only [List.mem_cons, Prod.mk.injEq, List.not_mem_nil, or_false] at hv
  rcases hv with ⟨rfl, _⟩ | ⟨rfl, _⟩
  · exact Or.inl hsite
  · exact Or.inr hsite

/-- **the same text under `env:` (8:14) and under `with:` of `actions/checkout@v4` (14:16) is NOT reported** — both are
value scalars of the document (the second under the very key of the `Script:` input) -/
theorem exDoc_env_and_other_with_not_reported (isNum : IsNumber) (proj : ProjView) :
    (sc "!!str" exTitle 8 14, "jobs.<job_id>.steps.env") ∈ keyedScalars exDoc ∧
    (sc "!!str" exTitle 14 16, "jobs.<job_id>.steps.with") ∈ keyedScalars exDoc ∧
    ∀ d ∈ rule asciiLower isNum (parse exCfg exDoc).1 proj, isUntrusted d → d.site ≠ ⟨8, 14⟩ ∧ d.site ≠ ⟨14, 16⟩ := by
  refine ⟨by rw [exDoc_keyed]; simp, by rw [exDoc_keyed]; simp, ?_⟩
  intro d hd hu
  rcases exDoc_only_there isNum proj d hd hu with h | h <;> rw [h] <;> exact ⟨by decide, by decide⟩

/-! ### a document the parser complains about: why "or the parser reports", and precision without a clean parse -/

def exBad1 : Node := mp 6 9 [key "uses" 6 9, sc "!!str" "actions/checkout@v4" 6 15, key "run" 7 9, sc "!!str" exTitle 7 14]
def exBad2 : Node := mp 8 9 [key "run" 8 9, sc "!!str" exTitle 8 14]
def exBad3 : Node := mp 9 9 [key "run" 9 9, sq 9 14 [sc "!!str" "x" 9 15]]

/--
```
on: push
jobs:
  build:
    runs-on: ubuntu-latest
    steps:
      - uses: actions/checkout@v4
        run: ${{ github.event.issue.title }}
      - run: ${{ github.event.issue.title }}
      - run: [x]
```
the `run:` of the first step (7:14) is refused (the step runs an action); the third step's `run:` is a sequence -/
def exBad : Node :=
  .mk .document "" "" false 1 1 [mp 1 1 [key "on" 1 1, sc "!!str" "push" 1 5,
    key "jobs" 2 1, mp 3 3 [key "build" 3 3, mp 4 5 [key "runs-on" 4 5, sc "!!str" "ubuntu-latest" 4 14,
      key "steps" 5 5, sq 6 7 [exBad1, exBad2, exBad3]]]]]

/-- the parser reports: the refused `run:` key and the sequence -/
theorem exBad_errors : (parse exCfg exBad).2 =
    [⟨⟨7, 9⟩, "step-action-but-run-key", ["run"]⟩, ⟨⟨9, 14⟩, "not-scalar-string", ["sequence", "!!seq"]⟩] := by decide +kernel

/-- the walk: the nodes under the three `run:` keys are the script NODES of the document … -/
theorem exBad_nodes (lower : String → String) : scriptKNodes lower exBad =
    [(sc "!!str" exTitle 7 14, "jobs.<job_id>.steps.run"), (sc "!!str" exTitle 8 14, "jobs.<job_id>.steps.run"),
     (sq 9 14 [sc "!!str" "x" 9 15], "jobs.<job_id>.steps.run")] := by
  have hs : docStepNodes exBad = [exBad1, exBad2, exBad3] := rfl
  have h1 : stepScriptKNodes lower exBad1 = [(sc "!!str" exTitle 7 14, "jobs.<job_id>.steps.run")] := by
    simp [stepScriptKNodes, stepRunNodes, stepScriptInputNodes, show lookup exBad1 "run" = some (sc "!!str" exTitle 7 14) from rfl,
      show lookup exBad1 "with" = none from rfl]
  have h2 : stepScriptKNodes lower exBad2 = [(sc "!!str" exTitle 8 14, "jobs.<job_id>.steps.run")] := rfl
  have h3 : stepScriptKNodes lower exBad3 = [(sq 9 14 [sc "!!str" "x" 9 15], "jobs.<job_id>.steps.run")] := rfl
  simp only [scriptKNodes, hs, List.flatMap_cons, List.flatMap_nil, h1, h2, h3]
  rfl

/-- … the two scalars among them its script scalars -/
theorem exBad_scripts (lower : String → String) : scriptKScalars lower exBad =
    [(sc "!!str" exTitle 7 14, "jobs.<job_id>.steps.run"), (sc "!!str" exTitle 8 14, "jobs.<job_id>.steps.run")] := by
  rw [scriptKScalars, exBad_nodes]
  rfl

/-- the AST: the refused script is not stored; the sequence left the placeholder (no text) at its position -/
theorem exBad_scriptKStrs : scriptKStrs asciiLower (parse exCfg exBad).1 =
    [(⟨exTitle, false, ⟨8, 14⟩⟩, "jobs.<job_id>.steps.run"), (⟨"", false, ⟨9, 14⟩⟩, "jobs.<job_id>.steps.run")] := by
  decide +kernel

/-- **first disjunct of `untrusted_in_script_scalar_reported`, and it is needed**: the script scalar at 7:14 has the
untrusted input, the parser reports, and NO untrusted-input diagnostic sits there — the one at 8:14 is reported all the
same, and (precision, no clean parse) nothing sits anywhere else -/
theorem exBad_refused_run_not_reported (isNum : IsNumber) (proj : ProjView) :
    (sc "!!str" exTitle 7 14, "jobs.<job_id>.steps.run") ∈ scriptKScalars asciiLower exBad ∧
    (parse exCfg exBad).2 ≠ [] ∧
    (⟨⟨8, 14⟩, "untrusted", ["github.event.issue.title"]⟩ : Diag) ∈ rule asciiLower isNum (parse exCfg exBad).1 proj ∧
    ∀ d ∈ rule asciiLower isNum (parse exCfg exBad).1 proj, isUntrusted d → d.site = ⟨8, 14⟩ := by
  refine ⟨by rw [exBad_scripts]; simp, by rw [exBad_errors]; simp, ?_, ?_⟩
  · obtain ⟨cx, h1, _, h3⟩ := script_scanned_with_flag_on asciiLower isNum (parse exCfg exBad).1 proj
      ⟨exTitle, false, ⟨8, 14⟩⟩ "jobs.<job_id>.steps.run" (by rw [exBad_scriptKStrs]; simp)
    refine h3 (err "untrusted" ["github.event.issue.title"]) ?_
    show _ ∈ (checkExprsIn cx _ true "${{ github.event.issue.title }}").2
    rw [title_scan cx (h1 ▸ keepsTitle_asciiLower)]
    exact List.mem_append_right _ (List.mem_singleton.2 rfl)
  · intro d hd hu
    obtain ⟨s, key, hs, hsite, hne⟩ := untrusted_at_script_with_text asciiLower isNum (parse exCfg exBad).1 proj d hd hu
    rw [exBad_scriptKStrs] at hs
    simp only [List.mem_cons, Prod.mk.injEq, List.not_mem_nil, or_false] at hs
    rcases hs with ⟨rfl, _⟩ | ⟨rfl, _⟩
    · exact hsite
    · exact absurd rfl hne

/--
```
on: push
jobs:
  build:
    runs-on: ubuntu-latest
    steps:
      - uses: actions/checkout@v4
        with:
          ref: ${{ github.event.issue.title }}
```
no script scalar at all -/
def exNone : Node :=
  .mk .document "" "" false 1 1 [mp 1 1 [key "on" 1 1, sc "!!str" "push" 1 5,
    key "jobs" 2 1, mp 3 3 [key "build" 3 3, mp 4 5 [key "runs-on" 4 5, sc "!!str" "ubuntu-latest" 4 14,
      key "steps" 5 5, sq 6 7 [exStep3]]]]]

theorem exNone_scripts : scriptScalars asciiLower exNone = [] := by
  have hs : docStepNodes exNone = [exStep3] := rfl
  simp [scriptScalars, scriptKScalars, scriptKNodes, hs, exStep3_scripts]

/-- `no_script_scalar_no_untrusted`: nothing is reported for the `ref:` -/
theorem exNone_clean_of_untrusted (isNum : IsNumber) (proj : ProjView) :
    NoU (rule asciiLower isNum (parse exCfg exNone).1 proj) :=
  no_script_scalar_no_untrusted exCfg isNum proj exNone exNone_scripts

/-! ## 6. instances of the theorems with hypotheses -/

example : exStep1 ∈ docStepNodes exDoc := by rw [exDoc_steps]; simp

/-- `entries_mem`, `elements_mem`, `lookup_some`, `lookupFolded_some` -/
example : exWith2.kind = .mapping ∧ (key "Script" 11 11, sc "!!str" exTitle 11 19) ∈ pairs exWith2.content :=
  entries_mem (n := exWith2) (List.mem_singleton.2 rfl)
example : (sq 6 7 [exStep1]).kind = .sequence ∧ exStep1 ∈ (sq 6 7 [exStep1]).content :=
  elements_mem (n := sq 6 7 [exStep1]) (List.mem_singleton.2 rfl)
example : exStep2.kind = .mapping ∧ ∃ kn, (kn, exWith2) ∈ pairs exStep2.content ∧ kn.kind = .scalar ∧ kn.value = "with" :=
  lookup_some (by decide) (rfl : lookup exStep2 "with" = some exWith2)
example : exWith2.kind = .mapping ∧ ∃ kn, (kn, sc "!!str" exTitle 11 19) ∈ pairs exWith2.content ∧ asciiLower (text kn) = "script" :=
  lookupFolded_some exWith2_script

/-- `step_keyed_in_doc`, `stepScriptK_keyed`: the `run:` of the first step, from the step to the document -/
example : (sc "!!str" exTitle 6 14, "jobs.<job_id>.steps.run") ∈ keyedScalars exDoc :=
  step_keyed_in_doc (by rw [exDoc_steps]; simp) _
    (stepScriptK_keyed (lower := asciiLower) (st := exStep1) (by rw [exStep1_scripts]; simp) rfl)

/-- `scriptKScalars_sub_keyedScalars`, `scriptScalars_sub_valueScalars`, `scriptKScalars_keys`, `scriptScalars_keyed` -/
example : ∀ p ∈ scriptKScalars asciiLower exDoc, p ∈ keyedScalars exDoc := scriptKScalars_sub_keyedScalars asciiLower exDoc
example : sc "!!str" exTitle 11 19 ∈ valueScalars exDoc :=
  scriptScalars_sub_valueScalars asciiLower exDoc _ (mem_scriptScalars.2 ⟨_, (scriptInput_iff _ _ _).2 exDoc_isScriptInput⟩)
example : "jobs.<job_id>.steps.with" = "jobs.<job_id>.steps.run" ∨ "jobs.<job_id>.steps.with" = "jobs.<job_id>.steps.with" :=
  scriptKScalars_keys asciiLower exDoc (sc "!!str" exTitle 11 19) _ ((scriptInput_iff _ _ _).2 exDoc_isScriptInput)
example : (sc "!!str" exTitle 6 14, "jobs.<job_id>.steps.run") ∈ keyedScalars exDoc ∨
    (sc "!!str" exTitle 6 14, "jobs.<job_id>.steps.with") ∈ keyedScalars exDoc :=
  scriptScalars_keyed asciiLower exDoc _ (mem_scriptScalars.2 ⟨_, (stepRun_iff asciiLower _ _).2 exDoc_isStepRun⟩)

/-- `script_scalar_parsed_clean`, `script_scalar_parsed` (second disjunct), `script_scalar_parsed'` -/
example : (⟨exTitle, false, ⟨11, 19⟩⟩, "jobs.<job_id>.steps.with") ∈ scriptKStrs asciiLower (parse exCfg exDoc).1 :=
  script_scalar_parsed_clean exCfg exDoc (sc "!!str" exTitle 11 19) _ ((scriptInput_iff _ _ _).2 exDoc_isScriptInput) exDoc_clean
example : ∃ s, (s, "jobs.<job_id>.steps.run") ∈ scriptKStrs asciiLower (parse exCfg exDoc).1 ∧ s.value = exTitle ∧ s.pos = ⟨6, 14⟩ :=
  (script_scalar_parsed exCfg exDoc (sc "!!str" exTitle 6 14) _ ((stepRun_iff asciiLower _ _).2 exDoc_isStepRun)).resolve_left
    fun h => h exDoc_clean
example : ∃ s ∈ scriptStrs asciiLower (parse exCfg exDoc).1, s.value = exTitle ∧ s.pos = ⟨6, 14⟩ :=
  (script_scalar_parsed' exCfg exDoc (sc "!!str" exTitle 6 14)
    (mem_scriptScalars.2 ⟨_, (stepRun_iff asciiLower _ _).2 exDoc_isStepRun⟩)).resolve_left fun h => h exDoc_clean

/-- `script_scalar_parsed`, first disjunct: the refused `run:` of `exBad` is a script scalar and not a script string -/
example : (sc "!!str" exTitle 7 14, "jobs.<job_id>.steps.run") ∈ scriptKScalars asciiLower exBad ∧ (parse exCfg exBad).2 ≠ [] ∧
    ¬ ∃ s, (s, "jobs.<job_id>.steps.run") ∈ scriptKStrs asciiLower (parse exCfg exBad).1 ∧ s.pos = ⟨7, 14⟩ := by
  refine ⟨by rw [exBad_scripts]; simp, by rw [exBad_errors]; simp, ?_⟩
  rw [exBad_scriptKStrs]
  simp

/-- `script_string_from_script_scalar` without a clean parse: the stored script of `exBad` is the script scalar at 8:14 -/
example : ∃ v, (v, "jobs.<job_id>.steps.run") ∈ scriptKScalars asciiLower exBad ∧ (⟨exTitle, false, ⟨8, 14⟩⟩ : Str) = newString v :=
  script_string_from_script_scalar exCfg exBad _ _
    (by show (_, _) ∈ scriptKStrs asciiLower _; rw [exBad_scriptKStrs]; simp) (by decide)

/-- `script_string_at_script_node`: the placeholder sits at the sequence, a script NODE that is not a scalar -/
example : ∃ x, (x, "jobs.<job_id>.steps.run") ∈ scriptKNodes asciiLower exBad ∧ (⟨9, 14⟩ : Yaml.Pos) = x.pos ∧ "" = text x :=
  script_string_at_script_node exCfg exBad ⟨"", false, ⟨9, 14⟩⟩ _
    (by show (_, _) ∈ scriptKStrs asciiLower _; rw [exBad_scriptKStrs]; simp)

/-- `script_scalar_scanned`, `untrusted_in_script_scalar_reported`, `…_clean`, `title_at_script_scalar_reported` on `exDoc` -/
example (isNum : IsNumber) (proj : ProjView) :
    ScannedOn asciiLower proj (rule asciiLower isNum (parse exCfg exDoc).1 proj) ⟨exTitle, false, ⟨6, 14⟩⟩ "jobs.<job_id>.steps.run" :=
  (script_scalar_scanned exCfg isNum proj exDoc (sc "!!str" exTitle 6 14) _ ((stepRun_iff asciiLower _ _).2 exDoc_isStepRun)).resolve_left
    fun h => h exDoc_clean
example (isNum : IsNumber) (proj : ProjView) :
    ∃ d ∈ rule asciiLower isNum (parse exCfg exDoc).1 proj, isUntrusted d ∧ d.site = ⟨11, 19⟩ :=
  (untrusted_in_script_scalar_reported exCfg isNum proj exDoc (sc "!!str" exTitle 11 19) _
    ((scriptInput_iff _ _ _).2 exDoc_isScriptInput) (title_untrusted _ keepsTitle_asciiLower _)).resolve_left fun h => h exDoc_clean
example (isNum : IsNumber) (proj : ProjView) :
    ∃ d ∈ rule asciiLower isNum (parse exCfg exDoc).1 proj, isUntrusted d ∧ d.site = ⟨6, 14⟩ :=
  untrusted_in_script_scalar_reported_clean exCfg isNum proj exDoc (sc "!!str" exTitle 6 14) _
    ((stepRun_iff asciiLower _ _).2 exDoc_isStepRun) (title_untrusted _ keepsTitle_asciiLower _) exDoc_clean
example (isNum : IsNumber) (proj : ProjView) :
    (⟨⟨6, 14⟩, "untrusted", ["github.event.issue.title"]⟩ : Diag) ∈ rule asciiLower isNum (parse exCfg exDoc).1 proj :=
  (title_at_script_scalar_reported exCfg keepsTitle_asciiLower isNum proj exDoc (sc "!!str" exTitle 6 14) _
    ((stepRun_iff asciiLower _ _).2 exDoc_isStepRun) rfl).resolve_left fun h => h exDoc_clean

/-- `untrusted_at_script_with_text`, `untrusted_only_at_script_scalars(_keyed)`, `untrusted_only_at_run_or_script`,
`doc_untrusted_exact_sites` on the diagnostic at 11:19 of `exDoc` -/
example (isNum : IsNumber) (proj : ProjView) :
    ∃ s key, (s, key) ∈ scriptKStrs asciiLower (parse exCfg exDoc).1 ∧ (⟨11, 19⟩ : Yaml.Pos) = s.pos ∧ s.value ≠ "" :=
  untrusted_at_script_with_text asciiLower isNum _ proj _ (exDoc_script_reported isNum proj) rfl
example (isNum : IsNumber) (proj : ProjView) :
    ∃ v key, (v, key) ∈ scriptKScalars asciiLower exDoc ∧ (⟨11, 19⟩ : Yaml.Pos) = v.pos :=
  untrusted_only_at_script_scalars_keyed exCfg isNum proj exDoc _ (exDoc_script_reported isNum proj) rfl
example (isNum : IsNumber) (proj : ProjView) : ∃ v ∈ scriptScalars asciiLower exDoc, (⟨11, 19⟩ : Yaml.Pos) = v.pos :=
  untrusted_only_at_script_scalars exCfg isNum proj exDoc _ (exDoc_script_reported isNum proj) rfl
example (isNum : IsNumber) (proj : ProjView) :
    ∃ v, (IsStepRun exDoc v ∨ IsScriptInput asciiLower exDoc v) ∧ (⟨6, 14⟩ : Yaml.Pos) = v.pos :=
  untrusted_only_at_run_or_script exCfg isNum proj exDoc _ (exDoc_run_reported isNum proj) rfl
example (isNum : IsNumber) (proj : ProjView) :=
  doc_untrusted_exact_sites exCfg isNum proj exDoc exDoc_clean

/-! the lemma files on the steps of `exDoc`: the three fields of the parsed second step, and the exact lists -/

theorem exStep2_clean : (parseStep exCfg exStep2).2 = [] :=
  doc_steps_clean exCfg exDoc exDoc_clean exStep2 (by rw [exDoc_steps]; simp)
example : (parseStep exCfg exStep2).2 = [] := exStep2_clean
example : usesOf (parseStep exCfg exStep2).1 = some ⟨"Actions/GitHub-Script@v7", false, ⟨9, 15⟩⟩ :=
  (parseStep_uses_clean exCfg exStep2 exStep2_clean).1
example : runOf (parseStep exCfg exStep1).1 = some ⟨exTitle, false, ⟨6, 14⟩⟩ :=
  (parseStep_run_clean exCfg exStep1 (doc_steps_clean exCfg exDoc exDoc_clean exStep1 (by rw [exDoc_steps]; simp))).1
example : execScriptKStrs asciiLower (parseStep exCfg exStep2).1.exec = [(⟨exTitle, false, ⟨11, 19⟩⟩, "jobs.<job_id>.steps.with")] := by
  have := (execScriptKStrs_clean exCfg exStep2 exStep2_clean).1
  rw [show exCfg.lower = asciiLower from rfl, exStep2_scripts] at this
  exact this
example : ∀ p ∈ execScriptKStrs asciiLower (parseStep exCfg exStep3).1.exec,
    ∃ q ∈ stepScriptKNodes asciiLower exStep3, p.2 = q.2 ∧ ∃ ae, p.1 = (parseString q.1 ae).1 :=
  execScriptKStrs_from_nodes exCfg exStep3

/-- "any occurrence": `IsStepRun.any`, `IsScriptInput.any`, `isStepRun_of_any`, `isScriptInput_of_any` and the four
theorems built on them, on `exDoc` -/
example : IsStepRunAny exDoc (sc "!!str" exTitle 6 14) := exDoc_isStepRun.any
example : IsScriptInputAny asciiLower exDoc (sc "!!str" exTitle 11 19) := exDoc_isScriptInput.any
example : IsStepRun exDoc (sc "!!str" exTitle 6 14) := isStepRun_of_any exCfg exDoc _ exDoc_isStepRun.any exDoc_clean
example : IsScriptInput asciiLower exDoc (sc "!!str" exTitle 11 19) :=
  isScriptInput_of_any exCfg exDoc _ exDoc_isScriptInput.any exDoc_clean
example (isNum : IsNumber) (proj : ProjView) :
    (⟨⟨6, 14⟩, "untrusted", ["github.event.issue.title"]⟩ : Diag) ∈ rule asciiLower isNum (parse exCfg exDoc).1 proj :=
  (run_title_in_document_reported_any exCfg keepsTitle_asciiLower isNum proj exDoc _ exDoc_isStepRun.any rfl).resolve_left
    fun h => h exDoc_clean
example (isNum : IsNumber) (proj : ProjView) :
    (⟨⟨11, 19⟩, "untrusted", ["github.event.issue.title"]⟩ : Diag) ∈ rule asciiLower isNum (parse exCfg exDoc).1 proj :=
  (script_title_in_document_reported_any exCfg keepsTitle_asciiLower isNum proj exDoc _ exDoc_isScriptInput.any rfl).resolve_left
    fun h => h exDoc_clean
example (isNum : IsNumber) (proj : ProjView) : ∃ d ∈ rule asciiLower isNum (parse exCfg exDoc).1 proj, isUntrusted d ∧ d.site = ⟨6, 14⟩ :=
  (untrusted_in_any_run_reported exCfg isNum proj exDoc _ exDoc_isStepRun.any
    (title_untrusted _ keepsTitle_asciiLower _)).resolve_left fun h => h exDoc_clean
example (isNum : IsNumber) (proj : ProjView) : ∃ d ∈ rule asciiLower isNum (parse exCfg exDoc).1 proj, isUntrusted d ∧ d.site = ⟨11, 19⟩ :=
  (untrusted_in_any_script_input_reported exCfg isNum proj exDoc _ exDoc_isScriptInput.any
    (title_untrusted _ keepsTitle_asciiLower _)).resolve_left fun h => h exDoc_clean

/--
```
on: push
jobs:
  build:
    runs-on: ubuntu-latest
    steps:
      - run: echo
        run: ${{ github.event.issue.title }}
```
a repeated key: the second `run:` (7:14) is a `run:` of the step in the wide sense, not the first one — the parser reports
the repetition (first disjunct), keeps the first, and nothing is reported for the second -/
def exDup : Node :=
  .mk .document "" "" false 1 1 [mp 1 1 [key "on" 1 1, sc "!!str" "push" 1 5,
    key "jobs" 2 1, mp 3 3 [key "build" 3 3, mp 4 5 [key "runs-on" 4 5, sc "!!str" "ubuntu-latest" 4 14,
      key "steps" 5 5, sq 6 7 [mp 6 9 [key "run" 6 9, sc "!!str" "echo" 6 14, key "run" 7 9, sc "!!str" exTitle 7 14]]]]]]

example (isNum : IsNumber) (proj : ProjView) :
    IsStepRunAny exDup (sc "!!str" exTitle 7 14) ∧ ¬ IsStepRun exDup (sc "!!str" exTitle 7 14) ∧
    (parse exCfg exDup).2 ≠ [] ∧
    ∀ d ∈ rule asciiLower isNum (parse exCfg exDup).1 proj, isUntrusted d → d.site ≠ ⟨7, 14⟩ := by
  have hs : docStepNodes exDup = [mp 6 9 [key "run" 6 9, sc "!!str" "echo" 6 14, key "run" 7 9, sc "!!str" exTitle 7 14]] := rfl
  obtain ⟨hk, he⟩ : scriptKStrs asciiLower (parse exCfg exDup).1 = [(⟨"echo", false, ⟨6, 14⟩⟩, "jobs.<job_id>.steps.run")] ∧
      (parse exCfg exDup).2 ≠ [] := by decide +kernel
  refine ⟨⟨⟨_, by rw [hs]; exact List.mem_singleton.2 rfl, key "run" 7 9, ?_, rfl⟩, rfl⟩, ?_, he, ?_⟩
  · simp [entries, mp, key, sc, Node.kind, Node.content, pairs]
  · rintro ⟨⟨st, hst, hx⟩, _⟩
    rw [hs, List.mem_singleton] at hst
    subst hst
    have : lookup (mp 6 9 [key "run" 6 9, sc "!!str" "echo" 6 14, key "run" 7 9, sc "!!str" exTitle 7 14]) "run" =
        some (sc "!!str" "echo" 6 14) := rfl
    rw [this] at hx
    simp [sc, exTitle] at hx
  · intro d hd hu
    obtain ⟨s, key, hs', hsite, _⟩ := untrusted_at_script_with_text asciiLower isNum _ proj d hd hu
    rw [hk] at hs'
    simp only [List.mem_singleton, Prod.mk.injEq] at hs'
    obtain ⟨rfl, _⟩ := hs'
    rw [hsite]
    decide

/-! instances of the theorems of the lemma files (AL/Lemmas/C11DBase.lean, C11DStep.lean, C11DJob.lean) on the nodes of `exDoc` -/

example : text (key "run" 6 9) = "run" := text_scalar rfl
example : text exStep1 = "" := text_not_scalar (by decide)
example : (key "run" 6 9).kind = .scalar ∧ text (key "run" 6 9) = (key "run" 6 9).value := text_ne_empty (by decide +kernel)
example : (sc "!!str" exTitle 6 14).kind = .scalar ∧ (parseString (sc "!!str" exTitle 6 14) false).1 = newString (sc "!!str" exTitle 6 14) :=
  parseString_of_value_ne _ false (by decide +kernel)
example := mappingLoop_find exCfg "w" true "run" (pairs exStep1.content) [] rfl
example := find?_of_mem_nodup (fun p : String × Nat => p.1) "b" [("a", 1), ("b", 2)] (by decide) ("b", 2) (by simp) rfl
example := filter_eq_find?_toList (fun p : String × Nat => p.1) "b" [("a", 1), ("b", 2)] (by decide)
example := loop_field_opt (stepKey exCfg) (fun st => runOf st.step) "run" (fun kv => some (parseString kv.val false).1)
  (fun st kv hne => AL.C05D.stepKey_run_ne exCfg st kv hne) (fun st kv he => stepKey_run_opt exCfg st kv he)
  [⟨"run", ⟨"run", false, ⟨6, 9⟩⟩, sc "!!str" exTitle 6 14⟩] { step := { pos := ⟨6, 9⟩ } }
example := sect_field_opt exCfg "w" exStep1 true (stepKey exCfg) { step := { pos := ⟨6, 9⟩ } } (fun st => runOf st.step) "run"
  (fun kv => some (parseString kv.val false).1) (fun st kv hne => AL.C05D.stepKey_run_ne exCfg st kv hne)
  (fun st kv he => stepKey_run_opt exCfg st kv he)
example := sect_field_find exCfg "w" exJob true (jobKey exCfg) { job := { id := ⟨"build", false, ⟨3, 3⟩⟩, pos := ⟨3, 3⟩ } }
  (fun st => st.job.steps) "steps" (fun kv => (parseSteps exCfg kv.val).1)
  (fun st kv hne => AL.C05D.jobKey_steps_ne exCfg st kv hne) (fun st kv he => (AL.C05D.jobKey_steps_eq exCfg st kv he).1)
example := mappingLoop_clean_keys exCfg "w" true (pairs exStep1.content) [] (by decide +kernel)
example := parseMapping_clean_keys exCfg "w" exStep1 true (by decide +kernel)
example : [1, 2].find? (fun a => a == 2) = [1, 2].find? (fun a => 1 < a) := find?_congr_mem (by decide)
example : lookup exStep1 "run" = AL.C05D.mget exStep1 "run" := lookup_eq_mget exCfg "w" exStep1 true (by decide +kernel) "run"
example : lookup exStep2 (text (key "with" 10 9)) = some exWith2 :=
  lookup_of_mem_clean exCfg "w" exStep2 (by decide +kernel) (key "with" 10 9, exWith2)
    (by simp [entries, exStep2, mp, Node.kind, Node.content, pairs])
example : lookupFolded asciiLower exWith2 (asciiLower (text (key "Script" 11 11))) = some (sc "!!str" exTitle 11 19) :=
  lookupFolded_of_mem_clean exCfg "w" exWith2 (by decide +kernel) (key "Script" 11 11, sc "!!str" exTitle 11 19)
    (List.mem_singleton.2 rfl)
example := find?_of_mem_clean exCfg "w" exWith2 false (by decide +kernel) (fun kn => asciiLower (text kn))
  (fun q hq => by
    have : q = (key "Script" 11 11, sc "!!str" exTitle 11 19) := List.mem_singleton.1 hq
    subst this
    rfl) (key "Script" 11 11, sc "!!str" exTitle 11 19) (List.mem_singleton.2 rfl)

private def kvRun : KV := ⟨"run", ⟨"run", false, ⟨6, 9⟩⟩, sc "!!str" exTitle 6 14⟩
private def kvUses : KV := ⟨"uses", ⟨"uses", false, ⟨9, 9⟩⟩, sc "!!str" "Actions/GitHub-Script@v7" 9 15⟩
private def kvWith : KV := ⟨"with", ⟨"with", false, ⟨10, 9⟩⟩, exWith2⟩
private def st0 : StepSt := { step := { pos := ⟨9, 9⟩ } }

example := stepKey_run_opt exCfg st0 kvRun rfl
example := stepKey_uses_ne exCfg st0 kvRun (by decide)
example := stepKey_uses_opt exCfg st0 kvUses rfl
example := stepKey_uses_eq exCfg st0 kvUses rfl (by decide +kernel)
example := stepKey_inputs_ne exCfg st0 kvUses (by decide)
example := stepKey_inputs_opt exCfg st0 kvWith rfl
example := stepKey_inputs_eq exCfg st0 kvWith rfl (by decide +kernel)
example := parseStep_inputs_clean exCfg exStep2 exStep2_clean
example : ∀ x, lookupFolded asciiLower exWith2 "script" = some x → x.kind = .scalar :=
  with_script_scalar exCfg exWith2 { inputs := some [] } (by decide +kernel)
example : [1, 2].flatMap (fun a => [a + 0]) = [1, 2].flatMap (fun a => [a]) := flatMap_congr_mem (by simp)
/-- the parser's silence on the parts of `exDoc` is read off `exDoc_clean` by the descent lemmas rather than evaluated -/
theorem exJobs_clean : (parseJobs exCfg exJobs).2 = [] := by
  obtain ⟨root, rest, x, hc, hj, hx⟩ := parse_jobs_clean exCfg exDoc exDoc_clean
  cases hc
  cases hj
  exact hx
example : ∀ c ∈ jobStepNodes exJob, (parseStep exCfg c).2 = [] :=
  parseJob_steps_clean exCfg ⟨"build", false, ⟨3, 3⟩⟩ exJob
    ((parseJobs_clean_entries exCfg exJobs exJobs_clean).2 (key "build" 3 3, exJob) (List.mem_singleton.2 rfl))
example := parseJobs_clean_entries exCfg exJobs exJobs_clean
example := parse_jobs_clean exCfg exDoc exDoc_clean
example : ∀ c ∈ docStepNodes exDoc, (parseStep exCfg c).2 = [] := doc_steps_clean exCfg exDoc exDoc_clean
example := scriptKStrs_clean exCfg exDoc exDoc_clean
example := lookup_mem (rfl : lookup exStep2 "with" = some exWith2)
example := lookupFolded_mem exWith2_script

end Examples

end AL.C11D
