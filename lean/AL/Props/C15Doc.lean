import AL.Model.Ignore
import AL.Props.C15
import AL.Props.C15Config
import AL.Lemmas.StructDecode
/-
  C15 — the ignore filter, from the configuration DOCUMENT and the command line to the reported diagnostics.

  `AL.Ignore` is the concrete `ignored` predicate `Linter.check` builds (`-ignore` patterns, `Config.PathConfigs`,
  `Linter.filterErrors`); `AL.C15` has the properties of the tail of `check` for an abstract predicate; `AL.ConfigDecode` is
  `ParseConfig` on the yaml.Node tree of actionlint.yaml.

  §1  the filter: a diagnostic is dropped iff a `-ignore` pattern matches its message or a pattern of SOME entry of `paths`
      whose glob matches the path does (all matching entries contribute); nothing else is dropped, the order is kept, the
      early return of `filterErrors` cannot be observed, the order in which Go ranges over the `paths` map cannot be
      observed; more patterns drop more.
  §2  the document: the `paths` of an accepted configuration are exactly what a reader without error paths (`docPaths`) finds
      in the node tree; every pattern / glob it finds was validated — an invalid one is an error of `ParseConfig`.
  §3  the working directory: inside a project the whole tail is the same from every directory (up to the display path
      written into `file`); OUTSIDE every project with `-config-file` it is not (`no_project_cwd_dependent`).
  §4  exit status.
  §5  a concrete configuration document; two observations on what `ParseConfig` accepts; the FINDING of §3 on an instance.
  §6  the theorems of §1–§4 on the instance.
-/
namespace AL.C15D
open AL.Lint AL.Ignore AL.ConfigDecode AL.Yaml
open AL.CallMeta (D E decStr structLoop structDecode viaUnmarshaler isMerge hasDupKey)

/-! ## §1 the filter -/

/-- some pattern of the list matches the message -/
def AnyMatch (reMatch : String → String → Bool) (pats : List String) (msg : String) : Prop :=
  ∃ p ∈ pats, reMatch p msg = true

/-- THE CONDITION: a `-ignore` pattern matches, or a pattern of an entry of `paths` whose glob matches `relPath` does -/
def Matches (reMatch globMatch : String → String → Bool) (cli : List String) (paths : List (String × List String))
    (relPath msg : String) : Prop :=
  AnyMatch reMatch cli msg ∨ ∃ e ∈ paths, globMatch e.1 relPath = true ∧ AnyMatch reMatch e.2 msg

theorem patsMatch_iff (reMatch : String → String → Bool) (pats : List String) (msg : String) :
    patsMatch reMatch pats msg = true ↔ AnyMatch reMatch pats msg := by
  simp only [patsMatch, List.any_eq_true, AnyMatch]

theorem ignoredBy_iff (reMatch : String → String → Bool) (cli : List String) (pcs : List (List String)) (d : D) :
    ignoredBy reMatch cli pcs d = true ↔ AnyMatch reMatch cli d.msg ∨ ∃ ps ∈ pcs, AnyMatch reMatch ps d.msg := by
  simp only [ignoredBy, Bool.or_eq_true, patsMatch_iff, List.any_eq_true]

/-- `PathConfigs` returns the `ignore:` list of an entry iff the entry's glob matches: ALL matching entries, nothing else -/
theorem mem_pathConfigs (globMatch : String → String → Bool) (cfg : Config) (relPath : String) (ps : List String) :
    ps ∈ pathConfigs globMatch cfg relPath ↔ ∃ e ∈ cfg.paths, globMatch e.1 relPath = true ∧ e.2 = ps := by
  simp only [pathConfigs, List.mem_map, List.mem_filter, and_assoc]

/-- the concrete predicate of `check` in terms of the command line and the configuration -/
theorem ignored_iff (reMatch globMatch : String → String → Bool) (cli : List String) (cfg : Config) (relPath : String)
    (d : D) :
    ignoredBy reMatch cli (pathConfigs globMatch cfg relPath) d = true ↔
      Matches reMatch globMatch cli cfg.paths relPath d.msg := by
  rw [ignoredBy_iff]
  unfold Matches
  constructor
  · rintro (h | ⟨ps, hps, hm⟩)
    · exact .inl h
    · obtain ⟨e, he, hg, rfl⟩ := (mem_pathConfigs globMatch cfg relPath ps).1 hps
      exact .inr ⟨e, he, hg, hm⟩
  · rintro (h | ⟨e, he, hg, hm⟩)
    · exact .inl h
    · exact .inr ⟨e.2, (mem_pathConfigs globMatch cfg relPath e.2).2 ⟨e, he, hg, rfl⟩, hm⟩

/-- the decision looks at the message only -/
theorem ignoredBy_msg (reMatch : String → String → Bool) (cli : List String) (pcs : List (List String)) (d d' : D)
    (h : d.msg = d'.msg) : ignoredBy reMatch cli pcs d = ignoredBy reMatch cli pcs d' := by
  simp only [ignoredBy, h]

/-- in particular not at the file (the hypothesis of `AL.C15.filter_exact`) -/
theorem ignoredBy_file (reMatch : String → String → Bool) (cli : List String) (pcs : List (List String)) (d : D)
    (f : String) : ignoredBy reMatch cli pcs { d with file := f } = ignoredBy reMatch cli pcs d := rfl

/-- the early return of `filterErrors` (no `-ignore` pattern and no matching entry) is not observable: `filterErrors` is
the plain filter `AL.Lint.filterErrors` with the predicate `ignoredBy` -/
theorem filterErrs_eq (reMatch : String → String → Bool) (cli : List String) (pcs : List (List String)) (errs : List D) :
    filterErrs reMatch cli pcs errs = filterErrors (ignoredBy reMatch cli pcs) errs := by
  unfold filterErrs filterErrors
  split
  · rename_i h
    simp only [Bool.and_eq_true, List.isEmpty_iff] at h
    obtain ⟨rfl, rfl⟩ := h
    exact (List.filter_eq_self.2 (by intro d _; simp [ignoredBy, patsMatch])).symm
  · rfl

/-- the tail as written (nil-able configuration, early return) is the tail `lintTail` / `checkTail` -/
theorem lintTailOpt_some (reMatch globMatch : String → String → Bool) (cli : List String) (cfg : Config)
    (relPath path : String) (raw : List D) :
    lintTailOpt reMatch globMatch cli (some cfg) relPath path raw = lintTail reMatch globMatch cli cfg relPath path raw := by
  simp only [lintTailOpt, lintTail, checkTail, pathConfigsOpt, filterErrs_eq]

/-- without a configuration only the `-ignore` patterns count -/
theorem lintTailOpt_none (reMatch globMatch : String → String → Bool) (cli : List String) (relPath path : String)
    (raw : List D) :
    lintTailOpt reMatch globMatch cli none relPath path raw = checkTail (ignoredBy reMatch cli []) path raw := by
  simp only [lintTailOpt, checkTail, pathConfigsOpt, filterErrs_eq]

/-- a nil configuration is a configuration without `paths` -/
theorem lintTailOpt_none_eq_empty (reMatch globMatch : String → String → Bool) (cli : List String) (relPath path : String)
    (raw : List D) :
    lintTailOpt reMatch globMatch cli none relPath path raw = lintTail reMatch globMatch cli {} relPath path raw := by
  rw [lintTailOpt_none]; rfl

theorem mem_checkTail (ignored : D → Bool) (path : String) (raw : List D) (x : D) :
    x ∈ checkTail ignored path raw ↔ ∃ d ∈ raw, ignored d = false ∧ x = { d with file := path } := by
  unfold checkTail
  rw [(stableSort_perm _).mem_iff]
  simp only [filterErrors, List.mem_map, List.mem_filter, Bool.not_eq_true', and_assoc, eq_comm (a := x)]

/-- what is reported: exactly the raw diagnostics (labelled with the file) whose message meets no applicable pattern -/
theorem mem_lintTail (reMatch globMatch : String → String → Bool) (cli : List String) (cfg : Config)
    (relPath path : String) (raw : List D) (x : D) :
    x ∈ lintTail reMatch globMatch cli cfg relPath path raw ↔
      ∃ d ∈ raw, ¬ Matches reMatch globMatch cli cfg.paths relPath d.msg ∧ x = { d with file := path } := by
  simp only [lintTail, mem_checkTail, ← ignored_iff, Bool.not_eq_true]

/-- (a) THE PROPERTY: a diagnostic found by the parser or the rules is missing from the output iff a `-ignore` pattern
matches its message or a pattern of an entry of `paths` whose glob matches the path does -/
theorem dropped_iff (reMatch globMatch : String → String → Bool) (cli : List String) (cfg : Config)
    (relPath path : String) (raw : List D) (d : D) (hd : d ∈ raw) :
    { d with file := path } ∉ lintTail reMatch globMatch cli cfg relPath path raw ↔
      Matches reMatch globMatch cli cfg.paths relPath d.msg := by
  rw [mem_lintTail]
  constructor
  · intro h
    apply Classical.byContradiction
    intro hn
    exact h ⟨d, hd, hn, rfl⟩
  · rintro hm ⟨d', _, hn, he⟩
    have : d.msg = d'.msg := by injection he
    rw [this] at hm
    exact hn hm

/-- nothing is invented: every reported diagnostic is a raw one with the file set -/
theorem reported_is_raw (reMatch globMatch : String → String → Bool) (cli : List String) (cfg : Config)
    (relPath path : String) (raw : List D) (x : D) (hx : x ∈ lintTail reMatch globMatch cli cfg relPath path raw) :
    ∃ d ∈ raw, x = { d with file := path } := by
  obtain ⟨d, hd, _, he⟩ := (mem_lintTail ..).1 hx
  exact ⟨d, hd, he⟩

/-- (a) order: the output is the unfiltered, sorted list with the matching diagnostics removed — the order of the rest is
unchanged (`AL.C15.filter_exact` with the concrete predicate, whose hypothesis holds by `rfl`) -/
theorem kept_order (reMatch globMatch : String → String → Bool) (cli : List String) (cfg : Config)
    (relPath path : String) (raw : List D) :
    lintTail reMatch globMatch cli cfg relPath path raw =
      (checkTail (fun _ => false) path raw).filter
        (fun d => !ignoredBy reMatch cli (pathConfigs globMatch cfg relPath) d) :=
  AL.C15.filter_exact _ path raw (fun _ _ => rfl)

theorem kept_sublist (reMatch globMatch : String → String → Bool) (cli : List String) (cfg : Config)
    (relPath path : String) (raw : List D) :
    List.Sublist (lintTail reMatch globMatch cli cfg relPath path raw) (checkTail (fun _ => false) path raw) := by
  rw [kept_order]; exact List.filter_sublist

/-- before the sort: what `filterErrors` returns is a sublist of what it was given -/
theorem filterErrs_sublist (reMatch : String → String → Bool) (cli : List String) (pcs : List (List String))
    (errs : List D) : List.Sublist (filterErrs reMatch cli pcs errs) errs := by
  rw [filterErrs_eq]; exact List.filter_sublist

/-- no applicable pattern, no drop: without `-ignore` and with every matching entry's `ignore:` empty the output is the
unfiltered one -/
theorem no_patterns_no_drop (reMatch globMatch : String → String → Bool) (cfg : Config) (relPath path : String)
    (raw : List D) (h : ∀ e ∈ cfg.paths, globMatch e.1 relPath = true → e.2 = []) :
    lintTail reMatch globMatch [] cfg relPath path raw = checkTail (fun _ => false) path raw := by
  rw [kept_order]
  apply List.filter_eq_self.2
  intro d _
  have : ¬ (ignoredBy reMatch [] (pathConfigs globMatch cfg relPath) d = true) := by
    rw [ignored_iff]
    rintro (⟨p, hp, _⟩ | ⟨e, he, hg, p, hp, _⟩)
    · cases hp
    · rw [h e he hg] at hp; cases hp
  simpa using this

/-- … in particular when no glob matches the file -/
theorem no_glob_no_drop (reMatch globMatch : String → String → Bool) (cfg : Config) (relPath path : String)
    (raw : List D) (h : ∀ e ∈ cfg.paths, globMatch e.1 relPath = false) :
    lintTail reMatch globMatch [] cfg relPath path raw = checkTail (fun _ => false) path raw :=
  no_patterns_no_drop reMatch globMatch cfg relPath path raw (fun e he hg => by rw [h e he] at hg; cases hg)

theorem no_config_no_drop (reMatch globMatch : String → String → Bool) (relPath path : String) (raw : List D) :
    lintTailOpt reMatch globMatch [] none relPath path raw = checkTail (fun _ => false) path raw := by
  rw [lintTailOpt_none_eq_empty]
  exact no_patterns_no_drop reMatch globMatch {} relPath path raw (fun e he => by cases he)

/-- the condition is monotone in the `-ignore` patterns and, entry by entry, in the patterns of `paths` -/
theorem Matches_mono {reMatch globMatch : String → String → Bool} {cli cli' : List String}
    {paths paths' : List (String × List String)} {relPath msg : String}
    (hc : ∀ p ∈ cli, p ∈ cli') (hp : ∀ e ∈ paths, ∃ e' ∈ paths', e'.1 = e.1 ∧ ∀ p ∈ e.2, p ∈ e'.2)
    (h : Matches reMatch globMatch cli paths relPath msg) : Matches reMatch globMatch cli' paths' relPath msg := by
  rcases h with ⟨p, hp', hm⟩ | ⟨e, he, hg, p, hp', hm⟩
  · exact .inl ⟨p, hc p hp', hm⟩
  · obtain ⟨e', he', h1, h2⟩ := hp e he
    exact .inr ⟨e', he', by rw [h1]; exact hg, p, h2 p hp', hm⟩

/-- monotone in the pattern sets: with more `-ignore` patterns, more entries or more patterns in an entry, the output is
the old output with some more diagnostics removed (never a new or a re-ordered one) -/
theorem more_patterns_drop_more (reMatch globMatch : String → String → Bool) (cli cli' : List String)
    (cfg cfg' : Config) (relPath path : String) (raw : List D)
    (hc : ∀ p ∈ cli, p ∈ cli')
    (hp : ∀ e ∈ cfg.paths, ∃ e' ∈ cfg'.paths, e'.1 = e.1 ∧ ∀ p ∈ e.2, p ∈ e'.2) :
    lintTail reMatch globMatch cli' cfg' relPath path raw =
      (lintTail reMatch globMatch cli cfg relPath path raw).filter
        (fun d => !ignoredBy reMatch cli' (pathConfigs globMatch cfg' relPath) d) := by
  rw [kept_order, kept_order, List.filter_filter]
  apply List.filter_congr
  intro d _
  cases h : ignoredBy reMatch cli (pathConfigs globMatch cfg relPath) d
  · simp
  · have := Matches_mono hc hp ((ignored_iff ..).1 h)
    rw [← ignored_iff] at this
    simp [this]

theorem more_patterns_sublist (reMatch globMatch : String → String → Bool) (cli cli' : List String)
    (cfg cfg' : Config) (relPath path : String) (raw : List D)
    (hc : ∀ p ∈ cli, p ∈ cli')
    (hp : ∀ e ∈ cfg.paths, ∃ e' ∈ cfg'.paths, e'.1 = e.1 ∧ ∀ p ∈ e.2, p ∈ e'.2) :
    List.Sublist (lintTail reMatch globMatch cli' cfg' relPath path raw)
      (lintTail reMatch globMatch cli cfg relPath path raw) := by
  rw [more_patterns_drop_more reMatch globMatch cli cli' cfg cfg' relPath path raw hc hp]
  exact List.filter_sublist

/-- the result only depends on the SETS of patterns: two command lines / configurations with the same applicable patterns
(as sets) give the same output. `Config.PathConfigs` ranges over a Go map in an unspecified order — that order, the order
of the `-ignore` flags and the order inside an `ignore:` list cannot be observed -/
theorem same_patterns_same_output (reMatch globMatch : String → String → Bool) (cli cli' : List String)
    (cfg cfg' : Config) (relPath path : String) (raw : List D)
    (hc : ∀ p, p ∈ cli ↔ p ∈ cli')
    (hp : ∀ e ∈ cfg.paths, ∃ e' ∈ cfg'.paths, e'.1 = e.1 ∧ ∀ p ∈ e.2, p ∈ e'.2)
    (hp' : ∀ e ∈ cfg'.paths, ∃ e' ∈ cfg.paths, e'.1 = e.1 ∧ ∀ p ∈ e.2, p ∈ e'.2) :
    lintTail reMatch globMatch cli cfg relPath path raw = lintTail reMatch globMatch cli' cfg' relPath path raw := by
  rw [kept_order, kept_order]
  apply List.filter_congr
  intro d _
  refine congrArg (!·) (Bool.eq_iff_iff.2 ?_)
  rw [ignored_iff, ignored_iff]
  exact ⟨Matches_mono (fun p h => (hc p).1 h) hp, Matches_mono (fun p h => (hc p).2 h) hp'⟩

/-- the order in which the matching entries are returned (a Go map range) is irrelevant -/
theorem ignoredBy_perm (reMatch : String → String → Bool) (cli : List String) (pcs pcs' : List (List String))
    (h : pcs.Perm pcs') (d : D) : ignoredBy reMatch cli pcs d = ignoredBy reMatch cli pcs' d := by
  rw [Bool.eq_iff_iff]
  simp only [ignoredBy_iff, h.mem_iff]

theorem paths_perm (reMatch globMatch : String → String → Bool) (cli : List String) (cfg cfg' : Config)
    (relPath path : String) (raw : List D) (h : cfg.paths.Perm cfg'.paths) :
    lintTail reMatch globMatch cli cfg relPath path raw = lintTail reMatch globMatch cli cfg' relPath path raw :=
  same_patterns_same_output reMatch globMatch cli cli cfg cfg' relPath path raw (fun _ => Iff.rfl)
    (fun e he => ⟨e, h.mem_iff.1 he, rfl, fun _ hp => hp⟩) (fun e he => ⟨e, h.mem_iff.2 he, rfl, fun _ hp => hp⟩)

/-! ## §2 from the configuration document -/

/-- the string a mapping key decodes to (yaml.v3, target type `string`): a null key gives "" -/
def keyName (k : Node) : String := if k.tag = "!!null" then "" else k.value

/-- the value of the first scalar key spelled `name` in a list of key/value pairs -/
def lookup (name : String) : List (Node × Node) → Option Node
  | [] => none
  | (k, v) :: rest => if k.kind = .scalar ∧ keyName k = name then some v else lookup name rest

/-- the value under the key `name` of a mapping node -/
def fieldOf (name : String) (n : Node) : Option Node :=
  if n.kind = .mapping then lookup name (pairs n.content) else none

/-- the scalars of the `ignore:` list of one entry of `paths:` (the `Value` of every item of the sequence) -/
def ignoreOf (entry : Node) : List String :=
  match fieldOf "ignore" entry with
  | none => []
  | some ig => if ig.kind = .sequence then ig.content.map (·.value) else []

/-- the entries of the `paths:` mapping: key ↦ the scalars of its `ignore:`; an entry under a null key does not exist -/
def entriesOf (pn : Node) : List (String × List String) :=
  if pn.kind = .mapping then
    ((pairs pn.content).filter fun q => !q.1.isNull).map fun q => (q.1.value, ignoreOf q.2)
  else []

/-- DOCUMENT-SIDE READER: what is written under `paths:` in actionlint.yaml — no validation, no error path -/
def docPaths (doc : Node) : List (String × List String) :=
  match doc.content with
  | [] => []
  | root :: _ =>
    match fieldOf "paths" root with
    | none => []
    | some pn => entriesOf pn

theorem decStr_ok {k : Node} {s : String} (h : decStr k = .ok s) : k.kind = .scalar ∧ keyName k = s := by
  unfold decStr at h
  split at h
  · cases h
  · rename_i hk
    refine ⟨hk, ?_⟩
    unfold keyName
    split at h
    · rename_i ht; simp only [Except.ok.injEq] at h; simp [ht, h]
    · split at h
      · cases h
      · rename_i ht _; simp only [Except.ok.injEq] at h; simp [ht, h]
  · cases h

theorem lookup_some {f : String} : ∀ {l : List (Node × Node)} {v : Node}, lookup f l = some v →
    ∃ q ∈ l, (q.1.kind = .scalar ∧ keyName q.1 = f) ∧ q.2 = v
  | (k, x) :: rest, v, h => by
    unfold lookup at h
    split at h
    · rename_i hk; cases h; exact ⟨(k, x), List.mem_cons_self, hk, rfl⟩
    · obtain ⟨q, hq, hh⟩ := lookup_some h; exact ⟨q, List.mem_cons_of_mem _ hq, hh⟩

theorem lookup_none {f : String} : ∀ {l : List (Node × Node)}, lookup f l = none →
    ∀ q ∈ l, ¬ (q.1.kind = .scalar ∧ keyName q.1 = f)
  | (k, x) :: rest, h => by
    unfold lookup at h
    split at h
    · cases h
    · rename_i hk; exact List.forall_mem_cons.2 ⟨hk, lookup_none h⟩
  | [], _ => fun _ hq => nomatch hq

/-- yaml.v3's struct decoding, one field at a time: after a successful `structLoop` the component `proj` of the state is
what the setter made of the value of the first key spelled `f` (relation `R`), and untouched if there is no such key.
(A second key spelled `f` is an error, so "first" is "only".) -/
theorem structLoop_field {σ β : Type} (fields : List String) (set : σ → String → Node → D σ) (f : String)
    (proj : σ → β) (R : Node → β → Prop) (hf : f ∈ fields)
    (hother : ∀ st name v st', set st name v = .ok st' → name ≠ f → proj st' = proj st)
    (hset : ∀ st v st', set st f v = .ok st' → R v (proj st')) :
    ∀ (l : List (Node × Node)) (done : List String) (st st' : σ), structLoop fields set l done st = .ok st' →
      (match lookup f l with
        | none => proj st' = proj st
        | some v => R v (proj st')) ∧ (f ∈ done → lookup f l = none) := by
  intro l done st st' h
  obtain ⟨h1, h2⟩ := AL.CallMeta.structLoop_field proj f R (fun st name v st' hn hs => hother st name v st' hs hn) hset
    l done st st' h
  cases hl : lookup f l with
  | none => exact ⟨h1 (.inr (.inr fun q hq hd => lookup_none hl q hq (decStr_ok hd))), fun _ => rfl⟩
  | some v =>
    -- the key `lookup` found is spelled `f`; the loop accepted it, so it decodes, and then to `f`
    obtain ⟨q, hq, hqf, rfl⟩ := lookup_some hl
    obtain ⟨name, hname⟩ := (AL.CallMeta.structLoop_keys l done st st' h q hq).2
    have hd : decStr q.1 = .ok f := (decStr_ok hname).2.symm.trans hqf.2 ▸ hname
    exact ⟨(h2 hf q hq hd).2, fun hdn => absurd hdn (h2 hf q hq hd).1⟩

/-- the same for a whole node (`d.mappingStruct`): a null node leaves the zero value -/
theorem structDecode_field {σ β : Type} (fields : List String) (set : σ → String → Node → D σ) (f : String)
    (proj : σ → β) (R : Node → β → Prop) (hf : f ∈ fields)
    (hother : ∀ st name v st', set st name v = .ok st' → name ≠ f → proj st' = proj st)
    (hset : ∀ st v st', set st f v = .ok st' → R v (proj st'))
    (init : σ) (n : Node) (st' : σ) (h : structDecode fields set init n = .ok st') :
    match fieldOf f n with
    | none => proj st' = proj init
    | some v => R v (proj st') := by
  unfold fieldOf
  rcases AL.CallMeta.structDecode_eq_ok.1 h with ⟨hk, _, hl⟩ | ⟨hk, _, rfl⟩
  · rw [if_pos hk]; exact (structLoop_field fields set f proj R hf hother hset _ _ init st' hl).1
  · simp [hk]

/-- every pattern was accepted by `regexp.Compile` -/
def PatsOk (regexOk : String → Bool) (ps : List String) : Prop := ∀ p ∈ ps, regexOk p = true

theorem patternsOf_ok (regexOk : String → Bool) : ∀ (l : List Node) (r : List String),
    patternsOf regexOk l = .ok r → r = l.map (·.value) ∧ PatsOk regexOk r
  | [], r, h => by
    simp only [patternsOf, Except.ok.injEq] at h
    subst h; exact ⟨rfl, fun _ hp => by cases hp⟩
  | p :: ps, r, h => by
    simp only [patternsOf] at h
    split at h
    · cases h
    · split at h
      · cases h
      · rename_i hre
        obtain ⟨r', hrest, rfl⟩ := AL.CallMeta.map_eq_ok.1 h
        obtain ⟨h1, h2⟩ := patternsOf_ok regexOk ps r' hrest
        exact ⟨by rw [h1]; rfl, List.forall_mem_cons.2 ⟨by simpa using hre, h2⟩⟩

/-- what the `ignore` field of an entry holds after decoding its value node `v` -/
def IgnoreRel (regexOk : String → Bool) (v : Node) (r : List String) : Prop :=
  r = (if v.kind = .sequence then v.content.map (·.value) else []) ∧ PatsOk regexOk r

theorem ignoreField_ok (regexOk : String → Bool) (v : Node) (r : List String)
    (h : viaUnmarshaler (decIgnore regexOk) v = .ok r) : IgnoreRel regexOk v r := by
  unfold viaUnmarshaler at h
  split at h
  · rename_i hnull
    simp only [Except.ok.injEq] at h
    subst h
    have hk : v.kind = .scalar := by
      simp only [Node.isNull, Bool.and_eq_true, decide_eq_true_eq] at hnull; exact hnull.1
    exact ⟨by simp [hk], fun _ hp => by cases hp⟩
  · unfold decIgnore at h
    split at h
    · cases h
    · rename_i hk
      obtain ⟨h1, h2⟩ := patternsOf_ok regexOk _ r h
      exact ⟨by simp [hk, h1], h2⟩
    · cases h

theorem setPath_other (regexOk : String → Bool) (st : List String) (name : String) (v : Node) (st' : List String)
    (h : setPath regexOk st name v = .ok st') (hn : name ≠ "ignore") : st' = st := by
  unfold setPath at h
  split at h
  · exact absurd rfl hn
  · simp only [Except.ok.injEq] at h; exact h.symm

/-- one entry of `paths:`: the decoded patterns are the scalars of its `ignore:` list, all valid -/
theorem entry_ok (regexOk : String → Bool) (v : Node) (pats : List String)
    (h : structDecode ["ignore"] (setPath regexOk) [] v = .ok pats) : pats = ignoreOf v ∧ PatsOk regexOk pats := by
  have := structDecode_field ["ignore"] (setPath regexOk) "ignore" id (IgnoreRel regexOk) (by simp)
    (fun st name v st' h hn => setPath_other regexOk st name v st' h hn)
    (fun st v st' h => ignoreField_ok regexOk v st' (by simpa [setPath] using h)) [] v pats h
  unfold ignoreOf
  revert this
  cases fieldOf "ignore" v with
  | none => simp only [id]; intro h; subst h; exact ⟨rfl, fun _ hp => by cases hp⟩
  | some ig => simp only [id]; intro h; exact ⟨h.1, h.2⟩

/-- the entries written in a list of key/value pairs -/
def entriesOfPairs (l : List (Node × Node)) : List (String × List String) :=
  (l.filter fun q => !q.1.isNull).map fun q => (q.1.value, ignoreOf q.2)

/-- one pass over `pathsLoop`: what it returns, that every pattern in it was compiled, and that every key is a scalar -/
theorem pathsLoop_spec (regexOk : String → Bool) : ∀ (l : List (Node × Node)) (r : List (String × List String)),
    pathsLoop regexOk l = .ok r →
      r = entriesOfPairs l ∧ (∀ e ∈ r, PatsOk regexOk e.2) ∧ ∀ q ∈ l, q.1.kind = .scalar := by
  intro l
  fun_induction pathsLoop regexOk l <;> intro r h
  case case1 => cases h; exact ⟨rfl, (fun _ he => by cases he), (fun _ hq => by cases hq)⟩
  case case3 k v rest _ hnull ih =>
    -- an entry under a null key is dropped
    obtain ⟨h1, h2, h3⟩ := ih r h
    refine ⟨by rw [h1]; simp [entriesOfPairs, hnull], h2, List.forall_mem_cons.2 ⟨?_, h3⟩⟩
    simp only [Node.isNull, Bool.and_eq_true, decide_eq_true_eq] at hnull; exact hnull.1
  case case6 k v rest _ hnn key hkey pats hpats ih =>
    obtain ⟨r', hrest, rfl⟩ := AL.CallMeta.map_eq_ok.1 h
    obtain ⟨h1, h2, h3⟩ := ih r' hrest
    obtain ⟨e1, e2⟩ := entry_ok regexOk v pats hpats
    obtain ⟨hk, hkn⟩ := decStr_ok hkey
    have hval : k.value = key := by
      unfold keyName at hkn
      have : k.tag ≠ "!!null" := by
        intro ht; apply hnn; simp [Node.isNull, hk, ht]
      simpa [this] using hkn
    refine ⟨?_, List.forall_mem_cons.2 ⟨e2, h2⟩, List.forall_mem_cons.2 ⟨hk, h3⟩⟩
    have : (!k.isNull) = true := by simpa using hnn
    simp only [entriesOfPairs, List.filter_cons, this, if_true, List.map_cons, hval, ← e1]
    rw [h1]; rfl
  all_goals cases h

theorem pathsLoop_ok (regexOk : String → Bool) : ∀ (l : List (Node × Node)) (r : List (String × List String)),
    pathsLoop regexOk l = .ok r → r = entriesOfPairs l ∧ ∀ e ∈ r, PatsOk regexOk e.2 :=
  fun l r h => ⟨(pathsLoop_spec regexOk l r h).1, (pathsLoop_spec regexOk l r h).2.1⟩

theorem pathsLoop_keys_scalar (regexOk : String → Bool) : ∀ (l : List (Node × Node)) (r : List (String × List String)),
    pathsLoop regexOk l = .ok r → ∀ q ∈ l, q.1.kind = .scalar :=
  fun l r h => (pathsLoop_spec regexOk l r h).2.2

/-- `uniqueKeys` on scalar keys: the spellings are pairwise distinct -/
theorem nodup_of_noDupKey : ∀ (l : List (Node × Node)), hasDupKey l = false → (∀ q ∈ l, q.1.kind = .scalar) →
    (l.map (·.1.value)).Nodup
  | [], _, _ => List.nodup_nil
  | (k, v) :: rest, h, hs => by
    simp only [hasDupKey, Bool.or_eq_false_iff] at h
    rw [List.map_cons, List.nodup_cons]
    refine ⟨?_, nodup_of_noDupKey rest h.2 (fun q hq => hs q (List.mem_cons_of_mem _ hq))⟩
    intro hmem
    obtain ⟨q, hq, he⟩ := List.mem_map.1 hmem
    have hany : rest.any (fun q => decide (q.1.kind = k.kind) && decide (q.1.value = k.value)) = true := by
      apply List.any_eq_true.2
      refine ⟨q, hq, ?_⟩
      have h1 := hs q (List.mem_cons_of_mem _ hq)
      have h2 := hs (k, v) (List.mem_cons_self ..)
      simp only at h2
      simp [h1, h2, he]
    rw [hany] at h
    exact absurd h.1 (by simp)

theorem entriesOfPairs_keys (l : List (Node × Node)) :
    (entriesOfPairs l).map (·.1) = (l.filter fun q => !q.1.isNull).map (·.1.value) := by
  simp [entriesOfPairs, List.map_map, Function.comp]

/-- what the `paths` field holds after decoding its value node -/
def PathsRel (regexOk : String → Bool) (v : Node) (r : List (String × List String)) : Prop :=
  r = entriesOf v ∧ (∀ e ∈ r, PatsOk regexOk e.2) ∧ (r.map (·.1)).Nodup

theorem decPaths_ok (regexOk : String → Bool) (v : Node) (r : List (String × List String))
    (h : decPaths regexOk v = .ok r) : PathsRel regexOk v r := by
  unfold decPaths at h
  unfold PathsRel entriesOf
  split at h
  · cases h
  · rename_i hk
    split at h
    · cases h
    · rename_i hdup
      obtain ⟨h1, h2⟩ := pathsLoop_ok regexOk _ r h
      refine ⟨by simp only [hk, if_true]; exact h1, h2, ?_⟩
      rw [h1, entriesOfPairs_keys]
      have hnd := nodup_of_noDupKey _ (by simpa using hdup) (pathsLoop_keys_scalar regexOk _ r h)
      exact (List.filter_sublist.map _).nodup hnd
  · rename_i hk
    split at h
    · simp only [Except.ok.injEq] at h; subst h
      exact ⟨by simp [hk], (fun _ he => by cases he), by simp⟩
    · cases h
  · cases h

theorem setConfig_other (regexOk : String → Bool) (st : Config) (name : String) (v : Node) (st' : Config)
    (h : setConfig regexOk st name v = .ok st') (hn : name ≠ "paths") : st'.paths = st.paths := by
  unfold setConfig at h
  split at h
  · obtain ⟨_, _, rfl⟩ := AL.CallMeta.map_eq_ok.1 h; rfl
  · obtain ⟨_, _, rfl⟩ := AL.CallMeta.map_eq_ok.1 h; rfl
  · exact absurd rfl hn
  · simp only [Except.ok.injEq] at h; subst h; rfl

theorem setConfig_paths (regexOk : String → Bool) (st : Config) (v : Node) (st' : Config)
    (h : setConfig regexOk st "paths" v = .ok st') : PathsRel regexOk v st'.paths := by
  obtain ⟨r, hd, rfl⟩ := AL.CallMeta.map_eq_ok.1 (show (decPaths regexOk v).map _ = _ from h)
  exact decPaths_ok regexOk v r hd

/-- what `ParseConfig` leaves in `paths`: nothing for an empty document and for a root without a key `paths:`, else what
`decPaths` makes of the node under that key -/
theorem parseConfig_pathsRel (regexOk globOk : String → Bool) (doc : Node) (cfg : Config)
    (h : parseConfig regexOk globOk doc = .ok cfg) :
    match doc.content with
    | [] => cfg.paths = []
    | root :: _ =>
      match fieldOf "paths" root with
      | none => cfg.paths = []
      | some pn => PathsRel regexOk pn cfg.paths := by
  unfold parseConfig at h
  split at h
  · rename_i hc
    simp only [Except.ok.injEq] at h; subst h
    rw [hc]
  · rename_i root rest hc
    rw [hc]
    split at h
    · cases h
    · rename_i c hdec
      split at h
      · simp only [Except.ok.injEq] at h; subst h
        exact structDecode_field ["self-hosted-runner", "config-variables", "paths"] (setConfig regexOk) "paths"
          Config.paths (PathsRel regexOk) (by simp) (setConfig_other regexOk) (setConfig_paths regexOk) {} root c hdec
      · cases h

/-- (b) THE DOCUMENT: the `paths` of a configuration `ParseConfig` accepts are exactly the entries written under `paths:`
in the document — key by key, pattern by pattern, in the written order -/
theorem parseConfig_paths (regexOk globOk : String → Bool) (doc : Node) (cfg : Config)
    (h : parseConfig regexOk globOk doc = .ok cfg) : cfg.paths = docPaths doc := by
  have := parseConfig_pathsRel regexOk globOk doc cfg h
  unfold docPaths
  split at this
  · exact this
  · split at this
    · exact this
    · exact this.1

/-- (b) every glob and every regular expression written under `paths:` of an accepted document was validated
(`doublestar.ValidatePattern`, `regexp.Compile`) -/
theorem parseConfig_validated (regexOk globOk : String → Bool) (doc : Node) (cfg : Config)
    (h : parseConfig regexOk globOk doc = .ok cfg) :
    ∀ e ∈ docPaths doc, globOk e.1 = true ∧ ∀ p ∈ e.2, regexOk p = true := by
  rw [← parseConfig_paths regexOk globOk doc cfg h]
  intro e he
  refine ⟨AL.C15C.accepted_config_has_valid_globs regexOk globOk doc cfg h e he, ?_⟩
  have := parseConfig_pathsRel regexOk globOk doc cfg h
  split at this
  · rw [this] at he; cases he
  · split at this
    · rw [this] at he; cases he
    · exact this.2.1 e he

/-- the keys of `paths:` of an accepted document are pairwise distinct (yaml.v3 rejects a repeated key): the association
list `cfg.paths` IS the Go map `Config.Paths` -/
theorem parseConfig_keys_nodup (regexOk globOk : String → Bool) (doc : Node) (cfg : Config)
    (h : parseConfig regexOk globOk doc = .ok cfg) : (cfg.paths.map (·.1)).Nodup := by
  have := parseConfig_pathsRel regexOk globOk doc cfg h
  split at this
  · rw [this]; exact List.nodup_nil
  · split at this
    · rw [this]; exact List.nodup_nil
    · exact this.2.2

/-- an invalid regular expression written in an `ignore:` list is an ERROR of `ParseConfig` — never a silently ignored
pattern, never a configuration that drops something else -/
theorem invalid_regex_is_error (regexOk globOk : String → Bool) (doc : Node) (e : String × List String) (p : String)
    (he : e ∈ docPaths doc) (hp : p ∈ e.2) (hbad : regexOk p = false) :
    ∃ err, parseConfig regexOk globOk doc = .error err := by
  cases h : parseConfig regexOk globOk doc with
  | error err => exact ⟨err, rfl⟩
  | ok cfg =>
    have := (parseConfig_validated regexOk globOk doc cfg h e he).2 p hp
    rw [hbad] at this; cases this

/-- an invalid glob written as a key of `paths:` is an error of `ParseConfig` -/
theorem invalid_glob_is_error (regexOk globOk : String → Bool) (doc : Node) (e : String × List String)
    (he : e ∈ docPaths doc) (hbad : globOk e.1 = false) :
    ∃ err, parseConfig regexOk globOk doc = .error err := by
  cases h : parseConfig regexOk globOk doc with
  | error err => exact ⟨err, rfl⟩
  | ok cfg =>
    have := (parseConfig_validated regexOk globOk doc cfg h e he).1
    rw [hbad] at this; cases this

/-- (a)+(b) THE PROPERTY ON THE DOCUMENT: with the configuration read from `doc`, a diagnostic is dropped iff a `-ignore`
pattern matches its message, or a pattern written in the `ignore:` list of an entry of `paths:` whose key matches the path
does -/
theorem dropped_iff_doc (regexOk globOk : String → Bool) (reMatch globMatch : String → String → Bool)
    (cli : List String) (doc : Node) (cfg : Config) (h : parseConfig regexOk globOk doc = .ok cfg)
    (relPath path : String) (raw : List D) (d : D) (hd : d ∈ raw) :
    { d with file := path } ∉ lintTail reMatch globMatch cli cfg relPath path raw ↔
      Matches reMatch globMatch cli (docPaths doc) relPath d.msg := by
  rw [dropped_iff reMatch globMatch cli cfg relPath path raw d hd, parseConfig_paths regexOk globOk doc cfg h]

/-- … and what is reported, on the document -/
theorem mem_lintTail_doc (regexOk globOk : String → Bool) (reMatch globMatch : String → String → Bool)
    (cli : List String) (doc : Node) (cfg : Config) (h : parseConfig regexOk globOk doc = .ok cfg)
    (relPath path : String) (raw : List D) (x : D) :
    x ∈ lintTail reMatch globMatch cli cfg relPath path raw ↔
      ∃ d ∈ raw, ¬ Matches reMatch globMatch cli (docPaths doc) relPath d.msg ∧ x = { d with file := path } := by
  rw [mem_lintTail, parseConfig_paths regexOk globOk doc cfg h]

/-- without `-ignore` patterns, a document in which the reader finds no `paths` entry filters nothing -/
theorem no_paths_key_no_drop (regexOk globOk : String → Bool) (reMatch globMatch : String → String → Bool)
    (doc : Node) (cfg : Config) (h : parseConfig regexOk globOk doc = .ok cfg) (hnp : docPaths doc = [])
    (relPath path : String) (raw : List D) :
    lintTail reMatch globMatch [] cfg relPath path raw = checkTail (fun _ => false) path raw := by
  apply no_patterns_no_drop
  rw [parseConfig_paths regexOk globOk doc cfg h, hnp]
  intro e he; cases he

/-! ## §3 the working directory -/

/-- `err.Filepath = path` -/
def setFile (f : String) (d : D) : D := { d with file := f }

theorem less_setFile (f : String) (x y : D) (h : x.file = y.file) : less (setFile f x) (setFile f y) = less x y := by
  by_cases hl : x.line = y.line <;> simp [less, setFile, h, hl]
  exact decide_eq_decide.2 Iff.rfl

theorem insertStable_setFile (f : String) (x : D) : ∀ (acc : List D), (∀ y ∈ acc, y.file = x.file) →
    insertStable (setFile f x) (acc.map (setFile f)) = (insertStable x acc).map (setFile f) :=
  fun acc h => sortL.ins_map sortL.toInsert (setFile f) x acc fun y hy => less_setFile f x y (h y hy).symm

theorem foldl_ins_setFile (f b : String) : ∀ (l acc : List D), (∀ y ∈ acc, y.file = b) → (∀ y ∈ l, y.file = b) →
    (l.map (setFile f)).foldl ins (acc.map (setFile f)) = (l.foldl ins acc).map (setFile f) :=
  fun l acc ha hl =>
    have hb : ∀ y ∈ acc ++ l, y.file = b := fun y hy => (List.mem_append.1 hy).elim (ha y) (hl y)
    sortL.foldl_map sortL.toInsert (setFile f) l acc fun x hx y hy => less_setFile f x y ((hb x hx).trans (hb y hy).symm)

/-- relabelling a one-file list commutes with the stable sort -/
theorem stableSort_setFile (f b : String) (l : List D) (hl : ∀ y ∈ l, y.file = b) :
    stableSort (l.map (setFile f)) = (stableSort l).map (setFile f) :=
  foldl_ins_setFile f b l [] (fun _ h => by cases h) hl

/-- the display path only labels: with another label the output is the same list, relabelled -/
theorem lintTailOpt_label (reMatch globMatch : String → String → Bool) (cli : List String) (cfg : Option Config)
    (relPath path path' : String) (raw : List D) :
    lintTailOpt reMatch globMatch cli cfg relPath path' raw =
      (lintTailOpt reMatch globMatch cli cfg relPath path raw).map (setFile path') := by
  unfold lintTailOpt
  rw [← stableSort_setFile path' path _ (by
    intro y hy
    obtain ⟨d, _, rfl⟩ := List.mem_map.1 hy
    rfl)]
  rw [List.map_map]
  rfl

/-- inside a project the path the globs are matched against is the same from every working directory and for every
spelling of the file (`AL.C15.cwd_independent`) -/
theorem matchedPath_cwd_independent (cwd cwd' : FPath) (pr : Project) (p p' : FPath)
    (hc : AL.C15.CleanAbs cwd) (hc' : AL.C15.CleanAbs cwd') (hr : AL.C15.CleanAbs pr.root)
    (hp : AL.C15.Clean p) (hp' : AL.C15.Clean p') (heq : absOf cwd p = absOf cwd' p') :
    matchedPath cwd (some pr) (displayPath cwd p) = matchedPath cwd' (some pr) (displayPath cwd' p') :=
  AL.C15.cwd_independent cwd cwd' pr.root p p' hc hc' hr hp hp' heq

/-- … and it is the path relative to the repository root: `root / matched path` is the file, without any `..` -/
theorem matchedPath_root_relative (cwd : FPath) (pr : Project) (p : FPath)
    (hc : AL.C15.CleanAbs cwd) (hr : AL.C15.CleanAbs pr.root) (hp : AL.C15.Clean p)
    (hk : knows pr.root (absOf cwd p) = true) :
    join pr.root (matchedPath cwd (some pr) (displayPath cwd p)) = absOf cwd p ∧
      ∀ c ∈ (matchedPath cwd (some pr) (displayPath cwd p)).comps, c ≠ ".." :=
  AL.C15.root_relative cwd pr.root p hc hr hp hk

/-- (c) what `filterErrors` keeps of the diagnostics of a file of a project does not depend on the working directory
actionlint is started from, nor on how the file is spelled on the command line -/
theorem filtered_cwd_independent (reMatch globMatch : String → String → Bool) (cli : List String)
    (dflt : Option Config) (cwd cwd' : FPath) (pr : Project) (p p' : FPath) (raw : List D)
    (hc : AL.C15.CleanAbs cwd) (hc' : AL.C15.CleanAbs cwd') (hr : AL.C15.CleanAbs pr.root)
    (hp : AL.C15.Clean p) (hp' : AL.C15.Clean p') (heq : absOf cwd p = absOf cwd' p') :
    filterErrs reMatch cli
        (pathConfigsOpt globMatch (activeConfig dflt (some pr))
          (matchedPath cwd (some pr) (displayPath cwd p)).toString) raw =
      filterErrs reMatch cli
        (pathConfigsOpt globMatch (activeConfig dflt (some pr))
          (matchedPath cwd' (some pr) (displayPath cwd' p')).toString) raw := by
  rw [matchedPath_cwd_independent cwd cwd' pr p p' hc hc' hr hp hp' heq]

/-- (c) END TO END: the whole tail of `check` — filter, label, sort — for a file of a project gives, started from `cwd'`
with the spelling `p'`, the list it gives from `cwd` with the spelling `p`, relabelled with the new display path: the
same diagnostics are dropped, the same are reported, in the same order -/
theorem tail_cwd_independent (reMatch globMatch : String → String → Bool) (cli : List String)
    (dflt : Option Config) (cwd cwd' : FPath) (pr : Project) (p p' : FPath) (raw : List D)
    (hc : AL.C15.CleanAbs cwd) (hc' : AL.C15.CleanAbs cwd') (hr : AL.C15.CleanAbs pr.root)
    (hp : AL.C15.Clean p) (hp' : AL.C15.Clean p') (heq : absOf cwd p = absOf cwd' p') :
    lintTailAt reMatch globMatch cli dflt cwd' (some pr) p' raw =
      (lintTailAt reMatch globMatch cli dflt cwd (some pr) p raw).map (setFile (displayPath cwd' p').toString) := by
  unfold lintTailAt
  rw [matchedPath_cwd_independent cwd cwd' pr p p' hc hc' hr hp hp' heq]
  exact lintTailOpt_label ..

/-- … so the number of reported diagnostics, hence the exit status, is the same -/
theorem status_cwd_independent (reMatch globMatch : String → String → Bool) (cli : List String)
    (dflt : Option Config) (cwd cwd' : FPath) (pr : Project) (p p' : FPath) (raw : List D)
    (hc : AL.C15.CleanAbs cwd) (hc' : AL.C15.CleanAbs cwd') (hr : AL.C15.CleanAbs pr.root)
    (hp : AL.C15.Clean p) (hp' : AL.C15.Clean p') (heq : absOf cwd p = absOf cwd' p') :
    statusOf (lintTailAt reMatch globMatch cli dflt cwd' (some pr) p' raw) =
      statusOf (lintTailAt reMatch globMatch cli dflt cwd (some pr) p raw) := by
  rw [tail_cwd_independent reMatch globMatch cli dflt cwd cwd' pr p p' raw hc hc' hr hp hp' heq]
  simp [statusOf]

/-- `check` at a file of a project, in terms of §1: the configuration is the `-config-file` one or else the project's, the
path is the root-relative one -/
theorem lintTailAt_project (reMatch globMatch : String → String → Bool) (cli : List String) (dflt : Option Config)
    (cwd : FPath) (pr : Project) (p : FPath) (raw : List D) (cfg : Config)
    (hcfg : activeConfig dflt (some pr) = some cfg) :
    lintTailAt reMatch globMatch cli dflt cwd (some pr) p raw =
      lintTail reMatch globMatch cli cfg (pathFromProjectRoot cwd pr.root (displayPath cwd p)).toString
        (displayPath cwd p).toString raw := by
  unfold lintTailAt
  rw [hcfg, lintTailOpt_some]
  rfl

/-- `-config-file` wins over the project's configuration file; without it the project's file is used -/
theorem activeConfig_default (c : Config) (proj : Option Project) : activeConfig (some c) proj = some c := rfl
theorem activeConfig_project (pr : Project) : activeConfig none (some pr) = pr.config := rfl
theorem activeConfig_nothing : activeConfig none none = none := rfl

/-! ### outside every project -/

/-- for a file outside every project (`project == nil`) the globs of a `-config-file` configuration are matched against
the DISPLAY path — the path relative to the working directory -/
theorem matchedPath_no_project (cwd disp : FPath) : matchedPath cwd none disp = disp := rfl

/-! ## §4 exit status -/

/-- the number of reported diagnostics is the number of raw diagnostics that meet no applicable pattern -/
theorem lintTail_length (reMatch globMatch : String → String → Bool) (cli : List String) (cfg : Config)
    (relPath path : String) (raw : List D) :
    (lintTail reMatch globMatch cli cfg relPath path raw).length =
      (raw.filter fun d => !ignoredBy reMatch cli (pathConfigs globMatch cfg relPath) d).length := by
  unfold lintTail checkTail filterErrors
  rw [(stableSort_perm _).length_eq, List.length_map]

/-- (d) exit status 0 iff nothing is left: every raw diagnostic met an applicable pattern (in particular when there was
none at all) -/
theorem status_zero_iff (reMatch globMatch : String → String → Bool) (cli : List String) (cfg : Config)
    (relPath path : String) (raw : List D) :
    statusOf (lintTail reMatch globMatch cli cfg relPath path raw) = 0 ↔
      ∀ d ∈ raw, Matches reMatch globMatch cli cfg.paths relPath d.msg := by
  unfold statusOf
  rw [AL.C15.exit_status.2.1, List.length_eq_zero_iff, List.eq_nil_iff_forall_not_mem]
  constructor
  · intro h d hd
    exact (dropped_iff reMatch globMatch cli cfg relPath path raw d hd).1 (h _)
  · intro h x hx
    obtain ⟨d, hd, hn, _⟩ := (mem_lintTail ..).1 hx
    exact hn (h d hd)

/-- (d) exit status 1 iff some raw diagnostic met no applicable pattern -/
theorem status_one_iff (reMatch globMatch : String → String → Bool) (cli : List String) (cfg : Config)
    (relPath path : String) (raw : List D) :
    statusOf (lintTail reMatch globMatch cli cfg relPath path raw) = 1 ↔
      ∃ d ∈ raw, ¬ Matches reMatch globMatch cli cfg.paths relPath d.msg := by
  unfold statusOf
  rw [AL.C15.exit_status.1, ge_iff_le, Nat.succ_le_iff, List.length_pos_iff_exists_mem]
  simp only [mem_lintTail]
  exact ⟨fun ⟨_, d, hd, hn, _⟩ => ⟨d, hd, hn⟩, fun ⟨d, hd, hn⟩ => ⟨_, d, hd, hn, rfl⟩⟩

/-- the status after a run that reached the end is 0 or 1, never anything else -/
theorem status_zero_or_one (out : List D) : statusOf out = 0 ∨ statusOf out = 1 := by
  simp only [statusOf, exitStatus]
  split <;> simp

/-- nothing found, nothing to drop: status 0 -/
theorem status_nothing (reMatch globMatch : String → String → Bool) (cli : List String) (cfg : Config)
    (relPath path : String) : statusOf (lintTail reMatch globMatch cli cfg relPath path []) = 0 :=
  (status_zero_iff ..).2 (fun _ h => by cases h)

/-- (d) on the document -/
theorem status_zero_iff_doc (regexOk globOk : String → Bool) (reMatch globMatch : String → String → Bool)
    (cli : List String) (doc : Node) (cfg : Config) (h : parseConfig regexOk globOk doc = .ok cfg)
    (relPath path : String) (raw : List D) :
    statusOf (lintTail reMatch globMatch cli cfg relPath path raw) = 0 ↔
      ∀ d ∈ raw, Matches reMatch globMatch cli (docPaths doc) relPath d.msg := by
  rw [status_zero_iff, parseConfig_paths regexOk globOk doc cfg h]

/-! ### the `-ignore` flags are validated, too -/

/-- an invalid `-ignore` pattern is a fatal error (exit status 3) — never a silently ignored pattern -/
theorem invalid_cli_is_fatal (regexOk : String → Bool) (cli : List String) (run : List String → List D) (p : String)
    (hp : p ∈ cli) (hbad : regexOk p = false) : mainStatus regexOk cli run = 3 := by
  unfold mainStatus compileCli
  have : cli.all regexOk = false := by
    apply Bool.eq_false_iff.2
    intro h
    rw [List.all_eq_true] at h
    rw [h p hp] at hbad; cases hbad
  simp [this, exitStatus]

/-- with valid flags the run sees exactly the patterns given, and the status is 0 or 1 -/
theorem valid_cli_status (regexOk : String → Bool) (cli : List String) (run : List String → List D)
    (h : ∀ p ∈ cli, regexOk p = true) : mainStatus regexOk cli run = statusOf (run cli) := by
  unfold mainStatus compileCli
  have : cli.all regexOk = true := List.all_eq_true.2 h
  simp [this]

/-! ### an observation: the empty pattern -/

/-- if the empty regular expression matches every message (it does: Go's `regexp.MustCompile("").MatchString(s)` is true
for every `s`), an entry with a matching glob and "" among its patterns drops EVERYTHING of the file -/
theorem empty_pattern_drops_all (reMatch globMatch : String → String → Bool) (hempty : ∀ m, reMatch "" m = true)
    (cli : List String) (cfg : Config) (relPath path : String) (raw : List D) (e : String × List String)
    (he : e ∈ cfg.paths) (hg : globMatch e.1 relPath = true) (hp : "" ∈ e.2) :
    lintTail reMatch globMatch cli cfg relPath path raw = [] := by
  rw [List.eq_nil_iff_forall_not_mem]
  intro x hx
  obtain ⟨d, _, hn, _⟩ := (mem_lintTail ..).1 hx
  exact hn (.inr ⟨e, he, hg, "", hp, hempty _⟩)

/-! ## §5 a concrete configuration document

```yaml
self-hosted-runner:
  labels: [gpu]
paths:
  .github/workflows/**/*.yml:
    ignore: [shellcheck, SC2086]
  other/**:
    ignore: [".*"]
  "**/a.yml":
    ignore: [deprecated]
```
The regular-expression engine and doublestar are parameters of the model; the instance uses finite tables. -/

def sc (v : String) : Node := .mk .scalar "!!str" v false 1 1 []
def mp (l : List Node) : Node := .mk .mapping "!!map" "" false 1 1 l
def sq (l : List Node) : Node := .mk .sequence "!!seq" "" false 1 1 l

def exEntry : Node := mp [sc "ignore", sq [sc "shellcheck", sc "SC2086"]]
def exPathsNode : Node := mp [
  sc ".github/workflows/**/*.yml", exEntry,
  sc "other/**", mp [sc "ignore", sq [sc ".*"]],
  sc "**/a.yml", mp [sc "ignore", sq [sc "deprecated"]]]
def exRootNode : Node := mp [sc "self-hosted-runner", mp [sc "labels", sq [sc "gpu"]], sc "paths", exPathsNode]
def exDoc : Node := .mk .document "" "" false 1 1 [exRootNode]

/-- `regexp.Compile` rejects `(`, `doublestar.ValidatePattern` rejects `[` -/
def exRegexOk (r : String) : Bool := r != "("
def exGlobOk (g : String) : Bool := g != "["

def exCfg : Config :=
  { labels := ["gpu"]
    paths := [(".github/workflows/**/*.yml", ["shellcheck", "SC2086"]), ("other/**", [".*"]),
              ("**/a.yml", ["deprecated"])] }

theorem exDoc_parses : parseConfig exRegexOk exGlobOk exDoc = .ok exCfg := by rfl

def m1 : String := "shellcheck reported issue in this script: SC2086"
def m2 : String := "workflow command \"set-output\" was deprecated"
def m3 : String := "property \"x\" is not defined"
def m4 : String := "unexpected key \"foo\""
def m5 : String := "invalid job ID"

/-- the match table: which (unanchored) pattern matches which of the five messages; `.*` matches all -/
def exRe (p m : String) : Bool :=
  [("shellcheck", m1), ("SC2086", m1), ("deprecated", m2), ("not defined", m3)].contains (p, m) || p == ".*"

def exGlob (g path : String) : Bool :=
  [(".github/workflows/**/*.yml", ".github/workflows/a.yml"), ("**/a.yml", ".github/workflows/a.yml"),
   ("**/a.yml", "a.yml"), ("other/**", "other/b.yml"), ("sub/*.yml", "sub/a.yml")].contains (g, path)

/-- `-ignore 'not defined'` -/
def exCli : List String := ["not defined"]

def d1 : D := ⟨"", 2, 1, m1, "shellcheck"⟩
def d2 : D := ⟨"", 9, 9, m2, "deprecated-commands"⟩
def d3 : D := ⟨"", 1, 1, m3, "expression"⟩
def d4 : D := ⟨"", 5, 3, m4, "syntax-check"⟩
def d5 : D := ⟨"", 3, 3, m5, "id"⟩
/-- what the parser and the rules found, in the order they were appended -/
def exRaw : List D := [d4, d1, d2, d3, d5]

def exRelS : String := ".github/workflows/a.yml"

example : docPaths exDoc = exCfg.paths := by decide +kernel
example : docPaths exDoc = exCfg.paths := (parseConfig_paths exRegexOk exGlobOk exDoc exCfg exDoc_parses).symm

/-- fewer patterns: no `-ignore`, the first entry without `SC2086`, no third entry -/
def exCfgLess : Config := { paths := [(".github/workflows/**/*.yml", ["shellcheck"]), ("other/**", [".*"])] }

/-- the runs of the tail on `exRaw` in ONE evaluation: every `decide +kernel` about them decodes the five messages and the
two tables anew, a conjunction decodes them once. In turn: the instance; without `-ignore`; a file under `other/`; no
filter at all; the configuration `exCfgLess`; the `ignore:` lists that apply to the file -/
theorem exRuns :
    lintTail exRe exGlob exCli exCfg exRelS "w.yml" exRaw =
      [⟨"w.yml", 3, 3, m5, "id"⟩, ⟨"w.yml", 5, 3, m4, "syntax-check"⟩] ∧
    lintTail exRe exGlob [] exCfg exRelS "w.yml" exRaw =
      [⟨"w.yml", 1, 1, m3, "expression"⟩, ⟨"w.yml", 3, 3, m5, "id"⟩, ⟨"w.yml", 5, 3, m4, "syntax-check"⟩] ∧
    lintTail exRe exGlob [] exCfg "other/b.yml" "w.yml" exRaw = [] ∧
    checkTail (fun _ => false) "w.yml" exRaw =
      [⟨"w.yml", 1, 1, m3, "expression"⟩, ⟨"w.yml", 2, 1, m1, "shellcheck"⟩, ⟨"w.yml", 3, 3, m5, "id"⟩,
       ⟨"w.yml", 5, 3, m4, "syntax-check"⟩, ⟨"w.yml", 9, 9, m2, "deprecated-commands"⟩] ∧
    lintTail exRe exGlob [] exCfgLess exRelS "w.yml" exRaw =
      [⟨"w.yml", 1, 1, m3, "expression"⟩, ⟨"w.yml", 3, 3, m5, "id"⟩, ⟨"w.yml", 5, 3, m4, "syntax-check"⟩,
       ⟨"w.yml", 9, 9, m2, "deprecated-commands"⟩] ∧
    pathConfigs exGlob exCfg exRelS = [["shellcheck", "SC2086"], ["deprecated"]] := by decide +kernel

/-- two entries match `.github/workflows/a.yml` — BOTH contribute; `other/**` does not match -/
example : pathConfigs exGlob exCfg exRelS = [["shellcheck", "SC2086"], ["deprecated"]] := exRuns.2.2.2.2.2

/-- THE INSTANCE: `d1` falls to the first entry, `d2` to the third (second entry matching the same file), `d3` to the
command line; `d4`, `d5` stay, sorted by position; the `.*` of the non-matching `other/**` does not apply -/
example : lintTail exRe exGlob exCli exCfg exRelS "w.yml" exRaw =
    [⟨"w.yml", 3, 3, m5, "id"⟩, ⟨"w.yml", 5, 3, m4, "syntax-check"⟩] := exRuns.1
/-- without `-ignore`, `d3` stays too -/
example : lintTail exRe exGlob [] exCfg exRelS "w.yml" exRaw =
    [⟨"w.yml", 1, 1, m3, "expression"⟩, ⟨"w.yml", 3, 3, m5, "id"⟩, ⟨"w.yml", 5, 3, m4, "syntax-check"⟩] := exRuns.2.1
/-- a file under `other/`: `.*` drops everything, status 0 -/
example : lintTail exRe exGlob [] exCfg "other/b.yml" "w.yml" exRaw = [] := exRuns.2.2.1
example : statusOf (lintTail exRe exGlob [] exCfg "other/b.yml" "w.yml" exRaw) = 0 := by rw [exRuns.2.2.1]; rfl
/-- a file no glob matches: nothing is dropped, status 1 -/
theorem exOutElsewhere : lintTail exRe exGlob [] exCfg "elsewhere/c.yml" "w.yml" exRaw =
    checkTail (fun _ => false) "w.yml" exRaw := no_glob_no_drop _ _ _ _ _ _ (by decide +kernel)
example : lintTail exRe exGlob [] exCfg "elsewhere/c.yml" "w.yml" exRaw =
    checkTail (fun _ => false) "w.yml" exRaw := exOutElsewhere
example : statusOf (lintTail exRe exGlob [] exCfg "elsewhere/c.yml" "w.yml" exRaw) = 1 := by
  rw [exOutElsewhere, exRuns.2.2.2.1]; rfl
/-- the unfiltered, sorted list the output is a sublist of -/
example : checkTail (fun _ => false) "w.yml" exRaw =
    [⟨"w.yml", 1, 1, m3, "expression"⟩, ⟨"w.yml", 2, 1, m1, "shellcheck"⟩, ⟨"w.yml", 3, 3, m5, "id"⟩,
     ⟨"w.yml", 5, 3, m4, "syntax-check"⟩, ⟨"w.yml", 9, 9, m2, "deprecated-commands"⟩] := exRuns.2.2.2.1

/-- the project of `AL.C15`'s examples (`/home/u/repo`) with this configuration -/
def exProject : Project := { root := AL.C15.exRoot, config := some exCfg }

/-- a decidable form of `AL.C15.Clean` -/
theorem clean_check (p : FPath) (h1 : ∀ c ∈ p.comps, c ≠ "" ∧ c ≠ ".") (h2 : p.abs = true → ∀ c ∈ p.comps, c ≠ "..")
    (h3 : ∀ j, j < p.comps.length → ∀ i, i < j → p.comps[j]? = some ".." → p.comps[i]? = some "..") :
    AL.C15.Clean p := by
  refine ⟨h1, h2, ?_⟩
  intro i j hij hj
  have hlt : j < p.comps.length := by
    rcases Nat.lt_or_ge j p.comps.length with h' | h'
    · exact h'
    · rw [List.getElem?_eq_none h'] at hj; cases hj
  exact h3 j hlt i hij hj

theorem exCwd_clean : AL.C15.CleanAbs AL.C15.exCwd := by unfold AL.C15.CleanAbs; decide
theorem exRoot_clean : AL.C15.CleanAbs AL.C15.exRoot := by unfold AL.C15.CleanAbs; decide
theorem exP1_clean : AL.C15.Clean AL.C15.exP1 := clean_check _ (by decide) (by decide) (by decide)
theorem exRel_clean : AL.C15.Clean AL.C15.exRel := clean_check _ (by decide) (by decide) (by decide)
theorem exP2_clean : AL.C15.Clean AL.C15.exP2 := clean_check _ (by decide) (by decide) (by decide)
theorem exAbs_eq : absOf AL.C15.exCwd AL.C15.exP1 = absOf AL.C15.exRoot AL.C15.exRel :=
  AL.C15.exMatchedPaths.1.1.trans AL.C15.exMatchedPaths.1.2.1.symm

/-- from `/home/u/repo/sub` the file spelled `../.github/workflows/a.yml` is matched as `.github/workflows/a.yml` and
displayed as spelled; from the root, `.github/workflows/a.yml` is displayed as spelled -/
theorem exPathStrings :
    (pathFromProjectRoot AL.C15.exCwd exProject.root (displayPath AL.C15.exCwd AL.C15.exP1)).toString = exRelS ∧
    (displayPath AL.C15.exCwd AL.C15.exP1).toString = "../.github/workflows/a.yml" ∧
    (displayPath AL.C15.exRoot AL.C15.exRel).toString = ".github/workflows/a.yml" := by decide +kernel

/-- end to end from `/home/u/repo/sub` with the spelling `../.github/workflows/a.yml`: the first run of `exRuns`, labelled with
the display path … -/
theorem exOutAt : lintTailAt exRe exGlob exCli none AL.C15.exCwd (some exProject) AL.C15.exP1 exRaw =
    [⟨"../.github/workflows/a.yml", 3, 3, m5, "id"⟩, ⟨"../.github/workflows/a.yml", 5, 3, m4, "syntax-check"⟩] := by
  rw [lintTailAt_project exRe exGlob exCli none _ exProject _ exRaw exCfg rfl, exPathStrings.1, exPathStrings.2.1,
    ← lintTailOpt_some, lintTailOpt_label (path := "w.yml"), lintTailOpt_some, exRuns.1]
  rfl
example : lintTailAt exRe exGlob exCli none AL.C15.exCwd (some exProject) AL.C15.exP1 exRaw =
    [⟨"../.github/workflows/a.yml", 3, 3, m5, "id"⟩, ⟨"../.github/workflows/a.yml", 5, 3, m4, "syntax-check"⟩] := exOutAt
/-- … and from the repository root with `.github/workflows/a.yml`: the same diagnostics, labelled with that path -/
example : lintTailAt exRe exGlob exCli none AL.C15.exRoot (some exProject) AL.C15.exRel exRaw =
    [⟨".github/workflows/a.yml", 3, 3, m5, "id"⟩, ⟨".github/workflows/a.yml", 5, 3, m4, "syntax-check"⟩] := by
  rw [tail_cwd_independent exRe exGlob exCli none _ _ exProject _ _ exRaw exCwd_clean exRoot_clean exRoot_clean
    exP1_clean exRel_clean exAbs_eq, exOutAt, exPathStrings.2.2]
  rfl

/-! ### invalid patterns in the document -/

def exBadRegexDoc : Node := .mk .document "" "" false 1 1
  [mp [sc "paths", mp [sc "**", mp [sc "ignore", sq [sc "fine", sc "("]]]]]
def exBadGlobDoc : Node := .mk .document "" "" false 1 1
  [mp [sc "paths", mp [sc "[", mp [sc "ignore", sq [sc "fine"]]]]]

example : docPaths exBadRegexDoc = [("**", ["fine", "("])] := by decide +kernel
example : parseConfig exRegexOk exGlobOk exBadRegexDoc = .error .decode := by rfl
example : ∃ err, parseConfig exRegexOk exGlobOk exBadRegexDoc = .error err :=
  invalid_regex_is_error exRegexOk exGlobOk exBadRegexDoc ("**", ["fine", "("]) "(" (by decide +kernel)
    (by decide +kernel) (by decide +kernel)
example : parseConfig exRegexOk exGlobOk exBadGlobDoc = .error .decode := by rfl
example : ∃ err, parseConfig exRegexOk exGlobOk exBadGlobDoc = .error err :=
  invalid_glob_is_error exRegexOk exGlobOk exBadGlobDoc ("[", ["fine"]) (by decide +kernel) (by decide +kernel)

/-! ### OBSERVATION 1 (reproduced with the Go code): an item of `ignore:` that is not a scalar, or is empty, is the
pattern "" — which matches every message

`IgnorePatterns.UnmarshalYAML` compiles `p.Value` of every item without looking at `p.Kind`; the `Value` of a sequence or
mapping node, and of an empty item (`- ` with nothing behind it), is "". `regexp.Compile("")` succeeds. So

```yaml
paths:
  "**":
    ignore: [[oops]]        # or:  - {a: b}   or an empty `-`
```
is accepted and silently drops EVERY diagnostic of every file. -/

def exNestedDoc : Node := .mk .document "" "" false 1 1
  [mp [sc "paths", mp [sc "**", mp [sc "ignore", sq [sq [sc "oops"]]]]]]
def exNestedCfg : Config := { paths := [("**", [""])] }

theorem nonscalar_item_is_empty_pattern : parseConfig exRegexOk exGlobOk exNestedDoc = .ok exNestedCfg := by rfl

/-- … with any engine in which "" matches everything and any glob matcher in which `**` matches the path -/
theorem nonscalar_item_drops_all (reMatch globMatch : String → String → Bool) (hempty : ∀ m, reMatch "" m = true)
    (relPath path : String) (hg : globMatch "**" relPath = true) (raw : List D) :
    lintTail reMatch globMatch [] exNestedCfg relPath path raw = [] :=
  empty_pattern_drops_all reMatch globMatch hempty [] exNestedCfg relPath path raw ("**", [""])
    (List.mem_cons_self ..) hg (List.mem_cons_self ..)

example : lintTail (fun p _ => p == "") (fun g _ => g == "**") [] exNestedCfg exRelS "w.yml" exRaw = [] :=
  nonscalar_item_drops_all _ _ (fun _ => rfl) exRelS "w.yml" rfl exRaw
example : lintTail (fun p _ => p == "") (fun g _ => g == "**") [] exNestedCfg exRelS "w.yml" exRaw = [] := by
  decide +kernel

/-! ### OBSERVATION 2: an entry of `paths:` under a null key does not exist — its patterns are not even validated -/

def exNullKeyDoc : Node := .mk .document "" "" false 1 1
  [mp [sc "paths", mp [.mk .scalar "!!null" "~" false 1 1 [], mp [sc "ignore", sq [sc "("]]]]]

theorem null_key_entry_vanishes : parseConfig exRegexOk exGlobOk exNullKeyDoc = .ok {} := by rfl
example : docPaths exNullKeyDoc = [] := by decide +kernel

/-! ### FINDING (reproduced with the Go code): outside every project the result DEPENDS on the working directory

With `-config-file` and a workflow file that belongs to no project (`project == nil`: no `.github/workflows` directory
above it), `pathFromProjectRoot` returns the display path — the path relative to the working directory — and the globs of
`paths:` are matched against THAT. The same file with the same configuration is filtered from one directory and not from
another; the exit status differs. ("results do not depend on the cwd" holds inside a project only: `tail_cwd_independent`.) -/

def exCfgSub : Config := { paths := [("sub/*.yml", [".*"])] }
def exHome : FPath := ⟨true, ["home", "u"]⟩
def exHomeSub : FPath := ⟨true, ["home", "u", "sub"]⟩
def exSubA : FPath := ⟨false, ["sub", "a.yml"]⟩
def exA : FPath := ⟨false, ["a.yml"]⟩

example : AL.C15.Clean exSubA := clean_check _ (by decide) (by decide) (by decide)

/-- from `/home/u` the file `sub/a.yml` is displayed as `sub/a.yml`: the glob `sub/*.yml` applies, everything is dropped;
from `/home/u/sub` the same file is displayed as `a.yml`: the glob does not apply, everything is reported -/
theorem no_project_cwd_dependent :
    AL.C15.CleanAbs exHome ∧ AL.C15.CleanAbs exHomeSub ∧ AL.C15.Clean exSubA ∧ AL.C15.Clean exA ∧
    absOf exHome exSubA = absOf exHomeSub exA ∧
    lintTailAt exRe exGlob [] (some exCfgSub) exHome none exSubA exRaw = [] ∧
    (lintTailAt exRe exGlob [] (some exCfgSub) exHomeSub none exA exRaw).length = 5 ∧
    statusOf (lintTailAt exRe exGlob [] (some exCfgSub) exHome none exSubA exRaw) = 0 ∧
    statusOf (lintTailAt exRe exGlob [] (some exCfgSub) exHomeSub none exA exRaw) = 1 := by
  obtain ⟨h6, h7⟩ : lintTailAt exRe exGlob [] (some exCfgSub) exHome none exSubA exRaw = [] ∧
      (lintTailAt exRe exGlob [] (some exCfgSub) exHomeSub none exA exRaw).length = 5 := by decide +kernel
  refine ⟨by unfold AL.C15.CleanAbs; decide, by unfold AL.C15.CleanAbs; decide,
    clean_check _ (by decide) (by decide) (by decide), clean_check _ (by decide) (by decide) (by decide),
    by decide +kernel, h6, h7, by rw [h6]; rfl, by rw [statusOf, h7]; rfl⟩

/-- so (c) cannot be stated without the project: the end-to-end statement with `project == nil` is false -/
theorem cwd_independence_fails_without_project :
    ¬ ∀ (reMatch globMatch : String → String → Bool) (cli : List String) (dflt : Option Config) (cwd cwd' p p' : FPath)
        (raw : List D), AL.C15.CleanAbs cwd → AL.C15.CleanAbs cwd' → AL.C15.Clean p → AL.C15.Clean p' →
        absOf cwd p = absOf cwd' p' →
        statusOf (lintTailAt reMatch globMatch cli dflt cwd' none p' raw) =
          statusOf (lintTailAt reMatch globMatch cli dflt cwd none p raw) := by
  intro h
  obtain ⟨h1, h2, h3, h4, h5, _, _, h8, h9⟩ := no_project_cwd_dependent
  have := h exRe exGlob [] (some exCfgSub) exHome exHomeSub exSubA exA exRaw h1 h2 h3 h4 h5
  rw [h8, h9] at this
  cases this

/-- inside a project the same two invocations agree: with the project `/home/u` the matched path is `sub/a.yml` from both
directories -/
example : lintTailAt exRe exGlob [] (some exCfgSub) exHome (some ⟨exHome, none⟩) exSubA exRaw = [] ∧
    lintTailAt exRe exGlob [] (some exCfgSub) exHomeSub (some ⟨exHome, none⟩) exA exRaw = [] := by decide +kernel

/-! ## §6 the theorems on the instance (hypotheses discharged by evaluation) -/

section instances

/-! §1 -/
example : ignoredBy exRe exCli [["x"]] d3 = ignoredBy exRe exCli [["x"]] { d3 with line := 77, kind := "other" } :=
  ignoredBy_msg exRe exCli [["x"]] _ _ rfl

/-- THE CONDITION on the instance, one evaluation: `d1` and `d2` meet a pattern of a matching entry, `d4` meets none; under
`other/` every raw diagnostic meets `.*`; `m1` meets `shellcheck` of `exCfgLess` -/
theorem exMatched : Matches exRe exGlob exCli exCfg.paths exRelS d1.msg ∧
    Matches exRe exGlob exCli exCfg.paths exRelS d2.msg ∧ ¬ Matches exRe exGlob exCli exCfg.paths exRelS d4.msg ∧
    (∀ d ∈ exRaw, Matches exRe exGlob [] exCfg.paths "other/b.yml" d.msg) ∧
    Matches exRe exGlob [] exCfgLess.paths exRelS m1 := by
  unfold Matches AnyMatch; decide +kernel

example : d1 ∈ exRaw := .tail _ (.head _)
example : Matches exRe exGlob exCli exCfg.paths exRelS d1.msg := exMatched.1
example : { d1 with file := "w.yml" } ∉ lintTail exRe exGlob exCli exCfg exRelS "w.yml" exRaw :=
  (dropped_iff exRe exGlob exCli exCfg exRelS "w.yml" exRaw d1 (.tail _ (.head _))).2 exMatched.1
example : ¬ Matches exRe exGlob exCli exCfg.paths exRelS d4.msg := exMatched.2.2.1
example : ¬ ({ d4 with file := "w.yml" } ∉ lintTail exRe exGlob exCli exCfg exRelS "w.yml" exRaw) := by
  rw [dropped_iff exRe exGlob exCli exCfg exRelS "w.yml" exRaw d4 (.head _)]
  exact exMatched.2.2.1

example : ∃ d ∈ exRaw, (⟨"w.yml", 3, 3, m5, "id"⟩ : D) = { d with file := "w.yml" } :=
  reported_is_raw exRe exGlob exCli exCfg exRelS "w.yml" exRaw _ (by rw [exRuns.1]; exact .head _)

/-- a configuration whose only matching entry has an empty `ignore:` -/
def exCfgEmpty : Config := { paths := [("**/a.yml", []), ("other/**", [".*"])] }
example : lintTail exRe exGlob [] exCfgEmpty exRelS "w.yml" exRaw = checkTail (fun _ => false) "w.yml" exRaw :=
  no_patterns_no_drop exRe exGlob exCfgEmpty exRelS "w.yml" exRaw (by decide +kernel)
example : lintTail exRe exGlob [] exCfg "elsewhere/c.yml" "w.yml" exRaw = checkTail (fun _ => false) "w.yml" exRaw :=
  exOutElsewhere

theorem exLess_sub : ∀ e ∈ exCfgLess.paths, ∃ e' ∈ exCfg.paths, e'.1 = e.1 ∧ ∀ p ∈ e.2, p ∈ e'.2 := by decide +kernel

example : Matches exRe exGlob exCli exCfg.paths exRelS m1 :=
  Matches_mono (cli := []) (paths := exCfgLess.paths) (fun _ h => by cases h) exLess_sub exMatched.2.2.2.2
example : lintTail exRe exGlob exCli exCfg exRelS "w.yml" exRaw =
    (lintTail exRe exGlob [] exCfgLess exRelS "w.yml" exRaw).filter
      (fun d => !ignoredBy exRe exCli (pathConfigs exGlob exCfg exRelS) d) :=
  more_patterns_drop_more exRe exGlob [] exCli exCfgLess exCfg exRelS "w.yml" exRaw (fun _ h => by cases h) exLess_sub
example : lintTail exRe exGlob [] exCfgLess exRelS "w.yml" exRaw =
    [⟨"w.yml", 1, 1, m3, "expression"⟩, ⟨"w.yml", 3, 3, m5, "id"⟩, ⟨"w.yml", 5, 3, m4, "syntax-check"⟩,
     ⟨"w.yml", 9, 9, m2, "deprecated-commands"⟩] := exRuns.2.2.2.2.1
example : List.Sublist (lintTail exRe exGlob exCli exCfg exRelS "w.yml" exRaw)
    (lintTail exRe exGlob [] exCfgLess exRelS "w.yml" exRaw) :=
  more_patterns_sublist exRe exGlob [] exCli exCfgLess exCfg exRelS "w.yml" exRaw (fun _ h => by cases h) exLess_sub

/-- the same patterns in another order (entries, patterns inside an entry, a repeated flag) -/
def exCfgShuffled : Config :=
  { paths := [("**/a.yml", ["deprecated"]), ("other/**", [".*"]),
              (".github/workflows/**/*.yml", ["SC2086", "shellcheck"])] }
example : lintTail exRe exGlob exCli exCfg exRelS "w.yml" exRaw =
    lintTail exRe exGlob ["not defined", "not defined"] exCfgShuffled exRelS "w.yml" exRaw :=
  same_patterns_same_output exRe exGlob exCli _ exCfg exCfgShuffled exRelS "w.yml" exRaw
    (by intro p; simp [exCli]) (by decide +kernel) (by decide +kernel)

example : ignoredBy exRe exCli [["shellcheck", "SC2086"], ["deprecated"]] d2 =
    ignoredBy exRe exCli [["deprecated"], ["shellcheck", "SC2086"]] d2 :=
  ignoredBy_perm exRe exCli _ _ (List.Perm.swap ..) d2

def exCfgSwapped : Config :=
  { paths := [("other/**", [".*"]), (".github/workflows/**/*.yml", ["shellcheck", "SC2086"]),
              ("**/a.yml", ["deprecated"])] }
example : lintTail exRe exGlob exCli exCfg exRelS "w.yml" exRaw =
    lintTail exRe exGlob exCli exCfgSwapped exRelS "w.yml" exRaw :=
  paths_perm exRe exGlob exCli exCfg exCfgSwapped exRelS "w.yml" exRaw (List.Perm.swap ..)

/-! §2 -/
example : (sc "paths").kind = .scalar ∧ keyName (sc "paths") = "paths" := decStr_ok (k := sc "paths") rfl

/-- a toy struct with one counted field `a` -/
def exSet (st : Nat) (name : String) (_ : Node) : D Nat := if name = "a" then .ok (st + 2) else .ok st
theorem exSet_other : ∀ (st : Nat) (name : String) (v : Node) (st' : Nat), exSet st name v = .ok st' → name ≠ "a" →
    id st' = id st := by
  intro st name v st' h hn
  simp only [exSet, hn, if_false, Except.ok.injEq] at h
  exact h.symm
theorem exSet_a : ∀ (st : Nat) (v : Node) (st' : Nat), exSet st "a" v = .ok st' → (fun (_ : Node) (b : Nat) => b ≥ 2) v (id st') := by
  intro st v st' h
  simp only [exSet, if_true, Except.ok.injEq] at h
  simp only [id]; omega
def exToy : Node := mp [sc "b", sc "1", sc "a", sc "2"]
example (st' : Nat) (h : structLoop ["a"] exSet (pairs exToy.content) [] 0 = .ok st') :
    (match lookup "a" (pairs exToy.content) with
      | none => id st' = id 0
      | some v => (fun (_ : Node) (b : Nat) => b ≥ 2) v (id st')) ∧ ("a" ∈ ([] : List String) → lookup "a" (pairs exToy.content) = none) :=
  structLoop_field ["a"] exSet "a" id (fun _ b => b ≥ 2) (by simp) exSet_other exSet_a _ _ 0 st' h
example : structLoop ["a"] exSet (pairs exToy.content) [] 0 = .ok 2 := by rfl
example (st' : Nat) (h : structDecode ["a"] exSet 0 exToy = .ok st') :
    match fieldOf "a" exToy with
    | none => id st' = id 0
    | some v => (fun (_ : Node) (b : Nat) => b ≥ 2) v (id st') :=
  structDecode_field ["a"] exSet "a" id (fun _ b => b ≥ 2) (by simp) exSet_other exSet_a 0 exToy st' h
example : structDecode ["a"] exSet 0 exToy = .ok 2 := by rfl

example : ["shellcheck", "SC2086"] = [sc "shellcheck", sc "SC2086"].map (·.value) ∧
    PatsOk exRegexOk ["shellcheck", "SC2086"] :=
  patternsOf_ok exRegexOk [sc "shellcheck", sc "SC2086"] _ rfl
example : IgnoreRel exRegexOk (sq [sc "shellcheck", sc "SC2086"]) ["shellcheck", "SC2086"] :=
  ignoreField_ok exRegexOk _ _ rfl
example : (["kept"] : List String) = ["kept"] :=
  setPath_other exRegexOk ["kept"] "other" (sc "x") ["kept"] rfl (by decide)
example : ["shellcheck", "SC2086"] = ignoreOf exEntry ∧ PatsOk exRegexOk ["shellcheck", "SC2086"] :=
  entry_ok exRegexOk exEntry _ rfl
theorem exPaths_loop : pathsLoop exRegexOk (pairs exPathsNode.content) = .ok exCfg.paths := by rfl
example : exCfg.paths = entriesOfPairs (pairs exPathsNode.content) ∧ ∀ e ∈ exCfg.paths, PatsOk exRegexOk e.2 :=
  pathsLoop_ok exRegexOk (pairs exPathsNode.content) exCfg.paths exPaths_loop
example : ∀ q ∈ pairs exPathsNode.content, q.1.kind = .scalar :=
  pathsLoop_keys_scalar exRegexOk (pairs exPathsNode.content) exCfg.paths exPaths_loop
example : ((pairs exPathsNode.content).map (·.1.value)).Nodup :=
  nodup_of_noDupKey (pairs exPathsNode.content) (by decide +kernel) (by decide +kernel)
example : PathsRel exRegexOk exPathsNode exCfg.paths := decPaths_ok exRegexOk exPathsNode exCfg.paths rfl
example : ({ labels := ["gpu"] } : Config).paths = ({} : Config).paths :=
  setConfig_other exRegexOk {} "self-hosted-runner" (mp [sc "labels", sq [sc "gpu"]]) { labels := ["gpu"] } rfl
    (by decide)
example : PathsRel exRegexOk exPathsNode exCfg.paths :=
  setConfig_paths exRegexOk { labels := ["gpu"] } exPathsNode exCfg rfl
example : ∀ e ∈ docPaths exDoc, exGlobOk e.1 = true ∧ ∀ p ∈ e.2, exRegexOk p = true :=
  parseConfig_validated exRegexOk exGlobOk exDoc exCfg exDoc_parses
example : (exCfg.paths.map (·.1)).Nodup := parseConfig_keys_nodup exRegexOk exGlobOk exDoc exCfg exDoc_parses
/-- a repeated key of `paths:` is an error -/
example : parseConfig exRegexOk exGlobOk (.mk .document "" "" false 1 1
    [mp [sc "paths", mp [sc "**", mp [], sc "**", mp []]]]) = .error .decode := by rfl

example : { d2 with file := "w.yml" } ∉ lintTail exRe exGlob exCli exCfg exRelS "w.yml" exRaw ↔
    Matches exRe exGlob exCli (docPaths exDoc) exRelS d2.msg :=
  dropped_iff_doc exRegexOk exGlobOk exRe exGlob exCli exDoc exCfg exDoc_parses exRelS "w.yml" exRaw d2
    (.tail _ (.tail _ (.head _)))
example : Matches exRe exGlob exCli (docPaths exDoc) exRelS d2.msg :=
  parseConfig_paths exRegexOk exGlobOk exDoc exCfg exDoc_parses ▸ exMatched.2.1
example : (⟨"w.yml", 5, 3, m4, "syntax-check"⟩ : D) ∈ lintTail exRe exGlob exCli exCfg exRelS "w.yml" exRaw ↔
    ∃ d ∈ exRaw, ¬ Matches exRe exGlob exCli (docPaths exDoc) exRelS d.msg ∧
      (⟨"w.yml", 5, 3, m4, "syntax-check"⟩ : D) = { d with file := "w.yml" } :=
  mem_lintTail_doc exRegexOk exGlobOk exRe exGlob exCli exDoc exCfg exDoc_parses exRelS "w.yml" exRaw _

/-- a document with `self-hosted-runner:` only -/
def exNoPathsDoc : Node := .mk .document "" "" false 1 1 [mp [sc "self-hosted-runner", mp [sc "labels", sq [sc "gpu"]]]]
example : lintTail exRe exGlob [] { labels := ["gpu"] } exRelS "w.yml" exRaw = checkTail (fun _ => false) "w.yml" exRaw :=
  no_paths_key_no_drop exRegexOk exGlobOk exRe exGlob exNoPathsDoc { labels := ["gpu"] } rfl (by decide +kernel)
    exRelS "w.yml" exRaw

/-! §3 -/
example : less (setFile "x" d1) (setFile "x" d5) = less d1 d5 := less_setFile "x" d1 d5 rfl
example : insertStable (setFile "x" d1) ([d3, d5].map (setFile "x")) = (insertStable d1 [d3, d5]).map (setFile "x") :=
  insertStable_setFile "x" d1 [d3, d5] (by decide +kernel)
example : ([d4, d1].map (setFile "x")).foldl ins ([d3].map (setFile "x")) = ([d4, d1].foldl ins [d3]).map (setFile "x") :=
  foldl_ins_setFile "x" "" [d4, d1] [d3] (by decide +kernel) (by decide +kernel)
example : stableSort (exRaw.map (setFile "x")) = (stableSort exRaw).map (setFile "x") :=
  stableSort_setFile "x" "" exRaw (by decide +kernel)

example : matchedPath AL.C15.exCwd (some exProject) (displayPath AL.C15.exCwd AL.C15.exP1) =
    matchedPath AL.C15.exRoot (some exProject) (displayPath AL.C15.exRoot AL.C15.exRel) :=
  matchedPath_cwd_independent _ _ exProject _ _ exCwd_clean exRoot_clean exRoot_clean exP1_clean exRel_clean exAbs_eq
example : (matchedPath AL.C15.exCwd (some exProject) (displayPath AL.C15.exCwd AL.C15.exP1)).toString = exRelS :=
  exPathStrings.1
example : join exProject.root (matchedPath AL.C15.exCwd (some exProject) (displayPath AL.C15.exCwd AL.C15.exP1)) =
      absOf AL.C15.exCwd AL.C15.exP1 ∧
    ∀ c ∈ (matchedPath AL.C15.exCwd (some exProject) (displayPath AL.C15.exCwd AL.C15.exP1)).comps, c ≠ ".." :=
  matchedPath_root_relative _ exProject _ exCwd_clean exRoot_clean exP1_clean (by decide +kernel)
example : filterErrs exRe exCli (pathConfigsOpt exGlob (activeConfig none (some exProject))
      (matchedPath AL.C15.exCwd (some exProject) (displayPath AL.C15.exCwd AL.C15.exP1)).toString) exRaw =
    filterErrs exRe exCli (pathConfigsOpt exGlob (activeConfig none (some exProject))
      (matchedPath AL.C15.exRoot (some exProject) (displayPath AL.C15.exRoot AL.C15.exRel)).toString) exRaw :=
  filtered_cwd_independent exRe exGlob exCli none _ _ exProject _ _ exRaw exCwd_clean exRoot_clean exRoot_clean
    exP1_clean exRel_clean exAbs_eq
example : lintTailAt exRe exGlob exCli none AL.C15.exRoot (some exProject) AL.C15.exRel exRaw =
    (lintTailAt exRe exGlob exCli none AL.C15.exCwd (some exProject) AL.C15.exP1 exRaw).map
      (setFile (displayPath AL.C15.exRoot AL.C15.exRel).toString) :=
  tail_cwd_independent exRe exGlob exCli none _ _ exProject _ _ exRaw exCwd_clean exRoot_clean exRoot_clean
    exP1_clean exRel_clean exAbs_eq
example : statusOf (lintTailAt exRe exGlob exCli none AL.C15.exRoot (some exProject) AL.C15.exRel exRaw) =
    statusOf (lintTailAt exRe exGlob exCli none AL.C15.exCwd (some exProject) AL.C15.exP1 exRaw) :=
  status_cwd_independent exRe exGlob exCli none _ _ exProject _ _ exRaw exCwd_clean exRoot_clean exRoot_clean
    exP1_clean exRel_clean exAbs_eq
/-- the absolute spelling from the sub-directory, too -/
example : lintTailAt exRe exGlob exCli none AL.C15.exCwd (some exProject) AL.C15.exP2 exRaw =
    (lintTailAt exRe exGlob exCli none AL.C15.exCwd (some exProject) AL.C15.exP1 exRaw).map
      (setFile (displayPath AL.C15.exCwd AL.C15.exP2).toString) :=
  tail_cwd_independent exRe exGlob exCli none _ _ exProject _ _ exRaw exCwd_clean exCwd_clean exRoot_clean
    exP1_clean exP2_clean (AL.C15.exMatchedPaths.1.1.trans AL.C15.exMatchedPaths.1.2.2.symm)
example : lintTailAt exRe exGlob exCli none AL.C15.exCwd (some exProject) AL.C15.exP1 exRaw =
    lintTail exRe exGlob exCli exCfg
      (pathFromProjectRoot AL.C15.exCwd exProject.root (displayPath AL.C15.exCwd AL.C15.exP1)).toString
      (displayPath AL.C15.exCwd AL.C15.exP1).toString exRaw :=
  lintTailAt_project exRe exGlob exCli none _ exProject _ exRaw exCfg rfl
/-- `-config-file` beats the project's file: with `exCfgSub` nothing of `a.yml` is dropped but what `-ignore` drops -/
example : (lintTailAt exRe exGlob exCli (some exCfgSub) AL.C15.exCwd (some exProject) AL.C15.exP1 exRaw).length = 4 := by
  decide +kernel

/-! §4 -/
example : statusOf (lintTail exRe exGlob [] exCfg "other/b.yml" "w.yml" exRaw) = 0 :=
  (status_zero_iff exRe exGlob [] exCfg "other/b.yml" "w.yml" exRaw).2 exMatched.2.2.2.1
example : statusOf (lintTail exRe exGlob exCli exCfg exRelS "w.yml" exRaw) = 1 :=
  (status_one_iff exRe exGlob exCli exCfg exRelS "w.yml" exRaw).2 ⟨d4, .head _, exMatched.2.2.1⟩
example : statusOf (lintTail exRe exGlob [] exCfg "other/b.yml" "w.yml" exRaw) = 0 :=
  (status_zero_iff_doc exRegexOk exGlobOk exRe exGlob [] exDoc exCfg exDoc_parses "other/b.yml" "w.yml" exRaw).2
    (parseConfig_paths exRegexOk exGlobOk exDoc exCfg exDoc_parses ▸ exMatched.2.2.2.1)
example : lintTail (fun p _ => p == "") exGlob [] { paths := [("**/a.yml", ["x", ""])] } exRelS "w.yml" exRaw = [] :=
  empty_pattern_drops_all _ exGlob (fun _ => rfl) [] _ exRelS "w.yml" exRaw ("**/a.yml", ["x", ""])
    (List.mem_cons_self ..) (by decide +kernel) (by decide +kernel)

example : mainStatus exRegexOk ["fine", "("] (fun c => lintTail exRe exGlob c exCfg exRelS "w.yml" exRaw) = 3 :=
  invalid_cli_is_fatal exRegexOk _ _ "(" (by decide +kernel) (by decide +kernel)
example : mainStatus exRegexOk exCli (fun c => lintTail exRe exGlob c exCfg exRelS "w.yml" exRaw) =
    statusOf (lintTail exRe exGlob exCli exCfg exRelS "w.yml" exRaw) :=
  valid_cli_status exRegexOk exCli _ (by decide +kernel)
example : mainStatus exRegexOk exCli (fun c => lintTail exRe exGlob c exCfg exRelS "w.yml" exRaw) = 1 := by
  simp only [valid_cli_status exRegexOk exCli _ (by decide +kernel), exRuns.1]; rfl

end instances

end AL.C15D
