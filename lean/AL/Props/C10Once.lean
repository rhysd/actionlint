import AL.Model.ProjAction
import AL.Lemmas.CacheWalk
/-
  C10, "their own defects are reported once per run", for the file-level model of the project case (AL.ProjCall): however
  many jobs of a workflow call or need a reusable workflow whose file is missing or broken, and whichever of the two rules
  asks first, the callee's defect appears at most once among the diagnostics of the file (`T`, one of the ways of counting
  along the walk of AL.Lemmas.CacheWalk). Then `Same`: two caches that answer every look-up alike give one file's walk the
  same diagnostics, so a cache that already holds a callee's interface changes nothing when that interface is what the
  file gives. `AL.C10A`: "at most once" for the metadata of local actions (AL.ProjAction), for rule action over one list of
  steps. Theorems: `callee_defect_at_most_once`, `prefilled_cache_same_diagnostics`, `AL.C10A.metadata_checked_at_most_once`.
-/
namespace AL.C10O
open AL AL.Ast AL.CallMeta AL.ProjCall

/-- "at most once": `d`, `d'` say whether the thing was decided before and after a piece of the visit that reports it `n`
times — decided stays decided and then nothing is reported; undecided, it is reported at most once and then is decided -/
def Once (d d' : Bool) (n : Nat) : Prop :=
  (d = true → d' = true ∧ n = 0) ∧ (d = false → n ≤ 1 ∧ (n = 1 → d' = true))

theorem Once.refl (d : Bool) : Once d d 0 := ⟨fun h => ⟨h, rfl⟩, fun _ => ⟨Nat.zero_le _, fun h => by cases h⟩⟩

theorem Once.comp {d d' d'' : Bool} {n m : Nat} (h1 : Once d d' n) (h2 : Once d' d'' m) : Once d d'' (n + m) := by
  refine ⟨fun h => ?_, fun h => ?_⟩
  · obtain ⟨hd, hn⟩ := h1.1 h
    obtain ⟨hd', hm⟩ := h2.1 hd
    exact ⟨hd', by omega⟩
  · obtain ⟨hn, hn1⟩ := h1.2 h
    cases hdc : d' with
    | true =>
      obtain ⟨hd', hm⟩ := h2.1 hdc
      exact ⟨by omega, fun _ => hd'⟩
    | false =>
      obtain ⟨hm, hm1⟩ := h2.2 hdc
      -- `n = 1` would have decided it
      have hn0 : n = 0 := by
        rcases Nat.lt_or_ge n 1 with h0 | h0
        · omega
        · exact absurd (hn1 (by omega)) (by rw [hdc]; decide)
      exact ⟨by omega, fun h => hm1 (by omega)⟩

theorem Once.le_one {d d' : Bool} {n : Nat} (h : Once d d' n) : n ≤ 1 := by
  cases hd : d with
  | true => have := (h.1 hd).2; omega
  | false => exact (h.2 hd).1

/-- a piece of the visit takes the cache from `c` to `c'` and reports the defect of `spec` `n` times -/
def T (spec : String) (c c' : Cache) (n : Nat) : Prop :=
  (decided c spec = true → decided c' spec = true ∧ n = 0) ∧
  (decided c spec = false → n ≤ 1 ∧ (n = 1 → decided c' spec = true))

theorem T.refl (spec : String) (c : Cache) : T spec c c 0 := Once.refl _

theorem T.comp {spec : String} {c c' c'' : Cache} {n m : Nat} (h1 : T spec c c' n) (h2 : T spec c' c'' m) :
    T spec c c'' (n + m) := Once.comp h1 h2

theorem T.le_one {spec : String} {c c' : Cache} {n : Nat} (h : T spec c c' n) : n ≤ 1 := Once.le_one h

/-- one look-up, with the diagnostic it may produce -/
theorem find_T (env : ProjCall.Env) (c : Cache) (s spec : String) :
    T spec c (find env c s).1
      (match (find env c s).2 with
       | .err _ => if s = spec then 1 else 0
       | _ => 0) := by
  obtain ⟨hmono, herr⟩ := find_spec env c s spec
  have h0 : T spec c (find env c s).1 0 := ⟨fun h => ⟨hmono h, rfl⟩, fun _ => ⟨Nat.zero_le _, fun h => by cases h⟩⟩
  cases hf : (find env c s).2 with
  | nothing => exact h0
  | found m => exact h0
  | err code =>
    by_cases hs : s = spec
    · -- the defect of `spec` itself: undecided before the look-up, decided after it
      subst hs
      obtain ⟨_, hu, hd⟩ := herr code hf
      simp only [if_true]
      exact ⟨fun h => (by rw [hu] at h; cases h), fun _ => ⟨Nat.le_refl _, fun _ => hd⟩⟩
    · simp only [hs, if_false]
      exact h0

theorem put_T (spec : String) (c : Cache) (u : String) (v : Option Meta) : T spec c (cachePut c u v) 0 :=
  ⟨fun h => ⟨by simp [decided_put, h], rfl⟩, fun _ => ⟨Nat.zero_le _, fun h => by cases h⟩⟩

/-- "at most once" is a way of counting along the walk -/
theorem T.counts (env : ProjCall.Env) (spec : String) : Counts (fun _ => True) env spec (T spec) :=
  ⟨T.refl spec, T.comp, fun c s _ => find_T env c s spec, fun c u _ _ => put_T spec c u none⟩

theorem wcJob_T (env : ProjCall.Env) (c : Cache) (j : Job) (spec : String) :
    T spec c (wcJob env c j).1 (wcCount spec (wcJob env c j).2) :=
  (T.counts env spec).wcJob c j fun _ _ _ _ => trivial

theorem callLookup_T (env : ProjCall.Env) (c : Cache) (j : Job) (spec : String) :
    T spec c (callLookup env j c).cache (exCount spec (callLookup env j c).errs) :=
  (T.counts env spec).callLookup c j fun _ _ _ _ => trivial

theorem needsLookups_T (env : ProjCall.Env) (lower : String → String) (jobs : List (String × Job)) (job : Job) (c : Cache)
    (spec : String) :
    T spec c (needsLookups env lower jobs job c).cache (exCount spec (needsLookups env lower jobs job c).errs) :=
  (T.counts env spec).needsLookups lower jobs (AL.C10F.covers_all jobs) job c

theorem simulateJobs_T (env : ProjCall.Env) (lower : String → String) (jobs : List (String × Job)) (spec : String) :
    ∀ (l : List (String × Job)) (c : Cache), ∃ c', T spec c c' (total spec (simulateJobs env lower jobs l c)) :=
  fun l c => ⟨_, (T.counts env spec).jobsCache lower jobs (AL.C10F.covers_all jobs) l c (AL.C10F.covers_all l)⟩

/-- **C10, a callee's own defect is reported once** (one file, any number of jobs that call or need the callee, either
rule asking first): among all diagnostics the project case adds — rule workflow-call's and rule expression's — at most
one reports that the file behind `spec` cannot be read or parsed -/
theorem callee_defect_at_most_once (env : ProjCall.Env) (lower : String → String) (w : Workflow) (spec : String) :
    total spec (simulate env lower w) ≤ 1 := by
  obtain ⟨_, h⟩ := simulateJobs_T env lower (w.jobs.getD []) spec (w.jobs.getD []) (initialCache env w)
  exact h.le_one

/-! ### a called workflow that was linted before (interface already in the cache) vs read from its file -/

/-- two caches that answer every look-up alike -/
def Same (env : ProjCall.Env) (c c' : Cache) : Prop := ∀ spec, answer env c spec = answer env c' spec

theorem same_iff (env : ProjCall.Env) (c c' : Cache) : Same env c c' ↔ AL.C10F.SameOn (fun _ => True) env c c' :=
  ⟨fun h s _ => h s, fun h s => h s trivial⟩

/-- after a look-up that both answered alike, both still answer every look-up alike -/
theorem find_same (env : ProjCall.Env) (c c' : Cache) (s : String) (h : Same env c c') :
    (find env c s).2 = (find env c' s).2 ∧ Same env (find env c s).1 (find env c' s).1 :=
  ⟨h s, (same_iff ..).2 (AL.C10F.find_sameOn _ env c c' s ((same_iff ..).1 h))⟩

theorem simulateJobs_same (env : ProjCall.Env) (lower : String → String) (jobs : List (String × Job)) :
    ∀ (l : List (String × Job)) (c c' : Cache), Same env c c' →
      (simulateJobs env lower jobs l c).map (fun e => (e.1, e.2.wc, e.2.exprErrs, e.2.outs, e.2.inputs)) =
      (simulateJobs env lower jobs l c').map (fun e => (e.1, e.2.wc, e.2.exprErrs, e.2.outs, e.2.inputs)) :=
  fun l c c' h => congrArg _ (AL.C10F.simulateJobs_sameOn (fun _ => True) env lower jobs (AL.C10F.covers_all jobs) l c c' (AL.C10F.covers_all l)
    ((same_iff ..).1 h))

/-- **C10, "whether a called reusable workflow is itself part of the run"**: a caller gets the same diagnostics — of both
rules, job by job — and the same view of its callees whether the interface of a (well-formed) called workflow is already
in the cache, because that workflow was linted before by the same linter, or has to be read from its file: provided the
cached interface IS what the file gives (AL.C10M.document_interface_agrees). The second disjunct (the file's initial
cache already decides `spec`: the file is its own callee) is a case the equation does not cover -/
theorem prefilled_cache_same_diagnostics (env : ProjCall.Env) (lower : String → String) (w : Workflow)
    (spec : String) (m : Meta) (hdisk : env.disk spec = .ok m) :
    (simulateJobs env lower (w.jobs.getD []) (w.jobs.getD []) (cachePut (initialCache env w) spec (some m))).map
        (fun e => (e.1, e.2.wc, e.2.exprErrs, e.2.outs, e.2.inputs)) =
    (simulate env lower w).map (fun e => (e.1, e.2.wc, e.2.exprErrs, e.2.outs, e.2.inputs)) ∨
    cacheGet (initialCache env w) spec ≠ none := by
  by_cases hself : cacheGet (initialCache env w) spec = none
  · left
    apply simulateJobs_same
    intro s
    simp only [answer, cacheGet_put]
    by_cases hg : skipped env s = true
    · simp [hg]
    · simp only [hg, Bool.false_eq_true, if_false]
      by_cases e : s = spec
      · subst e
        simp [hself, diskAnswer, hdisk]
      · simp [e]
  · right; exact hself

/-! ### a concrete file: three jobs call the same missing workflow, the third one also needs the first -/

def sc' (value : String) (line col : Nat) : AL.Yaml.Node := .mk .scalar "!!str" value false line col []
def mp' (line col : Nat) (cs : List AL.Yaml.Node) : AL.Yaml.Node := .mk .mapping "!!map" "" false line col cs

/-- `on: push` / `jobs: {a: {uses: ./x.yml}, b: {uses: ./x.yml}, c: {needs: a, uses: ./x.yml}}` -/
def threeCallers : AL.Yaml.Node :=
  .mk .document "" "" false 1 1 [mp' 1 1 [sc' "on" 1 1, sc' "push" 1 5, sc' "jobs" 2 1, mp' 3 3
    [sc' "a" 3 3, mp' 4 5 [sc' "uses" 4 5, sc' "./x.yml" 4 11],
     sc' "b" 5 3, mp' 6 5 [sc' "uses" 6 5, sc' "./x.yml" 6 11],
     sc' "c" 7 3, mp' 8 5 [sc' "needs" 8 5, sc' "a" 8 12, sc' "uses" 9 5, sc' "./x.yml" 9 11]]]]

def exCfg' : AL.PW.Cfg := { lower := AL.PW.asciiLower, atoi := fun _ => none, parseFloat := fun _ => .err }

/-- the defect is reported exactly once, by the workflow-call rule, at the `uses:` of the first job in source order -/
example :
    let w := (AL.PW.parse exCfg' threeCallers).1
    total "./x.yml" (simulate {} AL.PW.asciiLower w) = 1 ∧
    wcRule {} AL.PW.asciiLower w = [⟨⟨4, 11⟩, "workflow-call", "callee-unreadable", ["./x.yml"]⟩] ∧
    (simulate {} AL.PW.asciiLower w).flatMap (·.2.exprErrs) = [] := by decide +kernel

end AL.C10O

/-! ### local actions: over one list of steps, rule action gets a fresh answer for an action's metadata at most once -/
namespace AL.C10A
open AL AL.Ast AL.ProjAction

def decided (c : Cache) (spec : String) : Bool := (cacheGet c spec).isSome

theorem cacheGet_remember (env : ProjAction.Env) (c : Cache) (s spec : String) :
    cacheGet (remember env c s) spec =
      if (!env.hasProject || !s.startsWith "./") = true then cacheGet c spec
      else if spec = s then (match cacheGet c s with
        | some v => some v
        | none => some (match env.disk s with | .ok m => some m | _ => none))
      else cacheGet c spec := by
  simp only [remember]
  by_cases hg : (!env.hasProject || !s.startsWith "./") = true
  · simp [hg]
  · simp only [hg, Bool.false_eq_true, if_false]
    cases hk : cacheGet c s with
    | some v =>
      by_cases e : spec = s
      · subst e; simp [hk]
      · simp [e]
    | none =>
      simp only [cacheGet, List.find?_cons]
      by_cases e : spec = s
      · subst e; simp only [decide_true, if_true]; cases env.disk spec <;> rfl
      · have : ¬ (s = spec) := fun h => e h.symm
        simp [e, this]

/-- the look-up finds something it has not seen before: the metadata gets checked (or its defect reported) here -/
def isFresh : Found → Bool
  | .found _ false => true
  | .err _ => true
  | _ => false

/-- `AL.C10O.T` for the cache of local actions: a piece of the visit takes the cache from `c` to `c'` and makes `n` fresh
look-ups of `spec` -/
def T (spec : String) (c c' : Cache) (n : Nat) : Prop :=
  (decided c spec = true → decided c' spec = true ∧ n = 0) ∧
  (decided c spec = false → n ≤ 1 ∧ (n = 1 → decided c' spec = true))

theorem T.refl (spec : String) (c : Cache) : T spec c c 0 := AL.C10O.Once.refl _

theorem T.comp {spec : String} {c c' c'' : Cache} {n m : Nat} (h1 : T spec c c' n) (h2 : T spec c' c'' m) :
    T spec c c'' (n + m) := AL.C10O.Once.comp h1 h2

theorem T.le_one {spec : String} {c c' : Cache} {n : Nat} (h : T spec c c' n) : n ≤ 1 := AL.C10O.Once.le_one h

theorem lookup_T (env : ProjAction.Env) (c : Cache) (s spec : String) :
    T spec c (remember env c s) (if isFresh (answer env c s) && decide (s = spec) then 1 else 0) := by
  simp only [T, decided, cacheGet_remember, answer]
  by_cases hg : (!env.hasProject || !s.startsWith "./") = true
  · simp [hg, isFresh]
  · simp only [hg, Bool.false_eq_true, if_false]
    by_cases e : spec = s
    · subst e
      cases hk : cacheGet c spec with
      | some v => cases v <;> simp [hk, isFresh]
      | none => cases hd : env.disk spec <;> simp [hk, hd, isFresh]
    · have e' : ¬ (s = spec) := fun h => e h.symm
      simp [e, e']

/-- 1 if rule action's look-up at step `st`, from cache `c`, is a fresh look-up of `spec`, else 0 -/
def freshAt (env : ProjAction.Env) (spec : String) (c : Cache) (st : Step) : Nat :=
  match st.exec with
  | .action e =>
    (match e.uses with
     | some u => if !AL.Rules.containsExpr u && u.value.startsWith "./" && isFresh (answer env c u.value) && decide (u.value = spec) then 1 else 0
     | none => 0)
  | _ => 0

theorem actionStep_T (env : ProjAction.Env) (c : Cache) (st : Step) (spec : String) :
    T spec c (actionStep env c st).1 (freshAt env spec c st) := by
  simp only [actionStep, freshAt]
  generalize st.exec = ex
  cases ex with
  | action e =>
    simp only
    generalize e.uses = uo
    cases uo with
    | none => exact T.refl spec c
    | some u =>
      simp only
      by_cases h1 : AL.Rules.containsExpr u = true
      · simp only [h1, if_true, Bool.not_true, Bool.false_and, Bool.false_eq_true, if_false]; exact T.refl spec c
      · by_cases h2 : u.value.startsWith "./" = true
        · have := lookup_T env c u.value spec
          simp only [h1, h2, Bool.false_eq_true, if_false, if_true, Bool.not_false, Bool.true_and]
          exact this
        · simp only [h1, h2, Bool.false_eq_true, if_false, Bool.not_false, Bool.true_and, Bool.false_and]
          exact T.refl spec c
  | run e => exact T.refl spec c
  | none => exact T.refl spec c

theorem exprStep_T (env : ProjAction.Env) (c : Cache) (st : Step) (spec : String) :
    ∃ k, T spec c (exprStep env c st).1 k := by
  simp only [exprStep]
  generalize st.exec = ex
  generalize st.id = ido
  cases ido with
  | none => exact ⟨0, T.refl spec c⟩
  | some i =>
    cases ex with
    | action e =>
      simp only
      generalize e.uses = uo
      cases uo with
      | none => exact ⟨0, T.refl spec c⟩
      | some u =>
        simp only
        by_cases h2 : u.value.startsWith "./" = true
        · simp only [h2, if_true]; exact ⟨_, lookup_T env c u.value spec⟩
        · simp only [h2, Bool.false_eq_true, if_false]; exact ⟨0, T.refl spec c⟩
    | run e => exact ⟨0, T.refl spec c⟩
    | none => exact ⟨0, T.refl spec c⟩

/-- the fresh look-ups of `spec` by rule action over a list of steps, threading the cache through both rules -/
def freshCount (env : ProjAction.Env) (spec : String) : List Step → Cache → Nat
  | [], _ => 0
  | st :: rest, c => freshAt env spec c st + freshCount env spec rest (exprStep env (actionStep env c st).1 st).1

theorem steps_T (env : ProjAction.Env) (spec : String) : ∀ (l : List Step) (c : Cache),
    ∃ c' k, T spec c c' (freshCount env spec l c + k) := by
  intro l
  induction l with
  | nil => intro c; exact ⟨c, 0, T.refl spec c⟩
  | cons st rest ih =>
    intro c
    have h1 := actionStep_T env c st spec
    obtain ⟨k2, h2⟩ := exprStep_T env (actionStep env c st).1 st spec
    obtain ⟨c', k3, h3⟩ := ih (exprStep env (actionStep env c st).1 st).1
    refine ⟨c', k2 + k3, ?_⟩
    have := T.comp (T.comp h1 h2) h3
    simp only [freshCount]
    have e : freshAt env spec c st + k2 + (freshCount env spec rest (exprStep env (actionStep env c st).1 st).1 + k3) =
      freshAt env spec c st + freshCount env spec rest (exprStep env (actionStep env c st).1 st).1 + (k2 + k3) := by omega
    rw [← e]; exact this

/-- **a local action's metadata is checked at most once in a list of steps** (whatever the cache held before): among the
steps that use `spec`, at most one gets from rule action's look-up the fresh answer that triggers
`checkLocalActionMetadata` (or reports that the metadata file cannot be parsed). Not lifted to `ProjAction.simulate` or
a run of files -/
theorem metadata_checked_at_most_once (env : ProjAction.Env) (spec : String) (l : List Step) (c : Cache) :
    freshCount env spec l c ≤ 1 := by
  obtain ⟨_, k, h⟩ := steps_T env spec l c
  have := h.le_one
  omega

end AL.C10A
