import AL.Props.C09Rules
/-
  C02 on AL.Rules.lint (tied by `lintwf`): the model is a function of the node tree and of the configuration handed to the
  rules — runner labels, known zone names — (no map order, no clock: the CRON check starts from the epoch); that the real
  linter's output is this function is what the tie tests on every run. Proved here: the stable sort of `Linter.check`
  puts the output in non-decreasing position order. (Every diagnostic exactly once: `AL.C09R.stableSort_perm`. That
  diagnostics at one position keep their emission order is not stated; nearest: `AL.C09C.filter_stableSort`.)
-/
namespace AL.C02R
open AL.Rules


def le (a b : Diag) : Prop := less b a = false

theorem insertStable_sorted (x : Diag) (l : List Diag) (h : l.Pairwise le) : (insertStable x l).Pairwise le :=
  AL.C09R.sortR.sorted x h

/-- the output of `Linter.check` is in non-decreasing order of (line, column) -/
theorem sort_sorted (l : List Diag) : (stableSort l).Pairwise le :=
  AL.C09R.sortR.foldl_sorted l .nil

/-- congruence of `lint` in the document (true of every Lean function: that the model is a function of its arguments is
its type) -/
theorem lint_deterministic (cfg : AL.PW.Cfg) (isNum urlOk : String → Bool) (doc doc' : AL.Yaml.Node) (h : doc = doc') (lc : LabelCfg := {}) :
    lint cfg isNum urlOk doc lc = lint cfg isNum urlOk doc' lc := by rw [h]

end AL.C02R
