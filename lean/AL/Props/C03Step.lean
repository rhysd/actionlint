import AL.Model.ParseStep
import AL.Lemmas.ParseStep
/-
  C03 / C13 — `parseStep` keeps every value of a step, whatever the order of the keys: for a step mapping with distinct
  keys that does not mix script keys (run, shell, working-directory) with action keys (uses, with), each key's value ends
  up in the field named after the key — in particular `working-directory` reaches the ExecRun no matter where it is
  written between `run` and `shell` — and no diagnostic is produced for the known keys.
  Statements first (`def …_statement : Prop`), their proofs after them.
-/
namespace AL.Props.C03Step
open AL.ParseStep

def scriptKeys : List String := ["run", "shell", "working-directory"]
def actionKeys : List String := ["uses", "with"]
def commonKeys : List String := ["id", "if", "name", "env", "continue-on-error", "timeout-minutes"]

def lookup (k : String) : List (String × V) → Option V
  | [] => none
  | (k', v) :: rest => if k' = k then some v else lookup k rest

/-- a script step: distinct keys, all of them common or script keys, `run` present -/
def ScriptStep (kvs : List (String × V)) : Prop :=
  (kvs.map (·.1)).Nodup ∧ (∀ kv ∈ kvs, kv.1 ∈ commonKeys ++ scriptKeys) ∧ (lookup "run" kvs).isSome

def ActionStep (kvs : List (String × V)) : Prop :=
  (kvs.map (·.1)).Nodup ∧ (∀ kv ∈ kvs, kv.1 ∈ commonKeys ++ actionKeys) ∧ (lookup "uses" kvs).isSome

/-- (a) a script step: every key's value is stored, in whatever order the keys are written, without diagnostics -/
def script_step_complete_statement : Prop :=
  ∀ kvs, ScriptStep kvs →
    parseStep kvs =
      ({ id := lookup "id" kvs, cond := lookup "if" kvs, name := lookup "name" kvs, env := lookup "env" kvs,
         continueOnError := lookup "continue-on-error" kvs, timeoutMinutes := lookup "timeout-minutes" kvs,
         exec := .run (lookup "run" kvs) (lookup "shell" kvs) (lookup "working-directory" kvs) }, [])

/-- (b) an action step likewise -/
def action_step_complete_statement : Prop :=
  ∀ kvs, ActionStep kvs →
    parseStep kvs =
      ({ id := lookup "id" kvs, cond := lookup "if" kvs, name := lookup "name" kvs, env := lookup "env" kvs,
         continueOnError := lookup "continue-on-error" kvs, timeoutMinutes := lookup "timeout-minutes" kvs,
         exec := .action (lookup "uses" kvs) (lookup "with" kvs) }, [])

/-- (c) hence the order of the keys does not matter for such steps -/
def script_step_order_irrelevant_statement : Prop :=
  ∀ kvs kvs', kvs.Perm kvs' → ScriptStep kvs → parseStep kvs' = parseStep kvs

/-- (d) a key outside the syntax is reported, exactly once, and does not disturb the rest -/
def unknown_key_reported_statement : Prop :=
  ∀ (pre post : List (String × V)) (k : String) (v : V), k ∉ commonKeys ++ scriptKeys ++ actionKeys →
    ScriptStep (pre ++ post) →
    parseStep (pre ++ (k, v) :: post) = ((parseStep (pre ++ post)).1, [.unexpectedKey k])

/-! ### proofs (helper lemmas: AL/Lemmas/ParseStep.lean) -/

theorem lookup_eq_get (k : String) (l : List (String × V)) : lookup k l = get k l := by
  induction l with
  | nil => rfl
  | cons kv l ih => obtain ⟨k', v⟩ := kv; simp only [lookup, get_cons, ih]

theorem scriptKnown_eq : commonKeys ++ scriptKeys = scriptKnown := rfl
theorem actionKnown_eq : commonKeys ++ actionKeys = actionKnown := rfl
theorem allKnown_eq : commonKeys ++ scriptKeys ++ actionKeys = scriptKnown ++ ["uses", "with"] := rfl

theorem script_step_complete : script_step_complete_statement := by
  intro kvs ⟨nd, hk, hr⟩
  simp only [lookup_eq_get] at hr ⊢
  rw [scriptKnown_eq] at hk
  exact parseStep_script kvs nd hk hr

theorem action_step_complete : action_step_complete_statement := by
  intro kvs ⟨nd, hk, hr⟩
  simp only [lookup_eq_get] at hr ⊢
  rw [actionKnown_eq] at hk
  exact parseStep_action kvs nd hk hr

theorem ScriptStep.perm {kvs kvs' : List (String × V)} (p : kvs.Perm kvs') (h : ScriptStep kvs) :
    ScriptStep kvs' := by
  obtain ⟨nd, hk, hr⟩ := h
  refine ⟨(p.map _).nodup_iff.1 nd, fun kv hm => hk kv (p.mem_iff.2 hm), ?_⟩
  rw [lookup_eq_get] at hr ⊢
  rw [get_perm p nd]; exact hr

theorem script_step_order_irrelevant : script_step_order_irrelevant_statement := by
  intro kvs kvs' p h
  rw [script_step_complete kvs h, script_step_complete kvs' (h.perm p)]
  simp only [lookup_eq_get, get_perm p h.1]

theorem unknown_key_reported : unknown_key_reported_statement := by
  intro pre post k v hu ⟨nd, hk, hr⟩
  rw [allKnown_eq] at hu
  rw [scriptKnown_eq] at hk
  rw [lookup_eq_get] at hr
  exact parseStep_script_unknown k v pre post hu nd hk hr

/-! ### non-vacuity: the model evaluated on concrete steps -/

/-- `working-directory` written between `run` and `shell` (and in every other order) reaches the ExecRun -/
example :
    ∀ kvs ∈ [[("run", 1), ("working-directory", 2), ("shell", 3)], [("run", 1), ("shell", 3), ("working-directory", 2)],
             [("working-directory", 2), ("run", 1), ("shell", 3)], [("working-directory", 2), ("shell", 3), ("run", 1)],
             [("shell", 3), ("run", 1), ("working-directory", 2)], [("shell", 3), ("working-directory", 2), ("run", 1)]],
      parseStep kvs = ({ exec := .run (some 1) (some 3) (some 2) }, []) := by decide +kernel

example : ScriptStep [("run", 1), ("working-directory", 2), ("shell", 3)] := by
  unfold ScriptStep
  decide +kernel

example : parseStep [("name", 7), ("uses", 1), ("with", 2)] =
    ({ name := some 7, exec := .action (some 1) (some 2) }, []) := by decide +kernel

/-- a step mixing script and action keys is outside (a)/(b): the later key is reported and ignored -/
example : parseStep [("run", 1), ("uses", 2)] =
    ({ exec := .run (some 1) none none }, [.actionKeyInRunStep "uses"]) := by decide +kernel

example : parseStep [("uses", 1), ("working-directory", 2)] =
    ({ exec := .action (some 1) none }, [.workDirWithUses]) := by decide +kernel

example : parseStep [("run", 1), ("bogus", 5), ("shell", 3)] =
    ({ exec := .run (some 1) (some 3) none }, [.unexpectedKey "bogus"]) := by decide +kernel

end AL.Props.C03Step
