import AL.Model.ProjLint
/-
  C07 for the diagnostics a project adds, as statements about the functions that build them: every diagnostic sits at the
  position `u` / `pos` the function is handed, or at the key of the `with:` / `secrets:` entry it is about (the typed-input
  diagnostic: at the entry's value). That the callers hand in the `uses:` value of the job / step concerned is read off
  the model (`wcJob`: `call.uses`, AL.ProjAction: `u.pos`), not a theorem here.
-/
namespace AL.C07P
open AL AL.Ast

theorem checkLocal_pos (m : AL.CallMeta.Meta) (c : WorkflowCall) (u : Str) :
    ∀ d ∈ AL.ProjCall.checkLocal m c u,
      d.pos = u.pos ∨ (∃ kv ∈ c.inputs.getD [], d.pos = kv.2.name.pos) ∨ (∃ kv ∈ c.secrets.getD [], d.pos = kv.2.name.pos) := by
  intro d hd
  simp only [AL.ProjCall.checkLocal, List.mem_append, List.mem_flatMap, List.mem_ite_nil_left, List.mem_singleton] at hd
  -- inputs, then secrets: a required one that is missing (at `uses:`), a supplied one that is not declared (at its key)
  rcases hd with (⟨n, _, hn⟩ | ⟨kv, hkv, _, rfl⟩) | ⟨_, ⟨n, _, hn⟩ | ⟨kv, hkv, _, rfl⟩⟩
  · left
    split at hn
    · simp only [List.mem_ite_nil_right, List.mem_singleton] at hn; rw [hn.2]
    · cases hn
  · exact .inr (.inl ⟨kv, hkv, rfl⟩)
  · left
    split at hn
    · simp only [List.mem_ite_nil_right, List.mem_singleton] at hn; rw [hn.2]
    · cases hn
  · exact .inr (.inr ⟨kv, hkv, rfl⟩)

/-- what rule workflow-call adds at one job: at the job's `uses:` or at a key of its `with:` / `secrets:` -/
theorem wcFound_pos (f : AL.ProjCall.Found) (c : WorkflowCall) (u : Str) :
    ∀ d ∈ AL.ProjCall.wcFound f c u,
      d.pos = u.pos ∨ (∃ kv ∈ c.inputs.getD [], d.pos = kv.2.name.pos) ∨ (∃ kv ∈ c.secrets.getD [], d.pos = kv.2.name.pos) := by
  intro d hd
  cases f with
  | nothing => simp [AL.ProjCall.wcFound] at hd
  | err code => simp only [AL.ProjCall.wcFound, List.mem_singleton] at hd; left; rw [hd]
  | found m => exact checkLocal_pos m c u d hd

theorem typedInput_pos (cx : AL.RuleExpr.Cx) (u : Str) (kv : String × CallArg) (ts : List AL.Ty) :
    ∀ d ∈ AL.RuleExpr.typedInput cx u kv ts, d.site = kv.2.value.pos := by
  intro d hd
  simp only [AL.RuleExpr.typedInput] at hd
  split at hd
  · cases hd
  · split at hd
    · cases hd
    · simp only [List.mem_ite_nil_left, List.mem_singleton] at hd; rw [hd.2.2]

def AllAt (pos : AL.ProjAction.Pos) (ds : List AL.ProjAction.Diag) : Prop := ∀ d ∈ ds, d.pos = pos

theorem AllAt.nil (pos : AL.ProjAction.Pos) : AllAt pos [] := fun _ h => by cases h
theorem AllAt.single (pos : AL.ProjAction.Pos) (k c : String) (a : List String) : AllAt pos [⟨pos, k, c, a⟩] :=
  fun d h => by simp only [List.mem_singleton] at h; rw [h]
theorem AllAt.append {pos : AL.ProjAction.Pos} {a b : List AL.ProjAction.Diag} (ha : AllAt pos a) (hb : AllAt pos b) : AllAt pos (a ++ b) :=
  fun d h => by rcases List.mem_append.mp h with h | h; exact ha d h; exact hb d h
theorem AllAt.ite {pos : AL.ProjAction.Pos} {c : Prop} [Decidable c] {a b : List AL.ProjAction.Diag} (ha : AllAt pos a) (hb : AllAt pos b) :
    AllAt pos (if c then a else b) := by split <;> assumption

theorem runsFile_all (env : AL.ProjAction.Env) (file dir prop name : String) (pos : AL.ProjAction.Pos) :
    AllAt pos (AL.ProjAction.runsFile env file dir prop name pos) := by
  intro d hd
  simp only [AL.ProjAction.runsFile, List.mem_ite_nil_left, List.mem_singleton] at hd
  rw [hd.2.2]

theorem invalidProps_all (r : AL.ProjAction.Runs) (ty name dir : String) (props : List String) (pos : AL.ProjAction.Pos) :
    AllAt pos (AL.ProjAction.invalidProps r ty name dir props pos) := by
  intro d hd
  simp only [AL.ProjAction.invalidProps, List.mem_flatMap, List.mem_ite_nil_right, List.mem_singleton] at hd
  obtain ⟨p, _, _, rfl⟩ := hd
  rfl

theorem jsRuns_all (env : AL.ProjAction.Env) (r : AL.ProjAction.Runs) (dir name : String) (pos : AL.ProjAction.Pos) :
    AllAt pos (AL.ProjAction.jsRuns env r dir name pos) := by
  simp only [AL.ProjAction.jsRuns, AL.ProjAction.missingProp]
  exact (((((AllAt.ite (AllAt.single _ _ _ _) (runsFile_all _ _ _ _ _ _)).append (runsFile_all _ _ _ _ _ _)).append
    (AllAt.ite (AllAt.single _ _ _ _) (AllAt.nil _))).append (runsFile_all _ _ _ _ _ _)).append
    (AllAt.ite (AllAt.single _ _ _ _) (AllAt.nil _))).append (invalidProps_all _ _ _ _ _ _)

theorem dockerRuns_all (env : AL.ProjAction.Env) (r : AL.ProjAction.Runs) (dir name : String) (pos : AL.ProjAction.Pos) :
    AllAt pos (AL.ProjAction.dockerRuns env r dir name pos) := by
  simp only [AL.ProjAction.dockerRuns, AL.ProjAction.missingProp]
  exact ((((AllAt.ite (AllAt.single _ _ _ _) (AllAt.ite ((runsFile_all _ _ _ _ _ _).append (AllAt.ite (AllAt.single _ _ _ _) (AllAt.nil _))) (AllAt.nil _))).append
    (runsFile_all _ _ _ _ _ _)).append (runsFile_all _ _ _ _ _ _)).append (runsFile_all _ _ _ _ _ _)).append (invalidProps_all _ _ _ _ _ _)

theorem compositeRuns_all (r : AL.ProjAction.Runs) (dir name : String) (pos : AL.ProjAction.Pos) :
    AllAt pos (AL.ProjAction.compositeRuns r dir name pos) := by
  simp only [AL.ProjAction.compositeRuns, AL.ProjAction.missingProp]
  exact (AllAt.ite (AllAt.single _ _ _ _) (AllAt.nil _)).append (invalidProps_all _ _ _ _ _ _)

theorem runsDiags_all (env : AL.ProjAction.Env) (m : AL.ProjAction.ActionMeta) (pos : AL.ProjAction.Pos) :
    AllAt pos (AL.ProjAction.runsDiags env m pos) := by
  simp only [AL.ProjAction.runsDiags]
  exact AllAt.ite (AllAt.single _ _ _ _) (AllAt.ite (dockerRuns_all _ _ _ _ _) (AllAt.ite (compositeRuns_all _ _ _ _) (AllAt.ite (jsRuns_all _ _ _ _ _)
    ((AllAt.single _ _ _ _).append (AllAt.ite (jsRuns_all _ _ _ _ _) (AllAt.nil _))))))

/-- every diagnostic about a local action's own metadata sits at the `uses:` of the step that used it first -/
theorem metadataDiags_pos (env : AL.ProjAction.Env) (m : AL.ProjAction.ActionMeta) (pos : AL.ProjAction.Pos) :
    ∀ d ∈ AL.ProjAction.metadataDiags env m pos, d.pos = pos := by
  simp only [AL.ProjAction.metadataDiags]
  exact ((((AllAt.ite (AllAt.single _ _ _ _) (AllAt.nil _)).append (AllAt.ite (AllAt.single _ _ _ _) (AllAt.nil _))).append
    (AllAt.ite (AllAt.single _ _ _ _) (AllAt.nil _))).append (AllAt.ite (AllAt.single _ _ _ _) (AllAt.nil _))).append (runsDiags_all _ _ _)

/-- what rule action adds at a step that uses a local action: at the step's `uses:` or at a key of its `with:` -/
theorem localStep_pos (env : AL.ProjAction.Env) (f : AL.ProjAction.Found) (spec : String) (e : ExecAction) (pos : AL.ProjAction.Pos) :
    ∀ d ∈ AL.ProjAction.localStep env f spec e pos, d.pos = pos ∨ ∃ kv ∈ e.inputs.getD [], d.pos = kv.2.name.pos := by
  intro d hd
  cases f with
  | nothing => cases hd
  | err dir => exact .inl (by rw [List.mem_singleton.1 hd])
  | found m cached =>
    simp only [AL.ProjAction.localStep, AL.ProjAction.inputDiags, List.mem_append, List.mem_flatMap,
      List.mem_ite_nil_left, List.mem_singleton] at hd
    rcases hd with ⟨_, hd⟩ | ⟨kv, hkv, _, rfl⟩ | ⟨id, _, hd⟩
    · exact .inl (metadataDiags_pos env m pos d hd)
    · exact .inr ⟨kv, hkv, rfl⟩
    · left
      split at hd
      · simp only [List.mem_ite_nil_left, List.mem_singleton] at hd; rw [hd.2]
      · cases hd

end AL.C07P
