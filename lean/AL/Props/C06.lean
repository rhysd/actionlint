import AL.Model.Sema
import AL.Spec.Looser
import AL.Gen.Builtins
import AL.Lemmas.TyLooser
import AL.Lemmas.TyMono
import AL.Lemmas.TyWf
import AL.Lemmas.TyMerge
import AL.Lemmas.SemaMonoCompare
import AL.Lemmas.SemaMonoBasic
import AL.Lemmas.SemaMonoOps
import AL.Lemmas.SemaMono
import AL.Lemmas.SemaMonoJson
/-
  C06 — unknown (any) types never cause a diagnostic.
  Statements first (`def …_statement : Prop`), their proofs after them.

  Summary of what is proved here (in the two any-element short-cuts of `ArrayType.Merge` the result's `Deref`
  flag is `ty.Deref || other.Deref`; the model follows that).
  * (a), (b), (d), (f), (g) hold as stated.
  * THE PROPERTY holds at full strength for the original environment relation: `mono_full`
    (`LooserEnv Γ Γ' → WfEnv Γ → SameRet Γ.funcs → errs = [] → errs' = []`), and the result type only
    gets looser in the sense of `Ty.LooserD` (`mono_full_typed`): like `Looser`, except that the `deref`
    flag of an array may switch on. `Looser ⊆ LooserD` (`Ty.LooserD.of_looser`).
  * (c) and the SECOND conjunct of (e) are false as literally stated, but only because `Looser`
    demands equal `deref` flags: `array<number> deref .Merge(array<number>)` is a plain array (a test of the
    Go code fixes that), while `array<any> deref .Merge(array<number>)` is dereferenced
    (`merge_mono_counterexample`, `mono_counterexample`; no diagnostic differs).
  * `WfEnv`/`Ty.wf` (property lists sorted by key) is the representation invariant of the model (a Go
    map has no order and no duplicate keys); it is needed because `LooserProps` compares property lists
    position by position while `merge` re-sorts (`merge_mono_needs_wf`, `mono_needs_wf`), and every
    environment the driver builds satisfies it (`driver_env_wf`).
  * `(matrix.a && github.event.*).foo` (`array<number>` vs `array<any>`) is the expression that tells the
    or-ed flag from the flag of one side alone: it is accepted under both environments (`cex_accepted`,
    `cex_fixed`).
-/
namespace AL.C06
open AL AL.Sema AL.Spec

/-! ### concrete data for the examples -/

/-- `matrix : {cfg: {a: number}; os: string}`, built-in functions -/
def exΓ : Env :=
  { vars := [("matrix", .obj [("cfg", .obj [("a", .number)] none), ("os", .string)] none)],
    funcs := AL.Gen.funcSigs, specialFuncs := AL.Gen.specialFuncs,
    availCtx := ["matrix"], availSpecial := [], configVars := none,
    lower := id, fromJson := fun _ => .otherErr }

/-- the same with `matrix.cfg : any` -/
def exΓ' : Env := { exΓ with vars := [("matrix", .obj [("cfg", .any), ("os", .string)] none)] }

/-- `matrix.cfg.a == 1 && contains(matrix.os, 'x')` -/
def exE : E :=
  .logical .and (.cmp .eq (.objDeref (.objDeref (.var "matrix") "cfg") "a") .num)
    (.call "contains" [.objDeref (.var "matrix") "os", .str "x"])

theorem ex_looser : LooserEnv exΓ exΓ' :=
  ⟨.cons (.obj (.cons (.toAny _) (.cons (.refl _) .nil)) .none) .nil, rfl, rfl, rfl, rfl, rfl, rfl, rfl⟩

theorem ex_looserD : LooserEnvD exΓ exΓ' := .of_looserEnv ex_looser

/-! ### (a) -/

/-- (a) `any` is assignable to and from everything that matters: a parameter accepts `any`, and `any`
accepts every argument. -/
def any_assignable_statement : Prop :=
  ∀ t : Ty, Ty.assignable t .any = true ∧ Ty.assignable .any t = true

theorem any_assignable : any_assignable_statement :=
  fun t => ⟨Ty.assignable_any_right t, Ty.assignable_any_left t⟩

example : Ty.assignable (.obj [("a", .arr .string false)] none) .any = true ∧
    Ty.assignable .any (.obj [("a", .arr .string false)] none) = true := any_assignable _

/-! ### (b) -/

/-- (b) assignability is monotone in the argument: loosening the argument keeps it assignable. -/
def assignable_mono_right_statement : Prop :=
  ∀ p a a' : Ty, Looser a a' → Ty.assignable p a = true → Ty.assignable p a' = true

theorem assignable_mono_right : assignable_mono_right_statement :=
  fun _ _ _ h hp => Ty.assignable_mono_looser h hp

/-- a strict object parameter `{a: string}` accepts `{a: number}`, hence also the opened `{a: any; …}` -/
example : Looser (.obj [("a", .number)] none) (.obj [("a", .any)] (some .any)) ∧
    Ty.assignable (.obj [("a", .string)] none) (.obj [("a", .number)] none) = true ∧
    Ty.assignable (.obj [("a", .string)] none) (.obj [("a", .any)] (some .any)) = true :=
  ⟨.obj (.cons (.toAny _) .nil) .opened, by simp [Ty.assignable, Ty.propsCover, Ty.lookupAssignable],
   by simp [Ty.assignable, Ty.propsAssignableTo]⟩

/-! ### (c) -/

/-- (c) `Merge` is monotone: loosening either side yields a looser result. -/
def merge_mono_statement : Prop :=
  ∀ l l' r r' : Ty, Looser l l' → Looser r r' → Looser (Ty.merge l r) (Ty.merge l' r')

/-- (c) is false as stated, but only in the `deref` flag (which `Looser` wants unchanged):
`array<number> deref .Merge(array<number>)` is the plain `array<number>` (third case of
`ArrayType.Merge`, `Deref: false`), while after loosening the receiver to `array<any> deref` the first
short-cut returns it with the or-ed flag. -/
theorem merge_mono_counterexample : ¬ merge_mono_statement := by
  intro h
  have h1 := h (.arr .number true) (.arr .any true) (.arr .number false) (.arr .number false)
    (.arr true (.toAny _)) (.refl _)
  have e1 : Ty.merge (.arr .number true) (.arr .number false) = .arr .number false := rfl
  have e2 : Ty.merge (.arr .any true) (.arr .number false) = .arr .any true := rfl
  rw [e1, e2] at h1
  cases h1

/-- (c') corrected: for the deref-aware relation `LooserD`, and a well-formed (key-sorted) second
argument. `LooserD` differs from `Looser` only on arrays: `arr e d ⊑ arr e' d'` needs `e ⊑ e'` and
`d = true → d' = true` (the flag may switch on). -/
def merge_mono_statement' : Prop :=
  ∀ l l' r r' : Ty, Ty.wf r = true → Ty.LooserD l l' → Ty.LooserD r r' →
    Ty.LooserD (Ty.merge l r) (Ty.merge l' r')

theorem merge_mono' : merge_mono_statement' :=
  fun l l' r r' hw hl hr => Ty.merge_mono r l l' r' hw hl hr

/-- (c') with the original `Looser` on the arguments -/
theorem merge_mono_of_looser (l l' r r' : Ty) (hw : Ty.wf r = true) (hl : Looser l l') (hr : Looser r r') :
    Ty.LooserD (Ty.merge l r) (Ty.merge l' r') :=
  merge_mono' l l' r r' hw (Ty.LooserD.of_looser hl) (Ty.LooserD.of_looser hr)

/-- The well-formedness hypothesis of (c') cannot be dropped: `{}.Merge({b: number; a: number})`
re-sorts the properties, while opening the argument takes the short-cut that returns it as it is. -/
theorem merge_mono_needs_wf :
    ¬ ∀ l l' r r' : Ty, Ty.LooserD l l' → Ty.LooserD r r' → Ty.LooserD (Ty.merge l r) (Ty.merge l' r') := by
  intro h
  have h1 := h (.obj [] none) (.obj [] none) (.obj [("b", .number), ("a", .number)] none)
    (.obj [("b", .number), ("a", .number)] (some .any)) (Ty.LooserD.refl _)
    (.obj (Ty.LooserDProps.refl _) .opened)
  have e1 : Ty.merge (.obj [] none) (.obj [("b", .number), ("a", .number)] none)
      = .obj [("a", .number), ("b", .number)] none := rfl
  have e2 : Ty.merge (.obj [] none) (.obj [("b", .number), ("a", .number)] (some .any))
      = .obj [("b", .number), ("a", .number)] (some .any) := rfl
  rw [e1, e2] at h1
  cases h1 with
  | obj hp _ => exact absurd hp.head_key (by decide)

/-- (c') on concrete data: `{a: number}.Merge({a: string; b: bool})` against the same with the
receiver's `a` loosened and the argument opened. -/
example :
    Ty.merge (.obj [("a", .number)] none) (.obj [("a", .string), ("b", .bool)] none)
      = .obj [("a", .string), ("b", .bool)] none ∧
    Ty.merge (.obj [("a", .any)] none) (.obj [("a", .string), ("b", .bool)] (some .any))
      = .obj [("a", .any), ("b", .bool)] (some .any) ∧
    Ty.LooserD (Ty.merge (.obj [("a", .number)] none) (.obj [("a", .string), ("b", .bool)] none))
      (Ty.merge (.obj [("a", .any)] none) (.obj [("a", .string), ("b", .bool)] (some .any))) :=
  ⟨rfl, rfl,
   merge_mono' _ _ _ _ (by decide) (.obj (.cons (.any _) .nil) .none)
     (.obj (Ty.LooserDProps.refl _) .opened)⟩

/-! ### (d) -/

/-- (d) comparison validity is monotone. -/
def compare_mono_statement : Prop :=
  ∀ op (l l' r r' : Ty), Looser l l' → Looser r r' → validCompare op l r = true → validCompare op l' r' = true

theorem compare_mono : compare_mono_statement :=
  fun _ _ _ _ _ hl hr h => validCompare_mono_looser hl hr h

example : validCompare .less .number .string = true ∧ validCompare .less .any .string = true ∧
    validCompare .eq (.arr .number false) (.arr .string false) = true ∧
    validCompare .eq (.arr .any false) .any = true := by
  simp [validCompare]

/-! ### (f) -/

/-- (f) the built-in function table satisfies the hypothesis of (e) (regenerated table). -/
def builtin_same_ret_statement : Prop := SameRet AL.Gen.funcSigs

/-- re-checked against the generated table on every build, whatever its length -/
theorem builtin_same_ret : builtin_same_ret_statement := by
  have h : ∀ p ∈ AL.Gen.funcSigs, ∀ s₁ ∈ p.2, ∀ s₂ ∈ p.2, s₁.ret = s₂.ret := by
    simp only [Gen.funcSigs, List.mem_cons, List.not_mem_nil, or_false, forall_eq_or_imp, forall_eq, and_self]
  exact fun n sigs hm => h (n, sigs) hm

/-- the built-in table also has well-formed result types (hypothesis `WfEnv.funcs` of (e')) -/
theorem builtin_rets_wf : ∀ n sigs, (n, sigs) ∈ AL.Gen.funcSigs → ∀ s ∈ sigs, Ty.wf s.ret = true := by
  have h : ∀ p ∈ AL.Gen.funcSigs, ∀ s ∈ p.2, Ty.wf s.ret = true := by
    simp only [Gen.funcSigs, List.mem_cons, List.not_mem_nil, or_false, forall_eq_or_imp, forall_eq, Ty.wf,
      and_self]
  exact fun n sigs hm => h (n, sigs) hm

/-- the built-in context types are well formed (sorted by key), so `WfEnv.vars` holds for them -/
theorem builtin_vars_wf : Ty.wfProps AL.Gen.globalVars = true ∧ Ty.sortedKeys AL.Gen.globalVars = true := by
  decide +kernel

/-! ### (e) -/

/-- (e) THE PROPERTY: for every expression and every pair of environments Γ ⊑ Γ', if the expression is
accepted under Γ it is accepted under Γ', and its type only gets looser. -/
def mono_statement : Prop :=
  ∀ (Γ Γ' : Env) (e : E), LooserEnv Γ Γ' → SameRet Γ.funcs →
    (check Γ e).errs = [] → (check Γ' e).errs = [] ∧ Looser (check Γ e).ty (check Γ' e).ty

/-- the example that depends on the or-ed `Deref` flag of `ArrayType.Merge`:
`matrix.a : array<number>`, `github.event : object` -/
def cexΓ : Env :=
  { vars := [("github", .obj [("event", .obj [] (some .any))] none),
             ("matrix", .obj [("a", .arr .number false)] none)],
    funcs := AL.Gen.funcSigs, specialFuncs := AL.Gen.specialFuncs,
    availCtx := ["github", "matrix"], availSpecial := [], configVars := none,
    lower := id, fromJson := fun _ => .otherErr }

/-- … loosened to `matrix.a : array<any>` -/
def cexΓ' : Env :=
  { cexΓ with vars := [("github", .obj [("event", .obj [] (some .any))] none),
                        ("matrix", .obj [("a", .arr .any false)] none)] }

/-- `(matrix.a && github.event.*).foo` -/
def cexE : E :=
  .objDeref (.logical .and (.objDeref (.var "matrix") "a") (.arrDeref (.objDeref (.var "github") "event"))) "foo"

theorem cex_looser : LooserEnv cexΓ cexΓ' :=
  ⟨.cons (.refl _) (.cons (.obj (.cons (.arr false (.toAny _)) .nil) .none) .nil),
   rfl, rfl, rfl, rfl, rfl, rfl, rfl⟩

/-- accepted with the precise type: the merge of `array<number>` and the dereferenced `array<any>` is
the latter, `.foo` filters it -/
theorem cex_accepted : (check cexΓ cexE).errs = [] ∧ (check cexΓ cexE).ty = .arr .any true := by
  rw [check_eq_sem]; exact ⟨rfl, rfl⟩

/-- with the looser `matrix.a : array<any>` the merge is the receiver with the or-ed `deref` flag, so `.foo` is
accepted as well (with the receiver's own flag it would get "receiver of object dereference "foo" must be type of
object but got "array<any>""). -/
theorem cex_fixed : (check cexΓ' cexE).errs = [] ∧ (check cexΓ' cexE).ty = .arr .any true := by
  rw [check_eq_sem]; exact ⟨rfl, rfl⟩

/-- witness against the second conjunct of (e): `matrix : {a: array<number>; b: array<number>}` -/
def flagΓ : Env :=
  { vars := [("matrix", .obj [("a", .arr .number false), ("b", .arr .number false)] none)],
    funcs := AL.Gen.funcSigs, specialFuncs := AL.Gen.specialFuncs,
    availCtx := ["matrix"], availSpecial := [], configVars := none,
    lower := id, fromJson := fun _ => .otherErr }

/-- … loosened to `matrix.a : array<any>` -/
def flagΓ' : Env :=
  { flagΓ with vars := [("matrix", .obj [("a", .arr .any false), ("b", .arr .number false)] none)] }

/-- `matrix.a.* && matrix.b` -/
def flagE : E := .logical .and (.arrDeref (.objDeref (.var "matrix") "a")) (.objDeref (.var "matrix") "b")

theorem flag_looser : LooserEnv flagΓ flagΓ' :=
  ⟨.cons (.obj (.cons (.arr false (.toAny _)) (.cons (.refl _) .nil)) .none) .nil,
   rfl, rfl, rfl, rfl, rfl, rfl, rfl⟩

/-- no diagnostic in either environment; the types are `array<number>` (plain) and `array<any>`
(dereferenced) -/
theorem flag_results :
    (check flagΓ flagE).errs = [] ∧ (check flagΓ flagE).ty = .arr .number false ∧
    (check flagΓ' flagE).errs = [] ∧ (check flagΓ' flagE).ty = .arr .any true := by
  rw [check_eq_sem, check_eq_sem]; exact ⟨rfl, rfl, rfl, rfl⟩

/-- (e) is false as literally stated, but ONLY in its second conjunct and only because `Looser` wants
equal `deref` flags: for `matrix.a.* && matrix.b` the result type goes from the plain `array<number>`
to the dereferenced `array<any>`; neither environment produces a diagnostic. The FIRST conjunct
(`errs = []`, the property itself) holds: that is `mono_full` below. -/
theorem mono_counterexample : ¬ mono_statement := by
  intro h
  have h1 := (h flagΓ flagΓ' flagE flag_looser builtin_same_ret flag_results.1).2
  rw [flag_results.2.1, flag_results.2.2.2] at h1
  cases h1

/-- (e) at full strength, for the ORIGINAL environment relation: loosening the context types never
introduces a diagnostic. `WfEnv` is the representation invariant of the model (sorted property lists:
context types, function results, types of JSON literals). -/
def mono_full_statement : Prop :=
  ∀ (Γ Γ' : Env) (e : E), LooserEnv Γ Γ' → WfEnv Γ → SameRet Γ.funcs →
    (check Γ e).errs = [] → (check Γ' e).errs = []

theorem mono_full : mono_full_statement :=
  fun _ _ e h hw hs he => (check_mono_full e h hw hs he).1

/-- … and the type only gets looser, up to `deref` flags switching on (`LooserD`). -/
def mono_full_typed_statement : Prop :=
  ∀ (Γ Γ' : Env) (e : E), LooserEnv Γ Γ' → WfEnv Γ → SameRet Γ.funcs →
    (check Γ e).errs = [] → (check Γ' e).errs = [] ∧ Ty.LooserD (check Γ e).ty (check Γ' e).ty

theorem mono_full_typed : mono_full_typed_statement :=
  fun _ _ e h hw hs he => check_mono_full e h hw hs he

/-- (e') the most general form: the context types themselves are only `LooserD`-related (so they may
also differ by `deref` flags switched on); `mono_full_typed` is the special case `LooserEnv`. -/
def mono_statement' : Prop :=
  ∀ (Γ Γ' : Env) (e : E), LooserEnvD Γ Γ' → WfEnv Γ → SameRet Γ.funcs →
    (check Γ e).errs = [] → (check Γ' e).errs = [] ∧ Ty.LooserD (check Γ e).ty (check Γ' e).ty

theorem mono' : mono_statement' :=
  fun _ _ e h hw hs he => check_mono e h hw hs he

/-- `WfEnv` is no restriction in practice: every environment the differential-testing driver builds
(built-in context types overridden by well-formed ones via `setProp`, the generated function table,
the model of `typeOfJSONValue`) is well formed. -/
theorem driver_env_wf (overrides : List (String × Ty)) (hov : ∀ e ∈ overrides, Ty.wf e.2 = true)
    (ctx sp : List String) (cv : Option (List String)) (lower : String → String) :
    WfEnv { vars := overrides.foldl (fun acc kv => Ty.setProp kv.1 kv.2 acc) AL.Gen.globalVars,
            funcs := AL.Gen.funcSigs, specialFuncs := AL.Gen.specialFuncs, availCtx := ctx,
            availSpecial := sp, configVars := cv, lower := lower, fromJson := AL.Json.fromJson lower } :=
  ⟨foldl_setProp_wfProps overrides hov _ builtin_vars_wf.1, builtin_rets_wf, fromJson_wf lower⟩

theorem ex_wf : WfEnv exΓ :=
  ⟨by decide, builtin_rets_wf, fun _ _ h => by cases h⟩

/-- both environments give `bool`, no diagnostic and the same events. (`contains` is resolved against its signature
by `Ty.assignable`, which is compiled by well-founded recursion: the kernel does not evaluate it, `simp` does.) -/
theorem ex_check :
    check exΓ exE = ⟨.bool, [],
      [.leave (.var "matrix"), .leave (.objDeref "cfg"), .leave (.objDeref "a"), .leave .other, .leave .other,
       .enterSafeCall, .leave (.var "matrix"), .leave (.objDeref "os"), .leave .other, .leave .safeCall,
       .leave .other]⟩ ∧
    check exΓ' exE = check exΓ exE := by
  rw [check_eq_sem, check_eq_sem]
  simp [sem, semArgs, R.node, R.node₂, R.seq, leftMode, logicalTy, opTruthy, exΓ, exΓ', exE, Ty.lookup, objDerefTy,
    validCompare, lookupFuncs, resolveCall, resolveCall.go, checkSig, firstBadArg, firstBadArg.fixed, builtinCall, specialFuncErrs,
    Ty.assignable, AL.Gen.funcSigs, AL.Gen.specialFuncs, AL.Gen.specialFuncKeys, Ty.merge_bool_left, Ty.mergeScalar,
    enterOf, leaveOf, isSafeCall, wrap]

/-- (e) on concrete data: `matrix.cfg.a == 1 && contains(matrix.os, 'x')` with
`matrix : {cfg: {a: number}; os: string}` and with `matrix.cfg : any`: the hypotheses hold, and the
checker returns `bool` without diagnostics in both. -/
example : LooserEnv exΓ exΓ' ∧ LooserEnvD exΓ exΓ' ∧ WfEnv exΓ ∧ SameRet exΓ.funcs ∧
    (check exΓ exE).errs = [] ∧ (check exΓ exE).ty = .bool ∧
    (check exΓ' exE).errs = [] ∧ (check exΓ' exE).ty = .bool := by
  rw [ex_check.2, ex_check.1]
  exact ⟨ex_looser, ex_looserD, ex_wf, builtin_same_ret, rfl, rfl, rfl, rfl⟩

example : (check exΓ' exE).errs = [] := mono_full exΓ exΓ' exE ex_looser ex_wf builtin_same_ret
  (by rw [ex_check.1])

/-- `cex_fixed` as an instance of `mono_full` -/
example : (check cexΓ' cexE).errs = [] :=
  mono_full cexΓ cexΓ' cexE cex_looser ⟨by decide, builtin_rets_wf, fun _ _ h => by cases h⟩
    builtin_same_ret cex_accepted.1

/-- The well-formedness hypothesis of `mono_full`/(e') cannot be dropped either (in the model; a Go map cannot
have a duplicate key): with `y : {a: number; a: any}` the merge `{} && y` folds the two `a`s into `any`,
while for the opened `y` the short-cut keeps `y`, whose first `a` is `number`. -/
def wfΓ : Env :=
  { vars := [("x", .obj [] none), ("y", .obj [("a", .number), ("a", .any)] none)],
    funcs := [], specialFuncs := [], availCtx := ["x", "y"], availSpecial := [], configVars := none,
    lower := id, fromJson := fun _ => .otherErr }
def wfΓ' : Env :=
  { wfΓ with vars := [("x", .obj [] none), ("y", .obj [("a", .number), ("a", .any)] (some .any))] }
/-- `(x && y).a.foo` -/
def wfE : E := .objDeref (.objDeref (.logical .and (.var "x") (.var "y")) "a") "foo"

theorem mono_needs_wf :
    ¬ ∀ (Γ Γ' : Env) (e : E), LooserEnv Γ Γ' → SameRet Γ.funcs →
      (check Γ e).errs = [] → (check Γ' e).errs = [] := by
  intro h
  have h1 := h wfΓ wfΓ' wfE
    ⟨.cons (.refl _) (.cons (.obj (.cons (.refl _) (.cons (.refl _) .nil)) .opened) .nil),
     rfl, rfl, rfl, rfl, rfl, rfl, rfl⟩
    (fun _ _ hm => by cases hm)
    (by rw [check_eq_sem]; rfl)
  have h2 : (check wfΓ' wfE).errs = [err "deref-not-object" ["foo", tyStr .number]] := by
    rw [check_eq_sem]; rfl
  rw [h2] at h1
  cases h1

/-! ### (g) -/

/-- (g) the untrusted-input events do not depend on the types at all (so loosening never changes
script-injection reports either), whether or not the expression is accepted. -/
def events_independent_statement : Prop :=
  ∀ (Γ Γ' : Env) (e : E), LooserEnv Γ Γ' → (check Γ e).evs = (check Γ' e).evs

theorem events_independent : events_independent_statement :=
  fun _ _ e h => check_evs e h

/-- the events of `matrix.cfg.a == 1 && contains(matrix.os, 'x')` -/
example : (check exΓ exE).evs = (check exΓ' exE).evs ∧
    (check exΓ exE).evs =
      [.leave (.var "matrix"), .leave (.objDeref "cfg"), .leave (.objDeref "a"), .leave .other, .leave .other,
       .enterSafeCall, .leave (.var "matrix"), .leave (.objDeref "os"), .leave .other, .leave .safeCall,
       .leave .other] :=
  ⟨events_independent exΓ exΓ' exE ex_looser, by rw [ex_check.1]⟩

end AL.C06
