import AL.Model.ShellVisit
import AL.Lemmas.ShellVisit
/-
  C20 / C09 — the default shells are threaded through a workflow without leaks: at every step the shellcheck rule
  sees exactly (step shell, this job's default, the workflow's default, this job's runner default) and the pyflakes
  rule exactly (step shell, this job's default kind, the workflow's default kind), whatever jobs were visited before.
  Statements first (`def …_statement : Prop`), their proofs after them.
-/
namespace AL.Props.C20Shell
open AL.Proc AL.ShellVisit

/-- what the property prescribes for a step of job `j` in workflow `w` -/
def scExpected (lower : String → String) (w : WfS) (j : JobS) (s : StepS) : Option String :=
  if s.isRun then some (effectiveShell s.shell (j.shell.getD "") (w.shell.getD "") (runnerDefault lower j.labels)) else none

def pyExpected (w : WfS) (j : JobS) (s : StepS) : Bool :=
  s.isRun && isPython s.shell (if j.hasDefaultsRun then pyKind j.defShell else .unspecified)
    (if w.hasDefaultsRun then pyKind w.defShell else .unspecified)

/-- (a) shellcheck: from the initial state, every step of every job gets the prescribed shell -/
def sc_exact_statement : Prop :=
  ∀ (lower : String → String) (w : WfS),
    (scWorkflow lower ScSt.init w).2 = w.jobs.map (fun j => j.steps.map (scExpected lower w j))

/-- (b) … and the rule is back in its initial state afterwards (the next workflow starts clean) -/
def sc_resets_statement : Prop :=
  ∀ (lower : String → String) (w : WfS), (scWorkflow lower ScSt.init w).1 = ScSt.init

/-- (c) pyflakes: every step of every job gets the prescribed decision -/
def py_exact_statement : Prop :=
  ∀ (w : WfS), (pyWorkflow PySt.init w).2 = w.jobs.map (fun j => j.steps.map (pyExpected w j))

def py_resets_statement : Prop :=
  ∀ (w : WfS), (pyWorkflow PySt.init w).1 = PySt.init

/-- (d) consequently the decisions for a job do not depend on the other jobs or on the visiting order: permuting the
jobs permutes the per-job results -/
def sc_order_independent_statement : Prop :=
  ∀ (lower : String → String) (w : WfS) (js' : List JobS), w.jobs.Perm js' →
    ((scWorkflow lower ScSt.init { w with jobs := js' }).2).Perm ((scWorkflow lower ScSt.init w).2)

/-! ### proofs (helper lemmas: AL/Lemmas/ShellVisit.lean) -/

theorem scExpected_eq (lower : String → String) (w : WfS) (j : JobS) :
    scExpected lower w j = scStepSpec lower (w.shell.getD "") j := rfl

theorem pyExpected_eq (w : WfS) (j : JobS) :
    pyExpected w j = pyStepSpec (if w.hasDefaultsRun then pyKind w.defShell else .unspecified) j := rfl

/-- the prescription reads only the workflow's default shell, not its jobs -/
theorem scExpected_jobs (lower : String → String) (w : WfS) (js' : List JobS) :
    scExpected lower { w with jobs := js' } = scExpected lower w := rfl

theorem sc_exact : sc_exact_statement := by
  intro lower w
  rw [scWorkflow_init]
  rfl

theorem sc_resets : sc_resets_statement := by
  intro lower w
  rw [scWorkflow_init]

theorem py_exact : py_exact_statement := by
  intro w
  rw [pyWorkflow_init]
  rfl

theorem py_resets : py_resets_statement := by
  intro w
  rw [pyWorkflow_init]

theorem sc_order_independent : sc_order_independent_statement := by
  intro lower w js' hp
  rw [sc_exact lower w, sc_exact lower { w with jobs := js' }]
  simp only [scExpected_jobs]
  exact (hp.map _).symm

/-! ### non-vacuity: concrete workflows -/

/-- (`lower := id` is enough for labels that are already lower-case.)
default shell "python"; job 1 on Windows with `defaults.run` without a shell; job 2 without defaults -/
private def wf1 : WfS :=
  { hasDefaultsRun := true, defShell := some "python",
    jobs := [
      -- job 1: Windows runner, `defaults.run` without a shell
      { hasDefaultsRun := true, defShell := none, labels := ["windows"],
        steps := [⟨none, true⟩, ⟨some "bash", true⟩, ⟨none, false⟩] },
      -- job 2: no defaults, Linux runner: must not inherit "pwsh" from job 1
      { hasDefaultsRun := false, defShell := some "ignored", labels := ["ubuntu"],
        steps := [⟨none, true⟩] },
      -- job 3: its own default shell
      { hasDefaultsRun := true, defShell := some "sh", labels := [],
        steps := [⟨none, true⟩, ⟨some "pwsh", true⟩] }] }

/-- a workflow without defaults: the runner default shows through, and only in the Windows job -/
private def wf2 : WfS :=
  { hasDefaultsRun := false, defShell := none,
    jobs := [
      { hasDefaultsRun := false, defShell := none, labels := ["self-hosted", "windows"], steps := [⟨none, true⟩] },
      { hasDefaultsRun := false, defShell := none, labels := ["ubuntu"], steps := [⟨none, true⟩] }] }

example : scWorkflow id ScSt.init wf1
    = (ScSt.init, [[some "python", some "bash", none], [some "python"], [some "sh", some "pwsh"]]) := by
  decide +kernel

example : scWorkflow id ScSt.init wf2 = (ScSt.init, [[some "pwsh"], [some "bash"]]) := by
  decide +kernel

example : pyWorkflow PySt.init wf1 = (PySt.init, [[true, false, false], [true], [false, false]]) := by
  decide +kernel

example : pyWorkflow PySt.init wf2 = (PySt.init, [[false], [false]]) := by
  decide +kernel

/-- the `windows-` prefix form of the label (`String.startsWith` needs kernel evaluation) -/
example : scWorkflow id ScSt.init
    { hasDefaultsRun := false, defShell := none,
      jobs := [
        { hasDefaultsRun := true, defShell := none, labels := ["windows-latest"], steps := [⟨none, true⟩] },
        { hasDefaultsRun := false, defShell := none, labels := ["windowsx"], steps := [⟨none, true⟩] }] }
    = (ScSt.init, [[some "pwsh"], [some "bash"]]) := by
  decide +kernel

/-- order independence on the concrete workflow: reversing the jobs reverses the results -/
example : (scWorkflow id ScSt.init { wf2 with jobs := wf2.jobs.reverse }).2 = [[some "bash"], [some "pwsh"]] := by
  decide +kernel

end AL.Props.C20Shell
