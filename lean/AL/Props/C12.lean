import AL.Model.Facts
import AL.Model.Sema
import AL.Gen.Availability
import AL.Gen.Builtins
import AL.Lemmas.SemaAvail
/-
  C12 — context and special-function availability follows GitHub's table exactly.
  Table facts are re-checked against the regenerated tables on every run; the checker-level statement
  is about the Sema model.
-/
namespace AL.C12
open AL AL.Sema

/-- (a) the Go switch (`WorkflowKeyAvailability`) equals GitHub's table as vendored in the repository
(scripts/generate-availability/testdata/ok.md), row by row: keys, contexts, special functions. -/
theorem code_eq_docs : AL.Gen.availabilityCode = AL.Gen.availabilityDocs := rfl

/-- (b) a key that is not in the table allows nothing. -/
theorem unknown_key_allows_nothing : AL.Gen.availabilityUnknown = ([], []) := rfl

/-- (c) `SpecialFunctionNames` is the transpose of the table's third column. -/
def special_transpose_check : Bool :=
  AL.Gen.specialFuncKeys.all (fun fk =>
    AL.Gen.availabilityCode.all (fun row => fk.2.contains row.1 == row.2.2.contains fk.1)) &&
  AL.Gen.availabilityCode.all (fun row => row.2.2.all (fun f => AL.Gen.specialFuncs.contains f))

theorem special_transpose : special_transpose_check = true := by
  -- evaluated by `simp`: its procedures compare string literals as character lists, while the kernel would
  -- run the UTF-8 codec on each of them
  simp [special_transpose_check, Gen.specialFuncKeys, Gen.availabilityCode, Gen.specialFuncs]

/-- (d) every context name of the table is a built-in context, and all names are lower-case (the
checker compares `strings.ToLower(name)` with the table entries). -/
def table_names_check : Bool :=
  AL.Gen.availabilityCode.all (fun row =>
    row.2.1.all (fun c => (AL.Gen.globalVars.any (·.1 = c) || c = "jobs") && AL.Facts.lowerAscii c = c) &&
    row.2.2.all (fun f => AL.Facts.lowerAscii f = f && AL.Gen.funcSigs.any (·.1 = f)))

theorem table_names : table_names_check = true := by decide +kernel

/-- variables the checker visits (arguments of an undefined function are not visited) -/
def visitedVars (Γ : Env) : E → List String
  | .var n => [n]
  | .objDeref r _ => visitedVars Γ r
  | .arrDeref r => visitedVars Γ r
  | .index r i => visitedVars Γ i ++ visitedVars Γ r
  | .not e => visitedVars Γ e
  | .cmp _ l r => visitedVars Γ l ++ visitedVars Γ r
  | .logical _ l r => visitedVars Γ l ++ visitedVars Γ r
  | .call c args => if (lookupFuncs (Γ.lower c) Γ.funcs).isSome then visitedVarsList Γ args else []
  | _ => []
where
  visitedVarsList (Γ : Env) : List E → List String
    | [] => []
    | e :: es => visitedVars Γ e ++ visitedVarsList Γ es

/-- (e) THE PROPERTY at checker level: a context is reported as not allowed iff it is a defined context
occurring anywhere in the expression whose (folded) name is not in the available list — regardless of
where in the expression it occurs and of letter case. -/
def not_allowed_iff_statement : Prop :=
  ∀ (Γ : Env) (e : E) (n : String),
    (⟨"context-not-allowed", [n]⟩ : SemaErr) ∈ (check Γ e).errs ↔
      (n ∈ visitedVars Γ e ∧ (Ty.lookup n Γ.vars).isSome ∧ Γ.availCtx.contains (Γ.lower n) = false)

/-- called function names the checker visits -/
def visitedCalls (Γ : Env) : E → List String
  | .objDeref r _ => visitedCalls Γ r
  | .arrDeref r => visitedCalls Γ r
  | .index r i => visitedCalls Γ i ++ visitedCalls Γ r
  | .not e => visitedCalls Γ e
  | .cmp _ l r => visitedCalls Γ l ++ visitedCalls Γ r
  | .logical _ l r => visitedCalls Γ l ++ visitedCalls Γ r
  | .call c args => if (lookupFuncs (Γ.lower c) Γ.funcs).isSome then c :: visitedCallsList Γ args else []
  | _ => []
where
  visitedCallsList (Γ : Env) : List E → List String
    | [] => []
    | e :: es => visitedCalls Γ e ++ visitedCallsList Γ es

/-- (f) special functions: a call is reported as not allowed only if it is a special function outside
the available list; and every visited call of a special function outside the list whose signature
matches is reported. (Soundness direction stated for all calls.) -/
def special_not_allowed_sound_statement : Prop :=
  ∀ (Γ : Env) (e : E) (c : String),
    (⟨"special-func-not-allowed", [c]⟩ : SemaErr) ∈ (check Γ e).errs →
      c ∈ visitedCalls Γ e ∧ Γ.specialFuncs.contains (Γ.lower c) = true ∧ Γ.availSpecial.contains (Γ.lower c) = false

/-! ### proofs of (e) and (f) -/

/-- membership facts of the form `x ∈ A ↔ y ∈ A' ∧ C` pass to concatenations -/
theorem mem_append_iff_and {α β : Type} {x : α} {y : β} {A B : List α} {A' B' : List β} {C : Prop}
    (h1 : x ∈ A ↔ y ∈ A' ∧ C) (h2 : x ∈ B ↔ y ∈ B' ∧ C) : x ∈ A ++ B ↔ y ∈ A' ++ B' ∧ C := by
  rw [List.mem_append, List.mem_append, h1, h2, or_and_right]

theorem mem_append_imp_and {α β : Type} {x : α} {y : β} {A B : List α} {A' B' : List β} {C : Prop}
    (h1 : x ∈ A → y ∈ A' ∧ C) (h2 : x ∈ B → y ∈ B' ∧ C) : x ∈ A ++ B → y ∈ A' ++ B' ∧ C := by
  rw [List.mem_append, List.mem_append]
  rintro (h | h)
  · exact ⟨Or.inl (h1 h).1, (h1 h).2⟩
  · exact ⟨Or.inr (h2 h).1, (h2 h).2⟩

theorem mem_nil_iff_and {α β : Type} {x : α} {y : β} {C : Prop} : x ∈ ([] : List α) ↔ y ∈ ([] : List β) ∧ C :=
  ⟨fun h => (nomatch h), fun h => (nomatch h.1)⟩

/- `srcErrs`, `visitedVars` and `visitedCalls` recurse alike, so in most cases both sides unfold
definitionally to the recursive facts, combined by the rules for `++` above. -/
mutual
theorem src_ctx_iff (Γ : Env) (n : String) : ∀ e : E,
    (⟨"context-not-allowed", [n]⟩ : SemaErr) ∈ srcErrs Γ "context-not-allowed" e ↔
      (n ∈ visitedVars Γ e ∧ (Ty.lookup n Γ.vars).isSome = true ∧ Γ.availCtx.contains (Γ.lower n) = false)
  | .null | .bool | .num | .str _ => mem_nil_iff_and
  | .var m => by
    rw [srcErrs, mem_var_errs_ctx]; simp [visitedVars]
  | .objDeref r _ | .arrDeref r | .not r => src_ctx_iff Γ n r
  | .index r l | .cmp _ l r | .logical _ l r => mem_append_iff_and (src_ctx_iff Γ n l) (src_ctx_iff Γ n r)
  | .call c args => by
    rw [srcErrs, visitedVars]
    cases lookupFuncs (Γ.lower c) Γ.funcs with
    | none => simp
    | some sigs =>
      simp only [keep_resolveCall_ctx, List.append_nil, Option.isSome_some, if_true]
      exact src_ctx_list_iff Γ n args
theorem src_ctx_list_iff (Γ : Env) (n : String) : ∀ es : List E,
    (⟨"context-not-allowed", [n]⟩ : SemaErr) ∈ srcErrsList Γ "context-not-allowed" es ↔
      (n ∈ visitedVars.visitedVarsList Γ es ∧ (Ty.lookup n Γ.vars).isSome = true ∧
        Γ.availCtx.contains (Γ.lower n) = false)
  | [] => mem_nil_iff_and
  | e :: es => mem_append_iff_and (src_ctx_iff Γ n e) (src_ctx_list_iff Γ n es)
end

theorem not_allowed_iff : not_allowed_iff_statement := by
  intro Γ e n
  rw [mem_errs_iff Γ e _ (show "context-not-allowed" ∉ localCodes by simp [localCodes])]
  exact src_ctx_iff Γ n e

mutual
theorem src_special (Γ : Env) (c : String) : ∀ e : E,
    (⟨"special-func-not-allowed", [c]⟩ : SemaErr) ∈ srcErrs Γ "special-func-not-allowed" e →
      c ∈ visitedCalls Γ e ∧ Γ.specialFuncs.contains (Γ.lower c) = true ∧
        Γ.availSpecial.contains (Γ.lower c) = false
  | .null | .bool | .num | .str _ => fun h => nomatch h
  | .var m => by rw [srcErrs, keep_var_special]; intro h; cases h
  | .objDeref r _ | .arrDeref r | .not r => src_special Γ c r
  | .index r l | .cmp _ l r | .logical _ l r => mem_append_imp_and (src_special Γ c l) (src_special Γ c r)
  | .call c' args => by
    rw [srcErrs, visitedCalls]
    cases lookupFuncs (Γ.lower c') Γ.funcs with
    | none => intro h; cases h
    | some sigs =>
      simp only [Option.isSome_some, if_true, List.mem_append, List.mem_cons]
      rintro (h | h)
      · exact ⟨Or.inr (src_special_list Γ c args h).1, (src_special_list Γ c args h).2⟩
      · obtain ⟨h1, h2⟩ := mem_keep_resolveCall_special Γ c' sigs _ _ _ h
        simp only [err, SemaErr.mk.injEq, true_and, List.cons.injEq, and_true] at h1
        subst h1
        exact ⟨Or.inl rfl, h2⟩
theorem src_special_list (Γ : Env) (c : String) : ∀ es : List E,
    (⟨"special-func-not-allowed", [c]⟩ : SemaErr) ∈ srcErrsList Γ "special-func-not-allowed" es →
      c ∈ visitedCalls.visitedCallsList Γ es ∧ Γ.specialFuncs.contains (Γ.lower c) = true ∧
        Γ.availSpecial.contains (Γ.lower c) = false
  | [] => fun h => nomatch h
  | e :: es => mem_append_imp_and (src_special Γ c e) (src_special_list Γ c es)
end

theorem special_not_allowed_sound : special_not_allowed_sound_statement := by
  intro Γ e c h
  rw [mem_errs_iff Γ e _ (show "special-func-not-allowed" ∉ localCodes by simp [localCodes])] at h
  exact src_special Γ c e h

/-! ### concrete instances -/

/-- the environment of `jobs.<job_id>.steps.run`-like key where `matrix` is available but `secrets` is
not, and where `hashFiles` is special and unavailable; names are folded with `lowerAscii` -/
def exΓ : Env :=
  { vars := [("matrix", .obj [] (some .any)), ("secrets", .obj [] (some .string))],
    funcs := AL.Gen.funcSigs, specialFuncs := AL.Gen.specialFuncs,
    availCtx := ["matrix"], availSpecial := [], configVars := none,
    lower := AL.Facts.lowerAscii, fromJson := fun _ => .otherErr }

/-- `!(matrix.os == 'x' && contains(secrets.token, 'y'))`: `secrets` is reported although it sits inside
a call, under `&&` (narrowing) and under `!`; `matrix` is not reported -/
def exE : E :=
  .not (.logical .and (.cmp .eq (.objDeref (.var "matrix") "os") (.str "x"))
    (.call "contains" [.objDeref (.var "secrets") "token", .str "y"]))

example : (⟨"context-not-allowed", ["secrets"]⟩ : SemaErr) ∈ (check exΓ exE).errs ∧
    (⟨"context-not-allowed", ["matrix"]⟩ : SemaErr) ∉ (check exΓ exE).errs := by
  have hv : visitedVars exΓ exE = ["matrix", "secrets"] := by decide +kernel
  constructor
  · exact (not_allowed_iff exΓ exE "secrets").2 ⟨by rw [hv]; decide, by decide +kernel, by decide +kernel⟩
  · intro h
    have := ((not_allowed_iff exΓ exE "matrix").1 h).2.2
    revert this
    decide +kernel

/-- `hashFiles('x') == HashFiles('y')` where it is not available: a reported name is a visited callee
that is special and unavailable -/
example (c : String)
    (h : (⟨"special-func-not-allowed", [c]⟩ : SemaErr) ∈
      (check exΓ (.cmp .eq (.call "hashFiles" [.str "x"]) (.call "HashFiles" [.str "y"]))).errs) :
    c = "hashFiles" ∨ c = "HashFiles" := by
  have h1 := (special_not_allowed_sound exΓ _ c h).1
  have hv : visitedCalls exΓ (.cmp .eq (.call "hashFiles" [.str "x"]) (.call "HashFiles" [.str "y"]))
      = ["hashFiles", "HashFiles"] := by decide +kernel
  rw [hv] at h1
  simpa using h1

end AL.C12
