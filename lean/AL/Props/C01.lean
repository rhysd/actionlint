import AL.Gen.Panics
import AL.Props.C04
import AL.Props.C04Lex
import AL.Props.C17
import AL.Props.C18
import AL.Props.C20
/-
  C01 — no input makes actionlint panic, crash or hang.
  Lean cannot observe a Go panic. What it carries is the REASON the code does not panic or hang:
  (a) every explicit `panic("unreachable")` sits in the default branch of a switch whose cases cover
      every value that can reach it — a fact regenerated from the source with go/types;
  (b) every loop of the modelled algorithms terminates: the model functions are total Lean definitions
      (no `partial`, no fuel that can run out — see the theorems named at the end of the file).
  Runtime residue (named in the evidence): nil dereferences outside these sites, yaml.v3 internals, the
  Go runtime, memory exhaustion — exercised by the crash search of the harness, not proved.
-/
namespace AL.C01

def strip (s : String) : String := if s.toList.head? = some '*' then String.ofList (s.toList.drop 1) else s

/-- panic sites whose universe of reaching values is not a Go type of this package, with the reason why the
switch is nevertheless exhaustive -/
def panicLedger : List (String × String × String) := [
  ("expr_type.go", "typeOfJSONValue", "encoding/json decodes into `any` only as bool, float64, string, []any, map[string]any, nil"),
  ("parse.go", "nodeKindName", "yaml.v3 has exactly the five node kinds listed; the zero kind of an empty document is handled by the caller before"),
  ("rule_deprecated_commands.go", "VisitStep", "the switch is over the index of a capture group of a fixed regular expression with four alternatives")
]

/-- (a1) every switch that ends in `default: panic(…)` and whose universe is known (implementers of the
switched interface / constants of the switched type, computed by go/types) lists every member. -/
def switches_exhaustive_check : Bool :=
  AL.Gen.panicSites.all fun s =>
    let univ := s.2.2.2.2
    let cases := s.2.2.2.1.map strip
    univ.isEmpty || univ = ["<any: values produced by a third-party decoder>"] ||
      univ.all fun u => cases.contains (strip u)

theorem switches_exhaustive : switches_exhaustive_check = true := by decide +kernel

/-- (a2) every other explicit panic is in the ledger (a new `panic(` is an open obligation). -/
def panics_in_ledger_check : Bool :=
  AL.Gen.panicSites.all fun s =>
    let univ := s.2.2.2.2
    (!univ.isEmpty && univ ≠ ["<any: values produced by a third-party decoder>"] && s.2.2.1 ≠ "other") ||
      panicLedger.any fun l => l.1 = s.1 && l.2.1 = s.2.1

theorem panics_in_ledger : panics_in_ledger_check = true := by decide +kernel

/-! (b) termination facts proved for the models. No declaration of this file mentions them: the imports above
  are there for Audit/C01.lean, which prints the axioms of each of them except `cyclic_some`.
  * glob validator: every `validateNext` call consumes input — `AL.C17.step_consumes`
  * lexer: the token stream always ends with END within the fuel — `AL.C04.lex_well_ended`
  * parser: the fuel handed in by `parseToks` is never exhausted — `AL.C04.fuel_enough'`
  * needs DFS: the answer never depends on fuel — `AL.C18.fuel_irrelevant`; a cyclic graph always yields a
    diagnostic and the printing loop returns to its start — `AL.C18.cyclic_some`, `AL.C18.printed_is_cycle`
  * sanitize: length preserved, hence the loop ends within `src.length` steps — `AL.C20.sanitize_length`
  * process protocol: no deadlock with ≥ 1 permit — `AL.C20.progress` -/

end AL.C01
