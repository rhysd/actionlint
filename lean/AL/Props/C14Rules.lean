import AL.Model.Rules
/-
  C14 on AL.Rules.checkActionInputs (rule_action.go `checkAction` for an action of the bundled data set; tied by `lintwf`,
  the table regenerated from PopularActions on every run): a supplied input is reported iff the action does not declare
  it; a `missing input` report names a declared required input that is not supplied (the converse needs distinct declared
  names — the rule looks a name up with `find?` — and is `AL.C14W.missing_reported`).
-/
namespace AL.C14R
open AL.Rules AL.Yaml AL.Ast

variable (spec : String) (declared : List (String × String × Bool)) (e : ExecAction) (usesPos : AL.Rules.Pos)

/-- the two halves of the list: reports about supplied inputs, then, id by id in sorted order, reports about the
declared input that `find?` returns for the id -/
theorem mem_checkActionInputs (d : Diag) :
    d ∈ checkActionInputs spec declared e usesPos ↔
      (∃ kv ∈ e.inputs.getD [], (∀ x ∈ declared, x.1 ≠ kv.1) ∧
        d = ⟨kv.2.name.pos, "action", "input-undefined", [kv.2.name.value, spec]⟩) ∨
      (∃ id ∈ declared.foldr (fun d acc => AL.PW.insertSorted d.1 acc) [], ∃ x,
        declared.find? (·.1 = id) = some x ∧ x.2.2 = true ∧ (∀ kv ∈ e.inputs.getD [], kv.1 ≠ id) ∧
        d = ⟨usesPos, "action", "input-missing", [x.2.1, spec]⟩) := by
  simp only [checkActionInputs, List.mem_append, List.mem_flatMap]
  refine or_congr (exists_congr fun kv => and_congr_right fun _ => ?_)
    (exists_congr fun id => and_congr_right fun _ => ?_)
  · simp only [List.mem_ite_nil_left, List.mem_singleton, Bool.not_eq_true, List.any_eq_false, decide_eq_true_eq,
      ne_eq]
  · split
    · next hf =>
      simp only [List.mem_ite_nil_left, List.mem_singleton, Bool.not_eq_true, List.any_eq_false, decide_eq_true_eq,
        ne_eq, hf, Option.some.injEq, exists_eq_left', true_and]
    · next hn =>
      simp only [List.not_mem_nil, false_iff]
      rintro ⟨⟨i, name, _⟩, hf, rfl, -⟩
      exact hn i name hf

/-- every supplied input the action does not declare is reported, at the input's name -/
theorem undefined_reported (kv : String × Input) (hk : kv ∈ e.inputs.getD []) (hu : ∀ d ∈ declared, d.1 ≠ kv.1) :
    (⟨kv.2.name.pos, "action", "input-undefined", [kv.2.name.value, spec]⟩ : Diag) ∈ checkActionInputs spec declared e usesPos :=
  (mem_checkActionInputs ..).2 (.inl ⟨kv, hk, hu, rfl⟩)

/-- … and only those: an `input-undefined` report belongs to a supplied input that is not declared -/
theorem undefined_only (d : Diag) (hd : d ∈ checkActionInputs spec declared e usesPos) (hc : d.code = "input-undefined") :
    ∃ kv ∈ e.inputs.getD [], (∀ x ∈ declared, x.1 ≠ kv.1) ∧ d.pos = kv.2.name.pos ∧ d.args = [kv.2.name.value, spec] := by
  rcases (mem_checkActionInputs ..).1 hd with ⟨kv, hk, hu, rfl⟩ | ⟨_, _, _, _, _, _, rfl⟩
  · exact ⟨kv, hk, hu, rfl, rfl⟩
  · exact absurd (show "input-missing" = "input-undefined" from hc) (by decide)

/-- a `missing input` report names a declared required input that is not among the supplied ones -/
theorem missing_only (d : Diag) (hd : d ∈ checkActionInputs spec declared e usesPos) (hc : d.code = "input-missing") :
    ∃ x ∈ declared, x.2.2 = true ∧ (∀ kv ∈ e.inputs.getD [], kv.1 ≠ x.1) ∧ d.pos = usesPos ∧ d.args = [x.2.1, spec] := by
  rcases (mem_checkActionInputs ..).1 hd with ⟨_, _, _, rfl⟩ | ⟨id, _, x, hf, hr, hg, rfl⟩
  · exact absurd (show "input-undefined" = "input-missing" from hc) (by decide)
  · have hi : x.1 = id := by simpa using List.find?_some hf
    exact ⟨x, List.mem_of_find?_eq_some hf, hr, hi ▸ hg, rfl, rfl⟩

end AL.C14R
