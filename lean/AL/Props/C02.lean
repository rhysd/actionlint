import AL.Model.Lint
import AL.Lemmas.LintSort
import AL.Lemmas.Determinism
import AL.Spec.MapRangeLedger
import AL.Gen.MapRanges
/-
  C02 — output is a deterministic function of the inputs.
-/
namespace AL.C02
open AL.Lint

/-- (a) every `range` over a map in the source is in the ledger with the same order-sensitive effects, and
vice versa (regenerated on every run). -/
def ledger_check : Bool :=
  (AL.Gen.mapRanges.map fun r => (r.1, r.2.1, r.2.2.1, r.2.2.2.1, r.2.2.2.2)) =
  (AL.Spec.mapRangeLedger.map fun r => (r.1, r.2.1, r.2.2.1, r.2.2.2.1, r.2.2.2.2.1))

theorem ledger_complete : ledger_check = true := by
  -- the two projected tables are the same list of literals
  unfold ledger_check
  exact decide_eq_true rfl

/-- (b) every site has one of the four classes that make the order unobservable. -/
def classes_check : Bool :=
  AL.Spec.mapRangeLedger.all fun r =>
    let c := r.2.2.2.2.2
    c = "commutative" || c = "sorted" || c = "positions" || c = "selection"

theorem classes_known : classes_check = true := by decide +kernel

def key (d : D) : String × Nat × Nat := (d.file, d.line, d.col)

/-- (c) THE CORE of "positions": two runs that produce the same diagnostics in different orders — but
in the same order at every single position — print the same list after the stable sort. -/
def order_independent_statement : Prop :=
  ∀ l₁ l₂ : List D, l₁.Perm l₂ → (∀ k, l₁.filter (fun d => key d = k) = l₂.filter (fun d => key d = k)) →
    stableSort l₁ = stableSort l₂

/-- (d) files: the per-file results are concatenated in argument order whatever order the per-file
goroutines finished in (`ws[i]` is written by goroutine i only). -/
def files_in_argument_order_statement : Prop :=
  ∀ (results : List (List D)) (finish : List Nat), finish.Perm (List.range results.length) →
    (finish.foldl (fun (acc : List (Option (List D))) i => acc.set i (results[i]?)) (List.replicate results.length none)).filterMap id
      = results

/-! ## Proofs of (c) and (d) -/

/-- (c). The hypothesis `l₁.Perm l₂` is not even needed: agreeing on every per-position
sublist already implies it (`stableSort_eq_of_filter_key_eq`: both outputs are sorted and have the per-key sublists
of their inputs, and a sorted list is determined by its per-key sublists). C02's `key` is, by definition, the sort
key `AL.Lint.key` of the C15 lemmas. -/
theorem order_independent : order_independent_statement :=
  fun _ _ _ h => stableSort_eq_of_filter_key_eq h

/-- two "runs": the rules at positions 1:5 and 2:7 finished in different orders, but at position 1:5
`tieA` comes before `tieB` in both -/
def exRun₁ : List D :=
  [⟨"w.yml", 2, 7, "m27", "k"⟩, ⟨"w.yml", 1, 5, "tieA", "k"⟩, ⟨"a.yml", 9, 9, "m99", "k"⟩, ⟨"w.yml", 1, 5, "tieB", "k"⟩]
def exRun₂ : List D :=
  [⟨"w.yml", 1, 5, "tieA", "k"⟩, ⟨"a.yml", 9, 9, "m99", "k"⟩, ⟨"w.yml", 1, 5, "tieB", "k"⟩, ⟨"w.yml", 2, 7, "m27", "k"⟩]

example : exRun₁.Perm exRun₂ := by decide +kernel
example : stableSort exRun₁ = stableSort exRun₂ := by decide +kernel
example : stableSort exRun₁ =
    [⟨"a.yml", 9, 9, "m99", "k"⟩, ⟨"w.yml", 1, 5, "tieA", "k"⟩, ⟨"w.yml", 1, 5, "tieB", "k"⟩, ⟨"w.yml", 2, 7, "m27", "k"⟩] := by
  decide +kernel

/-- the per-position hypothesis of (c) is needed: a mere permutation that swaps two diagnostics at the
same position is visible in the output (this is why every map `range` must be in one of the four
classes of (b)). -/
theorem order_independent_needs_positions :
    ¬ ∀ l₁ l₂ : List D, l₁.Perm l₂ → stableSort l₁ = stableSort l₂ := by
  intro h
  have := h [⟨"w.yml", 1, 5, "tieA", "k"⟩, ⟨"w.yml", 1, 5, "tieB", "k"⟩]
    [⟨"w.yml", 1, 5, "tieB", "k"⟩, ⟨"w.yml", 1, 5, "tieA", "k"⟩] (by decide +kernel)
  revert this
  decide +kernel

/-- (d) (`results[i]?` is never out of range for a permutation of `range results.length`, and
the general lemma `collect_slots` does not care: it only needs every index below the length to be
written at least once). -/
theorem files_in_argument_order : files_in_argument_order_statement := by
  intro results finish hp
  apply collect_slots results finish
  intro j hj
  exact hp.mem_iff.2 (List.mem_range.2 hj)

/-- three files; the goroutines finish in the order 2, 0, 1 -/
def exResults : List (List D) :=
  [[⟨"a.yml", 1, 1, "a", "k"⟩], [], [⟨"c.yml", 3, 3, "c1", "k"⟩, ⟨"c.yml", 4, 4, "c2", "k"⟩]]

example : [2, 0, 1].Perm (List.range exResults.length) := by decide +kernel
example : ([2, 0, 1].foldl (fun (acc : List (Option (List D))) i => acc.set i (exResults[i]?))
    (List.replicate exResults.length none)).filterMap id = exResults := by decide +kernel
-- an intermediate state: after goroutines 2 and 0 only
example : ([2, 0].foldl (fun (acc : List (Option (List D))) i => acc.set i (exResults[i]?))
    (List.replicate exResults.length none)) = [some exResults[0], none, some exResults[2]] := by decide +kernel

end AL.C02
