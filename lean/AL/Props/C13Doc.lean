import AL.Lemmas.C13Path
import AL.Props.C13Parse
/-
  C13 at the level of the whole document: an unknown key inserted into a mapping inside a workflow file leaves the whole
  AST unchanged and adds exactly its own diagnostic to the diagnostics of the whole file. First for the spine
  workflow → jobs → job → steps → step (ANY step of ANY job), then for a job and its sub-sections, the top level and the
  events under `on:`; likewise a repeated key of a step, a job, `jobs:` and the top level. The section-level theorems of
  C13Parse (`step_unknown`, …) are carried to the document along the paths of `Lemmas/C13Path`, by `Path.ins` and `Path.dup` below.
  The congruence lemmas `parseX_ext` (a value node may be replaced by one on which the sub-parser gives the same result and
  the same diagnostics plus `es`: `Ext`) are the `cong` halves of the edges.
  The document-level theorems are the `…_in_document`: `step_unknown_in_document`, `job_unknown_in_document`,
  `step_duplicate_in_document`, `container_unknown_in_document`, `webhook_unknown_in_document`, … `callInput_unknown_in_document`.
-/
namespace AL.C13D3
open AL.PW AL.Yaml AL.Ast AL.C13P AL.C13D

/-- `Path.cong` for an inserted pair: the section theorems of `C13Parse` come as `Ins Q …`; along a path from the file they
say that the file with the pair inserted parses to the same AST with exactly `e` more -/
theorem Path.ins {β : Type} {cfg : Cfg} {Q : Node → R β} {ctx : Node → Node} (hp : Path (parse cfg) Q ctx)
    {tag : String} {l c : Nat} {pre post : List (Node × Node)} {kn vn : Node} {e : PErr}
    (h : Ins Q tag l c pre post kn vn e) :
    AddsExactly cfg (ctx (mapNode tag l c (pre ++ post))) (ctx (mapNode tag l c (pre ++ (kn, vn) :: post))) e :=
  hp.cong _ _ [e] h

/-- what a repeated key does to the whole file: with the pair `(kn, vn)` inserted after an earlier key with the same id
(under the section's folding) into the mapping that `ctx` places somewhere in the document, the whole AST is the same (the
first occurrence wins) and the diagnostics of the whole file are the same plus exactly one `key-duplicated` at the
repetition, which names the position of the first occurrence -/
def DupInDoc (cfg : Cfg) (ctx : Node → Node) (cs : Bool) (what tag : String) (l c : Nat) (pre post : List (Node × Node))
    (kn vn : Node) : Prop :=
  ∃ pos, firstPos cfg cs (keyId cfg cs kn) pre = some pos ∧
    AddsExactly cfg (ctx (mapNode tag l c (pre ++ post))) (ctx (mapNode tag l c (pre ++ (kn, vn) :: post))) (dupAt kn what pos cs)

theorem Path.dup {β : Type} {cfg : Cfg} {Q : Node → R β} {ctx : Node → Node} (hp : Path (parse cfg) Q ctx)
    {cs : Bool} {what tag : String} {l c : Nat} {pre post : List (Node × Node)} {kn vn : Node}
    (h : ∃ pos, firstPos cfg cs (keyId cfg cs kn) pre = some pos ∧ Ins Q tag l c pre post kn vn (dupAt kn what pos cs)) :
    DupInDoc cfg ctx cs what tag l c pre post kn vn := by
  obtain ⟨pos, hpos, hins⟩ := h
  exact ⟨pos, hpos, hp.ins hins⟩

end AL.C13D3

namespace AL.C13D
open AL.PW AL.Yaml AL.Ast AL.C13P AL.C13D3

/-! ### generic congruences -/

/-- the key loop of `parseMapping` does not look at the values: replacing the value of a key that is the first with its id
changes nothing but the `val` of that entry -/
theorem mappingLoop_value (cfg : Cfg) (what : String) (cs : Bool) (kn vn vn' : Node) (post : List (Node × Node)) :
    ∀ (pre : List (Node × Node)) (seen : List (String × Pos)),
      lookupSeen (keyId cfg cs kn) seen = none → (∀ q ∈ pre, keyId cfg cs q.1 ≠ keyId cfg cs kn) →
      ∃ kvs₁ kvs₂ es, mappingLoop cfg what cs (pre ++ (kn, vn) :: post) seen =
          (kvs₁ ++ ⟨keyId cfg cs kn, (parseString kn false).1, vn⟩ :: kvs₂, es) ∧
        mappingLoop cfg what cs (pre ++ (kn, vn') :: post) seen =
          (kvs₁ ++ ⟨keyId cfg cs kn, (parseString kn false).1, vn'⟩ :: kvs₂, es) := by
  intro pre seen hs hne
  obtain ⟨k1, k2, es, e, -, -⟩ := mappingLoop_at cfg what cs kn post pre seen hs hne
  exact ⟨k1, k2, es, e vn, e vn'⟩

/-- one iteration that differs by `es` (same state afterwards) makes the loop differ by `es` -/
theorem loop_ext {σ : Type} (step : σ → KV → σ × List PErr) (kv kv' : KV) (es : List PErr)
    (h : ∀ s, (step s kv').1 = (step s kv).1 ∧ (step s kv').2.Perm (es ++ (step s kv).2))
    (init : σ) (pre post : List KV) :
    (loop step init (pre ++ kv' :: post)).1 = (loop step init (pre ++ kv :: post)).1 ∧
    (loop step init (pre ++ kv' :: post)).2.Perm (es ++ (loop step init (pre ++ kv :: post)).2) :=
  loop_ext_at step kv kv' es init pre post (h _)

/-- a section parser of the shape `Sect.run` on a mapping node: the value of one pair may be replaced by an `Ext` value as
long as the loop body passes that on -/
theorem Sect.value_ext {σ ρ : Type} (S : Sect σ ρ) (cfg : Cfg) (what tag : String) (l c : Nat) (ae cs : Bool)
    (pre post : List (Node × Node)) (kn vn vn' : Node) (es : List PErr)
    (h : ∀ s, (S.step s ⟨keyId cfg cs kn, (parseString kn false).1, vn'⟩).1 = (S.step s ⟨keyId cfg cs kn, (parseString kn false).1, vn⟩).1 ∧
      (S.step s ⟨keyId cfg cs kn, (parseString kn false).1, vn'⟩).2.Perm (es ++ (S.step s ⟨keyId cfg cs kn, (parseString kn false).1, vn⟩).2))
    (hfirst : ∀ q ∈ pre, keyId cfg cs q.1 ≠ keyId cfg cs kn) :
    Ext (fun n => S.run cfg what n ae cs) (mapNode tag l c (pre ++ (kn, vn) :: post)) (mapNode tag l c (pre ++ (kn, vn') :: post)) es := by
  obtain ⟨k1, k2, es', -, -, e⟩ := Sect.run_at S cfg what ae cs ⟨tag, l, c, pre, kn, post⟩ hfirst
  have e : ∀ v, S.run cfg what (mapNode tag l c (pre ++ (kn, v) :: post)) ae cs = _ := e
  simp only [Ext.iff_extR, e]
  refine ((ExtR.seq_right _ ?_).seq _).seq _
  exact h _

/-! ### the spine workflow → jobs → job → steps → step -/

theorem Ext.of_ins {ρ : Type} {f : Node → R ρ} {tag : String} {l c : Nat} {pre post : List (Node × Node)} {kn vn : Node} {e : PErr}
    (h : Ins f tag l c pre post kn vn e) :
    Ext f (mapNode tag l c (pre ++ post)) (mapNode tag l c (pre ++ (kn, vn) :: post)) [e] := h

/-- `steps:` — one element replaced -/
theorem parseSteps_ext (cfg : Cfg) (tag : String) (l c : Nat) (a b : List Node) (n n' : Node) (es : List PErr)
    (h : Ext (parseStep cfg) n n' es) :
    Ext (parseSteps cfg) (seqNode tag l c (a ++ n :: b)) (seqNode tag l c (a ++ n' :: b)) es :=
  (e_steps_step cfg ⟨tag, l, c, a, b⟩).cong n n' es h

/-- a job — the value of its `steps:` key replaced -/
theorem parseJob_steps_ext (cfg : Cfg) (id : Str) (tag : String) (l c : Nat) (pre post : List (Node × Node)) (kn v v' : Node)
    (es : List PErr) (hk : GoodKey kn) (hv : kn.value = "steps") (hfirst : ∀ q ∈ pre, keyId cfg true q.1 ≠ "steps")
    (h : Ext (parseSteps cfg) v v' es) :
    Ext (parseJob cfg id) (mapNode tag l c (pre ++ (kn, v) :: post)) (mapNode tag l c (pre ++ (kn, v') :: post)) es :=
  (e_job_steps cfg id ⟨tag, l, c, pre, kn, post⟩ ⟨hk, hv, hfirst⟩).cong v v' es h

/-- `jobs:` — one job's value replaced -/
theorem parseJobs_ext (cfg : Cfg) (tag : String) (l c : Nat) (pre post : List (Node × Node)) (kn v v' : Node) (es : List PErr)
    (hfirst : ∀ q ∈ pre, keyId cfg false q.1 ≠ keyId cfg false kn)
    (h : Ext (parseJob cfg (parseString kn false).1) v v' es) :
    Ext (parseJobs cfg) (mapNode tag l c (pre ++ (kn, v) :: post)) (mapNode tag l c (pre ++ (kn, v') :: post)) es :=
  (e_jobs_job cfg ⟨tag, l, c, pre, kn, post⟩ hfirst).cong v v' es h

/-- the workflow — the value of its `jobs:` key replaced -/
theorem parse_jobs_ext (cfg : Cfg) (doc : Node) (tag : String) (l c : Nat) (pre post : List (Node × Node)) (kn v v' : Node)
    (es : List PErr) (hk : GoodKey kn) (hv : kn.value = "jobs") (hfirst : ∀ q ∈ pre, keyId cfg true q.1 ≠ "jobs")
    (h : Ext (parseJobs cfg) v v' es) :
    Ext (fun root => (workflowSect cfg doc).run cfg "workflow" root false true)
      (mapNode tag l c (pre ++ (kn, v) :: post)) (mapNode tag l c (pre ++ (kn, v') :: post)) es := by
  have hid : keyId cfg true kn = "jobs" := by rw [keyId_cs cfg kn hk, hv]
  exact Sect.value_ext (workflowSect cfg doc) cfg "workflow" tag l c false true pre post kn v v' es
    (fun s => hid ▸ (Path.of_store (workflowKey_jobs cfg s (parseString kn false).1)).cong v v' es h)
    (by intro q hq; rw [hid]; exact hfirst q hq)

/-! ### whatever happens inside one job, at the level of the whole file -/

/-- the shape of a workflow file with one distinguished job -/
def docWithJob (tW tJ : String) (lW cW lJ cJ : Nat) (preW postW preJ postJ : List (Node × Node)) (kJobs kJob : Node)
    (job : Node) : Node :=
  docNode (mapNode tW lW cW (preW ++ (kJobs, mapNode tJ lJ cJ (preJ ++ (kJob, job) :: postJ)) :: postW))

theorem job_ext_in_document (cfg : Cfg) (tW tJ : String) (lW cW lJ cJ : Nat)
    (preW postW preJ postJ : List (Node × Node)) (kJobs kJob job job' : Node) (es : List PErr)
    (hJobs : GoodKey kJobs) (hJobsV : kJobs.value = "jobs") (hJobsFirst : ∀ q ∈ preW, keyId cfg true q.1 ≠ "jobs")
    (hJobFirst : ∀ q ∈ preJ, keyId cfg false q.1 ≠ keyId cfg false kJob)
    (h : Ext (parseJob cfg (parseString kJob false).1) job job' es) :
    (parse cfg (docWithJob tW tJ lW cW lJ cJ preW postW preJ postJ kJobs kJob job')).1 =
      (parse cfg (docWithJob tW tJ lW cW lJ cJ preW postW preJ postJ kJobs kJob job)).1 ∧
    (parse cfg (docWithJob tW tJ lW cW lJ cJ preW postW preJ postJ kJobs kJob job')).2.Perm
      (es ++ (parse cfg (docWithJob tW tJ lW cW lJ cJ preW postW preJ postJ kJobs kJob job)).2) :=
  (path_job cfg ⟨tW, lW, cW, preW, kJobs, postW⟩ ⟨tJ, lJ, cJ, preJ, kJob, postJ⟩ ⟨hJobs, hJobsV, hJobsFirst⟩ hJobFirst).cong
    job job' es h

/-- **C13 for a step, at the level of the whole file.** A workflow file whose `jobs:` mapping has a job whose `steps:`
sequence has a step (a mapping with at least one pair): inserting into that step, at any place, a pair whose key is a
non-empty scalar outside the step's key set and not already present leaves the WHOLE AST unchanged and adds exactly the
`unexpected key` diagnostic at that key to the diagnostics of the WHOLE file — whatever the rest of the workflow is. -/
theorem step_unknown_in_document (cfg : Cfg)
    (tW tJ tK tS tP : String) (lW cW lJ cJ lK cK lS cS lP cP : Nat)
    (preW postW preJ postJ preK postK : List (Node × Node)) (a b : List Node) (pre post : List (Node × Node))
    (kJobs kJob kSteps kn vn : Node)
    (hJobs : GoodKey kJobs) (hJobsV : kJobs.value = "jobs") (hJobsFirst : ∀ q ∈ preW, keyId cfg true q.1 ≠ "jobs")
    (hJobFirst : ∀ q ∈ preJ, keyId cfg false q.1 ≠ keyId cfg false kJob)
    (hSteps : GoodKey kSteps) (hStepsV : kSteps.value = "steps") (hStepsFirst : ∀ q ∈ preK, keyId cfg true q.1 ≠ "steps")
    (hF : Foreign cfg stepKeys pre post kn) :
    let doc (step : Node) : Node :=
      docNode (mapNode tW lW cW (preW ++ (kJobs, mapNode tJ lJ cJ (preJ ++ (kJob,
        mapNode tK lK cK (preK ++ (kSteps, seqNode tS lS cS (a ++ step :: b)) :: postK)) :: postJ)) :: postW))
    (parse cfg (doc (mapNode tP lP cP (pre ++ (kn, vn) :: post)))).1 = (parse cfg (doc (mapNode tP lP cP (pre ++ post)))).1 ∧
    (parse cfg (doc (mapNode tP lP cP (pre ++ (kn, vn) :: post)))).2.Perm
      (unexpectedAt kn "step" stepKeys :: (parse cfg (doc (mapNode tP lP cP (pre ++ post)))).2) :=
  (path_step cfg ⟨tW, lW, cW, preW, kJobs, postW⟩ ⟨tJ, lJ, cJ, preJ, kJob, postJ⟩ ⟨tK, lK, cK, preK, kSteps, postK⟩
      ⟨tS, lS, cS, a, b⟩ ⟨hJobs, hJobsV, hJobsFirst⟩ hJobFirst ⟨hSteps, hStepsV, hStepsFirst⟩).ins
    (step_unknown cfg tP lP cP pre post kn vn hF)

/-! ### the hypotheses are satisfiable -/

/-- `on: push` / `jobs: {build: {runs-on: …, steps: [{run: echo}]}}` with `bogus: x` added to the step -/
example :
    let stepPre : List (Node × Node) := [(sc "run" 6 9, sc "echo" 6 14)]
    let doc (step : Node) : Node :=
      docNode (mapNode "!!map" 1 1 ([(sc "on" 1 1, sc "push" 1 5)] ++ (sc "jobs" 2 1, mapNode "!!map" 3 3 ([] ++ (sc "build" 3 3,
        mapNode "!!map" 4 5 ([(sc "runs-on" 4 5, sc "ubuntu-latest" 4 14)] ++ (sc "steps" 5 5, seqNode "!!seq" 6 7 ([] ++ step :: [])) :: [])) :: [])) :: []))
    (parse exCfg (doc (mapNode "!!map" 6 9 (stepPre ++ (sc "bogus" 7 9, sc "x" 7 16) :: [])))).1 =
      (parse exCfg (doc (mapNode "!!map" 6 9 (stepPre ++ [])))).1 ∧
    (parse exCfg (doc (mapNode "!!map" 6 9 (stepPre ++ (sc "bogus" 7 9, sc "x" 7 16) :: [])))).2.Perm
      (unexpectedAt (sc "bogus" 7 9) "step" stepKeys :: (parse exCfg (doc (mapNode "!!map" 6 9 (stepPre ++ [])))).2) := by
  intro stepPre doc
  exact step_unknown_in_document exCfg "!!map" "!!map" "!!map" "!!seq" "!!map" 1 1 3 3 4 5 6 7 6 9
    [(sc "on" 1 1, sc "push" 1 5)] [] [] [] [(sc "runs-on" 4 5, sc "ubuntu-latest" 4 14)] [] [] [] stepPre []
    (sc "jobs" 2 1) (sc "build" 3 3) (sc "steps" 5 5) (sc "bogus" 7 9) (sc "x" 7 16)
    (goodKey_of_scalar _ rfl (by decide)) rfl (by decide) (by decide)
    (goodKey_of_scalar _ rfl (by decide)) rfl (by decide)
    ⟨goodKey_of_scalar _ rfl (by decide), by decide, by decide, by decide⟩

/-- **C13 for a job, at the level of the whole file**: an unknown key inserted anywhere into any job -/
theorem job_unknown_in_document (cfg : Cfg)
    (tW tJ tK : String) (lW cW lJ cJ lK cK : Nat)
    (preW postW preJ postJ pre post : List (Node × Node)) (kJobs kJob kn vn : Node)
    (hJobs : GoodKey kJobs) (hJobsV : kJobs.value = "jobs") (hJobsFirst : ∀ q ∈ preW, keyId cfg true q.1 ≠ "jobs")
    (hJobFirst : ∀ q ∈ preJ, keyId cfg false q.1 ≠ keyId cfg false kJob)
    (hF : Foreign cfg jobKeys pre post kn) :
    let doc (job : Node) : Node :=
      docNode (mapNode tW lW cW (preW ++ (kJobs, mapNode tJ lJ cJ (preJ ++ (kJob, job) :: postJ)) :: postW))
    (parse cfg (doc (mapNode tK lK cK (pre ++ (kn, vn) :: post)))).1 = (parse cfg (doc (mapNode tK lK cK (pre ++ post)))).1 ∧
    (parse cfg (doc (mapNode tK lK cK (pre ++ (kn, vn) :: post)))).2.Perm
      (unexpectedAt kn "job" jobKeys :: (parse cfg (doc (mapNode tK lK cK (pre ++ post)))).2) :=
  (path_job cfg ⟨tW, lW, cW, preW, kJobs, postW⟩ ⟨tJ, lJ, cJ, preJ, kJob, postJ⟩ ⟨hJobs, hJobsV, hJobsFirst⟩ hJobFirst).ins
    (job_unknown cfg tK lK cK pre post kn vn _ hF)

/-- **a repeated key in a step, at the level of the whole file**: exactly one `key-duplicated` diagnostic more, at the
repetition; the whole AST unchanged -/
theorem step_duplicate_in_document (cfg : Cfg)
    (tW tJ tK tS tP : String) (lW cW lJ cJ lK cK lS cS lP cP : Nat)
    (preW postW preJ postJ preK postK : List (Node × Node)) (a b : List Node) (pre post : List (Node × Node))
    (kJobs kJob kSteps kn vn : Node)
    (hJobs : GoodKey kJobs) (hJobsV : kJobs.value = "jobs") (hJobsFirst : ∀ q ∈ preW, keyId cfg true q.1 ≠ "jobs")
    (hJobFirst : ∀ q ∈ preJ, keyId cfg false q.1 ≠ keyId cfg false kJob)
    (hSteps : GoodKey kSteps) (hStepsV : kSteps.value = "steps") (hStepsFirst : ∀ q ∈ preK, keyId cfg true q.1 ≠ "steps")
    (hR : Repeated cfg true pre kn) :
    let doc (step : Node) : Node :=
      docNode (mapNode tW lW cW (preW ++ (kJobs, mapNode tJ lJ cJ (preJ ++ (kJob,
        mapNode tK lK cK (preK ++ (kSteps, seqNode tS lS cS (a ++ step :: b)) :: postK)) :: postJ)) :: postW))
    ∃ pos, firstPos cfg true (keyId cfg true kn) pre = some pos ∧
    (parse cfg (doc (mapNode tP lP cP (pre ++ (kn, vn) :: post)))).1 = (parse cfg (doc (mapNode tP lP cP (pre ++ post)))).1 ∧
    (parse cfg (doc (mapNode tP lP cP (pre ++ (kn, vn) :: post)))).2.Perm
      (dupAt kn "element of \"steps\" section" pos true :: (parse cfg (doc (mapNode tP lP cP (pre ++ post)))).2) :=
  (path_step cfg ⟨tW, lW, cW, preW, kJobs, postW⟩ ⟨tJ, lJ, cJ, preJ, kJob, postJ⟩ ⟨tK, lK, cK, preK, kSteps, postK⟩
      ⟨tS, lS, cS, a, b⟩ ⟨hJobs, hJobsV, hJobsFirst⟩ hJobFirst ⟨hSteps, hStepsV, hStepsFirst⟩).dup
    (step_duplicate cfg tP lP cP pre post kn vn hR)

/-- a job — the value of one of its keys replaced by an `Ext` value, as long as `jobKey` passes that on -/
theorem parseJob_value_ext (cfg : Cfg) (id : Str) (tag : String) (l c : Nat) (pre post : List (Node × Node)) (kn v v' : Node)
    (es : List PErr) (hk : GoodKey kn) (hfirst : ∀ q ∈ pre, keyId cfg true q.1 ≠ kn.value)
    (h : ∀ s, (jobKey cfg s ⟨kn.value, (parseString kn false).1, v'⟩).1 = (jobKey cfg s ⟨kn.value, (parseString kn false).1, v⟩).1 ∧
      (jobKey cfg s ⟨kn.value, (parseString kn false).1, v'⟩).2.Perm (es ++ (jobKey cfg s ⟨kn.value, (parseString kn false).1, v⟩).2)) :
    Ext (parseJob cfg id) (mapNode tag l c (pre ++ (kn, v) :: post)) (mapNode tag l c (pre ++ (kn, v') :: post)) es := by
  have hid : keyId cfg true kn = kn.value := keyId_cs cfg kn hk
  exact Sect.value_ext (jobSect cfg id) cfg (jobWhat id.value) tag l c false true pre post kn v v' es
    (by intro s; simp only [hid, jobSect]; exact h s)
    (by intro q hq; rw [hid]; exact hfirst q hq)

/-- `defaults:` — the value of its `run:` key replaced. The final check of `parseDefaults` ("no run") is positioned at the
`defaults` node itself, whose line and column are the same for both mappings -/
theorem parseDefaults_run_ext (cfg : Cfg) (pos : Pos) (tag : String) (l c : Nat) (pre post : List (Node × Node)) (kn v v' : Node)
    (es : List PErr) (hk : AtJobKey cfg "run" pre kn)
    (h : Ext (fun n => (plain defaultsRunKey { pos := (parseString kn false).1.pos }).run cfg (sectionWhat "run") n false true) v v' es) :
    Ext (parseDefaults cfg pos) (mapNode tag l c (pre ++ (kn, v) :: post)) (mapNode tag l c (pre ++ (kn, v') :: post)) es :=
  (e_defaults_run cfg pos ⟨tag, l, c, pre, kn, post⟩ hk).cong v v' es h

/-! ### the same for the keys of the workflow itself -/

/-- the shape of a workflow file with one distinguished top-level key -/
def docWithKey (tW : String) (lW cW : Nat) (preW postW : List (Node × Node)) (kn v : Node) : Node :=
  docNode (mapNode tW lW cW (preW ++ (kn, v) :: postW))

theorem workflow_value_ext_in_document (cfg : Cfg) (tW : String) (lW cW : Nat) (preW postW : List (Node × Node)) (kn v v' : Node)
    (es : List PErr) (hk : GoodKey kn) (hfirst : ∀ q ∈ preW, keyId cfg true q.1 ≠ kn.value)
    (h : ∀ s, (workflowKey cfg s ⟨kn.value, (parseString kn false).1, v'⟩).1 = (workflowKey cfg s ⟨kn.value, (parseString kn false).1, v⟩).1 ∧
      (workflowKey cfg s ⟨kn.value, (parseString kn false).1, v'⟩).2.Perm (es ++ (workflowKey cfg s ⟨kn.value, (parseString kn false).1, v⟩).2)) :
    (parse cfg (docWithKey tW lW cW preW postW kn v')).1 = (parse cfg (docWithKey tW lW cW preW postW kn v)).1 ∧
    (parse cfg (docWithKey tW lW cW preW postW kn v')).2.Perm (es ++ (parse cfg (docWithKey tW lW cW preW postW kn v)).2) := by
  have hid : keyId cfg true kn = kn.value := keyId_cs cfg kn hk
  simp only [docWithKey, parse_docNode]
  exact Sect.value_ext (workflowSect cfg (docNode (mapNode "" 0 0 []))) cfg "workflow" tW lW cW false true preW postW kn v v' es
    (by intro s; simp only [hid, workflowSect]; exact h s)
    (by intro q hq; rw [hid]; exact hfirst q hq)

/-! ### unknown keys in the sub-sections of a job and of the workflow, at the level of the whole file -/

section
variable (cfg : Cfg) (tW tJ tK tP tR : String) (lW cW lJ cJ lK cK lP cP lR cR : Nat)
  (preW postW preJ postJ preK postK preR postR pre post : List (Node × Node)) (kJobs kJob kSec kRun kn vn : Node)

/-- the file: workflow → jobs → job → `kSec:` → a node -/
def docWithJobSection (sec : Node) : Node :=
  docWithJob tW tJ lW cW lJ cJ preW postW preJ postJ kJobs kJob (mapNode tK lK cK (preK ++ (kSec, sec) :: postK))

/-- the hypotheses that fix the path workflow → `jobs:` → one job -/
structure JobPath : Prop where
  jobs : GoodKey kJobs
  jobsV : kJobs.value = "jobs"
  jobsFirst : ∀ q ∈ preW, keyId cfg true q.1 ≠ "jobs"
  jobFirst : ∀ q ∈ preJ, keyId cfg false q.1 ≠ keyId cfg false kJob

/-- an edge from the job to the value of its key `kSec` completes the path from the file; the layout of the file is read off
the goal -/
theorem JobPath.path {cfg : Cfg} {tW tJ tK : String} {lW cW lJ cJ lK cK : Nat}
    {preW postW preJ postJ preK postK : List (Node × Node)} {kJobs kJob kSec : Node} {β : Type} {Q : Node → R β}
    (hp : JobPath cfg preW preJ kJobs kJob)
    (e : Path (parseJob cfg (parseString kJob false).1) Q (MapCtx.at ⟨tK, lK, cK, preK, kSec, postK⟩)) :
    Path (parse cfg) Q (docWithJobSection tW tJ tK lW cW lJ cJ lK cK preW postW preJ postJ preK postK kJobs kJob kSec) :=
  path_job_key cfg ⟨tW, lW, cW, preW, kJobs, postW⟩ ⟨tJ, lJ, cJ, preJ, kJob, postJ⟩ ⟨tK, lK, cK, preK, kSec, postK⟩
    ⟨hp.jobs, hp.jobsV, hp.jobsFirst⟩ hp.jobFirst e

/-- **C13 for `container:` of a job, whole file**: an unknown key inserted anywhere into the container mapping of any job
leaves the whole AST unchanged and adds exactly its own diagnostic to those of the whole file -/
theorem container_unknown_in_document (hp : JobPath cfg preW preJ kJobs kJob)
    (hSec : AtJobKey cfg "container" preK kSec) (hF : Foreign cfg containerKeys pre post kn) :
    AddsExactly cfg
      (docWithJobSection tW tJ tK lW cW lJ cJ lK cK preW postW preJ postJ preK postK kJobs kJob kSec (mapNode tP lP cP (pre ++ post)))
      (docWithJobSection tW tJ tK lW cW lJ cJ lK cK preW postW preJ postJ preK postK kJobs kJob kSec (mapNode tP lP cP (pre ++ (kn, vn) :: post)))
      (unexpectedAt kn "container" containerKeys) :=
  (hp.path (e_job_container cfg _ _ hSec)).ins (container_unknown cfg tP lP cP pre post kn vn "container" _ hF)

theorem strategy_unknown_in_document (hp : JobPath cfg preW preJ kJobs kJob)
    (hSec : AtJobKey cfg "strategy" preK kSec) (hF : Foreign cfg ["matrix", "fail-fast", "max-parallel"] pre post kn) :
    AddsExactly cfg
      (docWithJobSection tW tJ tK lW cW lJ cJ lK cK preW postW preJ postJ preK postK kJobs kJob kSec (mapNode tP lP cP (pre ++ post)))
      (docWithJobSection tW tJ tK lW cW lJ cJ lK cK preW postW preJ postJ preK postK kJobs kJob kSec (mapNode tP lP cP (pre ++ (kn, vn) :: post)))
      (unexpectedAt kn "strategy" ["matrix", "fail-fast", "max-parallel"]) :=
  (hp.path (e_job_strategy cfg _ _ hSec)).ins (strategy_unknown cfg tP lP cP pre post kn vn _ hF)

theorem job_concurrency_unknown_in_document (hp : JobPath cfg preW preJ kJobs kJob)
    (hSec : AtJobKey cfg "concurrency" preK kSec) (hF : Foreign cfg ["group", "cancel-in-progress"] pre post kn) :
    AddsExactly cfg
      (docWithJobSection tW tJ tK lW cW lJ cJ lK cK preW postW preJ postJ preK postK kJobs kJob kSec (mapNode tP lP cP (pre ++ post)))
      (docWithJobSection tW tJ tK lW cW lJ cJ lK cK preW postW preJ postJ preK postK kJobs kJob kSec (mapNode tP lP cP (pre ++ (kn, vn) :: post)))
      (unexpectedAt kn "concurrency" ["group", "cancel-in-progress"]) :=
  (hp.path (e_job_concurrency cfg _ _ hSec)).ins (concurrency_unknown cfg tP lP cP pre post kn vn _ hF)

theorem environment_unknown_in_document (hp : JobPath cfg preW preJ kJobs kJob)
    (hSec : AtJobKey cfg "environment" preK kSec) (hF : Foreign cfg ["name", "url"] pre post kn) :
    AddsExactly cfg
      (docWithJobSection tW tJ tK lW cW lJ cJ lK cK preW postW preJ postJ preK postK kJobs kJob kSec (mapNode tP lP cP (pre ++ post)))
      (docWithJobSection tW tJ tK lW cW lJ cJ lK cK preW postW preJ postJ preK postK kJobs kJob kSec (mapNode tP lP cP (pre ++ (kn, vn) :: post)))
      (unexpectedAt kn "environment" ["name", "url"]) :=
  (hp.path (e_job_environment cfg _ _ hSec)).ins (environment_unknown cfg tP lP cP pre post kn vn _ hF)

theorem runsOn_unknown_in_document (hp : JobPath cfg preW preJ kJobs kJob)
    (hSec : AtJobKey cfg "runs-on" preK kSec) (hF : Foreign cfg ["labels", "group"] pre post kn) :
    AddsExactly cfg
      (docWithJobSection tW tJ tK lW cW lJ cJ lK cK preW postW preJ postJ preK postK kJobs kJob kSec (mapNode "!!map" lP cP (pre ++ post)))
      (docWithJobSection tW tJ tK lW cW lJ cJ lK cK preW postW preJ postJ preK postK kJobs kJob kSec (mapNode "!!map" lP cP (pre ++ (kn, vn) :: post)))
      (unexpectedAt kn "runs-on" ["labels", "group"]) :=
  (hp.path (e_job_runsOn cfg _ _ hSec)).ins (runsOn_unknown cfg lP cP pre post kn vn hF)

/-- `jobs.<id>.defaults.run` -/
theorem job_defaults_run_unknown_in_document (hp : JobPath cfg preW preJ kJobs kJob)
    (hSec : AtJobKey cfg "defaults" preK kSec) (hRun : AtJobKey cfg "run" preR kRun)
    (hF : Foreign cfg ["shell", "working-directory"] pre post kn) :
    AddsExactly cfg
      (docWithJobSection tW tJ tK lW cW lJ cJ lK cK preW postW preJ postJ preK postK kJobs kJob kSec
        (mapNode tR lR cR (preR ++ (kRun, mapNode tP lP cP (pre ++ post)) :: postR)))
      (docWithJobSection tW tJ tK lW cW lJ cJ lK cK preW postW preJ postJ preK postK kJobs kJob kSec
        (mapNode tR lR cR (preR ++ (kRun, mapNode tP lP cP (pre ++ (kn, vn) :: post)) :: postR)))
      (unexpectedAt kn "run" ["shell", "working-directory"]) :=
  ((hp.path (e_job_defaults cfg _ _ hSec)).trans (e_defaults_run cfg _ ⟨tR, lR, cR, preR, kRun, postR⟩ hRun)).ins
    (defaultsRun_unknown cfg tP lP cP pre post kn vn _ hF)

/-- the workflow's own `concurrency:` -/
theorem workflow_concurrency_unknown_in_document (hk : AtJobKey cfg "concurrency" preW kSec)
    (hF : Foreign cfg ["group", "cancel-in-progress"] pre post kn) :
    AddsExactly cfg (docWithKey tW lW cW preW postW kSec (mapNode tP lP cP (pre ++ post)))
      (docWithKey tW lW cW preW postW kSec (mapNode tP lP cP (pre ++ (kn, vn) :: post)))
      (unexpectedAt kn "concurrency" ["group", "cancel-in-progress"]) :=
  (path_wf cfg ⟨tW, lW, cW, preW, kSec, postW⟩ (e_wf_concurrency cfg _ hk)).ins
    (concurrency_unknown cfg tP lP cP pre post kn vn _ hF)

/-- the workflow's own `defaults.run` -/
theorem workflow_defaults_run_unknown_in_document (hk : AtJobKey cfg "defaults" preW kSec) (hRun : AtJobKey cfg "run" preR kRun)
    (hF : Foreign cfg ["shell", "working-directory"] pre post kn) :
    AddsExactly cfg
      (docWithKey tW lW cW preW postW kSec (mapNode tR lR cR (preR ++ (kRun, mapNode tP lP cP (pre ++ post)) :: postR)))
      (docWithKey tW lW cW preW postW kSec (mapNode tR lR cR (preR ++ (kRun, mapNode tP lP cP (pre ++ (kn, vn) :: post)) :: postR)))
      (unexpectedAt kn "run" ["shell", "working-directory"]) :=
  ((path_wf cfg ⟨tW, lW, cW, preW, kSec, postW⟩ (e_wf_defaults cfg _ hk)).trans
      (e_defaults_run cfg _ ⟨tR, lR, cR, preR, kRun, postR⟩ hRun)).ins
    (defaultsRun_unknown cfg tP lP cP pre post kn vn _ hF)

end
/-! ### `on:` → one event -/

/-- `on:` (a mapping) — the value of one event replaced -/
theorem parseEvents_value_ext (cfg : Cfg) (pos : Pos) (tag : String) (l c : Nat) (pre post : List (Node × Node)) (kn v v' : Node)
    (es : List PErr) (hk : GoodKey kn) (hfirst : ∀ q ∈ pre, keyId cfg true q.1 ≠ kn.value)
    (h : ∀ s, (eventOfKey cfg s ⟨kn.value, (parseString kn false).1, v'⟩).1 = (eventOfKey cfg s ⟨kn.value, (parseString kn false).1, v⟩).1 ∧
      (eventOfKey cfg s ⟨kn.value, (parseString kn false).1, v'⟩).2.Perm (es ++ (eventOfKey cfg s ⟨kn.value, (parseString kn false).1, v⟩).2)) :
    Ext (parseEvents cfg pos) (mapNode tag l c (pre ++ (kn, v) :: post)) (mapNode tag l c (pre ++ (kn, v') :: post)) es := by
  have hid : keyId cfg true kn = kn.value := keyId_cs cfg kn hk
  have := Sect.value_ext (plain (eventOfKey cfg) []) cfg (sectionWhat "on") tag l c false true pre post kn v v' es
    (by intro s; simp only [hid, plain]; exact h s)
    (by intro q hq; rw [hid]; exact hfirst q hq)
  simp only [Ext, parseEvents_mapNode]
  exact ⟨by rw [this.1], this.2⟩

section
variable (cfg : Cfg) (tW tO tP : String) (lW cW lO cO lP cP : Nat)
  (preW postW preO postO pre post : List (Node × Node)) (kOn kEv kn vn : Node)

/-- the file: workflow → `on:` → `kEv:` → a node -/
def docWithEvent (ev : Node) : Node :=
  docWithKey tW lW cW preW postW kOn (mapNode tO lO cO (preO ++ (kEv, ev) :: postO))

/-- an edge from `on:` to the value of the event `kEv` completes the path from the file; the layout is read off the goal -/
theorem path_docEvent {cfg : Cfg} {tW tO : String} {lW cW lO cO : Nat} {preW postW preO postO : List (Node × Node)}
    {kOn kEv : Node} {β : Type} {Q : Node → R β} (hOn : AtJobKey cfg "on" preW kOn)
    (e : Path (parseEvents cfg (parseString kOn false).1.pos) Q (MapCtx.at ⟨tO, lO, cO, preO, kEv, postO⟩)) :
    Path (parse cfg) Q (docWithEvent tW tO lW cW lO cO preW postW preO postO kOn kEv) :=
  path_event cfg ⟨tW, lW, cW, preW, kOn, postW⟩ ⟨tO, lO, cO, preO, kEv, postO⟩ hOn e

theorem event_ext_in_document (hOn : AtJobKey cfg "on" preW kOn) (hEv : GoodKey kEv)
    (hEvFirst : ∀ q ∈ preO, keyId cfg true q.1 ≠ kEv.value) (ev ev' : Node) (es : List PErr)
    (h : ∀ s, (eventOfKey cfg s ⟨kEv.value, (parseString kEv false).1, ev'⟩).1 = (eventOfKey cfg s ⟨kEv.value, (parseString kEv false).1, ev⟩).1 ∧
      (eventOfKey cfg s ⟨kEv.value, (parseString kEv false).1, ev'⟩).2.Perm (es ++ (eventOfKey cfg s ⟨kEv.value, (parseString kEv false).1, ev⟩).2)) :
    (parse cfg (docWithEvent tW tO lW cW lO cO preW postW preO postO kOn kEv ev')).1 =
      (parse cfg (docWithEvent tW tO lW cW lO cO preW postW preO postO kOn kEv ev)).1 ∧
    (parse cfg (docWithEvent tW tO lW cW lO cO preW postW preO postO kOn kEv ev')).2.Perm
      (es ++ (parse cfg (docWithEvent tW tO lW cW lO cO preW postW preO postO kOn kEv ev)).2) := by
  have e1 := parseEvents_value_ext cfg (parseString kOn false).1.pos tO lO cO preO postO kEv ev ev' es hEv hEvFirst h
  exact workflow_value_ext_in_document cfg tW lW cW preW postW kOn
    (mapNode tO lO cO (preO ++ (kEv, ev) :: postO)) (mapNode tO lO cO (preO ++ (kEv, ev') :: postO)) es
    hOn.good (by rw [hOn.value]; exact hOn.first)
    (by intro s; rw [hOn.value]; exact (Path.of_store (workflowKey_on cfg s (parseString kOn false).1)).cong _ _ es e1)

/-- **a webhook event (`push:`, `pull_request:`, …), whole file**: an unknown key inserted anywhere into the event's mapping
leaves the whole AST unchanged and adds exactly its own diagnostic -/
theorem webhook_unknown_in_document (hOn : AtJobKey cfg "on" preW kOn) (hEv : GoodKey kEv)
    (hEvFirst : ∀ q ∈ preO, keyId cfg true q.1 ≠ kEv.value)
    (hWeb : kEv.value ∉ ["schedule", "workflow_dispatch", "repository_dispatch", "workflow_call"])
    (hF : Foreign cfg webhookKeys pre post kn) :
    AddsExactly cfg (docWithEvent tW tO lW cW lO cO preW postW preO postO kOn kEv (mapNode tP lP cP (pre ++ post)))
      (docWithEvent tW tO lW cW lO cO preW postW preO postO kOn kEv (mapNode tP lP cP (pre ++ (kn, vn) :: post)))
      (unexpectedAt kn kEv.value webhookKeys) := by
  -- `webhook_unknown` names the event by the parsed key, whose text is that of the node
  have hval : (parseString kEv false).1.value = kEv.value := by simpa [keyId] using keyId_cs cfg kEv hEv
  exact hval ▸ (path_docEvent hOn (e_on_webhook cfg _ _ kEv.value ⟨hEv, rfl, hEvFirst⟩ hWeb)).ins
    (webhook_unknown cfg tP lP cP pre post kn vn _ hF)

theorem dispatch_unknown_in_document (hOn : AtJobKey cfg "on" preW kOn) (hEv : AtJobKey cfg "workflow_dispatch" preO kEv)
    (hF : Foreign cfg ["inputs"] pre post kn) :
    AddsExactly cfg (docWithEvent tW tO lW cW lO cO preW postW preO postO kOn kEv (mapNode tP lP cP (pre ++ post)))
      (docWithEvent tW tO lW cW lO cO preW postW preO postO kOn kEv (mapNode tP lP cP (pre ++ (kn, vn) :: post)))
      (unexpectedAt kn "workflow_dispatch" ["inputs"]) :=
  (path_docEvent hOn (e_on_dispatch cfg _ _ hEv)).ins (dispatch_unknown cfg tP lP cP pre post kn vn _ hF)

theorem callEvent_unknown_in_document (hOn : AtJobKey cfg "on" preW kOn) (hEv : AtJobKey cfg "workflow_call" preO kEv)
    (hF : Foreign cfg ["inputs", "secrets", "outputs"] pre post kn) :
    AddsExactly cfg (docWithEvent tW tO lW cW lO cO preW postW preO postO kOn kEv (mapNode tP lP cP (pre ++ post)))
      (docWithEvent tW tO lW cW lO cO preW postW preO postO kOn kEv (mapNode tP lP cP (pre ++ (kn, vn) :: post)))
      (unexpectedAt kn "workflow_call" ["inputs", "secrets", "outputs"]) :=
  (path_docEvent hOn (e_on_call cfg _ _ hEv)).ins (callEvent_unknown cfg tP lP cP pre post kn vn _ hF)

theorem repoDispatch_unknown_in_document (hOn : AtJobKey cfg "on" preW kOn) (hEv : AtJobKey cfg "repository_dispatch" preO kEv)
    (hF : Foreign cfg ["types"] pre post kn) :
    AddsExactly cfg (docWithEvent tW tO lW cW lO cO preW postW preO postO kOn kEv (mapNode tP lP cP (pre ++ post)))
      (docWithEvent tW tO lW cW lO cO preW postW preO postO kOn kEv (mapNode tP lP cP (pre ++ (kn, vn) :: post)))
      (unexpectedAt kn "repository_dispatch" ["types"]) :=
  (path_docEvent hOn (e_on_repoDispatch cfg _ _ hEv)).ins (repoDispatch_unknown cfg tP lP cP pre post kn vn _ hF)

end
/-! ### repeated keys, at the level of the whole file (and, last, an unknown key at the top level) -/

section
variable (cfg : Cfg) (tW tJ tP : String) (lW cW lJ cJ lP cP : Nat)
  (preW postW preJ postJ pre post : List (Node × Node)) (kJobs kJob kn vn : Node)

/-- a key of a job written twice: exactly one `key-duplicated` diagnostic more, at the repetition, naming where the first
one is; the whole AST unchanged -/
theorem job_duplicate_in_document (hp : JobPath cfg preW preJ kJobs kJob) (hR : Repeated cfg true pre kn) :
    ∃ pos, firstPos cfg true (keyId cfg true kn) pre = some pos ∧
    AddsExactly cfg
      (docWithJob tW tJ lW cW lJ cJ preW postW preJ postJ kJobs kJob (mapNode tP lP cP (pre ++ post)))
      (docWithJob tW tJ lW cW lJ cJ preW postW preJ postJ kJobs kJob (mapNode tP lP cP (pre ++ (kn, vn) :: post)))
      (dupAt kn (jobWhat (parseString kJob false).1.value) pos true) :=
  (path_job cfg ⟨tW, lW, cW, preW, kJobs, postW⟩ ⟨tJ, lJ, cJ, preJ, kJob, postJ⟩ ⟨hp.jobs, hp.jobsV, hp.jobsFirst⟩ hp.jobFirst).dup
    (job_duplicate cfg tP lP cP pre post kn vn (parseString kJob false).1 hR)

/-- a job id written twice (up to letter case) under `jobs:`: the second job is reported and dropped, nothing else changes -/
theorem jobs_duplicate_in_document (hJobs : AtJobKey cfg "jobs" preW kJobs) (hR : Repeated cfg false pre kn) :
    ∃ pos, firstPos cfg false (keyId cfg false kn) pre = some pos ∧
    AddsExactly cfg (docWithKey tW lW cW preW postW kJobs (mapNode tP lP cP (pre ++ post)))
      (docWithKey tW lW cW preW postW kJobs (mapNode tP lP cP (pre ++ (kn, vn) :: post)))
      (dupAt kn (sectionWhat "jobs") pos false) :=
  (path_wf cfg ⟨tW, lW, cW, preW, kJobs, postW⟩ (e_wf_jobs cfg _ hJobs)).dup (jobs_duplicate cfg tP lP cP pre post kn vn hR)

theorem workflow_duplicate_in_document (hR : Repeated cfg true pre kn) :
    ∃ pos, firstPos cfg true (keyId cfg true kn) pre = some pos ∧
    AddsExactly cfg (docNode (mapNode tW lW cW (pre ++ post))) (docNode (mapNode tW lW cW (pre ++ (kn, vn) :: post)))
      (dupAt kn "workflow" pos true) :=
  (path_root cfg).dup (workflow_duplicate cfg tW lW cW pre post kn vn (docNode (mapNode "" 0 0 [])) hR)

theorem workflow_unknown_in_document (hF : Foreign cfg workflowKeys pre post kn) :
    AddsExactly cfg (docNode (mapNode tW lW cW (pre ++ post))) (docNode (mapNode tW lW cW (pre ++ (kn, vn) :: post)))
      (unexpectedAt kn "workflow" workflowKeys) :=
  (path_root cfg).ins (workflow_unknown cfg tW lW cW pre post kn vn (docNode (mapNode "" 0 0 [])) hF)

end
/-! ### `services.<id>` and `container.credentials` -/

/-- `services:` — the value of one service replaced -/
theorem parseServices_ext (cfg : Cfg) (tag : String) (l c : Nat) (pre post : List (Node × Node)) (kn v v' : Node) (es : List PErr)
    (hfirst : ∀ q ∈ pre, keyId cfg false q.1 ≠ keyId cfg false kn)
    (h : Ext (parseContainer cfg "services" (parseString kn false).1.pos) v v' es) :
    Ext (parseServices cfg) (mapNode tag l c (pre ++ (kn, v) :: post)) (mapNode tag l c (pre ++ (kn, v') :: post)) es :=
  (e_services_service cfg ⟨tag, l, c, pre, kn, post⟩ hfirst).cong v v' es h

section
variable (cfg : Cfg) (tW tJ tK tP tS : String) (lW cW lJ cJ lK cK lP cP lS cS : Nat)
  (preW postW preJ postJ preK postK preS postS pre post : List (Node × Node)) (kJobs kJob kSec kSvc kn vn : Node)

/-- **an unknown key in a service's container, whole file** (`jobs.<id>.services.<svc>.<key>`) -/
theorem service_unknown_in_document (hp : JobPath cfg preW preJ kJobs kJob)
    (hSec : AtJobKey cfg "services" preK kSec)
    (hSvcFirst : ∀ q ∈ preS, keyId cfg false q.1 ≠ keyId cfg false kSvc)
    (hF : Foreign cfg containerKeys pre post kn) :
    AddsExactly cfg
      (docWithJobSection tW tJ tK lW cW lJ cJ lK cK preW postW preJ postJ preK postK kJobs kJob kSec
        (mapNode tS lS cS (preS ++ (kSvc, mapNode tP lP cP (pre ++ post)) :: postS)))
      (docWithJobSection tW tJ tK lW cW lJ cJ lK cK preW postW preJ postJ preK postK kJobs kJob kSec
        (mapNode tS lS cS (preS ++ (kSvc, mapNode tP lP cP (pre ++ (kn, vn) :: post)) :: postS)))
      (unexpectedAt kn "services" containerKeys) :=
  ((hp.path (e_job_services cfg _ _ hSec)).trans (e_services_service cfg ⟨tS, lS, cS, preS, kSvc, postS⟩ hSvcFirst)).ins
    (container_unknown cfg tP lP cP pre post kn vn "services" _ hF)

end

/-- a container — the value of its `credentials:` key replaced (the "both username and password" check looks at the parsed
credentials only, which are the same) -/
theorem parseContainer_credentials_ext (cfg : Cfg) (sec : String) (pos : Pos) (tag : String) (l c : Nat)
    (pre post : List (Node × Node)) (kn v v' : Node) (es : List PErr) (hk : AtJobKey cfg "credentials" pre kn)
    (h : Ext (fun n => (plain credentialsKey { pos := (parseString kn false).1.pos }).run cfg (sectionWhat "credentials") n false true) v v' es) :
    Ext (parseContainer cfg sec pos) (mapNode tag l c (pre ++ (kn, v) :: post)) (mapNode tag l c (pre ++ (kn, v') :: post)) es :=
  (e_container_credentials cfg sec pos ⟨tag, l, c, pre, kn, post⟩ hk).cong v v' es h

theorem parseJob_container_value_ext (cfg : Cfg) (id : Str) (tag : String) (l c : Nat) (pre post : List (Node × Node)) (kn v v' : Node)
    (es : List PErr) (hk : AtJobKey cfg "container" pre kn)
    (h : Ext (parseContainer cfg "container" (parseString kn false).1.pos) v v' es) :
    Ext (parseJob cfg id) (mapNode tag l c (pre ++ (kn, v) :: post)) (mapNode tag l c (pre ++ (kn, v') :: post)) es :=
  (e_job_container cfg id ⟨tag, l, c, pre, kn, post⟩ hk).cong v v' es h

section
variable (cfg : Cfg) (tW tJ tK tP tC : String) (lW cW lJ cJ lK cK lP cP lC cC : Nat)
  (preW postW preJ postJ preK postK preC postC pre post : List (Node × Node)) (kJobs kJob kSec kCred kn vn : Node)

/-- **an unknown key in `container.credentials`, whole file** (`jobs.<id>.container.credentials.<key>`) -/
theorem credentials_unknown_in_document (hp : JobPath cfg preW preJ kJobs kJob)
    (hSec : AtJobKey cfg "container" preK kSec) (hCred : AtJobKey cfg "credentials" preC kCred)
    (hF : Foreign cfg ["username", "password"] pre post kn) :
    AddsExactly cfg
      (docWithJobSection tW tJ tK lW cW lJ cJ lK cK preW postW preJ postJ preK postK kJobs kJob kSec
        (mapNode tC lC cC (preC ++ (kCred, mapNode tP lP cP (pre ++ post)) :: postC)))
      (docWithJobSection tW tJ tK lW cW lJ cJ lK cK preW postW preJ postJ preK postK kJobs kJob kSec
        (mapNode tC lC cC (preC ++ (kCred, mapNode tP lP cP (pre ++ (kn, vn) :: post)) :: postC)))
      (unexpectedAt kn "credentials" ["username", "password"]) :=
  ((hp.path (e_job_container cfg _ _ hSec)).trans (e_container_credentials cfg _ _ ⟨tC, lC, cC, preC, kCred, postC⟩ hCred)).ins
    (credentials_unknown cfg tP lP cP pre post kn vn _ hF)

end

/-! ### `on.workflow_dispatch.inputs.<id>` -/

/-- `workflow_dispatch:` — the value of its `inputs:` key replaced -/
theorem parseDispatch_inputs_ext (cfg : Cfg) (pos : Pos) (tag : String) (l c : Nat) (pre post : List (Node × Node)) (kn v v' : Node)
    (es : List PErr) (hk : AtJobKey cfg "inputs" pre kn)
    (h : Ext (fun n => (mapSect (dispatchInput cfg)).run cfg (sectionWhat "inputs") n true false) v v' es) :
    Ext (parseWorkflowDispatchEvent cfg pos) (mapNode tag l c (pre ++ (kn, v) :: post)) (mapNode tag l c (pre ++ (kn, v') :: post)) es :=
  (e_dispatch_inputs cfg pos ⟨tag, l, c, pre, kn, post⟩ hk).cong v v' es h

section
variable (cfg : Cfg) (tW tO tE tI tP : String) (lW cW lO cO lE cE lI cI lP cP : Nat)
  (preW postW preO postO preE postE preI postI pre post : List (Node × Node)) (kOn kEv kInputs kIn kn vn : Node)

/-- **an unknown key in an input of `workflow_dispatch`, whole file** (`on.workflow_dispatch.inputs.<id>.<key>`) -/
theorem dispatchInput_unknown_in_document (hOn : AtJobKey cfg "on" preW kOn) (hEv : AtJobKey cfg "workflow_dispatch" preO kEv)
    (hInputs : AtJobKey cfg "inputs" preE kInputs)
    (hInFirst : ∀ q ∈ preI, keyId cfg false q.1 ≠ keyId cfg false kIn)
    (hF : Foreign cfg dispatchAttrKeys pre post kn) :
    AddsExactly cfg
      (docWithEvent tW tO lW cW lO cO preW postW preO postO kOn kEv
        (mapNode tE lE cE (preE ++ (kInputs, mapNode tI lI cI (preI ++ (kIn, mapNode tP lP cP (pre ++ post)) :: postI)) :: postE)))
      (docWithEvent tW tO lW cW lO cO preW postW preO postO kOn kEv
        (mapNode tE lE cE (preE ++ (kInputs, mapNode tI lI cI (preI ++ (kIn, mapNode tP lP cP (pre ++ (kn, vn) :: post)) :: postI)) :: postE)))
      (unexpectedAt kn "inputs" ["description", "required", "default"]) :=
  (((path_docEvent hOn (e_on_dispatch cfg _ _ hEv)).trans
      (e_dispatch_inputs cfg _ ⟨tE, lE, cE, preE, kInputs, postE⟩ hInputs)).trans
      (e_dispatchInputs_input cfg ⟨tI, lI, cI, preI, kIn, postI⟩ hInFirst)).ins
    (dispatchInput_unknown cfg tP lP cP pre post kn vn _ _ hF)

end

/-! ### `on.workflow_call.inputs.<id>` -/

/-- `workflow_call:` — the value of its `inputs:` key replaced -/
theorem parseCall_inputs_ext (cfg : Cfg) (pos : Pos) (tag : String) (l c : Nat) (pre post : List (Node × Node)) (kn v v' : Node)
    (es : List PErr) (hk : AtJobKey cfg "inputs" pre kn)
    (h : Ext (fun n => (plain (fun (st : List CallInput) kv => (st ++ [(callInput cfg kv).1], (callInput cfg kv).2)) []).run cfg
        (sectionWhat "inputs") n true false) v v' es) :
    Ext (parseWorkflowCallEvent cfg pos) (mapNode tag l c (pre ++ (kn, v) :: post)) (mapNode tag l c (pre ++ (kn, v') :: post)) es :=
  (e_call_inputs cfg pos ⟨tag, l, c, pre, kn, post⟩ hk).cong v v' es h

section
variable (cfg : Cfg) (tW tO tE tI tP : String) (lW cW lO cO lE cE lI cI lP cP : Nat)
  (preW postW preO postO preE postE preI postI pre post : List (Node × Node)) (kOn kEv kInputs kIn kn vn : Node)

/-- **an unknown key in an input of `workflow_call`, whole file** (`on.workflow_call.inputs.<id>.<key>`) -/
theorem callInput_unknown_in_document (hOn : AtJobKey cfg "on" preW kOn) (hEv : AtJobKey cfg "workflow_call" preO kEv)
    (hInputs : AtJobKey cfg "inputs" preE kInputs)
    (hInFirst : ∀ q ∈ preI, keyId cfg false q.1 ≠ keyId cfg false kIn)
    (hF : Foreign cfg ["description", "required", "default", "type"] pre post kn) :
    AddsExactly cfg
      (docWithEvent tW tO lW cW lO cO preW postW preO postO kOn kEv
        (mapNode tE lE cE (preE ++ (kInputs, mapNode tI lI cI (preI ++ (kIn, mapNode tP lP cP (pre ++ post)) :: postI)) :: postE)))
      (docWithEvent tW tO lW cW lO cO preW postW preO postO kOn kEv
        (mapNode tE lE cE (preE ++ (kInputs, mapNode tI lI cI (preI ++ (kIn, mapNode tP lP cP (pre ++ (kn, vn) :: post)) :: postI)) :: postE)))
      (unexpectedAt kn "inputs at workflow_call event" ["description", "required", "default", "type"]) :=
  (((path_docEvent hOn (e_on_call cfg _ _ hEv)).trans
      (e_call_inputs cfg _ ⟨tE, lE, cE, preE, kInputs, postE⟩ hInputs)).trans
      (e_callInputs_input cfg ⟨tI, lI, cI, preI, kIn, postI⟩ hInFirst)).ins
    (callInput_unknown cfg tP lP cP pre post kn vn _ _ hF)

end

end AL.C13D
