import AL.Props.C19
import AL.Props.C18Parse
import AL.Model.Rules
/-
  C19 on the model of the workflow parser (AL.PW = parse.go): the well-formedness hypothesis `RawWF` of the C19
  theorems ("member keys of every raw object are pairwise distinct, at any depth" — what a Go map gives for free and an
  association list does not) holds for EVERY raw value the parser builds, for every node tree. Hence `equals_symm`,
  `equals_refl`, `dup_exact`, `dup_count_perm`, `equals_member_perm`, `subset_member_perm`, `equals_subset` apply to
  every value of every row / include / exclude entry of every parsed matrix, with `ParsedValue` (it comes out of
  `parseMatrix`) the only hypothesis left.

  The AST's raw values ARE `AL.Matrix.Raw` (`AL.Ast.Raw` is an abbreviation), `matrixOf` copies them unchanged.
-/
namespace AL.C19P
open AL.PW AL.Yaml AL.Matrix AL.Spec
open AL.Ast hiding Raw

/-! ## (a) every raw value the parser builds is well-formed -/

theorem rawWFList_iff (l : List Raw) : RawWFList l ↔ ∀ v ∈ l, RawWF v := AL.Matrix.rawWFList_iff l

theorem rawWFProps_iff (l : List (String × Raw)) : RawWFProps l ↔ ∀ p ∈ l, RawWF p.2 := AL.Matrix.rawWFProps_iff l

mutual
/-- `parseRawYAMLValue`: whatever it returns (it returns nil only for an alias / document node) is well-formed -/
theorem rawValue_wf (cfg : Cfg) : ∀ (n : Node) (r : Raw), (rawValue cfg n).1 = some r → RawWF r
  | .mk .scalar _ v _ l c _, r, h => by
    simp only [rawValue, Option.some.injEq] at h
    subst h; simp [RawWF]
  | .mk .sequence _ _ _ l c cs, r, h => by
    simp only [rawValue, Option.some.injEq] at h
    subst h
    simp only [RawWF]
    exact rawSeq_wf cfg cs
  | .mk .mapping _ _ _ l c cs, r, h => by
    simp only [rawValue, Option.some.injEq] at h
    subst h
    simp only [RawWF]
    exact ⟨(rawProps_wf cfg cs []).1, (rawProps_wf cfg cs []).2.1⟩
  | .mk .document _ _ _ l c _, r, h => by simp [rawValue] at h
  | .mk .alias _ _ _ l c _, r, h => by simp [rawValue] at h
/-- the elements of a sequence value -/
theorem rawSeq_wf (cfg : Cfg) : ∀ (cs : List Node), RawWFList (rawSeq cfg cs).1
  | [] => by simp [rawSeq, RawWFList]
  | c :: cs => by
    simp only [rawSeq]
    cases hv : (rawValue cfg c).1 with
    | none => exact rawSeq_wf cfg cs
    | some x => exact ⟨rawValue_wf cfg c x hv, rawSeq_wf cfg cs⟩
/-- the members of a mapping value: distinct keys (a key whose folded id was seen is dropped), none of them among the
ids seen before, every member value well-formed -/
theorem rawProps_wf (cfg : Cfg) : ∀ (cs : List Node) (seen : List (String × Yaml.Pos)),
    ((rawProps cfg cs seen).1.map (·.1)).Nodup ∧ RawWFProps (rawProps cfg cs seen).1 ∧
    ∀ p ∈ (rawProps cfg cs seen).1, lookupSeen p.1 seen = none
  | [], _ => by simp [rawProps, RawWFProps]
  | [_], _ => by simp [rawProps, RawWFProps]
  | kn :: vn :: rest, seen => by
    rw [rawProps]
    simp only
    cases hl : lookupSeen (cfg.lower (parseString kn false).1.value) seen with
    | some pos => exact rawProps_wf cfg rest seen
    | none =>
      obtain ⟨hn, hw, hs⟩ := rawProps_wf cfg rest (seen ++ [(cfg.lower (parseString kn false).1.value, (parseString kn false).1.pos)])
      have hs' : ∀ p ∈ (rawProps cfg rest (seen ++ [(cfg.lower (parseString kn false).1.value, (parseString kn false).1.pos)])).1,
          lookupSeen p.1 seen = none ∧ p.1 ≠ cfg.lower (parseString kn false).1.value := by
        intro p hp
        have := hs p hp
        rw [lookupSeen_snoc] at this
        cases h2 : lookupSeen p.1 seen with
        | some q => simp [h2] at this
        | none =>
          refine ⟨rfl, fun e => ?_⟩
          rw [h2] at this
          simp [e] at this
      cases hv : (rawValue cfg vn).1 with
      | none => exact ⟨hn, hw, fun p hp => (hs' p hp).1⟩
      | some x =>
        refine ⟨?_, ⟨rawValue_wf cfg vn x hv, hw⟩, ?_⟩
        · simp only [List.map_cons, List.nodup_cons, List.mem_map, not_exists, not_and]
          exact ⟨fun p hp e => (hs' p hp).2 e, hn⟩
        · intro p hp
          rcases List.mem_cons.1 hp with rfl | hp
          · exact hl
          · exact (hs' p hp).1
end

/-- **(a)** `parseRawYAMLValue` (`rawValue`) never builds an ill-formed value: for every configuration and every node. -/
theorem parseRawYAMLValue_wf (cfg : Cfg) (n : Node) : ∀ r, (rawValue cfg n).1 = some r → RawWF r :=
  rawValue_wf cfg n

theorem rawSeq_wf' (cfg : Cfg) (cs : List Node) : ∀ v ∈ (rawSeq cfg cs).1, RawWF v :=
  (rawWFList_iff _).1 (rawSeq_wf cfg cs)

/-- the nil result is reserved to alias and document nodes (which `parseRawYAMLValue` reports) -/
theorem rawValue_none_iff (cfg : Cfg) (n : Node) :
    (rawValue cfg n).1 = none ↔ (n.kind = .alias ∨ n.kind = .document) := by
  obtain ⟨k, t, v, q, l, c, cs⟩ := n
  cases k <;> simp [rawValue, Node.kind]

/-! ### examples for (a): a mapping value with a repeated (case-folded) key, nested in a sequence -/

def exCfg : Cfg := ⟨asciiLower, fun _ => none, fun _ => .err⟩
def sc (v : String) (l c : Nat) : Node := .mk .scalar "!!str" v false l c []
/-- `[ {K: x, k: y, j: {A: 1, a: 2}} ]` -/
def exNode : Node :=
  .mk .sequence "!!seq" "" false 1 1
    [.mk .mapping "!!map" "" false 1 3
      [sc "K" 1 4, sc "x" 1 7, sc "k" 1 10, sc "y" 1 13, sc "j" 1 16,
       .mk .mapping "!!map" "" false 1 19 [sc "A" 1 20, sc "1" 1 23, sc "a" 1 26, sc "2" 1 29]]]

/-- the repeated keys `k` and `a` are dropped (and reported): first occurrence wins -/
example : rawValue exCfg exNode =
    (some (.arr [.obj [("k", .str "x" ⟨1, 7⟩), ("j", .obj [("a", .str "1" ⟨1, 23⟩)] ⟨1, 19⟩)] ⟨1, 3⟩] ⟨1, 1⟩),
     [⟨⟨1, 10⟩, "key-duplicated", ["k", "matrix row value", "line:1,col:4", ". note that this key is case insensitive"]⟩,
      ⟨⟨1, 26⟩, "key-duplicated", ["a", "matrix row value", "line:1,col:20", ". note that this key is case insensitive"]⟩]) := by
  rfl
example : ∀ r, (rawValue exCfg exNode).1 = some r → RawWF r := parseRawYAMLValue_wf exCfg exNode
example : ∀ v ∈ (rawSeq exCfg exNode.content).1, RawWF v := rawSeq_wf' exCfg _
example : (rawValue exCfg (.mk .alias "" "" false 1 1 [])).1 = none := (rawValue_none_iff _ _).2 (Or.inl rfl)

/-! ## (b) every value of every parsed matrix is well-formed

`AstMatWF` is stated on the AST (`AL.Ast.Matrix`): the values of every row and of every include / exclude assignment are
well-formed, and — as for a Go map — the row ids are pairwise distinct (`parseMatrix` assigns `Rows[kv.id]`) and the
ids of the assignments of one combination are pairwise distinct (`parseMapping`). -/

def AstCombosWF (c : Option MatrixCombinations) : Prop :=
  ∀ cs, c = some cs → ∀ l, cs.combinations = some l → ∀ x ∈ l, ∀ as, x.assigns = some as →
    (as.map (·.1)).Nodup ∧ ∀ p ∈ as, RawWF p.2.value

def AstMatWF (m : Ast.Matrix) : Prop :=
  (∀ rows, m.rows = some rows →
    (rows.map (·.1)).Nodup ∧ ∀ p ∈ rows, ∀ vs, p.2.values = some vs → ∀ v ∈ vs, RawWF v) ∧
  AstCombosWF m.incl ∧ AstCombosWF m.excl

/-- `m[k] = v` on an association list: the key list is unchanged (`k` present) or `k` is appended -/
theorem setAssoc_keys {β : Type} (k : String) (v : β) : ∀ (l : List (String × β)),
    (setAssoc k v l).map (·.1) = if k ∈ l.map (·.1) then l.map (·.1) else l.map (·.1) ++ [k]
  | [] => by simp [setAssoc]
  | (k', v') :: rest => by
    simp only [setAssoc]
    split
    · rename_i hk; subst hk; simp
    · rename_i hk
      have hk' : ¬ k = k' := fun e => hk e.symm
      simp only [List.map_cons, setAssoc_keys k v rest, List.mem_cons, hk', false_or]
      split <;> simp

theorem setAssoc_nodup {β : Type} (k : String) (v : β) (l : List (String × β)) (h : (l.map (·.1)).Nodup) :
    ((setAssoc k v l).map (·.1)).Nodup := by
  rw [setAssoc_keys]
  split
  · exact h
  · rename_i hk
    rw [List.nodup_append]
    exact ⟨h, by simp, fun a ha b hb => by simp at hb; subst hb; exact fun e => hk (e ▸ ha)⟩

/-- the assignments of one combination: ids are ids of the mapping entries, in order; values are well-formed -/
theorem matrixAssigns_wf (cfg : Cfg) : ∀ (kvs : List KV),
    ((matrixAssigns cfg kvs).1.map (·.1)).Sublist (kvs.map (·.id)) ∧
    ∀ p ∈ (matrixAssigns cfg kvs).1, RawWF p.2.value
  | [] => by simp [matrixAssigns]
  | kv :: rest => by
    obtain ⟨h1, h2⟩ := matrixAssigns_wf cfg rest
    simp only [matrixAssigns]
    cases hv : (rawValue cfg kv.val).1 with
    | none => exact ⟨h1.trans (List.sublist_cons_self _ _), h2⟩
    | some x =>
      refine ⟨by simpa using h1.cons_cons kv.id, ?_⟩
      intro p hp
      rcases List.mem_cons.1 hp with rfl | hp
      · exact rawValue_wf cfg kv.val x hv
      · exact h2 p hp

theorem matrixCombos_wf (cfg : Cfg) (sec : String) : ∀ (cs : List Node),
    ∀ x ∈ (PW.matrixCombos cfg sec cs).1, ∀ as, x.assigns = some as →
      (as.map (·.1)).Nodup ∧ ∀ p ∈ as, RawWF p.2.value
  | [], x, h => by simp [PW.matrixCombos] at h
  | c :: cs, x, h => by
    simp only [PW.matrixCombos] at h
    split at h
    · cases he : (parseExpression c "mapping of matrix combination").1 with
      | none => rw [he] at h; exact matrixCombos_wf cfg sec cs x h
      | some s =>
        rw [he] at h
        rcases List.mem_cons.1 h with rfl | h
        · intro as e; cases e
        · exact matrixCombos_wf cfg sec cs x h
    · rcases List.mem_cons.1 h with rfl | h
      · intro as e
        simp only [Option.some.injEq] at e
        subst e
        obtain ⟨h1, h2⟩ := matrixAssigns_wf cfg (parseMapping cfg ("element in \"" ++ sec ++ "\" section") c false false).1
        exact ⟨h1.nodup (C03P.parseMapping_nodup cfg _ c false false), h2⟩
      · exact matrixCombos_wf cfg sec cs x h

/-- `parseMatrixCombinations` (`include:` / `exclude:`) -/
theorem parseMatrixCombinations_wf (cfg : Cfg) (sec : String) (n : Node) :
    AstCombosWF (parseMatrixCombinations cfg sec n).1 := by
  intro cs hc l hl x hx as ha
  simp only [parseMatrixCombinations] at hc
  split at hc
  · simp only [Option.some.injEq] at hc; subst hc; cases hl
  · split at hc
    · cases hc
    · simp only [Option.some.injEq] at hc
      subst hc
      simp only [Option.some.injEq] at hl
      subst hl
      exact matrixCombos_wf cfg sec n.content x hx as ha

/-- the rows of a well-formed matrix, absent read as none -/
theorem AstMatWF.rows {m : Ast.Matrix} (h : AstMatWF m) :
    ((m.rows.getD []).map (·.1)).Nodup ∧ ∀ p ∈ m.rows.getD [], ∀ vs, p.2.values = some vs → ∀ v ∈ vs, RawWF v := by
  cases hrows : m.rows with
  | none => exact ⟨List.nodup_nil, fun _ hp => nomatch hp⟩
  | some rows => exact h.1 rows hrows

theorem matrixKey_wf (cfg : Cfg) (st : Ast.Matrix) (kv : KV) (h : AstMatWF st) : AstMatWF (matrixKey cfg st kv).1 := by
  have h0 := h.rows
  obtain ⟨hr, hi, he⟩ := h
  have hset : ∀ (row : MatrixRow), (∀ vs, row.values = some vs → ∀ v ∈ vs, RawWF v) →
      ∀ rows, some (setAssoc kv.id row (st.rows.getD [])) = some rows →
        (rows.map (·.1)).Nodup ∧ ∀ p ∈ rows, ∀ vs, p.2.values = some vs → ∀ v ∈ vs, RawWF v := by
    intro row hrow rows e
    simp only [Option.some.injEq] at e
    subst e
    refine ⟨setAssoc_nodup _ _ _ h0.1, fun p hp => ?_⟩
    rcases setAssoc_mem _ _ _ p hp with rfl | hp
    · exact hrow
    · exact h0.2 p hp
  simp only [matrixKey]
  split
  · exact ⟨hr, parseMatrixCombinations_wf cfg "include" kv.val, he⟩
  · exact ⟨hr, hi, parseMatrixCombinations_wf cfg "exclude" kv.val⟩
  · split
    · exact ⟨hset _ (fun vs e => by cases e), hi, he⟩
    · split
      · exact ⟨hr, hi, he⟩
      · refine ⟨hset _ (fun vs e => ?_), hi, he⟩
        simp only [Option.some.injEq] at e
        subst e
        exact rawSeq_wf' cfg _

/-- **`parseMatrix`**: the matrix of every node is well-formed -/
theorem parseMatrix_wf (cfg : Cfg) (pos : Yaml.Pos) (n : Node) : AstMatWF (parseMatrix cfg pos n).1 := by
  simp only [parseMatrix]
  split
  · exact ⟨fun rows e => (by cases e), fun cs e => (by cases e), fun cs e => (by cases e)⟩
  · apply C13P.loop_inv (matrixKey cfg) AstMatWF
    · intro s kv _ hs; exact matrixKey_wf cfg s kv hs
    · exact ⟨fun rows e => (by simp only [Option.some.injEq] at e; subst e; simp),
        fun cs e => (by cases e), fun cs e => (by cases e)⟩

/-! ### the same on the rule's view of the matrix (`AL.Rules.matrixOf`, what `AL.Matrix.check` is run on) -/

/-- the assignment lists of an `include:` / `exclude:` section -/
def assignsOf : Option Combos → List (List Assign)
  | some (.list cs) => cs.filterMap fun c => match c with | .assigns as => some as | .expr => none
  | _ => []

/-- every raw value of a matrix: the values of the rows, of the include and of the exclude assignments -/
def valuesOf (m : Mat) : List Matrix.Raw :=
  (m.rows.flatMap fun r => r.values.getD []) ++
  ((assignsOf m.incl).flatMap fun as => as.map (·.value)) ++
  ((assignsOf m.excl).flatMap fun as => as.map (·.value))

/-- what a Go `Matrix` value guarantees and the association-list model does not: distinct row ids, distinct assignment ids
within a combination, distinct member keys inside every raw value -/
def MatWF (m : Mat) : Prop :=
  (m.rows.map (·.id)).Nodup ∧
  (∀ as ∈ assignsOf m.incl ++ assignsOf m.excl, (as.map (·.id)).Nodup) ∧
  ∀ v ∈ valuesOf m, RawWF v

theorem assignsOf_matrixCombos (c : Option MatrixCombinations) (h : AstCombosWF c) :
    ∀ as ∈ assignsOf (Rules.matrixCombos c), (as.map (·.id)).Nodup ∧ ∀ a ∈ as, RawWF a.value := by
  intro as has
  cases c with
  | none => simp [Rules.matrixCombos, assignsOf] at has
  | some cs =>
    simp only [Rules.matrixCombos, Option.map_some] at has
    split at has
    · simp [assignsOf] at has
    · simp only [assignsOf, List.mem_filterMap, List.mem_map] at has
      obtain ⟨co, ⟨x, hx, rfl⟩, hco⟩ := has
      split at hco
      · rename_i as' heq
        simp only [Option.some.injEq] at hco
        subst hco
        split at heq
        · cases heq
        · simp only [Combo.assigns.injEq] at heq
          subst heq
          cases hl : cs.combinations with
          | none => rw [hl] at hx; simp at hx
          | some l =>
            rw [hl] at hx
            simp only [Option.getD_some] at hx
            cases hxa : x.assigns with
            | none => simp
            | some xs =>
              obtain ⟨h1, h2⟩ := h cs rfl l hl x hx xs hxa
              simp only [Option.getD_some, List.map_map]
              refine ⟨by simpa [Function.comp_def] using h1, ?_⟩
              intro a ha
              obtain ⟨p, hp, rfl⟩ := List.mem_map.1 ha
              exact h2 p hp
      · cases hco

theorem matrixOf_wf (m : Ast.Matrix) (h : AstMatWF m) : MatWF (Rules.matrixOf m) := by
  have h0 := h.rows
  obtain ⟨hr, hi, he⟩ := h
  refine ⟨?_, ?_, ?_⟩
  · simpa [Rules.matrixOf, Function.comp_def] using h0.1
  · intro as has
    simp only [Rules.matrixOf, List.mem_append] at has
    rcases has with has | has
    · exact (assignsOf_matrixCombos _ hi as has).1
    · exact (assignsOf_matrixCombos _ he as has).1
  · intro v hv
    simp only [valuesOf, Rules.matrixOf, List.mem_append, List.mem_flatMap, List.mem_map] at hv
    rcases hv with (⟨r, ⟨p, hp, rfl⟩, hv⟩ | ⟨as, has, a, ha, rfl⟩) | ⟨as, has, a, ha, rfl⟩
    · simp only at hv
      split at hv
      · simp at hv
      · cases hvs : p.2.values with
        | none => rw [hvs] at hv; simp at hv
        | some vs => rw [hvs] at hv; exact h0.2 p hp vs hvs v (by simpa using hv)
    · exact (assignsOf_matrixCombos _ hi as has).2 a ha
    · exact (assignsOf_matrixCombos _ he as has).2 a ha

/-- **(b)** the matrix `RuleMatrix` checks, for every `matrix:` node: row ids distinct, assignment ids distinct, every
value well-formed. -/
theorem parsed_matrix_wf (cfg : Cfg) (pos : Yaml.Pos) (n : Node) : MatWF (Rules.matrixOf (parseMatrix cfg pos n).1) :=
  matrixOf_wf _ (parseMatrix_wf cfg pos n)

theorem parsed_values_wf (cfg : Cfg) (pos : Yaml.Pos) (n : Node) :
    ∀ v ∈ valuesOf (Rules.matrixOf (parseMatrix cfg pos n).1), RawWF v :=
  (parsed_matrix_wf cfg pos n).2.2

/-! ### examples for (b): a matrix whose row value and whose include entry repeat a key -/

/-- `{ os: [ {K: x, k: y}, {k: x}, u, u ], include: [ {A: {B: 1, b: 2}, a: z} ], exclude: [ {os: {k: x}} ] }` -/
def exMatrixNode : Node :=
  .mk .mapping "!!map" "" false 2 1
    [sc "os" 2 1, .mk .sequence "!!seq" "" false 2 5
        [.mk .mapping "!!map" "" false 2 6 [sc "K" 2 7, sc "x" 2 10, sc "k" 2 13, sc "y" 2 16],
         .mk .mapping "!!map" "" false 2 20 [sc "k" 2 21, sc "x" 2 24], sc "u" 2 28, sc "u" 2 31],
     sc "include" 3 1, .mk .sequence "!!seq" "" false 3 10
        [.mk .mapping "!!map" "" false 3 11
          [sc "A" 3 12, .mk .mapping "!!map" "" false 3 15 [sc "B" 3 16, sc "1" 3 19, sc "b" 3 22, sc "2" 3 25],
           sc "a" 3 30, sc "z" 3 33]],
     sc "exclude" 4 1, .mk .sequence "!!seq" "" false 4 10
        [.mk .mapping "!!map" "" false 4 11
          [sc "os" 4 12, .mk .mapping "!!map" "" false 4 16 [sc "k" 4 17, sc "x" 4 20]]]]

def exMat : Mat := Rules.matrixOf (parseMatrix exCfg ⟨1, 1⟩ exMatrixNode).1

def exV0 : Matrix.Raw := .obj [("k", .str "x" ⟨2, 10⟩)] ⟨2, 6⟩
def exV1 : Matrix.Raw := .obj [("k", .str "x" ⟨2, 24⟩)] ⟨2, 20⟩
def exVals : List Matrix.Raw := [exV0, exV1, .str "u" ⟨2, 28⟩, .str "u" ⟨2, 31⟩]
def exRow : Row := ⟨"os", some exVals⟩
def exInc : Matrix.Raw := .obj [("b", .str "1" ⟨3, 19⟩)] ⟨3, 15⟩
def exExc : Matrix.Raw := .obj [("k", .str "x" ⟨4, 20⟩)] ⟨4, 16⟩

/-- the parsed matrix, evaluated once -/
theorem exMat_eq : exMat = ⟨⟨1, 1⟩, [exRow], some (.list [.assigns [⟨"a", ⟨3, 12⟩, exInc⟩]]),
    some (.list [.assigns [⟨"os", ⟨4, 12⟩, exExc⟩]])⟩ := by rfl
theorem exMat_rows : exMat.rows = [exRow] := by rw [exMat_eq]
theorem exMat_values : valuesOf exMat = exVals ++ [exInc, exExc] := by rw [exMat_eq]; rfl
example : valuesOf exMat = exVals ++ [exInc, exExc] := exMat_values
theorem exRow_mem : exRow ∈ exMat.rows := by
  rw [exMat_rows]
  exact List.mem_singleton_self _
theorem exRow_mem' : exRow ∈ (Rules.matrixOf (parseMatrix exCfg ⟨1, 1⟩ exMatrixNode).1).rows := exRow_mem
example : MatWF exMat := parsed_matrix_wf exCfg ⟨1, 1⟩ exMatrixNode
example : ∀ v ∈ valuesOf exMat, RawWF v := parsed_values_wf exCfg ⟨1, 1⟩ exMatrixNode
example : AstMatWF (parseMatrix exCfg ⟨1, 1⟩ exMatrixNode).1 := parseMatrix_wf exCfg ⟨1, 1⟩ exMatrixNode
example : AstCombosWF (parseMatrixCombinations exCfg "include" (.mk .sequence "!!seq" "" false 3 10 [])).1 :=
  parseMatrixCombinations_wf _ _ _

/-! ## (b′) the C19 theorems for every parsed matrix, with no well-formedness hypothesis -/

/-- `v` is a value (of a row, of an `include` or of an `exclude` assignment) of the matrix the rule is run on for some
`matrix:` node -/
def ParsedValue (v : Matrix.Raw) : Prop :=
  ∃ (cfg : Cfg) (pos : Yaml.Pos) (n : Node), v ∈ valuesOf (Rules.matrixOf (parseMatrix cfg pos n).1)

theorem ParsedValue.wf {v : Matrix.Raw} (h : ParsedValue v) : RawWF v := by
  obtain ⟨cfg, pos, n, hv⟩ := h
  exact parsed_values_wf cfg pos n v hv

theorem row_values_mem (m : Mat) (r : Row) (hr : r ∈ m.rows) (vs : List Matrix.Raw) (hvs : r.values = some vs) :
    ∀ v ∈ vs, v ∈ valuesOf m := by
  intro v hv
  simp only [valuesOf, List.mem_append, List.mem_flatMap]
  exact Or.inl (Or.inl ⟨r, hr, by simpa [hvs] using hv⟩)

/-- the values of a row of a parsed matrix -/
theorem parsed_row_wf (cfg : Cfg) (pos : Yaml.Pos) (n : Node) (r : Row)
    (hr : r ∈ (Rules.matrixOf (parseMatrix cfg pos n).1).rows) (vs : List Matrix.Raw) (hvs : r.values = some vs) :
    ∀ v ∈ vs, RawWF v :=
  fun v hv => parsed_values_wf cfg pos n v (row_values_mem _ r hr vs hvs v hv)

/-- C19 (a) for parsed values -/
theorem parsed_equals_iff (a b : Matrix.Raw) (ha : ParsedValue a) (hb : ParsedValue b) :
    equals a b = true ↔ Same a b := C19.equals_iff a b ha.wf hb.wf

/-- C19 (b): `Equals` is symmetric on everything the parser produces -/
theorem parsed_equals_symm (a b : Matrix.Raw) (ha : ParsedValue a) (hb : ParsedValue b) :
    equals a b = equals b a := C19.equals_symm a b ha.wf hb.wf

/-- C19 (c): reflexive, transitive -/
theorem parsed_equals_refl (a : Matrix.Raw) (ha : ParsedValue a) : equals a a = true := C19.equals_refl a ha.wf

theorem parsed_equals_trans (a b c : Matrix.Raw) (ha : ParsedValue a) (hb : ParsedValue b) (hc : ParsedValue c) :
    equals a b = true → equals b c = true → equals a c = true := C19.equals_trans a b c ha.wf hb.wf hc.wf

/-- C19 (d) for every row of every parsed matrix: value `i` of the row is reported iff an earlier value of the row is equal
to it, or the same holds of another value at its position (a report carries the position only). -/
theorem parsed_dup_exact (cfg : Cfg) (pos : Yaml.Pos) (n : Node) (r : Row)
    (hr : r ∈ (Rules.matrixOf (parseMatrix cfg pos n).1).rows) (vs : List Matrix.Raw) (hvs : r.values = some vs) :
    ∀ i (hi : i < vs.length),
      (∃ q, Diag.dup (vs[i]).pos r.id q ∈ dupRow r.id vs [] ∧ True) ↔
      (∃ j, ∃ (hj : j < i), equals (vs[j]'(Nat.lt_trans hj hi)) vs[i] = true) ∨
      (∃ k, ∃ (hk : k < vs.length), k ≠ i ∧ (vs[k]).pos = (vs[i]).pos ∧
        ∃ j, ∃ (hj : j < k), equals (vs[j]'(Nat.lt_trans hj hk)) vs[k] = true) :=
  C19.dup_exact r.id vs (parsed_row_wf cfg pos n r hr vs hvs)

/-- the same in the declarative vocabulary: "reported exactly for the values that are `Same` (structurally equal modulo
member order, positions ignored) as an earlier value of the row" -/
theorem parsed_dup_exact_same (cfg : Cfg) (pos : Yaml.Pos) (n : Node) (r : Row)
    (hr : r ∈ (Rules.matrixOf (parseMatrix cfg pos n).1).rows) (vs : List Matrix.Raw) (hvs : r.values = some vs) :
    ∀ i (hi : i < vs.length),
      (∃ q, Diag.dup (vs[i]).pos r.id q ∈ dupRow r.id vs []) ↔
      (∃ j, ∃ (hj : j < i), Same (vs[j]'(Nat.lt_trans hj hi)) vs[i]) ∨
      (∃ k, ∃ (hk : k < vs.length), k ≠ i ∧ (vs[k]).pos = (vs[i]).pos ∧
        ∃ j, ∃ (hj : j < k), Same (vs[j]'(Nat.lt_trans hj hk)) vs[k]) := by
  intro i hi
  have := parsed_dup_exact cfg pos n r hr vs hvs i hi
  simp only [and_true, equals_iff_same] at this
  exact this

/-- C19 (d′), index formulation; `_hr` and `_hvs` are not used, it holds of every list `vs` -/
theorem parsed_dup_exact' (cfg : Cfg) (pos : Yaml.Pos) (n : Node) (r : Row)
    (_hr : r ∈ (Rules.matrixOf (parseMatrix cfg pos n).1).rows) (vs : List Matrix.Raw) (_hvs : r.values = some vs) :
    dupRow r.id vs [] = (List.range vs.length).filterMap (dupAt r.id vs) ∧
    (∀ i (hi : i < vs.length),
      (dupAt r.id vs i).isSome = true ↔
        ∃ j, ∃ (hj : j < i), Same (vs[j]'(Nat.lt_trans hj hi)) vs[i]) := by
  refine ⟨(C19.dup_exact' r.id vs).1, fun i hi => ?_⟩
  have := (C19.dup_exact' r.id vs).2.1 i hi
  simp only [equals_iff_same] at this
  exact this

/-- C19 (e): the number of duplicate reports of a row of a parsed matrix does not depend on the order of its values -/
theorem parsed_dup_count_perm (cfg : Cfg) (pos : Yaml.Pos) (n : Node) (r : Row)
    (hr : r ∈ (Rules.matrixOf (parseMatrix cfg pos n).1).rows) (vs : List Matrix.Raw) (hvs : r.values = some vs)
    (ws : List Matrix.Raw) (hp : vs.Perm ws) :
    (dupRow r.id vs []).length = (dupRow r.id ws []).length :=
  C19.dup_count_perm r.id vs ws (parsed_row_wf cfg pos n r hr vs hvs) hp

/-- C19 (f): a parsed mapping value may be replaced by any reordering of its members, on either side of `Equals` -/
theorem parsed_equals_member_perm (ps qs : List (String × Matrix.Raw)) (p : P) (b : Matrix.Raw)
    (h : ParsedValue (.obj ps p)) (hp : ps.Perm qs) :
    equals (.obj ps p) b = equals (.obj qs p) b ∧ equals b (.obj ps p) = equals b (.obj qs p) :=
  C19.equals_member_perm ps qs p b h.wf hp

/-- C19 (f), "at any depth" -/
theorem parsed_equals_congr_same (a a' b : Matrix.Raw) (ha : ParsedValue a) (ha' : ParsedValue a') (h : Same a a') :
    equals a b = equals a' b ∧ equals b a = equals b a' :=
  C19.equals_congr_same a a' b ha.wf ha'.wf h

/-- C19 (g) -/
theorem parsed_subset_member_perm (ps qs : List (String × Matrix.Raw)) (p : P) (b : Matrix.Raw)
    (h : ParsedValue (.obj ps p)) (hp : ps.Perm qs) :
    subset (.obj ps p) b = subset (.obj qs p) b ∧ subset b (.obj ps p) = subset b (.obj qs p) :=
  C19.subset_member_perm ps qs p b h.wf hp

/-- C19 (g) inside the exclude check: whether a row matches a filter (`row.any (isYAMLValueSubset · filter)`) does not change
when the members of a parsed mapping value of the row are reordered … -/
theorem parsed_exclude_match_value_perm (ps qs : List (String × Matrix.Raw)) (p : P) (h : ParsedValue (.obj ps p))
    (hp : ps.Perm qs) (filt : Matrix.Raw) (row₁ row₂ : List Matrix.Raw) :
    (row₁ ++ .obj ps p :: row₂).any (fun v => subset v filt) = (row₁ ++ .obj qs p :: row₂).any (fun v => subset v filt) := by
  simp only [List.any_append, List.any_cons, (parsed_subset_member_perm ps qs p filt h hp).1]

/-- … or when the members of a parsed mapping filter of an `exclude` entry are -/
theorem parsed_exclude_match_filter_perm (ps qs : List (String × Matrix.Raw)) (p : P) (h : ParsedValue (.obj ps p))
    (hp : ps.Perm qs) (row : List Matrix.Raw) :
    row.any (fun v => subset v (.obj ps p)) = row.any (fun v => subset v (.obj qs p)) := by
  congr 1
  funext v
  exact (parsed_subset_member_perm ps qs p v h hp).2

/-- C19 (i): an exclude entry equal to a row value always matches it -/
theorem parsed_equals_subset (a b : Matrix.Raw) (ha : ParsedValue a) (hb : ParsedValue b) :
    equals a b = true → subset a b = true := C19.equals_subset a b ha.wf hb.wf

/-! ## (c) lifted to the rule on a parsed workflow

Every `Matrix` node of the AST of `parse cfg doc` is the result of `parseMatrix` on some node; hence everything above
holds for what `RuleMatrix` (`matrixJob` / `ruleMatrix`) sees in a job of a parsed workflow. -/

/-- the job's matrix, if any, is a result of `parseMatrix` -/
def JobMatParsed (cfg : Cfg) (j : Job) : Prop :=
  ∀ s m, j.strategy = some s → s.matrix = some m → ∃ (pos : Yaml.Pos) (n : Node), m = (parseMatrix cfg pos n).1

theorem parseStrategy_matrix (cfg : Cfg) (pos : Yaml.Pos) (n : Node) :
    ∀ m, (parseStrategy cfg pos n).1.matrix = some m → ∃ (pos' : Yaml.Pos) (n' : Node), m = (parseMatrix cfg pos' n').1 := by
  simp only [parseStrategy]
  apply C13P.loop_inv (strategyKey cfg)
    (fun st => ∀ m, st.matrix = some m → ∃ (pos' : Yaml.Pos) (n' : Node), m = (parseMatrix cfg pos' n').1)
  · intro st kv _ hs
    simp only [strategyKey]
    split
    · intro m e
      simp only [Option.some.injEq] at e
      exact ⟨_, _, e.symm⟩
    · exact hs
    · exact hs
    · exact hs
  · intro m e; cases e

theorem JobMatParsed.of_strategy_eq {cfg : Cfg} {j j' : Job} (e : j'.strategy = j.strategy) (h : JobMatParsed cfg j) :
    JobMatParsed cfg j' :=
  fun s m hs hm => h s m (e ▸ hs) hm

theorem jobKey_strategy (cfg : Cfg) (st : JobSt) (kv : KV) :
    (jobKey cfg st kv).1.job.strategy =
      if kv.id = "strategy" then some (parseStrategy cfg kv.key.pos kv.val).1 else st.job.strategy := by
  by_cases h : kv.id = "strategy"
  · simp only [jobKey, h, if_true]
  · rw [if_neg h]
    exact (jobKey_frame cfg st kv).strategy h

theorem jobKey_matParsed (cfg : Cfg) (st : JobSt) (kv : KV) (h : JobMatParsed cfg st.job) :
    JobMatParsed cfg (jobKey cfg st kv).1.job := by
  intro s m hs hm
  rw [jobKey_strategy] at hs
  split at hs
  · cases hs
    exact parseStrategy_matrix cfg _ _ m hm
  · exact h s m hs hm

theorem jobFinish_strategy (id : Str) (st : JobSt) : (jobFinish id st).1.strategy = st.job.strategy := by
  unfold jobFinish
  split
  · split <;> rfl
  · rfl

theorem parseJob_matParsed (cfg : Cfg) (id : Str) (n : Node) : JobMatParsed cfg (parseJob cfg id n).1 := by
  refine .of_strategy_eq (jobFinish_strategy id _) ?_
  apply C13P.loop_inv (jobKey cfg) (fun st => JobMatParsed cfg st.job)
  · intro s kv _ hs; exact jobKey_matParsed cfg s kv hs
  · intro s m e; cases e

theorem parseJobs_matParsed (cfg : Cfg) (n : Node) : ∀ p ∈ (parseJobs cfg n).1, JobMatParsed cfg p.2 := by
  intro p hp
  obtain ⟨kv, _, _, h2⟩ := C08P.mapKVs_mem _ _ p hp
  rw [h2]
  exact parseJob_matParsed cfg kv.key kv.val

/-- every job of the workflow `parse` builds -/
theorem parse_matParsed (cfg : Cfg) (doc : Node) : ∀ j ∈ Rules.jobsOf (parse cfg doc).1, JobMatParsed cfg j := by
  intro j hj
  simp only [Rules.jobsOf, List.mem_map] at hj
  obtain ⟨p, hp, rfl⟩ := hj
  cases hjobs : (parse cfg doc).1.jobs with
  | none => rw [hjobs] at hp; simp at hp
  | some jobs =>
    obtain ⟨n, rfl⟩ := C18P.parse_jobs cfg doc jobs hjobs
    rw [hjobs] at hp
    exact parseJobs_matParsed cfg n p (by simpa using hp)

/-- **(c)** for every document, every job of the parsed workflow with a matrix: the matrix the rule checks is well-formed and
all its values are `ParsedValue`s — so every `parsed_*` theorem above applies to them. -/
theorem parsed_workflow_matrix_wf (cfg : Cfg) (doc : Node) (j : Job) (hj : j ∈ Rules.jobsOf (parse cfg doc).1)
    (s : Strategy) (m : Ast.Matrix) (hs : j.strategy = some s) (hm : s.matrix = some m) :
    MatWF (Rules.matrixOf m) ∧ ∀ v ∈ valuesOf (Rules.matrixOf m), ParsedValue v := by
  obtain ⟨pos, n, rfl⟩ := parse_matParsed cfg doc j hj s m hs hm
  exact ⟨parsed_matrix_wf cfg pos n, fun v hv => ⟨cfg, pos, n, hv⟩⟩

/-! ### what the rule reports, on a job of a parsed workflow -/

theorem dup_not_mem_excludeAssign (ig : List String) (rows : RowMap) (a : Assign) (p q : P) (row : String) :
    Diag.dup p row q ∉ excludeAssign ig rows a := by
  simp only [excludeAssign]
  split
  · simp
  · split
    · simp
    · split <;> simp

theorem mem_ite {α : Type} {c : Prop} [Decidable c] {x : α} {a b : List α} (h : x ∈ (if c then a else b)) :
    x ∈ a ∨ x ∈ b := by
  split at h
  · exact Or.inl h
  · exact Or.inr h

/-- the exclude check never yields a duplicate report -/
theorem dup_not_mem_checkExclude (m : Mat) (p q : P) (row : String) : Diag.dup p row q ∉ checkExclude m := by
  intro h
  unfold checkExclude at h
  cases hex : m.excl with
  | none => simp [hex] at h
  | some ex =>
    simp only [hex] at h
    rcases mem_ite h with h | h
    · simp at h
    · rcases mem_ite h with h | h
      · simp at h
      · obtain ⟨c, _, hc⟩ := List.mem_flatMap.1 h
        cases c with
        | expr => simp at hc
        | assigns as =>
          obtain ⟨a, _, ha⟩ := List.mem_flatMap.1 hc
          exact dup_not_mem_excludeAssign _ _ _ _ _ _ ha

/-- the duplicate reports of `check` are those of `checkDuplicateInRow` on the rows given by a sequence -/
theorem dup_mem_check (m : Mat) (d : Diag) (p q : P) (row : String) (hd : d = .dup p row q) :
    d ∈ check m ↔ ∃ r ∈ m.rows, ∃ vs, r.values = some vs ∧ d ∈ dupRow r.id vs [] := by
  subst hd
  simp only [check, List.mem_append, dup_not_mem_checkExclude, or_false, checkDuplicates, List.mem_flatMap]
  constructor
  · rintro ⟨r, hr, h⟩
    split at h
    · rename_i vs hvs; exact ⟨r, hr, vs, hvs, h⟩
    · simp at h
  · rintro ⟨r, hr, vs, hvs, h⟩
    exact ⟨r, hr, by simpa [hvs] using h⟩

/-- A duplicate is reported at position `p` iff some row has, at `p`, a value that is `Same` as an earlier value of that
row. -/
theorem check_dup_at_pos (m : Mat) (p : P) :
    (∃ row q, Diag.dup p row q ∈ check m) ↔
    ∃ r ∈ m.rows, ∃ vs, r.values = some vs ∧ ∃ k, ∃ (hk : k < vs.length), (vs[k]).pos = p ∧
      ∃ i, ∃ (hi : i < k), Same (vs[i]'(Nat.lt_trans hi hk)) vs[k] := by
  constructor
  · rintro ⟨row, q, h⟩
    obtain ⟨r, hr, vs, hvs, h⟩ := (dup_mem_check m _ p q row rfl).1 h
    rw [dupRow_eq] at h
    obtain ⟨k, _, hk⟩ := List.mem_filterMap.1 h
    obtain ⟨hk', i, hi, he, _, hdq⟩ := dupAt_eq_some hk
    injection hdq with hpos _ _
    exact ⟨r, hr, vs, hvs, k, hk', hpos.symm, i, hi, (equals_iff_same _ _).1 he⟩
  · rintro ⟨r, hr, vs, hvs, k, hk, hpos, i, hi, hs⟩
    obtain ⟨d, hd⟩ := Option.isSome_iff_exists.1
      ((dupAt_isSome_iff r.id vs k hk).2 ⟨i, hi, (equals_iff_same _ _).2 hs⟩)
    obtain ⟨_, i', hi', _, _, hdd⟩ := dupAt_eq_some hd
    refine ⟨r.id, (vs[i']'(Nat.lt_trans hi' hk)).pos, ?_⟩
    rw [← hpos, ← hdd]
    refine (dup_mem_check m d _ _ _ hdd).2 ⟨r, hr, vs, hvs, ?_⟩
    rw [dupRow_eq]
    exact List.mem_filterMap.2 ⟨k, List.mem_range.2 hk, hd⟩

/-- `RuleMatrix.VisitJobPre` on a job whose matrix is literal: `AL.Matrix.check` on `matrixOf` -/
theorem matrixJob_eq (j : Job) (s : Strategy) (m : Ast.Matrix) (hs : j.strategy = some s) (hm : s.matrix = some m)
    (he : m.expr = none) : Rules.matrixJob j = (check (Rules.matrixOf m)).map Rules.matrixDiag := by
  simp [Rules.matrixJob, hs, hm, he]

theorem matrixDiag_dup_iff (x : Diag) (d : Rules.Diag) (h : d = Rules.matrixDiag x) :
    d.code = "matrix-duplicate" ↔ ∃ p row q, x = .dup p row q := by
  subst h
  cases x <;> simp [Rules.matrixDiag]

/-- **(c)** for a job of a parsed workflow with a literal matrix (the statement itself does not use `_hj`): the rule reports
`matrix-duplicate` at a position iff some row has there a value that is `Same` as an earlier value of that row; and the
matrix is well-formed, so the order-insensitivity theorems apply (`parsed_workflow_matrix_wf`). -/
theorem rule_dup_at_pos (cfg : Cfg) (doc : Node) (j : Job) (_hj : j ∈ Rules.jobsOf (parse cfg doc).1)
    (s : Strategy) (m : Ast.Matrix) (hs : j.strategy = some s) (hm : s.matrix = some m) (he : m.expr = none) (p : P) :
    (∃ d ∈ Rules.matrixJob j, d.code = "matrix-duplicate" ∧ d.pos = p) ↔
    ∃ r ∈ (Rules.matrixOf m).rows, ∃ vs, r.values = some vs ∧ ∃ k, ∃ (hk : k < vs.length), (vs[k]).pos = p ∧
      ∃ i, ∃ (hi : i < k), Same (vs[i]'(Nat.lt_trans hi hk)) vs[k] := by
  rw [matrixJob_eq j s m hs hm he, ← check_dup_at_pos]
  constructor
  · rintro ⟨d, hd, hc, hp⟩
    obtain ⟨x, hx, rfl⟩ := List.mem_map.1 hd
    obtain ⟨p', row, q, rfl⟩ := (matrixDiag_dup_iff x _ rfl).1 hc
    simp only [Rules.matrixDiag] at hp
    subst hp
    exact ⟨row, q, hx⟩
  · rintro ⟨row, q, h⟩
    exact ⟨_, List.mem_map.2 ⟨_, h, rfl⟩, rfl, rfl⟩

/-- the values of two rows are permutations of each other (an expression row stays one) -/
def RowPerm (r r' : Row) : Prop :=
  r.id = r'.id ∧
  match r.values, r'.values with
  | some vs, some ws => vs.Perm ws
  | none, none => True
  | _, _ => False

inductive RowsPerm : List Row → List Row → Prop
  | nil : RowsPerm [] []
  | cons {r r' : Row} {l l' : List Row} : RowPerm r r' → RowsPerm l l' → RowsPerm (r :: l) (r' :: l')

/-- C19 (e) for whole matrices: reordering the values inside the rows does not change the number of duplicate reports
(`WF` hypothesis on the row values). -/
theorem checkDuplicates_count_perm : ∀ (rows rows' : List Row),
    (∀ r ∈ rows, ∀ vs, r.values = some vs → ∀ v ∈ vs, RawWF v) → RowsPerm rows rows' →
    (checkDuplicates rows).length = (checkDuplicates rows').length := by
  intro rows rows' wf h
  induction h with
  | nil => rfl
  | @cons r r' l l' hr _ ih =>
    have ih' := ih (fun x hx => wf x (List.mem_cons_of_mem _ hx))
    simp only [checkDuplicates, List.flatMap_cons, List.length_append] at ih' ⊢
    rw [ih']
    congr 1
    obtain ⟨hid, hv⟩ := hr
    cases h1 : r.values with
    | none =>
      cases h2 : r'.values with
      | none => rfl
      | some ws => rw [h1, h2] at hv; exact hv.elim
    | some vs =>
      cases h2 : r'.values with
      | none => rw [h1, h2] at hv; exact hv.elim
      | some ws =>
        rw [h1, h2] at hv
        simp only
        rw [← hid]
        exact C19.dup_count_perm r.id vs ws (wf r (by simp) vs h1) hv

/-- … hence for every parsed matrix, with no hypothesis -/
theorem parsed_checkDuplicates_count_perm (cfg : Cfg) (pos : Yaml.Pos) (n : Node) (rows' : List Row)
    (h : RowsPerm (Rules.matrixOf (parseMatrix cfg pos n).1).rows rows') :
    (checkDuplicates (Rules.matrixOf (parseMatrix cfg pos n).1).rows).length = (checkDuplicates rows').length :=
  checkDuplicates_count_perm _ _ (fun r hr vs hvs => parsed_row_wf cfg pos n r hr vs hvs) h

/-! ## examples for (b′) and (c) on `exMatrixNode` and on a workflow containing it -/

theorem parsedValue_of_mem {v : Matrix.Raw} (h : v ∈ exVals ++ [exInc, exExc]) : ParsedValue v :=
  ⟨exCfg, ⟨1, 1⟩, exMatrixNode, exMat_values ▸ h⟩
theorem exV0_parsed : ParsedValue exV0 := parsedValue_of_mem (by simp [exVals])
theorem exV1_parsed : ParsedValue exV1 := parsedValue_of_mem (by simp [exVals])
theorem exExc_parsed : ParsedValue exExc := parsedValue_of_mem (by simp)

example : RawWF exV0 := exV0_parsed.wf
example : ∀ v ∈ exVals, v ∈ valuesOf exMat := row_values_mem exMat exRow exRow_mem exVals rfl
example : ∀ v ∈ exVals, RawWF v := parsed_row_wf exCfg ⟨1, 1⟩ exMatrixNode exRow exRow_mem' exVals rfl
example : equals exV0 exV1 = true ↔ Same exV0 exV1 := parsed_equals_iff _ _ exV0_parsed exV1_parsed
example : Same exV0 exV1 := (parsed_equals_iff _ _ exV0_parsed exV1_parsed).1 (by decide)
example : equals exV0 exExc = equals exExc exV0 := parsed_equals_symm _ _ exV0_parsed exExc_parsed
example : equals exV1 exV1 = true := parsed_equals_refl _ exV1_parsed
example : equals exV0 exExc = true :=
  parsed_equals_trans exV0 exV1 exExc exV0_parsed exV1_parsed exExc_parsed (by decide) (by decide)
/-- values 1 (`{k: x}` again) and 3 (`u` again) of the row are reported -/
example : dupRow "os" exVals [] = [.dup ⟨2, 20⟩ "os" ⟨2, 6⟩, .dup ⟨2, 31⟩ "os" ⟨2, 28⟩] := by decide
example : ∃ q, Diag.dup ⟨2, 20⟩ "os" q ∈ dupRow "os" exVals [] :=
  (parsed_dup_exact_same exCfg ⟨1, 1⟩ exMatrixNode exRow exRow_mem' exVals rfl 1 (by decide)).2
    (Or.inl ⟨0, by decide, (parsed_equals_iff _ _ exV0_parsed exV1_parsed).1 (by decide)⟩)
example : (∃ q, Diag.dup ⟨2, 20⟩ "os" q ∈ dupRow "os" exVals [] ∧ True) :=
  (parsed_dup_exact exCfg ⟨1, 1⟩ exMatrixNode exRow exRow_mem' exVals rfl 1 (by decide)).2
    (Or.inl ⟨0, by decide, by decide⟩)
example : dupRow "os" exVals [] = (List.range 4).filterMap (dupAt "os" exVals) :=
  (parsed_dup_exact' exCfg ⟨1, 1⟩ exMatrixNode exRow exRow_mem' exVals rfl).1
/-- any reordering of the row gives two reports as well -/
example : (dupRow "os" exVals []).length = (dupRow "os" exVals.reverse []).length :=
  parsed_dup_count_perm exCfg ⟨1, 1⟩ exMatrixNode exRow exRow_mem' exVals rfl _ (List.reverse_perm exVals).symm
example (b : Matrix.Raw) : equals exV0 b = equals (.obj [("k", .str "x" ⟨2, 10⟩)].reverse ⟨2, 6⟩) b ∧
    equals b exV0 = equals b (.obj [("k", .str "x" ⟨2, 10⟩)].reverse ⟨2, 6⟩) :=
  parsed_equals_member_perm _ _ _ b exV0_parsed (List.reverse_perm _).symm
example (b : Matrix.Raw) : subset exV0 b = subset (.obj [("k", .str "x" ⟨2, 10⟩)].reverse ⟨2, 6⟩) b ∧
    subset b exV0 = subset b (.obj [("k", .str "x" ⟨2, 10⟩)].reverse ⟨2, 6⟩) :=
  parsed_subset_member_perm _ _ _ b exV0_parsed (List.reverse_perm _).symm
example (b : Matrix.Raw) : equals exV0 b = equals exV1 b ∧ equals b exV0 = equals b exV1 :=
  parsed_equals_congr_same exV0 exV1 b exV0_parsed exV1_parsed ((parsed_equals_iff _ _ exV0_parsed exV1_parsed).1 (by decide))
example (filt : Matrix.Raw) : ([Raw.str "u" ⟨1, 1⟩] ++ exV0 :: []).any (fun v => subset v filt) =
    ([Raw.str "u" ⟨1, 1⟩] ++ Raw.obj [("k", Raw.str "x" ⟨2, 10⟩)].reverse ⟨2, 6⟩ :: []).any (fun v => subset v filt) :=
  parsed_exclude_match_value_perm _ _ _ exV0_parsed (List.reverse_perm _).symm filt _ _
example : exVals.any (fun v => subset v exExc) = exVals.any (fun v => subset v (.obj [("k", .str "x" ⟨4, 20⟩)].reverse ⟨4, 16⟩)) :=
  parsed_exclude_match_filter_perm _ _ _ exExc_parsed (List.reverse_perm _).symm _
/-- the exclude entry `{os: {k: x}}` matches the row value it was copied from -/
example : subset exV0 exExc = true := parsed_equals_subset _ _ exV0_parsed exExc_parsed (by decide)
example : (checkDuplicates exMat.rows).length = (checkDuplicates [⟨"os", some exVals.reverse⟩]).length :=
  parsed_checkDuplicates_count_perm exCfg ⟨1, 1⟩ exMatrixNode _
    (exMat_rows ▸ .cons (show RowPerm exRow _ from ⟨rfl, (List.reverse_perm exVals).symm⟩) .nil)
example : (checkDuplicates [exRow]).length = (checkDuplicates [⟨"os", some exVals.reverse⟩]).length :=
  checkDuplicates_count_perm _ _
    (by intro r hr vs hvs; simp only [List.mem_singleton] at hr; subst hr
        exact parsed_row_wf exCfg ⟨1, 1⟩ exMatrixNode exRow exRow_mem' vs hvs)
    (.cons ⟨rfl, (List.reverse_perm exVals).symm⟩ .nil)
example : ∃ row q, Diag.dup ⟨2, 31⟩ row q ∈ check exMat :=
  (check_dup_at_pos exMat ⟨2, 31⟩).2 ⟨exRow, exRow_mem, exVals, rfl, 3, by decide, rfl, 2, by decide,
    (equals_iff_same _ _).1 (by decide)⟩
example : Diag.dup ⟨2, 31⟩ "os" ⟨2, 28⟩ ∈ check exMat :=
  (dup_mem_check exMat _ _ _ _ rfl).2 ⟨exRow, exRow_mem, exVals, rfl, by decide⟩
example : Diag.dup ⟨2, 31⟩ "os" ⟨2, 28⟩ ∉ checkExclude exMat := dup_not_mem_checkExclude _ _ _ _
example : Diag.dup ⟨2, 31⟩ "os" ⟨2, 28⟩ ∉ excludeAssign [] [] ⟨"os", ⟨4, 12⟩, exExc⟩ := dup_not_mem_excludeAssign _ _ _ _ _ _
example : (Rules.matrixDiag (.dup ⟨2, 31⟩ "os" ⟨2, 28⟩)).code = "matrix-duplicate" :=
  (matrixDiag_dup_iff _ _ rfl).2 ⟨_, _, _, rfl⟩

/-- `on: push` / `jobs: { T: { runs-on: u, strategy: { matrix: … }, steps: [ {run: x} ] } }` -/
def exDoc : Node :=
  .mk .document "" "" false 1 1
    [.mk .mapping "!!map" "" false 1 1
      [sc "on" 1 1, sc "push" 1 5,
       sc "jobs" 1 10, .mk .mapping "!!map" "" false 1 16
        [sc "T" 1 16, .mk .mapping "!!map" "" false 1 19
          [sc "runs-on" 1 19, sc "u" 1 28,
           sc "strategy" 1 31, .mk .mapping "!!map" "" false 1 41 [sc "matrix" 1 41, exMatrixNode],
           sc "steps" 5 1, .mk .sequence "!!seq" "" false 5 8
             [.mk .mapping "!!map" "" false 5 9 [sc "run" 5 9, sc "x" 5 14]]]]]]

example : ∀ j ∈ Rules.jobsOf (parse exCfg exDoc).1, JobMatParsed exCfg j := parse_matParsed exCfg exDoc
example : ∀ p ∈ (parseJobs exCfg (sc "x" 1 1)).1, JobMatParsed exCfg p.2 := parseJobs_matParsed _ _
example : JobMatParsed exCfg (parseJob exCfg ⟨"t", false, ⟨1, 16⟩⟩ (sc "x" 1 1)).1 := parseJob_matParsed _ _ _
example : JobMatParsed exCfg (jobKey exCfg { job := { id := ⟨"t", false, ⟨1, 16⟩⟩, pos := ⟨1, 16⟩ } }
    ⟨"strategy", ⟨"strategy", false, ⟨1, 31⟩⟩, sc "x" 1 1⟩).1.job :=
  jobKey_matParsed _ _ _ (fun s m e => by cases e)
example : ∀ m, (parseStrategy exCfg ⟨1, 31⟩ (sc "x" 1 1)).1.matrix = some m →
    ∃ (pos' : Yaml.Pos) (n' : Node), m = (parseMatrix exCfg pos' n').1 := parseStrategy_matrix _ _ _

/-- the job `t` of the parsed example workflow, its strategy and its matrix -/
theorem exJob_spec : ∃ j ∈ Rules.jobsOf (parse exCfg exDoc).1, ∃ s m, j.strategy = some s ∧ s.matrix = some m ∧
    m.expr = none ∧ Rules.matrixOf m = { exMat with pos := ⟨1, 41⟩ } ∧
    Rules.matrixJob j = [⟨⟨2, 20⟩, "matrix", "matrix-duplicate", ["line:2,col:6"]⟩,
                         ⟨⟨2, 31⟩, "matrix", "matrix-duplicate", ["line:2,col:28"]⟩] := by
  refine ⟨_, List.mem_cons_self, _, _, rfl, rfl, rfl, rfl, ?_⟩
  decide +kernel

example : ∃ j ∈ Rules.jobsOf (parse exCfg exDoc).1, ∃ s m, j.strategy = some s ∧ s.matrix = some m ∧
    MatWF (Rules.matrixOf m) ∧ (∀ v ∈ valuesOf (Rules.matrixOf m), ParsedValue v) ∧
    (∃ d ∈ Rules.matrixJob j, d.code = "matrix-duplicate" ∧ d.pos = ⟨2, 31⟩) := by
  obtain ⟨j, hj, s, m, hs, hm, he, hmat, _⟩ := exJob_spec
  refine ⟨j, hj, s, m, hs, hm, (parsed_workflow_matrix_wf exCfg exDoc j hj s m hs hm).1,
    (parsed_workflow_matrix_wf exCfg exDoc j hj s m hs hm).2, ?_⟩
  refine (rule_dup_at_pos exCfg exDoc j hj s m hs hm he ⟨2, 31⟩).2 ?_
  rw [hmat]
  exact ⟨exRow, exRow_mem, exVals, rfl, 3, by decide, rfl, 2, by decide, (equals_iff_same _ _).1 (by decide)⟩
example : ∃ j ∈ Rules.jobsOf (parse exCfg exDoc).1, ∃ s m, j.strategy = some s ∧ s.matrix = some m ∧
    Rules.matrixJob j = (check (Rules.matrixOf m)).map Rules.matrixDiag := by
  obtain ⟨j, hj, s, m, hs, hm, he, _, _⟩ := exJob_spec
  exact ⟨j, hj, s, m, hs, hm, matrixJob_eq j s m hs hm he⟩

/-! ### examples for the auxiliary lemmas -/

example : RawWFList exVals ↔ ∀ v ∈ exVals, RawWF v := rawWFList_iff _
example : RawWFProps [("k", exV0)] ↔ ∀ p ∈ [("k", exV0)], RawWF p.2 := rawWFProps_iff _
example : ∀ r, (rawValue exCfg exMatrixNode).1 = some r → RawWF r := rawValue_wf exCfg exMatrixNode
example : RawWFList (rawSeq exCfg exMatrixNode.content).1 := rawSeq_wf exCfg _
example : ((rawProps exCfg exMatrixNode.content [("include", ⟨9, 9⟩)]).1.map (·.1)).Nodup :=
  (rawProps_wf exCfg _ _).1
/-- an id seen before the loop starts is never produced: `include` is dropped here -/
example : (rawProps exCfg exMatrixNode.content [("include", ⟨9, 9⟩)]).1.map (·.1) = ["os", "exclude"] := by decide +kernel
example : ∀ p ∈ (rawProps exCfg exMatrixNode.content [("include", ⟨9, 9⟩)]).1, lookupSeen p.1 [("include", ⟨9, 9⟩)] = none :=
  (rawProps_wf exCfg _ _).2.2
example : (setAssoc "b" 2 [("a", 0), ("b", 1)]).map (·.1) = ["a", "b"] ∧ (setAssoc "c" 2 [("a", 0), ("b", 1)]).map (·.1) = ["a", "b", "c"] := by
  constructor <;> simp [setAssoc_keys]
example : ∀ p ∈ setAssoc "b" 2 [("a", 0), ("b", 1)], p = ("b", 2) ∨ p ∈ [("a", 0), ("b", 1)] := setAssoc_mem _ _ _
example : ((setAssoc "b" 2 [("a", 0), ("b", 1)]).map (·.1)).Nodup := setAssoc_nodup _ _ _ (by decide)
example (kvs : List KV) : ∀ p ∈ (matrixAssigns exCfg kvs).1, RawWF p.2.value := (matrixAssigns_wf exCfg kvs).2
example : ((matrixAssigns exCfg [⟨"a", ⟨"A", false, ⟨3, 12⟩⟩, sc "z" 3 15⟩]).1.map (·.1)).Sublist ["a"] :=
  (matrixAssigns_wf exCfg _).1
example : ∀ x ∈ (PW.matrixCombos exCfg "include" [exMatrixNode]).1, ∀ as, x.assigns = some as →
    (as.map (·.1)).Nodup ∧ ∀ p ∈ as, RawWF p.2.value := matrixCombos_wf exCfg "include" _
example : AstMatWF (matrixKey exCfg { rows := some [], pos := ⟨1, 1⟩ } ⟨"os", ⟨"os", false, ⟨2, 1⟩⟩, exMatrixNode⟩).1 :=
  matrixKey_wf _ _ _ ⟨fun rows e => (by simp only [Option.some.injEq] at e; subst e; simp),
    fun cs e => (by cases e), fun cs e => (by cases e)⟩
example : MatWF (Rules.matrixOf (parseMatrix exCfg ⟨1, 1⟩ exMatrixNode).1) := matrixOf_wf _ (parseMatrix_wf _ _ _)
example : ∀ as ∈ assignsOf (Rules.matrixCombos (parseMatrixCombinations exCfg "include" exMatrixNode).1),
    (as.map (·.id)).Nodup ∧ ∀ a ∈ as, RawWF a.value :=
  assignsOf_matrixCombos _ (parseMatrixCombinations_wf _ _ _)
example : (3 : Nat) ∈ (if 1 = 2 then [1] else [3]) → 3 ∈ [1] ∨ 3 ∈ [3] := mem_ite

end AL.C19P
