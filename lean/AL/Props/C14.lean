import AL.Model.Calls
import AL.Model.Facts
import AL.Gen.Popular
/-
  C14 — calls are checked exactly against the callee's declared interface.
-/
namespace AL.C14
open AL.Calls

-- statements (a)–(f) about `checkAction` / `checkCall` and their proofs: AL/Props/C14Calls.lean

/-! ### the bundled data set (regenerated on every run) -/

/-- every input / output id of every bundled action is the lower-case form of its name (so that folded
`with:` keys and `.name` accesses find it), per chunk -/
def chunkIdsFolded (c : List (String × List (String × String × Bool) × List (String × String) × Bool × Bool)) : Bool :=
  c.all fun a => a.2.1.all (fun i => AL.Facts.lowerAscii i.2.1 = i.1) && a.2.2.1.all (fun o => AL.Facts.lowerAscii o.2 = o.1)

def ids_folded_check : Bool := AL.Gen.popularChunks.all chunkIdsFolded

/-- no bundled spec is at the same time live and outdated -/
def live_not_outdated_check : Bool :=
  AL.Gen.popularChunks.all fun c => c.all fun a => !AL.Gen.outdatedSpecs.contains a.1

end AL.C14

namespace AL.C14
open AL.Facts

def noCapitalByte (s : String) : Bool := s.toByteArray.data.toList.all fun b => b.toNat < 65 || 90 < b.toNat

/-- An ASCII capital is its own one-byte encoding, so a string without such a byte has no capital to fold. -/
theorem lowerAscii_of_noCapitalByte {s : String} (h : noCapitalByte s = true) : lowerAscii s = s := by
  have hb : ∀ c ∈ s.toList, (if 'A' ≤ c ∧ c ≤ 'Z' then Char.ofNat (c.toNat + 32) else c) = c := by
    intro c hc
    refine if_neg fun ⟨h1, h2⟩ => ?_
    have h1' : 65 ≤ c.val.toNat := h1
    have h2' : c.val.toNat ≤ 90 := h2
    have hs : c.utf8Size = 1 := by
      simp only [Char.utf8Size]; rw [if_pos]; exact UInt32.le_iff_toNat_le.2 (by show c.val.toNat ≤ 127; omega)
    have hm : c.val.toUInt8 ∈ s.toByteArray.data.toList := by
      rw [← String.utf8Encode_toList, List.utf8Encode]
      simp only [List.data_toByteArray, List.mem_flatMap]
      exact ⟨c, hc, by rw [String.utf8EncodeChar_eq_singleton hs]; exact List.mem_singleton.2 rfl⟩
    have := List.all_eq_true.1 h _ hm
    simp only [UInt32.toNat_toUInt8, Bool.or_eq_true, decide_eq_true_eq] at this
    omega
  rw [lowerAscii, List.map_congr_left hb, List.map_id', String.ofList_toList]

/-- `lowerAscii name = id`, decided without decoding `name` when the two are the same string without a capital
(the usual case in the table); decoding a string literal is the slow step of this evaluation in the kernel. -/
def idFolded (name id : String) : Bool := (name == id && noCapitalByte id) || lowerAscii name == id

theorem idFolded_eq (name id : String) : idFolded name id = decide (lowerAscii name = id) := by
  rw [Bool.eq_iff_iff]
  simp only [idFolded, Bool.or_eq_true, Bool.and_eq_true, beq_iff_eq, decide_eq_true_eq]
  exact ⟨fun h => h.elim (fun ⟨e, h⟩ => e ▸ lowerAscii_of_noCapitalByte (e ▸ h)) fun h => h, Or.inr⟩

theorem chunkIdsFolded_eq : chunkIdsFolded = fun c => c.all fun a =>
    a.2.1.all (fun i => idFolded i.2.1 i.1) && a.2.2.1.all (fun o => idFolded o.2 o.1) := by
  funext c
  simp only [chunkIdsFolded, idFolded_eq]

theorem ids_folded : ids_folded_check = true := by
  rw [ids_folded_check, chunkIdsFolded_eq]
  decide +kernel

/-! Both tables are generated in the order of Go's `sort.Strings`. Two ascending lists are compared in one pass, so that the
kernel encodes every string literal once instead of once per pair. -/

/-- the bytes of the UTF-8 encoding; the byte order is the order of Go's `sort.Strings`, in which the tables are generated -/
def bytes (s : String) : List Nat := s.toByteArray.data.toList.map UInt8.toNat

/-- each string is below the next in byte order -/
def ascending : List String → Bool
  | a :: b :: r => decide (bytes a < bytes b) && ascending (b :: r)
  | _ => true

theorem lt_of_ascending : ∀ (a : String) (l : List String), ascending (a :: l) = true →
    ascending l = true ∧ ∀ x ∈ l, bytes a < bytes x
  | _, [], _ => ⟨rfl, fun _ h => nomatch h⟩
  | a, b :: r, h => by
    simp only [ascending, Bool.and_eq_true, decide_eq_true_eq] at h
    refine ⟨h.2, fun x hx => ?_⟩
    rcases List.mem_cons.1 hx with rfl | hx
    · exact h.1
    · exact List.lt_trans h.1 ((lt_of_ascending b r h.2).2 x hx)

/-- One pass over two ascending lists, dropping the smaller head each time: `true` only if no head is ever met in the other
list. `n` bounds the number of steps (the two lengths together suffice). -/
def disjointAsc : Nat → List String → List String → Bool
  | 0, _, _ => false
  | _ + 1, [], _ => true
  | _ + 1, _, [] => true
  | n + 1, a :: as, b :: bs =>
    if bytes a < bytes b then disjointAsc n as (b :: bs)
    else if bytes b < bytes a then disjointAsc n (a :: as) bs else false

theorem disjointAsc_sound : ∀ (n : Nat) (as bs : List String), ascending as = true → ascending bs = true →
    disjointAsc n as bs = true → ∀ x ∈ as, x ∉ bs
  | 0, _, _, _, _, h => by simp [disjointAsc] at h
  | _ + 1, [], _, _, _, _ => fun _ h => nomatch h
  | _ + 1, _ :: _, [], _, _, _ => fun _ _ h => nomatch h
  | n + 1, a :: as, b :: bs, ha, hb, h => by
    have ⟨ha', hla⟩ := lt_of_ascending a as ha
    have ⟨hb', hlb⟩ := lt_of_ascending b bs hb
    simp only [disjointAsc] at h
    intro x hx hxb
    split at h
    · -- `a` is below `b`, hence below everything in `b :: bs`
      rename_i hab
      rcases List.mem_cons.1 hx with rfl | hx
      · rcases List.mem_cons.1 hxb with rfl | hxb
        · exact List.lt_irrefl _ hab
        · exact List.lt_irrefl _ (List.lt_trans hab (hlb _ hxb))
      · exact disjointAsc_sound n as (b :: bs) ha' hb h x hx hxb
    · split at h
      · -- `b` is below `a`, hence below everything in `a :: as`
        rename_i hba
        rcases List.mem_cons.1 hxb with rfl | hxb
        · rcases List.mem_cons.1 hx with rfl | hx
          · exact List.lt_irrefl _ hba
          · exact List.lt_irrefl _ (List.lt_trans hba (hla _ hx))
        · exact disjointAsc_sound n (a :: as) bs ha hb' h x hx hxb
      · cases h

theorem live_not_outdated : live_not_outdated_check = true := by
  have h : (ascending (AL.Gen.popularChunks.flatten.map (·.1)) && ascending AL.Gen.outdatedSpecs &&
      disjointAsc 300 (AL.Gen.popularChunks.flatten.map (·.1)) AL.Gen.outdatedSpecs) = true := by decide +kernel
  simp only [Bool.and_eq_true] at h
  have hd := disjointAsc_sound _ _ _ h.1.1 h.1.2 h.2
  simp only [live_not_outdated_check, List.all_eq_true, Bool.not_eq_true', List.contains_eq_mem, decide_eq_false_iff_not]
  exact fun c hc a ha => hd a.1 (List.mem_map.2 ⟨a, List.mem_flatten.2 ⟨c, hc, ha⟩, rfl⟩)
end AL.C14
