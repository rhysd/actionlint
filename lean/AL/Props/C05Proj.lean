import AL.Model.ProjLint
import AL.Lemmas.TyProps
/-
  C05 inside a project: `needs.<job>.outputs` of a job that calls a local reusable workflow and `steps.<id>.outputs` of a step
  that uses a local action are STRICT objects whose properties are exactly the outputs the callee declares (lower-case ids).
-/
namespace AL.C05P
open AL AL.Ast

theorem lookup_setProp (k k' : String) (v : Ty) : ∀ ps : List (String × Ty),
    Ty.lookup k' (Ty.setProp k v ps) = if k' = k then some v else Ty.lookup k' ps :=
  AL.Visit.lookup_setProp k v k'

theorem lookup_fold_string (name : String) : ∀ (l : List String) (acc : List (String × Ty)),
    Ty.lookup name (l.foldl (fun ps o => Ty.setProp o .string ps) acc) =
      if name ∈ l then some .string else Ty.lookup name acc := by
  intro l
  induction l with
  | nil => intro acc; simp
  | cons o rest ih =>
    intro acc
    simp only [List.foldl_cons, ih, lookup_setProp, List.mem_cons]
    by_cases h1 : name ∈ rest
    · simp [h1]
    · by_cases h2 : name = o <;> simp [h1, h2]

/-- `getWorkflowCallOutputsType` with a known interface: a strict object with exactly the declared outputs -/
theorem call_outputs_exact (m : AL.CallMeta.Meta) (name : String) :
    ∃ ps, AL.ProjCall.outputsTy m = .obj ps none ∧
      (Ty.lookup name ps = if name ∈ m.outputs.map (·.1) then some .string else none) := by
  refine ⟨_, rfl, ?_⟩
  have := lookup_fold_string name (m.outputs.map (·.1)) []
  simp only [Ty.lookup] at this
  rw [← this, List.foldl_map]

/-- `typeOfActionOutputs` of a local action: a strict object with exactly the declared outputs -/
theorem action_outputs_exact (m : AL.ProjAction.ActionMeta) (name : String) :
    ∃ ps, AL.ProjAction.outputsTy m = .obj ps none ∧
      (Ty.lookup name ps = if name ∈ m.outputs.map (·.1) then some .string else none) := by
  refine ⟨_, rfl, ?_⟩
  have := lookup_fold_string name (m.outputs.map (·.1)) []
  simp only [Ty.lookup] at this
  rw [← this, List.foldl_map]

end AL.C05P
