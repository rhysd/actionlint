import AL.Model.SrcPos
import AL.Lemmas.SrcPos
/-
  C02 (source-position order) — the ledger class "selection" and the position sort of detectFirstCycle rest on
  `IsBefore` being a strict total order: then the minimum / the sorted arrangement of candidates with distinct
  positions is the same for every iteration order of the map they come from.
  Statements first (`def …_statement : Prop`), their proofs after them.
-/
namespace AL.Props.C02Pos
open AL.SrcPos

def irrefl_statement : Prop := ∀ p : P, isBefore p p = false
def asymm_statement : Prop := ∀ p q : P, isBefore p q = true → isBefore q p = false
def trans_statement : Prop := ∀ p q r : P, isBefore p q = true → isBefore q r = true → isBefore p r = true
def total_statement : Prop := ∀ p q : P, p ≠ q → isBefore p q = true ∨ isBefore q p = true

/-- the candidate selected does not depend on the order in which the map hands out the candidates -/
def select_order_independent_statement : Prop :=
  ∀ l₁ l₂ : List P, l₁.Perm l₂ → l₁.Nodup → selectFirst l₁ = selectFirst l₂

/-- … and it is the candidate that is before all others -/
def select_is_min_statement : Prop :=
  ∀ (l : List P) (m : P), selectFirst l = some m → m ∈ l ∧ ∀ x ∈ l, x ≠ m → isBefore m x = true

/-- sorting by position gives the same list for every iteration order -/
def sort_order_independent_statement : Prop :=
  ∀ l₁ l₂ : List P, l₁.Perm l₂ → l₁.Nodup → sortByPos l₁ = sortByPos l₂

/-! ### proofs (helper lemmas in `AL/Lemmas/SrcPos.lean`) -/

theorem irrefl : irrefl_statement := isBefore_sw.irrefl

theorem asymm : asymm_statement := fun _ _ => isBefore_sw.asymm

theorem trans : trans_statement := fun _ _ _ => isBefore_sw.trans

theorem total : total_statement := fun _ _ h => isBefore_total h

/-- holds even without the `Nodup` hypothesis: a least element is unique by asymmetry -/
theorem select_order_independent : select_order_independent_statement :=
  fun _ _ hp _ => selectFirst_perm hp

theorem select_is_min : select_is_min_statement := by
  intro l m h
  obtain ⟨hm, hall⟩ := selectFirst_isMin h
  refine ⟨hm, fun x hx hne => ?_⟩
  rcases hall x hx with e | b
  · exact absurd e hne
  · exact b

/-- holds even without the `Nodup` hypothesis: insertion sort yields a permutation sorted by the antisymmetric
non-strict order, and such a list is unique (`List.Perm.eq_of_pairwise`) -/
theorem sort_order_independent : sort_order_independent_statement :=
  fun _ _ hp _ => sortByPos_perm_eq hp

/-- extra: the result of the sort is a permutation of the input, strictly increasing when positions are distinct -/
theorem sort_is_sorted_perm (l : List P) (hn : l.Nodup) :
    (sortByPos l).Perm l ∧ (sortByPos l).Pairwise (fun a b => isBefore a b = true) :=
  ⟨sortByPos_perm l, sortByPos_strict hn⟩

/-! ### non-vacuity: three distinct positions, the later line has the smaller column -/

example : [(⟨3, 9⟩ : P), ⟨4, 2⟩, ⟨3, 1⟩].Nodup := by decide +kernel
example : [(⟨3, 9⟩ : P), ⟨4, 2⟩, ⟨3, 1⟩].Perm [⟨4, 2⟩, ⟨3, 1⟩, ⟨3, 9⟩] := by decide +kernel
example : isBefore ⟨3, 9⟩ ⟨4, 2⟩ = true := by decide +kernel
example : isBefore ⟨4, 2⟩ ⟨3, 9⟩ = false := by decide +kernel
example : selectFirst [⟨3, 9⟩, ⟨4, 2⟩, ⟨3, 1⟩] = some ⟨3, 1⟩ := by decide +kernel
example : selectFirst [⟨4, 2⟩, ⟨3, 1⟩, ⟨3, 9⟩] = some ⟨3, 1⟩ := by decide +kernel
example : selectFirst [⟨3, 1⟩, ⟨4, 2⟩, ⟨3, 9⟩] = some ⟨3, 1⟩ := by decide +kernel
example : sortByPos [⟨3, 9⟩, ⟨4, 2⟩, ⟨3, 1⟩] = [⟨3, 1⟩, ⟨3, 9⟩, ⟨4, 2⟩] := by decide +kernel
example : sortByPos [⟨3, 9⟩, ⟨4, 2⟩, ⟨3, 1⟩] = sortByPos [⟨4, 2⟩, ⟨3, 1⟩, ⟨3, 9⟩] := by decide +kernel

end AL.Props.C02Pos
