import AL.Model.Rules
import AL.Lemmas.Order
/-
  C09 / C07 on the model of the AST-only rules (AL.Rules, tied by `lintwf`):

  * the diagnostics of matrix, credentials, env-var, id, permissions, if-cond are, up to order, the workflow-level part
    plus the concatenation over the jobs of a function of THAT JOB ALONE (`perJob`): adding, removing or reordering jobs
    changes nothing about the diagnostics of the other jobs (`RuleID.seen` does not survive a job: `idJob` starts
    `idSteps` from `[]`);
  * positions (C07): the diagnostics of these rules except matrix, and the glob errors, sit exactly at the id / name /
    value they are about;
  * the sort of C02 reports every diagnostic exactly once (`stableSort_perm`).
-/
namespace AL.C09R
open AL.Rules AL.Yaml AL.Ast

/-- counting commutes with splitting a per-element block in two -/
theorem count_flatMap_append {α β : Type} [BEq β] (a : β) (l : List α) (f g : α → List β) :
    List.count a (l.flatMap fun x => f x ++ g x) = List.count a (l.flatMap f) + List.count a (l.flatMap g) := by
  induction l with
  | nil => rfl
  | cons x rest ih =>
    simp only [List.flatMap_cons, List.count_append, ih]
    omega

/-- everything the six per-job rules report about one job -/
def perJob (lower : String → String) (j : Job) : List Diag :=
  matrixJob j ++ (credentialsJob j ++ (envVarJob j ++ (idJob lower j ++ (checkPermissions j.permissions ++
    (checkIfCond j.cond ++ (AL.Rules.stepsOf j).flatMap fun st => checkIfCond st.cond)))))

/-- the workflow-level part (`VisitWorkflowPre` of env-var and permissions) -/
def header (w : Workflow) : List Diag := checkEnv w.env ++ checkPermissions w.permissions

/-- the six rules, in linter.go's order -/
def sixRules (lower : String → String) (w : Workflow) : List Diag :=
  ruleMatrix w ++ ruleCredentials w ++ ruleEnvVar w ++ ruleId lower w ++ rulePermissions w ++ ruleIfCond w

/-- **jobs are checked independently**: up to order, the six rules report the header's diagnostics and, for each job, a
function of that job alone -/
theorem six_rules_per_job (lower : String → String) (w : Workflow) :
    (sixRules lower w).Perm (header w ++ (jobsOf w).flatMap (perJob lower)) := by
  rw [List.perm_iff_count]
  intro a
  unfold perJob
  simp only [sixRules, ruleMatrix, ruleCredentials, ruleEnvVar, ruleId, rulePermissions, ruleIfCond, header,
    List.count_append, count_flatMap_append]
  omega

/-- reordering the jobs of a workflow (the order in which the visitor happens to meet them) only reorders the diagnostics -/
theorem reorder_jobs (lower : String → String) (w w' : Workflow)
    (hh : header w = header w') (hj : (jobsOf w).Perm (jobsOf w')) :
    (sixRules lower w).Perm (sixRules lower w') := by
  refine (six_rules_per_job lower w).trans (List.Perm.trans ?_ (six_rules_per_job lower w').symm)
  rw [hh]
  exact List.Perm.append_left _ (List.Perm.flatMap_right _ hj)

/-- a further job adds exactly its own diagnostics; those of the other jobs and of the header are untouched -/
theorem add_job (lower : String → String) (w w' : Workflow) (j : Job)
    (hh : header w = header w') (hj : (jobsOf w').Perm (j :: jobsOf w)) :
    (sixRules lower w').Perm (perJob lower j ++ sixRules lower w) := by
  refine (six_rules_per_job lower w').trans ?_
  have h1 : ((jobsOf w').flatMap (perJob lower)).Perm (perJob lower j ++ (jobsOf w).flatMap (perJob lower)) := by
    have := List.Perm.flatMap_right (perJob lower) hj
    simpa using this
  have h2 := (six_rules_per_job lower w).symm
  rw [← hh]
  refine (List.Perm.append_left _ h1).trans ?_
  refine List.Perm.trans ?_ (List.Perm.append_left _ h2)
  rw [List.perm_iff_count]
  intro a
  simp only [List.count_append]
  omega

/-- the definition of `idJob`, restated: the steps of a job are checked from the empty `seen` -/
theorem step_ids_per_job (lower : String → String) (j : Job) :
    idJob lower j = validateConvention (some j.id) "job" ++
      (j.needs.getD []).flatMap (fun n => validateConvention (some n) "job") ++ idSteps lower (AL.Rules.stepsOf j) [] := rfl

/-! ### positions (C07) -/

theorem validateConvention_pos (id : Option Str) (what : String) :
    ∀ d ∈ validateConvention id what, ∃ s, id = some s ∧ d.pos = s.pos := by
  intro d h
  cases id with
  | none => cases h
  | some s =>
    -- every guard of the chain returns `[]`, so `d` is the one diagnostic at its end
    simp only [validateConvention, List.mem_ite_nil_left, List.mem_singleton] at h
    exact ⟨s, rfl, by rw [h.2]⟩

/-- a diagnostic about step ids sits at the `id:` value of one of the steps -/
theorem idSteps_pos (lower : String → String) : ∀ (steps : List Step) (seen : List (String × AL.Rules.Pos)),
    ∀ d ∈ idSteps lower steps seen, ∃ st ∈ steps, ∃ s, st.id = some s ∧ d.pos = s.pos
  | [], _ => by intro d h; cases h
  | st :: rest, seen => by
    intro d h
    have tail : ∀ seen', d ∈ idSteps lower rest seen' → ∃ st' ∈ st :: rest, ∃ s, st'.id = some s ∧ d.pos = s.pos :=
      fun seen' h => by obtain ⟨st', hm, e⟩ := idSteps_pos lower rest seen' d h; exact ⟨st', List.mem_cons_of_mem _ hm, e⟩
    rw [idSteps] at h
    cases hs : st.id with
    | none => rw [hs] at h; exact tail _ h
    | some s =>
      have here : d.pos = s.pos → ∃ st' ∈ st :: rest, ∃ s, st'.id = some s ∧ d.pos = s.pos :=
        fun e => ⟨st, List.mem_cons_self, s, hs, e⟩
      have conv : d ∈ validateConvention (some s) "step" → d.pos = s.pos := fun h => by
        obtain ⟨s', e1, e2⟩ := validateConvention_pos _ _ d h
        cases e1; exact e2
      simp only [hs] at h
      split at h
      · rcases List.mem_append.1 h with h | h
        · rcases List.mem_append.1 h with h | h
          · exact here (conv h)
          · exact here (by rw [List.mem_singleton.1 h])
        · exact tail _ h
      · rcases List.mem_append.1 h with h | h
        · exact here (conv h)
        · exact tail _ h

/-- env-var: at the name of one of the variables -/
theorem checkEnv_pos (env : Option Env) :
    ∀ d ∈ checkEnv env, ∃ e vars, env = some e ∧ e.vars = some vars ∧ ∃ kv ∈ vars, d.pos = kv.2.name.pos := by
  intro d h
  cases env with
  | none => cases h
  | some e =>
    simp only [checkEnv, List.mem_ite_nil_left, List.mem_ite_nil_right, List.mem_flatMap, List.mem_singleton] at h
    obtain ⟨_, kv, hm, _, _, rfl⟩ := h
    cases hv : e.vars with
    | none => simp [hv] at hm
    | some vars => exact ⟨e, vars, rfl, hv, kv, by simpa [hv] using hm, rfl⟩

/-- permissions: at the scalar (`read-all` / `write-all` form), at the scope name, or at the scope's value -/
theorem checkPermissions_pos (p : Option Permissions) :
    ∀ d ∈ checkPermissions p, ∃ q, p = some q ∧
      ((∃ a, q.all = some a ∧ d.pos = a.pos) ∨
       (∃ scopes, q.scopes = some scopes ∧ ∃ kv ∈ scopes, d.pos = kv.2.name.pos ∨ d.pos = kv.2.value.pos)) := by
  intro d h
  cases p with
  | none => cases h
  | some q =>
    refine ⟨q, rfl, ?_⟩
    simp only [checkPermissions] at h
    cases ha : q.all with
    | some a =>
      simp only [ha, List.mem_ite_nil_left, List.mem_singleton] at h
      exact .inl ⟨a, rfl, by rw [h.2]⟩
    | none =>
      simp only [ha, List.mem_flatMap, List.mem_append, List.mem_ite_nil_left, List.mem_singleton] at h
      obtain ⟨kv, hm, hd⟩ := h
      cases hs : q.scopes with
      | none => simp [hs] at hm
      | some scopes =>
        refine .inr ⟨scopes, rfl, kv, by simpa [hs] using hm, ?_⟩
        rcases hd with ⟨_, rfl⟩ | ⟨_, rfl⟩
        · exact .inl rfl
        · exact .inr rfl

/-- if-cond: at the `if:` value -/
theorem checkIfCond_pos (s : Option Str) : ∀ d ∈ checkIfCond s, ∃ n, s = some n ∧ d.pos = n.pos := by
  intro d h
  cases s with
  | none => cases h
  | some n =>
    simp only [checkIfCond, List.mem_ite_nil_left, List.mem_singleton] at h
    exact ⟨n, rfl, by rw [h.2.2]⟩

/-- credentials: at the `password:` value -/
theorem checkCredContainer_pos (k a : String) (c : Container) :
    ∀ d ∈ checkCredContainer k a c, ∃ cr p, c.credentials = some cr ∧ cr.password = some p ∧ d.pos = p.pos := by
  intro d h
  simp only [checkCredContainer] at h
  cases hc : c.credentials with
  | none => simp [hc] at h
  | some cr =>
    cases hp : cr.password with
    | none => simp [hc, hp] at h
    | some p =>
      simp only [hc, hp, List.mem_ite_nil_left, List.mem_singleton] at h
      exact ⟨cr, p, rfl, hp, by rw [h.2]⟩

/-- glob: on the line of the pattern, at the pattern's column + 1 for an opening quote + the validator's column - 1 -/
theorem globErrors_pos (errs : List AL.Glob.GErr) (v : Str) :
    ∀ d ∈ globErrors errs v, ∃ e ∈ errs, d.pos.line = v.pos.line ∧
      d.pos.col = v.pos.col + (if v.quoted then 1 else 0) + (if e.col ≠ 0 then e.col - 1 else 0) := by
  intro d h
  simp only [globErrors, List.mem_map] at h
  obtain ⟨e, hm, rfl⟩ := h
  exact ⟨e, hm, rfl, rfl⟩

/-! ### the sort (C02): `less` is the lexicographic order on (line, column), `insertStable` an insertion sort for it;
nothing is lost or duplicated (sortedness: AL.Props.C02Rules; commutation with filtering: AL.Props.C09Cron) -/

theorem less_key : AL.Order.KeyOrder less fun d => (d.pos.line, d.pos.col) :=
  (AL.Order.KeyOrder.nat.comap fun d : Diag => d.pos.line).lex (AL.Order.KeyOrder.nat.comap fun d : Diag => d.pos.col)

theorem less_sw : AL.Order.StrictWeak less := less_key.sw

theorem sortR : AL.Order.InsertSort less insertStable := ⟨⟨fun _ => rfl, fun _ _ _ => rfl⟩, less_sw⟩

theorem insertStable_perm (x : Diag) (l : List Diag) : (insertStable x l).Perm (x :: l) :=
  sortR.perm x l

/-- sorting reports every diagnostic exactly once -/
theorem stableSort_perm (l : List Diag) : (stableSort l).Perm l := by
  simpa [stableSort] using sortR.foldl_perm l []

end AL.C09R
