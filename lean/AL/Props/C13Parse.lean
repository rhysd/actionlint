import AL.Lemmas.ParseWfSect
/-
  C13 on the model of the whole workflow parser (AL.PW = parse.go, tied by the `parsewf` operation on every run):

    In every mapping whose key set is fixed by the workflow syntax, a key outside the set is reported at that key and a
    repeated key is reported at the repetition; a missing mandatory key is reported too. An unknown or duplicate key
    never suppresses the diagnostics of its sibling keys.

  Every section parser of parse.go has the same shape — `parseMapping`, a loop over its result, final checks — which is
  `Sect.run` (Lemmas/ParseWfSect). The two splice theorems (`Sect.unknown_key`, `Sect.duplicate_key`) are proved once for that
  shape, for every mapping node, every position of the inserted pair and every state of the loop; each section of the property's
  list is then an instance (`*_unknown`, `*_duplicate`): the parser function is shown to BE `Sect.run` of its loop body
  and the loop body is shown to skip keys outside its set with exactly the `unexpectedKey` diagnostic.
-/
namespace AL.C13P
open AL.PW AL.Yaml AL.Ast

/-! ### the two splice theorems -/

theorem perm_in_middle {α : Type} {es a a' : List α} (x y : List α) (h : a'.Perm (es ++ a)) :
    (x ++ a' ++ y).Perm (es ++ (x ++ a ++ y)) :=
  (((h.append_left x).trans (List.perm_append_comm_assoc x es a)).append_right y).trans (.of_eq (List.append_assoc ..))

theorem parseString_pos (n : Node) (b : Bool) : (parseString n b).1.pos = n.pos :=
  parseString_at n b

/-- **Unknown key.** Take any section parser of the shape `Sect.run`, any mapping node with at least one pair, and insert
anywhere a pair whose key is a non-empty scalar, occurs nowhere else in the mapping (under the mapping's own folding),
and is one the loop body skips with the diagnostics `es`. Then the section's result (the AST node and whatever the final
checks look at) is unchanged and the diagnostics are exactly the old ones plus `es`. -/
theorem Sect.unknown_key {σ ρ : Type} (S : Sect σ ρ) (cfg : Cfg) (what tag : String) (l c : Nat) (allowEmpty cs : Bool)
    (pre post : List (Node × Node)) (kn vn : Node) (es : List PErr)
    (hkey : GoodKey kn)
    (hskip : ∀ s, S.step s ⟨keyId cfg cs kn, (parseString kn false).1, vn⟩ = (s, es))
    (hfresh : ∀ q ∈ pre ++ post, keyId cfg cs q.1 ≠ keyId cfg cs kn)
    (hne : pre ++ post ≠ []) :
    (S.run cfg what (mapNode tag l c (pre ++ (kn, vn) :: post)) allowEmpty cs).1 =
      (S.run cfg what (mapNode tag l c (pre ++ post)) allowEmpty cs).1 ∧
    (S.run cfg what (mapNode tag l c (pre ++ (kn, vn) :: post)) allowEmpty cs).2.Perm
      (es ++ (S.run cfg what (mapNode tag l c (pre ++ post)) allowEmpty cs).2) := by
  have hk : (parseString kn false).2 = [] := hkey
  obtain ⟨hst, hperm⟩ := loop_skip_perm S.step _ es hskip S.init (mappingLoop cfg what cs pre []).1
    (mappingLoop cfg what cs post (AL.C09D.seenAfter cfg cs pre [])).1
  have h1 : (pre ++ post).isEmpty = false := by cases h : pre ++ post with | nil => exact absurd h hne | cons _ _ => rfl
  have h2 : (pre ++ (kn, vn) :: post).isEmpty = false := by cases pre <;> rfl
  simp only [Sect.run, parseMapping_mapNode, mappingLoop_isEmpty, h1, h2, Bool.and_false, Bool.false_eq_true, ↓reduceIte,
    List.append_nil]
  -- the new pair makes one more entry, which the loop body skips
  rw [mappingLoop_insert cfg what cs pre post kn vn [] rfl hfresh, mappingLoop_append]
  simp only [hk, List.nil_append, hst]
  exact ⟨trivial, perm_in_middle _ _ hperm⟩

/-- **Duplicate key.** Insert anywhere after an occurrence of the same key (same id under the mapping's folding) a pair
whose key is a non-empty scalar: the section's result is unchanged and the diagnostics are exactly the old ones plus one
`key-duplicated` diagnostic positioned at the inserted key, which names the position of the first key with that id. -/
theorem Sect.duplicate_key {σ ρ : Type} (S : Sect σ ρ) (cfg : Cfg) (what tag : String) (l c : Nat) (allowEmpty cs : Bool)
    (pre post : List (Node × Node)) (kn vn : Node)
    (hkey : GoodKey kn)
    (hdup : ∃ q ∈ pre, keyId cfg cs q.1 = keyId cfg cs kn) :
    ∃ pos, firstPos cfg cs (keyId cfg cs kn) pre = some pos ∧
    (S.run cfg what (mapNode tag l c (pre ++ (kn, vn) :: post)) allowEmpty cs).1 =
      (S.run cfg what (mapNode tag l c (pre ++ post)) allowEmpty cs).1 ∧
    (S.run cfg what (mapNode tag l c (pre ++ (kn, vn) :: post)) allowEmpty cs).2.Perm
      ((⟨kn.pos, "key-duplicated", [kn.value, what, posString pos,
          if cs then "" else ". note that this key is case insensitive"]⟩ : PErr) ::
        (S.run cfg what (mapNode tag l c (pre ++ post)) allowEmpty cs).2) := by
  obtain ⟨pos, hpos⟩ := Option.isSome_iff_exists.1 ((firstPos_isSome cfg cs _ pre).2 hdup)
  -- after `pre` the id is found, at its first key in `pre`
  have hS : lookupSeen (keyId cfg cs kn) (AL.C09D.seenAfter cfg cs pre []) = some pos := by
    rw [lookupSeen_seenAfter, hpos]
    rfl
  have hval : (parseString kn false).1.value = kn.value := by rw [parseString_good kn hkey]
  have hk : (parseString kn false).2 = [] := hkey
  refine ⟨pos, hpos, ?_⟩
  simp only [Sect.run, parseMapping_mapNode, mappingLoop_append, mappingLoop_cons, hS, hk, List.nil_append, parseString_pos, hval]
  refine ⟨trivial, ?_⟩
  simp only [List.append_assoc, List.cons_append, List.nil_append]
  exact List.perm_middle

end AL.C13P

namespace AL.C13P
open AL.PW AL.Yaml AL.Ast

/-! ### sections with a fixed key set -/

/-- the loop body skips every key outside `keys` with exactly the `unexpectedKey` diagnostic and leaves the state alone -/
def FixedKeys {σ ρ : Type} (S : Sect σ ρ) (keys : List String) (sec : String) (expected : List String) : Prop :=
  ∀ (s : σ) (kv : KV), kv.id ∉ keys → S.step s kv = (s, [unexpectedKey kv.key sec expected])

/-- `Sect.unknown_key` for the sections of the property's list (they are all case-sensitive): the new diagnostic is
`unexpectedKey` AT THE INSERTED KEY (`kn.pos`), echoing the key as written. -/
theorem Sect.unknown_key_fixed {σ ρ : Type} (S : Sect σ ρ) {keys : List String} {sec : String} {expected : List String}
    (hF : FixedKeys S keys sec expected) (cfg : Cfg) (what tag : String) (l c : Nat) (allowEmpty : Bool)
    (pre post : List (Node × Node)) (kn vn : Node)
    (hkey : GoodKey kn) (hun : kn.value ∉ keys)
    (hfresh : ∀ q ∈ pre ++ post, keyId cfg true q.1 ≠ kn.value)
    (hne : pre ++ post ≠ []) :
    (S.run cfg what (mapNode tag l c (pre ++ (kn, vn) :: post)) allowEmpty true).1 =
      (S.run cfg what (mapNode tag l c (pre ++ post)) allowEmpty true).1 ∧
    (S.run cfg what (mapNode tag l c (pre ++ (kn, vn) :: post)) allowEmpty true).2.Perm
      (unexpectedKey ⟨kn.value, kn.quoted, kn.pos⟩ sec expected ::
        (S.run cfg what (mapNode tag l c (pre ++ post)) allowEmpty true).2) := by
  have hid := keyId_cs cfg kn hkey
  have := Sect.unknown_key S cfg what tag l c allowEmpty true pre post kn vn
    [unexpectedKey ⟨kn.value, kn.quoted, kn.pos⟩ sec expected] hkey
    (by intro s; rw [hF s _ (by simpa [hid] using hun), parseString_good kn hkey])
    (by intro q hq; rw [hid]; exact hfresh q hq) hne
  simpa using this

/-! #### the sections, one by one: the key set of the loop body -/

theorem workflow_fixed (cfg : Cfg) (doc : Node) : FixedKeys (workflowSect cfg doc) workflowKeys "workflow" workflowKeys := by
  intro s kv
  simp only [workflowKeys, List.mem_cons, List.not_mem_nil, or_false, not_or, and_imp]
  intros
  simp only [workflowSect, workflowKey, workflowKeys]

theorem job_fixed (cfg : Cfg) (id : Str) : FixedKeys (jobSect cfg id) jobKeys "job" jobKeys := by
  intro s kv
  simp only [jobKeys, List.mem_cons, List.not_mem_nil, or_false, not_or, and_imp]
  intros
  simp only [jobSect, jobKey, jobKeys]

theorem step_fixed (cfg : Cfg) (n : Node) : FixedKeys (stepSect cfg n) stepKeys "step" stepKeys := by
  intro s kv
  simp only [stepKeys, List.mem_cons, List.not_mem_nil, or_false, not_or, and_imp]
  intros
  simp only [stepSect, stepKey, stepKeys]

end AL.C13P

namespace AL.C13P
open AL.PW AL.Yaml AL.Ast

/-- events: a webhook event (`push:`, `pull_request:` …) -/
def webhookKeys : List String := ["types", "branches", "branches-ignore", "tags", "tags-ignore", "paths", "paths-ignore", "workflows"]

theorem webhook_fixed (name : Str) :
    FixedKeys (plain (webhookKey name) { hook := name, pos := name.pos }) webhookKeys name.value webhookKeys := by
  intro s kv
  simp only [webhookKeys, List.mem_cons, List.not_mem_nil, or_false, not_or, and_imp]
  intros
  simp only [plain, webhookKey]

theorem dispatch_fixed (cfg : Cfg) : FixedKeys (plain (dispatchStep cfg) none) ["inputs"] "workflow_dispatch" ["inputs"] := by
  intro s kv h
  simp only [List.mem_cons, List.not_mem_nil, or_false] at h
  simp [plain, dispatchStep, h]

/-- events: an input of `workflow_dispatch` -/
def dispatchAttrKeys : List String := ["description", "required", "default", "type", "options"]

theorem dispatchAttr_fixed : FixedKeys (plain dispatchAttr {}) dispatchAttrKeys "inputs" ["description", "required", "default"] := by
  intro s kv
  simp only [dispatchAttrKeys, List.mem_cons, List.not_mem_nil, or_false, not_or, and_imp]
  intros
  simp only [plain, dispatchAttr]

theorem repoDispatch_fixed : FixedKeys (plain repoDispatchStep none) ["types"] "repository_dispatch" ["types"] := by
  intro s kv h
  simp only [List.mem_cons, List.not_mem_nil, or_false] at h
  simp [plain, repoDispatchStep, h]

/-! events: `workflow_call:` and its input / secret / output specifications -/

theorem callEvent_fixed (cfg : Cfg) :
    FixedKeys (plain (callEventKey cfg) {}) ["inputs", "secrets", "outputs"] "workflow_call" ["inputs", "secrets", "outputs"] := by
  intro s kv
  simp only [List.mem_cons, List.not_mem_nil, or_false, not_or, and_imp]
  intros
  simp only [plain, callEventKey]

theorem callInput_fixed (kv : KV) :
    FixedKeys (callInputSect kv) ["description", "required", "default", "type"] "inputs at workflow_call event"
      ["description", "required", "default", "type"] := by
  intro s kv'
  simp only [List.mem_cons, List.not_mem_nil, or_false, not_or, and_imp]
  intros
  simp only [callInputSect, callInputAttr]

theorem callSecret_fixed (kv : KV) :
    FixedKeys (plain callSecretAttr { name := kv.key }) ["description", "required"] "secrets" ["description", "required"] := by
  intro s kv'
  simp only [List.mem_cons, List.not_mem_nil, or_false, not_or, and_imp]
  intros
  simp only [plain, callSecretAttr]

theorem callOutput_fixed (kv : KV) :
    FixedKeys (callOutputSect kv) ["description", "value"] "outputs at workflow_call event" ["description", "value"] := by
  intro s kv'
  simp only [List.mem_cons, List.not_mem_nil, or_false, not_or, and_imp]
  intros
  simp only [callOutputSect, callOutputAttr]

theorem defaults_fixed (cfg : Cfg) (pos : Pos) (n : Node) : FixedKeys (defaultsSect cfg pos n) ["run"] "defaults" ["run"] := by
  intro s kv h
  simp only [List.mem_cons, List.not_mem_nil, or_false] at h
  simp [defaultsSect, defaultsStep, h]

theorem defaultsRun_fixed (pos : Pos) :
    FixedKeys (plain defaultsRunKey { pos := pos }) ["shell", "working-directory"] "run" ["shell", "working-directory"] := by
  intro s kv
  simp only [List.mem_cons, List.not_mem_nil, or_false, not_or, and_imp]
  intros
  simp only [plain, defaultsRunKey]

theorem concurrency_fixed (pos : Pos) :
    FixedKeys (concurrencySect pos) ["group", "cancel-in-progress"] "concurrency" ["group", "cancel-in-progress"] := by
  intro s kv
  simp only [List.mem_cons, List.not_mem_nil, or_false, not_or, and_imp]
  intros
  simp only [concurrencySect, concurrencyKey]

theorem environment_fixed (pos : Pos) : FixedKeys (environmentSect pos) ["name", "url"] "environment" ["name", "url"] := by
  intro s kv
  simp only [List.mem_cons, List.not_mem_nil, or_false, not_or, and_imp]
  intros
  simp only [environmentSect, environmentKey]

theorem strategy_fixed (cfg : Cfg) (pos : Pos) :
    FixedKeys (plain (strategyKey cfg) { pos := pos }) ["matrix", "fail-fast", "max-parallel"] "strategy"
      ["matrix", "fail-fast", "max-parallel"] := by
  intro s kv
  simp only [List.mem_cons, List.not_mem_nil, or_false, not_or, and_imp]
  intros
  simp only [plain, strategyKey]

/-! `container:` / a service (mapping form) and `credentials:` -/

def containerKeys : List String := ["image", "credentials", "env", "ports", "volumes", "options"]

theorem container_fixed (cfg : Cfg) (sec : String) (pos : Pos) :
    FixedKeys (plain (containerKey cfg sec) { pos := pos }) containerKeys sec containerKeys := by
  intro s kv
  simp only [containerKeys, List.mem_cons, List.not_mem_nil, or_false, not_or, and_imp]
  intros
  simp only [plain, containerKey]

theorem credentials_fixed (pos : Pos) :
    FixedKeys (plain credentialsKey { pos := pos }) ["username", "password"] "credentials" ["username", "password"] := by
  intro s kv
  simp only [List.mem_cons, List.not_mem_nil, or_false, not_or, and_imp]
  intros
  simp only [plain, credentialsKey]

/-- `runs-on:` (mapping form) -/
theorem runsOn_fixed : FixedKeys (plain runsOnKey {}) ["labels", "group"] "runs-on" ["labels", "group"] := by
  intro s kv
  simp only [List.mem_cons, List.not_mem_nil, or_false, not_or, and_imp]
  intros
  simp only [plain, runsOnKey]

end AL.C13P

namespace AL.C13P
open AL.PW AL.Yaml AL.Ast

/-! ### unknown keys, section by section (on the parser function, or on the `Sect.run` that it is)

`Ins f pre post kn vn e` : parsing the mapping with the pair `(kn, vn)` inserted between `pre` and `post` gives the same
result as parsing it without, and the same diagnostics plus `e`. -/

def Ins {ρ : Type} (f : Node → R ρ) (tag : String) (l c : Nat) (pre post : List (Node × Node)) (kn vn : Node) (e : PErr) : Prop :=
  (f (mapNode tag l c (pre ++ (kn, vn) :: post))).1 = (f (mapNode tag l c (pre ++ post))).1 ∧
  (f (mapNode tag l c (pre ++ (kn, vn) :: post))).2.Perm (e :: (f (mapNode tag l c (pre ++ post))).2)

/-- the hypotheses on the inserted pair: a non-empty scalar key outside the section's key set that occurs nowhere else in
the (non-empty) mapping -/
structure Foreign (cfg : Cfg) (keys : List String) (pre post : List (Node × Node)) (kn : Node) : Prop where
  good : GoodKey kn
  unknown : kn.value ∉ keys
  fresh : ∀ q ∈ pre ++ post, keyId cfg true q.1 ≠ kn.value
  siblings : pre ++ post ≠ []

def unexpectedAt (kn : Node) (sec : String) (expected : List String) : PErr :=
  unexpectedKey ⟨kn.value, kn.quoted, kn.pos⟩ sec expected

theorem unexpectedAt_pos (kn : Node) (sec : String) (expected : List String) : (unexpectedAt kn sec expected).pos = kn.pos := by
  simp only [unexpectedAt, unexpectedKey]
  split <;> rfl

variable (cfg : Cfg) (tag : String) (l c : Nat) (pre post : List (Node × Node)) (kn vn : Node)

theorem workflow_unknown (doc : Node) (h : Foreign cfg workflowKeys pre post kn) :
    Ins (fun root => (workflowSect cfg doc).run cfg "workflow" root false true) tag l c pre post kn vn
      (unexpectedAt kn "workflow" workflowKeys) :=
  Sect.unknown_key_fixed _ (workflow_fixed cfg doc) cfg _ tag l c false pre post kn vn h.good h.unknown h.fresh h.siblings

theorem job_unknown (id : Str) (h : Foreign cfg jobKeys pre post kn) :
    Ins (parseJob cfg id) tag l c pre post kn vn (unexpectedAt kn "job" jobKeys) := by
  have := Sect.unknown_key_fixed _ (job_fixed cfg id) cfg (jobWhat id.value) tag l c false pre post kn vn
    h.good h.unknown h.fresh h.siblings
  simp only [Ins, parseJob_eq_run]
  exact this

theorem webhook_unknown (name : Str) (h : Foreign cfg webhookKeys pre post kn) :
    Ins (parseWebhookEvent cfg name) tag l c pre post kn vn (unexpectedAt kn name.value webhookKeys) := by
  have := Sect.unknown_key_fixed _ (webhook_fixed name) cfg (sectionWhat name.value) tag l c true pre post kn vn
    h.good h.unknown h.fresh h.siblings
  simp only [Ins, parseWebhookEvent_eq_run]
  exact ⟨by rw [this.1], this.2⟩

theorem dispatch_unknown (pos : Pos) (h : Foreign cfg ["inputs"] pre post kn) :
    Ins (parseWorkflowDispatchEvent cfg pos) tag l c pre post kn vn (unexpectedAt kn "workflow_dispatch" ["inputs"]) := by
  have := Sect.unknown_key_fixed _ (dispatch_fixed cfg) cfg (sectionWhat "workflow_dispatch") tag l c true pre post kn vn
    h.good h.unknown h.fresh h.siblings
  simp only [Ins, parseWorkflowDispatchEvent_eq_run]
  exact ⟨by rw [this.1], this.2⟩

theorem dispatchInput_unknown (key : Str) (id : String) (h : Foreign cfg dispatchAttrKeys pre post kn) :
    Ins (fun n => dispatchInput cfg ⟨id, key, n⟩) tag l c pre post kn vn
      (unexpectedAt kn "inputs" ["description", "required", "default"]) := by
  have := Sect.unknown_key_fixed _ dispatchAttr_fixed cfg "input settings of workflow_dispatch event" tag l c true pre post kn vn
    h.good h.unknown h.fresh h.siblings
  simp only [Ins, dispatchInput_eq_run]
  exact ⟨by rw [this.1], this.2⟩

theorem repoDispatch_unknown (pos : Pos) (h : Foreign cfg ["types"] pre post kn) :
    Ins (parseRepositoryDispatchEvent cfg pos) tag l c pre post kn vn (unexpectedAt kn "repository_dispatch" ["types"]) := by
  have := Sect.unknown_key_fixed _ repoDispatch_fixed cfg (sectionWhat "repository_dispatch") tag l c true pre post kn vn
    h.good h.unknown h.fresh h.siblings
  simp only [Ins, parseRepositoryDispatchEvent_eq_run]
  exact ⟨by rw [this.1], this.2⟩

theorem callEvent_unknown (pos : Pos) (h : Foreign cfg ["inputs", "secrets", "outputs"] pre post kn) :
    Ins (parseWorkflowCallEvent cfg pos) tag l c pre post kn vn
      (unexpectedAt kn "workflow_call" ["inputs", "secrets", "outputs"]) := by
  have := Sect.unknown_key_fixed _ (callEvent_fixed cfg) cfg (sectionWhat "workflow_call") tag l c true pre post kn vn
    h.good h.unknown h.fresh h.siblings
  simp only [Ins, parseWorkflowCallEvent_eq_run]
  exact ⟨by rw [this.1], this.2⟩

/-! an input / a secret / an output of `workflow_call` -/

theorem callInput_unknown (key : Str) (id : String) (h : Foreign cfg ["description", "required", "default", "type"] pre post kn) :
    Ins (fun n => callInput cfg ⟨id, key, n⟩) tag l c pre post kn vn
      (unexpectedAt kn "inputs at workflow_call event" ["description", "required", "default", "type"]) := by
  have := Sect.unknown_key_fixed _ (callInput_fixed ⟨id, key, vn⟩) cfg "input of workflow_call event" tag l c true pre post kn vn
    h.good h.unknown h.fresh h.siblings
  simp only [Ins, callInput_eq_run]
  exact this

theorem callSecret_unknown (key : Str) (id : String) (h : Foreign cfg ["description", "required"] pre post kn) :
    Ins (fun n => callSecret cfg ⟨id, key, n⟩) tag l c pre post kn vn
      (unexpectedAt kn "secrets" ["description", "required"]) := by
  have := Sect.unknown_key_fixed _ (callSecret_fixed ⟨id, key, vn⟩) cfg "secret of workflow_call event" tag l c true pre post kn vn
    h.good h.unknown h.fresh h.siblings
  simp only [Ins, callSecret_eq_run]
  exact this

theorem callOutput_unknown (key : Str) (id : String) (h : Foreign cfg ["description", "value"] pre post kn) :
    Ins (fun n => callOutput cfg ⟨id, key, n⟩) tag l c pre post kn vn
      (unexpectedAt kn "outputs at workflow_call event" ["description", "value"]) := by
  have := Sect.unknown_key_fixed _ (callOutput_fixed ⟨id, key, vn⟩) cfg "output of workflow_call event" tag l c true pre post kn vn
    h.good h.unknown h.fresh h.siblings
  simp only [Ins, callOutput_eq_run]
  exact this

theorem defaults_unknown (pos : Pos) (n0 : Node) (h : Foreign cfg ["run"] pre post kn) :
    Ins (fun n => (defaultsSect cfg pos n0).run cfg (sectionWhat "defaults") n false true) tag l c pre post kn vn
      (unexpectedAt kn "defaults" ["run"]) :=
  Sect.unknown_key_fixed _ (defaults_fixed cfg pos n0) cfg _ tag l c false pre post kn vn h.good h.unknown h.fresh h.siblings

theorem defaultsRun_unknown (pos : Pos) (h : Foreign cfg ["shell", "working-directory"] pre post kn) :
    Ins (fun n => (plain defaultsRunKey { pos := pos }).run cfg (sectionWhat "run") n false true) tag l c pre post kn vn
      (unexpectedAt kn "run" ["shell", "working-directory"]) :=
  Sect.unknown_key_fixed _ (defaultsRun_fixed pos) cfg _ tag l c false pre post kn vn h.good h.unknown h.fresh h.siblings

theorem concurrency_unknown (pos : Pos) (h : Foreign cfg ["group", "cancel-in-progress"] pre post kn) :
    Ins (parseConcurrency cfg pos) tag l c pre post kn vn (unexpectedAt kn "concurrency" ["group", "cancel-in-progress"]) := by
  have := Sect.unknown_key_fixed _ (concurrency_fixed pos) cfg (sectionWhat "concurrency") tag l c false pre post kn vn
    h.good h.unknown h.fresh h.siblings
  simp only [Ins, parseConcurrency_eq_run]
  exact this

theorem environment_unknown (pos : Pos) (h : Foreign cfg ["name", "url"] pre post kn) :
    Ins (parseEnvironment cfg pos) tag l c pre post kn vn (unexpectedAt kn "environment" ["name", "url"]) := by
  have := Sect.unknown_key_fixed _ (environment_fixed pos) cfg (sectionWhat "environment") tag l c false pre post kn vn
    h.good h.unknown h.fresh h.siblings
  simp only [Ins, parseEnvironment_eq_run]
  exact this

theorem strategy_unknown (pos : Pos) (h : Foreign cfg ["matrix", "fail-fast", "max-parallel"] pre post kn) :
    Ins (parseStrategy cfg pos) tag l c pre post kn vn (unexpectedAt kn "strategy" ["matrix", "fail-fast", "max-parallel"]) := by
  have := Sect.unknown_key_fixed _ (strategy_fixed cfg pos) cfg (sectionWhat "strategy") tag l c false pre post kn vn
    h.good h.unknown h.fresh h.siblings
  simp only [Ins, parseStrategy_eq_run]
  exact this

/-- `container` and every service -/
theorem container_unknown (sec : String) (pos : Pos) (h : Foreign cfg containerKeys pre post kn) :
    Ins (parseContainer cfg sec pos) tag l c pre post kn vn (unexpectedAt kn sec containerKeys) := by
  have := Sect.unknown_key_fixed _ (container_fixed cfg sec pos) cfg (sectionWhat sec) tag l c false pre post kn vn
    h.good h.unknown h.fresh h.siblings
  simp only [Ins, parseContainer_eq_run]
  exact this

theorem credentials_unknown (pos : Pos) (h : Foreign cfg ["username", "password"] pre post kn) :
    Ins (fun n => (plain credentialsKey { pos := pos }).run cfg (sectionWhat "credentials") n false true) tag l c pre post kn vn
      (unexpectedAt kn "credentials" ["username", "password"]) :=
  Sect.unknown_key_fixed _ (credentials_fixed pos) cfg _ tag l c false pre post kn vn h.good h.unknown h.fresh h.siblings

theorem runsOn_unknown (h : Foreign cfg ["labels", "group"] pre post kn) :
    Ins (parseRunsOn cfg) "!!map" l c pre post kn vn (unexpectedAt kn "runs-on" ["labels", "group"]) := by
  have := Sect.unknown_key_fixed _ runsOn_fixed cfg (sectionWhat "runs-on") "!!map" l c false pre post kn vn
    h.good h.unknown h.fresh h.siblings
  simp only [Ins, parseRunsOn_eq_run]
  exact this

theorem step_unknown (h : Foreign cfg stepKeys pre post kn) :
    (parseStep cfg (mapNode tag l c (pre ++ (kn, vn) :: post))).1 = (parseStep cfg (mapNode tag l c (pre ++ post))).1 ∧
    (parseStep cfg (mapNode tag l c (pre ++ (kn, vn) :: post))).2.Perm
      (unexpectedAt kn "step" stepKeys :: (parseStep cfg (mapNode tag l c (pre ++ post))).2) := by
  have := Sect.unknown_key_fixed _ (step_fixed cfg (mapNode tag l c [])) cfg "element of \"steps\" section" tag l c false
    pre post kn vn h.good h.unknown h.fresh h.siblings
  rw [parseStep_mapNode, parseStep_mapNode]
  exact this

end AL.C13P

namespace AL.C13P
open AL.PW AL.Yaml AL.Ast

/-! ### repeated keys: `Sect.duplicate_key` asks nothing of the key set -/

def dupAt (kn : Node) (what : String) (pos : Pos) (cs : Bool) : PErr :=
  ⟨kn.pos, "key-duplicated", [kn.value, what, posString pos, if cs then "" else ". note that this key is case insensitive"]⟩

/-- the hypotheses on a repeated pair: a non-empty scalar key that has the id of an earlier key of the mapping -/
structure Repeated (cfg : Cfg) (cs : Bool) (pre : List (Node × Node)) (kn : Node) : Prop where
  good : GoodKey kn
  earlier : ∃ q ∈ pre, keyId cfg cs q.1 = keyId cfg cs kn

variable (cfg : Cfg) (tag : String) (l c : Nat) (pre post : List (Node × Node)) (kn vn : Node)

/-- `jobs:` — job ids are compared case-insensitively -/
theorem jobs_duplicate (h : Repeated cfg false pre kn) :
    ∃ pos, firstPos cfg false (keyId cfg false kn) pre = some pos ∧
      Ins (parseJobs cfg) tag l c pre post kn vn (dupAt kn (sectionWhat "jobs") pos false) := by
  obtain ⟨pos, hp, h1, h2⟩ := Sect.duplicate_key (mapSect fun kv => parseJob cfg kv.key kv.val) cfg (sectionWhat "jobs") tag l c false false
    pre post kn vn h.good h.earlier
  refine ⟨pos, hp, ?_⟩
  simp only [Ins, parseJobs, parseSectionMapping, dupAt]
  rw [mapSect_run, mapSect_run] at h1 h2
  exact ⟨h1, h2⟩

/-- a job's own keys (case-sensitive) -/
theorem job_duplicate (id : Str) (h : Repeated cfg true pre kn) :
    ∃ pos, firstPos cfg true (keyId cfg true kn) pre = some pos ∧
      Ins (parseJob cfg id) tag l c pre post kn vn (dupAt kn (jobWhat id.value) pos true) := by
  obtain ⟨pos, hp, h1, h2⟩ := Sect.duplicate_key (jobSect cfg id) cfg (jobWhat id.value) tag l c false true pre post kn vn h.good h.earlier
  exact ⟨pos, hp, h1, h2⟩

theorem step_duplicate (h : Repeated cfg true pre kn) :
    ∃ pos, firstPos cfg true (keyId cfg true kn) pre = some pos ∧
      Ins (parseStep cfg) tag l c pre post kn vn (dupAt kn "element of \"steps\" section" pos true) := by
  simp only [Ins, parseStep_mapNode]
  exact Sect.duplicate_key (stepSect cfg (mapNode tag l c [])) cfg "element of \"steps\" section" tag l c false true
    pre post kn vn h.good h.earlier

theorem workflow_duplicate (doc : Node) (h : Repeated cfg true pre kn) :
    ∃ pos, firstPos cfg true (keyId cfg true kn) pre = some pos ∧
      Ins (fun root => (workflowSect cfg doc).run cfg "workflow" root false true) tag l c pre post kn vn (dupAt kn "workflow" pos true) := by
  obtain ⟨pos, hp, h1, h2⟩ := Sect.duplicate_key (workflowSect cfg doc) cfg "workflow" tag l c false true pre post kn vn h.good h.earlier
  exact ⟨pos, hp, h1, h2⟩

/-- `env:` (case-insensitive names) -/
theorem env_duplicate (h : Repeated cfg false pre kn) :
    ∃ pos, firstPos cfg false (keyId cfg false kn) pre = some pos ∧
      Ins (parseEnv cfg) tag l c pre post kn vn (dupAt kn "env" pos false) := by
  obtain ⟨pos, hp, h1, h2⟩ := Sect.duplicate_key
    (mapSect fun kv => let v := parseString kv.val true; ((⟨kv.key, v.1⟩ : EnvVar), v.2)) cfg "env" tag l c false false
    pre post kn vn h.good h.earlier
  refine ⟨pos, hp, ?_⟩
  rw [mapSect_run, mapSect_run] at h1 h2
  simp only [Ins, parseEnv, mapNode_kind, dupAt]
  simp only [show (Kind.mapping = Kind.scalar) = False from by simp, ↓reduceIte]
  exact ⟨by rw [h1], h2⟩

/-! ### missing mandatory keys -/

/-- no `on:` key (the keys that `parseMapping` hands out are what counts): reported, at the document -/
theorem workflow_missing_on (doc root : Node) (rest : List Node) (hc : (fixDocPos doc).content = root :: rest)
    (h : ∀ kv ∈ (parseMapping cfg "workflow" root false true).1, kv.id ≠ "on") :
    errAt (fixDocPos doc) "workflow-no-on" [] ∈ (parse cfg doc).2 := by
  have hon : (loop (workflowKey cfg) {} (parseMapping cfg "workflow" root false true).1).1.on = none :=
    loop_untouched (workflowKey cfg) (·.on) "on" (fun s kv => (workflowKey_frame cfg s kv).on) _ h _
  simp only [parse, hc, hon, Option.isNone_none, ↓reduceIte]
  simp

theorem workflow_missing_jobs (doc root : Node) (rest : List Node) (hc : (fixDocPos doc).content = root :: rest)
    (h : ∀ kv ∈ (parseMapping cfg "workflow" root false true).1, kv.id ≠ "jobs") :
    errAt (fixDocPos doc) "workflow-no-jobs" [] ∈ (parse cfg doc).2 := by
  have hj : (loop (workflowKey cfg) {} (parseMapping cfg "workflow" root false true).1).1.jobs = none :=
    loop_untouched (workflowKey cfg) (·.jobs) "jobs" (fun s kv => (workflowKey_frame cfg s kv).jobs) _ h _
  simp only [parse, hc, hj, Option.isNone_none, ↓reduceIte]
  simp

/-- a job that does not call a reusable workflow (no `uses:`) and has no `steps:` key: reported at the job id -/
theorem job_missing_steps (id : Str) (n : Node)
    (h : ∀ kv ∈ (parseMapping cfg (jobWhat id.value) n false true).1, kv.id ≠ "steps" ∧ kv.id ≠ "uses") :
    (⟨id.pos, "job-no-steps", [id.value]⟩ : PErr) ∈ (parseJob cfg id n).2 := by
  have hs : let st := (loop (jobKey cfg) { job := { id := id, pos := id.pos } } (parseMapping cfg (jobWhat id.value) n false true).1).1
      st.job.steps = none ∧ st.call.uses = none := by
    apply loop_inv (jobKey cfg) (fun st => st.job.steps = none ∧ st.call.uses = none)
    · intro s kv hm hs
      rw [(jobKey_frame cfg s kv).steps (h kv hm).1, (jobKey_frame cfg s kv).uses (h kv hm).2]
      exact hs
    · exact ⟨rfl, rfl⟩
  simp only [parseJob, jobFinish, hs.1, hs.2]
  simp

/-- the same for `runs-on:` -/
theorem job_missing_runs_on (id : Str) (n : Node)
    (h : ∀ kv ∈ (parseMapping cfg (jobWhat id.value) n false true).1, kv.id ≠ "runs-on" ∧ kv.id ≠ "uses") :
    (⟨id.pos, "job-no-runs-on", [id.value]⟩ : PErr) ∈ (parseJob cfg id n).2 := by
  have hs : let st := (loop (jobKey cfg) { job := { id := id, pos := id.pos } } (parseMapping cfg (jobWhat id.value) n false true).1).1
      st.job.runsOn = none ∧ st.call.uses = none := by
    apply loop_inv (jobKey cfg) (fun st => st.job.runsOn = none ∧ st.call.uses = none)
    · intro s kv hm hs
      rw [(jobKey_frame cfg s kv).runsOn (h kv hm).1, (jobKey_frame cfg s kv).uses (h kv hm).2]
      exact hs
    · exact ⟨rfl, rfl⟩
  simp only [parseJob, jobFinish, hs.1, hs.2]
  simp

/-- a step with none of `run`, `shell`, `uses`, `with`: reported at the step -/
theorem step_missing_exec (n : Node)
    (h : ∀ kv ∈ (parseMapping cfg "element of \"steps\" section" n false true).1,
      kv.id ≠ "run" ∧ kv.id ≠ "shell" ∧ kv.id ≠ "uses" ∧ kv.id ≠ "with") :
    errAt n "step-no-exec" [] ∈ (parseStep cfg n).2 := by
  have hs : (loop (stepKey cfg) { step := { pos := n.pos } } (parseMapping cfg "element of \"steps\" section" n false true).1).1.step.exec = .none := by
    apply loop_inv (stepKey cfg) (fun st => st.step.exec = .none)
    · intro s kv hm hs
      obtain ⟨h1, h2, h3, h4⟩ := h kv hm
      simp only [stepKey]
      -- the other keys leave `exec` alone (`working-directory` does when there is no `run` yet)
      split <;> (try split) <;> first | exact hs | contradiction | simp_all
    · rfl
  simp only [parseStep, stepFinish, hs]
  simp

/-- `concurrency:` as a mapping without `group:` — reported at `pos`, which the callers (`workflowKey`, `jobKey`) make the
position of the `concurrency` key -/
theorem concurrency_missing_group (pos : Pos) (ps : List (Node × Node))
    (h : ∀ kv ∈ (parseMapping cfg (sectionWhat "concurrency") (mapNode tag l c ps) false true).1, kv.id ≠ "group") :
    (⟨pos, "concurrency-no-group", []⟩ : PErr) ∈ (parseConcurrency cfg pos (mapNode tag l c ps)).2 := by
  have hs : (loop concurrencyKey ({ pos := pos }, false) (parseMapping cfg (sectionWhat "concurrency") (mapNode tag l c ps) false true).1).1.2 = false :=
    loop_untouched concurrencyKey (·.2) "group" (fun s kv hne => ((concurrencyKey_frame s kv).2.1 hne).2) _ h _
  simp [parseConcurrency, parseSectionMapping, hs]

/-- `environment:` as a mapping without `name:` -/
theorem environment_missing_name (pos : Pos) (ps : List (Node × Node))
    (h : ∀ kv ∈ (parseMapping cfg (sectionWhat "environment") (mapNode tag l c ps) false true).1, kv.id ≠ "name") :
    (⟨pos, "environment-no-name", []⟩ : PErr) ∈ (parseEnvironment cfg pos (mapNode tag l c ps)).2 := by
  have hs : (loop environmentKey ({ pos := pos }, false) (parseMapping cfg (sectionWhat "environment") (mapNode tag l c ps) false true).1).1.2 = false :=
    loop_untouched environmentKey (·.2) "name" (fun s kv hne => ((environmentKey_frame s kv).2.1 hne).2) _ h _
  simp [parseEnvironment, parseSectionMapping, hs]

/-- an input of `workflow_call` without `type:` — reported at the input's name -/
theorem callInput_missing_type (kv : KV)
    (h : ∀ a ∈ (parseMapping cfg "input of workflow_call event" kv.val true true).1, a.id ≠ "type") :
    (⟨kv.key.pos, "call-input-type-missing", [kv.key.value]⟩ : PErr) ∈ (callInput cfg kv).2 := by
  have hs : (loop callInputAttr ({ name := kv.key, id := kv.id }, false) (parseMapping cfg "input of workflow_call event" kv.val true true).1).1.2 = false :=
    loop_untouched callInputAttr (·.2) "type" (fun s a hne => ((callInputAttr_frame s a).type hne).2) _ h _
  simp [callInput, hs]

/-- an output of `workflow_call` without `value:` -/
theorem callOutput_missing_value (kv : KV)
    (h : ∀ a ∈ (parseMapping cfg "output of workflow_call event" kv.val true true).1, a.id ≠ "value") :
    (⟨kv.key.pos, "call-output-value-missing", [kv.key.value]⟩ : PErr) ∈ (callOutput cfg kv).2 := by
  have hs : (loop callOutputAttr { name := kv.key } (parseMapping cfg "output of workflow_call event" kv.val true true).1).1.value = none :=
    loop_untouched callOutputAttr (·.value) "value" (fun s a => (callOutputAttr_frame s a).2.2) _ h _
  simp [callOutput, hs]

/-- `defaults:` without `run:` -/
theorem defaults_missing_run (pos : Pos) (n : Node)
    (h : ∀ kv ∈ (parseMapping cfg (sectionWhat "defaults") n false true).1, kv.id ≠ "run") :
    errAt n "defaults-no-run" [] ∈ (parseDefaults cfg pos n).2 := by
  rw [parseDefaults_eq_run]
  have hs : (loop (defaultsStep cfg) none (parseMapping cfg (sectionWhat "defaults") n false true).1).1 = none :=
    loop_untouched (defaultsStep cfg) id "run" (fun st kv hne => by simp [defaultsStep, hne]) _ h _
  simp [Sect.run, defaultsSect, hs]

/-- `credentials:` without `username:` (respectively `password:`) — reported at the `credentials` key, among the
diagnostics of the container's loop body `containerKey` at that key -/
theorem credentials_missing_username (sec : String) (st : Container) (kv : KV) (hid : kv.id = "credentials")
    (hone : ∀ a ∈ (parseMapping cfg (sectionWhat "credentials") kv.val false true).1, a.id ≠ "username") :
    (⟨kv.key.pos, "credentials-pair", []⟩ : PErr) ∈ (containerKey cfg sec st kv).2 := by
  have hs : (loop credentialsKey { pos := kv.key.pos } (parseMapping cfg (sectionWhat "credentials") kv.val false true).1).1.username = none :=
    loop_untouched credentialsKey (·.username) "username" (fun s a => (credentialsKey_frame s a).2.1) _ hone _
  simp [containerKey, hid, parseSectionMapping, hs]

theorem credentials_missing_password (sec : String) (st : Container) (kv : KV) (hid : kv.id = "credentials")
    (hone : ∀ a ∈ (parseMapping cfg (sectionWhat "credentials") kv.val false true).1, a.id ≠ "password") :
    (⟨kv.key.pos, "credentials-pair", []⟩ : PErr) ∈ (containerKey cfg sec st kv).2 := by
  have hs : (loop credentialsKey { pos := kv.key.pos } (parseMapping cfg (sectionWhat "credentials") kv.val false true).1).1.password = none :=
    loop_untouched credentialsKey (·.password) "password" (fun s a => (credentialsKey_frame s a).2.2) _ hone _
  simp [containerKey, hid, parseSectionMapping, hs]

/-- a `schedule` item for which `parseMapping` does not hand out exactly one entry `cron` — an extra key, another key,
no key — is reported at the item. A repeated `cron` is not such an item: `parseMapping` drops the repetition (`key-duplicated`). -/
theorem schedule_item_reported (c0 : Node) (cs : List Node)
    (h : ∀ kv, (parseMapping cfg "element of \"schedule\" section" c0 false true).1 = [kv] → kv.id ≠ "cron") :
    errAt c0 "schedule-element" [] ∈ (scheduleItems cfg (c0 :: cs)).2 := by
  simp only [scheduleItems]
  split
  · rename_i kv heq
    have := h kv heq
    simp [this]
  · simp

end AL.C13P

namespace AL.C13P
open AL.PW AL.Yaml AL.Ast

/-! ### the hypotheses are satisfiable: a concrete job mapping -/

def exCfg : Cfg := ⟨AL.PW.asciiLower, fun _ => none, fun _ => .err⟩
def sc (v : String) (l c : Nat) : Node := .mk .scalar "!!str" v false l c []
def exPre : List (Node × Node) := [(sc "runs-on" 5 5, sc "ubuntu-latest" 5 14)]
def exPost : List (Node × Node) :=
  [(sc "steps" 7 5, .mk .sequence "!!seq" "" false 8 7 [mapNode "!!map" 8 9 [(sc "run" 8 9, sc "echo" 8 14)]])]

example : Foreign exCfg jobKeys exPre exPost (sc "bogus" 6 5) :=
  ⟨goodKey_of_scalar _ rfl (by decide), by decide, by decide, by decide⟩

/-- `bogus: x` between `runs-on` and `steps` of a job: the unexpected key is the only diagnostic; it sits at 6:5 (next example) -/
example :
    (parseJob exCfg ⟨"build", false, ⟨4, 3⟩⟩ (mapNode "!!map" 5 5 (exPre ++ (sc "bogus" 6 5, sc "x" 6 12) :: exPost))).2
      = [unexpectedAt (sc "bogus" 6 5) "job" jobKeys] := by decide +kernel

example : (unexpectedAt (sc "bogus" 6 5) "job" jobKeys).pos = ⟨6, 5⟩ := rfl

example : Repeated exCfg true exPre (sc "runs-on" 6 5) := ⟨goodKey_of_scalar _ rfl (by decide), by decide⟩

/-- job `BUILD:` after job `build:` in `jobs:` (case-insensitive): `key-duplicated` at the repetition, naming the first one -/
example :
    (parseJobs exCfg (mapNode "!!map" 4 3
      [(sc "build" 4 3, mapNode "!!map" 5 5 (exPre ++ exPost)), (sc "BUILD" 9 3, mapNode "!!map" 10 5 (exPre ++ exPost))])).2
      = [dupAt (sc "BUILD" 9 3) (sectionWhat "jobs") ⟨4, 3⟩ false] := by decide +kernel

end AL.C13P
