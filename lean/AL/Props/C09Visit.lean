import AL.Model.Visit
import AL.Lemmas.Visit
/-
  C09 / C05 (workflow level) — statements about the model of RuleExpression's scope bookkeeping (AL/Model/Visit.lean).
  Statements first (`def …_statement : Prop`), their proofs after them.
-/
namespace AL.Props.C09Visit
open AL AL.Sema AL.Visit

def propsOf : Ty → List (String × Ty)
  | .obj ps _ => ps
  | _ => []

/-- (a) whatever state a job starts from, it leaves the initial state behind (`VisitJobPost` resets). In the model
`runJob` returns `St.init` as its state, so this restates the definition. -/
def job_resets_statement : Prop :=
  ∀ (lower : String → String) (hdr : Header) (jobs : List JobM) (st : St) (j : JobM),
    (runJob lower hdr jobs st j).1 = St.init

/-- (b) no state leaks between jobs: linting a list of jobs gives, job by job, what each job gives when it is
visited first — so adding, removing or reordering other jobs only moves a job's block of diagnostics -/
def jobs_independent_statement : Prop :=
  ∀ (lower : String → String) (hdr : Header) (jobs : List JobM) (js : List JobM),
    (runJobs lower hdr jobs St.init js).2 = js.flatMap (fun j => (runJob lower hdr jobs St.init j).2)

/-- (c) a job's diagnostics depend on the other jobs only through the jobs it needs directly -/
def job_depends_on_needed_only_statement : Prop :=
  ∀ (lower : String → String) (hdr : Header) (jobs jobs' : List JobM) (j : JobM),
    (∀ n ∈ j.needs, lookupJob (lower n) jobs = lookupJob (lower n) jobs') →
    (runJob lower hdr jobs St.init j).2 = (runJob lower hdr jobs' St.init j).2

/-- the `steps` object in effect after the steps `ss` -/
def stepsAfter (lower : String → String) (t : Ty) (ss : List StepM) : Ty := ss.foldl (addStep lower) t

/-- (d) the strings of a step are checked under the `steps` object built from the steps BEFORE it (its own id
and later ids are not in scope), and steps that follow do not change what was reported for it -/
def steps_scope_statement : Prop :=
  ∀ (lower : String → String) (hdr : Header) (st : St) (t : Ty) (pre post : List StepM) (s : StepM),
    (runSteps lower hdr { st with stepsTy := some t } (pre ++ s :: post)).2 =
      (runSteps lower hdr { st with stepsTy := some t } pre).2 ++
      s.probes.map (checkProbe lower hdr none { st with stepsTy := some (stepsAfter lower t pre) }) ++
      (runSteps lower hdr { st with stepsTy := some (stepsAfter lower t (pre ++ [s])) } post).2

/-- (e) which ids are in `steps` after the steps `ss` (started from the empty strict object): exactly the
lower-cased ids of `ss` -/
def steps_ids_statement : Prop :=
  ∀ (lower : String → String) (ss : List StepM) (x : String),
    (Ty.lookup x (propsOf (stepsAfter lower emptyStrict ss))).isSome = true ↔
      ∃ s ∈ ss, ∃ id, s.id = some id ∧ lower id = x

/-- (f) `steps` stays a strict object (undefined ids are reported) unless some earlier id contains a placeholder -/
def steps_strict_statement : Prop :=
  ∀ (lower : String → String) (ss : List StepM),
    (∀ s ∈ ss, s.id ≠ none → s.idExpr = false) →
    ∃ ps, stepsAfter lower emptyStrict ss = .obj ps none

/-- (g) `needs` contains exactly the directly needed jobs that exist, except the job itself -/
def needs_exact_statement : Prop :=
  ∀ (lower : String → String) (jobs : List JobM) (self : String) (needs : List String) (i : String),
    (Ty.lookup i (propsOf (needsTyOf lower jobs self needs))).isSome = true ↔
      (i ∈ needs.map lower ∧ i ≠ self ∧ (lookupJob i jobs).isSome = true)

/-- (h) … each with `outputs` = the outputs that job declares (or its reusable workflow's) and `result` -/
def needs_entry_statement : Prop :=
  ∀ (lower : String → String) (jobs : List JobM) (self : String) (needs : List String) (i : String) (t : Ty),
    Ty.lookup i (propsOf (needsTyOf lower jobs self needs)) = some t →
      ∃ j, lookupJob i jobs = some j ∧ t = .obj [("outputs", jobOutputsTy j), ("result", .string)] none

/-! ### proofs (helper lemmas: AL/Lemmas/Visit.lean) -/

theorem job_resets : job_resets_statement := by
  intro lower hdr jobs st j
  exact runJob_fst lower hdr jobs st j

theorem jobs_independent : jobs_independent_statement := by
  intro lower hdr jobs js
  exact runJobs_snd_init lower hdr jobs js

theorem job_depends_on_needed_only : job_depends_on_needed_only_statement := by
  intro lower hdr jobs jobs' j h
  -- `runJob` reads the other jobs through `needsTyOf` only
  simp only [runJob, needsTyOf_congr lower jobs jobs' j.id j.needs h]

theorem steps_scope : steps_scope_statement := by
  intro lower hdr st t pre post s
  rw [runSteps_append_snd, runSteps_fst, runSteps_cons]
  simp only [stepsAfter, Option.map_some, List.foldl_append, List.foldl_cons, List.foldl_nil,
    List.append_assoc]

theorem steps_ids : steps_ids_statement := by
  intro lower ss x
  rw [stepsAfter, emptyStrict, stepsFold_obj, propsOf, Ty.hasKey_foldl x (hasKey_stepProps lower x)]
  simp [Ty.lookup]

theorem steps_strict : steps_strict_statement := by
  intro lower ss h
  exact stepsFold_strict lower ss [] h

/-- the `needs` context, exactly: under the folded id of each entry of `needs:`, what `needOf` says of that id -/
theorem lookup_needsTyOf (lower : String → String) (jobs : List JobM) (self : String) (needs : List String)
    (i : String) :
    Ty.lookup i (propsOf (needsTyOf lower jobs self needs)) =
      if i ∈ needs.map lower then needOf jobs self i else none := by
  rw [needsTyOf_insertNew, propsOf, Ty.lookup_foldl_insertNew lower]
  rfl

theorem needs_exact : needs_exact_statement := by
  intro lower jobs self needs i
  rw [lookup_needsTyOf, needOf]
  by_cases h1 : i ∈ needs.map lower <;> by_cases h2 : i = self <;> simp [h1, h2]

theorem needs_entry : needs_entry_statement := by
  intro lower jobs self needs i t h
  rw [lookup_needsTyOf, needOf] at h
  split at h
  · split at h
    · cases h
    · obtain ⟨j, hj, rfl⟩ := Option.map_eq_some_iff.1 h
      exact ⟨j, hj, rfl⟩
  · cases h

/-! ### non-vacuity: the statements say something on concrete data -/

private def stepA : StepM := ⟨some "A", false, .any, []⟩
private def stepB : StepM := ⟨some "b", false, .string, []⟩
private def stepX : StepM := ⟨some "x", true, .any, []⟩
private def stepN : StepM := ⟨none, false, .any, []⟩

private def stepTy (o : Ty) : Ty := .obj [("conclusion", .string), ("outcome", .string), ("outputs", o)] none

/-- two steps `A`, `b` (with `lower := id`): exactly those two keys, in key order, strict -/
example : stepsAfter id emptyStrict [stepA, stepB] = .obj [("A", stepTy .any), ("b", stepTy .string)] none := by
  rfl
/-- keys come out sorted whatever the step order; a step without id adds nothing -/
example : stepsAfter id emptyStrict [stepB, stepN, stepA] = .obj [("A", stepTy .any), ("b", stepTy .string)] none := by
  rfl
example : (Ty.lookup "A" (propsOf (stepsAfter id emptyStrict [stepA, stepB]))).isSome = true := by decide +kernel
example : (Ty.lookup "a" (propsOf (stepsAfter id emptyStrict [stepA, stepB]))).isSome = false := by decide +kernel
/-- a lower-casing function that maps both ids to one key: one entry, the later step's -/
example : stepsAfter (fun _ => "k") emptyStrict [stepA, stepB] = .obj [("k", stepTy .string)] none := by
  rfl
private theorem stepsAfter_AX :
    stepsAfter id emptyStrict [stepA, stepX] = .obj [("A", stepTy .any), ("x", stepTy .any)] (some .any) := by
  rfl
/-- an id with a placeholder loosens the object (so the hypothesis of `steps_strict` is needed) -/
example : stepsAfter id emptyStrict [stepA, stepX] = .obj [("A", stepTy .any), ("x", stepTy .any)] (some .any) :=
  stepsAfter_AX
example : ¬ ∃ ps, stepsAfter id emptyStrict [stepA, stepX] = .obj ps none := by
  rintro ⟨ps, h⟩
  rw [stepsAfter_AX] at h
  cases h

private def jobB : JobM := ⟨"build", [], ["art", "ver"], none, none, [], [], []⟩
private def jobL : JobM := ⟨"lint", [], [], some (.obj [("ok", .bool)] none), none, [], [], []⟩
private def jobD : JobM := ⟨"deploy", ["build", "lint", "nosuch", "deploy", "build"], [], none, none, [], [], []⟩

/-- `needs` of `deploy`: the two existing jobs, not the unknown one, not itself, no duplicate -/
example : needsTyOf id [jobB, jobL, jobD] "deploy" jobD.needs =
    .obj [("build", .obj [("outputs", .obj [("art", .string), ("ver", .string)] none), ("result", .string)] none),
          ("lint", .obj [("outputs", .obj [("ok", .bool)] none), ("result", .string)] none)] none := by
  rfl
example : (Ty.lookup "nosuch" (propsOf (needsTyOf id [jobB, jobL, jobD] "deploy" jobD.needs))).isSome = false := by
  decide +kernel
example : (Ty.lookup "deploy" (propsOf (needsTyOf id [jobB, jobL, jobD] "deploy" jobD.needs))).isSome = false := by
  decide +kernel

/-- the state is reset by a job; the output of two jobs is the concatenation of the single-job outputs -/
example : (runJob id ⟨none, none, none⟩ [jobB, jobD] ⟨some .any, some .any, some .any⟩ jobD).1 = St.init := rfl
example : (runJobs id ⟨none, none, none⟩ [jobB, jobD] St.init [jobB, jobD]).2 = [] := rfl

end AL.Props.C09Visit
