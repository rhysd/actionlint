import AL.Props.C09Rules
import AL.Props.C13Parse
import AL.Props.C14Rules
/-
  C07 on the models AL.Rules / AL.PW: a diagnostic sits exactly at the id / name / value / key it is about. Here: a
  repeated key is reported at the repetition (`AL.C07R`); the positions of the shell-name, runner-label, action,
  workflow-call and deprecated-commands rules (`AL.C07M`). Elsewhere: the other AST rules in AL.Props.C09Rules, "an
  unexpected key is reported at the key" as `AL.C13P.unexpectedAt_pos`.
-/
namespace AL.C07R
open AL.Rules AL.Yaml AL.Ast


/-- a `key-duplicated` diagnostic sits at the repeated key -/
theorem duplicate_at_repetition (kn : Node) (what : String) (pos : AL.Yaml.Pos) (cs : Bool) :
    (AL.C13P.dupAt kn what pos cs).pos = kn.pos := rfl

end AL.C07R

namespace AL.C07M
open AL.Rules AL.Yaml AL.Ast

/-- shell-name: at the `shell:` value -/
theorem checkShellName_pos (lower : String → String) (pf : Platform) (node : Option Str) :
    ∀ d ∈ checkShellName lower pf node, ∃ n, node = some n ∧ d.pos = n.pos := by
  intro d h
  cases node with
  | none => cases h
  | some n =>
    simp only [checkShellName, List.mem_ite_nil_left, List.mem_singleton] at h
    exact ⟨n, rfl, by rw [h.2.2.2]⟩

/-- runner-label, unknown label: at the label (also when it comes out of a matrix row: at the row's value) -/
theorem knownLoop_pos (lc : LabelCfg) (label : Str) : ∀ (ks : List String) (ds : List Diag),
    knownLoop lc label ks = some ds → ∀ d ∈ ds, d.pos = label.pos := by
  intro ks
  induction ks with
  | nil => intro ds h; simp [knownLoop] at h
  | cons k rest ih =>
    intro ds h d hd
    simp only [knownLoop] at h
    split at h
    · simp only [Option.some.injEq] at h; subst h
      simp only [List.mem_singleton] at hd; subst hd; rfl
    · simp only [Option.some.injEq] at h; subst h; cases hd
    · exact ih ds h d hd

/-- also with the labels of a configuration file (a malformed pattern is reported at the label it was tried on) -/
theorem verifyRunnerLabel_pos (lower : String → String) (label : Str) (lc : LabelCfg := {}) :
    ∀ d ∈ (verifyRunnerLabel lower label lc).2, d.pos = label.pos := by
  intro d h
  simp only [verifyRunnerLabel] at h
  split at h
  · cases h
  · split at h
    · cases h
    · split at h
      · rename_i ds hk
        exact knownLoop_pos lc label _ ds hk d h
      · simp only [List.mem_singleton] at h; subst h; rfl

/-- runner-label, conflict: at the later label, naming the earlier one and its position -/
theorem conflictDiag_pos (label found : Str) : (conflictDiag label found).pos = label.pos ∧
    (conflictDiag label found).args = [label.value, found.value, AL.PW.posString found.pos] := ⟨rfl, rfl⟩

/-- action: at `uses:` or at the name of the offending input -/
theorem checkActionInputs_pos (spec : String) (declared : List (String × String × Bool)) (e : ExecAction) (usesPos : AL.Rules.Pos) :
    ∀ d ∈ checkActionInputs spec declared e usesPos, d.pos = usesPos ∨ ∃ kv ∈ e.inputs.getD [], d.pos = kv.2.name.pos := by
  intro d h
  rcases (AL.C14R.mem_checkActionInputs ..).1 h with ⟨kv, hk, _, rfl⟩ | ⟨_, _, _, _, _, _, rfl⟩
  · exact Or.inr ⟨kv, hk, rfl⟩
  · exact Or.inl rfl

/-- workflow-call: at the `uses:` value -/
theorem workflowCallJob_pos (j : Job) :
    ∀ d ∈ workflowCallJob j, ∃ c u, j.workflowCall = some c ∧ c.uses = some u ∧ d.pos = u.pos := by
  intro d h
  simp only [workflowCallJob] at h
  cases hc : j.workflowCall with
  | none => simp [hc] at h
  | some c =>
    cases hu : c.uses with
    | none => simp [hc, hu] at h
    | some u =>
      simp only [hc, hu, List.mem_ite_nil_left, List.mem_singleton] at h
      exact ⟨c, u, rfl, hu, by rw [h.2.2.2]⟩

/-- deprecated-commands: at the `run:` value -/
theorem deprecated_pos (w : Workflow) : ∀ d ∈ ruleDeprecatedCommands w,
    ∃ j ∈ jobsOf w, ∃ st ∈ AL.Rules.stepsOf j, ∃ e r, st.exec = .run e ∧ e.run = some r ∧ d.pos = r.pos := by
  intro d h
  simp only [ruleDeprecatedCommands, List.mem_flatMap] at h
  obtain ⟨j, hj, st, hst, hd⟩ := h
  split at hd
  · rename_i e he
    split at hd
    · rename_i r hr
      simp only [List.mem_map] at hd
      obtain ⟨_, _, rfl⟩ := hd
      exact ⟨j, hj, st, hst, e, r, he, hr, rfl⟩
    · cases hd
  · cases hd

end AL.C07M
