import AL.Lemmas.C09DRules
import AL.Props.C13Doc3
/-
  C09 at the level of the DOCUMENT (the `yaml.Node` tree), for all documents. The property: "the diagnostics reported for
  a job depend only on that job, the workflow header and the jobs it needs; those for a step only on the step, the ids of
  earlier steps and its job; adding, removing or reordering unrelated jobs or steps never changes them; no error in one
  job hides diagnostics in another". Proved of it, from the parser model (AL.PW), the AST-only rules (AL.Rules; `lint` =
  the parser's diagnostics ++ `rules`, sorted) and the expression rule (AL.RuleExpr.rule, NOT part of `lint`: §3, §5):
    * jobs: ONE pair inserted into (read backwards: removed from) the `jobs:` mapping — parser, `rules`, `lint`,
      expression rule; TWO ADJACENT pairs swapped — parser, `rules`, `lint`; any permutation of the job list — `rules`
      only, on the AST (`rules_reorder`);
    * steps: ONE step node appended at the END of a non-empty `steps:` sequence — all four; nothing about a step before
      other steps.

  Tools (AL/Lemmas/C09DParse.lean, C09DNeeds.lean, C09DRules.lean):
    * `kept` / `seenAfter`: the key loop of `parseMapping` as a function of the pairs, repeated ids included;
    * `Split P Q ctx put A B`: the enclosing parser `P` looks at the sub-node only through the sub-parser `Q` — where
      `C13D3.Path` carries an UNCHANGED result through the enclosing parsers, `Split` carries a CHANGED one
      (`Sect.split`: the generic edge for a section parser whose other iterations commute with the update);
    * `dupOf` / `undefOf` / `check_decomp`: job-needs, job by job.

  Sections: 1. the parser, 2. the AST-only rules (job-needs apart), 3. the expression rule are per job; 4. `lint`; 5. steps.
  FALSE of the model, proved on witnesses (all in job-needs, whose subject is the relation between jobs):
    `undefined_need_hides_cycle`            an undefined `needs:` entry in ONE job suppresses the `needs-cyclic` report
                                            about OTHER jobs (an error in one job hides a diagnostic in another);
    `unrelated_job_changes_reported_cycle`  a job nobody needs, needing an existing job only, changes which of two cycles
                                            is reported (only the first cycle found is reported);
    `swap_changes_reported_cycle`           so does swapping two adjacent jobs.
  The side conditions of `lint_add_job`: the id is new in `jobs:`, `jobs:` was not empty, no other job names the new id in
  `needs:`, no cycle is reported before or after (`NoCyclicReport`); `lint_append_step` has none on the needs graph or on
  other jobs. None is about well-formedness: a syntax error in one job never touches the parse or the diagnostics of
  another job (`document_add_job`), and an appended step never touches an earlier step.
-/
namespace AL.C09D
open AL.PW AL.Yaml AL.Ast AL.C13P AL.C13D AL.C13D3

/-! ## 1. the parser is per job -/

/-- **`parseJobs` is per job** (every `jobs:` mapping, repeated ids included): the jobs are those of the pairs
`parseMapping` keeps (`kept`: the first pair of every folded id), in order, each parsed on its own; the diagnostics are
those of the key loop (bad keys, repeated ids), the emptiness check, and the concatenation of the jobs' own. -/
theorem parseJobs_per_job (cfg : Cfg) (tag : String) (l c : Nat) (ps : List (Node × Node)) :
    parseJobs cfg (mapNode tag l c ps) =
      ((kept cfg false ps []).map (jobEntry cfg),
       (mappingLoop cfg (sectionWhat "jobs") false ps []).2 ++
         (if (kept cfg false ps []).isEmpty then [emptyErr l c] else []) ++
         (kept cfg false ps []).flatMap (fun p => (jobOfPair cfg p).2)) := by
  simp only [parseJobs, parseSectionMapping, parseMapping_mapNode, mapKVs_eq_map, mappingLoop_kept, List.map_map,
    List.flatMap_map, List.isEmpty_map, Bool.not_false, Bool.true_and, emptyErr]
  rfl

/-- the same when the folded ids of the keys are pairwise distinct: every pair is one job -/
theorem parseJobs_distinct (cfg : Cfg) (tag : String) (l c : Nat) (ps : List (Node × Node))
    (hn : (ps.map fun p => keyId cfg false p.1).Nodup) :
    parseJobs cfg (mapNode tag l c ps) =
      (ps.map (jobEntry cfg),
       ps.flatMap (fun p => (parseString p.1 false).2) ++ (if ps.isEmpty then [emptyErr l c] else []) ++
         ps.flatMap (fun p => (jobOfPair cfg p).2)) := by
  obtain ⟨h1, h2⟩ := mappingLoop_nodup_ids cfg (sectionWhat "jobs") false ps [] hn (fun _ _ => rfl)
  rw [parseJobs_per_job, h1, h2]

/-- **one more job.** A pair `(kn, vn)` whose folded id occurs nowhere else in the `jobs:` mapping, inserted anywhere:
the job list gets exactly that job at that place, the diagnostics get exactly the key's own (none for a sound key) and
`(parseJob cfg kn vn).2` at their places; the mapping without the pair additionally has the emptiness report when it is
empty. Read from right to left: removing the pair. -/
theorem parseJobs_insert (cfg : Cfg) (tag : String) (l c : Nat) (pre post : List (Node × Node)) (kn vn : Node)
    (hfresh : ∀ q ∈ pre ++ post, keyId cfg false q.1 ≠ keyId cfg false kn) :
    parseJobs cfg (mapNode tag l c (pre ++ (kn, vn) :: post)) =
      (jobsOfPairs cfg pre [] ++ jobEntry cfg (kn, vn) :: jobsOfPairs cfg post (seenAfter cfg false pre []),
       (keyDiags cfg pre [] ++ ((parseString kn false).2 ++ keyDiags cfg post (seenAfter cfg false pre []))) ++
       (jobDiags cfg pre [] ++ ((jobOfPair cfg (kn, vn)).2 ++ jobDiags cfg post (seenAfter cfg false pre [])))) ∧
    parseJobs cfg (mapNode tag l c (pre ++ post)) =
      (jobsOfPairs cfg pre [] ++ jobsOfPairs cfg post (seenAfter cfg false pre []),
       (keyDiags cfg pre [] ++ keyDiags cfg post (seenAfter cfg false pre [])) ++
       (if (pre ++ post).isEmpty then [emptyErr l c] else []) ++
       (jobDiags cfg pre [] ++ jobDiags cfg post (seenAfter cfg false pre []))) := by
  constructor
  · rw [parseJobs_per_job, kept_insert cfg false pre post kn vn [] rfl hfresh,
      mappingLoop_insert cfg _ false pre post kn vn [] rfl hfresh]
    simp [jobsOfPairs, keyDiags, jobDiags]
  · rw [parseJobs_per_job, kept_isEmpty, kept_append, mappingLoop_append]
    simp [jobsOfPairs, keyDiags, jobDiags]

/-- as a multiset: the bigger mapping's diagnostics are the smaller one's plus the new pair's -/
theorem parseJobs_insert_perm (cfg : Cfg) (tag : String) (l c : Nat) (pre post : List (Node × Node)) (kn vn : Node)
    (hfresh : ∀ q ∈ pre ++ post, keyId cfg false q.1 ≠ keyId cfg false kn) (hne : pre ++ post ≠ []) :
    (parseJobs cfg (mapNode tag l c (pre ++ (kn, vn) :: post))).2.Perm
      ((parseJobs cfg (mapNode tag l c (pre ++ post))).2 ++ ((parseString kn false).2 ++ (jobOfPair cfg (kn, vn)).2)) := by
  obtain ⟨h1, h2⟩ := parseJobs_insert cfg tag l c pre post kn vn hfresh
  have he : (pre ++ post).isEmpty = false := by cases h : pre ++ post with | nil => exact absurd h hne | cons _ _ => rfl
  rw [h1, h2, he]
  simp only [Bool.false_eq_true, ↓reduceIte, List.append_nil]
  exact ((perm_move_last _ _ _).append (perm_move_last _ _ _)).trans (perm_interchange _ _ _ _)

/-! ### lifted to the document: the `workflow → jobs` edge -/

/-- **the workflow parser looks at the `jobs:` node only through `parseJobs`**: whatever the value `v` of the (first)
`jobs:` key of the root mapping, the AST is one fixed workflow with `Jobs` set to `(parseJobs cfg v).1`, and the
diagnostics are those of `parseJobs cfg v` between two fixed lists. -/
theorem parse_jobs_split (cfg : Cfg) (mW : MapCtx) (hW : mW.Keyed cfg "jobs") :
    ∃ (W : Workflow) (A B : List PErr), ∀ v,
      parse cfg (docNode (mW.at v)) = (withJobs W (parseJobs cfg v).1, A ++ ((parseJobs cfg v).2 ++ B)) := by
  obtain ⟨W, A, B, h⟩ := Sect.split (workflowSect cfg (docNode (mapNode "" 0 0 []))) cfg "workflow" true mW id (parseJobs cfg)
    (fun b w => { w with jobs := some b }) id (fun b w => { w with jobs := some b })
    (fun w => (w, if w.on.isNone then [errAt (docNode (mapNode "" 0 0 [])) "workflow-no-on" []] else []))
    hW.first'
    (by intro s v; rw [hW.id]; rfl)
    (by
      intro b s kv hkv
      rw [hW.id] at hkv
      simp only [workflowSect]
      unfold workflowKey
      dsimp only
      split <;> first | rfl | (rename_i h; exact absurd h hkv))
    (by intro b s; simp [workflowSect])
  refine ⟨W, A, B, fun v => ?_⟩
  rw [parse_docNode]
  exact h v

/-- a document whose root mapping has the `jobs:` mapping with the pairs `ps` under the key of `mW` -/
def jobsDoc (mW : MapCtx) (tag : String) (l c : Nat) (ps : List (Node × Node)) : Node :=
  docNode (mW.at (mapNode tag l c ps))

/-- **one more job, in the document: the AST.** Inserting a pair with a new folded id anywhere into the `jobs:` mapping of
a workflow file changes the AST by exactly that job, at that place of `Workflow.Jobs`; everything else — header and the
other jobs — is identical. -/
theorem document_add_job_ast (cfg : Cfg) (mW : MapCtx) (tag : String) (l c : Nat) (pre post : List (Node × Node)) (kn vn : Node)
    (hW : mW.Keyed cfg "jobs") (hfresh : ∀ q ∈ pre ++ post, keyId cfg false q.1 ≠ keyId cfg false kn) :
    ∃ W : Workflow,
      (parse cfg (jobsDoc mW tag l c (pre ++ post))).1 =
        withJobs W (jobsOfPairs cfg pre [] ++ jobsOfPairs cfg post (seenAfter cfg false pre [])) ∧
      (parse cfg (jobsDoc mW tag l c (pre ++ (kn, vn) :: post))).1 =
        withJobs W (jobsOfPairs cfg pre [] ++ jobEntry cfg (kn, vn) :: jobsOfPairs cfg post (seenAfter cfg false pre [])) := by
  obtain ⟨W, A, B, h⟩ := parse_jobs_split cfg mW hW
  obtain ⟨h1, h2⟩ := parseJobs_insert cfg tag l c pre post kn vn hfresh
  refine ⟨W, ?_, ?_⟩
  · simp only [jobsDoc, h, h2]
  · simp only [jobsDoc, h, h1]

/-- **one more job, in the document: the parser's diagnostics** are the old ones plus exactly the pair's own: the key's
and `(parseJob cfg kn vn).2` (the `jobs:` mapping was not empty — else its emptiness report goes away, `parseJobs_insert`).
Nothing a job contains — not even a syntax error — reaches the parse of another job. -/
theorem document_add_job_diags (cfg : Cfg) (mW : MapCtx) (tag : String) (l c : Nat) (pre post : List (Node × Node)) (kn vn : Node)
    (hW : mW.Keyed cfg "jobs") (hfresh : ∀ q ∈ pre ++ post, keyId cfg false q.1 ≠ keyId cfg false kn) (hne : pre ++ post ≠ []) :
    (parse cfg (jobsDoc mW tag l c (pre ++ (kn, vn) :: post))).2.Perm
      ((parse cfg (jobsDoc mW tag l c (pre ++ post))).2 ++ ((parseString kn false).2 ++ (jobOfPair cfg (kn, vn)).2)) := by
  obtain ⟨W, A, B, h⟩ := parse_jobs_split cfg mW hW
  simp only [jobsDoc, h]
  exact (((parseJobs_insert_perm cfg tag l c pre post kn vn hfresh hne).append_right B).append_left A).trans
    (perm_block_last A _ _ B)

/-- both together -/
theorem document_add_job (cfg : Cfg) (mW : MapCtx) (tag : String) (l c : Nat) (pre post : List (Node × Node)) (kn vn : Node)
    (hW : mW.Keyed cfg "jobs") (hfresh : ∀ q ∈ pre ++ post, keyId cfg false q.1 ≠ keyId cfg false kn) (hne : pre ++ post ≠ []) :
    ∃ W : Workflow,
      (parse cfg (jobsDoc mW tag l c (pre ++ post))).1 =
        withJobs W (jobsOfPairs cfg pre [] ++ jobsOfPairs cfg post (seenAfter cfg false pre [])) ∧
      (parse cfg (jobsDoc mW tag l c (pre ++ (kn, vn) :: post))).1 =
        withJobs W (jobsOfPairs cfg pre [] ++ jobEntry cfg (kn, vn) :: jobsOfPairs cfg post (seenAfter cfg false pre [])) ∧
      (parse cfg (jobsDoc mW tag l c (pre ++ (kn, vn) :: post))).2.Perm
        ((parse cfg (jobsDoc mW tag l c (pre ++ post))).2 ++ ((parseString kn false).2 ++ (jobOfPair cfg (kn, vn)).2)) := by
  obtain ⟨W, e0, e1⟩ := document_add_job_ast cfg mW tag l c pre post kn vn hW hfresh
  exact ⟨W, e0, e1, document_add_job_diags cfg mW tag l c pre post kn vn hW hfresh hne⟩

/-! ### two adjacent jobs swapped -/

/-- **two adjacent pairs swapped** (both ids new in the mapping, and different): the two jobs swap places in the job list,
the two pairs' diagnostics swap places; everything else is identical -/
theorem parseJobs_swap (cfg : Cfg) (tag : String) (l c : Nat) (pre post : List (Node × Node)) (k₁ v₁ k₂ v₂ : Node)
    (h₁ : ∀ q ∈ pre ++ post, keyId cfg false q.1 ≠ keyId cfg false k₁)
    (h₂ : ∀ q ∈ pre ++ post, keyId cfg false q.1 ≠ keyId cfg false k₂)
    (h₁₂ : keyId cfg false k₁ ≠ keyId cfg false k₂) :
    parseJobs cfg (mapNode tag l c (pre ++ (k₁, v₁) :: (k₂, v₂) :: post)) =
      (jobsOfPairs cfg pre [] ++ jobEntry cfg (k₁, v₁) :: jobEntry cfg (k₂, v₂) :: jobsOfPairs cfg post (seenAfter cfg false pre []),
       (keyDiags cfg pre [] ++ ((parseString k₁ false).2 ++ ((parseString k₂ false).2 ++ keyDiags cfg post (seenAfter cfg false pre [])))) ++
       (jobDiags cfg pre [] ++ ((jobOfPair cfg (k₁, v₁)).2 ++ ((jobOfPair cfg (k₂, v₂)).2 ++ jobDiags cfg post (seenAfter cfg false pre []))))) ∧
    parseJobs cfg (mapNode tag l c (pre ++ (k₂, v₂) :: (k₁, v₁) :: post)) =
      (jobsOfPairs cfg pre [] ++ jobEntry cfg (k₂, v₂) :: jobEntry cfg (k₁, v₁) :: jobsOfPairs cfg post (seenAfter cfg false pre []),
       (keyDiags cfg pre [] ++ ((parseString k₂ false).2 ++ ((parseString k₁ false).2 ++ keyDiags cfg post (seenAfter cfg false pre [])))) ++
       (jobDiags cfg pre [] ++ ((jobOfPair cfg (k₂, v₂)).2 ++ ((jobOfPair cfg (k₁, v₁)).2 ++ jobDiags cfg post (seenAfter cfg false pre []))))) := by
  obtain ⟨h₁a, h₁b⟩ := List.forall_mem_append.1 h₁
  obtain ⟨h₂a, h₂b⟩ := List.forall_mem_append.1 h₂
  constructor
  · obtain ⟨a, b, d⟩ := pairs_cons_fresh cfg post k₂ v₂ _ ((lookupSeen_seenAfter_none cfg false _ pre []).2 ⟨rfl, h₂a⟩) h₂b
    rw [(parseJobs_insert cfg tag l c pre ((k₂, v₂) :: post) k₁ v₁ (fresh_insert h₁ h₁₂.symm)).1, a, b, d]
  · obtain ⟨a, b, d⟩ := pairs_cons_fresh cfg post k₁ v₁ _ ((lookupSeen_seenAfter_none cfg false _ pre []).2 ⟨rfl, h₁a⟩) h₁b
    rw [(parseJobs_insert cfg tag l c pre ((k₁, v₁) :: post) k₂ v₂ (fresh_insert h₂ h₁₂)).1, a, b, d]

/-- **two adjacent jobs swapped, in the document**: the AST differs by the order of the two entries of `Workflow.Jobs`
only, the parser's diagnostics are the same multiset -/
theorem document_swap_jobs (cfg : Cfg) (mW : MapCtx) (tag : String) (l c : Nat) (pre post : List (Node × Node)) (k₁ v₁ k₂ v₂ : Node)
    (hW : mW.Keyed cfg "jobs")
    (h₁ : ∀ q ∈ pre ++ post, keyId cfg false q.1 ≠ keyId cfg false k₁)
    (h₂ : ∀ q ∈ pre ++ post, keyId cfg false q.1 ≠ keyId cfg false k₂)
    (h₁₂ : keyId cfg false k₁ ≠ keyId cfg false k₂) :
    ∃ W : Workflow,
      (parse cfg (jobsDoc mW tag l c (pre ++ (k₁, v₁) :: (k₂, v₂) :: post))).1 =
        withJobs W (jobsOfPairs cfg pre [] ++ jobEntry cfg (k₁, v₁) :: jobEntry cfg (k₂, v₂) ::
            jobsOfPairs cfg post (seenAfter cfg false pre [])) ∧
      (parse cfg (jobsDoc mW tag l c (pre ++ (k₂, v₂) :: (k₁, v₁) :: post))).1 =
        withJobs W (jobsOfPairs cfg pre [] ++ jobEntry cfg (k₂, v₂) :: jobEntry cfg (k₁, v₁) ::
            jobsOfPairs cfg post (seenAfter cfg false pre [])) ∧
      (parse cfg (jobsDoc mW tag l c (pre ++ (k₂, v₂) :: (k₁, v₁) :: post))).2.Perm
        (parse cfg (jobsDoc mW tag l c (pre ++ (k₁, v₁) :: (k₂, v₂) :: post))).2 := by
  obtain ⟨W, A, B, h⟩ := parse_jobs_split cfg mW hW
  obtain ⟨e1, e2⟩ := parseJobs_swap cfg tag l c pre post k₁ v₁ k₂ v₂ h₁ h₂ h₁₂
  refine ⟨W, ?_, ?_, ?_⟩
  · simp only [jobsDoc, h, e1]
  · simp only [jobsDoc, h, e2]
  · simp only [jobsDoc, h, e1, e2]
    exact ((((List.perm_append_comm_assoc _ _ _).append_left _).append
      ((List.perm_append_comm_assoc _ _ _).append_left _)).append_right B).append_left A

/-! ## 2. the AST-only rules are per job, at the level of the document -/

section Rules
open AL.Rules AL.C09A AL.C18P

variable (lower : String → String) (isNum urlOk : String → Bool) (lc : LabelCfg)

/-- **all rules but job-needs: one more job adds exactly its own block.** Up to order, the diagnostics of `rules` on the
workflow with the extra job `j` are: job-needs on the bigger workflow, then everything the other rules report on the
smaller workflow (header and the other jobs' blocks, untouched), then `perJob` of `j`. -/
theorem rules_add_job_modulo_needs (W : Workflow) (J₁ J₂ : List (String × Job)) (i : String) (j : Job) :
    (rules lower isNum urlOk (withJobs W (J₁ ++ (i, j) :: J₂)) lc).Perm
      (ruleJobNeeds lower (withJobs W (J₁ ++ (i, j) :: J₂)) ++
        ((header lower isNum (withJobs W (J₁ ++ J₂)) lc ++ (jobsOf (withJobs W (J₁ ++ J₂))).flatMap (fun j => perJob lower urlOk j lc)) ++
          perJob lower urlOk j lc)) := by
  refine (rules_per_job lower isNum urlOk (withJobs W (J₁ ++ (i, j) :: J₂)) lc).trans ?_
  rw [header_withJobs lower isNum lc W (J₁ ++ (i, j) :: J₂) (J₁ ++ J₂), List.append_assoc]
  simp only [jobsOf, Option.getD_some, List.flatMap_map]
  exact ((perm_flatMap_insert (fun p : String × Job => perJob lower urlOk p.2 lc) J₁ J₂ (i, j)).append_left _).append_left _

/-- hence: whenever job-needs reports on the bigger workflow what it reports on the smaller one plus `X`, ALL the rules
report on the bigger workflow what they report on the smaller one plus `X` plus the new job's own block -/
theorem rules_add_job (W : Workflow) (J₁ J₂ : List (String × Job)) (i : String) (j : Job) (X : List Diag)
    (hneeds : (ruleJobNeeds lower (withJobs W (J₁ ++ (i, j) :: J₂))).Perm (ruleJobNeeds lower (withJobs W (J₁ ++ J₂)) ++ X)) :
    (rules lower isNum urlOk (withJobs W (J₁ ++ (i, j) :: J₂)) lc).Perm
      (rules lower isNum urlOk (withJobs W (J₁ ++ J₂)) lc ++ (X ++ perJob lower urlOk j lc)) :=
  (rules_add_job_modulo_needs lower isNum urlOk lc W J₁ J₂ i j).trans
    (((hneeds.append_right _).trans (perm_interchange _ _ _ _)).trans
      ((rules_per_job lower isNum urlOk (withJobs W (J₁ ++ J₂)) lc).symm.append_right _))

/-! ### what job-needs contributes -/

/-- job-needs sees of a workflow file the pairs of `jobs:` (folded ids distinct), each parsed on its own: the header plays
no part -/
theorem ruleJobNeeds_jobsDoc (cfg : Cfg) (mW : MapCtx) (tag : String) (l c : Nat) (ps : List (Node × Node))
    (hW : mW.Keyed cfg "jobs") (hn : (ps.map fun p => keyId cfg false p.1).Nodup) :
    ruleJobNeeds cfg.lower (parse cfg (jobsDoc mW tag l c ps)).1 = ruleJobNeeds cfg.lower (withJobs {} (ps.map (jobEntry cfg))) := by
  obtain ⟨W, A, B, h⟩ := parse_jobs_split cfg mW hW
  rw [ruleJobNeeds_eq, ruleJobNeeds_eq, jobsDoc, h, parseJobs_distinct cfg tag l c ps hn, jobsIn_withJobs, jobsIn_withJobs]


/-- **job-needs, job by job** (folded ids pairwise distinct — every parsed workflow — and no cycle reported): the jobs'
own `needs-duplicate`s, then the jobs' `needs-undefined`s -/
theorem ruleJobNeeds_per_job (W : Workflow) (js : List (String × Job)) (hnd : (idsOf lower js).Nodup)
    (hc : NoCyclicReport lower (withJobs W js)) :
    ruleJobNeeds lower (withJobs W js) =
      js.flatMap (fun p => needsDup lower p.2) ++ js.flatMap (fun p => needsUndef lower (idsOf lower js) p.2) := by
  rw [ruleJobNeeds_eq, check_no_cyclic lower _ _ (by rw [jobsIn_ids]; exact hnd.filter _) (noCyclic_check lower _ hc), jobsIn_ids,
    jobsIn_withJobs]
  simp only [List.map_append, List.flatMap_map, List.map_flatMap, needsDup, needsUndef]

/-- **one more job that nobody needs** (folded ids pairwise distinct, no cycle reported before or after): job-needs
reports on the bigger workflow exactly what it reports on the smaller one, plus the new job's own `needs-duplicate`s and
its own `needs-undefined`s. No report about another job appears, disappears or changes. -/
theorem needs_add_job (W : Workflow) (J₁ J₂ : List (String × Job)) (i : String) (j : Job)
    (hnd : (idsOf lower (J₁ ++ (i, j) :: J₂)).Nodup)
    (hun : Unneeded lower (lower j.id.value) (J₁ ++ J₂))
    (hc' : NoCyclicReport lower (withJobs W (J₁ ++ (i, j) :: J₂))) (hc : NoCyclicReport lower (withJobs W (J₁ ++ J₂))) :
    (ruleJobNeeds lower (withJobs W (J₁ ++ (i, j) :: J₂))).Perm
      (ruleJobNeeds lower (withJobs W (J₁ ++ J₂)) ++
        (needsDup lower j ++ needsUndef lower (idsOf lower (J₁ ++ (i, j) :: J₂)) j)) := by
  have hnd₀ : (idsOf lower (J₁ ++ J₂)).Nodup := by
    refine hnd.sublist ?_
    simp only [idsOf, List.map_append, List.map_cons]
    exact List.Sublist.append_left (List.sublist_cons_self _ _) _
  rw [ruleJobNeeds_per_job lower W _ hnd hc', ruleJobNeeds_per_job lower W _ hnd₀ hc]
  have hsame : ∀ p ∈ J₁ ++ J₂, needsUndef lower (idsOf lower (J₁ ++ (i, j) :: J₂)) p.2 = needsUndef lower (idsOf lower (J₁ ++ J₂)) p.2 := by
    intro p hp
    simp only [needsUndef, idsOf, List.map_append, List.map_cons]
    rw [undefOf_insert_unneeded lower _ _ _ _ (unneeded_normNeeds lower _ p.2 (hun p hp))]
  rw [← List.flatMap_congr hsame]
  exact ((perm_flatMap_insert _ J₁ J₂ (i, j)).append (perm_flatMap_insert _ J₁ J₂ (i, j))).trans (perm_interchange _ _ _ _)

/-- a job-needs report that is not "`… needs job x which does not exist`" -/
def notNaming (x : String) (d : Diag) : Bool :=
  match d.code, d.args with
  | "needs-undefined", [_, dep] => decide (dep ≠ x)
  | _, _ => true

theorem notNaming_needsDiag (x : String) (d : Needs.Diag) :
    notNaming x (needsDiag d) = (match d with | .undefined _ _ dep => decide (dep ≠ x) | _ => true) := by
  cases d <;> simp [needsDiag, notNaming]

/-- **one more job, in general** (somebody may need it): the only reports about OTHER jobs that change are their
"`needs job x which does not exist`" for the new id `x`, which go away — as they must: the relation between jobs is the
subject of this rule. Everything else job-needs reported stays, and the new job's own reports are added. (Folded ids
distinct, no cycle reported before or after.) -/
theorem needs_add_job_general (W : Workflow) (J₁ J₂ : List (String × Job)) (i : String) (j : Job)
    (hnd : (idsOf lower (J₁ ++ (i, j) :: J₂)).Nodup)
    (hc' : NoCyclicReport lower (withJobs W (J₁ ++ (i, j) :: J₂))) (hc : NoCyclicReport lower (withJobs W (J₁ ++ J₂))) :
    (ruleJobNeeds lower (withJobs W (J₁ ++ (i, j) :: J₂))).Perm
      ((ruleJobNeeds lower (withJobs W (J₁ ++ J₂))).filter (notNaming (lower j.id.value)) ++
        (needsDup lower j ++ needsUndef lower (idsOf lower (J₁ ++ (i, j) :: J₂)) j)) := by
  have hnd₀ : (idsOf lower (J₁ ++ J₂)).Nodup := by
    refine hnd.sublist ?_
    simp only [idsOf, List.map_append, List.map_cons]
    exact List.Sublist.append_left (List.sublist_cons_self _ _) _
  rw [ruleJobNeeds_per_job lower W _ hnd hc', ruleJobNeeds_per_job lower W _ hnd₀ hc]
  have hU : ∀ p : String × Job, needsUndef lower (idsOf lower (J₁ ++ (i, j) :: J₂)) p.2 =
      (needsUndef lower (idsOf lower (J₁ ++ J₂)) p.2).filter (notNaming (lower j.id.value)) := by
    intro p
    simp only [needsUndef, idsOf, List.map_append, List.map_cons]
    rw [undefOf_insert, List.filter_map]
    congr 1
    apply List.filter_congr
    intro d _
    rw [Function.comp_apply, notNaming_needsDiag]
    cases d <;> simp
  have hD : ∀ p : String × Job, (needsDup lower p.2).filter (notNaming (lower j.id.value)) = needsDup lower p.2 := by
    intro p
    rw [List.filter_eq_self]
    intro d hd
    simp only [needsDup, List.mem_map] at hd
    obtain ⟨x, hx, rfl⟩ := hd
    obtain ⟨pp, v, rfl⟩ := normNeeds_no_undefined _ _ _ x hx
    simp [needsDiag, notNaming]
  rw [List.filter_append, List.filter_flatMap, List.filter_flatMap]
  simp only [hD, ← hU]
  exact ((perm_flatMap_insert _ J₁ J₂ (i, j)).append (perm_flatMap_insert _ J₁ J₂ (i, j))).trans (perm_interchange _ _ _ _)

/-- **a new job that nobody needs and that needs existing jobs only adds nothing to job-needs** but its own
`needs-duplicate` reports (none when its `needs:` list has no repetition) -/
theorem needs_add_job_quiet (W : Workflow) (J₁ J₂ : List (String × Job)) (i : String) (j : Job)
    (hnd : (idsOf lower (J₁ ++ (i, j) :: J₂)).Nodup)
    (hun : Unneeded lower (lower j.id.value) (J₁ ++ J₂))
    (hex : ∀ n ∈ j.needs.getD [], lower n.value ∈ idsOf lower (J₁ ++ (i, j) :: J₂))
    (hc' : NoCyclicReport lower (withJobs W (J₁ ++ (i, j) :: J₂))) (hc : NoCyclicReport lower (withJobs W (J₁ ++ J₂))) :
    (ruleJobNeeds lower (withJobs W (J₁ ++ (i, j) :: J₂))).Perm
      (ruleJobNeeds lower (withJobs W (J₁ ++ J₂)) ++ needsDup lower j) := by
  have := needs_add_job lower W J₁ J₂ i j hnd hun hc' hc
  rwa [needsUndef_nil lower _ j hex, List.append_nil] at this

/-- acyclic needs graphs report no cycle (`C18P.rule_acyclic_none`) -/
theorem noCyclic_of_acyclic (w : Workflow) (h : ¬ AL.Spec.Cyclic (graphOf lower (jobsIn w))) : NoCyclicReport lower w :=
  rule_acyclic_none lower w h

/-- **an acyclic needs graph stays acyclic when a job is removed** (`cyclic_add_job`: the smaller graph embeds into the
bigger one), so one hypothesis — the needs graph of the BIGGER workflow has no cycle — gives `NoCyclicReport` for both -/
theorem noCyclic_of_acyclic_bigger (W : Workflow) (J₁ J₂ : List (String × Job)) (i : String) (j : Job)
    (hnd : (idsOf lower (J₁ ++ (i, j) :: J₂)).Nodup)
    (hac : ¬ AL.Spec.Cyclic (graphOf lower (jobsIn (withJobs W (J₁ ++ (i, j) :: J₂))))) :
    NoCyclicReport lower (withJobs W (J₁ ++ (i, j) :: J₂)) ∧ NoCyclicReport lower (withJobs W (J₁ ++ J₂)) := by
  refine ⟨noCyclic_of_acyclic lower _ hac, noCyclic_of_acyclic lower _ (fun hc => hac ?_)⟩
  rw [jobsIn_withJobs] at hc ⊢
  simp only [List.map_append, List.map_cons] at hc ⊢
  refine cyclic_add_job lower _ _ _ ?_ hc
  have e : ((J₁.map (fun p => needsJobIn p.2) ++ needsJobIn j :: J₂.map (fun p => needsJobIn p.2)).map fun j => lower j.idValue) =
      idsOf lower (J₁ ++ (i, j) :: J₂) := by
    simp only [idsOf, needsJobIn, List.map_append, List.map_cons, List.map_map]
    rfl
  rw [e]
  exact hnd.filter _

/-- **all the AST-only rules, one more job** (ids distinct, nobody needs the new job, no cycle reported): the multiset of
`rules` diagnostics of the workflow with the extra job is that of the workflow without it, plus the new job's own:
`perJob` and its own job-needs reports -/
theorem rules_add_unneeded_job (W : Workflow) (J₁ J₂ : List (String × Job)) (i : String) (j : Job)
    (hnd : (idsOf lower (J₁ ++ (i, j) :: J₂)).Nodup)
    (hun : Unneeded lower (lower j.id.value) (J₁ ++ J₂))
    (hc' : NoCyclicReport lower (withJobs W (J₁ ++ (i, j) :: J₂))) (hc : NoCyclicReport lower (withJobs W (J₁ ++ J₂))) :
    (rules lower isNum urlOk (withJobs W (J₁ ++ (i, j) :: J₂)) lc).Perm
      (rules lower isNum urlOk (withJobs W (J₁ ++ J₂)) lc ++
        ((needsDup lower j ++ needsUndef lower (idsOf lower (J₁ ++ (i, j) :: J₂)) j) ++ perJob lower urlOk j lc)) :=
  rules_add_job lower isNum urlOk lc W J₁ J₂ i j _ (needs_add_job lower W J₁ J₂ i j hnd hun hc' hc)

/-- **reordering the jobs permutes the diagnostics of all the AST-only rules** (ids distinct, no cycle reported) -/
theorem rules_reorder (W : Workflow) (js js' : List (String × Job)) (hp : js.Perm js') (hnd : (idsOf lower js).Nodup)
    (hc : NoCyclicReport lower (withJobs W js)) (hc' : NoCyclicReport lower (withJobs W js')) :
    (rules lower isNum urlOk (withJobs W js) lc).Perm (rules lower isNum urlOk (withJobs W js') lc) := by
  have hnd' : (idsOf lower js').Nodup := (hp.map _).nodup_iff.1 hnd
  have hids : ∀ x, x ∈ idsOf lower js ↔ x ∈ idsOf lower js' := fun x => (hp.map _).mem_iff
  refine (rules_per_job lower isNum urlOk (withJobs W js) lc).trans
    (List.Perm.trans ?_ (rules_per_job lower isNum urlOk (withJobs W js') lc).symm)
  rw [header_withJobs lower isNum lc W js js', ruleJobNeeds_per_job lower W js hnd hc, ruleJobNeeds_per_job lower W js' hnd' hc']
  have e : js.flatMap (fun p => needsUndef lower (idsOf lower js) p.2) = js.flatMap (fun p => needsUndef lower (idsOf lower js') p.2) :=
    List.flatMap_congr fun p _ => needsUndef_congr lower _ _ p.2 hids
  rw [e]
  have p1 := hp.flatMap_right (fun p => needsDup lower p.2)
  have p2 := hp.flatMap_right (fun p => needsUndef lower (idsOf lower js') p.2)
  have p3 : ((jobsOf (withJobs W js)).flatMap fun j => perJob lower urlOk j lc).Perm
      ((jobsOf (withJobs W js')).flatMap fun j => perJob lower urlOk j lc) := by
    simp only [jobsOf, Option.getD_some]
    exact (hp.map _).flatMap_right _
  exact (p1.append p2).append (List.Perm.append_left _ p3)

end Rules

/-! ## 3. the expression rule is per job, at the level of the document -/

section Expr
open AL.RuleExpr AL.C09E

/-- **the block of another job is the same with and without the extra job**, as long as that job does not name the new
job's key in `needs:` -/
theorem visitJob_other (cx : Cx) (isNum : IsNumber) (J₁ J₂ : List (String × Job)) (k : String) (x n : Job)
    (h : ∀ id ∈ n.needs.getD [], cx.lower id.value ≠ k) :
    visitJob cx isNum (J₁ ++ (k, x) :: J₂) n = visitJob cx isNum (J₁ ++ J₂) n :=
  job_depends_on_needed_only cx isNum _ _ n (fun id hid => by rw [lookupJob_insert _ k x J₂ (Ne.symm (h id hid))])

/-- **the expression rule, one more job.** None of the other jobs names the new job's key in `needs:`: the rule's
diagnostics on the bigger workflow are those on the smaller one with the new job's block inserted at the new job's place —
an exact list equation; the header's part and every other job's block are literally the same. Only the check of
`on.workflow_call.outputs` (whose `jobs` context lists all jobs) is redone — it is empty when the workflow declares no
such outputs (`rule_add_job'`). -/
theorem rule_add_job (lower : String → String) (isNum : IsNumber) (proj : ProjView) (W : Workflow)
    (J₁ J₂ : List (String × Job)) (k : String) (x : Job)
    (hun : ∀ p ∈ J₁ ++ J₂, ∀ id ∈ p.2.needs.getD [], lower id.value ≠ k) :
    rule lower isNum (withJobs W (J₁ ++ J₂)) proj =
        exprHeader lower W proj ++ (J₁.flatMap (fun kv => visitJob (headerCx lower W proj) isNum (J₁ ++ J₂) kv.2) ++
               J₂.flatMap (fun kv => visitJob (headerCx lower W proj) isNum (J₁ ++ J₂) kv.2)) ++
        exprOutputs lower W (J₁ ++ J₂) proj ∧
    rule lower isNum (withJobs W (J₁ ++ (k, x) :: J₂)) proj =
        exprHeader lower W proj ++ (J₁.flatMap (fun kv => visitJob (headerCx lower W proj) isNum (J₁ ++ J₂) kv.2) ++
               (visitJob (headerCx lower W proj) isNum (J₁ ++ (k, x) :: J₂) x ++
               J₂.flatMap (fun kv => visitJob (headerCx lower W proj) isNum (J₁ ++ J₂) kv.2))) ++
        exprOutputs lower W (J₁ ++ (k, x) :: J₂) proj := by
  have hl : (headerCx lower W proj).lower = lower := visitEvents_lower _ _
  have h₁ : J₁.flatMap (fun kv => visitJob (headerCx lower W proj) isNum (J₁ ++ (k, x) :: J₂) kv.2) =
      J₁.flatMap (fun kv => visitJob (headerCx lower W proj) isNum (J₁ ++ J₂) kv.2) :=
    List.flatMap_congr fun p hp => visitJob_other _ isNum J₁ J₂ k x p.2 (by rw [hl]; exact hun p (List.mem_append_left _ hp))
  have h₂ : J₂.flatMap (fun kv => visitJob (headerCx lower W proj) isNum (J₁ ++ (k, x) :: J₂) kv.2) =
      J₂.flatMap (fun kv => visitJob (headerCx lower W proj) isNum (J₁ ++ J₂) kv.2) :=
    List.flatMap_congr fun p hp => visitJob_other _ isNum J₁ J₂ k x p.2 (by rw [hl]; exact hun p (List.mem_append_right _ hp))
  refine ⟨?_, ?_⟩
  · rw [rule_eq, List.flatMap_append]
  · rw [rule_eq, List.flatMap_append, List.flatMap_cons, h₁, h₂]

/-- the same for a workflow without `workflow_call` outputs: nothing but the new block -/
theorem rule_add_job' (lower : String → String) (isNum : IsNumber) (proj : ProjView) (W : Workflow)
    (J₁ J₂ : List (String × Job)) (k : String) (x : Job)
    (hun : ∀ p ∈ J₁ ++ J₂, ∀ id ∈ p.2.needs.getD [], lower id.value ≠ k) (hout : NoCallOutputs W) :
    rule lower isNum (withJobs W (J₁ ++ J₂)) proj =
        exprHeader lower W proj ++ (J₁.flatMap (fun kv => visitJob (headerCx lower W proj) isNum (J₁ ++ J₂) kv.2) ++
               J₂.flatMap (fun kv => visitJob (headerCx lower W proj) isNum (J₁ ++ J₂) kv.2)) ∧
    rule lower isNum (withJobs W (J₁ ++ (k, x) :: J₂)) proj =
        exprHeader lower W proj ++ (J₁.flatMap (fun kv => visitJob (headerCx lower W proj) isNum (J₁ ++ J₂) kv.2) ++
               (visitJob (headerCx lower W proj) isNum (J₁ ++ (k, x) :: J₂) x ++
               J₂.flatMap (fun kv => visitJob (headerCx lower W proj) isNum (J₁ ++ J₂) kv.2))) := by
  obtain ⟨a, b⟩ := rule_add_job lower isNum proj W J₁ J₂ k x hun
  rw [a, b, exprOutputs_nil lower W _ proj hout, exprOutputs_nil lower W _ proj hout, List.append_nil, List.append_nil]
  exact ⟨rfl, rfl⟩

/-- **the expression rule, one more job, in the document.** A pair with a new folded id is inserted anywhere into the
`jobs:` mapping of a workflow file and no other job of the file names the new id in `needs:`. Then the rule's diagnostics
on the bigger file are those on the smaller file with the new job's block inserted (and the `workflow_call` outputs, if
the workflow declares any, checked again with the bigger `jobs` context). The header `W` and the blocks `B₁`, `B₂` around
the new job's are bound existentially: that they are the blocks of the jobs before and after the new one is in the proof
(`rule_add_job`), not in the statement. -/
theorem expr_add_job_document (cfg : Cfg) (isNum : IsNumber) (proj : ProjView) (mW : MapCtx) (tag : String) (l c : Nat)
    (pre post : List (Node × Node)) (kn vn : Node)
    (hW : mW.Keyed cfg "jobs") (hfresh : ∀ q ∈ pre ++ post, keyId cfg false q.1 ≠ keyId cfg false kn)
    (hun : ∀ j ∈ Rules.jobsOf (parse cfg (jobsDoc mW tag l c (pre ++ post))).1, ∀ n ∈ j.needs.getD [],
      cfg.lower n.value ≠ keyId cfg false kn) :
    ∃ (W : Workflow) (B₁ B₂ : List RuleExpr.Diag),
      rule cfg.lower isNum (parse cfg (jobsDoc mW tag l c (pre ++ post))).1 proj =
        exprHeader cfg.lower W proj ++ (B₁ ++ B₂) ++
          exprOutputs cfg.lower W (jobsOfPairs cfg pre [] ++ jobsOfPairs cfg post (seenAfter cfg false pre [])) proj ∧
      rule cfg.lower isNum (parse cfg (jobsDoc mW tag l c (pre ++ (kn, vn) :: post))).1 proj =
        exprHeader cfg.lower W proj ++
          (B₁ ++ (visitJob (headerCx cfg.lower W proj) isNum
            (jobsOfPairs cfg pre [] ++ jobEntry cfg (kn, vn) :: jobsOfPairs cfg post (seenAfter cfg false pre []))
            (jobOfPair cfg (kn, vn)).1 ++ B₂)) ++
          exprOutputs cfg.lower W (jobsOfPairs cfg pre [] ++ jobEntry cfg (kn, vn) :: jobsOfPairs cfg post (seenAfter cfg false pre [])) proj := by
  obtain ⟨W, e0, e1⟩ := document_add_job_ast cfg mW tag l c pre post kn vn hW hfresh
  obtain ⟨a, b⟩ := rule_add_job cfg.lower isNum proj W _ _ (keyId cfg false kn) (jobOfPair cfg (kn, vn)).1
    (unneeded_of_jobsOf cfg.lower _ _ W _ e0 hun)
  exact ⟨W, _, _, by rw [e0]; exact a, by rw [e1]; exact b⟩

end Expr

/-! ## 4. put together: `lint` of the document (without the expression rule) -/

section Lint
open AL.Rules AL.C09A AL.C18P

variable (cfg : Cfg) (isNum urlOk : String → Bool) (lc : LabelCfg)

/-- **one more job, the whole linter** (parser + all the AST-only rules + the sort). A pair `(kn, vn)` with a new folded id
is inserted anywhere into the (non-empty) `jobs:` mapping of a workflow file; no other job names the new id in `needs:`;
job-needs reports no cycle before or after. Then the diagnostics of the bigger file are, as a multiset, those of the
smaller file plus the NEW JOB'S OWN: the syntax diagnostics of the pair, its `needs-duplicate` / `needs-undefined`
reports, and `perJob` of the new job. Hence a diagnostic that is none of the new job's own occurs the same number of times
before and after. -/
theorem lint_add_job (mW : MapCtx) (tag : String) (l c : Nat) (pre post : List (Node × Node)) (kn vn : Node)
    (hW : mW.Keyed cfg "jobs") (hfresh : ∀ q ∈ pre ++ post, keyId cfg false q.1 ≠ keyId cfg false kn) (hne : pre ++ post ≠ [])
    (hun : ∀ j ∈ jobsOf (parse cfg (jobsDoc mW tag l c (pre ++ post))).1, ∀ n ∈ j.needs.getD [], cfg.lower n.value ≠ keyId cfg false kn)
    (hc' : NoCyclicReport cfg.lower (parse cfg (jobsDoc mW tag l c (pre ++ (kn, vn) :: post))).1)
    (hc : NoCyclicReport cfg.lower (parse cfg (jobsDoc mW tag l c (pre ++ post))).1) :
    (lint cfg isNum urlOk (jobsDoc mW tag l c (pre ++ (kn, vn) :: post)) lc).Perm
      (lint cfg isNum urlOk (jobsDoc mW tag l c (pre ++ post)) lc ++
        (((parseString kn false).2 ++ (jobOfPair cfg (kn, vn)).2).map ofPErr ++
         ((needsDup cfg.lower (jobOfPair cfg (kn, vn)).1 ++
            needsUndef cfg.lower (idsOf cfg.lower ((parse cfg (jobsDoc mW tag l c (pre ++ (kn, vn) :: post))).1.jobs.getD [])) (jobOfPair cfg (kn, vn)).1) ++
          perJob cfg.lower urlOk (jobOfPair cfg (kn, vn)).1 lc))) := by
  obtain ⟨W, e0, e1, hp⟩ := document_add_job cfg mW tag l c pre post kn vn hW hfresh hne
  have hid : cfg.lower (jobOfPair cfg (kn, vn)).1.id.value = keyId cfg false kn := by
    simp only [jobOfPair, AL.C08P.parseJob_id, keyId, Bool.false_eq_true, ↓reduceIte]
  have hnd := parsed_idsOf_nodup cfg _ W _ e1
  have hr := rules_add_unneeded_job cfg.lower isNum urlOk lc W _ _ (keyId cfg false kn) (jobOfPair cfg (kn, vn)).1 hnd
    (hid ▸ unneeded_of_jobsOf cfg.lower _ _ W _ e0 hun) (e1 ▸ hc') (e0 ▸ hc)
  exact lint_perm_add cfg isNum urlOk lc _ _ _ _ hp (by rw [e1, e0]; exact hr)

/-- the same with ONE hypothesis about cycles: the needs graph of the bigger file is acyclic -/
theorem lint_add_job_acyclic (mW : MapCtx) (tag : String) (l c : Nat) (pre post : List (Node × Node)) (kn vn : Node)
    (hW : mW.Keyed cfg "jobs") (hfresh : ∀ q ∈ pre ++ post, keyId cfg false q.1 ≠ keyId cfg false kn) (hne : pre ++ post ≠ [])
    (hun : ∀ j ∈ jobsOf (parse cfg (jobsDoc mW tag l c (pre ++ post))).1, ∀ n ∈ j.needs.getD [], cfg.lower n.value ≠ keyId cfg false kn)
    (hac : ¬ AL.Spec.Cyclic (graphOf cfg.lower (jobsIn (parse cfg (jobsDoc mW tag l c (pre ++ (kn, vn) :: post))).1))) :
    (lint cfg isNum urlOk (jobsDoc mW tag l c (pre ++ (kn, vn) :: post)) lc).Perm
      (lint cfg isNum urlOk (jobsDoc mW tag l c (pre ++ post)) lc ++
        (((parseString kn false).2 ++ (jobOfPair cfg (kn, vn)).2).map ofPErr ++
         ((needsDup cfg.lower (jobOfPair cfg (kn, vn)).1 ++
            needsUndef cfg.lower (idsOf cfg.lower ((parse cfg (jobsDoc mW tag l c (pre ++ (kn, vn) :: post))).1.jobs.getD [])) (jobOfPair cfg (kn, vn)).1) ++
          perJob cfg.lower urlOk (jobOfPair cfg (kn, vn)).1 lc))) := by
  obtain ⟨W, e0, e1⟩ := document_add_job_ast cfg mW tag l c pre post kn vn hW hfresh
  have hnd := parsed_idsOf_nodup cfg _ W _ e1
  obtain ⟨h1, h0⟩ := noCyclic_of_acyclic_bigger cfg.lower W _ _ (keyId cfg false kn) (jobOfPair cfg (kn, vn)).1 hnd (e1 ▸ hac)
  exact lint_add_job cfg isNum urlOk lc mW tag l c pre post kn vn hW hfresh hne hun (e1 ▸ h1) (e0 ▸ h0)

/-- **two adjacent jobs swapped, the whole linter**: the diagnostics of the two files are the same multiset (the sort at
the end of `Linter.check` then orders them by position). Job-needs must report no cycle in either file: which of several
cycles it reports depends on the order of the jobs (`swap_changes_reported_cycle`). -/
theorem lint_swap_jobs (mW : MapCtx) (tag : String) (l c : Nat) (pre post : List (Node × Node)) (k₁ v₁ k₂ v₂ : Node)
    (hW : mW.Keyed cfg "jobs")
    (h₁ : ∀ q ∈ pre ++ post, keyId cfg false q.1 ≠ keyId cfg false k₁)
    (h₂ : ∀ q ∈ pre ++ post, keyId cfg false q.1 ≠ keyId cfg false k₂)
    (h₁₂ : keyId cfg false k₁ ≠ keyId cfg false k₂)
    (hc : NoCyclicReport cfg.lower (parse cfg (jobsDoc mW tag l c (pre ++ (k₁, v₁) :: (k₂, v₂) :: post))).1)
    (hc' : NoCyclicReport cfg.lower (parse cfg (jobsDoc mW tag l c (pre ++ (k₂, v₂) :: (k₁, v₁) :: post))).1) :
    (lint cfg isNum urlOk (jobsDoc mW tag l c (pre ++ (k₂, v₂) :: (k₁, v₁) :: post)) lc).Perm
      (lint cfg isNum urlOk (jobsDoc mW tag l c (pre ++ (k₁, v₁) :: (k₂, v₂) :: post)) lc) := by
  obtain ⟨W, e1, e2, hp⟩ := document_swap_jobs cfg mW tag l c pre post k₁ v₁ k₂ v₂ hW h₁ h₂ h₁₂
  have hnd := parsed_idsOf_nodup cfg _ W _ e1
  refine (lint_perm cfg isNum urlOk lc _).trans (List.Perm.trans ((hp.map ofPErr).append ?_) (lint_perm cfg isNum urlOk lc _).symm)
  rw [e1] at hc
  rw [e2] at hc'
  rw [e1, e2]
  exact (rules_reorder cfg.lower isNum urlOk lc W _ _ (List.Perm.append_left _ (List.Perm.swap _ _ _)) hnd hc hc').symm

end Lint

/-! ## 5. steps -/

section Steps

/-- **`parseSteps` is per step**: the steps are the elements parsed one by one, the diagnostics are concatenated -/
theorem stepsOf_eq_map (cfg : Cfg) : ∀ cs : List Node,
    stepsOf cfg cs = (cs.map (fun c => (parseStep cfg c).1), cs.flatMap (fun c => (parseStep cfg c).2)) :=
  congrFun (stepsOf_mapR cfg)

theorem stepsOf_append (cfg : Cfg) (a b : List Node) :
    stepsOf cfg (a ++ b) = ((stepsOf cfg a).1 ++ (stepsOf cfg b).1, (stepsOf cfg a).2 ++ (stepsOf cfg b).2) := by
  rw [stepsOf_mapR]
  exact mapR_append _ a b

/-- `jobs:` looks at the value of one job's key (the first with its folded id) only through `parseJob` -/
theorem parseJobs_split (cfg : Cfg) (mJ : MapCtx) (hJ : mJ.Free cfg) :
    ∃ (J₁ J₂ : List (String × Job)) (A B : List PErr), ∀ v,
      parseJobs cfg (mJ.at v) =
        (J₁ ++ (keyId cfg false mJ.key, (parseJob cfg (parseString mJ.key false).1 v).1) :: J₂,
         A ++ ((parseJob cfg (parseString mJ.key false).1 v).2 ++ B)) := by
  obtain ⟨k1, k2, es, -, -, e⟩ := parseMapping_at cfg (sectionWhat "jobs") false false mJ hJ
  refine ⟨(mapKVs (fun kv => parseJob cfg kv.key kv.val) k1).1, (mapKVs (fun kv => parseJob cfg kv.key kv.val) k2).1,
    es ++ (mapKVs (fun kv => parseJob cfg kv.key kv.val) k1).2, (mapKVs (fun kv => parseJob cfg kv.key kv.val) k2).2, fun v => ?_⟩
  simp only [parseJobs, parseSectionMapping, e, mapKVs_mapR, mapR_at, seqR, List.append_nil, List.append_assoc]

/-- a job looks at its (non-empty) `steps:` sequence only through `stepsOf`: the job is one fixed job with `Steps` set to
the parsed steps, the diagnostics are those of the steps between two fixed lists -/
theorem parseJob_steps_split (cfg : Cfg) (jid : Str) (mK : MapCtx) (hK : mK.Keyed cfg "steps") (tag : String) (l c : Nat) (c0 : Node) :
    ∃ (Jb : Job) (A B : List PErr), ∀ t : List Node,
      parseJob cfg jid (mK.at (seqNode tag l c (c0 :: t))) =
        ({ Jb with steps := some (stepsOf cfg (c0 :: t)).1 }, A ++ ((stepsOf cfg (c0 :: t)).2 ++ B)) := by
  obtain ⟨Jb, A, B, h⟩ := Sect.split (jobSect cfg jid) cfg (jobWhat jid.value) true mK (fun t => seqNode tag l c (c0 :: t))
    (fun t => stepsOf cfg (c0 :: t))
    (fun b st => { st with job := { st.job with steps := some b } })
    (fun st => { st with stepsOnlyKey := some (parseString mK.key false).1 })
    (fun b J => { J with steps := some b })
    (fun st => jobFinish jid { st with job := { st.job with steps := some [] } })
    hK.first'
    (by intro s t; rw [hK.id]; simp only [jobSect, jobKey_steps, parseSteps_seqNode, store])
    (by
      intro b s kv hkv
      rw [hK.id] at hkv
      simp only [jobSect]
      unfold jobKey
      dsimp only
      split <;> first | rfl | (rename_i h; exact absurd h hkv) | (split <;> first | rfl | (split <;> rfl)))
    (by
      intro b s
      simp only [jobSect, jobFinish]
      split
      · split <;> rfl
      · rfl)
  exact ⟨Jb, A, B, fun t => h t⟩

/-- a workflow file with the path `jobs:` → one job → `steps:` → a sequence of step nodes -/
def stepsDoc (mW mJ mK : MapCtx) (tag : String) (l c : Nat) (steps : List Node) : Node :=
  docNode (mW.at (mJ.at (mK.at (seqNode tag l c steps))))

/-- **the document as a function of one job's steps.** Whatever the (non-empty) list of step nodes of that job: the AST is
one fixed workflow, with one fixed job at a fixed place, with `Steps` set to the steps parsed one by one; the parser's
diagnostics are those of the steps, in order, between two fixed lists. -/
theorem document_steps_split (cfg : Cfg) (mW mJ mK : MapCtx) (tag : String) (l c : Nat) (c0 : Node)
    (hW : mW.Keyed cfg "jobs") (hJ : mJ.Free cfg) (hK : mK.Keyed cfg "steps") :
    ∃ (W : Workflow) (J₁ J₂ : List (String × Job)) (Jb : Job) (A B : List PErr), ∀ t : List Node,
      parse cfg (stepsDoc mW mJ mK tag l c (c0 :: t)) =
        (withJobs W (J₁ ++ (keyId cfg false mJ.key, { Jb with steps := some (stepsOf cfg (c0 :: t)).1 }) :: J₂),
         A ++ ((stepsOf cfg (c0 :: t)).2 ++ B)) := by
  obtain ⟨W, A₁, B₁, h₁⟩ := parse_jobs_split cfg mW hW
  obtain ⟨J₁, J₂, A₂, B₂, h₂⟩ := parseJobs_split cfg mJ hJ
  obtain ⟨Jb, A₃, B₃, h₃⟩ := parseJob_steps_split cfg (parseString mJ.key false).1 mK hK tag l c c0
  refine ⟨W, J₁, J₂, Jb, A₁ ++ (A₂ ++ A₃), B₃ ++ (B₂ ++ B₁), fun t => ?_⟩
  simp only [stepsDoc, h₁, h₂, h₃, List.append_assoc]

/-- **one more step at the end of a job, in the document**: the AST changes by exactly that step at the end of that job's
`Steps`; the parser's diagnostics are the old ones with `(parseStep cfg s).2` inserted after those of the earlier steps.
Nothing about an earlier step, about the job's other keys, about another job or about the header changes. -/
theorem document_append_step (cfg : Cfg) (mW mJ mK : MapCtx) (tag : String) (l c : Nat) (c0 : Node) (t : List Node) (s : Node)
    (hW : mW.Keyed cfg "jobs") (hJ : mJ.Free cfg) (hK : mK.Keyed cfg "steps") :
    ∃ (W : Workflow) (J₁ J₂ : List (String × Job)) (Jb : Job) (A B : List PErr),
      parse cfg (stepsDoc mW mJ mK tag l c (c0 :: t)) =
        (withJobs W (J₁ ++ (keyId cfg false mJ.key, { Jb with steps := some (stepsOf cfg (c0 :: t)).1 }) :: J₂),
         A ++ ((stepsOf cfg (c0 :: t)).2 ++ B)) ∧
      parse cfg (stepsDoc mW mJ mK tag l c (c0 :: (t ++ [s]))) =
        (withJobs W (J₁ ++ (keyId cfg false mJ.key, { Jb with steps := some ((stepsOf cfg (c0 :: t)).1 ++ [(parseStep cfg s).1]) }) :: J₂),
         A ++ (((stepsOf cfg (c0 :: t)).2 ++ (parseStep cfg s).2) ++ B)) := by
  obtain ⟨W, J₁, J₂, Jb, A, B, h⟩ := document_steps_split cfg mW mJ mK tag l c c0 hW hJ hK
  refine ⟨W, J₁, J₂, Jb, A, B, h t, ?_⟩
  rw [h (t ++ [s]), ← List.cons_append, stepsOf_append]
  simp [stepsOf]

/-! ### the expression rule and the steps -/

section ExprSteps
open AL.RuleExpr AL.C09E AL.C05E

/-- **the block of a job, one more step at the end**: the part before the steps and the diagnostics of the earlier steps
are literally the same; the new step is checked under the scope the earlier steps leave; only `VisitJobPost`
(`environment`, `outputs`) is redone, under the scope that now includes the new step -/
theorem visitJob_append_step (cx0 : Cx) (isNum : IsNumber) (jobs : List (String × Job)) (Jb : Job) (S : List Step) (st : Step) :
    visitJob cx0 isNum jobs { Jb with steps := some S } =
      jobHead cx0 isNum jobs Jb ++ (visitSteps (stepsCx cx0 isNum jobs Jb) S).2 ++
        jobPost (visitSteps (stepsCx cx0 isNum jobs Jb) S).1 Jb ∧
    visitJob cx0 isNum jobs { Jb with steps := some (S ++ [st]) } =
      jobHead cx0 isNum jobs Jb ++ ((visitSteps (stepsCx cx0 isNum jobs Jb) S).2 ++
        (visitStep (visitSteps (stepsCx cx0 isNum jobs Jb) S).1 st).2) ++
        jobPost (visitStep (visitSteps (stepsCx cx0 isNum jobs Jb) S).1 st).1 Jb := by
  refine ⟨rfl, ?_⟩
  rw [visitJob_eq]
  have e : ({ Jb with steps := some (S ++ [st]) } : Job).steps.getD [] = S ++ [st] := rfl
  obtain ⟨h1, h2⟩ := visitSteps_prefix (stepsCx cx0 isNum jobs Jb) S [st]
  rw [e]
  have e1 : stepsCx cx0 isNum jobs { Jb with steps := some (S ++ [st]) } = stepsCx cx0 isNum jobs Jb := rfl
  have e2 : jobHead cx0 isNum jobs { Jb with steps := some (S ++ [st]) } = jobHead cx0 isNum jobs Jb := rfl
  rw [e1, e2, h1, h2]
  simp only [visitSteps, List.append_nil]
  rfl

/-- **the blocks of all jobs are blind to the steps of another job** -/
theorem visitJob_steps_elsewhere (cx : Cx) (isNum : IsNumber) (J₁ J₂ : List (String × Job)) (k : String) (Jb : Job)
    (S S' : Option (List Step)) (n : Job) :
    visitJob cx isNum (J₁ ++ (k, { Jb with steps := S }) :: J₂) n = visitJob cx isNum (J₁ ++ (k, { Jb with steps := S' }) :: J₂) n :=
  job_depends_on_needed_only cx isNum _ _ n (fun _ _ => lookupJob_replace _ k { Jb with steps := S } { Jb with steps := S' } J₂ rfl J₁)

/-- **the whole expression rule, one more step at the end of one job.** Header, the blocks of all other jobs, the part of
this job's block before its steps, the diagnostics of its EARLIER STEPS and the `workflow_call` outputs are literally the
same lists; the new step's diagnostics follow those of the earlier steps; `VisitJobPost` of this job is redone. -/
theorem rule_append_step (lower : String → String) (isNum : IsNumber) (proj : ProjView) (W : Workflow)
    (J₁ J₂ : List (String × Job)) (k : String) (Jb : Job) (S : List Step) (st : Step) :
    rule lower isNum (withJobs W (J₁ ++ (k, { Jb with steps := some S }) :: J₂)) proj =
      exprHeader lower W proj ++
      (J₁.flatMap (fun kv => visitJob (headerCx lower W proj) isNum (J₁ ++ (k, { Jb with steps := some S }) :: J₂) kv.2) ++
       ((jobHead (headerCx lower W proj) isNum (J₁ ++ (k, { Jb with steps := some S }) :: J₂) Jb ++
          (visitSteps (stepsCx (headerCx lower W proj) isNum (J₁ ++ (k, { Jb with steps := some S }) :: J₂) Jb) S).2 ++
          jobPost (visitSteps (stepsCx (headerCx lower W proj) isNum (J₁ ++ (k, { Jb with steps := some S }) :: J₂) Jb) S).1 Jb) ++
        J₂.flatMap (fun kv => visitJob (headerCx lower W proj) isNum (J₁ ++ (k, { Jb with steps := some S }) :: J₂) kv.2))) ++
      exprOutputs lower W (J₁ ++ (k, { Jb with steps := some S }) :: J₂) proj ∧
    rule lower isNum (withJobs W (J₁ ++ (k, { Jb with steps := some (S ++ [st]) }) :: J₂)) proj =
      exprHeader lower W proj ++
      (J₁.flatMap (fun kv => visitJob (headerCx lower W proj) isNum (J₁ ++ (k, { Jb with steps := some S }) :: J₂) kv.2) ++
       ((jobHead (headerCx lower W proj) isNum (J₁ ++ (k, { Jb with steps := some S }) :: J₂) Jb ++
          ((visitSteps (stepsCx (headerCx lower W proj) isNum (J₁ ++ (k, { Jb with steps := some S }) :: J₂) Jb) S).2 ++
           (visitStep (visitSteps (stepsCx (headerCx lower W proj) isNum (J₁ ++ (k, { Jb with steps := some S }) :: J₂) Jb) S).1 st).2) ++
          jobPost (visitStep (visitSteps (stepsCx (headerCx lower W proj) isNum (J₁ ++ (k, { Jb with steps := some S }) :: J₂) Jb) S).1 st).1 Jb) ++
        J₂.flatMap (fun kv => visitJob (headerCx lower W proj) isNum (J₁ ++ (k, { Jb with steps := some S }) :: J₂) kv.2))) ++
      exprOutputs lower W (J₁ ++ (k, { Jb with steps := some S }) :: J₂) proj := by
  constructor
  · rw [rule_eq, List.flatMap_append, List.flatMap_cons, (visitJob_append_step _ isNum _ Jb S st).1]
  · -- the other jobs and the outputs do not see this job's steps
    rw [rule_eq, exprOutputs_steps lower W proj J₁ J₂ k Jb (some (S ++ [st])) (some S)]
    simp only [visitJob_steps_elsewhere _ isNum J₁ J₂ k Jb (some (S ++ [st])) (some S)]
    rw [List.flatMap_append, List.flatMap_cons, (visitJob_append_step _ isNum _ Jb S st).2]

/-- **the expression rule, one more step, in the document.** A step node `s` is appended to the (non-empty) `steps:`
sequence of one job of a workflow file. The rule's diagnostics on the two files have the shape
`P ++ E ++ post ++ T` and `P ++ (E ++ new) ++ post' ++ T`: the same prefix `P` (header, earlier jobs, this job before its
steps), the same diagnostics `E` of the EARLIER STEPS (`visitSteps` from a fixed scope `cS` over the earlier steps), then
the new step checked under the scope the earlier steps leave, then this job's `VisitJobPost` (redone), then the same
tail `T` (later jobs, `workflow_call` outputs). `P`, `T`, `cS`, `Jb` are bound existentially: what stands in brackets is
what the proof takes for them, the statement only says that they are the same for the two files. -/
theorem expr_append_step_document (cfg : Cfg) (isNum : IsNumber) (proj : ProjView) (mW mJ mK : MapCtx) (tag : String) (l c : Nat)
    (c0 : Node) (t : List Node) (s : Node)
    (hW : mW.Keyed cfg "jobs") (hJ : mJ.Free cfg) (hK : mK.Keyed cfg "steps") :
    ∃ (P T : List RuleExpr.Diag) (cS : Cx) (Jb : Job),
      rule cfg.lower isNum (parse cfg (stepsDoc mW mJ mK tag l c (c0 :: t))).1 proj =
        P ++ (visitSteps cS (stepsOf cfg (c0 :: t)).1).2 ++ jobPost (visitSteps cS (stepsOf cfg (c0 :: t)).1).1 Jb ++ T ∧
      rule cfg.lower isNum (parse cfg (stepsDoc mW mJ mK tag l c (c0 :: (t ++ [s])))).1 proj =
        P ++ ((visitSteps cS (stepsOf cfg (c0 :: t)).1).2 ++
              (visitStep (visitSteps cS (stepsOf cfg (c0 :: t)).1).1 (parseStep cfg s).1).2) ++
          jobPost (visitStep (visitSteps cS (stepsOf cfg (c0 :: t)).1).1 (parseStep cfg s).1).1 Jb ++ T := by
  obtain ⟨W, J₁, J₂, Jb, A, B, e0, e1⟩ := document_append_step cfg mW mJ mK tag l c c0 t s hW hJ hK
  obtain ⟨a, b⟩ := rule_append_step cfg.lower isNum proj W J₁ J₂ (keyId cfg false mJ.key) Jb (stepsOf cfg (c0 :: t)).1 (parseStep cfg s).1
  have e0' := congrArg Prod.fst e0
  have e1' := congrArg Prod.fst e1
  simp only at e0' e1'
  rw [e0', e1', a, b]
  generalize J₁ ++ (keyId cfg false mJ.key, ({ Jb with steps := some (stepsOf cfg (c0 :: t)).1 } : Job)) :: J₂ = js
  refine ⟨exprHeader cfg.lower W proj ++ (J₁.flatMap (fun kv => visitJob (headerCx cfg.lower W proj) isNum js kv.2) ++
      jobHead (headerCx cfg.lower W proj) isNum js Jb),
    J₂.flatMap (fun kv => visitJob (headerCx cfg.lower W proj) isNum js kv.2) ++ exprOutputs cfg.lower W js proj,
    stepsCx (headerCx cfg.lower W proj) isNum js Jb, Jb, ?_, ?_⟩ <;> simp only [List.append_assoc]

end ExprSteps

/-! ### the AST-only rules and the steps -/

section RulesSteps
open AL.Rules AL.C09A AL.C18P

/-- **the per-job block of the AST-only rules, one more step at the end**: up to order, the old block plus what the rules
report about the new step alone (`stepOwn`: shell-name under the job's platform, action, env-var, id — against the ids
of the earlier steps —, deprecated-commands, if-cond). Nothing about an earlier step changes. -/
theorem perJob_append_step (lower : String → String) (urlOk : String → Bool) (lc : LabelCfg) (Jb : Job) (S : List Step) (st : Step) :
    (perJob lower urlOk { Jb with steps := some (S ++ [st]) } lc).Perm
      (perJob lower urlOk { Jb with steps := some S } lc ++ stepOwn lower urlOk Jb S st) := by
  have e : ∀ X : List Step, Rules.stepsOf ({ Jb with steps := some X } : Job) = X := fun _ => rfl
  have hs : ∀ X : List Step, shellNameJob lower ({ Jb with steps := some X } : Job) =
      (match Jb.runsOn with | some _ => checkShellName lower (jobPlatform lower Jb) (defaultsShell Jb.defaults) | none => []) ++
      X.flatMap (shellStep lower (jobPlatform lower Jb)) := fun _ => rfl
  have hd : ∀ X : List Step, deprecatedJob ({ Jb with steps := some X } : Job) = X.flatMap deprecatedStep := fun _ => rfl
  rw [List.perm_iff_count]
  intro a
  simp only [perJob, stepOwn, hs, hd, e, envVarJob, idJob, ifCondJob, idSteps_append, List.flatMap_append, List.flatMap_cons,
    List.flatMap_nil, List.append_nil, List.count_append]
  have m1 : matrixJob ({ Jb with steps := some (S ++ [st]) } : Job) = matrixJob ({ Jb with steps := some S } : Job) := rfl
  have m2 : credentialsJob ({ Jb with steps := some (S ++ [st]) } : Job) = credentialsJob ({ Jb with steps := some S } : Job) := rfl
  have m3 : runnerLabelJob lower ({ Jb with steps := some (S ++ [st]) } : Job) lc = runnerLabelJob lower ({ Jb with steps := some S } : Job) lc := rfl
  have m4 : workflowCallJob ({ Jb with steps := some (S ++ [st]) } : Job) = workflowCallJob ({ Jb with steps := some S } : Job) := rfl
  rw [m1, m2, m3, m4]
  omega


/-- job-needs does not look at the steps -/
theorem ruleJobNeeds_steps (lower : String → String) (W : Workflow) (J₁ J₂ : List (String × Job)) (k : String) (Jb : Job)
    (S S' : Option (List Step)) :
    ruleJobNeeds lower (withJobs W (J₁ ++ (k, { Jb with steps := S }) :: J₂)) =
      ruleJobNeeds lower (withJobs W (J₁ ++ (k, { Jb with steps := S' }) :: J₂)) := by
  simp only [ruleJobNeeds, jobsOf, Option.getD_some, List.map_append, List.map_cons]
  rfl

/-- **all the AST-only rules, one more step at the end of one job** — every workflow, no side condition: the diagnostics
are, as a multiset, the old ones plus `stepOwn` of the new step -/
theorem rules_append_step (lower : String → String) (isNum urlOk : String → Bool) (lc : LabelCfg) (W : Workflow)
    (J₁ J₂ : List (String × Job)) (k : String) (Jb : Job) (S : List Step) (st : Step) :
    (rules lower isNum urlOk (withJobs W (J₁ ++ (k, { Jb with steps := some (S ++ [st]) }) :: J₂)) lc).Perm
      (rules lower isNum urlOk (withJobs W (J₁ ++ (k, { Jb with steps := some S }) :: J₂)) lc ++ stepOwn lower urlOk Jb S st) := by
  refine (rules_per_job lower isNum urlOk _ lc).trans
    (List.Perm.trans ?_ ((rules_per_job lower isNum urlOk (withJobs W (J₁ ++ (k, { Jb with steps := some S }) :: J₂)) lc).symm.append_right _))
  rw [ruleJobNeeds_steps lower W J₁ J₂ k Jb (some (S ++ [st])) (some S),
    header_withJobs lower isNum lc W _ (J₁ ++ (k, { Jb with steps := some S }) :: J₂), List.append_assoc, List.append_assoc]
  simp only [jobsOf, Option.getD_some, List.flatMap_map]
  exact ((perm_flatMap_replace (fun p : String × Job => perJob lower urlOk p.2 lc) J₁ J₂
    (k, { Jb with steps := some (S ++ [st]) }) (k, { Jb with steps := some S }) _
    (perJob_append_step lower urlOk lc Jb S st)).append_left _).append_left _

/-- **one more step, the whole linter** (parser + all the AST-only rules + the sort) — every workflow file with a job
with a non-empty `steps:` sequence (under the first `steps` key of the first job key of its id), no condition on the needs
graph or on the other jobs: appending the step node `s` adds to the diagnostics of the file exactly the new step's own —
its syntax diagnostics `(parseStep cfg s).2` and `stepOwn` of the parsed step — as a multiset. Hence a diagnostic that is
none of the new step's own occurs the same number of times before and after. -/
theorem lint_append_step (cfg : Cfg) (isNum urlOk : String → Bool) (lc : LabelCfg) (mW mJ mK : MapCtx) (tag : String) (l c : Nat)
    (c0 : Node) (t : List Node) (s : Node)
    (hW : mW.Keyed cfg "jobs") (hJ : mJ.Free cfg) (hK : mK.Keyed cfg "steps") :
    ∃ Jb : Job,
      (keyId cfg false mJ.key, { Jb with steps := some (stepsOf cfg (c0 :: t)).1 }) ∈
        (parse cfg (stepsDoc mW mJ mK tag l c (c0 :: t))).1.jobs.getD [] ∧
      (lint cfg isNum urlOk (stepsDoc mW mJ mK tag l c (c0 :: (t ++ [s]))) lc).Perm
        (lint cfg isNum urlOk (stepsDoc mW mJ mK tag l c (c0 :: t)) lc ++
          ((parseStep cfg s).2.map ofPErr ++ stepOwn cfg.lower urlOk Jb (stepsOf cfg (c0 :: t)).1 (parseStep cfg s).1)) := by
  obtain ⟨W, J₁, J₂, Jb, A, B, e0, e1⟩ := document_append_step cfg mW mJ mK tag l c c0 t s hW hJ hK
  refine ⟨Jb, by rw [e0]; simp, lint_perm_add cfg isNum urlOk lc _ _ _ _ ?_ ?_⟩
  · rw [e0, e1]
    exact perm_block_last _ _ _ _
  · rw [e0, e1]
    exact rules_append_step cfg.lower isNum urlOk lc W J₁ J₂ (keyId cfg false mJ.key) Jb (stepsOf cfg (c0 :: t)).1 (parseStep cfg s).1

end RulesSteps

end Steps

/-! ## examples (the hypotheses are satisfiable) and witnesses (what is FALSE of the model) -/

section Examples
open AL.Rules AL.C09A

/-- `{runs-on: ubuntu-latest, needs: [...], steps: [{run: x}]}` on line `l` -/
def jobV (l : Nat) (needs : List String) : Node :=
  mapNode "!!map" l 5 ([(sc "runs-on" l 5, sc "ubuntu-latest" l 14)] ++
    (if needs.isEmpty then [] else [(sc "needs" l 30, seqNode "!!seq" l 37 (needs.map fun n => sc n l 38))]) ++
    [(sc "steps" l 50, seqNode "!!seq" l 57 [mapNode "!!map" l 59 [(sc "run" l 59, sc "x" l 64)]])])

/-- the pair `id: {…}` of the `jobs:` mapping, on line `l` -/
def jp (id : String) (l : Nat) (needs : List String) : Node × Node := (sc id l 3, jobV l needs)

/-- `on: push` / `jobs:` with the given pairs -/
def xDoc (ps : List (Node × Node)) : Node := jobsDoc exRoot "!!map" 3 3 ps

def isNumX : String → Bool := fun _ => false
def urlOkX : String → Bool := fun _ => true

theorem exRoot_jobs : exRoot.Keyed exCfg "jobs" := C13D3.exRoot_jobs

/-- jobs `a`, `b` (needs a), `c`: acyclic, nothing undefined -/
def pA := jp "a" 3 []
def pB := jp "b" 4 ["a"]
def pC := jp "c" 5 []

/-! ### 1 -/

example := parseJobs_distinct exCfg "!!map" 3 3 [pA, pB, pC] (by decide)
example := parseJobs_insert exCfg "!!map" 3 3 [pA] [pC] pB.1 pB.2 (by decide)
example := parseJobs_insert_perm exCfg "!!map" 3 3 [pA] [pC] pB.1 pB.2 (by decide) (by simp)
example := parse_jobs_split exCfg exRoot exRoot_jobs
example := document_add_job_ast exCfg exRoot "!!map" 3 3 [pA] [pC] pB.1 pB.2 exRoot_jobs (by decide)
example := document_add_job_diags exCfg exRoot "!!map" 3 3 [pA] [pC] pB.1 pB.2 exRoot_jobs (by decide) (by simp)
example := document_add_job exCfg exRoot "!!map" 3 3 [pA] [pC] pB.1 pB.2 exRoot_jobs (by decide) (by simp)
example := parseJobs_swap exCfg "!!map" 3 3 [pA] [] pB.1 pB.2 pC.1 pC.2 (by decide) (by decide) (by decide)
example := document_swap_jobs exCfg exRoot "!!map" 3 3 [pA] [] pB.1 pB.2 pC.1 pC.2 exRoot_jobs (by decide) (by decide) (by decide)

/-- the file with `a`, `b`, `c` is clean for the parser; the three jobs come out in source order -/
example : (parse exCfg (xDoc [pA, pB, pC])).2 = [] ∧
    ((parse exCfg (xDoc [pA, pB, pC])).1.jobs.getD []).map (·.1) = ["a", "b", "c"] := by decide +kernel

/-- a syntax error inside job `b` (`bogus:`) is reported once and leaves the parse of `a` and `c` alone -/
example :
    (parse exCfg (xDoc [pA, (sc "b" 4 3, mapNode "!!map" 4 5 [(sc "bogus" 4 5, sc "x" 4 12)]), pC])).2.map (·.code) =
      ["unexpected-key", "job-no-steps", "job-no-runs-on"] ∧
    ((parse exCfg (xDoc [pA, (sc "b" 4 3, mapNode "!!map" 4 5 [(sc "bogus" 4 5, sc "x" 4 12)]), pC])).1.jobs.getD []).map (·.1) =
      ["a", "b", "c"] := by decide +kernel

/-! ### 2, 4: job-needs on the three jobs, and on the three files used below -/

/-! the AST-level statements on the jobs of these files (the header `W` is irrelevant: take the empty workflow) -/

def eA := jobEntry exCfg pA
def eB := jobEntry exCfg pB
def eC := jobEntry exCfg pC

theorem needs_ast_abc : ruleJobNeeds exCfg.lower (withJobs {} ([eA] ++ eB :: [eC])) = [] :=
  C18P.ruleJobNeeds_eval _ _ _ 32 _ rfl (by decide +kernel)
theorem needs_ast_ac : ruleJobNeeds exCfg.lower (withJobs {} ([eA] ++ [eC])) = [] :=
  C18P.ruleJobNeeds_eval _ _ _ 32 _ rfl (by decide +kernel)
theorem needs_ast_acb : ruleJobNeeds exCfg.lower (withJobs {} [eA, eC, eB]) = [] :=
  C18P.ruleJobNeeds_eval _ _ _ 32 _ rfl (by decide +kernel)

theorem ids_abc : (idsOf exCfg.lower ([eA] ++ eB :: [eC])).Nodup := by decide +kernel
theorem unneeded_b : Unneeded exCfg.lower (exCfg.lower eB.2.id.value) ([eA] ++ [eC]) := by
  intro p hp n hn
  revert n
  revert p
  decide +kernel

/-- the same of the file with `a` and `c`, as `lint_add_job` and `expr_add_job_document` ask for it -/
theorem unneeded_b_doc : ∀ j ∈ jobsOf (parse exCfg (jobsDoc exRoot "!!map" 3 3 ([pA] ++ [pC]))).1, ∀ n ∈ j.needs.getD [],
    exCfg.lower n.value ≠ keyId exCfg false pB.1 := by decide +kernel

/-- on the files: from the jobs (`ruleJobNeeds_jobsDoc`), without evaluating the parser -/
theorem needs_abc : ruleJobNeeds exCfg.lower (parse exCfg (xDoc [pA, pB, pC])).1 = [] :=
  (ruleJobNeeds_jobsDoc exCfg exRoot "!!map" 3 3 [pA, pB, pC] exRoot_jobs (by decide)).trans needs_ast_abc

theorem needs_ac : ruleJobNeeds exCfg.lower (parse exCfg (xDoc [pA, pC])).1 = [] :=
  (ruleJobNeeds_jobsDoc exCfg exRoot "!!map" 3 3 [pA, pC] exRoot_jobs (by decide)).trans needs_ast_ac

theorem needs_acb : ruleJobNeeds exCfg.lower (parse exCfg (xDoc [pA, pC, pB])).1 = [] :=
  (ruleJobNeeds_jobsDoc exCfg exRoot "!!map" 3 3 [pA, pC, pB] exRoot_jobs (by decide)).trans needs_ast_acb

theorem noCyc_of_nil {lower : String → String} {w : Workflow} (h : ruleJobNeeds lower w = []) : NoCyclicReport lower w := by
  intro d hd; rw [h] at hd; cases hd

theorem acyclic_of_nil {lower : String → String} {w : Workflow} (h : ruleJobNeeds lower w = []) :
    ¬ AL.Spec.Cyclic (C18P.graphOf lower (C18P.jobsIn w)) := by
  intro hc
  obtain ⟨d, hd, _⟩ := C18P.rule_cyclic_some lower w (by rw [h]; exact fun _ hd => nomatch hd) hc
  rw [h] at hd
  cases hd

/-- acyclicity as the reason for `NoCyclicReport` -/
example : NoCyclicReport exCfg.lower (parse exCfg (xDoc [pA, pB, pC])).1 :=
  noCyclic_of_acyclic _ _ (acyclic_of_nil needs_abc)

/-- `lint_add_job` on a concrete file: job `b` (needs `a`) inserted between `a` and `c` -/
example := lint_add_job exCfg isNumX urlOkX {} exRoot "!!map" 3 3 [pA] [pC] pB.1 pB.2 exRoot_jobs (by decide) (by simp)
  unneeded_b_doc (noCyc_of_nil needs_abc) (noCyc_of_nil needs_ac)

theorem acyclic_abc : ¬ AL.Spec.Cyclic (C18P.graphOf exCfg.lower (C18P.jobsIn (parse exCfg (xDoc [pA, pB, pC])).1)) :=
  acyclic_of_nil needs_abc

example := lint_add_job_acyclic exCfg isNumX urlOkX {} exRoot "!!map" 3 3 [pA] [pC] pB.1 pB.2 exRoot_jobs (by decide) (by simp)
  unneeded_b_doc acyclic_abc

/-- `lint_swap_jobs` on a concrete file: `b` and `c` swapped -/
example := lint_swap_jobs exCfg isNumX urlOkX {} exRoot "!!map" 3 3 [pA] [] pB.1 pB.2 pC.1 pC.2 exRoot_jobs
  (by decide) (by decide) (by decide) (noCyc_of_nil needs_abc) (noCyc_of_nil needs_acb)

/-- the theorems take the key and the job of the new entry apart, `(eB.1, eB.2)` for `eB`. Asked to compare the two, the
checkers unfold `eB` (and run the parser) before they try η; so the facts about `eB` are carried over by rewriting. -/
theorem eB_eta : eB = (eB.1, eB.2) := (Prod.eta eB).symm

example := rules_add_job exCfg.lower isNumX urlOkX {} {} [eA] [eC] eB.1 eB.2 []
  (by rw [← eB_eta, needs_ast_abc, needs_ast_ac]; exact List.Perm.refl _)
example := ruleJobNeeds_per_job exCfg.lower {} ([eA] ++ eB :: [eC]) ids_abc (noCyc_of_nil needs_ast_abc)
example := needs_add_job exCfg.lower {} [eA] [eC] eB.1 eB.2 (eB_eta ▸ ids_abc) unneeded_b
  (eB_eta ▸ noCyc_of_nil needs_ast_abc) (noCyc_of_nil needs_ast_ac)
example := needs_add_job_general exCfg.lower {} [eA] [eC] eB.1 eB.2 (eB_eta ▸ ids_abc)
  (eB_eta ▸ noCyc_of_nil needs_ast_abc) (noCyc_of_nil needs_ast_ac)
example := needs_add_job_quiet exCfg.lower {} [eA] [eC] eB.1 eB.2 (eB_eta ▸ ids_abc) unneeded_b (by decide +kernel)
  (eB_eta ▸ noCyc_of_nil needs_ast_abc) (noCyc_of_nil needs_ast_ac)
example := rules_add_unneeded_job exCfg.lower isNumX urlOkX {} {} [eA] [eC] eB.1 eB.2 (eB_eta ▸ ids_abc) unneeded_b
  (eB_eta ▸ noCyc_of_nil needs_ast_abc) (noCyc_of_nil needs_ast_ac)
example := noCyclic_of_acyclic_bigger exCfg.lower {} [eA] [eC] eB.1 eB.2 (eB_eta ▸ ids_abc)
  (eB_eta ▸ acyclic_of_nil needs_ast_abc)
example := rules_reorder exCfg.lower isNumX urlOkX {} {} ([eA] ++ eB :: [eC]) [eA, eC, eB]
  (List.Perm.cons _ (List.Perm.swap _ _ _)) ids_abc (noCyc_of_nil needs_ast_abc) (noCyc_of_nil needs_ast_acb)

/-! ### 3 -/

example := visitJob_other { lower := exCfg.lower } isNumX [eA] [eC] eB.1 eB.2 eC.2 (by decide +kernel)
example := rule_add_job exCfg.lower isNumX {} {} [eA] [eC] eB.1 eB.2 (by decide +kernel)
example := rule_add_job' exCfg.lower isNumX {} {} [eA] [eC] eB.1 eB.2 (by decide +kernel) rfl
example := expr_add_job_document exCfg isNumX {} exRoot "!!map" 3 3 [pA] [pC] pB.1 pB.2 exRoot_jobs (by decide) unneeded_b_doc

/-! ### 5 -/

/-- the job `build` with the steps `run: x`, `run: y` and the new step `uses: actions/checkout@v4` -/
def xJobs : MapCtx := ⟨"!!map", 3, 3, [], sc "build" 3 3, []⟩
def xJob : MapCtx := ⟨"!!map", 4, 5, [(sc "runs-on" 4 5, sc "ubuntu-latest" 4 14)], sc "steps" 5 5, []⟩
def st0 : Node := mapNode "!!map" 6 9 [(sc "run" 6 9, sc "x" 6 14)]
def st1 : Node := mapNode "!!map" 7 9 [(sc "run" 7 9, sc "y" 7 14)]
def st2 : Node := mapNode "!!map" 8 9 [(sc "uses" 8 9, sc "actions/checkout@v4" 8 15)]

theorem xJobs_free : xJobs.Free exCfg := by decide
theorem xJob_steps : xJob.Keyed exCfg "steps" := ⟨goodKey_of_scalar _ rfl (by decide), rfl, by decide⟩

example := parseJobs_split exCfg xJobs xJobs_free
example := parseJob_steps_split exCfg ⟨"build", false, ⟨3, 3⟩⟩ xJob xJob_steps "!!seq" 6 7 st0
example := document_steps_split exCfg exRoot xJobs xJob "!!seq" 6 7 st0 exRoot_jobs xJobs_free xJob_steps
example := document_append_step exCfg exRoot xJobs xJob "!!seq" 6 7 st0 [st1] st2 exRoot_jobs xJobs_free xJob_steps
example := expr_append_step_document exCfg isNumX {} exRoot xJobs xJob "!!seq" 6 7 st0 [st1] st2 exRoot_jobs xJobs_free xJob_steps
example := lint_append_step exCfg isNumX urlOkX {} exRoot xJobs xJob "!!seq" 6 7 st0 [st1] st2 exRoot_jobs xJobs_free xJob_steps

/-- a broken third step (`bogus:` only) is reported three times over and leaves the earlier steps alone -/
example :
    (parse exCfg (stepsDoc exRoot xJobs xJob "!!seq" 6 7 [st0, st1])).2 = [] ∧
    (parse exCfg (stepsDoc exRoot xJobs xJob "!!seq" 6 7 ([st0, st1] ++ [mapNode "!!map" 8 9 [(sc "bogus" 8 9, sc "z" 8 16)]]))).2.map (·.code) =
      ["unexpected-key", "step-no-exec"] := by decide +kernel

/-! ### witnesses: where "jobs are checked independently" is FALSE of the model — all three in job-needs

  job-needs reports (i) nothing about cycles as soon as ANY job has an undefined `needs:` entry, and (ii) only the FIRST
  cycle the depth-first search meets (rule_job_needs.go: `if !valid { return nil }`; "Only the first cycle can be
  detected"). Hence the side conditions `NoCyclicReport` of `lint_add_job` / `lint_swap_jobs` cannot be dropped. -/

/-- jobs `a ⇄ b`: one `needs-cyclic` report -/
theorem needs_cyc_ab : ruleJobNeeds exCfg.lower (parse exCfg (xDoc [jp "a" 3 ["b"], jp "b" 4 ["a"]])).1 =
    [⟨⟨3, 3⟩, "job-needs", "needs-cyclic", ["a,b,a"]⟩] :=
  C18P.ruleJobNeeds_eval _ _ _ 32 _ rfl (by decide +kernel)

/-- **an error in one job hides a diagnostic about other jobs.** The file with the jobs `a ⇄ b` gets the `needs-cyclic`
report. Append a job `c` that nobody needs and that names neither `a` nor `b` — but a job `zz` that does not exist: the
whole output of the linter is the one `needs-undefined` report about `c`; the cycle between `a` and `b` is no longer
reported. -/
theorem undefined_need_hides_cycle :
    (⟨⟨3, 3⟩, "job-needs", "needs-cyclic", ["a,b,a"]⟩ : Diag) ∈ lint exCfg isNumX urlOkX (xDoc [jp "a" 3 ["b"], jp "b" 4 ["a"]]) ∧
    lint exCfg isNumX urlOkX (xDoc ([jp "a" 3 ["b"], jp "b" 4 ["a"]] ++ [jp "c" 5 ["zz"]])) =
      [⟨⟨5, 3⟩, "job-needs", "needs-undefined", ["c", "zz"]⟩] := by
  refine ⟨needs_mem_lint exCfg isNumX urlOkX {} _ _ (by rw [needs_cyc_ab]; simp), by decide +kernel⟩

/-- **an unrelated job changes what is reported about other jobs.** Jobs `a ⇄ b` and `c ⇄ d`: the cycle `a,b,a` is
reported. Put a job `x` in front that nobody needs and that needs the existing job `c`: now the cycle `c,d,c` is reported
and `a,b,a` is not. -/
theorem unrelated_job_changes_reported_cycle :
    ruleJobNeeds exCfg.lower (parse exCfg (xDoc [jp "a" 4 ["b"], jp "b" 5 ["a"], jp "c" 6 ["d"], jp "d" 7 ["c"]])).1 =
      [⟨⟨4, 3⟩, "job-needs", "needs-cyclic", ["a,b,a"]⟩] ∧
    ruleJobNeeds exCfg.lower (parse exCfg (xDoc ([] ++ jp "x" 3 ["c"] :: [jp "a" 4 ["b"], jp "b" 5 ["a"], jp "c" 6 ["d"], jp "d" 7 ["c"]]))).1 =
      [⟨⟨6, 3⟩, "job-needs", "needs-cyclic", ["c,d,c"]⟩] :=
  ⟨C18P.ruleJobNeeds_eval _ _ _ 32 _ rfl (by decide +kernel), C18P.ruleJobNeeds_eval _ _ _ 32 _ rfl (by decide +kernel)⟩

/-- **reordering two jobs changes what is reported**: with the jobs in the order `a, c, b, d` (`a ⇄ b`, `c ⇄ d`) the cycle
`a,b,a` is reported, with `c, a, b, d` the cycle `c,d,c` -/
theorem swap_changes_reported_cycle :
    ruleJobNeeds exCfg.lower (parse exCfg (xDoc ([] ++ jp "a" 3 ["b"] :: jp "c" 4 ["d"] :: [jp "b" 5 ["a"], jp "d" 6 ["c"]]))).1 =
      [⟨⟨3, 3⟩, "job-needs", "needs-cyclic", ["a,b,a"]⟩] ∧
    ruleJobNeeds exCfg.lower (parse exCfg (xDoc ([] ++ jp "c" 4 ["d"] :: jp "a" 3 ["b"] :: [jp "b" 5 ["a"], jp "d" 6 ["c"]]))).1 =
      [⟨⟨4, 3⟩, "job-needs", "needs-cyclic", ["c,d,c"]⟩] :=
  ⟨C18P.ruleJobNeeds_eval _ _ _ 32 _ rfl (by decide +kernel), C18P.ruleJobNeeds_eval _ _ _ 32 _ rfl (by decide +kernel)⟩

end Examples

end AL.C09D
