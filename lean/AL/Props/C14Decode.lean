import AL.Model.ActionDecode
import AL.Lemmas.StructDecode
/-
  C14, "a declared required input without default": what `Required` of a local action's input IS, as a statement about the
  `action.yml` node (AL.ActionDecode.decInput, i.e. the anonymous struct of `ActionMetadataInputs.UnmarshalYAML` decoded by
  yaml.v3): when the decoding succeeds, the input is required iff the mapping has a `required:` key whose value decodes to
  true and has no `default:` key with a non-null value — from a statement about one field of a struct filled by
  `structLoop`. Then the loop over `inputs:` (each entry under its lower-cased id, ids distinct), both together
  (`action_inputs_end_to_end`), and the same for an input of a local reusable workflow read from its file.
-/
namespace AL.C14D
open AL.Yaml AL.PW AL.ActionDecode
open AL.CallMeta (D E decBool decStr decStrPtr structLoop structDecode hasDupKey isMerge)

/-- the pair `(k, x)` sets the field `name` -/
def Sets (name : String) (q : Node × Node) : Prop := isMerge q.1 = false ∧ decStr q.1 = .ok name

theorem decStrPtr_isSome {v : Node} {d : Option String} (h : decStrPtr v = .ok d) : d.isSome = true ↔ v.isNull = false := by
  simp only [decStrPtr] at h
  by_cases hn : v.isNull = true
  · simp only [hn, if_true, Except.ok.injEq] at h; subst h; simp [hn]
  · simp only [hn, Bool.false_eq_true, if_false] at h
    obtain ⟨s, _, rfl⟩ := AL.CallMeta.map_eq_ok.1 h
    simp [hn]

/-- One field `f` of a struct filled by `structLoop`, seen through a Boolean `obs` of the state: after the loop `obs` holds
iff some pair sets `f` to a value satisfying `P` — or no pair sets `f` and `obs` held before. -/
theorem structLoop_flag {σ : Type} (fields : List String) (set : σ → String → Node → D σ) (obs : σ → Bool) (f : String)
    (P : Node → Prop) (hf : f ∈ fields)
    (hset : ∀ st v st1, set st f v = .ok st1 → (obs st1 = true ↔ P v))
    (hother : ∀ st name v st1, name ≠ f → set st name v = .ok st1 → obs st1 = obs st)
    (l : List (Node × Node)) (done : List String) (st st' : σ) (h : structLoop fields set l done st = .ok st') :
      (obs st' = true ↔ (∃ q ∈ l, Sets f q ∧ P q.2) ∨ (obs st = true ∧ ∀ q ∈ l, ¬ Sets f q)) ∧
      (∀ q ∈ l, Sets f q → f ∉ done) := by
  obtain ⟨h1, h2⟩ := AL.CallMeta.structLoop_field obs f (fun v b => b = true ↔ P v) hother hset l done st st' h
  refine ⟨?_, fun q hq hs => (h2 hf q hq hs.2).1⟩
  by_cases hex : ∃ q ∈ l, Sets f q
  · -- the pair that sets `f` decides
    obtain ⟨q0, hq0, hs0⟩ := hex
    refine ⟨fun ho => .inl ⟨q0, hq0, hs0, (h2 hf q0 hq0 hs0.2).2.1 ho⟩, ?_⟩
    rintro (⟨q, hq, hs, hp⟩ | ⟨_, hno⟩)
    · exact (h2 hf q hq hs.2).2.2 hp
    · exact absurd hs0 (hno q0 hq0)
  · have hno : ∀ q ∈ l, ¬ Sets f q := fun q hq hs => hex ⟨q, hq, hs⟩
    rw [h1 (.inr (.inr fun q hq hd => hno q hq ⟨(AL.CallMeta.structLoop_keys l done st st' h q hq).1, hd⟩))]
    exact ⟨fun ho => .inr ⟨ho, hno⟩, fun hr => hr.elim (fun ⟨q, hq, hs, _⟩ => absurd hs (hno q hq)) (·.1)⟩

/-- the two fields C14 is about, for any struct whose setter treats `required` as a `bool` and `default` as a `*string` -/
theorem structLoop_req_dflt {σ : Type} (fields : List String) (set : σ → String → Node → D σ)
    (req : σ → Bool) (dflt : σ → Option String) (hr : "required" ∈ fields) (hd : "default" ∈ fields)
    (hset : ∀ st name v st1, set st name v = .ok st1 →
      (name = "required" ∧ decBool v = .ok (req st1) ∧ dflt st1 = dflt st) ∨
      (name = "default" ∧ decStrPtr v = .ok (dflt st1) ∧ req st1 = req st) ∨
      (name ≠ "required" ∧ name ≠ "default" ∧ req st1 = req st ∧ dflt st1 = dflt st))
    (l : List (Node × Node)) (done : List String) (st st' : σ) (h : structLoop fields set l done st = .ok st') :
    (req st' = true ↔
      (∃ q ∈ l, Sets "required" q ∧ decBool q.2 = .ok true) ∨ (req st = true ∧ ∀ q ∈ l, ¬ Sets "required" q)) ∧
    ((dflt st').isSome = true ↔
      (∃ q ∈ l, Sets "default" q ∧ q.2.isNull = false) ∨ ((dflt st).isSome = true ∧ ∀ q ∈ l, ¬ Sets "default" q)) ∧
    (∀ q ∈ l, Sets "required" q → "required" ∉ done) ∧ (∀ q ∈ l, Sets "default" q → "default" ∉ done) := by
  have h1 := structLoop_flag fields set req "required" (fun v => decBool v = .ok true) hr
    (fun st v st1 hs => by
      rcases hset st _ v st1 hs with ⟨_, hb, _⟩ | ⟨e, _⟩ | ⟨e, _⟩
      · rw [hb]; exact ⟨fun h => by rw [h], fun h => Except.ok.inj h⟩
      · exact absurd e (by decide)
      · exact absurd rfl e)
    (fun st name v st1 hne hs => by
      rcases hset st name v st1 hs with ⟨e, _⟩ | ⟨_, _, h⟩ | ⟨_, _, h, _⟩
      · exact absurd e hne
      · exact h
      · exact h) l done st st' h
  have h2 := structLoop_flag fields set (fun s => (dflt s).isSome) "default" (fun v => v.isNull = false) hd
    (fun st v st1 hs => by
      rcases hset st _ v st1 hs with ⟨e, _⟩ | ⟨_, hp, _⟩ | ⟨_, e, _⟩
      · exact absurd e (by decide)
      · exact decStrPtr_isSome hp
      · exact absurd rfl e)
    (fun st name v st1 hne hs => by
      rcases hset st name v st1 hs with ⟨_, _, h⟩ | ⟨e, _⟩ | ⟨_, _, _, h⟩
      · simp only [h]
      · exact absurd e hne
      · simp only [h]) l done st st' h
  exact ⟨h1.1, h2.1, h1.2, h2.2⟩

/-- … from the zero value: "required" as the metadata computes it, `required && default == nil` -/
theorem structLoop_required_iff {σ : Type} (fields : List String) (set : σ → String → Node → D σ)
    (req : σ → Bool) (dflt : σ → Option String) (hr : "required" ∈ fields) (hd : "default" ∈ fields)
    (hset : ∀ st name v st1, set st name v = .ok st1 →
      (name = "required" ∧ decBool v = .ok (req st1) ∧ dflt st1 = dflt st) ∨
      (name = "default" ∧ decStrPtr v = .ok (dflt st1) ∧ req st1 = req st) ∨
      (name ≠ "required" ∧ name ≠ "default" ∧ req st1 = req st ∧ dflt st1 = dflt st))
    (init : σ) (hi1 : req init = false) (hi2 : dflt init = none) (l : List (Node × Node)) (st : σ)
    (h : structLoop fields set l [] init = .ok st) :
    (req st && (dflt st).isNone) = true ↔
      (∃ q ∈ l, Sets "required" q ∧ decBool q.2 = .ok true) ∧ ¬ (∃ q ∈ l, Sets "default" q ∧ q.2.isNull = false) := by
  obtain ⟨h1, h2, _, _⟩ := structLoop_req_dflt fields set req dflt hr hd hset l [] init st h
  have e1 : req st = true ↔ ∃ q ∈ l, Sets "required" q ∧ decBool q.2 = .ok true :=
    h1.trans ⟨fun h => h.resolve_right fun h' => (by rw [hi1] at h'; exact absurd h'.1 (by decide)), Or.inl⟩
  have e2 : (dflt st).isSome = true ↔ ∃ q ∈ l, Sets "default" q ∧ q.2.isNull = false :=
    h2.trans ⟨fun h => h.resolve_right fun h' => (by rw [hi2] at h'; exact absurd h'.1 (by decide)), Or.inl⟩
  rw [Bool.and_eq_true, e1, ← e2, ← Option.not_isSome, Bool.not_eq_true', Bool.not_eq_true]

theorem setIn_ok (st : InSt) (name : String) (v : Node) (st1 : InSt) (h : setIn st name v = .ok st1) :
    (name = "required" ∧ decBool v = .ok st1.required ∧ st1.dflt = st.dflt) ∨
    (name = "default" ∧ decStrPtr v = .ok st1.dflt ∧ st1.required = st.required) ∨
    (name ≠ "required" ∧ name ≠ "default" ∧ st1.required = st.required ∧ st1.dflt = st.dflt) := by
  simp only [setIn] at h
  split at h
  · obtain ⟨b, hb, rfl⟩ := AL.CallMeta.map_eq_ok.1 h; exact .inl ⟨rfl, hb, rfl⟩
  · obtain ⟨d, hd, rfl⟩ := AL.CallMeta.map_eq_ok.1 h; exact .inr (.inl ⟨rfl, hd, rfl⟩)
  · rename_i h1 h2; cases h; exact .inr (.inr ⟨h1, h2, rfl, rfl⟩)

/-- the loop that fills the struct, for the fields `required` / `default`: what the fields are afterwards -/
theorem structLoop_inSt : ∀ (l : List (Node × Node)) (done : List String) (st st' : InSt),
    structLoop ["required", "default"] setIn l done st = .ok st' →
    (st'.required = true ↔
      (∃ q ∈ l, Sets "required" q ∧ decBool q.2 = .ok true) ∨ (st.required = true ∧ ∀ q ∈ l, ¬ Sets "required" q)) ∧
    (st'.dflt.isSome = true ↔
      (∃ q ∈ l, Sets "default" q ∧ q.2.isNull = false) ∨ (st.dflt.isSome = true ∧ ∀ q ∈ l, ¬ Sets "default" q)) ∧
    (∀ q ∈ l, Sets "required" q → "required" ∉ done) ∧ (∀ q ∈ l, Sets "default" q → "default" ∉ done) :=
  structLoop_req_dflt _ setIn (·.required) (·.dflt) (by simp) (by simp) setIn_ok

/-- **what "required" means for an input of a local action**: WHEN the input's mapping decodes, the result says `Required`
iff the mapping has a `required:` key whose value decodes to true and no `default:` key with a non-null value -/
theorem action_input_required_iff (v : Node) (hk : v.kind = .mapping) (r : Bool) (h : decInput v = .ok r) :
    r = true ↔
      (∃ q ∈ pairs v.content, Sets "required" q ∧ decBool q.2 = .ok true) ∧
      ¬ (∃ q ∈ pairs v.content, Sets "default" q ∧ q.2.isNull = false) := by
  obtain ⟨st, hst, rfl⟩ := AL.CallMeta.map_eq_ok.1 h
  rcases AL.CallMeta.structDecode_eq_ok.1 hst with ⟨_, _, hl⟩ | ⟨hs, _⟩
  · exact structLoop_required_iff _ setIn (·.required) (·.dflt) (by simp) (by simp) setIn_ok {} rfl rfl _ st hl
  · rw [hk] at hs; cases hs

theorem nodup_keys_snoc {α : Type} (l : List (String × α)) (k : String) (x : α) (h : (l.map (·.1)).Nodup)
    (hk : ¬ l.any (·.1 = k) = true) : ((l ++ [(k, x)]).map (·.1)).Nodup := by
  rw [List.map_append, List.nodup_append]
  refine ⟨h, by simp, fun a ha b hb => ?_⟩
  obtain rfl : b = k := by simpa using hb
  rintro rfl
  obtain ⟨e, he, hea⟩ := List.mem_map.mp ha
  exact hk (List.any_eq_true.2 ⟨e, he, by simp [hea]⟩)

/-- `ActionMetadataInputs.UnmarshalYAML` succeeded: every entry of `inputs:` is in the result under its lower-cased id, with
its name as written and the `Required` that `decInput` computes; and nothing else is -/
theorem decInputsLoop_spec (cfg : Cfg) : ∀ (l : List (Node × Node)) (acc res : List (String × String × Bool)),
    decInputsLoop cfg l acc = .ok res →
    (∀ e, e ∈ res ↔ e ∈ acc ∨ ∃ q ∈ l, decInput q.2 = .ok e.2.2 ∧ e.1 = cfg.lower q.1.value ∧ e.2.1 = q.1.value) ∧
    ((acc.map (·.1)).Nodup → (res.map (·.1)).Nodup) := by
  intro l
  induction l with
  | nil =>
    intro acc res h
    simp only [decInputsLoop, Except.ok.injEq] at h
    subst h
    simp
  | cons q rest ih =>
    obtain ⟨k, v⟩ := q
    intro acc res h
    simp only [decInputsLoop] at h
    cases hd : decInput v with
    | error e => simp [hd] at h
    | ok r =>
      simp only [hd] at h
      by_cases hdup : acc.any (·.1 = cfg.lower k.value) = true
      · simp [hdup] at h
      · simp only [hdup, Bool.false_eq_true, if_false] at h
        obtain ⟨ih1, ih2⟩ := ih _ res h
        refine ⟨fun e => ?_, fun hnd => ?_⟩
        · rw [ih1]
          simp only [List.mem_append, List.mem_singleton, List.mem_cons]
          constructor
          · rintro ((he | he) | ⟨q, hq, hq2⟩)
            · exact Or.inl he
            · rcases he with he | he
              · subst he; exact Or.inr ⟨(k, v), Or.inl rfl, hd, rfl, rfl⟩
              · cases he
            · exact Or.inr ⟨q, Or.inr hq, hq2⟩
          · rintro (he | ⟨q, hq | hq, hq2⟩)
            · exact Or.inl (Or.inl he)
            · subst hq
              obtain ⟨h1, h2, h3⟩ := hq2
              rw [hd] at h1
              simp only [Except.ok.injEq] at h1
              left; right
              obtain ⟨e1, e2, e3⟩ := e
              simp only at h1 h2 h3
              subst h1 h2 h3
              exact Or.inl rfl
            · exact Or.inr ⟨q, hq, hq2⟩
        · exact ih2 (nodup_keys_snoc acc _ _ hnd hdup)

/-- the loop stops at the first entry that does not decode -/
theorem decInputsLoop_all_ok (cfg : Cfg) (l : List (Node × Node)) (acc res : List (String × String × Bool))
    (h : decInputsLoop cfg l acc = .ok res) : ∀ q ∈ l, ∃ r, decInput q.2 = .ok r := by
  fun_induction decInputsLoop cfg l acc
  case case1 => intro q hq; cases hq
  case case2 => cases h
  case case3 => cases h
  case case4 r hd _ ih => exact List.forall_mem_cons.2 ⟨⟨r, hd⟩, ih h⟩

/-- **C14 end to end for a local action** (inputs): if `inputs:` of `action.yml` decodes, then for every entry `name: {…}`
of it — a mapping — the metadata has exactly one input with the id `lower name`, and that input is `Required` iff the
entry has a `required:` key whose value decodes to true and no `default:` key with a non-null value -/
theorem action_inputs_end_to_end (cfg : Cfg) (n : Node) (hk : n.kind = .mapping) (res : List (String × String × Bool))
    (h : decInputs cfg n = .ok res) (q : Node × Node) (hq : q ∈ pairs n.content) (hv : q.2.kind = .mapping) :
    (res.map (·.1)).Nodup ∧
    ∃ r, (cfg.lower q.1.value, q.1.value, r) ∈ res ∧
      (r = true ↔ (∃ a ∈ pairs q.2.content, Sets "required" a ∧ decBool a.2 = .ok true) ∧
                  ¬ (∃ a ∈ pairs q.2.content, Sets "default" a ∧ a.2.isNull = false)) := by
  simp only [decInputs, hk] at h
  obtain ⟨h1, h2⟩ := decInputsLoop_spec cfg (pairs n.content) [] res h
  refine ⟨h2 (by simp), ?_⟩
  obtain ⟨r, hr⟩ := decInputsLoop_all_ok cfg _ _ _ h q hq
  refine ⟨r, (h1 _).mpr (Or.inr ⟨q, hq, hr, rfl, rfl⟩), action_input_required_iff q.2 hv r hr⟩

/-- the anonymous struct of `ReusableWorkflowMetadataInput.UnmarshalYAML` has a third field, `type`, which leaves
`required` and `default` alone -/
theorem setInput_ok (st : AL.CallMeta.InSt) (name : String) (v : Node) (st1 : AL.CallMeta.InSt)
    (h : AL.CallMeta.setInput st name v = .ok st1) :
    (name = "required" ∧ decBool v = .ok st1.required ∧ st1.dflt = st.dflt) ∨
    (name = "default" ∧ decStrPtr v = .ok st1.dflt ∧ st1.required = st.required) ∨
    (name ≠ "required" ∧ name ≠ "default" ∧ st1.required = st.required ∧ st1.dflt = st.dflt) := by
  simp only [AL.CallMeta.setInput] at h
  split at h
  · obtain ⟨b, hb, rfl⟩ := AL.CallMeta.map_eq_ok.1 h; exact .inl ⟨rfl, hb, rfl⟩
  · obtain ⟨d, hd, rfl⟩ := AL.CallMeta.map_eq_ok.1 h; exact .inr (.inl ⟨rfl, hd, rfl⟩)
  · obtain ⟨t, _, rfl⟩ := AL.CallMeta.map_eq_ok.1 h; exact .inr (.inr ⟨by decide, by decide, rfl, rfl⟩)
  · rename_i h1 h2 _; cases h; exact .inr (.inr ⟨h1, h2, rfl, rfl⟩)

/-- **what "required" means for an input of a local reusable workflow, read from its file**: when the entry decodes,
`Required` iff the entry has a `required:` key whose value decodes to true and no `default:` key with a non-null value
(AL.Props.C10Meta: the interface taken from the AST says the same) -/
theorem call_input_required_iff (v : Node) (hk : v.kind = .mapping) (r : Bool × AL.CallMeta.Ty) (h : AL.CallMeta.decInput v = .ok r) :
    r.1 = true ↔
      (∃ q ∈ pairs v.content, Sets "required" q ∧ decBool q.2 = .ok true) ∧
      ¬ (∃ q ∈ pairs v.content, Sets "default" q ∧ q.2.isNull = false) := by
  obtain ⟨st, hst, rfl⟩ := AL.CallMeta.map_eq_ok.1 h
  rcases AL.CallMeta.structDecode_eq_ok.1 hst with ⟨_, _, hl⟩ | ⟨hs, _⟩
  · exact structLoop_required_iff _ AL.CallMeta.setInput (·.required) (·.dflt) (by simp) (by simp) setInput_ok {} rfl rfl
      _ st hl
  · rw [hk] at hs; cases hs

end AL.C14D
