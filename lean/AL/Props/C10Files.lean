import AL.Model.ProjRun
import AL.Props.C10Once
import AL.Lemmas.CacheWalk
/-
  C10, several files in one run (AL.ProjRun, the files visited one after the other through one cache): each file gets
  what it gets alone, provided the specs it references are skipped or well-formed callees and the files linted before it
  register the interface that is on disk (`RegAgrees`, a hypothesis here): §1–§2 reusable workflows, §3 local actions,
  §4 both and the whole run, §5 the hypotheses as computable tests. §6 FINDING: a `./` spec outside the local call format
  makes a file's diagnostics depend on the files before it (`bad_format_spec_counterexample`). §7 a callee's own defect is
  reported once per run, at the first file that asks; §8 with broken callees around, every other diagnostic is as when
  linted alone.
  The walk over the jobs of ONE file is followed in AL.Lemmas.CacheWalk (`SameOn`, `Reach`, `Counts`, the specs a file
  references); here are the invariants of the cache between files and what they give for a run. §8 follows the walk
  itself once more, under `SameS` (two caches answer alike up to the one-time report of a callee's defect).
  Theorems: `calls_in_run_eq_alone`, `actions_in_run_eq_alone`, `diags_in_run_eq_alone`, `run_order_independent`,
  `callee_defect_at_most_once_per_run`, `callee_defect_exactly_once`, `others_in_run_eq_alone`.
-/
namespace AL.C10F
open AL AL.Ast AL.CallMeta AL.ProjCall AL.ProjRun AL.C10O

/-! ## 1. the invariant: what the cache holds for the well-formed callees of the file under consideration -/

/-- a well-formed callee: the spec has the local call format and the file behind it is readable and decodable -/
def CalleeOk (p : Proj) (s : String) : Prop := AL.Rules.isLocalCallFormat s = true ∧ ∃ m, p.disk s = .ok m

/-- for every well-formed callee in `F` the cache has no entry or the interface that is on disk -/
def Inv (p : Proj) (F : List String) (c : Cache) : Prop :=
  ∀ s ∈ F, AL.Rules.isLocalCallFormat s = true → ∀ m, p.disk s = .ok m →
    cacheGet c s = none ∨ cacheGet c s = some (some m)

theorem inv_nil (p : Proj) (F : List String) : Inv p F [] := fun _ _ _ _ _ => Or.inl rfl

theorem inv_reach (p : Proj) (F : List String) (env : ProjCall.Env) (hdisk : env.disk = p.disk) (c c' : Cache)
    (hr : Reach (fun _ => True) env c c') (h : Inv p F c) : Inv p F c' := by
  induction hr with
  | refl => exact h
  | find c' s _ _ ih =>
    intro spec hF hl m hm
    have := ih spec hF hl m hm
    simp only [ProjCall.find, cacheGet_remember]
    by_cases hg : skipped env s = true
    · simpa [hg] using this
    · simp only [hg, Bool.false_eq_true, if_false]
      by_cases e : spec = s
      · subst e
        simp only [if_true]
        rcases this with h0 | h1
        · right; simp [h0, diskEntry, hdisk, hm]
        · right; simp [h1]
      · simpa [e] using this
  | bad c' u _ hu _ ih =>
    intro spec hF hl m hm
    have := ih spec hF hl m hm
    simp only [cacheGet_put]
    by_cases e : spec = u
    · subst e; rw [hl] at hu; cases hu
    · simpa [e] using this

/-- the interface a file of the run registers from its AST is the one on disk — asked only for the specs in `F`. A
hypothesis throughout this file; AL.C10M.document_interface_agrees is why it holds for a file the parser accepts
(bridge: `AL.C14P.wellformed_callee_on_disk`) -/
def RegAgrees (p : Proj) (F : List String) (g : File) : Prop :=
  ∀ s ∈ F, ∀ m, g.self = some s → fromEvents (g.wf.on.getD []) = some m → p.disk s = .ok m

theorem inv_register (p : Proj) (F : List String) (g : File) (hg : RegAgrees p F g) (c : Cache) (h : Inv p F c) :
    Inv p F (register (envOf p g) c g.wf) := by
  simp only [register]
  split
  · rename_i spec m _ hself hm
    split
    · exact h
    · intro s hF hl m' hm'
      have := h s hF hl m' hm'
      simp only [cacheGet_put]
      by_cases e : s = spec
      · subst e
        have hd := hg s hF m (by simpa [envOf] using hself) hm
        rw [hd] at hm'
        simp only [OnDisk.ok.injEq] at hm'
        subst hm'
        simp
      · simpa [e] using this
  · exact h

theorem inv_callsFile (p : Proj) (lower : String → String) (F : List String) (g : File) (hg : RegAgrees p F g) (c : Cache)
    (h : Inv p F c) : Inv p F (callsFile p lower c g).1 :=
  inv_reach p F (envOf p g) rfl _ _ (jobsCache_reach (fun _ => True) (envOf p g) lower _ (covers_all _) _ _ (covers_all _))
    (inv_register p F g hg c h)

theorem initialCache_eq_register (env : ProjCall.Env) (w : Workflow) : initialCache env w = register env [] w := by
  simp only [initialCache, register]
  split
  · rename_i h1 h2 h3; simp only [h1, h2, h3]; rfl
  · rename_i hno
    split
    · rename_i h1 h2 h3; exact (hno _ _ h1 h2 h3).elim
    · rfl

/-- under the invariant a well-formed callee is answered with its interface on disk -/
theorem answer_of_inv (p : Proj) (F : List String) (env : ProjCall.Env) (hdisk : env.disk = p.disk) (c : Cache)
    (h : Inv p F c) (s : String) (hF : s ∈ F) (hsk : skipped env s = false) (hl : AL.Rules.isLocalCallFormat s = true)
    (m : Meta) (hm : p.disk s = .ok m) : answer env c s = .found m := by
  simp only [answer, hsk, Bool.false_eq_true, if_false]
  rcases h s hF hl m hm with h0 | h1
  · simp [h0, diskAnswer, hdisk, hm]
  · simp [h1]

/-! ## 2. alone = in a run -/

/-- the callees `f` references are well-formed: each spec is one `FindMetadata` does not look at, or a well-formed callee -/
def RefsOk (p : Proj) (f : File) : Prop :=
  ∀ s ∈ refs f.wf, skipped (envOf p f) s = true ∨ CalleeOk p s

/-- one file on any cache satisfying the invariant gives what it gives alone -/
theorem callsFile_eq_alone (p : Proj) (lower : String → String) (f : File) (hrefs : RefsOk p f)
    (hself : RegAgrees p (refs f.wf) f) (c : Cache) (h : Inv p (refs f.wf) c) :
    (callsFile p lower c f).2 = callsAlone p lower f := by
  simp only [callsFile, callsAlone, simulate, initialCache_eq_register]
  apply simulateJobs_sameOn (fun s => s ∈ refs f.wf) (envOf p f) lower _ (covers_refs _) _ _ _ (covers_refs _)
  intro s hs
  have h1 := inv_register p (refs f.wf) f hself c h
  have h2 := inv_register p (refs f.wf) f hself [] (inv_nil p _)
  rcases hrefs s hs with hsk | ⟨hl, m, hm⟩
  · simp [answer, hsk]
  · cases hsk : skipped (envOf p f) s with
    | true => simp [answer, hsk]
    | false =>
      rw [answer_of_inv p _ (envOf p f) rfl _ h1 s hs hsk hl m hm, answer_of_inv p _ (envOf p f) rfl _ h2 s hs hsk hl m hm]

theorem callsRun_length (p : Proj) (lower : String → String) : ∀ (fs : List File) (c : Cache),
    (callsRun p lower fs c).length = fs.length := by
  intro fs
  induction fs with
  | nil => intro c; rfl
  | cons f rest ih => intro c; simp [callsRun, ih]

def cacheAfter (p : Proj) (lower : String → String) (pre : List File) (c : Cache) : Cache :=
  pre.foldl (fun c g => (callsFile p lower c g).1) c

/-- what the run gives at the position of `f` is what `f` gives on the cache the files before it leave -/
theorem callsRun_getElem (p : Proj) (lower : String → String) (f : File) (post : List File) : ∀ (pre : List File) (c : Cache),
    (callsRun p lower (pre ++ f :: post) c)[pre.length]? = some (callsFile p lower (cacheAfter p lower pre c) f).2
  | [], _ => rfl
  | g :: pre, c => by
    simp only [List.cons_append, callsRun, List.length_cons, List.getElem?_cons_succ]
    exact callsRun_getElem p lower f post pre _

/-- the position of `f` in the run, whatever cache the run starts from (under the invariant) -/
theorem callsRun_at (p : Proj) (lower : String → String) (f : File) (post : List File) (hrefs : RefsOk p f)
    (hself : RegAgrees p (refs f.wf) f) :
    ∀ (pre : List File) (c : Cache), (∀ g ∈ pre, RegAgrees p (refs f.wf) g) → Inv p (refs f.wf) c →
      (callsRun p lower (pre ++ f :: post) c)[pre.length]? = some (callsAlone p lower f) := by
  intro pre c hpre h
  rw [callsRun_getElem, callsFile_eq_alone p lower f hrefs hself (cacheAfter p lower pre c)
    (List.foldlRecOn pre _ h fun c hc g hg => inv_callsFile p lower _ g (hpre g hg) c hc)]

/-- **C10, alone = in a run (reusable workflows)**: `f` at any position of a run, whatever files `pre` are linted before
it and `post` after it. If every spec `f` references is one `FindMetadata` skips or a well-formed callee (local call format,
file readable and decodable), and every file of the run up to `f` that is such a callee registers from its AST the
interface that is on disk (hypothesis `RegAgrees`), then the per-job results of `f` in the run — the diagnostics of
rule workflow-call, the callee defects and the `needs` / `inputs` view of the expression rule — are those of `f` linted
alone with an empty cache. -/
theorem calls_in_run_eq_alone (p : Proj) (lower : String → String) (pre : List File) (f : File) (post : List File)
    (hrefs : RefsOk p f) (hreg : ∀ g ∈ pre ++ [f], RegAgrees p (refs f.wf) g) :
    (callsRun p lower (pre ++ f :: post) [])[pre.length]? = some (callsAlone p lower f) :=
  callsRun_at p lower f post hrefs (hreg f (by simp)) pre [] (fun g hg => hreg g (by simp [hg])) (inv_nil p _)

/-! ## 3. local actions: alone = in a run -/

section Actions
open AL.ProjAction

/-- every entry of the actions cache is what the metadata file gives (entries come from look-ups only) -/
def AFaithful (env : ProjAction.Env) (c : ProjAction.Cache) : Prop :=
  ∀ s, ProjAction.cacheGet c s = none ∨
    ProjAction.cacheGet c s = some (match env.disk s with | .ok m => some m | _ => none)

theorem afaithful_nil (env : ProjAction.Env) : AFaithful env [] := fun _ => Or.inl rfl

theorem afaithful_remember (env : ProjAction.Env) (c : ProjAction.Cache) (s : String) (h : AFaithful env c) :
    AFaithful env (ProjAction.remember env c s) := by
  intro spec
  rw [AL.C10A.cacheGet_remember]
  by_cases hg : (!env.hasProject || !s.startsWith "./") = true
  · simp only [hg, if_true]; exact h spec
  · simp only [hg, Bool.false_eq_true, if_false]
    by_cases e : spec = s
    · subst e
      simp only [if_true]
      rcases h spec with h0 | h1
      · right; simp [h0]; cases env.disk spec <;> rfl
      · right; simp [h1]
    · simp only [e, if_false]; exact h spec

/-- a well-formed local action: no metadata file (never reported), or metadata that passes `checkLocalActionMetadata` -/
def ActionOk (env : ProjAction.Env) (s : String) : Prop :=
  env.disk s = .absent ∨ ∃ m, env.disk s = .ok m ∧ ∀ pos, metadataDiags env m pos = []

/-- on a faithful cache what rule action gets for a well-formed action is read off the disk -/
theorem localStep_of_faithful (env : ProjAction.Env) (c : ProjAction.Cache) (s : String) (e : ExecAction) (pos : ProjAction.Pos)
    (h : AFaithful env c) (hok : ActionOk env s) :
    localStep env (ProjAction.answer env c s) s e pos =
      if (!env.hasProject || !s.startsWith "./") = true then []
      else match env.disk s with | .ok m => inputDiags m s e pos | _ => [] := by
  simp only [ProjAction.answer]
  by_cases hg : (!env.hasProject || !s.startsWith "./") = true
  · simp [hg, localStep]
  · simp only [hg, Bool.false_eq_true, if_false]
    rcases hok with ha | ⟨m, hm, hmd⟩
    · rcases h s with h0 | h1
      · simp [h0, ha, localStep]
      · simp [h1, ha, localStep]
    · rcases h s with h0 | h1
      · simp [h0, hm, hmd, localStep]
      · simp [h1, hm, localStep]

theorem localStep_faithful (env : ProjAction.Env) (c c' : ProjAction.Cache) (s : String) (e : ExecAction) (pos : ProjAction.Pos)
    (h : AFaithful env c) (h' : AFaithful env c') (hok : ActionOk env s) :
    localStep env (ProjAction.answer env c s) s e pos = localStep env (ProjAction.answer env c' s) s e pos := by
  rw [localStep_of_faithful env c s e pos h hok, localStep_of_faithful env c' s e pos h' hok]

theorem exprAns_faithful (env : ProjAction.Env) (c : ProjAction.Cache) (s : String) (pos : ProjAction.Pos)
    (h : AFaithful env c) (hok : ActionOk env s) :
    (match ProjAction.answer env c s with | .err dir => [(⟨pos, "meta-broken", [dir]⟩ : AL.RuleExpr.Diag)] | _ => []) = [] := by
  simp only [ProjAction.answer]
  by_cases hg : (!env.hasProject || !s.startsWith "./") = true
  · simp [hg]
  · simp only [hg, Bool.false_eq_true, if_false]
    rcases hok with ha | ⟨m, hm, _⟩
    · rcases h s with h0 | h1
      · simp [h0, ha]
      · simp [h1, ha]
    · rcases h s with h0 | h1
      · simp [h0, hm]
      · simp [h1, hm]

/-- the local action a step uses (if any) is well-formed -/
def StepOk (env : ProjAction.Env) (st : Step) : Prop :=
  ∀ e u, st.exec = .action e → e.uses = some u → u.value.startsWith "./" = true → ActionOk env u.value

theorem actionStep_faithful (env : ProjAction.Env) (c : ProjAction.Cache) (st : Step) (h : AFaithful env c) :
    AFaithful env (actionStep env c st).1 := by
  simp only [actionStep]
  split
  · split
    · exact h
    · split
      · exact h
      · split
        · exact afaithful_remember env c _ h
        · exact h
  · exact h

theorem exprStep_faithful (env : ProjAction.Env) (c : ProjAction.Cache) (st : Step) (h : AFaithful env c) :
    AFaithful env (exprStep env c st).1 := by
  simp only [exprStep]
  split
  · split
    · exact h
    · split
      · exact afaithful_remember env c _ h
      · exact h
  · exact h

theorem actionStep_same (env : ProjAction.Env) (c c' : ProjAction.Cache) (st : Step) (h : AFaithful env c)
    (h' : AFaithful env c') (hok : StepOk env st) : (actionStep env c st).2 = (actionStep env c' st).2 := by
  simp only [actionStep]
  split
  · rename_i e he
    split
    · rfl
    · rename_i u hu
      split
      · rfl
      · split
        · rename_i hs
          exact localStep_faithful env c c' u.value e u.pos h h' (hok e u he hu hs)
        · rfl
  · rfl

theorem exprStep_nil (env : ProjAction.Env) (c : ProjAction.Cache) (st : Step) (h : AFaithful env c)
    (hok : StepOk env st) : (exprStep env c st).2 = [] := by
  simp only [exprStep]
  split
  · rename_i e _ he
    split
    · rfl
    · rename_i u hu
      split
      · rename_i hs
        exact exprAns_faithful env c u.value u.pos h (hok e u he hu hs)
      · rfl
  · rfl

theorem stepsLoop_faithful (env : ProjAction.Env) : ∀ (l : List Step) (o : ProjAction.Out),
    AFaithful env o.cache → AFaithful env (stepsLoop env l o).cache := by
  intro l
  induction l with
  | nil => intro o h; exact h
  | cons st rest ih =>
    intro o h
    simp only [stepsLoop]
    exact ih _ (exprStep_faithful env _ st (actionStep_faithful env _ st h))

/-- two states of the walk that agree on the diagnostics so far, both caches faithful -/
def ARel (env : ProjAction.Env) (o o' : ProjAction.Out) : Prop :=
  o.action = o'.action ∧ o.expr = o'.expr ∧ AFaithful env o.cache ∧ AFaithful env o'.cache

theorem stepsLoop_rel (env : ProjAction.Env) : ∀ (l : List Step), (∀ st ∈ l, StepOk env st) →
    ∀ (o o' : ProjAction.Out), ARel env o o' → ARel env (stepsLoop env l o) (stepsLoop env l o') := by
  intro l
  induction l with
  | nil => intro _ o o' h; exact h
  | cons st rest ih =>
    intro hl o o' ⟨ha, he, hf, hf'⟩
    simp only [stepsLoop]
    have hst := hl st (by simp)
    apply ih (fun s hs => hl s (by simp [hs]))
    refine ⟨?_, ?_, ?_, ?_⟩
    · simp only [ha, actionStep_same env o.cache o'.cache st hf hf' hst]
    · simp only [he, exprStep_nil env _ st (actionStep_faithful env _ st hf) hst,
        exprStep_nil env _ st (actionStep_faithful env _ st hf') hst]
    · exact exprStep_faithful env _ st (actionStep_faithful env _ st hf)
    · exact exprStep_faithful env _ st (actionStep_faithful env _ st hf')

theorem jobsFold_faithful (env : ProjAction.Env) : ∀ (js : List Job) (o : ProjAction.Out),
    AFaithful env o.cache →
    AFaithful env (js.foldl (fun o j => stepsLoop env (AL.Rules.stepsOf j) o) o).cache :=
  fun js _ h => List.foldlRecOn (motive := fun o : ProjAction.Out => AFaithful env o.cache) js _ h
    fun o h _ _ => stepsLoop_faithful env _ o h

theorem jobsFold_rel (env : ProjAction.Env) : ∀ (js : List Job), (∀ j ∈ js, ∀ st ∈ AL.Rules.stepsOf j, StepOk env st) →
    ∀ (o o' : ProjAction.Out), ARel env o o' →
      ARel env (js.foldl (fun o j => stepsLoop env (AL.Rules.stepsOf j) o) o)
        (js.foldl (fun o j => stepsLoop env (AL.Rules.stepsOf j) o) o') := by
  intro js
  induction js with
  | nil => intro _ o o' h; exact h
  | cons j rest ih =>
    intro hl o o' h
    simp only [List.foldl_cons]
    exact ih (fun j' hj' => hl j' (by simp [hj'])) _ _ (stepsLoop_rel env _ (hl j (by simp)) o o' h)

/-- every local action `f` uses is well-formed -/
def ActRefsOk (p : Proj) (f : File) : Prop :=
  ∀ j ∈ AL.Rules.jobsOf f.wf, ∀ st ∈ AL.Rules.stepsOf j, StepOk p.actions st

theorem actionsFile_faithful (p : Proj) (c : ProjAction.Cache) (g : File) (h : AFaithful p.actions c) :
    AFaithful p.actions (actionsFile p c g).cache :=
  jobsFold_faithful p.actions _ _ h

theorem actionsFile_eq_alone (p : Proj) (c : ProjAction.Cache) (f : File) (hok : ActRefsOk p f) (h : AFaithful p.actions c) :
    ((actionsFile p c f).action, (actionsFile p c f).expr) = actionsAlone p f := by
  have := jobsFold_rel p.actions (AL.Rules.jobsOf f.wf) hok { cache := c } {} ⟨rfl, rfl, h, afaithful_nil _⟩
  simp only [actionsFile, actionsAlone, ProjAction.simulate]
  rw [this.1, this.2.1]

theorem actionsRun_at (p : Proj) (f : File) (post : List File) (hok : ActRefsOk p f) :
    ∀ (pre : List File) (c : ProjAction.Cache), AFaithful p.actions c →
      (actionsRun p (pre ++ f :: post) c)[pre.length]? = some (actionsAlone p f) := by
  intro pre
  induction pre with
  | nil =>
    intro c h
    simp only [List.nil_append, actionsRun, List.length_nil, List.getElem?_cons_zero]
    rw [actionsFile_eq_alone p c f hok h]
  | cons g rest ih =>
    intro c h
    simp only [List.cons_append, actionsRun, List.length_cons, List.getElem?_cons_succ]
    exact ih _ (actionsFile_faithful p c g h)

/-- **C10, alone = in a run (local actions)**: `f` at any position of a run, whatever files are linted before and after
it — including files that use the same actions, so that `f` finds their metadata in the cache. If every local action `f`
uses is well-formed (no metadata file, or metadata that `checkLocalActionMetadata` accepts), the diagnostics of rule
action and of the expression rule's `getActionOutputsType` look-ups for `f` in the run are those of `f` linted alone.
No hypothesis on the other files: whatever they put into the cache is what the metadata files give. -/
theorem actions_in_run_eq_alone (p : Proj) (pre : List File) (f : File) (post : List File) (hok : ActRefsOk p f) :
    (actionsRun p (pre ++ f :: post) [])[pre.length]? = some (actionsAlone p f) :=
  actionsRun_at p f post hok pre [] (afaithful_nil _)

end Actions

/-! ## 4. both sides together, and the whole run when every file is fine (order independence) -/

/-- **C10, alone = in a run**: both caches. The diagnostics the project adds to `f` (rule workflow-call and rule action;
the expression rule's callee defects) at any position of a run are those of `f` linted alone. -/
theorem diags_in_run_eq_alone (p : Proj) (lower : String → String) (pre : List File) (f : File) (post : List File)
    (hrefs : RefsOk p f) (hreg : ∀ g ∈ pre ++ [f], RegAgrees p (refs f.wf) g) (hok : ActRefsOk p f) :
    ∃ calls acts, (callsRun p lower (pre ++ f :: post) [])[pre.length]? = some calls ∧
      (actionsRun p (pre ++ f :: post) [])[pre.length]? = some acts ∧
      calls = callsAlone p lower f ∧ acts = actionsAlone p f ∧
      diagsOf calls acts = diagsOf (callsAlone p lower f) (actionsAlone p f) :=
  ⟨_, _, calls_in_run_eq_alone p lower pre f post hrefs hreg, actions_in_run_eq_alone p pre f post hok, rfl, rfl, rfl⟩

/-- every file of `U` references well-formed callees only, and the files of `U` that are such callees register the
interface that is on disk -/
def AllOk (p : Proj) (U : List File) : Prop :=
  (∀ f ∈ U, RefsOk p f) ∧ (∀ f ∈ U, ∀ g ∈ U, RegAgrees p (refs f.wf) g)

theorem callsRun_all (p : Proj) (lower : String → String) (U : List File) (hU : AllOk p U) :
    ∀ (fs : List File) (c : Cache), (∀ f ∈ fs, f ∈ U) → (∀ f ∈ U, Inv p (refs f.wf) c) →
      callsRun p lower fs c = fs.map (callsAlone p lower) := by
  intro fs
  induction fs with
  | nil => intro c _ _; rfl
  | cons f rest ih =>
    intro c hfs hinv
    have hf : f ∈ U := hfs f (by simp)
    simp only [callsRun, List.map_cons]
    rw [callsFile_eq_alone p lower f (hU.1 f hf) (hU.2 f hf f hf) c (hinv f hf)]
    rw [ih _ (fun g hg => hfs g (by simp [hg])) (fun g hg => inv_callsFile p lower _ f (hU.2 g hg f hf) c (hinv g hg))]

theorem actionsRun_all (p : Proj) (U : List File) (hU : ∀ f ∈ U, ActRefsOk p f) :
    ∀ (fs : List File) (c : ProjAction.Cache), (∀ f ∈ fs, f ∈ U) → AFaithful p.actions c →
      actionsRun p fs c = fs.map (actionsAlone p) := by
  intro fs
  induction fs with
  | nil => intro c _ _; rfl
  | cons f rest ih =>
    intro c hfs h
    simp only [actionsRun, List.map_cons]
    rw [actionsFile_eq_alone p c f (hU f (hfs f (by simp))) h]
    rw [ih _ (fun g hg => hfs g (by simp [hg])) (actionsFile_faithful p c f h)]

/-- the whole run is the list of the files' results alone -/
theorem run_eq_map_alone (p : Proj) (lower : String → String) (fs : List File) (h : AllOk p fs) (ha : ∀ f ∈ fs, ActRefsOk p f) :
    callsRun p lower fs [] = fs.map (callsAlone p lower) ∧ actionsRun p fs [] = fs.map (actionsAlone p) :=
  ⟨callsRun_all p lower fs h fs [] (fun _ hf => hf) (fun _ _ => inv_nil p _),
   actionsRun_all p fs ha fs [] (fun _ hf => hf) (afaithful_nil _)⟩

theorem allOk_perm (p : Proj) (fs fs' : List File) (hp : fs.Perm fs') (h : AllOk p fs) : AllOk p fs' :=
  ⟨fun f hf => h.1 f (hp.mem_iff.mpr hf), fun f hf g hg => h.2 f (hp.mem_iff.mpr hf) g (hp.mem_iff.mpr hg)⟩

/-- **C10, order independence**: permuting the files of a run permutes the per-file results, each file keeping its own
(the files paired with their results are permuted by the same permutation) — for both caches. -/
theorem run_order_independent (p : Proj) (lower : String → String) (fs fs' : List File) (hp : fs.Perm fs')
    (h : AllOk p fs) (ha : ∀ f ∈ fs, ActRefsOk p f) :
    (fs.zip (callsRun p lower fs [])).Perm (fs'.zip (callsRun p lower fs' [])) ∧
    (fs.zip (actionsRun p fs [])).Perm (fs'.zip (actionsRun p fs' [])) := by
  have h' := allOk_perm p fs fs' hp h
  have ha' : ∀ f ∈ fs', ActRefsOk p f := fun f hf => ha f (hp.mem_iff.mpr hf)
  rw [(run_eq_map_alone p lower fs h ha).1, (run_eq_map_alone p lower fs h ha).2,
    (run_eq_map_alone p lower fs' h' ha').1, (run_eq_map_alone p lower fs' h' ha').2]
  have z : ∀ {β : Type} (g : File → β) (l : List File), l.zip (l.map g) = l.map (fun f => (f, g f)) := by
    intro β g l
    induction l with
    | nil => rfl
    | cons a l ih => simp [ih]
  rw [z, z, z, z]
  exact ⟨hp.map _, hp.map _⟩

/-! ## 5. the hypotheses as computable tests, and a concrete run of three files -/

def calleeOkB (p : Proj) (s : String) : Bool :=
  AL.Rules.isLocalCallFormat s && (match p.disk s with | .ok _ => true | _ => false)

def refsOkB (p : Proj) (f : File) : Bool :=
  (refs f.wf).all fun s => skipped (envOf p f) s || calleeOkB p s

theorem refsOkB_sound (p : Proj) (f : File) (h : refsOkB p f = true) : RefsOk p f := by
  intro s hs
  simp only [refsOkB, List.all_eq_true, Bool.or_eq_true] at h
  rcases h s hs with h1 | h2
  · exact Or.inl h1
  · right
    simp only [calleeOkB, Bool.and_eq_true] at h2
    refine ⟨h2.1, ?_⟩
    cases hd : p.disk s with
    | ok m => exact ⟨m, rfl⟩
    | missing => simp [hd] at h2
    | broken => simp [hd] at h2

def regAgreesB (p : Proj) (F : List String) (g : File) : Bool :=
  match g.self, fromEvents (g.wf.on.getD []) with
  | some s, some m => !F.contains s || (match p.disk s with | .ok m' => decide (m' = m) | _ => false)
  | _, _ => true

theorem regAgreesB_sound (p : Proj) (F : List String) (g : File) (h : regAgreesB p F g = true) : RegAgrees p F g := by
  intro s hs m hself hm
  simp only [regAgreesB, hself, hm, Bool.or_eq_true, Bool.not_eq_true', List.contains_eq_mem, decide_eq_false_iff_not] at h
  rcases h with h | h
  · exact absurd hs h
  · cases hd : p.disk s with
    | ok m' => simp only [hd, decide_eq_true_eq] at h; rw [h]
    | missing => simp [hd] at h
    | broken => simp [hd] at h

def sc (tag value : String) (line col : Nat) : AL.Yaml.Node := .mk .scalar tag value false line col []
def st (value : String) (line col : Nat) : AL.Yaml.Node := sc "!!str" value line col
def mp (line col : Nat) (cs : List AL.Yaml.Node) : AL.Yaml.Node := .mk .mapping "!!map" "" false line col cs
def docOf (root : AL.Yaml.Node) : AL.Yaml.Node := .mk .document "" "" false 1 1 [root]

def exCfg : AL.PW.Cfg := { lower := AL.PW.asciiLower, atoi := fun _ => none, parseFloat := fun _ => .err }

/-- `./c.yml`: `on: {workflow_call: {inputs: {x: {required: true, type: string}}}}` / `jobs: {a: {runs-on: u}}` -/
def calleeDoc : AL.Yaml.Node := docOf (mp 1 1
  [st "on" 1 1, mp 2 3 [st "workflow_call" 2 3, mp 3 5 [st "inputs" 3 5, mp 4 7 [st "x" 4 7,
     mp 5 9 [st "required" 5 9, sc "!!bool" "true" 5 19, st "type" 6 9, st "string" 6 15]]]],
   st "jobs" 7 1, mp 8 3 [st "a" 8 3, mp 9 5 [st "runs-on" 9 5, st "u" 9 14]]])

/-- `./k1.yml`: `on: push` / `jobs: {k: {uses: ./c.yml}}` — the required input is missing -/
def caller1Doc : AL.Yaml.Node := docOf (mp 1 1
  [st "on" 1 1, st "push" 1 5, st "jobs" 2 1, mp 3 3 [st "k" 3 3, mp 4 5 [st "uses" 4 5, st "./c.yml" 4 11]]])

/-- `./k2.yml`: `on: push` / `jobs: {k: {uses: ./c.yml, with: {x: v, y: w}}}` — an undefined input -/
def caller2Doc : AL.Yaml.Node := docOf (mp 1 1
  [st "on" 1 1, st "push" 1 5, st "jobs" 2 1, mp 3 3 [st "k" 3 3, mp 4 5 [st "uses" 4 5, st "./c.yml" 4 11,
     st "with" 5 5, mp 6 7 [st "x" 6 7, st "v" 6 10, st "y" 7 7, st "w" 7 10]]]])

def fCallee : File := { self := some "./c.yml", wf := (AL.PW.parse exCfg calleeDoc).1 }
def fCaller1 : File := { self := some "./k1.yml", wf := (AL.PW.parse exCfg caller1Doc).1 }
def fCaller2 : File := { self := some "./k2.yml", wf := (AL.PW.parse exCfg caller2Doc).1 }

/-- the project on disk: `./c.yml` decodes (by `parseReusableWorkflowMetadata`, AL.CallMeta.fromDoc) to its interface -/
def exProj : Proj :=
  { disk := fun s => if s = "./c.yml" then (match fromDoc exCfg calleeDoc with | .ok m => .ok m | .error _ => .broken) else .missing }

/-- the diagnostics of one file's result: rule workflow-call, the expression rule's callee defects -/
def shown (r : List (String × JobView)) : List AL.Rules.Diag × List AL.RuleExpr.Diag :=
  (r.flatMap (·.2.wc), r.flatMap (·.2.exprErrs))

def d1 : AL.Rules.Diag := ⟨⟨4, 11⟩, "workflow-call", "input-required", ["x", "./c.yml"]⟩
def d2 : AL.Rules.Diag := ⟨⟨7, 7⟩, "workflow-call", "input-undefined", ["y", "./c.yml", "x"]⟩

/-- the run of the three files in both orders, each file alone, and the computable tests of `AllOk`: the documents are
parsed once -/
theorem exRun_facts :
    (callsRun exProj AL.PW.asciiLower [fCallee, fCaller1, fCaller2] []).map shown = [([], []), ([d1], []), ([d2], [])] ∧
    (callsRun exProj AL.PW.asciiLower [fCaller2, fCaller1, fCallee] []).map shown = [([d2], []), ([d1], []), ([], [])] ∧
    [fCallee, fCaller1, fCaller2].map (fun f => shown (callsAlone exProj AL.PW.asciiLower f)) =
      [([], []), ([d1], []), ([d2], [])] ∧
    ∀ f ∈ [fCallee, fCaller1, fCaller2], refsOkB exProj f = true ∧ ∀ s ∈ f.self, regAgreesB exProj [s] f = true := by
  decide +kernel

/-- the callee first (its interface comes from its AST), then the two callers -/
example : (callsRun exProj AL.PW.asciiLower [fCallee, fCaller1, fCaller2] []).map shown =
    [([], []), ([d1], []), ([d2], [])] := exRun_facts.1

/-- the callers first, in the other order (the interface is read from disk by the first), the callee last -/
example : (callsRun exProj AL.PW.asciiLower [fCaller2, fCaller1, fCallee] []).map shown =
    [([d2], []), ([d1], []), ([], [])] := exRun_facts.2.1

/-- … and each of them alone -/
example : [fCallee, fCaller1, fCaller2].map (fun f => shown (callsAlone exProj AL.PW.asciiLower f)) =
    [([], []), ([d1], []), ([d2], [])] := exRun_facts.2.2.1

/-- what `g` registers concerns its own spec only, whoever asks -/
theorem regAgrees_of_self (p : Proj) (g : File) (h : ∀ s ∈ g.self, regAgreesB p [s] g = true)
    (F : List String) : RegAgrees p F g :=
  fun s _ m hself hm => regAgreesB_sound p [s] g (h s hself) s (List.mem_singleton.2 rfl) m hself hm

/-- the hypotheses of the theorems hold of this run -/
theorem exAllOk : AllOk exProj [fCallee, fCaller1, fCaller2] :=
  ⟨fun f hf => refsOkB_sound _ _ (exRun_facts.2.2.2 f hf).1,
    fun _ _ g hg => regAgrees_of_self _ _ (exRun_facts.2.2.2 g hg).2 _⟩

theorem exActOk : ∀ f ∈ [fCallee, fCaller1, fCaller2], ActRefsOk exProj f := by
  intro f hf j hj s hs e u he hu hstart
  exact Or.inl rfl

/-- `calls_in_run_eq_alone` on the concrete run: the second caller in third position -/
example : (callsRun exProj AL.PW.asciiLower ([fCallee, fCaller1] ++ fCaller2 :: []) [])[2]? =
    some (callsAlone exProj AL.PW.asciiLower fCaller2) :=
  calls_in_run_eq_alone exProj AL.PW.asciiLower [fCallee, fCaller1] fCaller2 []
    (exAllOk.1 _ (by simp))
    (fun g hg => exAllOk.2 fCaller2 (by simp) g (by
      simp only [List.cons_append, List.nil_append, List.mem_cons, List.not_mem_nil, or_false] at hg
      rcases hg with rfl | rfl | rfl <;> simp))

example : (actionsRun exProj ([fCallee, fCaller1] ++ fCaller2 :: []) [])[2]? = some (actionsAlone exProj fCaller2) :=
  actions_in_run_eq_alone exProj [fCallee, fCaller1] fCaller2 [] (exActOk _ (by simp))

example : ([fCallee, fCaller1, fCaller2].zip (callsRun exProj AL.PW.asciiLower [fCallee, fCaller1, fCaller2] [])).Perm
    ([fCaller2, fCaller1, fCallee].zip (callsRun exProj AL.PW.asciiLower [fCaller2, fCaller1, fCallee] [])) :=
  (run_order_independent exProj AL.PW.asciiLower _ _
    ((List.Perm.swap _ _ _).trans ((List.Perm.cons _ (List.Perm.swap _ _ _)).trans (List.Perm.swap _ _ _))) exAllOk exActOk).1

/-! ## 6. FINDING: a `./` spec that is not in the local call format — a file's diagnostics depend on the files before it

`RuleWorkflowCall.VisitJobPre` remembers a `uses:` that starts with `./` but is not in the local call format (here
`./x.yml@v1`) as a failure (`writeCache(u.Value, nil)`). The expression rule's `getWorkflowCallOutputsType`
(`calcNeedsType`) asks `FindMetadata` for the spec of a NEEDED job whatever its format. In a file where the job that needs
comes before the called job in source order, alone the look-up reads the disk and reports "could not read reusable
workflow file"; in a run after another file with the same `uses:` the remembered failure silences it. So `RefsOk`'s
"local call format" cannot be dropped from `calls_in_run_eq_alone`. -/

/-- `./a.yml`: `on: push` / `jobs: {a: {uses: ./x.yml@v1}}` -/
def badADoc : AL.Yaml.Node := docOf (mp 1 1
  [st "on" 1 1, st "push" 1 5, st "jobs" 2 1, mp 3 3 [st "a" 3 3, mp 4 5 [st "uses" 4 5, st "./x.yml@v1" 4 11]]])

/-- `./b.yml`: `on: push` / `jobs: {first: {needs: second, runs-on: u}, second: {uses: ./x.yml@v1}}` -/
def badBDoc : AL.Yaml.Node := docOf (mp 1 1
  [st "on" 1 1, st "push" 1 5, st "jobs" 2 1, mp 3 3
    [st "first" 3 3, mp 4 5 [st "needs" 4 5, st "second" 4 12, st "runs-on" 5 5, st "u" 5 14],
     st "second" 6 3, mp 7 5 [st "uses" 7 5, st "./x.yml@v1" 7 11]]])

def fBadA : File := { self := some "./a.yml", wf := (AL.PW.parse exCfg badADoc).1 }
def fBadB : File := { self := some "./b.yml", wf := (AL.PW.parse exCfg badBDoc).1 }

/-- alone, `./b.yml` gets the callee defect from the expression rule; in a run after `./a.yml` it does not -/
theorem bad_format_spec_counterexample :
    shown (callsAlone {} AL.PW.asciiLower fBadB) = ([], [⟨⟨7, 11⟩, "callee-unreadable", ["./x.yml@v1"]⟩]) ∧
    (callsRun {} AL.PW.asciiLower [fBadA, fBadB] []).map shown = [([], []), ([], [])] ∧
    (callsRun {} AL.PW.asciiLower [fBadB, fBadA] []).map shown =
      [([], [⟨⟨7, 11⟩, "callee-unreadable", ["./x.yml@v1"]⟩]), ([], [])] := by decide +kernel

/-! ## 7. a callee's own defect: once per run -/

/-- how often the defect of the callee `spec` is reported in the whole run (both rules, all files) -/
def runTotal (spec : String) (rs : List (List (String × JobView))) : Nat := (rs.map (total spec)).sum

theorem register_T (env : ProjCall.Env) (c : Cache) (w : Workflow) (spec : String) : T spec c (register env c w) 0 := by
  simp only [register]
  split
  · split
    · exact T.refl spec c
    · exact ⟨fun h => ⟨by simp [decided_put, h], rfl⟩, fun _ => ⟨Nat.zero_le _, fun h => by cases h⟩⟩
  · exact T.refl spec c

/-- `C10O.simulateJobs_T` with the cache after the walk made explicit -/
theorem jobsCache_T (env : ProjCall.Env) (lower : String → String) (jobs : List (String × Job)) (spec : String) :
    ∀ (l : List (String × Job)) (c : Cache),
      T spec c (jobsCache env lower jobs l c) (total spec (simulateJobs env lower jobs l c)) :=
  fun l c => (T.counts env spec).jobsCache lower jobs (covers_all jobs) l c (covers_all l)

theorem callsFile_T (p : Proj) (lower : String → String) (c : Cache) (f : File) (spec : String) :
    T spec c (callsFile p lower c f).1 (total spec (callsFile p lower c f).2) := by
  have := T.comp (register_T (envOf p f) c f.wf spec)
    (jobsCache_T (envOf p f) lower (f.wf.jobs.getD []) spec (f.wf.jobs.getD []) (register (envOf p f) c f.wf))
  simpa [callsFile] using this

theorem callsRun_T (p : Proj) (lower : String → String) (spec : String) : ∀ (fs : List File) (c : Cache),
    ∃ c', T spec c c' (runTotal spec (callsRun p lower fs c)) := by
  intro fs
  induction fs with
  | nil => intro c; exact ⟨c, by simpa [callsRun, runTotal] using T.refl spec c⟩
  | cons f rest ih =>
    intro c
    obtain ⟨c', h⟩ := ih (callsFile p lower c f).1
    refine ⟨c', ?_⟩
    have := T.comp (callsFile_T p lower c f spec) h
    simpa [callsRun, runTotal] using this

/-- **C10, a callee's own defect at most once per run**: however many files of the run, and jobs in them, call or need the
workflow behind `spec`, whichever file comes first and whichever rule asks first, and whatever the cache held before: among
all diagnostics of the run at most one reports that the file behind `spec` cannot be read or parsed
(`C10O.callee_defect_at_most_once` lifted from one file to the run). -/
theorem callee_defect_at_most_once_per_run (p : Proj) (lower : String → String) (fs : List File) (c : Cache) (spec : String) :
    runTotal spec (callsRun p lower fs c) ≤ 1 := by
  obtain ⟨_, h⟩ := callsRun_T p lower spec fs c
  exact h.le_one

/-! ### exactly once, at the first file that asks -/

/-- a broken callee: `FindMetadata` looks at the spec, it has the local call format, the file is missing or undecodable -/
def Broken (env : ProjCall.Env) (spec : String) : Prop :=
  skipped env spec = false ∧ AL.Rules.isLocalCallFormat spec = true ∧ ∀ m, env.disk spec ≠ .ok m

/-- 1 when the cache has an entry for `spec` -/
def dec (spec : String) (c : Cache) : Nat := if decided c spec = true then 1 else 0

/-- a piece of the visit reports the defect of `spec` exactly when it is the one that decides `spec` -/
def E (spec : String) (c c' : Cache) (n : Nat) : Prop := dec spec c + n = dec spec c'

theorem E.refl (spec : String) (c : Cache) : E spec c c 0 := rfl

theorem E.comp {spec : String} {c c' c'' : Cache} {n m : Nat} (h1 : E spec c c' n) (h2 : E spec c' c'' m) :
    E spec c c'' (n + m) := by
  unfold E at *; omega

theorem find_E (env : ProjCall.Env) (spec : String) (hb : Broken env spec) (c : Cache) (s : String) :
    E spec c (find env c s).1
      (match (find env c s).2 with
       | .err _ => if s = spec then 1 else 0
       | _ => 0) := by
  obtain ⟨hsk, _, hdisk⟩ := hb
  by_cases hs : s = spec
  · subst hs
    cases hk : cacheGet c s with
    | some v =>
      have h1 : (find env c s).1 = c := by simp [ProjCall.find, remember, hsk, hk]
      have h2 : ∀ code, (find env c s).2 ≠ .err code := by
        intro code; cases v <;> simp [ProjCall.find, answer, hsk, hk]
      cases hf : (find env c s).2 with
      | err code => exact absurd hf (h2 code)
      | nothing => simp only [h1]; exact E.refl _ _
      | found m => simp only [h1]; exact E.refl _ _
    | none =>
      have hd : decided c s = false := by simp [decided, hk]
      have hd' : decided (find env c s).1 s = true := by
        simp [decided, ProjCall.find, cacheGet_remember, hsk, hk]
      have hex : ∃ code, (find env c s).2 = .err code := by
        simp only [ProjCall.find, answer, hsk, hk, diskAnswer, Bool.false_eq_true, if_false]
        cases hdk : env.disk s with
        | ok m => exact absurd hdk (hdisk m)
        | missing => exact ⟨_, rfl⟩
        | broken => exact ⟨_, rfl⟩
      obtain ⟨code, hf⟩ := hex
      rw [hf]
      simp [E, dec, hd, hd']
  · have hs' : ¬ spec = s := fun h => hs h.symm
    have hdec : decided (find env c s).1 spec = decided c spec := by
      simp only [decided, ProjCall.find, cacheGet_remember]
      by_cases hg : skipped env s = true <;> simp [hg, hs']
    cases hf : (find env c s).2 <;> simp [E, dec, hdec, hs]

/-- "exactly when it decides" is a way of counting along the walk: a broken callee has the local call format, so the
bad-format put is at another spec -/
theorem E.counts (env : ProjCall.Env) (spec : String) (hb : Broken env spec) : Counts (fun _ => True) env spec (E spec) :=
  ⟨E.refl spec, E.comp, fun c s _ => find_E env spec hb c s, fun c u _ hl => by
    have hne : ¬ spec = u := fun h => by rw [← h, hb.2.1] at hl; cases hl
    simp [E, dec, decided_put, hne]⟩

theorem wcJob_E (env : ProjCall.Env) (spec : String) (hb : Broken env spec) (c : Cache) (j : Job) :
    E spec c (wcJob env c j).1 (wcCount spec (wcJob env c j).2) :=
  (E.counts env spec hb).wcJob c j fun _ _ _ _ => trivial

theorem callLookup_E (env : ProjCall.Env) (spec : String) (hb : Broken env spec) (c : Cache) (j : Job) :
    E spec c (callLookup env j c).cache (exCount spec (callLookup env j c).errs) :=
  (E.counts env spec hb).callLookup c j fun _ _ _ _ => trivial

theorem needsStep_E (env : ProjCall.Env) (spec : String) (hb : Broken env spec) (lower : String → String)
    (jobs : List (String × Job)) (job : Job) (acc : NeedsOut × List String) (id : Str) :
    ∃ k, E spec acc.1.cache (needsStep env lower jobs job acc id).1.cache k ∧
      exCount spec (needsStep env lower jobs job acc id).1.errs = exCount spec acc.1.errs + k :=
  (E.counts env spec hb).needsStep lower jobs (covers_all jobs) job acc id

theorem needsFold_E (env : ProjCall.Env) (spec : String) (hb : Broken env spec) (lower : String → String)
    (jobs : List (String × Job)) (job : Job) :
    ∀ (ids : List Str) (acc : NeedsOut × List String),
      ∃ k, E spec acc.1.cache (ids.foldl (needsStep env lower jobs job) acc).1.cache k ∧
        exCount spec (ids.foldl (needsStep env lower jobs job) acc).1.errs = exCount spec acc.1.errs + k :=
  (E.counts env spec hb).needsFold lower jobs (covers_all jobs) job

theorem needsLookups_E (env : ProjCall.Env) (spec : String) (hb : Broken env spec) (lower : String → String)
    (jobs : List (String × Job)) (job : Job) (c : Cache) :
    E spec c (needsLookups env lower jobs job c).cache (exCount spec (needsLookups env lower jobs job c).errs) :=
  (E.counts env spec hb).needsLookups lower jobs (covers_all jobs) job c

theorem jobsCache_E (env : ProjCall.Env) (spec : String) (hb : Broken env spec) (lower : String → String)
    (jobs : List (String × Job)) :
    ∀ (l : List (String × Job)) (c : Cache),
      E spec c (jobsCache env lower jobs l c) (total spec (simulateJobs env lower jobs l c)) :=
  fun l c => (E.counts env spec hb).jobsCache lower jobs (covers_all jobs) l c (covers_all l)

/-- `Broken` for the project of a run (it does not depend on the linted file) -/
def BrokenP (p : Proj) (spec : String) : Prop := Broken { hasProject := p.hasProject, disk := p.disk } spec

theorem brokenP_env (p : Proj) (f : File) (spec : String) (h : BrokenP p spec) : Broken (envOf p f) spec := h

theorem register_untouched (p : Proj) (f : File) (c : Cache) (spec : String) (h : f.self ≠ some spec) :
    cacheGet (register (envOf p f) c f.wf) spec = cacheGet c spec := by
  simp only [register]
  split
  · rename_i s m _ hself _
    split
    · rfl
    · have : ¬ spec = s := fun e => h (by rw [e]; simpa [envOf] using hself)
      simp [cacheGet_put, this]
  · rfl

/-- a file that neither references `spec` nor is the file behind it leaves the entry of `spec` alone -/
theorem callsFile_untouched (p : Proj) (lower : String → String) (c : Cache) (g : File) (spec : String)
    (hr : spec ∉ refs g.wf) (hs : g.self ≠ some spec) : cacheGet (callsFile p lower c g).1 spec = cacheGet c spec := by
  simp only [callsFile]
  rw [reach_untouched (fun s => s ∈ refs g.wf) (envOf p g) _ _
    (jobsCache_reach (fun s => s ∈ refs g.wf) (envOf p g) lower _ (covers_refs _) _ _ (covers_refs _)) spec hr]
  exact register_untouched p g c spec hs

theorem callsFile_E (p : Proj) (lower : String → String) (c : Cache) (f : File) (spec : String) (hb : BrokenP p spec)
    (hs : f.self ≠ some spec) : E spec c (callsFile p lower c f).1 (total spec (callsFile p lower c f).2) := by
  have h0 : E spec c (register (envOf p f) c f.wf) 0 := by
    have hd : decided (register (envOf p f) c f.wf) spec = decided c spec := by
      simp only [decided, register_untouched p f c spec hs]
    unfold E dec
    rw [Nat.add_zero, hd]
  have := E.comp h0 (jobsCache_E (envOf p f) spec (brokenP_env p f spec hb) lower (f.wf.jobs.getD []) (f.wf.jobs.getD [])
    (register (envOf p f) c f.wf))
  simpa [callsFile] using this

theorem find_decides (env : ProjCall.Env) (c : Cache) (s : String) (hsk : skipped env s = false) :
    decided (find env c s).1 s = true := by
  simp only [decided, ProjCall.find, cacheGet_remember, hsk, Bool.false_eq_true, if_false, if_true]
  cases cacheGet c s <;> rfl

theorem wcJob_decides (env : ProjCall.Env) (spec : String) (hb : Broken env spec) (c : Cache) (j : Job)
    (hj : specOf j = some spec) : decided (wcJob env c j).1 spec = true := by
  obtain ⟨hsk0, hl, _⟩ := hb
  simp only [specOf] at hj
  simp only [wcJob]
  split
  · rename_i h; simp [h] at hj
  · rename_i call hcall
    split
    · rename_i h; simp [hcall, h] at hj
    · rename_i u hu
      simp only [hcall, hu, Option.some.injEq] at hj
      subst hj
      have hsk := hsk0
      simp only [skipped, Bool.or_eq_false_iff, Bool.not_eq_false'] at hsk
      have hne : u.value ≠ "" := by
        intro h; rw [h] at hsk; simp at hsk
      have hex : AL.Rules.containsExpr u = false := hsk.2
      have h1 : (decide (u.value = "") || AL.Rules.containsExpr u) = false := by simp [hne, hex]
      simp only [wcUses, h1, hl, Bool.false_eq_true, if_false, if_true]
      exact find_decides env c u.value hsk0

theorem jobsCache_mono (env : ProjCall.Env) (lower : String → String) (jobs l : List (String × Job)) (c : Cache)
    (spec : String) (h : decided c spec = true) : decided (jobsCache env lower jobs l c) spec = true :=
  ((jobsCache_T env lower jobs spec l c).1 h).1

/-- a file that references a broken callee has an entry for it afterwards -/
theorem jobsCache_decides (env : ProjCall.Env) (spec : String) (hb : Broken env spec) (lower : String → String)
    (jobs : List (String × Job)) : ∀ (l : List (String × Job)) (c : Cache), spec ∈ refsJobs l →
      decided (jobsCache env lower jobs l c) spec = true := by
  intro l
  induction l with
  | nil => intro c h; simp [refsJobs] at h
  | cons e rest ih =>
    intro c h
    obtain ⟨k, j⟩ := e
    simp only [jobsCache]
    by_cases hj : specOf j = some spec
    · apply jobsCache_mono
      have h1 := wcJob_decides env spec hb c j hj
      have h2 := ((needsLookups_T env lower jobs j (wcJob env c j).1 spec).1 h1).1
      exact ((callLookup_T env (needsLookups env lower jobs j (wcJob env c j).1).cache j spec).1 h2).1
    · apply ih
      simp only [refsJobs, List.filterMap_cons] at h ⊢
      cases hs : specOf j with
      | none => rw [hs] at h; exact h
      | some s' =>
        simp only [hs, List.mem_cons] at h
        rcases h with h | h
        · exact absurd (by rw [hs, h]) hj
        · exact h

theorem getElem?_le_sum : ∀ (l : List Nat) (i x : Nat), l[i]? = some x → x ≤ l.sum := by
  intro l
  induction l with
  | nil => intro i x h; simp at h
  | cons a l ih =>
    intro i x h
    cases i with
    | zero => simp only [List.getElem?_cons_zero, Option.some.injEq] at h; simp only [List.sum_cons]; omega
    | succ i => simp only [List.getElem?_cons_succ] at h; have := ih i x h; simp only [List.sum_cons]; omega

theorem others_zero : ∀ (l : List Nat) (i j x : Nat), l.sum ≤ 1 → l[i]? = some 1 → j ≠ i → l[j]? = some x → x = 0 := by
  intro l
  induction l with
  | nil => intro i j x _ h; simp at h
  | cons a l ih =>
    intro i j x hs hi hne hj
    simp only [List.sum_cons] at hs
    cases i with
    | zero =>
      simp only [List.getElem?_cons_zero, Option.some.injEq] at hi
      cases j with
      | zero => exact absurd rfl hne
      | succ j =>
        simp only [List.getElem?_cons_succ] at hj
        have := getElem?_le_sum l j x hj
        omega
    | succ i =>
      simp only [List.getElem?_cons_succ] at hi
      have h1 := getElem?_le_sum l i 1 hi
      cases j with
      | zero => simp only [List.getElem?_cons_zero, Option.some.injEq] at hj; omega
      | succ j =>
        simp only [List.getElem?_cons_succ] at hj
        exact ih i j x (by omega) hi (by omega) hj

/-- the first file of the run that references a broken callee gets its defect, exactly once (from any cache without
an entry for it) -/
theorem first_asker_at (p : Proj) (lower : String → String) (spec : String) (hb : BrokenP p spec) (f : File)
    (post : List File) (hself : f.self ≠ some spec) (hin : spec ∈ refs f.wf) :
    ∀ (pre : List File) (c : Cache), cacheGet c spec = none → (∀ g ∈ pre, spec ∉ refs g.wf ∧ g.self ≠ some spec) →
      ((callsRun p lower (pre ++ f :: post) c)[pre.length]?).map (total spec) = some 1 := by
  intro pre c hc hpre
  have hc' : cacheGet (cacheAfter p lower pre c) spec = none :=
    List.foldlRecOn (motive := fun c : Cache => cacheGet c spec = none) pre _ hc
      fun c hc g hg => by rw [callsFile_untouched p lower c g spec (hpre g hg).1 (hpre g hg).2]; exact hc
  rw [callsRun_getElem, Option.map_some, Option.some.injEq]
  have hE := callsFile_E p lower (cacheAfter p lower pre c) f spec hb hself
  have hd : decided (callsFile p lower (cacheAfter p lower pre c) f).1 spec = true :=
    jobsCache_decides (envOf p f) spec (brokenP_env p f spec hb) lower _ _ _ hin
  simp only [E, dec, decided, hc'] at hE
  simp only [decided] at hd
  simp only [hd] at hE
  simpa using hE

/-- **C10, a callee's own defect exactly once per run**: a broken callee `spec` (local call format, file missing or
undecodable) that is not itself a file of the run before its first caller. In the run `pre ++ f :: post` where `f` is the
first file that references it: the defect is reported exactly once in the whole run, in the diagnostics of `f`, and no
other file of the run — however many of them call or need `spec` — reports it. -/
theorem callee_defect_exactly_once (p : Proj) (lower : String → String) (spec : String) (hb : BrokenP p spec)
    (pre : List File) (f : File) (post : List File) (hself : f.self ≠ some spec) (hin : spec ∈ refs f.wf)
    (hpre : ∀ g ∈ pre, spec ∉ refs g.wf ∧ g.self ≠ some spec) :
    runTotal spec (callsRun p lower (pre ++ f :: post) []) = 1 ∧
    ((callsRun p lower (pre ++ f :: post) [])[pre.length]?).map (total spec) = some 1 ∧
    ∀ i r, i ≠ pre.length → (callsRun p lower (pre ++ f :: post) [])[i]? = some r → total spec r = 0 := by
  have h1 := first_asker_at p lower spec hb f post hself hin pre [] rfl hpre
  have hle := callee_defect_at_most_once_per_run p lower (pre ++ f :: post) [] spec
  have h1' : ((callsRun p lower (pre ++ f :: post) []).map (total spec))[pre.length]? = some 1 := by
    rw [List.getElem?_map]; exact h1
  refine ⟨?_, h1, fun i r hi hr => ?_⟩
  · have := getElem?_le_sum _ _ _ h1'
    simp only [runTotal] at hle ⊢
    omega
  · apply others_zero _ pre.length i (total spec r) hle h1' hi
    rw [List.getElem?_map, hr]; rfl

/-! ## 8. with broken callees around: every other diagnostic is as when linted alone -/

/-- an answer without the report of the callee's defect -/
def strip : Found → Found
  | .err _ => .nothing
  | f => f

/-- the diagnostics other than the callees' own defects -/
def nd (ds : List AL.Rules.Diag) : List AL.Rules.Diag := ds.filter fun d => !isDefectCode d.code
def ndx (ds : List AL.RuleExpr.Diag) : List AL.RuleExpr.Diag := ds.filter fun d => !isDefectCode d.code

theorem answer_err_code (env : ProjCall.Env) (c : Cache) (s code : String) (h : answer env c s = .err code) :
    isDefectCode code = true := ((find_spec env c s s).2 code h).1

/-- a look-up never changes what the cache answers, up to the one-time report of a defect -/
theorem strip_answer_remember (env : ProjCall.Env) (c : Cache) (s spec : String) :
    strip (answer env (remember env c s) spec) = strip (answer env c spec) := by
  rw [answer_remember]
  split
  · rename_i e; rw [e]; cases answer env c s <;> rfl
  · rfl

def SameS (R : String → Prop) (env : ProjCall.Env) (c c' : Cache) : Prop :=
  ∀ spec, R spec → strip (answer env c spec) = strip (answer env c' spec)

theorem find_sameS (R : String → Prop) (env : ProjCall.Env) (c c' : Cache) (s : String) (h : SameS R env c c') :
    SameS R env (find env c s).1 (find env c' s).1 := by
  intro spec hR
  simp only [ProjCall.find, strip_answer_remember]
  exact h spec hR

theorem putNone_sameS (R : String → Prop) (env : ProjCall.Env) (c c' : Cache) (u : String) (h : SameS R env c c') :
    SameS R env (cachePut c u none) (cachePut c' u none) := by
  intro spec hR
  rw [answer_put, answer_put]
  split
  · rfl
  · exact h spec hR

/-- the report of a defect is all that `strip` takes away from what a look-up contributes -/
theorem nd_wcFound_strip (f : Found) (call : WorkflowCall) (u : Str) (hc : ∀ code, f = .err code → isDefectCode code = true) :
    nd (wcFound f call u) = nd (wcFound (strip f) call u) := by
  cases f with
  | err code => simp [wcFound, nd, strip, hc code rfl]
  | nothing => rfl
  | found m => rfl

theorem ndx_exFound_strip (f : Found) (u : Str) (hc : ∀ code, f = .err code → isDefectCode code = true) :
    ndx (exFound f u) = ndx (exFound (strip f) u) := by
  cases f with
  | err code => simp [exFound, ndx, strip, hc code rfl]
  | nothing => rfl
  | found m => rfl

theorem wcFound_nd (f f' : Found) (call : WorkflowCall) (u : Str) (h : strip f = strip f')
    (hc : ∀ code, f = .err code → isDefectCode code = true) (hc' : ∀ code, f' = .err code → isDefectCode code = true) :
    nd (wcFound f call u) = nd (wcFound f' call u) := by
  rw [nd_wcFound_strip f call u hc, nd_wcFound_strip f' call u hc', h]

theorem exFound_ndx (f f' : Found) (u : Str) (h : strip f = strip f')
    (hc : ∀ code, f = .err code → isDefectCode code = true) (hc' : ∀ code, f' = .err code → isDefectCode code = true) :
    ndx (exFound f u) = ndx (exFound f' u) := by
  rw [ndx_exFound_strip f u hc, ndx_exFound_strip f' u hc', h]

theorem outsFound_strip (f f' : Found) (i : String) (h : strip f = strip f') : outsFound f i = outsFound f' i := by
  have e : ∀ g, outsFound g i = outsFound (strip g) i := fun g => by cases g <;> rfl
  rw [e f, e f', h]

theorem inputsFound_strip (f f' : Found) (h : strip f = strip f') : inputsFound f = inputsFound f' := by
  have e : ∀ g, inputsFound g = inputsFound (strip g) := fun g => by cases g <;> rfl
  rw [e f, e f', h]

theorem ndx_append (a b : List AL.RuleExpr.Diag) : ndx (a ++ b) = ndx a ++ ndx b := by simp [ndx, List.filter_append]

theorem wcJob_sameS (R : String → Prop) (env : ProjCall.Env) (c c' : Cache) (j : Job) (h : SameS R env c c')
    (hj : ∀ call u, j.workflowCall = some call → call.uses = some u → R u.value) :
    nd (wcJob env c j).2 = nd (wcJob env c' j).2 ∧ SameS R env (wcJob env c j).1 (wcJob env c' j).1 := by
  rcases wcJob_shape env j with e | ⟨call, u, hc, hu, e | ⟨_, _, _, _, e⟩⟩
  · rw [e, e]; exact ⟨rfl, h⟩
  · rw [e, e]
    exact ⟨wcFound_nd _ _ call u (h u.value (hj call u hc hu)) (answer_err_code env c u.value)
      (answer_err_code env c' u.value), find_sameS R env c c' u.value h⟩
  · rw [e, e]; exact ⟨rfl, putNone_sameS R env c c' u.value h⟩

theorem callLookup_sameS (R : String → Prop) (env : ProjCall.Env) (c c' : Cache) (j : Job) (h : SameS R env c c')
    (hj : ∀ call u, j.workflowCall = some call → call.uses = some u → R u.value) :
    ndx (callLookup env j c).errs = ndx (callLookup env j c').errs ∧
    (callLookup env j c).inputs = (callLookup env j c').inputs ∧
    SameS R env (callLookup env j c).cache (callLookup env j c').cache := by
  rcases callLookup_shape env j with e | ⟨call, u, hc, hu, e⟩
  · rw [e, e]; exact ⟨rfl, rfl, h⟩
  · rw [e, e]
    have e1 := h u.value (hj call u hc hu)
    exact ⟨exFound_ndx _ _ u e1 (answer_err_code env c u.value) (answer_err_code env c' u.value),
      inputsFound_strip _ _ e1, find_sameS R env c c' u.value h⟩

theorem needsStep_sameS (R : String → Prop) (env : ProjCall.Env) (lower : String → String) (jobs : List (String × Job))
    (hcov : Covers R jobs) (job : Job)
    (acc acc' : NeedsOut × List String) (id : Str)
    (h : SameS R env acc.1.cache acc'.1.cache) (he : ndx acc.1.errs = ndx acc'.1.errs) (ho : acc.1.outs = acc'.1.outs)
    (hd : acc.2 = acc'.2) :
    SameS R env (needsStep env lower jobs job acc id).1.cache (needsStep env lower jobs job acc' id).1.cache ∧
    ndx (needsStep env lower jobs job acc id).1.errs = ndx (needsStep env lower jobs job acc' id).1.errs ∧
    (needsStep env lower jobs job acc id).1.outs = (needsStep env lower jobs job acc' id).1.outs ∧
    (needsStep env lower jobs job acc id).2 = (needsStep env lower jobs job acc' id).2 := by
  rcases needsStep_shape env lower jobs job acc.2 id with ⟨_, e⟩ | ⟨j, call, u, hj, hc, hu, e⟩
  · rw [e acc rfl, e acc' hd.symm]; exact ⟨h, he, ho, rfl⟩
  · rw [e acc rfl, e acc' hd.symm]
    obtain ⟨k, hk⟩ := lookupJob_mem _ jobs j hj
    have e1 : strip (find env acc.1.cache u.value).2 = strip (find env acc'.1.cache u.value).2 :=
      h u.value (hcov (k, j) hk call u hc hu)
    refine ⟨find_sameS R env _ _ u.value h, ?_, ?_, rfl⟩
    · simp only [ndx_append, he, exFound_ndx _ _ u e1 (answer_err_code env _ u.value) (answer_err_code env _ u.value)]
    · simp only [ho, outsFound_strip _ _ (lower id.value) e1]

theorem needsFold_sameS (R : String → Prop) (env : ProjCall.Env) (lower : String → String) (jobs : List (String × Job))
    (hcov : Covers R jobs) (job : Job) :
    ∀ (ids : List Str) (acc acc' : NeedsOut × List String),
      SameS R env acc.1.cache acc'.1.cache → ndx acc.1.errs = ndx acc'.1.errs → acc.1.outs = acc'.1.outs → acc.2 = acc'.2 →
      SameS R env (ids.foldl (needsStep env lower jobs job) acc).1.cache (ids.foldl (needsStep env lower jobs job) acc').1.cache ∧
      ndx (ids.foldl (needsStep env lower jobs job) acc).1.errs = ndx (ids.foldl (needsStep env lower jobs job) acc').1.errs ∧
      (ids.foldl (needsStep env lower jobs job) acc).1.outs = (ids.foldl (needsStep env lower jobs job) acc').1.outs := by
  intro ids
  induction ids with
  | nil => intro acc acc' h he ho _; exact ⟨h, he, ho⟩
  | cons id rest ih =>
    intro acc acc' h he ho hd
    obtain ⟨a, b, c, d⟩ := needsStep_sameS R env lower jobs hcov job acc acc' id h he ho hd
    simp only [List.foldl_cons]
    exact ih _ _ a b c d

/-- what a job gets, the callees' own defects left out -/
def view (e : String × JobView) : String × List AL.Rules.Diag × List AL.RuleExpr.Diag × List (String × AL.Ty) ×
    Option (List (String × (String × AL.Ty))) :=
  (e.1, nd e.2.wc, ndx e.2.exprErrs, e.2.outs, e.2.inputs)

theorem simulateJobs_sameS (R : String → Prop) (env : ProjCall.Env) (lower : String → String) (jobs : List (String × Job))
    (hcov : Covers R jobs) :
    ∀ (l : List (String × Job)) (c c' : Cache), Covers R l → SameS R env c c' →
      (simulateJobs env lower jobs l c).map view = (simulateJobs env lower jobs l c').map view := by
  intro l
  induction l with
  | nil => intro c c' _ _; rfl
  | cons e rest ih =>
    intro c c' hl h
    obtain ⟨k, j⟩ := e
    have hj : ∀ call u, j.workflowCall = some call → call.uses = some u → R u.value :=
      fun call u => hl (k, j) (by simp) call u
    have hrest : Covers R rest := fun e he => hl e (by simp [he])
    simp only [simulateJobs, needsLookups, List.map_cons, view, ndx_append]
    obtain ⟨w1, w2⟩ := wcJob_sameS R env c c' j h hj
    obtain ⟨n1, n2, n3⟩ := needsFold_sameS R env lower jobs hcov j (j.needs.getD [])
      (({ cache := (wcJob env c j).1 } : NeedsOut), []) (({ cache := (wcJob env c' j).1 } : NeedsOut), []) w2 rfl rfl rfl
    obtain ⟨k1, k2, k3⟩ := callLookup_sameS R env _ _ j n1 hj
    rw [ih _ _ hrest k3, w1, n2, n3, k1, k2]

/-- what a cache answers depends on the project, not on the linted file -/
theorem answer_envOf (p : Proj) (g f : File) (c : Cache) (s : String) :
    answer (envOf p g) c s = answer (envOf p f) c s := rfl

/-- for the local-format specs in `F` the cache answers as an empty one would, up to the one-time report of a defect -/
def InvS (p : Proj) (f : File) (F : List String) (c : Cache) : Prop :=
  ∀ s ∈ F, AL.Rules.isLocalCallFormat s = true →
    strip (answer (envOf p f) c s) = strip (answer (envOf p f) [] s)

theorem invS_reach (p : Proj) (f g : File) (F : List String) (c c' : Cache)
    (hr : Reach (fun _ => True) (envOf p g) c c') (h : InvS p f F c) : InvS p f F c' := by
  induction hr with
  | refl => exact h
  | find c' s _ _ ih =>
    intro spec hF hl
    rw [← ih spec hF hl, ← answer_envOf p g f, ← answer_envOf p g f]
    exact strip_answer_remember (envOf p g) c' s spec
  | bad c' u _ hu _ ih =>
    intro spec hF hl
    rw [← ih spec hF hl]
    have e : ¬ spec = u := fun e => by rw [e, hu] at hl; cases hl
    simp only [answer, cacheGet_put, e, if_false]

theorem invS_register (p : Proj) (f g : File) (F : List String) (hg : RegAgrees p F g) (c : Cache) (h : InvS p f F c) :
    InvS p f F (register (envOf p g) c g.wf) := by
  simp only [register]
  split
  · rename_i spec m _ hself hm
    split
    · exact h
    · rename_i hnone
      intro s hF hl
      rw [← h s hF hl]
      by_cases e : s = spec
      · subst e
        have hd := hg s hF m (by simpa [envOf] using hself) hm
        simp only [answer, cacheGet_put, if_true, hnone]
        by_cases hsk : skipped (envOf p f) s = true
        · simp [hsk]
        · simp only [hsk, Bool.false_eq_true, if_false, diskAnswer]
          have : (envOf p f).disk s = .ok m := hd
          rw [this]
      · simp only [answer, cacheGet_put, e, if_false]
  · exact h

theorem invS_callsFile (p : Proj) (lower : String → String) (f g : File) (F : List String) (hg : RegAgrees p F g)
    (c : Cache) (h : InvS p f F c) : InvS p f F (callsFile p lower c g).1 :=
  invS_reach p f g F _ _ (jobsCache_reach (fun _ => True) (envOf p g) lower _ (covers_all _) _ _ (covers_all _))
    (invS_register p f g F hg c h)

/-- every spec `f` references is one `FindMetadata` skips or has the local call format (the file behind it may be
missing or broken) -/
def RefsLocal (p : Proj) (f : File) : Prop :=
  ∀ s ∈ refs f.wf, skipped (envOf p f) s = true ∨ AL.Rules.isLocalCallFormat s = true

theorem callsFile_view_eq_alone (p : Proj) (lower : String → String) (f : File) (hrefs : RefsLocal p f)
    (hself : RegAgrees p (refs f.wf) f) (c : Cache) (h : InvS p f (refs f.wf) c) :
    (callsFile p lower c f).2.map view = (callsAlone p lower f).map view := by
  simp only [callsFile, callsAlone, simulate, initialCache_eq_register]
  apply simulateJobs_sameS (fun s => s ∈ refs f.wf) (envOf p f) lower _ (covers_refs _) _ _ _ (covers_refs _)
  intro s hs
  have h1 := invS_register p f f (refs f.wf) hself c h
  have h2 := invS_register p f f (refs f.wf) hself [] (fun _ _ _ => rfl)
  rcases hrefs s hs with hsk | hl
  · simp [answer, hsk]
  · rw [h1 s hs hl, h2 s hs hl]

theorem callsRun_view_at (p : Proj) (lower : String → String) (f : File) (post : List File) (hrefs : RefsLocal p f)
    (hself : RegAgrees p (refs f.wf) f) :
    ∀ (pre : List File) (c : Cache), (∀ g ∈ pre, RegAgrees p (refs f.wf) g) → InvS p f (refs f.wf) c →
      ((callsRun p lower (pre ++ f :: post) c)[pre.length]?).map (·.map view) = some ((callsAlone p lower f).map view) := by
  intro pre c hpre h
  rw [callsRun_getElem, Option.map_some, callsFile_view_eq_alone p lower f hrefs hself (cacheAfter p lower pre c)
    (List.foldlRecOn pre _ h fun c hc g hg => invS_callsFile p lower f g _ (hpre g hg) c hc)]

/-- **C10, with broken callees in the run: every other diagnostic is as when linted alone.** `f` at any position of a
run; the specs it references have the local call format (or are skipped by `FindMetadata`) but the files behind them may be
missing or broken, and other files of the run may have asked for them before. If the files of the run up to `f` that are
callees of `f` register the interface that is on disk (for a broken callee: register nothing), then job by job the
diagnostics of rule workflow-call and of the expression rule's look-ups other than the callees' own defects
(`callee-unreadable`, `callee-broken`), and the `needs` / `inputs` view the expression rule gets, are those of `f`
linted alone. (Where the defects themselves go: `callee_defect_exactly_once`.) -/
theorem others_in_run_eq_alone (p : Proj) (lower : String → String) (pre : List File) (f : File) (post : List File)
    (hrefs : RefsLocal p f) (hreg : ∀ g ∈ pre ++ [f], RegAgrees p (refs f.wf) g) :
    ((callsRun p lower (pre ++ f :: post) [])[pre.length]?).map (·.map view) = some ((callsAlone p lower f).map view) :=
  callsRun_view_at p lower f post hrefs (hreg f (by simp)) pre [] (fun g hg => hreg g (by simp [hg])) (fun _ _ _ => rfl)

/-! ### a concrete run with a broken callee: two callers of the missing `./x.yml`, and a third file -/

/-- `./m1.yml`: `on: push` / `jobs: {k: {uses: ./x.yml}, l: {needs: k, uses: ./x.yml}}` -/
def miss1Doc : AL.Yaml.Node := docOf (mp 1 1
  [st "on" 1 1, st "push" 1 5, st "jobs" 2 1, mp 3 3
    [st "k" 3 3, mp 4 5 [st "uses" 4 5, st "./x.yml" 4 11],
     st "l" 5 3, mp 6 5 [st "needs" 6 5, st "k" 6 12, st "uses" 7 5, st "./x.yml" 7 11]]])

/-- `./m2.yml`: `on: push` / `jobs: {j: {uses: ./x.yml}}` -/
def miss2Doc : AL.Yaml.Node := docOf (mp 1 1
  [st "on" 1 1, st "push" 1 5, st "jobs" 2 1, mp 3 3 [st "j" 3 3, mp 4 5 [st "uses" 4 5, st "./x.yml" 4 11]]])

def fMiss1 : File := { self := some "./m1.yml", wf := (AL.PW.parse exCfg miss1Doc).1 }
def fMiss2 : File := { self := some "./m2.yml", wf := (AL.PW.parse exCfg miss2Doc).1 }

def dx1 : AL.Rules.Diag := ⟨⟨4, 11⟩, "workflow-call", "callee-unreadable", ["./x.yml"]⟩

/-- in either order the first caller gets the defect, once; alone each gets it -/
example :
    (callsRun exProj AL.PW.asciiLower [fCaller1, fMiss1, fMiss2] []).map shown = [([d1], []), ([dx1], []), ([], [])] ∧
    (callsRun exProj AL.PW.asciiLower [fMiss2, fCaller1, fMiss1] []).map shown = [([dx1], []), ([d1], []), ([], [])] ∧
    shown (callsAlone exProj AL.PW.asciiLower fMiss1) = ([dx1], []) ∧
    shown (callsAlone exProj AL.PW.asciiLower fMiss2) = ([dx1], []) ∧
    runTotal "./x.yml" (callsRun exProj AL.PW.asciiLower [fCaller1, fMiss1, fMiss2] []) = 1 := by decide +kernel

theorem exBroken : BrokenP exProj "./x.yml" := by
  refine ⟨by decide +kernel, by decide +kernel, fun m h => ?_⟩
  have : exProj.disk "./x.yml" = .missing := by simp [exProj]
  have h' : exProj.disk "./x.yml" = .ok m := h
  rw [this] at h'
  cases h'

example : runTotal "./x.yml" (callsRun exProj AL.PW.asciiLower ([fCaller1] ++ fMiss1 :: [fMiss2]) []) ≤ 1 :=
  callee_defect_at_most_once_per_run exProj AL.PW.asciiLower _ [] "./x.yml"

/-- what the two instances below ask of the three files, evaluated together -/
theorem exMiss_facts :
    fMiss1.self ≠ some "./x.yml" ∧ "./x.yml" ∈ refs fMiss1.wf ∧
    ("./x.yml" ∉ refs fCaller1.wf ∧ fCaller1.self ≠ some "./x.yml") ∧
    refs fMiss2.wf = ["./x.yml"] ∧
    ∀ g ∈ [fCaller1, fMiss1, fMiss2], regAgreesB exProj (refs fMiss2.wf) g = true := by decide +kernel

example :
    runTotal "./x.yml" (callsRun exProj AL.PW.asciiLower ([fCaller1] ++ fMiss1 :: [fMiss2]) []) = 1 ∧
    ((callsRun exProj AL.PW.asciiLower ([fCaller1] ++ fMiss1 :: [fMiss2]) [])[[fCaller1].length]?).map (total "./x.yml") = some 1 ∧
    ∀ i r, i ≠ [fCaller1].length → (callsRun exProj AL.PW.asciiLower ([fCaller1] ++ fMiss1 :: [fMiss2]) [])[i]? = some r →
      total "./x.yml" r = 0 :=
  callee_defect_exactly_once exProj AL.PW.asciiLower "./x.yml" exBroken [fCaller1] fMiss1 [fMiss2]
    exMiss_facts.1 exMiss_facts.2.1
    (fun g hg => by
      simp only [List.mem_singleton] at hg
      subst hg
      exact exMiss_facts.2.2.1)

example : ((callsRun exProj AL.PW.asciiLower ([fCaller1, fMiss1] ++ fMiss2 :: []) [])[[fCaller1, fMiss1].length]?).map (·.map view) =
    some ((callsAlone exProj AL.PW.asciiLower fMiss2).map view) :=
  others_in_run_eq_alone exProj AL.PW.asciiLower [fCaller1, fMiss1] fMiss2 []
    (fun s hs => by
      rw [exMiss_facts.2.2.2.1, List.mem_singleton] at hs
      subst hs
      exact Or.inr exBroken.2.1)
    (fun g hg => regAgreesB_sound _ _ _ (exMiss_facts.2.2.2.2 g hg))

/-! ### a concrete run with a local action used by two files; further instances of theorems above -/

def sq (line col : Nat) (cs : List AL.Yaml.Node) : AL.Yaml.Node := .mk .sequence "!!seq" "" false line col cs

def actMeta : AL.ProjAction.ActionMeta :=
  { name := "act", description := "d", runs := { using_ := "node20", main := "index.js" },
    inputs := [("who", "who", true)], dir := "act", path := "act/action.yml" }

def exProjA : Proj :=
  { disk := exProj.disk, actions := { disk := fun s => if s = "./act" then .ok actMeta else .absent } }

/-- `./s1.yml`: `on: push` / `jobs: {a: {runs-on: u, steps: [{uses: ./act}]}}` — the required input is missing -/
def steps1Doc : AL.Yaml.Node := docOf (mp 1 1
  [st "on" 1 1, st "push" 1 5, st "jobs" 2 1, mp 3 3 [st "a" 3 3, mp 4 5 [st "runs-on" 4 5, st "u" 4 14,
     st "steps" 5 5, sq 6 7 [mp 6 9 [st "uses" 6 9, st "./act" 6 15]]]]])

/-- `./s2.yml`: the same with `with: {who: x, whom: y}` — an undefined input -/
def steps2Doc : AL.Yaml.Node := docOf (mp 1 1
  [st "on" 1 1, st "push" 1 5, st "jobs" 2 1, mp 3 3 [st "a" 3 3, mp 4 5 [st "runs-on" 4 5, st "u" 4 14,
     st "steps" 5 5, sq 6 7 [mp 6 9 [st "uses" 6 9, st "./act" 6 15, st "with" 7 9,
       mp 8 11 [st "who" 8 11, st "x" 8 16, st "whom" 9 11, st "y" 9 17]]]]]])

def fSteps1 : File := { self := some "./s1.yml", wf := (AL.PW.parse exCfg steps1Doc).1 }
def fSteps2 : File := { self := some "./s2.yml", wf := (AL.PW.parse exCfg steps2Doc).1 }

def codes (r : List AL.ProjAction.Diag × List AL.RuleExpr.Diag) : List String × List String :=
  (r.1.map (·.code), r.2.map (·.code))

/-- both orders: the second file finds the metadata in the cache and gets what it gets alone -/
example :
    (actionsRun exProjA [fSteps1, fSteps2] []).map codes = [(["local-input-missing"], []), (["local-input-undefined"], [])] ∧
    (actionsRun exProjA [fSteps2, fSteps1] []).map codes = [(["local-input-undefined"], []), (["local-input-missing"], [])] ∧
    actionsRun exProjA [fSteps1, fSteps2] [] = [actionsAlone exProjA fSteps1, actionsAlone exProjA fSteps2] := by
  decide +kernel

theorem actMeta_ok : ActionOk exProjA.actions "./act" := by
  right
  refine ⟨actMeta, by simp [exProjA], fun pos => ?_⟩
  simp [AL.ProjAction.metadataDiags, AL.ProjAction.runsDiags, AL.ProjAction.jsRuns, AL.ProjAction.runsFile,
    AL.ProjAction.invalidProps, actMeta, exProjA]

theorem exStepsOk : ∀ f ∈ [fSteps1, fSteps2], ActRefsOk exProjA f := by
  intro f hf j hj s hs e u he hu hstart
  by_cases hv : u.value = "./act"
  · rw [hv]; exact actMeta_ok
  · left
    simp [exProjA, hv]

example : (actionsRun exProjA ([fSteps1] ++ fSteps2 :: []) [])[1]? = some (actionsAlone exProjA fSteps2) :=
  actions_in_run_eq_alone exProjA [fSteps1] fSteps2 [] (exStepsOk _ (by simp))

example : ∃ calls acts, (callsRun exProj AL.PW.asciiLower ([fCallee, fCaller1] ++ fCaller2 :: []) [])[2]? = some calls ∧
      (actionsRun exProj ([fCallee, fCaller1] ++ fCaller2 :: []) [])[2]? = some acts ∧
      calls = callsAlone exProj AL.PW.asciiLower fCaller2 ∧ acts = actionsAlone exProj fCaller2 ∧
      diagsOf calls acts = diagsOf (callsAlone exProj AL.PW.asciiLower fCaller2) (actionsAlone exProj fCaller2) :=
  diags_in_run_eq_alone exProj AL.PW.asciiLower [fCallee, fCaller1] fCaller2 []
    (exAllOk.1 _ (by simp))
    (fun g hg => exAllOk.2 fCaller2 (by simp) g (by
      simp only [List.cons_append, List.nil_append, List.mem_cons, List.not_mem_nil, or_false] at hg
      rcases hg with rfl | rfl | rfl <;> simp))
    (exActOk _ (by simp))

example : callsRun exProj AL.PW.asciiLower [fCallee, fCaller1, fCaller2] [] =
      [fCallee, fCaller1, fCaller2].map (callsAlone exProj AL.PW.asciiLower) ∧
    actionsRun exProj [fCallee, fCaller1, fCaller2] [] = [fCallee, fCaller1, fCaller2].map (actionsAlone exProj) :=
  run_eq_map_alone exProj AL.PW.asciiLower _ exAllOk exActOk

end AL.C10F
