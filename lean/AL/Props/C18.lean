import AL.Model.Needs
import AL.Spec.Digraph
import AL.Lemmas.NeedsBasic
import AL.Lemmas.NeedsPrint
import AL.Lemmas.NeedsEval
/-
  C18 — job dependency checks are exact for every needs graph.
  Statements first (`def …_statement : Prop`), then example graphs, then the proofs — (f), (e), (d) first, because
  (a), (b), (c) share `cycleDiag_cases`.
-/
namespace AL.C18
open AL.Needs AL.Spec

/-- Every iteration order that visits all nodes. -/
def Covers (g : Graph) (order : List Nat) : Prop := ∀ v, v < g.length → v ∈ order

/-- (a) acyclic graphs get no cyclic-dependency diagnostic, whatever the map order. -/
def acyclic_none_statement : Prop :=
  ∀ (g : Graph) (order : List Nat), WF g → ¬ Cyclic g → cycleDiag g order = none

/-- (b) a graph with a cycle (self loop included) gets one, whatever the map order. -/
def cyclic_some_statement : Prop :=
  ∀ (g : Graph) (order : List Nat), WF g → Covers g order → Cyclic g → (cycleDiag g order).isSome

/-- (c) the printed cycle is a real cycle of the graph, reported at the position of its first job. -/
def printed_is_cycle_statement : Prop :=
  ∀ (g : Graph) (order : List Nat) (d : CycleDiag), WF g → cycleDiag g order = some d →
    ∃ vs, IsCycle g vs ∧ d.path = vs.map (idOf g) ∧ d.pos = posOf g (vs.headD 0) ∧
      ∀ v ∈ vs, ¬ (posOf g v).isBefore d.pos

/-- (d) the DFS answer never depends on the fuel: with `g.length` units no activation runs dry. -/
def fuel_irrelevant_statement : Prop :=
  ∀ (g : Graph) (st : List Status) (v : Nat) (f : Nat), WF g → st.length = g.length → st[v]? = some .new →
    g.length ≤ f → detectCyclicNode g f st v = detectCyclicNode g g.length st v

/-- (e) dangling references: exactly the (job, dependency) pairs whose dependency is not a job id. -/
def undefined_exact_statement : Prop :=
  ∀ (nodes : List RawNode) (p : P) (i d : String),
    Diag.undefined p i d ∈ (resolve nodes).2 ↔ ∃ n ∈ nodes, n.pos = p ∧ n.id = i ∧ d ∈ n.needs ∧ ∀ m ∈ nodes, m.id ≠ d

/-- (f) at most one cyclic-dependency diagnostic (that there is none when a reference dangles is shown on an example
below only). -/
def at_most_one_statement : Prop :=
  ∀ (lower : String → String) (jobs : List JobIn) (order : List Nat),
    ((check lower jobs order).filter (fun d => match d with | .cyclic _ => true | _ => false)).length ≤ 1

/-! ## Concrete instances used in the `example`s

Three small graphs show that the hypotheses of the theorems are satisfiable and what the functions
return on them. -/

/-- `a → b`, `b → c`, `c → b`: a 2-cycle `b ⇄ c` with the tail `a` (which is declared last). -/
def gTail : Graph :=
  [ { id := "a", pos := ⟨3, 1⟩, resolved := [1] },
    { id := "b", pos := ⟨1, 1⟩, resolved := [2] },
    { id := "c", pos := ⟨2, 1⟩, resolved := [1] } ]

/-- `a → b`, `b → b`: a self loop behind a tail. -/
def gSelf : Graph :=
  [ { id := "a", pos := ⟨1, 1⟩, resolved := [1] },
    { id := "b", pos := ⟨2, 1⟩, resolved := [1] } ]

/-- `a → b, c`, `b → c`: a DAG with a shortcut edge. -/
def gDag : Graph :=
  [ { id := "a", pos := ⟨1, 1⟩, resolved := [1, 2] },
    { id := "b", pos := ⟨2, 1⟩, resolved := [2] },
    { id := "c", pos := ⟨3, 1⟩, resolved := [] } ]

theorem wf_gTail : WF gTail := wf_of_wfCheck (by decide)
theorem wf_gSelf : WF gSelf := wf_of_wfCheck (by decide)
theorem wf_gDag : WF gDag := wf_of_wfCheck (by decide)

theorem covers_of_range {g : Graph} {order : List Nat} (h : ∀ v ∈ List.range g.length, v ∈ order) :
    Covers g order := fun v hv => h v (List.mem_range.2 hv)

theorem isCycle_gTail : IsCycle gTail [1, 2, 1] :=
  ⟨.cons 1 2 [1] (by decide) (by simp [Graph.succ, gTail])
      (.cons 2 1 [] (by decide) (by simp [Graph.succ, gTail]) (.single 1 (by decide))), by decide, rfl⟩

theorem isCycle_gSelf : IsCycle gSelf [1, 1] :=
  ⟨.cons 1 1 [] (by decide) (by simp [Graph.succ, gSelf]) (.single 1 (by decide)), by decide, rfl⟩

-- The model functions are defined by well-founded recursion, so `decide`/`rfl` do not reduce them; on literals the
-- kernel evaluates their counter-driven twins (AL.Lemmas.NeedsEval), with a counter that does not run out.

/-! ## Proofs -/

theorem at_most_one : at_most_one_statement := by
  intro lower jobs order
  -- no report of `VisitJobPre` or of the resolution loop is `cyclic`
  have h0 : (visitJobs lower jobs []).2.filter (fun d => match d with | .cyclic _ => true | _ => false) = [] :=
    List.filter_eq_nil_iff.2 fun d hd => by
      obtain ⟨_, _, ⟨_, _, rfl⟩ | ⟨_, rfl⟩⟩ := visitJobs_reports lower jobs [] d hd <;> exact Bool.false_ne_true
  have h1 : (resolve (visitJobs lower jobs []).1).2.filter (fun d => match d with | .cyclic _ => true | _ => false) = [] :=
    List.filter_eq_nil_iff.2 fun d hd => by
      obtain ⟨_, _, _, _, rfl⟩ := resolve_reports _ d hd
      exact Bool.false_ne_true
  unfold check
  simp only []
  split
  · rw [List.filter_append, h0, h1]
    exact Nat.zero_le 1
  · split
    · rw [List.filter_append, h0]
      exact Nat.le_refl 1
    · rw [h0]
      exact Nat.zero_le 1

/-- (f) on a workflow `a needs b`, `b needs a`: exactly one cyclic diagnostic; and with an additional
dangling reference `b needs zz` no cyclic diagnostic at all. -/
example :
    check id [⟨"a", ⟨1, 1⟩, ⟨1, 1⟩, [⟨"b", ⟨2, 5⟩⟩]⟩, ⟨"b", ⟨3, 1⟩, ⟨3, 1⟩, [⟨"a", ⟨4, 5⟩⟩]⟩] [0, 1]
      = [.cyclic { pos := ⟨1, 1⟩, path := ["a", "b", "a"] }] ∧
    check id [⟨"a", ⟨1, 1⟩, ⟨1, 1⟩, [⟨"b", ⟨2, 5⟩⟩]⟩, ⟨"b", ⟨3, 1⟩, ⟨3, 1⟩, [⟨"a", ⟨4, 5⟩⟩, ⟨"zz", ⟨4, 8⟩⟩]⟩] [0, 1]
      = [.undefined ⟨3, 1⟩ "b" "zz"] := by
  -- with a dangling reference the cycle search is never reached, and the kernel evaluates `check` itself
  exact ⟨checkG_eq _ _ _ 9 _ (by decide +kernel), by decide +kernel⟩

theorem undefined_exact : undefined_exact_statement := by
  intro nodes p i d
  simp only [resolve, List.mem_flatMap, List.mem_map, List.mem_filter]
  constructor
  · rintro ⟨n, hn, dep, ⟨hdep, hnone⟩, heq⟩
    cases heq
    exact ⟨n, hn, rfl, rfl, hdep, (indexOf?_isNone nodes _).1 hnone⟩
  · rintro ⟨n, hn, rfl, rfl, hd, hall⟩
    exact ⟨n, hn, d, ⟨hd, (indexOf?_isNone nodes d).2 hall⟩, rfl⟩

/-- (e) on `a needs [b, x]`, `b needs []`: exactly `x` dangles. -/
example :
    (resolve [⟨"a", ⟨1, 1⟩, ["b", "x"]⟩, ⟨"b", ⟨2, 1⟩, []⟩]).2 = [.undefined ⟨1, 1⟩ "a" "x"] := by
  decide +kernel

theorem fuel_irrelevant : fuel_irrelevant_statement := by
  intro g st v f _ hlen _ hf
  unfold detectCyclicNode
  have : countNew (setStatus st v .active) ≤ g.length := by
    have := countNew_le_length (setStatus st v .active)
    simpa [setStatus, hlen] using this
  exact visitList_fuel_irrel g f g.length _ v _ (by omega) this

/-- (d) on the 2-cycle with tail, all nodes new, root `a`: hypotheses hold, and the DFS finds the back
edge `c → b` with all three nodes on the stack, for fuel 3 and for fuel 7. -/
example : WF gTail ∧ [Status.new, .new, .new].length = gTail.length ∧
    [Status.new, .new, .new][0]? = some .new ∧ gTail.length ≤ 7 ∧
    detectCyclicNode gTail 7 [.new, .new, .new] 0 = (some (2, 1), [.active, .active, .active]) ∧
    detectCyclicNode gTail gTail.length [.new, .new, .new] 0 = (some (2, 1), [.active, .active, .active]) := by
  exact ⟨wf_gTail, rfl, rfl, by decide, visitListG_eq gTail 9 7 _ 0 _ _ (by decide +kernel),
    visitListG_eq gTail 9 gTail.length _ 0 _ _ (by decide +kernel)⟩

/-- Common core of (a), (b), (c): what `cycleDiag` returns, by the result of the root loop. -/
theorem cycleDiag_cases (g : Graph) (order : List Nat) (hwf : WF g) :
    (cycleDiag g order = none ∧ ∃ st, detectFirstCycle g order (g.map fun _ => Status.new) = (none, st)) ∨
    ∃ vs, IsCycle g vs ∧
      cycleDiag g order = some { pos := posOf g (vs.headD 0), path := vs.map (idOf g) } ∧
      ∀ v ∈ vs, (posOf g v).isBefore (posOf g (vs.headD 0)) = false := by
  rcases hres : detectFirstCycle g order (g.map fun _ => Status.new) with ⟨r, st⟩
  cases r with
  | none => exact Or.inl ⟨cycleDiag_of_none hres, st, rfl⟩
  | some e =>
    obtain ⟨a, b⟩ := e
    have h := detectFirstCycle_spec hwf order (topInv_init g)
    rw [hres] at h
    exact Or.inr (cycleDiag_of_found hres h)

theorem printed_is_cycle : printed_is_cycle_statement := by
  intro g order d hwf hd
  rcases cycleDiag_cases g order hwf with ⟨hnone, _⟩ | ⟨vs, hcyc, hsome, hmin⟩
  · rw [hnone] at hd; cases hd
  · rw [hsome] at hd
    cases hd
    exact ⟨vs, hcyc, rfl, rfl, fun v hv => by rw [hmin v hv]; exact Bool.false_ne_true⟩

theorem cycleDiag_gTail : cycleDiag gTail [0, 1, 2] = some { pos := ⟨1, 1⟩, path := ["b", "c", "b"] } :=
  cycleDiagG_eq _ _ 9 _ (by decide +kernel)

/-- (c) on the 2-cycle with tail: the witness is `b → c → b`, reported at `b` (the earliest position
on the cycle; the tail `a` is not mentioned). -/
example : cycleDiag gTail [0, 1, 2] = some { pos := ⟨1, 1⟩, path := ["b", "c", "b"] } ∧
    IsCycle gTail [1, 2, 1] ∧ ["b", "c", "b"] = [1, 2, 1].map (idOf gTail) ∧
    (⟨1, 1⟩ : P) = posOf gTail ([1, 2, 1].headD 0) ∧
    ∀ v ∈ [1, 2, 1], ¬ (posOf gTail v).isBefore ⟨1, 1⟩ :=
  ⟨cycleDiag_gTail, isCycle_gTail, rfl, rfl, by decide⟩

/-- (c) on the self loop: the printed cycle is `b → b`. -/
example : cycleDiag gSelf [0, 1] = some { pos := ⟨2, 1⟩, path := ["b", "b"] } ∧ IsCycle gSelf [1, 1] :=
  ⟨cycleDiagG_eq _ _ 9 _ (by decide +kernel), isCycle_gSelf⟩

theorem acyclic_none : acyclic_none_statement := by
  intro g order hwf hac
  rcases cycleDiag_cases g order hwf with ⟨hnone, _⟩ | ⟨vs, hcyc, _, _⟩
  · exact hnone
  · exact absurd ⟨vs, hcyc⟩ hac

theorem cyclic_some : cyclic_some_statement := by
  intro g order hwf hcov hcyc
  rcases cycleDiag_cases g order hwf with ⟨_, st, hnone⟩ | ⟨vs, _, hsome, _⟩
  · obtain ⟨a, b, st', hsome⟩ := detectFirstCycle_of_cyclic hwf hcov hcyc
    rw [hnone] at hsome
    cases hsome
  · rw [hsome]; rfl

/-- (b) on the 2-cycle with tail: two different map orders, same diagnostic. -/
example : WF gTail ∧ Covers gTail [0, 1, 2] ∧ Cyclic gTail ∧
    cycleDiag gTail [0, 1, 2] = some { pos := ⟨1, 1⟩, path := ["b", "c", "b"] } ∧
    cycleDiag gTail [2, 1, 0] = some { pos := ⟨1, 1⟩, path := ["b", "c", "b"] } :=
  ⟨wf_gTail, covers_of_range (by decide), ⟨_, isCycle_gTail⟩, cycleDiag_gTail, cycleDiagG_eq _ _ 9 _ (by decide +kernel)⟩

/-- (b) on the self loop. -/
example : WF gSelf ∧ Covers gSelf [1, 0] ∧ Cyclic gSelf ∧
    cycleDiag gSelf [1, 0] = some { pos := ⟨2, 1⟩, path := ["b", "b"] } :=
  ⟨wf_gSelf, covers_of_range (by decide), ⟨_, isCycle_gSelf⟩, cycleDiagG_eq _ _ 9 _ (by decide +kernel)⟩

/-- (b) really needs `Covers`: an order that misses the cycle reports nothing. -/
example : Cyclic gSelf ∧ cycleDiag gSelf [] = none := ⟨⟨_, isCycle_gSelf⟩, cycleDiagG_eq _ _ 9 _ (by decide +kernel)⟩

theorem cycleDiag_gDag : cycleDiag gDag [2, 0, 1] = none := cycleDiagG_eq _ _ 9 _ (by decide +kernel)

/-- The DAG is acyclic: by (b), a cycle would force a diagnostic. -/
theorem acyclic_gDag : ¬ Cyclic gDag := by
  intro h
  have := cyclic_some gDag [2, 0, 1] wf_gDag (covers_of_range (by decide)) h
  rw [cycleDiag_gDag] at this
  cases this

/-- (a) on the DAG: the hypotheses hold and nothing is reported, also for a partial or repetitive
order. -/
example : WF gDag ∧ ¬ Cyclic gDag ∧ cycleDiag gDag [2, 0, 1] = none ∧ cycleDiag gDag [1, 1, 7] = none :=
  ⟨wf_gDag, acyclic_gDag, acyclic_none gDag _ wf_gDag acyclic_gDag, acyclic_none gDag _ wf_gDag acyclic_gDag⟩

end AL.C18
