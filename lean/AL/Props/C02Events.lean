import AL.Model.Visit
import AL.Lemmas.VisitEvents
/-
  C02 / C05 — the `on:` section in the model of rule_expression.go's VisitWorkflowPre (AL/Model/Visit.lean):
  the inputs of `workflow_dispatch` live in a Go map, so the order in which they are visited is arbitrary; their
  strings are checked while `inputs` is not yet updated, so that order cannot be observed. The inputs of
  `workflow_call` are visited in source order and each default sees exactly the inputs declared before it.
  Statements first (`def …_statement : Prop`), their proofs after them.
-/
namespace AL.Props.C02Events
open AL AL.Sema AL.Visit

/-- (a) visiting the workflow_dispatch inputs in another order only permutes the diagnostics (the final stable sort by
position then fixes the order) -/
def dispatch_order_diags_statement : Prop :=
  ∀ (lower : String → String) (hdr : Header) (ins ins' : List DispatchInput), ins.Perm ins' →
    (runEvent lower hdr (.dispatch ins')).2.Perm (runEvent lower hdr (.dispatch ins)).2

/-- (b) … and, for distinct ids, the `inputs` object that later strings see is the same -/
def dispatch_order_type_statement : Prop :=
  ∀ (ins ins' : List DispatchInput), ins.Perm ins' → (ins.map (·.id)).Nodup →
    objOf (ins'.map fun i => (i.id, i.ty)) = objOf (ins.map fun i => (i.id, i.ty))

/-- (c) every string of a workflow_dispatch input is checked under the header as it was BEFORE the event -/
def dispatch_strings_see_old_header_statement : Prop :=
  ∀ (lower : String → String) (hdr : Header) (ins : List DispatchInput),
    (runEvent lower hdr (.dispatch ins)).2 = ins.flatMap fun i => i.probes.map (checkProbe lower hdr none St.init)

/-- (d) the default of a workflow_call input is checked with exactly the inputs declared before it in scope, and the
defaults of later inputs do not change what was reported for it -/
def call_default_scope_statement : Prop :=
  ∀ (lower : String → String) (hdr : Header) (acc : List (String × Ty)) (pre post : List CallInput) (i : CallInput) (p : Probe),
    i.dflt = some p →
    runCallDefaults lower hdr acc (pre ++ i :: post) =
      runCallDefaults lower hdr acc pre ++
      [checkProbe lower { hdr with callInputs := some (acc ++ pre.map fun x => (x.id, x.ty)) } none St.init p] ++
      runCallDefaults lower hdr (acc ++ (pre ++ [i]).map fun x => (x.id, x.ty)) post

/-! ### proofs -/

theorem dispatch_strings_see_old_header : dispatch_strings_see_old_header_statement := by
  intro lower hdr ins
  rfl

theorem dispatch_order_diags : dispatch_order_diags_statement := by
  intro lower hdr ins ins' hp
  show (ins'.flatMap fun i => i.probes.map (checkProbe lower hdr none St.init)).Perm
    (ins.flatMap fun i => i.probes.map (checkProbe lower hdr none St.init))
  exact hp.symm.flatMap_right _

/-- the fold of `Ty.setProp` from `[]` yields THE key-sorted list with the given bindings (`AL.Visit.keySorted_ext`),
so `setProp`s for different keys commute and the order of a list with distinct keys is not observable -/
theorem dispatch_order_type : dispatch_order_type_statement := by
  intro ins ins' hp hnd
  refine objOf_perm (hp.map _) ?_
  simpa [List.map_map, Function.comp_def] using hnd

theorem call_default_scope : call_default_scope_statement := by
  intro lower hdr acc pre post i p hp
  rw [runCallDefaults_append]
  simp [runCallDefaults, hp, List.map_append, List.append_assoc]

/-! ### non-vacuity -/

/-- both orders give the same object, with the keys in sorted order -/
example : objOf [("who", .string), ("flag", .bool)] = .obj [("flag", .bool), ("who", .string)] none := by rfl
example : objOf [("flag", .bool), ("who", .string)] = .obj [("flag", .bool), ("who", .string)] none := by
  simp [objOf, Ty.setProp]

/-- the theorem applies to a real permutation (hypotheses satisfiable) -/
example : objOf ([⟨"flag", .bool, []⟩, ⟨"who", .string, []⟩].map fun i : DispatchInput => (i.id, i.ty)) =
    objOf ([⟨"who", .string, []⟩, ⟨"flag", .bool, []⟩].map fun i : DispatchInput => (i.id, i.ty)) :=
  dispatch_order_type _ _ (List.Perm.swap _ _ _) (by simp)

/-- the distinct-ids hypothesis of (b) is needed: with a repeated id the last visited one wins -/
example : objOf [("a", .string), ("a", .bool)] ≠ objOf [("a", .bool), ("a", .string)] := by
  simp [objOf, Ty.setProp]

/-- (d) on a concrete list: the default of the second input sees exactly the first input -/
example (lower : String → String) (hdr : Header) (p : Probe) :
    runCallDefaults lower hdr [] [⟨"a", .string, none⟩, ⟨"b", .bool, some p⟩] =
      [checkProbe lower { hdr with callInputs := some [("a", .string)] } none St.init p] := by
  have h := call_default_scope lower hdr [] [⟨"a", .string, none⟩] [] ⟨"b", .bool, some p⟩ p rfl
  simp [runCallDefaults] at h ⊢

end AL.Props.C02Events
