import AL.Props.C18
import AL.Props.C08Parse
import AL.Model.Rules
import AL.Lemmas.NeedsEval
/-
  C18 on what the rule really runs on. The C18 theorems are stated for a graph `g` under `WF g` ("every resolved
  dependency is a node index") and for an iteration order under `Covers g order`. Here:

  * the graph `RuleJobNeeds` builds (`resolve` of the nodes `visitJobs` collects) is ALWAYS well-formed, and the order
    `ruleJobNeeds` uses (`List.range jobs.length`) ALWAYS covers it — for every job list, hence for every parsed workflow;
  * so `acyclic_none` / `cyclic_some` / `printed_is_cycle` / `undefined_exact` / `at_most_one` are restated for
    `AL.Needs.check` (`check_acyclic_none` … `check_at_most_one`) and for `AL.Rules.ruleJobNeeds` (`rule_cyclic_iff`,
    `rule_printed_is_cycle`, `rule_undefined_exact`, `rule_at_most_one`) with NO hypothesis on the graph or on the order;
  * for a workflow that comes out of the parser (`parse cfg doc`), the folded job ids are pairwise distinct
    (`parseMapping` drops a repeated key, `jobs_keys_folded`): the nodes of the graph are exactly the jobs, in source
    order, and the rule's own `job-id-duplicate` report can never fire (`parsed_job_ids_nodup`, `parsed_nodes`,
    `parsed_no_dupJob`, `parsed_undefined_exact`).
-/
namespace AL.C18P
open AL.Needs AL.Spec AL.C18

/-! ## the graph is well-formed, the order covers it — for every job list -/

theorem resolve_wf (nodes : List RawNode) : WF (resolve nodes).1 := Needs.resolve_wf nodes

theorem resolve_length (nodes : List RawNode) : (resolve nodes).1.length = nodes.length := by
  simp [resolve]

/-- every job adds at most one node -/
theorem visitJobs_length_le (lower : String → String) (jobs : List JobIn) (nodes : List RawNode) :
    (visitJobs lower jobs nodes).1.length ≤ nodes.length + jobs.length := by
  induction jobs generalizing nodes with
  | nil => simp [visitJobs]
  | cons j rest ih =>
    simp only [visitJobs]
    split
    · have := ih nodes
      simp only [List.length_cons]
      omega
    · split
      · refine Nat.le_trans (ih _) ?_
        simp only [List.length_map, List.length_cons]
        omega
      · refine Nat.le_trans (ih _) ?_
        simp only [List.length_append, List.length_cons, List.length_nil]
        omega

/-- the nodes of a job list and its graph -/
def nodesOf (lower : String → String) (jobs : List JobIn) : List RawNode := (visitJobs lower jobs []).1
def graphOf (lower : String → String) (jobs : List JobIn) : Graph := (resolve (nodesOf lower jobs)).1

theorem graphOf_wf (lower : String → String) (jobs : List JobIn) : WF (graphOf lower jobs) := resolve_wf _

/-- the order `ruleJobNeeds` hands to the model visits every node -/
theorem covers_range (lower : String → String) (jobs : List JobIn) :
    Covers (graphOf lower jobs) (List.range jobs.length) := by
  intro v hv
  rw [graphOf, resolve_length] at hv
  have := visitJobs_length_le lower jobs []
  simp only [nodesOf] at hv
  simp only [List.length_nil, Nat.zero_add] at this
  exact List.mem_range.2 (by omega)

/-! ## `AL.Needs.check`, every job list, every order: no hypothesis left -/

theorem check_eq (lower : String → String) (jobs : List JobIn) (order : List Nat) :
    check lower jobs order =
      if !(resolve (nodesOf lower jobs)).2.isEmpty then (visitJobs lower jobs []).2 ++ (resolve (nodesOf lower jobs)).2
      else match cycleDiag (graphOf lower jobs) order with
        | some c => (visitJobs lower jobs []).2 ++ [.cyclic c]
        | none => (visitJobs lower jobs []).2 := by
  rfl

theorem normNeeds_no_undefined (lower : String → String) (ns : List NeedRef) (acc : List String) :
    ∀ d ∈ (normNeeds lower ns acc).2, ∃ p v, d = .dupNeeds p v :=
  fun d hd => (normNeeds_reports lower ns acc d hd).elim fun r h => ⟨r.pos, r.value, h.2⟩

/-- `VisitJobPre` only reports repeated `needs:` entries and repeated job ids -/
theorem visitJobs_diags (lower : String → String) (jobs : List JobIn) (nodes : List RawNode) :
    ∀ d ∈ (visitJobs lower jobs nodes).2, (∃ p v, d = .dupNeeds p v) ∨ (∃ p v q, d = .dupJob p v q) := by
  intro d hd
  obtain ⟨j, _, ⟨r, _, e⟩ | ⟨q, e⟩⟩ := visitJobs_reports lower jobs nodes d hd
  · exact .inl ⟨_, _, e⟩
  · exact .inr ⟨_, _, _, e⟩

theorem resolve_diags (nodes : List RawNode) : ∀ d ∈ (resolve nodes).2, ∃ p i dep, d = .undefined p i dep := by
  intro d hd
  obtain ⟨n, _, dep, _, e⟩ := resolve_reports nodes d hd
  exact ⟨_, _, _, e⟩

/-- a report of `check`: one of `VisitJobPre`, or a dangling reference, or — nothing dangling — the cycle found -/
theorem mem_check (lower : String → String) (jobs : List JobIn) (order : List Nat) (d : Diag) :
    d ∈ check lower jobs order ↔ d ∈ (visitJobs lower jobs []).2 ∨ d ∈ (resolve (nodesOf lower jobs)).2 ∨
      ((resolve (nodesOf lower jobs)).2 = [] ∧ ∃ c, cycleDiag (graphOf lower jobs) order = some c ∧ d = .cyclic c) := by
  rw [check_eq]
  cases hd : (resolve (nodesOf lower jobs)).2 with
  | nil => cases cycleDiag (graphOf lower jobs) order <;> simp
  | cons x xs => simp

/-- the cyclic-dependency report of `check`: present iff no reference dangles and `cycleDiag` finds one -/
theorem cyclic_mem_check (lower : String → String) (jobs : List JobIn) (order : List Nat) (c : CycleDiag) :
    Diag.cyclic c ∈ check lower jobs order ↔
      (resolve (nodesOf lower jobs)).2 = [] ∧ cycleDiag (graphOf lower jobs) order = some c := by
  rw [mem_check]
  constructor
  · rintro (h | h | ⟨h, c', hc, e⟩)
    · rcases visitJobs_diags lower jobs [] _ h with ⟨_, _, e⟩ | ⟨_, _, _, e⟩ <;> cases e
    · obtain ⟨_, _, _, e⟩ := resolve_diags _ _ h; cases e
    · cases e; exact ⟨h, hc⟩
  · exact fun ⟨h, hc⟩ => .inr (.inr ⟨h, c, hc, rfl⟩)

/-- the dangling-reference reports of `check` are those of the resolution loop -/
theorem undefined_mem_check (lower : String → String) (jobs : List JobIn) (order : List Nat) (p : P) (i dep : String) :
    Diag.undefined p i dep ∈ check lower jobs order ↔ Diag.undefined p i dep ∈ (resolve (nodesOf lower jobs)).2 := by
  rw [mem_check]
  constructor
  · rintro (h | h | ⟨_, _, _, e⟩)
    · rcases visitJobs_diags lower jobs [] _ h with ⟨_, _, e⟩ | ⟨_, _, _, e⟩ <;> cases e
    · exact h
    · cases e
  · exact fun h => .inr (.inl h)

/-- the reports of `VisitJobPre` come first, whatever follows -/
theorem visitJobs_mem_check (lower : String → String) (jobs : List JobIn) (order : List Nat) (d : Diag)
    (hd : (∃ p v, d = .dupNeeds p v) ∨ (∃ p v q, d = .dupJob p v q)) :
    d ∈ check lower jobs order ↔ d ∈ (visitJobs lower jobs []).2 := by
  rw [mem_check]
  constructor
  · rintro (h | h | ⟨_, _, _, e⟩)
    · exact h
    · obtain ⟨_, _, _, e⟩ := resolve_diags _ _ h
      rcases hd with ⟨_, _, e'⟩ | ⟨_, _, _, e'⟩ <;> (rw [e] at e'; cases e')
    · rcases hd with ⟨_, _, e'⟩ | ⟨_, _, _, e'⟩ <;> (rw [e] at e'; cases e')
  · exact .inl

/-- **C18 (a)**, no hypothesis: an acyclic needs graph gets no cyclic-dependency report, whatever the map order. -/
theorem check_acyclic_none (lower : String → String) (jobs : List JobIn) (order : List Nat)
    (h : ¬ Cyclic (graphOf lower jobs)) : ∀ c, Diag.cyclic c ∉ check lower jobs order := by
  intro c hc
  have := ((cyclic_mem_check lower jobs order c).1 hc).2
  rw [acyclic_none _ order (graphOf_wf lower jobs) h] at this
  cases this

/-- **C18 (b)**, no hypothesis: a needs graph with a cycle (and no dangling reference, which pre-empts the cycle check)
gets a cyclic-dependency report under the order the rule uses — and under every order that visits all nodes. -/
theorem check_cyclic_some (lower : String → String) (jobs : List JobIn) (order : List Nat)
    (hcov : Covers (graphOf lower jobs) order)
    (hu : (resolve (nodesOf lower jobs)).2 = []) (h : Cyclic (graphOf lower jobs)) :
    ∃ c, Diag.cyclic c ∈ check lower jobs order := by
  obtain ⟨c, hc⟩ := Option.isSome_iff_exists.1 (cyclic_some _ order (graphOf_wf lower jobs) hcov h)
  exact ⟨c, (cyclic_mem_check lower jobs order c).2 ⟨hu, hc⟩⟩

theorem check_cyclic_some_range (lower : String → String) (jobs : List JobIn)
    (hu : (resolve (nodesOf lower jobs)).2 = []) (h : Cyclic (graphOf lower jobs)) :
    ∃ c, Diag.cyclic c ∈ check lower jobs (List.range jobs.length) :=
  check_cyclic_some lower jobs _ (covers_range lower jobs) hu h

/-- (a) and (b) together, for every order that visits all nodes -/
theorem check_cyclic_iff_of_covers (lower : String → String) (jobs : List JobIn) (o : List Nat)
    (ho : Covers (graphOf lower jobs) o) :
    (∃ c, Diag.cyclic c ∈ check lower jobs o) ↔ (resolve (nodesOf lower jobs)).2 = [] ∧ Cyclic (graphOf lower jobs) := by
  constructor
  · rintro ⟨c, hc⟩
    refine ⟨((cyclic_mem_check lower jobs _ c).1 hc).1, ?_⟩
    apply Classical.byContradiction
    intro hn
    exact check_acyclic_none lower jobs _ hn c hc
  · rintro ⟨hu, h⟩
    exact check_cyclic_some lower jobs o ho hu h

/-- … and for the order the rule uses -/
theorem check_cyclic_iff (lower : String → String) (jobs : List JobIn) :
    (∃ c, Diag.cyclic c ∈ check lower jobs (List.range jobs.length)) ↔
      (resolve (nodesOf lower jobs)).2 = [] ∧ Cyclic (graphOf lower jobs) :=
  check_cyclic_iff_of_covers lower jobs _ (covers_range lower jobs)

/-- whether a cycle is reported does not depend on the map order (among the orders that visit every node) -/
theorem check_cyclic_order_irrelevant (lower : String → String) (jobs : List JobIn) (o₁ o₂ : List Nat)
    (h₁ : Covers (graphOf lower jobs) o₁) (h₂ : Covers (graphOf lower jobs) o₂) :
    (∃ c, Diag.cyclic c ∈ check lower jobs o₁) ↔ (∃ c, Diag.cyclic c ∈ check lower jobs o₂) := by
  rw [check_cyclic_iff_of_covers lower jobs o₁ h₁, check_cyclic_iff_of_covers lower jobs o₂ h₂]

/-- **C18 (c)**, no hypothesis: the printed cycle is a real cycle of the needs graph, reported at the position of its
first job. -/
theorem check_printed_is_cycle (lower : String → String) (jobs : List JobIn) (order : List Nat) (d : CycleDiag)
    (h : Diag.cyclic d ∈ check lower jobs order) :
    ∃ vs, IsCycle (graphOf lower jobs) vs ∧ d.path = vs.map (idOf (graphOf lower jobs)) ∧
      d.pos = posOf (graphOf lower jobs) (vs.headD 0) ∧
      ∀ v ∈ vs, ¬ (posOf (graphOf lower jobs) v).isBefore d.pos :=
  printed_is_cycle _ order d (graphOf_wf lower jobs) ((cyclic_mem_check lower jobs order d).1 h).2

/-- **C18 (e)** at the level of `check`: exactly the (job, dependency) pairs whose dependency is not a job id. -/
theorem check_undefined_exact (lower : String → String) (jobs : List JobIn) (order : List Nat) (p : P) (i d : String) :
    Diag.undefined p i d ∈ check lower jobs order ↔
      ∃ n ∈ nodesOf lower jobs, n.pos = p ∧ n.id = i ∧ d ∈ n.needs ∧ ∀ m ∈ nodesOf lower jobs, m.id ≠ d := by
  rw [undefined_mem_check]
  exact undefined_exact (nodesOf lower jobs) p i d

/-- **C18 (f)**, no hypothesis: at most one cyclic report. -/
theorem check_at_most_one (lower : String → String) (jobs : List JobIn) (order : List Nat) :
    ((check lower jobs order).filter (fun d => match d with | .cyclic _ => true | _ => false)).length ≤ 1 :=
  at_most_one lower jobs order

/-- (f), second half: a dangling reference pre-empts the cycle check -/
theorem check_undefined_no_cyclic (lower : String → String) (jobs : List JobIn) (order : List Nat) (p : P) (i d : String)
    (h : Diag.undefined p i d ∈ check lower jobs order) : ∀ c, Diag.cyclic c ∉ check lower jobs order := by
  intro c hc
  have h1 := (undefined_mem_check lower jobs order p i d).1 h
  rw [((cyclic_mem_check lower jobs order c).1 hc).1] at h1
  cases h1

/-! ## `AL.Rules.ruleJobNeeds` on the AST, every workflow -/

open AL.Ast AL.Rules in
/-- the job list `ruleJobNeeds` hands to the model -/
def jobsIn (w : Workflow) : List JobIn := (Rules.jobsOf w).map Rules.needsJobIn

open AL.Ast in
theorem ruleJobNeeds_eq (lower : String → String) (w : Workflow) :
    Rules.ruleJobNeeds lower w = (check lower (jobsIn w) (List.range (jobsIn w).length)).map Rules.needsDiag := rfl

open AL.Ast in
/-- the rule on a concrete workflow, by evaluation: `hj` is the job list (where the parser was evaluated apart, that
equation; else `rfl`), `h` the result of `checkG`, the gas sufficing -/
theorem ruleJobNeeds_eval (lower : String → String) (w : Workflow) (jobs : List JobIn) (gas : Nat) (out : List Rules.Diag)
    (hj : jobsIn w = jobs)
    (h : (checkG lower jobs (List.range jobs.length) gas).map (List.map Rules.needsDiag) = some out) :
    Rules.ruleJobNeeds lower w = out := by
  obtain ⟨ds, hd, rfl⟩ := Option.map_eq_some_iff.1 h
  rw [ruleJobNeeds_eq, hj, checkG_eq _ _ _ _ _ hd]

theorem needsDiag_code (x : Diag) :
    ((Rules.needsDiag x).code = "needs-cyclic" ↔ ∃ c, x = .cyclic c) ∧
    ((Rules.needsDiag x).code = "needs-undefined" ↔ ∃ p i d, x = .undefined p i d) ∧
    ((Rules.needsDiag x).code = "job-id-duplicate" ↔ ∃ p v q, x = .dupJob p v q) ∧
    ((Rules.needsDiag x).code = "needs-duplicate" ↔ ∃ p v, x = .dupNeeds p v) := by
  cases x <;> simp [Rules.needsDiag]

theorem ofNP_inj (p q : P) (h : Rules.ofNP p = Rules.ofNP q) : p = q := by
  cases p; cases q
  simp only [Rules.ofNP, AL.Matrix.P.mk.injEq] at h
  simp [h.1, h.2]

open AL.Ast in
/-- no `needs-undefined` report iff the resolution loop found nothing dangling -/
theorem no_undefined_iff (lower : String → String) (w : Workflow) :
    (∀ d ∈ Rules.ruleJobNeeds lower w, d.code ≠ "needs-undefined") ↔ (resolve (nodesOf lower (jobsIn w))).2 = [] := by
  rw [ruleJobNeeds_eq]
  constructor
  · intro h
    cases hd : (resolve (nodesOf lower (jobsIn w))).2 with
    | nil => rfl
    | cons x xs =>
      exfalso
      obtain ⟨p, i, dep, rfl⟩ := resolve_diags _ x (by rw [hd]; simp)
      have hx : Diag.undefined p i dep ∈ check lower (jobsIn w) (List.range (jobsIn w).length) :=
        (undefined_mem_check _ _ _ _ _ _).2 (by rw [hd]; simp)
      exact h _ (List.mem_map.2 ⟨_, hx, rfl⟩) rfl
  · intro h d hd hc
    obtain ⟨x, hx, rfl⟩ := List.mem_map.1 hd
    obtain ⟨p, i, dep, rfl⟩ := (needsDiag_code x).2.1.1 hc
    have := (undefined_mem_check _ _ _ _ _ _).1 hx
    rw [h] at this
    cases this

open AL.Ast in
/-- **C18 (a)+(b) for the rule**, every workflow, no hypothesis: `needs-cyclic` is reported iff no `needs-undefined` is and
the needs graph has a cycle. -/
theorem rule_cyclic_iff (lower : String → String) (w : Workflow) :
    (∃ d ∈ Rules.ruleJobNeeds lower w, d.code = "needs-cyclic") ↔
      (∀ d ∈ Rules.ruleJobNeeds lower w, d.code ≠ "needs-undefined") ∧ Cyclic (graphOf lower (jobsIn w)) := by
  rw [no_undefined_iff, ← check_cyclic_iff, ruleJobNeeds_eq]
  constructor
  · rintro ⟨d, hd, hc⟩
    obtain ⟨x, hx, rfl⟩ := List.mem_map.1 hd
    obtain ⟨c, rfl⟩ := (needsDiag_code x).1.1 hc
    exact ⟨c, hx⟩
  · rintro ⟨c, hc⟩
    exact ⟨_, List.mem_map.2 ⟨_, hc, rfl⟩, rfl⟩

open AL.Ast in
/-- C18 (a): one direction of `rule_cyclic_iff` -/
theorem rule_acyclic_none (lower : String → String) (w : Workflow) (h : ¬ Cyclic (graphOf lower (jobsIn w))) :
    ∀ d ∈ Rules.ruleJobNeeds lower w, d.code ≠ "needs-cyclic" :=
  fun d hd hc => h ((rule_cyclic_iff lower w).1 ⟨d, hd, hc⟩).2

open AL.Ast in
/-- C18 (b): the other direction -/
theorem rule_cyclic_some (lower : String → String) (w : Workflow)
    (hu : ∀ d ∈ Rules.ruleJobNeeds lower w, d.code ≠ "needs-undefined") (h : Cyclic (graphOf lower (jobsIn w))) :
    ∃ d ∈ Rules.ruleJobNeeds lower w, d.code = "needs-cyclic" :=
  (rule_cyclic_iff lower w).2 ⟨hu, h⟩

open AL.Ast in
/-- **C18 (c) for the rule**: the message of a `needs-cyclic` report spells a real cycle of the needs graph, and the report
is at the earliest job id on it. -/
theorem rule_printed_is_cycle (lower : String → String) (w : Workflow) (d : Rules.Diag)
    (hd : d ∈ Rules.ruleJobNeeds lower w) (hc : d.code = "needs-cyclic") :
    ∃ vs, IsCycle (graphOf lower (jobsIn w)) vs ∧
      d.args = [",".intercalate (vs.map (idOf (graphOf lower (jobsIn w))))] ∧
      d.pos = Rules.ofNP (posOf (graphOf lower (jobsIn w)) (vs.headD 0)) ∧
      ∀ v ∈ vs, ¬ (posOf (graphOf lower (jobsIn w)) v).isBefore (posOf (graphOf lower (jobsIn w)) (vs.headD 0)) := by
  rw [ruleJobNeeds_eq] at hd
  obtain ⟨x, hx, rfl⟩ := List.mem_map.1 hd
  obtain ⟨c, rfl⟩ := (needsDiag_code x).1.1 hc
  obtain ⟨vs, h1, h2, h3, h4⟩ := check_printed_is_cycle lower _ _ c hx
  refine ⟨vs, h1, ?_, ?_, ?_⟩
  · simp [Rules.needsDiag, h2]
  · simp [Rules.needsDiag, h3]
  · rw [← h3]; exact h4

open AL.Ast in
/-- **C18 (e) for the rule**: `needs-undefined` exactly for the (job, dependency) pairs whose dependency is no job id. -/
theorem rule_undefined_exact (lower : String → String) (w : Workflow) (pos : Rules.Pos) (i dep : String) :
    (⟨pos, "job-needs", "needs-undefined", [i, dep]⟩ : Rules.Diag) ∈ Rules.ruleJobNeeds lower w ↔
      ∃ n ∈ nodesOf lower (jobsIn w), Rules.ofNP n.pos = pos ∧ n.id = i ∧ dep ∈ n.needs ∧
        ∀ m ∈ nodesOf lower (jobsIn w), m.id ≠ dep := by
  rw [ruleJobNeeds_eq]
  constructor
  · intro h
    obtain ⟨x, hx, e⟩ := List.mem_map.1 h
    have hc : (Rules.needsDiag x).code = "needs-undefined" := by rw [e]
    obtain ⟨p, i', d', rfl⟩ := (needsDiag_code x).2.1.1 hc
    simp only [Rules.needsDiag, Rules.Diag.mk.injEq, List.cons.injEq, and_true, true_and] at e
    obtain ⟨hp, hi, hd⟩ := e
    subst hi hd
    obtain ⟨n, hn, h1, h2, h3, h4⟩ := (check_undefined_exact lower _ _ p i' d').1 hx
    exact ⟨n, hn, by rw [h1, hp], h2, h3, h4⟩
  · rintro ⟨n, hn, h1, h2, h3, h4⟩
    refine List.mem_map.2 ⟨.undefined n.pos i dep, (check_undefined_exact lower _ _ _ _ _).2 ⟨n, hn, rfl, h2, h3, h4⟩, ?_⟩
    simp [Rules.needsDiag, h1]

open AL.Ast in
/-- **C18 (f) for the rule**: at most one `needs-cyclic` report … -/
theorem rule_at_most_one (lower : String → String) (w : Workflow) :
    ((Rules.ruleJobNeeds lower w).filter (fun d => d.code = "needs-cyclic")).length ≤ 1 := by
  rw [ruleJobNeeds_eq, List.filter_map, List.length_map]
  have : ((fun d : Rules.Diag => decide (d.code = "needs-cyclic")) ∘ Rules.needsDiag) =
      (fun d => match d with | .cyclic _ => true | _ => false) := by
    funext x; cases x <;> simp [Rules.needsDiag]
  rw [this]
  exact check_at_most_one lower _ _

open AL.Ast in
/-- … and none next to a `needs-undefined` report -/
theorem rule_undefined_no_cyclic (lower : String → String) (w : Workflow) (d : Rules.Diag)
    (hd : d ∈ Rules.ruleJobNeeds lower w) (hc : d.code = "needs-undefined") :
    ∀ d' ∈ Rules.ruleJobNeeds lower w, d'.code ≠ "needs-cyclic" := by
  intro d' hd' hc'
  exact ((rule_cyclic_iff lower w).1 ⟨d', hd', hc'⟩).1 d hd hc

/-! ## workflows that come out of the parser: folded job ids are distinct, the nodes are the jobs -/

section Parsed
open AL.PW AL.Yaml AL.Ast

theorem mapKVs_keys {β : Type} (f : KV → R β) (kvs : List KV) : (mapKVs f kvs).1.map (·.1) = kvs.map (·.id) := by
  rw [mapKVs_mapR, mapR_fst, List.map_map]
  rfl

/-- the keys of `Workflow.Jobs` are pairwise distinct: `parseMapping` drops a repeated (folded) job id -/
theorem parseJobs_keys_nodup (cfg : Cfg) (n : Yaml.Node) : ((parseJobs cfg n).1.map (·.1)).Nodup := by
  simp only [parseJobs, mapKVs_keys]
  exact C03P.parseMapping_nodup cfg _ n false false

/-- `Workflow.Jobs` of a parsed workflow is a result of `parseJobs` -/
theorem parse_jobs (cfg : Cfg) (doc : Yaml.Node) :
    ∀ jobs, (parse cfg doc).1.jobs = some jobs → ∃ n, jobs = (parseJobs cfg n).1 := by
  simp only [parse]
  split
  · intro jobs e; cases e
  · apply C13P.loop_inv (workflowKey cfg) (fun w => ∀ jobs, w.jobs = some jobs → ∃ n, jobs = (parseJobs cfg n).1)
    · intro w kv _ hw
      simp only [workflowKey]
      split
      case h_7 =>
        intro jobs e
        simp only [Option.some.injEq] at e
        exact ⟨kv.val, e.symm⟩
      all_goals exact hw
    · intro jobs e; cases e

/-- **the folded job ids of a parsed workflow are pairwise distinct** -/
theorem parsed_job_ids_nodup (cfg : Cfg) (doc : Yaml.Node) :
    ((Rules.jobsOf (parse cfg doc).1).map fun j => cfg.lower j.id.value).Nodup := by
  simp only [Rules.jobsOf]
  cases hj : (parse cfg doc).1.jobs with
  | none => simp
  | some jobs =>
    obtain ⟨n, rfl⟩ := parse_jobs cfg doc jobs hj
    simp only [Option.getD_some, List.map_map]
    have : (parseJobs cfg n).1.map ((fun j : Job => cfg.lower j.id.value) ∘ fun x => x.2) = (parseJobs cfg n).1.map (·.1) :=
      List.map_congr_left fun p hp => (C08P.jobs_keys_folded cfg n p hp).symm
    rw [this]
    exact parseJobs_keys_nodup cfg n

end Parsed

/-- the node `VisitJobPre` stores for a job -/
def mkNode (lower : String → String) (j : JobIn) : RawNode :=
  { id := lower j.idValue, pos := j.idPos, needs := (normNeeds lower j.needs []).1 }

/-- when the folded ids are pairwise distinct (and new), `VisitJobPre` appends one node per job with a non-empty id, in
order, and never reports a repeated job id -/
theorem visitJobs_of_nodup (lower : String → String) : ∀ (jobs : List JobIn) (nodes : List RawNode),
    (nodes.map (·.id) ++ (jobs.map fun j => lower j.idValue).filter (· ≠ "")).Nodup →
    (visitJobs lower jobs nodes).1 = nodes ++ (jobs.filter fun j => lower j.idValue ≠ "").map (mkNode lower) ∧
    ∀ d ∈ (visitJobs lower jobs nodes).2, ∃ p v, d = .dupNeeds p v := by
  intro jobs nodes h
  rw [visitJobs_eq_of_nodup lower jobs nodes h]
  refine ⟨rfl, fun d hd => ?_⟩
  obtain ⟨j, _, hj⟩ := List.mem_flatMap.1 hd
  exact normNeeds_no_undefined lower j.needs [] d hj

/-- what `VisitJobPre` keeps of a `needs:` list: the folded, non-empty names -/
theorem normNeeds_mem (lower : String → String) (dep : String) : ∀ (ns : List NeedRef) (acc : List String),
    dep ∈ (normNeeds lower ns acc).1 ↔ dep ∈ acc ∨ (dep ≠ "" ∧ ∃ n ∈ ns, lower n.value = dep)
  | [], acc => by simp [normNeeds]
  | j :: rest, acc => by
    simp only [normNeeds]
    split
    · rename_i hc
      have hc' : lower j.value ∈ acc := by simpa using hc
      have := normNeeds_mem lower dep rest acc
      simp only [this, List.mem_cons, exists_eq_or_imp]
      constructor
      · rintro (h | ⟨h1, h2⟩)
        · exact Or.inl h
        · exact Or.inr ⟨h1, Or.inr h2⟩
      · rintro (h | ⟨h1, h2 | h2⟩)
        · exact Or.inl h
        · exact Or.inl (h2 ▸ hc')
        · exact Or.inr ⟨h1, h2⟩
    · split
      · rename_i hne
        rw [normNeeds_mem lower dep rest (acc ++ [lower j.value])]
        simp only [List.mem_append, List.mem_cons, List.not_mem_nil, or_false, exists_eq_or_imp]
        constructor
        · rintro ((h | h) | ⟨h1, h2⟩)
          · exact Or.inl h
          · exact Or.inr ⟨by rw [h]; simpa using hne, Or.inl h.symm⟩
          · exact Or.inr ⟨h1, Or.inr h2⟩
        · rintro (h | ⟨h1, h2 | h2⟩)
          · exact Or.inl (Or.inl h)
          · exact Or.inl (Or.inr h2.symm)
          · exact Or.inr ⟨h1, h2⟩
      · rename_i hne
        have he : lower j.value = "" := by simpa using hne
        rw [normNeeds_mem lower dep rest acc]
        simp only [List.mem_cons, exists_eq_or_imp]
        constructor
        · rintro (h | ⟨h1, h2⟩)
          · exact Or.inl h
          · exact Or.inr ⟨h1, Or.inr h2⟩
        · rintro (h | ⟨h1, h2 | h2⟩)
          · exact Or.inl h
          · exact absurd (h2 ▸ he) h1
          · exact Or.inr ⟨h1, h2⟩

section Parsed
open AL.PW AL.Yaml AL.Ast

theorem parsed_jobsIn_nodup (cfg : Cfg) (doc : Yaml.Node) :
    ((jobsIn (parse cfg doc).1).map fun j => cfg.lower j.idValue).Nodup := by
  have := parsed_job_ids_nodup cfg doc
  simpa [jobsIn, Rules.needsJobIn, Function.comp_def] using this

theorem parsed_visit_hyp (cfg : Cfg) (doc : Yaml.Node) :
    (([] : List RawNode).map (·.id) ++ ((jobsIn (parse cfg doc).1).map fun j => cfg.lower j.idValue).filter (· ≠ "")).Nodup := by
  simp only [List.map_nil, List.nil_append]
  exact (parsed_jobsIn_nodup cfg doc).filter _

/-- **the nodes of the needs graph of a parsed workflow are its jobs** (those with a non-empty id), in source order -/
theorem parsed_nodes (cfg : Cfg) (doc : Yaml.Node) :
    nodesOf cfg.lower (jobsIn (parse cfg doc).1) =
      ((jobsIn (parse cfg doc).1).filter fun j => cfg.lower j.idValue ≠ "").map (mkNode cfg.lower) := by
  have h := (visitJobs_of_nodup cfg.lower (jobsIn (parse cfg doc).1) [] (parsed_visit_hyp cfg doc)).1
  simpa [nodesOf] using h

theorem parsed_nodes_ids_nodup (cfg : Cfg) (doc : Yaml.Node) :
    ((nodesOf cfg.lower (jobsIn (parse cfg doc).1)).map (·.id)).Nodup := by
  rw [parsed_nodes, List.map_map]
  have : ((fun n : RawNode => n.id) ∘ mkNode cfg.lower) = fun j => cfg.lower j.idValue := rfl
  rw [this]
  exact ((parsed_jobsIn_nodup cfg doc).sublist (List.filter_sublist.map _))

/-- **`job-id-duplicate` is never reported for a parsed workflow**: the parser has already reported the repeated key
(`key-duplicated`, C13) and dropped the job. -/
theorem parsed_no_dupJob (cfg : Cfg) (doc : Yaml.Node) :
    ∀ d ∈ Rules.ruleJobNeeds cfg.lower (parse cfg doc).1, d.code ≠ "job-id-duplicate" := by
  intro d hd hc
  rw [ruleJobNeeds_eq] at hd
  obtain ⟨x, hx, rfl⟩ := List.mem_map.1 hd
  obtain ⟨p, v, q, rfl⟩ := (needsDiag_code x).2.2.1.1 hc
  have hx' := (visitJobs_mem_check cfg.lower _ _ _ (Or.inr ⟨p, v, q, rfl⟩)).1 hx
  obtain ⟨_, _, e⟩ := (visitJobs_of_nodup cfg.lower (jobsIn (parse cfg doc).1) [] (parsed_visit_hyp cfg doc)).2 _ hx'
  cases e

/-- C18 (a)+(b) at the workflow the parser returns: like the `parsed_*` restatements of (a), (b), (c), (f) below, an instance of
its `rule_*` theorem; nothing about the parser is used. -/
theorem parsed_cyclic_iff (cfg : Cfg) (doc : Yaml.Node) :
    (∃ d ∈ Rules.ruleJobNeeds cfg.lower (parse cfg doc).1, d.code = "needs-cyclic") ↔
      (∀ d ∈ Rules.ruleJobNeeds cfg.lower (parse cfg doc).1, d.code ≠ "needs-undefined") ∧
      Cyclic (graphOf cfg.lower (jobsIn (parse cfg doc).1)) :=
  rule_cyclic_iff cfg.lower _

theorem parsed_acyclic_none (cfg : Cfg) (doc : Yaml.Node) (h : ¬ Cyclic (graphOf cfg.lower (jobsIn (parse cfg doc).1))) :
    ∀ d ∈ Rules.ruleJobNeeds cfg.lower (parse cfg doc).1, d.code ≠ "needs-cyclic" :=
  rule_acyclic_none cfg.lower _ h

theorem parsed_cyclic_some (cfg : Cfg) (doc : Yaml.Node)
    (hu : ∀ d ∈ Rules.ruleJobNeeds cfg.lower (parse cfg doc).1, d.code ≠ "needs-undefined")
    (h : Cyclic (graphOf cfg.lower (jobsIn (parse cfg doc).1))) :
    ∃ d ∈ Rules.ruleJobNeeds cfg.lower (parse cfg doc).1, d.code = "needs-cyclic" :=
  rule_cyclic_some cfg.lower _ hu h

theorem parsed_printed_is_cycle (cfg : Cfg) (doc : Yaml.Node) (d : Rules.Diag)
    (hd : d ∈ Rules.ruleJobNeeds cfg.lower (parse cfg doc).1) (hc : d.code = "needs-cyclic") :
    ∃ vs, IsCycle (graphOf cfg.lower (jobsIn (parse cfg doc).1)) vs ∧
      d.args = [",".intercalate (vs.map (idOf (graphOf cfg.lower (jobsIn (parse cfg doc).1))))] ∧
      d.pos = Rules.ofNP (posOf (graphOf cfg.lower (jobsIn (parse cfg doc).1)) (vs.headD 0)) ∧
      ∀ v ∈ vs, ¬ (posOf (graphOf cfg.lower (jobsIn (parse cfg doc).1)) v).isBefore
        (posOf (graphOf cfg.lower (jobsIn (parse cfg doc).1)) (vs.headD 0)) :=
  rule_printed_is_cycle cfg.lower _ d hd hc

theorem ofNP_toNP (p : Rules.Pos) : Rules.ofNP (Rules.toNP p) = p := by cases p; rfl

/-- **C18 (e) for every parsed workflow, in terms of the jobs of the AST**: `needs-undefined` is reported at job `j` for
the name `dep` iff `dep` is the (non-empty) folded form of an entry of `j.needs` and no job's folded id is `dep`. -/
theorem parsed_undefined_exact (cfg : Cfg) (doc : Yaml.Node) (pos : Rules.Pos) (i dep : String) :
    (⟨pos, "job-needs", "needs-undefined", [i, dep]⟩ : Rules.Diag) ∈ Rules.ruleJobNeeds cfg.lower (parse cfg doc).1 ↔
      ∃ j ∈ Rules.jobsOf (parse cfg doc).1, cfg.lower j.id.value ≠ "" ∧ j.id.pos = pos ∧ cfg.lower j.id.value = i ∧
        dep ≠ "" ∧ (∃ n ∈ j.needs.getD [], cfg.lower n.value = dep) ∧
        ∀ j' ∈ Rules.jobsOf (parse cfg doc).1, cfg.lower j'.id.value ≠ dep := by
  rw [rule_undefined_exact, parsed_nodes]
  simp only [List.mem_map, List.mem_filter, jobsIn, ne_eq, decide_not, Bool.not_eq_eq_eq_not,
    Bool.not_true, decide_eq_false_iff_not]
  constructor
  · rintro ⟨n, ⟨ji, ⟨⟨j, hj, rfl⟩, hne⟩, rfl⟩, h1, h2, h3, h4⟩
    simp only [mkNode, Rules.needsJobIn, normNeeds_mem, List.not_mem_nil, false_or, List.mem_map] at h1 h2 h3 hne
    obtain ⟨hd, nr, ⟨s, hs, rfl⟩, hl⟩ := h3
    refine ⟨j, hj, hne, by rw [← h1, ofNP_toNP], h2, hd, ⟨s, hs, hl⟩, ?_⟩
    intro j' hj' e
    have hne' : ¬ cfg.lower j'.id.value = "" := by rw [e]; exact hd
    exact h4 _ ⟨_, ⟨⟨j', hj', rfl⟩, by simpa [Rules.needsJobIn] using hne'⟩, rfl⟩ (by simpa [mkNode, Rules.needsJobIn] using e)
  · rintro ⟨j, hj, hne, h1, h2, hd, ⟨s, hs, hl⟩, h4⟩
    refine ⟨_, ⟨_, ⟨⟨j, hj, rfl⟩, by simpa [Rules.needsJobIn] using hne⟩, rfl⟩, ?_, ?_, ?_, ?_⟩
    · simp [mkNode, Rules.needsJobIn, ofNP_toNP, h1]
    · simpa [mkNode, Rules.needsJobIn] using h2
    · simp only [mkNode, Rules.needsJobIn, normNeeds_mem, List.not_mem_nil, false_or, List.mem_map]
      exact ⟨hd, _, ⟨s, hs, rfl⟩, hl⟩
    · rintro m ⟨ji, ⟨⟨j', hj', rfl⟩, _⟩, rfl⟩ e
      exact h4 j' hj' (by simpa [mkNode, Rules.needsJobIn] using e)

theorem parsed_at_most_one (cfg : Cfg) (doc : Yaml.Node) :
    ((Rules.ruleJobNeeds cfg.lower (parse cfg doc).1).filter (fun d => d.code = "needs-cyclic")).length ≤ 1 :=
  rule_at_most_one cfg.lower _

end Parsed

/-! ## examples: four small workflows through the parser and the rule -/

section Examples
open AL.PW AL.Yaml AL.Ast

def exCfg : Cfg := ⟨asciiLower, fun _ => none, fun _ => .err⟩
def sc (v : String) (l c : Nat) : Yaml.Node := .mk .scalar "!!str" v false l c []
def mp (l c : Nat) (cs : List Yaml.Node) : Yaml.Node := .mk .mapping "!!map" "" false l c cs
def sq (l c : Nat) (cs : List Yaml.Node) : Yaml.Node := .mk .sequence "!!seq" "" false l c cs
/-- `{ runs-on: u, needs: [...], steps: [ {run: x} ] }` on line `l` -/
def jobNode (l : Nat) (needs : List String) : Yaml.Node :=
  mp l 3 [sc "runs-on" l 3, sc "u" l 12, sc "needs" l 15, sq l 22 (needs.map fun n => sc n l 23),
          sc "steps" l 30, sq l 37 [mp l 38 [sc "run" l 38, sc "x" l 43]]]
def docOf (jobs : List Yaml.Node) : Yaml.Node :=
  .mk .document "" "" false 1 1 [mp 1 1 [sc "on" 1 1, sc "push" 1 5, sc "jobs" 2 1, mp 3 1 jobs]]
/-- `A needs B`, `b needs a`, `c needs [A, a]`: a cycle `a ⇄ b` and a repeated (folded) entry in `c.needs` -/
def exCyc : Yaml.Node := docOf [sc "A" 3 1, jobNode 3 ["B"], sc "b" 4 1, jobNode 4 ["a"], sc "c" 5 1, jobNode 5 ["A", "a"]]
/-- `A needs [B, ZZ]`, `b needs a`: a cycle and a dangling reference -/
def exDang : Yaml.Node := docOf [sc "A" 3 1, jobNode 3 ["B", "ZZ"], sc "b" 4 1, jobNode 4 ["a"]]
/-- jobs `A` and `a`: the parser reports the second one and drops it -/
def exDupId : Yaml.Node := docOf [sc "A" 3 1, jobNode 3 ["a"], sc "a" 4 1, jobNode 4 ["a"]]
/-- `A needs b`, `b`: acyclic -/
def exDag : Yaml.Node := docOf [sc "A" 3 1, jobNode 3 ["b"], sc "b" 4 1, jobNode 4 []]

def wCyc : Workflow := (parse exCfg exCyc).1
def gCyc : Graph := graphOf exCfg.lower (jobsIn wCyc)

/-- a job as a tuple of types with decidable equality: `JobIn` has none, so the kernel compares this image -/
def jobCode (j : JobIn) : String × P × P × List (String × P) :=
  (j.idValue, j.idPos, j.jobPos, j.needs.map fun n => (n.value, n.pos))

theorem jobCode_injective : Function.Injective jobCode := by
  rintro ⟨i, p, q, ns⟩ ⟨i', p', q', ns'⟩ h
  simp only [jobCode, Prod.mk.injEq] at h
  obtain ⟨rfl, rfl, rfl, hn⟩ := h
  congr
  exact List.map_injective_iff.2 (fun ⟨_, _⟩ ⟨_, _⟩ e => by cases e; rfl) hn

theorem jobs_eq_of_code {l l' : List JobIn} (h : l.map jobCode = l'.map jobCode) : l = l' :=
  List.map_injective_iff.2 jobCode_injective h

/-- for a fact about the parser's diagnostics evaluated together with the job list: one evaluation of the parser -/
theorem and_jobs_eq_of_code {p : Prop} {l l' : List JobIn} (h : p ∧ l.map jobCode = l'.map jobCode) : p ∧ l = l' :=
  ⟨h.1, jobs_eq_of_code h.2⟩

/-- the same for the nodes of a graph -/
def nodeCode (n : Needs.Node) : String × P × List Nat := (n.id, n.pos, n.resolved)

theorem graph_eq_of_code {g g' : Graph} (h : g.map nodeCode = g'.map nodeCode) : g = g' :=
  List.map_injective_iff.2 (fun ⟨_, _, _⟩ ⟨_, _, _⟩ e => by cases e; rfl) h

/-- the jobs the rule sees in the four documents: the parser is evaluated here, once per document, and everything below
computes from these lists -/
theorem jobsIn_wCyc : jobsIn wCyc = [⟨"A", ⟨3, 1⟩, ⟨3, 1⟩, [⟨"B", ⟨3, 23⟩⟩]⟩, ⟨"b", ⟨4, 1⟩, ⟨4, 1⟩, [⟨"a", ⟨4, 23⟩⟩]⟩,
    ⟨"c", ⟨5, 1⟩, ⟨5, 1⟩, [⟨"A", ⟨5, 23⟩⟩, ⟨"a", ⟨5, 23⟩⟩]⟩] := jobs_eq_of_code (by decide +kernel)
theorem jobsIn_exDang : jobsIn (parse exCfg exDang).1 =
    [⟨"A", ⟨3, 1⟩, ⟨3, 1⟩, [⟨"B", ⟨3, 23⟩⟩, ⟨"ZZ", ⟨3, 23⟩⟩]⟩, ⟨"b", ⟨4, 1⟩, ⟨4, 1⟩, [⟨"a", ⟨4, 23⟩⟩]⟩] := jobs_eq_of_code (by decide +kernel)
theorem exDupId_parsed :
    (parse exCfg exDupId).2 = [⟨⟨4, 1⟩, "key-duplicated", ["a", "«jobs» section", "line:3,col:1", ". note that this key is case insensitive"]⟩] ∧
    jobsIn (parse exCfg exDupId).1 = [⟨"A", ⟨3, 1⟩, ⟨3, 1⟩, [⟨"a", ⟨3, 23⟩⟩]⟩] := and_jobs_eq_of_code (by decide +kernel)
theorem jobsIn_exDag : jobsIn (parse exCfg exDag).1 =
    [⟨"A", ⟨3, 1⟩, ⟨3, 1⟩, [⟨"b", ⟨3, 23⟩⟩]⟩, ⟨"b", ⟨4, 1⟩, ⟨4, 1⟩, []⟩] := jobs_eq_of_code (by decide +kernel)

theorem gCyc_eq : gCyc = [⟨"a", ⟨3, 1⟩, [1]⟩, ⟨"b", ⟨4, 1⟩, [0]⟩, ⟨"c", ⟨5, 1⟩, [0]⟩] := by
  unfold gCyc; rw [jobsIn_wCyc]; exact graph_eq_of_code (by decide +kernel)
theorem isCycle_gCyc : IsCycle gCyc [0, 1, 0] := by
  rw [gCyc_eq]
  exact ⟨.cons 0 1 [0] (by decide) (by simp [Graph.succ]) (.cons 1 0 [] (by decide) (by simp [Graph.succ]) (.single 0 (by decide))),
    by decide, rfl⟩
theorem length_wCyc : (jobsIn wCyc).length = 3 := by rw [jobsIn_wCyc]; rfl
theorem resolve_wCyc : (resolve (nodesOf exCfg.lower (jobsIn wCyc))).2 = [] := by rw [jobsIn_wCyc]; decide +kernel

theorem cycleDiag_gCyc : cycleDiag gCyc [0, 1, 2] = some ⟨⟨3, 1⟩, ["a", "b", "a"]⟩ := by
  rw [gCyc_eq]; exact cycleDiagG_eq _ _ 32 _ (by decide +kernel)

theorem ruleCyc : Rules.ruleJobNeeds exCfg.lower wCyc =
    [⟨⟨5, 23⟩, "job-needs", "needs-duplicate", ["a"]⟩, ⟨⟨3, 1⟩, "job-needs", "needs-cyclic", ["a,b,a"]⟩] :=
  ruleJobNeeds_eval _ _ _ 32 _ jobsIn_wCyc (by decide +kernel)
theorem nodesDang : nodesOf exCfg.lower (jobsIn (parse exCfg exDang).1) =
    [⟨"a", ⟨3, 1⟩, ["b", "zz"]⟩, ⟨"b", ⟨4, 1⟩, ["a"]⟩] := by rw [jobsIn_exDang]; rfl
/- a dangling reference: the cycle search is not run, the whole `check` evaluates in the kernel -/
theorem ruleDang : Rules.ruleJobNeeds exCfg.lower (parse exCfg exDang).1 =
    [⟨⟨3, 1⟩, "job-needs", "needs-undefined", ["a", "zz"]⟩] := by
  rw [ruleJobNeeds_eq, jobsIn_exDang]
  decide +kernel
theorem ruleDupId : Rules.ruleJobNeeds exCfg.lower (parse exCfg exDupId).1 =
    [⟨⟨3, 1⟩, "job-needs", "needs-cyclic", ["a,a"]⟩] ∧
    (parse exCfg exDupId).2 = [⟨⟨4, 1⟩, "key-duplicated", ["a", "«jobs» section", "line:3,col:1", ". note that this key is case insensitive"]⟩] :=
  ⟨ruleJobNeeds_eval _ _ _ 32 _ exDupId_parsed.2 (by decide +kernel), exDupId_parsed.1⟩
theorem ruleDag : Rules.ruleJobNeeds exCfg.lower (parse exCfg exDag).1 = [] :=
  ruleJobNeeds_eval _ _ _ 32 _ jobsIn_exDag (by decide +kernel)

example : WF gCyc := graphOf_wf _ _
example : WF (resolve [⟨"a", ⟨1, 1⟩, ["b", "x"]⟩, ⟨"b", ⟨2, 1⟩, []⟩]).1 := resolve_wf _
example : (resolve [⟨"a", ⟨1, 1⟩, ["b", "x"]⟩, ⟨"b", ⟨2, 1⟩, []⟩]).1.length = 2 := resolve_length _
example : (visitJobs id [⟨"a", ⟨1, 1⟩, ⟨1, 1⟩, []⟩, ⟨"a", ⟨2, 1⟩, ⟨2, 1⟩, []⟩] []).1.length ≤ 0 + 2 := visitJobs_length_le _ _ _
example : Covers gCyc (List.range (jobsIn wCyc).length) := covers_range _ _
example : (jobsIn wCyc).length = 3 := length_wCyc

example : check id [⟨"a", ⟨1, 1⟩, ⟨1, 1⟩, []⟩] [0] =
    if !(resolve (nodesOf id [⟨"a", ⟨1, 1⟩, ⟨1, 1⟩, []⟩])).2.isEmpty then
      (visitJobs id [⟨"a", ⟨1, 1⟩, ⟨1, 1⟩, []⟩] []).2 ++ (resolve (nodesOf id [⟨"a", ⟨1, 1⟩, ⟨1, 1⟩, []⟩])).2
    else match cycleDiag (graphOf id [⟨"a", ⟨1, 1⟩, ⟨1, 1⟩, []⟩]) [0] with
      | some c => (visitJobs id [⟨"a", ⟨1, 1⟩, ⟨1, 1⟩, []⟩] []).2 ++ [.cyclic c]
      | none => (visitJobs id [⟨"a", ⟨1, 1⟩, ⟨1, 1⟩, []⟩] []).2 := check_eq _ _ _
example : ∀ d ∈ (normNeeds id [⟨"a", ⟨1, 1⟩⟩, ⟨"a", ⟨1, 3⟩⟩] []).2, ∃ p v, d = .dupNeeds p v := normNeeds_no_undefined _ _ _
example : ∀ d ∈ (visitJobs id [⟨"a", ⟨1, 1⟩, ⟨1, 1⟩, []⟩, ⟨"a", ⟨2, 1⟩, ⟨2, 1⟩, []⟩] []).2,
    (∃ p v, d = .dupNeeds p v) ∨ (∃ p v q, d = .dupJob p v q) := visitJobs_diags _ _ _
example : ∀ d ∈ (resolve [⟨"a", ⟨1, 1⟩, ["b", "x"]⟩]).2, ∃ p i dep, d = .undefined p i dep := resolve_diags _
example (c : CycleDiag) : Diag.cyclic c ∈ check exCfg.lower (jobsIn wCyc) [2, 1, 0] ↔
    (resolve (nodesOf exCfg.lower (jobsIn wCyc))).2 = [] ∧ cycleDiag gCyc [2, 1, 0] = some c := cyclic_mem_check _ _ _ _
example : Diag.undefined ⟨3, 1⟩ "a" "zz" ∈ check exCfg.lower (jobsIn (parse exCfg exDang).1) [0, 1] ↔
    Diag.undefined ⟨3, 1⟩ "a" "zz" ∈ (resolve (nodesOf exCfg.lower (jobsIn (parse exCfg exDang).1))).2 :=
  undefined_mem_check _ _ _ _ _ _
example : Diag.dupNeeds ⟨5, 23⟩ "a" ∈ check exCfg.lower (jobsIn wCyc) [0] ↔
    Diag.dupNeeds ⟨5, 23⟩ "a" ∈ (visitJobs exCfg.lower (jobsIn wCyc) []).2 :=
  visitJobs_mem_check _ _ _ _ (Or.inl ⟨_, _, rfl⟩)
/-- the cyclic workflow: reported under every covering order, e.g. the reverse one -/
example : ∃ c, Diag.cyclic c ∈ check exCfg.lower (jobsIn wCyc) [2, 1, 0] :=
  check_cyclic_some _ _ _ (by intro v hv; rw [show graphOf exCfg.lower (jobsIn wCyc) = gCyc from rfl, gCyc_eq] at hv
                              have : v = 0 ∨ v = 1 ∨ v = 2 := by simp only [List.length_cons, List.length_nil] at hv; omega
                              rcases this with rfl | rfl | rfl <;> simp)
    resolve_wCyc ⟨_, isCycle_gCyc⟩
example : ∃ c, Diag.cyclic c ∈ check exCfg.lower (jobsIn wCyc) (List.range 3) :=
  length_wCyc ▸ check_cyclic_some_range exCfg.lower (jobsIn wCyc) resolve_wCyc ⟨_, isCycle_gCyc⟩
example : (∃ c, Diag.cyclic c ∈ check exCfg.lower (jobsIn wCyc) (List.range (jobsIn wCyc).length)) ↔
    (resolve (nodesOf exCfg.lower (jobsIn wCyc))).2 = [] ∧ Cyclic gCyc := check_cyclic_iff _ _
example : (∃ c, Diag.cyclic c ∈ check exCfg.lower (jobsIn wCyc) (List.range 3)) ↔
    (∃ c, Diag.cyclic c ∈ check exCfg.lower (jobsIn wCyc) (List.range 3).reverse) :=
  check_cyclic_order_irrelevant _ _ _ _ (length_wCyc ▸ covers_range _ _)
    (fun v hv => List.mem_reverse.2 ((length_wCyc ▸ covers_range exCfg.lower (jobsIn wCyc)) v hv))
/-- the acyclic workflow: nothing, whatever the order -/
example : ¬ Cyclic (graphOf exCfg.lower (jobsIn (parse exCfg exDag).1)) := by
  intro h
  obtain ⟨d, hd, _⟩ := rule_cyclic_some exCfg.lower (parse exCfg exDag).1 (by rw [ruleDag]; simp) h
  rw [ruleDag] at hd
  cases hd
example (h : ¬ Cyclic (graphOf exCfg.lower (jobsIn (parse exCfg exDag).1))) (order : List Nat) (c : CycleDiag) :
    Diag.cyclic c ∉ check exCfg.lower (jobsIn (parse exCfg exDag).1) order := check_acyclic_none _ _ _ h c
example (d : CycleDiag) (h : Diag.cyclic d ∈ check exCfg.lower (jobsIn wCyc) [1, 0, 2]) :
    ∃ vs, IsCycle gCyc vs ∧ d.path = vs.map (idOf gCyc) ∧ d.pos = posOf gCyc (vs.headD 0) ∧
      ∀ v ∈ vs, ¬ (posOf gCyc v).isBefore d.pos := check_printed_is_cycle _ _ _ d h
example : Diag.undefined ⟨3, 1⟩ "a" "zz" ∈ check exCfg.lower (jobsIn (parse exCfg exDang).1) [0, 1] :=
  (check_undefined_exact _ _ _ _ _ _).2 ⟨⟨"a", ⟨3, 1⟩, ["b", "zz"]⟩, by rw [nodesDang]; exact List.mem_cons_self, rfl, rfl,
    by simp, by rw [nodesDang]; simp⟩
example : ((check exCfg.lower (jobsIn wCyc) [0, 1, 2]).filter (fun d => match d with | .cyclic _ => true | _ => false)).length ≤ 1 :=
  check_at_most_one _ _ _
example (h : Diag.undefined ⟨3, 1⟩ "a" "zz" ∈ check exCfg.lower (jobsIn (parse exCfg exDang).1) [0, 1]) (c : CycleDiag) :
    Diag.cyclic c ∉ check exCfg.lower (jobsIn (parse exCfg exDang).1) [0, 1] := check_undefined_no_cyclic _ _ _ _ _ _ h c

example : Rules.ruleJobNeeds exCfg.lower wCyc =
    (check exCfg.lower (jobsIn wCyc) (List.range (jobsIn wCyc).length)).map Rules.needsDiag := ruleJobNeeds_eq _ _
example : (Rules.needsDiag (.undefined ⟨3, 1⟩ "a" "zz")).code = "needs-undefined" :=
  (needsDiag_code _).2.1.2 ⟨_, _, _, rfl⟩
example : Rules.ofNP ⟨3, 1⟩ = Rules.ofNP ⟨3, 1⟩ → (⟨3, 1⟩ : P) = ⟨3, 1⟩ := ofNP_inj _ _
example : Rules.ofNP (Rules.toNP ⟨3, 1⟩) = ⟨3, 1⟩ := ofNP_toNP _
example : (resolve (nodesOf exCfg.lower (jobsIn wCyc))).2 = [] :=
  (no_undefined_iff exCfg.lower wCyc).1 (by rw [ruleCyc]; simp)
example : Cyclic gCyc :=
  ((rule_cyclic_iff exCfg.lower wCyc).1 ⟨⟨⟨3, 1⟩, "job-needs", "needs-cyclic", ["a,b,a"]⟩, by rw [ruleCyc]; simp, rfl⟩).2
example : ∃ d ∈ Rules.ruleJobNeeds exCfg.lower wCyc, d.code = "needs-cyclic" :=
  rule_cyclic_some exCfg.lower wCyc (by rw [ruleCyc]; simp) ⟨_, isCycle_gCyc⟩
example (h : ¬ Cyclic (graphOf exCfg.lower (jobsIn (parse exCfg exDag).1))) :
    ∀ d ∈ Rules.ruleJobNeeds exCfg.lower (parse exCfg exDag).1, d.code ≠ "needs-cyclic" := rule_acyclic_none _ _ h
example : ∃ vs, IsCycle gCyc vs ∧ ["a,b,a"] = [",".intercalate (vs.map (idOf gCyc))] ∧
    (⟨3, 1⟩ : Rules.Pos) = Rules.ofNP (posOf gCyc (vs.headD 0)) ∧
    ∀ v ∈ vs, ¬ (posOf gCyc v).isBefore (posOf gCyc (vs.headD 0)) :=
  rule_printed_is_cycle exCfg.lower wCyc ⟨⟨3, 1⟩, "job-needs", "needs-cyclic", ["a,b,a"]⟩ (by rw [ruleCyc]; simp) rfl
example : ∃ n ∈ nodesOf exCfg.lower (jobsIn (parse exCfg exDang).1), Rules.ofNP n.pos = ⟨3, 1⟩ ∧ n.id = "a" ∧ "zz" ∈ n.needs ∧
    ∀ m ∈ nodesOf exCfg.lower (jobsIn (parse exCfg exDang).1), m.id ≠ "zz" :=
  (rule_undefined_exact exCfg.lower _ ⟨3, 1⟩ "a" "zz").1 (by rw [ruleDang]; simp)
example : ((Rules.ruleJobNeeds exCfg.lower wCyc).filter (fun d => d.code = "needs-cyclic")).length ≤ 1 := rule_at_most_one _ _
/-- the cycle `a ⇄ b` of `exDang` is not reported next to the dangling `zz` -/
example : ∀ d' ∈ Rules.ruleJobNeeds exCfg.lower (parse exCfg exDang).1, d'.code ≠ "needs-cyclic" :=
  rule_undefined_no_cyclic _ _ ⟨⟨3, 1⟩, "job-needs", "needs-undefined", ["a", "zz"]⟩ (by rw [ruleDang]; simp) rfl

example : (mapKVs (fun kv => ((kv.val.value, []) : R String)) [⟨"a", ⟨"A", false, ⟨1, 1⟩⟩, sc "x" 1 3⟩]).1.map (·.1) = ["a"] :=
  mapKVs_keys _ _
example : ((parseJobs exCfg (mp 3 1 [sc "A" 3 1, jobNode 3 [], sc "a" 4 1, jobNode 4 []])).1.map (·.1)).Nodup :=
  parseJobs_keys_nodup _ _
example : (parseJobs exCfg (mp 3 1 [sc "A" 3 1, jobNode 3 [], sc "a" 4 1, jobNode 4 []])).1.map (·.1) = ["a"] := by
  decide +kernel
example : ∀ jobs, (parse exCfg exDupId).1.jobs = some jobs → ∃ n, jobs = (parseJobs exCfg n).1 := parse_jobs _ _
example : ((Rules.jobsOf (parse exCfg exDupId).1).map fun j => exCfg.lower j.id.value).Nodup := parsed_job_ids_nodup _ _
example : ((jobsIn (parse exCfg exDupId).1).map fun j => exCfg.lower j.idValue).Nodup := parsed_jobsIn_nodup _ _
example : (([] : List RawNode).map (·.id) ++ ((jobsIn wCyc).map fun j => exCfg.lower j.idValue).filter (· ≠ "")).Nodup :=
  parsed_visit_hyp exCfg exCyc
example : nodesOf exCfg.lower (jobsIn wCyc) = ((jobsIn wCyc).filter fun j => exCfg.lower j.idValue ≠ "").map (mkNode exCfg.lower) :=
  parsed_nodes exCfg exCyc
example : ((nodesOf exCfg.lower (jobsIn wCyc)).map (·.id)).Nodup := parsed_nodes_ids_nodup exCfg exCyc
example : (nodesOf exCfg.lower (jobsIn wCyc)).map (·.id) = ["a", "b", "c"] := by rw [jobsIn_wCyc]; decide +kernel
/-- hand-made job lists CAN make the rule report a repeated id … -/
example : check id [⟨"a", ⟨1, 1⟩, ⟨1, 1⟩, []⟩, ⟨"a", ⟨2, 1⟩, ⟨2, 1⟩, []⟩] [0, 1] = [.dupJob ⟨2, 1⟩ "a" ⟨1, 1⟩] := by
  simp [check, visitJobs, normNeeds, resolve, indexOf?, cycleDiag, detectFirstCycle, detectCyclicNode, visitList,
    Graph.succ, setStatus]
/-- … the parser's output cannot: `exDupId` has the jobs `A` and `a`, the rule sees only `A` -/
example : ∀ d ∈ Rules.ruleJobNeeds exCfg.lower (parse exCfg exDupId).1, d.code ≠ "job-id-duplicate" := parsed_no_dupJob _ _
example : (visitJobs id [⟨"a", ⟨1, 1⟩, ⟨1, 1⟩, []⟩, ⟨"", ⟨2, 1⟩, ⟨2, 1⟩, []⟩, ⟨"b", ⟨3, 1⟩, ⟨3, 1⟩, []⟩] []).1 =
    [] ++ ([⟨"a", ⟨1, 1⟩, ⟨1, 1⟩, []⟩, ⟨"", ⟨2, 1⟩, ⟨2, 1⟩, []⟩, ⟨"b", ⟨3, 1⟩, ⟨3, 1⟩, []⟩].filter fun j => id j.idValue ≠ "").map (mkNode id) :=
  (visitJobs_of_nodup id _ [] (by decide)).1
example : "b" ∈ (normNeeds exCfg.lower [⟨"B", ⟨1, 1⟩⟩, ⟨"", ⟨1, 3⟩⟩, ⟨"b", ⟨1, 5⟩⟩] []).1 :=
  (normNeeds_mem _ _ _ _).2 (Or.inr ⟨by decide, ⟨"B", ⟨1, 1⟩⟩, by simp, by decide +kernel⟩)
example : (∃ d ∈ Rules.ruleJobNeeds exCfg.lower (parse exCfg exCyc).1, d.code = "needs-cyclic") ↔
    (∀ d ∈ Rules.ruleJobNeeds exCfg.lower (parse exCfg exCyc).1, d.code ≠ "needs-undefined") ∧
    Cyclic (graphOf exCfg.lower (jobsIn (parse exCfg exCyc).1)) := parsed_cyclic_iff _ _
example (h : ¬ Cyclic (graphOf exCfg.lower (jobsIn (parse exCfg exDag).1))) :
    ∀ d ∈ Rules.ruleJobNeeds exCfg.lower (parse exCfg exDag).1, d.code ≠ "needs-cyclic" := parsed_acyclic_none _ _ h
example : ∃ d ∈ Rules.ruleJobNeeds exCfg.lower (parse exCfg exCyc).1, d.code = "needs-cyclic" :=
  parsed_cyclic_some exCfg exCyc (by show ∀ d ∈ Rules.ruleJobNeeds exCfg.lower wCyc, _; rw [ruleCyc]; simp) ⟨_, isCycle_gCyc⟩
example : ∃ vs, IsCycle gCyc vs ∧ ["a,b,a"] = [",".intercalate (vs.map (idOf gCyc))] ∧
    (⟨3, 1⟩ : Rules.Pos) = Rules.ofNP (posOf gCyc (vs.headD 0)) ∧
    ∀ v ∈ vs, ¬ (posOf gCyc v).isBefore (posOf gCyc (vs.headD 0)) :=
  parsed_printed_is_cycle exCfg exCyc ⟨⟨3, 1⟩, "job-needs", "needs-cyclic", ["a,b,a"]⟩
    (by show _ ∈ Rules.ruleJobNeeds exCfg.lower wCyc; rw [ruleCyc]; simp) rfl
example : ∃ j ∈ Rules.jobsOf (parse exCfg exDang).1, exCfg.lower j.id.value ≠ "" ∧ j.id.pos = ⟨3, 1⟩ ∧ exCfg.lower j.id.value = "a" ∧
    "zz" ≠ "" ∧ (∃ n ∈ j.needs.getD [], exCfg.lower n.value = "zz") ∧
    ∀ j' ∈ Rules.jobsOf (parse exCfg exDang).1, exCfg.lower j'.id.value ≠ "zz" :=
  (parsed_undefined_exact exCfg exDang ⟨3, 1⟩ "a" "zz").1 (by rw [ruleDang]; simp)
example : ((Rules.ruleJobNeeds exCfg.lower (parse exCfg exCyc).1).filter (fun d => d.code = "needs-cyclic")).length ≤ 1 :=
  parsed_at_most_one _ _

end Examples

end AL.C18P
