import AL.Lemmas.C05DJob
import AL.Lemmas.C05DMatrix
import AL.Lemmas.C05DEvents
import AL.Props.C05Scope
import AL.Props.C18Parse
/-
  C05 on the DOCUMENT: the scope theorems of AL.Props.C05Scope (on AST fields) composed with the parser (AL.PW), so that
  their right-hand sides speak about what is WRITTEN in the yaml.Node tree.

  What is written is read off the node tree alone (`pairs`, the node's fields, `List.find?`), by the readers of
  AL/Lemmas/C05D*.lean — `mget n k` (the value under the key written `k`), `docRoot`, `docJobs` / `docJobIds` (the pairs /
  keys of `jobs:`), `docSteps job` (the elements of `steps:`), `docStepId step` (the text of `id:`), `docStepIds`,
  `docNeeds job` (the scalar or the scalars of the sequence under `needs:`), `docOutputs job`, `docMatrix job`,
  `docMatrixRowKeys` / `docIncludeNode` / `docIncludeKeys` (`include` / `exclude` are recognised folded, as parse.go does),
  `docOn`, `docCallInputs`, `docCallSecrets`, `docDispatchInputs` — and by `docStepIdsBefore job k`, `docMatrixLiteral` of
  §4 below.

  For a document the parser accepts without a diagnostic (`(parse cfg doc).2 = []`):
    §1 the AST fields are what is written: jobs and their ids, steps, their `id:` and `run:`, `needs` (and, inside §3,
       `outputs`, the matrix, the header built from `on:`);
    §2 where the rule checks: the output of `rule` contains, as a contiguous block, the visit of every job, of element `k`
       of its `steps:`, the check of that element's `run:` scalar (`job_visited`, `step_visited`, `step_run_checked`), each
       under a named state: `docCx`, `docJobCx`, `docStepCx … k`, `docJobPostCx` (`docOutCx`, the state the values of
       `workflow_call.outputs` are checked in, is defined in §3);
    §3 the scope theorems: the semantic check (`Sema.check`) of `steps.<name>`, `needs.<name>`, `needs.<job>.outputs.<name>`,
       `jobs.<name>`, `matrix.<name>`, `inputs.<name>`, `secrets.<name>` UNDER ONE OF THESE STATES returns the
       undefined-property error iff `<name>` is not among the written names (`doc_steps_reported_iff`, …). This is what
       "reported" means in the docstrings of §3–§5. That a written string containing `${{ steps.<name> }}` makes `rule` emit
       exactly the errors of that check is not stated in this file (AL.Props.C05Scope has `checkExprsIn_one` /
       `checkOneExpression_one`, for an expression whose check is silent);
    §4 the same with the right-hand sides as lists of written names, decidable on a concrete document;
    §5 concrete documents: on the first (three jobs, three steps) `example_not_later`, `example_not_transitive`,
       `example_matrix`, `example_inputs_secrets`, `example_needs_outputs`, `example_jobs`; a second (a matrix without
       `include:`) and a third (`on:` as a sequence) for the remaining cases of §3.

  The parser side is in AL/Lemmas: C05DBase (the readers, the exact "clean" lemmas), C05DJob (steps, id, run, needs, outputs,
  uses, jobs, workflow), C05DMatrix (strategy, matrix rows, include), C05DEvents (on, workflow_call, workflow_dispatch, the
  header fold).
-/
namespace AL.C05D
open AL AL.PW AL.Yaml AL.Ast AL.C03P AL.C05S AL.Sema
open AL.RuleExpr (Cx ProjView IsNumber rule visitJob visitStep visitSteps jobPre jobPost stepDiags lookupJob)

/-! ## 1. the AST fields are what is written -/

def docJob (cfg : Cfg) (p : Node × Node) : Job := (parseJob cfg (newString p.1) p.2).1

def docStep (cfg : Cfg) (c : Node) : Step := (parseStep cfg c).1

def docJobsAst (cfg : Cfg) (doc : Node) : List (String × Job) := (parse cfg doc).1.jobs.getD []

/-- **the jobs of the AST are the pairs of `jobs:`**, in order: keyed by the folded key, parsed from key and value -/
theorem jobs_written (cfg : Cfg) (doc : Node) (h : (parse cfg doc).2 = []) :
    docJobsAst cfg doc = (docJobs doc).map fun p => (cfg.lower p.1.value, docJob cfg p) := by
  unfold docJobsAst
  rw [(parse_jobs_written cfg doc h).1]
  rfl

theorem job_clean (cfg : Cfg) (doc : Node) (h : (parse cfg doc).2 = []) (p : Node × Node) (hp : p ∈ docJobs doc) :
    (parseJob cfg (newString p.1) p.2).2 = [] := (parse_jobs_written cfg doc h).2 p hp

theorem job_id_written (cfg : Cfg) (p : Node × Node) : (docJob cfg p).id = newString p.1 :=
  AL.C08P.parseJob_id cfg _ _

/-- **the keys of `Workflow.Jobs` are the folded keys of `jobs:`, the ids of the jobs the keys as written** -/
theorem job_ids_written (cfg : Cfg) (doc : Node) (h : (parse cfg doc).2 = []) :
    (docJobsAst cfg doc).map (·.1) = (docJobIds doc).map cfg.lower ∧
    (docJobsAst cfg doc).map (·.2.id.value) = docJobIds doc := by
  rw [jobs_written cfg doc h]
  simp only [List.map_map, docJobIds]
  refine ⟨List.map_congr_left fun p _ => rfl, List.map_congr_left fun p _ => ?_⟩
  simp only [Function.comp, job_id_written]
  rfl

theorem job_mem (cfg : Cfg) (doc : Node) (h : (parse cfg doc).2 = []) (p : Node × Node) (hp : p ∈ docJobs doc) :
    (cfg.lower p.1.value, docJob cfg p) ∈ docJobsAst cfg doc := by
  rw [jobs_written cfg doc h]
  exact List.mem_map.2 ⟨p, hp, rfl⟩

/-- **the steps of a job of the AST are the elements of its `steps:`**, in order -/
theorem steps_written (cfg : Cfg) (doc : Node) (h : (parse cfg doc).2 = []) (p : Node × Node) (hp : p ∈ docJobs doc) :
    (docJob cfg p).steps.getD [] = (docSteps p.2).map (docStep cfg) :=
  (parseJob_steps cfg _ _ (job_clean cfg doc h p hp)).1

theorem step_clean (cfg : Cfg) (doc : Node) (h : (parse cfg doc).2 = []) (p : Node × Node) (hp : p ∈ docJobs doc)
    (c : Node) (hc : c ∈ docSteps p.2) : (parseStep cfg c).2 = [] :=
  ((parseJob_steps cfg _ _ (job_clean cfg doc h p hp)).2 c hc).1

/-- the id of a step of the AST is the `id:` scalar of the step node: text, quoting, position -/
theorem step_id_written (cfg : Cfg) (doc : Node) (h : (parse cfg doc).2 = []) (p : Node × Node) (hp : p ∈ docJobs doc)
    (c : Node) (hc : c ∈ docSteps p.2) : (docStep cfg c).id = (docStepIdNode c).map newString :=
  ((parseJob_steps cfg _ _ (job_clean cfg doc h p hp)).2 c hc).2

theorem step_id_text (cfg : Cfg) (doc : Node) (h : (parse cfg doc).2 = []) (p : Node × Node) (hp : p ∈ docJobs doc)
    (c : Node) (hc : c ∈ docSteps p.2) : (docStep cfg c).id.map (·.value) = docStepId c := by
  rw [step_id_written cfg doc h p hp c hc, docStepId, docStepIdNode]
  cases mget c "id" <;> rfl

/-- **the texts of the ids of the steps of a job of the AST are the texts of the `id:` scalars of the elements of
`steps:`**, step by step and as a list -/
theorem step_ids_written (cfg : Cfg) (doc : Node) (h : (parse cfg doc).2 = []) (p : Node × Node) (hp : p ∈ docJobs doc) :
    ((docJob cfg p).steps.getD []).map (fun s => s.id.map (·.value)) = (docSteps p.2).map docStepId ∧
    ((docJob cfg p).steps.getD []).filterMap (fun s => s.id.map (·.value)) = docStepIds p.2 := by
  have e : ((docJob cfg p).steps.getD []).map (fun s => s.id.map (·.value)) = (docSteps p.2).map docStepId := by
    rw [steps_written cfg doc h p hp, List.map_map]
    exact List.map_congr_left fun c hc => step_id_text cfg doc h p hp c hc
  refine ⟨e, ?_⟩
  have := congrArg (List.filterMap id) e
  simpa [List.filterMap_map, docStepIds] using this

/-- the script of a step of the AST is the `run:` scalar of the step node -/
theorem step_run_written (cfg : Cfg) (doc : Node) (h : (parse cfg doc).2 = []) (p : Node × Node) (hp : p ∈ docJobs doc)
    (c : Node) (hc : c ∈ docSteps p.2) : runOf (docStep cfg c) = (mget c "run").map newString :=
  parseStep_run cfg c (step_clean cfg doc h p hp c hc)

/-- **the `needs` of a job of the AST are the scalars written under its `needs:`** (one scalar, or the elements of a
sequence), in order -/
theorem needs_written (cfg : Cfg) (doc : Node) (h : (parse cfg doc).2 = []) (p : Node × Node) (hp : p ∈ docJobs doc) :
    (docJob cfg p).needs.getD [] = (docNeedsNodes p.2).map newString ∧
    ((docJob cfg p).needs.getD []).map (·.value) = docNeeds p.2 := by
  have e := parseJob_needs cfg _ _ (job_clean cfg doc h p hp)
  refine ⟨e, ?_⟩
  unfold docJob
  rw [e, docNeeds_eq, List.map_map]
  rfl

/-! ## 2. where the rule checks: the states the jobs and steps of the document are visited in -/

/-- the state under which the rule visits every job of the document: the header of `on:`, no per-job scope -/
def docCx (cfg : Cfg) (doc : Node) (proj : ProjView) : Cx := ruleCx cfg.lower proj (parse cfg doc).1

/-- the state under which `VisitJobPre` checks the strings of the job built from the pair `p` of `jobs:` -/
def docJobCx (cfg : Cfg) (doc : Node) (isNum : IsNumber) (proj : ProjView) (p : Node × Node) : Cx :=
  jobCx (docCx cfg doc proj) isNum (docJobsAst cfg doc) (docJob cfg p)

/-- the state under which the rule visits the step built from element `k` of `steps:` of that job -/
def docStepCx (cfg : Cfg) (doc : Node) (isNum : IsNumber) (proj : ProjView) (p : Node × Node) (k : Nat) : Cx :=
  stepCx (docCx cfg doc proj) isNum (docJobsAst cfg doc) (docJob cfg p) (((docSteps p.2).take k).map (docStep cfg))

/-- the state under which `VisitJobPost` checks `environment:` and the values of `outputs:` of that job -/
def docJobPostCx (cfg : Cfg) (doc : Node) (isNum : IsNumber) (proj : ProjView) (p : Node × Node) : Cx :=
  jobCxPost (docCx cfg doc proj) isNum (docJobsAst cfg doc) (docJob cfg p)

theorem docCx_lower (cfg : Cfg) (doc : Node) (proj : ProjView) : (docCx cfg doc proj).lower = cfg.lower :=
  (ruleCx_scope cfg.lower proj (parse cfg doc).1).2.2.2.1

theorem flatMap_split {α β : Type} (f : α → List β) : ∀ (l : List α) (a : α), a ∈ l → ∃ hd tl, l.flatMap f = hd ++ f a ++ tl
  | l, a, h => by
    obtain ⟨s, t, rfl⟩ := List.append_of_mem h
    exact ⟨s.flatMap f, t.flatMap f, by rw [List.flatMap_append, List.flatMap_cons, List.append_assoc]⟩

theorem split_at {α : Type} : ∀ (l : List α) (k : Nat) (c : α), l[k]? = some c → l = l.take k ++ c :: l.drop (k + 1)
  | l, k, c, h => by
    obtain ⟨hk, rfl⟩ := List.getElem?_eq_some_iff.1 h
    rw [← List.drop_eq_getElem_cons hk, List.take_append_drop]

/-- `y` is a contiguous part of `x` -/
def Inside {α : Type} (y x : List α) : Prop := ∃ hd tl, x = hd ++ y ++ tl

theorem Inside.refl {α : Type} (x : List α) : Inside x x := ⟨[], [], by simp⟩
theorem Inside.trans {α : Type} {y m x : List α} (h1 : Inside y m) (h2 : Inside m x) : Inside y x := by
  obtain ⟨a, b, rfl⟩ := h1
  obtain ⟨c, d, rfl⟩ := h2
  exact ⟨c ++ a, b ++ d, by simp only [List.append_assoc]⟩
theorem Inside.app_left {α : Type} {y a : List α} (b : List α) (h : Inside y a) : Inside y (a ++ b) :=
  h.trans ⟨[], b, by simp⟩
theorem Inside.app_right {α : Type} {y b : List α} (a : List α) (h : Inside y b) : Inside y (a ++ b) :=
  h.trans ⟨a, [], by simp⟩

/-- **every job of the document is visited**, from the state `docCx`, with all the jobs of the document at hand -/
theorem job_visited (cfg : Cfg) (doc : Node) (h : (parse cfg doc).2 = []) (isNum : IsNumber) (proj : ProjView)
    (p : Node × Node) (hp : p ∈ docJobs doc) :
    ∃ hd tl, rule cfg.lower isNum (parse cfg doc).1 proj =
      hd ++ visitJob (docCx cfg doc proj) isNum (docJobsAst cfg doc) (docJob cfg p) ++ tl := by
  obtain ⟨hd, tl, e⟩ := rule_eq cfg.lower isNum (parse cfg doc).1 proj
  obtain ⟨hd', tl', e'⟩ := flatMap_split (fun kv : String × Job => visitJob (docCx cfg doc proj) isNum (docJobsAst cfg doc) kv.2)
    (docJobsAst cfg doc) _ (job_mem cfg doc h p hp)
  refine ⟨hd ++ hd', tl' ++ tl, ?_⟩
  rw [e]
  unfold docCx docJobsAst at e' ⊢
  rw [e']
  simp only [List.append_assoc]

/-- the strings of the job itself (`name`, `if`, `runs-on`, `env`, `strategy`, `container`, … — `VisitJobPre`) are checked
under `docJobCx` -/
theorem job_pre_visited (cfg : Cfg) (doc : Node) (h : (parse cfg doc).2 = []) (isNum : IsNumber) (proj : ProjView)
    (p : Node × Node) (hp : p ∈ docJobs doc) :
    ∃ hd tl, rule cfg.lower isNum (parse cfg doc).1 proj = hd ++ jobPre (docJobCx cfg doc isNum proj p) (docJob cfg p) ++ tl := by
  refine Inside.trans ?_ (job_visited cfg doc h isNum proj p hp)
  rw [visitJob_eq]
  exact ((Inside.refl _).app_right _).app_left _ |>.app_left _

/-- `environment:` and the values of `outputs:` (`VisitJobPost`) are checked under `docJobPostCx` -/
theorem job_post_visited (cfg : Cfg) (doc : Node) (h : (parse cfg doc).2 = []) (isNum : IsNumber) (proj : ProjView)
    (p : Node × Node) (hp : p ∈ docJobs doc) :
    ∃ hd tl, rule cfg.lower isNum (parse cfg doc).1 proj = hd ++ jobPost (docJobPostCx cfg doc isNum proj p) (docJob cfg p) ++ tl := by
  refine Inside.trans ?_ (job_visited cfg doc h isNum proj p hp)
  rw [visitJob_eq]
  exact (Inside.refl _).app_right _

/-- **element `k` of `steps:` is visited under `docStepCx … k`**: the state the elements BEFORE it leave -/
theorem step_visited (cfg : Cfg) (doc : Node) (h : (parse cfg doc).2 = []) (isNum : IsNumber) (proj : ProjView)
    (p : Node × Node) (hp : p ∈ docJobs doc) (k : Nat) (c : Node) (hk : (docSteps p.2)[k]? = some c) :
    ∃ hd tl, rule cfg.lower isNum (parse cfg doc).1 proj =
      hd ++ (visitStep (docStepCx cfg doc isNum proj p k) (docStep cfg c)).2 ++ tl := by
  refine Inside.trans ?_ (job_visited cfg doc h isNum proj p hp)
  have hs : (docJob cfg p).steps.getD [] =
      ((docSteps p.2).take k).map (docStep cfg) ++ docStep cfg c :: ((docSteps p.2).drop (k + 1)).map (docStep cfg) := by
    rw [steps_written cfg doc h p hp]
    conv => lhs; rw [split_at _ k c hk]
    simp only [List.map_append, List.map_cons]
  have := (job_step_scope (docCx cfg doc proj) isNum (docJobsAst cfg doc) (docJob cfg p) _ _ _ hs).1
  rw [visitJob_eq, this]
  exact (((Inside.refl _).app_right _).app_left _).app_right _ |>.app_left _

theorem visitStep_diags (cx : Cx) (s : Step) : ∃ tl, (visitStep cx s).2 = stepDiags cx s ++ tl := by
  simp only [visitStep]
  cases s.id with
  | none => exact ⟨[], by simp⟩
  | some id => exact ⟨_, rfl⟩

/-- **the `run:` scalar of element `k` of `steps:` is checked** (as a script, key `jobs.<job_id>.steps.run`) **under
`docStepCx … k`** -/
theorem step_run_checked (cfg : Cfg) (doc : Node) (h : (parse cfg doc).2 = []) (isNum : IsNumber) (proj : ProjView)
    (p : Node × Node) (hp : p ∈ docJobs doc) (k : Nat) (c r : Node) (hk : (docSteps p.2)[k]? = some c)
    (hr : mget c "run" = some r) :
    ∃ hd tl, rule cfg.lower isNum (parse cfg doc).1 proj =
      hd ++ AL.RuleExpr.checkScriptString (docStepCx cfg doc isNum proj p k) (some (newString r)) "jobs.<job_id>.steps.run" ++ tl := by
  refine Inside.trans ?_ (step_visited cfg doc h isNum proj p hp k c hk)
  obtain ⟨tl', e'⟩ := visitStep_diags (docStepCx cfg doc isNum proj p k) (docStep cfg c)
  have hc : c ∈ docSteps p.2 := List.mem_of_getElem? hk
  have hrun := step_run_written cfg doc h p hp c hc
  rw [hr] at hrun
  rw [e']
  refine Inside.app_left _ ?_
  simp only [stepDiags]
  simp only [runOf] at hrun
  cases hx : (docStep cfg c).exec with
  | run ex =>
    rw [hx] at hrun
    simp only [Option.map_some] at hrun
    simp only [AL.RuleExpr.stepExec, hrun]
    exact (((((Inside.refl _).app_left _).app_left _).app_right _).app_left _).app_left _ |>.app_left _
  | action ex => rw [hx] at hrun; cases hrun
  | none => rw [hx] at hrun; cases hrun

/-! ## 3. the scope theorems, on the document

"reported as undefined" in the docstrings below: `check` of the reference, under the state of §2 named in the statement,
returns the `prop-undefined` error (`AL.C05.undefinedProp`); "has a diagnostic": its `errs` are not empty. -/

/-- **`steps.<name>` in element `k` of `steps:` of a job of the document** (under `docStepCx … k`, the state the element is
visited in by `step_visited` and its `run:` scalar is checked in by `step_run_checked`, and a key where `steps` is
available) **is reported as undefined iff no EARLIER element of `steps:` has an `id:` whose folded text is `<name>`** —
whatever the later elements and the other jobs declare. (Ids written without a placeholder; with one, `steps` is loose
from there on.) -/
theorem doc_steps_reported_iff (cfg : Cfg) (doc : Node) (h : (parse cfg doc).2 = []) (isNum : IsNumber) (proj : ProjView)
    (p : Node × Node) (hp : p ∈ docJobs doc) (k : Nat)
    (hlit : ∀ c ∈ (docSteps p.2).take k, ∀ id, docStepId c = some id → AL.Matrix.containsExpr id = false)
    (key name : String) (ha : (AL.Visit.availability key).1.contains (cfg.lower "steps") = true) :
    AL.C05.undefinedProp name (check (envOf (docStepCx cfg doc isNum proj p k) key) (.objDeref (.var "steps") name)) ↔
      ¬ ∃ c ∈ (docSteps p.2).take k, ∃ id, docStepId c = some id ∧ cfg.lower id = name := by
  have hsub : ∀ c ∈ (docSteps p.2).take k, c ∈ docSteps p.2 := fun c hc => List.mem_of_mem_take hc
  unfold docStepCx
  rw [steps_reported_iff (docCx cfg doc proj) isNum (docJobsAst cfg doc) (docJob cfg p) _ ?_ key name
    (by rw [docCx_lower]; exact ha), docCx_lower]
  · apply not_congr
    constructor
    · rintro ⟨s', hs', id, h1, h2⟩
      obtain ⟨c, hc, rfl⟩ := List.mem_map.1 hs'
      have := step_id_text cfg doc h p hp c (hsub c hc)
      rw [h1] at this
      exact ⟨c, hc, id.value, this.symm, h2⟩
    · rintro ⟨c, hc, id, h1, h2⟩
      have := step_id_text cfg doc h p hp c (hsub c hc)
      rw [h1] at this
      cases hid : (docStep cfg c).id with
      | none => rw [hid] at this; cases this
      | some i =>
        rw [hid] at this
        simp only [Option.map_some, Option.some.injEq] at this
        exact ⟨_, List.mem_map.2 ⟨c, hc, rfl⟩, i, hid, by rw [this]; exact h2⟩
  · intro s' hs' id hid
    obtain ⟨c, hc, rfl⟩ := List.mem_map.1 hs'
    have := step_id_text cfg doc h p hp c (hsub c hc)
    rw [hid] at this
    exact hlit c hc id.value this.symm

/-- **… and in `outputs:` / `environment:` of the job: iff NO element of `steps:` has that id** -/
theorem doc_steps_reported_post_iff (cfg : Cfg) (doc : Node) (h : (parse cfg doc).2 = []) (isNum : IsNumber) (proj : ProjView)
    (p : Node × Node) (hp : p ∈ docJobs doc)
    (hlit : ∀ c ∈ docSteps p.2, ∀ id, docStepId c = some id → AL.Matrix.containsExpr id = false)
    (key name : String) (ha : (AL.Visit.availability key).1.contains (cfg.lower "steps") = true) :
    AL.C05.undefinedProp name (check (envOf (docJobPostCx cfg doc isNum proj p) key) (.objDeref (.var "steps") name)) ↔
      ¬ ∃ c ∈ docSteps p.2, ∃ id, docStepId c = some id ∧ cfg.lower id = name := by
  have e : docJobPostCx cfg doc isNum proj p = docStepCx cfg doc isNum proj p (docSteps p.2).length := by
    unfold docJobPostCx docStepCx jobCxPost stepCx
    rw [List.take_length, steps_written cfg doc h p hp]
  rw [e]
  have := doc_steps_reported_iff cfg doc h isNum proj p hp (docSteps p.2).length (by rw [List.take_length]; exact hlit) key name ha
  rw [List.take_length] at this
  exact this

theorem find?_of_mem_nodup {β : Type} (k : String) (j : β) : ∀ (l : List (String × β)), (l.map (·.1)).Nodup → (k, j) ∈ l →
    l.find? (·.1 = k) = some (k, j) :=
  fun l hnd h => AL.C11D.find?_of_mem_nodup (·.1) k l hnd (k, j) h rfl

theorem lookupJob_eq_find? (i : String) : ∀ (jobs : List (String × Job)), lookupJob i jobs = (jobs.find? (·.1 = i)).map (·.2)
  | [] => rfl
  | (k, j) :: rest => by
    simp only [lookupJob, List.find?_cons]
    by_cases h : k = i <;> simp [h, lookupJob_eq_find? i rest]

theorem lookupJob_isSome (i : String) : ∀ (jobs : List (String × Job)), (lookupJob i jobs).isSome = true ↔ i ∈ jobs.map (·.1) :=
  fun jobs => by
    simp only [lookupJob_eq_find?, Option.isSome_map, List.find?_isSome, decide_eq_true_eq, List.mem_map]

/-- **`needs.<name>` in a job of the document** (under `docJobCx`, the state `VisitJobPre` checks the job's strings in by
`job_pre_visited`, and a key where `needs` is available) **is reported as undefined iff `<name>` is not the folded text of
an entry of the job's own `needs:` that is also the folded text of a key of `jobs:`, or is the (folded) key of the job
itself** — nothing transitive -/
theorem doc_needs_reported_iff (cfg : Cfg) (doc : Node) (h : (parse cfg doc).2 = []) (isNum : IsNumber) (proj : ProjView)
    (p : Node × Node) (hp : p ∈ docJobs doc)
    (key name : String) (ha : (AL.Visit.availability key).1.contains (cfg.lower "needs") = true) :
    AL.C05.undefinedProp name (check (envOf (docJobCx cfg doc isNum proj p) key) (.objDeref (.var "needs") name)) ↔
      ¬ (name ∈ (docNeeds p.2).map cfg.lower ∧ name ≠ cfg.lower p.1.value ∧ name ∈ (docJobIds doc).map cfg.lower) := by
  unfold docJobCx
  rw [needs_reported_iff (docCx cfg doc proj) isNum (docJobsAst cfg doc) (docJob cfg p) key name
    (by rw [docCx_lower]; exact ha), docCx_lower, lookupJob_isSome, (job_ids_written cfg doc h).1, job_id_written,
    ← (needs_written cfg doc h p hp).2, List.map_map]
  rfl

/-! ### `needs.<job>.outputs.<name>` -/

/-- **the output names of a job of the AST are the folded keys written under its `outputs:`** -/
theorem outputs_written (cfg : Cfg) (doc : Node) (h : (parse cfg doc).2 = []) (p : Node × Node) (hp : p ∈ docJobs doc) :
    ((docJob cfg p).outputs.getD []).map (·.1) = (docOutputs p.2).map cfg.lower :=
  parseJob_outputs cfg _ _ (job_clean cfg doc h p hp)

theorem job_no_call (cfg : Cfg) (doc : Node) (h : (parse cfg doc).2 = []) (p : Node × Node) (hp : p ∈ docJobs doc)
    (hu : mget p.2 "uses" = none) : (docJob cfg p).workflowCall = none :=
  parseJob_no_call cfg _ _ (job_clean cfg doc h p hp) hu

theorem docJobsAst_nodup (cfg : Cfg) (doc : Node) : ((docJobsAst cfg doc).map (·.1)).Nodup := by
  unfold docJobsAst
  cases hj : (parse cfg doc).1.jobs with
  | none => simp
  | some jobs =>
    obtain ⟨n, rfl⟩ := AL.C18P.parse_jobs cfg doc jobs hj
    exact AL.C18P.parseJobs_keys_nodup cfg n

theorem lookupJob_of_mem (k : String) (j : Job) : ∀ (jobs : List (String × Job)), (jobs.map (·.1)).Nodup → (k, j) ∈ jobs →
    lookupJob k jobs = some j :=
  fun jobs hnd h => by rw [lookupJob_eq_find?, find?_of_mem_nodup k j jobs hnd h]; rfl

/-- the job found under the folded key of a pair of `jobs:` is the job built from that pair -/
theorem lookupJob_written (cfg : Cfg) (doc : Node) (h : (parse cfg doc).2 = []) (q : Node × Node) (hq : q ∈ docJobs doc) :
    lookupJob (cfg.lower q.1.value) (docJobsAst cfg doc) = some (docJob cfg q) :=
  lookupJob_of_mem _ _ _ (docJobsAst_nodup cfg doc) (job_mem cfg doc h q hq)

/-- **`needs.<job>.outputs.<name>` in a job `p` of the document, for a job `q` written in `p`'s `needs:`** (not `p` itself,
not a reusable-workflow call) **has a diagnostic iff `<name>` is not the folded text of a key written under `q`'s `outputs:`** -/
theorem doc_needs_outputs_reported_iff (cfg : Cfg) (doc : Node) (h : (parse cfg doc).2 = []) (isNum : IsNumber) (proj : ProjView)
    (p : Node × Node) (hp : p ∈ docJobs doc) (q : Node × Node) (hq : q ∈ docJobs doc)
    (hneeded : cfg.lower q.1.value ∈ (docNeeds p.2).map cfg.lower) (hself : cfg.lower q.1.value ≠ cfg.lower p.1.value)
    (hu : mget q.2 "uses" = none)
    (key o : String) (ha : (AL.Visit.availability key).1.contains (cfg.lower "needs") = true) :
    (check (envOf (docJobCx cfg doc isNum proj p) key)
      (.objDeref (.objDeref (.objDeref (.var "needs") (cfg.lower q.1.value)) "outputs") o)).errs ≠ [] ↔
      o ∉ (docOutputs q.2).map cfg.lower := by
  have hin : cfg.lower q.1.value ∈ ((docJob cfg p).needs.getD []).map (fun id => (docCx cfg doc proj).lower id.value) := by
    rw [docCx_lower]
    have := (needs_written cfg doc h p hp).2
    rw [← this, List.map_map] at hneeded
    exact hneeded
  have hself' : cfg.lower q.1.value ≠ (docCx cfg doc proj).lower (docJob cfg p).id.value := by
    rw [docCx_lower, job_id_written]; exact hself
  obtain ⟨ps, js, os, e, h1, h2, _, h4⟩ := needs_outputs_exact ((docCx cfg doc proj).proj.jobView (docJob cfg p).id.value).outs
    (docCx cfg doc proj).lower (docJobsAst cfg doc) (docJob cfg p) (docJob cfg q) (cfg.lower q.1.value) hin hself'
    (lookupJob_written cfg doc h q hq) (job_no_call cfg doc h q hq hu)
  obtain ⟨hn, _, _, _, hlow, _, _⟩ := jobCx_scope (docCx cfg doc proj) isNum (docJobsAst cfg doc) (docJob cfg p)
  have hl : Ty.lookup "needs" (envOf (docJobCx cfg doc isNum proj p) key).vars = some (.obj ps none) := by
    unfold docJobCx
    rw [envOf_vars, (scope_st _ _ _ _ _).1, hn, e]; rfl
  have hav : (envOf (docJobCx cfg doc isNum proj p) key).availCtx.contains ((envOf (docJobCx cfg doc isNum proj p) key).lower "needs") = true := by
    have : (docJobCx cfg doc isNum proj p).lower = cfg.lower := hlow.trans (docCx_lower cfg doc proj)
    show (AL.Visit.availability key).1.contains ((docJobCx cfg doc isNum proj p).lower "needs") = true
    rw [this]; exact ha
  rw [AL.C05.nested_scope_exact (envOf (docJobCx cfg doc isNum proj p) key) "needs" (cfg.lower q.1.value) o ps js os hl hav h1 h2,
    h4 o, outputs_written cfg doc h q hq]
  by_cases ho : o ∈ (docOutputs q.2).map cfg.lower <;> simp [ho]

/-! ### `jobs.<job>.outputs.<name>` (the values of `on: workflow_call: outputs:`) -/

/-- the state under which the rule checks the `value:`s of `on: workflow_call: outputs:` (see `AL.C05S.rule_outputs_eq`):
the header of `on:`, no per-job scope, and `jobs` -/
def docOutCx (cfg : Cfg) (doc : Node) (proj : ProjView) : Cx :=
  { docCx cfg doc proj with jobsTy := some (AL.RuleExpr.jobsTyOf (docJobsAst cfg doc)) }

/-- the `value:`s of `on: workflow_call: outputs:` are checked under `docOutCx`: `AL.C05S.rule_outputs_eq` at the parsed
document. The outputs are those of the AST (`findCallOutputs` of the parsed `on:`), not read off the node tree, and no
silence of the parser is asked; only the state is in document terms -/
theorem out_values_checked (cfg : Cfg) (doc : Node) (isNum : IsNumber) (proj : ProjView) :
    ∃ hd, rule cfg.lower isNum (parse cfg doc).1 proj = hd ++
      (match AL.RuleExpr.findCallOutputs ((parse cfg doc).1.on.getD []) with
       | some outs =>
         if outs.isEmpty || (docJobsAst cfg doc).isEmpty then []
         else outs.flatMap fun kv =>
           AL.RuleExpr.checkString (docOutCx cfg doc proj) kv.2.value "on.workflow_call.outputs.<output_id>.value"
       | none => []) :=
  rule_outputs_eq cfg.lower isNum (parse cfg doc).1 proj

/-- **`jobs.<name>` in a `value:` of `on: workflow_call: outputs:` is reported as undefined iff `<name>` is not the folded
text of a key of `jobs:`** -/
theorem doc_jobs_reported_iff (cfg : Cfg) (doc : Node) (h : (parse cfg doc).2 = []) (proj : ProjView)
    (key name : String) (ha : (AL.Visit.availability key).1.contains (cfg.lower "jobs") = true) :
    AL.C05.undefinedProp name (check (envOf (docOutCx cfg doc proj) key) (.objDeref (.var "jobs") name)) ↔
      name ∉ (docJobIds doc).map cfg.lower := by
  obtain ⟨ps, e, _, hk⟩ := jobs_exact (docJobsAst cfg doc)
  have hl : Ty.lookup "jobs" (envOf (docOutCx cfg doc proj) key).vars = some (.obj ps none) := by
    rw [envOf_vars, scope_jobs]
    simp only [docOutCx, e]
  have hlow : (docOutCx cfg doc proj).lower = cfg.lower := docCx_lower cfg doc proj
  rw [reported_iff _ key "jobs" name ps hl (by rw [hlow]; exact ha), ← (job_ids_written cfg doc h).1, ← hk name]
  cases Ty.lookup name ps <;> simp

/-- **`jobs.<job>.outputs.<name>` there, for a job `q` of the document that is not a reusable-workflow call, has a
diagnostic iff `<name>` is not the folded text of a key written under `q`'s `outputs:`** -/
theorem doc_jobs_outputs_reported_iff (cfg : Cfg) (doc : Node) (h : (parse cfg doc).2 = []) (proj : ProjView)
    (q : Node × Node) (hq : q ∈ docJobs doc) (hu : mget q.2 "uses" = none)
    (key o : String) (ha : (AL.Visit.availability key).1.contains (cfg.lower "jobs") = true) :
    (check (envOf (docOutCx cfg doc proj) key)
      (.objDeref (.objDeref (.objDeref (.var "jobs") (cfg.lower q.1.value)) "outputs") o)).errs ≠ [] ↔
      o ∉ (docOutputs q.2).map cfg.lower := by
  obtain ⟨ps, e, hx, _⟩ := jobs_exact (docJobsAst cfg doc)
  have hl : Ty.lookup "jobs" (envOf (docOutCx cfg doc proj) key).vars = some (.obj ps none) := by
    rw [envOf_vars, scope_jobs]
    simp only [docOutCx, e]
  have hav : (envOf (docOutCx cfg doc proj) key).availCtx.contains ((envOf (docOutCx cfg doc proj) key).lower "jobs") = true := by
    show (AL.Visit.availability key).1.contains ((docOutCx cfg doc proj).lower "jobs") = true
    rw [show (docOutCx cfg doc proj).lower = cfg.lower from docCx_lower cfg doc proj]; exact ha
  obtain ⟨os, eo, ho, _⟩ := jobEntry_exact (docJob cfg q) (job_no_call cfg doc h q hq hu)
  have hj : Ty.lookup (cfg.lower q.1.value) ps = some (.obj [("outputs", .obj os none)] none) := by
    have hnd : (((docJobsAst cfg doc).reverse).map (·.1)).Nodup := by
      rw [List.map_reverse]
      exact List.pairwise_reverse.2 ((docJobsAst_nodup cfg doc).imp fun hne => Ne.symm hne)
    rw [hx, find?_of_mem_nodup _ _ _ hnd (List.mem_reverse.2 (job_mem cfg doc h q hq))]
    simp only [Option.map_some, eo]
  rw [AL.C05.nested_scope_exact (envOf (docOutCx cfg doc proj) key) "jobs" (cfg.lower q.1.value) o ps _ os hl hav hj
      (by simp [Ty.lookup]), ho o, outputs_written cfg doc h q hq]
  by_cases hoo : o ∈ (docOutputs q.2).map cfg.lower <;> simp [hoo]

/-! ### `matrix` -/

/-- **the matrix of a job of the AST, for a `matrix:` written as a mapping**: not an expression; **its row keys are the
folded keys written under `matrix:` other than `include` / `exclude`**, in order; without `include:` no include; with an
`include:` written as a sequence of mappings, literal combinations **assigning the folded keys written in each element** -/
theorem matrix_written (cfg : Cfg) (doc : Node) (h : (parse cfg doc).2 = []) (p : Node × Node) (hp : p ∈ docJobs doc)
    (mx : Node) (hmx : docMatrix p.2 = some mx) (hk : mx.kind ≠ .scalar) :
    ∃ m, matrixOf (docJob cfg p) = some m ∧ m.expr = none ∧
      (m.rows.getD []).map (·.1) = (docMatrixRowKeys cfg mx).map cfg.lower ∧
      (docIncludeNode cfg mx = none → m.incl = none) ∧
      (∀ inc, docIncludeNode cfg mx = some inc → inc.kind ≠ .scalar → (∀ c ∈ inc.content, c.kind ≠ .scalar) →
        ∃ mc cs, m.incl = some mc ∧ mc.expr = none ∧ mc.combinations = some cs ∧ (∀ c ∈ cs, c.expr = none) ∧
          cs.map (fun c => (c.assigns.getD []).map (·.1)) =
            inc.content.map (fun c => (pairs c.content).map fun q => cfg.lower q.1.value)) := by
  obtain ⟨pos, e, hc⟩ := parseJob_matrix cfg _ _ (job_clean cfg doc h p hp) mx hmx
  obtain ⟨h1, h2, h3, h4⟩ := parseMatrix_lit cfg pos mx hk hc
  refine ⟨_, e, h1, h2, ?_, ?_⟩
  · intro hn; rw [h3, hn]
  · intro inc hinc hik hall
    obtain ⟨cs, e1, e2, e3⟩ := parseCombos_lit cfg "include" inc hik hall (h4 inc hinc)
    exact ⟨_, cs, by rw [h3, hinc]; exact e1, rfl, rfl, e2, e3⟩

/-- `matrix.<name>` in a job whose literal matrix has no `include` is reported iff `<name>` is not a row key (the companion
of `AL.C05S.matrix_reported_iff`) -/
theorem matrix_reported_rows_iff (cx0 : Cx) (isNum : IsNumber) (jobs : List (String × Job)) (n : Job) (m : Matrix)
    (hm : matrixOf n = some m) (he : m.expr = none) (hi : m.incl = none)
    (key name : String) (ha : (AL.Visit.availability key).1.contains (cx0.lower "matrix") = true) :
    AL.C05.undefinedProp name (check (envOf (jobCx cx0 isNum jobs n) key) (.objDeref (.var "matrix") name)) ↔
      ¬ name ∈ (m.rows.getD []).map (·.1) := by
  obtain ⟨_, hmx, _, _, hlow, _, _⟩ := jobCx_scope cx0 isNum jobs n
  rw [hm] at hmx
  obtain ⟨ps, e, hk⟩ := matrix_rows_only (jobCx1 cx0 jobs n) isNum m he hi
  have hl : Ty.lookup "matrix" (envOf (jobCx cx0 isNum jobs n) key).vars = some (.obj ps none) := by
    rw [envOf_vars, (scope_st _ _ _ _ _).2.2, hmx]
    simp only [e, Option.getD_some]
  rw [reported_iff _ key "matrix" name ps hl (by rw [hlow]; exact ha), ← hk name]
  cases Ty.lookup name ps <;> simp

/-- **`matrix.<name>` in a job of the document whose `matrix:` is written as a mapping** (rows: sequences or `${{ }}`
scalars; `include:`, if there, a sequence of mappings) **is reported as undefined iff `<name>` is neither the folded text of
a key of `matrix:` other than `include` / `exclude` nor the folded text of a key of an element of `include:`** -/
theorem doc_matrix_reported_iff (cfg : Cfg) (doc : Node) (h : (parse cfg doc).2 = []) (isNum : IsNumber) (proj : ProjView)
    (p : Node × Node) (hp : p ∈ docJobs doc) (mx : Node) (hmx : docMatrix p.2 = some mx) (hk : mx.kind ≠ .scalar)
    (hinc : ∀ inc, docIncludeNode cfg mx = some inc → inc.kind ≠ .scalar ∧ ∀ c ∈ inc.content, c.kind ≠ .scalar)
    (key name : String) (ha : (AL.Visit.availability key).1.contains (cfg.lower "matrix") = true) :
    AL.C05.undefinedProp name (check (envOf (docJobCx cfg doc isNum proj p) key) (.objDeref (.var "matrix") name)) ↔
      ¬ (name ∈ (docMatrixRowKeys cfg mx).map cfg.lower ∨ name ∈ (docIncludeKeys cfg mx).map cfg.lower) := by
  obtain ⟨m, hm, he, hrows, hnone, hsome⟩ := matrix_written cfg doc h p hp mx hmx hk
  unfold docJobCx
  cases hi : docIncludeNode cfg mx with
  | none =>
    rw [matrix_reported_rows_iff _ isNum _ _ m hm he (hnone hi) key name (by rw [docCx_lower]; exact ha), hrows]
    simp [docIncludeKeys, hi]
  | some inc =>
    obtain ⟨hik, hall⟩ := hinc inc hi
    obtain ⟨mc, cs, e1, e2, e3, e4, e5⟩ := hsome inc hi hik hall
    rw [matrix_reported_iff _ isNum _ _ m mc hm he e1 e2 (by rw [e3]; exact e4) key name (by rw [docCx_lower]; exact ha), hrows]
    -- a key assigned by some combination: a member of the flattened lists of assigned keys, which are the written ones
    have := congrArg (fun ls => name ∈ ls.flatten) e5
    simp only [List.mem_flatten, List.mem_map, exists_exists_and_eq_and, eq_iff_iff] at this
    simp only [e3, Option.getD_some, docIncludeKeys, hi, List.map_flatMap, List.map_map, List.mem_flatMap, List.mem_map,
      Function.comp_def, this]

/-! ### `inputs`, `secrets` -/

/-- **the header of an accepted document whose `on:` is a mapping**: the declared `workflow_call` inputs are the folded
keys written under `on: workflow_call: inputs:`, the declared secrets the folded keys written under `on: workflow_call:
secrets:` (none without that key), the `workflow_dispatch` inputs the folded keys written under `on: workflow_dispatch:
inputs:` -/
theorem hdr_written (cfg : Cfg) (doc : Node) (h : (parse cfg doc).2 = []) (proj : ProjView) (on : Node)
    (hon : docOn doc = some on) (hk : on.kind = .mapping) :
    ((docCx cfg doc proj).hdr.callInputs.getD []).map (·.1) = (docCallInputs doc).map cfg.lower ∧
    (docCx cfg doc proj).hdr.callSecrets = (docCallSecrets doc).map (·.map cfg.lower) ∧
    ((docCx cfg doc proj).hdr.dispatchInputs.getD []).map (·.1) = (docDispatchInputs doc).map cfg.lower := by
  obtain ⟨on', pos, hon', hw, hc⟩ := parse_on_written cfg doc h
  rw [hon] at hon'
  cases hon'
  rw [parseEvents_mapping cfg pos on hk] at hw hc
  simp only [append_nil_iff] at hc
  have hh : (docCx cfg doc proj).hdr = hdrOf (onLoop cfg on).1 := by
    unfold docCx
    rw [(ruleCx_scope cfg.lower proj (parse cfg doc).1).2.1, hw]
    rfl
  obtain ⟨h1, h2, h3⟩ := on_hdr_written cfg on hc.1 hc.2
  rw [hh, h1, h2, h3]
  simp only [docCallInputs, docCallSecrets, docDispatchInputs, docCall, hon, Option.bind_some]
  refine ⟨?_, ?_, ?_⟩
  · cases (mget on "workflow_call").bind (mget · "inputs") <;> simp
  · cases (mget on "workflow_call").bind (mget · "secrets") <;> simp
  · cases (mget on "workflow_dispatch").bind (mget · "inputs") <;> simp

/-- the header and the folding function are the same in every state the rule visits the jobs and steps of the document in -/
theorem docJobCx_hdr (cfg : Cfg) (doc : Node) (isNum : IsNumber) (proj : ProjView) (p : Node × Node) :
    (docJobCx cfg doc isNum proj p).hdr = (docCx cfg doc proj).hdr ∧ (docJobCx cfg doc isNum proj p).lower = cfg.lower := by
  obtain ⟨_, _, _, a, b, _, _⟩ := jobCx_scope (docCx cfg doc proj) isNum (docJobsAst cfg doc) (docJob cfg p)
  exact ⟨a, b.trans (docCx_lower cfg doc proj)⟩

theorem docStepCx_hdr (cfg : Cfg) (doc : Node) (isNum : IsNumber) (proj : ProjView) (p : Node × Node) (k : Nat) :
    (docStepCx cfg doc isNum proj p k).hdr = (docCx cfg doc proj).hdr ∧ (docStepCx cfg doc isNum proj p k).lower = cfg.lower := by
  unfold docStepCx stepCx
  refine ⟨?_, ?_⟩
  · rw [(AL.C05E.visitSteps_scope _ _).2.2.1]; exact (jobCxS_scope _ isNum _ _).2.2.2.1
  · rw [(AL.C05E.visitSteps_scope _ _).2.2.2, (jobCxS_scope _ isNum _ _).2.2.2.2.1]; exact docCx_lower cfg doc proj

theorem docJobPostCx_hdr (cfg : Cfg) (doc : Node) (isNum : IsNumber) (proj : ProjView) (p : Node × Node) :
    (docJobPostCx cfg doc isNum proj p).hdr = (docCx cfg doc proj).hdr ∧ (docJobPostCx cfg doc isNum proj p).lower = cfg.lower := by
  obtain ⟨_, _, _, a, b⟩ := jobCxPost_scope (docCx cfg doc proj) isNum (docJobsAst cfg doc) (docJob cfg p)
  exact ⟨a, b.trans (docCx_lower cfg doc proj)⟩

/-- **`inputs.<name>`** (in any state `cx` the rule reaches on the document: `docCx`, `docJobCx`, `docStepCx`, `docJobPostCx`)
**is reported as undefined iff `<name>` is not the folded text of a key of `on: workflow_call: inputs:` or of
`on: workflow_dispatch: inputs:`** -/
theorem doc_inputs_reported_iff (cfg : Cfg) (doc : Node) (h : (parse cfg doc).2 = []) (proj : ProjView) (on : Node)
    (hon : docOn doc = some on) (hk : on.kind = .mapping) (cx : Cx) (hh : cx.hdr = (docCx cfg doc proj).hdr)
    (hl : cx.lower = cfg.lower) (key name : String) (ha : (AL.Visit.availability key).1.contains (cfg.lower "inputs") = true) :
    AL.C05.undefinedProp name (check (envOf cx key) (.objDeref (.var "inputs") name)) ↔
      ¬ (name ∈ (docCallInputs doc).map cfg.lower ∨ name ∈ (docDispatchInputs doc).map cfg.lower) := by
  obtain ⟨h1, _, h3⟩ := hdr_written cfg doc h proj on hon hk
  rw [inputs_reported_iff cx key name (by rw [hl]; exact ha), hh, h1, h3]

/-- **`secrets.<name>` in a document that declares `on: workflow_call: secrets:` is reported as undefined iff `<name>` is
neither the folded text of a key written there nor an automatic secret** -/
theorem doc_secrets_reported_iff (cfg : Cfg) (doc : Node) (h : (parse cfg doc).2 = []) (proj : ProjView) (on : Node)
    (hon : docOn doc = some on) (hk : on.kind = .mapping) (ks : List String) (hs : docCallSecrets doc = some ks)
    (cx : Cx) (hh : cx.hdr = (docCx cfg doc proj).hdr)
    (hl : cx.lower = cfg.lower) (key name : String) (ha : (AL.Visit.availability key).1.contains (cfg.lower "secrets") = true) :
    AL.C05.undefinedProp name (check (envOf cx key) (.objDeref (.var "secrets") name)) ↔
      ¬ (name ∈ ks.map cfg.lower ∨ name ∈ ["actions_runner_debug", "actions_step_debug", "github_token"]) := by
  obtain ⟨_, h2, _⟩ := hdr_written cfg doc h proj on hon hk
  rw [hs] at h2
  exact secrets_reported_iff cx (ks.map cfg.lower) (by rw [hh, h2]; rfl) key name (by rw [hl]; exact ha)

/-- … and without a `secrets:` key under `on: workflow_call:` (or without `workflow_call`) no `secrets.<name>` is reported -/
theorem doc_secrets_silent (cfg : Cfg) (doc : Node) (h : (parse cfg doc).2 = []) (proj : ProjView) (on : Node)
    (hon : docOn doc = some on) (hk : on.kind = .mapping) (hs : docCallSecrets doc = none)
    (cx : Cx) (hh : cx.hdr = (docCx cfg doc proj).hdr)
    (hl : cx.lower = cfg.lower) (key name : String) (ha : (AL.Visit.availability key).1.contains (cfg.lower "secrets") = true) :
    (check (envOf cx key) (.objDeref (.var "secrets") name)).errs = [] := by
  obtain ⟨_, h2, _⟩ := hdr_written cfg doc h proj on hon hk
  rw [hs] at h2
  exact secrets_silent cx (by rw [hh, h2]; rfl) key name (by rw [hl]; exact ha)

/-- **an `on:` that is not written as a mapping** (`on: push`, `on: [push, workflow_call]`, …) **declares nothing**: no
input, no secrets -/
theorem hdr_plain_written (cfg : Cfg) (doc : Node) (h : (parse cfg doc).2 = []) (proj : ProjView) (on : Node)
    (hon : docOn doc = some on) (hk : on.kind ≠ .mapping) : HdrEmpty (docCx cfg doc proj).hdr := by
  obtain ⟨on', pos, hon', hw, _⟩ := parse_on_written cfg doc h
  rw [hon] at hon'
  cases hon'
  unfold docCx
  rw [(ruleCx_scope cfg.lower proj (parse cfg doc).1).2.1]
  apply foldHdr_plain _ _ _ ⟨rfl, rfl, rfl⟩
  cases hes : (parse cfg doc).1.on with
  | none => intro e he; cases he
  | some es =>
    rw [hes] at hw
    exact parseEvents_plain cfg pos on hk es hw.symm

/-- … so **every `inputs.<name>` is reported** there, and no `secrets.<name>` is -/
theorem doc_inputs_reported_plain (cfg : Cfg) (doc : Node) (h : (parse cfg doc).2 = []) (proj : ProjView) (on : Node)
    (hon : docOn doc = some on) (hk : on.kind ≠ .mapping) (cx : Cx) (hh : cx.hdr = (docCx cfg doc proj).hdr)
    (hl : cx.lower = cfg.lower) (key name : String) (ha : (AL.Visit.availability key).1.contains (cfg.lower "inputs") = true) :
    AL.C05.undefinedProp name (check (envOf cx key) (.objDeref (.var "inputs") name)) := by
  obtain ⟨h1, h2, _⟩ := hdr_plain_written cfg doc h proj on hon hk
  rw [inputs_reported_iff cx key name (by rw [hl]; exact ha), hh, h1, h2]
  simp

theorem doc_secrets_silent_plain (cfg : Cfg) (doc : Node) (h : (parse cfg doc).2 = []) (proj : ProjView) (on : Node)
    (hon : docOn doc = some on) (hk : on.kind ≠ .mapping) (cx : Cx) (hh : cx.hdr = (docCx cfg doc proj).hdr)
    (hl : cx.lower = cfg.lower) (key name : String) (ha : (AL.Visit.availability key).1.contains (cfg.lower "secrets") = true) :
    (check (envOf cx key) (.objDeref (.var "secrets") name)).errs = [] := by
  obtain ⟨_, _, h3⟩ := hdr_plain_written cfg doc h proj on hon hk
  exact secrets_silent cx (by rw [hh, h3]) key name (by rw [hl]; exact ha)

/-! ## 4. the same, with the right-hand sides as lists of written names (decidable on a concrete document) -/

theorem exists_iff_mem_filterMap {α : Type} (l : List α) (f : α → Option String) (g : String → String) (name : String) :
    (∃ c ∈ l, ∃ id, f c = some id ∧ g id = name) ↔ name ∈ (l.filterMap f).map g := by
  simp only [List.mem_map, List.mem_filterMap]
  constructor
  · rintro ⟨c, hc, id, h1, h2⟩; exact ⟨id, ⟨c, hc, h1⟩, h2⟩
  · rintro ⟨id, ⟨c, hc, h1⟩, h2⟩; exact ⟨c, hc, id, h1, h2⟩

/-- the ids written in the elements of `steps:` BEFORE element `k` -/
def docStepIdsBefore (job : Node) (k : Nat) : List String := ((docSteps job).take k).filterMap docStepId

theorem docStepIdsBefore_length (job : Node) : docStepIdsBefore job (docSteps job).length = docStepIds job := by
  simp [docStepIdsBefore, docStepIds]

/-- **`steps.<name>` in element `k` of `steps:` is reported iff `<name>` is not the folded text of an `id:` written in an
EARLIER element** -/
theorem doc_steps_reported_iff_ids (cfg : Cfg) (doc : Node) (h : (parse cfg doc).2 = []) (isNum : IsNumber) (proj : ProjView)
    (p : Node × Node) (hp : p ∈ docJobs doc) (k : Nat)
    (hlit : (docStepIdsBefore p.2 k).all (fun id => !AL.Matrix.containsExpr id) = true)
    (key name : String) (ha : (AL.Visit.availability key).1.contains (cfg.lower "steps") = true) :
    AL.C05.undefinedProp name (check (envOf (docStepCx cfg doc isNum proj p k) key) (.objDeref (.var "steps") name)) ↔
      name ∉ (docStepIdsBefore p.2 k).map cfg.lower := by
  rw [doc_steps_reported_iff cfg doc h isNum proj p hp k ?_ key name ha, exists_iff_mem_filterMap]
  · rfl
  · intro c hc id hid
    simp only [List.all_eq_true, Bool.not_eq_eq_eq_not, Bool.not_true] at hlit
    exact hlit id (List.mem_filterMap.2 ⟨c, hc, hid⟩)

/-- **… in `outputs:` / `environment:` of the job iff `<name>` is not the folded text of any `id:` written in `steps:`** -/
theorem doc_steps_reported_post_iff_ids (cfg : Cfg) (doc : Node) (h : (parse cfg doc).2 = []) (isNum : IsNumber) (proj : ProjView)
    (p : Node × Node) (hp : p ∈ docJobs doc)
    (hlit : (docStepIds p.2).all (fun id => !AL.Matrix.containsExpr id) = true)
    (key name : String) (ha : (AL.Visit.availability key).1.contains (cfg.lower "steps") = true) :
    AL.C05.undefinedProp name (check (envOf (docJobPostCx cfg doc isNum proj p) key) (.objDeref (.var "steps") name)) ↔
      name ∉ (docStepIds p.2).map cfg.lower := by
  rw [doc_steps_reported_post_iff cfg doc h isNum proj p hp ?_ key name ha, exists_iff_mem_filterMap]
  · rfl
  · intro c hc id hid
    simp only [List.all_eq_true, Bool.not_eq_eq_eq_not, Bool.not_true] at hlit
    exact hlit id (List.mem_filterMap.2 ⟨c, hc, hid⟩)

/-- a `matrix:` node written literally: a mapping whose `include:`, if any, is a sequence of mappings (non-scalars) -/
def docMatrixLiteral (cfg : Cfg) (mx : Node) : Bool :=
  decide (mx.kind ≠ .scalar) &&
  match docIncludeNode cfg mx with
  | some inc => decide (inc.kind ≠ .scalar) && inc.content.all (fun c => decide (c.kind ≠ .scalar))
  | none => true

/-- **`matrix.<name>` for a literal `matrix:`: reported iff `<name>` is neither a folded row key nor a folded key of an
`include:` element** -/
theorem doc_matrix_reported_iff_lit (cfg : Cfg) (doc : Node) (h : (parse cfg doc).2 = []) (isNum : IsNumber) (proj : ProjView)
    (p : Node × Node) (hp : p ∈ docJobs doc) (mx : Node) (hmx : docMatrix p.2 = some mx) (hlit : docMatrixLiteral cfg mx = true)
    (key name : String) (ha : (AL.Visit.availability key).1.contains (cfg.lower "matrix") = true) :
    AL.C05.undefinedProp name (check (envOf (docJobCx cfg doc isNum proj p) key) (.objDeref (.var "matrix") name)) ↔
      name ∉ (docMatrixRowKeys cfg mx ++ docIncludeKeys cfg mx).map cfg.lower := by
  simp only [docMatrixLiteral, Bool.and_eq_true, decide_eq_true_eq] at hlit
  rw [doc_matrix_reported_iff cfg doc h isNum proj p hp mx hmx hlit.1 ?_ key name ha]
  · simp only [List.map_append, List.mem_append]
  · intro inc hi
    have h2 := hlit.2
    rw [hi] at h2
    simp only [Bool.and_eq_true, decide_eq_true_eq, List.all_eq_true] at h2
    exact h2

/-! ## 5. concrete documents. The first: three jobs, three steps — not transitive, not later

```yaml
on:
  workflow_call:
    inputs:
      Tag: {type: string}
    secrets:
      Token: {}
  workflow_dispatch:
    inputs:
      dry: {type: boolean}
jobs:
  Build:
    runs-on: u
    strategy:
      matrix:
        OS: [linux]
        include:
          - {os: win, Extra: "1"}
    outputs: {Art: v}
    steps:
      - {id: A, run: x}
      - {run: y}
      - {id: b, run: z}
  test:
    needs: Build
    runs-on: u
    steps:
      - {run: x}
  deploy:
    needs: [test]
    runs-on: u
    steps:
      - {run: x}
``` -/

section Example

def exCfg : Cfg := ⟨asciiLower, fun _ => none, fun _ => .err⟩
private def sc (v : String) (l c : Nat) : Node := .mk .scalar "!!str" v false l c []
private def mp (l c : Nat) (cs : List Node) : Node := .mk .mapping "!!map" "" false l c cs
private def sq (l c : Nat) (cs : List Node) : Node := .mk .sequence "!!seq" "" false l c cs

def exOn : Node :=
  mp 2 3 [sc "workflow_call" 2 3, mp 3 5 [
            sc "inputs" 3 5, mp 4 7 [sc "Tag" 4 7, mp 4 12 [sc "type" 4 13, sc "string" 4 19]],
            sc "secrets" 5 5, mp 6 7 [sc "Token" 6 7, mp 6 14 []]],
          sc "workflow_dispatch" 7 3, mp 8 5 [
            sc "inputs" 8 5, mp 9 7 [sc "dry" 9 7, mp 9 12 [sc "type" 9 13, sc "boolean" 9 19]]]]

def exStepA : Node := mp 19 9 [sc "id" 19 10, sc "A" 19 14, sc "run" 19 17, sc "x" 19 22]
def exStepN : Node := mp 20 9 [sc "run" 20 10, sc "y" 20 15]
def exStepB : Node := mp 21 9 [sc "id" 21 10, sc "b" 21 14, sc "run" 21 17, sc "z" 21 22]

def exMatrix : Node :=
  mp 15 9 [sc "OS" 15 9, sq 15 13 [sc "linux" 15 14],
           sc "include" 16 9, sq 17 11 [mp 17 13 [sc "os" 17 14, sc "win" 17 18, sc "Extra" 17 23, sc "1" 17 30]]]

def exBuild : Node :=
  mp 12 5 [sc "runs-on" 12 5, sc "u" 12 14,
           sc "strategy" 13 5, mp 14 7 [sc "matrix" 14 7, exMatrix],
           sc "outputs" 17 5, mp 17 14 [sc "Art" 17 15, sc "v" 17 20],
           sc "steps" 18 5, sq 19 7 [exStepA, exStepN, exStepB]]
def exTest : Node :=
  mp 23 5 [sc "needs" 23 5, sc "Build" 23 12, sc "runs-on" 24 5, sc "u" 24 14,
           sc "steps" 25 5, sq 26 7 [mp 26 9 [sc "run" 26 10, sc "x" 26 15]]]
def exDeploy : Node :=
  mp 28 5 [sc "needs" 28 5, sq 28 12 [sc "test" 28 13], sc "runs-on" 29 5, sc "u" 29 14,
           sc "steps" 30 5, sq 31 7 [mp 31 9 [sc "run" 31 10, sc "x" 31 15]]]

def pBuild : Node × Node := (sc "Build" 11 3, exBuild)
def pTest : Node × Node := (sc "test" 22 3, exTest)
def pDeploy : Node × Node := (sc "deploy" 27 3, exDeploy)

def exDoc : Node :=
  .mk .document "" "" false 1 1 [mp 1 1 [sc "on" 1 1, exOn,
    sc "jobs" 10 1, mp 11 3 [pBuild.1, pBuild.2, pTest.1, pTest.2, pDeploy.1, pDeploy.2]]]

/-- the parser accepts the document without a diagnostic -/
theorem exDoc_clean : (parse exCfg exDoc).2 = [] := by decide +kernel

theorem exDoc_jobs : docJobs exDoc = [pBuild, pTest, pDeploy] := by rfl
theorem pBuild_mem : pBuild ∈ docJobs exDoc := by rw [exDoc_jobs]; simp
theorem pTest_mem : pTest ∈ docJobs exDoc := by rw [exDoc_jobs]; simp
theorem pDeploy_mem : pDeploy ∈ docJobs exDoc := by rw [exDoc_jobs]; simp

/-- what is written -/
theorem exBuild_steps : docSteps exBuild = [exStepA, exStepN, exStepB] := by rfl
example : docJobIds exDoc = ["Build", "test", "deploy"] ∧ docStepIds exBuild = ["A", "b"] ∧
    (docSteps exBuild).map docStepId = [some "A", none, some "b"] ∧
    docNeeds exBuild = [] ∧ docNeeds exTest = ["Build"] ∧ docNeeds exDeploy = ["test"] ∧
    docMatrixRowKeys exCfg exMatrix = ["OS"] ∧ docIncludeKeys exCfg exMatrix = ["os", "Extra"] ∧
    docCallInputs exDoc = ["Tag"] ∧ docCallSecrets exDoc = some ["Token"] ∧ docDispatchInputs exDoc = ["dry"] := by
  decide +kernel

/-- … is what the AST holds (§1 on the example) -/
example : (docJobsAst exCfg exDoc).map (·.1) = ["build", "test", "deploy"] ∧
    (docJobsAst exCfg exDoc).map (·.2.id.value) = ["Build", "test", "deploy"] :=
  job_ids_written exCfg exDoc exDoc_clean
example : ((docJob exCfg pBuild).steps.getD []).filterMap (fun s => s.id.map (·.value)) = ["A", "b"] :=
  (step_ids_written exCfg exDoc exDoc_clean pBuild pBuild_mem).2
example : ((docJob exCfg pDeploy).needs.getD []).map (·.value) = ["test"] :=
  (needs_written exCfg exDoc exDoc_clean pDeploy pDeploy_mem).2
example : (docJob exCfg pTest).id = newString pTest.1 := job_id_written exCfg pTest
example : runOf (docStep exCfg exStepN) = some (newString (sc "y" 20 15)) :=
  step_run_written exCfg exDoc exDoc_clean pBuild pBuild_mem exStepN (by rw [show docSteps pBuild.2 = _ from exBuild_steps]; simp)

private def keyRun : String := "jobs.<job_id>.steps.run"
private def noNum : IsNumber := fun _ => false

example : ∀ c ∈ ["needs", "steps", "matrix", "inputs", "secrets"],
    (AL.Visit.availability keyRun).1.contains (exCfg.lower c) = true := available_run

/-- the `run:` scalars of the three steps of `Build` are checked under `docStepCx … 0 / 1 / 2` -/
example (k : Nat) (c r : Node) (hk : (docSteps pBuild.2)[k]? = some c) (hr : mget c "run" = some r) :
    ∃ hd tl, rule exCfg.lower noNum (parse exCfg exDoc).1 {} =
      hd ++ AL.RuleExpr.checkScriptString (docStepCx exCfg exDoc noNum {} pBuild k) (some (newString r)) keyRun ++ tl :=
  step_run_checked exCfg exDoc exDoc_clean noNum {} pBuild pBuild_mem k c r hk hr

/-- **not later.** In the FIRST step of `Build` (`id: A`) `steps.a` — the step itself — and `steps.b` are reported; in the
SECOND step `steps.a` is defined (written `A`: ids fold), `steps.b` — the THIRD step — is reported; in the third step
`steps.a` is defined, `steps.b` (itself) reported; in the job's `outputs:` both are defined and `steps.c` is reported -/
theorem example_not_later :
    AL.C05.undefinedProp "a" (check (envOf (docStepCx exCfg exDoc noNum {} pBuild 0) keyRun) (.objDeref (.var "steps") "a")) ∧
    AL.C05.undefinedProp "b" (check (envOf (docStepCx exCfg exDoc noNum {} pBuild 0) keyRun) (.objDeref (.var "steps") "b")) ∧
    ¬ AL.C05.undefinedProp "a" (check (envOf (docStepCx exCfg exDoc noNum {} pBuild 1) keyRun) (.objDeref (.var "steps") "a")) ∧
    AL.C05.undefinedProp "b" (check (envOf (docStepCx exCfg exDoc noNum {} pBuild 1) keyRun) (.objDeref (.var "steps") "b")) ∧
    ¬ AL.C05.undefinedProp "a" (check (envOf (docStepCx exCfg exDoc noNum {} pBuild 2) keyRun) (.objDeref (.var "steps") "a")) ∧
    AL.C05.undefinedProp "b" (check (envOf (docStepCx exCfg exDoc noNum {} pBuild 2) keyRun) (.objDeref (.var "steps") "b")) ∧
    ¬ AL.C05.undefinedProp "b" (check (envOf (docJobPostCx exCfg exDoc noNum {} pBuild) "jobs.<job_id>.outputs.<output_id>")
        (.objDeref (.var "steps") "b")) ∧
    AL.C05.undefinedProp "c" (check (envOf (docJobPostCx exCfg exDoc noNum {} pBuild) "jobs.<job_id>.outputs.<output_id>")
        (.objDeref (.var "steps") "c")) := by
  have H := fun k name hl => doc_steps_reported_iff_ids exCfg exDoc exDoc_clean noNum {} pBuild pBuild_mem k hl keyRun name
    (available_run _ (by simp))
  have P := fun name => doc_steps_reported_post_iff_ids exCfg exDoc exDoc_clean noNum {} pBuild pBuild_mem (by decide +kernel)
    "jobs.<job_id>.outputs.<output_id>" name available_job_outputs
  refine ⟨(H 0 "a" (by decide +kernel)).2 (by decide +kernel), (H 0 "b" (by decide +kernel)).2 (by decide +kernel),
    fun h => (H 1 "a" (by decide +kernel)).1 h (by decide +kernel), (H 1 "b" (by decide +kernel)).2 (by decide +kernel),
    fun h => (H 2 "a" (by decide +kernel)).1 h (by decide +kernel), (H 2 "b" (by decide +kernel)).2 (by decide +kernel),
    fun h => (P "b").1 h (by decide +kernel), (P "c").2 (by decide +kernel)⟩

/-- **not transitive.** `deploy` needs `test`, `test` needs `Build`: in `deploy`, `needs.test` is defined and `needs.build`
IS reported; in `test`, `needs.build` is defined (written `Build`) and `needs.test` — the job itself — and `needs.deploy`
are reported; `Build` needs nothing: `needs.test` is reported there -/
theorem example_not_transitive :
    ¬ AL.C05.undefinedProp "test" (check (envOf (docJobCx exCfg exDoc noNum {} pDeploy) keyRun) (.objDeref (.var "needs") "test")) ∧
    AL.C05.undefinedProp "build" (check (envOf (docJobCx exCfg exDoc noNum {} pDeploy) keyRun) (.objDeref (.var "needs") "build")) ∧
    ¬ AL.C05.undefinedProp "build" (check (envOf (docJobCx exCfg exDoc noNum {} pTest) keyRun) (.objDeref (.var "needs") "build")) ∧
    AL.C05.undefinedProp "test" (check (envOf (docJobCx exCfg exDoc noNum {} pTest) keyRun) (.objDeref (.var "needs") "test")) ∧
    AL.C05.undefinedProp "deploy" (check (envOf (docJobCx exCfg exDoc noNum {} pTest) keyRun) (.objDeref (.var "needs") "deploy")) ∧
    AL.C05.undefinedProp "test" (check (envOf (docJobCx exCfg exDoc noNum {} pBuild) keyRun) (.objDeref (.var "needs") "test")) := by
  have H := fun p hp name => doc_needs_reported_iff exCfg exDoc exDoc_clean noNum {} p hp keyRun name (available_run _ (by simp))
  refine ⟨fun h => (H pDeploy pDeploy_mem "test").1 h (by decide +kernel), (H pDeploy pDeploy_mem "build").2 (by decide +kernel),
    fun h => (H pTest pTest_mem "build").1 h (by decide +kernel), (H pTest pTest_mem "test").2 (by decide +kernel),
    (H pTest pTest_mem "deploy").2 (by decide +kernel), (H pBuild pBuild_mem "test").2 (by decide +kernel)⟩

theorem exBuild_matrix : docMatrix pBuild.2 = some exMatrix := by rfl
theorem exMatrix_include : docIncludeNode exCfg exMatrix =
    some (sq 17 11 [mp 17 13 [sc "os" 17 14, sc "win" 17 18, sc "Extra" 17 23, sc "1" 17 30]]) := by rfl

/-- **matrix**: in `Build`, `matrix.os` (row `OS`), `matrix.extra` (only assigned by an `include:` element) are defined;
`matrix.include` and `matrix.nope` are reported -/
theorem example_matrix :
    ¬ AL.C05.undefinedProp "os" (check (envOf (docJobCx exCfg exDoc noNum {} pBuild) keyRun) (.objDeref (.var "matrix") "os")) ∧
    ¬ AL.C05.undefinedProp "extra" (check (envOf (docJobCx exCfg exDoc noNum {} pBuild) keyRun) (.objDeref (.var "matrix") "extra")) ∧
    AL.C05.undefinedProp "include" (check (envOf (docJobCx exCfg exDoc noNum {} pBuild) keyRun) (.objDeref (.var "matrix") "include")) ∧
    AL.C05.undefinedProp "nope" (check (envOf (docJobCx exCfg exDoc noNum {} pBuild) keyRun) (.objDeref (.var "matrix") "nope")) := by
  have H := fun name => doc_matrix_reported_iff_lit exCfg exDoc exDoc_clean noNum {} pBuild pBuild_mem exMatrix exBuild_matrix
    (by decide +kernel) keyRun name (available_run _ (by simp))
  have keys : (docMatrixRowKeys exCfg exMatrix ++ docIncludeKeys exCfg exMatrix).map exCfg.lower = ["os", "os", "extra"] := by
    decide +kernel
  simp only [keys] at H
  exact ⟨fun h => (H "os").1 h (by simp), fun h => (H "extra").1 h (by simp), (H "include").2 (by simp), (H "nope").2 (by simp)⟩

theorem exDoc_on : docOn exDoc = some exOn := by rfl

/-- **inputs, secrets** (checked in the `run:` of the second step of `Build`): `inputs.tag` (written `Tag`, of
`workflow_call`), `inputs.dry` (of `workflow_dispatch`), `secrets.token`, `secrets.github_token` are defined; `inputs.other`,
`secrets.other` are reported -/
theorem example_inputs_secrets :
    ¬ AL.C05.undefinedProp "tag" (check (envOf (docStepCx exCfg exDoc noNum {} pBuild 1) keyRun) (.objDeref (.var "inputs") "tag")) ∧
    ¬ AL.C05.undefinedProp "dry" (check (envOf (docStepCx exCfg exDoc noNum {} pBuild 1) keyRun) (.objDeref (.var "inputs") "dry")) ∧
    AL.C05.undefinedProp "other" (check (envOf (docStepCx exCfg exDoc noNum {} pBuild 1) keyRun) (.objDeref (.var "inputs") "other")) ∧
    ¬ AL.C05.undefinedProp "token" (check (envOf (docStepCx exCfg exDoc noNum {} pBuild 1) keyRun) (.objDeref (.var "secrets") "token")) ∧
    ¬ AL.C05.undefinedProp "github_token" (check (envOf (docStepCx exCfg exDoc noNum {} pBuild 1) keyRun) (.objDeref (.var "secrets") "github_token")) ∧
    AL.C05.undefinedProp "other" (check (envOf (docStepCx exCfg exDoc noNum {} pBuild 1) keyRun) (.objDeref (.var "secrets") "other")) := by
  obtain ⟨hh, hl⟩ := docStepCx_hdr exCfg exDoc noNum {} pBuild 1
  have I := fun name => doc_inputs_reported_iff exCfg exDoc exDoc_clean {} exOn exDoc_on (by decide) _ hh hl keyRun name (available_run _ (by simp))
  have S := fun name => doc_secrets_reported_iff exCfg exDoc exDoc_clean {} exOn exDoc_on (by decide) ["Token"] (by decide +kernel)
    _ hh hl keyRun name (available_run _ (by simp))
  have ins : (docCallInputs exDoc).map exCfg.lower = ["tag"] ∧ (docDispatchInputs exDoc).map exCfg.lower = ["dry"] := by
    decide +kernel
  simp only [ins] at I
  exact ⟨fun h => (I "tag").1 h (by simp), fun h => (I "dry").1 h (by simp), (I "other").2 (by simp),
    fun h => (S "token").1 h (by decide +kernel), fun h => (S "github_token").1 h (by decide +kernel), (S "other").2 (by decide +kernel)⟩

/-! ### §1–§3 on the example: the remaining theorems -/

theorem lower_Build : exCfg.lower pBuild.1.value = "build" := by decide +kernel

example : docJobsAst exCfg exDoc =
    [("build", docJob exCfg pBuild), ("test", docJob exCfg pTest), ("deploy", docJob exCfg pDeploy)] := by
  rw [jobs_written exCfg exDoc exDoc_clean, exDoc_jobs]
  have : exCfg.lower "Build" = "build" := lower_Build
  simp only [List.map_cons, List.map_nil, pBuild, pTest, pDeploy, sc, Node.value, this]
  rfl
example : (parseJob exCfg (newString pTest.1) pTest.2).2 = [] := job_clean exCfg exDoc exDoc_clean pTest pTest_mem
example : (exCfg.lower pTest.1.value, docJob exCfg pTest) ∈ docJobsAst exCfg exDoc := job_mem exCfg exDoc exDoc_clean pTest pTest_mem
example : (docJob exCfg pBuild).steps.getD [] = [docStep exCfg exStepA, docStep exCfg exStepN, docStep exCfg exStepB] := by
  rw [steps_written exCfg exDoc exDoc_clean pBuild pBuild_mem, show docSteps pBuild.2 = _ from exBuild_steps]
  rfl
theorem exStepA_mem : exStepA ∈ docSteps pBuild.2 := by rw [show docSteps pBuild.2 = _ from exBuild_steps]; simp
example : (parseStep exCfg exStepA).2 = [] := step_clean exCfg exDoc exDoc_clean pBuild pBuild_mem exStepA exStepA_mem
example : (docStep exCfg exStepA).id = some (newString (sc "A" 19 14)) :=
  step_id_written exCfg exDoc exDoc_clean pBuild pBuild_mem exStepA exStepA_mem
example : (docStep exCfg exStepA).id.map (·.value) = some "A" :=
  step_id_text exCfg exDoc exDoc_clean pBuild pBuild_mem exStepA exStepA_mem

example : ∃ hd tl, [1, 2, 3].flatMap (fun n => [n, n]) = hd ++ [2, 2] ++ tl := flatMap_split (fun n => [n, n]) [1, 2, 3] 2 (by simp)
example : [1, 2, 3] = [1, 2, 3].take 1 ++ 2 :: [1, 2, 3].drop 2 := split_at [1, 2, 3] 1 2 rfl
example : Inside [2] [1, 2, 3] := Inside.trans (Inside.refl [2]) ⟨[1], [3], rfl⟩
example : Inside [2] ([1, 2] ++ [3]) := Inside.app_left [3] ⟨[1], [], rfl⟩
example : Inside [2] ([1] ++ [2, 3]) := Inside.app_right [1] ⟨[], [3], rfl⟩

example : ∃ hd tl, rule exCfg.lower noNum (parse exCfg exDoc).1 {} =
    hd ++ visitJob (docCx exCfg exDoc {}) noNum (docJobsAst exCfg exDoc) (docJob exCfg pTest) ++ tl :=
  job_visited exCfg exDoc exDoc_clean noNum {} pTest pTest_mem
example : ∃ hd tl, rule exCfg.lower noNum (parse exCfg exDoc).1 {} =
    hd ++ jobPre (docJobCx exCfg exDoc noNum {} pTest) (docJob exCfg pTest) ++ tl :=
  job_pre_visited exCfg exDoc exDoc_clean noNum {} pTest pTest_mem
example : ∃ hd tl, rule exCfg.lower noNum (parse exCfg exDoc).1 {} =
    hd ++ jobPost (docJobPostCx exCfg exDoc noNum {} pTest) (docJob exCfg pTest) ++ tl :=
  job_post_visited exCfg exDoc exDoc_clean noNum {} pTest pTest_mem
example : ∃ hd tl, rule exCfg.lower noNum (parse exCfg exDoc).1 {} =
    hd ++ (visitStep (docStepCx exCfg exDoc noNum {} pBuild 1) (docStep exCfg exStepN)).2 ++ tl :=
  step_visited exCfg exDoc exDoc_clean noNum {} pBuild pBuild_mem 1 exStepN (by rw [show docSteps pBuild.2 = _ from exBuild_steps]; rfl)
/-- the `run:` scalar `y` of the second step of `Build` is checked under `docStepCx … 1` -/
example : ∃ hd tl, rule exCfg.lower noNum (parse exCfg exDoc).1 {} =
    hd ++ AL.RuleExpr.checkScriptString (docStepCx exCfg exDoc noNum {} pBuild 1) (some (newString (sc "y" 20 15))) keyRun ++ tl :=
  step_run_checked exCfg exDoc exDoc_clean noNum {} pBuild pBuild_mem 1 exStepN (sc "y" 20 15)
    (by rw [show docSteps pBuild.2 = _ from exBuild_steps]; rfl) (by rfl)

/-- `doc_steps_reported_iff` / `doc_steps_reported_post_iff` in the element form: in the third step `steps.b` is reported -/
example : AL.C05.undefinedProp "b" (check (envOf (docStepCx exCfg exDoc noNum {} pBuild 2) keyRun) (.objDeref (.var "steps") "b")) := by
  refine (doc_steps_reported_iff exCfg exDoc exDoc_clean noNum {} pBuild pBuild_mem 2 ?_ keyRun "b" (available_run _ (by simp))).2 ?_
  · intro c hc id hid
    have : (docStepIdsBefore pBuild.2 2).all (fun id => !AL.Matrix.containsExpr id) = true := by decide +kernel
    simp only [List.all_eq_true, Bool.not_eq_eq_eq_not, Bool.not_true] at this
    exact this id (List.mem_filterMap.2 ⟨c, hc, hid⟩)
  · rw [exists_iff_mem_filterMap]
    show "b" ∉ (docStepIdsBefore pBuild.2 2).map exCfg.lower
    decide +kernel
example : AL.C05.undefinedProp "c" (check (envOf (docJobPostCx exCfg exDoc noNum {} pBuild) "jobs.<job_id>.outputs.<output_id>")
    (.objDeref (.var "steps") "c")) := by
  refine (doc_steps_reported_post_iff exCfg exDoc exDoc_clean noNum {} pBuild pBuild_mem ?_ _ "c" available_job_outputs).2 ?_
  · intro c hc id hid
    have : (docStepIds pBuild.2).all (fun id => !AL.Matrix.containsExpr id) = true := by decide +kernel
    simp only [List.all_eq_true, Bool.not_eq_eq_eq_not, Bool.not_true] at this
    exact this id (List.mem_filterMap.2 ⟨c, hc, hid⟩)
  · rw [exists_iff_mem_filterMap]
    show "c" ∉ (docStepIds pBuild.2).map exCfg.lower
    decide +kernel

/-- the matrix of `Build` in the AST: rows `os`; one literal `include` combination assigning `os`, `extra` -/
example : ∃ m mc cs, matrixOf (docJob exCfg pBuild) = some m ∧ m.expr = none ∧ (m.rows.getD []).map (·.1) = ["os"] ∧
    m.incl = some mc ∧ mc.expr = none ∧ mc.combinations = some cs ∧ (∀ c ∈ cs, c.expr = none) ∧
    cs.map (fun c => (c.assigns.getD []).map (·.1)) = [["os", "extra"]] := by
  obtain ⟨m, h1, h2, h3, _, h5⟩ := matrix_written exCfg exDoc exDoc_clean pBuild pBuild_mem exMatrix exBuild_matrix (by decide)
  obtain ⟨mc, cs, e1, e2, e3, e4, e5⟩ := h5 _ exMatrix_include (by decide)
    (by intro c hc; simp only [sq, Node.content, List.mem_singleton] at hc; subst hc; decide)
  refine ⟨m, mc, cs, h1, h2, ?_, e1, e2, e3, e4, ?_⟩
  · rw [h3]; decide +kernel
  · rw [e5]; decide +kernel
example : AL.C05.undefinedProp "nope" (check (envOf (docJobCx exCfg exDoc noNum {} pBuild) keyRun) (.objDeref (.var "matrix") "nope")) := by
  refine (doc_matrix_reported_iff exCfg exDoc exDoc_clean noNum {} pBuild pBuild_mem exMatrix exBuild_matrix (by decide) ?_
    keyRun "nope" (available_run _ (by simp))).2 (by decide +kernel)
  intro inc hi
  rw [exMatrix_include] at hi
  cases hi
  exact ⟨by decide, by intro c hc; simp only [sq, Node.content, List.mem_singleton] at hc; subst hc; decide⟩

/-- the header of the example: `inputs` of `workflow_call` / `workflow_dispatch`, `secrets` -/
example : ((docCx exCfg exDoc {}).hdr.callInputs.getD []).map (·.1) = ["tag"] ∧
    (docCx exCfg exDoc {}).hdr.callSecrets = some ["token"] ∧
    ((docCx exCfg exDoc {}).hdr.dispatchInputs.getD []).map (·.1) = ["dry"] := by
  obtain ⟨h1, h2, h3⟩ := hdr_written exCfg exDoc exDoc_clean {} exOn exDoc_on (by decide)
  rw [h1, h2, h3]
  decide +kernel

/-! ### `needs.<job>.outputs.<name>` on the first document -/

example : docOutputs exBuild = ["Art"] ∧ ((docJob exCfg pBuild).outputs.getD []).map (·.1) = ["art"] := by
  refine ⟨by decide +kernel, ?_⟩
  rw [outputs_written exCfg exDoc exDoc_clean pBuild pBuild_mem]
  decide +kernel
example : (docJob exCfg pBuild).workflowCall = none := job_no_call exCfg exDoc exDoc_clean pBuild pBuild_mem (by rfl)
example : ((docJobsAst exCfg exDoc).map (·.1)).Nodup := docJobsAst_nodup exCfg exDoc
example : lookupJob "build" (docJobsAst exCfg exDoc) = some (docJob exCfg pBuild) := by
  have := lookupJob_written exCfg exDoc exDoc_clean pBuild pBuild_mem
  rwa [lower_Build] at this
example : lookupJob "build" (docJobsAst exCfg exDoc) = some (docJob exCfg pBuild) := by
  have := lookupJob_of_mem _ _ _ (docJobsAst_nodup exCfg exDoc) (job_mem exCfg exDoc exDoc_clean pBuild pBuild_mem)
  rwa [lower_Build] at this

/-- in `test` (which needs `Build`): `needs.build.outputs.art` (written `Art`) has no diagnostic, `needs.build.outputs.nope` has -/
theorem example_needs_outputs :
    (check (envOf (docJobCx exCfg exDoc noNum {} pTest) keyRun)
      (.objDeref (.objDeref (.objDeref (.var "needs") "build") "outputs") "art")).errs = [] ∧
    (check (envOf (docJobCx exCfg exDoc noNum {} pTest) keyRun)
      (.objDeref (.objDeref (.objDeref (.var "needs") "build") "outputs") "nope")).errs ≠ [] := by
  have H := fun o => doc_needs_outputs_reported_iff exCfg exDoc exDoc_clean noNum {} pTest pTest_mem pBuild pBuild_mem
    (by decide +kernel) (by decide +kernel) (by rfl) keyRun o (available_run _ (by simp))
  rw [lower_Build] at H
  refine ⟨?_, (H "nope").2 (by decide +kernel)⟩
  have := (H "art").not
  simp only [ne_eq, Decidable.not_not] at this
  exact this.2 (by decide +kernel)

/-! ### `jobs.<job>[.outputs.<name>]` on the first document -/

private def keyOut : String := "on.workflow_call.outputs.<output_id>.value"

example : (AL.Visit.availability keyOut).1.contains (exCfg.lower "jobs") = true := available_call_outputs
example : [("a", 1), ("b", 2)].find? (·.1 = "b") = some ("b", 2) := find?_of_mem_nodup "b" 2 _ (by decide) (by simp)

/-- `jobs.build` (written `Build`) is defined, `jobs.nope` reported; `jobs.build.outputs.art` is fine, `…outputs.nope` not -/
theorem example_jobs :
    ¬ AL.C05.undefinedProp "build" (check (envOf (docOutCx exCfg exDoc {}) keyOut) (.objDeref (.var "jobs") "build")) ∧
    AL.C05.undefinedProp "nope" (check (envOf (docOutCx exCfg exDoc {}) keyOut) (.objDeref (.var "jobs") "nope")) ∧
    (check (envOf (docOutCx exCfg exDoc {}) keyOut)
      (.objDeref (.objDeref (.objDeref (.var "jobs") "build") "outputs") "art")).errs = [] ∧
    (check (envOf (docOutCx exCfg exDoc {}) keyOut)
      (.objDeref (.objDeref (.objDeref (.var "jobs") "build") "outputs") "nope")).errs ≠ [] := by
  have J := fun name => doc_jobs_reported_iff exCfg exDoc exDoc_clean {} keyOut name available_call_outputs
  have O := fun o => doc_jobs_outputs_reported_iff exCfg exDoc exDoc_clean {} pBuild pBuild_mem (by rfl) keyOut o available_call_outputs
  rw [lower_Build] at O
  refine ⟨fun h => (J "build").1 h (by decide +kernel), (J "nope").2 (by decide +kernel), ?_, (O "nope").2 (by decide +kernel)⟩
  have := (O "art").not
  simp only [ne_eq, Decidable.not_not] at this
  exact this.2 (by decide +kernel)

/-! ### a second document: no `workflow_call`, a matrix without `include:`

```yaml
on:
  push: {}
jobs:
  j:
    runs-on: u
    strategy: {matrix: {os: [linux]}}
    steps: [{run: x}]
``` -/

def exMatrix2 : Node := mp 6 24 [sc "os" 6 25, sq 6 29 [sc "linux" 6 30]]
def exJob2 : Node :=
  mp 5 5 [sc "runs-on" 5 5, sc "u" 5 14, sc "strategy" 6 5, mp 6 15 [sc "matrix" 6 16, exMatrix2],
          sc "steps" 7 5, sq 7 12 [mp 7 13 [sc "run" 7 14, sc "x" 7 19]]]
def pJob2 : Node × Node := (sc "j" 4 3, exJob2)
def exOn2 : Node := mp 2 3 [sc "push" 2 3, mp 2 9 []]
def exDoc2 : Node := .mk .document "" "" false 1 1 [mp 1 1 [sc "on" 1 1, exOn2, sc "jobs" 3 1, mp 4 3 [pJob2.1, pJob2.2]]]

theorem exDoc2_clean : (parse exCfg exDoc2).2 = [] := by decide +kernel
theorem pJob2_mem : pJob2 ∈ docJobs exDoc2 := by rw [show docJobs exDoc2 = [pJob2] from rfl]; simp

/-- without `on: workflow_call: secrets:` no `secrets.<name>` is reported -/
example : (check (envOf (docJobCx exCfg exDoc2 noNum {} pJob2) keyRun) (.objDeref (.var "secrets") "anything")).errs = [] := by
  obtain ⟨hh, hl⟩ := docJobCx_hdr exCfg exDoc2 noNum {} pJob2
  exact doc_secrets_silent exCfg exDoc2 exDoc2_clean {} exOn2 (by rfl) (by decide) (by decide +kernel) _ hh hl keyRun "anything"
    (available_run _ (by simp))

/-- rows only: `matrix.os` is defined, `matrix.extra` is reported -/
example : ¬ AL.C05.undefinedProp "os" (check (envOf (docJobCx exCfg exDoc2 noNum {} pJob2) keyRun) (.objDeref (.var "matrix") "os")) ∧
    AL.C05.undefinedProp "extra" (check (envOf (docJobCx exCfg exDoc2 noNum {} pJob2) keyRun) (.objDeref (.var "matrix") "extra")) := by
  have H := fun name => doc_matrix_reported_iff_lit exCfg exDoc2 exDoc2_clean noNum {} pJob2 pJob2_mem exMatrix2 (by rfl)
    (by decide +kernel) keyRun name (available_run _ (by simp))
  exact ⟨fun h => (H "os").1 h (by decide +kernel), (H "extra").2 (by decide +kernel)⟩

/-- `matrix_reported_rows_iff` on the AST of that job -/
example : AL.C05.undefinedProp "extra" (check (envOf (jobCx (docCx exCfg exDoc2 {}) noNum (docJobsAst exCfg exDoc2) (docJob exCfg pJob2)) keyRun)
    (.objDeref (.var "matrix") "extra")) := by
  obtain ⟨m, h1, h2, h3, h4, _⟩ := matrix_written exCfg exDoc2 exDoc2_clean pJob2 pJob2_mem exMatrix2 (by rfl) (by decide)
  refine (matrix_reported_rows_iff _ noNum _ _ m h1 h2 (h4 (by rfl)) keyRun "extra" (by rw [docCx_lower]; exact available_run _ (by simp))).2 ?_
  rw [h3]
  decide +kernel

/-! ### a third document: `on: [push, workflow_dispatch]`

```yaml
on: [push, workflow_dispatch]
jobs:
  j:
    runs-on: u
    steps: [{run: x}]
``` -/

def exOn3 : Node := sq 1 5 [sc "push" 1 6, sc "workflow_dispatch" 1 12]
def pJob3 : Node × Node :=
  (sc "j" 3 3, mp 4 5 [sc "runs-on" 4 5, sc "u" 4 14, sc "steps" 5 5, sq 5 12 [mp 5 13 [sc "run" 5 14, sc "x" 5 19]]])
def exDoc3 : Node := .mk .document "" "" false 1 1 [mp 1 1 [sc "on" 1 1, exOn3, sc "jobs" 2 1, mp 3 3 [pJob3.1, pJob3.2]]]

theorem exDoc3_clean : (parse exCfg exDoc3).2 = [] := by decide +kernel

example : HdrEmpty (docCx exCfg exDoc3 {}).hdr := hdr_plain_written exCfg exDoc3 exDoc3_clean {} exOn3 (by rfl) (by decide)
/-- `workflow_dispatch` without inputs: `inputs.anything` is reported; `secrets.anything` is not -/
example : AL.C05.undefinedProp "anything" (check (envOf (docJobCx exCfg exDoc3 noNum {} pJob3) keyRun) (.objDeref (.var "inputs") "anything")) ∧
    (check (envOf (docJobCx exCfg exDoc3 noNum {} pJob3) keyRun) (.objDeref (.var "secrets") "anything")).errs = [] := by
  obtain ⟨hh, hl⟩ := docJobCx_hdr exCfg exDoc3 noNum {} pJob3
  exact ⟨doc_inputs_reported_plain exCfg exDoc3 exDoc3_clean {} exOn3 (by rfl) (by decide) _ hh hl keyRun "anything" (available_run _ (by simp)),
    doc_secrets_silent_plain exCfg exDoc3 exDoc3_clean {} exOn3 (by rfl) (by decide) _ hh hl keyRun "anything" (available_run _ (by simp))⟩

end Example

end AL.C05D
