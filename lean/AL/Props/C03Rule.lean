import AL.Model.RuleExpr
import AL.Props.C05Expr
/-
  C03 on the model of rule_expression.go (AL.RuleExpr, tied by `exprwf`) over the AST of the parser model: every string of
  the AST that comes from a mapping value or a sequence element (`valueStrs`, written from ast.go) is run through
  `checkExprsIn`: a malformed placeholder in it is reported at that string. The enumeration follows the rule where the rule
  chooses: a call without `uses:` contributes nothing, the `workflow_call` output values count only when the workflow has
  jobs, and where the AST has one expression NEXT TO a literal alternative (`env:`, runner labels, a matrix, a matrix row,
  a combination, the list of combinations) only the alternative the rule reads is listed. The parser fills one of the two;
  that is not used here, so for an AST with both set the other alternative is neither listed nor exempt.

  Exempt (the property's own list + what other rules own): event names, `permissions` values (rule_permissions), a step
  `id:` (checked by this rule only when it contains a complete placeholder; rule_id reports the others), and the values
  the parser does not keep as strings (input `type`, `secrets: inherit`).

  Three parts: `valueStrs` and the same enumeration with the workflow key of every position (`AL.C12R.keyedStrs`); the
  walk along the rule (`AL.Cover`, ending in `rule_cov`), done once for C03, C12 and C04; C03's theorems
  (`every_placeholder_checked`, per checker `…_bad`), its instances for a text that is bad under every key.
-/
namespace AL.C03R
open AL AL.Ast AL.Sema AL.RuleExpr

/-- a text every check of which yields a diagnostic: in a template position (`checkExprsIn`) and, closed by `}}`, read as
one expression the way a bare `if:` condition is (asked of every text; the walk reads `cond` only for a text without a
complete placeholder, cf. `AL.Cover.Bad.cond`) -/
structure Malformed (v : String) : Prop where
  tmpl : ∀ cx key u, (checkExprsIn cx key u v).2 ≠ []
  cond : ∀ cx key, (checkOne cx key false (bytesOf v ++ [125, 125])).2 ≠ []

def Reported (ds : List Diag) (s : Str) : Prop := ∃ d ∈ ds, d.site = s.pos

theorem at_nonempty (s : Str) (es : List SemaErr) (h : es ≠ []) : Reported (at_ s es) s := by
  cases es with
  | nil => exact absurd rfl h
  | cons e rest => exact ⟨⟨s.pos, e.code, e.args⟩, by simp [at_], rfl⟩

theorem Reported.mono {ds ds' : List Diag} {s : Str} (h : Reported ds s) (hs : ∀ d ∈ ds, d ∈ ds') : Reported ds' s := by
  obtain ⟨d, hm, e⟩ := h
  exact ⟨d, hs d hm, e⟩

theorem Reported.left {a b : List Diag} {s : Str} (h : Reported a s) : Reported (a ++ b) s :=
  h.mono fun d hd => List.mem_append_left _ hd
theorem Reported.right {a b : List Diag} {s : Str} (h : Reported b s) : Reported (a ++ b) s :=
  h.mono fun d hd => List.mem_append_right _ hd

/-! ### the strings of the AST that come from mapping values / sequence elements -/

def boolStrs (b : Option BoolV) : List Str := match b with | some b => b.expr.toList | none => []
def intStrs (i : Option IntV) : List Str := match i with | some i => i.expr.toList | none => []
def floatStrs (f : Option FloatV) : List Str := match f with | some f => f.expr.toList | none => []

/-- `checkEnv` reads the mapping when there is one, else the expression -/
def envStrs (e : Option Ast.Env) : List Str :=
  match e with
  | none => []
  | some e => match e.vars with
    | some vars => vars.map (·.2.value)
    | none => e.expr.toList

def containerStrs (c : Option Container) : List Str :=
  match c with
  | none => []
  | some c =>
    c.image.toList ++ (match c.credentials with | some cr => cr.username.toList ++ cr.password.toList | none => []) ++
    envStrs c.env ++ c.ports.getD [] ++ c.volumes.getD [] ++ c.options.toList

def concurrencyStrs (c : Option Concurrency) : List Str :=
  match c with | none => [] | some c => c.group.toList ++ boolStrs c.cancelInProgress

def defaultsStrs (d : Option Defaults) : List Str :=
  match d with
  | none => []
  | some d => match d.run with | none => [] | some r => r.shell.toList ++ r.workingDirectory.toList

theorem mem_toList {α} {o : Option α} {a : α} (h : a ∈ o.toList) : o = some a :=
  Option.mem_toList.1 h

/-! ### matrix -/

mutual
def rawStrs : AL.Matrix.Raw → List Str
  | .str v p => [⟨v, false, p⟩]
  | .arr es _ => rawStrsL es
  | .obj ps _ => rawStrsP ps
def rawStrsL : List AL.Matrix.Raw → List Str
  | [] => []
  | e :: es => rawStrs e ++ rawStrsL es
def rawStrsP : List (String × AL.Matrix.Raw) → List Str
  | [] => []
  | (_, v) :: ps => rawStrs v ++ rawStrsP ps
end

def rowStrs (r : MatrixRow) : List Str :=
  match r.expr with
  | some e => [e]
  | none => rawStrsL (r.values.getD [])

def comboStrs (x : MatrixCombination) : List Str :=
  match x.expr with
  | some e => [e]
  | none => (x.assigns.getD []).flatMap fun kv => rawStrs kv.2.value

def combosStrs (c : Option MatrixCombinations) : List Str :=
  match c with
  | none => []
  | some c => match c.expr with
    | some e => [e]
    | none => (c.combinations.getD []).flatMap comboStrs

/-- `checkMatrix` reads the expression when there is one, else exclude, rows, include -/
def matrixStrs (m : Matrix) : List Str :=
  match m.expr with
  | some e => [e]
  | none => combosStrs m.excl ++ (m.rows.getD []).flatMap (fun kv => rowStrs kv.2) ++ combosStrs m.incl

/-! ### steps and jobs -/

def execStrs : Exec → List Str
  | .run r => r.run.toList ++ r.shell.toList ++ r.workingDirectory.toList
  | .action a => a.uses.toList ++ (a.inputs.getD []).map (·.2.value) ++ a.entrypoint.toList ++ a.args.toList
  | .none => []

/-- the value strings of a step (`id:` is the subject of rule_id unless it contains a complete placeholder) -/
def stepStrs (st : Step) : List Str :=
  st.name.toList ++ st.cond.toList ++ execStrs st.exec ++ envStrs st.env ++ boolStrs st.continueOnError ++ floatStrs st.timeoutMinutes

def runnerStrs (r : Option Runner) : List Str :=
  match r with
  | none => []
  | some r => (match r.labelsExpr with | some e => [e] | none => r.labels.getD []) ++ r.group.toList

def strategyStrs (s : Option Strategy) : List Str :=
  match s with | none => [] | some s => boolStrs s.failFast ++ intStrs s.maxParallel

def matrixOfStrs (n : Job) : List Str :=
  match n.strategy with
  | some s => (match s.matrix with | some m => matrixStrs m | none => [])
  | none => []

def servicesStrs (s : Option Services) : List Str :=
  match s with
  | none => []
  | some s => s.expr.toList ++ (s.value.getD []).flatMap fun kv => containerStrs (some kv.2.container)

/-- the rule checks a call only when `uses:` is present -/
def callStrs (c : Option WorkflowCall) : List Str :=
  match c with
  | none => []
  | some c => match c.uses with
    | none => []
    | some u => [u] ++ (c.inputs.getD []).map (·.2.value) ++ (c.secrets.getD []).map (·.2.value)

def jobPreStrs (n : Job) : List Str :=
  n.name.toList ++ n.needs.getD [] ++ runnerStrs n.runsOn ++ concurrencyStrs n.concurrency ++ envStrs n.env ++
  defaultsStrs n.defaults ++ n.cond.toList ++ strategyStrs n.strategy ++ boolStrs n.continueOnError ++ floatStrs n.timeoutMinutes ++
  containerStrs n.container ++ servicesStrs n.services ++ callStrs n.workflowCall

def jobPostStrs (n : Job) : List Str :=
  (match n.environment with | some e => e.name.toList ++ e.url.toList | none => []) ++ (n.outputs.getD []).map (·.2.value)

/-- every value string of a job (`permissions` is the subject of rule_permissions) -/
def jobStrs (n : Job) : List Str :=
  matrixOfStrs n ++ jobPreStrs n ++ (n.steps.getD []).flatMap stepStrs ++ jobPostStrs n

/-! ### events and the workflow -/

def filterStrs (f : Option Filter) : List Str := match f with | some f => f.values.getD [] | none => []

def callInputStrs (i : Ast.CallInput) : List Str := i.description.toList ++ boolStrs i.required ++ i.dflt.toList

/-- the value strings of one event (its name is exempt) -/
def eventStrs : Ast.Event → List Str
  | .webhook e =>
    e.types.getD [] ++ filterStrs e.branches ++ filterStrs e.branchesIgnore ++ filterStrs e.tags ++ filterStrs e.tagsIgnore ++
    filterStrs e.paths ++ filterStrs e.pathsIgnore ++ e.workflows.getD []
  | .schedule cron _ => cron
  | .dispatch inputs _ =>
    (inputs.getD []).flatMap fun kv => kv.2.description.toList ++ kv.2.dflt.toList ++ boolStrs kv.2.required ++ kv.2.options.getD []
  | .repoDispatch types _ => types.getD []
  | .call inputs secrets outputs _ =>
    (inputs.getD []).flatMap callInputStrs ++
    ((secrets.getD []).flatMap fun kv => kv.2.description.toList ++ boolStrs kv.2.required) ++
    ((outputs.getD []).flatMap fun kv => kv.2.description.toList)

/-- the `value:` strings of the outputs of `workflow_call` (checked when the workflow has jobs) -/
def outValueStrs (w : Workflow) : List Str :=
  match findCallOutputs (w.on.getD []) with
  | some outs => if outs.isEmpty || (w.jobs.getD []).isEmpty then [] else outs.flatMap fun kv => kv.2.value.toList
  | none => []

/-- **the value strings of the workflow**, field by field from ast.go; where the rule chooses (the guards of `callStrs` and
`outValueStrs`, an expression next to a literal alternative) the list follows the rule. Exempt: event names, `permissions`,
step ids, and what the parser does not keep as a string -/
def valueStrs (w : Workflow) : List Str :=
  w.name.toList ++ (w.on.getD []).flatMap eventStrs ++
  (w.runName.toList ++ envStrs w.env ++ defaultsStrs w.defaults ++ concurrencyStrs w.concurrency) ++
  (w.jobs.getD []).flatMap (fun kv => jobStrs kv.2) ++ outValueStrs w

theorem ite_some_nil {α β : Type} (c : Prop) [Decidable c] (a : α) (b : List β) (p : α)
    (h : (if c then (some a, ([] : List β)) else (none, b)).1 = some p) :
    (if c then (some a, ([] : List β)) else (none, b)).2 = [] := by
  split <;> simp_all

theorem checkParsed_some_nil (cx : Cx) (key : String) (u : Bool) (pe : AL.Parse.Expr) (off : Nat) (p : Ty × Nat)
    (h : (checkParsed cx key u pe off).1 = some p) : (checkParsed cx key u pe off).2 = [] := by
  unfold checkParsed at h ⊢
  exact ite_some_nil _ _ _ _ h

/-- lexer and parser accept ⇒ `checkOne` is the semantic check of the tree, from the lexer's offset on -/
theorem checkOne_of_ok (cx : Cx) (key : String) (u : Bool) (rest : List Nat) {ts : List AL.Lex.Tok} {off : Nat}
    {pe : AL.Parse.Expr} (h1 : AL.Lex.lexExpression (decodeUtf8 rest) = .ok (ts, off))
    (h2 : AL.Parse.parseToks (AL.Lex.tokens (decodeUtf8 rest)) = .ok pe) :
    checkOne cx key u rest = checkParsed cx key u pe off := by
  unfold checkOne
  simp only [h1, h2]

theorem checkOne_some_nil (cx : Cx) (key : String) (u : Bool) (rest : List Nat) (p : Ty × Nat)
    (h : (checkOne cx key u rest).1 = some p) : (checkOne cx key u rest).2 = [] := by
  unfold checkOne at h ⊢
  split
  · rename_i h1 h2
    simp only [h1, h2] at h
    exact checkParsed_some_nil _ _ _ _ _ p h
  · rename_i hno
    split at h
    · rename_i h1 h2
      exact absurd h2 (hno _ _ _ h1)
    · cases h

theorem foldl_keep {α σ : Type} (step : σ × List Diag → α → σ × List Diag)
    (hkeep : ∀ acc x d, d ∈ acc.2 → d ∈ (step acc x).2) (l : List α) :
    ∀ acc d, d ∈ acc.2 → d ∈ (l.foldl step acc).2 :=
  fun _ d h => List.foldlRecOn (motive := fun acc : σ × List Diag => d ∈ acc.2) l step h fun acc hacc x _ => hkeep acc x d hacc

theorem includeCombo_keep (cx : Cx) (isNum : IsNumber) (acc : Ty × List Diag) (c : MatrixCombination) (d : Diag)
    (hd : d ∈ acc.2) : d ∈ (includeCombo cx isNum acc c).2 := by
  simp only [includeCombo]
  split
  · split <;> simp [hd]
  · apply foldl_keep _ _ _ acc d hd
    intro a kv d hd
    split <;> simp [hd]

end AL.C03R

/-! ## the same strings, each with the workflow key of its position

`tag key l`: the strings `l` sit at a position whose key is `key`. The keys are those of GitHub's context-availability
table (`""` where the table has no row: no context and no special function is available there). -/
namespace AL.C12R
open AL AL.Ast AL.Sema AL.RuleExpr AL.C03R

def tag (key : String) (l : List Str) : List (Str × String) := l.map fun s => (s, key)

theorem mem_tag {key k : String} {l : List Str} {s : Str} : (s, k) ∈ tag key l ↔ s ∈ l ∧ k = key := by
  simp only [tag, List.mem_map, Prod.mk.injEq]
  constructor
  · rintro ⟨a, ha, rfl, rfl⟩; exact ⟨ha, rfl⟩
  · rintro ⟨ha, rfl⟩; exact ⟨s, ha, rfl, rfl⟩

@[simp] theorem tag_fst (key : String) (l : List Str) : (tag key l).map Prod.fst = l := by
  simp [tag, Function.comp_def]

/-- a container: `image`, `ports`, `volumes`, `options` have the key of the section, `credentials` and `env` their own rows -/
def containerKStrs (c : Option Container) (kImage kCred kEnv kOther : String) : List (Str × String) :=
  match c with
  | none => []
  | some c =>
    tag kImage c.image.toList ++
    (match c.credentials with | some cr => tag kCred (cr.username.toList ++ cr.password.toList) | none => []) ++
    tag kEnv (envStrs c.env) ++ tag kOther (c.ports.getD []) ++ tag kOther (c.volumes.getD []) ++ tag kOther c.options.toList

def execKStrs : Exec → List (Str × String)
  | .run r =>
    tag "jobs.<job_id>.steps.run" r.run.toList ++ tag "" r.shell.toList ++
    tag "jobs.<job_id>.steps.working-directory" r.workingDirectory.toList
  | .action a =>
    tag "" a.uses.toList ++ tag "jobs.<job_id>.steps.with" ((a.inputs.getD []).map (·.2.value)) ++
    tag "jobs.<job_id>.steps.with" a.entrypoint.toList ++ tag "jobs.<job_id>.steps.with" a.args.toList
  | .none => []

def stepKStrs (st : Step) : List (Str × String) :=
  tag "jobs.<job_id>.steps.name" st.name.toList ++ tag "jobs.<job_id>.steps.if" st.cond.toList ++ execKStrs st.exec ++
  tag "jobs.<job_id>.steps.env" (envStrs st.env) ++
  tag "jobs.<job_id>.steps.continue-on-error" (boolStrs st.continueOnError) ++
  tag "jobs.<job_id>.steps.timeout-minutes" (floatStrs st.timeoutMinutes)

def servicesKStrs (s : Option Services) : List (Str × String) :=
  match s with
  | none => []
  | some s =>
    tag "jobs.<job_id>.services" s.expr.toList ++
    (s.value.getD []).flatMap fun kv =>
      containerKStrs (some kv.2.container) "jobs.<job_id>.services" "jobs.<job_id>.services.<service_id>.credentials"
        "jobs.<job_id>.services.<service_id>.env.<env_id>" "jobs.<job_id>.services"

def callKStrs (c : Option WorkflowCall) : List (Str × String) :=
  match c with
  | none => []
  | some c => match c.uses with
    | none => []
    | some u =>
      tag "" [u] ++ tag "jobs.<job_id>.with.<with_id>" ((c.inputs.getD []).map (·.2.value)) ++
      tag "jobs.<job_id>.secrets.<secrets_id>" ((c.secrets.getD []).map (·.2.value))

def jobPreKStrs (n : Job) : List (Str × String) :=
  tag "jobs.<job_id>.name" n.name.toList ++ tag "" (n.needs.getD []) ++ tag "jobs.<job_id>.runs-on" (runnerStrs n.runsOn) ++
  tag "jobs.<job_id>.concurrency" (concurrencyStrs n.concurrency) ++ tag "jobs.<job_id>.env" (envStrs n.env) ++
  tag "jobs.<job_id>.defaults.run" (defaultsStrs n.defaults) ++ tag "jobs.<job_id>.if" n.cond.toList ++
  tag "jobs.<job_id>.strategy" (strategyStrs n.strategy) ++
  tag "jobs.<job_id>.continue-on-error" (boolStrs n.continueOnError) ++
  tag "jobs.<job_id>.timeout-minutes" (floatStrs n.timeoutMinutes) ++
  -- the documentation's key of `image` is `jobs.<job_id>.container.image`: `AL.C12R.container_image_row` (AL/Props/C12Rule.lean)
  containerKStrs n.container "jobs.<job_id>.container" "jobs.<job_id>.container.credentials"
    "jobs.<job_id>.container.env.<env_id>" "jobs.<job_id>.container" ++
  servicesKStrs n.services ++ callKStrs n.workflowCall

def jobPostKStrs (n : Job) : List (Str × String) :=
  (match n.environment with
   | some e => tag "jobs.<job_id>.environment" e.name.toList ++ tag "jobs.<job_id>.environment.url" e.url.toList
   | none => []) ++
  tag "jobs.<job_id>.outputs.<output_id>" ((n.outputs.getD []).map (·.2.value))

/-- every value string of a job with its key (the matrix, whatever its shape, is under `jobs.<job_id>.strategy`) -/
def jobKStrs (n : Job) : List (Str × String) :=
  tag "jobs.<job_id>.strategy" (matrixOfStrs n) ++ jobPreKStrs n ++ (n.steps.getD []).flatMap stepKStrs ++ jobPostKStrs n

def callInputKStrs (i : Ast.CallInput) : List (Str × String) :=
  tag "" i.description.toList ++ tag "" (boolStrs i.required) ++
  tag "on.workflow_call.inputs.<inputs_id>.default" i.dflt.toList

/-- `on:` — the table has two rows for it, both under `workflow_call` (the second one, the output values, is listed
by `keyedStrs`); everything else is checked without a key -/
def eventKStrs : Ast.Event → List (Str × String)
  | .webhook e => tag "" (eventStrs (.webhook e))
  | .schedule cron p => tag "" (eventStrs (.schedule cron p))
  | .dispatch inputs p => tag "" (eventStrs (.dispatch inputs p))
  | .repoDispatch types p => tag "" (eventStrs (.repoDispatch types p))
  | .call inputs secrets outputs _ =>
    (inputs.getD []).flatMap callInputKStrs ++
    tag "" ((secrets.getD []).flatMap fun kv => kv.2.description.toList ++ boolStrs kv.2.required) ++
    tag "" ((outputs.getD []).flatMap fun kv => kv.2.description.toList)

/-- **every value string of the workflow with the key of its position** (`""` where the table has no row for it) -/
def keyedStrs (w : Workflow) : List (Str × String) :=
  tag "" w.name.toList ++ (w.on.getD []).flatMap eventKStrs ++
  (tag "run-name" w.runName.toList ++ tag "env" (envStrs w.env) ++ tag "" (defaultsStrs w.defaults) ++
    tag "concurrency" (concurrencyStrs w.concurrency)) ++
  (w.jobs.getD []).flatMap (fun kv => jobKStrs kv.2) ++
  tag "on.workflow_call.outputs.<output_id>.value" (outValueStrs w)

/-! #### the keyed enumeration lists exactly the strings of `AL.C03R.valueStrs`, in the same order -/

theorem flatMap_fst {α : Type} (l : List α) (f : α → List (Str × String)) (g : α → List Str)
    (h : ∀ a, (f a).map Prod.fst = g a) : (l.flatMap f).map Prod.fst = l.flatMap g := by
  induction l with
  | nil => rfl
  | cons a rest ih => simp only [List.flatMap_cons, List.map_append, h, ih]

theorem containerKStrs_fst (c : Option Container) (k1 k2 k3 k4 : String) :
    (containerKStrs c k1 k2 k3 k4).map Prod.fst = containerStrs c := by
  cases c with
  | none => rfl
  | some c =>
    simp only [containerKStrs, containerStrs, List.map_append, tag_fst]
    cases c.credentials <;> simp only [tag_fst, List.map_nil]

theorem execKStrs_fst (e : Exec) : (execKStrs e).map Prod.fst = execStrs e := by
  cases e <;> simp only [execKStrs, execStrs, List.map_append, tag_fst, List.map_nil]

theorem stepKStrs_fst (st : Step) : (stepKStrs st).map Prod.fst = stepStrs st := by
  simp only [stepKStrs, stepStrs, List.map_append, tag_fst, execKStrs_fst]

theorem servicesKStrs_fst (s : Option Services) : (servicesKStrs s).map Prod.fst = servicesStrs s := by
  cases s with
  | none => rfl
  | some s =>
    simp only [servicesKStrs, servicesStrs, List.map_append, tag_fst]
    congr 1
    exact flatMap_fst _ _ _ (fun kv => containerKStrs_fst _ _ _ _ _)

theorem callKStrs_fst (c : Option WorkflowCall) : (callKStrs c).map Prod.fst = callStrs c := by
  cases c with
  | none => rfl
  | some c =>
    simp only [callKStrs, callStrs]
    cases c.uses <;> simp only [List.map_append, tag_fst, List.map_nil]

theorem jobPreKStrs_fst (n : Job) : (jobPreKStrs n).map Prod.fst = jobPreStrs n := by
  simp only [jobPreKStrs, jobPreStrs, List.map_append, tag_fst, containerKStrs_fst, servicesKStrs_fst, callKStrs_fst]

theorem jobPostKStrs_fst (n : Job) : (jobPostKStrs n).map Prod.fst = jobPostStrs n := by
  simp only [jobPostKStrs, jobPostStrs, List.map_append, tag_fst]
  cases n.environment <;> simp only [List.map_append, tag_fst, List.map_nil]

theorem jobKStrs_fst (n : Job) : (jobKStrs n).map Prod.fst = jobStrs n := by
  simp only [jobKStrs, jobStrs, List.map_append, tag_fst, jobPreKStrs_fst, jobPostKStrs_fst]
  rw [flatMap_fst _ _ stepStrs stepKStrs_fst]

theorem callInputKStrs_fst (i : Ast.CallInput) : (callInputKStrs i).map Prod.fst = callInputStrs i := by
  simp only [callInputKStrs, callInputStrs, List.map_append, tag_fst]

theorem eventKStrs_fst (e : Ast.Event) : (eventKStrs e).map Prod.fst = eventStrs e := by
  cases e with
  | call inputs secrets outputs p =>
    simp only [eventKStrs, eventStrs, List.map_append, tag_fst]
    rw [flatMap_fst _ _ callInputStrs callInputKStrs_fst]
  | _ => simp only [eventKStrs, tag_fst]

/-- the first components of `keyedStrs` ARE `valueStrs`: no string of C03's enumeration is missing, none is added -/
theorem keyedStrs_fst (w : Workflow) : (keyedStrs w).map Prod.fst = valueStrs w := by
  simp only [keyedStrs, valueStrs, List.map_append, tag_fst]
  rw [flatMap_fst _ _ eventStrs eventKStrs_fst, flatMap_fst _ _ (fun kv => jobStrs kv.2) (fun kv => jobKStrs_fst kv.2)]

/-! the folding function is the same in every state the rule passes through (AL.Props.C05Expr has the whole state) -/

theorem visitStep_lower (cx : Cx) (n : Step) : (visitStep cx n).1.lower = cx.lower := by
  rw [AL.C05E.visitStep_fst]

theorem visitSteps_lower : ∀ (steps : List Step) (cx : Cx), (visitSteps cx steps).1.lower = cx.lower :=
  fun steps cx => by rw [AL.C05E.visitSteps_fst]

theorem visitEvent_lower (cx : Cx) (e : Ast.Event) : (visitEvent cx e).1.lower = cx.lower := by
  rw [AL.C05S.visitEvent_fst]

theorem visitEvents_lower : ∀ (es : List Ast.Event) (cx : Cx), (visitEvents cx es).1.lower = cx.lower :=
  fun es cx => by rw [AL.C05S.visitEvents_fst]

end AL.C12R

/-! ## the walk, once

`rule` is built from the leaf checkers by `++`, `flatMap` and folds, and `keyedStrs` from the fields of the AST in the same
way. `Covers` (a list of diagnostics answers for a list of strings) is closed under those operations, so the coverage of a
checker is composed from that of its parts, in the order in which the model calls them. The hypothesis on a string, `Bad`,
is per position key and folding function (what C12 needs) and for a property `Q` of the diagnostic's code (what C04 needs);
C03's `Malformed` is the case of every key, every folding function and `Q = True`. `Bad` asks for the diagnostic under both
values of the untrusted flag, so the code `untrusted` (C11) is no instance of it. -/
namespace AL.Cover
open AL AL.Ast AL.Sema AL.RuleExpr AL.C03R AL.C12R

/-- every check of the text `v` under the key `key`, in a scope that folds names with `lower`, yields a diagnostic whose
code satisfies `Q`: as a template, and — unless `v` contains a complete placeholder — as a bare condition -/
structure Bad (lower : String → String) (Q : String → Prop) (key v : String) : Prop where
  tmpl : ∀ (cx : Cx) u, cx.lower = lower → ∃ e ∈ (checkExprsIn cx key u v).2, Q e.code
  cond : AL.Matrix.containsExpr v = true ∨
    ∀ (cx : Cx), cx.lower = lower → ∃ e ∈ (checkOne cx key false (bytesOf v ++ [125, 125])).2, Q e.code

/-- a diagnostic located at `s` whose code satisfies `Q` -/
def Rep (Q : String → Prop) (ds : List Diag) (s : Str) : Prop := ∃ d ∈ ds, d.site = s.pos ∧ Q d.code

/-- `ds` answers for `l`: every member `a` with `B a` has a diagnostic at the string `site a` -/
def Covers (Q : String → Prop) {α : Type} (B : α → Prop) (site : α → Str) (l : List α) (ds : List Diag) : Prop :=
  ∀ a ∈ l, B a → Rep Q ds (site a)

abbrev At (lower : String → String) (Q : String → Prop) (key : String) (l : List Str) (ds : List Diag) : Prop :=
  Covers Q (fun s : Str => Bad lower Q key s.value) id l ds

abbrev Keyed (lower : String → String) (Q : String → Prop) (ks : List (Str × String)) (ds : List Diag) : Prop :=
  Covers Q (fun p : Str × String => Bad lower Q p.2 p.1.value) Prod.fst ks ds

/-- everything in a matrix is checked under the key of the strategy -/
abbrev strategyKey : String := "jobs.<job_id>.strategy"

variable {lower : String → String} {Q : String → Prop}

theorem Rep.reported {ds : List Diag} {s : Str} (h : Rep Q ds s) : Reported ds s :=
  let ⟨d, hd, hs, _⟩ := h; ⟨d, hd, hs⟩

theorem Rep.mono {ds ds' : List Diag} {s : Str} (h : Rep Q ds s) (hs : ∀ d ∈ ds, d ∈ ds') : Rep Q ds' s :=
  let ⟨d, hd, e⟩ := h; ⟨d, hs d hd, e⟩

theorem Rep.left {a b : List Diag} {s : Str} (h : Rep Q a s) : Rep Q (a ++ b) s :=
  h.mono fun _ hd => List.mem_append_left _ hd

theorem Rep.right {a b : List Diag} {s : Str} (h : Rep Q b s) : Rep Q (a ++ b) s :=
  h.mono fun _ hd => List.mem_append_right _ hd

theorem Rep.flatMap {β : Type _} (l : List β) (f : β → List Diag) (b : β) (hb : b ∈ l) {s : Str} (h : Rep Q (f b) s) :
    Rep Q (l.flatMap f) s :=
  h.mono fun _ hd => List.mem_flatMap.2 ⟨b, hb, hd⟩

theorem Rep.ite (c : Bool) {a b : List Diag} {s : Str} (ha : Rep Q a s) (hb : Rep Q b s) :
    Rep Q (if c = true then a else b) s := by
  cases c
  · exact hb
  · exact ha

/-- a fold that only ever appends diagnostics keeps those of each step -/
theorem Rep.foldl {β σ : Type} (step : σ × List Diag → β → σ × List Diag) (s : Str)
    (hkeep : ∀ acc x d, d ∈ acc.2 → d ∈ (step acc x).2) (l : List β) (b : β) (hb : b ∈ l)
    (hrep : ∀ acc, Rep Q (step acc b).2 s) : ∀ acc, Rep Q (l.foldl step acc).2 s := by
  induction l with
  | nil => cases hb
  | cons x rest ih =>
    intro acc
    rcases List.mem_cons.1 hb with rfl | hb
    · exact (hrep acc).mono fun d hd => foldl_keep step hkeep rest _ d hd
    · exact ih hb _

section covers
variable {α : Type} {B : α → Prop} {site : α → Str}

theorem Covers.nil {ds : List Diag} : Covers Q B site [] ds := fun _ h => nomatch h

theorem Covers.mono {l : List α} {ds ds' : List Diag} (h : Covers Q B site l ds) (hs : ∀ d ∈ ds, d ∈ ds') :
    Covers Q B site l ds' :=
  fun a ha hb => (h a ha hb).mono hs

theorem Covers.left {l : List α} {a b : List Diag} (h : Covers Q B site l a) : Covers Q B site l (a ++ b) :=
  h.mono fun _ hd => List.mem_append_left _ hd

theorem Covers.right {l : List α} {a b : List Diag} (h : Covers Q B site l b) : Covers Q B site l (a ++ b) :=
  h.mono fun _ hd => List.mem_append_right _ hd

theorem Covers.append {l₁ l₂ : List α} {d₁ d₂ : List Diag} (h₁ : Covers Q B site l₁ d₁) (h₂ : Covers Q B site l₂ d₂) :
    Covers Q B site (l₁ ++ l₂) (d₁ ++ d₂) :=
  fun a ha hb => (List.mem_append.1 ha).elim (fun h => (h₁ a h hb).left) fun h => (h₂ a h hb).right

theorem Covers.flatMap {β : Type} (l : List β) (f : β → List α) (g : β → List Diag)
    (h : ∀ b ∈ l, Covers Q B site (f b) (g b)) : Covers Q B site (l.flatMap f) (l.flatMap g) := by
  intro a ha hb
  obtain ⟨b, hbl, hab⟩ := List.mem_flatMap.1 ha
  exact Rep.flatMap l g b hbl (h b hbl a hab hb)

theorem Covers.map {β : Type} (l : List β) (f : β → α) (g : β → List Diag)
    (h : ∀ b ∈ l, B (f b) → Rep Q (g b) (site (f b))) : Covers Q B site (l.map f) (l.flatMap g) := by
  intro a ha hb
  obtain ⟨b, hbl, rfl⟩ := List.mem_map.1 ha
  exact Rep.flatMap l g b hbl (h b hbl hb)

theorem Covers.foldl {β σ : Type} (step : σ × List Diag → β → σ × List Diag) (f : β → List α)
    (hkeep : ∀ acc x d, d ∈ acc.2 → d ∈ (step acc x).2) (l : List β)
    (h : ∀ b ∈ l, ∀ acc, Covers Q B site (f b) (step acc b).2) (acc : σ × List Diag) :
    Covers Q B site (l.flatMap f) (l.foldl step acc).2 := by
  intro a ha hb
  obtain ⟨b, hbl, hab⟩ := List.mem_flatMap.1 ha
  exact Rep.foldl step _ hkeep l b hbl (fun acc => h b hbl acc a hab hb) acc

end covers

theorem Covers.tag {key : String} {l : List Str} {ds : List Diag}
    (h : Covers Q (fun s : Str => Bad lower Q key s.value) id l ds) : Keyed lower Q (tag key l) ds := by
  intro p hp hb
  obtain ⟨s, hs, rfl⟩ := List.mem_map.1 hp
  exact h s hs hb

/-- a string that is bad under every key is reported wherever the enumeration without keys lists it -/
theorem Covers.all {ks : List (Str × String)} {l : List Str} {ds : List Diag} (hc : Keyed lower Q ks ds)
    (hf : ks.map Prod.fst = l) {s : Str} (hm : s ∈ l) (h : ∀ key, Bad lower Q key s.value) : Rep Q ds s := by
  subst hf
  obtain ⟨⟨s', k⟩, hp, rfl⟩ := List.mem_map.1 hm
  exact hc (s', k) hp (h k)

theorem at_has (s : Str) {es : List SemaErr} (h : ∃ e ∈ es, Q e.code) : Rep Q (at_ s es) s :=
  let ⟨e, he, hq⟩ := h; ⟨⟨s.pos, e.code, e.args⟩, List.mem_map.2 ⟨e, he, rfl⟩, rfl, hq⟩

theorem has_append {a b : List SemaErr} (h : ∃ e ∈ a, Q e.code) : ∃ e ∈ a ++ b, Q e.code :=
  let ⟨e, he, hq⟩ := h; ⟨e, List.mem_append_left _ he, hq⟩

theorem checkStrU_rep (cx : Cx) (hcx : cx.lower = lower) (u : Bool) (s : Str) (key : String)
    (h : Bad lower Q key s.value) : Rep Q (checkStrU cx u (some s) key).2 s := by
  have := h.tmpl cx u hcx
  simp only [checkStrU]
  generalize checkExprsIn cx key u s.value = r at this ⊢
  obtain ⟨_ | ts, es⟩ := r
  · exact at_has s this
  · exact at_has s (has_append this)

theorem checkStrU_cov (cx : Cx) (hcx : cx.lower = lower) (u : Bool) (o : Option Str) (key : String) :
    At lower Q key o.toList (checkStrU cx u o key).2 := by
  intro s hm h
  rw [mem_toList hm]
  exact checkStrU_rep cx hcx u s key h

theorem checkString_cov (cx : Cx) (hcx : cx.lower = lower) (o : Option Str) (key : String) :
    At lower Q key o.toList (checkString cx o key) := checkStrU_cov cx hcx false o key

theorem checkScriptString_cov (cx : Cx) (hcx : cx.lower = lower) (o : Option Str) (key : String) :
    At lower Q key o.toList (checkScriptString cx o key) := checkStrU_cov cx hcx true o key

theorem checkStrings_cov (cx : Cx) (hcx : cx.lower = lower) (o : Option (List Str)) (key : String) :
    At lower Q key (o.getD []) (checkStrings cx o key) :=
  fun s hm h => Rep.flatMap (o.getD []) _ s hm (checkStrU_rep cx hcx false s key h)

theorem checkOneExpression_cov (cx : Cx) (hcx : cx.lower = lower) (o : Option Str) (what key : String) :
    At lower Q key o.toList (checkOneExpression cx o what key).2 := by
  intro s hm h
  rw [mem_toList hm]
  have := h.tmpl cx false hcx
  simp only [checkOneExpression]
  generalize checkExprsIn cx key false s.value = r at this ⊢
  obtain ⟨_ | _ | ⟨t, _ | ⟨t2, rest⟩⟩, es⟩ := r
  · exact at_has s this
  · exact at_has s (has_append this)
  · exact at_has s this
  · exact at_has s (has_append this)

theorem mustBe_rep (p : Ty → Bool) (code what : String) (s : Str) (r : Option Ty × List Diag) (h : Rep Q r.2 s) :
    Rep Q (mustBe p code what (some s) r).2 s := by
  simp only [mustBe]
  split
  · split
    · exact h
    · exact h.left
  · exact h

/-- `checkObjectExpression`, `checkArrayExpression`, `checkNumberExpression` -/
theorem mustBe_cov (cx : Cx) (hcx : cx.lower = lower) (p : Ty → Bool) (code : String) (o : Option Str) (what key : String) :
    At lower Q key o.toList (mustBe p code what o (checkOneExpression cx o what key)).2 := by
  intro s hm h
  rw [mem_toList hm]
  exact mustBe_rep p code what s _ (checkOneExpression_cov cx hcx (some s) what key s (List.mem_singleton.2 rfl) h)

theorem checkBool_cov (cx : Cx) (hcx : cx.lower = lower) (b : Option BoolV) (key : String) :
    At lower Q key (boolStrs b) (checkBool cx b key) := by
  intro s hm h
  cases b with
  | none => cases hm
  | some b =>
    have he : b.expr = some s := mem_toList hm
    simp only [checkBool, he]
    have := checkOneExpression_cov cx hcx (some s) "bool value" key s (List.mem_singleton.2 rfl) h
    split <;> first | exact this | exact this.left

theorem checkInt_cov (cx : Cx) (hcx : cx.lower = lower) (i : Option IntV) (key : String) :
    At lower Q key (intStrs i) (checkInt cx i key) := by
  cases i with
  | none => exact Covers.nil
  | some i => exact mustBe_cov cx hcx _ _ i.expr _ key

theorem checkFloat_cov (cx : Cx) (hcx : cx.lower = lower) (f : Option FloatV) (key : String) :
    At lower Q key (floatStrs f) (checkFloat cx f key) := by
  cases f with
  | none => exact Covers.nil
  | some f => exact mustBe_cov cx hcx _ _ f.expr _ key

theorem checkEnv_cov (cx : Cx) (hcx : cx.lower = lower) (e : Option Ast.Env) (key : String) :
    At lower Q key (envStrs e) (RuleExpr.checkEnv cx e key) := by
  cases e with
  | none => exact Covers.nil
  | some e =>
    simp only [envStrs, RuleExpr.checkEnv]
    cases e.vars with
    | some vars => exact Covers.map vars _ _ fun kv _ h => (checkStrU_rep cx hcx false kv.2.value key h).right
    | none => exact mustBe_cov cx hcx _ _ e.expr "env" key

theorem checkConcurrency_cov (cx : Cx) (hcx : cx.lower = lower) (c : Option Concurrency) (key : String) :
    At lower Q key (concurrencyStrs c) (checkConcurrency cx c key) := by
  cases c with
  | none => exact Covers.nil
  | some c => exact (checkString_cov cx hcx c.group key).append (checkBool_cov cx hcx c.cancelInProgress key)

theorem checkDefaults_cov (cx : Cx) (hcx : cx.lower = lower) (d : Option Defaults) (key : String) :
    At lower Q key (defaultsStrs d) (checkDefaults cx d key) := by
  cases d with
  | none => exact Covers.nil
  | some d =>
    simp only [defaultsStrs, checkDefaults]
    cases d.run with
    | none => exact Covers.nil
    | some r => exact (checkString_cov cx hcx r.shell key).append (checkString_cov cx hcx r.workingDirectory key)

/-- an `if:` with a complete placeholder is checked as a template, one without as ONE expression, `}}` appended -/
theorem checkIfCondition_cov (cx : Cx) (hcx : cx.lower = lower) (o : Option Str) (key : String) :
    At lower Q key o.toList (checkIfCondition cx o key) := by
  intro s hm h
  rw [mem_toList hm]
  simp only [checkIfCondition]
  split
  · have := checkStrU_rep cx hcx false s key h
    split
    · split
      · exact this.left
      · exact this
    · exact this
  · rename_i hce
    rcases h.cond with hce' | hc
    · exact absurd hce' hce
    · have hc := hc cx hcx
      have hs := checkOne_some_nil cx key false (bytesOf s.value ++ [125, 125])
      cases hr : checkOne cx key false (bytesOf s.value ++ [125, 125]) with
      | mk t es =>
        rw [hr] at hc hs
        cases t with
        | none => exact at_has s hc
        | some p =>
          obtain ⟨e, he, -⟩ := hc
          rw [hs p rfl] at he
          cases he

/-- whatever type `checkRawYAMLString` finds, its diagnostics are those of the placeholders of the text -/
theorem rawStringTy_snd (cx : Cx) (isNum : IsNumber) (v : String) (p : RuleExpr.Pos) :
    (rawStringTy cx isNum v p).2 = at_ ⟨v, false, p⟩ (checkExprsIn cx strategyKey false v).2 := by
  simp only [rawStringTy, apply_ite Prod.snd, ite_self]
  split
  · split <;> rfl
  · rfl

theorem rawStringTy_rep (cx : Cx) (hcx : cx.lower = lower) (isNum : IsNumber) (v : String) (p : RuleExpr.Pos)
    (h : Bad lower Q strategyKey v) : Rep Q (rawStringTy cx isNum v p).2 ⟨v, false, p⟩ := by
  rw [rawStringTy_snd]
  exact at_has _ (h.tmpl cx false hcx)

mutual
/-- **the diagnostics of the matrix walk**: those of the placeholders of each string of the value, in the order of
`rawStrs`; the type found plays no part -/
theorem rawTy_snd (cx : Cx) (isNum : IsNumber) : ∀ v : AL.Matrix.Raw,
    (rawTy cx isNum v).2 = (rawStrs v).flatMap fun s => at_ s (checkExprsIn cx strategyKey false s.value).2
  | .str v p => by rw [rawTy, rawStrs, rawStringTy_snd, List.flatMap_singleton]
  | .arr [] _ => by rw [rawTy, rawStrs, rawStrsL, List.flatMap_nil]
  | .arr (e :: rest) _ => by
    rw [rawTy, rawStrs, rawStrsL, List.flatMap_append, rawTy_snd cx isNum e, rawFold_snd cx isNum _ rest]
  | .obj ps _ => by rw [rawTy, rawStrs, rawProps_snd cx isNum ps]
theorem rawFold_snd (cx : Cx) (isNum : IsNumber) : ∀ (acc : Ty) (vs : List AL.Matrix.Raw),
    (rawFold cx isNum acc vs).2 = (rawStrsL vs).flatMap fun s => at_ s (checkExprsIn cx strategyKey false s.value).2
  | _, [] => by rw [rawFold, rawStrsL, List.flatMap_nil]
  | acc, v :: vs => by
    rw [rawFold, rawStrsL, List.flatMap_append, rawTy_snd cx isNum v, rawFold_snd cx isNum _ vs]
theorem rawProps_snd (cx : Cx) (isNum : IsNumber) : ∀ ps : List (String × AL.Matrix.Raw),
    (RuleExpr.rawProps cx isNum ps).2 =
      (rawStrsP ps).flatMap fun s => at_ s (checkExprsIn cx strategyKey false s.value).2
  | [] => by rw [RuleExpr.rawProps, rawStrsP, List.flatMap_nil]
  | (k, v) :: ps => by
    rw [RuleExpr.rawProps, rawStrsP, List.flatMap_append, rawTy_snd cx isNum v, rawProps_snd cx isNum ps]
end

/-- a list of strings each checked as a template under `key` -/
theorem Covers.sites (cx : Cx) (hcx : cx.lower = lower) (key : String) (l : List Str) :
    At lower Q key l (l.flatMap fun s => at_ s (checkExprsIn cx key false s.value).2) := by
  have := Covers.map (Q := Q) (B := fun s : Str => Bad lower Q key s.value) (site := id) l id
    (fun s => at_ s (checkExprsIn cx key false s.value).2) fun s _ h => at_has s (h.tmpl cx false hcx)
  rwa [List.map_id] at this

theorem rawTy_cov (cx : Cx) (hcx : cx.lower = lower) (isNum : IsNumber) :
    ∀ v : AL.Matrix.Raw, At lower Q strategyKey (rawStrs v) (rawTy cx isNum v).2 :=
  fun v => rawTy_snd cx isNum v ▸ Covers.sites cx hcx strategyKey _
theorem rawFold_cov (cx : Cx) (hcx : cx.lower = lower) (isNum : IsNumber) :
    ∀ (acc : Ty) (vs : List AL.Matrix.Raw), At lower Q strategyKey (rawStrsL vs) (rawFold cx isNum acc vs).2 :=
  fun acc vs => rawFold_snd cx isNum acc vs ▸ Covers.sites cx hcx strategyKey _
theorem rawProps_cov (cx : Cx) (hcx : cx.lower = lower) (isNum : IsNumber) :
    ∀ ps : List (String × AL.Matrix.Raw), At lower Q strategyKey (rawStrsP ps) (RuleExpr.rawProps cx isNum ps).2 :=
  fun ps => rawProps_snd cx isNum ps ▸ Covers.sites cx hcx strategyKey _

theorem rowTy_cov (cx : Cx) (hcx : cx.lower = lower) (isNum : IsNumber) (r : MatrixRow) :
    At lower Q strategyKey (rowStrs r) (rowTy cx isNum r).2 := by
  simp only [rowStrs, rowTy]
  cases r.expr with
  | some e => exact mustBe_cov cx hcx _ _ (some e) _ _
  | none =>
    simp only
    cases r.values.getD [] with
    | nil => rw [rawStrsL]; exact Covers.nil
    | cons v vs =>
      rw [rawStrsL]
      exact (rawTy_cov cx hcx isNum v).append (rawFold_cov cx hcx isNum _ vs)

theorem excludeDiags_cov (cx : Cx) (hcx : cx.lower = lower) (isNum : IsNumber) (ex : Option MatrixCombinations) :
    At lower Q strategyKey (combosStrs ex) (excludeDiags cx isNum ex) := by
  cases ex with
  | none => exact Covers.nil
  | some ex =>
    simp only [combosStrs, excludeDiags]
    cases ex.expr with
    | some e =>
      simp only
      intro s hm h
      split
      · split
        · exact mustBe_cov cx hcx _ _ (some e) _ _ s hm h
        · exact (mustBe_cov cx hcx _ _ (some e) _ _ s hm h).left
      · exact mustBe_cov cx hcx _ _ (some e) _ _ s hm h
    | none =>
      refine Covers.flatMap _ _ _ fun c _ => ?_
      simp only [comboStrs]
      cases c.expr with
      | some e => exact mustBe_cov cx hcx _ _ (some e) _ _
      | none => exact Covers.flatMap _ _ _ fun kv _ => rawTy_cov cx hcx isNum kv.2.value

theorem includeCombo_cov (cx : Cx) (hcx : cx.lower = lower) (isNum : IsNumber) (acc : Ty × List Diag)
    (c : MatrixCombination) : At lower Q strategyKey (comboStrs c) (includeCombo cx isNum acc c).2 := by
  simp only [comboStrs, includeCombo]
  cases c.expr with
  | some e =>
    simp only
    intro s hm h
    split <;> exact (checkOneExpression_cov cx hcx (some e) _ _ s hm h).right
  | none =>
    refine Covers.foldl _ _ (fun a x d hd => ?_) _ (fun kv _ a => (rawTy_cov cx hcx isNum kv.2.value).mono fun d hd => ?_) acc
    · split <;> exact List.mem_append_left _ hd
    · split <;> exact List.mem_append_right _ hd

theorem checkMatrix_cov (cx : Cx) (hcx : cx.lower = lower) (isNum : IsNumber) (m : Matrix) :
    At lower Q strategyKey (matrixStrs m) (checkMatrix cx isNum m).2 := by
  simp only [matrixStrs, checkMatrix]
  cases m.expr with
  | some e =>
    simp only [matrixExprTy]
    intro s hm h
    split <;> exact mustBe_cov cx hcx _ _ (some e) _ _ s hm h
  | none =>
    have hrows : At lower Q strategyKey ((m.rows.getD []).flatMap fun kv => rowStrs kv.2)
        ((m.rows.getD []).foldl (fun (acc : List (String × Ty) × List Diag) kv =>
          (Ty.setProp kv.1 (rowTy cx isNum kv.2).1 acc.1, acc.2 ++ (rowTy cx isNum kv.2).2)) ([], [])).2 :=
      Covers.foldl _ _ (fun _ _ _ hd => List.mem_append_left _ hd) _ (fun kv _ _ => (rowTy_cov cx hcx isNum kv.2).right) _
    have hex := (excludeDiags_cov cx hcx isNum m.excl).append hrows
    cases m.incl with
    | none =>
      simp only [combosStrs, List.append_nil]
      exact hex
    | some inc =>
      simp only [combosStrs]
      cases inc.expr with
      | some e => exact hex.append (checkOneExpression_cov cx hcx (some e) "include" _)
      | none =>
        exact hex.append (Covers.foldl _ _ (fun a x d hd => includeCombo_keep cx isNum a x d hd) _
          (fun c _ a => includeCombo_cov cx hcx isNum a c) _)

theorem jobMatrix_cov (cx : Cx) (hcx : cx.lower = lower) (isNum : IsNumber) (n : Job) :
    At lower Q strategyKey (matrixOfStrs n) (jobMatrix cx isNum n).2 := by
  simp only [matrixOfStrs, jobMatrix]
  cases n.strategy with
  | none => exact Covers.nil
  | some st =>
    simp only
    cases st.matrix with
    | none => exact Covers.nil
    | some m => exact checkMatrix_cov cx hcx isNum m

/-- `credentials` and `env` have rows of their own, whose keys `checkContainer` builds from the section's key -/
theorem checkContainer_cov (cx : Cx) (hcx : cx.lower = lower) (c : Option Container) (key pre kCred kEnv : String)
    (hc : (if pre ≠ "" then key ++ "." ++ pre else key) ++ ".credentials" = kCred)
    (he : (if pre ≠ "" then key ++ "." ++ pre else key) ++ ".env.<env_id>" = kEnv) :
    Keyed lower Q (containerKStrs c key kCred kEnv key) (checkContainer cx c key pre) := by
  subst hc he
  cases c with
  | none => exact Covers.nil
  | some c =>
    simp only [containerKStrs, checkContainer]
    refine (checkString_cov cx hcx c.image key).tag
      |>.append ?_
      |>.append (checkEnv_cov cx hcx c.env _).tag
      |>.append (checkStrings_cov cx hcx c.ports key).tag
      |>.append (checkStrings_cov cx hcx c.volumes key).tag
      |>.append (checkString_cov cx hcx c.options key).tag
    cases c.credentials with
    | none => exact Covers.nil
    | some cr => exact ((checkString_cov cx hcx cr.username _).append (checkString_cov cx hcx cr.password _)).tag

theorem stepExec_cov (cx : Cx) (hcx : cx.lower = lower) (e : Exec) : Keyed lower Q (execKStrs e) (stepExec cx e).1 := by
  cases e with
  | none => exact Covers.nil
  | run r =>
    exact (checkScriptString_cov cx hcx r.run _).tag
      |>.append (checkString_cov cx hcx r.shell _).tag
      |>.append (checkString_cov cx hcx r.workingDirectory _).tag
  | action a =>
    exact (checkString_cov cx hcx a.uses _).tag
      |>.append (Covers.tag <| Covers.map _ _ _ fun kv _ h =>
        Rep.ite _ (checkStrU_rep cx hcx true kv.2.value _ h) (checkStrU_rep cx hcx false kv.2.value _ h))
      |>.append (checkString_cov cx hcx a.entrypoint _).tag
      |>.append (checkString_cov cx hcx a.args _).tag

theorem stepDiags_cov (cx : Cx) (hcx : cx.lower = lower) (n : Step) : Keyed lower Q (stepKStrs n) (stepDiags cx n) :=
  (checkString_cov cx hcx n.name _).tag
    |>.append (checkIfCondition_cov cx hcx n.cond _).tag
    |>.append (stepExec_cov cx hcx n.exec)
    |>.append (checkEnv_cov cx hcx n.env _).tag
    |>.append (checkBool_cov cx hcx n.continueOnError _).tag
    |>.append (checkFloat_cov cx hcx n.timeoutMinutes _).tag

theorem visitStep_cov (cx : Cx) (hcx : cx.lower = lower) (n : Step) : Keyed lower Q (stepKStrs n) (visitStep cx n).2 := by
  unfold visitStep
  split
  · exact stepDiags_cov cx hcx n
  · exact (stepDiags_cov cx hcx n).left

/-- each step is checked in the scope the steps before it leave behind; the folding function is never changed -/
theorem visitSteps_cov : ∀ (steps : List Step) (cx : Cx), cx.lower = lower →
    Keyed lower Q (steps.flatMap stepKStrs) (visitSteps cx steps).2
  | [], _, _ => Covers.nil
  | st :: rest, cx, hcx => by
    rw [List.flatMap_cons, visitSteps]
    exact (visitStep_cov cx hcx st).append (visitSteps_cov rest _ ((visitStep_lower cx st).trans hcx))

theorem runsOnDiags_cov (cx : Cx) (hcx : cx.lower = lower) (r : Option Runner) :
    At lower Q "jobs.<job_id>.runs-on" (runnerStrs r) (runsOnDiags cx r) := by
  cases r with
  | none => exact Covers.nil
  | some r =>
    simp only [runnerStrs, runsOnDiags]
    refine Covers.append ?_ (checkString_cov cx hcx r.group _)
    cases r.labelsExpr with
    | some e =>
      simp only
      intro s hm h
      split <;> first
        | exact checkOneExpression_cov cx hcx (some e) _ _ s hm h
        | exact (checkOneExpression_cov cx hcx (some e) _ _ s hm h).left
    | none => exact checkStrings_cov cx hcx r.labels _

theorem strategyDiags_cov (cx : Cx) (hcx : cx.lower = lower) (st : Option Strategy) :
    At lower Q strategyKey (strategyStrs st) (strategyDiags cx st) := by
  cases st with
  | none => exact Covers.nil
  | some st => exact (checkBool_cov cx hcx st.failFast _).append (checkInt_cov cx hcx st.maxParallel _)

theorem servicesDiags_cov (cx : Cx) (hcx : cx.lower = lower) (sv : Option Services) :
    Keyed lower Q (servicesKStrs sv) (servicesDiags cx sv) := by
  cases sv with
  | none => exact Covers.nil
  | some sv =>
    exact (mustBe_cov cx hcx _ _ sv.expr _ _).tag.append
      (Covers.flatMap _ _ _ fun kv _ => checkContainer_cov cx hcx _ _ "<service_id>" _ _ (by decide +kernel) (by decide +kernel))

theorem checkWorkflowCall_cov (cx : Cx) (hcx : cx.lower = lower) (c : Option WorkflowCall) :
    Keyed lower Q (callKStrs c) (RuleExpr.checkWorkflowCall cx c) := by
  cases c with
  | none => exact Covers.nil
  | some c =>
    simp only [callKStrs, RuleExpr.checkWorkflowCall]
    cases c.uses with
    | none => exact Covers.nil
    | some u =>
      exact (checkString_cov cx hcx (some u) _).tag
        |>.append (Covers.tag <| Covers.map _ _ _ fun kv _ h => (checkStrU_rep cx hcx false kv.2.value _ h).left)
        |>.append (Covers.tag <| Covers.map _ _ _ fun kv _ h => checkStrU_rep cx hcx false kv.2.value _ h)

theorem jobPre_cov (cx : Cx) (hcx : cx.lower = lower) (n : Job) : Keyed lower Q (jobPreKStrs n) (jobPre cx n) :=
  (checkString_cov cx hcx n.name _).tag
    |>.append (checkStrings_cov cx hcx n.needs _).tag
    |>.append (runsOnDiags_cov cx hcx n.runsOn).tag
    |>.append (checkConcurrency_cov cx hcx n.concurrency _).tag
    |>.append (checkEnv_cov cx hcx n.env _).tag
    |>.append (checkDefaults_cov cx hcx n.defaults _).tag
    |>.append (checkIfCondition_cov cx hcx n.cond _).tag
    |>.append (strategyDiags_cov cx hcx n.strategy).tag
    |>.append (checkBool_cov cx hcx n.continueOnError _).tag
    |>.append (checkFloat_cov cx hcx n.timeoutMinutes _).tag
    |>.append (checkContainer_cov cx hcx n.container _ "" _ _ (by decide +kernel) (by decide +kernel))
    |>.append (servicesDiags_cov cx hcx n.services)
    |>.append (checkWorkflowCall_cov cx hcx n.workflowCall)

theorem jobPost_cov (cx : Cx) (hcx : cx.lower = lower) (n : Job) : Keyed lower Q (jobPostKStrs n) (jobPost cx n) := by
  simp only [jobPostKStrs, jobPost]
  refine Covers.append ?_ (Covers.tag <| Covers.map _ _ _ fun kv _ h => checkStrU_rep cx hcx false kv.2.value _ h)
  cases n.environment with
  | none => exact Covers.nil
  | some e => exact (checkString_cov cx hcx e.name _).tag.append (checkString_cov cx hcx e.url _).tag

theorem visitJob_cov (cx : Cx) (hcx : cx.lower = lower) (isNum : IsNumber) (jobs : List (String × Job)) (n : Job) :
    Keyed lower Q (jobKStrs n) (visitJob cx isNum jobs n) := by
  simp only [jobKStrs, visitJob]
  refine (jobMatrix_cov _ ?_ isNum n).tag
    |>.append (jobPre_cov _ ?_ n)
    |>.append (visitSteps_cov _ _ ?_)
    |>.append (jobPost_cov _ ?_ n)
  · exact hcx
  · split <;> exact hcx
  · split <;> exact hcx
  · rw [visitSteps_lower]
    split <;> exact hcx

/-! ### events and the workflow -/

theorem filter_cov (cx : Cx) (hcx : cx.lower = lower) (f : Option Filter) :
    At lower Q "" (filterStrs f) (filterDiags cx f) := by
  cases f with
  | none => exact Covers.nil
  | some f => exact checkStrings_cov cx hcx f.values _

theorem webhookDiags_cov (cx : Cx) (hcx : cx.lower = lower) (e : WebhookEvent) :
    At lower Q "" (eventStrs (.webhook e)) (webhookDiags cx e) :=
  (checkStrings_cov cx hcx e.types _)
    |>.append (filter_cov cx hcx e.branches)
    |>.append (filter_cov cx hcx e.branchesIgnore)
    |>.append (filter_cov cx hcx e.tags)
    |>.append (filter_cov cx hcx e.tagsIgnore)
    |>.append (filter_cov cx hcx e.paths)
    |>.append (filter_cov cx hcx e.pathsIgnore)
    |>.append (checkStrings_cov cx hcx e.workflows _)

/-- each input of `workflow_call` is checked with the inputs before it in scope -/
theorem callInputs_cov (cx : Cx) (hcx : cx.lower = lower) : ∀ (ins : List Ast.CallInput) (acc : List (String × Ty)),
    Keyed lower Q (ins.flatMap callInputKStrs) (callInputs cx acc ins).2
  | [], _ => Covers.nil
  | i :: rest, acc => by
    rw [List.flatMap_cons, callInputs]
    refine Covers.append (Covers.left ?_) (callInputs_cov cx hcx rest _)
    refine (checkString_cov _ ?_ i.description _).tag
      |>.append (checkBool_cov _ ?_ i.required _).tag
      |>.append (checkStrU_cov _ ?_ false i.dflt _).tag
    all_goals exact hcx

theorem visitEvent_cov (cx : Cx) (hcx : cx.lower = lower) (e : Ast.Event) :
    Keyed lower Q (eventKStrs e) (visitEvent cx e).2 := by
  cases e with
  | webhook e => exact (webhookDiags_cov cx hcx e).tag
  | schedule cron pos => exact (checkStrings_cov cx hcx (some cron) _).tag
  | dispatch inputs pos =>
    exact Covers.tag <| Covers.flatMap _ _ _ fun (kv : String × DispatchInput) _ =>
      (checkString_cov cx hcx kv.2.description _)
        |>.append (checkString_cov cx hcx kv.2.dflt _)
        |>.append (checkBool_cov cx hcx kv.2.required _)
        |>.append (checkStrings_cov cx hcx kv.2.options _)
  | repoDispatch types pos => exact (checkStrings_cov cx hcx types _).tag
  | call inputs secrets outputs pos =>
    simp only [eventKStrs, visitEvent]
    refine (callInputs_cov _ ?_ _ _)
      |>.append (Covers.tag <| Covers.flatMap _ _ _ fun (kv : String × CallSecret) _ =>
        (checkString_cov _ ?_ kv.2.description _).append (checkBool_cov _ ?_ kv.2.required _))
      |>.append (Covers.tag <| Covers.flatMap _ _ _ fun (kv : String × CallOutput) _ => checkString_cov _ ?_ kv.2.description _)
    · exact hcx
    · exact hcx
    · exact hcx
    · split <;> exact hcx

theorem visitEvents_cov : ∀ (es : List Ast.Event) (cx : Cx), cx.lower = lower →
    Keyed lower Q (es.flatMap eventKStrs) (visitEvents cx es).2
  | [], _, _ => Covers.nil
  | e :: rest, cx, hcx => by
    rw [List.flatMap_cons, visitEvents]
    exact (visitEvent_cov cx hcx e).append (visitEvents_cov rest _ ((visitEvent_lower cx e).trans hcx))

/-- **the walk**: the diagnostics of the rule answer for every value string of the workflow, each under the key of its
position -/
theorem rule_cov (lower : String → String) (isNum : IsNumber) (w : Workflow) (proj : ProjView) :
    Keyed lower Q (keyedStrs w) (rule lower isNum w proj) := by
  have hev : (visitEvents { lower := lower, proj := proj } (w.on.getD [])).1.lower = lower := visitEvents_lower _ _
  simp only [keyedStrs, rule]
  refine (checkString_cov { lower := lower, proj := proj } rfl w.name _).tag
    |>.append (visitEvents_cov _ { lower := lower, proj := proj } rfl)
    |>.append ((checkString_cov _ hev w.runName _).tag
      |>.append (checkEnv_cov _ hev w.env _).tag
      |>.append (checkDefaults_cov _ hev w.defaults _).tag
      |>.append (checkConcurrency_cov _ hev w.concurrency _).tag)
    |>.append (Covers.flatMap _ _ _ fun (kv : String × Job) _ => visitJob_cov _ hev isNum _ kv.2)
    |>.append ?_
  simp only [outValueStrs]
  cases findCallOutputs (w.on.getD []) with
  | none => exact Covers.nil
  | some outs =>
    simp only
    split
    · exact Covers.nil
    · refine Covers.tag <| Covers.flatMap _ _ _ fun kv _ => checkString_cov _ ?_ kv.2.value _
      exact hev

end AL.Cover

namespace AL.C03R
open AL AL.Ast AL.Sema AL.RuleExpr

theorem some_of_ne_nil {es : List SemaErr} (h : es ≠ []) : ∃ e ∈ es, True :=
  let ⟨e, he⟩ := List.exists_mem_of_ne_nil es h; ⟨e, he, trivial⟩

theorem Malformed.bad {v : String} (h : Malformed v) {lower : String → String} {key : String} :
    Cover.Bad lower (fun _ => True) key v :=
  ⟨fun cx u _ => some_of_ne_nil (h.tmpl cx key u), .inr fun cx _ => some_of_ne_nil (h.cond cx key)⟩

theorem Reported.rep {ds : List Diag} {s : Str} (h : Reported ds s) : Cover.Rep (fun _ => True) ds s :=
  let ⟨d, hd, hs⟩ := h; ⟨d, hd, hs, trivial⟩

theorem checkStrU_bad (cx : Cx) (u : Bool) (s : Str) (key : String) (h : Malformed s.value) :
    Reported (checkStrU cx u (some s) key).2 s :=
  (Cover.checkStrU_rep cx rfl u s key h.bad).reported

theorem checkString_bad (cx : Cx) (s : Str) (key : String) (h : Malformed s.value) : Reported (checkString cx (some s) key) s :=
  checkStrU_bad cx false s key h

theorem checkScriptString_bad (cx : Cx) (s : Str) (key : String) (h : Malformed s.value) :
    Reported (checkScriptString cx (some s) key) s :=
  checkStrU_bad cx true s key h

theorem checkStrings_bad (cx : Cx) (ss : List Str) (key : String) (s : Str) (hm : s ∈ ss) (h : Malformed s.value) :
    Reported (checkStrings cx (some ss) key) s :=
  (Cover.checkStrings_cov cx rfl (some ss) key s hm h.bad).reported

theorem checkOneExpression_bad (cx : Cx) (s : Str) (what key : String) (h : Malformed s.value) :
    Reported (checkOneExpression cx (some s) what key).2 s :=
  (Cover.checkOneExpression_cov cx rfl (some s) what key s (List.mem_singleton.2 rfl) h.bad).reported

theorem mustBe_bad (p : Ty → Bool) (code what : String) (s : Str) (r : Option Ty × List Diag) (h : Reported r.2 s) :
    Reported (mustBe p code what (some s) r).2 s :=
  (Cover.mustBe_rep p code what s r h.rep).reported

theorem checkBool_bad (cx : Cx) (b : Option BoolV) (key : String) (s : Str) (hm : s ∈ boolStrs b) (h : Malformed s.value) :
    Reported (checkBool cx b key) s :=
  (Cover.checkBool_cov cx rfl b key s hm h.bad).reported

theorem checkNumberExpression_bad (cx : Cx) (s : Str) (what key : String) (h : Malformed s.value) :
    Reported (checkNumberExpression cx (some s) what key).2 s :=
  mustBe_bad _ _ _ s _ (checkOneExpression_bad cx s what key h)

theorem checkObjectExpression_bad (cx : Cx) (s : Str) (what key : String) (h : Malformed s.value) :
    Reported (checkObjectExpression cx (some s) what key).2 s :=
  mustBe_bad _ _ _ s _ (checkOneExpression_bad cx s what key h)

theorem checkArrayExpression_bad (cx : Cx) (s : Str) (what key : String) (h : Malformed s.value) :
    Reported (checkArrayExpression cx (some s) what key).2 s :=
  mustBe_bad _ _ _ s _ (checkOneExpression_bad cx s what key h)

theorem checkInt_bad (cx : Cx) (i : Option IntV) (key : String) (s : Str) (hm : s ∈ intStrs i) (h : Malformed s.value) :
    Reported (checkInt cx i key) s :=
  (Cover.checkInt_cov cx rfl i key s hm h.bad).reported

theorem checkFloat_bad (cx : Cx) (f : Option FloatV) (key : String) (s : Str) (hm : s ∈ floatStrs f) (h : Malformed s.value) :
    Reported (checkFloat cx f key) s :=
  (Cover.checkFloat_cov cx rfl f key s hm h.bad).reported

theorem checkString_opt_bad (cx : Cx) (o : Option Str) (key : String) (s : Str) (hm : s ∈ o.toList) (h : Malformed s.value) :
    Reported (checkString cx o key) s :=
  (Cover.checkString_cov cx rfl o key s hm h.bad).reported

theorem checkStrings_opt_bad (cx : Cx) (o : Option (List Str)) (key : String) (s : Str) (hm : s ∈ o.getD []) (h : Malformed s.value) :
    Reported (checkStrings cx o key) s :=
  (Cover.checkStrings_cov cx rfl o key s hm h.bad).reported

theorem flatMap_reported {α} (l : List α) (f : α → List Diag) (a : α) (ha : a ∈ l) (s : Str) (h : Reported (f a) s) :
    Reported (l.flatMap f) s :=
  (Cover.Rep.flatMap l f a ha h.rep).reported

theorem checkEnv_bad (cx : Cx) (e : Option Ast.Env) (key : String) (s : Str) (hm : s ∈ envStrs e) (h : Malformed s.value) :
    Reported (RuleExpr.checkEnv cx e key) s :=
  (Cover.checkEnv_cov cx rfl e key s hm h.bad).reported

theorem checkContainer_bad (cx : Cx) (c : Option Container) (key pre : String) (s : Str) (hm : s ∈ containerStrs c)
    (h : Malformed s.value) : Reported (checkContainer cx c key pre) s :=
  ((Cover.checkContainer_cov cx rfl c key pre _ _ rfl rfl).all (C12R.containerKStrs_fst c ..) hm fun _ => h.bad).reported

theorem checkConcurrency_bad (cx : Cx) (c : Option Concurrency) (key : String) (s : Str) (hm : s ∈ concurrencyStrs c)
    (h : Malformed s.value) : Reported (checkConcurrency cx c key) s :=
  (Cover.checkConcurrency_cov cx rfl c key s hm h.bad).reported

theorem checkDefaults_bad (cx : Cx) (d : Option Defaults) (key : String) (s : Str) (hm : s ∈ defaultsStrs d)
    (h : Malformed s.value) : Reported (checkDefaults cx d key) s :=
  (Cover.checkDefaults_cov cx rfl d key s hm h.bad).reported

theorem checkIfCondition_bad (cx : Cx) (o : Option Str) (key : String) (s : Str) (hm : s ∈ o.toList) (h : Malformed s.value) :
    Reported (checkIfCondition cx o key) s :=
  (Cover.checkIfCondition_cov cx rfl o key s hm h.bad).reported

/-! ### matrix -/

theorem rawStringTy_bad (cx : Cx) (isNum : IsNumber) (v : String) (p : RuleExpr.Pos) (h : Malformed v) :
    Reported (rawStringTy cx isNum v p).2 ⟨v, false, p⟩ :=
  (Cover.rawStringTy_rep cx rfl isNum v p h.bad).reported

theorem rawTy_bad (cx : Cx) (isNum : IsNumber) (s : Str) (h : Malformed s.value) :
    ∀ (v : AL.Matrix.Raw), s ∈ rawStrs v → Reported (rawTy cx isNum v).2 s :=
  fun v hm => (Cover.rawTy_cov cx rfl isNum v s hm h.bad).reported

theorem rawFold_bad (cx : Cx) (isNum : IsNumber) (s : Str) (h : Malformed s.value) :
    ∀ (acc : Ty) (vs : List AL.Matrix.Raw), s ∈ rawStrsL vs → Reported (rawFold cx isNum acc vs).2 s :=
  fun acc vs hm => (Cover.rawFold_cov cx rfl isNum acc vs s hm h.bad).reported

theorem rawProps_bad (cx : Cx) (isNum : IsNumber) (s : Str) (h : Malformed s.value) :
    ∀ (ps : List (String × AL.Matrix.Raw)), s ∈ rawStrsP ps → Reported (RuleExpr.rawProps cx isNum ps).2 s :=
  fun ps hm => (Cover.rawProps_cov cx rfl isNum ps s hm h.bad).reported

theorem foldl_reported {α σ : Type} (step : σ × List Diag → α → σ × List Diag) (s : Str)
    (hkeep : ∀ acc x d, d ∈ acc.2 → d ∈ (step acc x).2) (l : List α) (a : α) (ha : a ∈ l)
    (hrep : ∀ acc, Reported (step acc a).2 s) : ∀ acc, Reported (l.foldl step acc).2 s :=
  fun acc => (Cover.Rep.foldl step s hkeep l a ha (fun acc => (hrep acc).rep) acc).reported

theorem rowTy_bad (cx : Cx) (isNum : IsNumber) (r : MatrixRow) (s : Str) (hm : s ∈ rowStrs r) (h : Malformed s.value) :
    Reported (rowTy cx isNum r).2 s :=
  (Cover.rowTy_cov cx rfl isNum r s hm h.bad).reported

theorem excludeDiags_bad (cx : Cx) (isNum : IsNumber) (ex : Option MatrixCombinations) (s : Str) (hm : s ∈ combosStrs ex)
    (h : Malformed s.value) : Reported (excludeDiags cx isNum ex) s :=
  (Cover.excludeDiags_cov cx rfl isNum ex s hm h.bad).reported

theorem includeCombo_bad (cx : Cx) (isNum : IsNumber) (acc : Ty × List Diag) (c : MatrixCombination) (s : Str)
    (hm : s ∈ comboStrs c) (h : Malformed s.value) : Reported (includeCombo cx isNum acc c).2 s :=
  (Cover.includeCombo_cov cx rfl isNum acc c s hm h.bad).reported

theorem checkMatrix_bad (cx : Cx) (isNum : IsNumber) (m : Matrix) (s : Str) (hm : s ∈ matrixStrs m) (h : Malformed s.value) :
    Reported (checkMatrix cx isNum m).2 s :=
  (Cover.checkMatrix_cov cx rfl isNum m s hm h.bad).reported

/-! ### steps and jobs -/

theorem ite_reported (c : Bool) (a b : List Diag) (s : Str) (ha : Reported a s) (hb : Reported b s) :
    Reported (if c = true then a else b) s :=
  (Cover.Rep.ite c ha.rep hb.rep).reported

theorem stepExec_bad (cx : Cx) (e : Exec) (s : Str) (hm : s ∈ execStrs e) (h : Malformed s.value) :
    Reported (stepExec cx e).1 s :=
  ((Cover.stepExec_cov cx rfl e).all (C12R.execKStrs_fst e) hm fun _ => h.bad).reported

theorem stepDiags_bad (cx : Cx) (n : Step) (s : Str) (hm : s ∈ stepStrs n) (h : Malformed s.value) :
    Reported (stepDiags cx n) s :=
  ((Cover.stepDiags_cov cx rfl n).all (C12R.stepKStrs_fst n) hm fun _ => h.bad).reported

theorem visitStep_bad (cx : Cx) (n : Step) (s : Str) (hm : s ∈ stepStrs n) (h : Malformed s.value) :
    Reported (visitStep cx n).2 s :=
  ((Cover.visitStep_cov cx rfl n).all (C12R.stepKStrs_fst n) hm fun _ => h.bad).reported

theorem visitSteps_bad (s : Str) (h : Malformed s.value) : ∀ (steps : List Step) (cx : Cx),
    s ∈ steps.flatMap stepStrs → Reported (visitSteps cx steps).2 s :=
  fun steps cx hm =>
  ((Cover.visitSteps_cov steps cx rfl).all (C12R.flatMap_fst _ _ _ C12R.stepKStrs_fst) hm fun _ => h.bad).reported

theorem runsOnDiags_bad (cx : Cx) (r : Option Runner) (s : Str) (hm : s ∈ runnerStrs r) (h : Malformed s.value) :
    Reported (runsOnDiags cx r) s :=
  (Cover.runsOnDiags_cov cx rfl r s hm h.bad).reported

theorem strategyDiags_bad (cx : Cx) (st : Option Strategy) (s : Str) (hm : s ∈ strategyStrs st) (h : Malformed s.value) :
    Reported (strategyDiags cx st) s :=
  (Cover.strategyDiags_cov cx rfl st s hm h.bad).reported

theorem servicesDiags_bad (cx : Cx) (sv : Option Services) (s : Str) (hm : s ∈ servicesStrs sv) (h : Malformed s.value) :
    Reported (servicesDiags cx sv) s :=
  ((Cover.servicesDiags_cov cx rfl sv).all (C12R.servicesKStrs_fst sv) hm fun _ => h.bad).reported

theorem checkWorkflowCall_bad (cx : Cx) (c : Option WorkflowCall) (s : Str) (hm : s ∈ callStrs c) (h : Malformed s.value) :
    Reported (RuleExpr.checkWorkflowCall cx c) s :=
  ((Cover.checkWorkflowCall_cov cx rfl c).all (C12R.callKStrs_fst c) hm fun _ => h.bad).reported

theorem jobPre_bad (cx : Cx) (n : Job) (s : Str) (hm : s ∈ jobPreStrs n) (h : Malformed s.value) :
    Reported (jobPre cx n) s :=
  ((Cover.jobPre_cov cx rfl n).all (C12R.jobPreKStrs_fst n) hm fun _ => h.bad).reported

theorem jobPost_bad (cx : Cx) (n : Job) (s : Str) (hm : s ∈ jobPostStrs n) (h : Malformed s.value) :
    Reported (jobPost cx n) s :=
  ((Cover.jobPost_cov cx rfl n).all (C12R.jobPostKStrs_fst n) hm fun _ => h.bad).reported

theorem jobMatrix_bad (cx : Cx) (isNum : IsNumber) (n : Job) (s : Str) (hm : s ∈ matrixOfStrs n) (h : Malformed s.value) :
    Reported (jobMatrix cx isNum n).2 s :=
  (Cover.jobMatrix_cov cx rfl isNum n s hm h.bad).reported

/-- **every value string of a job is checked**, whatever the scope in effect, the other jobs and the job's position -/
theorem visitJob_bad (cx : Cx) (isNum : IsNumber) (jobs : List (String × Job)) (n : Job) (s : Str) (hm : s ∈ jobStrs n)
    (h : Malformed s.value) : Reported (visitJob cx isNum jobs n) s :=
  ((Cover.visitJob_cov cx rfl isNum jobs n).all (C12R.jobKStrs_fst n) hm fun _ => h.bad).reported

/-! ### events and the workflow -/

theorem filter_bad (cx : Cx) (f : Option Filter) (s : Str) (hm : s ∈ filterStrs f) (h : Malformed s.value) :
    Reported (filterDiags cx f) s :=
  (Cover.filter_cov cx rfl f s hm h.bad).reported

theorem webhookDiags_bad (cx : Cx) (e : WebhookEvent) (s : Str) (hm : s ∈ eventStrs (.webhook e)) (h : Malformed s.value) :
    Reported (webhookDiags cx e) s :=
  (Cover.webhookDiags_cov cx rfl e s hm h.bad).reported

theorem callInputs_bad (cx : Cx) (s : Str) (h : Malformed s.value) : ∀ (ins : List Ast.CallInput) (acc : List (String × Ty)),
    s ∈ ins.flatMap callInputStrs → Reported (callInputs cx acc ins).2 s :=
  fun ins acc hm =>
  ((Cover.callInputs_cov cx rfl ins acc).all (C12R.flatMap_fst _ _ _ C12R.callInputKStrs_fst) hm fun _ => h.bad).reported

theorem visitEvent_bad (cx : Cx) (e : Ast.Event) (s : Str) (hm : s ∈ eventStrs e) (h : Malformed s.value) :
    Reported (visitEvent cx e).2 s :=
  ((Cover.visitEvent_cov cx rfl e).all (C12R.eventKStrs_fst e) hm fun _ => h.bad).reported

theorem visitEvents_bad (s : Str) (h : Malformed s.value) : ∀ (es : List Ast.Event) (cx : Cx),
    s ∈ es.flatMap eventStrs → Reported (visitEvents cx es).2 s :=
  fun es cx hm =>
  ((Cover.visitEvents_cov es cx rfl).all (C12R.flatMap_fst _ _ _ C12R.eventKStrs_fst) hm fun _ => h.bad).reported

/-- **C03, rule half.** For every workflow AST, every value string whose text is a malformed placeholder gets a diagnostic
of the expression rule located at that string — in every section, at every nesting depth, whatever else the workflow
contains. (Stated for the rule run without a project view; `AL.Cover.rule_cov` has every `proj`.) -/
theorem every_placeholder_checked (lower : String → String) (isNum : IsNumber) (w : Workflow) (s : Str)
    (hm : s ∈ valueStrs w) (h : Malformed s.value) : Reported (rule lower isNum w) s :=
  ((Cover.rule_cov lower isNum w {}).all (C12R.keyedStrs_fst w) hm fun _ => h.bad).reported

/-! ### the hypothesis is satisfiable: `${{` is malformed in every position -/

theorem checkOne_of_lex_error (cx : Cx) (key : String) (u : Bool) (rest : List Nat)
    (h : (match AL.Lex.lexExpression (decodeUtf8 rest) with | .ok _ => true | .error _ => false) = false) :
    checkOne cx key u rest = (none, [err "syntax-error" []]) := by
  unfold checkOne
  split
  · rename_i h1 _
    rw [h1] at h
    cases h
  · rfl

theorem lex_empty_fails :
    (match AL.Lex.lexExpression (decodeUtf8 []) with | .ok _ => true | .error _ => false) = false := by decide +kernel

theorem lex_dollar_fails :
    (match AL.Lex.lexExpression (decodeUtf8 [36, 123, 123, 125, 125]) with | .ok _ => true | .error _ => false) = false := by
  decide +kernel

/-- the unclosed placeholder `${{` -/
theorem malformed_open : Malformed "${{" := by
  have hb : bytesOf "${{" = [36, 123, 123] := by decide +kernel
  constructor
  · intro cx key u
    have hi : AL.Proc.indexOf AL.Proc.open3 [36, 123, 123] 0 = some 0 := by decide
    simp only [checkExprsIn, hb, List.length_cons, List.length_nil, Nat.zero_add, Nat.reduceAdd, scan, hi,
      List.drop_succ_cons, List.drop_zero, List.drop_nil, checkOne_of_lex_error cx key u [] lex_empty_fails]
    simp
  · intro cx key
    rw [hb]
    simp only [List.cons_append, List.nil_append, checkOne_of_lex_error cx key false _ lex_dollar_fails]
    simp

/-- the base example of the property: a workflow whose `run-name` is `${{` gets a diagnostic at that scalar -/
example (lower : String → String) (isNum : IsNumber) (w : Workflow) (p : RuleExpr.Pos) (hw : w.runName = some ⟨"${{", false, p⟩) :
    ∃ d ∈ rule lower isNum w, d.site = p :=
  every_placeholder_checked lower isNum w ⟨"${{", false, p⟩
    (by simp only [valueStrs, hw, List.mem_append, Option.toList_some, List.mem_singleton, true_or, or_true])
    malformed_open

end AL.C03R
