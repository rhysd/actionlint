import AL.Props.C03Rule
import AL.Lemmas.SemaScope
import AL.Lemmas.AvailRows
/-
  C12 on the model of rule_expression.go (AL.RuleExpr, tied by `exprwf`): the KEYED refinement of C03's coverage theorem.

    every value string of the AST (`AL.C03R.valueStrs`) is checked UNDER THE WORKFLOW KEY THAT BELONGS TO ITS POSITION —
    `keyedStrs w` pairs every value string with the key GitHub's context-availability table assigns to its position
    (`""` where the table has no row: no context and no special function is available there) — :
    if every check of its text under that key yields a diagnostic (`BadUnder key`), the rule reports a diagnostic located
    at that string (`every_position_checked_under_its_key`).

  The key selects the row of the availability table (`AL.Visit.availability`, equal to the documentation's table by
  `AL.C12.code_eq_docs`), so "secrets is not available in a job's `if:`" is, through this theorem, a statement about
  EVERY job `if:` of EVERY workflow, and likewise for every other position.

  `BadUnder` quantifies over every scope `cx`, the case-folding function `cx.lower` included. The rule never changes
  `cx.lower`, so the theorem is proved in the sharper form `BadUnderL lower` (only scopes whose folding function is the
  rule's); `BadUnder key v → BadUnderL lower key v`.

  The beginning of namespace `AL.C12R` — `keyedStrs`, `tag`, that the enumeration lists exactly `valueStrs`
  (`keyedStrs_fst`), `visitStep_lower` … — stands in AL/Props/C03Rule.lean, under the walk `AL.Cover` that reads it.
-/
namespace AL.C12R
open AL AL.Ast AL.Sema AL.RuleExpr AL.C03R

/-- a text every check of which UNDER THE KEY `key` yields a diagnostic, whatever the scope (`cond`: closed by `}}` and
read as one expression, as for `AL.C03R.Malformed`) -/
structure BadUnder (key : String) (v : String) : Prop where
  tmpl : ∀ cx u, (checkExprsIn cx key u v).2 ≠ []
  cond : ∀ cx, (checkOne cx key false (bytesOf v ++ [125, 125])).2 ≠ []

/-- the same, for the scopes that fold names with `lower` (the rule is run with ONE folding function) -/
structure BadUnderL (lower : String → String) (key : String) (v : String) : Prop where
  tmpl : ∀ (cx : Cx) u, cx.lower = lower → (checkExprsIn cx key u v).2 ≠ []
  cond : ∀ (cx : Cx), cx.lower = lower → (checkOne cx key false (bytesOf v ++ [125, 125])).2 ≠ []

theorem BadUnder.toL {key v : String} (h : BadUnder key v) (lower : String → String) : BadUnderL lower key v :=
  ⟨fun cx u _ => h.tmpl cx u, fun cx _ => h.cond cx⟩

theorem malformed_badUnder {v : String} (h : Malformed v) (key : String) : BadUnder key v :=
  ⟨fun cx u => h.tmpl cx key u, fun cx => h.cond cx key⟩

/-- C03's hypothesis is the conjunction over all keys -/
theorem malformed_iff (v : String) : Malformed v ↔ ∀ key, BadUnder key v :=
  ⟨malformed_badUnder, fun h => ⟨fun cx key u => (h key).tmpl cx u, fun cx key => (h key).cond cx⟩⟩

variable {lower : String → String}

/-! ### the checkers that pass ONE key on -/

theorem BadUnderL.bad {key v : String} (h : BadUnderL lower key v) : Cover.Bad lower (fun _ => True) key v :=
  ⟨fun cx u hcx => some_of_ne_nil (h.tmpl cx u hcx), .inr fun cx hcx => some_of_ne_nil (h.cond cx hcx)⟩

theorem checkStrU_badK (cx : Cx) (hcx : cx.lower = lower) (u : Bool) (s : Str) (key : String)
    (h : BadUnderL lower key s.value) : Reported (checkStrU cx u (some s) key).2 s :=
  (Cover.checkStrU_rep cx hcx u s key h.bad).reported

theorem checkString_badK (cx : Cx) (hcx : cx.lower = lower) (s : Str) (key : String) (h : BadUnderL lower key s.value) :
    Reported (checkString cx (some s) key) s := checkStrU_badK cx hcx false s key h
theorem checkScriptString_badK (cx : Cx) (hcx : cx.lower = lower) (s : Str) (key : String) (h : BadUnderL lower key s.value) :
    Reported (checkScriptString cx (some s) key) s := checkStrU_badK cx hcx true s key h

theorem checkStrings_badK (cx : Cx) (hcx : cx.lower = lower) (ss : List Str) (key : String) (s : Str) (hm : s ∈ ss)
    (h : BadUnderL lower key s.value) : Reported (checkStrings cx (some ss) key) s :=
  (Cover.checkStrings_cov cx hcx (some ss) key s hm h.bad).reported

theorem checkOneExpression_badK (cx : Cx) (hcx : cx.lower = lower) (s : Str) (what key : String)
    (h : BadUnderL lower key s.value) : Reported (checkOneExpression cx (some s) what key).2 s :=
  (Cover.checkOneExpression_cov cx hcx (some s) what key s (List.mem_singleton.2 rfl) h.bad).reported

theorem checkBool_badK (cx : Cx) (hcx : cx.lower = lower) (b : Option BoolV) (key : String) (s : Str) (hm : s ∈ boolStrs b)
    (h : BadUnderL lower key s.value) : Reported (checkBool cx b key) s :=
  (Cover.checkBool_cov cx hcx b key s hm h.bad).reported

theorem checkNumberExpression_badK (cx : Cx) (hcx : cx.lower = lower) (s : Str) (what key : String)
    (h : BadUnderL lower key s.value) : Reported (checkNumberExpression cx (some s) what key).2 s :=
  mustBe_bad _ _ _ s _ (checkOneExpression_badK cx hcx s what key h)
theorem checkObjectExpression_badK (cx : Cx) (hcx : cx.lower = lower) (s : Str) (what key : String)
    (h : BadUnderL lower key s.value) : Reported (checkObjectExpression cx (some s) what key).2 s :=
  mustBe_bad _ _ _ s _ (checkOneExpression_badK cx hcx s what key h)
theorem checkArrayExpression_badK (cx : Cx) (hcx : cx.lower = lower) (s : Str) (what key : String)
    (h : BadUnderL lower key s.value) : Reported (checkArrayExpression cx (some s) what key).2 s :=
  mustBe_bad _ _ _ s _ (checkOneExpression_badK cx hcx s what key h)

theorem checkInt_badK (cx : Cx) (hcx : cx.lower = lower) (i : Option IntV) (key : String) (s : Str) (hm : s ∈ intStrs i)
    (h : BadUnderL lower key s.value) : Reported (checkInt cx i key) s :=
  (Cover.checkInt_cov cx hcx i key s hm h.bad).reported

theorem checkFloat_badK (cx : Cx) (hcx : cx.lower = lower) (f : Option FloatV) (key : String) (s : Str) (hm : s ∈ floatStrs f)
    (h : BadUnderL lower key s.value) : Reported (checkFloat cx f key) s :=
  (Cover.checkFloat_cov cx hcx f key s hm h.bad).reported

theorem checkString_opt_badK (cx : Cx) (hcx : cx.lower = lower) (o : Option Str) (key : String) (s : Str) (hm : s ∈ o.toList)
    (h : BadUnderL lower key s.value) : Reported (checkString cx o key) s :=
  (Cover.checkString_cov cx hcx o key s hm h.bad).reported

theorem checkStrings_opt_badK (cx : Cx) (hcx : cx.lower = lower) (o : Option (List Str)) (key : String) (s : Str)
    (hm : s ∈ o.getD []) (h : BadUnderL lower key s.value) : Reported (checkStrings cx o key) s :=
  (Cover.checkStrings_cov cx hcx o key s hm h.bad).reported

theorem checkEnv_badK (cx : Cx) (hcx : cx.lower = lower) (e : Option Ast.Env) (key : String) (s : Str) (hm : s ∈ envStrs e)
    (h : BadUnderL lower key s.value) : Reported (RuleExpr.checkEnv cx e key) s :=
  (Cover.checkEnv_cov cx hcx e key s hm h.bad).reported

theorem checkConcurrency_badK (cx : Cx) (hcx : cx.lower = lower) (c : Option Concurrency) (key : String) (s : Str)
    (hm : s ∈ concurrencyStrs c) (h : BadUnderL lower key s.value) : Reported (checkConcurrency cx c key) s :=
  (Cover.checkConcurrency_cov cx hcx c key s hm h.bad).reported

theorem checkDefaults_badK (cx : Cx) (hcx : cx.lower = lower) (d : Option Defaults) (key : String) (s : Str)
    (hm : s ∈ defaultsStrs d) (h : BadUnderL lower key s.value) : Reported (checkDefaults cx d key) s :=
  (Cover.checkDefaults_cov cx hcx d key s hm h.bad).reported

theorem checkIfCondition_badK (cx : Cx) (hcx : cx.lower = lower) (o : Option Str) (key : String) (s : Str) (hm : s ∈ o.toList)
    (h : BadUnderL lower key s.value) : Reported (checkIfCondition cx o key) s :=
  (Cover.checkIfCondition_cov cx hcx o key s hm h.bad).reported

/-! ### the matrix: everything under `jobs.<job_id>.strategy` -/

theorem rawStringTy_badK (cx : Cx) (hcx : cx.lower = lower) (isNum : IsNumber) (v : String) (p : RuleExpr.Pos)
    (h : BadUnderL lower "jobs.<job_id>.strategy" v) : Reported (rawStringTy cx isNum v p).2 ⟨v, false, p⟩ :=
  (Cover.rawStringTy_rep cx hcx isNum v p h.bad).reported

theorem rawTy_badK (cx : Cx) (hcx : cx.lower = lower) (isNum : IsNumber) (s : Str)
    (h : BadUnderL lower "jobs.<job_id>.strategy" s.value) :
    ∀ (v : AL.Matrix.Raw), s ∈ rawStrs v → Reported (rawTy cx isNum v).2 s :=
  fun v hm => (Cover.rawTy_cov cx hcx isNum v s hm h.bad).reported

theorem rawFold_badK (cx : Cx) (hcx : cx.lower = lower) (isNum : IsNumber) (s : Str)
    (h : BadUnderL lower "jobs.<job_id>.strategy" s.value) :
    ∀ (acc : Ty) (vs : List AL.Matrix.Raw), s ∈ rawStrsL vs → Reported (rawFold cx isNum acc vs).2 s :=
  fun acc vs hm => (Cover.rawFold_cov cx hcx isNum acc vs s hm h.bad).reported

theorem rawProps_badK (cx : Cx) (hcx : cx.lower = lower) (isNum : IsNumber) (s : Str)
    (h : BadUnderL lower "jobs.<job_id>.strategy" s.value) :
    ∀ (ps : List (String × AL.Matrix.Raw)), s ∈ rawStrsP ps → Reported (RuleExpr.rawProps cx isNum ps).2 s :=
  fun ps hm => (Cover.rawProps_cov cx hcx isNum ps s hm h.bad).reported

theorem rowTy_badK (cx : Cx) (hcx : cx.lower = lower) (isNum : IsNumber) (r : MatrixRow) (s : Str) (hm : s ∈ rowStrs r)
    (h : BadUnderL lower "jobs.<job_id>.strategy" s.value) : Reported (rowTy cx isNum r).2 s :=
  (Cover.rowTy_cov cx hcx isNum r s hm h.bad).reported

theorem excludeDiags_badK (cx : Cx) (hcx : cx.lower = lower) (isNum : IsNumber) (ex : Option MatrixCombinations) (s : Str)
    (hm : s ∈ combosStrs ex) (h : BadUnderL lower "jobs.<job_id>.strategy" s.value) :
    Reported (excludeDiags cx isNum ex) s :=
  (Cover.excludeDiags_cov cx hcx isNum ex s hm h.bad).reported

theorem includeCombo_badK (cx : Cx) (hcx : cx.lower = lower) (isNum : IsNumber) (acc : Ty × List Diag) (c : MatrixCombination)
    (s : Str) (hm : s ∈ comboStrs c) (h : BadUnderL lower "jobs.<job_id>.strategy" s.value) :
    Reported (includeCombo cx isNum acc c).2 s :=
  (Cover.includeCombo_cov cx hcx isNum acc c s hm h.bad).reported

theorem checkMatrix_badK (cx : Cx) (hcx : cx.lower = lower) (isNum : IsNumber) (m : Matrix) (s : Str) (hm : s ∈ matrixStrs m)
    (h : BadUnderL lower "jobs.<job_id>.strategy" s.value) : Reported (checkMatrix cx isNum m).2 s :=
  (Cover.checkMatrix_cov cx hcx isNum m s hm h.bad).reported

theorem jobMatrix_badK (cx : Cx) (hcx : cx.lower = lower) (isNum : IsNumber) (n : Job) (s : Str) (hm : s ∈ matrixOfStrs n)
    (h : BadUnderL lower "jobs.<job_id>.strategy" s.value) : Reported (jobMatrix cx isNum n).2 s :=
  (Cover.jobMatrix_cov cx hcx isNum n s hm h.bad).reported

theorem every_value_keyed (w : Workflow) (s : Str) (hm : s ∈ valueStrs w) : ∃ key, (s, key) ∈ keyedStrs w := by
  rw [← keyedStrs_fst] at hm
  obtain ⟨⟨s', k⟩, hp, rfl⟩ := List.mem_map.1 hm
  exact ⟨k, hp⟩

theorem keyed_is_value (w : Workflow) (s : Str) (key : String) (hm : (s, key) ∈ keyedStrs w) : s ∈ valueStrs w := by
  rw [← keyedStrs_fst]
  exact List.mem_map.2 ⟨(s, key), hm, rfl⟩

/-! ### containers, steps, jobs -/

theorem checkContainer_badK (cx : Cx) (hcx : cx.lower = lower) (c : Option Container) (key pre kCred kEnv : String)
    (hc : (if pre ≠ "" then key ++ "." ++ pre else key) ++ ".credentials" = kCred)
    (he : (if pre ≠ "" then key ++ "." ++ pre else key) ++ ".env.<env_id>" = kEnv)
    (s : Str) (k : String) (hm : (s, k) ∈ containerKStrs c key kCred kEnv key) (h : BadUnderL lower k s.value) :
    Reported (checkContainer cx c key pre) s :=
  (Cover.checkContainer_cov cx hcx c key pre kCred kEnv hc he (s, k) hm h.bad).reported

theorem stepExec_badK (cx : Cx) (hcx : cx.lower = lower) (e : Exec) (s : Str) (k : String) (hm : (s, k) ∈ execKStrs e)
    (h : BadUnderL lower k s.value) : Reported (stepExec cx e).1 s :=
  (Cover.stepExec_cov cx hcx e (s, k) hm h.bad).reported

theorem stepDiags_badK (cx : Cx) (hcx : cx.lower = lower) (n : Step) (s : Str) (k : String) (hm : (s, k) ∈ stepKStrs n)
    (h : BadUnderL lower k s.value) : Reported (stepDiags cx n) s :=
  (Cover.stepDiags_cov cx hcx n (s, k) hm h.bad).reported

theorem visitStep_badK (cx : Cx) (hcx : cx.lower = lower) (n : Step) (s : Str) (k : String) (hm : (s, k) ∈ stepKStrs n)
    (h : BadUnderL lower k s.value) : Reported (visitStep cx n).2 s :=
  (Cover.visitStep_cov cx hcx n (s, k) hm h.bad).reported

theorem visitSteps_badK (s : Str) (k : String) (h : BadUnderL lower k s.value) : ∀ (steps : List Step) (cx : Cx),
    cx.lower = lower → (s, k) ∈ steps.flatMap stepKStrs → Reported (visitSteps cx steps).2 s :=
  fun steps cx hcx hm => (Cover.visitSteps_cov steps cx hcx (s, k) hm h.bad).reported

theorem runsOnDiags_badK (cx : Cx) (hcx : cx.lower = lower) (r : Option Runner) (s : Str) (hm : s ∈ runnerStrs r)
    (h : BadUnderL lower "jobs.<job_id>.runs-on" s.value) : Reported (runsOnDiags cx r) s :=
  (Cover.runsOnDiags_cov cx hcx r s hm h.bad).reported

theorem strategyDiags_badK (cx : Cx) (hcx : cx.lower = lower) (st : Option Strategy) (s : Str) (hm : s ∈ strategyStrs st)
    (h : BadUnderL lower "jobs.<job_id>.strategy" s.value) : Reported (strategyDiags cx st) s :=
  (Cover.strategyDiags_cov cx hcx st s hm h.bad).reported

theorem servicesDiags_badK (cx : Cx) (hcx : cx.lower = lower) (sv : Option Services) (s : Str) (k : String)
    (hm : (s, k) ∈ servicesKStrs sv) (h : BadUnderL lower k s.value) : Reported (servicesDiags cx sv) s :=
  (Cover.servicesDiags_cov cx hcx sv (s, k) hm h.bad).reported

theorem checkWorkflowCall_badK (cx : Cx) (hcx : cx.lower = lower) (c : Option WorkflowCall) (s : Str) (k : String)
    (hm : (s, k) ∈ callKStrs c) (h : BadUnderL lower k s.value) : Reported (RuleExpr.checkWorkflowCall cx c) s :=
  (Cover.checkWorkflowCall_cov cx hcx c (s, k) hm h.bad).reported

theorem jobPre_badK (cx : Cx) (hcx : cx.lower = lower) (n : Job) (s : Str) (k : String) (hm : (s, k) ∈ jobPreKStrs n)
    (h : BadUnderL lower k s.value) : Reported (jobPre cx n) s :=
  (Cover.jobPre_cov cx hcx n (s, k) hm h.bad).reported

theorem jobPost_badK (cx : Cx) (hcx : cx.lower = lower) (n : Job) (s : Str) (k : String) (hm : (s, k) ∈ jobPostKStrs n)
    (h : BadUnderL lower k s.value) : Reported (jobPost cx n) s :=
  (Cover.jobPost_cov cx hcx n (s, k) hm h.bad).reported

/-- **every value string of a job is checked under the key of its position**, whatever the scope in effect, the other
jobs and the job's position -/
theorem visitJob_badK (cx : Cx) (hcx : cx.lower = lower) (isNum : IsNumber) (jobs : List (String × Job)) (n : Job) (s : Str)
    (k : String) (hm : (s, k) ∈ jobKStrs n) (h : BadUnderL lower k s.value) : Reported (visitJob cx isNum jobs n) s :=
  (Cover.visitJob_cov cx hcx isNum jobs n (s, k) hm h.bad).reported

/-! ### events and the workflow -/

theorem filter_badK (cx : Cx) (hcx : cx.lower = lower) (f : Option Filter) (s : Str) (hm : s ∈ filterStrs f)
    (h : BadUnderL lower "" s.value) : Reported (filterDiags cx f) s :=
  (Cover.filter_cov cx hcx f s hm h.bad).reported

theorem webhookDiags_badK (cx : Cx) (hcx : cx.lower = lower) (e : WebhookEvent) (s : Str) (hm : s ∈ eventStrs (.webhook e))
    (h : BadUnderL lower "" s.value) : Reported (webhookDiags cx e) s :=
  (Cover.webhookDiags_cov cx hcx e s hm h.bad).reported

theorem callInputs_badK (cx : Cx) (hcx : cx.lower = lower) (s : Str) (k : String) (h : BadUnderL lower k s.value) :
    ∀ (ins : List Ast.CallInput) (acc : List (String × Ty)),
      (s, k) ∈ ins.flatMap callInputKStrs → Reported (callInputs cx acc ins).2 s :=
  fun ins acc hm => (Cover.callInputs_cov cx hcx ins acc (s, k) hm h.bad).reported

theorem visitEvent_badK (cx : Cx) (hcx : cx.lower = lower) (e : Ast.Event) (s : Str) (k : String) (hm : (s, k) ∈ eventKStrs e)
    (h : BadUnderL lower k s.value) : Reported (visitEvent cx e).2 s :=
  (Cover.visitEvent_cov cx hcx e (s, k) hm h.bad).reported

theorem visitEvents_badK (s : Str) (k : String) (h : BadUnderL lower k s.value) : ∀ (es : List Ast.Event) (cx : Cx),
    cx.lower = lower → (s, k) ∈ es.flatMap eventKStrs → Reported (visitEvents cx es).2 s :=
  fun es cx hcx hm => (Cover.visitEvents_cov es cx hcx (s, k) hm h.bad).reported

/-- **C12, rule half (sharp form).** For every workflow AST, whatever the project's view: a value string whose text
yields a diagnostic in every check under THE KEY OF ITS POSITION — in the scopes that fold names as the rule does —
gets a diagnostic of the expression rule located at that string. -/
theorem every_position_checked_under_its_key_L (lower : String → String) (isNum : IsNumber) (w : Workflow) (proj : ProjView)
    (s : Str) (key : String) (hm : (s, key) ∈ keyedStrs w) (h : BadUnderL lower key s.value) :
    Reported (rule lower isNum w proj) s :=
  (Cover.rule_cov lower isNum w proj (s, key) hm h.bad).reported

/-- **C12, rule half.** Every value string of the workflow is checked under the workflow key of its position: if every
check of its text under that key yields a diagnostic, the rule reports one located at that string — in every section,
at every nesting depth, whatever else the workflow contains. (Stated for the rule run without a project view; the sharp
form above has every `proj`.) -/
theorem every_position_checked_under_its_key (lower : String → String) (isNum : IsNumber) (w : Workflow) (s : Str)
    (key : String) (hm : (s, key) ∈ keyedStrs w) (h : BadUnder key s.value) : Reported (rule lower isNum w) s :=
  every_position_checked_under_its_key_L lower isNum w {} s key hm (h.toL lower)

/-- C03's theorem is the special case "bad under every key" -/
theorem every_placeholder_checked' (lower : String → String) (isNum : IsNumber) (w : Workflow) (s : Str)
    (hm : s ∈ valueStrs w) (h : Malformed s.value) : Reported (rule lower isNum w) s := by
  obtain ⟨key, hk⟩ := every_value_keyed w s hm
  exact every_position_checked_under_its_key lower isNum w s key hk (malformed_badUnder h key)


/-! ### the hypothesis is satisfiable, and it depends on the key -/

/-- the text after a `${{` lexes (offset `off`) and parses to the bare variable `a` -/
def parsesVar (rest : List Nat) (a : String) (off : Nat) : Bool :=
  match AL.Lex.lexExpression (decodeUtf8 rest), AL.Parse.parseToks (AL.Lex.tokens (decodeUtf8 rest)) with
  | .ok (_, o), .ok (.var m) => decide (symsToString m = a) && decide (o = off)
  | _, _ => false

/-- the text after a `${{` lexes (offset `off`) and parses to `a.b` -/
def parsesProp (rest : List Nat) (a b : String) (off : Nat) : Bool :=
  match AL.Lex.lexExpression (decodeUtf8 rest), AL.Parse.parseToks (AL.Lex.tokens (decodeUtf8 rest)) with
  | .ok (_, o), .ok (.objDeref (.var m) q) => decide (symsToString m = a) && decide (symsToString q = b) && decide (o = off)
  | _, _ => false

theorem checkOne_of_parsesVar (cx : Cx) (key : String) (u : Bool) (rest : List Nat) (a : String) (off : Nat)
    (h : parsesVar rest a off = true) :
    ∃ m, symsToString m = a ∧ checkOne cx key u rest = checkParsed cx key u (.var m) off := by
  unfold parsesVar at h
  split at h
  · rename_i ts o m h1 h2
    simp only [Bool.and_eq_true, decide_eq_true_eq] at h
    exact ⟨m, h.1, h.2 ▸ checkOne_of_ok cx key u rest h1 h2⟩
  · cases h

theorem checkOne_of_parsesProp (cx : Cx) (key : String) (u : Bool) (rest : List Nat) (a b : String) (off : Nat)
    (h : parsesProp rest a b off = true) :
    ∃ m q, symsToString m = a ∧ symsToString q = b ∧
      checkOne cx key u rest = checkParsed cx key u (.objDeref (.var m) q) off := by
  unfold parsesProp at h
  split at h
  · rename_i ts o m q h1 h2
    simp only [Bool.and_eq_true, decide_eq_true_eq] at h
    exact ⟨m, q, h.1.1, h.1.2, h.2 ▸ checkOne_of_ok cx key u rest h1 h2⟩
  · cases h

/-- the environment `checkParsed` hands the checker in state `cx` under the key `key` (it has no name in the model) -/
abbrev envOf (cx : Cx) (key : String) : Sema.Env :=
  { AL.Visit.mkEnv cx.lower cx.hdr cx.jobsTy cx.st key with configVars := cx.proj.configVars }

theorem ite_errs_ne {α : Type} (errs : List SemaErr) (a : α) (h : errs ≠ []) :
    (if errs.isEmpty then (some a, ([] : List SemaErr)) else (none, errs)).2 ≠ [] := by
  cases errs with
  | nil => exact absurd rfl h
  | cons e es => simp

theorem checkParsed_bad (cx : Cx) (key : String) (u : Bool) (pe : AL.Parse.Expr) (off : Nat)
    (h : (check (envOf cx key) (toE cx.lower pe)).errs ≠ []) : (checkParsed cx key u pe off).2 ≠ [] := by
  unfold checkParsed
  exact ite_errs_ne _ _ (fun h0 => h (List.append_eq_nil_iff.1 h0).1)

theorem checkParsed_ok (cx : Cx) (key : String) (pe : AL.Parse.Expr) (off : Nat)
    (h : (check (envOf cx key) (toE cx.lower pe)).errs = []) :
    checkParsed cx key false pe off = (some ((check (envOf cx key) (toE cx.lower pe)).ty, off), []) := by
  unfold checkParsed
  simp [h]

theorem var_not_available (Γ : Sema.Env) (name : String) (h : Γ.availCtx.contains (Γ.lower name) = false) :
    (check Γ (.var name)).errs ≠ [] := by
  rw [check_var]
  simp only [wrap_errs]
  split
  · simp
  · rw [h]; simp

theorem prop_not_available (Γ : Sema.Env) (name p : String) (h : Γ.availCtx.contains (Γ.lower name) = false) :
    (check Γ (.objDeref (.var name) p)).errs ≠ [] := by
  rw [check_objDeref]
  simp only [wrap_errs]
  intro h0
  exact var_not_available Γ name h (List.append_eq_nil_iff.1 h0).1

theorem var_ok (Γ : Sema.Env) (name : String) (hd : (Ty.lookup name Γ.vars).isSome = true)
    (h : Γ.availCtx.contains (Γ.lower name) = true) : (check Γ (.var name)).errs = [] := by
  rw [check_var]
  simp only [wrap_errs]
  split
  · rename_i hn; rw [hn] at hd; cases hd
  · rw [h]; rfl

theorem prop_ok (Γ : Sema.Env) (ctx name : String) (ha : Γ.availCtx.contains (Γ.lower ctx) = true)
    (h : (match Ty.lookup ctx Γ.vars with
      | some t => (objDerefTy Γ (decide (ctx = "vars")) name t).2.isEmpty
      | none => false) = true) : (check Γ (.objDeref (.var ctx) name)).errs = [] := by
  split at h
  · rename_i t ht
    rw [(check_ctx_prop Γ ctx name t ht ha).2]
    exact List.isEmpty_iff.1 h
  · cases h

theorem scan_first_bad (cx : Cx) (key : String) (u : Bool) (fuel : Nat) (s : List Nat) (ts : List Ty) (idx : Nat)
    (hi : AL.Proc.indexOf AL.Proc.open3 s 0 = some idx) (hb : (checkOne cx key u (s.drop (idx + 3))).2 ≠ []) :
    (scan cx key u (fuel + 1) s ts).2 ≠ [] := by
  rw [scan]
  simp only [hi]
  split
  · rename_i errs heq
    rw [heq] at hb
    exact hb
  · rename_i ty off es heq
    have := checkOne_some_nil cx key u (s.drop (idx + 3)) (ty, off) (by rw [heq])
    exact absurd this hb

/-- the first placeholder of the text has a diagnostic ⇒ so has the text -/
theorem checkExprsIn_first_bad (cx : Cx) (key : String) (u : Bool) (v : String) (b : List Nat) (hb : bytesOf v = b)
    (idx : Nat) (hi : AL.Proc.indexOf AL.Proc.open3 b 0 = some idx)
    (hbad : (checkOne cx key u (b.drop (idx + 3))).2 ≠ []) : (checkExprsIn cx key u v).2 ≠ [] := by
  simp only [checkExprsIn, hb]
  cases b with
  | nil => simp [AL.Proc.indexOf, AL.Proc.open3] at hi
  | cons x xs => exact scan_first_bad cx key u _ _ _ idx hi hbad

theorem scan_none (cx : Cx) (key : String) (u : Bool) (fuel : Nat) (s : List Nat) (ts : List Ty)
    (hi : AL.Proc.indexOf AL.Proc.open3 s 0 = none) : (scan cx key u fuel s ts).2 = [] := by
  cases fuel with
  | zero => rfl
  | succ f => rw [scan]; simp only [hi]

/-- a text with ONE placeholder that checks without a diagnostic -/
theorem checkExprsIn_single_ok (cx : Cx) (key : String) (u : Bool) (v : String) (b : List Nat) (hb : bytesOf v = b)
    (f : Nat) (hl : b.length = f + 1) (idx : Nat) (hi : AL.Proc.indexOf AL.Proc.open3 b 0 = some idx) (t : Ty) (off : Nat)
    (h1 : checkOne cx key u (b.drop (idx + 3)) = (some (t, off), []))
    (hrest : AL.Proc.indexOf AL.Proc.open3 ((b.drop (idx + 3)).drop off) 0 = none) :
    (checkExprsIn cx key u v).2 = [] := by
  simp only [checkExprsIn, hb, hl]
  rw [scan]
  simp only [hi, h1]
  split
  · rfl
  · exact scan_none cx key u _ _ _ hrest

/-- `${{ github }}` and `${{ secrets.x }}` as bytes -/
def bGithub : List Nat := [36, 123, 123, 32, 103, 105, 116, 104, 117, 98, 32, 125, 125]
def bSecrets : List Nat := [36, 123, 123, 32, 115, 101, 99, 114, 101, 116, 115, 46, 120, 32, 125, 125]

theorem bytes_github : bytesOf "${{ github }}" = bGithub := by decide +kernel
theorem bytes_secrets : bytesOf "${{ secrets.x }}" = bSecrets := by decide +kernel
theorem parses_github : parsesVar (bGithub.drop (0 + 3)) "github" 10 = true := by decide +kernel
theorem parses_secrets : parsesProp (bSecrets.drop (0 + 3)) "secrets" "x" 13 = true := by decide +kernel

/-- as a bare `if:` condition both texts are a syntax error (`$`) -/
theorem lex_github_cond :
    (match AL.Lex.lexExpression (decodeUtf8 (bGithub ++ [125, 125])) with | .ok _ => true | .error _ => false) = false := by
  decide +kernel
theorem lex_secrets_cond :
    (match AL.Lex.lexExpression (decodeUtf8 (bSecrets ++ [125, 125])) with | .ok _ => true | .error _ => false) = false := by
  decide +kernel

/-- a text `${{ a }}` in a position whose row does not list `a` folded TWICE: once by `toE`, which folds the names of the
parsed expression, once by the checker, which folds the name it looks up (`Env.lower`); both with `cx.lower` -/
theorem var_text_bad (cx : Cx) (key : String) (u : Bool) (v : String) (b : List Nat) (hb : bytesOf v = b)
    (hi : AL.Proc.indexOf AL.Proc.open3 b 0 = some 0) (a : String) (off : Nat) (hp : parsesVar (b.drop (0 + 3)) a off = true)
    (hav : (AL.Visit.availability key).1.contains (cx.lower (cx.lower a)) = false) : (checkExprsIn cx key u v).2 ≠ [] := by
  refine checkExprsIn_first_bad cx key u v b hb 0 hi ?_
  obtain ⟨m, hm, he⟩ := checkOne_of_parsesVar cx key u _ a off hp
  rw [he]
  apply checkParsed_bad
  simp only [toE, hm]
  exact var_not_available _ _ hav

/-- a text `${{ a.b }}` in a position whose row does not list `a`, folded twice as in `var_text_bad` -/
theorem prop_text_bad (cx : Cx) (key : String) (u : Bool) (v : String) (b : List Nat) (hb : bytesOf v = b)
    (hi : AL.Proc.indexOf AL.Proc.open3 b 0 = some 0) (a p : String) (off : Nat)
    (hp : parsesProp (b.drop (0 + 3)) a p off = true)
    (hav : (AL.Visit.availability key).1.contains (cx.lower (cx.lower a)) = false) : (checkExprsIn cx key u v).2 ≠ [] := by
  refine checkExprsIn_first_bad cx key u v b hb 0 hi ?_
  obtain ⟨m, q, hm, hq, he⟩ := checkOne_of_parsesProp cx key u _ a p off hp
  rw [he]
  apply checkParsed_bad
  simp only [toE, hm, hq]
  exact prop_not_available _ _ _ hav

/-- a text `${{ a }}` (nothing after it) where `a` is defined and listed -/
theorem var_text_ok (cx : Cx) (key : String) (v : String) (b : List Nat) (hb : bytesOf v = b) (f : Nat) (hl : b.length = f + 1)
    (hi : AL.Proc.indexOf AL.Proc.open3 b 0 = some 0) (a a' : String) (off : Nat)
    (hp : parsesVar (b.drop (0 + 3)) a off = true) (ha : cx.lower a = a')
    (hd : (Ty.lookup a' (envOf cx key).vars).isSome = true)
    (hav : (envOf cx key).availCtx.contains ((envOf cx key).lower a') = true)
    (hrest : AL.Proc.indexOf AL.Proc.open3 ((b.drop (0 + 3)).drop off) 0 = none) : (checkExprsIn cx key false v).2 = [] := by
  obtain ⟨m, hm, he⟩ := checkOne_of_parsesVar cx key false _ a off hp
  have hc : (check (envOf cx key) (toE cx.lower (.var m))).errs = [] := by
    simp only [toE, hm, ha]
    exact var_ok _ _ hd hav
  exact checkExprsIn_single_ok cx key false v b hb f hl 0 hi _ off (he.trans (checkParsed_ok cx key _ off hc)) hrest

/-- a text `${{ a.p }}` (nothing after it) where `a` is defined and listed and has the property -/
theorem prop_text_ok (cx : Cx) (key : String) (v : String) (b : List Nat) (hb : bytesOf v = b) (f : Nat) (hl : b.length = f + 1)
    (hi : AL.Proc.indexOf AL.Proc.open3 b 0 = some 0) (a p a' p' : String) (off : Nat)
    (hp : parsesProp (b.drop (0 + 3)) a p off = true) (ha : cx.lower a = a') (hpp : cx.lower p = p')
    (hav : (envOf cx key).availCtx.contains ((envOf cx key).lower a') = true)
    (hd : (match Ty.lookup a' (envOf cx key).vars with
      | some t => (objDerefTy (envOf cx key) (decide (a' = "vars")) p' t).2.isEmpty
      | none => false) = true)
    (hrest : AL.Proc.indexOf AL.Proc.open3 ((b.drop (0 + 3)).drop off) 0 = none) : (checkExprsIn cx key false v).2 = [] := by
  obtain ⟨m, q, hm, hq, he⟩ := checkOne_of_parsesProp cx key false _ a p off hp
  have hc : (check (envOf cx key) (toE cx.lower (.objDeref (.var m) q))).errs = [] := by
    simp only [toE, hm, hq, ha, hpp]
    exact prop_ok _ _ _ hav hd
  exact checkExprsIn_single_ok cx key false v b hb f hl 0 hi _ off (he.trans (checkParsed_ok cx key _ off hc)) hrest

/-- **the key matters (1), for every scope.** Where no key is passed no context is available: `${{ github }}` has a
diagnostic in every check without a key, whatever the scope and the folding function … -/
theorem github_bad_without_key : BadUnder "" "${{ github }}" := by
  constructor
  · intro cx u
    exact var_text_bad cx "" u _ bGithub bytes_github (by decide) "github" 10 parses_github (by simp [AL.Visit.availability])
  · intro cx
    rw [bytes_github, checkOne_of_lex_error cx "" false _ lex_github_cond]
    simp

/-- whether a context is available in `envOf cx key` is read off the row of `key` in the availability table
(`AL.Visit.available_rows` has the rows the texts below are checked against) -/
theorem envOf_avail (cx : Cx) (key ctx : String) :
    (envOf cx key).availCtx.contains ((envOf cx key).lower ctx) = (AL.Visit.availability key).1.contains (cx.lower ctx) := rfl

/-- … and under `run-name`, whose row lists `github`, it has none: `BadUnder` is not `Malformed` -/
theorem github_ok_in_run_name : (checkExprsIn { lower := id } "run-name" false "${{ github }}").2 = [] :=
  var_text_ok { lower := id } "run-name" _ bGithub bytes_github 12 rfl (by decide) "github" "github" 10 parses_github rfl
    (by decide +kernel) ((envOf_avail ..).trans AL.Visit.available_rows.2.1) (by decide)

theorem github_not_bad_in_run_name : ¬ BadUnder "run-name" "${{ github }}" :=
  fun h => h.tmpl { lower := id } false github_ok_in_run_name

theorem github_not_malformed : ¬ Malformed "${{ github }}" :=
  fun h => github_not_bad_in_run_name (malformed_badUnder h _)

/-- **the key matters (2).** `secrets` is not available under `key`, names are folded by a function that leaves
`secrets` alone (as `strings.ToLower` does): `${{ secrets.x }}` has a diagnostic in every check under `key` -/
theorem secrets_bad_where_unavailable (lower : String → String) (hl : lower "secrets" = "secrets") (key : String)
    (hk : (AL.Visit.availability key).1.contains "secrets" = false) : BadUnderL lower key "${{ secrets.x }}" := by
  constructor
  · intro cx u hcx
    exact prop_text_bad cx key u _ bSecrets bytes_secrets (by decide) "secrets" "x" 13 parses_secrets
      (by rw [hcx, hl, hl]; exact hk)
  · intro cx _
    rw [bytes_secrets, checkOne_of_lex_error cx key false _ lex_secrets_cond]
    simp

/-- `secrets` is not available for a job's `if:` -/
theorem secrets_bad_in_job_if (lower : String → String) (hl : lower "secrets" = "secrets") :
    BadUnderL lower "jobs.<job_id>.if" "${{ secrets.x }}" :=
  secrets_bad_where_unavailable lower hl _ AL.Visit.available_rows.2.2.1

/-- … but it is for a step's `run:` -/
theorem secrets_ok_in_step_run : (checkExprsIn { lower := id } "jobs.<job_id>.steps.run" false "${{ secrets.x }}").2 = [] :=
  prop_text_ok { lower := id } "jobs.<job_id>.steps.run" _ bSecrets bytes_secrets 15 rfl (by decide) "secrets" "x" "secrets" "x" 13
    parses_secrets rfl rfl ((envOf_avail ..).trans AL.Visit.available_rows.2.2.2.2.1) (by decide +kernel) (by decide)

theorem secrets_not_bad_in_step_run : ¬ BadUnder "jobs.<job_id>.steps.run" "${{ secrets.x }}" :=
  fun h => h.tmpl { lower := id } false secrets_ok_in_step_run

/-- a folding function that does NOT leave `secrets` alone -/
def perverse (s : String) : String := if s = "secrets" then "vars" else s

/-- why (2) is stated with `BadUnderL`: the model's folding function is a parameter, and one that turns `secrets` into
`vars` makes the text fine under a job's `if:` — the unrestricted `BadUnder "jobs.<job_id>.if" "${{ secrets.x }}"` is FALSE -/
theorem secrets_job_if_needs_the_folding : ¬ BadUnder "jobs.<job_id>.if" "${{ secrets.x }}" :=
  fun h => h.tmpl { lower := perverse } false
    (prop_text_ok { lower := perverse } "jobs.<job_id>.if" _ bSecrets bytes_secrets 15 rfl (by decide) "secrets" "x" "vars" "x" 13
      parses_secrets (by decide) (by decide)
      ((envOf_avail ..).trans ((by decide +kernel : perverse "vars" = "vars") ▸ AL.Visit.available_rows.2.2.2.1))
      (by decide +kernel) (by decide))

/-! ### every key of the enumeration is a row of the table (or no key) -/

/-- no key, or a key of `WorkflowKeyAvailability` (= the documentation's table, `AL.C12.code_eq_docs`) -/
def docKeys : List String := "" :: AL.Gen.availabilityCode.map (·.1)

/-- `k ∈ docKeys` for a key `k` that is literally one of the case labels: the label is found by its position in the table,
comparing literals (`decide` would compare `k` byte by byte with every label before it, which is slow to check) -/
macro "doc_key" : tactic =>
  `(tactic| (unfold docKeys; repeat (first | exact .head _ | apply List.Mem.tail)))

theorem snd_of_mem_tag {key : String} {l : List Str} {p : Str × String} (h : p ∈ tag key l) : p.2 = key := by
  obtain ⟨a, _, rfl⟩ := List.mem_map.1 h
  rfl

/-- every key of `ks` is `""` or a case label; closed under what the enumeration is built with -/
def Doc (ks : List (Str × String)) : Prop := ∀ p ∈ ks, p.2 ∈ docKeys

theorem Doc.nil : Doc [] := fun _ h => nomatch h

theorem Doc.tag {key : String} (h : key ∈ docKeys) (l : List Str) : Doc (tag key l) :=
  fun _ hp => snd_of_mem_tag hp ▸ h

theorem Doc.append {a b : List (Str × String)} (ha : Doc a) (hb : Doc b) : Doc (a ++ b) :=
  fun p hp => (List.mem_append.1 hp).elim (ha p) (hb p)

theorem Doc.flatMap {α : Type} (l : List α) (f : α → List (Str × String)) (h : ∀ a, Doc (f a)) : Doc (l.flatMap f) :=
  fun p hp => let ⟨a, _, ha⟩ := List.mem_flatMap.1 hp; h a p ha

theorem containerKStrs_keys (c : Option Container) (k1 k2 k3 k4 : String) (h1 : k1 ∈ docKeys) (h2 : k2 ∈ docKeys)
    (h3 : k3 ∈ docKeys) (h4 : k4 ∈ docKeys) : ∀ p ∈ containerKStrs c k1 k2 k3 k4, p.2 ∈ docKeys := by
  cases c with
  | none => exact Doc.nil
  | some c =>
    simp only [containerKStrs]
    refine (Doc.tag h1 _).append ?_ |>.append (Doc.tag h3 _) |>.append (Doc.tag h4 _) |>.append (Doc.tag h4 _)
      |>.append (Doc.tag h4 _)
    cases c.credentials with
    | none => exact Doc.nil
    | some cr => exact Doc.tag h2 _

theorem execKStrs_keys (e : Exec) : ∀ p ∈ execKStrs e, p.2 ∈ docKeys := by
  cases e with
  | none => exact Doc.nil
  | run r => exact (Doc.tag (by doc_key) _).append (Doc.tag (by doc_key) _) |>.append (Doc.tag (by doc_key) _)
  | action a =>
    exact (Doc.tag (by doc_key) _).append (Doc.tag (by doc_key) _) |>.append (Doc.tag (by doc_key) _)
      |>.append (Doc.tag (by doc_key) _)

theorem stepKStrs_keys (st : Step) : ∀ p ∈ stepKStrs st, p.2 ∈ docKeys :=
  (Doc.tag (by doc_key) _).append (Doc.tag (by doc_key) _) |>.append (execKStrs_keys _) |>.append (Doc.tag (by doc_key) _)
    |>.append (Doc.tag (by doc_key) _) |>.append (Doc.tag (by doc_key) _)

theorem servicesKStrs_keys (s : Option Services) : ∀ p ∈ servicesKStrs s, p.2 ∈ docKeys := by
  cases s with
  | none => exact Doc.nil
  | some s =>
    exact (Doc.tag (by doc_key) _).append (Doc.flatMap _ _ fun _ =>
      containerKStrs_keys _ _ _ _ _ (by doc_key) (by doc_key) (by doc_key) (by doc_key))

theorem callKStrs_keys (c : Option WorkflowCall) : ∀ p ∈ callKStrs c, p.2 ∈ docKeys := by
  cases c with
  | none => exact Doc.nil
  | some c =>
    simp only [callKStrs]
    cases c.uses with
    | none => exact Doc.nil
    | some u => exact (Doc.tag (by doc_key) _).append (Doc.tag (by doc_key) _) |>.append (Doc.tag (by doc_key) _)

theorem jobKStrs_keys (n : Job) : ∀ p ∈ jobKStrs n, p.2 ∈ docKeys := by
  have hpre : Doc (jobPreKStrs n) :=
    (Doc.tag (by doc_key) _).append (Doc.tag (by doc_key) _) |>.append (Doc.tag (by doc_key) _)
      |>.append (Doc.tag (by doc_key) _) |>.append (Doc.tag (by doc_key) _) |>.append (Doc.tag (by doc_key) _)
      |>.append (Doc.tag (by doc_key) _) |>.append (Doc.tag (by doc_key) _) |>.append (Doc.tag (by doc_key) _)
      |>.append (Doc.tag (by doc_key) _)
      |>.append (containerKStrs_keys _ _ _ _ _ (by doc_key) (by doc_key) (by doc_key) (by doc_key))
      |>.append (servicesKStrs_keys _) |>.append (callKStrs_keys _)
  have hpost : Doc (jobPostKStrs n) := by
    unfold jobPostKStrs
    refine Doc.append ?_ (Doc.tag (by doc_key) _)
    cases n.environment with
    | none => exact Doc.nil
    | some e => exact (Doc.tag (by doc_key) _).append (Doc.tag (by doc_key) _)
  exact (Doc.tag (by doc_key) _).append hpre |>.append (Doc.flatMap _ _ stepKStrs_keys) |>.append hpost

theorem eventKStrs_keys (e : Ast.Event) : ∀ p ∈ eventKStrs e, p.2 ∈ docKeys := by
  cases e with
  | call inputs secrets outputs pos =>
    exact (Doc.flatMap _ _ fun _ => (Doc.tag (by doc_key) _).append (Doc.tag (by doc_key) _) |>.append (Doc.tag (by doc_key) _))
      |>.append (Doc.tag (by doc_key) _) |>.append (Doc.tag (by doc_key) _)
  | _ => exact Doc.tag (by doc_key) _

/-- no key of the enumeration is misspelt: each is `""` or a case label of `WorkflowKeyAvailability` -/
theorem keyedStrs_keys (w : Workflow) : ∀ p ∈ keyedStrs w, p.2 ∈ docKeys := by
  unfold keyedStrs
  exact (Doc.tag (by doc_key) _).append (Doc.flatMap _ _ eventKStrs_keys)
    |>.append ((Doc.tag (by doc_key) _).append (Doc.tag (by doc_key) _) |>.append (Doc.tag (by doc_key) _)
      |>.append (Doc.tag (by doc_key) _))
    |>.append (Doc.flatMap _ _ fun (kv : String × Job) => jobKStrs_keys kv.2) |>.append (Doc.tag (by doc_key) _)

/-! ### two keys with the same row are interchangeable -/

section congr
variable {k1 k2 : String} (hk : AL.Visit.availability k1 = AL.Visit.availability k2)
include hk

theorem mkEnv_congr (l : String → String) (hdr : AL.Visit.Header) (j : Option Ty) (st : AL.Visit.St) :
    AL.Visit.mkEnv l hdr j st k1 = AL.Visit.mkEnv l hdr j st k2 := by
  unfold AL.Visit.mkEnv
  rw [hk]

theorem checkParsed_congr (cx : Cx) (u : Bool) (pe : AL.Parse.Expr) (off : Nat) :
    checkParsed cx k1 u pe off = checkParsed cx k2 u pe off := by
  unfold checkParsed
  rw [mkEnv_congr hk]

theorem checkOne_congr (cx : Cx) (u : Bool) (rest : List Nat) : checkOne cx k1 u rest = checkOne cx k2 u rest := by
  simp only [checkOne, checkParsed_congr hk]

theorem scan_congr (cx : Cx) (u : Bool) : ∀ (fuel : Nat) (s : List Nat) (ts : List Ty),
    scan cx k1 u fuel s ts = scan cx k2 u fuel s ts
  | 0, _, _ => rfl
  | fuel + 1, s, ts => by
    rw [scan, scan]
    simp only [checkOne_congr hk, scan_congr cx u fuel]

theorem checkExprsIn_congr (cx : Cx) (u : Bool) (v : String) : checkExprsIn cx k1 u v = checkExprsIn cx k2 u v := by
  simp only [checkExprsIn, scan_congr hk]

theorem badUnderL_congr (lower : String → String) (v : String) (h : BadUnderL lower k1 v) : BadUnderL lower k2 v :=
  ⟨fun cx u hcx => by rw [← checkExprsIn_congr hk]; exact h.tmpl cx u hcx,
   fun cx hcx => by rw [← checkOne_congr hk]; exact h.cond cx hcx⟩

end congr

/-! ### on whole workflows -/

theorem job_keyed {w : Workflow} {id : String} {j : Job} (hj : (id, j) ∈ w.jobs.getD []) {p : Str × String}
    (h : p ∈ jobKStrs j) : p ∈ keyedStrs w := by
  simp only [keyedStrs, List.mem_append]
  exact Or.inl (Or.inr (List.mem_flatMap.2 ⟨(id, j), hj, h⟩))

/-- in EVERY workflow, under every project view: a job whose `if:` is `${{ secrets.x }}` gets a diagnostic at that
scalar (`secrets` is not in the row of `jobs.<job_id>.if`) — whatever else the workflow contains -/
theorem job_if_secrets_reported (lower : String → String) (hl : lower "secrets" = "secrets") (isNum : IsNumber) (w : Workflow)
    (proj : ProjView) (id : String) (j : Job) (hj : (id, j) ∈ w.jobs.getD []) (q : Bool) (p : RuleExpr.Pos)
    (hc : j.cond = some ⟨"${{ secrets.x }}", q, p⟩) : ∃ d ∈ rule lower isNum w proj, d.site = p :=
  every_position_checked_under_its_key_L lower isNum w proj ⟨"${{ secrets.x }}", q, p⟩ "jobs.<job_id>.if"
    -- `simp only`, so that only the disjunct of the position is decided and not every other key proved different
    (job_keyed hj (by
      simp only [jobKStrs, jobPreKStrs, hc, List.mem_append, mem_tag, Option.toList_some, List.mem_singleton, and_self,
        true_or, or_true]))
    (secrets_bad_in_job_if lower hl)

/-- the workflow's `name:` is checked without a key: no context at all is available there -/
theorem name_github_reported (lower : String → String) (isNum : IsNumber) (w : Workflow) (q : Bool) (p : RuleExpr.Pos)
    (hn : w.name = some ⟨"${{ github }}", q, p⟩) : ∃ d ∈ rule lower isNum w, d.site = p :=
  every_position_checked_under_its_key lower isNum w ⟨"${{ github }}", q, p⟩ ""
    (by simp only [keyedStrs, hn, List.mem_append, mem_tag, Option.toList_some, List.mem_singleton, and_self, true_or,
      or_true])
    github_bad_without_key

/-! ### positions whose key differs from the documentation

ONE position: **`jobs.<job_id>.container.image`** — the `image:` key of a job's `container:` mapping. (The scalar form
`container: <image>`, whose documented key is `jobs.<job_id>.container`, is stored by the parser in the same field
`Container.Image`, parse.go:934/939, so the AST — and the rule — cannot tell the two forms apart.)

  * GitHub's table has a row of its own for it, `jobs.<job_id>.container.image`, and `WorkflowKeyAvailability` has the
    case label; the harness table (go/corr/c12.go) expects that key.
  * `checkContainer` (rule_expression.go:484) checks `c.Image` with the key of the SECTION,
    `rule.checkString(c.Image, workflowKey)` = `jobs.<job_id>.container`; the label `jobs.<job_id>.container.image` is
    never passed by the rule. The model (tied to the Go code by `exprwf`) does the same and `keyedStrs` lists the key
    really used.
  * It is a difference of name only: the two rows are equal (`container_image_row`: github, inputs, matrix, needs,
    strategy, vars; no special function), two keys with the same row give the same checks (`checkExprsIn_congr`), and so
    the theorem holds for that position under the documented key too (`container_image_checked_under_documented_key`).
    It would become a defect the day GitHub's table makes the two rows differ.

Every other position has the documented key. For the record, the positions that are checked WITHOUT a key (no context
and no special function available; the table has no row for them, go/corr/c12.go says `""` as well): `name`,
everything under `on:` except `workflow_call.inputs.<id>.default` and `workflow_call.outputs.<id>.value`, the workflow's
`defaults.run.*`, a job's `needs` and `uses`, a step's `shell`, `uses` (and `id`, which is not a value string here).
A service's `image`/`ports`/`volumes`/`options` have the key `jobs.<job_id>.services`, as the table has no finer row. -/

theorem container_image_row :
    AL.Visit.availability "jobs.<job_id>.container.image" = AL.Visit.availability "jobs.<job_id>.container" :=
  AL.Visit.available_rows.2.2.2.2.2

theorem container_image_checked_under_documented_key (lower : String → String) (isNum : IsNumber) (w : Workflow)
    (proj : ProjView) (id : String) (j : Job) (hj : (id, j) ∈ w.jobs.getD []) (c : Container) (hc : j.container = some c)
    (s : Str) (hs : c.image = some s) (h : BadUnderL lower "jobs.<job_id>.container.image" s.value) :
    Reported (rule lower isNum w proj) s :=
  every_position_checked_under_its_key_L lower isNum w proj s "jobs.<job_id>.container"
    (job_keyed hj (by
      simp only [jobKStrs, jobPreKStrs, containerKStrs, hc, hs, List.mem_append, mem_tag, Option.toList_some,
        List.mem_singleton, and_self, true_or, or_true]))
    (badUnderL_congr container_image_row lower _ h)

end AL.C12R
