import AL.Model.Insecure
import AL.Spec.Untrusted
import AL.Gen.Builtins
import AL.Lemmas.InsecureInv
import AL.Lemmas.Order
/-
  C11 — script-injection detection is complete and precise.
  Statements first (`def …_statement : Prop`), their proofs after them.
-/
namespace AL.C11
open AL AL.Sema AL.Insecure AL.Spec

def definedIn (Γ : Env) (c : String) : Bool := (lookupFuncs c Γ.funcs).isSome

/-- (a) THE PROPERTY: for every expression, the reports produced by the event machine driven by the
semantic checker are exactly the reports the chain specification assigns — whatever syntactic form
reaches an input (dot / index spelling, nesting inside operators, parentheses, index expressions or
non-sanitising calls, one or several chains). -/
def machine_eq_spec_statement : Prop :=
  ∀ (Γ : Env) (roots : List Trie) (e : E),
    run roots (check Γ e).evs = reports roots Γ.lower (definedIn Γ) e

/-- (b) precision: an expression without a variable that is a trie root has no report. -/
def no_root_no_report_statement : Prop :=
  ∀ (Γ : Env) (roots : List Trie) (e : E), (∀ r ∈ roots, ¬ mentionsVar r.name e) → run roots (check Γ e).evs = []
where
  mentionsVar (n : String) : E → Prop := fun e => n ∈ varsOf e
  varsOf : E → List String
    | .var n => [n]
    | .objDeref r _ => varsOf r
    | .arrDeref r => varsOf r
    | .index r i => varsOf r ++ varsOf i
    | .not e => varsOf e
    | .cmp _ l r => varsOf l ++ varsOf r
    | .logical _ l r => varsOf l ++ varsOf r
    | .call _ args => varsOfList args
    | _ => []
  varsOfList : List E → List String
    | [] => []
    | e :: es => varsOf e ++ varsOfList es

/-- (c) safe calls: nothing under contains / startsWith / endsWith is reported. -/
def safe_call_silent_statement : Prop :=
  ∀ (Γ : Env) (roots : List Trie) (c : String) (args : List E), isSafeCall Γ.lower c = true →
    run roots (check Γ (.call c args)).evs = []

/-- (d) completeness for documented paths, all spellings: a chain `root.s₁.….sₙ` whose folded segments
walk the trie to a leaf is reported with exactly that path, however each segment is spelled
(`.name` or `['NAME']`). -/
def documented_path_reported_statement : Prop :=
  ∀ (roots : List Trie) (root : String) (segs : List Seg) (leaf : Cur),
    (∃ r ∈ roots, r.name = root ∧ followAll [⟨[r.name], r⟩] false segs = [leaf]) → leaf.node.isLeaf = true →
    chainReport roots root segs = [[leaf.pathStr]]

/-- (e) the regenerated trie: every leaf of `Gen.untrustedRoots` is reported when accessed with plain
property segments (`[0]`-style index for `*` nodes). -/
def builtin_leaves_reported_statement : Prop :=
  ∀ p ∈ leafPaths AL.Gen.untrustedRoots, chainReport AL.Gen.untrustedRoots (p.headD "") ((p.drop 1).map fun s => if s = "*" then Seg.idx else Seg.prop s) = [[".".intercalate p]]
where
  leafPaths (roots : List Trie) : List (List String) := roots.flatMap (leavesOf [])
  leavesOf (pre : List String) : Trie → List (List String)
    | .node n [] => [pre ++ [n]]
    | .node n cs => leavesOfList (pre ++ [n]) cs
  leavesOfList (pre : List String) : List Trie → List (List String)
    | [] => []
    | c :: cs => leavesOf pre c ++ leavesOfList pre cs

/-! ## Proofs -/

/-- the evaluation environment of the examples: the generated builtin signatures, real case folding -/
def exΓ : Env :=
  { vars := [], funcs := AL.Gen.funcSigs, specialFuncs := [], availCtx := [], availSpecial := [],
    configVars := none, lower := String.toLower, fromJson := fun _ => .otherErr }

/-- `github.event['PULL_REQUEST'].head.ref == 'x' || contains(github.event.issue.title, 'y') || format('{0}', github.head_ref)` -/
def exBig : E :=
  .logical .or
    (.logical .or
      (.cmp .eq (.objDeref (.objDeref (.index (.objDeref (.var "github") "event") (.str "PULL_REQUEST")) "head") "ref") (.str "x"))
      (.call "contains" [.objDeref (.objDeref (.objDeref (.var "github") "event") "issue") "title", .str "y"]))
    (.call "format" [.str "{0}", .objDeref (.var "github") "head_ref"])

/-- `contains(a, 'b')` -/
def exSafe : E := .call "contains" [.var "a", .str "b"]

/-- `contains(a, 'b')[github.head_ref]` — the index is read and has to be reported -/
def exMiss : E := .index exSafe (.objDeref (.var "github") "head_ref")
/-- `github.event == contains(a, 'b').issue.title` — `github.event.issue.title` is not read -/
def exGhost : E := .cmp .eq (.objDeref (.var "github") "event") (.objDeref (.objDeref exSafe "issue") "title")
/-- `github.event.commits == contains(a, 'b').*.message` — `github.event.commits.*.message` is not read -/
def exGhostStar : E :=
  .cmp .eq (.objDeref (.objDeref (.var "github") "event") "commits") (.objDeref (.arrDeref exSafe) "message")
/-- `github.event.pages == contains(a, 'b')[contains(a, 'b')].page_name` — `github.event.pages.*.page_name` is not
read -/
def exGhostIdx : E :=
  .cmp .eq (.objDeref (.objDeref (.var "github") "event") "pages") (.objDeref (.index exSafe exSafe) "page_name")

/-! ### (a) the property, full strength

(a) rests on `OnVisitNodeLeave` of a contains/startsWith/endsWith call calling `end()` when the outermost
safe call is left (the model does the same).  If leaving only decremented `safeCalls`, the cursor alive
before the call would survive it, and an access segment applied directly to the call would move that stale
cursor: a read of `github.head_ref` would go unreported (`exMiss`), paths that are never read would be
reported (`exGhost*`).  The four examples below exercise exactly this. -/

theorem machine_eq_spec : machine_eq_spec_statement :=
  fun Γ roots e => run_eq_reports roots Γ e

/-- the machine on `exBig` and on the four witnesses, in one evaluation: they walk the same branches of the trie -/
theorem machine_runs :
    run AL.Gen.untrustedRoots (check exΓ exBig).evs = [["github.event.pull_request.head.ref"], ["github.head_ref"]] ∧
    run AL.Gen.untrustedRoots (check exΓ exMiss).evs = [["github.head_ref"]] ∧
    run AL.Gen.untrustedRoots (check exΓ exGhost).evs = [] ∧
    run AL.Gen.untrustedRoots (check exΓ exGhostStar).evs = [] ∧
    run AL.Gen.untrustedRoots (check exΓ exGhostIdx).evs = [] := by
  simp only [check_evs_eq]
  decide +kernel

example : run AL.Gen.untrustedRoots (check exΓ exBig).evs =
    [["github.event.pull_request.head.ref"], ["github.head_ref"]] := machine_runs.1
-- what the specification says of it follows from the run of the machine, by (a); so for the four witnesses below
example : reports AL.Gen.untrustedRoots exΓ.lower (definedIn exΓ) exBig =
    [["github.event.pull_request.head.ref"], ["github.head_ref"]] :=
  (machine_eq_spec exΓ _ exBig).symm.trans machine_runs.1

theorem exMiss_fixed : run AL.Gen.untrustedRoots (check exΓ exMiss).evs = [["github.head_ref"]] := machine_runs.2.1
theorem exMiss_spec : reports AL.Gen.untrustedRoots exΓ.lower (definedIn exΓ) exMiss = [["github.head_ref"]] :=
  (machine_eq_spec exΓ _ exMiss).symm.trans exMiss_fixed

theorem exGhost_fixed : run AL.Gen.untrustedRoots (check exΓ exGhost).evs = [] := machine_runs.2.2.1
theorem exGhost_spec : reports AL.Gen.untrustedRoots exΓ.lower (definedIn exΓ) exGhost = [] :=
  (machine_eq_spec exΓ _ exGhost).symm.trans exGhost_fixed

theorem exGhostStar_fixed : run AL.Gen.untrustedRoots (check exΓ exGhostStar).evs = [] := machine_runs.2.2.2.1
theorem exGhostStar_spec : reports AL.Gen.untrustedRoots exΓ.lower (definedIn exΓ) exGhostStar = [] :=
  (machine_eq_spec exΓ _ exGhostStar).symm.trans exGhostStar_fixed

theorem exGhostIdx_fixed : run AL.Gen.untrustedRoots (check exΓ exGhostIdx).evs = [] := machine_runs.2.2.2.2
theorem exGhostIdx_spec : reports AL.Gen.untrustedRoots exΓ.lower (definedIn exΓ) exGhostIdx = [] :=
  (machine_eq_spec exΓ _ exGhostIdx).symm.trans exGhostIdx_fixed

/-- the four examples as instances of the theorem (machine = spec), independently of the evaluations above -/
theorem witnesses_agree :
    ∀ e ∈ [exMiss, exGhost, exGhostStar, exGhostIdx],
      run AL.Gen.untrustedRoots (check exΓ e).evs = reports AL.Gen.untrustedRoots exΓ.lower (definedIn exΓ) e :=
  fun e _ => machine_eq_spec exΓ AL.Gen.untrustedRoots e

-- a chain pending BEFORE a safe call is still reported (the call ends it): `github.head_ref == contains(a, 'b')`
example : run AL.Gen.untrustedRoots (check exΓ (.cmp .eq (.objDeref (.var "github") "head_ref") exSafe)).evs =
    [["github.head_ref"]] := by
  rw [check_evs_eq]; decide +kernel

/-! ### (c) -/

theorem safe_call_silent : safe_call_silent_statement := by
  intro Γ roots c args hc
  rw [machine_eq_spec, reports, if_pos hc]

-- `startsWith(github.head_ref, github.event.issue.title)` — even in upper case, even nested
example : run AL.Gen.untrustedRoots (check exΓ (.call "StartsWith"
    [.objDeref (.var "github") "head_ref",
     .call "format" [.str "{0}", .objDeref (.objDeref (.objDeref (.var "github") "event") "issue") "title"]])).evs = [] := by
  rw [check_evs_eq]; decide +kernel
-- nested safe calls: `contains(endsWith(github.head_ref, 'x'), github.event.issue.title)`
example : run AL.Gen.untrustedRoots (check exΓ (.call "contains"
    [.call "endsWith" [.objDeref (.var "github") "head_ref", .str "x"],
     .objDeref (.objDeref (.objDeref (.var "github") "event") "issue") "title"])).evs = [] := by
  rw [check_evs_eq]; decide +kernel

/-! ### (b)

By (a) this is a fact about the specification alone. -/

section
open no_root_no_report_statement
variable (roots : List Trie) (lower : String → String) (defined : String → Bool)

mutual
/-- an expression none of whose variables is a trie root reports nothing, whatever is appended to it -/
theorem chain_no_root : ∀ e : E, (∀ n ∈ varsOf e, roots.find? (·.name = n) = none) →
    ∀ s, chain roots lower defined e s = []
  | .var n, h, s => by rw [chain, chainReport, h n List.mem_cons_self]
  | .objDeref r p, h, s => by rw [chain]; exact chain_no_root r h _
  | .arrDeref r, h, s => by rw [chain]; exact chain_no_root r h _
  | .index r i, h, s => by
    have hr := chain_no_root r (fun n hn => h n (List.mem_append_left _ hn))
    cases hl : nonLit i
    · obtain ⟨v, rfl⟩ := eq_str_of_nonLit hl
      rw [chain_index_lit]; exact hr _
    · rw [chain_index_nonlit _ _ _ _ _ _ hl, ← chain_nil, hr,
        chain_no_root i (fun n hn => h n (List.mem_append_right _ hn))]; rfl
  | .not e, h, s => by
    simp only [chain, reports]
    rw [← chain_nil]; exact chain_no_root e h _
  | .cmp _ l r, h, s | .logical _ l r, h, s => by
    simp only [chain, reports]
    rw [← chain_nil, ← chain_nil, chain_no_root l (fun n hn => h n (List.mem_append_left _ hn)),
      chain_no_root r (fun n hn => h n (List.mem_append_right _ hn))]; rfl
  | .call c args, h, s => by
    rw [chain_call, reports]
    split
    · rfl
    · split
      · rfl
      · exact reportsList_no_root args h
  | .null, _, s | .bool, _, s | .num, _, s | .str _, _, s => by simp only [chain, reports]
theorem reportsList_no_root : ∀ es : List E, (∀ n ∈ varsOfList es, roots.find? (·.name = n) = none) →
    reportsList roots lower defined es = []
  | [], _ => by rw [reportsList]
  | e :: es, h => by
    rw [reportsList, ← chain_nil, chain_no_root e (fun n hn => h n (List.mem_append_left _ hn)),
      reportsList_no_root es (fun n hn => h n (List.mem_append_right _ hn))]; rfl
end
end

theorem no_root_no_report : no_root_no_report_statement := by
  intro Γ roots e h
  rw [machine_eq_spec, ← chain_nil]
  refine chain_no_root roots _ _ e (fun n hn => ?_) []
  rw [List.find?_eq_none]
  intro r hr hname
  exact h r hr (by rw [of_decide_eq_true hname]; exact hn)

-- `env.head_ref == inputs.event.issue.title || steps.x.outputs['github']`: the same property names, but no `github` variable
example : run AL.Gen.untrustedRoots (check exΓ (.logical .or
    (.cmp .eq (.objDeref (.var "env") "head_ref") (.objDeref (.objDeref (.objDeref (.var "inputs") "event") "issue") "title"))
    (.index (.objDeref (.objDeref (.var "steps") "x") "outputs") (.str "github")))).evs = [] := by
  rw [check_evs_eq]; decide +kernel

/-! ### (d) is false as stated for a root list with duplicate names

`chainReport` (like the Go `map` lookup `u.roots[v.Name]`) uses the FIRST root of that name, whereas
the statement lets `r` be any root of that name.  With pairwise distinct root names (always the case
for a Go map, and re-checked for the generated trie below) it holds. -/

theorem documented_path_reported_counterexample : ¬ documented_path_reported_statement := by
  intro h
  have := h [.node "a" [.node "x" []], .node "a" []] "a" [] ⟨["a"], .node "a" []⟩
    ⟨.node "a" [], by simp, rfl, rfl⟩ rfl
  exact absurd this (by decide +kernel)

/-- (d′) as (d), for root lists with pairwise distinct names -/
def documented_path_reported_statement' : Prop :=
  ∀ (roots : List Trie), roots.Pairwise (fun a b => a.name ≠ b.name) →
  ∀ (root : String) (segs : List Seg) (leaf : Cur),
    (∃ r ∈ roots, r.name = root ∧ followAll [⟨[r.name], r⟩] false segs = [leaf]) → leaf.node.isLeaf = true →
    chainReport roots root segs = [[leaf.pathStr]]

theorem documented_path_reported' : documented_path_reported_statement' := by
  intro roots hpw root segs leaf ⟨r, hr, hname, hw⟩ hl
  subst hname
  exact chainReport_of_find roots r.name segs r leaf (Order.find?_key_of_mem Trie.name hpw hr) hw hl

/-- the generated trie has pairwise distinct root names (re-checked on every run) -/
theorem builtin_roots_distinct : AL.Gen.untrustedRoots.Pairwise (fun a b => a.name ≠ b.name) := by
  decide +kernel

-- `github['EVENT'].pull_request['Head'].ref` (segments after folding) and `github.event.commits[0].author.email`
example : chainReport AL.Gen.untrustedRoots "github" [.prop "event", .prop "pull_request", .prop "head", .prop "ref"] =
    [["github.event.pull_request.head.ref"]] := by decide +kernel
example : chainReport AL.Gen.untrustedRoots "github" [.prop "event", .prop "commits", .idx, .prop "author", .prop "email"] =
    [["github.event.commits.*.author.email"]] := by decide +kernel
-- and spelled as an expression, through the machine:
example : run AL.Gen.untrustedRoots (check exΓ
    (.objDeref (.index (.objDeref (.index (.var "github") (.str "EVENT")) "pull_request") (.str "Head")) "ref")).evs =
    [["github.event.pull_request.head.ref"]] := by
  rw [check_evs_eq]; decide +kernel
-- the object filter reports all the leaves it reaches, sorted: `github.event.pull_request.*`
example : chainReport AL.Gen.untrustedRoots "github" [.prop "event", .prop "pull_request", .star] =
    [["github.event.pull_request.body", "github.event.pull_request.title"]] := by decide +kernel

/-! ### (e) -/

/-- re-checked against the regenerated trie on every run -/
theorem builtin_leaves_reported : builtin_leaves_reported_statement := by
  unfold builtin_leaves_reported_statement
  decide +kernel

-- not vacuous
example : builtin_leaves_reported_statement.leafPaths AL.Gen.untrustedRoots ≠ [] := by decide +kernel
example : ["github", "event", "pages", "*", "page_name"] ∈ builtin_leaves_reported_statement.leafPaths AL.Gen.untrustedRoots := by
  decide +kernel

end AL.C11
