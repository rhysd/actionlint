import AL.Lemmas.C07SWf
import AL.Lemmas.C07SRule
import AL.Lemmas.C07SRules
import AL.Lemmas.C07SValue
import AL.Props.C03Parse
import AL.Model.Positions
/-
  C07 — **every diagnostic sits at a node of the document.**

  The other C07 files say WHERE INSIDE a string a diagnostic points (AL.C07: column arithmetic) and that a rule's
  diagnostic carries the position of the id / key / value it is about (the `*_pos` statements of AL.C09R, AL.C07M; AL.C07P with
  a project; AL.C07R for repeated keys). This file closes the chain from the diagnostic back to the yaml.Node tree the
  parser was given:

    1. `expr_diag_at_ast_string` — the expression rule (all of rule_expression.go, with or without a project) makes no
       diagnostic out of nowhere: every diagnostic sits at one of the `*String`s of the AST (`allStrs w`: every string
       of the AST, enumerated field by field from ast.go — names, keys, values, raw matrix scalars);
    2. `ast_string_from_node`, `ast_position_from_node` — the parser invents no position: every string of the parsed AST
       was made from a node of the document (`StrOf`: same position; the node's text, or the empty placeholder
       `parseString` returns when its check fails); every `Pos` field of the AST is the position of a node.
       `ast_string_from_scalar`: where only scalar nodes have a text (`TextOnScalarsOnly`), a string with a text comes
       from a SCALAR node, same text, same position.
       The statement "every AST string is a scalar node of the document" is FALSE of the model and of actionlint:
       `placeholder_not_a_scalar`;
    3. `expr_diag_at_node`, `expr_diag_in_file` — composition: every diagnostic of the expression rule on a parsed document
       sits at a node of the document, hence has 1 ≤ line ≤ N, 1 ≤ column when the tree comes from a file of N lines
       (`InFile`). FINDING `finding_expr_diag_at_collection`: the node need not be a scalar — `if: [a]` gets, besides the
       parser's "expected scalar node", an expression diagnostic "unexpected end of input" at the sequence.
       FINDING `finding_matrix_scalar_quote_lost`: a QUOTED scalar inside a matrix reaches the rule without its quoting
       flag (`StrOf.quoted`: the node's flag OR false), so expression diagnostics inside it are one column to the left;
    4. `syntax_diag_at_node`, `syntax_diag_in_file` — every syntax diagnostic of the parser sits at a node of the document
       (any kind), or at the document node after `fixDocPos` (line 0 → 1, column 0 → 1: the empty file);
    5. `rules_diag_at_ast_position`, `rules_diag_at_node`, `rules_diag_in_file` — the fourteen AST-only rules (AL.Rules):
       every diagnostic sits at a position that occurs in the AST (`allPositions w`: the cycle / undefined-dependency
       diagnostics of job-needs at a job id, a repeated job at the job, matrix diagnostics at a raw value or an assignment
       key, runner labels also at the matrix scalar a `${{ matrix.x }}` label stands for, …) with the one exception stated
       exactly in `RuleSite`: a glob diagnostic (line of the pattern, column of the pattern + 1 for a quote + offset).
       `lint_diag_in_file`: the first sentence of C07 for the whole of `AL.Rules.lint` (parser + fourteen rules, sorted).
  `allStrs_covers_valueStrs` ties `allStrs` to the value strings of AL.C03R.

  Proof architecture: `items` (class `HasItems`, AL/Lemmas/C07SBase.lean) enumerates the strings and positions of every AST
  type; `AllI P x` says every item of `x` satisfies `P` and decomposes along the fields of a structure (simp lemmas
  `IOk_<Struct>`). Parser side: `P := ItemOk S` ("made from a node of `S`"), one lemma `ROk S (parseX … n)` per function of
  parse.go, bottom-up (C07SParse, C07SEvents, C07SJob, C07SWf). Expression rule: `P := NotAt d` ("is not where `d` sits"),
  one lemma `NS d x → d ∉ checkX … x` per function of rule_expression.go (C07SRule). AST-only rules: `P := AR.NotAtP p`,
  one lemma `AR.NP d.pos w → d ∉ ruleX … w` per rule (C07SRules).
-/
namespace AL.C07S
open AL AL.Yaml AL.Ast AL.PW AL.RuleExpr

/-! ## 1. the expression rule: no diagnostic out of nowhere -/

/-- **every diagnostic of the expression rule sits at a string of the AST** — for every workflow AST, every lower-casing
function, every number test and every project view. -/
theorem expr_diag_at_ast_string (lower : String → String) (isNum : IsNumber) (w : Workflow) (proj : ProjView) :
    ∀ d ∈ rule lower isNum w proj, ∃ s ∈ allStrs w, d.site = s.pos := by
  intro d hd
  by_cases h : ∃ s ∈ allStrs w, d.site = s.pos
  · exact h
  · exfalso
    refine rule_not lower isNum w proj ?_ hd
    intro it hit
    cases it with
    | pos p => trivial
    | str s => exact fun he => h ⟨s, mem_allStrs.2 hit, he⟩

theorem expr_diag_at_ast_position (lower : String → String) (isNum : IsNumber) (w : Workflow) (proj : ProjView) :
    ∀ d ∈ rule lower isNum w proj, d.site ∈ allPositions w := by
  intro d hd
  obtain ⟨s, hs, he⟩ := expr_diag_at_ast_string lower isNum w proj d hd
  rw [he]
  exact allStrs_pos_sub hs

/-- `allStrs` covers the value strings of AL.C03R (`every_placeholder_checked`: each of those with a malformed placeholder
gets a diagnostic AT the string — the converse direction of the theorem above) -/
theorem allStrs_covers_valueStrs (w : Workflow) : ∀ s ∈ AL.C03R.valueStrs w, s ∈ allStrs w :=
  valueStrs_sub_allStrs w

/-! ## 2. the parser invents no position -/

theorem allNodesL_sub_allNodes (doc : Node) : ∀ v ∈ allNodesL doc.content, v ∈ allNodes doc := by
  intro v hv
  rw [allNodes_eq]
  exact List.mem_cons_of_mem _ hv

/-- strong form: the node lies below the root (it is not the document node) -/
theorem ast_item_from_node (cfg : Cfg) (doc : Node) : ∀ it ∈ items (parse cfg doc).1, ItemOk (allNodesL doc.content) it :=
  (parse_ok cfg doc).1

/-- **every string of the parsed AST was made from a node of the document**: it sits at the node; its text is the node's
text, or empty (the placeholder `parseString` returns for a node that is not a scalar / an empty scalar where a text is
required); the node is a scalar unless the string is that placeholder (or the node is a collection node carrying a
`${{ }}` text, which yaml.v3 never produces). -/
theorem ast_string_from_node (cfg : Cfg) (doc : Node) :
    ∀ s ∈ allStrs (parse cfg doc).1, ∃ v ∈ allNodes doc, StrOf v s := by
  intro s hs
  obtain ⟨v, hv, h⟩ := ast_item_from_node cfg doc _ (mem_allStrs.1 hs)
  exact ⟨v, allNodesL_sub_allNodes doc v hv, h⟩

/-- **every position of the parsed AST (of a string, a key, a job, a step, an event, a section …) is the position of a
node of the document** -/
theorem ast_position_from_node (cfg : Cfg) (doc : Node) :
    ∀ p ∈ allPositions (parse cfg doc).1, ∃ v ∈ allNodes doc, p = v.pos := by
  intro p hp
  obtain ⟨it, hit, rfl⟩ := List.mem_map.1 hp
  obtain ⟨v, hv, h⟩ := (ast_item_from_node cfg doc it hit).at
  exact ⟨v, allNodesL_sub_allNodes doc v hv, h⟩

/-- what yaml.v3 guarantees and the `Node` type does not: only a scalar node has a text -/
def TextOnScalarsOnly (doc : Node) : Prop := ∀ v ∈ allNodes doc, v.kind ≠ .scalar → v.value = ""

theorem isExprAssigned_empty : isExprAssigned "" = false := AL.PW.isExprAssigned_nil

/-- **a string of the AST that has a text is a scalar node of the document: same text, same position**, when
only scalars have a text (`hdoc`); false of strings without a text: `placeholder_not_a_scalar` -/
theorem ast_string_from_scalar (cfg : Cfg) (doc : Node) (hdoc : TextOnScalarsOnly doc) :
    ∀ s ∈ allStrs (parse cfg doc).1, s.value ≠ "" →
      ∃ v ∈ allScalars doc, v.kind = .scalar ∧ s.pos = v.pos ∧ s.value = v.value := by
  intro s hs hne
  obtain ⟨v, hv, h⟩ := ast_string_from_node cfg doc s hs
  have hval : s.value = v.value := h.value.resolve_right hne
  have hk : v.kind = .scalar := by
    rcases h.kind with hk | hk | hk
    · exact hk
    · exact absurd hk hne
    · by_cases hk' : v.kind = .scalar
      · exact hk'
      · rw [hdoc v hv hk', isExprAssigned_empty] at hk
        cases hk
  exact ⟨v, mem_allScalars.2 ⟨hv, hk⟩, hk, h.pos, hval⟩

/-! ## 3. composition: the expression rule on a parsed document -/

theorem expr_diag_below_root (cfg : Cfg) (lower : String → String) (isNum : IsNumber) (proj : ProjView) (doc : Node) :
    ∀ d ∈ rule lower isNum (parse cfg doc).1 proj, ∃ v ∈ allNodesL doc.content, d.site = v.pos := by
  intro d hd
  obtain ⟨s, hs, he⟩ := expr_diag_at_ast_string lower isNum _ proj d hd
  obtain ⟨v, hv, h⟩ := ast_item_from_node cfg doc _ (mem_allStrs.1 hs)
  exact ⟨v, hv, he.trans h.pos⟩

/-- **every diagnostic of the expression rule on a parsed document sits at a node of the document** -/
theorem expr_diag_at_node (cfg : Cfg) (lower : String → String) (isNum : IsNumber) (proj : ProjView) (doc : Node) :
    ∀ d ∈ rule lower isNum (parse cfg doc).1 proj, ∃ v ∈ allNodes doc, d.site = v.pos := by
  intro d hd
  obtain ⟨v, hv, h⟩ := expr_diag_below_root cfg lower isNum proj doc d hd
  exact ⟨v, allNodesL_sub_allNodes doc v hv, h⟩

/-- … at a SCALAR node, unless it sits at one of the empty placeholder strings of the AST -/
theorem expr_diag_at_scalar_or_placeholder (cfg : Cfg) (lower : String → String) (isNum : IsNumber) (proj : ProjView)
    (doc : Node) (hdoc : TextOnScalarsOnly doc) :
    ∀ d ∈ rule lower isNum (parse cfg doc).1 proj,
      (∃ v ∈ allScalars doc, d.site = v.pos) ∨ (∃ s ∈ allStrs (parse cfg doc).1, s.value = "" ∧ d.site = s.pos) := by
  intro d hd
  obtain ⟨s, hs, he⟩ := expr_diag_at_ast_string lower isNum _ proj d hd
  by_cases hv : s.value = ""
  · exact Or.inr ⟨s, hs, hv, he⟩
  · obtain ⟨v, hv', _, hp, _⟩ := ast_string_from_scalar cfg doc hdoc s hs hv
    exact Or.inl ⟨v, hv', he.trans hp⟩

/-- the node tree comes from a file of `N` lines: every node below the document node has a line between 1 and `N` and a
column ≥ 1. The document node itself may be at line 0 / column 0 (yaml.v3 on an empty file; `fixDocPos` repairs it). -/
def InFile (N : Nat) (doc : Node) : Prop :=
  1 ≤ N ∧ doc.line ≤ N ∧ ∀ v ∈ allNodesL doc.content, 1 ≤ v.line ∧ v.line ≤ N ∧ 1 ≤ v.col

/-- **C07, first sentence, for the expression rule**: line between 1 and the number of lines, column at least 1 -/
theorem expr_diag_in_file (cfg : Cfg) (lower : String → String) (isNum : IsNumber) (proj : ProjView) (doc : Node) (N : Nat)
    (h : InFile N doc) :
    ∀ d ∈ rule lower isNum (parse cfg doc).1 proj, 1 ≤ d.site.line ∧ d.site.line ≤ N ∧ 1 ≤ d.site.col := by
  intro d hd
  obtain ⟨v, hv, he⟩ := expr_diag_below_root cfg lower isNum proj doc d hd
  rw [he]
  exact h.2.2 v hv

/-! ## 4. the syntax diagnostics of the parser -/

/-- **every syntax diagnostic sits at a node of the document** (of any kind) — or at the document node after `fixDocPos` -/
theorem syntax_diag_at_node (cfg : Cfg) (doc : Node) :
    ∀ e ∈ (parse cfg doc).2, e.pos = (fixDocPos doc).pos ∨ ∃ v ∈ allNodesL doc.content, e.pos = v.pos :=
  (parse_ok cfg doc).2

theorem fixDocPos_pos (doc : Node) (hl : doc.line ≠ 0) (hc : doc.col ≠ 0) : (fixDocPos doc).pos = doc.pos := by
  obtain ⟨k, t, v, q, l, c, cs⟩ := doc
  simp only [Node.line, Node.col] at hl hc
  simp [fixDocPos, Node.pos, Node.line, Node.col, hl, hc]

/-- when the document node has a position (yaml.v3 on a non-empty file), at a node of the document -/
theorem syntax_diag_at_node' (cfg : Cfg) (doc : Node) (hl : doc.line ≠ 0) (hc : doc.col ≠ 0) :
    ∀ e ∈ (parse cfg doc).2, ∃ v ∈ allNodes doc, e.pos = v.pos := by
  intro e he
  rcases syntax_diag_at_node cfg doc e he with h | ⟨v, hv, h⟩
  · exact ⟨doc, mem_allNodes_self doc, by rw [h, fixDocPos_pos doc hl hc]⟩
  · exact ⟨v, allNodesL_sub_allNodes doc v hv, h⟩

theorem fixDocPos_in_file (doc : Node) (N : Nat) (h : InFile N doc) :
    1 ≤ (fixDocPos doc).pos.line ∧ (fixDocPos doc).pos.line ≤ N ∧ 1 ≤ (fixDocPos doc).pos.col := by
  obtain ⟨k, t, v, q, l, c, cs⟩ := doc
  obtain ⟨h1, h2, _⟩ := h
  simp only [Node.line] at h2
  simp only [fixDocPos, Node.pos, Node.line, Node.col]
  refine ⟨?_, ?_, ?_⟩
  · split <;> omega
  · split <;> omega
  · split <;> omega

/-- **C07, first sentence, for the syntax diagnostics** -/
theorem syntax_diag_in_file (cfg : Cfg) (doc : Node) (N : Nat) (h : InFile N doc) :
    ∀ e ∈ (parse cfg doc).2, 1 ≤ e.pos.line ∧ e.pos.line ≤ N ∧ 1 ≤ e.pos.col := by
  intro e he
  rcases syntax_diag_at_node cfg doc e he with h' | ⟨v, hv, h'⟩
  · rw [h']; exact fixDocPos_in_file doc N h
  · rw [h']; exact h.2.2 v hv

/-! ## 5. the AST-only rules -/

/-- where a diagnostic of the fourteen AST-only rules sits: at a position that occurs in the AST — or, for rule glob, on
the line of one of the patterns, at the pattern's column (+ 1 for an opening quote) + the offset of the offending
character (`AL.C07.glob_column`, `AL.C09R.globErrors_pos`: the exact offset) -/
def RuleSite (w : Workflow) (d : AL.Rules.Diag) : Prop :=
  d.pos ∈ allPositions w ∨ (d ∈ AL.Rules.ruleGlob w ∧ ∃ s ∈ allStrs w, AR.GlobAt s d.pos)

/-- **every diagnostic of the AST-only rules sits at a position of the AST** (matrix, credentials, shell-name,
runner-label, events incl. the CRON check, job-needs, action, env-var, id, permissions, workflow-call, deprecated-commands, if-cond), rule glob
at a computed column inside one of the strings of the AST -/
theorem rules_diag_at_ast_position (lower : String → String) (isNum urlOk : String → Bool) (w : Workflow) (lc : AL.Rules.LabelCfg) :
    ∀ d ∈ AL.Rules.rules lower isNum urlOk w lc, RuleSite w d := by
  intro d hd
  by_cases hp : d.pos ∈ allPositions w
  · exact Or.inl hp
  · have h : AR.NP d.pos w := by
      intro it hit he
      exact hp (List.mem_map.2 ⟨it, hit, he⟩)
    simp only [AL.Rules.rules, List.mem_append] at hd
    rcases hd with ((((((((((((hd | hd) | hd) | hd) | hd) | hd) | hd) | hd) | hd) | hd) | hd) | hd) | hd) | hd
    · exact absurd hd (AR.ruleMatrix_not h)
    · exact absurd hd (AR.ruleCredentials_not h)
    · exact absurd hd (AR.ruleShellName_not lower h)
    · exact absurd hd (AR.ruleRunnerLabel_not lower lc h)
    · exact absurd hd (AR.ruleEvents_not lower isNum lc h)
    · exact absurd hd (AR.ruleJobNeeds_not lower h)
    · exact absurd hd (AR.ruleAction_not urlOk h)
    · exact absurd hd (AR.ruleEnvVar_not h)
    · exact absurd hd (AR.ruleId_not lower h)
    · obtain ⟨s, hs, hg⟩ := AR.ruleGlob_at w d hd
      exact Or.inr ⟨hd, s, mem_allStrs.2 hs, hg⟩
    · exact absurd hd (AR.rulePermissions_not h)
    · exact absurd hd (AR.ruleWorkflowCall_not h)
    · exact absurd hd (AR.ruleDeprecatedCommands_not h)
    · exact absurd hd (AR.ruleIfCond_not h)

theorem rules_diag_not_glob (lower : String → String) (isNum urlOk : String → Bool) (w : Workflow) (lc : AL.Rules.LabelCfg) :
    ∀ d ∈ AL.Rules.rules lower isNum urlOk w lc, d ∉ AL.Rules.ruleGlob w → d.pos ∈ allPositions w := by
  intro d hd hg
  rcases rules_diag_at_ast_position lower isNum urlOk w lc d hd with h | h
  · exact h
  · exact absurd h.1 hg

/-- **on a parsed document: at a node of the document** — rule glob: on the line of a node, at or after its column (the
exact column is in `RuleSite` / `AR.GlobAt`: the string's column + 1 for an opening quote + the validator's offset) -/
theorem rules_diag_at_node (cfg : Cfg) (lower : String → String) (isNum urlOk : String → Bool) (lc : AL.Rules.LabelCfg) (doc : Node) :
    ∀ d ∈ AL.Rules.rules lower isNum urlOk (parse cfg doc).1 lc,
      ∃ v ∈ allNodesL doc.content, d.pos = v.pos ∨
        (d ∈ AL.Rules.ruleGlob (parse cfg doc).1 ∧ d.pos.line = v.line ∧ ∃ k, d.pos.col = v.col + k) := by
  intro d hd
  rcases rules_diag_at_ast_position lower isNum urlOk _ lc d hd with h | ⟨hg, s, hs, hl, k, hk⟩
  · obtain ⟨it, hit, he⟩ := List.mem_map.1 h
    obtain ⟨v, hv, h'⟩ := (ast_item_from_node cfg doc it hit).at
    exact ⟨v, hv, Or.inl (he.symm.trans h')⟩
  · obtain ⟨v, hv, hso⟩ := ast_item_from_node cfg doc _ (mem_allStrs.1 hs)
    refine ⟨v, hv, Or.inr ⟨hg, ?_, ?_⟩⟩
    · rw [hl, hso.pos]; rfl
    · refine ⟨(if s.quoted then 1 else 0) + k, ?_⟩
      rw [hk, hso.pos, Nat.add_assoc]
      rfl

/-- **C07, first sentence, for the AST-only rules** -/
theorem rules_diag_in_file (cfg : Cfg) (lower : String → String) (isNum urlOk : String → Bool) (lc : AL.Rules.LabelCfg)
    (doc : Node) (N : Nat) (h : InFile N doc) :
    ∀ d ∈ AL.Rules.rules lower isNum urlOk (parse cfg doc).1 lc, 1 ≤ d.pos.line ∧ d.pos.line ≤ N ∧ 1 ≤ d.pos.col := by
  intro d hd
  obtain ⟨v, hv, hd'⟩ := rules_diag_at_node cfg lower isNum urlOk lc doc d hd
  have hb := h.2.2 v hv
  rcases hd' with he | ⟨_, hl, k, hk⟩
  · rw [he]; exact hb
  · rw [hl, hk]
    exact ⟨hb.1, hb.2.1, by omega⟩

/-- **C07, first sentence, for `Linter.check` restricted to the parser and the fourteen modelled rules**: every
diagnostic of the sorted output has a line between 1 and the number of lines of the file and a column of at least 1 -/
theorem lint_diag_in_file (cfg : Cfg) (isNum urlOk : String → Bool) (doc : Node) (lc : AL.Rules.LabelCfg) (N : Nat)
    (h : InFile N doc) :
    ∀ d ∈ AL.Rules.lint cfg isNum urlOk doc lc, 1 ≤ d.pos.line ∧ d.pos.line ≤ N ∧ 1 ≤ d.pos.col := by
  intro d hd
  simp only [AL.Rules.lint] at hd
  have := (AL.C09R.stableSort_perm _).mem_iff.1 hd
  simp only [List.mem_append, List.mem_map] at this
  rcases this with ⟨e, he, rfl⟩ | hr
  · exact syntax_diag_in_file cfg doc N h e he
  · exact rules_diag_in_file cfg cfg.lower isNum urlOk lc doc N h d hr

/-! ## Examples, witnesses, findings -/

section examples
open AL.C03P (sc mp sq key exCfg exDoc)

/-- the running example of AL.C03P (`run-name: ${{`, a `workflow_call` output, a job with a matrix, 7 lines) is a tree
from a file of 7 lines in which only scalars have a text -/
theorem exDoc_inFile : InFile 7 exDoc := by unfold InFile; decide +kernel
theorem exDoc_text : TextOnScalarsOnly exDoc := by unfold TextOnScalarsOnly; decide +kernel

theorem exDoc_strs : allStrs (parse exCfg exDoc).1 =
    [⟨"${{", false, ⟨1, 11⟩⟩, ⟨"out", false, ⟨5, 7⟩⟩, ⟨"v", false, ⟨5, 20⟩⟩, ⟨"build", false, ⟨7, 3⟩⟩,
     ⟨"ubuntu-latest", false, ⟨2, 14⟩⟩, ⟨"make", false, ⟨7, 14⟩⟩, ⟨"os", false, ⟨5, 9⟩⟩, ⟨"linux", false, ⟨5, 14⟩⟩,
     ⟨"x64", false, ⟨5, 29⟩⟩, ⟨"${{", false, ⟨5, 34⟩⟩] := by decide +kernel

/-- 1: the expression diagnostic about `run-name: ${{` sits at the AST string made from that scalar -/
example (lower : String → String) (isNum : IsNumber) :
    ∃ d ∈ rule lower isNum (parse exCfg exDoc).1, d.site = ⟨1, 11⟩ ∧
      (⟨"${{", false, ⟨1, 11⟩⟩ : Str) ∈ allStrs (parse exCfg exDoc).1 := by
  obtain ⟨d, hd, he⟩ := (AL.C03P.placeholder_in_document_reported exCfg lower isNum exDoc (sc "!!str" "${{" 1 11)
    (by rw [AL.C03P.exDoc_scalars]; exact List.mem_cons_self) AL.C03R.malformed_open).resolve_left
    (fun h => h AL.C03P.exDoc_clean)
  exact ⟨d, hd, he, by rw [exDoc_strs]; decide⟩

/-- 2: the strings of the AST of `exDoc` (all of them have a text) are scalar nodes of `exDoc` -/
example : ∀ s ∈ allStrs (parse exCfg exDoc).1, ∃ v ∈ allScalars exDoc, v.kind = .scalar ∧ s.pos = v.pos ∧ s.value = v.value :=
  fun s hs => ast_string_from_scalar exCfg exDoc exDoc_text s hs (by rw [exDoc_strs] at hs; revert s; decide)

example : allStrs (parse exCfg exDoc).1 =
    [⟨"${{", false, ⟨1, 11⟩⟩, ⟨"out", false, ⟨5, 7⟩⟩, ⟨"v", false, ⟨5, 20⟩⟩, ⟨"build", false, ⟨7, 3⟩⟩,
     ⟨"ubuntu-latest", false, ⟨2, 14⟩⟩, ⟨"make", false, ⟨7, 14⟩⟩, ⟨"os", false, ⟨5, 9⟩⟩, ⟨"linux", false, ⟨5, 14⟩⟩,
     ⟨"x64", false, ⟨5, 29⟩⟩, ⟨"${{", false, ⟨5, 34⟩⟩] := exDoc_strs

/-- 3: both expression diagnostics of `exDoc` are inside the file -/
example (lower : String → String) (isNum : IsNumber) :
    ∀ d ∈ rule lower isNum (parse exCfg exDoc).1, 1 ≤ d.site.line ∧ d.site.line ≤ 7 ∧ 1 ≤ d.site.col :=
  expr_diag_in_file exCfg lower isNum {} exDoc 7 exDoc_inFile

/--
```
on: push
jobs:
  build:
    runs-on: ubuntu-latest
    if: [a]
    steps:
      - run: make
```
-/
def docIfSeq : Node :=
  .mk .document "" "" false 1 1 [mp 1 1 [key "on" 1 1, sc "!!str" "push" 1 5,
    key "jobs" 2 1, mp 3 3 [key "build" 3 3, mp 4 5 [key "runs-on" 4 5, sc "!!str" "ubuntu-latest" 4 14,
      key "if" 5 5, sq 5 9 [sc "!!str" "a" 5 10],
      key "steps" 6 5, sq 7 7 [mp 7 9 [key "run" 7 9, sc "!!str" "make" 7 14]]]]]]

theorem docIfSeq_inFile : InFile 7 docIfSeq := by unfold InFile; decide +kernel
theorem docIfSeq_text : TextOnScalarsOnly docIfSeq := by unfold TextOnScalarsOnly; decide +kernel

/-- what the parser and the expression rule make of `if: [a]`, in one evaluation of the parser -/
theorem docIfSeq_parsed :
    rule asciiLower (fun _ => false) (parse exCfg docIfSeq).1 = [⟨⟨5, 9⟩, "syntax-error", []⟩] ∧
    (parse exCfg docIfSeq).2 = [⟨⟨5, 9⟩, "not-scalar-string", ["sequence", "!!seq"]⟩] ∧
    (⟨"", false, ⟨5, 9⟩⟩ : Str) ∈ allStrs (parse exCfg docIfSeq).1 := by decide +kernel

/-- **the statement "every string of the AST is a scalar node of the document" is FALSE**: for `if: [a]` the AST holds the
empty placeholder string at the position of the SEQUENCE node (`parseString` returns `&String{"", false, posAt(n)}` when
`checkString` fails), and no scalar node is there -/
theorem placeholder_not_a_scalar :
    ∃ s ∈ allStrs (parse exCfg docIfSeq).1, s = ⟨"", false, ⟨5, 9⟩⟩ ∧ ¬ ∃ v ∈ allScalars docIfSeq, s.pos = v.pos :=
  ⟨⟨"", false, ⟨5, 9⟩⟩, docIfSeq_parsed.2.2, rfl, by decide +kernel⟩

/-- **FINDING (harmless double report; reproduced with actionlint itself)**: the diagnostics of the expression rule need not
sit at a SCALAR. For `if: [a]` the parser reports "expected scalar node for string value but found sequence node" at 5:9
and keeps the empty placeholder as the condition; rule expression then checks the empty condition and reports "unexpected
end of input while parsing …" at the same 5:9 — the position of the sequence node, where no scalar is. (Same double report
for `if:` with nothing after it: "string should not be empty" + the expression diagnostic, both at the null scalar.) -/
theorem finding_expr_diag_at_collection :
    rule asciiLower (fun _ => false) (parse exCfg docIfSeq).1 = [⟨⟨5, 9⟩, "syntax-error", []⟩] ∧
    (parse exCfg docIfSeq).2 = [⟨⟨5, 9⟩, "not-scalar-string", ["sequence", "!!seq"]⟩] ∧
    (¬ ∃ v ∈ allScalars docIfSeq, v.pos = ⟨5, 9⟩) ∧
    (∃ v ∈ allNodes docIfSeq, v.kind = .sequence ∧ v.pos = ⟨5, 9⟩) := by
  refine ⟨docIfSeq_parsed.1, docIfSeq_parsed.2.1, by decide +kernel, by decide +kernel⟩

/-- … and it is one of the two cases `expr_diag_at_scalar_or_placeholder` leaves: at an empty placeholder string -/
example : ∀ d ∈ rule asciiLower (fun _ => false) (parse exCfg docIfSeq).1,
    (∃ v ∈ allScalars docIfSeq, d.site = v.pos) ∨ (∃ s ∈ allStrs (parse exCfg docIfSeq).1, s.value = "" ∧ d.site = s.pos) :=
  expr_diag_at_scalar_or_placeholder exCfg asciiLower (fun _ => false) {} docIfSeq docIfSeq_text

/-- 4: the parser's diagnostic for `if: [a]` sits at the sequence node, inside the file -/
example : (parse exCfg docIfSeq).2 = [⟨⟨5, 9⟩, "not-scalar-string", ["sequence", "!!seq"]⟩] :=
  finding_expr_diag_at_collection.2.1
example : ∀ e ∈ (parse exCfg docIfSeq).2, 1 ≤ e.pos.line ∧ e.pos.line ≤ 7 ∧ 1 ≤ e.pos.col :=
  syntax_diag_in_file exCfg docIfSeq 7 docIfSeq_inFile
example : ∀ e ∈ (parse exCfg docIfSeq).2, ∃ v ∈ allNodes docIfSeq, e.pos = v.pos :=
  syntax_diag_at_node' exCfg docIfSeq (by decide) (by decide)

/-- the empty file: yaml.v3 gives the document node line 0, column 0; the one diagnostic is moved to 1:1, which is the
position of no node (and line 1 of a file of 0 lines) -/
def docEmpty : Node := .mk .document "" "" false 0 0 []

theorem empty_document_diag :
    (parse exCfg docEmpty).2 = [⟨⟨1, 1⟩, "workflow-empty", []⟩] ∧ ¬ ∃ v ∈ allNodes docEmpty, v.pos = ⟨1, 1⟩ := by
  decide +kernel

/--
```
on: push
jobs:
  a:
    strategy:
      matrix:
        os: ["${{ foo }}"]
    runs-on: ubuntu-latest
    steps:
      - run: echo
```
-/
def docQuotedMatrix : Node :=
  .mk .document "" "" false 1 1 [mp 1 1 [key "on" 1 1, sc "!!str" "push" 1 5,
    key "jobs" 2 1, mp 3 3 [key "a" 3 3, mp 4 5 [
      key "strategy" 4 5, mp 5 7 [key "matrix" 5 7, mp 6 9 [key "os" 6 9, sq 6 13 [.mk .scalar "!!str" "${{ foo }}" true 6 14 []]]],
      key "runs-on" 7 5, sc "!!str" "ubuntu-latest" 7 14,
      key "steps" 8 5, sq 9 7 [mp 9 9 [key "run" 9 9, sc "!!str" "echo" 9 14]]]]]]

theorem docQuotedMatrix_parsed : allStrs (parse exCfg docQuotedMatrix).1 =
    [⟨"push", false, ⟨1, 5⟩⟩, ⟨"a", false, ⟨3, 3⟩⟩, ⟨"ubuntu-latest", false, ⟨7, 14⟩⟩, ⟨"echo", false, ⟨9, 14⟩⟩,
     ⟨"os", false, ⟨6, 9⟩⟩, ⟨"${{ foo }}", false, ⟨6, 14⟩⟩] ∧ (parse exCfg docQuotedMatrix).2 = [] := by decide +kernel

/-- **FINDING (C07, second sentence; reproduced with actionlint itself: it reports 6:18, `foo` is at 6:19)**: a QUOTED
scalar inside a matrix (row value, `include` / `exclude` value) loses its quoting flag — `RawYAMLString` has no `Quoted`
field and `checkRawYAMLString` calls `checkExprsIn(…, quoted = false, …)` — so every expression diagnostic inside it is
reported one column to the left of the offending token. The string the rule is given sits at the scalar (6:14, as
`ast_string_from_node` says: `StrOf.quoted` is "the node's flag or false") but is unquoted, the node is quoted; with the
column arithmetic of AL.C07 (`reported`) the token `foo` (expression offset 3, column 2 of the expression) is reported at
column 18 instead of 19. -/
theorem finding_matrix_scalar_quote_lost :
    (∃ v ∈ allScalars docQuotedMatrix, v.pos = ⟨6, 14⟩ ∧ v.value = "${{ foo }}" ∧ v.quoted = true) ∧
    (⟨"${{ foo }}", false, ⟨6, 14⟩⟩ : Str) ∈ allStrs (parse exCfg docQuotedMatrix).1 ∧
    (⟨"${{ foo }}", true, ⟨6, 14⟩⟩ : Str) ∉ allStrs (parse exCfg docQuotedMatrix).1 ∧
    (parse exCfg docQuotedMatrix).2 = [] ∧
    AL.Positions.reported 6 14 false 3 1 2 = ⟨6, 18⟩ ∧ AL.Positions.reported 6 14 true 3 1 2 = ⟨6, 19⟩ := by
  refine ⟨by decide +kernel, by rw [docQuotedMatrix_parsed.1]; decide, by rw [docQuotedMatrix_parsed.1]; decide,
    docQuotedMatrix_parsed.2, by decide, by decide⟩

/--
```
on:
  push:
    branches: ["v1 x"]
jobs:
  b1:
    needs: zz
    runs-on: ubuntu-latest
    steps:
      - run: make
        id: 1x
```
-/
def docRules : Node :=
  .mk .document "" "" false 1 1 [mp 1 1 [
    key "on" 1 1, mp 2 3 [key "push" 2 3, mp 3 5 [key "branches" 3 5, sq 3 15 [.mk .scalar "!!str" "v1 x" true 3 16 []]]],
    key "jobs" 4 1, mp 5 3 [key "b1" 5 3, mp 6 5 [
      key "needs" 6 5, sc "!!str" "zz" 6 12,
      key "runs-on" 7 5, sc "!!str" "ubuntu-latest" 7 14,
      key "steps" 8 5, sq 9 7 [mp 9 9 [key "run" 9 9, sc "!!str" "make" 9 14, key "id" 10 9, sc "!!str" "1x" 10 13]]]]]]

theorem docRules_inFile : InFile 10 docRules := by unfold InFile; decide +kernel

/-- the fourteen rules, rule glob alone, the positions and the branch filter of the AST of `docRules`: the parser and the
rules are evaluated here, once -/
theorem docRules_parsed :
    AL.Rules.rules asciiLower (fun _ => false) (fun _ => true) (parse exCfg docRules).1 =
      [⟨⟨5, 3⟩, "job-needs", "needs-undefined", ["b1", "zz"]⟩, ⟨⟨10, 13⟩, "id", "id-convention", ["step", "1x"]⟩,
       ⟨⟨3, 19⟩, "glob", "glob", ["ref,32,chars"]⟩] ∧
    AL.Rules.ruleGlob (parse exCfg docRules).1 = [⟨⟨3, 19⟩, "glob", "glob", ["ref,32,chars"]⟩] ∧
    allPositions (parse exCfg docRules).1 =
      [⟨2, 3⟩, ⟨3, 5⟩, ⟨3, 16⟩, ⟨2, 3⟩, ⟨5, 3⟩, ⟨6, 12⟩, ⟨7, 14⟩, ⟨10, 13⟩, ⟨9, 14⟩, ⟨9, 9⟩, ⟨9, 9⟩, ⟨5, 3⟩] ∧
    (⟨"v1 x", true, ⟨3, 16⟩⟩ : Str) ∈ allStrs (parse exCfg docRules).1 := by
  decide +kernel

/-- 5: an undefined dependency (at the job id `b1`, 5:3), a step id against the convention (at the id, 10:13), a space in a branch filter
(on the line of the pattern `"v1 x"` at 3:16: column 16 + 1 for the quote + 2) -/
example : AL.Rules.rules asciiLower (fun _ => false) (fun _ => true) (parse exCfg docRules).1 =
    [⟨⟨5, 3⟩, "job-needs", "needs-undefined", ["b1", "zz"]⟩, ⟨⟨10, 13⟩, "id", "id-convention", ["step", "1x"]⟩,
     ⟨⟨3, 19⟩, "glob", "glob", ["ref,32,chars"]⟩] := docRules_parsed.1

example : ∀ d ∈ AL.Rules.rules asciiLower (fun _ => false) (fun _ => true) (parse exCfg docRules).1,
    RuleSite (parse exCfg docRules).1 d :=
  rules_diag_at_ast_position asciiLower _ _ _ {}

example : (⟨5, 3⟩ : Pos) ∈ allPositions (parse exCfg docRules).1 ∧ (⟨10, 13⟩ : Pos) ∈ allPositions (parse exCfg docRules).1 ∧
    (⟨3, 19⟩ : Pos) ∉ allPositions (parse exCfg docRules).1 ∧
    AR.GlobAt ⟨"v1 x", true, ⟨3, 16⟩⟩ ⟨3, 19⟩ ∧ (⟨"v1 x", true, ⟨3, 16⟩⟩ : Str) ∈ allStrs (parse exCfg docRules).1 := by
  rw [docRules_parsed.2.2.1]
  refine ⟨by decide, by decide, by decide, ⟨rfl, 2, rfl⟩, docRules_parsed.2.2.2⟩

example : ∀ d ∈ AL.Rules.rules asciiLower (fun _ => false) (fun _ => true) (parse exCfg docRules).1,
    1 ≤ d.pos.line ∧ d.pos.line ≤ 10 ∧ 1 ≤ d.pos.col :=
  rules_diag_in_file exCfg asciiLower _ _ {} docRules 10 docRules_inFile

/-- the two diagnostics that are not rule glob's: exactly at a position of the AST -/
example : ∀ d ∈ AL.Rules.rules asciiLower (fun _ => false) (fun _ => true) (parse exCfg docRules).1,
    d ∉ AL.Rules.ruleGlob (parse exCfg docRules).1 → d.pos ∈ allPositions (parse exCfg docRules).1 :=
  rules_diag_not_glob asciiLower _ _ _ {}

example : AL.Rules.ruleGlob (parse exCfg docRules).1 = [⟨⟨3, 19⟩, "glob", "glob", ["ref,32,chars"]⟩] := docRules_parsed.2.1

example : (fixDocPos docRules).pos = docRules.pos := fixDocPos_pos docRules (by decide) (by decide)
example : (fixDocPos docEmpty).pos = ⟨1, 1⟩ ∧ ¬ InFile 0 docEmpty ∧ InFile 1 docEmpty := by
  refine ⟨rfl, by unfold InFile; decide +kernel, by unfold InFile; decide +kernel⟩
example : 1 ≤ (fixDocPos docEmpty).pos.line ∧ (fixDocPos docEmpty).pos.line ≤ 1 ∧ 1 ≤ (fixDocPos docEmpty).pos.col :=
  fixDocPos_in_file docEmpty 1 (by unfold InFile; decide +kernel)

example : ∀ d ∈ AL.Rules.lint exCfg (fun _ => false) (fun _ => true) docRules, 1 ≤ d.pos.line ∧ d.pos.line ≤ 10 ∧ 1 ≤ d.pos.col :=
  lint_diag_in_file exCfg _ _ docRules {} 10 docRules_inFile

/--
```
on:
  schedule:
    - cron: "* * * * *"
jobs:
  a:
    runs-on: ubuntu-latest
    steps:
      - run: make
```
-/
def docCron : Node :=
  .mk .document "" "" false 1 1 [mp 1 1 [
    key "on" 1 1, mp 2 3 [key "schedule" 2 3, sq 3 5 [mp 3 7 [key "cron" 3 7, .mk .scalar "!!str" "* * * * *" true 3 13 []]]],
    key "jobs" 4 1, mp 5 3 [key "a" 5 3, mp 6 5 [
      key "runs-on" 6 5, sc "!!str" "ubuntu-latest" 6 14,
      key "steps" 7 5, sq 8 7 [mp 8 9 [key "run" 8 9, sc "!!str" "make" 8 14]]]]]]

theorem docCron_inFile : InFile 8 docCron := by unfold InFile; decide +kernel

/-- the CRON check (part of rule events): "scheduled job runs too frequently" sits at the cron string (3:13), a position of
the AST -/
example : AL.Rules.ruleEvents asciiLower (fun _ => false) (parse exCfg docCron).1 =
    [⟨⟨3, 13⟩, "events", "cron-too-frequent", ["60"]⟩] ∧ (⟨3, 13⟩ : Pos) ∈ allPositions (parse exCfg docCron).1 := by
  decide +kernel

example (lc : AL.Rules.LabelCfg) : ∀ d ∈ AL.Rules.lint exCfg (fun _ => false) (fun _ => true) docCron lc,
    1 ≤ d.pos.line ∧ d.pos.line ≤ 8 ∧ 1 ≤ d.pos.col :=
  lint_diag_in_file exCfg _ _ docCron lc 8 docCron_inFile

end examples

end AL.C07S
