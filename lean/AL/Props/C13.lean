import AL.Model.Facts
import AL.Spec.Syntax
import AL.Gen.Syntax
/-
  C13 — unknown, duplicate and missing keys are reported in every section.
  Facts about parse.go, re-checked against the regenerated tables on every run, plus a small abstraction of
  `parseMapping` with the "never suppresses siblings" theorem. The abstraction stands on its own: no theorem relates it to
  the model of the parser (`AL.PW.mappingLoop`); the corresponding two statements about the model are `Sect.unknown_key` and
  `Sect.duplicate_key` of Props/C13Parse.
-/
namespace AL.C13
open AL.Facts AL.Spec.Syntax

/-- keys accepted by the `switch kv.id` statements of one parse function -/
def keysOf (fn : String) : List String :=
  sortDedup ((AL.Gen.parseCases.filter fun c => c.1 = fn && c.2.1 ≠ "").map (·.2.1))

/-- (a) the accepted key set of every fixed mapping equals the set in GitHub's workflow-syntax reference. -/
def key_sets_check : Bool :=
  keySets.all (fun ks => keysOf ks.1 = ks.2) &&
  -- and no parse function with a key switch is missing from the specification
  (sortDedup (AL.Gen.parseCases.map (·.1))).all (fun fn => keySets.any (·.1 = fn))

theorem mem_insertS {x s : String} : ∀ {l : List String}, x ∈ insertS s l ↔ x = s ∨ x ∈ l
  | [] => by simp [insertS]
  | y :: rest => by
    unfold insertS
    split
    · simp
    · split
      · rename_i h; subst h; simp
      · simp [mem_insertS (l := rest), or_left_comm]

theorem mem_sortDedup {x : String} {l : List String} : x ∈ sortDedup l ↔ x ∈ l := by
  have h : ∀ (l acc : List String), x ∈ l.foldl (fun acc s => insertS s acc) acc ↔ x ∈ acc ∨ x ∈ l := by
    intro l
    induction l with
    | nil => simp
    | cons s r ih => intro acc; simp [ih, mem_insertS, or_assoc, or_left_comm]
  simpa [sortDedup] using h l []

/-- a test over the sorted, duplicate-free list is a test over the list -/
theorem all_sortDedup (l : List String) (p : String → Bool) : (sortDedup l).all p = l.all p := by
  rw [Bool.eq_iff_iff]
  simp only [List.all_eq_true, mem_sortDedup]

theorem key_sets : key_sets_check = true := by
  rw [key_sets_check, all_sortDedup]
  decide +kernel

/-- number of `default:` branches of `fn` that call `unexpectedKey` -/
def unexpectedDefaults (fn : String) : Nat :=
  (AL.Gen.parseCases.filter fun c => c.1 = fn && c.2.1 = "" && c.2.2.contains "!unexpectedKey").length

/-- (b) every key switch over a fixed key set ends in a `default:` that reports the unexpected key
(the switches without one — events, matrix rows, `with:` inputs — accept arbitrary names by design). -/
def defaults_check : Bool :=
  unexpectedKeyDefaults.all (fun d => unexpectedDefaults d.1 = d.2) &&
  (sortDedup (AL.Gen.parseCases.map (·.1))).all (fun fn =>
    unexpectedKeyDefaults.any (·.1 = fn) || fn = "parseEvents" || fn = "parseMatrix")

theorem defaults_report : defaults_check = true := by
  rw [defaults_check, all_sortDedup]
  decide +kernel

/-- (c) duplicate detection is case-insensitive exactly for the mappings whose keys are user-chosen names. -/
def case_insensitive_check : Bool :=
  let ci := (AL.Gen.parseMappings.filter fun m => m.2.2.2 = "false").map fun m => (m.1, m.2.1)
  ci.all (fun x => caseInsensitiveSections.contains x) && caseInsensitiveSections.all (fun x => ci.contains x)

theorem case_insensitive_sections : case_insensitive_check = true := by decide +kernel

/-! ### a model of `parseMapping`

An abstraction of one section: the diagnostics of a key's value are a number that depends on the key's id alone
(`childDiags`), so the theorems below are about the loop over the keys only. The model of the parser itself is
`AL.PW.mappingLoop` (Model/ParseWf); no theorem relates `dedup` / `handle` / `parseSection` to it. What (d) and (e) say
here, `Sect.unknown_key` and `Sect.duplicate_key` of Props/C13Parse say about the model. -/

structure KV where
  id  : String      -- key, folded when the mapping is case-insensitive
  key : String      -- key as written
  pos : Nat
deriving Repr, DecidableEq

inductive MDiag where
  | duplicated (pos : Nat) (key : String)
  | unexpected (pos : Nat) (key : String)
  | child (id : String) (n : Nat)        -- the n-th diagnostic produced by the value of key `id`
deriving Repr, DecidableEq

/-- `parseMapping`: the first occurrence of an id wins; a repetition is reported and skipped -/
def dedup (fold : String → String) : List (String × Nat) → List String → List KV × List MDiag
  | [], _ => ([], [])
  | (k, p) :: rest, seen =>
    let id := fold k
    if seen.contains id then
      let (kvs, ds) := dedup fold rest seen
      (kvs, .duplicated p k :: ds)
    else
      let (kvs, ds) := dedup fold rest (seen ++ [id])
      (⟨id, k, p⟩ :: kvs, ds)

/-- the per-key loop of a `parseX`: accepted keys run their handler (which yields the diagnostics of that
key's subtree), everything else hits `default: unexpectedKey` and the loop continues -/
def handle (accepted : List String) (childDiags : String → Nat) : List KV → List MDiag
  | [] => []
  | kv :: rest =>
    (if accepted.contains kv.id then (List.range (childDiags kv.id)).map (MDiag.child kv.id)
     else [MDiag.unexpected kv.pos kv.key]) ++ handle accepted childDiags rest

def parseSection (fold : String → String) (accepted : List String) (childDiags : String → Nat) (pairs : List (String × Nat)) : List MDiag :=
  let (kvs, d) := dedup fold pairs []
  d ++ handle accepted childDiags kvs

/-- (d) THE PROPERTY ("never suppresses siblings"): inserting a pair whose key is neither accepted nor a
repetition adds exactly the `unexpected` diagnostic at that key and changes nothing else, wherever it is
inserted. -/
def unknown_key_statement : Prop :=
  ∀ (fold : String → String) (accepted : List String) (cd : String → Nat) (pre post : List (String × Nat)) (k : String) (p : Nat),
    accepted.contains (fold k) = false → (∀ q ∈ pre ++ post, fold q.1 ≠ fold k) →
    (parseSection fold accepted cd (pre ++ (k, p) :: post)).Perm
      (MDiag.unexpected p k :: parseSection fold accepted cd (pre ++ post))

/-- (e) repeating an earlier key (in any letter case the mapping folds) adds exactly the `duplicated`
diagnostic at the repetition and changes nothing else. -/
def duplicate_key_statement : Prop :=
  ∀ (fold : String → String) (accepted : List String) (cd : String → Nat) (pre post : List (String × Nat)) (k : String) (p : Nat),
    (∃ q ∈ pre, fold q.1 = fold k) →
    (parseSection fold accepted cd (pre ++ (k, p) :: post)).Perm
      (MDiag.duplicated p k :: parseSection fold accepted cd (pre ++ post))

/-! ### proofs of (d) and (e) -/

theorem handle_append (accepted : List String) (cd : String → Nat) (a b : List KV) :
    handle accepted cd (a ++ b) = handle accepted cd a ++ handle accepted cd b := by
  induction a with
  | nil => rfl
  | cons kv rest ih => simp [handle, ih]

/-- `dedup` looks at `seen` only through membership of the folded keys of the list it processes -/
theorem dedup_congr (fold : String → String) (l : List (String × Nat)) :
    ∀ seen seen' : List String, (∀ q ∈ l, seen.contains (fold q.1) = seen'.contains (fold q.1)) →
      dedup fold l seen = dedup fold l seen' := by
  induction l with
  | nil => intros; rfl
  | cons q rest ih =>
    intro seen seen' h
    obtain ⟨k, p⟩ := q
    have hk : seen.contains (fold k) = seen'.contains (fold k) := h (k, p) (by simp)
    have h1 : dedup fold rest seen = dedup fold rest seen' :=
      ih seen seen' (fun q hq => h q (by simp [hq]))
    have h2 : dedup fold rest (seen ++ [fold k]) = dedup fold rest (seen' ++ [fold k]) := by
      apply ih
      intro q hq
      have := h q (by simp [hq])
      simp only [List.contains_eq_mem, List.mem_append, List.mem_singleton, decide_eq_decide] at this ⊢
      rw [this]
    simp only [dedup, hk, h1, h2]

/-- the ids seen once `l` has been processed: those before, then the ids `l` contributed, in order -/
def seenAfter (fold : String → String) (l : List (String × Nat)) (seen : List String) : List String :=
  seen ++ (dedup fold l seen).1.map (·.id)

theorem dedup_append (fold : String → String) (b : List (String × Nat)) : ∀ (a : List (String × Nat)) (seen : List String),
    dedup fold (a ++ b) seen =
      ((dedup fold a seen).1 ++ (dedup fold b (seenAfter fold a seen)).1,
       (dedup fold a seen).2 ++ (dedup fold b (seenAfter fold a seen)).2)
  | [], seen => by simp [seenAfter, dedup]
  | (k, p) :: a, seen => by
    by_cases hc : seen.contains (fold k) = true
    · simp only [List.cons_append, dedup, seenAfter, hc, ↓reduceIte, dedup_append fold b a seen]
    · simp only [List.cons_append, dedup, seenAfter, hc, Bool.false_eq_true, ↓reduceIte, dedup_append fold b a (seen ++ [fold k]),
        List.map_cons, List.append_assoc, List.cons_append, List.nil_append]

/-- … and they are the ids before together with the folded keys of `l` -/
theorem mem_seenAfter (fold : String → String) (x : String) : ∀ (l : List (String × Nat)) (seen : List String),
    x ∈ seenAfter fold l seen ↔ x ∈ seen ∨ ∃ q ∈ l, fold q.1 = x
  | [], seen => by simp [seenAfter, dedup]
  | (k, p) :: l, seen => by
    have hex : (∃ q ∈ (k, p) :: l, fold q.1 = x) ↔ fold k = x ∨ ∃ q ∈ l, fold q.1 = x := by
      simp only [List.mem_cons, exists_eq_or_imp]
    by_cases hc : seen.contains (fold k) = true
    · have ih := mem_seenAfter fold x l seen
      have hk : fold k ∈ seen := by simpa using hc
      simp only [seenAfter, dedup, hc, ↓reduceIte] at ih ⊢
      rw [ih, hex]
      exact ⟨fun h => h.imp_right Or.inr, fun h => h.elim Or.inl fun h => h.elim (fun e => Or.inl (e ▸ hk)) Or.inr⟩
    · have ih := mem_seenAfter fold x l (seen ++ [fold k])
      simp only [seenAfter, dedup, hc, Bool.false_eq_true, ↓reduceIte, List.map_cons, List.append_assoc, List.cons_append,
        List.nil_append] at ih ⊢
      rw [ih, List.mem_append, List.mem_singleton, hex, or_assoc, eq_comm]

theorem perm_insert_right {α} (x : α) (d h₁ h₂ : List α) :
    (d ++ (h₁ ++ x :: h₂)).Perm (x :: (d ++ (h₁ ++ h₂))) := by
  rw [← List.append_assoc, ← List.append_assoc]
  exact List.perm_middle

theorem perm_insert_left {α} (x : α) (d₁ d₂ h : List α) :
    ((d₁ ++ x :: d₂) ++ h).Perm (x :: ((d₁ ++ d₂) ++ h)) := by
  rw [List.append_assoc, List.append_assoc]
  exact List.perm_middle

theorem contains_snoc_ne {seen : List String} {a b : String} (h : a ≠ b) :
    (seen ++ [b]).contains a = seen.contains a := by
  simp [List.contains_eq_mem, h]

theorem unknown_key : unknown_key_statement := by
  intro fold accepted cd pre post k p hacc hne
  -- after `pre` the key is still unseen, and seeing it changes nothing for `post`
  have hs : (seenAfter fold pre []).contains (fold k) = false := by
    rw [List.contains_eq_mem, decide_eq_false_iff_not, mem_seenAfter]
    rintro (h | ⟨q, hq, e⟩)
    · cases h
    · exact hne q (List.mem_append_left _ hq) e
  have hp : dedup fold post (seenAfter fold pre [] ++ [fold k]) = dedup fold post (seenAfter fold pre []) :=
    dedup_congr fold post _ _ fun q hq => contains_snoc_ne (hne q (List.mem_append_right _ hq))
  simp only [parseSection, dedup_append, dedup, hs, hp, Bool.false_eq_true, ↓reduceIte, handle_append, handle, hacc]
  exact perm_insert_right _ _ _ _

theorem duplicate_key : duplicate_key_statement := by
  intro fold accepted cd pre post k p ⟨q, hq, e⟩
  have hs : (seenAfter fold pre []).contains (fold k) = true := by
    rw [List.contains_eq_mem, decide_eq_true_eq, mem_seenAfter]
    exact Or.inr ⟨q, hq, e⟩
  simp only [parseSection, dedup_append, dedup, hs, ↓reduceIte]
  exact perm_insert_left _ _ _ _

/-- concrete instance of (d): an unknown key `bogus` between `name` and `on` of a workflow; the
diagnostics of the `on:` subtree are still produced (here the equality even holds on the nose after
moving the new diagnostic). -/
example :
    parseSection lowerAscii ["name", "on", "jobs"] (fun id => if id = "on" then 2 else 0)
      [("name", 1), ("bogus", 2), ("on", 3), ("jobs", 4)]
    = [.unexpected 2 "bogus", .child "on" 0, .child "on" 1] := by decide +kernel

example :
    (parseSection lowerAscii ["name", "on", "jobs"] (fun id => if id = "on" then 2 else 0)
      ([("name", 1)] ++ ("bogus", 2) :: [("on", 3), ("jobs", 4)])).Perm
    (.unexpected 2 "bogus" :: parseSection lowerAscii ["name", "on", "jobs"]
      (fun id => if id = "on" then 2 else 0) ([("name", 1)] ++ [("on", 3), ("jobs", 4)])) :=
  unknown_key _ _ _ _ _ _ _ (by decide +kernel) (by decide +kernel)

/-- concrete instance of (e): `ON` repeats `on` in a case-insensitive mapping; an unknown key that follows
is still reported, after the `duplicated` diagnostic -/
example :
    parseSection lowerAscii ["name", "on", "jobs"] (fun id => if id = "on" then 1 else 0)
      [("on", 1), ("bogus", 2), ("ON", 3), ("jobs", 4)]
    = [.duplicated 3 "ON", .child "on" 0, .unexpected 2 "bogus"] := by decide +kernel

example :
    (parseSection lowerAscii ["name", "on", "jobs"] (fun id => if id = "on" then 1 else 0)
      ([("on", 1), ("bogus", 2)] ++ ("ON", 3) :: [("jobs", 4)])).Perm
    (.duplicated 3 "ON" :: parseSection lowerAscii ["name", "on", "jobs"]
      (fun id => if id = "on" then 1 else 0) ([("on", 1), ("bogus", 2)] ++ [("jobs", 4)])) :=
  duplicate_key _ _ _ _ _ _ _ ⟨("on", 1), by decide +kernel, by decide +kernel⟩

end AL.C13
