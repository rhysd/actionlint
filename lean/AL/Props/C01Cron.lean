import AL.Model.Cron
/-
  C01 (CRON): theorems about the model of `checkCron` (AL.Cron = rule_events.go checkCron + robfig/cron's parser and Next).
    A. safety: `Parser.Parse` panics exactly on a zone prefix without a blank; the guard of `checkCron` is exactly that
       condition, so `checkCron` never reaches the panic; the error classes that cannot occur under checkCron's option set.
    B. what an accepted field denotes: values within the bounds, the star bit only with the full range; the day rule.
    C. exactness of the field grammar (every kind of field): `getField` accepts iff `FieldG`.
    D. `Next` finds the earliest time of the schedule after `t` in its window of five years (`next_earliest`; `next_eq` is how a
       value of `Next` is established) and the calendar is monotone; the frequency rule: a fixed minute is never reported (unless the schedule
       never fires, which IS reported, with 0 seconds), `* * * * *` always, `*/n * * * *` iff n < 5 or n > 55.
-/
namespace AL.C01C
open AL.Cron

/-! ### strings -/

theorem indexOf_isSome_of_mem {c : Char} : ∀ {l : List Char}, c ∈ l → ∃ i, indexOf c l = some i ∧ i < l.length
  | x :: xs, h => by
    by_cases hx : x = c
    · exact ⟨0, by simp [indexOf, hx], by simp⟩
    · obtain ⟨i, hi, hlt⟩ := indexOf_isSome_of_mem ((List.mem_cons.mp h).resolve_left (Ne.symm hx))
      exact ⟨i + 1, by simp [indexOf, hx, hi], by simpa using hlt⟩

theorem indexOf_none_iff {c : Char} : ∀ {l : List Char}, indexOf c l = none ↔ c ∉ l
  | [] => by simp [indexOf]
  | x :: xs => by
    by_cases hx : x = c
    · simp [indexOf, hx]
    · simp [indexOf, hx, Ne.symm hx, indexOf_none_iff (l := xs)]

theorem indexOf_isSome_iff {c : Char} {l : List Char} : (indexOf c l).isSome ↔ c ∈ l := by
  rw [Option.isSome_iff_ne_none, ne_eq, indexOf_none_iff, Classical.not_not]

/-- the index found is the position of the first occurrence -/
theorem indexOf_some_spec {c : Char} : ∀ {l : List Char} {i : Nat}, indexOf c l = some i →
    c ∉ l.take i ∧ l.drop i = c :: l.drop (i + 1)
  | x :: xs, i, h => by
    unfold indexOf at h
    by_cases hx : x = c
    · obtain rfl : 0 = i := by simpa [hx] using h
      simp [hx]
    · simp only [hx, if_false, Option.map_eq_some_iff] at h
      obtain ⟨j, hj, rfl⟩ := h
      obtain ⟨h1, h2⟩ := indexOf_some_spec hj
      exact ⟨by simpa [Ne.symm hx] using h1, by simpa using h2⟩


/-! ### splitting -/

theorem splitBy_ne_nil (p : Char → Bool) : ∀ l, splitBy p l ≠ []
  | [] => by simp [splitBy]
  | x :: xs => by
    unfold splitBy
    split
    · simp
    · split <;> simp

theorem splitBy_clean {p : Char → Bool} : ∀ {a : List Char}, (∀ x ∈ a, p x = false) → splitBy p a = [a]
  | [], _ => rfl
  | x :: xs, h => by
    simp [splitBy, h x List.mem_cons_self, splitBy_clean fun y hy => h y (List.mem_cons_of_mem _ hy)]

theorem splitBy_append {p : Char → Bool} {c : Char} {r : List Char} (hc : p c = true) :
    ∀ {a : List Char}, (∀ x ∈ a, p x = false) → splitBy p (a ++ c :: r) = a :: splitBy p r
  | [], _ => by simp [splitBy, hc]
  | x :: xs, h => by
    simp [splitBy, h x List.mem_cons_self, splitBy_append hc fun y hy => h y (List.mem_cons_of_mem _ hy)]

/-- the first piece has no separator in it, and either it is all there is or a separator and the rest follow -/
theorem splitBy_cons_inv {p : Char → Bool} : ∀ {l a : List Char} {rest : List (List Char)}, splitBy p l = a :: rest →
    (∀ x ∈ a, p x = false) ∧ ((rest = [] ∧ l = a) ∨ ∃ c r, p c = true ∧ l = a ++ c :: r ∧ splitBy p r = rest)
  | [], a, rest, h => by
    cases h
    simp
  | x :: xs, a, rest, h => by
    cases hx : p x with
    | true =>
      rw [splitBy, if_pos hx] at h
      cases h
      exact ⟨by simp, Or.inr ⟨x, xs, hx, rfl, rfl⟩⟩
    | false =>
      obtain ⟨q, qs, hq⟩ := List.exists_cons_of_ne_nil (splitBy_ne_nil p xs)
      simp only [splitBy, hx, hq, Bool.false_eq_true, if_false] at h
      cases h
      obtain ⟨h1, h2⟩ := splitBy_cons_inv hq
      refine ⟨List.forall_mem_cons.mpr ⟨hx, h1⟩, h2.imp (fun ⟨e1, e2⟩ => ⟨e1, by rw [e2]⟩) ?_⟩
      rintro ⟨c, r, hc, rfl, hr⟩
      exact ⟨c, r, hc, rfl, hr⟩

theorem splitBy_single {p : Char → Bool} {l a : List Char} (h : splitBy p l = [a]) : l = a ∧ ∀ x ∈ a, p x = false := by
  obtain ⟨h1, h2⟩ := splitBy_cons_inv h
  rcases h2 with ⟨-, rfl⟩ | ⟨c, r, -, -, hr⟩
  · exact ⟨rfl, h1⟩
  · exact absurd hr (splitBy_ne_nil p r)

theorem splitBy_pair {p : Char → Bool} {l a b : List Char} (h : splitBy p l = [a, b]) :
    ∃ c, p c = true ∧ l = a ++ c :: b ∧ (∀ x ∈ a, p x = false) ∧ (∀ x ∈ b, p x = false) := by
  obtain ⟨h1, h2⟩ := splitBy_cons_inv h
  rcases h2 with ⟨h0, -⟩ | ⟨c, r, hc, rfl, hr⟩
  · cases h0
  · obtain ⟨rfl, hb⟩ := splitBy_single hr
    exact ⟨c, hc, rfl, h1, hb⟩


/-! ### the zone prefix: when the slicing of the parser is defined -/

theorem tzPrefix_cases {spec : List Char} (h : tzPrefix spec = true) :
    (∃ r, spec = 'T' :: 'Z' :: '=' :: r) ∨ (∃ r, spec = 'C' :: 'R' :: 'O' :: 'N' :: '_' :: 'T' :: 'Z' :: '=' :: r) := by
  simp only [tzPrefix, hasPrefix, Bool.or_eq_true, List.isPrefixOf_iff_prefix] at h
  exact h.imp (fun ⟨t, ht⟩ => ⟨t, ht.symm⟩) (fun ⟨t, ht⟩ => ⟨t, ht.symm⟩)

/-- the slicing `spec[eq+1 : i]`, `spec[i:]` is defined exactly when the spec contains a blank (under a zone prefix) -/
theorem cutZone_isSome_iff {spec : List Char} (h : tzPrefix spec = true) :
    (cutZone spec).isSome ↔ ' ' ∈ spec := by
  rw [← indexOf_isSome_iff]
  rcases tzPrefix_cases h with ⟨r, rfl⟩ | ⟨r, rfl⟩ <;> cases hr : indexOf ' ' r <;> simp [cutZone, indexOf, hr]


/-! ### the error classes of a field -/

def fieldErr : Err → Bool
  | .tooManyHyphens _ | .tooManySlashes _ | .belowMin .. | .aboveMax .. | .beyondEnd .. | .zeroStep _ | .parseInt .. | .negative .. => true
  | _ => false

theorem mustParseInt_err {l : List Char} {e : Err} (h : mustParseInt l = .error e) : fieldErr e = true := by
  unfold mustParseInt at h
  split at h
  · cases h; rfl
  · split at h
    · cases h; rfl
    · cases h

theorem parseIntOrName_err {l : List Char} {names} {e : Err} (h : parseIntOrName l names = .error e) : fieldErr e = true := by
  unfold parseIntOrName at h
  split at h
  · cases h
  · exact mustParseInt_err h

theorem rangeBase_err {x : List Char} {lh} {b : Bounds} {e : Err} (h : rangeBase x lh b = .error e) : fieldErr e = true := by
  unfold rangeBase at h
  simp only at h
  split at h
  · cases h
  · split at h
    · cases h
      exact parseIntOrName_err ‹_›
    · split at h
      · cases h
      · split at h
        · cases h
          exact parseIntOrName_err ‹_›
        · cases h
      · cases h; rfl

theorem rangeStep_err {x : List Char} {rs sd} {b : Bounds} {e1 x1} {e : Err} (h : rangeStep x rs sd b e1 x1 = .error e) :
    fieldErr e = true := by
  unfold rangeStep at h
  split at h
  · cases h
  · split at h
    · cases h
      exact mustParseInt_err ‹_›
    · cases h
  · cases h; rfl

theorem rangeCheck_err {x : List Char} {b : Bounds} {s e st ex} {err : Err} (h : rangeCheck x b s e st ex = .error err) :
    fieldErr err = true := by
  unfold rangeCheck at h
  repeat' split at h
  all_goals cases h
  all_goals rfl

theorem getRange_err {x : List Char} {b : Bounds} {e : Err} (h : getRange x b = .error e) : fieldErr e = true := by
  unfold getRange at h
  simp only at h
  split at h
  · cases h
    exact rangeBase_err ‹_›
  · split at h
    · cases h
      exact rangeStep_err ‹_›
    · exact rangeCheck_err h

/-! ### what an accepted range expression denotes -/

theorem rangeBase_star {x : List Char} {lh} {b : Bounds} (hs : lh.headD [] = ['*'] ∨ lh.headD [] = ['?']) :
    rangeBase x lh b = .ok (b.min, b.max, starBit) := by
  unfold rangeBase; exact if_pos hs

theorem rangeBase_one {x a : List Char} {b : Bounds} {s : Nat} (hs : ¬ (a = ['*'] ∨ a = ['?']))
    (h : parseIntOrName a b.names = .ok s) : rangeBase x [a] b = .ok (s, s, 0) := by
  simp [rangeBase, hs, h]

theorem rangeBase_two {x a c : List Char} {b : Bounds} {s e : Nat} (hs : ¬ (a = ['*'] ∨ a = ['?']))
    (h1 : parseIntOrName a b.names = .ok s) (h2 : parseIntOrName c b.names = .ok e) : rangeBase x [a, c] b = .ok (s, e, 0) := by
  simp [rangeBase, hs, h1, h2]

theorem rangeBase_inv {x : List Char} {lh} {b : Bounds} {s e x1 : Nat} (h : rangeBase x lh b = .ok (s, e, x1)) :
    ((lh.headD [] = ['*'] ∨ lh.headD [] = ['?']) ∧ s = b.min ∧ e = b.max ∧ x1 = starBit) ∨
    (x1 = 0 ∧
      ((∃ a, lh = [a] ∧ parseIntOrName a b.names = .ok s ∧ e = s) ∨
       (∃ a c, lh = [a, c] ∧ parseIntOrName a b.names = .ok s ∧ parseIntOrName c b.names = .ok e))) := by
  unfold rangeBase at h
  simp only at h
  split at h
  · cases h; exact Or.inl ⟨‹_›, rfl, rfl, rfl⟩
  · right
    split at h
    · cases h
    · rename_i hstart
      split at h
      · cases h; exact ⟨rfl, Or.inl ⟨_, rfl, hstart, rfl⟩⟩
      · split at h <;> cases h
        exact ⟨rfl, Or.inr ⟨_, _, rfl, hstart, ‹_›⟩⟩
      · cases h

theorem rangeStep_one {x a : List Char} {sd} {b : Bounds} {e1 x1 : Nat} : rangeStep x [a] sd b e1 x1 = .ok (1, e1, x1) := rfl

theorem rangeStep_two {x a t : List Char} {sd} {b : Bounds} {e1 x1 st : Nat} (h : mustParseInt t = .ok st) :
    rangeStep x [a, t] sd b e1 x1 = .ok (st, if sd then b.max else e1, if st > 1 then 0 else x1) := by
  simp [rangeStep, h]

theorem rangeStep_inv {x : List Char} {rs sd} {b : Bounds} {e1 x1 st e ex : Nat} (h : rangeStep x rs sd b e1 x1 = .ok (st, e, ex)) :
    (∃ a, rs = [a] ∧ st = 1 ∧ e = e1 ∧ ex = x1) ∨
    (∃ a t, rs = [a, t] ∧ mustParseInt t = .ok st ∧ e = (if sd then b.max else e1) ∧ ex = (if st > 1 then 0 else x1)) := by
  unfold rangeStep at h
  split at h
  · cases h; exact Or.inl ⟨_, rfl, rfl, rfl, rfl⟩
  · split at h <;> cases h
    exact Or.inr ⟨_, _, rfl, ‹_›, rfl, rfl⟩
  · cases h

theorem ite_error_ok {ε α} {c : Prop} [Decidable c] {e : ε} {r : Except ε α} {a : α}
    (h : (if c then .error e else r) = .ok a) : ¬ c ∧ r = .ok a := by
  by_cases hc : c
  · rw [if_pos hc] at h; cases h
  · rw [if_neg hc] at h; exact ⟨hc, h⟩

theorem rangeCheck_inv {x : List Char} {b : Bounds} {s e st ex m : Nat} (h : rangeCheck x b s e st ex = .ok m) :
    b.min ≤ s ∧ e ≤ b.max ∧ s ≤ e ∧ st ≠ 0 ∧ m = getBits s e st ||| ex := by
  obtain ⟨h1, h⟩ := ite_error_ok h
  obtain ⟨h2, h⟩ := ite_error_ok h
  obtain ⟨h3, h⟩ := ite_error_ok h
  obtain ⟨h4, h⟩ := ite_error_ok h
  cases h
  exact ⟨Nat.not_lt.mp h1, Nat.not_lt.mp h2, Nat.not_lt.mp h3, h4, rfl⟩

theorem rangeCheck_ok {x : List Char} {b : Bounds} {s e st ex : Nat} (h1 : b.min ≤ s) (h2 : e ≤ b.max) (h3 : s ≤ e) (h4 : st ≠ 0) :
    rangeCheck x b s e st ex = .ok (getBits s e st ||| ex) := by
  unfold rangeCheck
  rw [if_neg (Nat.not_lt.mpr h1), if_neg (Nat.not_lt.mpr h2), if_neg (Nat.not_lt.mpr h3), if_neg h4]

theorem getRange_inv {x : List Char} {b : Bounds} {m : Nat} (h : getRange x b = .ok m) :
    ∃ s e1 x1 st e ex, rangeBase x (splitBy (· == '-') ((splitBy (· == '/') x).headD [])) b = .ok (s, e1, x1) ∧
      rangeStep x (splitBy (· == '/') x) ((splitBy (· == '-') ((splitBy (· == '/') x).headD [])).length == 1) b e1 x1 = .ok (st, e, ex) ∧
      rangeCheck x b s e st ex = .ok m := by
  unfold getRange at h
  simp only at h
  split at h
  · cases h
  · split at h
    · cases h
    · exact ⟨_, _, _, _, _, _, ‹_›, ‹_›, h⟩

/-- what `rangeBase` hands on: no star bit, or the star bit over the full range -/
theorem rangeBase_ok {x : List Char} {lh} {b : Bounds} {s e1 x1 : Nat} (h : rangeBase x lh b = .ok (s, e1, x1)) :
    x1 = 0 ∨ (x1 = starBit ∧ s = b.min ∧ e1 = b.max) := by
  rcases rangeBase_inv h with ⟨-, h1, h2, h3⟩ | ⟨h0, -⟩
  · exact Or.inr ⟨h3, h1, h2⟩
  · exact Or.inl h0

theorem rangeStep_ok {x : List Char} {rs sd} {b : Bounds} {e1 x1 st e ex : Nat}
    (h : rangeStep x rs sd b e1 x1 = .ok (st, e, ex)) :
    (ex = 0 ∨ (ex = x1 ∧ st ≤ 1)) ∧ (e = e1 ∨ e = b.max) := by
  rcases rangeStep_inv h with ⟨_, -, rfl, rfl, rfl⟩ | ⟨_, _, -, -, rfl, rfl⟩
  · exact ⟨Or.inr ⟨rfl, Nat.le_refl _⟩, Or.inl rfl⟩
  · constructor
    · split
      · exact Or.inl rfl
      · exact Or.inr ⟨rfl, by omega⟩
    · cases sd
      · exact Or.inl rfl
      · exact Or.inr rfl

/-- an accepted range expression: bits `start, start+step, … ≤ end` within the bounds, plus the star bit only together
with the full range in steps of one -/
theorem getRange_ok {x : List Char} {b : Bounds} {m : Nat} (h : getRange x b = .ok m) :
    ∃ s e st ex, b.min ≤ s ∧ s ≤ e ∧ e ≤ b.max ∧ 1 ≤ st ∧
      (ex = 0 ∨ (ex = starBit ∧ s = b.min ∧ e = b.max ∧ st = 1)) ∧ m = getBits s e st ||| ex := by
  obtain ⟨s, e1, x1, st, e, ex, hb, hs, hc⟩ := getRange_inv h
  obtain ⟨c1, c2, c3, c4, rfl⟩ := rangeCheck_inv hc
  refine ⟨s, e, st, ex, c1, c3, c2, Nat.pos_of_ne_zero c4, ?_, rfl⟩
  obtain ⟨hx, he⟩ := rangeStep_ok hs
  rcases hx with h0 | ⟨rfl, hst⟩
  · exact Or.inl h0
  · rcases rangeBase_ok hb with h0 | ⟨hx1, hs1, he1⟩
    · exact Or.inl h0
    · exact Or.inr ⟨hx1, hs1, by omega, by omega⟩


theorem getFieldAux_err {b : Bounds} : ∀ {es : List (List Char)} {bits : Nat} {e : Err},
    getFieldAux b es bits = .error e → fieldErr e = true
  | [], _, _, h => by simp [getFieldAux] at h
  | x :: xs, bits, e, h => by
    unfold getFieldAux at h
    split at h
    · cases h
      exact getRange_err ‹_›
    · exact getFieldAux_err h

theorem getField_err {f : List Char} {b : Bounds} {e : Err} (h : getField f b = .error e) : fieldErr e = true :=
  getFieldAux_err h


/-! ### `Parser.Parse`: its error classes, its panic, and the guard of `checkCron` -/

theorem parseFields_err {loc : Loc} {f1 f2 f3 f4 f5 : List Char} {e : Err}
    (h : parseFields loc ["0".toList, f1, f2, f3, f4, f5] = .error e) : fieldErr e = true := by
  unfold parseFields at h
  repeat' split at h
  all_goals first | (cases h; done) | skip
  all_goals
    cases h
    rename_i he
    exact getField_err he

theorem length_five {α} {l : List α} (h : l.length = 5) : ∃ a b c d e, l = [a, b, c, d, e] := by
  match l, h with
  | [a, b, c, d, e], _ => exact ⟨a, b, c, d, e, rfl⟩

theorem splitZone_error {zk} {spec : List Char} {e : Err} (h : splitZone zk spec = .error e) :
    tzPrefix spec = true ∧ ((e = .slicePanic ∧ cutZone spec = none) ∨ ∃ z, e = .badLocation z) := by
  unfold splitZone at h
  split at h
  · rename_i htz
    refine ⟨htz, ?_⟩
    split at h
    · cases h; exact Or.inl ⟨rfl, ‹_›⟩
    · split at h <;> cases h
      exact Or.inr ⟨_, rfl⟩
  · cases h

theorem parseL_cases {zk} {spec : List Char} {r : Except Err Sched} (h : parseL zk spec = r) :
    r = .error .empty ∨
    (∃ e, splitZone zk spec = .error e ∧ r = .error e) ∨
    (∃ loc rest, splitZone zk spec = .ok (loc, rest) ∧
      (r = .error (.noDescriptors rest) ∨
       ((fieldsBy isSpace rest).length ≠ 5 ∧
         r = .error (.fieldCountExact 5 (fieldsBy isSpace rest).length (fieldsBy isSpace rest))) ∨
       ∃ f1 f2 f3 f4 f5, fieldsBy isSpace rest = [f1, f2, f3, f4, f5] ∧
         r = parseFields loc ["0".toList, f1, f2, f3, f4, f5])) := by
  unfold parseL normalizeFields at h
  split at h
  · exact Or.inl h.symm
  · right
    split at h
    · exact Or.inl ⟨_, ‹_›, h.symm⟩
    · rename_i loc rest hz
      refine Or.inr ⟨loc, rest, hz, ?_⟩
      split at h
      · exact Or.inl h.symm
      · right
        by_cases h5 : (fieldsBy isSpace rest).length = 5
        · obtain ⟨a, b, c, d, e, hf⟩ := length_five h5
          exact Or.inr ⟨a, b, c, d, e, hf, by rw [← h, hf]; rfl⟩
        · exact Or.inl ⟨h5, by rw [← h, if_neg h5]⟩

/-- the error classes `Parser.Parse` can come back with under the option set of `checkCron`: the classes
`multipleOptionals`, `fieldCountRange`, `unknownOptional`, `badDuration`, `unrecognizedDescriptor` never occur -/
theorem parseL_error_classes {zk} {spec : List Char} {e : Err} (h : parseL zk spec = .error e) :
    e = .empty ∨ e = .slicePanic ∨ (∃ z, e = .badLocation z) ∨ (∃ s, e = .noDescriptors s) ∨
    (∃ n fs, e = .fieldCountExact 5 n fs ∧ n ≠ 5 ∧ n = fs.length) ∨ fieldErr e = true := by
  rcases parseL_cases h with h | ⟨e', hz, h⟩ | ⟨loc, rest, -, h | ⟨hn, h⟩ | ⟨f1, f2, f3, f4, f5, -, h⟩⟩
  · cases h; exact Or.inl rfl
  · cases h
    rcases (splitZone_error hz).2 with ⟨rfl, -⟩ | hb
    · exact Or.inr (Or.inl rfl)
    · exact Or.inr (Or.inr (Or.inl hb))
  · cases h; exact Or.inr (Or.inr (Or.inr (Or.inl ⟨_, rfl⟩)))
  · cases h; exact Or.inr (Or.inr (Or.inr (Or.inr (Or.inl ⟨_, _, rfl, hn, rfl⟩))))
  · exact Or.inr (Or.inr (Or.inr (Or.inr (Or.inr (parseFields_err h.symm)))))

/-- robfig's parser panics exactly on a zone prefix without a blank -/
theorem parseL_panic_iff {zk} {spec : List Char} :
    parseL zk spec = .error .slicePanic ↔ (tzPrefix spec = true ∧ ' ' ∉ spec) := by
  constructor
  · intro h
    rcases parseL_cases h with h | ⟨e', hz, h⟩ | ⟨loc, rest, -, h | ⟨-, h⟩ | ⟨f1, f2, f3, f4, f5, -, h⟩⟩
    · cases h
    · cases h
      obtain ⟨htz, ⟨-, hc⟩ | ⟨z, hb⟩⟩ := splitZone_error hz
      · exact ⟨htz, fun hm => by simpa [hc] using (cutZone_isSome_iff htz).mpr hm⟩
      · cases hb
    · cases h
    · cases h
    · cases parseFields_err h.symm
  · intro ⟨htz, hn⟩
    have hne : spec ≠ [] := by rintro rfl; exact absurd htz (by decide)
    have hc : cutZone spec = none := by rwa [← Option.not_isSome_iff_eq_none, cutZone_isSome_iff htz]
    simp [parseL, hne, splitZone, htz, hc]

theorem guard_eq {spec : List Char} : AL.Cron.guard spec = true ↔ (tzPrefix spec = true ∧ ' ' ∉ spec) := by
  simp [AL.Cron.guard]


/-! ### bit masks -/

theorem testBit_maskOf (p : Nat → Bool) : ∀ (n i : Nat), (maskOf p n).testBit i = (decide (i < n) && p i)
  | 0, i => by simp [maskOf]
  | n + 1, i => by
    rw [maskOf, Nat.testBit_or, testBit_maskOf p n i]
    by_cases hi : i = n
    · subst hi; cases hp : p i <;> simp [hp]
    · have e : i < n + 1 ↔ i < n := by omega
      cases hp : p n <;> simp [hp, Nat.testBit_two_pow, Ne.symm hi, e]

/-- `getBits`: bit `i` is set iff `lo ≤ i ≤ hi` and `i - lo` is a multiple of the step -/
theorem testBit_getBits (lo hi step i : Nat) :
    (getBits lo hi step).testBit i = (decide (i ≤ hi) && decide (lo ≤ i) && ((i - lo) % step == 0)) := by
  rw [getBits, testBit_maskOf, Bool.and_assoc]
  simp only [Nat.lt_succ_iff]

theorem testBit_starBit (i : Nat) : starBit.testBit i = decide (i = 63) := by
  rw [starBit, Nat.testBit_two_pow, decide_eq_decide]
  exact eq_comm



/-! ### accepted fields, parsed schedules, the day rule -/

/-- a field mask as the parser builds it: values within the bounds of the field (and possibly the star bit), and the star
bit only together with every value of the field -/
structure MaskOK (b : Bounds) (m : Nat) : Prop where
  inRange : ∀ i, m.testBit i = true → (b.min ≤ i ∧ i ≤ b.max) ∨ i = 63
  starFull : m.testBit 63 = true → ∀ i, b.min ≤ i → i ≤ b.max → m.testBit i = true

theorem maskOK_zero (b : Bounds) : MaskOK b 0 := ⟨by simp, by simp⟩

theorem maskOK_or {b : Bounds} {m n : Nat} (hm : MaskOK b m) (hn : MaskOK b n) : MaskOK b (m ||| n) := by
  constructor
  · intro i hi
    rw [Nat.testBit_or, Bool.or_eq_true] at hi
    exact hi.elim (hm.inRange i) (hn.inRange i)
  · intro h i h1 h2
    rw [Nat.testBit_or, Bool.or_eq_true] at h ⊢
    exact h.imp (hm.starFull · i h1 h2) (hn.starFull · i h1 h2)

theorem getRange_maskOK {x : List Char} {b : Bounds} {m : Nat} (hb : b.max < 63) (h : getRange x b = .ok m) : MaskOK b m := by
  obtain ⟨s, e, st, ex, h1, h2, h3, h4, h5, rfl⟩ := getRange_ok h
  constructor
  · intro i hi
    rw [Nat.testBit_or, Bool.or_eq_true, testBit_getBits] at hi
    rcases hi with hi | hi
    · simp only [Bool.and_eq_true, decide_eq_true_eq] at hi
      left; omega
    · rcases h5 with rfl | ⟨rfl, -⟩
      · simp at hi
      · rw [testBit_starBit] at hi; right; simpa using hi
  · intro hstar i hi1 hi2
    rw [Nat.testBit_or, Bool.or_eq_true, testBit_getBits] at hstar
    rcases hstar with hs | hs
    · simp only [Bool.and_eq_true, decide_eq_true_eq] at hs
      omega
    · rcases h5 with rfl | ⟨-, rfl, rfl, rfl⟩
      · simp at hs
      · rw [Nat.testBit_or, Bool.or_eq_true, testBit_getBits]
        left
        simp [hi1, hi2, Nat.mod_one]

theorem getFieldAux_maskOK {b : Bounds} (hb : b.max < 63) : ∀ {es : List (List Char)} {bits m : Nat},
    MaskOK b bits → getFieldAux b es bits = .ok m → MaskOK b m
  | [], bits, m, h0, h => by
    cases h; exact h0
  | x :: xs, bits, m, h0, h => by
    unfold getFieldAux at h
    split at h
    · cases h
    · exact getFieldAux_maskOK hb (maskOK_or h0 (getRange_maskOK hb ‹_›)) h

/-- every accepted field denotes values within its bounds; the star bit comes with the full range -/
theorem getField_maskOK {f : List Char} {b : Bounds} {m : Nat} (hb : b.max < 63) (h : getField f b = .ok m) : MaskOK b m :=
  getFieldAux_maskOK hb (maskOK_zero b) h

/-- a schedule as `Parser.Parse` builds it -/
structure SchedOK (sc : Sched) : Prop where
  second : sc.second = 1
  minute : MaskOK minutes sc.minute
  hour : MaskOK hours sc.hour
  dom : MaskOK dom sc.dom
  month : MaskOK months sc.month
  dow : MaskOK dow sc.dow

theorem second_field : getField "0".toList seconds = .ok 1 := by rfl

theorem parseFields_ok {loc : Loc} {f1 f2 f3 f4 f5 : List Char} {sc : Sched}
    (h : parseFields loc ["0".toList, f1, f2, f3, f4, f5] = .ok sc) :
    sc.loc = loc ∧ getField f1 minutes = .ok sc.minute ∧ getField f2 hours = .ok sc.hour ∧
    getField f3 AL.Cron.dom = .ok sc.dom ∧ getField f4 months = .ok sc.month ∧ getField f5 AL.Cron.dow = .ok sc.dow ∧ sc.second = 1 := by
  simp only [parseFields, second_field] at h
  repeat' split at h
  all_goals first | (cases h; done) | skip
  cases h
  exact ⟨rfl, ‹_›, ‹_›, ‹_›, ‹_›, ‹_›, rfl⟩

/-- what `Parser.Parse` accepts is five fields separated by blanks, each accepted by `getField` for its bounds -/
theorem parseL_ok {zk} {spec : List Char} {sc : Sched} (h : parseL zk spec = .ok sc) :
    ∃ loc rest f1 f2 f3 f4 f5, splitZone zk spec = .ok (loc, rest) ∧ fieldsBy isSpace rest = [f1, f2, f3, f4, f5] ∧
      sc.loc = loc ∧ getField f1 minutes = .ok sc.minute ∧ getField f2 hours = .ok sc.hour ∧
      getField f3 AL.Cron.dom = .ok sc.dom ∧ getField f4 months = .ok sc.month ∧ getField f5 AL.Cron.dow = .ok sc.dow ∧ sc.second = 1 := by
  rcases parseL_cases h with h | ⟨e', -, h⟩ | ⟨loc, rest, hz, h | ⟨-, h⟩ | ⟨f1, f2, f3, f4, f5, hf, h⟩⟩
  · cases h
  · cases h
  · cases h
  · cases h
  · exact ⟨loc, rest, f1, f2, f3, f4, f5, hz, hf, parseFields_ok h.symm⟩

theorem parseL_schedOK {zk} {spec : List Char} {sc : Sched} (h : parseL zk spec = .ok sc) : SchedOK sc := by
  obtain ⟨loc, rest, f1, f2, f3, f4, f5, -, -, -, h1, h2, h3, h4, h5, h0⟩ := parseL_ok h
  exact ⟨h0, getField_maskOK (by decide) h1, getField_maskOK (by decide) h2, getField_maskOK (by decide) h3,
    getField_maskOK (by decide) h4, getField_maskOK (by decide) h5⟩

theorem weekday_lt (y m d : Nat) : weekday y m d < 7 := by
  unfold weekday; omega

/-- the day rule on a parsed schedule: a star in the day-of-month field leaves the day of the week alone to decide … -/
theorem dayMatches_star_dom {sc : Sched} (h : SchedOK sc) (hs : sc.dom.testBit 63 = true) {y m d : Nat} (h1 : 1 ≤ d) (h2 : d ≤ 31) :
    dayMatches sc y m d = sc.dow.testBit (weekday y m d) := by
  have := h.dom.starFull hs d h1 h2
  simp [dayMatches, hs, this]

/-- … and a star in the day-of-week field the day of the month -/
theorem dayMatches_star_dow {sc : Sched} (h : SchedOK sc) (hs : sc.dow.testBit 63 = true) {y m d : Nat} :
    dayMatches sc y m d = sc.dom.testBit d := by
  have hw := weekday_lt y m d
  have := h.dow.starFull hs (weekday y m d) (Nat.zero_le _) (by show weekday y m d ≤ 6; omega)
  simp [dayMatches, hs, this]

/-- without any star the two fields are alternatives -/
theorem dayMatches_no_star {sc : Sched} (h1 : sc.dom.testBit 63 = false) (h2 : sc.dow.testBit 63 = false) {y m d : Nat} :
    dayMatches sc y m d = (sc.dom.testBit d || sc.dow.testBit (weekday y m d)) := by
  simp [dayMatches, h1, h2]


/-! ### numerals -/

/-- the value of a string of decimal digits, continuing from `n` -/
def digitsValue : List Char → Nat → Nat
  | [], n => n
  | c :: cs, n => digitsValue cs (n * 10 + (c.toNat - 48))

/-- a non-negative decimal numeral the way `strconv.Atoi` reads it: an optional `+`, then one or more ASCII digits
(leading zeros allowed, no `_`, no blanks) -/
inductive Numeral : List Char → Nat → Prop
  | plain {ds : List Char} : ds ≠ [] → (∀ c ∈ ds, c.isDigit = true) → Numeral ds (digitsValue ds 0)
  | plus {ds : List Char} : ds ≠ [] → (∀ c ∈ ds, c.isDigit = true) → Numeral ('+' :: ds) (digitsValue ds 0)

theorem digitsValue_ge : ∀ (ds : List Char) (n : Nat), n ≤ digitsValue ds n
  | [], n => Nat.le_refl _
  | c :: cs, n => by
    have := digitsValue_ge cs (n * 10 + (c.toNat - 48))
    show n ≤ digitsValue cs (n * 10 + (c.toNat - 48))
    omega

theorem parseUintAux_ok_iff : ∀ {ds : List Char} {n v : Nat}, parseUintAux ds n = .ok v ↔
    ((∀ c ∈ ds, c.isDigit = true) ∧ digitsValue ds n = v ∧ (ds = [] ∨ v < 2 ^ 64))
  | [], n, v => by simp [parseUintAux, digitsValue]
  | c :: cs, n, v => by
    have hge := digitsValue_ge cs (n * 10 + (c.toNat - 48))
    simp only [parseUintAux, digitsValue, List.mem_cons, forall_eq_or_imp, reduceCtorEq, false_or]
    by_cases hc : c.isDigit = true
    · by_cases hov : n * 10 + (c.toNat - 48) ≥ 2 ^ 64
      · simp only [hc, hov, if_true, reduceCtorEq, false_iff]
        omega
      · simp only [hc, hov, if_true, if_false, true_and, parseUintAux_ok_iff (ds := cs)]
        constructor
        · rintro ⟨h1, h2, rfl | h3⟩
          · exact ⟨h1, h2, by rw [← h2]; exact Nat.lt_of_not_le hov⟩
          · exact ⟨h1, h2, h3⟩
        · exact fun ⟨h1, h2, h3⟩ => ⟨h1, h2, Or.inr h3⟩
    · simp [hc]

theorem parseUint_ok_iff {ds : List Char} {v : Nat} : parseUint ds = .ok v ↔
    (ds ≠ [] ∧ (∀ c ∈ ds, c.isDigit = true) ∧ digitsValue ds 0 = v ∧ v < 2 ^ 64) := by
  unfold parseUint
  by_cases h : ds = []
  · simp [h]
  · simp only [h, if_false, parseUintAux_ok_iff, false_or, ne_eq, not_false_eq_true, true_and]

theorem not_digit_plus : ('+' : Char).isDigit = false := by decide
theorem not_digit_minus : ('-' : Char).isDigit = false := by decide

/-- the digits of a numeral: what follows an optional plus sign -/
def body : List Char → List Char
  | '+' :: r => r
  | l => l

theorem body_plus (r : List Char) : body ('+' :: r) = r := rfl

theorem body_other {l : List Char} (h : ¬ ∃ r, l = '+' :: r) : body l = l := by
  unfold body
  split
  · exact absurd ⟨_, rfl⟩ h
  · rfl

theorem numeral_iff {l : List Char} {v : Nat} :
    Numeral l v ↔ (body l ≠ [] ∧ (∀ c ∈ body l, c.isDigit = true) ∧ digitsValue (body l) 0 = v) := by
  constructor
  · rintro (⟨h1, h2⟩ | ⟨h1, h2⟩)
    · rw [body_other fun ⟨r, hr⟩ => by simpa [hr, not_digit_plus] using h2 '+']
      exact ⟨h1, h2, rfl⟩
    · exact ⟨h1, h2, rfl⟩
  · rintro ⟨h1, h2, rfl⟩
    by_cases hp : ∃ r, l = '+' :: r
    · obtain ⟨r, rfl⟩ := hp
      exact .plus h1 h2
    · rw [body_other hp] at h1 h2 ⊢
      exact .plain h1 h2

theorem atoi_form {l : List Char} (hl : l.head? ≠ some '-') :
    atoi l = match parseUint (body l) with
      | .error e => .error e
      | .ok u => if u < 2 ^ 63 then .ok (u : Int) else .error .range := by
  by_cases hp : ∃ r, l = '+' :: r
  · obtain ⟨r, rfl⟩ := hp
    rw [body_plus]
    rfl
  · rw [body_other hp]
    unfold atoi
    split
    · exact absurd ⟨_, rfl⟩ hp
    · simp at hl
    · rfl

/-- `mustParseInt` on a string that does not start with a minus sign accepts exactly the numerals below 2^63 -/
theorem mustParseInt_ok_iff {l : List Char} {v : Nat} (hl : l.head? ≠ some '-') :
    mustParseInt l = .ok v ↔ (Numeral l v ∧ v < 2 ^ 63) := by
  have key : (Numeral l v ∧ v < 2 ^ 63) ↔ (parseUint (body l) = .ok v ∧ v < 2 ^ 63) :=
    and_congr_left fun hv => by
      rw [numeral_iff, parseUint_ok_iff]
      exact ⟨fun ⟨a, b, c⟩ => ⟨a, b, c, by omega⟩, fun ⟨a, b, c, _⟩ => ⟨a, b, c⟩⟩
  rw [key, mustParseInt, atoi_form hl]
  cases parseUint (body l) with
  | error e => simp
  | ok u =>
    by_cases hu : u < 2 ^ 63
    · have : ¬ ((u : Int) < 0) := by omega
      simp only [hu, this, if_true, if_false, Int.toNat_natCast, Except.ok.injEq]
      constructor
      · rintro rfl; exact ⟨rfl, hu⟩
      · exact fun h => h.1
    · simp only [hu, if_false, reduceCtorEq, false_iff, Except.ok.injEq]
      rintro ⟨rfl, h⟩; exact hu h

/-- behind a minus sign only zero gets through (`-0`, `-00`, …) -/
theorem mustParseInt_minus {r : List Char} {v : Nat} (h : mustParseInt ('-' :: r) = .ok v) : v = 0 := by
  have ha : atoi ('-' :: r) = match parseUint r with
      | .error e => .error e
      | .ok u => if u ≤ 2 ^ 63 then .ok (-(u : Int)) else .error .range := rfl
  unfold mustParseInt at h
  rw [ha] at h
  cases hp : parseUint r with
  | error e => simp [hp] at h
  | ok u =>
    simp only [hp] at h
    by_cases hu : u ≤ 2 ^ 63
    · simp only [hu, if_true] at h
      by_cases h0 : (-(u : Int)) < 0
      · simp only [h0, if_true] at h; cases h
      · simp only [h0, if_false, Except.ok.injEq] at h
        omega
    · simp only [hu, if_false] at h; cases h

/-- a step (a number that has to be positive) is a numeral between 1 and 2^63 - 1 -/
theorem mustParseInt_pos_iff {l : List Char} {v : Nat} (hv : 1 ≤ v) :
    mustParseInt l = .ok v ↔ (Numeral l v ∧ v < 2 ^ 63) := by
  by_cases hl : l.head? = some '-'
  · obtain ⟨r, rfl⟩ : ∃ r, l = '-' :: r := by
      cases l with
      | nil => cases hl
      | cons c r => exact ⟨r, by simpa using hl⟩
    constructor
    · intro h
      have := mustParseInt_minus h
      omega
    · rintro ⟨⟨h1, h2⟩ | _, -⟩
      simpa [not_digit_minus] using h2 '-'
  · exact mustParseInt_ok_iff hl


/-! ### names and values -/

theorem isDigit_iff {c : Char} : c.isDigit = true ↔ (48 ≤ c.toNat ∧ c.toNat ≤ 57) := by
  simp [Char.isDigit, UInt32.le_iff_toNat_le]

/-- the characters a numeral is made of: digits and the plus sign -/
def numChar (c : Char) : Prop := (48 ≤ c.toNat ∧ c.toNat ≤ 57) ∨ c.toNat = 43

theorem lowerChar_numChar {c : Char} (h : numChar c) : lowerChar c = c := by
  unfold numChar at h
  rw [lowerChar, if_neg (by omega), if_neg (by omega), if_neg (by omega)]

theorem numeral_chars {l : List Char} {v : Nat} (h : Numeral l v) : l ≠ [] ∧ ∀ c ∈ l, numChar c := by
  cases h with
  | plain h1 h2 => exact ⟨h1, fun c hc => Or.inl (isDigit_iff.mp (h2 c hc))⟩
  | plus h1 h2 =>
    refine ⟨by simp, fun c hc => ?_⟩
    rcases List.mem_cons.mp hc with rfl | hc
    · right; decide
    · exact Or.inl (isDigit_iff.mp (h2 c hc))

/-- a table of names: lower-case ASCII letters only, no name twice -/
structure WellNamed (b : Bounds) : Prop where
  letters : ∀ e ∈ b.names, ∀ c ∈ e.1, 97 ≤ c.toNat ∧ c.toNat ≤ 122
  distinct : b.names.Pairwise fun a c => a.1 ≠ c.1

theorem lookupName_some_iff {names : List (List Char × Nat)} (hd : names.Pairwise fun a c => a.1 ≠ c.1) {key : List Char} {v : Nat} :
    lookupName names key = some v ↔ ∃ e ∈ names, e.1 = key ∧ e.2 = v := by
  unfold lookupName
  induction names with
  | nil => simp
  | cons e es ih =>
    rw [List.pairwise_cons] at hd
    by_cases he : e.1 = key
    · simp only [List.find?_cons, he, decide_true, Option.map_some, Option.some.injEq, List.mem_cons, exists_eq_or_imp, true_and]
      constructor
      · intro h; exact Or.inl h
      · intro h
        rcases h with h | ⟨e', he', hk, _⟩
        · exact h
        · exact absurd (he.trans hk.symm) (hd.1 e' he')
    · simp only [List.find?_cons, List.mem_cons, exists_eq_or_imp, he, false_and, false_or]
      exact ih hd.2

theorem lookupName_none_iff {names : List (List Char × Nat)} {key : List Char} :
    lookupName names key = none ↔ ∀ e ∈ names, e.1 ≠ key := by
  unfold lookupName
  simp [List.find?_eq_none]

/-- a value of a field: one of its names in any mix of cases (as far as `unicode.ToLower` goes), or a numeral -/
def Value (b : Bounds) (l : List Char) (v : Nat) : Prop :=
  (∃ e ∈ b.names, e.1 = lower l ∧ e.2 = v) ∨ (Numeral l v ∧ v < 2 ^ 63)

theorem numeral_not_name {b : Bounds} (wn : WellNamed b) {l : List Char} {v : Nat} (h : Numeral l v) :
    ∀ e ∈ b.names, e.1 ≠ lower l := by
  intro e he heq
  obtain ⟨hne, hc⟩ := numeral_chars h
  cases l with
  | nil => exact hne rfl
  | cons c r =>
    have hcn := hc c List.mem_cons_self
    have : lowerChar c ∈ e.1 := by rw [heq]; simp [lower]
    have := wn.letters e he _ this
    rw [lowerChar_numChar hcn] at this
    unfold numChar at hcn
    omega

theorem parseIntOrName_ok_iff {b : Bounds} (wn : WellNamed b) {l : List Char} {v : Nat} (hl : l.head? ≠ some '-') :
    parseIntOrName l b.names = .ok v ↔ Value b l v := by
  unfold parseIntOrName Value
  split
  · rename_i w hw
    obtain ⟨e, he, hk, hv⟩ := (lookupName_some_iff wn.distinct).mp hw
    constructor
    · rintro ⟨⟩; exact Or.inl ⟨e, he, hk, hv⟩
    · rintro (h | ⟨hn, -⟩)
      · rw [(lookupName_some_iff wn.distinct).mpr h] at hw; cases hw; rfl
      · exact absurd hk (numeral_not_name wn hn e he)
  · rename_i hnone
    rw [mustParseInt_ok_iff hl]
    exact ⟨Or.inr, fun h => h.resolve_left fun ⟨e, he, hk, _⟩ => lookupName_none_iff.mp hnone e he hk⟩

/-- separators and wildcards are not changed by lower-casing -/
theorem lowerChar_special {c : Char} (h : c = '-' ∨ c = '/' ∨ c = ',' ∨ c = '*' ∨ c = '?') : lowerChar c = c := by
  rcases h with rfl | rfl | rfl | rfl | rfl <;> decide

/-- a value contains none of `- / , * ?` -/
theorem value_clean {b : Bounds} (wn : WellNamed b) {l : List Char} {v : Nat} (h : Value b l v) :
    ∀ c ∈ l, ¬ (c = '-' ∨ c = '/' ∨ c = ',' ∨ c = '*' ∨ c = '?') := by
  intro c hc hsp
  rcases h with ⟨e, he, hk, _⟩ | ⟨hn, _⟩
  · have : lowerChar c ∈ e.1 := by rw [hk]; exact List.mem_map_of_mem hc
    have h1 := wn.letters e he _ this
    rw [lowerChar_special hsp] at h1
    rcases hsp with rfl | rfl | rfl | rfl | rfl <;> simp at h1
  · have := (numeral_chars hn).2 c hc
    unfold numChar at this
    rcases hsp with rfl | rfl | rfl | rfl | rfl <;> simp at this

theorem wellNamed_minutes : WellNamed minutes := ⟨by simp [minutes], by simp [minutes]⟩
theorem wellNamed_hours : WellNamed hours := ⟨by simp [hours], by simp [hours]⟩
theorem wellNamed_dom : WellNamed AL.Cron.dom := ⟨by simp [AL.Cron.dom], by simp [AL.Cron.dom]⟩
theorem wellNamed_months : WellNamed months := ⟨by decide +kernel, by decide +kernel⟩
theorem wellNamed_dow : WellNamed AL.Cron.dow := ⟨by decide +kernel, by decide +kernel⟩


/-! ### the grammar of a range expression -/

/-- What may stand in front of the slash, with the range `start … end_` it denotes; `single` says that there is no hyphen
(then a step turns `N` into `N-max`):
  * `*` or `?` — and, an oddity of the parser, `*` or `?` followed by a hyphen and anything: what follows is ignored;
  * a value;
  * two values with a hyphen between them. -/
inductive Base (b : Bounds) : List Char → Nat → Nat → Bool → Prop
  | star {q : Char} : (q = '*' ∨ q = '?') → Base b [q] b.min b.max true
  | starJunk {q : Char} {junk : List Char} : (q = '*' ∨ q = '?') → '/' ∉ junk → Base b (q :: '-' :: junk) b.min b.max false
  | one {a : List Char} {v : Nat} : Value b a v → Base b a v v true
  | range {a c : List Char} {v w : Nat} : Value b a v → Value b c w → Base b (a ++ '-' :: c) v w false

/-- A range expression of a field: a base, within the bounds and in order, optionally followed by a slash and a step, a
numeral from 1 to 2^63-1. With a step a single value `N` stands for `N-max`. -/
inductive Piece (b : Bounds) : List Char → Prop
  | noStep {x : List Char} {s e : Nat} {single : Bool} : Base b x s e single →
      b.min ≤ s → s ≤ e → e ≤ b.max → Piece b x
  | step {x st : List Char} {s e k : Nat} {single : Bool} : Base b x s e single → Numeral st k → 1 ≤ k → k < 2 ^ 63 →
      b.min ≤ s → s ≤ (if single then b.max else e) → (if single then b.max else e) ≤ b.max → Piece b (x ++ '/' :: st)

theorem mem_headD {lh : List (List Char)} {low : List Char} (hne : lh ≠ []) (h : lh.headD [] = low) : ∃ rest, lh = low :: rest := by
  cases lh with
  | nil => exact absurd rfl hne
  | cons a rest => simp at h; exact ⟨rest, by rw [h]⟩

theorem noHyphen_head {l : List Char} (h : ∀ x ∈ l, (x == '-') = false) : l.head? ≠ some '-' := by
  cases l with
  | nil => simp
  | cons c r => simpa using h c List.mem_cons_self

theorem star_chars {q : Char} (hq : q = '*' ∨ q = '?') : (q == '-') = false ∧ (q == '/') = false := by
  rcases hq with rfl | rfl <;> decide

theorem value_plain {b : Bounds} (wn : WellNamed b) {l : List Char} {v : Nat} (h : Value b l v) :
    (∀ z ∈ l, (z == '-') = false) ∧ (∀ z ∈ l, (z == '/') = false) ∧ ¬ (l = ['*'] ∨ l = ['?']) := by
  have hcl := value_clean wn h
  refine ⟨fun z hz => beq_eq_false_iff_ne.mpr fun e => hcl z hz (Or.inl e),
    fun z hz => beq_eq_false_iff_ne.mpr fun e => hcl z hz (Or.inr (Or.inl e)), ?_⟩
  rintro (rfl | rfl)
  · exact hcl '*' List.mem_cons_self (by simp)
  · exact hcl '?' List.mem_cons_self (by simp)

theorem splitBy_length_cons (p : Char → Bool) (a r : List Char) : ((a :: splitBy p r).length == 1) = false := by
  cases h : splitBy p r with
  | nil => exact absurd h (splitBy_ne_nil p r)
  | cons _ _ => rfl

/-- forward: what `rangeBase` accepts is a base -/
theorem rangeBase_base {b : Bounds} (wn : WellNamed b) {x y : List Char} {s e1 x1 : Nat}
    (hy : ∀ c ∈ y, (c == '/') = false)
    (h : rangeBase x (splitBy (· == '-') y) b = .ok (s, e1, x1)) :
    Base b y s e1 ((splitBy (· == '-') y).length == 1) := by
  rcases rangeBase_inv h with ⟨hstar, rfl, rfl, -⟩ | ⟨-, ⟨a, hl, ha, rfl⟩ | ⟨a, c, hl, ha, hc⟩⟩
  · obtain ⟨q, hq, hq2⟩ : ∃ q, (q = '*' ∨ q = '?') ∧ (splitBy (· == '-') y).headD [] = [q] :=
      hstar.elim (fun h => ⟨_, Or.inl rfl, h⟩) (fun h => ⟨_, Or.inr rfl, h⟩)
    obtain ⟨rest, hlh⟩ := mem_headD (splitBy_ne_nil _ y) hq2
    rw [hlh]
    rcases (splitBy_cons_inv hlh).2 with ⟨rfl, rfl⟩ | ⟨c, r, hc, rfl, rfl⟩
    · exact .star hq
    · obtain rfl : c = '-' := by simpa using hc
      rw [splitBy_length_cons]
      exact .starJunk hq fun hm => by simpa using hy '/' (by simp [hm])
  · obtain ⟨rfl, hcl⟩ := splitBy_single hl
    rw [hl]
    exact .one ((parseIntOrName_ok_iff wn (noHyphen_head hcl)).mp ha)
  · obtain ⟨d, hd, rfl, hcla, hclc⟩ := splitBy_pair hl
    obtain rfl : d = '-' := by simpa using hd
    rw [hl]
    exact .range ((parseIntOrName_ok_iff wn (noHyphen_head hcla)).mp ha) ((parseIntOrName_ok_iff wn (noHyphen_head hclc)).mp hc)

/-- backward: a base is accepted by `rangeBase` -/
theorem base_rangeBase {b : Bounds} (wn : WellNamed b) {x y : List Char} {s e : Nat} {single : Bool} (h : Base b y s e single) :
    (∀ c ∈ y, (c == '/') = false) ∧ ((splitBy (· == '-') y).length == 1) = single ∧
    ∃ x1, rangeBase x (splitBy (· == '-') y) b = .ok (s, e, x1) := by
  cases h with
  | @star q hq =>
    have hsp : splitBy (· == '-') [q] = [[q]] := splitBy_clean (by simpa using (star_chars hq).1)
    rw [hsp]
    exact ⟨by simpa using (star_chars hq).2, rfl, _, rangeBase_star (by simpa using hq)⟩
  | @starJunk q junk hq hj =>
    have hsp : splitBy (· == '-') ([q] ++ '-' :: junk) = [q] :: splitBy (· == '-') junk :=
      splitBy_append (by decide) (by simpa using (star_chars hq).1)
    rw [show q :: '-' :: junk = [q] ++ '-' :: junk from rfl, hsp]
    refine ⟨?_, splitBy_length_cons _ _ _, _, rangeBase_star (by simpa using hq)⟩
    exact List.forall_mem_cons.mpr ⟨(star_chars hq).2, List.forall_mem_cons.mpr
      ⟨by decide, fun c hc => beq_eq_false_iff_ne.mpr fun e => hj (e ▸ hc)⟩⟩
  | one hv =>
    obtain ⟨h1, h2, h3⟩ := value_plain wn hv
    rw [splitBy_clean h1]
    exact ⟨h2, rfl, _, rangeBase_one h3 ((parseIntOrName_ok_iff wn (noHyphen_head h1)).mpr hv)⟩
  | @range a c _ _ hv hw =>
    obtain ⟨ha1, ha2, ha3⟩ := value_plain wn hv
    obtain ⟨hc1, hc2, -⟩ := value_plain wn hw
    rw [splitBy_append (by decide) ha1, splitBy_clean hc1]
    refine ⟨?_, rfl, _, rangeBase_two ha3 ((parseIntOrName_ok_iff wn (noHyphen_head ha1)).mpr hv)
      ((parseIntOrName_ok_iff wn (noHyphen_head hc1)).mpr hw)⟩
    exact List.forall_mem_append.mpr ⟨ha2, List.forall_mem_cons.mpr ⟨by decide, hc2⟩⟩

theorem numeral_noSlash {t : List Char} {k : Nat} (h : Numeral t k) : ∀ c ∈ t, (c == '/') = false := by
  intro c hc
  have := (numeral_chars h).2 c hc
  unfold numChar at this
  simp
  intro h0; subst h0
  simp at this

/-- forward: what `getRange` accepts is a range expression of the grammar -/
theorem getRange_piece {b : Bounds} (wn : WellNamed b) {x : List Char} {m : Nat} (h : getRange x b = .ok m) : Piece b x := by
  obtain ⟨s, e1, x1, st, e, ex, hb, hs, hck⟩ := getRange_inv h
  rcases rangeStep_inv hs with ⟨y, hy, -, rfl, -⟩ | ⟨y, t, hy, hk, rfl, -⟩ <;>
    simp only [hy, List.headD_cons] at hb hck <;> obtain ⟨c1, c2, c3, c4, -⟩ := rangeCheck_inv hck
  · obtain ⟨rfl, hcl⟩ := splitBy_single hy
    exact .noStep (rangeBase_base wn hcl hb) c1 c3 c2
  · obtain ⟨c, hc, rfl, hcl, -⟩ := splitBy_pair hy
    obtain rfl : c = '/' := by simpa using hc
    have hk1 := Nat.pos_of_ne_zero c4
    obtain ⟨hnum, hlt⟩ := (mustParseInt_pos_iff hk1).mp hk
    exact .step (rangeBase_base wn hcl hb) hnum hk1 hlt c1 c3 c2

/-- backward: a range expression of the grammar is accepted -/
theorem piece_getRange {b : Bounds} (wn : WellNamed b) {x : List Char} (h : Piece b x) : ∃ m, getRange x b = .ok m := by
  unfold getRange
  cases h with
  | @noStep _ s e single hb h1 h2 h3 =>
    obtain ⟨hcl, -, x1, hrb⟩ := base_rangeBase (x := x) wn hb
    simp only [splitBy_clean hcl, List.headD_cons, hrb, rangeStep_one, rangeCheck_ok h1 h3 h2 Nat.one_ne_zero]
    exact ⟨_, rfl⟩
  | @step y t s e k single hb hn hk1 hk2 h1 h2 h3 =>
    obtain ⟨hcl, hlen, x1, hrb⟩ := base_rangeBase (x := y ++ '/' :: t) wn hb
    simp only [splitBy_append (p := (· == '/')) (c := '/') (by decide) hcl, splitBy_clean (numeral_noSlash hn), List.headD_cons, hrb, hlen,
      rangeStep_two ((mustParseInt_pos_iff hk1).mpr ⟨hn, hk2⟩), rangeCheck_ok h1 h3 h2 (Nat.ne_of_gt hk1)]
    exact ⟨_, rfl⟩

/-- exactness of the grammar of a range expression, for every kind of field -/
theorem getRange_accepts_iff {b : Bounds} (wn : WellNamed b) {x : List Char} :
    (∃ m, getRange x b = .ok m) ↔ Piece b x :=
  ⟨fun ⟨_, h⟩ => getRange_piece wn h, piece_getRange wn⟩


/-! ### the grammar of a field -/

/-- A field: items separated by commas, each item empty (the parser skips empty items: `1,,2`, `,`) or a range expression. -/
inductive FieldG (b : Bounds) : List Char → Prop
  | last {e : List Char} : (e = [] ∨ Piece b e) → ',' ∉ e → FieldG b e
  | cons {e r : List Char} : (e = [] ∨ Piece b e) → ',' ∉ e → FieldG b r → FieldG b (e ++ ',' :: r)

theorem getFieldAux_ok_iff {b : Bounds} : ∀ {es : List (List Char)} {bits : Nat},
    (∃ m, getFieldAux b es bits = .ok m) ↔ ∀ e ∈ es, ∃ m, getRange e b = .ok m
  | [], bits => by simp [getFieldAux]
  | e :: es, bits => by
    unfold getFieldAux
    cases hr : getRange e b with
    | error err =>
      simp only [List.mem_cons, forall_eq_or_imp, hr]
      constructor
      · intro ⟨m, h⟩; cases h
      · intro ⟨⟨m, h⟩, _⟩; cases h
    | ok bit =>
      simp only [List.mem_cons, forall_eq_or_imp, hr]
      rw [getFieldAux_ok_iff (es := es)]
      constructor
      · intro h; exact ⟨⟨bit, rfl⟩, h⟩
      · intro ⟨_, h⟩; exact h

theorem noComma_iff {e : List Char} : (∀ x ∈ e, (x == ',') = false) ↔ ',' ∉ e := by
  constructor
  · intro h hm; have := h ',' hm; simp at this
  · intro h x hx; simp; intro hx'; subst hx'; exact h hx

theorem fieldG_of_split {b : Bounds} : ∀ (ps : List (List Char)) (f : List Char), splitBy (· == ',') f = ps →
    (∀ e ∈ ps, e = [] ∨ Piece b e) → FieldG b f
  | [], f, h, _ => absurd h (splitBy_ne_nil _ f)
  | a :: rest, f, h, hall => by
    obtain ⟨hcl, hr⟩ := splitBy_cons_inv h
    have ha := hall a List.mem_cons_self
    rcases hr with ⟨_, rfl⟩ | ⟨c, r, hc, rfl, hr⟩
    · exact .last ha (noComma_iff.mp hcl)
    · have hc' : c = ',' := by simpa using hc
      subst hc'
      exact .cons ha (noComma_iff.mp hcl) (fieldG_of_split rest r hr (fun e he => hall e (List.mem_cons_of_mem _ he)))

theorem split_of_fieldG {b : Bounds} {f : List Char} (h : FieldG b f) : ∀ e ∈ splitBy (· == ',') f, e = [] ∨ Piece b e := by
  induction h with
  | last he hc =>
    rw [splitBy_clean (noComma_iff.mpr hc)]
    intro e' he'
    simp at he'; subst he'; exact he
  | cons he hc _ ih =>
    rw [splitBy_append (by decide) (noComma_iff.mpr hc)]
    intro e' he'
    rcases List.mem_cons.mp he' with rfl | he'
    · exact he
    · exact ih e' he'

/-- EXACTNESS OF THE FIELD GRAMMAR, for every kind of field (minute, hour, day of month, month, day of week): `getField`
accepts a field iff it is a comma-separated list of range expressions of the grammar (empty items allowed). -/
theorem getField_accepts_iff {b : Bounds} (wn : WellNamed b) {f : List Char} :
    (∃ m, getField f b = .ok m) ↔ FieldG b f := by
  unfold getField
  rw [getFieldAux_ok_iff]
  unfold fieldsBy
  constructor
  · intro h
    apply fieldG_of_split _ f rfl
    intro e he
    by_cases he0 : e = []
    · exact Or.inl he0
    · right
      apply (getRange_accepts_iff wn).mp
      apply h
      simp [he, he0]
  · intro h e he
    simp only [List.mem_filter, Bool.not_eq_true', List.isEmpty_eq_false_iff] at he
    rcases split_of_fieldG h e he.1 with h0 | hp
    · exact absurd h0 he.2
    · exact (getRange_accepts_iff wn).mpr hp


/-! ### `Next` -/

theorem findFrom_some {α} {f : Nat → Option α} : ∀ {cnt lo : Nat} {a : α}, findFrom f lo cnt = some a →
    ∃ i, lo ≤ i ∧ i < lo + cnt ∧ f i = some a ∧ ∀ j, lo ≤ j → j < i → f j = none
  | 0, lo, a, h => by simp [findFrom] at h
  | cnt + 1, lo, a, h => by
    unfold findFrom at h
    split at h
    · rename_i b hb
      cases h
      exact ⟨lo, Nat.le_refl _, by omega, hb, fun j h1 h2 => by omega⟩
    · rename_i hb
      obtain ⟨i, h1, h2, h3, h4⟩ := findFrom_some h
      refine ⟨i, by omega, by omega, h3, fun j hj1 hj2 => ?_⟩
      by_cases hj : j = lo
      · subst hj; exact hb
      · exact h4 j (by omega) hj2

theorem findFrom_none {α} {f : Nat → Option α} : ∀ {cnt lo : Nat}, findFrom f lo cnt = none →
    ∀ j, lo ≤ j → j < lo + cnt → f j = none
  | 0, lo, _, j, h1, h2 => by omega
  | cnt + 1, lo, h, j, h1, h2 => by
    unfold findFrom at h
    split at h
    · cases h
    · rename_i hb
      by_cases hj : j = lo
      · subst hj; exact hb
      · exact findFrom_none h j (by omega) (by omega)

theorem findRange_some {α} {f : Nat → Option α} {lo hi : Nat} {a : α} (h : findRange lo hi f = some a) :
    ∃ i, lo ≤ i ∧ i ≤ hi ∧ f i = some a ∧ ∀ j, lo ≤ j → j < i → f j = none := by
  obtain ⟨i, h1, h2, h3, h4⟩ := findFrom_some h
  exact ⟨i, h1, by omega, h3, h4⟩

theorem findRange_none {α} {f : Nat → Option α} {lo hi : Nat} (h : findRange lo hi f = none) :
    ∀ j, lo ≤ j → j ≤ hi → f j = none := fun j h1 h2 => findFrom_none h j h1 (by omega)

/-- `c` is later than `t` on the calendar -/
def After (t c : Civil) : Prop :=
  t.y < c.y ∨ (t.y = c.y ∧ (t.mo < c.mo ∨ (t.mo = c.mo ∧ (t.d < c.d ∨ (t.d = c.d ∧
    (t.h < c.h ∨ (t.h = c.h ∧ (t.mi < c.mi ∨ (t.mi = c.mi ∧ t.s < c.s)))))))))

/-- a date and time of day that exists -/
structure ValidT (c : Civil) : Prop where
  y : 1 ≤ c.y
  mo1 : 1 ≤ c.mo
  mo2 : c.mo ≤ 12
  d1 : 1 ≤ c.d
  d2 : c.d ≤ daysIn c.y c.mo
  h : c.h ≤ 23
  mi : c.mi ≤ 59
  s : c.s ≤ 59

/-- `c` is a calendar time of the schedule -/
structure Fires (sc : Sched) (c : Civil) : Prop where
  valid : ValidT c
  month : sc.month.testBit c.mo = true
  day : dayMatches sc c.y c.mo c.d = true
  hour : sc.hour.testBit c.h = true
  minute : sc.minute.testBit c.mi = true
  second : sc.second.testBit c.s = true

/-- `r` is the first member of `S` in the order `lt`, or `none` when `S` is empty -/
def Earliest {α} (lt : α → α → Prop) (S : α → Prop) : Option α → Prop
  | none => ∀ c, ¬ S c
  | some a => S a ∧ ∀ b, S b → ¬ lt b a

/-- one loop of a lexicographic search: the order compares `key` first and `lt'` on equal keys, every member of `S` has its
key in `lo … hi`, and `f i` is the first member with key `i`: then the first hit of the loop is the first member -/
theorem earliest_findRange {α} {lt lt' : α → α → Prop} {S : α → Prop} (key : α → Nat) {f : Nat → Option α}
    {lo hi : Nat} (hlt : ∀ a b, lt a b ↔ key a < key b ∨ (key a = key b ∧ lt' a b))
    (hrange : ∀ c, S c → lo ≤ key c ∧ key c ≤ hi)
    (hf : ∀ i, lo ≤ i → i ≤ hi → Earliest lt' (fun c => S c ∧ key c = i) (f i)) :
    Earliest lt S (findRange lo hi f) := by
  cases h : findRange lo hi f with
  | none =>
    intro c hc
    obtain ⟨h1, h2⟩ := hrange c hc
    have := hf _ h1 h2
    rw [findRange_none h _ h1 h2] at this
    exact this c ⟨hc, rfl⟩
  | some a =>
    obtain ⟨i, h1, h2, h3, h4⟩ := findRange_some h
    have := hf i h1 h2
    rw [h3] at this
    obtain ⟨⟨ha, hk⟩, hmin⟩ := this
    refine ⟨ha, fun b hb hba => ?_⟩
    obtain ⟨b1, -⟩ := hrange b hb
    rcases (hlt b a).mp hba with hlt' | ⟨heq, hba'⟩
    · have := hf _ b1 (by omega)
      rw [h4 _ b1 (hk ▸ hlt')] at this
      exact this b ⟨hb, rfl⟩
    · exact hmin b ⟨hb, heq.trans hk⟩ hba'

/-- the test in front of an inner loop -/
theorem earliest_guard {α} {lt : α → α → Prop} {S : α → Prop} {p : Bool} {r : Option α} (hp : ∀ c, S c → p = true)
    (hr : p = true → Earliest lt S r) : Earliest lt S (if (!p) = true then none else r) := by
  cases p with
  | false => exact fun c hc => Bool.false_ne_true (hp c hc)
  | true => exact hr rfl

/-- the body of the innermost loop: `S` has at most the one member `a` -/
theorem earliest_point {α} {S : α → Prop} {p : Bool} {a : α} (hp : ∀ c, S c → p = true ∧ c = a) (ha : p = true → S a) :
    Earliest (fun _ _ => False) S (if p = true then some a else none) := by
  cases p with
  | false => exact fun c hc => Bool.false_ne_true (hp c hc).1
  | true => exact ⟨ha rfl, fun _ _ => id⟩

theorem le_of_ite_le {b : Bool} {a lo x : Nat} (ha : lo ≤ a) (h : (if b = true then a else lo) ≤ x) : lo ≤ x := by
  split at h <;> omega

/-- one level of the lexicographic order -/
theorem lex_level {b : Bool} {a lo x : Nat} {Q : Prop} (hb : b = true) (h : (if b = true then a else lo) ≤ x)
    (hq : (b && x == a) = true → Q) : a < x ∨ (a = x ∧ Q) := by
  rw [if_pos hb] at h
  exact (Nat.lt_or_eq_of_le h).imp_right fun h => ⟨h, hq (by simp [hb, h])⟩

theorem ite_le {b : Bool} {a lo x : Nat} (h1 : b = true → a ≤ x) (h2 : lo ≤ x) : (if b = true then a else lo) ≤ x := by
  split
  · exact h1 ‹_›
  · exact h2

theorem le_of_ite_pos {b : Bool} {a lo x : Nat} (h : (if b = true then a else lo) ≤ x) (hb : b = true) : a ≤ x := by
  rwa [if_pos hb] at h

/-- "later than `t`" the way the loops of `Next` use it: a unit is at least that of `t` while all outer units are those of
`t`, and the second is beyond -/
theorem after_bounds {t c : Civil} (h : After t c) :
    t.y ≤ c.y ∧ ((c.y == t.y) = true → t.mo ≤ c.mo) ∧ ((c.y == t.y && c.mo == t.mo) = true → t.d ≤ c.d) ∧
    ((c.y == t.y && c.mo == t.mo && c.d == t.d) = true → t.h ≤ c.h) ∧
    ((c.y == t.y && c.mo == t.mo && c.d == t.d && c.h == t.h) = true → t.mi ≤ c.mi) ∧
    ((c.y == t.y && c.mo == t.mo && c.d == t.d && c.h == t.h && c.mi == t.mi) = true → t.s + 1 ≤ c.s) := by
  simp only [Bool.and_eq_true, beq_iff_eq]
  unfold After at h
  refine ⟨?_, ?_, ?_, ?_, ?_, ?_⟩ <;> omega

/-- `SpecSchedule.Next`: the earliest time of the schedule after `t`, up to the end of the fifth year after that of `t + 1s`;
`none` when there is none. `After` is nested the way the loops are (`key a < key b ∨ (key a = key b ∧ lt' a b)`), so the
proof peels one loop per unit (`earliest_findRange`), with the order on the remaining units as the inner order. -/
theorem next_earliest (sc : Sched) {t : Civil} (ht : ValidT t) :
    Earliest After (fun c => Fires sc c ∧ After t c ∧ c.y ≤ yearOfSucc t + 5) (next sc t) := by
  unfold next
  refine earliest_findRange (·.y) (fun _ _ => Iff.rfl) ?_ fun y hy1 hy2 => ?_
  · rintro c ⟨-, ha, hw⟩
    exact ⟨(after_bounds ha).1, hw⟩
  refine earliest_findRange (·.mo) (fun _ _ => Iff.rfl) ?_ fun mo hm1 hm2 => earliest_guard ?_ fun hbm => ?_
  · rintro c ⟨⟨hf, ha, -⟩, rfl⟩
    exact ⟨ite_le (after_bounds ha).2.1 hf.valid.mo1, hf.valid.mo2⟩
  · rintro c ⟨⟨⟨hf, -⟩, -⟩, rfl⟩
    exact hf.month
  refine earliest_findRange (·.d) (fun _ _ => Iff.rfl) ?_ fun d hd1 hd2 => earliest_guard ?_ fun hbd => ?_
  · rintro c ⟨⟨⟨hf, ha, -⟩, rfl⟩, rfl⟩
    exact ⟨ite_le (after_bounds ha).2.2.1 hf.valid.d1, hf.valid.d2⟩
  · rintro c ⟨⟨⟨⟨hf, -⟩, rfl⟩, rfl⟩, rfl⟩
    exact hf.day
  refine earliest_findRange (·.h) (fun _ _ => Iff.rfl) ?_ fun h hh1 hh2 => earliest_guard ?_ fun hbh => ?_
  · rintro c ⟨⟨⟨⟨hf, ha, -⟩, rfl⟩, rfl⟩, rfl⟩
    exact ⟨ite_le (after_bounds ha).2.2.2.1 (Nat.zero_le _), hf.valid.h⟩
  · rintro c ⟨⟨⟨⟨⟨hf, -⟩, -⟩, -⟩, -⟩, rfl⟩
    exact hf.hour
  refine earliest_findRange (·.mi) (fun _ _ => Iff.rfl) ?_ fun mi hmi1 hmi2 => earliest_guard ?_ fun hbmi => ?_
  · rintro c ⟨⟨⟨⟨⟨hf, ha, -⟩, rfl⟩, rfl⟩, rfl⟩, rfl⟩
    exact ⟨ite_le (after_bounds ha).2.2.2.2.1 (Nat.zero_le _), hf.valid.mi⟩
  · rintro c ⟨⟨⟨⟨⟨⟨hf, -⟩, -⟩, -⟩, -⟩, -⟩, rfl⟩
    exact hf.minute
  refine earliest_findRange (·.s) (fun _ _ => ⟨Or.inl, fun h => h.elim id fun h => h.2.elim⟩) ?_ fun s hs1 hs2 =>
    earliest_point ?_ fun hbs => ?_
  · rintro c ⟨⟨⟨⟨⟨⟨hf, ha, -⟩, rfl⟩, rfl⟩, rfl⟩, rfl⟩, rfl⟩
    exact ⟨ite_le (after_bounds ha).2.2.2.2.2 (Nat.zero_le _), hf.valid.s⟩
  · rintro c ⟨⟨⟨⟨⟨⟨⟨hf, -⟩, rfl⟩, rfl⟩, rfl⟩, rfl⟩, rfl⟩, rfl⟩
    exact ⟨hf.second, rfl⟩
  -- the time the six loops have arrived at is a member: it exists, its units passed the tests, it is after `t`
  exact ⟨⟨⟨⟨⟨⟨⟨⟨⟨Nat.le_trans ht.y hy1, le_of_ite_le ht.mo1 hm1, hm2, le_of_ite_le ht.d1 hd1, hd2, hh2, hmi2, hs2⟩,
      hbm, hbd, hbh, hbmi, hbs⟩,
    (Nat.lt_or_eq_of_le hy1).imp_right fun e1 => ⟨e1, lex_level (beq_iff_eq.mpr e1.symm) hm1 fun e2 => lex_level e2 hd1 fun e3 =>
      lex_level e3 hh1 fun e4 => lex_level e4 hmi1 fun e5 => le_of_ite_pos hs1 e5⟩,
    hy2⟩, rfl⟩, rfl⟩, rfl⟩, rfl⟩, rfl⟩, rfl⟩

/-- what `Next` returns is a calendar time of the schedule, later than `t`, at most five years after the year of `t + 1s` -/
theorem next_sound {sc : Sched} {t c : Civil} (ht : ValidT t) (h : next sc t = some c) :
    ValidT c ∧ After t c ∧ c.y ≤ yearOfSucc t + 5 ∧
    sc.month.testBit c.mo = true ∧ dayMatches sc c.y c.mo c.d = true ∧ sc.hour.testBit c.h = true ∧
    sc.minute.testBit c.mi = true ∧ sc.second.testBit c.s = true := by
  have := next_earliest sc ht
  rw [h] at this
  obtain ⟨⟨⟨v, b1, b2, b3, b4, b5⟩, ha, hw⟩, -⟩ := this
  exact ⟨v, ha, hw, b1, b2, b3, b4, b5⟩

theorem lex_tri {x y : Nat} {P Q : Prop} (h1 : ¬ (x < y ∨ (x = y ∧ P))) (h2 : ¬ (y < x ∨ (y = x ∧ Q))) : x = y ∧ ¬ P ∧ ¬ Q := by
  rcases Nat.lt_trichotomy x y with h | h | h
  · exact absurd (Or.inl h) h1
  · exact ⟨h, fun p => h1 (Or.inr ⟨h, p⟩), fun q => h2 (Or.inr ⟨h.symm, q⟩)⟩
  · exact absurd (Or.inl h) h2

theorem after_total {a b : Civil} (h1 : ¬ After a b) (h2 : ¬ After b a) : a = b := by
  obtain ⟨e1, h1, h2⟩ := lex_tri h1 h2
  obtain ⟨e2, h1, h2⟩ := lex_tri h1 h2
  obtain ⟨e3, h1, h2⟩ := lex_tri h1 h2
  obtain ⟨e4, h1, h2⟩ := lex_tri h1 h2
  obtain ⟨e5, h1, h2⟩ := lex_tri h1 h2
  cases a
  cases b
  simp only [Civil.mk.injEq]
  exact ⟨e1, e2, e3, e4, e5, Nat.le_antisymm (Nat.not_lt.mp h2) (Nat.not_lt.mp h1)⟩

/-- how a value of `Next` is established: a time of the schedule after `t` in the window with none earlier -/
theorem next_eq {sc : Sched} {t c : Civil} (ht : ValidT t) (hc : Fires sc c) (ha : After t c) (hw : c.y ≤ yearOfSucc t + 5)
    (hmin : ∀ b, Fires sc b → After t b → ¬ After b c) : next sc t = some c := by
  have := next_earliest sc ht
  cases h : next sc t with
  | none =>
    rw [h] at this
    exact absurd ⟨hc, ha, hw⟩ (this c)
  | some a =>
    rw [h] at this
    rw [after_total (this.2 c ⟨hc, ha, hw⟩) (hmin a this.1.1 this.1.2.1)]


/-! ### the calendar is monotone -/

theorem daysUpTo_mono (y : Nat) : ∀ {m m' : Nat}, m ≤ m' → daysUpTo y m ≤ daysUpTo y m'
  | m, 0, h => by rw [Nat.le_zero.mp h]; exact Nat.le_refl _
  | m, m' + 1, h => by
    rcases Nat.lt_or_eq_of_le h with h | rfl
    · exact Nat.le_trans (daysUpTo_mono y (Nat.le_of_lt_succ h)) (Nat.le_add_right _ _)
    · exact Nat.le_refl _

theorem daysUpTo_twelve (y : Nat) : daysUpTo y 12 = 365 + (if isLeap y then 1 else 0) := by
  by_cases h : isLeap y = true <;> simp [daysUpTo, daysIn, h]

theorem mod_eq_zero_of_dvd_of_mod {y k m : Nat} (hd : k ∣ m) (h : y % m = 0) : y % k = 0 := by
  rw [← Nat.mod_mod_of_dvd y hd, h, Nat.zero_mod]

/-- the leap rule in numbers: leap = [4 ∣ y] - [100 ∣ y] + [400 ∣ y] -/
theorem leap_indicator (y : Nat) :
    (if isLeap y then 1 else 0) + (if 100 ∣ y then 1 else 0) = (if 4 ∣ y then 1 else 0) + (if 400 ∣ y then 1 else 0) ∧
    (if 100 ∣ y then 1 else 0) ≤ (if 4 ∣ y then 1 else 0) := by
  simp only [isLeap, Nat.dvd_iff_mod_eq_zero]
  by_cases h100 : y % 100 = 0
  · have h4 := mod_eq_zero_of_dvd_of_mod (k := 4) (by decide) h100
    by_cases h400 : y % 400 = 0 <;> simp [h4, h100, h400]
  · have h400 : y % 400 ≠ 0 := fun h => h100 (mod_eq_zero_of_dvd_of_mod (by decide) h)
    by_cases h4 : y % 4 = 0 <;> simp [h4, h100, h400]

theorem daysBeforeYear_succ {y : Nat} (hy : 1 ≤ y) : daysBeforeYear (y + 1) = daysBeforeYear y + daysUpTo y 12 := by
  obtain ⟨p, rfl⟩ : ∃ p, y = p + 1 := ⟨y - 1, (Nat.sub_add_cancel hy).symm⟩
  have hle : p / 100 ≤ p / 4 := Nat.div_le_div_left (by decide) (by decide)
  obtain ⟨h1, h2⟩ := leap_indicator (p + 1)
  rw [daysUpTo_twelve]
  unfold daysBeforeYear
  -- `Nat.succ_div`: each quotient of `p + 1` is that of `p`, plus one when the divisor divides `p + 1`
  simp only [Nat.add_sub_cancel, Nat.succ_div]
  generalize p / 4 = a at hle
  generalize p / 100 = b at hle
  generalize (if isLeap (p + 1) then 1 else 0) = l at h1
  generalize (if 4 ∣ p + 1 then 1 else 0) = i at h1 h2
  generalize (if 100 ∣ p + 1 then 1 else 0) = j at h1 h2
  omega

theorem daysBeforeYear_mono {y : Nat} : ∀ {y' : Nat}, y ≤ y' → daysBeforeYear y ≤ daysBeforeYear y'
  | 0, h => by rw [Nat.le_zero.mp h]; exact Nat.le_refl _
  | y' + 1, h => by
    rcases Nat.lt_or_eq_of_le h with h | rfl
    · have ih := daysBeforeYear_mono (Nat.le_of_lt_succ h)
      rcases Nat.eq_zero_or_pos y' with rfl | h0
      · exact Nat.le_trans ih (by decide)
      · rw [daysBeforeYear_succ h0]; exact Nat.le_trans ih (Nat.le_add_right _ _)
    · exact Nat.le_refl _

theorem daysUpTo_pred (y : Nat) {mo : Nat} (h : 1 ≤ mo) : daysUpTo y mo = daysUpTo y (mo - 1) + daysIn y mo := by
  cases mo with
  | zero => omega
  | succ n => rfl

theorem daysIn_pos (y m : Nat) : 1 ≤ daysIn y m := by
  unfold daysIn
  repeat' split
  all_goals omega

/-- the day number is strictly monotone along the calendar -/
theorem dayNumber_lt {y mo d y' mo' d' : Nat} (hy : 1 ≤ y) (hmo : 1 ≤ mo) (hmo2 : mo ≤ 12) (hd1 : 1 ≤ d) (hd : d ≤ daysIn y mo)
    (hmo' : 1 ≤ mo') (hd' : 1 ≤ d')
    (h : y < y' ∨ (y = y' ∧ (mo < mo' ∨ (mo = mo' ∧ d < d')))) :
    dayNumber y mo d < dayNumber y' mo' d' := by
  unfold dayNumber
  -- within one year
  have inYear : daysUpTo y (mo - 1) + (d - 1) < daysUpTo y 12 := by
    have h1 := daysUpTo_pred y hmo
    have h2 := daysUpTo_mono y hmo2
    omega
  rcases h with h | ⟨rfl, h⟩
  · have h1 := daysBeforeYear_succ hy
    have h2 := daysBeforeYear_mono (y := y + 1) h
    omega
  · rcases h with h | ⟨rfl, h⟩
    · have h1 := daysUpTo_pred y hmo
      have h2 := daysUpTo_mono y (Nat.le_sub_one_of_lt h)
      omega
    · omega


/-! ### seconds, and the frequency rule in general -/

theorem after_cases {t c : Civil} (ht : ValidT t) (hc : ValidT c) (h : After t c) :
    dayNumber t.y t.mo t.d < dayNumber c.y c.mo c.d ∨
    (dayNumber t.y t.mo t.d = dayNumber c.y c.mo c.d ∧
      (t.h < c.h ∨ (t.h = c.h ∧ (t.mi < c.mi ∨ (t.mi = c.mi ∧ t.s < c.s))))) := by
  have key := dayNumber_lt (y' := c.y) ht.y ht.mo1 ht.mo2 ht.d1 ht.d2 hc.mo1 hc.d1
  rcases h with h | ⟨e1, h | ⟨e2, h | ⟨e3, h⟩⟩⟩
  · exact Or.inl (key (Or.inl h))
  · exact Or.inl (key (Or.inr ⟨e1, Or.inl h⟩))
  · exact Or.inl (key (Or.inr ⟨e1, Or.inr ⟨e2, h⟩⟩))
  · exact Or.inr ⟨by rw [e1, e2, e3], h⟩

/-- later on the calendar is later in seconds -/
theorem toSecs_lt {t c : Civil} (ht : ValidT t) (hc : ValidT c) (h : After t c) : t.toSecs < c.toSecs := by
  have h := after_cases ht hc h
  have ht1 := ht.h; have ht2 := ht.mi; have ht3 := ht.s
  unfold Civil.toSecs
  generalize dayNumber t.y t.mo t.d = a at h
  generalize dayNumber c.y c.mo c.d = b at h
  omega

/-- two calendar times with the same minute and second are at least an hour apart -/
theorem toSecs_same_minute {t c : Civil} (ht : ValidT t) (hc : ValidT c) (h : After t c) (hmi : t.mi = c.mi) (hs : t.s = c.s) :
    t.toSecs + 3600 ≤ c.toSecs := by
  have h := after_cases ht hc h
  have ht1 := ht.h; have ht2 := ht.mi; have ht3 := ht.s
  unfold Civil.toSecs
  generalize dayNumber t.y t.mo t.d = a at h
  generalize dayNumber c.y c.mo c.d = b at h
  omega

theorem valid_epoch : ValidT epoch := by
  constructor <;> decide
theorem valid_zeroTime : ValidT zeroTime := by
  constructor <;> decide

theorem testBit_one {i : Nat} (h : Nat.testBit 1 i = true) : i = 0 := by
  have : (2 ^ 0).testBit i = true := h
  rw [Nat.testBit_two_pow] at this
  simpa [eq_comm] using this

theorem subNanos_ge {t c : Civil} {k : Nat} (hk : (k : Int) * 1000000000 ≤ maxDuration) (h : t.toSecs + k ≤ c.toSecs) :
    (k : Int) * 1000000000 ≤ subNanos c t := by
  unfold subNanos
  simp only
  have hk' : (0 : Int) ≤ (k : Int) * 1000000000 := by omega
  unfold maxDuration minDuration at *
  split
  · exact hk
  · split
    · omega
    · omega

/-- the frequency rule, fixed minute: a schedule that names one minute of the hour (and the second 0, as every parsed
schedule does) and fires at least twice has its first two activations an hour or more apart — it is not reported -/
theorem fixed_minute_not_frequent {sc : Sched} {m : Nat} {t1 t2 : Civil}
    (hsec : sc.second = 1) (hmin : ∀ i, sc.minute.testBit i = true → i = m)
    (h1 : next sc epoch = some t1) (h2 : next sc t1 = some t2) :
    3600 * 1000000000 ≤ gapNanos sc ∧ tooFrequent sc = false := by
  obtain ⟨v1, -, -, -, -, -, hm1, hs1⟩ := next_sound valid_epoch h1
  obtain ⟨v2, a2, -, -, -, -, hm2, hs2⟩ := next_sound v1 h2
  rw [hsec] at hs1 hs2
  have := toSecs_same_minute v1 v2 a2 ((hmin _ hm1).trans (hmin _ hm2).symm) ((testBit_one hs1).trans (testBit_one hs2).symm)
  have hg : (3600 : Int) * 1000000000 ≤ gapNanos sc := by
    unfold gapNanos nextTime
    simp only [h1, h2, Option.getD_some]
    exact subNanos_ge (k := 3600) (by decide) this
  refine ⟨hg, ?_⟩
  unfold tooFrequent
  simp only [decide_eq_false_iff_not]
  omega

/-- … and a schedule that never fires (say the 31st of February) comes out with an interval of 0 seconds and IS reported
as running too frequently -/
theorem never_fires_reported {sc : Sched} (h1 : next sc epoch = none) (h2 : next sc zeroTime = none) :
    gapNanos sc = 0 ∧ tooFrequent sc = true := by
  have hg : gapNanos sc = 0 := by
    unfold gapNanos nextTime
    simp only [h1, h2, Option.getD_none]
    decide
  exact ⟨hg, by unfold tooFrequent; rw [hg]; decide⟩


theorem findFrom_none_intro {α} {f : Nat → Option α} : ∀ {cnt lo : Nat}, (∀ j, lo ≤ j → j < lo + cnt → f j = none) →
    findFrom f lo cnt = none
  | 0, _, _ => rfl
  | cnt + 1, lo, h => by
    unfold findFrom
    rw [h lo (Nat.le_refl _) (by omega)]
    exact findFrom_none_intro (fun j h1 h2 => h j (by omega) (by omega))

theorem findRange_none_intro {α} {f : Nat → Option α} {lo hi : Nat} (h : ∀ j, lo ≤ j → j ≤ hi → f j = none) :
    findRange lo hi f = none :=
  findFrom_none_intro (fun j h1 h2 => h j h1 (by omega))

theorem findRange_hit {α} {f : Nat → Option α} {lo hi : Nat} {a : α} (hle : lo ≤ hi) (h : f lo = some a) :
    findRange lo hi f = some a := by
  unfold findRange
  have : hi + 1 - lo = (hi - lo) + 1 := by omega
  rw [this]
  unfold findFrom
  rw [h]

theorem findRange_skip {α} {f : Nat → Option α} {lo hi : Nat} (hle : lo ≤ hi) (h : f lo = none) :
    findRange lo hi f = findRange (lo + 1) hi f := by
  unfold findRange
  have : hi + 1 - lo = (hi + 1 - (lo + 1)) + 1 := by omega
  rw [this]
  conv => lhs; unfold findFrom
  rw [h]

/-- with the second field `0` (as in every parsed schedule) no second after the first of a minute matches -/
theorem no_later_second {sc : Sched} (hsec : sc.second = 1) {α} (g : Nat → α) (lo : Nat) (hlo : 1 ≤ lo) :
    findRange lo 59 (fun s => if sc.second.testBit s then some (g s) else none) = none := by
  refine findRange_none_intro fun j h1 _ => if_neg fun hb => ?_
  rw [hsec] at hb
  have := testBit_one hb
  omega

theorem second_zero {sc : Sched} (h : sc.second = 1) : sc.second.testBit 0 = true := by
  rw [h]
  rfl

/-- one step of `Next`: from a time `t` (at second 0) whose month, day and hour are in the schedule, when the following minute
of the same hour is in the schedule too, `Next t` is that minute -/
theorem next_following_minute {sc : Sched} {t : Civil} (ht : ValidT t) (hsec : sc.second = 1)
    (hmo : sc.month.testBit t.mo = true) (hd : dayMatches sc t.y t.mo t.d = true) (hh : sc.hour.testBit t.h = true)
    (hmi : sc.minute.testBit (t.mi + 1) = true) (hlt : t.mi + 1 ≤ 59) :
    next sc t = some ⟨t.y, t.mo, t.d, t.h, t.mi + 1, 0⟩ := by
  refine next_eq ht ⟨⟨ht.y, ht.mo1, ht.mo2, ht.d1, ht.d2, ht.h, hlt, Nat.zero_le _⟩, hmo, hd, hh, hmi, second_zero hsec⟩ ?_ ?_ ?_
  · unfold After
    dsimp only
    omega
  · unfold yearOfSucc
    dsimp only
    split <;> omega
  · intro b hb h1 h2
    -- between `t` and the following minute there is only the rest of the minute of `t`, and the schedule has second 0 only
    have := testBit_one (hsec ▸ hb.second)
    unfold After at h1 h2
    dsimp only at h2
    omega

/-- the first activation after the epoch is not later than minute 1 of its hour when minute 1 is in the schedule -/
theorem first_minute_le_one {sc : Sched} {t1 : Civil} (hsec : sc.second = 1) (hbit : sc.minute.testBit 1 = true)
    (h : next sc epoch = some t1) : t1.mi ≤ 1 := by
  have := next_earliest sc valid_epoch
  rw [h] at this
  obtain ⟨⟨⟨v, b1, b2, b3, -, -⟩, ha, hw⟩, hmin⟩ := this
  -- minute 1 of the same hour is a time of the schedule after the epoch: `t1` is not later
  have hf : Fires sc ⟨t1.y, t1.mo, t1.d, t1.h, 1, 0⟩ :=
    ⟨⟨v.y, v.mo1, v.mo2, v.d1, v.d2, v.h, (by decide : 1 ≤ 59), Nat.zero_le _⟩, b1, b2, b3, hbit, second_zero hsec⟩
  have hafter : After epoch ⟨t1.y, t1.mo, t1.d, t1.h, 1, 0⟩ := by
    unfold After epoch at ha ⊢
    dsimp only at ha ⊢
    omega
  have := hmin _ ⟨hf, hafter, hw⟩
  unfold After at this
  dsimp only at this
  omega

theorem subNanos_exact {t c : Civil} {k : Nat} (hk : (k : Int) * 1000000000 ≤ maxDuration) (h : c.toSecs = t.toSecs + k) :
    subNanos c t = (k : Int) * 1000000000 := by
  have e : (c.toSecs : Int) - (t.toSecs : Int) = (k : Int) := by omega
  unfold subNanos
  simp only [e]
  unfold maxDuration minDuration at *
  rw [if_neg (by omega), if_neg (by omega)]

/-- THE FREQUENCY RULE, EVERY MINUTE. A schedule whose minute field contains every minute (`*`, `0-59`, `*/1`, …) and that
fires at all is always reported: whatever the other fields say, its first two activations after the epoch are one minute
apart (the first one is at minute 0 or 1 of an hour of the schedule, the second one in the same hour). -/
theorem all_minutes_reported {sc : Sched} {t1 : Civil} (hsec : sc.second = 1)
    (hall : ∀ i, i ≤ 59 → sc.minute.testBit i = true) (h1 : next sc epoch = some t1) :
    next sc t1 = some ⟨t1.y, t1.mo, t1.d, t1.h, t1.mi + 1, 0⟩ ∧ gapNanos sc = 60000000000 ∧ tooFrequent sc = true := by
  obtain ⟨v1, -, -, hmo, hd, hh, -, hs⟩ := next_sound valid_epoch h1
  have hmi := first_minute_le_one hsec (hall 1 (by omega)) h1
  have hs0 : t1.s = 0 := by rw [hsec] at hs; exact testBit_one hs
  have h2 := next_following_minute v1 hsec hmo hd hh (hall _ (by omega)) (by omega)
  have hg : gapNanos sc = 60000000000 := by
    unfold gapNanos nextTime
    simp only [h1, h2, Option.getD_some]
    exact subNanos_exact (k := 60) (by decide) (by unfold Civil.toSecs; simp only; omega)
  exact ⟨h2, hg, by unfold tooFrequent; rw [hg]; decide⟩


/-! ### the frequency rule on the usual shapes -/

/-- without a zone prefix the zone data base is not consulted -/
theorem parseL_no_zone {zk zk' : List Char → Bool} {spec : List Char} (h : tzPrefix spec = false) :
    parseL zk spec = parseL zk' spec := by
  unfold parseL splitZone
  simp [h]

theorem checkCronL_no_zone {zk zk' : List Char → Bool} {spec : List Char} (h : tzPrefix spec = false) :
    checkCronL zk spec = checkCronL zk' spec := by
  unfold checkCronL
  rw [parseL_no_zone (zk := zk) (zk' := zk') h]

/-- `* * * * *` is always reported: once per 60 seconds -/
theorem every_minute (zk : List Char → Bool) :
    checkCronL zk "* * * * *".toList = .diags [.tooFrequent 60000000000] := by
  rw [checkCronL_no_zone (zk' := fun _ => false) (by decide +kernel)]
  decide +kernel

/-- `*/n * * * *` as a list of characters -/
def stepSpec (n : Nat) : List Char := "*/".toList ++ Nat.toDigits 10 n ++ " * * * *".toList

/-- the schedule of `*/n * * * *`: minutes `0, n, 2n, …`, everything else starred -/
def stepSched (n : Nat) : Sched :=
  ⟨1, getBits 0 59 n ||| (if n > 1 then 0 else starBit), getBits 0 23 1 ||| starBit, getBits 1 31 1 ||| starBit,
   getBits 1 12 1 ||| starBit, getBits 0 6 1 ||| starBit, .local_⟩

def stepCheck (n : Nat) : Bool :=
  (match parseL (fun _ => false) (stepSpec n) with
   | .ok sc => sc == stepSched n
   | .error _ => false) &&
  gapNanos (stepSched n) == ((if 2 * n ≤ 59 then n else 60 - n : Nat) : Int) * 60000000000 &&
  tooFrequent (stepSched n) == decide (n < 5 ∨ 55 < n)

theorem stepCheck_all : ∀ n, n < 60 → (n == 0 || stepCheck n) = true := by decide +kernel

/-- THE STEP RULE. For `1 ≤ n ≤ 59` the spec `*/n * * * *` parses to `stepSched n`; the interval `checkCron` looks at is the
one between the first two activations after the epoch, 00:n and 00:2n — or 01:00 when `2n > 59` — so it is `n` minutes for
`n ≤ 29` and `60 - n` minutes above; the spec is reported iff `n < 5` or `n > 55`. In particular `*/7` (…, :49, :56, :00:
four minutes between the last two) is NOT reported, and `*/57` (:00, :57: three minutes) is. -/
theorem step_rule (zk : List Char → Bool) {n : Nat} (h1 : 1 ≤ n) (h2 : n ≤ 59) :
    parseL zk (stepSpec n) = .ok (stepSched n) ∧
    gapNanos (stepSched n) = ((if 2 * n ≤ 59 then n else 60 - n : Nat) : Int) * 60000000000 ∧
    (tooFrequent (stepSched n) = true ↔ (n < 5 ∨ 55 < n)) := by
  have h := stepCheck_all n (by omega)
  have hn : (n == 0) = false := by simp; omega
  simp only [hn, Bool.false_or, stepCheck, Bool.and_eq_true, beq_iff_eq] at h
  obtain ⟨⟨hp, hg⟩, hf⟩ := h
  refine ⟨?_, hg, ?_⟩
  · have hz : tzPrefix (stepSpec n) = false := by
      unfold stepSpec tzPrefix hasPrefix
      simp [List.isPrefixOf]
    rw [parseL_no_zone (zk' := fun _ => false) hz]
    split at hp
    · rename_i sc hsc
      rw [hsc, eq_of_beq hp]
    · cases hp
  · rw [hf]; simp

example : (checkCronL (fun _ => false) "*/5 * * * *".toList) = .diags [] := by decide +kernel
example : (checkCronL (fun _ => false) "*/4 * * * *".toList) = .diags [.tooFrequent 240000000000] := by decide +kernel
example : (checkCronL (fun _ => false) "*/7 * * * *".toList) = .diags [] := by decide +kernel
example : (checkCronL (fun _ => false) "*/57 * * * *".toList) = .diags [.tooFrequent 180000000000] := by decide +kernel
/-- only the FIRST interval after the epoch counts, and the epoch itself is not an activation: minutes 0 and 4 of every hour
are not reported (first 00:04, then 01:00), minutes 4 and 8 are -/
example : (checkCronL (fun _ => false) "0,4 * * * *".toList) = .diags [] := by decide +kernel
example : (checkCronL (fun _ => false) "4,8 * * * *".toList) = .diags [.tooFrequent 240000000000] := by decide +kernel
/-- the 31st of February: never fires, reported as once per 0 seconds -/
example : (checkCronL (fun _ => false) "0 0 31 2 *".toList) = .diags [.tooFrequent 0] := by decide +kernel
/-- the 29th of February: 1972 and 1976 -/
example : (checkCronL (fun _ => false) "0 0 29 2 *".toList) = .diags [] := by decide +kernel
/-- the guard and the panic it prevents -/
example : checkCronL (fun _ => true) "TZ=UTC".toList = .diags [.noScheduleAfterZone "TZ=UTC".toList] := by decide +kernel
deriving instance DecidableEq for Except
example : parseL (fun _ => true) "TZ=UTC".toList = .error .slicePanic := by decide +kernel
example : (parseL (fun _ => true) "CRON_TZ=UTC 0 0 * * MON".toList).toOption.map (·.dow) = some 2 := by decide +kernel
/-- oddities of the parser the grammar theorem makes explicit -/
example : (parseL (fun _ => false) "*-5 +7 ,, * FRİ".toList).toOption.map (fun sc => (sc.hour, sc.dow)) = some (2 ^ 7, 2 ^ 5) := by decide +kernel


/-! ### `checkCron` as a whole -/

theorem firstGap_of_no_zone {sc : Sched} (h : ∀ z, sc.loc ≠ .zone z) : firstGap sc = some (gapNanos sc) := by
  unfold firstGap
  split
  · exact absurd ‹_› (h _)
  · rfl

/-- the outcomes of `checkCron`, put together: the guard; a parse error (never the panic); a schedule in another zone (not
modelled further); a schedule whose first two activations are less than 300 s apart; nothing -/
theorem checkCronL_cases (zk : List Char → Bool) (spec : List Char) :
    (AL.Cron.guard spec = true ∧ checkCronL zk spec = .diags [.noScheduleAfterZone spec]) ∨
    (AL.Cron.guard spec = false ∧ ∃ e, parseL zk spec = .error e ∧ e ≠ .slicePanic ∧ checkCronL zk spec = .diags [.invalidFormat spec e]) ∨
    (AL.Cron.guard spec = false ∧ ∃ sc z, parseL zk spec = .ok sc ∧ sc.loc = .zone z ∧ checkCronL zk spec = .outOfScope sc) ∨
    (AL.Cron.guard spec = false ∧ ∃ sc, parseL zk spec = .ok sc ∧ (∀ z, sc.loc ≠ .zone z) ∧ tooFrequent sc = true ∧
        checkCronL zk spec = .diags [.tooFrequent (gapNanos sc)]) ∨
    (AL.Cron.guard spec = false ∧ ∃ sc, parseL zk spec = .ok sc ∧ (∀ z, sc.loc ≠ .zone z) ∧ tooFrequent sc = false ∧
        checkCronL zk spec = .diags []) := by
  cases hg : AL.Cron.guard spec with
  | true => exact Or.inl ⟨rfl, by simp only [checkCronL, hg, if_true]⟩
  | false =>
    right
    cases hp : parseL zk spec with
    | error e =>
      refine Or.inl ⟨rfl, e, rfl, fun he => ?_, by simp only [checkCronL, hg, hp, Bool.false_eq_true, if_false]⟩
      have := guard_eq.mpr (parseL_panic_iff.mp (he ▸ hp))
      rw [hg] at this; cases this
    | ok sc =>
      right
      by_cases hz : ∃ z, sc.loc = .zone z
      · obtain ⟨z, hz⟩ := hz
        exact Or.inl ⟨rfl, sc, z, rfl, hz, by simp only [checkCronL, hg, hp, firstGap, hz, Bool.false_eq_true, if_false]⟩
      · have hz' : ∀ z, sc.loc ≠ .zone z := fun z h => hz ⟨z, h⟩
        right
        cases hf : tooFrequent sc with
        | true =>
          exact Or.inl ⟨rfl, sc, rfl, hz', hf, by
            simp only [checkCronL, hg, hp, firstGap_of_no_zone hz', Bool.false_eq_true, if_false, if_pos (of_decide_eq_true hf)]⟩
        | false =>
          exact Or.inr ⟨rfl, sc, rfl, hz', hf, by
            simp only [checkCronL, hg, hp, firstGap_of_no_zone hz', Bool.false_eq_true, if_false, if_neg (of_decide_eq_false hf)]⟩

/-- C01: `checkCron` never runs into the panic of the parser: the guard catches exactly the specs on which it would -/
theorem checkCron_never_panics (zk) (spec : List Char) :
    ∀ l, checkCronL zk spec = .diags l → ∀ s, Diag'.invalidFormat s .slicePanic ∉ l := by
  intro l hl s hmem
  rcases checkCronL_cases zk spec with ⟨-, h⟩ | ⟨-, e, -, hne, h⟩ | ⟨-, sc, z, -, -, h⟩ | ⟨-, sc, -, -, -, h⟩ | ⟨-, sc, -, -, -, h⟩ <;>
    rw [h] at hl <;> cases hl <;> simp at hmem
  exact hne hmem.2.symm

/-! ### instances of the theorems with hypotheses -/

example : (cutZone "TZ=UTC 0 0 * * *".toList).isSome :=
  (cutZone_isSome_iff (by decide +kernel)).mpr (by decide +kernel)
example : ¬ (cutZone "CRON_TZ=Asia/Tokyo".toList).isSome := fun h =>
  absurd ((cutZone_isSome_iff (by decide +kernel)).mp h) (by decide +kernel)
example : parseL (fun _ => false) "TZ=Nowhere 0 0 * * *".toList = .error (.badLocation "Nowhere".toList) := by decide +kernel
example : fieldErr (.aboveMax 60 59 "60".toList) = true :=
  getField_err (f := "60".toList) (b := minutes) (by decide +kernel)
example : parseL (fun _ => true) "CRON_TZ=UTC".toList = .error .slicePanic :=
  parseL_panic_iff.mpr ⟨by decide +kernel, by decide +kernel⟩
example : ∀ l, checkCronL (fun _ => true) "TZ=UTC".toList = .diags l → ∀ s, Diag'.invalidFormat s .slicePanic ∉ l :=
  checkCron_never_panics _ _
example : MaskOK minutes (2 ^ 1 + 2 ^ 3 + 2 ^ 5) :=
  getField_maskOK (f := "1-5/2".toList) (by decide) (by decide +kernel)
example : (getField "1-5/2".toList minutes).toOption = some (2 ^ 1 + 2 ^ 3 + 2 ^ 5) := by decide +kernel
example : ∃ sc, parseL (fun _ => false) "*/15 0 1,15 * MON-FRI".toList = .ok sc ∧ SchedOK sc := by
  cases h : parseL (fun _ => false) "*/15 0 1,15 * MON-FRI".toList with
  | error e =>
    have : (parseL (fun _ => false) "*/15 0 1,15 * MON-FRI".toList).toOption.isSome = true := by decide +kernel
    rw [h] at this; cases this
  | ok sc => exact ⟨sc, rfl, parseL_schedOK h⟩
example : mustParseInt "+07".toList = .ok 7 :=
  (mustParseInt_ok_iff (by decide)).mpr ⟨.plus (ds := "07".toList) (by decide) (by decide), by decide⟩
theorem value_mOn : Value AL.Cron.dow "mOn".toList 1 := Or.inl ⟨("mon".toList, 1), by decide +kernel, by decide +kernel, rfl⟩
example : Value AL.Cron.dow "mOn".toList 1 := value_mOn
example : parseIntOrName "mOn".toList AL.Cron.dow.names = .ok 1 :=
  (parseIntOrName_ok_iff wellNamed_dow (by decide)).mpr value_mOn
/-- from a derivation in the grammar to acceptance: `MON-FRI/2` as a day of the week -/
example : ∃ m, getRange "MON-FRI/2".toList AL.Cron.dow = .ok m :=
  (getRange_accepts_iff wellNamed_dow).mpr
    ((by decide +kernel : ("MON".toList ++ '-' :: "FRI".toList) ++ '/' :: "2".toList = "MON-FRI/2".toList) ▸
      .step (s := 1) (e := 5) (k := 2)
        (.range (Or.inl ⟨("mon".toList, 1), by decide +kernel, by decide +kernel, rfl⟩)
          (Or.inl ⟨("fri".toList, 5), by decide +kernel, by decide +kernel, rfl⟩))
        (.plain (ds := "2".toList) (by decide) (by decide)) (by decide) (by decide) (by decide) (by decide) (by decide))
/-- from acceptance to a derivation: `*-x,,?/3` is in the language of the minute field -/
example : FieldG minutes "*-x,,?/3".toList :=
  (getField_accepts_iff wellNamed_minutes).mp ⟨_, (by rfl : getField "*-x,,?/3".toList minutes = .ok _)⟩
/-- and `5-1` is not -/
example : ¬ FieldG minutes "5-1".toList := fun h => by
  obtain ⟨m, hm⟩ := (getField_accepts_iff wellNamed_minutes).mpr h
  have : (getField "5-1".toList minutes).toOption = none := by decide +kernel
  rw [hm] at this; cases this

theorem ok_of_toOption {ε α} {x : Except ε α} {a : α} (h : x.toOption = some a) : x = .ok a := by
  cases x with
  | error e => cases h
  | ok b => simp [Except.toOption] at h; rw [h]

def feb29 : Sched := ⟨1, 1, 1, 2 ^ 29, 2 ^ 2, getBits 0 6 1 ||| starBit, .local_⟩
theorem feb29_parsed : parseL (fun _ => false) "0 0 29 2 *".toList = .ok feb29 := ok_of_toOption (by decide +kernel)
example : SchedOK feb29 := parseL_schedOK feb29_parsed
/-- its interval: from the 29th of February 1972 to that of 1976 -/
theorem feb29_gap : gapNanos feb29 = 1461 * 86400 * 1000000000 := by decide +kernel
example : (parseL (fun _ => false) "0 0 29 2 *".toList).toOption.map gapNanos = some (1461 * 86400 * 1000000000) := by
  rw [feb29_parsed]; exact congrArg some feb29_gap
/-- the day-of-week field is starred: the day of the month decides alone -/
example : dayMatches feb29 1972 2 29 = feb29.dom.testBit 29 :=
  dayMatches_star_dow (parseL_schedOK feb29_parsed) (by decide +kernel)
/-- `0 0 13 * FRI` is the 13th OR a Friday, not Friday the 13th -/
example : ∃ sc, parseL (fun _ => false) "0 0 13 * FRI".toList = .ok sc ∧ dayMatches sc 1970 1 2 = true ∧ dayMatches sc 1970 1 13 = true :=
  ⟨_, ok_of_toOption (a := ⟨1, 1, 1, 2 ^ 13, getBits 1 12 1 ||| starBit, 2 ^ 5, .local_⟩) (by decide +kernel),
    by rw [dayMatches_no_star (by decide +kernel) (by decide +kernel)]; decide +kernel,
    by rw [dayMatches_no_star (by decide +kernel) (by decide +kernel)]; decide +kernel⟩
/-- `0 0 * * 1`: the day-of-month field is starred, the day of the week decides alone -/
example : ∀ sc, parseL (fun _ => false) "0 0 * * 1".toList = .ok sc → dayMatches sc 1970 1 5 = sc.dow.testBit 1 := fun sc h => by
  have hs : sc.dom.testBit 63 = true := by
    have : (parseL (fun _ => false) "0 0 * * 1".toList).toOption.map (·.dom.testBit 63) = some true := by decide +kernel
    rw [h] at this; simpa [Except.toOption] using this
  rw [dayMatches_star_dom (parseL_schedOK h) hs (by decide) (by decide)]
  have : weekday 1970 1 5 = 1 := by decide
  rw [this]
example : next feb29 epoch = some ⟨1972, 2, 29, 0, 0, 0⟩ := by decide +kernel
example : ValidT ⟨1972, 2, 29, 0, 0, 0⟩ := (next_sound (sc := feb29) valid_epoch (by decide +kernel)).1
example : (⟨1970, 12, 31, 23, 59, 59⟩ : Civil).toSecs < (⟨1971, 1, 1, 0, 0, 0⟩ : Civil).toSecs :=
  toSecs_lt (by constructor <;> decide) (by constructor <;> decide) (Or.inl (by decide))

/-- `30 4 * * *`: a fixed minute -/
def daily0430 : Sched := ⟨1, 2 ^ 30, 2 ^ 4, getBits 1 31 1 ||| starBit, getBits 1 12 1 ||| starBit, getBits 0 6 1 ||| starBit, .local_⟩
example : (parseL (fun _ => false) "30 4 * * *".toList).toOption = some daily0430 := by decide +kernel
example : tooFrequent daily0430 = false :=
  (fixed_minute_not_frequent (sc := daily0430) (m := 30) (t1 := ⟨1970, 1, 1, 4, 30, 0⟩) (t2 := ⟨1970, 1, 2, 4, 30, 0⟩) rfl
    (fun i hi => by
      have : (2 ^ 30).testBit i = true := hi
      rw [Nat.testBit_two_pow] at this
      exact (of_decide_eq_true this).symm)
    (by decide +kernel) (by decide +kernel)).2

/-- `0 0 31 2 *`: never fires -/
def feb31 : Sched := ⟨1, 1, 1, 2 ^ 31, 2 ^ 2, getBits 0 6 1 ||| starBit, .local_⟩
example : gapNanos feb31 = 0 ∧ tooFrequent feb31 = true :=
  never_fires_reported (by decide +kernel) (by decide +kernel)

/-- `* 3 * * 0`: every minute of the hour from 03:00 on Sundays -/
def sundayNight : Sched := ⟨1, getBits 0 59 1 ||| starBit, 2 ^ 3, getBits 1 31 1 ||| starBit, getBits 1 12 1 ||| starBit, 2 ^ 0, .local_⟩
example : gapNanos sundayNight = 60000000000 :=
  (all_minutes_reported (sc := sundayNight) (t1 := ⟨1970, 1, 4, 3, 0, 0⟩) rfl (by decide +kernel) (by decide +kernel)).2.1
example : next sundayNight ⟨1970, 1, 4, 3, 0, 0⟩ = some ⟨1970, 1, 4, 3, 1, 0⟩ :=
  next_following_minute (by constructor <;> decide) rfl (by decide +kernel) (by decide +kernel) (by decide +kernel)
    (by decide +kernel) (by decide)



end AL.C01C
