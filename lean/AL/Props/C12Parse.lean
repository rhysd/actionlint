import AL.Props.C12Rule
import AL.Props.C03Parse
import AL.Lemmas.C05DJob
/-
  C12, parser half: **every position of the DOCUMENT is checked under the workflow key GitHub's table gives it.**

  AL.C12R (`every_position_checked_under_its_key`) says, on the AST: a string of `keyedStrs w` — the value strings of the
  AST, each paired with the workflow key of the FIELD it sits in — whose text is bad under that key is reported at that
  string. AL.C03P (`no_value_scalar_dropped`) says, on the document: every value scalar is a value string of the parsed
  AST. Those two meet on "is a value string" only. This file joins them on the KEY:

    `keyedScalars doc` (AL/Spec/KeyedScalars.lean) pairs every value scalar of the yaml.Node tree with the workflow key of
    its POSITION IN THE DOCUMENT — written from the documentation, without the parser (`keyedScalars_fst`: its first
    components are exactly `valueScalars doc`);

    `parser_keeps_key`: for `(v, key) ∈ keyedScalars doc` the parser reports a syntax diagnostic, or there is
    `(s, key) ∈ keyedStrs (parse cfg doc).1` with the text and the position of `v` — THE SAME KEY (on the witness `exStepK` below:
    `working-directory:` is listed under its row, not under the empty key of `shell:`);

    `bad_under_document_key_reported`: a text that is bad under the key of its document position is reported by the
    expression rule at that scalar, or the parser reports; `job_if_secrets_in_document_reported`: `${{ secrets.x }}` in a
    job's `if:` of ANY document.

  How it is proved: bottom-up like C03Parse. Per section the workflow key of the scalars below a key of the section
  (`stepKeyOf`, `jobKeyOf`, `containerKeyOf`, …), and the FIELD ↔ KEY table (`stepK_keyed`, `jobK_keyed`,
  `containerK_keyed`, `environmentK_keyed`, `callInputAttrK_keyed`, `callOutputAttrK_keyed`, `workflowK_keyed`): the field
  the parser's loop stores the scalars of a key in (`AL.C03P.…K`, identified by the `…_store` lemmas of C03Parse, reused
  as they stand through `sect_tag`) is listed by the keyed enumeration of AL.C12R under that workflow key.
  AL/Lemmas/C12PBase.lean (infrastructure); the levels are the `namespace AL.C12P` blocks of AL/Lemmas/C03PStep, C03PSect
  (container, services, environment), C03PJobFin, C03PEvents and C03PWf, each next to the `…_store` lemmas it uses.
  C03Parse's `parse…_leaf` are the projections of the `parse…_leafK` there.

  The key `keyedScalars` gives a position is the documentation's key for it at every position but one, the one AL.C12R
  records: a job's `container.image` (documented row `jobs.<job_id>.container.image`, listed and checked under
  `jobs.<job_id>.container`; the rows are equal) — `container_image_document_key` below states the theorem for the
  documented key.
-/
namespace AL.C12P
open AL.PW AL.Yaml AL.Ast AL.C03P AL.C03R AL.C12R

/-! ## the theorems, level by level -/

/-- **the two walks agree on WHICH scalars** (`keyedScalars_fst` of AL/Lemmas/C12PBase.lean): the first components of the
keyed walk are the value scalars of C03Parse, in the same order -/
theorem keyed_walk_lists_value_scalars (doc : Node) : (keyedScalars doc).map Prod.fst = valueScalars doc :=
  keyedScalars_fst doc

/-- **level 2: a step keeps the key.** A value scalar of a step node whose position has the workflow key `key`
(`jobs.<job_id>.steps.name` / `.if` / `.run` / `.working-directory` / `.env` / `.with` / `.continue-on-error` /
`.timeout-minutes`, or `""` for `shell` and `uses`) is a value string of the parsed step LISTED UNDER THAT KEY, or `parseStep`
reports. -/
theorem step_keeps_key (cfg : Cfg) (n : Node) (v : Node) (key : String) (hv : (v, key) ∈ stepKeyed n) :
    (parseStep cfg n).2 ≠ [] ∨ ∃ s, (s, key) ∈ stepKStrs (parseStep cfg n).1 ∧ s.value = v.value ∧ s.pos = v.pos :=
  or_of_clean fun hc => parseStep_leafK cfg n v key hv hc

/-- a container (of a job, or one service) keeps the key: `credentials.*` under `kCred`, `env.*` under `kEnv`, everything
else under the key of the section -/
theorem container_keeps_key (cfg : Cfg) (sec : String) (pos : Yaml.Pos) (n : Node) (kSect kCred kEnv : String) (v : Node)
    (key : String) (hv : (v, key) ∈ containerKeyed kSect kCred kEnv n) :
    (parseContainer cfg sec pos n).2 ≠ [] ∨
      ∃ s, (s, key) ∈ containerKStrs (some (parseContainer cfg sec pos n).1) kSect kCred kEnv kSect ∧
        s.value = v.value ∧ s.pos = v.pos :=
  or_of_clean fun hc => parseContainer_leafK cfg sec pos n kSect kCred kEnv v key hv hc

/-- `environment:` keeps the key: the name under `jobs.<job_id>.environment`, the url under `jobs.<job_id>.environment.url` -/
theorem environment_keeps_key (cfg : Cfg) (pos : Yaml.Pos) (n : Node) (v : Node) (key : String)
    (hv : (v, key) ∈ environmentKeyed n) :
    (parseEnvironment cfg pos n).2 ≠ [] ∨
      ∃ s, (s, key) ∈ environmentKStrs (parseEnvironment cfg pos n).1 ∧ s.value = v.value ∧ s.pos = v.pos :=
  or_of_clean fun hc => parseEnvironment_leafK cfg pos n v key hv hc

/-- **level 3: a job keeps the key.** -/
theorem job_keeps_key (cfg : Cfg) (id : Str) (n : Node) (v : Node) (key : String) (hv : (v, key) ∈ jobKeyed n) :
    (parseJob cfg id n).2 ≠ [] ∨ ∃ s, (s, key) ∈ jobKStrs (parseJob cfg id n).1 ∧ s.value = v.value ∧ s.pos = v.pos :=
  or_of_clean fun hc => parseJob_leafK cfg id n v key hv hc

/-- the `on:` section keeps the key: the `default:` of a `workflow_call` input and the `value:` of a `workflow_call` output
under their rows, everything else without a key -/
theorem on_keeps_key (cfg : Cfg) (pos : Yaml.Pos) (n : Node) (v : Node) (key : String) (hv : (v, key) ∈ onKeyed n) :
    (parseEvents cfg pos n).2 ≠ [] ∨
      ∃ s, (s, key) ∈ onKStrs ((parseEvents cfg pos n).1.getD []) ∧ s.value = v.value ∧ s.pos = v.pos :=
  or_of_clean fun hc => parseEvents_leafK cfg pos n v key hv hc

/-- **C12, parser half: the parser keeps the key.** For every document and every configuration of the parser: a value
scalar `v` of the document whose position has the workflow key `key` is a value string of the AST — same text, same
position — that the keyed enumeration of the AST (`AL.C12R.keyedStrs`, the strings the rule checks, each with the key it is
checked under) lists UNDER THE SAME KEY; or the parser reports a syntax diagnostic. -/
theorem parser_keeps_key (cfg : Cfg) (doc : Node) (v : Node) (key : String) (hv : (v, key) ∈ keyedScalars doc) :
    (parse cfg doc).2 ≠ [] ∨ ∃ s, (s, key) ∈ keyedStrs (parse cfg doc).1 ∧ s.value = v.value ∧ s.pos = v.pos :=
  or_of_clean fun hc => parse_leafK cfg doc v key hv hc

/-- `parser_keeps_key` for a silent parser -/
theorem parser_keeps_key_clean (cfg : Cfg) (doc : Node) (v : Node) (key : String) (hv : (v, key) ∈ keyedScalars doc)
    (hc : (parse cfg doc).2 = []) : ∃ s, (s, key) ∈ keyedStrs (parse cfg doc).1 ∧ s.value = v.value ∧ s.pos = v.pos :=
  parse_leafK cfg doc v key hv hc

/-- C03Parse's theorem, restated next to `parser_keeps_key` (the proof term is `AL.C03P.no_value_scalar_dropped` itself). It is
the projection of `parser_keeps_key` to the first components: `AL.C03P.parse_leaf`, which it rests on, is proved from
`parse_leafK` by `RepK.all` -/
theorem no_value_scalar_dropped' (cfg : Cfg) (doc : Node) (v : Node) (hv : v ∈ valueScalars doc) :
    (parse cfg doc).2 ≠ [] ∨ ∃ s ∈ valueStrs (parse cfg doc).1, s.value = v.value ∧ s.pos = v.pos :=
  no_value_scalar_dropped cfg doc v hv

/-- **C12 end to end**, for the rule run with any folding function `lower`: a text that is bad under the workflow key of its
DOCUMENT position — every check of it under that key yields a diagnostic, in the scopes that fold names with `lower` — gets
a diagnostic of the expression rule located at that scalar, or the parser reports a syntax diagnostic; whatever the
project's view. -/
theorem bad_under_document_key_reported_L (cfg : Cfg) (lower : String → String) (isNum : AL.RuleExpr.IsNumber)
    (proj : AL.RuleExpr.ProjView) (doc : Node) (v : Node) (key : String) (hv : (v, key) ∈ keyedScalars doc)
    (hbad : BadUnderL lower key v.value) :
    (parse cfg doc).2 ≠ [] ∨ ∃ d ∈ AL.RuleExpr.rule lower isNum (parse cfg doc).1 proj, d.site = v.pos := by
  rcases parser_keeps_key cfg doc v key hv with h | ⟨s, hs, hval, hpos⟩
  · exact Or.inl h
  · obtain ⟨d, hd, hsite⟩ := every_position_checked_under_its_key_L lower isNum (parse cfg doc).1 proj s key hs
      (by rw [hval]; exact hbad)
    exact Or.inr ⟨d, hd, by rw [hsite, hpos]⟩

/-- **C12 end to end (sharp form)**: `…_L` with the rule folding names as the parser does -/
theorem bad_under_document_key_reported (cfg : Cfg) (isNum : AL.RuleExpr.IsNumber) (proj : AL.RuleExpr.ProjView) (doc : Node)
    (v : Node) (key : String) (hv : (v, key) ∈ keyedScalars doc) (hbad : BadUnderL cfg.lower key v.value) :
    (parse cfg doc).2 ≠ [] ∨ ∃ d ∈ AL.RuleExpr.rule cfg.lower isNum (parse cfg doc).1 proj, d.site = v.pos :=
  bad_under_document_key_reported_L cfg cfg.lower isNum proj doc v key hv hbad

/-- `…_L` with the hypothesis on every scope (`BadUnder`) -/
theorem bad_under_document_key_reported' (cfg : Cfg) (lower : String → String) (isNum : AL.RuleExpr.IsNumber)
    (proj : AL.RuleExpr.ProjView) (doc : Node) (v : Node) (key : String) (hv : (v, key) ∈ keyedScalars doc)
    (hbad : BadUnder key v.value) :
    (parse cfg doc).2 ≠ [] ∨ ∃ d ∈ AL.RuleExpr.rule lower isNum (parse cfg doc).1 proj, d.site = v.pos :=
  bad_under_document_key_reported_L cfg lower isNum proj doc v key hv (hbad.toL lower)

/-- C03Parse's end-to-end theorem is the special case "bad under every key" -/
theorem placeholder_in_document_reported' (cfg : Cfg) (lower : String → String) (isNum : AL.RuleExpr.IsNumber) (doc : Node)
    (v : Node) (hv : v ∈ valueScalars doc) (hbad : Malformed v.value) :
    (parse cfg doc).2 ≠ [] ∨ ∃ d ∈ AL.RuleExpr.rule lower isNum (parse cfg doc).1, d.site = v.pos := by
  obtain ⟨key, hk⟩ := every_scalar_keyed doc v hv
  exact bad_under_document_key_reported' cfg lower isNum {} doc v key hk (malformed_badUnder hbad key)

/-! ### instances on every document -/

/-- `v` is the value of the `if:` of a job of the document: `jobs: {<id>: {if: v}}` below the root mapping -/
structure IsJobIf (doc v : Node) : Prop where
  path : ∃ root rest kJobs jobs kId job kIf, doc.content = root :: rest ∧ root.kind = .mapping ∧
    (kJobs, jobs) ∈ pairs root.content ∧ kJobs.value = "jobs" ∧ jobs.kind = .mapping ∧
    (kId, job) ∈ pairs jobs.content ∧ job.kind = .mapping ∧ (kIf, v) ∈ pairs job.content ∧ kIf.value = "if"
  scalar : v.kind = .scalar

/-- the `if:` of a job has the key `jobs.<job_id>.if` -/
theorem jobIf_keyed (doc v : Node) (h : IsJobIf doc v) : (v, "jobs.<job_id>.if") ∈ keyedScalars doc := by
  obtain ⟨⟨root, rest, kJobs, jobs, kId, job, kIf, hd, hr, hj, hjv, hjk, hi, hik, hf, hfv⟩, hs⟩ := h
  simp only [keyedScalars, hd, mapKeyed, hr, decide_true, Bool.true_or, ↓reduceIte, List.mem_flatMap]
  refine ⟨(kJobs, jobs), hj, ?_⟩
  simp only [hjv, workflowKeyKeyed, jobsKeyed, mapKeyed, hjk, decide_true, Bool.true_or, ↓reduceIte, List.mem_flatMap]
  refine ⟨(kId, job), hi, ?_⟩
  simp only [jobKeyed, mapKeyed, hik, decide_true, Bool.true_or, ↓reduceIte, List.mem_flatMap]
  refine ⟨(kIf, v), hf, ?_⟩
  simp only [hfv, jobKeyKeyed, leaves_scalar v hs]
  exact mem_under.2 ⟨List.mem_singleton.2 rfl, rfl⟩

/-- **in EVERY document**: `${{ secrets.x }}` as the `if:` of a job gets a diagnostic of the expression rule at that scalar
(`secrets` is not in the row of `jobs.<job_id>.if`), or the parser reports a syntax diagnostic — whatever else the document
contains, whatever the project's view; the folding function is one that leaves `secrets` alone, as `strings.ToLower` does -/
theorem job_if_secrets_in_document_reported (cfg : Cfg) (hl : cfg.lower "secrets" = "secrets") (isNum : AL.RuleExpr.IsNumber)
    (proj : AL.RuleExpr.ProjView) (doc v : Node) (h : IsJobIf doc v) (hval : v.value = "${{ secrets.x }}") :
    (parse cfg doc).2 ≠ [] ∨ ∃ d ∈ AL.RuleExpr.rule cfg.lower isNum (parse cfg doc).1 proj, d.site = v.pos :=
  bad_under_document_key_reported cfg isNum proj doc v "jobs.<job_id>.if" (jobIf_keyed doc v h)
    (by rw [hval]; exact secrets_bad_in_job_if cfg.lower hl)

/-- the one position whose key is not the table's (`AL.C12R.container_image_row`): the scalars the walk lists under
`jobs.<job_id>.container` — the `image` among them — are checked as the documented row `jobs.<job_id>.container.image`
demands, the two rows being equal -/
theorem container_image_document_key (cfg : Cfg) (isNum : AL.RuleExpr.IsNumber) (proj : AL.RuleExpr.ProjView) (doc : Node)
    (v : Node) (hv : (v, "jobs.<job_id>.container") ∈ keyedScalars doc)
    (hbad : BadUnderL cfg.lower "jobs.<job_id>.container.image" v.value) :
    (parse cfg doc).2 ≠ [] ∨ ∃ d ∈ AL.RuleExpr.rule cfg.lower isNum (parse cfg doc).1 proj, d.site = v.pos :=
  bad_under_document_key_reported cfg isNum proj doc v _ hv (badUnderL_congr container_image_row cfg.lower _ hbad)

/-! ## instances: the hypotheses are met by ordinary documents, both disjuncts occur, and the key matters -/

section Examples

/-! level 2: a step -/

/--
```
- run: make
  shell: bash
  working-directory: src
```
-/
def exStepK : Node :=
  mp 1 3 [key "run" 1 3, sc "!!str" "make" 1 8, key "shell" 2 3, sc "!!str" "bash" 2 10,
    key "working-directory" 3 3, sc "!!str" "src" 3 22]

/-- `run` and `working-directory` have rows of the table, `shell` has none (`by rfl`, here and below: the term `rfl`
goes through the unifier, which is slower to check) -/
theorem exStepK_keyed : stepKeyed exStepK = [(sc "!!str" "make" 1 8, "jobs.<job_id>.steps.run"), (sc "!!str" "bash" 2 10, ""),
    (sc "!!str" "src" 3 22, "jobs.<job_id>.steps.working-directory")] := by rfl

/-- stated once, so that the parser is evaluated once for the example below -/
theorem exStepK_parsed (cfg : Cfg) : parseStep cfg exStepK =
    (⟨none, none, none, .run ⟨some ⟨"make", false, ⟨1, 8⟩⟩, some ⟨"bash", false, ⟨2, 10⟩⟩, some ⟨"src", false, ⟨3, 22⟩⟩, some ⟨1, 3⟩⟩,
      none, none, none, ⟨1, 3⟩⟩, []) := by rfl

/-- second disjunct: the step parses silently; the `working-directory` scalar is listed under
`jobs.<job_id>.steps.working-directory` — and NOT under the key of `shell:` (no key), which is where a parser that mixed
the two fields up would put it -/
example (cfg : Cfg) : (parseStep cfg exStepK).2 = [] ∧
    (∃ s, (s, "jobs.<job_id>.steps.working-directory") ∈ stepKStrs (parseStep cfg exStepK).1 ∧ s.value = "src" ∧ s.pos = ⟨3, 22⟩) ∧
    ¬ ∃ s, (s, "") ∈ stepKStrs (parseStep cfg exStepK).1 ∧ s.pos = ⟨3, 22⟩ := by
  rw [exStepK_parsed cfg, show stepKStrs _ = [(⟨"make", false, ⟨1, 8⟩⟩, "jobs.<job_id>.steps.run"),
    (⟨"bash", false, ⟨2, 10⟩⟩, ""), (⟨"src", false, ⟨3, 22⟩⟩, "jobs.<job_id>.steps.working-directory")] from by rfl]
  simp

/-- `working-directory: [src]`: first disjunct — `parseStep` reports — and `src` is not a string of the step at all -/
example (cfg : Cfg) : (sc "!!str" "src" 2 23, "jobs.<job_id>.steps.working-directory") ∈ stepKeyed exStepBad ∧
    (parseStep cfg exStepBad).2 ≠ [] := by
  refine ⟨?_, by rw [exStepBad_parsed cfg]; simp⟩
  rw [show stepKeyed exStepBad = [(sc "!!str" "make" 1 8, "jobs.<job_id>.steps.run"),
    (sc "!!str" "src" 2 23, "jobs.<job_id>.steps.working-directory")] from by rfl]; simp

/-! a container, an environment -/

/-- `{image: img, credentials: {username: us, password: pw}, env: {B: b}}` -/
def exContainer : Node :=
  mp 15 16 [key "image" 15 17, sc "!!str" "img" 15 24,
    key "credentials" 15 29, mp 15 42 [key "username" 15 43, sc "!!str" "us" 15 53, key "password" 15 57, sc "!!str" "pw" 15 67],
    key "env" 15 72, mp 15 77 [key "B" 15 78, sc "!!str" "b" 15 81]]

theorem exContainer_keyed : containerKeyed "K" "K.credentials" "K.env" exContainer =
    [(sc "!!str" "img" 15 24, "K"), (sc "!!str" "us" 15 53, "K.credentials"), (sc "!!str" "pw" 15 67, "K.credentials"),
     (sc "!!str" "b" 15 81, "K.env")] := by rfl

/-- the password is stored where it is checked under the row of the credentials -/
example : (parseContainer exCfg "container" ⟨15, 5⟩ exContainer).2 = [] ∧
    ∃ s, (s, "K.credentials") ∈ containerKStrs (some (parseContainer exCfg "container" ⟨15, 5⟩ exContainer).1) "K" "K.credentials" "K.env" "K" ∧
      s.value = "pw" ∧ s.pos = ⟨15, 67⟩ := by
  have hc : (parseContainer exCfg "container" ⟨15, 5⟩ exContainer).2 = [] := by decide +kernel
  refine ⟨hc, ?_⟩
  have hv : (sc "!!str" "pw" 15 67, "K.credentials") ∈ containerKeyed "K" "K.credentials" "K.env" exContainer := by
    rw [exContainer_keyed]; simp
  exact (container_keeps_key exCfg "container" ⟨15, 5⟩ exContainer "K" "K.credentials" "K.env" _ _ hv).resolve_left (fun h => h hc)

/-- `{name: prod, url: u}` -/
def exEnvironment : Node := mp 14 18 [key "name" 14 19, sc "!!str" "prod" 14 25, key "url" 14 31, sc "!!str" "u" 14 36]

theorem exEnvironment_keyed : environmentKeyed exEnvironment =
    [(sc "!!str" "prod" 14 25, "jobs.<job_id>.environment"), (sc "!!str" "u" 14 36, "jobs.<job_id>.environment.url")] := by rfl

example : (parseEnvironment exCfg ⟨14, 5⟩ exEnvironment).2 = [] ∧
    ∃ s, (s, "jobs.<job_id>.environment.url") ∈ environmentKStrs (parseEnvironment exCfg ⟨14, 5⟩ exEnvironment).1 ∧
      s.value = "u" ∧ s.pos = ⟨14, 36⟩ := by
  have hc : (parseEnvironment exCfg ⟨14, 5⟩ exEnvironment).2 = [] := by decide +kernel
  refine ⟨hc, ?_⟩
  have hv : (sc "!!str" "u" 14 36, "jobs.<job_id>.environment.url") ∈ environmentKeyed exEnvironment := by
    rw [exEnvironment_keyed]; simp
  exact (environment_keeps_key exCfg ⟨14, 5⟩ exEnvironment _ _ hv).resolve_left (fun h => h hc)

/-- the scalar form `environment: prod` -/
example : environmentKeyed (sc "!!str" "prod" 14 18) = [(sc "!!str" "prod" 14 18, "jobs.<job_id>.environment")] := rfl

/-! level 3: a job -/

/--
```
build:
  if: ${{ secrets.x }}
  runs-on: ubuntu-latest
  environment: {name: prod, url: u}
  container: {image: img, credentials: {username: us, password: pw}, env: {B: b}}
  services:
    db: {image: redis, env: {C: c}}
  steps:
    - run: make
      shell: bash
      working-directory: src
```
-/
def exJobK : Node :=
  mp 12 5 [key "if" 12 5, sc "!!str" "${{ secrets.x }}" 12 9,
    key "runs-on" 13 5, sc "!!str" "ubuntu-latest" 13 14,
    key "environment" 14 5, exEnvironment,
    key "container" 15 5, exContainer,
    key "services" 16 5, mp 17 7 [key "db" 17 7, mp 17 11 [key "image" 17 12, sc "!!str" "redis" 17 19,
      key "env" 17 26, mp 17 31 [key "C" 17 32, sc "!!str" "c" 17 35]]],
    key "steps" 18 5, sq 19 7 [mp 19 9 [key "run" 19 9, sc "!!str" "make" 19 14, key "shell" 20 9, sc "!!str" "bash" 20 16,
      key "working-directory" 21 9, sc "!!str" "src" 21 28]]]

theorem exJobK_keyed : jobKeyed exJobK =
    [(sc "!!str" "${{ secrets.x }}" 12 9, "jobs.<job_id>.if"),
     (sc "!!str" "ubuntu-latest" 13 14, "jobs.<job_id>.runs-on"),
     (sc "!!str" "prod" 14 25, "jobs.<job_id>.environment"),
     (sc "!!str" "u" 14 36, "jobs.<job_id>.environment.url"),
     (sc "!!str" "img" 15 24, "jobs.<job_id>.container"),
     (sc "!!str" "us" 15 53, "jobs.<job_id>.container.credentials"),
     (sc "!!str" "pw" 15 67, "jobs.<job_id>.container.credentials"),
     (sc "!!str" "b" 15 81, "jobs.<job_id>.container.env.<env_id>"),
     (sc "!!str" "redis" 17 19, "jobs.<job_id>.services"),
     (sc "!!str" "c" 17 35, "jobs.<job_id>.services.<service_id>.env.<env_id>"),
     (sc "!!str" "make" 19 14, "jobs.<job_id>.steps.run"),
     (sc "!!str" "bash" 20 16, ""),
     (sc "!!str" "src" 21 28, "jobs.<job_id>.steps.working-directory")] := by rfl

/-- a job with `if: [x]`: first disjunct — reported -/
def exJobBadIf : Node :=
  mp 2 5 [key "if" 2 5, sq 2 9 [sc "!!str" "x" 2 10], key "runs-on" 3 5, sc "!!str" "ubuntu-latest" 3 14,
    key "steps" 4 5, sq 5 7 [mp 5 9 [key "run" 5 9, sc "!!str" "make" 5 14]]]

example : (sc "!!str" "x" 2 10, "jobs.<job_id>.if") ∈ jobKeyed exJobBadIf ∧
    (parseJob exCfg ⟨"build", false, ⟨1, 3⟩⟩ exJobBadIf).2 ≠ [] := by
  refine ⟨?_, by decide +kernel⟩
  rw [show jobKeyed exJobBadIf = [(sc "!!str" "x" 2 10, "jobs.<job_id>.if"), (sc "!!str" "ubuntu-latest" 3 14, "jobs.<job_id>.runs-on"),
    (sc "!!str" "make" 5 14, "jobs.<job_id>.steps.run")] from by rfl]; simp

/-! the `on:` section -/

/--
```
on:
  push:
    branches: [main]
  workflow_call:
    inputs:
      x: {type: string, default: d}
    outputs:
      out: {description: o, value: v}
```
-/
def exOnK : Node :=
  mp 3 3 [key "push" 3 3, mp 4 5 [key "branches" 4 5, sq 4 15 [sc "!!str" "main" 4 16]],
    key "workflow_call" 5 3, mp 6 5 [
      key "inputs" 6 5, mp 7 7 [key "x" 7 7, mp 7 10 [key "type" 7 11, sc "!!str" "string" 7 17, key "default" 7 25, sc "!!str" "d" 7 34]],
      key "outputs" 8 5, mp 9 7 [key "out" 9 7, mp 9 12 [key "description" 9 13, sc "!!str" "o" 9 26, key "value" 9 29, sc "!!str" "v" 9 36]]]]

theorem exOnK_keyed : onKeyed exOnK =
    [(sc "!!str" "main" 4 16, ""), (sc "!!str" "d" 7 34, "on.workflow_call.inputs.<inputs_id>.default"),
     (sc "!!str" "o" 9 26, ""), (sc "!!str" "v" 9 36, "on.workflow_call.outputs.<output_id>.value")] := by rfl

theorem exOnK_clean : (parseEvents exCfg ⟨2, 1⟩ exOnK).2 = [] := by decide +kernel

example : ∀ p ∈ onKeyed exOnK,
    ∃ s, (s, p.2) ∈ onKStrs ((parseEvents exCfg ⟨2, 1⟩ exOnK).1.getD []) ∧ s.value = p.1.value ∧ s.pos = p.1.pos :=
  fun p hp => (on_keeps_key exCfg ⟨2, 1⟩ exOnK p.1 p.2 hp).resolve_left (fun h => h exOnK_clean)

/-! level 4 and the end-to-end corollaries -/

/--
```
run-name: ${{ github }}
on:
  workflow_call:
    inputs:
      x: {type: string, default: d}
    outputs:
      out: {value: v}
env:
  A: a
jobs:
  build: … exJobK …
```
-/
def exDocK : Node :=
  .mk .document "" "" false 1 1 [mp 1 1 [key "run-name" 1 1, sc "!!str" "${{ github }}" 1 11,
    key "on" 2 1, mp 3 3 [key "workflow_call" 3 3, mp 4 5 [
      key "inputs" 4 5, mp 5 7 [key "x" 5 7, mp 5 10 [key "type" 5 11, sc "!!str" "string" 5 17, key "default" 5 25, sc "!!str" "d" 5 34]],
      key "outputs" 6 5, mp 7 7 [key "out" 7 7, mp 7 12 [key "value" 7 13, sc "!!str" "v" 7 20]]]],
    key "env" 8 1, mp 9 3 [key "A" 9 3, sc "!!str" "a" 9 6],
    key "jobs" 10 1, mp 11 3 [key "build" 11 3, exJobK]]]

/-- every value scalar of the document with the key of its position -/
theorem exDocK_keyed : keyedScalars exDocK =
    [(sc "!!str" "${{ github }}" 1 11, "run-name"),
     (sc "!!str" "d" 5 34, "on.workflow_call.inputs.<inputs_id>.default"),
     (sc "!!str" "v" 7 20, "on.workflow_call.outputs.<output_id>.value"),
     (sc "!!str" "a" 9 6, "env"),
     (sc "!!str" "${{ secrets.x }}" 12 9, "jobs.<job_id>.if"),
     (sc "!!str" "ubuntu-latest" 13 14, "jobs.<job_id>.runs-on"),
     (sc "!!str" "prod" 14 25, "jobs.<job_id>.environment"),
     (sc "!!str" "u" 14 36, "jobs.<job_id>.environment.url"),
     (sc "!!str" "img" 15 24, "jobs.<job_id>.container"),
     (sc "!!str" "us" 15 53, "jobs.<job_id>.container.credentials"),
     (sc "!!str" "pw" 15 67, "jobs.<job_id>.container.credentials"),
     (sc "!!str" "b" 15 81, "jobs.<job_id>.container.env.<env_id>"),
     (sc "!!str" "redis" 17 19, "jobs.<job_id>.services"),
     (sc "!!str" "c" 17 35, "jobs.<job_id>.services.<service_id>.env.<env_id>"),
     (sc "!!str" "make" 19 14, "jobs.<job_id>.steps.run"),
     (sc "!!str" "bash" 20 16, ""),
     (sc "!!str" "src" 21 28, "jobs.<job_id>.steps.working-directory")] := by rfl

/-- the first components are the value scalars of C03Parse -/
example : (keyedScalars exDocK).map Prod.fst = valueScalars exDocK := keyed_walk_lists_value_scalars exDocK

theorem exDocK_clean : (parse exCfg exDocK).2 = [] := by decide +kernel

/-- the job `build` was accepted with the document it is the one job of -/
theorem exJobK_clean : (parseJob exCfg ⟨"build", false, ⟨11, 3⟩⟩ exJobK).2 = [] :=
  (AL.C05D.parse_jobs_written exCfg exDocK exDocK_clean).2 (key "build" 11 3, exJobK) (List.mem_singleton.2 rfl)

/-- second disjunct: the job parses silently; every one of its thirteen value scalars is a string of the job listed under
the key of the scalar's position -/
example : ∀ p ∈ jobKeyed exJobK,
    ∃ s, (s, p.2) ∈ jobKStrs (parseJob exCfg ⟨"build", false, ⟨11, 3⟩⟩ exJobK).1 ∧ s.value = p.1.value ∧ s.pos = p.1.pos :=
  fun p hp => (job_keeps_key exCfg _ exJobK p.1 p.2 hp).resolve_left (fun h => h exJobK_clean)

/-- second disjunct of `parser_keeps_key`, for all seventeen value scalars of the document at once: each is a string of the
AST listed under the key of the scalar's position -/
example : ∀ p ∈ keyedScalars exDocK,
    ∃ s, (s, p.2) ∈ keyedStrs (parse exCfg exDocK).1 ∧ s.value = p.1.value ∧ s.pos = p.1.pos :=
  fun p hp => parser_keeps_key_clean exCfg exDocK p.1 p.2 hp exDocK_clean

/-- the keyed enumeration of the parsed document, computed: the same seventeen pairs (in the order the rule visits them).
A parser that stored `working-directory:` in the field of `shell:` would list `src` under `""` here, and the example above
would fail for it. -/
theorem exDocK_keyedStrs : keyedStrs (parse exCfg exDocK).1 =
    [(⟨"d", false, ⟨5, 34⟩⟩, "on.workflow_call.inputs.<inputs_id>.default"),
     (⟨"${{ github }}", false, ⟨1, 11⟩⟩, "run-name"),
     (⟨"a", false, ⟨9, 6⟩⟩, "env"),
     (⟨"ubuntu-latest", false, ⟨13, 14⟩⟩, "jobs.<job_id>.runs-on"),
     (⟨"${{ secrets.x }}", false, ⟨12, 9⟩⟩, "jobs.<job_id>.if"),
     (⟨"img", false, ⟨15, 24⟩⟩, "jobs.<job_id>.container"),
     (⟨"us", false, ⟨15, 53⟩⟩, "jobs.<job_id>.container.credentials"),
     (⟨"pw", false, ⟨15, 67⟩⟩, "jobs.<job_id>.container.credentials"),
     (⟨"b", false, ⟨15, 81⟩⟩, "jobs.<job_id>.container.env.<env_id>"),
     (⟨"redis", false, ⟨17, 19⟩⟩, "jobs.<job_id>.services"),
     (⟨"c", false, ⟨17, 35⟩⟩, "jobs.<job_id>.services.<service_id>.env.<env_id>"),
     (⟨"make", false, ⟨19, 14⟩⟩, "jobs.<job_id>.steps.run"),
     (⟨"bash", false, ⟨20, 16⟩⟩, ""),
     (⟨"src", false, ⟨21, 28⟩⟩, "jobs.<job_id>.steps.working-directory"),
     (⟨"prod", false, ⟨14, 25⟩⟩, "jobs.<job_id>.environment"),
     (⟨"u", false, ⟨14, 36⟩⟩, "jobs.<job_id>.environment.url"),
     (⟨"v", false, ⟨7, 20⟩⟩, "on.workflow_call.outputs.<output_id>.value")] := by decide +kernel

/-- `no_value_scalar_dropped'` on the document -/
example : ∃ s ∈ valueStrs (parse exCfg exDocK).1, s.value = "src" ∧ s.pos = ⟨21, 28⟩ := by
  refine (no_value_scalar_dropped' exCfg exDocK (sc "!!str" "src" 21 28) ?_).resolve_left (fun h => h exDocK_clean)
  exact keyed_is_scalar exDocK _ "jobs.<job_id>.steps.working-directory" (by rw [exDocK_keyed]; simp)

theorem exCfg_lower_secrets : exCfg.lower "secrets" = "secrets" := by decide +kernel

/-- the job's `if:` is the `if:` of a job -/
theorem exDocK_jobIf : IsJobIf exDocK (sc "!!str" "${{ secrets.x }}" 12 9) :=
  ⟨⟨_, [], key "jobs" 10 1, mp 11 3 [key "build" 11 3, exJobK], key "build" 11 3, exJobK, key "if" 12 5,
    rfl, rfl, by simp [Node.content, mp, pairs], rfl, rfl, by simp [Node.content, mp, pairs], rfl,
    by simp [exJobK, Node.content, mp, pairs], rfl⟩, rfl⟩

example : (sc "!!str" "${{ secrets.x }}" 12 9, "jobs.<job_id>.if") ∈ keyedScalars exDocK := jobIf_keyed _ _ exDocK_jobIf

/-- end to end: `${{ secrets.x }}` in the job's `if:` is reported at 12:9 — the parser being silent, the second disjunct
holds — whatever the project's view -/
example (isNum : AL.RuleExpr.IsNumber) (proj : AL.RuleExpr.ProjView) :
    ∃ d ∈ AL.RuleExpr.rule asciiLower isNum (parse exCfg exDocK).1 proj, d.site = ⟨12, 9⟩ :=
  (job_if_secrets_in_document_reported exCfg exCfg_lower_secrets isNum proj exDocK _ exDocK_jobIf rfl).resolve_left
    (fun h => h exDocK_clean)

/-- the same through `bad_under_document_key_reported`, the membership read off the computed walk -/
example (isNum : AL.RuleExpr.IsNumber) (proj : AL.RuleExpr.ProjView) :
    ∃ d ∈ AL.RuleExpr.rule asciiLower isNum (parse exCfg exDocK).1 proj, d.site = ⟨12, 9⟩ :=
  (bad_under_document_key_reported exCfg isNum proj exDocK (sc "!!str" "${{ secrets.x }}" 12 9) "jobs.<job_id>.if"
    (by rw [exDocK_keyed]; simp) (secrets_bad_in_job_if _ exCfg_lower_secrets)).resolve_left (fun h => h exDocK_clean)

/--
```
name: ${{
on: push
jobs:
  build:
    runs-on: ubuntu-latest
    container:
      image: ${{ secrets.x }}
    steps:
      - run: make
        shell: ${{ github }}
```
-/
def exDocK2 : Node :=
  .mk .document "" "" false 1 1 [mp 1 1 [key "name" 1 1, sc "!!str" "${{" 1 7, key "on" 2 1, sc "!!str" "push" 2 5,
    key "jobs" 3 1, mp 4 3 [key "build" 4 3, mp 5 5 [key "runs-on" 5 5, sc "!!str" "ubuntu-latest" 5 14,
      key "container" 6 5, mp 7 7 [key "image" 7 7, sc "!!str" "${{ secrets.x }}" 7 14],
      key "steps" 8 5, sq 9 7 [mp 9 9 [key "run" 9 9, sc "!!str" "make" 9 14, key "shell" 10 9, sc "!!str" "${{ github }}" 10 16]]]]]]

theorem exDocK2_keyed : keyedScalars exDocK2 =
    [(sc "!!str" "${{" 1 7, ""), (sc "!!str" "ubuntu-latest" 5 14, "jobs.<job_id>.runs-on"),
     (sc "!!str" "${{ secrets.x }}" 7 14, "jobs.<job_id>.container"), (sc "!!str" "make" 9 14, "jobs.<job_id>.steps.run"),
     (sc "!!str" "${{ github }}" 10 16, "")] := by rfl

/-- both facts from one evaluation of the parser -/
theorem exDocK2_parsed : (parse exCfg exDocK2).2 = [] ∧
    keyedStrs (parse exCfg exDocK2).1 = [(⟨"${{", false, ⟨1, 7⟩⟩, ""),
      (⟨"ubuntu-latest", false, ⟨5, 14⟩⟩, "jobs.<job_id>.runs-on"),
      (⟨"${{ secrets.x }}", false, ⟨7, 14⟩⟩, "jobs.<job_id>.container"), (⟨"make", false, ⟨9, 14⟩⟩, "jobs.<job_id>.steps.run"),
      (⟨"${{ github }}", false, ⟨10, 16⟩⟩, "")] := by decide +kernel

theorem exDocK2_clean : (parse exCfg exDocK2).2 = [] := exDocK2_parsed.1

/-- `bad_under_document_key_reported'`: a step's `shell:` has no key, so no context at all is available there —
`${{ github }}` is reported at 10:16, whatever folding function the rule is run with -/
example (lower : String → String) (isNum : AL.RuleExpr.IsNumber) (proj : AL.RuleExpr.ProjView) :
    ∃ d ∈ AL.RuleExpr.rule lower isNum (parse exCfg exDocK2).1 proj, d.site = ⟨10, 16⟩ :=
  (bad_under_document_key_reported' exCfg lower isNum proj exDocK2 (sc "!!str" "${{ github }}" 10 16) ""
    (by rw [exDocK2_keyed]; simp) github_bad_without_key).resolve_left (fun h => h exDocK2_clean)

/-- `container_image_document_key`: `secrets` is not in the documented row `jobs.<job_id>.container.image` — reported at 7:14 -/
example (isNum : AL.RuleExpr.IsNumber) (proj : AL.RuleExpr.ProjView) :
    ∃ d ∈ AL.RuleExpr.rule asciiLower isNum (parse exCfg exDocK2).1 proj, d.site = ⟨7, 14⟩ :=
  (container_image_document_key exCfg isNum proj exDocK2 (sc "!!str" "${{ secrets.x }}" 7 14)
    (by rw [exDocK2_keyed]; simp)
    (secrets_bad_where_unavailable _ exCfg_lower_secrets _ (by decide +kernel))).resolve_left (fun h => h exDocK2_clean)

/-- **the one deviation from the table, on the witness** (recorded by AL.C12R, `container_image_row`):
the `image:` of the job's container — documented row `jobs.<job_id>.container.image` — is stored in `Container.Image` and
listed (checked) under the key of the section, `jobs.<job_id>.container`; no string of the parsed document is checked under
`jobs.<job_id>.container.image`. The two rows are equal, so the checks are the same (`container_image_document_key`). -/
theorem observation_container_image_key :
    (⟨"${{ secrets.x }}", false, ⟨7, 14⟩⟩, "jobs.<job_id>.container") ∈ keyedStrs (parse exCfg exDocK2).1 ∧
    (∀ p ∈ keyedStrs (parse exCfg exDocK2).1, p.2 ≠ "jobs.<job_id>.container.image") ∧
    AL.Visit.availability "jobs.<job_id>.container.image" = AL.Visit.availability "jobs.<job_id>.container" := by
  rw [exDocK2_parsed.2]
  refine ⟨by simp, ?_, container_image_row⟩
  intro p hp
  simp only [List.mem_cons, List.not_mem_nil, or_false] at hp
  rcases hp with rfl | rfl | rfl | rfl | rfl <;> decide

/-- `placeholder_in_document_reported'`: the unclosed `${{` of `name:` -/
example (lower : String → String) (isNum : AL.RuleExpr.IsNumber) :
    ∃ d ∈ AL.RuleExpr.rule lower isNum (parse exCfg exDocK2).1, d.site = ⟨1, 7⟩ :=
  (placeholder_in_document_reported' exCfg lower isNum exDocK2 (sc "!!str" "${{" 1 7)
    (keyed_is_scalar exDocK2 _ "" (by rw [exDocK2_keyed]; simp)) malformed_open).resolve_left (fun h => h exDocK2_clean)

/-- a document whose job has `if: [${{ secrets.x }}]`: first disjunct of `parser_keeps_key` and of the end-to-end theorem —
the parser reports (and the scalar is not a string of the AST) -/
def exDocKBad : Node :=
  .mk .document "" "" false 1 1 [mp 1 1 [key "on" 1 1, sc "!!str" "push" 1 5,
    key "jobs" 2 1, mp 3 3 [key "build" 3 3, mp 4 5 [key "if" 4 5, sq 4 9 [sc "!!str" "${{ secrets.x }}" 4 10],
      key "runs-on" 5 5, sc "!!str" "ubuntu-latest" 5 14,
      key "steps" 6 5, sq 7 7 [mp 7 9 [key "run" 7 9, sc "!!str" "make" 7 14]]]]]]

example : (sc "!!str" "${{ secrets.x }}" 4 10, "jobs.<job_id>.if") ∈ keyedScalars exDocKBad ∧
    (parse exCfg exDocKBad).2 = [⟨⟨4, 9⟩, "not-scalar-string", ["sequence", "!!seq"]⟩] ∧
    ¬ ∃ p ∈ keyedStrs (parse exCfg exDocKBad).1, p.1.value = "${{ secrets.x }}" := by
  have h : (parse exCfg exDocKBad).2 = [⟨⟨4, 9⟩, "not-scalar-string", ["sequence", "!!seq"]⟩] ∧
      keyedStrs (parse exCfg exDocKBad).1 = [(⟨"ubuntu-latest", false, ⟨5, 14⟩⟩, "jobs.<job_id>.runs-on"),
        (⟨"", false, ⟨4, 9⟩⟩, "jobs.<job_id>.if"), (⟨"make", false, ⟨7, 14⟩⟩, "jobs.<job_id>.steps.run")] := by decide +kernel
  refine ⟨?_, h.1, ?_⟩
  · rw [show keyedScalars exDocKBad = [(sc "!!str" "${{ secrets.x }}" 4 10, "jobs.<job_id>.if"),
      (sc "!!str" "ubuntu-latest" 5 14, "jobs.<job_id>.runs-on"), (sc "!!str" "make" 7 14, "jobs.<job_id>.steps.run")] from by rfl]
    simp
  · rw [h.2]
    simp

end Examples

end AL.C12P
