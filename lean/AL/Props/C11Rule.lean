import AL.Props.C12Rule
import AL.Props.C11
import AL.Lemmas.SemaCodes
import AL.Props.C05Scope
import AL.Model.Facts
/-
  C11 on the model of rule_expression.go (AL.RuleExpr): script-injection detection AT WORKFLOW LEVEL.

  AL.Props.C11 is the expression level: WHICH expressions are untrusted (`machine_eq_spec`). Here: WHERE the untrusted
  input check is switched on. The rule has one flag (`checkString` = off, `checkScriptString` = on); a diagnostic of the
  untrusted-input check has the code `"untrusted"` (`checkParsed`) and no other producer of the rule uses that code.

  In the order of the file: §0 the semantic check never emits the code; §2a nor does any checkX that runs with the flag
  off (`…_noU`); §1 the script strings `scriptStrs lower w`, from the documentation; §3a the untrusted-input diagnostics
  of the rule ARE the flag-on scans of the script strings, in order (`rule_untrusted_exact`); §2b they sit at script
  strings (`untrusted_only_in_scripts`: a walk over `rule` with the `…_noU` and `…_loc` facts); §3 every script string
  is scanned with the flag on (`script_scanned_with_flag_on`, `every_script_checked_L`); §3b, §3c
  `${{ github.event.issue.title }}` is untrusted in every scope whose `lower` keeps its four names (`title_untrusted`)
  and reported in `run:` / `script:` of every workflow; §4 the known limit `placeholders-after-first-diagnostic`,
  exactly (`untrusted_reported_iff`); §5 for an ASCII-lower-casing `lower` the rule's criterion is the documented
  any-letter-case one (`scriptStrs_eq_doc`); §6 instances of the theorems with hypotheses.
-/
namespace AL.C11R
open AL AL.Ast AL.Sema AL.RuleExpr AL.C03R

/-! ## 0. the code of the untrusted-input diagnostic; who can produce it -/

/-- the code `checkParsed` gives the diagnostics of the untrusted-input machine -/
def untrustedCode : String := "untrusted"

/-- a diagnostic of the untrusted-input check -/
def isUntrusted (d : Diag) : Prop := d.code = "untrusted"

instance : DecidablePred isUntrusted := fun d => inferInstanceAs (Decidable (d.code = "untrusted"))

/-- nothing in the list has the code of the untrusted-input check: `NoUE` for the checker's `SemaErr`s, `NoU` for the rule's
`Diag`s -/
def NoUE (es : List SemaErr) : Prop := ∀ e ∈ es, e.code ≠ "untrusted"
def NoU (ds : List Diag) : Prop := ∀ d ∈ ds, ¬ isUntrusted d

theorem NoUE.nil : NoUE [] := fun _ h => nomatch h
theorem NoU.nil : NoU [] := fun _ h => nomatch h

theorem noUE_append {a b : List SemaErr} : NoUE (a ++ b) ↔ NoUE a ∧ NoUE b := by
  simp only [NoUE, List.mem_append]
  exact ⟨fun h => ⟨fun e he => h e (Or.inl he), fun e he => h e (Or.inr he)⟩, fun h e he => he.elim (h.1 e) (h.2 e)⟩

theorem noU_append {a b : List Diag} : NoU (a ++ b) ↔ NoU a ∧ NoU b := by
  simp only [NoU, List.mem_append]
  exact ⟨fun h => ⟨fun e he => h e (Or.inl he), fun e he => h e (Or.inr he)⟩, fun h e he => he.elim (h.1 e) (h.2 e)⟩

theorem NoU.append {a b : List Diag} (ha : NoU a) (hb : NoU b) : NoU (a ++ b) := noU_append.2 ⟨ha, hb⟩

theorem NoU.flatMap {α : Type} (l : List α) (f : α → List Diag) (h : ∀ a ∈ l, NoU (f a)) : NoU (l.flatMap f) := by
  intro d hd
  obtain ⟨a, ha, hda⟩ := List.mem_flatMap.1 hd
  exact h a ha d hda

theorem NoU.at_ (s : Str) {es : List SemaErr} (h : NoUE es) : NoU (at_ s es) := by
  intro d hd
  simp only [RuleExpr.at_, List.mem_map] at hd
  obtain ⟨e, he, rfl⟩ := hd
  exact h e he

theorem noUE_single (code : String) (args : List String) (h : code ≠ "untrusted") : NoUE [err code args] := by
  intro e he
  rw [List.mem_singleton.1 he]
  exact h

/-! ### the semantic checker never uses the code -/

theorem untrusted_not_local : "untrusted" ∉ localCodes := codes_not_sema.1.2.2
theorem untrusted_not_call : "untrusted" ∉ callCodes := codes_not_sema.1.2.1

theorem keep_var_untrusted (Γ : Sema.Env) (n : String) : keep "untrusted" (check Γ (.var n)).errs = [] :=
  keep_var_free codes_not_sema.1.1 Γ n

theorem keep_resolveCall_untrusted (Γ : Sema.Env) (c : String) (sigs : List Sig) (fl : Option String) (tys : List Ty) :
    keep "untrusted" (resolveCall Γ c sigs fl tys).2 = [] :=
  keep_resolveCall_free codes_not_sema.1.1 untrusted_not_call Γ c sigs fl tys

theorem srcErrs_untrusted (Γ : Sema.Env) : ∀ (e : E), srcErrs Γ "untrusted" e = [] :=
  srcErrs_free codes_not_sema.1.1 untrusted_not_call Γ
theorem srcErrsList_untrusted (Γ : Sema.Env) : ∀ (es : List E), srcErrsList Γ "untrusted" es = [] :=
  srcErrsList_free codes_not_sema.1.1 untrusted_not_call Γ

/-- **the semantic checker (`sema.check`) never emits the code `untrusted`**, whatever the environment and the expression -/
theorem check_noUE (Γ : Sema.Env) (e : E) : NoUE (check Γ e).errs :=
  check_code_free codes_not_sema.1.1 untrusted_not_call untrusted_not_local Γ e

/-! ### with the flag OFF nothing below `checkExprsIn` emits the code -/

theorem checkParsed_false_noUE (cx : Cx) (key : String) (pe : AL.Parse.Expr) (off : Nat) :
    NoUE (checkParsed cx key false pe off).2 := by
  unfold checkParsed
  simp only [Bool.false_eq_true, if_false, List.append_nil]
  split
  · exact NoUE.nil
  · exact check_noUE _ _

theorem checkOne_false_noUE (cx : Cx) (key : String) (rest : List Nat) : NoUE (checkOne cx key false rest).2 := by
  unfold checkOne
  split
  · exact checkParsed_false_noUE cx key _ _
  · exact noUE_single _ _ (by decide)

theorem scan_false_noUE (cx : Cx) (key : String) : ∀ (fuel : Nat) (s : List Nat) (ts : List Ty),
    NoUE (scan cx key false fuel s ts).2
  | 0, _, _ => NoUE.nil
  | fuel + 1, s, ts => by
    rw [scan]
    split
    · exact NoUE.nil
    · rename_i idx _
      have h1 := checkOne_false_noUE cx key (s.drop (idx + 3))
      simp only
      split
      · rename_i errs heq; rw [heq] at h1; exact h1
      · split
        · exact NoUE.nil
        · exact scan_false_noUE cx key fuel _ _

/-- **core lemma of the precision half**: with `untrusted = false`, `checkExprsIn` yields no diagnostic with the code
`untrusted` — whatever the scope, the key and the text -/
theorem checkExprsIn_false_noUE (cx : Cx) (key : String) (v : String) : NoUE (checkExprsIn cx key false v).2 :=
  scan_false_noUE cx key _ _ _

theorem templateDiags_noUE (ts : List Ty) : NoUE (templateDiags ts) := by
  intro e he
  simp only [templateDiags, List.mem_flatMap] at he
  obtain ⟨t, _, ht⟩ := he
  split at ht <;> first | (rw [List.mem_singleton.1 ht]; simp [err]) | cases ht

/-! ## 2a. precision, bottom-up: every `checkX` that is called with the flag off is free of the code -/

@[simp] theorem checkStrU_false_noU (cx : Cx) (s : Option Str) (key : String) : NoU (checkStrU cx false s key).2 := by
  unfold checkStrU
  split
  · exact NoU.nil
  · rename_i str
    have h := checkExprsIn_false_noUE cx key str.value
    split
    · rename_i es heq; rw [heq] at h; exact NoU.at_ str h
    · rename_i ts es heq; rw [heq] at h; exact NoU.at_ str (noUE_append.2 ⟨h, templateDiags_noUE ts⟩)

@[simp] theorem checkString_noU (cx : Cx) (s : Option Str) (key : String) : NoU (checkString cx s key) :=
  checkStrU_false_noU cx s key

@[simp] theorem checkStrings_noU (cx : Cx) (ss : Option (List Str)) (key : String) : NoU (checkStrings cx ss key) :=
  NoU.flatMap _ _ fun s _ => checkString_noU cx (some s) key

@[simp] theorem checkOneExpression_noU (cx : Cx) (s : Option Str) (what key : String) :
    NoU (checkOneExpression cx s what key).2 := by
  unfold checkOneExpression
  split
  · exact NoU.nil
  · rename_i str
    have h := checkExprsIn_false_noUE cx key str.value
    split
    · rename_i es heq; rw [heq] at h; exact NoU.at_ str h
    · rename_i t es heq; rw [heq] at h; exact NoU.at_ str h
    · rename_i ts es _ heq; rw [heq] at h
      exact NoU.at_ str (noUE_append.2 ⟨h, noUE_single _ _ (by decide)⟩)

theorem mustBe_noU (p : Ty → Bool) (code what : String) (s : Option Str) (r : Option Ty × List Diag) (hc : code ≠ "untrusted")
    (h : NoU r.2) : NoU (mustBe p code what s r).2 := by
  unfold mustBe
  split
  · rename_i t str _
    split
    · exact h
    · exact h.append (NoU.at_ str (noUE_single _ _ hc))
  · exact h

@[simp] theorem checkObjectExpression_noU (cx : Cx) (s : Option Str) (what key : String) :
    NoU (checkObjectExpression cx s what key).2 := mustBe_noU _ _ _ _ _ (by decide) (checkOneExpression_noU cx s what key)
@[simp] theorem checkArrayExpression_noU (cx : Cx) (s : Option Str) (what key : String) :
    NoU (checkArrayExpression cx s what key).2 := mustBe_noU _ _ _ _ _ (by decide) (checkOneExpression_noU cx s what key)
@[simp] theorem checkNumberExpression_noU (cx : Cx) (s : Option Str) (what key : String) :
    NoU (checkNumberExpression cx s what key).2 := mustBe_noU _ _ _ _ _ (by decide) (checkOneExpression_noU cx s what key)

@[simp] theorem checkBool_noU (cx : Cx) (b : Option BoolV) (key : String) : NoU (checkBool cx b key) := by
  unfold checkBool
  split
  · exact NoU.nil
  · rename_i b
    split
    · exact NoU.nil
    · rename_i e _
      have h := checkOneExpression_noU cx (some e) "bool value" key
      simp only
      split <;> first | exact h | exact h.append (NoU.at_ e (noUE_single _ _ (by decide)))

@[simp] theorem checkInt_noU (cx : Cx) (i : Option IntV) (key : String) : NoU (checkInt cx i key) := by
  unfold checkInt
  split
  · exact NoU.nil
  · exact checkNumberExpression_noU _ _ _ _

@[simp] theorem checkFloat_noU (cx : Cx) (f : Option FloatV) (key : String) : NoU (checkFloat cx f key) := by
  unfold checkFloat
  split
  · exact NoU.nil
  · exact checkNumberExpression_noU _ _ _ _

@[simp] theorem checkEnv_noU (cx : Cx) (e : Option Ast.Env) (key : String) : NoU (RuleExpr.checkEnv cx e key) := by
  unfold RuleExpr.checkEnv
  split
  · exact NoU.nil
  · split
    · exact NoU.flatMap _ _ fun kv _ => (checkString_noU _ _ _).append (checkString_noU _ _ _)
    · exact checkObjectExpression_noU _ _ _ _

@[simp] theorem checkContainer_noU (cx : Cx) (c : Option Container) (key pre : String) : NoU (checkContainer cx c key pre) := by
  unfold checkContainer
  split
  · exact NoU.nil
  · simp only [noU_append, checkString_noU, checkStrings_noU, checkEnv_noU, and_true, true_and]
    split
    · simp only [noU_append, checkString_noU, and_self]
    · exact NoU.nil

@[simp] theorem checkConcurrency_noU (cx : Cx) (c : Option Concurrency) (key : String) : NoU (checkConcurrency cx c key) := by
  unfold checkConcurrency
  split
  · exact NoU.nil
  · simp only [noU_append, checkString_noU, checkBool_noU, and_self]

@[simp] theorem checkDefaults_noU (cx : Cx) (d : Option Defaults) (key : String) : NoU (checkDefaults cx d key) := by
  unfold checkDefaults
  split
  · exact NoU.nil
  · split
    · exact NoU.nil
    · simp only [noU_append, checkString_noU, and_self]

@[simp] theorem checkIfCondition_noU (cx : Cx) (s : Option Str) (key : String) : NoU (checkIfCondition cx s key) := by
  unfold checkIfCondition
  split
  · exact NoU.nil
  · rename_i str
    have hnb : ∀ t : Ty, NoU (match t with
        | .bool => [] | .any => []
        | t => if Ty.assignable .bool t then [] else at_ str [err "if-cond-type" [tyStr t]]) := by
      intro t
      split
      · exact NoU.nil
      · exact NoU.nil
      · split
        · exact NoU.nil
        · exact NoU.at_ str (noUE_single _ _ (by decide))
    simp only
    split
    · have h := checkStrU_false_noU cx (some str) key
      split
      · split
        · exact h.append (hnb _)
        · exact h
      · exact h
    · have h := checkOne_false_noUE cx key (bytesOf str.value ++ [125, 125])
      split
      · rename_i es heq; rw [heq] at h; exact NoU.at_ str h
      · exact hnb _

/-! ### the matrix, at any depth -/

/-- strings each checked as a template with the flag off -/
theorem sites_noU (cx : Cx) (key : String) (l : List Str) :
    NoU (l.flatMap fun s => at_ s (checkExprsIn cx key false s.value).2) :=
  NoU.flatMap _ _ fun s _ => NoU.at_ s (checkExprsIn_false_noUE cx key s.value)

@[simp] theorem rawStringTy_noU (cx : Cx) (isNum : IsNumber) (v : String) (p : RuleExpr.Pos) : NoU (rawStringTy cx isNum v p).2 := by
  rw [AL.Cover.rawStringTy_snd]
  exact NoU.at_ _ (checkExprsIn_false_noUE cx _ v)

theorem rawTy_noU (cx : Cx) (isNum : IsNumber) : ∀ (v : AL.Matrix.Raw), NoU (rawTy cx isNum v).2 :=
  fun v => AL.Cover.rawTy_snd cx isNum v ▸ sites_noU cx _ _
theorem rawFold_noU (cx : Cx) (isNum : IsNumber) : ∀ (acc : Ty) (vs : List AL.Matrix.Raw), NoU (rawFold cx isNum acc vs).2 :=
  fun acc vs => AL.Cover.rawFold_snd cx isNum acc vs ▸ sites_noU cx _ _
theorem rawProps_noU (cx : Cx) (isNum : IsNumber) : ∀ (ps : List (String × AL.Matrix.Raw)), NoU (RuleExpr.rawProps cx isNum ps).2 :=
  fun ps => AL.Cover.rawProps_snd cx isNum ps ▸ sites_noU cx _ _

@[simp] theorem rowTy_noU (cx : Cx) (isNum : IsNumber) (r : MatrixRow) : NoU (rowTy cx isNum r).2 := by
  unfold rowTy
  split
  · exact checkArrayExpression_noU _ _ _ _
  · split
    · exact NoU.nil
    · exact (rawTy_noU cx isNum _).append (rawFold_noU cx isNum _ _)

@[simp] theorem excludeDiags_noU (cx : Cx) (isNum : IsNumber) (ex : Option MatrixCombinations) : NoU (excludeDiags cx isNum ex) := by
  unfold excludeDiags
  split
  · exact NoU.nil
  · split
    · rename_i e _
      have h := checkArrayExpression_noU cx (some e) "exclude" "jobs.<job_id>.strategy"
      simp only
      split
      · split
        · exact h
        · exact h.append (NoU.at_ e (noUE_single _ _ (by decide)))
      · exact h
    · refine NoU.flatMap _ _ fun c _ => ?_
      split
      · exact checkObjectExpression_noU _ _ _ _
      · exact NoU.flatMap _ _ fun kv _ => rawTy_noU cx isNum _

theorem foldl_noU {α σ : Type} (step : σ × List Diag → α → σ × List Diag)
    (hstep : ∀ acc x, NoU acc.2 → NoU (step acc x).2) (l : List α) : ∀ acc, NoU acc.2 → NoU (l.foldl step acc).2 :=
  fun _ h => List.foldlRecOn (motive := fun acc : σ × List Diag => NoU acc.2) l step h fun acc hacc x _ => hstep acc x hacc

theorem includeCombo_noU (cx : Cx) (isNum : IsNumber) (acc : Ty × List Diag) (c : MatrixCombination) (h : NoU acc.2) :
    NoU (includeCombo cx isNum acc c).2 := by
  unfold includeCombo
  split
  · rename_i e _
    have h1 := checkOneExpression_noU cx (some e) "matrix combination at element of include section" "jobs.<job_id>.strategy"
    simp only
    split <;> exact h.append h1
  · refine foldl_noU _ ?_ _ acc h
    intro a kv ha
    have := rawTy_noU cx isNum kv.2.value
    split <;> exact ha.append this

@[simp] theorem matrixExprTy_noU (cx : Cx) (e : Str) : NoU (matrixExprTy cx e).2 := by
  have h := checkObjectExpression_noU cx (some e) "matrix" "jobs.<job_id>.strategy"
  simp only [matrixExprTy]
  split <;> exact h

@[simp] theorem checkMatrix_noU (cx : Cx) (isNum : IsNumber) (m : Matrix) : NoU (checkMatrix cx isNum m).2 := by
  unfold checkMatrix
  split
  · exact matrixExprTy_noU cx _
  · have hrows : NoU ((m.rows.getD []).foldl (fun (acc : List (String × Ty) × List Diag) kv =>
          (Ty.setProp kv.1 (rowTy cx isNum kv.2).1 acc.1, acc.2 ++ (rowTy cx isNum kv.2).2)) ([], [])).2 :=
      foldl_noU _ (fun acc kv ha => ha.append (rowTy_noU cx isNum kv.2)) _ _ NoU.nil
    have hex := excludeDiags_noU cx isNum m.excl
    simp only
    split
    · exact hex.append hrows
    · split
      · exact (hex.append hrows).append (checkOneExpression_noU _ _ _ _)
      · exact (hex.append hrows).append (foldl_noU _ (fun acc c ha => includeCombo_noU cx isNum acc c ha) _ _ NoU.nil)

@[simp] theorem jobMatrix_noU (cx : Cx) (isNum : IsNumber) (n : Job) : NoU (jobMatrix cx isNum n).2 := by
  unfold jobMatrix
  split
  · split
    · exact checkMatrix_noU cx isNum _
    · exact NoU.nil
  · exact NoU.nil

/-! ### the rest of a job -/

theorem typedInput_noU (cx : Cx) (u : Str) (kv : String × CallArg) (ts : List Ty) : NoU (typedInput cx u kv ts) := by
  unfold typedInput
  split
  · exact NoU.nil
  · split
    · exact NoU.nil
    · split
      · exact NoU.nil
      · simp only
        split
        · exact NoU.nil
        · intro d hd
          rw [List.mem_singleton.1 hd]
          simp [isUntrusted]

@[simp] theorem checkWorkflowCall_noU (cx : Cx) (c : Option WorkflowCall) : NoU (RuleExpr.checkWorkflowCall cx c) := by
  unfold RuleExpr.checkWorkflowCall
  split
  · exact NoU.nil
  · split
    · exact NoU.nil
    · refine ((checkString_noU _ _ _).append (NoU.flatMap _ _ fun kv _ => ?_)).append
        (NoU.flatMap _ _ fun kv _ => checkString_noU _ _ _)
      exact (checkStrU_false_noU _ _ _).append (typedInput_noU _ _ _ _)

@[simp] theorem runsOnDiags_noU (cx : Cx) (r : Option Runner) : NoU (runsOnDiags cx r) := by
  unfold runsOnDiags
  split
  · exact NoU.nil
  · refine NoU.append ?_ (checkString_noU _ _ _)
    split
    · rename_i e _
      have h := checkOneExpression_noU cx (some e) "runner label at \"runs-on\" section" "jobs.<job_id>.runs-on"
      simp only
      split <;> first | exact h | exact h.append (NoU.at_ e (noUE_single _ _ (by decide)))
    · exact NoU.flatMap _ _ fun l _ => checkString_noU _ _ _

@[simp] theorem strategyDiags_noU (cx : Cx) (s : Option Strategy) : NoU (strategyDiags cx s) := by
  unfold strategyDiags
  split
  · exact (checkBool_noU _ _ _).append (checkInt_noU _ _ _)
  · exact NoU.nil

@[simp] theorem servicesDiags_noU (cx : Cx) (s : Option Services) : NoU (servicesDiags cx s) := by
  unfold servicesDiags
  split
  · exact (checkObjectExpression_noU _ _ _ _).append (NoU.flatMap _ _ fun kv _ => checkContainer_noU _ _ _ _)
  · exact NoU.nil

@[simp] theorem jobPre_noU (cx : Cx) (n : Job) : NoU (jobPre cx n) := by
  simp only [jobPre, noU_append, checkString_noU, checkStrings_noU, runsOnDiags_noU, checkConcurrency_noU, checkEnv_noU,
    checkDefaults_noU, checkIfCondition_noU, strategyDiags_noU, checkBool_noU, checkFloat_noU, checkContainer_noU,
    servicesDiags_noU, checkWorkflowCall_noU, and_self]

@[simp] theorem jobPost_noU (cx : Cx) (n : Job) : NoU (jobPost cx n) := by
  unfold jobPost
  refine NoU.append ?_ (NoU.flatMap _ _ fun kv _ => checkString_noU _ _ _)
  split
  · exact (checkString_noU _ _ _).append (checkString_noU _ _ _)
  · exact NoU.nil

/-! ### `on:` -/

theorem noU_ite (c : Prop) [Decidable c] (l : List Diag) (h : NoU l) : NoU (if c then l else []) := by
  split
  · exact h
  · exact NoU.nil

theorem callInputs_noU (cx : Cx) : ∀ (ins : List Ast.CallInput) (acc : List (String × Ty)), NoU (callInputs cx acc ins).2
  | [], _ => NoU.nil
  | i :: rest, acc => by
    simp only [callInputs]
    refine NoU.append (NoU.append (NoU.append ((checkString_noU _ _ _).append (checkBool_noU _ _ _))
      (checkStrU_false_noU _ _ _)) ?_) (callInputs_noU cx rest _)
    split
    · rename_i t d _ _ _
      refine noU_ite _ _ ?_
      cases t <;> first | exact NoU.nil | exact NoU.at_ d (noUE_single "input-default-bool" _ (by decide))
    · rename_i t d _ _ _
      refine noU_ite _ _ ?_
      cases t <;> first | exact NoU.nil | exact NoU.at_ d (noUE_single "input-default-number" _ (by decide))
    · exact NoU.nil

@[simp] theorem filterDiags_noU (cx : Cx) (f : Option Filter) : NoU (filterDiags cx f) := by
  unfold filterDiags
  split
  · exact checkStrings_noU _ _ _
  · exact NoU.nil

@[simp] theorem webhookDiags_noU (cx : Cx) (e : WebhookEvent) : NoU (webhookDiags cx e) := by
  simp only [webhookDiags, noU_append, checkStrings_noU, filterDiags_noU, and_self]

@[simp] theorem dispatchInputDiags_noU (cx : Cx) (i : DispatchInput) : NoU (dispatchInputDiags cx i) := by
  simp only [dispatchInputDiags, noU_append, checkString_noU, checkStrings_noU, checkBool_noU, and_self]

@[simp] theorem callSecretDiags_noU (cx : Cx) (s : CallSecret) : NoU (callSecretDiags cx s) := by
  simp only [callSecretDiags, noU_append, checkString_noU, checkBool_noU, and_self]

@[simp] theorem visitEvent_noU (cx : Cx) (e : Ast.Event) : NoU (visitEvent cx e).2 := by
  cases e with
  | webhook e => exact webhookDiags_noU cx e
  | schedule cron pos => exact checkStrings_noU _ _ _
  | dispatch inputs pos => exact NoU.flatMap _ _ fun kv _ => dispatchInputDiags_noU _ _
  | repoDispatch types pos => exact checkStrings_noU _ _ _
  | call inputs secrets outputs pos =>
    simp only [visitEvent]
    exact ((callInputs_noU _ _ _).append (NoU.flatMap _ _ fun kv _ => callSecretDiags_noU _ _)).append
      (NoU.flatMap _ _ fun kv _ => checkString_noU _ _ _)

theorem visitEvents_noU : ∀ (es : List Ast.Event) (cx : Cx), NoU (visitEvents cx es).2
  | [], _ => NoU.nil
  | e :: rest, cx => by
    simp only [visitEvents]
    exact (visitEvent_noU cx e).append (visitEvents_noU rest _)

/-! ## 1. where the flag is on: the SCRIPT positions, from the documentation

  * the `run:` of a step;
  * the `script` input of a step that runs `actions/github-script` (key and action name in any letter case).

What the Go code (rule_expression.go:289, `VisitStep`) and the model accept as
"runs actions/github-script": `strings.HasPrefix(strings.ToLower(e.Uses.Value), "actions/github-script@")` — the text of
`uses:`, FOLDED with the rule's folding function (`lower`, no trimming), starts with `actions/github-script@`: any ref
after the `@`, nothing between the repository name and the `@` (so not `actions/github-script/sub@v7`), owner and
repository in any letter case (`isGithubScript lower`). The input is found by its id `script`: the parser stores the
inputs of `with:` under the key folded to lower case (parse.go:1052, `exec.Inputs[input.id]`, model: AL.ParseWf), so
`Script:` / `SCRIPT:` arrive here as `script`. The enumeration depends on `lower` only through that test; for a `lower`
that is ASCII lower-casing it IS the documented any-case criterion (§5: `scriptStrs_eq_doc`); `uses:
Actions/GitHub-Script@v7` is scanned with the flag ON (`github_script_any_case_reported`). -/

/-- `uses:`, folded with `lower`, is `actions/github-script@…` -/
def isGithubScript (lower : String → String) (uses : Option Str) : Bool :=
  match uses with
  | some u => (lower u.value).startsWith "actions/github-script@"
  | none => false

/-- the script strings of a step's `run:` / `uses:` part -/
def execScriptStrs (lower : String → String) : Exec → List Str
  | .run r => r.run.toList
  | .action a =>
    if isGithubScript lower a.uses then ((a.inputs.getD []).filter fun kv => kv.1 = "script").map (·.2.value) else []
  | .none => []

def stepScriptStrs (lower : String → String) (st : Step) : List Str := execScriptStrs lower st.exec

def jobScriptStrs (lower : String → String) (n : Job) : List Str := (n.steps.getD []).flatMap (stepScriptStrs lower)

/-- **the script strings of a workflow**: every step's `run:`, every `script` input of an `actions/github-script@…` step -/
def scriptStrs (lower : String → String) (w : Workflow) : List Str :=
  (w.jobs.getD []).flatMap fun kv => jobScriptStrs lower kv.2

/-- the same with the workflow key of the position (`jobs.<job_id>.steps.run` / `jobs.<job_id>.steps.with`) -/
def execScriptKStrs (lower : String → String) : Exec → List (Str × String)
  | .run r => AL.C12R.tag "jobs.<job_id>.steps.run" r.run.toList
  | .action a =>
    if isGithubScript lower a.uses then
      AL.C12R.tag "jobs.<job_id>.steps.with" (((a.inputs.getD []).filter fun kv => kv.1 = "script").map (·.2.value))
    else []
  | .none => []

def scriptKStrs (lower : String → String) (w : Workflow) : List (Str × String) :=
  (w.jobs.getD []).flatMap fun kv => (kv.2.steps.getD []).flatMap fun st => execScriptKStrs lower st.exec

theorem execScriptKStrs_fst (lower : String → String) (e : Exec) :
    (execScriptKStrs lower e).map Prod.fst = execScriptStrs lower e := by
  cases e with
  | none => rfl
  | run r => simp only [execScriptKStrs, execScriptStrs, AL.C12R.tag_fst]
  | action a =>
    simp only [execScriptKStrs, execScriptStrs]
    split <;> simp only [AL.C12R.tag_fst, List.map_nil]

/-- the keyed enumeration lists exactly `scriptStrs`, in the same order -/
theorem scriptKStrs_fst (lower : String → String) (w : Workflow) : (scriptKStrs lower w).map Prod.fst = scriptStrs lower w := by
  simp only [scriptKStrs, scriptStrs, jobScriptStrs]
  refine AL.C12R.flatMap_fst _ _ _ fun kv => ?_
  exact AL.C12R.flatMap_fst _ _ _ fun st => execScriptKStrs_fst lower st.exec

theorem script_keyed (lower : String → String) (w : Workflow) (s : Str) (h : s ∈ scriptStrs lower w) :
    ∃ key, (s, key) ∈ scriptKStrs lower w := by
  rw [← scriptKStrs_fst] at h
  obtain ⟨⟨s', k⟩, hp, rfl⟩ := List.mem_map.1 h
  exact ⟨k, hp⟩

theorem keyed_is_script (lower : String → String) (w : Workflow) (s : Str) (key : String) (h : (s, key) ∈ scriptKStrs lower w) :
    s ∈ scriptStrs lower w := by
  rw [← scriptKStrs_fst]
  exact List.mem_map.2 ⟨(s, key), h, rfl⟩

/-- the key of a script position is one of the two -/
theorem scriptKStrs_keys (lower : String → String) (w : Workflow) (s : Str) (key : String) (h : (s, key) ∈ scriptKStrs lower w) :
    key = "jobs.<job_id>.steps.run" ∨ key = "jobs.<job_id>.steps.with" := by
  simp only [scriptKStrs, List.mem_flatMap] at h
  obtain ⟨kv, _, st, _, he⟩ := h
  cases hx : st.exec with
  | none => simp [hx, execScriptKStrs] at he
  | run r =>
    rw [hx] at he
    exact Or.inl (AL.C12R.mem_tag.1 he).2
  | action a =>
    rw [hx] at he
    simp only [execScriptKStrs] at he
    split at he
    · exact Or.inr (AL.C12R.mem_tag.1 he).2
    · cases he

theorem execScriptKStrs_sub (lower : String → String) (e : Exec) :
    ∀ p ∈ execScriptKStrs lower e, p ∈ AL.C12R.execKStrs e := by
  intro p hp
  cases e with
  | none => cases hp
  | run r =>
    simp only [execScriptKStrs] at hp
    simp only [AL.C12R.execKStrs, List.mem_append]
    exact Or.inl (Or.inl hp)
  | action a =>
    simp only [execScriptKStrs] at hp
    split at hp
    · obtain ⟨s, k⟩ := p
      obtain ⟨hm, rfl⟩ := AL.C12R.mem_tag.1 hp
      simp only [List.mem_map, List.mem_filter] at hm
      obtain ⟨kv, ⟨hk, _⟩, rfl⟩ := hm
      simp only [AL.C12R.execKStrs, List.mem_append]
      exact Or.inl (Or.inl (Or.inr (AL.C12R.mem_tag.2 ⟨List.mem_map.2 ⟨kv, hk, rfl⟩, rfl⟩)))
    · cases hp

/-- … hence without the keys (both enumerations are the first components of their keyed forms) -/
theorem execScriptStrs_sub (lower : String → String) (e : Exec) : ∀ s ∈ execScriptStrs lower e, s ∈ execStrs e := by
  intro s hs
  rw [← execScriptKStrs_fst] at hs
  obtain ⟨p, hp, rfl⟩ := List.mem_map.1 hs
  rw [← AL.C12R.execKStrs_fst]
  exact List.mem_map.2 ⟨p, execScriptKStrs_sub lower e p hp, rfl⟩

theorem stepScriptStrs_sub (lower : String → String) (st : Step) : ∀ s ∈ stepScriptStrs lower st, s ∈ stepStrs st := by
  intro s hs
  simp only [stepStrs, List.mem_append]
  exact Or.inl (Or.inl (Or.inl (Or.inr (execScriptStrs_sub lower _ s hs))))

theorem jobScriptStrs_sub (lower : String → String) (n : Job) : ∀ s ∈ jobScriptStrs lower n, s ∈ jobStrs n := by
  intro s hs
  obtain ⟨st, hst, h⟩ := List.mem_flatMap.1 hs
  simp only [jobStrs, List.mem_append]
  exact Or.inl (Or.inr (List.mem_flatMap.2 ⟨st, hst, stepScriptStrs_sub lower st s h⟩))

/-- **the script strings are value strings** of C03's enumeration -/
theorem scriptStrs_sub_valueStrs (lower : String → String) (w : Workflow) : ∀ s ∈ scriptStrs lower w, s ∈ valueStrs w := by
  intro s hs
  obtain ⟨kv, hkv, h⟩ := List.mem_flatMap.1 hs
  simp only [valueStrs, List.mem_append]
  exact Or.inl (Or.inr (List.mem_flatMap.2 ⟨kv, hkv, jobScriptStrs_sub lower kv.2 s h⟩))

/-- … and their keys are the keys C12's enumeration (the documentation's table) gives these positions -/
theorem scriptKStrs_sub_keyedStrs (lower : String → String) (w : Workflow) :
    ∀ p ∈ scriptKStrs lower w, p ∈ AL.C12R.keyedStrs w := by
  intro p hp
  simp only [scriptKStrs, List.mem_flatMap] at hp
  obtain ⟨kv, hkv, st, hst, he⟩ := hp
  refine AL.C12R.job_keyed (id := kv.1) (j := kv.2) hkv ?_
  simp only [AL.C12R.jobKStrs, List.mem_append]
  refine Or.inl (Or.inr (List.mem_flatMap.2 ⟨st, hst, ?_⟩))
  simp only [AL.C12R.stepKStrs, List.mem_append]
  exact Or.inl (Or.inl (Or.inl (Or.inr (execScriptKStrs_sub lower _ p he))))

/-! ## 3a. precision and completeness in ONE equation

The untrusted-input diagnostics of the rule, in order, ARE the flag-on scans of the script strings — each under the key of
its position, in the scope in effect at its step: `AL.C05S.jobCxS (AL.C05S.ruleCx …) …` advanced by `visitStep` over the
steps before it (the scopes AL.Props.C05Scope describes: `ruleCx_scope`, `jobCxS_scope`, `job_step_scope`). -/

/-- the untrusted-input diagnostics of a list, in order -/
def uf (ds : List Diag) : List Diag := ds.filter fun d => decide (isUntrusted d)

theorem uf_append (a b : List Diag) : uf (a ++ b) = uf a ++ uf b := List.filter_append ..

theorem uf_flatMap {α : Type} (l : List α) (f : α → List Diag) : uf (l.flatMap f) = l.flatMap fun a => uf (f a) :=
  List.filter_flatMap ..

theorem NoU.uf {ds : List Diag} (h : NoU ds) : uf ds = [] := by
  apply List.filter_eq_nil_iff.2
  intro d hd hc
  exact h d hd (of_decide_eq_true hc)

theorem mem_uf {ds : List Diag} {d : Diag} : d ∈ uf ds ↔ d ∈ ds ∧ isUntrusted d := by
  simp [uf]

/-- the untrusted-input diagnostics of the flag-on scan of one script string (with its key) in the scope `cx` -/
def scanU (cx : Cx) (p : Str × String) : List Diag := uf (at_ p.1 (checkExprsIn cx p.2 true p.1.value).2)

theorem at_append (s : Str) (a b : List SemaErr) : at_ s (a ++ b) = at_ s a ++ at_ s b := by
  simp [RuleExpr.at_]

theorem checkScriptString_uf (cx : Cx) (s : Str) (key : String) : uf (checkScriptString cx (some s) key) = scanU cx (s, key) := by
  simp only [checkScriptString, checkStrU, scanU]
  split
  · rename_i es heq; rw [heq]
  · rename_i ts es heq
    rw [heq, at_append, uf_append, (NoU.at_ s (templateDiags_noUE ts)).uf, List.append_nil]

theorem flatMap_filter_map {α β γ : Type} (l : List α) (p : α → Bool) (v : α → β) (h : β → List γ) :
    ((l.filter p).map v).flatMap h = l.flatMap fun a => if p a then h (v a) else [] := by
  induction l with
  | nil => rfl
  | cons a rest ih =>
    simp only [List.filter_cons, List.flatMap_cons]
    cases p a
    · simp [ih]
    · simp [ih]

theorem flatMap_ext {α β : Type} (l : List α) (f g : α → List β) (h : ∀ a, f a = g a) : l.flatMap f = l.flatMap g := by
  rw [funext h]

/-- the diagnostics of a `uses:` step, the test on the action name written with `isGithubScript` -/
theorem stepExec_action (cx : Cx) (a : ExecAction) :
    (stepExec cx (.action a)).1 = checkString cx a.uses "" ++
      ((a.inputs.getD []).flatMap fun kv =>
        if isGithubScript cx.lower a.uses && decide (kv.1 = "script") then
          checkScriptString cx (some kv.2.value) "jobs.<job_id>.steps.with"
        else checkString cx (some kv.2.value) "jobs.<job_id>.steps.with") ++
      checkString cx a.entrypoint "jobs.<job_id>.steps.with" ++ checkString cx a.args "jobs.<job_id>.steps.with" := rfl

theorem stepExec_uf (cx : Cx) (e : Exec) : uf (stepExec cx e).1 = (execScriptKStrs cx.lower e).flatMap (scanU cx) := by
  cases e with
  | none => rfl
  | run r =>
    simp only [stepExec, execScriptKStrs, uf_append, (checkString_noU _ _ _).uf, List.append_nil]
    cases hr : r.run with
    | none => rfl
    | some s => simp [checkScriptString_uf, AL.C12R.tag]
  | action a =>
    simp only [stepExec_action, execScriptKStrs, uf_append, (checkString_noU _ _ _).uf, List.append_nil, List.nil_append,
      uf_flatMap]
    cases hg : isGithubScript cx.lower a.uses with
    | false => simp [(checkString_noU _ _ _).uf]
    | true =>
      simp only [if_true, Bool.true_and, AL.C12R.tag, List.map_map]
      rw [flatMap_filter_map]
      refine flatMap_ext _ _ _ fun kv => ?_
      split
      · exact checkScriptString_uf cx _ _
      · exact (checkString_noU _ _ _).uf

theorem stepDiags_uf (cx : Cx) (n : Step) : uf (stepDiags cx n) = (execScriptKStrs cx.lower n.exec).flatMap (scanU cx) := by
  simp only [stepDiags, uf_append, (checkString_noU _ _ _).uf, (checkIfCondition_noU _ _ _).uf, (checkEnv_noU _ _ _).uf,
    (checkBool_noU _ _ _).uf, (checkFloat_noU _ _ _).uf, List.append_nil, List.nil_append, stepExec_uf]

theorem visitStep_uf (cx : Cx) (n : Step) : uf (visitStep cx n).2 = (execScriptKStrs cx.lower n.exec).flatMap (scanU cx) := by
  simp only [visitStep]
  split
  · exact stepDiags_uf cx n
  · simp only [uf_append, stepDiags_uf]
    have : NoU (if AL.Rules.containsExpr ‹Str› = true then checkString cx (some ‹Str›) "" else []) := by
      split
      · exact checkString_noU _ _ _
      · exact NoU.nil
    rw [this.uf, List.append_nil]

/-- the scans of the script strings of a list of steps, each in the scope the steps before it leave -/
def stepsScans : Cx → List Step → List Diag
  | _, [] => []
  | cx, st :: rest => (execScriptKStrs cx.lower st.exec).flatMap (scanU cx) ++ stepsScans (visitStep cx st).1 rest

theorem visitSteps_uf : ∀ (steps : List Step) (cx : Cx), uf (visitSteps cx steps).2 = stepsScans cx steps
  | [], _ => rfl
  | st :: rest, cx => by
    simp only [visitSteps, stepsScans, uf_append, visitStep_uf, visitSteps_uf rest]

theorem visitJob_uf (cx : Cx) (isNum : IsNumber) (jobs : List (String × Job)) (n : Job) :
    uf (visitJob cx isNum jobs n) = stepsScans (AL.C05S.jobCxS cx isNum jobs n) (n.steps.getD []) := by
  rw [AL.C05S.visitJob_eq]
  simp only [uf_append, (jobMatrix_noU _ _ _).uf, (jobPre_noU _ _).uf, (jobPost_noU _ _).uf, List.append_nil, List.nil_append,
    visitSteps_uf]

/-- **C11 at workflow level, exact form.** For every workflow AST, folding function, number test and project view: the
diagnostics of the expression rule with the code of the untrusted-input check are — in order, with multiplicity —
exactly the flag-on scans of the script strings (a step's `run:`, the `script` input of a step whose folded `uses:` is
`actions/github-script@…`), each under the key of its position and in the scope in effect at its step. Nothing else, nothing less. -/
theorem rule_untrusted_exact (lower : String → String) (isNum : IsNumber) (w : Workflow) (proj : ProjView) :
    uf (rule lower isNum w proj) =
      (w.jobs.getD []).flatMap fun kv =>
        stepsScans (AL.C05S.jobCxS (AL.C05S.ruleCx lower proj w) isNum (w.jobs.getD []) kv.2) (kv.2.steps.getD []) := by
  simp only [rule, uf_append, (checkString_noU _ _ _).uf, (visitEvents_noU _ _).uf, (checkEnv_noU _ _ _).uf,
    (checkDefaults_noU _ _ _).uf, (checkConcurrency_noU _ _ _).uf, List.append_nil, List.nil_append,
    uf_flatMap, visitJob_uf]
  refine (congrArg (_ ++ ·) (NoU.uf ?_)).trans ?_
  · split
    · split
      · exact NoU.nil
      · exact NoU.flatMap _ _ fun kv _ => checkString_noU _ _ _
    · exact NoU.nil
  · rw [List.append_nil]
    rfl

/-! ## 2b. precision: an untrusted-input diagnostic is located at a script string -/

/-- every untrusted-input diagnostic of `ds` is located at one of the strings `S` -/
def Loc (S : List Str) (ds : List Diag) : Prop := ∀ d ∈ ds, isUntrusted d → ∃ s ∈ S, d.site = s.pos

theorem NoU.loc {ds : List Diag} (h : NoU ds) (S : List Str) : Loc S ds := fun d hd hu => absurd hu (h d hd)

theorem Loc.append {S : List Str} {a b : List Diag} (ha : Loc S a) (hb : Loc S b) : Loc S (a ++ b) := by
  intro d hd
  rcases List.mem_append.1 hd with h | h
  · exact ha d h
  · exact hb d h

theorem Loc.mono {S S' : List Str} {ds : List Diag} (h : Loc S ds) (hs : ∀ s ∈ S, s ∈ S') : Loc S' ds := by
  intro d hd hu
  obtain ⟨s, hm, e⟩ := h d hd hu
  exact ⟨s, hs s hm, e⟩

theorem Loc.flatMap {α : Type} (l : List α) (f : α → List Diag) (g : α → List Str) (h : ∀ a ∈ l, Loc (g a) (f a)) :
    Loc (l.flatMap g) (l.flatMap f) := by
  intro d hd hu
  obtain ⟨a, ha, hda⟩ := List.mem_flatMap.1 hd
  obtain ⟨s, hs, e⟩ := h a ha d hda hu
  exact ⟨s, List.mem_flatMap.2 ⟨a, ha, hs⟩, e⟩

/-- every diagnostic of a checked string is located at that string -/
theorem checkStrU_site (cx : Cx) (u : Bool) (s : Str) (key : String) : ∀ d ∈ (checkStrU cx u (some s) key).2, d.site = s.pos := by
  intro d hd
  simp only [checkStrU] at hd
  split at hd <;>
  · simp only [RuleExpr.at_, List.mem_map] at hd
    obtain ⟨e, _, rfl⟩ := hd
    rfl

theorem checkScriptString_loc (cx : Cx) (s : Str) (key : String) : Loc [s] (checkScriptString cx (some s) key) :=
  fun d hd _ => ⟨s, List.mem_singleton.2 rfl, checkStrU_site cx true s key d hd⟩

/-- the exact equation read as an inclusion (a scan puts its diagnostics at its string) -/
theorem loc_of_uf {ds : List Diag} {cx : Cx} {ks : List (Str × String)} {S : List Str} (hS : ks.map Prod.fst = S)
    (h : uf ds = ks.flatMap (scanU cx)) : Loc S ds := by
  intro d hd hu
  have hm : d ∈ ks.flatMap (scanU cx) := h ▸ mem_uf.2 ⟨hd, hu⟩
  obtain ⟨p, hp, hdp⟩ := List.mem_flatMap.1 hm
  obtain ⟨e, _, rfl⟩ := List.mem_map.1 (mem_uf.1 hdp).1
  exact ⟨p.1, hS ▸ List.mem_map.2 ⟨p, hp, rfl⟩, rfl⟩

theorem stepExec_loc (cx : Cx) (e : Exec) : Loc (execScriptStrs cx.lower e) (stepExec cx e).1 :=
  loc_of_uf (execScriptKStrs_fst cx.lower e) (stepExec_uf cx e)

theorem stepDiags_loc (cx : Cx) (n : Step) : Loc (stepScriptStrs cx.lower n) (stepDiags cx n) :=
  loc_of_uf (execScriptKStrs_fst cx.lower n.exec) (stepDiags_uf cx n)

theorem visitStep_loc (cx : Cx) (n : Step) : Loc (stepScriptStrs cx.lower n) (visitStep cx n).2 :=
  loc_of_uf (execScriptKStrs_fst cx.lower n.exec) (visitStep_uf cx n)

theorem visitSteps_loc (lower : String → String) : ∀ (steps : List Step) (cx : Cx), cx.lower = lower →
    Loc (steps.flatMap (stepScriptStrs lower)) (visitSteps cx steps).2
  | [], _, _ => NoU.nil.loc _
  | st :: rest, cx, hcx => by
    simp only [visitSteps, List.flatMap_cons]
    exact ((hcx ▸ visitStep_loc cx st).mono fun s h => List.mem_append_left _ h).append
      ((visitSteps_loc lower rest _ ((AL.C12R.visitStep_lower cx st).trans hcx)).mono fun s h => List.mem_append_right _ h)

theorem visitJob_loc (cx : Cx) (isNum : IsNumber) (jobs : List (String × Job)) (n : Job) :
    Loc (jobScriptStrs cx.lower n) (visitJob cx isNum jobs n) := by
  simp only [visitJob, jobScriptStrs]
  refine ((((jobMatrix_noU _ _ _).loc _).append ((jobPre_noU _ _).loc _)).append (visitSteps_loc cx.lower _ _ ?_)).append
    ((jobPost_noU _ _).loc _)
  split <;> rfl

/-- **C11, precision at workflow level.** For every workflow AST, folding function and project view: a diagnostic of
the expression rule with the code of the untrusted-input check is located at a script string — a step's `run:` or the
`script` input of a step whose folded `uses:` is `actions/github-script@…`. Nothing is reported for `env:`, `with:` of other actions, `if:`,
names, the matrix, containers, `on:` …, whatever the text there. -/
theorem untrusted_only_in_scripts (lower : String → String) (isNum : IsNumber) (w : Workflow) (proj : ProjView) :
    ∀ d ∈ rule lower isNum w proj, isUntrusted d → ∃ s ∈ scriptStrs lower w, d.site = s.pos := by
  have : Loc (scriptStrs lower w) (rule lower isNum w proj) := by
    simp only [rule, scriptStrs]
    refine (((((checkString_noU _ _ _).loc _).append ((visitEvents_noU _ _).loc _)).append ?_).append ?_).append ?_
    · exact ((((checkString_noU _ _ _).loc _).append ((checkEnv_noU _ _ _).loc _)).append
        ((checkDefaults_noU _ _ _).loc _)).append ((checkConcurrency_noU _ _ _).loc _)
    · refine Loc.flatMap _ _ _ fun kv _ => ?_
      have := visitJob_loc (visitEvents { lower := lower, proj := proj } (w.on.getD [])).1 isNum (w.jobs.getD []) kv.2
      rw [AL.C12R.visitEvents_lower] at this
      exact this
    · refine NoU.loc ?_ _
      split
      · split
        · exact NoU.nil
        · exact NoU.flatMap _ _ fun kv _ => checkString_noU _ _ _
      · exact NoU.nil
  exact this

/-- a workflow without script strings has no untrusted-input diagnostic at all -/
theorem no_script_no_untrusted (lower : String → String) (isNum : IsNumber) (w : Workflow) (proj : ProjView)
    (h : scriptStrs lower w = []) : NoU (rule lower isNum w proj) := by
  intro d hd hu
  obtain ⟨s, hs, _⟩ := untrusted_only_in_scripts lower isNum w proj d hd hu
  rw [h] at hs
  cases hs

/-! ## 3. completeness: every script string is scanned with the flag ON, under the key of its position -/

/-- `ds` contains, located at `s`, everything the scan of the text of `s` WITH THE FLAG ON under `key` yields in SOME
scope with `lower` and `proj` (the scope in effect at each step: `rule_untrusted_exact`) -/
def ScannedOn (lower : String → String) (proj : ProjView) (ds : List Diag) (s : Str) (key : String) : Prop :=
  ∃ cx : Cx, cx.lower = lower ∧ cx.proj = proj ∧
    ∀ e ∈ (checkExprsIn cx key true s.value).2, (⟨s.pos, e.code, e.args⟩ : Diag) ∈ ds

section scanned
variable {lower : String → String} {proj : ProjView}

theorem ScannedOn.mono {ds ds' : List Diag} {s : Str} {key : String} (h : ScannedOn lower proj ds s key)
    (hs : ∀ d ∈ ds, d ∈ ds') : ScannedOn lower proj ds' s key := by
  obtain ⟨cx, h1, h2, h3⟩ := h
  exact ⟨cx, h1, h2, fun e he => hs _ (h3 e he)⟩

theorem ScannedOn.left {a b : List Diag} {s : Str} {key : String} (h : ScannedOn lower proj a s key) :
    ScannedOn lower proj (a ++ b) s key := h.mono fun _ hd => List.mem_append_left _ hd
theorem ScannedOn.right {a b : List Diag} {s : Str} {key : String} (h : ScannedOn lower proj b s key) :
    ScannedOn lower proj (a ++ b) s key := h.mono fun _ hd => List.mem_append_right _ hd

theorem checkScriptString_scanned (cx : Cx) (s : Str) (key : String) :
    ScannedOn cx.lower cx.proj (checkScriptString cx (some s) key) s key := by
  refine ⟨cx, rfl, rfl, ?_⟩
  intro e he
  simp only [checkScriptString, checkStrU]
  split
  · rename_i es heq
    rw [heq] at he
    exact List.mem_map.2 ⟨e, he, rfl⟩
  · rename_i ts es heq
    rw [heq] at he
    exact List.mem_map.2 ⟨e, List.mem_append_left _ he, rfl⟩

theorem stepExec_scanned (cx : Cx) (e : Exec) (s : Str) (k : String) (hm : (s, k) ∈ execScriptKStrs cx.lower e) :
    ScannedOn cx.lower cx.proj (stepExec cx e).1 s k := by
  cases e with
  | none => cases hm
  | run r =>
    simp only [execScriptKStrs] at hm
    replace hm := AL.C12R.mem_tag.1 hm
    obtain ⟨hm, rfl⟩ := hm
    simp only [stepExec]
    rw [mem_toList hm]
    exact (checkScriptString_scanned cx s _).left.left
  | action a =>
    simp only [execScriptKStrs] at hm
    cases hg : isGithubScript cx.lower a.uses with
    | false => simp [hg] at hm
    | true =>
      rw [hg, if_pos rfl] at hm
      replace hm := AL.C12R.mem_tag.1 hm
      obtain ⟨hm, rfl⟩ := hm
      obtain ⟨kv, hkv, rfl⟩ := List.mem_map.1 hm
      obtain ⟨hkv, hk⟩ := List.mem_filter.1 hkv
      rw [stepExec_action]
      refine ScannedOn.left (ScannedOn.left (ScannedOn.right ?_))
      refine (checkScriptString_scanned cx kv.2.value "jobs.<job_id>.steps.with").mono fun d hd =>
        List.mem_flatMap.2 ⟨kv, hkv, ?_⟩
      rw [hg, if_pos (by simpa using hk)]
      exact hd

theorem visitStep_scanned (cx : Cx) (n : Step) (s : Str) (k : String) (hm : (s, k) ∈ execScriptKStrs cx.lower n.exec) :
    ScannedOn cx.lower cx.proj (visitStep cx n).2 s k := by
  have h : ScannedOn cx.lower cx.proj (stepDiags cx n) s k := by
    simp only [stepDiags]
    exact (stepExec_scanned cx n.exec s k hm).right.left.left.left
  simp only [visitStep]
  split
  · exact h
  · exact h.left

theorem visitStep_proj (cx : Cx) (n : Step) : (visitStep cx n).1.proj = cx.proj := by
  rw [AL.C05E.visitStep_fst]

theorem visitSteps_proj : ∀ (steps : List Step) (cx : Cx), (visitSteps cx steps).1.proj = cx.proj :=
  fun steps cx => by rw [AL.C05E.visitSteps_fst]

theorem visitSteps_scanned (s : Str) (k : String) : ∀ (steps : List Step) (cx : Cx), cx.lower = lower → cx.proj = proj →
    (s, k) ∈ steps.flatMap (fun st => execScriptKStrs lower st.exec) → ScannedOn lower proj (visitSteps cx steps).2 s k
  | [], _, _, _, hm => by simp at hm
  | st :: rest, cx, h1, h2, hm => by
    simp only [List.flatMap_cons, List.mem_append] at hm
    simp only [visitSteps]
    rcases hm with hm | hm
    · have := (visitStep_scanned cx st s k (h1 ▸ hm)).left (b := (visitSteps (visitStep cx st).1 rest).2)
      rw [h1, h2] at this
      exact this
    · exact (visitSteps_scanned s k rest (visitStep cx st).1 ((AL.C12R.visitStep_lower cx st).trans h1)
        ((visitStep_proj cx st).trans h2) hm).right

theorem visitJob_scanned (cx : Cx) (isNum : IsNumber) (jobs : List (String × Job)) (n : Job) (s : Str) (k : String)
    (hm : (s, k) ∈ (n.steps.getD []).flatMap (fun st => execScriptKStrs cx.lower st.exec)) :
    ScannedOn cx.lower cx.proj (visitJob cx isNum jobs n) s k := by
  simp only [visitJob]
  refine ScannedOn.left (ScannedOn.right ?_)
  refine visitSteps_scanned s k _ _ ?_ ?_ hm
  · split <;> rfl
  · split <;> rfl

theorem visitEvent_proj (cx : Cx) (e : Ast.Event) : (visitEvent cx e).1.proj = cx.proj := by
  rw [AL.C05S.visitEvent_fst]

theorem visitEvents_proj : ∀ (es : List Ast.Event) (cx : Cx), (visitEvents cx es).1.proj = cx.proj :=
  fun es cx => by rw [AL.C05S.visitEvents_fst]

end scanned

/-- **C11, completeness at workflow level (inclusion form).** For every script string `s` with the key of its position:
what the rule reports, located at `s`, INCLUDES everything the flag-ON scan of its text yields under that key, in some
scope with the rule's folding function and project view. -/
theorem script_scanned_with_flag_on (lower : String → String) (isNum : IsNumber) (w : Workflow) (proj : ProjView)
    (s : Str) (key : String) (hm : (s, key) ∈ scriptKStrs lower w) : ScannedOn lower proj (rule lower isNum w proj) s key := by
  simp only [scriptKStrs] at hm
  obtain ⟨kv, hkv, hs⟩ := List.mem_flatMap.1 hm
  simp only [rule]
  refine ScannedOn.left (ScannedOn.right ?_)
  have h := visitJob_scanned (visitEvents { lower := lower, proj := proj } (w.on.getD [])).1 isNum (w.jobs.getD []) kv.2 s key
    (by rw [AL.C12R.visitEvents_lower]; exact hs)
  rw [AL.C12R.visitEvents_lower, visitEvents_proj] at h
  exact h.mono fun d hd => List.mem_flatMap.2 ⟨kv, hkv, hd⟩

/-- a text whose scan WITH THE FLAG ON under `key` yields an untrusted-input diagnostic, in every scope that folds names
with `lower` (the rule is run with ONE folding function). The form "in every scope, whatever its folding function" is
not satisfiable by any text — a function that sends every name to `x` hides every input; see
`untrusted_needs_the_folding` — so the hypothesis is stated for the rule's `lower` only. -/
def UntrustedUnderL (lower : String → String) (key : String) (v : String) : Prop :=
  ∀ cx : Cx, cx.lower = lower → ∃ e ∈ (checkExprsIn cx key true v).2, e.code = "untrusted"

/-- **C11, completeness at workflow level (existence form; `_L`: the hypothesis is on the rule's `lower`).** A script
string whose text has an untrusted input under the key of its position, in the scopes that fold names as the rule does,
gets an untrusted-input diagnostic located at that string, whatever else the workflow contains. -/
theorem every_script_checked_L (lower : String → String) (isNum : IsNumber) (w : Workflow) (proj : ProjView)
    (s : Str) (key : String) (hm : (s, key) ∈ scriptKStrs lower w) (h : UntrustedUnderL lower key s.value) :
    ∃ d ∈ rule lower isNum w proj, isUntrusted d ∧ d.site = s.pos := by
  obtain ⟨cx, h1, _, h3⟩ := script_scanned_with_flag_on lower isNum w proj s key hm
  obtain ⟨e, he, hc⟩ := h cx h1
  exact ⟨_, h3 e he, hc, rfl⟩

/-! ## 3b. the hypothesis is satisfiable: a documented untrusted input, for every scope

A placeholder whose expression is a plain property chain `root.p₁.….pₙ` that walks the trie of untrusted inputs to a
leaf: with the flag on, `checkParsed` appends the report of the untrusted-input machine (`AL.Insecure.run`, equal to
the chain specification by `AL.C11.machine_eq_spec`) to the diagnostics of the semantic check — whatever the scope, the
key, the types in scope, and whatever ELSE the semantic check has to say about the expression. -/

/-- a parsed expression that is a plain chain `root.p₁.….pₙ`: the root and the properties, INNERMOST LAST (`pₙ` first) -/
def chainOf : AL.Parse.Expr → Option (String × List String)
  | .var n => some (symsToString n, [])
  | .objDeref r p =>
    match chainOf r with
    | some (a, ps) => some (a, symsToString p :: ps)
    | none => none
  | _ => none

/-- the checker's expression for the chain (properties innermost last) -/
def chainE (a : String) : List String → E
  | [] => .var a
  | p :: ps => .objDeref (chainE a ps) p

theorem toE_chain (lower : String → String) : ∀ (pe : AL.Parse.Expr) (a : String) (ps : List String),
    chainOf pe = some (a, ps) → toE lower pe = chainE (lower a) (ps.map lower) := by
  intro pe
  -- along `chainOf`: a variable; a property of a chain; a property of something else; any other expression
  fun_induction chainOf pe with
  | case1 n =>
    intro a ps h
    cases h
    rfl
  | case2 r p a' ps' heq ih =>
    intro a ps h
    cases h
    simp only [toE, chainE, List.map_cons, ih a' ps' heq]
  | case3 r p heq ih => intro a ps h; cases h
  | case4 pe h1 h2 => intro a ps h; cases h

/-- the chain specification on a plain chain: ONE chain, rooted at the variable -/
theorem chain_chainE (roots : List AL.Insecure.Trie) (lower : String → String) (defined : String → Bool) (a : String) :
    ∀ (ps : List String) (suffix : List AL.Spec.Seg),
      AL.Spec.chain roots lower defined (chainE a ps) suffix =
        AL.Spec.chainReport roots a (ps.reverse.map AL.Spec.Seg.prop ++ suffix)
  | [], suffix => by simp only [chainE, AL.Spec.chain, List.reverse_nil, List.map_nil, List.nil_append]
  | p :: ps, suffix => by
    simp only [chainE, AL.Spec.chain, chain_chainE roots lower defined a ps, List.reverse_cons, List.map_append,
      List.map_cons, List.map_nil, List.append_assoc, List.cons_append, List.nil_append]

theorem reports_chainE (roots : List AL.Insecure.Trie) (lower : String → String) (defined : String → Bool) (a : String)
    (ps : List String) :
    AL.Spec.reports roots lower defined (chainE a ps) = AL.Spec.chainReport roots a (ps.reverse.map AL.Spec.Seg.prop) := by
  cases ps with
  | nil => simp only [chainE, AL.Spec.reports, List.reverse_nil, List.map_nil]
  | cons p ps =>
    simp only [chainE, AL.Spec.reports, chain_chainE, List.reverse_cons, List.map_append, List.map_cons, List.map_nil]

/-- the text after a `${{` lexes (offset `off`) and parses to the plain chain `root.….p` -/
def parsesChain (rest : List Nat) (a : String) (ps : List String) (off : Nat) : Bool :=
  match AL.Lex.lexExpression (decodeUtf8 rest), AL.Parse.parseToks (AL.Lex.tokens (decodeUtf8 rest)) with
  | .ok (_, o), .ok pe => decide (chainOf pe = some (a, ps)) && decide (o = off)
  | _, _ => false

theorem checkOne_of_parsesChain (cx : Cx) (key : String) (u : Bool) (rest : List Nat) (a : String) (ps : List String)
    (off : Nat) (h : parsesChain rest a ps off = true) :
    ∃ pe, chainOf pe = some (a, ps) ∧ checkOne cx key u rest = checkParsed cx key u pe off := by
  unfold parsesChain at h
  split at h
  · rename_i ts o pe h1 h2
    simp only [Bool.and_eq_true, decide_eq_true_eq] at h
    refine ⟨pe, h.1, ?_⟩
    unfold checkOne
    simp only [h1, h2, h.2]
  · cases h

/-- with the flag on, a placeholder that is a chain reaching a leaf of the trie gets the diagnostic of the machine,
after whatever the semantic check says -/
theorem checkParsed_chain (cx : Cx) (key : String) (pe : AL.Parse.Expr) (off : Nat) (a : String) (ps : List String)
    (hc : chainOf pe = some (a, ps)) (paths : List String)
    (hr : AL.Spec.chainReport AL.Gen.untrustedRoots (cx.lower a) ((ps.map cx.lower).reverse.map AL.Spec.Seg.prop) = [paths]) :
    checkParsed cx key true pe off =
      (none, (check (AL.C12R.envOf cx key) (chainE (cx.lower a) (ps.map cx.lower))).errs ++ [err "untrusted" paths]) := by
  unfold checkParsed
  simp only [if_true, toE_chain cx.lower pe a ps hc, AL.Insecure.run_eq_reports, reports_chainE, hr, List.map_cons, List.map_nil]
  rw [if_neg]
  simp

/-- the loop stops at a first placeholder that has a diagnostic: its diagnostics are those of the string -/
theorem checkExprsIn_first (cx : Cx) (key : String) (u : Bool) (v : String) (b : List Nat) (hb : bytesOf v = b) (idx : Nat)
    (hi : AL.Proc.indexOf AL.Proc.open3 b 0 = some idx) (errs : List SemaErr)
    (h1 : checkOne cx key u (b.drop (idx + 3)) = (none, errs)) : checkExprsIn cx key u v = (none, errs) := by
  simp only [checkExprsIn, hb]
  cases b with
  | nil => simp [AL.Proc.indexOf, AL.Proc.open3] at hi
  | cons x xs =>
    simp only [List.length_cons]
    rw [scan]
    simp only [hi, h1]

/-- **a text whose first placeholder is a documented untrusted input**: the scan with the flag on ends there with the
diagnostic of the untrusted-input check (after those of the semantic check, if any) — in every scope, under every key -/
theorem chain_text_untrusted (cx : Cx) (key v : String) (b : List Nat) (hb : bytesOf v = b) (idx : Nat)
    (hi : AL.Proc.indexOf AL.Proc.open3 b 0 = some idx) (a : String) (ps : List String) (off : Nat)
    (hp : parsesChain (b.drop (idx + 3)) a ps off = true) (paths : List String)
    (hr : AL.Spec.chainReport AL.Gen.untrustedRoots (cx.lower a) ((ps.map cx.lower).reverse.map AL.Spec.Seg.prop) = [paths]) :
    checkExprsIn cx key true v =
      (none, (check (AL.C12R.envOf cx key) (chainE (cx.lower a) (ps.map cx.lower))).errs ++ [err "untrusted" paths]) := by
  obtain ⟨pe, hc, he⟩ := checkOne_of_parsesChain cx key true _ a ps off hp
  exact checkExprsIn_first cx key true v b hb idx hi _ (he.trans (checkParsed_chain cx key pe off a ps hc paths hr))

/-- `${{ github.event.issue.title }}` and `${{ github.head_ref }}` as bytes -/
def bTitle : List Nat :=
  [36, 123, 123, 32, 103, 105, 116, 104, 117, 98, 46, 101, 118, 101, 110, 116, 46, 105, 115, 115, 117, 101, 46, 116, 105,
   116, 108, 101, 32, 125, 125]
def bHeadRef : List Nat := [36, 123, 123, 32, 103, 105, 116, 104, 117, 98, 46, 104, 101, 97, 100, 95, 114, 101, 102, 32, 125, 125]

theorem bytes_title : bytesOf "${{ github.event.issue.title }}" = bTitle := by decide +kernel
theorem bytes_headRef : bytesOf "${{ github.head_ref }}" = bHeadRef := by decide +kernel
theorem parses_title : parsesChain (bTitle.drop (0 + 3)) "github" ["title", "issue", "event"] 28 = true := by decide +kernel
theorem parses_headRef : parsesChain (bHeadRef.drop (0 + 3)) "github" ["head_ref"] 19 = true := by decide +kernel

theorem untrusted_last (es : List SemaErr) (paths : List String) :
    ∃ e ∈ es ++ [err "untrusted" paths], e.code = "untrusted" :=
  ⟨_, List.mem_append_right _ (List.mem_singleton.2 rfl), rfl⟩

/-- a folding function that leaves the four names alone (as `strings.ToLower` does) -/
structure KeepsTitle (lower : String → String) : Prop where
  github : lower "github" = "github"
  event : lower "event" = "event"
  issue : lower "issue" = "issue"
  title : lower "title" = "title"

theorem keepsTitle_asciiLower : KeepsTitle AL.PW.asciiLower := ⟨by decide +kernel, by decide +kernel, by decide +kernel, by decide +kernel⟩
theorem keepsTitle_id : KeepsTitle id := ⟨rfl, rfl, rfl, rfl⟩

/-- the two chains walk the trie of untrusted inputs to a leaf -/
theorem title_report : AL.Spec.chainReport AL.Gen.untrustedRoots "github"
    ((["title", "issue", "event"] : List String).reverse.map AL.Spec.Seg.prop) = [["github.event.issue.title"]] := by decide +kernel
theorem headRef_report : AL.Spec.chainReport AL.Gen.untrustedRoots "github"
    ((["head_ref"] : List String).reverse.map AL.Spec.Seg.prop) = [["github.head_ref"]] := by decide +kernel

/-- the exact result of the scan of `${{ github.event.issue.title }}` with the flag on -/
theorem title_scan (cx : Cx) (hl : KeepsTitle cx.lower) (key : String) :
    checkExprsIn cx key true "${{ github.event.issue.title }}" =
      (none, (check (AL.C12R.envOf cx key) (chainE "github" ["title", "issue", "event"])).errs ++
        [err "untrusted" ["github.event.issue.title"]]) := by
  have := chain_text_untrusted cx key _ bTitle bytes_title 0 (by decide) "github" ["title", "issue", "event"] 28 parses_title
    ["github.event.issue.title"] (by simp only [List.map, hl.github, hl.event, hl.issue, hl.title]; exact title_report)
  simpa only [List.map, hl.github, hl.event, hl.issue, hl.title] using this

theorem scan_done (cx : Cx) (key : String) (u : Bool) (fuel : Nat) (s : List Nat) (ts : List Ty)
    (hi : AL.Proc.indexOf AL.Proc.open3 s 0 = none) : scan cx key u fuel s ts = (some ts, []) := by
  cases fuel with
  | zero => rfl
  | succ f => rw [scan]; simp only [hi]

/-- with the flag OFF the same text is one clean placeholder wherever the semantic check accepts the chain: the scan
yields its type -/
theorem title_scan_off (cx : Cx) (hl : KeepsTitle cx.lower) (key : String)
    (hc : (check (AL.C05S.envOf cx key) (chainE "github" ["title", "issue", "event"])).errs = []) :
    checkExprsIn cx key false "${{ github.event.issue.title }}" =
      (some [(check (AL.C05S.envOf cx key) (chainE "github" ["title", "issue", "event"])).ty], []) := by
  obtain ⟨pe, hp, he⟩ := checkOne_of_parsesChain cx key false _ "github" ["title", "issue", "event"] 28 parses_title
  have ht : toE cx.lower pe = chainE "github" ["title", "issue", "event"] := by
    simp only [toE_chain cx.lower pe _ _ hp, List.map, hl.github, hl.event, hl.issue, hl.title]
  have h1 := he.trans (AL.C12R.checkParsed_ok cx key pe 28 (ht ▸ hc))
  simp only [checkExprsIn, bytes_title]
  rw [show bTitle.length = 30 + 1 from rfl, scan]
  simp only [show AL.Proc.indexOf AL.Proc.open3 bTitle 0 = some 0 from by decide, h1, ht]
  exact scan_done cx key false _ _ _ (by decide)

/-- **`${{ github.event.issue.title }}` has an untrusted input under EVERY key, in every scope** whose folding function
leaves `github`, `event`, `issue`, `title` alone -/
theorem title_untrusted (lower : String → String) (hl : KeepsTitle lower) (key : String) :
    UntrustedUnderL lower key "${{ github.event.issue.title }}" := by
  intro cx hcx
  rw [title_scan cx (hcx ▸ hl) key]
  exact untrusted_last _ _

theorem headRef_scan (cx : Cx) (h1 : cx.lower "github" = "github") (h2 : cx.lower "head_ref" = "head_ref") (key : String) :
    checkExprsIn cx key true "${{ github.head_ref }}" =
      (none, (check (AL.C12R.envOf cx key) (chainE "github" ["head_ref"])).errs ++ [err "untrusted" ["github.head_ref"]]) := by
  have := chain_text_untrusted cx key _ bHeadRef bytes_headRef 0 (by decide) "github" ["head_ref"] 19 parses_headRef
    ["github.head_ref"] (by simp only [List.map, h1, h2]; exact headRef_report)
  simpa only [List.map, h1, h2] using this

theorem headRef_untrusted (lower : String → String) (h1 : lower "github" = "github") (h2 : lower "head_ref" = "head_ref")
    (key : String) : UntrustedUnderL lower key "${{ github.head_ref }}" := by
  intro cx hcx
  rw [headRef_scan cx (hcx ▸ h1) (hcx ▸ h2) key]
  exact untrusted_last _ _

/-- the folding function is a parameter of the model, and one that renames `github` hides the input (why the theorems
are stated with `UntrustedUnderL` and `KeepsTitle`) -/
def renameGithub (s : String) : String := if s = "github" then "x" else s

theorem title_hidden_by_renaming (key : String) :
    NoUE (checkExprsIn { lower := renameGithub } key true "${{ github.event.issue.title }}").2 := by
  generalize hcx : ({ lower := renameGithub } : Cx) = cx
  have hlow : cx.lower = renameGithub := by rw [← hcx]
  obtain ⟨pe, hc, he⟩ := checkOne_of_parsesChain cx key true _ "github" ["title", "issue", "event"] 28 parses_title
  -- the machine finds nothing on the renamed chain: the placeholder has the diagnostics of the semantic check only
  have hrun : ∀ Γ : Sema.Env, AL.Insecure.run AL.Gen.untrustedRoots (check Γ (toE cx.lower pe)).evs = [] := by
    intro Γ
    rw [toE_chain cx.lower pe _ _ hc, AL.Insecure.run_eq_reports, reports_chainE, hlow]
    decide +kernel
  have hn := check_noUE (AL.C12R.envOf cx key) (toE cx.lower pe)
  simp only [checkExprsIn, bytes_title]
  rw [show bTitle.length = 30 + 1 from rfl, scan]
  simp only [show AL.Proc.indexOf AL.Proc.open3 bTitle 0 = some 0 from by decide, he, checkParsed, if_true, hrun, List.map_nil,
    List.append_nil]
  generalize (check _ (toE cx.lower pe)).errs = es at hn ⊢
  cases es with
  | nil =>
    show NoUE (scan cx key true 30 ((bTitle.drop (0 + 3)).drop 28) _).2
    rw [scan_done cx key true _ _ _ (by decide)]
    exact NoUE.nil
  | cons e es => exact hn

/-- the hypothesis without the side condition on the folding function is FALSE of this text (`KeepsTitle` is needed) -/
theorem untrusted_needs_the_folding (key : String) :
    ¬ ∀ cx : Cx, ∃ e ∈ (checkExprsIn cx key true "${{ github.event.issue.title }}").2, e.code = "untrusted" := by
  intro h
  obtain ⟨e, he, hc⟩ := h { lower := renameGithub }
  exact title_hidden_by_renaming key e he hc

/-! ## 3c. on whole workflows: `run:` and `script:` are reported, `env:` is not -/

theorem job_script_keyed {lower : String → String} {w : Workflow} {id : String} {j : Job} (hj : (id, j) ∈ w.jobs.getD [])
    {st : Step} (hst : st ∈ j.steps.getD []) {p : Str × String} (h : p ∈ execScriptKStrs lower st.exec) :
    p ∈ scriptKStrs lower w := by
  simp only [scriptKStrs]
  exact List.mem_flatMap.2 ⟨(id, j), hj, List.mem_flatMap.2 ⟨st, hst, h⟩⟩

theorem title_script_reported {lower : String → String} (hl : KeepsTitle lower) (isNum : IsNumber) {w : Workflow} (proj : ProjView)
    {q : Bool} {p : RuleExpr.Pos} {key : String}
    (hm : ((⟨"${{ github.event.issue.title }}", q, p⟩ : Str), key) ∈ scriptKStrs lower w) :
    (⟨p, "untrusted", ["github.event.issue.title"]⟩ : Diag) ∈ rule lower isNum w proj := by
  obtain ⟨cx, h1, _, h3⟩ := script_scanned_with_flag_on lower isNum w proj _ _ hm
  refine h3 (err "untrusted" ["github.event.issue.title"]) ?_
  rw [title_scan cx (h1 ▸ hl)]
  exact List.mem_append_right _ (List.mem_singleton.2 rfl)

/-- **in EVERY workflow**, under every project view and every folding function that leaves the four names alone: a step
whose `run:` is `${{ github.event.issue.title }}` gets the diagnostic of the untrusted-input check, naming the path, at
that scalar (membership: nothing is said about other diagnostics there) -/
theorem run_title_reported (lower : String → String) (hl : KeepsTitle lower) (isNum : IsNumber) (w : Workflow) (proj : ProjView)
    (id : String) (j : Job) (hj : (id, j) ∈ w.jobs.getD []) (st : Step) (hst : st ∈ j.steps.getD []) (r : ExecRun)
    (hx : st.exec = .run r) (q : Bool) (p : RuleExpr.Pos) (hr : r.run = some ⟨"${{ github.event.issue.title }}", q, p⟩) :
    (⟨p, "untrusted", ["github.event.issue.title"]⟩ : Diag) ∈ rule lower isNum w proj :=
  title_script_reported hl isNum proj (q := q) (key := "jobs.<job_id>.steps.run")
    (job_script_keyed hj hst (by rw [hx]; simp [execScriptKStrs, AL.C12R.mem_tag, hr]))

/-- the same for the `script` input (the id the parser gives `script:` / `Script:` / `SCRIPT:`) of a step whose `uses:`,
folded, starts with `actions/github-script@` -/
theorem github_script_title_reported (lower : String → String) (hl : KeepsTitle lower) (isNum : IsNumber) (w : Workflow)
    (proj : ProjView) (id : String) (j : Job) (hj : (id, j) ∈ w.jobs.getD []) (st : Step) (hst : st ∈ j.steps.getD [])
    (a : ExecAction) (hx : st.exec = .action a) (u : Str) (hu : a.uses = some u)
    (hgs : (lower u.value).startsWith "actions/github-script@" = true) (inp : Input) (hi : ("script", inp) ∈ a.inputs.getD [])
    (q : Bool) (p : RuleExpr.Pos) (hv : inp.value = ⟨"${{ github.event.issue.title }}", q, p⟩) :
    (⟨p, "untrusted", ["github.event.issue.title"]⟩ : Diag) ∈ rule lower isNum w proj := by
  refine title_script_reported hl isNum proj (q := q) (key := "jobs.<job_id>.steps.with") (job_script_keyed hj hst ?_)
  rw [hx]
  have hg : isGithubScript lower a.uses = true := by rw [hu]; exact hgs
  simp only [execScriptKStrs, hg, if_true]
  exact AL.C12R.mem_tag.2 ⟨List.mem_map.2 ⟨("script", inp), List.mem_filter.2 ⟨hi, by simp⟩, hv⟩, rfl⟩

/-- **`checkEnv` never reports untrusted input**, whatever the text of the `env:` and the scope. (The leaf only: that the
`env:` of a step, a job, a container, the workflow all go through `checkEnv` is read off the model, not stated here.) -/
theorem env_never_untrusted (cx : Cx) (e : Option Ast.Env) (key : String) : NoU (RuleExpr.checkEnv cx e key) := checkEnv_noU cx e key

/-! #### a concrete scope: the same text is accepted silently in `env:` and flagged in `run:` -/

/-- the scope of a step of a plain workflow (no events seen, no matrix, no earlier step), real case folding -/
def cxStep : Cx := { lower := AL.PW.asciiLower, st := { AL.Visit.St.init with stepsTy := some AL.Visit.emptyStrict } }

theorem getD_of_isSome {α : Type} (o : Option α) (d : α) (h : o.isSome = true) : o = some (o.getD d) := by
  cases o <;> simp_all

/-- the types of `github`, `github.event`, `github.event.issue`, `github.event.issue.title` in the scope `cxStep` under `key` -/
def tyG (key : String) : Ty := (Ty.lookup "github" (AL.C05S.envOf cxStep key).vars).getD .null
def tyE (key : String) : Ty × List SemaErr := objDerefTy (AL.C05S.envOf cxStep key) (decide ("github" = "vars")) "event" (tyG key)
def tyI (key : String) : Ty × List SemaErr := objDerefTy (AL.C05S.envOf cxStep key) false "issue" (tyE key).1
def tyT (key : String) : Ty × List SemaErr := objDerefTy (AL.C05S.envOf cxStep key) false "title" (tyI key).1

/-- under a key whose row lists `github` the expression checks without a diagnostic (`github.event` is an open object) -/
theorem title_sema_ok (key : String)
    (hv : (Ty.lookup "github" (AL.C05S.envOf cxStep key).vars).isSome = true)
    (ha : (AL.C05S.envOf cxStep key).availCtx.contains ((AL.C05S.envOf cxStep key).lower "github") = true)
    (h1 : (tyE key).2 = []) (h2 : (tyI key).2 = []) (h3 : (tyT key).2 = []) :
    (check (AL.C05S.envOf cxStep key) (chainE "github" ["title", "issue", "event"])).errs = [] ∧
    (check (AL.C05S.envOf cxStep key) (chainE "github" ["title", "issue", "event"])).ty = (tyT key).1 := by
  have a1 := check_ctx_prop (AL.C05S.envOf cxStep key) "github" "event" (tyG key) (getD_of_isSome _ .null hv) ha
  have a2 := check_prop_of (AL.C05S.envOf cxStep key) (.objDeref (.var "github") "event") "issue" (tyE key).1 (by rfl) a1.1
    (a1.2.trans h1)
  have a3 := check_prop_of (AL.C05S.envOf cxStep key) (.objDeref (.objDeref (.var "github") "event") "issue") "title" (tyI key).1
    (by rfl) a2.1 (a2.2.trans h2)
  exact ⟨a3.2.trans h3, a3.1⟩

/-- the same with the row of `key` in the availability table as the hypothesis about `github` (`AL.Visit.available_rows` has
the rows) and those about the types as one closed proposition: one evaluation decides them all (the later types contain
the earlier ones) -/
theorem title_sema_ok_of (key : String)
    (ha : (AL.Visit.availability key).1.contains (AL.PW.asciiLower "github") = true)
    (h : (Ty.lookup "github" (AL.C05S.envOf cxStep key).vars).isSome = true ∧
      (tyE key).2 = [] ∧ (tyI key).2 = [] ∧ (tyT key).2 = []) :
    (check (AL.C05S.envOf cxStep key) (chainE "github" ["title", "issue", "event"])).errs = [] ∧
    (check (AL.C05S.envOf cxStep key) (chainE "github" ["title", "issue", "event"])).ty = (tyT key).1 :=
  title_sema_ok key h.1 ((AL.C05S.envOf_avail cxStep key "github").trans ha) h.2.1 h.2.2.1 h.2.2.2

/-- what the instances below need of the types, under the three keys of a step they look at, decided together (the
variables of the scope do not depend on the key, so one evaluation looks them up for all three): the hypothesis
`h` of `title_sema_ok_of`, and that the type of the title may be interpolated -/
theorem title_types : ∀ key ∈ ["jobs.<job_id>.steps.env", "jobs.<job_id>.steps.run", "jobs.<job_id>.steps.with"],
    ((Ty.lookup "github" (AL.C05S.envOf cxStep key).vars).isSome = true ∧
      (tyE key).2 = [] ∧ (tyI key).2 = [] ∧ (tyT key).2 = []) ∧
    templateDiags [(tyT key).1] = [] := by decide +kernel

theorem title_sema_ok_env :
    (check (AL.C05S.envOf cxStep "jobs.<job_id>.steps.env") (chainE "github" ["title", "issue", "event"])).errs = [] ∧
    (check (AL.C05S.envOf cxStep "jobs.<job_id>.steps.env") (chainE "github" ["title", "issue", "event"])).ty =
      (tyT "jobs.<job_id>.steps.env").1 :=
  title_sema_ok_of _ AL.Visit.available_rows.1.2.2.2.2.1 (title_types _ (.head _)).1

theorem title_sema_ok_run :
    (check (AL.C05S.envOf cxStep "jobs.<job_id>.steps.run") (chainE "github" ["title", "issue", "event"])).errs = [] ∧
    (check (AL.C05S.envOf cxStep "jobs.<job_id>.steps.run") (chainE "github" ["title", "issue", "event"])).ty =
      (tyT "jobs.<job_id>.steps.run").1 :=
  title_sema_ok_of _ (AL.Visit.available_rows.1.1 "github" (List.mem_cons_self ..)) (title_types _ (.tail _ (.head _))).1

/-- the diagnostics of a checked string, from the result of the scan of its text (the string given by its fields: a
projection of a literal `Str` in the statement is slow to check) -/
theorem checkStrU_of_scan (cx : Cx) (u : Bool) (v : String) (q : Bool) (p : RuleExpr.Pos) (key : String)
    (r : Option (List Ty)) (es : List SemaErr) (h : checkExprsIn cx key u v = (r, es)) :
    (checkStrU cx u (some ⟨v, q, p⟩) key).2 = at_ ⟨v, q, p⟩ (es ++ (r.map templateDiags).getD []) := by
  simp only [checkStrU, h]
  cases r with
  | none => simp
  | some ts => rfl

/-- with the flag OFF, under a key where the semantic check accepts the chain with a type that may be interpolated, the
text gets no diagnostic -/
theorem title_clean (key : String)
    (hc : (check (AL.C05S.envOf cxStep key) (chainE "github" ["title", "issue", "event"])).errs = [])
    (ht : templateDiags [(check (AL.C05S.envOf cxStep key) (chainE "github" ["title", "issue", "event"])).ty] = [])
    (q : Bool) (p : RuleExpr.Pos) :
    checkString cxStep (some ⟨"${{ github.event.issue.title }}", q, p⟩) key = [] := by
  rw [checkString, checkStrU_of_scan _ _ _ _ _ _ _ _ (title_scan_off cxStep keepsTitle_asciiLower key hc)]
  simp only [Option.map_some, Option.getD_some, ht]
  rfl

/-- **in `env:` of a step the text is accepted without any diagnostic** (flag off: `checkString`) … -/
theorem env_title_clean (q : Bool) (p : RuleExpr.Pos) :
    checkString cxStep (some ⟨"${{ github.event.issue.title }}", q, p⟩) "jobs.<job_id>.steps.env" = [] :=
  title_clean _ title_sema_ok_env.1 (by rw [title_sema_ok_env.2]; exact (title_types _ (.head _)).2) q p

/-- with the flag ON, under a key where the semantic check accepts the chain, the text gets exactly the untrusted-input
diagnostic -/
theorem title_flagged (key : String)
    (hc : (check (AL.C05S.envOf cxStep key) (chainE "github" ["title", "issue", "event"])).errs = []) (q : Bool) (p : RuleExpr.Pos) :
    checkScriptString cxStep (some ⟨"${{ github.event.issue.title }}", q, p⟩) key =
      [⟨p, "untrusted", ["github.event.issue.title"]⟩] := by
  have h := title_scan cxStep keepsTitle_asciiLower key
  rw [show AL.C12R.envOf cxStep key = AL.C05S.envOf cxStep key from rfl, hc] at h
  rw [checkScriptString, checkStrU_of_scan _ _ _ _ _ _ _ _ h]
  rfl

/-- … **and in `run:` of the same step, in the same scope, it gets exactly the untrusted-input diagnostic** (flag on) -/
theorem run_title_flagged (q : Bool) (p : RuleExpr.Pos) :
    checkScriptString cxStep (some ⟨"${{ github.event.issue.title }}", q, p⟩) "jobs.<job_id>.steps.run" =
      [⟨p, "untrusted", ["github.event.issue.title"]⟩] :=
  title_flagged _ title_sema_ok_run.1 q p

/-- with the flag OFF the same text under the same key `jobs.<job_id>.steps.run` is silent: the flag, not the key, decides -/
theorem run_key_flag_off_clean (q : Bool) (p : RuleExpr.Pos) :
    checkString cxStep (some ⟨"${{ github.event.issue.title }}", q, p⟩) "jobs.<job_id>.steps.run" = [] := by
  exact title_clean _ title_sema_ok_run.1 (by rw [title_sema_ok_run.2]; exact (title_types _ (.tail _ (.head _))).2) q p

/-! ## 4. the known limit, stated exactly (`placeholders-after-first-diagnostic`)

`checkExprsIn` (rule_expression.go: `for { … if !ok { return nil, false } … }`) stops at the first placeholder that has
ANY diagnostic — of the semantic check or of the untrusted-input check. So: the diagnostics of a string are exactly the
diagnostics of the first placeholder (in loop order) that has one; an untrusted input in the k-th placeholder is
reported if (and, with the code `untrusted`, only if) the placeholders the loop passes before it are all clean. -/

/-- the loop, started on the text `s`, passes `k` placeholders that check WITHOUT a diagnostic and then stands at `t` -/
inductive Passed (cx : Cx) (key : String) (u : Bool) : List Nat → Nat → List Nat → Prop
  | zero (s : List Nat) : Passed cx key u s 0 s
  | step {s : List Nat} {idx : Nat} {ty : Ty} {off : Nat} {es : List SemaErr} {k : Nat} {t : List Nat}
      (hi : AL.Proc.indexOf AL.Proc.open3 s 0 = some idx)
      (h1 : checkOne cx key u (s.drop (idx + 3)) = (some (ty, off), es)) (h0 : off ≠ 0)
      (hp : Passed cx key u ((s.drop (idx + 3)).drop off) k t) : Passed cx key u s (k + 1) t

theorem indexOf_open3_nil : AL.Proc.indexOf AL.Proc.open3 [] 0 = none := by decide

theorem scan_passed (cx : Cx) (key : String) (u : Bool) {s t : List Nat} {k : Nat} (hp : Passed cx key u s k t) :
    ∀ (fuel : Nat) (ts : List Ty), s.length ≤ fuel → ∃ fuel' ts', t.length ≤ fuel' ∧
      scan cx key u fuel s ts = scan cx key u fuel' t ts' := by
  induction hp with
  | zero s => intro fuel ts h; exact ⟨fuel, ts, h, rfl⟩
  | @step s idx ty off es k t hi h1 h0 _ ih =>
    intro fuel ts hl
    cases fuel with
    | zero =>
      have : s = [] := List.eq_nil_of_length_eq_zero (Nat.le_zero.1 hl)
      rw [this, indexOf_open3_nil] at hi
      cases hi
    | succ f =>
      have hlen : ((s.drop (idx + 3)).drop off).length ≤ f := by
        simp only [List.length_drop]
        omega
      obtain ⟨fuel', ts', h2, h3⟩ := ih f (ts ++ [ty]) hlen
      refine ⟨fuel', ts', h2, ?_⟩
      rw [scan]
      simp only [hi, h1, h0, if_false]
      exact h3

/-- **the (k+1)-th placeholder has a diagnostic and the k before it are clean ⇒ the string gets exactly its diagnostics** -/
theorem kth_placeholder_reported (cx : Cx) (key : String) (u : Bool) (v : String) (k : Nat) (t : List Nat)
    (hp : Passed cx key u (bytesOf v) k t) (idx : Nat) (hi : AL.Proc.indexOf AL.Proc.open3 t 0 = some idx)
    (errs : List SemaErr) (h1 : checkOne cx key u (t.drop (idx + 3)) = (none, errs)) :
    checkExprsIn cx key u v = (none, errs) := by
  obtain ⟨fuel', ts', h2, h3⟩ := scan_passed cx key u hp (bytesOf v).length [] (Nat.le_refl _)
  simp only [checkExprsIn, h3]
  cases fuel' with
  | zero =>
    have : t = [] := List.eq_nil_of_length_eq_zero (Nat.le_zero.1 h2)
    rw [this, indexOf_open3_nil] at hi
    cases hi
  | succ f =>
    rw [scan]
    simp only [hi, h1]

/-- conversely: **whatever a string gets are the diagnostics of the first placeholder that has any** — nothing of a
later placeholder is ever reported -/
theorem scan_diags_from_first_bad (cx : Cx) (key : String) (u : Bool) : ∀ (fuel : Nat) (s : List Nat) (ts : List Ty),
    (scan cx key u fuel s ts).2 ≠ [] → ∃ k t idx, Passed cx key u s k t ∧ AL.Proc.indexOf AL.Proc.open3 t 0 = some idx ∧
      checkOne cx key u (t.drop (idx + 3)) = (none, (scan cx key u fuel s ts).2)
  | 0, _, _, h => absurd rfl h
  | fuel + 1, s, ts, h => by
    rw [scan] at h ⊢
    cases hi : AL.Proc.indexOf AL.Proc.open3 s 0 with
    | none => simp [hi] at h
    | some idx =>
      simp only [hi] at h ⊢
      cases hc : checkOne cx key u (s.drop (idx + 3)) with
      | mk r errs =>
        cases r with
        | none =>
          simp only
          exact ⟨0, s, idx, Passed.zero s, hi, hc⟩
        | some p =>
          obtain ⟨ty, off⟩ := p
          simp only [hc] at h ⊢
          by_cases h0 : off = 0
          · simp [h0] at h
          · simp only [h0, if_false] at h ⊢
            obtain ⟨k, t, idx', hp, hi', hc'⟩ := scan_diags_from_first_bad cx key u fuel _ _ h
            exact ⟨k + 1, t, idx', Passed.step hi hc h0 hp, hi', hc'⟩

theorem checkExprsIn_diags_from_first_bad (cx : Cx) (key : String) (u : Bool) (v : String)
    (h : (checkExprsIn cx key u v).2 ≠ []) : ∃ k t idx, Passed cx key u (bytesOf v) k t ∧
      AL.Proc.indexOf AL.Proc.open3 t 0 = some idx ∧ checkOne cx key u (t.drop (idx + 3)) = (none, (checkExprsIn cx key u v).2) :=
  scan_diags_from_first_bad cx key u _ _ _ h

/-- **the exact form of the limit**: a string gets an untrusted-input diagnostic iff the first placeholder that has any
diagnostic has one with that code -/
theorem untrusted_reported_iff (cx : Cx) (key : String) (v : String) :
    (∃ e ∈ (checkExprsIn cx key true v).2, e.code = "untrusted") ↔
      ∃ k t idx, Passed cx key true (bytesOf v) k t ∧ AL.Proc.indexOf AL.Proc.open3 t 0 = some idx ∧
        (checkOne cx key true (t.drop (idx + 3))).1 = none ∧
        ∃ e ∈ (checkOne cx key true (t.drop (idx + 3))).2, e.code = "untrusted" := by
  constructor
  · rintro ⟨e, he, hc⟩
    have hne : (checkExprsIn cx key true v).2 ≠ [] := fun h0 => by rw [h0] at he; cases he
    obtain ⟨k, t, idx, hp, hi, h1⟩ := checkExprsIn_diags_from_first_bad cx key true v hne
    exact ⟨k, t, idx, hp, hi, by rw [h1], e, by rw [h1]; exact he, hc⟩
  · rintro ⟨k, t, idx, hp, hi, hn, e, he, hc⟩
    have h1 : checkOne cx key true (t.drop (idx + 3)) = (none, (checkOne cx key true (t.drop (idx + 3))).2) := by
      rw [← hn]
    rw [kth_placeholder_reported cx key true v k t hp idx hi _ h1]
    exact ⟨e, he, hc⟩

/-- a placeholder with an untrusted-input diagnostic ends the loop -/
theorem checkOne_untrusted_none (cx : Cx) (key : String) (u : Bool) (rest : List Nat)
    (h : ∃ e ∈ (checkOne cx key u rest).2, e.code = "untrusted") : (checkOne cx key u rest).1 = none := by
  cases hr : (checkOne cx key u rest).1 with
  | none => rfl
  | some p =>
    obtain ⟨e, he, _⟩ := h
    rw [checkOne_some_nil cx key u rest p hr] at he
    cases he

/-- **an untrusted input in the (k+1)-th placeholder is reported if the `k` placeholders before it are clean** -/
theorem untrusted_kth_reported (cx : Cx) (key : String) (v : String) (k : Nat) (t : List Nat)
    (hp : Passed cx key true (bytesOf v) k t) (idx : Nat) (hi : AL.Proc.indexOf AL.Proc.open3 t 0 = some idx)
    (h : ∃ e ∈ (checkOne cx key true (t.drop (idx + 3))).2, e.code = "untrusted") :
    ∃ e ∈ (checkExprsIn cx key true v).2, e.code = "untrusted" :=
  (untrusted_reported_iff cx key v).2 ⟨k, t, idx, hp, hi, checkOne_untrusted_none cx key true _ h, h⟩

/-! #### the limit on concrete texts, for every scope -/

def bTitleHeadRef : List Nat :=
  [36, 123, 123, 32, 103, 105, 116, 104, 117, 98, 46, 101, 118, 101, 110, 116, 46, 105, 115, 115, 117, 101, 46, 116, 105,
   116, 108, 101, 32, 125, 125, 32, 36, 123, 123, 32, 103, 105, 116, 104, 117, 98, 46, 104, 101, 97, 100, 95, 114, 101,
   102, 32, 125, 125]
def bHeadRefTitle : List Nat :=
  [36, 123, 123, 32, 103, 105, 116, 104, 117, 98, 46, 104, 101, 97, 100, 95, 114, 101, 102, 32, 125, 125, 32, 36, 123,
   123, 32, 103, 105, 116, 104, 117, 98, 46, 101, 118, 101, 110, 116, 46, 105, 115, 115, 117, 101, 46, 116, 105, 116, 108,
   101, 32, 125, 125]
def bTrueHeadRef : List Nat :=
  [36, 123, 123, 32, 116, 114, 117, 101, 32, 125, 125, 32, 36, 123, 123, 32, 103, 105, 116, 104, 117, 98, 46, 104, 101,
   97, 100, 95, 114, 101, 102, 32, 125, 125]

theorem bytes_titleHeadRef : bytesOf "${{ github.event.issue.title }} ${{ github.head_ref }}" = bTitleHeadRef := by decide +kernel
theorem bytes_headRefTitle : bytesOf "${{ github.head_ref }} ${{ github.event.issue.title }}" = bHeadRefTitle := by decide +kernel
theorem bytes_trueHeadRef : bytesOf "${{ true }} ${{ github.head_ref }}" = bTrueHeadRef := by decide +kernel

/-- **`placeholders-after-first-diagnostic`, on untrusted inputs**: in `${{ github.event.issue.title }} ${{ github.head_ref }}`
the second untrusted input is NOT reported — the result of the scan is that of the first placeholder alone … -/
theorem second_untrusted_input_lost (cx : Cx) (hl : KeepsTitle cx.lower) (key : String) :
    checkExprsIn cx key true "${{ github.event.issue.title }} ${{ github.head_ref }}" =
      checkExprsIn cx key true "${{ github.event.issue.title }}" := by
  rw [title_scan cx hl key]
  have := chain_text_untrusted cx key _ bTitleHeadRef bytes_titleHeadRef 0 (by decide) "github" ["title", "issue", "event"] 28
    (by decide +kernel) ["github.event.issue.title"]
    (by simp only [List.map, hl.github, hl.event, hl.issue, hl.title]; exact title_report)
  simpa only [List.map, hl.github, hl.event, hl.issue, hl.title] using this

/-- … so no diagnostic names `github.head_ref` -/
theorem second_untrusted_input_lost' (cx : Cx) (hl : KeepsTitle cx.lower) (key : String) :
    ∀ e ∈ (checkExprsIn cx key true "${{ github.event.issue.title }} ${{ github.head_ref }}").2,
      e.code = "untrusted" → e.args = ["github.event.issue.title"] := by
  intro e he hc
  rw [second_untrusted_input_lost cx hl key, title_scan cx hl key] at he
  rcases List.mem_append.1 he with h | h
  · exact absurd hc (check_noUE _ _ e h)
  · rw [List.mem_singleton.1 h]; rfl

/-- in the other order it is `github.event.issue.title` that is lost -/
theorem second_untrusted_input_lost_swapped (cx : Cx) (h1 : cx.lower "github" = "github") (h2 : cx.lower "head_ref" = "head_ref")
    (key : String) :
    checkExprsIn cx key true "${{ github.head_ref }} ${{ github.event.issue.title }}" =
      checkExprsIn cx key true "${{ github.head_ref }}" := by
  rw [headRef_scan cx h1 h2 key]
  have := chain_text_untrusted cx key _ bHeadRefTitle bytes_headRefTitle 0 (by decide) "github" ["head_ref"] 19
    (by decide +kernel) ["github.head_ref"] (by simp only [List.map, h1, h2]; exact headRef_report)
  simpa only [List.map, h1, h2] using this

/-- the text after a `${{` lexes (offset `off`) and parses to `true` / `false` -/
def parsesBoolLit (rest : List Nat) (off : Nat) : Bool :=
  match AL.Lex.lexExpression (decodeUtf8 rest), AL.Parse.parseToks (AL.Lex.tokens (decodeUtf8 rest)) with
  | .ok (_, o), .ok (.bool _) => decide (o = off)
  | _, _ => false

/-- a placeholder `${{ true }}` is clean in every scope, with the flag on as well -/
theorem checkOne_of_parsesBoolLit (cx : Cx) (key : String) (u : Bool) (rest : List Nat) (off : Nat)
    (h : parsesBoolLit rest off = true) : checkOne cx key u rest = (some (.bool, off), []) := by
  unfold parsesBoolLit at h
  split at h
  · rename_i ts o b h1 h2
    simp only [decide_eq_true_eq] at h
    unfold checkOne
    simp only [h1, h2, h]
    unfold checkParsed
    have : AL.Insecure.run AL.Gen.untrustedRoots [Ev.leave LeaveKind.other] = [] := by decide +kernel
    simp only [toE, check_evs_eq, evsOf, this]
    simp only [check_bool, wrap_errs, wrap_ty, List.nil_append]
    cases u <;> rfl
  · cases h

/-- in `${{ true }} ${{ github.head_ref }}` the loop passes one clean placeholder and then stands before the second … -/
theorem true_passed (cx : Cx) (key : String) :
    Passed cx key true (bytesOf "${{ true }} ${{ github.head_ref }}") 1 ((bTrueHeadRef.drop (0 + 3)).drop 8) := by
  rw [bytes_trueHeadRef]
  exact Passed.step (idx := 0) (by decide) (checkOne_of_parsesBoolLit cx key true _ 8 (by decide +kernel)) (by decide)
    (Passed.zero _)

/-- … which gets the diagnostic of the untrusted-input check -/
theorem headRef_second (cx : Cx) (h1 : cx.lower "github" = "github") (h2 : cx.lower "head_ref" = "head_ref") (key : String) :
    checkOne cx key true (((bTrueHeadRef.drop (0 + 3)).drop 8).drop (1 + 3)) =
      (none, (check (AL.C12R.envOf cx key) (chainE "github" ["head_ref"])).errs ++ [err "untrusted" ["github.head_ref"]]) := by
  obtain ⟨pe, hc, he⟩ := checkOne_of_parsesChain cx key true (((bTrueHeadRef.drop (0 + 3)).drop 8).drop (1 + 3)) "github"
    ["head_ref"] 19 (by decide +kernel)
  have hr := checkParsed_chain cx key pe 19 "github" ["head_ref"] hc ["github.head_ref"]
    (by simp only [List.map, h1, h2]; exact headRef_report)
  simp only [List.map, h1, h2] at hr
  exact he.trans hr

/-- **the positive half on a concrete text**: after a clean placeholder the untrusted input IS reported -/
theorem clean_then_untrusted_reported (cx : Cx) (h1 : cx.lower "github" = "github") (h2 : cx.lower "head_ref" = "head_ref")
    (key : String) :
    checkExprsIn cx key true "${{ true }} ${{ github.head_ref }}" =
      (none, (check (AL.C12R.envOf cx key) (chainE "github" ["head_ref"])).errs ++ [err "untrusted" ["github.head_ref"]]) :=
  kth_placeholder_reported cx key true _ 1 _ (true_passed cx key) 1 (by decide) _ (headRef_second cx h1 h2 key)

/-! ## 5. the documented criterion and the code's coincide; concrete workflows

The property (and GitHub: `owner/repo` of `uses:` is resolved case-insensitively) says "the `script` input of
actions/github-script, key and action name in any letter case". The KEY is folded by the parser; the ACTION NAME is
folded by the rule (`strings.ToLower(e.Uses.Value)`, model: `cx.lower u.value`). For a folding function that is ASCII
lower-casing the rule's enumeration IS the documented one (`scriptStrs_eq_doc`).

A test of `e.Uses.Value` as written would miss an untrusted input in the `script` of `uses: Actions/GitHub-Script@v7`
(`github_script_any_case_reported`). (`actionOutputsTy` tests the text as written: it decides a TYPE, not the flag.) -/

/-- the documented criterion: `actions/github-script@…` in any letter case -/
def isGithubScriptDoc (uses : Option Str) : Bool :=
  match uses with
  | some u => (AL.PW.asciiLower u.value).startsWith "actions/github-script@"
  | none => false

def execScriptStrsDoc : Exec → List Str
  | .run r => r.run.toList
  | .action a =>
    if isGithubScriptDoc a.uses then ((a.inputs.getD []).filter fun kv => kv.1 = "script").map (·.2.value) else []
  | .none => []

/-- the script strings by the documented criterion (no reference to the rule's folding function) -/
def scriptStrsDoc (w : Workflow) : List Str :=
  (w.jobs.getD []).flatMap fun kv => (kv.2.steps.getD []).flatMap fun st => execScriptStrsDoc st.exec

/-- the spelling `Actions/GitHub-Script@v7` passes the test once folded, and fails it as written -/
theorem other_case_folded : (AL.PW.asciiLower "Actions/GitHub-Script@v7").startsWith "actions/github-script@" = true := by
  decide +kernel
theorem other_case_written : ("Actions/GitHub-Script@v7" : String).startsWith "actions/github-script@" = false := by
  decide +kernel

-- what the documented criterion accepts
example : isGithubScriptDoc (some ⟨"Actions/GitHub-Script@v7", false, ⟨1, 1⟩⟩) = true := other_case_folded
example : isGithubScriptDoc (some ⟨"ACTIONS/GITHUB-SCRIPT@main", false, ⟨1, 1⟩⟩) = true := by decide +kernel
example : isGithubScriptDoc (some ⟨"actions/github-script@60a0d83039c74a4aee543508d2ffcb1c3799cdea", true, ⟨1, 1⟩⟩) = true := by
  decide +kernel
example : isGithubScriptDoc (some ⟨"actions/github-script/sub@v7", false, ⟨1, 1⟩⟩) = false := by decide +kernel
example : isGithubScriptDoc (some ⟨"actions/checkout@v4", false, ⟨1, 1⟩⟩) = false := by decide +kernel
example : isGithubScriptDoc none = false := rfl

/-- the folding function is ASCII lower-casing on EVERY string. `strings.ToLower` itself is not (it maps e.g. U+0130 to
`i`): the theorems that assume this speak of an ASCII-folding `lower` -/
def IsAsciiLower (lower : String → String) : Prop := ∀ s, lower s = AL.PW.asciiLower s

theorem isAsciiLower_asciiLower : IsAsciiLower AL.PW.asciiLower := fun _ => rfl
/-- the folding function of the drivers (AL.Facts) -/
theorem isAsciiLower_lowerAscii : IsAsciiLower AL.Facts.lowerAscii := fun _ => rfl

theorem IsAsciiLower.keepsTitle {lower : String → String} (h : IsAsciiLower lower) : KeepsTitle lower :=
  ⟨(h _).trans keepsTitle_asciiLower.github, (h _).trans keepsTitle_asciiLower.event, (h _).trans keepsTitle_asciiLower.issue,
   (h _).trans keepsTitle_asciiLower.title⟩

theorem isGithubScript_eq_doc (lower : String → String) (h : IsAsciiLower lower) (uses : Option Str) :
    isGithubScript lower uses = isGithubScriptDoc uses := by
  cases uses with
  | none => rfl
  | some u => simp only [isGithubScript, isGithubScriptDoc, h u.value]

theorem execScriptStrs_eq_doc (lower : String → String) (h : IsAsciiLower lower) (e : Exec) :
    execScriptStrs lower e = execScriptStrsDoc e := by
  cases e with
  | none => rfl
  | run r => rfl
  | action a => simp only [execScriptStrs, execScriptStrsDoc, isGithubScript_eq_doc lower h]

/-- **the code's criterion IS the documented one**: for a folding function that is ASCII lower-casing, the script strings
the rule switches the flag on for are exactly a step's `run:` and the `script` input of `actions/github-script@…` in
ANY letter case -/
theorem scriptStrs_eq_doc (lower : String → String) (h : IsAsciiLower lower) (w : Workflow) :
    scriptStrs lower w = scriptStrsDoc w := by
  simp only [scriptStrs, scriptStrsDoc, jobScriptStrs]
  exact flatMap_ext _ _ _ fun kv => flatMap_ext _ _ _ fun st => execScriptStrs_eq_doc lower h st.exec

/-- precision and completeness against the DOCUMENTED enumeration -/
theorem untrusted_only_in_documented_scripts (lower : String → String) (h : IsAsciiLower lower) (isNum : IsNumber) (w : Workflow)
    (proj : ProjView) : ∀ d ∈ rule lower isNum w proj, isUntrusted d → ∃ s ∈ scriptStrsDoc w, d.site = s.pos := by
  rw [← scriptStrs_eq_doc lower h]
  exact untrusted_only_in_scripts lower isNum w proj

theorem every_documented_script_checked (lower : String → String) (h : IsAsciiLower lower) (isNum : IsNumber) (w : Workflow)
    (proj : ProjView) (s : Str) (hs : s ∈ scriptStrsDoc w)
    (hu : ∀ key, key = "jobs.<job_id>.steps.run" ∨ key = "jobs.<job_id>.steps.with" → UntrustedUnderL lower key s.value) :
    ∃ d ∈ rule lower isNum w proj, isUntrusted d ∧ d.site = s.pos := by
  rw [← scriptStrs_eq_doc lower h] at hs
  obtain ⟨key, hk⟩ := script_keyed lower w s hs
  exact every_script_checked_L lower isNum w proj s key hk (hu key (scriptKStrs_keys lower w s key hk))

def titleAt (p : RuleExpr.Pos) : Str := ⟨"${{ github.event.issue.title }}", false, p⟩

/-- ```
    jobs:
      build:
        steps:
          - run: ${{ github.event.issue.title }}
            env:
              TITLE: ${{ github.event.issue.title }}
``` -/
def stRunEnv : Step :=
  { exec := .run { run := some (titleAt ⟨4, 14⟩) },
    env := some ⟨some [("title", ⟨⟨"TITLE", false, ⟨6, 11⟩⟩, titleAt ⟨6, 18⟩⟩)], none⟩, pos := ⟨4, 9⟩ }
def jobRunEnv : Job := { id := ⟨"build", false, ⟨2, 3⟩⟩, steps := some [stRunEnv], pos := ⟨2, 3⟩ }
def wRunEnv : Workflow := { jobs := some [("build", jobRunEnv)] }

theorem wRunEnv_scripts (lower : String → String) : scriptStrs lower wRunEnv = [titleAt ⟨4, 14⟩] := rfl
theorem stRunEnv_keyed (lower : String → String) :
    (titleAt ⟨4, 14⟩, "jobs.<job_id>.steps.run") ∈ execScriptKStrs lower stRunEnv.exec := List.mem_singleton.2 rfl
theorem wRunEnv_keyed (lower : String → String) :
    (titleAt ⟨4, 14⟩, "jobs.<job_id>.steps.run") ∈ scriptKStrs lower wRunEnv := List.mem_singleton.2 rfl

/-- the `run:` of the example is reported … -/
theorem wRunEnv_run_reported (lower : String → String) (hl : KeepsTitle lower) (isNum : IsNumber) (proj : ProjView) :
    (⟨⟨4, 14⟩, "untrusted", ["github.event.issue.title"]⟩ : Diag) ∈ rule lower isNum wRunEnv proj :=
  title_script_reported hl isNum proj (wRunEnv_keyed lower)

/-- … and the same text in `env:` of the same step is not: every untrusted-input diagnostic is at the `run:` scalar
(for every folding function, number test and project view) -/
theorem wRunEnv_env_not_reported (lower : String → String) (isNum : IsNumber) (proj : ProjView) :
    ∀ d ∈ rule lower isNum wRunEnv proj, isUntrusted d → d.site = ⟨4, 14⟩ ∧ d.site ≠ ⟨6, 18⟩ := by
  intro d hd hu
  obtain ⟨s, hs, e⟩ := untrusted_only_in_scripts lower isNum wRunEnv proj d hd hu
  rw [wRunEnv_scripts, List.mem_singleton] at hs
  rw [e, hs]
  exact ⟨rfl, by decide⟩

/-- ```
    jobs:
      build:
        steps:
          - uses: <spec>
            with:
              script: ${{ github.event.issue.title }}
``` (the parser stores `script:`, `Script:`, `SCRIPT:` under the id `script`) -/
def stScript (spec : String) : Step :=
  { exec := .action { uses := some ⟨spec, false, ⟨4, 15⟩⟩,
                      inputs := some [("script", ⟨⟨"Script", false, ⟨6, 11⟩⟩, titleAt ⟨6, 19⟩⟩)] }, pos := ⟨4, 9⟩ }
def jobScript (spec : String) : Job := { id := ⟨"build", false, ⟨2, 3⟩⟩, steps := some [stScript spec], pos := ⟨2, 3⟩ }
def wScript (spec : String) : Workflow := { jobs := some [("build", jobScript spec)] }

theorem wScript_kscripts (lower : String → String) (spec : String) :
    scriptKStrs lower (wScript spec) =
      if (lower spec).startsWith "actions/github-script@" then [(titleAt ⟨6, 19⟩, "jobs.<job_id>.steps.with")] else [] := by
  simp only [scriptKStrs, wScript, jobScript, stScript, execScriptKStrs, isGithubScript, AL.C12R.tag, Option.getD_some,
    List.flatMap_cons, List.flatMap_nil, List.append_nil, List.filter, decide_true, List.map]

theorem other_case_keyed :
    (titleAt ⟨6, 19⟩, "jobs.<job_id>.steps.with") ∈ scriptKStrs AL.PW.asciiLower (wScript "Actions/GitHub-Script@v7") := by
  rw [wScript_kscripts, if_pos other_case_folded]
  exact List.mem_singleton.2 rfl

theorem other_case_id_no_script : scriptStrs id (wScript "Actions/GitHub-Script@v7") = [] := by
  rw [← scriptKStrs_fst, wScript_kscripts, if_neg (by rw [id, other_case_written]; decide)]
  rfl

/-- whatever the spelling of `uses:`: if its folded text starts with `actions/github-script@`, the script is reported -/
theorem github_script_spec_reported (lower : String → String) (hl : KeepsTitle lower) (isNum : IsNumber) (proj : ProjView)
    (spec : String) (hs : (lower spec).startsWith "actions/github-script@" = true) :
    (⟨⟨6, 19⟩, "untrusted", ["github.event.issue.title"]⟩ : Diag) ∈ rule lower isNum (wScript spec) proj :=
  title_script_reported hl isNum proj (key := "jobs.<job_id>.steps.with")
    (by rw [wScript_kscripts, if_pos hs]; exact List.mem_singleton.2 rfl)

/-- spelled in lower case, the script is reported -/
theorem github_script_exact_case_reported (lower : String → String) (h : IsAsciiLower lower) (isNum : IsNumber) (proj : ProjView) :
    (⟨⟨6, 19⟩, "untrusted", ["github.event.issue.title"]⟩ : Diag) ∈
      rule lower isNum (wScript "actions/github-script@v7") proj :=
  github_script_spec_reported lower h.keepsTitle isNum proj _ (by rw [h]; decide +kernel)

/-- **The action name in another letter case.** `uses: Actions/GitHub-Script@v7` with `script: ${{ github.event.issue.title }}`
IS scanned with the flag on and reported, for every folding function that is ASCII lower-casing -/
theorem github_script_any_case_reported (lower : String → String) (h : IsAsciiLower lower) (isNum : IsNumber) (proj : ProjView) :
    (⟨⟨6, 19⟩, "untrusted", ["github.event.issue.title"]⟩ : Diag) ∈
      rule lower isNum (wScript "Actions/GitHub-Script@v7") proj :=
  github_script_spec_reported lower h.keepsTitle isNum proj _ (by rw [h]; exact other_case_folded)

theorem github_script_any_case_reported_lowerAscii (isNum : IsNumber) (proj : ProjView) :
    (⟨⟨6, 19⟩, "untrusted", ["github.event.issue.title"]⟩ : Diag) ∈
      rule AL.Facts.lowerAscii isNum (wScript "Actions/GitHub-Script@v7") proj :=
  github_script_any_case_reported _ isAsciiLower_lowerAscii isNum proj

/-- by the documented criterion the `script` input of `Actions/GitHub-Script@v7` is a script string, and so it is for
the rule -/
theorem other_case_is_documented_script : scriptStrsDoc (wScript "Actions/GitHub-Script@v7") = [titleAt ⟨6, 19⟩] := by
  rw [← scriptStrs_eq_doc AL.PW.asciiLower isAsciiLower_asciiLower, ← scriptKStrs_fst, wScript_kscripts, if_pos other_case_folded]
  rfl
theorem other_case_is_a_script (lower : String → String) (h : IsAsciiLower lower) :
    scriptStrs lower (wScript "Actions/GitHub-Script@v7") = [titleAt ⟨6, 19⟩] := by
  rw [scriptStrs_eq_doc lower h, other_case_is_documented_script]

/-- the criterion goes through the rule's folding function: with the identity for `lower` (a function that is NOT
lower-casing) the other spelling is not a script string and nothing is reported — the model's `lower` must be the
lower-casing the Go code uses for the theorems above to speak about actionlint -/
theorem github_script_case_goes_through_lower (isNum : IsNumber) (proj : ProjView) :
    NoU (rule id isNum (wScript "Actions/GitHub-Script@v7") proj) :=
  no_script_no_untrusted id isNum _ proj other_case_id_no_script

/-- in the concrete scope of the step (real case folding): the `uses:` scalar is silent, the `script` input gets exactly
the untrusted-input diagnostic — the position is scanned with the flag ON -/
theorem github_script_other_case_flagged :
    (stepExec cxStep (stScript "Actions/GitHub-Script@v7").exec).1 =
      [⟨⟨6, 19⟩, "untrusted", ["github.event.issue.title"]⟩] := by
  -- the `uses:` scalar has no placeholder; the `script` input is the title text under the key of `with:`
  have h0 : checkString cxStep (some ⟨"Actions/GitHub-Script@v7", false, ⟨4, 15⟩⟩) "" = [] := by
    rw [checkString, checkStrU_of_scan _ _ _ _ _ _ _ _ (scan_done cxStep "" false _ _ _ (by decide +kernel))]
    rfl
  have h1 := title_flagged _ (title_sema_ok_of "jobs.<job_id>.steps.with" AL.Visit.available_rows.1.2.2.2.2.2 (title_types _ (.tail _ (.tail _ (.head _)))).1).1 false ⟨6, 19⟩
  have hs : (cxStep.lower "Actions/GitHub-Script@v7").startsWith "actions/github-script@" = true := other_case_folded
  simp only [stScript, stepExec_action, isGithubScript, Option.getD_some, List.flatMap_cons, List.flatMap_nil, hs,
    Bool.true_and, decide_true, if_true, h0, titleAt, h1, List.append_nil]
  rfl

/-- the example workflow `wRunEnv`, exactly: ONE untrusted-input diagnostic, at the `run:` scalar -/
theorem wRunEnv_untrusted_exactly (lower : String → String) (hl : KeepsTitle lower) (isNum : IsNumber) (proj : ProjView) :
    uf (rule lower isNum wRunEnv proj) = [⟨⟨4, 14⟩, "untrusted", ["github.event.issue.title"]⟩] := by
  rw [rule_untrusted_exact]
  generalize hcx : AL.C05S.jobCxS (AL.C05S.ruleCx lower proj wRunEnv) isNum (wRunEnv.jobs.getD []) jobRunEnv = cx
  have hlow : cx.lower = lower :=
    hcx ▸ by rw [AL.C05S.jobCxS, AL.C05S.jobCx_eq, AL.C05S.ruleCx_eq]; rfl
  have hs := title_scan cx (hlow ▸ hl) "jobs.<job_id>.steps.run"
  simp only [wRunEnv, Option.getD_some, List.flatMap_cons, List.flatMap_nil, List.append_nil, jobRunEnv, stepsScans, stRunEnv,
    execScriptKStrs, Option.toList, AL.C12R.tag, List.map_cons, List.map_nil, scanU, titleAt] at hcx ⊢
  rw [hcx, hs, at_append, uf_append, (NoU.at_ _ (check_noUE _ _)).uf]
  rfl

/-! ## 6. instances of the theorems with hypotheses -/

private def p0 : RuleExpr.Pos := ⟨1, 1⟩
private def cx0 : Cx := { lower := id }

example : NoU (mustBe isObjOrAny "must-be-object" "env" (some (titleAt p0)) (some .string, [])).2 :=
  mustBe_noU _ _ _ _ _ (by decide) NoU.nil
example : NoU (if (1 : Nat) = 1 then [(⟨p0, "x", []⟩ : Diag)] else []) :=
  noU_ite _ _ (fun d hd hu => by rw [List.mem_singleton.1 hd] at hu; exact absurd hu (by decide))
example : NoU (includeCombo cx0 (fun _ => false) (.any, [⟨p0, "x", []⟩]) ⟨none, some (titleAt p0)⟩).2 :=
  includeCombo_noU _ _ _ _ (fun d hd hu => by rw [List.mem_singleton.1 hd] at hu; exact absurd hu (by decide))
example : NoU ([1, 2].foldl (fun (acc : Nat × List Diag) (x : Nat) => (acc.1 + x, acc.2 ++ [⟨p0, "x", []⟩])) (0, [])).2 :=
  foldl_noU _ (fun acc x h => h.append (fun d hd hu => by rw [List.mem_singleton.1 hd] at hu; exact absurd hu (by decide))) _ _ NoU.nil
example : NoU (rule id (fun _ => false) (wScript "Actions/GitHub-Script@v7") {}) :=
  no_script_no_untrusted _ _ _ _ other_case_id_no_script
example : ∃ key, (titleAt ⟨4, 14⟩, key) ∈ scriptKStrs AL.PW.asciiLower wRunEnv := script_keyed AL.PW.asciiLower wRunEnv _ (by rw [wRunEnv_scripts]; simp)
example : titleAt ⟨4, 14⟩ ∈ scriptStrs AL.PW.asciiLower wRunEnv := keyed_is_script AL.PW.asciiLower wRunEnv _ "jobs.<job_id>.steps.run" (wRunEnv_keyed _)
example : "jobs.<job_id>.steps.run" = "jobs.<job_id>.steps.run" ∨ "jobs.<job_id>.steps.run" = "jobs.<job_id>.steps.with" :=
  scriptKStrs_keys AL.PW.asciiLower wRunEnv (titleAt ⟨4, 14⟩) _ (wRunEnv_keyed _)
example : titleAt ⟨4, 14⟩ ∈ valueStrs wRunEnv := scriptStrs_sub_valueStrs AL.PW.asciiLower wRunEnv _ (by rw [wRunEnv_scripts]; simp)
example : (titleAt ⟨6, 19⟩, "jobs.<job_id>.steps.with") ∈ AL.C12R.keyedStrs (wScript "Actions/GitHub-Script@v7") :=
  scriptKStrs_sub_keyedStrs AL.PW.asciiLower _ _ other_case_keyed
example : titleAt ⟨4, 14⟩ ∈ execStrs stRunEnv.exec := execScriptStrs_sub AL.PW.asciiLower _ _ (List.mem_singleton.2 rfl)
example : titleAt ⟨4, 14⟩ ∈ stepStrs stRunEnv := stepScriptStrs_sub AL.PW.asciiLower _ _ (List.mem_singleton.2 rfl)
example : titleAt ⟨4, 14⟩ ∈ jobStrs jobRunEnv := jobScriptStrs_sub AL.PW.asciiLower _ _ (List.mem_singleton.2 rfl)
example : (titleAt ⟨4, 14⟩, "jobs.<job_id>.steps.run") ∈ AL.C12R.execKStrs stRunEnv.exec :=
  execScriptKStrs_sub AL.PW.asciiLower _ _ (stRunEnv_keyed _)

-- precision: the diagnostic of `wRunEnv` is at a script string
example : ∃ s ∈ scriptStrs id wRunEnv, (⟨⟨4, 14⟩, "untrusted", ["github.event.issue.title"]⟩ : Diag).site = s.pos :=
  untrusted_only_in_scripts id (fun _ => false) wRunEnv {} _ (wRunEnv_run_reported id keepsTitle_id _ {}) rfl

-- completeness, inclusion form and sharp form, on the github-script example
example : ScannedOn AL.PW.asciiLower {} (rule AL.PW.asciiLower (fun _ => false) (wScript "Actions/GitHub-Script@v7") {})
    (titleAt ⟨6, 19⟩) "jobs.<job_id>.steps.with" :=
  script_scanned_with_flag_on _ _ _ _ _ _ other_case_keyed
example : ∃ d ∈ rule AL.PW.asciiLower (fun _ => false) (wScript "Actions/GitHub-Script@v7") {},
    isUntrusted d ∧ d.site = ⟨6, 19⟩ :=
  every_script_checked_L _ _ _ _ (titleAt ⟨6, 19⟩) "jobs.<job_id>.steps.with" other_case_keyed
    (title_untrusted _ keepsTitle_asciiLower _)
example : ScannedOn cxStep.lower cxStep.proj (stepExec cxStep stRunEnv.exec).1 (titleAt ⟨4, 14⟩) "jobs.<job_id>.steps.run" :=
  stepExec_scanned cxStep _ _ _ (stRunEnv_keyed _)
example : ScannedOn cxStep.lower cxStep.proj (visitStep cxStep stRunEnv).2 (titleAt ⟨4, 14⟩) "jobs.<job_id>.steps.run" :=
  visitStep_scanned cxStep _ _ _ (stRunEnv_keyed _)
example : ScannedOn cxStep.lower cxStep.proj (visitSteps cxStep [stRunEnv]).2 (titleAt ⟨4, 14⟩) "jobs.<job_id>.steps.run" :=
  visitSteps_scanned _ _ _ cxStep rfl rfl (List.mem_singleton.2 rfl)
example : ScannedOn cxStep.lower cxStep.proj (visitJob cxStep (fun _ => false) [] jobRunEnv) (titleAt ⟨4, 14⟩)
    "jobs.<job_id>.steps.run" :=
  visitJob_scanned cxStep _ _ _ _ _ (List.mem_singleton.2 rfl)

-- the hypothesis of the completeness theorem, and the chain lemmas
example : UntrustedUnderL id "jobs.<job_id>.steps.run" "${{ github.event.issue.title }}" := title_untrusted id keepsTitle_id _
example : UntrustedUnderL AL.PW.asciiLower "" "${{ github.head_ref }}" :=
  headRef_untrusted _ keepsTitle_asciiLower.github (by decide +kernel) _
example : toE id (.objDeref (.var []) []) = chainE "" [""] := toE_chain id _ "" [""] (by decide +kernel)
example : ∃ pe, chainOf pe = some ("github", ["head_ref"]) ∧
    checkOne cx0 "" true (bHeadRef.drop (0 + 3)) = checkParsed cx0 "" true pe 19 :=
  checkOne_of_parsesChain cx0 "" true _ _ _ _ parses_headRef
example : checkExprsIn cx0 "" true "${{ github.head_ref }} ${{ github.event.issue.title }}" =
    checkExprsIn cx0 "" true "${{ github.head_ref }}" := second_untrusted_input_lost_swapped cx0 rfl rfl ""
example : checkExprsIn cx0 "" true "${{ github.event.issue.title }} ${{ github.head_ref }}" =
    checkExprsIn cx0 "" true "${{ github.event.issue.title }}" := second_untrusted_input_lost cx0 keepsTitle_id ""
example : checkOne cx0 "" true (bTrueHeadRef.drop (0 + 3)) = (some (.bool, 8), []) :=
  checkOne_of_parsesBoolLit cx0 "" true _ 8 (by decide +kernel)

-- the limit: one clean placeholder passed, the second one reported
example : ∃ e ∈ (checkExprsIn cx0 "" true "${{ true }} ${{ github.head_ref }}").2, e.code = "untrusted" := by
  rw [clean_then_untrusted_reported cx0 rfl rfl ""]
  exact untrusted_last _ _
example : ∃ k t idx, Passed cx0 "" true (bytesOf "${{ true }} ${{ github.head_ref }}") k t ∧
    AL.Proc.indexOf AL.Proc.open3 t 0 = some idx ∧ (checkOne cx0 "" true (t.drop (idx + 3))).1 = none ∧
    ∃ e ∈ (checkOne cx0 "" true (t.drop (idx + 3))).2, e.code = "untrusted" :=
  (untrusted_reported_iff cx0 "" _).1 (by
    rw [clean_then_untrusted_reported cx0 rfl rfl ""]
    exact untrusted_last _ _)

-- §4's lemmas on `${{ true }} ${{ github.head_ref }}`: one placeholder passed, then the loop stands before the second
theorem ex_passed : Passed cx0 "" true (bytesOf "${{ true }} ${{ github.head_ref }}") 1 ((bTrueHeadRef.drop (0 + 3)).drop 8) :=
  true_passed cx0 ""
theorem ex_second : ∃ e ∈ (checkOne cx0 "" true (((bTrueHeadRef.drop (0 + 3)).drop 8).drop (1 + 3))).2, e.code = "untrusted" := by
  rw [headRef_second cx0 rfl rfl ""]
  exact untrusted_last _ _

example : ∃ fuel' ts', ((bTrueHeadRef.drop (0 + 3)).drop 8).length ≤ fuel' ∧
    scan cx0 "" true 34 (bytesOf "${{ true }} ${{ github.head_ref }}") [] =
      scan cx0 "" true fuel' ((bTrueHeadRef.drop (0 + 3)).drop 8) ts' :=
  scan_passed cx0 "" true ex_passed 34 [] (by rw [bytes_trueHeadRef]; decide)
example : ∃ e ∈ (checkExprsIn cx0 "" true "${{ true }} ${{ github.head_ref }}").2, e.code = "untrusted" :=
  untrusted_kth_reported cx0 "" _ 1 _ ex_passed 1 (by decide) ex_second
example : (checkOne cx0 "" true (((bTrueHeadRef.drop (0 + 3)).drop 8).drop (1 + 3))).1 = none :=
  checkOne_untrusted_none cx0 "" true _ ex_second
example : checkExprsIn cx0 "" true "${{ true }} ${{ github.head_ref }}" =
    (none, (checkOne cx0 "" true (((bTrueHeadRef.drop (0 + 3)).drop 8).drop (1 + 3))).2) :=
  kth_placeholder_reported cx0 "" true _ 1 _ ex_passed 1 (by decide) _
    (by rw [← checkOne_untrusted_none cx0 "" true _ ex_second])
example : ∃ k t idx, Passed cx0 "" true (bytesOf "${{ github.head_ref }}") k t ∧
    AL.Proc.indexOf AL.Proc.open3 t 0 = some idx ∧
    checkOne cx0 "" true (t.drop (idx + 3)) = (none, (checkExprsIn cx0 "" true "${{ github.head_ref }}").2) :=
  checkExprsIn_diags_from_first_bad cx0 "" true _ (by rw [headRef_scan cx0 rfl rfl ""]; simp)
example : ∀ e ∈ (checkExprsIn cx0 "" true "${{ github.event.issue.title }} ${{ github.head_ref }}").2,
    e.code = "untrusted" → e.args = ["github.event.issue.title"] := second_untrusted_input_lost' cx0 keepsTitle_id ""
example : checkExprsIn cx0 "k" true "${{ github.head_ref }}" =
    (none, (check (AL.C12R.envOf cx0 "k") (chainE "github" ["head_ref"])).errs ++ [err "untrusted" ["github.head_ref"]]) :=
  chain_text_untrusted cx0 "k" _ bHeadRef bytes_headRef 0 (by decide) "github" ["head_ref"] 19 parses_headRef _ headRef_report
example : checkExprsIn cx0 "" false "${{" = (none, [err "syntax-error" []]) :=
  checkExprsIn_first cx0 "" false "${{" [36, 123, 123] (by decide +kernel) 0 (by decide) _
    (checkOne_of_lex_error cx0 "" false _ lex_empty_fails)
example : (some 3).getD 0 = 3 ∧ some 3 = some ((some 3).getD 0) := ⟨rfl, getD_of_isSome (some 3) 0 rfl⟩
example : (titleAt ⟨4, 14⟩, "jobs.<job_id>.steps.run") ∈ scriptKStrs id wRunEnv :=
  job_script_keyed (lower := id) (id := "build") (j := jobRunEnv) (by simp [wRunEnv]) (st := stRunEnv) (by simp [jobRunEnv]) (stRunEnv_keyed _)
example : Loc [titleAt ⟨4, 14⟩] (stepExec cxStep stRunEnv.exec).1 := stepExec_loc cxStep _
example : Loc [titleAt ⟨4, 14⟩, titleAt p0] (stepExec cxStep stRunEnv.exec).1 :=
  (stepExec_loc cxStep stRunEnv.exec).mono fun s h => by
    have : s = titleAt ⟨4, 14⟩ := by simpa [execScriptStrs, stRunEnv] using h
    rw [this]; simp
example : ScannedOn cxStep.lower cxStep.proj ((stepExec cxStep stRunEnv.exec).1 ++ []) (titleAt ⟨4, 14⟩) "jobs.<job_id>.steps.run" :=
  (stepExec_scanned cxStep _ _ _ (stRunEnv_keyed _)).left

end AL.C11R
