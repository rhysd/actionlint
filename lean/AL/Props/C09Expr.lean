import AL.Model.RuleExpr
import AL.Lemmas.TyProps
/-
  C09 on the model of rule_expression.go (AL.RuleExpr, tied by `exprwf`): the diagnostics the rule reports for a job are a
  function of that job, of the scope the workflow header leaves (`cx`) and of the jobs it names in `needs:` — and of those
  only their declared outputs and whether they call a reusable workflow. The other jobs of the workflow, their number and
  their order do not enter; `matrixTy` / `stepsTy` / `needsTy` of one job never reach another (`visitJob` starts from the
  header's scope every time).
-/
namespace AL.C09E
open AL AL.Ast AL.Sema AL.RuleExpr

/-- what a job shows to the jobs that need it -/
def jobView (j : Job) : Bool × Ty := (j.workflowCall.isNone, declaredOutputsTy j)

theorem needsTy_congr (outs : List (String × Ty)) (lower : String → String) (jobs jobs' : List (String × Job)) (n : Job)
    (h : ∀ id ∈ n.needs.getD [], (lookupJob (lower id.value) jobs).map jobView = (lookupJob (lower id.value) jobs').map jobView) :
    needsTy outs lower jobs n = needsTy outs lower jobs' n := by
  simp only [needsTy]
  congr 1
  refine AL.Ty.foldl_congr _ fun acc id hm => ?_
  have hid := h id hm
  split
  · rfl
  · split
    · rfl
    · cases h1 : lookupJob (lower id.value) jobs <;> cases h2 : lookupJob (lower id.value) jobs' <;>
        simp only [h1, h2, Option.map_none, Option.map_some, jobView, reduceCtorEq, Option.some.injEq, Prod.mk.injEq] at hid ⊢
      rw [hid.1, hid.2]

/-- **a job's diagnostics depend on the jobs it needs only** (and on those only through `jobView`) -/
theorem job_depends_on_needed_only (cx : Cx) (isNum : IsNumber) (jobs jobs' : List (String × Job)) (n : Job)
    (h : ∀ id ∈ n.needs.getD [], (lookupJob (cx.lower id.value) jobs).map jobView = (lookupJob (cx.lower id.value) jobs').map jobView) :
    visitJob cx isNum jobs n = visitJob cx isNum jobs' n := by
  simp only [visitJob, needsTy_congr _ cx.lower jobs jobs' n h]

/-- a job without `needs:` is checked the same in every workflow with the same header -/
theorem job_without_needs_alone (cx : Cx) (isNum : IsNumber) (jobs jobs' : List (String × Job)) (n : Job)
    (h : n.needs.getD [] = []) : visitJob cx isNum jobs n = visitJob cx isNum jobs' n :=
  job_depends_on_needed_only cx isNum jobs jobs' n (by simp [h])

/-- the rule's diagnostics are the header's, then one block per job, then the workflow_call outputs: no job's block
depends on what was checked before it -/
theorem rule_is_per_job (lower : String → String) (isNum : IsNumber) (w : Workflow) :
    ∃ hd tl, rule lower isNum w =
      hd ++ (w.jobs.getD []).flatMap (fun kv => visitJob (visitEvents { lower := lower } (w.on.getD [])).1 isNum (w.jobs.getD []) kv.2) ++ tl :=
  ⟨_, _, rfl⟩

end AL.C09E
