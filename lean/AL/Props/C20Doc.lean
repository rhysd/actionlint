import AL.Lemmas.C20DBase
import AL.Lemmas.C20DParse
import AL.Props.C20
import AL.Props.C05Doc
import AL.Props.C11Doc
import AL.Props.C18Doc
/-
  C20 — which scripts reach shellcheck / pyflakes, on the real AST.

  §1 `shellView` (AL/Lemmas/C20DBase.lean): the abstraction the visitor callbacks of rule_shellcheck.go / rule_pyflakes.go
     read off `*Workflow`.  NOT `AL.Rules.platformOf`: shellcheck's `VisitJobPre` sets `pwsh` as soon as ONE literal label,
     lower-cased, is `windows` / starts with `windows-`; rule_shell_name.go's `getPlatformFromRunner` gives up (`any`) when
     labels of two platforms occur (`platform_differs`, §1′, which follows §3).
  §2 `sc_handed_exact` / `py_handed_exact`: the invocations the model (AL.ShellVisit on `shellView w`) decides are exactly
     the `run:` steps whose effective shell, defined directly on the AST (`effShell` / `effPython`), is sh / bash
     (resp. python), in order, each once.
  §3 from the DOCUMENT, for documents the parser accepts without a diagnostic: the field lemmas `step_shell_written`,
     `step_runPos_written`, `job_defShell_written`, `wf_defShell_written`, `labels_written` (parser side:
     AL/Lemmas/C20DParse.lean), then `doc_sc_handed_written` / `doc_py_handed_written`: the invocations are the elements of
     `steps:` with a `run:` key whose effective shell BY THE PRECEDENCE RULE OVER WHAT IS WRITTEN (`docEffShell`) is sh / bash
     (resp. python); `isStepRun_iff`, `sc_handed_is_stepRun`, `py_handed_is_stepRun`: the scripts are the `IsStepRun` scalars.
     (`shell: ""` is refused by the parser, so on documents the two rules use the same precedence; on the AST they differ:
     `empty_default_diverges`.)
  §4 `sc_stdin_positions`, `py_stdin_positions`: what is sent keeps every byte position of the script.
  §5 a concrete document with four jobs: `example_handed`, `example_handed_written`.

  Tie: `shellView` is a Lean definition; the differential check of C20 (op `shellvisit`, Driver/Proc.lean) feeds
  `AL.ShellVisit.WfS` values that the Go harness encodes from ITS generator's records; the op `shellvisitdoc` (Driver/ParseWf.lean)
  exercises `shellView`: `AL.PW.parse`, then the two visitor models on `shellView` of the AST.
-/
namespace AL.C20D
open AL.Ast AL.Proc AL.ShellVisit AL.Yaml
open AL.Rules (jobsOf stepsOf defaultsShell platformOf Platform)
open AL.Props.C20Shell (sc_exact py_exact scExpected pyExpected)

/-! ## 2. the invocations, on the AST -/

theorem scPickModel_eq (lower : String → String) (w : Workflow) (j : Job) (s : Step) :
    scPickModel s (scExpected lower (shellView w) (jobView j) (stepView s)) = scPick lower w j s := by
  unfold scPickModel scPick scriptOf scExpected stepView
  rw [jobView_shell, shellView_shell]
  cases hx : s.exec with
  | none => rfl
  | action a => rfl
  | run e =>
    simp only
    cases hr : e.run with
    | none => rfl
    | some r =>
      simp only [Option.map_some, Option.isSome_some, if_true]
      rw [show (jobView j).labels = labelsOf j from rfl, effectiveShell_eq]

/-- **shellcheck, exactly**: the invocations the model decides for `shellView w` are, job by job in the order of
`Workflow.Jobs` and step by step, the `run:` steps whose effective shell (`effShell`: step > job default > workflow default >
runner default, an empty default counting as absent) is `sh` / `bash` / starts with `sh ` / `bash ` — each once, with its
script text, the position of its `run:` key and the shell passed after `--shell`; a step whose effective shell is anything
else (`pwsh`, `python`, `${{ … }}`, an unknown name) is skipped.
(The `show`s, here and in `py_handed_exact`, unfold the jobs of `shellView w` and the steps of `jobView j` to `map`s, so
that `zipWith_map_self` applies.) -/
theorem sc_handed_exact (lower : String → String) (w : Workflow) :
    scHanded lower w = (jobsOf w).flatMap fun j => (stepsOf j).filterMap (scPick lower w j) := by
  unfold scHanded
  rw [sc_exact lower (shellView w)]
  show (List.zipWith _ (jobsOf w) (((jobsOf w).map jobView).map _)).flatten = _
  rw [List.map_map, zipWith_map_self, flatten_map]
  apply flatMap_congr'
  intro j _
  show (List.zipWith scPickModel (stepsOf j) (((stepsOf j).map stepView).map _)).filterMap id = _
  rw [List.map_map, zipWith_map_self, filterMap_id_map]
  apply filterMap_congr'
  intro s _
  exact scPickModel_eq lower w j s

theorem pyPickModel_eq (w : Workflow) (j : Job) (s : Step) :
    pyPickModel s (pyExpected (shellView w) (jobView j) (stepView s)) = pyPick w j s := by
  unfold pyPickModel pyPick scriptOf pyExpected stepView
  cases hx : s.exec with
  | none => rfl
  | action a => rfl
  | run e =>
    simp only
    cases hr : e.run with
    | none => rfl
    | some r =>
      simp only [Option.map_some, Option.isSome_some, Bool.true_and]
      rw [show (jobView j).hasDefaultsRun = hasRun j.defaults from rfl, show (jobView j).defShell = defShellText j.defaults from rfl,
        show (shellView w).hasDefaultsRun = hasRun w.defaults from rfl, show (shellView w).defShell = defShellText w.defaults from rfl,
        isPython_eq]

/-- **pyflakes, exactly**: the `run:` steps that are Python by `effPython` (step > job default > workflow default, by
presence; `python` or `python …`), in order, each once, with script text and position -/
theorem py_handed_exact (w : Workflow) :
    pyHanded w = (jobsOf w).flatMap fun j => (stepsOf j).filterMap (pyPick w j) := by
  unfold pyHanded
  rw [py_exact (shellView w)]
  show (List.zipWith _ (jobsOf w) (((jobsOf w).map jobView).map _)).flatten = _
  rw [List.map_map, zipWith_map_self, flatten_map]
  apply flatMap_congr'
  intro j _
  show (List.zipWith pyPickModel (stepsOf j) (((stepsOf j).map stepView).map _)).filterMap id = _
  rw [List.map_map, zipWith_map_self, filterMap_id_map]
  apply filterMap_congr'
  intro s _
  exact pyPickModel_eq w j s

/-- after the workflow both rules are back in their initial state: nothing leaks into the next workflow -/
theorem handed_resets (lower : String → String) (w : Workflow) :
    (scWorkflow lower ScSt.init (shellView w)).1 = ScSt.init ∧ (pyWorkflow PySt.init (shellView w)).1 = PySt.init :=
  ⟨AL.Props.C20Shell.sc_resets lower (shellView w), AL.Props.C20Shell.py_resets (shellView w)⟩

/-- the decision for a step reads the step, ITS job and the workflow's defaults only — not the other jobs: two workflows
with the same `defaults` give the same invocation for a step of a job -/
theorem scPick_local (lower : String → String) (w w' : Workflow) (hd : w.defaults = w'.defaults) (j : Job) (s : Step) :
    scPick lower w j s = scPick lower w' j s := by
  unfold scPick effShell
  rw [hd]

theorem pyPick_local (w w' : Workflow) (hd : w.defaults = w'.defaults) (j : Job) (s : Step) :
    pyPick w j s = pyPick w' j s := by
  unfold pyPick effPython
  rw [hd]

theorem sc_handed_mem (lower : String → String) (w : Workflow) (h : Handed) :
    h ∈ scHanded lower w ↔ ∃ j ∈ jobsOf w, ∃ s ∈ stepsOf j, scPick lower w j s = some h := by
  rw [sc_handed_exact]
  simp only [List.mem_flatMap, List.mem_filterMap]

theorem py_handed_mem (w : Workflow) (h : String × Option Yaml.Pos) :
    h ∈ pyHanded w ↔ ∃ j ∈ jobsOf w, ∃ s ∈ stepsOf j, pyPick w j s = some h := by
  rw [py_handed_exact]
  simp only [List.mem_flatMap, List.mem_filterMap]

/-- a step with a `shell:` is decided by that text alone -/
theorem scPick_step_shell (lower : String → String) (w : Workflow) (j : Job) (s : Step) (e : ExecRun) (r sh : Str)
    (hx : s.exec = .run e) (hr : e.run = some r) (hs : e.shell = some sh) :
    scPick lower w j s = (shellcheckShell sh.value).map fun x => ⟨r.value, e.runPos, x⟩ := by
  simp only [scPick, hx, hr, effShell, hs]

/-- … so `shell: ${{ matrix.shell }}` (or any name that is not sh / bash) is never checked, whatever the defaults say -/
theorem scPick_skipped (lower : String → String) (w : Workflow) (j : Job) (s : Step) (e : ExecRun) (r sh : Str)
    (hx : s.exec = .run e) (hr : e.run = some r) (hs : e.shell = some sh) (hn : shellcheckShell sh.value = none) :
    scPick lower w j s = none := by
  rw [scPick_step_shell lower w j s e r sh hx hr hs, hn]; rfl

/-! ### the two rules disagree on an EMPTY default shell (on the AST; the parser refuses `shell: ""`, see §3) -/

private def emptyStr : Str := ⟨"", false, ⟨3, 14⟩⟩
private def wEmpty : Workflow :=
  { defaults := some ⟨some { shell := some ⟨"python", false, ⟨1, 1⟩⟩, pos := ⟨1, 1⟩ }, ⟨1, 1⟩⟩ }
private def jEmpty : Job :=
  { id := ⟨"a", false, ⟨2, 3⟩⟩, pos := ⟨2, 3⟩, defaults := some ⟨some { shell := some emptyStr, pos := ⟨3, 7⟩ }, ⟨3, 5⟩⟩ }
private def eEmpty : ExecRun := { run := some ⟨"x", false, ⟨5, 14⟩⟩, runPos := some ⟨5, 9⟩ }

/-- job `defaults.run.shell: ""` under a workflow default `python`: shellcheck's rule falls through to the workflow
default (`python`, which shellcheck's rule skips), pyflakes' rule stops at the job's (not python, which pyflakes' rule
skips). Stated for the two effective shells only, not for `scPick` / `pyPick` -/
theorem empty_default_diverges :
    effShell id wEmpty jEmpty eEmpty = "python" ∧ effPython wEmpty jEmpty eEmpty = false := by
  constructor <;> decide +kernel


/-! ## 3. from the DOCUMENT -/

section Doc
open AL.PW AL.C05D

/-- the precedence rule itself: step > job default > workflow default > runner default -/
def precedence (step job wf : Option String) (windows : Bool) : String :=
  match step with
  | some s => s
  | none =>
    match job with
    | some s => s
    | none =>
      match wf with
      | some s => s
      | none => if windows then "pwsh" else "bash"

theorem effShell_precedence (lower : String → String) (w : Workflow) (j : Job) (e : ExecRun) :
    effShell lower w j e = precedence (e.shell.map (·.value)) (nonEmpty (defShellText j.defaults))
      (nonEmpty (defShellText w.defaults)) (isWindowsJob lower j) := by
  unfold effShell precedence
  cases e.shell <;> rfl

/-- the text written at `<n>: defaults: run: shell:` (`n`: a job node, or the root mapping) -/
def docDefShell (n : Node) : Option String := ((mget n "defaults").bind docRunShellNode).map (·.value)

/-- the workflow's `defaults.run.shell` as written -/
def docWfDefShell (doc : Node) : Option String := (docRoot doc).bind docDefShell

theorem defaults_shell_written (cfg : Cfg) (n : Node) (d : Option Defaults)
    (hd : d = (mpair n "defaults").map (fun p => (parseDefaults cfg p.1.pos p.2).1))
    (hc : ∀ p, mpair n "defaults" = some p → (parseDefaults cfg p.1.pos p.2).2 = []) :
    defShellText d = docDefShell n ∧ docDefShell n ≠ some "" ∧ hasRun d = (mget n "defaults").isSome := by
  subst hd
  unfold docDefShell mget
  cases hp : mpair n "defaults" with
  | none => exact ⟨rfl, by simp, rfl⟩
  | some p =>
    obtain ⟨h1, h2, h3⟩ := parseDefaults_clean cfg p.1.pos p.2 (hc p hp)
    simp only [Option.map_some, Option.bind_some, defShellText, h2, Option.map_map, Option.isSome_some]
    refine ⟨rfl, ?_, h1⟩
    cases hv : docRunShellNode p.2 with
    | none => simp
    | some v =>
      simp only [Option.map_some, ne_eq, Option.some.injEq]
      exact h3 v hv

/-- **a job's `defaults.run.shell` in the AST is the text written at `defaults: run: shell:` of the job**, never empty; and
`defaults.run` is there iff `defaults:` is written -/
theorem job_defShell_written (cfg : Cfg) (doc : Node) (h : (parse cfg doc).2 = []) (p : Node × Node) (hp : p ∈ docJobs doc) :
    defShellText (docJob cfg p).defaults = docDefShell p.2 ∧ docDefShell p.2 ≠ some "" ∧
    hasRun (docJob cfg p).defaults = (mget p.2 "defaults").isSome := by
  obtain ⟨h1, h2⟩ := parseJob_defaults cfg (newString p.1) p.2 (job_clean cfg doc h p hp)
  exact defaults_shell_written cfg p.2 _ h1 h2

/-- **the workflow's `defaults.run.shell` in the AST is the text written at the root's `defaults: run: shell:`** -/
theorem wf_defShell_written (cfg : Cfg) (doc : Node) (h : (parse cfg doc).2 = []) :
    defShellText (parse cfg doc).1.defaults = docWfDefShell doc ∧ docWfDefShell doc ≠ some "" := by
  obtain ⟨root, hroot, h1, h2⟩ := parse_defaults cfg doc h
  have := defaults_shell_written cfg root _ h1 h2
  simp only [docWfDefShell, hroot, Option.bind_some]
  exact ⟨this.1, this.2.1⟩

theorem nonEmpty_of_ne (o : Option String) (h : o ≠ some "") : nonEmpty o = o := by
  cases o with
  | none => rfl
  | some s =>
    have : s ≠ "" := fun e => h (by rw [e])
    simp [nonEmpty, this]

/-- **the `shell:` of a step of the AST is the `shell:` scalar of the step node** -/
theorem step_shell_written (cfg : Cfg) (doc : Node) (h : (parse cfg doc).2 = []) (p : Node × Node) (hp : p ∈ docJobs doc)
    (c : Node) (hc : c ∈ docSteps p.2) : shellOf (docStep cfg c) = (mget c "shell").map newString :=
  parseStep_shell cfg c (step_clean cfg doc h p hp c hc)

/-- **`RunPos` of a step of the AST is the position of the `run` key of the step node** -/
theorem step_runPos_written (cfg : Cfg) (doc : Node) (h : (parse cfg doc).2 = []) (p : Node × Node) (hp : p ∈ docJobs doc)
    (c : Node) (hc : c ∈ docSteps p.2) : runPosOf (docStep cfg c) = (mpair c "run").map (·.1.pos) :=
  parseStep_runPos cfg c (step_clean cfg doc h p hp c hc)

/-- the effective shell of the step node `c` of the job pair `p`, from what is written (the runner default from the labels
`ls` of the job) -/
def docEffShell (lower : String → String) (doc : Node) (ls : List String) (p : Node × Node) (c : Node) : String :=
  precedence ((mget c "shell").map (·.value)) (docDefShell p.2) (docWfDefShell doc) (ls.any (isWindowsLabel lower))

def docScPick (lower : String → String) (doc : Node) (ls : List String) (p : Node × Node) (c : Node) : Option Handed :=
  match mpair c "run" with
  | some r => (shellcheckShell (docEffShell lower doc ls p c)).map fun sh => ⟨r.2.value, some r.1.pos, sh⟩
  | none => none

def docPyPick (lower : String → String) (doc : Node) (ls : List String) (p : Node × Node) (c : Node) : Option (String × Option Yaml.Pos) :=
  match mpair c "run" with
  | some r => if isPyName (docEffShell lower doc ls p c) then some (r.2.value, some r.1.pos) else none
  | none => none

theorem isPyName_defaults : isPyName "pwsh" = false ∧ isPyName "bash" = false := by
  constructor <;> decide +kernel

/-- for pyflakes the runner default never matters: the precedence by presence is the precedence rule -/
theorem effPython_precedence (w : Workflow) (j : Job) (e : ExecRun) (win : Bool) :
    effPython w j e = isPyName (precedence (e.shell.map (·.value)) (defShellText j.defaults) (defShellText w.defaults) win) := by
  unfold effPython precedence
  cases e.shell with
  | some s => rfl
  | none =>
    cases defShellText j.defaults with
    | some s => rfl
    | none =>
      cases defShellText w.defaults with
      | some s => rfl
      | none => cases win <;> simp [isPyName_defaults]

/-- what the three readers say about a step whose `exec` is known -/
theorem step_exec_written (cfg : Cfg) (doc : Node) (h : (parse cfg doc).2 = []) (p : Node × Node) (hp : p ∈ docJobs doc)
    (c : Node) (hc : c ∈ docSteps p.2) :
    (∀ e, (docStep cfg c).exec = .run e →
      e.run = (mget c "run").map newString ∧ e.shell = (mget c "shell").map newString ∧ e.runPos = (mpair c "run").map (·.1.pos)) ∧
    ((∀ e, (docStep cfg c).exec ≠ .run e) → mpair c "run" = none) := by
  have h1 := step_run_written cfg doc h p hp c hc
  have h2 := step_shell_written cfg doc h p hp c hc
  have h3 := step_runPos_written cfg doc h p hp c hc
  refine ⟨?_, ?_⟩
  · intro e he
    simp only [runOf, shellOf, runPosOf, he] at h1 h2 h3
    exact ⟨h1, h2, h3⟩
  · intro hne
    cases hx : (docStep cfg c).exec with
    | run e => exact absurd hx (hne e)
    | none =>
      simp only [runPosOf, hx] at h3
      cases hm : mpair c "run" with
      | none => rfl
      | some r => rw [hm] at h3; cases h3
    | action a =>
      simp only [runPosOf, hx] at h3
      cases hm : mpair c "run" with
      | none => rfl
      | some r => rw [hm] at h3; cases h3

theorem scPick_written (cfg : Cfg) (doc : Node) (h : (parse cfg doc).2 = []) (p : Node × Node) (hp : p ∈ docJobs doc)
    (c : Node) (hc : c ∈ docSteps p.2) :
    scPick cfg.lower (parse cfg doc).1 (docJob cfg p) (docStep cfg c) =
      docScPick cfg.lower doc (labelsOf (docJob cfg p)) p c := by
  obtain ⟨hrun, hnorun⟩ := step_exec_written cfg doc h p hp c hc
  obtain ⟨hj, hjne, _⟩ := job_defShell_written cfg doc h p hp
  obtain ⟨hw, hwne⟩ := wf_defShell_written cfg doc h
  unfold scPick docScPick
  cases hx : (docStep cfg c).exec with
  | run e =>
    obtain ⟨h1, h2, h3⟩ := hrun e hx
    simp only
    unfold docEffShell
    rw [effShell_precedence, hj, hw, nonEmpty_of_ne _ hjne, nonEmpty_of_ne _ hwne, h1, h2, h3]
    simp only [mget, isWindowsJob]
    cases hm : mpair c "run" with
    | none => rfl
    | some r => simp only [Option.map_some, Option.map_map]; rfl
  | none => rw [hnorun (fun e he => by rw [hx] at he; cases he)]
  | action a => rw [hnorun (fun e he => by rw [hx] at he; cases he)]

theorem pyPick_written (cfg : Cfg) (doc : Node) (h : (parse cfg doc).2 = []) (p : Node × Node) (hp : p ∈ docJobs doc)
    (c : Node) (hc : c ∈ docSteps p.2) :
    pyPick (parse cfg doc).1 (docJob cfg p) (docStep cfg c) =
      docPyPick cfg.lower doc (labelsOf (docJob cfg p)) p c := by
  obtain ⟨hrun, hnorun⟩ := step_exec_written cfg doc h p hp c hc
  obtain ⟨hj, hjne, _⟩ := job_defShell_written cfg doc h p hp
  obtain ⟨hw, hwne⟩ := wf_defShell_written cfg doc h
  unfold pyPick docPyPick
  cases hx : (docStep cfg c).exec with
  | run e =>
    obtain ⟨h1, h2, h3⟩ := hrun e hx
    simp only
    unfold docEffShell
    rw [effPython_precedence _ _ _ ((labelsOf (docJob cfg p)).any (isWindowsLabel cfg.lower)), hj, hw, h1, h2, h3]
    simp only [mget]
    cases hm : mpair c "run" with
    | none => rfl
    | some r => simp only [Option.map_some, Option.map_map]; rfl
  | none => rw [hnorun (fun e he => by rw [hx] at he; cases he)]
  | action a => rw [hnorun (fun e he => by rw [hx] at he; cases he)]

theorem flatMap_map' {α β γ : Type} (f : α → β) (g : β → List γ) : ∀ (l : List α), (l.map f).flatMap g = l.flatMap fun a => g (f a) :=
  fun _ => List.flatMap_map ..

theorem jobsOf_written (cfg : Cfg) (doc : Node) (h : (parse cfg doc).2 = []) :
    jobsOf (parse cfg doc).1 = (docJobs doc).map (docJob cfg) :=
  AL.C18D.jobsOf_written cfg doc h

/-- **shellcheck, from the document**: for a document the parser accepts without a diagnostic, the invocations are — pair
by pair of `jobs:`, element by element of `steps:` — the elements that have a `run:` key and whose effective shell, by the
precedence rule (the step's `shell:`, the job's `defaults: run: shell:`, the root's `defaults: run: shell:` as WRITTEN;
`pwsh` if a label of the job's `runs-on` is a Windows label, else `bash`), is sh / bash: with the text of the `run:` scalar
and the position of the `run` key. The labels are still those of the parsed job (`labelsOf (docJob cfg p)`);
`doc_sc_handed_written` reads them off the node as well -/
theorem doc_sc_handed (cfg : Cfg) (doc : Node) (h : (parse cfg doc).2 = []) :
    scHanded cfg.lower (parse cfg doc).1 =
      (docJobs doc).flatMap fun p => (docSteps p.2).filterMap (docScPick cfg.lower doc (labelsOf (docJob cfg p)) p) := by
  rw [sc_handed_exact, jobsOf_written cfg doc h, flatMap_map']
  apply flatMap_congr'
  intro p hp
  show (AL.Rules.stepsOf (docJob cfg p)).filterMap _ = _
  unfold AL.Rules.stepsOf
  rw [steps_written cfg doc h p hp, List.filterMap_map]
  apply filterMap_congr'
  intro c hc
  exact scPick_written cfg doc h p hp c hc

/-- **pyflakes, from the document**: the same with "is `python` or starts with `python `" -/
theorem doc_py_handed (cfg : Cfg) (doc : Node) (h : (parse cfg doc).2 = []) :
    pyHanded (parse cfg doc).1 =
      (docJobs doc).flatMap fun p => (docSteps p.2).filterMap (docPyPick cfg.lower doc (labelsOf (docJob cfg p)) p) := by
  rw [py_handed_exact, jobsOf_written cfg doc h, flatMap_map']
  apply flatMap_congr'
  intro p hp
  show (AL.Rules.stepsOf (docJob cfg p)).filterMap _ = _
  unfold AL.Rules.stepsOf
  rw [steps_written cfg doc h p hp, List.filterMap_map]
  apply filterMap_congr'
  intro c hc
  exact pyPick_written cfg doc h p hp c hc


/-- **the literal labels of `runs-on` of a job of the AST are the label scalars written under the job's `runs-on:`** (the
scalar, the elements of the sequence, or those of `labels:` of the mapping form; a `${{ }}` value has none) -/
theorem labels_written (cfg : Cfg) (doc : Node) (h : (parse cfg doc).2 = []) (p : Node × Node) (hp : p ∈ docJobs doc) :
    labelsOf (docJob cfg p) = docLabels p.2 :=
  parseJob_labels cfg (newString p.1) p.2 (job_clean cfg doc h p hp)

/-- **shellcheck, entirely from what is written** -/
theorem doc_sc_handed_written (cfg : Cfg) (doc : Node) (h : (parse cfg doc).2 = []) :
    scHanded cfg.lower (parse cfg doc).1 =
      (docJobs doc).flatMap fun p => (docSteps p.2).filterMap (docScPick cfg.lower doc (docLabels p.2) p) := by
  rw [doc_sc_handed cfg doc h]
  apply flatMap_congr'
  intro p hp
  rw [labels_written cfg doc h p hp]

/-- **pyflakes, entirely from what is written** (the labels play no role: `docPyPick_labels`) -/
theorem doc_py_handed_written (cfg : Cfg) (doc : Node) (h : (parse cfg doc).2 = []) :
    pyHanded (parse cfg doc).1 =
      (docJobs doc).flatMap fun p => (docSteps p.2).filterMap (docPyPick cfg.lower doc (docLabels p.2) p) := by
  rw [doc_py_handed cfg doc h]
  apply flatMap_congr'
  intro p hp
  rw [labels_written cfg doc h p hp]

theorem isPyName_precedence (a b c : Option String) (w w' : Bool) :
    isPyName (precedence a b c w) = isPyName (precedence a b c w') := by
  unfold precedence
  cases a with
  | some s => rfl
  | none =>
    cases b with
    | some s => rfl
    | none =>
      cases c with
      | some s => rfl
      | none => cases w <;> cases w' <;> simp [isPyName_defaults]

/-- pyflakes' decision does not depend on the runner -/
theorem docPyPick_labels (lower : String → String) (doc : Node) (ls ls' : List String) (p : Node × Node) (c : Node) :
    docPyPick lower doc ls p c = docPyPick lower doc ls' p c := by
  unfold docPyPick docEffShell
  rw [isPyName_precedence _ _ _ (ls.any (isWindowsLabel lower)) (ls'.any (isWindowsLabel lower))]

/-! ### the scripts are the `run:` scalars of the document (`AL.C11D.IsStepRun`) -/

/-- on an accepted document the step nodes of the walk of AL/Spec/ScriptScalars.lean are the elements of `steps:` of the
pairs of `jobs:` -/
theorem docStepNodes_eq (cfg : Cfg) (doc : Node) (h : (parse cfg doc).2 = []) :
    AL.C11D.docStepNodes doc = (docJobs doc).flatMap fun p => docSteps p.2 := by
  obtain ⟨root, rest, x, hc, hj, hx⟩ := AL.C11D.parse_jobs_clean cfg doc h
  obtain ⟨root', hroot, hm, _, _, _, _⟩ := parse_clean cfg doc h
  have hr : root' = root := by simpa [docRoot, hc] using hroot.symm
  subst hr
  obtain ⟨_, hjc⟩ := AL.C11D.parseJobs_clean_entries cfg x hx
  have he := AL.C11D.parseJobs_entries cfg x hx
  have hdj : docJobs doc = pairs x.content := by
    rw [AL.C11D.lookup_eq_mget cfg _ root' true hm] at hj
    simp only [docJobs, hroot, Option.bind_some, hj]
  rw [hdj]
  rw [AL.C11D.docStepNodes_eq hc hj, he]
  apply flatMap_congr'
  intro p hp
  have hpc := hjc p (by rw [he]; exact hp)
  obtain ⟨hm2, hr2⟩ := parseJob_clean cfg _ p.2 hpc
  simp only [AL.C11D.jobStepNodes, AL.C11D.lookup_eq_mget cfg _ p.2 true hm2, docSteps, mget]
  cases hq : mpair p.2 "steps" with
  | none => rfl
  | some q =>
    obtain ⟨hmem, hk⟩ := mpair_mem hq
    obtain ⟨st, hcl⟩ := sect_clean_at cfg _ p.2 false true (jobKey cfg) _ hm2 hr2 q hmem
    rw [(jobKey_steps_eq cfg st _ (by rw [kvOf_true]; exact hk)).2] at hcl
    simp only [kvOf_true] at hcl
    have hseq : q.2.kind = .sequence := by
      simp only [parseSteps] at hcl
      split at hcl
      · rename_i hcc
        have := AL.C03P.checkSequence_clean "steps" q.2 false hcl
        simp [this.2] at hcc
      · simp only [AL.C03P.append_nil_iff] at hcl
        exact (AL.C03P.checkSequence_clean "steps" q.2 false hcl.1).1
    simp [AL.C11D.elements, hseq]

/-- **the `IsStepRun` scalars of an accepted document are the `run:` values of its steps**: `v` is an `IsStepRun` scalar iff
it is the value of the `run` pair of an element of `steps:` of a pair of `jobs:` (that the scripts handed to the tools are
among them is `sc_handed_is_stepRun`, `py_handed_is_stepRun`) -/
theorem isStepRun_iff (cfg : Cfg) (doc : Node) (h : (parse cfg doc).2 = []) (v : Node) :
    AL.C11D.IsStepRun doc v ↔ ∃ p ∈ docJobs doc, ∃ c ∈ docSteps p.2, ∃ r, mpair c "run" = some r ∧ r.2 = v := by
  have hmem : ∀ c, c ∈ AL.C11D.docStepNodes doc ↔ ∃ p ∈ docJobs doc, c ∈ docSteps p.2 := by
    intro c; rw [docStepNodes_eq cfg doc h]; simp only [List.mem_flatMap]
  constructor
  · rintro ⟨⟨st, hst, hl⟩, _⟩
    obtain ⟨p, hp, hc⟩ := (hmem st).1 hst
    obtain ⟨hm, _⟩ := parseStep_clean cfg st (step_clean cfg doc h p hp st hc)
    rw [AL.C11D.lookup_eq_mget cfg _ st true hm] at hl
    simp only [mget] at hl
    cases hq : mpair st "run" with
    | none => rw [hq] at hl; cases hl
    | some r =>
      rw [hq] at hl
      exact ⟨p, hp, st, hc, r, hq, by simpa using hl⟩
  · rintro ⟨p, hp, c, hc, r, hr, rfl⟩
    have hcl := step_clean cfg doc h p hp c hc
    obtain ⟨hm, _⟩ := parseStep_clean cfg c hcl
    have hl : AL.C11D.lookup c "run" = some r.2 := by
      rw [AL.C11D.lookup_eq_mget cfg _ c true hm]; simp [mget, hr]
    exact ⟨⟨c, (hmem c).2 ⟨p, hp, hc⟩, hl⟩, (AL.C11D.parseStep_run_clean cfg c hcl).2 _ hl⟩

/-- every invocation of shellcheck carries the text of an `IsStepRun` scalar of the document and is reported at the
position of its `run` key -/
theorem sc_handed_is_stepRun (cfg : Cfg) (doc : Node) (h : (parse cfg doc).2 = []) (x : Handed)
    (hx : x ∈ scHanded cfg.lower (parse cfg doc).1) :
    ∃ k v : Node, AL.C11D.IsStepRun doc v ∧ x.script = v.value ∧ x.pos = some k.pos ∧ k.value = "run" := by
  rw [doc_sc_handed_written cfg doc h] at hx
  simp only [List.mem_flatMap, List.mem_filterMap] at hx
  obtain ⟨p, hp, c, hc, hpick⟩ := hx
  unfold docScPick at hpick
  cases hr : mpair c "run" with
  | none => rw [hr] at hpick; cases hpick
  | some r =>
    rw [hr] at hpick
    simp only [Option.map_eq_some_iff] at hpick
    obtain ⟨sh, _, rfl⟩ := hpick
    exact ⟨r.1, r.2, (isStepRun_iff cfg doc h r.2).2 ⟨p, hp, c, hc, r, hr, rfl⟩, rfl, rfl, (mpair_mem hr).2⟩

theorem py_handed_is_stepRun (cfg : Cfg) (doc : Node) (h : (parse cfg doc).2 = []) (x : String × Option Yaml.Pos)
    (hx : x ∈ pyHanded (parse cfg doc).1) :
    ∃ k v : Node, AL.C11D.IsStepRun doc v ∧ x.1 = v.value ∧ x.2 = some k.pos ∧ k.value = "run" := by
  rw [doc_py_handed_written cfg doc h] at hx
  simp only [List.mem_flatMap, List.mem_filterMap] at hx
  obtain ⟨p, hp, c, hc, hpick⟩ := hx
  unfold docPyPick at hpick
  cases hr : mpair c "run" with
  | none => rw [hr] at hpick; cases hpick
  | some r =>
    rw [hr] at hpick
    by_cases hpy : isPyName (docEffShell cfg.lower doc (docLabels p.2) p c) = true
    · simp only [hpy, if_true, Option.some.injEq] at hpick
      subst hpick
      exact ⟨r.1, r.2, (isStepRun_iff cfg doc h r.2).2 ⟨p, hp, c, hc, r, hr, rfl⟩, rfl, rfl, (mpair_mem hr).2⟩
    · simp [hpy] at hpick

end Doc

/-! ## 1′. `runs-on` → runner default is NOT `AL.Rules.platformOf` -/

private def twoPlatforms : Runner :=
  { labels := some [⟨"windows-latest", false, ⟨1, 1⟩⟩, ⟨"ubuntu-latest", false, ⟨1, 1⟩⟩] }

/-- labels of two platforms: rule_shell_name.go gives up (`any`), rule_shellcheck.go still says `pwsh` -/
theorem platform_differs :
    platformOf id twoPlatforms = Platform.any ∧
    runnerDefault id ((twoPlatforms.labels.getD []).map (·.value)) = "pwsh" := by
  constructor <;> decide +kernel

/-! ## 4. the text that is sent keeps the positions -/

/-- what shellcheck reads on stdin for an invocation (`script` as UTF-8 bytes): the setup line, the sanitised script, a
line break -/
def scStdin (h : Handed) (bytes : List Nat) : List Nat := shellcheckStdin h.shell bytes

def setupLine (sh : String) : List Nat := (if sh = "bash" then "set -eo pipefail" else "set -e").toUTF8.toList.map (·.toNat)

/-- **positions are preserved**: stdin is `setup ++ "\n" ++ body ++ "\n"` where `body` has the length of the script and
every byte of it is the script's byte or `_`: a byte offset in `body` is the same offset in the script, one line further
down (the rule subtracts the one setup line). Lines and columns agree as far as no line break was blanked, see
`sanitize_newlines` -/
theorem sc_stdin_positions (sh : String) (script : List Nat) :
    ∃ body, shellcheckStdin sh script = setupLine sh ++ [10] ++ body ++ [10] ∧ body.length = script.length ∧
      ∀ (i : Nat) (h : i < script.length), body[i]? = some script[i] ∨ body[i]? = some 95 :=
  ⟨sanitize script, rfl, AL.C20.sanitize_length script, fun i h => AL.C20.sanitize_pointwise script i h⟩

/-- pyflakes reads the sanitised script itself -/
theorem py_stdin_positions (script : List Nat) :
    (sanitize script).length = script.length ∧
      ∀ (i : Nat) (h : i < script.length), (sanitize script)[i]? = some script[i] ∨ (sanitize script)[i]? = some 95 :=
  ⟨AL.C20.sanitize_length script, fun i h => AL.C20.sanitize_pointwise script i h⟩

/-- no line break appears where the script has none (a line break INSIDE a closed `${{ }}` is blanked: rule_shellcheck.go's
own note "line and column reported by shellcheck will be shifted") -/
theorem sanitize_newlines (script : List Nat) (i : Nat) (h : i < script.length) :
    (sanitize script)[i]? = some 10 → script[i] = 10 := by
  intro h10
  rcases AL.C20.sanitize_pointwise script i h with e | e
  · rw [e] at h10; exact Option.some.inj h10
  · rw [e] at h10; cases h10

/-! ## 5. a concrete document

```yaml
on: push
defaults: {run: {shell: pwsh}}
jobs:
  a: {runs-on: ubuntu-latest, steps: [{run: A}]}
  b: {runs-on: ubuntu-latest, defaults: {run: {shell: bash}}, steps: [{run: B}, {run: P, shell: python}]}
  c: {runs-on: Windows-latest, steps: [{run: C, shell: sh}, {run: D, shell: "${{ matrix.sh }}"}]}
  d: {runs-on: Windows-latest, defaults: {run: {working-directory: w}}, steps: [{run: E}]}
``` -/

section Example
open AL.PW AL.C05D

private def sc (v : String) (l c : Nat) : Node := .mk .scalar "!!str" v false l c []
private def mp (l c : Nat) (cs : List Node) : Node := .mk .mapping "!!map" "" false l c cs
private def sq (l c : Nat) (cs : List Node) : Node := .mk .sequence "!!seq" "" false l c cs

def exCfg : Cfg := ⟨asciiLower, fun _ => none, fun _ => .err⟩

def exDefaults (sh : String) (l : Nat) : Node := mp l 12 [sc "run" l 13, mp l 18 [sc "shell" l 19, sc sh l 26]]
def pJobA : Node × Node :=
  (sc "a" 4 3, mp 4 6 [sc "runs-on" 4 7, sc "ubuntu-latest" 4 16, sc "steps" 4 31, sq 4 38 [mp 4 39 [sc "run" 4 40, sc "A" 4 45]]])
def exStepB : Node := mp 5 70 [sc "run" 5 71, sc "B" 5 76]
def exStepP : Node := mp 5 80 [sc "run" 5 81, sc "P" 5 86, sc "shell" 5 89, sc "python" 5 96]
def pJobB : Node × Node :=
  (sc "b" 5 3, mp 5 6 [sc "runs-on" 5 7, sc "ubuntu-latest" 5 16, sc "defaults" 5 31, exDefaults "bash" 5,
    sc "steps" 5 62, sq 5 69 [exStepB, exStepP]])
def pJobC : Node × Node :=
  (sc "c" 6 3, mp 6 6 [sc "runs-on" 6 7, sc "Windows-latest" 6 16, sc "steps" 6 32,
    sq 6 39 [mp 6 40 [sc "run" 6 41, sc "C" 6 46, sc "shell" 6 49, sc "sh" 6 56],
             mp 6 61 [sc "run" 6 62, sc "D" 6 67, sc "shell" 6 70, sc "${{ matrix.sh }}" 6 77]]])
def pJobD : Node × Node :=
  (sc "d" 7 3, mp 7 6 [sc "runs-on" 7 7, sc "Windows-latest" 7 16, sc "defaults" 7 32,
    mp 7 42 [sc "run" 7 43, mp 7 48 [sc "working-directory" 7 49, sc "w" 7 68]],
    sc "steps" 7 73, sq 7 80 [mp 7 81 [sc "run" 7 82, sc "E" 7 87]]])
def exDoc : Node :=
  .mk .document "" "" false 1 1 [mp 1 1 [sc "on" 1 1, sc "push" 1 5, sc "defaults" 2 1, exDefaults "pwsh" 2,
    sc "jobs" 3 1, mp 4 3 [pJobA.1, pJobA.2, pJobB.1, pJobB.2, pJobC.1, pJobC.2, pJobD.1, pJobD.2]]]

/-- one kernel evaluation of the parser for `exDoc_clean` and `example_handed` -/
theorem exDoc_evaluated : (parse exCfg exDoc).2 = [] ∧
    scHanded exCfg.lower (parse exCfg exDoc).1 = [⟨"B", some ⟨5, 71⟩, "bash"⟩, ⟨"C", some ⟨6, 41⟩, "sh"⟩] ∧
    pyHanded (parse exCfg exDoc).1 = [("P", some ⟨5, 81⟩)] := by decide +kernel

theorem exDoc_clean : (parse exCfg exDoc).2 = [] := exDoc_evaluated.1

/-- who gets which script — evaluated through the model on `shellView` of the parsed document: `A` (workflow default pwsh):
nobody; `B` (job default bash): shellcheck as bash; `P` (`shell: python`): pyflakes; `C` (`shell: sh`): shellcheck as sh; `D`
(`shell: ${{ … }}`): nobody; `E` (job `defaults.run` without a shell, Windows runner, workflow default pwsh): nobody -/
theorem example_handed :
    scHanded exCfg.lower (parse exCfg exDoc).1 = [⟨"B", some ⟨5, 71⟩, "bash"⟩, ⟨"C", some ⟨6, 41⟩, "sh"⟩] ∧
    pyHanded (parse exCfg exDoc).1 = [("P", some ⟨5, 81⟩)] :=
  exDoc_evaluated.2

/-- … and the same read off the document by `doc_sc_handed` / `doc_py_handed` -/
theorem example_handed_doc :
    ((docJobs exDoc).flatMap fun p => (docSteps p.2).filterMap (docScPick exCfg.lower exDoc (labelsOf (docJob exCfg p)) p))
      = [⟨"B", some ⟨5, 71⟩, "bash"⟩, ⟨"C", some ⟨6, 41⟩, "sh"⟩] ∧
    ((docJobs exDoc).flatMap fun p => (docSteps p.2).filterMap (docPyPick exCfg.lower exDoc (labelsOf (docJob exCfg p)) p))
      = [("P", some ⟨5, 81⟩)] := by
  rw [← doc_sc_handed exCfg exDoc exDoc_clean, ← doc_py_handed exCfg exDoc exDoc_clean]
  exact example_handed

theorem exDoc_jobs : docJobs exDoc = [pJobA, pJobB, pJobC, pJobD] := rfl

theorem pJobB_mem : pJobB ∈ docJobs exDoc := by
  rw [exDoc_jobs]; simp

/-- instances of the field lemmas -/
example : defShellText (docJob exCfg pJobB).defaults = some "bash" := by
  rw [(job_defShell_written exCfg exDoc exDoc_clean pJobB pJobB_mem).1]; decide +kernel
example : defShellText (parse exCfg exDoc).1.defaults = some "pwsh" := by
  rw [(wf_defShell_written exCfg exDoc exDoc_clean).1]; decide +kernel
theorem exStepP_mem : exStepP ∈ docSteps pJobB.2 := by
  show exStepP ∈ [exStepB, exStepP]
  simp
example : shellOf (docStep exCfg exStepP) = some ⟨"python", false, ⟨5, 96⟩⟩ := by
  rw [step_shell_written exCfg exDoc exDoc_clean pJobB pJobB_mem _ exStepP_mem]; decide +kernel
example : runPosOf (docStep exCfg exStepP) = some ⟨5, 81⟩ := by
  rw [step_runPos_written exCfg exDoc exDoc_clean pJobB pJobB_mem _ exStepP_mem]; decide +kernel
example : scPick exCfg.lower (parse exCfg exDoc).1 (docJob exCfg pJobB) (docStep exCfg exStepP) = none ∧
    pyPick (parse exCfg exDoc).1 (docJob exCfg pJobB) (docStep exCfg exStepP) = some ("P", some ⟨5, 81⟩) := by
  rw [scPick_written exCfg exDoc exDoc_clean pJobB pJobB_mem _ exStepP_mem,
    pyPick_written exCfg exDoc exDoc_clean pJobB pJobB_mem _ exStepP_mem]
  constructor <;> decide +kernel
example : jobsOf (parse exCfg exDoc).1 = [pJobA, pJobB, pJobC, pJobD].map (docJob exCfg) :=
  jobsOf_written exCfg exDoc exDoc_clean
/-- the AST-level theorems on the parsed document -/
example : ∃ j ∈ jobsOf (parse exCfg exDoc).1, ∃ s ∈ stepsOf j,
    scPick exCfg.lower (parse exCfg exDoc).1 j s = some ⟨"B", some ⟨5, 71⟩, "bash"⟩ :=
  (sc_handed_mem exCfg.lower (parse exCfg exDoc).1 _).1 (by rw [example_handed.1]; simp)
example : ∃ j ∈ jobsOf (parse exCfg exDoc).1, ∃ s ∈ stepsOf j,
    pyPick (parse exCfg exDoc).1 j s = some ("P", some ⟨5, 81⟩) :=
  (py_handed_mem (parse exCfg exDoc).1 _).1 (by rw [example_handed.2]; simp)

/-- entirely from what is written -/
theorem example_handed_written :
    ((docJobs exDoc).flatMap fun p => (docSteps p.2).filterMap (docScPick exCfg.lower exDoc (docLabels p.2) p))
      = [⟨"B", some ⟨5, 71⟩, "bash"⟩, ⟨"C", some ⟨6, 41⟩, "sh"⟩] ∧
    ((docJobs exDoc).flatMap fun p => (docSteps p.2).filterMap (docPyPick exCfg.lower exDoc (docLabels p.2) p))
      = [("P", some ⟨5, 81⟩)] := by
  rw [← doc_sc_handed_written exCfg exDoc exDoc_clean, ← doc_py_handed_written exCfg exDoc exDoc_clean]
  exact example_handed

theorem pJobC_mem : pJobC ∈ docJobs exDoc := by
  rw [exDoc_jobs]; simp

example : labelsOf (docJob exCfg pJobC) = ["Windows-latest"] := by
  rw [labels_written exCfg exDoc exDoc_clean pJobC pJobC_mem]; decide +kernel
/-- the mapping form `runs-on: {group: g, labels: [self-hosted, windows]}`, and `labels: ${{ … }}` -/
example : docLabelNodes (mp 1 1 [sc "group" 1 2, sc "g" 1 9, sc "labels" 1 12, sq 1 20 [sc "self-hosted" 1 21, sc "windows" 1 34]])
    = [sc "self-hosted" 1 21, sc "windows" 1 34] := by rfl
example : ((parseRunsOn exCfg (mp 1 1 [sc "group" 1 2, sc "g" 1 9, sc "labels" 1 12, sq 1 20 [sc "self-hosted" 1 21, sc "windows" 1 34]])).1.labels.getD []).map (·.value)
    = ["self-hosted", "windows"] := by
  rw [parseRunsOn_labels exCfg _ (by decide +kernel)]; decide +kernel
example : (parseRunsOn exCfg (mp 1 1 [sc "labels" 1 12, sc "${{ matrix.os }}" 1 20])).1.labels.getD [] = [] := by
  rw [parseRunsOn_labels exCfg _ (by decide +kernel)]; decide +kernel
example : AL.C11D.docStepNodes exDoc = (docJobs exDoc).flatMap fun p => docSteps p.2 := docStepNodes_eq exCfg exDoc exDoc_clean
example : AL.C11D.IsStepRun exDoc (sc "P" 5 86) :=
  (isStepRun_iff exCfg exDoc exDoc_clean _).2 ⟨pJobB, pJobB_mem, exStepP, exStepP_mem, (sc "run" 5 81, sc "P" 5 86), rfl, rfl⟩
example : ∃ k v : Node, AL.C11D.IsStepRun exDoc v ∧ "B" = v.value ∧ some (⟨5, 71⟩ : Yaml.Pos) = some k.pos ∧ k.value = "run" :=
  sc_handed_is_stepRun exCfg exDoc exDoc_clean ⟨"B", some ⟨5, 71⟩, "bash"⟩ (by rw [example_handed.1]; simp)
example : ∃ k v : Node, AL.C11D.IsStepRun exDoc v ∧ "P" = v.value ∧ some (⟨5, 81⟩ : Yaml.Pos) = some k.pos ∧ k.value = "run" :=
  py_handed_is_stepRun exCfg exDoc exDoc_clean ("P", some ⟨5, 81⟩) (by rw [example_handed.2]; simp)
/-- the AST-level lemmas with hypotheses, on steps of the parsed document -/
example : scPick exCfg.lower (parse exCfg exDoc).1 (docJob exCfg pJobB) (docStep exCfg exStepP) =
    scPick exCfg.lower { (parse exCfg exDoc).1 with jobs := none } (docJob exCfg pJobB) (docStep exCfg exStepP) :=
  scPick_local _ _ _ (by dsimp only) _ _
example : pyPick (parse exCfg exDoc).1 (docJob exCfg pJobB) (docStep exCfg exStepP) =
    pyPick { (parse exCfg exDoc).1 with jobs := none } (docJob exCfg pJobB) (docStep exCfg exStepP) :=
  pyPick_local _ _ (by dsimp only) _ _
private def eP : ExecRun := { run := some ⟨"P", false, ⟨5, 86⟩⟩, shell := some ⟨"python", false, ⟨5, 96⟩⟩, runPos := some ⟨5, 81⟩ }
example : (docStep exCfg exStepP).exec = .run eP := by rfl
example : scPick exCfg.lower (parse exCfg exDoc).1 (docJob exCfg pJobB) { exec := .run eP, pos := ⟨5, 80⟩ } = none :=
  scPick_skipped _ _ _ _ eP ⟨"P", false, ⟨5, 86⟩⟩ ⟨"python", false, ⟨5, 96⟩⟩ rfl rfl rfl (by decide +kernel)
example : scPick exCfg.lower (parse exCfg exDoc).1 (docJob exCfg pJobB) { exec := .run eP, pos := ⟨5, 80⟩ } =
    (shellcheckShell "python").map fun x => ⟨"P", some ⟨5, 81⟩, x⟩ :=
  scPick_step_shell _ _ _ _ eP ⟨"P", false, ⟨5, 86⟩⟩ ⟨"python", false, ⟨5, 96⟩⟩ rfl rfl rfl
example : nonEmpty (some "bash") = some "bash" := nonEmpty_of_ne _ (by decide)

end Example

end AL.C20D
