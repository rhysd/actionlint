import AL.Model.RuleExpr
import AL.Props.C05Expr
import AL.Lemmas.Visit
import AL.Lemmas.VisitMatrix
import AL.Lemmas.VisitEvents
import AL.Lemmas.TyWf
import AL.Lemmas.SemaScope
import AL.Props.C05
import AL.Props.C05Proj
import AL.Lemmas.AvailRows
/-
  C05 on AL.RuleExpr (all of rule_expression.go over the real AST): WHAT IS IN SCOPE. The checker side ("a property of a
  strict object is reported iff it is not among its props; a loose object is silent") is AL.Props.C05; what ONE step or
  event does to the rule's state is AL.Props.C05Expr (the fold over a list of steps is here, `visitSteps_stepsTy`). Here:
  the objects the rule builds for `needs`, `steps`, `matrix`, `inputs`, `secrets`, `jobs`, for every workflow AST, that
  these are the objects the checker is handed (`mkEnv`), and (§6) the property itself — "reported as undefined iff not in
  scope" — for `needs`, `steps`, `inputs`, `secrets`, and for `matrix` in the case of a literal matrix with a literal
  `include` (for `jobs` it is stated on documents: `AL.C05D.doc_jobs_reported_iff`).

    §0, §0b      for the concrete instances, here and in C06Rule, C11Rule, C05Doc: equality of types and of expressions as
                 Boolean tests (`tyEq`, `eEq`), a string with one placeholder taken apart down to `check Γ e` (`parsed`,
                 `checkExprsIn_one`, `check_fromJSON`, the scope `Γs`, the rows `available_run` …)
    §1 needs     needs_exact, needs_keys, needs_not_transitive, needs_outputs_exact, needs_outputs_call
    §2 visitJob  visitJob_eq, jobCx1_scope, jobCx_scope, jobCxS_scope, stepCx_scope, job_step_scope, jobCxPost_scope,
                 stepsAfter_keys / _entry / _strict / _loose; rule_eq, ruleCx_scope (§4)
    §3 matrix    matrix_rows_only, matrix_literal, matrix_include_keys_present, matrix_include_entry_expr_opens,
                 matrix_include_expr, matrix_include_arr, matrix_expr_open, matrix_expr_exact, matrix_expr_strict, rowTy_expr,
                 includeCombo_expr_failed
    §4 header    visitEvents_hdr, header_plain / _call / _dispatch; scope_st, scope_secrets, scope_inputs, scope_jobs;
                 secretsTy_exact, inputs_exact, inputs_keys
    §5 jobs      jobs_exact, jobEntry_exact, jobEntry_call, rule_outputs_eq
    §6           needs_ / steps_ / steps_reported_post_ / matrix_ / inputs_ / secrets_reported_iff, secrets_silent

  Where the model (hence rule_expression.go) departs from the LETTER of the property — all proved below:
    * "given by an expression ⇒ not reported" holds only when the expression's type is not statically a strict object:
      `matrix: ${{ fromJSON('{…}') }}`, `include: ${{ fromJSON('[{…}]') }}` and an include entry `${{ fromJSON('{…}') }}`
      give a STRICT matrix object (`matrix_expr_static_is_strict`, `matrix_expr_strict`, `matrix_include_expr`,
      `includeCombo_expr`); an include entry whose expression has a diagnostic is skipped (`includeCombo_expr_failed`);
    * a ROW given by an expression does not open `matrix`: the key stays a key, only its type is `any` (`rowTy_expr`);
    * `include: ${{ … }}` of unknown type gives the EMPTY loose object: the row keys are dropped (`matrix_include_expr`);
    * `jobs.<job>` has `outputs` only: the object has no prop `result` (`jobEntry_exact`).
-/
namespace AL.C05S
open AL AL.Ast AL.Sema AL.RuleExpr
open AL.Visit (St Header mkEnv emptyStrict emptyLoose loosen erase mergeInclude lookup_setProp)

def propsOf : Ty → List (String × Ty)
  | .obj ps _ => ps
  | _ => []

def mappedOf : Ty → Option Ty
  | .obj _ m => m
  | _ => none

/-! ## 0. a decidable test for equality of types (for the concrete instances below) -/

mutual
def tyEq : Ty → Ty → Bool
  | .any, .any => true
  | .null, .null => true
  | .number, .number => true
  | .bool, .bool => true
  | .string, .string => true
  | .obj ps m, .obj qs m' => propsEq ps qs && optEq m m'
  | .arr e d, .arr e' d' => tyEq e e' && (d == d')
  | _, _ => false
def propsEq : List (String × Ty) → List (String × Ty) → Bool
  | [], [] => true
  | (k, v) :: ps, (k', v') :: qs => (k == k') && tyEq v v' && propsEq ps qs
  | _, _ => false
def optEq : Option Ty → Option Ty → Bool
  | none, none => true
  | some a, some b => tyEq a b
  | _, _ => false
end

mutual
theorem tyEq_sound : ∀ (a b : Ty), tyEq a b = true → a = b
  | .any, b, h => by cases b <;> simp only [tyEq, Bool.false_eq_true] at h; rfl
  | .null, b, h => by cases b <;> simp only [tyEq, Bool.false_eq_true] at h; rfl
  | .number, b, h => by cases b <;> simp only [tyEq, Bool.false_eq_true] at h; rfl
  | .bool, b, h => by cases b <;> simp only [tyEq, Bool.false_eq_true] at h; rfl
  | .string, b, h => by cases b <;> simp only [tyEq, Bool.false_eq_true] at h; rfl
  | .obj ps m, b, h => by
    cases b <;> simp only [tyEq, Bool.and_eq_true, Bool.false_eq_true] at h
    rw [propsEq_sound _ _ h.1, optEq_sound _ _ h.2]
  | .arr e d, b, h => by
    cases b <;> simp only [tyEq, Bool.and_eq_true, beq_iff_eq, Bool.false_eq_true] at h
    rw [tyEq_sound _ _ h.1, h.2]
theorem propsEq_sound : ∀ (ps qs : List (String × Ty)), propsEq ps qs = true → ps = qs
  | [], [], _ => rfl
  | [], _ :: _, h => by simp [propsEq] at h
  | _ :: _, [], h => by simp [propsEq] at h
  | (k, v) :: ps, (k', v') :: qs, h => by
    simp only [propsEq, Bool.and_eq_true, beq_iff_eq] at h
    rw [h.1.1, tyEq_sound v v' h.1.2, propsEq_sound ps qs h.2]
theorem optEq_sound : ∀ (m m' : Option Ty), optEq m m' = true → m = m'
  | none, none, _ => rfl
  | none, some _, h => by simp [optEq] at h
  | some _, none, h => by simp [optEq] at h
  | some a, some b, h => by
    simp only [optEq] at h
    rw [tyEq_sound a b h]
end

/-! ## 0b. evaluating the rule on a concrete string

`check` / `Ty.assignable` are compiled by well-founded recursion and do not reduce in the kernel: a string with one
placeholder is taken apart here (lexer, parser: by evaluation) down to `check Γ e` for an explicit `e`, which the unfolding
lemmas of AL.Lemmas.SemaMonoBasic evaluate. -/

private def p0 : AL.Yaml.Pos := ⟨1, 1⟩
private def str (v : String) : Str := ⟨v, false, p0⟩
def cxL : Cx := { lower := AL.PW.asciiLower }

mutual
def eEq : E → E → Bool
  | .null, .null => true
  | .bool, .bool => true
  | .num, .num => true
  | .str a, .str b => a == b
  | .var a, .var b => a == b
  | .call c as, .call d bs => (c == d) && esEq as bs
  | .objDeref r p, .objDeref r' p' => eEq r r' && (p == p')
  | .arrDeref r, .arrDeref r' => eEq r r'
  | .index a i, .index b j => eEq a b && eEq i j
  | .not a, .not b => eEq a b
  | .cmp o l r, .cmp o' l' r' => (o == o') && eEq l l' && eEq r r'
  | .logical o l r, .logical o' l' r' => (o == o') && eEq l l' && eEq r r'
  | _, _ => false
def esEq : List E → List E → Bool
  | [], [] => true
  | a :: as, b :: bs => eEq a b && esEq as bs
  | _, _ => false
end

mutual
theorem eEq_sound : ∀ (a b : E), eEq a b = true → a = b
  | .null, b, h => by cases b <;> simp only [eEq, Bool.false_eq_true] at h; rfl
  | .bool, b, h => by cases b <;> simp only [eEq, Bool.false_eq_true] at h; rfl
  | .num, b, h => by cases b <;> simp only [eEq, Bool.false_eq_true] at h; rfl
  | .str a, b, h => by cases b <;> simp only [eEq, beq_iff_eq, Bool.false_eq_true] at h; rw [h]
  | .var a, b, h => by cases b <;> simp only [eEq, beq_iff_eq, Bool.false_eq_true] at h; rw [h]
  | .call c as, b, h => by
    cases b <;> simp only [eEq, Bool.and_eq_true, beq_iff_eq, Bool.false_eq_true] at h
    rw [h.1, esEq_sound _ _ h.2]
  | .objDeref r p, b, h => by
    cases b <;> simp only [eEq, Bool.and_eq_true, beq_iff_eq, Bool.false_eq_true] at h
    rw [eEq_sound _ _ h.1, h.2]
  | .arrDeref r, b, h => by cases b <;> simp only [eEq, Bool.false_eq_true] at h; rw [eEq_sound _ _ h]
  | .index a i, b, h => by
    cases b <;> simp only [eEq, Bool.and_eq_true, Bool.false_eq_true] at h
    rw [eEq_sound _ _ h.1, eEq_sound _ _ h.2]
  | .not a, b, h => by cases b <;> simp only [eEq, Bool.false_eq_true] at h; rw [eEq_sound _ _ h]
  | .cmp o l r, b, h => by
    cases b <;> simp only [eEq, Bool.and_eq_true, beq_iff_eq, Bool.false_eq_true] at h
    rw [h.1.1, eEq_sound _ _ h.1.2, eEq_sound _ _ h.2]
  | .logical o l r, b, h => by
    cases b <;> simp only [eEq, Bool.and_eq_true, beq_iff_eq, Bool.false_eq_true] at h
    rw [h.1.1, eEq_sound _ _ h.1.2, eEq_sound _ _ h.2]
theorem esEq_sound : ∀ (as bs : List E), esEq as bs = true → as = bs
  | [], [], _ => rfl
  | [], _ :: _, h => by simp [esEq] at h
  | _ :: _, [], h => by simp [esEq] at h
  | a :: as, b :: bs, h => by
    simp only [esEq, Bool.and_eq_true] at h
    rw [eEq_sound a b h.1, esEq_sound as bs h.2]
end

/-- what `checkOne` hands to the semantic check: the expression and the lexer's offset -/
def parsed (lower : String → String) (rest : List Nat) : Option (E × Nat) :=
  match AL.Lex.lexExpression (decodeUtf8 rest), AL.Parse.parseToks (AL.Lex.tokens (decodeUtf8 rest)) with
  | .ok (_, off), .ok pe => some (toE lower pe, off)
  | _, _ => none

def parsedIs (lower : String → String) (rest : List Nat) (e : E) (off : Nat) : Bool :=
  match parsed lower rest with
  | some (e', off') => eEq e' e && (off' == off)
  | none => false

theorem parsedIs_sound {lower : String → String} {rest : List Nat} {e : E} {off : Nat} (h : parsedIs lower rest e off = true) :
    parsed lower rest = some (e, off) := by
  unfold parsedIs at h
  cases hp : parsed lower rest with
  | none => rw [hp] at h; cases h
  | some p =>
    obtain ⟨e', off'⟩ := p
    rw [hp] at h
    simp only [Bool.and_eq_true, beq_iff_eq] at h
    rw [eEq_sound e' e h.1, h.2]


/-- the environment an expression under `key` is checked in -/
def envOf (cx : Cx) (key : String) : AL.Sema.Env :=
  { AL.Visit.mkEnv cx.lower cx.hdr cx.jobsTy cx.st key with configVars := cx.proj.configVars }

/-- whether a context is available in `envOf cx key` is read off the row of `key` in the availability table -/
theorem envOf_avail (cx : Cx) (key ctx : String) :
    (envOf cx key).availCtx.contains ((envOf cx key).lower ctx) = (AL.Visit.availability key).1.contains (cx.lower ctx) := rfl

theorem checkOne_eq (cx : Cx) (key : String) (rest : List Nat) :
    checkOne cx key false rest =
      match parsed cx.lower rest with
      | some (e, off) =>
        if (check (envOf cx key) e).errs.isEmpty then (some ((check (envOf cx key) e).ty, off), [])
        else (none, (check (envOf cx key) e).errs)
      | none => (none, [err "syntax-error" []]) := by
  unfold checkOne parsed
  split
  · rename_i off pe h1 h2
    simp only [h1, h2, checkParsed, envOf, Bool.false_eq_true, if_false, List.append_nil]
    rfl
  · rename_i h
    split
    · rename_i e off heq
      split at heq
      · rename_i off' pe h1 h2
        exact (h _ _ _ h1 h2).elim
      · cases heq
    · rfl

/-- a string with exactly one placeholder whose expression checks without a diagnostic: its type -/
theorem checkExprsIn_one (cx : Cx) (key s : String) (idx off : Nat) (e : E)
    (h1 : AL.Proc.indexOf AL.Proc.open3 (bytesOf s) 0 = some idx)
    (h2 : parsedIs cx.lower ((bytesOf s).drop (idx + 3)) e off = true) (h3 : off ≠ 0)
    (h4 : AL.Proc.indexOf AL.Proc.open3 (((bytesOf s).drop (idx + 3)).drop off) 0 = none)
    (hc : (check (envOf cx key) e).errs = []) :
    checkExprsIn cx key false s = (some [(check (envOf cx key) e).ty], []) := by
  unfold checkExprsIn
  cases hl : (bytesOf s).length with
  | zero =>
    have : bytesOf s = [] := List.eq_nil_of_length_eq_zero hl
    rw [this] at h1
    simp [AL.Proc.indexOf] at h1
    exact absurd h1.1 (by decide)
  | succ n =>
    simp only [scan, h1, checkOne_eq, parsedIs_sound h2, hc, List.isEmpty_nil, if_true, h3, if_false, List.nil_append]
    cases n with
    | zero => rfl
    | succ k => simp only [scan, h4]

theorem checkOneExpression_one (cx : Cx) (what key : String) (s : Str) (idx off : Nat) (e : E)
    (h1 : AL.Proc.indexOf AL.Proc.open3 (bytesOf s.value) 0 = some idx)
    (h2 : parsedIs cx.lower ((bytesOf s.value).drop (idx + 3)) e off = true) (h3 : off ≠ 0)
    (h4 : AL.Proc.indexOf AL.Proc.open3 (((bytesOf s.value).drop (idx + 3)).drop off) 0 = none)
    (hc : (check (envOf cx key) e).errs = []) :
    checkOneExpression cx (some s) what key = (some (check (envOf cx key) e).ty, []) := by
  simp only [checkOneExpression, checkExprsIn_one cx key s.value idx off e h1 h2 h3 h4 hc]
  rfl


def fromJSONSig : Sig := ⟨"fromJSON", .any, [.string], false⟩

/-- `fromJSON(a)` for an argument that checks without a diagnostic and has a type assignable to string: no diagnostic;
the type is `any`, or what the JSON text says when `a` is a string literal holding valid JSON -/
theorem check_fromJSON (Γ : AL.Sema.Env) (a : E)
    (hl : Γ.lower "fromJSON" = "fromjson")
    (hf : lookupFuncs "fromjson" Γ.funcs = some [fromJSONSig])
    (hsp : specialFuncErrs Γ "fromJSON" = [])
    (ha : (check Γ a).errs = []) (hasg : Ty.assignable .string (check Γ a).ty = true) :
    (check Γ (.call "fromJSON" [a])).errs =
      (match strLit? a with
       | none => []
       | some lit => match Γ.fromJson lit with | .syntaxErr => [err "broken-json" []] | _ => []) ∧
    (check Γ (.call "fromJSON" [a])).ty =
      (match strLit? a with
       | none => .any
       | some lit => match Γ.fromJson lit with | .ok t => t | _ => .any) := by
  simp only [check_call, hl, hf, checkArgs_cons, checkArgs_nil, wrap_errs, wrap_ty, ha, List.append_nil, List.nil_append,
    resolveCall, resolveCall.go, checkSig, fromJSONSig, firstBadArg, firstBadArg.fixed, hasg, List.head?_cons, Option.bind_some,
    builtinCall, hsp, List.length_cons, List.length_nil]
  simp only [Bool.false_and, Bool.not_false, Bool.true_and, Nat.zero_add, ne_eq, not_true_eq_false, decide_false,
    Bool.or_self, Bool.false_eq_true, if_false, Bool.not_true]
  cases strLit? a with
  | none => simp
  | some lit =>
    simp only
    cases Γ.fromJson lit <;> simp


def Γs : AL.Sema.Env := envOf cxL "jobs.<job_id>.strategy"

theorem available_run : ∀ c ∈ ["needs", "steps", "matrix", "inputs", "secrets"],
    (AL.Visit.availability "jobs.<job_id>.steps.run").1.contains (AL.PW.asciiLower c) = true :=
  fun c hc => AL.Visit.available_rows.1.1 c (List.mem_cons_of_mem _ hc)

theorem available_job_outputs :
    (AL.Visit.availability "jobs.<job_id>.outputs.<output_id>").1.contains (AL.PW.asciiLower "steps") = true :=
  AL.Visit.available_rows.1.2.1 "steps" (List.mem_cons_self ..)

theorem available_call_outputs :
    (AL.Visit.availability "on.workflow_call.outputs.<output_id>.value").1.contains (AL.PW.asciiLower "jobs") = true :=
  AL.Visit.available_rows.1.2.2.1

theorem Γs_facts : Γs.lower "fromJSON" = "fromjson" ∧ lookupFuncs "fromjson" Γs.funcs = some [fromJSONSig] ∧
    specialFuncErrs Γs "fromJSON" = [] := ⟨by decide +kernel, rfl, by decide +kernel⟩

/-- `vars.<name>` under `jobs.<job_id>.strategy` (no `config-variables`): a string, silently -/
theorem check_varsX (x : String) (hx : checkConfigVar Γs x = []) : (check Γs (.objDeref (.var "vars") x)).errs = [] ∧ (check Γs (.objDeref (.var "vars") x)).ty = .string := by
  obtain ⟨h1, h2⟩ := check_ctx_prop Γs "vars" x (.obj [] (some .string)) rfl
    ((envOf_avail cxL "jobs.<job_id>.strategy" "vars").trans AL.Visit.available_rows.1.2.2.2.1)
  rw [h1, h2]
  simp [objDerefTy, Ty.lookup, hx]

/-- `fromJSON(vars.<name>)`: `any`, silently -/
theorem check_fromJSON_vars (x : String) (hx : checkConfigVar Γs x = []) : (check Γs (.call "fromJSON" [.objDeref (.var "vars") x])).errs = [] ∧
    (check Γs (.call "fromJSON" [.objDeref (.var "vars") x])).ty = .any := by
  obtain ⟨a, b⟩ := check_varsX x hx
  obtain ⟨hl, hf, hsp⟩ := Γs_facts
  have := check_fromJSON Γs (.objDeref (.var "vars") x) hl hf hsp a (by rw [b]; simp [Ty.assignable])
  simpa [strLit?] using this

/-- `fromJSON('<valid JSON>')`: the type of the JSON value, silently -/
theorem check_fromJSON_lit (lit : String) (t : Ty)
    (h : (match AL.Json.fromJson AL.PW.asciiLower lit with | .ok t' => tyEq t' t | _ => false) = true) :
    (check Γs (.call "fromJSON" [.str lit])).errs = [] ∧ (check Γs (.call "fromJSON" [.str lit])).ty = t := by
  obtain ⟨hl, hf, hsp⟩ := Γs_facts
  have := check_fromJSON Γs (.str lit) hl hf hsp (by rw [check_str]; rfl) (by rw [check_str]; simp [Ty.assignable])
  have hj : Γs.fromJson lit = AL.Json.fromJson AL.PW.asciiLower lit := rfl
  simp only [strLit?, hj] at this
  cases hr : AL.Json.fromJson AL.PW.asciiLower lit with
  | ok t' =>
    rw [hr] at h this
    simp only at h this
    rw [tyEq_sound t' t h] at this
    exact this
  | syntaxErr => rw [hr] at h; cases h
  | otherErr => rw [hr] at h; cases h
/-! ## 1. `needs` -/

/-- what a job that needs job `j` (under key `i`) sees of it -/
def needEntry (outs : List (String × Ty)) (i : String) (j : Job) : Ty :=
  .obj [("outputs", if j.workflowCall.isNone then declaredOutputsTy j else (Ty.lookup i outs).getD mapOfString),
        ("result", .string)] none

/-- the loop body of `calcNeedsType` -/
def needsStep (outs : List (String × Ty)) (lower : String → String) (jobs : List (String × Job)) (self : String)
    (ps : List (String × Ty)) (id : Str) : List (String × Ty) :=
  let i := lower id.value
  if i = self then ps
  else if (Ty.lookup i ps).isSome then ps
  else match lookupJob i jobs with
    | none => ps
    | some j => Ty.setProp i (needEntry outs i j) ps

theorem needsTy_eq (outs : List (String × Ty)) (lower : String → String) (jobs : List (String × Job)) (job : Job) :
    needsTy outs lower jobs job =
      .obj ((job.needs.getD []).foldl (needsStep outs lower jobs (lower job.id.value)) []) none := rfl

/-- the exact content of the accumulator of `calcNeedsType` -/
theorem needsFold_lookup (outs : List (String × Ty)) (lower : String → String) (jobs : List (String × Job))
    (self i : String) : ∀ (needs : List Str) (acc : List (String × Ty)),
    Ty.lookup i (needs.foldl (needsStep outs lower jobs self) acc) =
      match Ty.lookup i acc with
      | some t => some t
      | none => if i ∈ needs.map (fun id => lower id.value) ∧ i ≠ self then (lookupJob i jobs).map (needEntry outs i) else none := by
  intro needs acc
  -- the loop body is a first-wins insert of the entry of the job registered under the folded id, if there is one
  have e : needsStep outs lower jobs self = fun ps (id : Str) => Ty.insertNew (lower id.value)
      (if lower id.value = self then none else (lookupJob (lower id.value) jobs).map (needEntry outs (lower id.value))) ps := by
    funext ps id
    unfold needsStep Ty.insertNew
    by_cases h : lower id.value = self
    · simp [h]
    · simp only [h, if_false]
      cases lookupJob (lower id.value) jobs <;> rfl
  rw [e, Ty.lookup_foldl_insertNew (fun id : Str => lower id.value)
    (fun k => if k = self then none else (lookupJob k jobs).map (needEntry outs k))]
  cases Ty.lookup i acc with
  | some t => rfl
  | none => by_cases h1 : i ∈ needs.map (fun id => lower id.value) <;> by_cases h2 : i = self <;> simp [h1, h2]

/-- presence form of `needsFold_lookup` -/
theorem needsFold_keys (outs : List (String × Ty)) (lower : String → String) (jobs : List (String × Job))
    (self i : String) (needs : List Str) (acc : List (String × Ty)) :
    (Ty.lookup i (needs.foldl (needsStep outs lower jobs self) acc)).isSome = true ↔
      ((Ty.lookup i acc).isSome = true ∨
        (i ∈ needs.map (fun id => lower id.value) ∧ i ≠ self ∧ (lookupJob i jobs).isSome = true)) := by
  rw [needsFold_lookup]
  cases Ty.lookup i acc with
  | some t => simp
  | none =>
    by_cases h : i ∈ needs.map (fun id => lower id.value) ∧ i ≠ self
    · simp [h]
    · simp only [h, if_false, Option.isSome_none, Bool.false_eq_true, false_or, false_iff]
      exact fun h' => h ⟨h'.1, h'.2.1⟩

/-- **`needs` is a strict object whose properties are exactly the directly needed, existing jobs** (never the job itself),
each with the entry `needEntry` of that job: nothing is resolved transitively. (The job's own id is compared FOLDED, like
the entries of `needs:`.) -/
theorem needs_exact (outs : List (String × Ty)) (lower : String → String) (jobs : List (String × Job)) (job : Job) :
    ∃ ps, needsTy outs lower jobs job = .obj ps none ∧
      ∀ i, Ty.lookup i ps =
        if i ∈ (job.needs.getD []).map (fun id => lower id.value) ∧ i ≠ lower job.id.value
        then (lookupJob i jobs).map (needEntry outs i) else none := by
  refine ⟨_, needsTy_eq outs lower jobs job, fun i => ?_⟩
  rw [needsFold_lookup]
  simp [Ty.lookup]

/-- presence form: a key is in `needs` iff it is (the lower-cased spelling of) an entry of `needs:` that names an existing
job other than the job itself -/
theorem needs_keys (outs : List (String × Ty)) (lower : String → String) (jobs : List (String × Job)) (job : Job) (i : String) :
    (Ty.lookup i (propsOf (needsTy outs lower jobs job))).isSome = true ↔
      (i ∈ (job.needs.getD []).map (fun id => lower id.value) ∧ i ≠ lower job.id.value ∧ (lookupJob i jobs).isSome = true) := by
  rw [needsTy_eq]
  simp only [propsOf]
  rw [needsFold_keys]
  simp [Ty.lookup]

/-- **nothing transitive**: a job that is not named in `needs:` is not in scope — whether or not a needed job needs it -/
theorem needs_not_transitive (outs : List (String × Ty)) (lower : String → String) (jobs : List (String × Job)) (job : Job)
    (i : String) (h : i ∉ (job.needs.getD []).map (fun id => lower id.value)) :
    Ty.lookup i (propsOf (needsTy outs lower jobs job)) = none := by
  obtain ⟨ps, e, hl⟩ := needs_exact outs lower jobs job
  rw [e]
  simp only [propsOf, hl i, h, false_and, if_false]

/-- a fold of `setProp k string` over the keys of a list: those keys, all `string` -/
theorem lookup_foldKeys {α : Type} (key : α → String) (name : String) : ∀ (l : List α) (acc : List (String × Ty)),
    Ty.lookup name (l.foldl (fun ps a => Ty.setProp (key a) .string ps) acc) =
      if name ∈ l.map key then some .string else Ty.lookup name acc :=
  fun l acc => by rw [← AL.C05P.lookup_fold_string name (l.map key) acc, List.foldl_map]

/-- the `outputs` of a job as other jobs see it: a strict object with exactly the declared output names, all strings -/
theorem declaredOutputs_exact (j : Job) :
    ∃ ps, declaredOutputsTy j = .obj ps none ∧
      ∀ name, Ty.lookup name ps = if name ∈ (j.outputs.getD []).map (·.1) then some .string else none := by
  refine ⟨_, rfl, fun name => ?_⟩
  have := lookup_foldKeys (fun kv : String × Output => kv.1) name (j.outputs.getD []) []
  simpa [Ty.lookup] using this

/-- an entry of `needs`: strict, exactly `outputs` and `result : string` -/
theorem needEntry_shape (outs : List (String × Ty)) (i : String) (j : Job) :
    ∃ o, needEntry outs i j = .obj [("outputs", o), ("result", .string)] none ∧
      o = (if j.workflowCall.isNone then declaredOutputsTy j else (Ty.lookup i outs).getD mapOfString) ∧
      ∀ name, Ty.lookup name [("outputs", o), ("result", Ty.string)] =
        if name = "outputs" then some o else if name = "result" then some .string else none := by
  refine ⟨_, rfl, rfl, fun name => ?_⟩
  simp only [Ty.lookup]
  by_cases h1 : name = "outputs"
  · simp [h1]
  · by_cases h2 : name = "result"
    · subst h2; simp
    · have a : ¬ "outputs" = name := fun e => h1 e.symm
      have b : ¬ "result" = name := fun e => h2 e.symm
      simp [h1, h2, a, b]

/-- `needs.<job>.outputs.<name>` for a needed job with steps (not a reusable-workflow call): defined iff `<name>` is a
declared output of THAT job -/
theorem needs_outputs_exact (outs : List (String × Ty)) (lower : String → String) (jobs : List (String × Job)) (job j : Job)
    (i : String) (hin : i ∈ (job.needs.getD []).map (fun id => lower id.value)) (hself : i ≠ lower job.id.value)
    (hj : lookupJob i jobs = some j) (hcall : j.workflowCall = none) :
    ∃ ps js os, needsTy outs lower jobs job = .obj ps none ∧ Ty.lookup i ps = some (.obj js none) ∧
      Ty.lookup "outputs" js = some (.obj os none) ∧ Ty.lookup "result" js = some .string ∧
      ∀ name, Ty.lookup name os = if name ∈ (j.outputs.getD []).map (·.1) then some .string else none := by
  obtain ⟨ps, e, h⟩ := needs_exact outs lower jobs job
  obtain ⟨os, eo, ho⟩ := declaredOutputs_exact j
  refine ⟨ps, [("outputs", .obj os none), ("result", .string)], os, e, ?_, by simp [Ty.lookup], by simp [Ty.lookup], ho⟩
  rw [h i]
  simp only [hin, hself, ne_eq, not_false_eq_true, and_self, if_true, hj, Option.map_some, needEntry, hcall,
    Option.isNone_none, eo]

/-- a needed job that calls a reusable workflow: `outputs` is what the project knows of the callee's interface, else
`{string => string}` — a LOOSE object, so no output name is reported -/
theorem needs_outputs_call (outs : List (String × Ty)) (i : String) (j : Job) (hcall : j.workflowCall.isSome = true) :
    needEntry outs i j = .obj [("outputs", (Ty.lookup i outs).getD mapOfString), ("result", .string)] none ∧
    (Ty.lookup i outs = none → needEntry outs i j = .obj [("outputs", .obj [] (some .string)), ("result", .string)] none) := by
  have : j.workflowCall.isNone = false := by
    cases h : j.workflowCall with
    | none => rw [h] at hcall; simp at hcall
    | some _ => rfl
  constructor
  · simp [needEntry, this]
  · intro h
    simp [needEntry, this, h, mapOfString]

/-! ### `needs` on concrete data: `build` → `test` → `deploy`; `deploy` also names itself, an unknown job, `test` twice -/

private def jBuild : Job := { id := str "build", outputs := some [("art", ⟨str "art", str "x"⟩), ("ver", ⟨str "ver", str "y"⟩)], pos := p0 }
private def jTest : Job := { id := str "test", needs := some [str "build"], outputs := some [("ok", ⟨str "ok", str "z"⟩)], pos := p0 }
private def jCall : Job := { id := str "call", workflowCall := some { uses := some (str "./.github/workflows/w.yml") }, pos := p0 }
private def jDeploy : Job := { id := str "deploy", needs := some [str "Test", str "deploy", str "nosuch", str "call", str "test"], pos := p0 }
private def exJobs : List (String × Job) := [("build", jBuild), ("test", jTest), ("call", jCall), ("deploy", jDeploy)]

/-- `deploy` sees `test` (spelled `Test`) and `call`: not `build` (needed by `test` only), not itself, not the unknown job -/
example : needsTy [] AL.PW.asciiLower exJobs jDeploy =
    .obj [("call", .obj [("outputs", .obj [] (some .string)), ("result", .string)] none),
          ("test", .obj [("outputs", .obj [("ok", .string)] none), ("result", .string)] none)] none :=
  tyEq_sound _ _ (by decide +kernel)

/-- the job itself is skipped by its FOLDED id: `Deploy` naming `deploy` in `needs:` does not see itself -/
example : needsTy [] AL.PW.asciiLower (("deploy", { id := str "Deploy", needs := some [str "deploy", str "build"], pos := p0 }) :: exJobs)
      { id := str "Deploy", needs := some [str "deploy", str "build"], pos := p0 } =
    .obj [("build", .obj [("outputs", .obj [("art", .string), ("ver", .string)] none), ("result", .string)] none)] none :=
  tyEq_sound _ _ (by decide +kernel)
example : "build" ∉ (jDeploy.needs.getD []).map (fun id => AL.PW.asciiLower id.value) := by decide +kernel
example : "test" ∈ (jDeploy.needs.getD []).map (fun id => AL.PW.asciiLower id.value) ∧ "test" ≠ AL.PW.asciiLower jDeploy.id.value ∧
    lookupJob "test" exJobs = some jTest ∧ jTest.workflowCall = none := ⟨by decide +kernel, by decide +kernel, rfl, rfl⟩
example : jCall.workflowCall.isSome = true := rfl

/-! ## 2. what `visitJob` hands down -/

/-- the rule's state after `calcNeedsType`: under it the matrix is checked -/
def jobCx1 (cx0 : Cx) (jobs : List (String × Job)) (n : Job) : Cx :=
  { cx0 with job := cx0.proj.jobView n.id.value,
             st := { cx0.st with needsTy := some (needsTy (cx0.proj.jobView n.id.value).outs cx0.lower jobs n) } }

/-- … after `checkMatrix`: under it `VisitJobPre` checks the job's own strings -/
def jobCx (cx0 : Cx) (isNum : IsNumber) (jobs : List (String × Job)) (n : Job) : Cx :=
  match (jobMatrix (jobCx1 cx0 jobs n) isNum n).1 with
  | some t => { jobCx1 cx0 jobs n with st := { (jobCx1 cx0 jobs n).st with matrixTy := some t } }
  | none => jobCx1 cx0 jobs n

/-- … before the first step -/
def jobCxS (cx0 : Cx) (isNum : IsNumber) (jobs : List (String × Job)) (n : Job) : Cx :=
  { jobCx cx0 isNum jobs n with st := { (jobCx cx0 isNum jobs n).st with stepsTy := some emptyStrict } }

/-- … after the last step: under it `VisitJobPost` checks `environment` and the `outputs` values -/
def jobCxPost (cx0 : Cx) (isNum : IsNumber) (jobs : List (String × Job)) (n : Job) : Cx :=
  (visitSteps (jobCxS cx0 isNum jobs n) (n.steps.getD [])).1

/-- `visitJob`, by the state each part is checked under -/
theorem visitJob_eq (cx0 : Cx) (isNum : IsNumber) (jobs : List (String × Job)) (n : Job) :
    visitJob cx0 isNum jobs n =
      (jobMatrix (jobCx1 cx0 jobs n) isNum n).2 ++ jobPre (jobCx cx0 isNum jobs n) n ++
      (visitSteps (jobCxS cx0 isNum jobs n) (n.steps.getD [])).2 ++ jobPost (jobCxPost cx0 isNum jobs n) n := rfl

/-- the matrix of a job, if it has one -/
def matrixOf (n : Job) : Option Matrix := n.strategy.bind (·.matrix)

theorem jobMatrix_eq (cx : Cx) (isNum : IsNumber) (n : Job) :
    (jobMatrix cx isNum n).1 = (matrixOf n).map (fun m => (checkMatrix cx isNum m).1) := by
  simp only [jobMatrix, matrixOf]
  cases n.strategy with
  | none => rfl
  | some s => cases h : s.matrix <;> simp [h]

/-- the matrix is checked with `needs` of THIS job in scope (`needs` may be used in a matrix); nothing else moved -/
theorem jobCx1_scope (cx0 : Cx) (jobs : List (String × Job)) (n : Job) :
    (jobCx1 cx0 jobs n).st.needsTy = some (needsTy (cx0.proj.jobView n.id.value).outs cx0.lower jobs n) ∧
    (jobCx1 cx0 jobs n).st.matrixTy = cx0.st.matrixTy ∧ (jobCx1 cx0 jobs n).st.stepsTy = cx0.st.stepsTy ∧
    (jobCx1 cx0 jobs n).hdr = cx0.hdr ∧ (jobCx1 cx0 jobs n).lower = cx0.lower ∧ (jobCx1 cx0 jobs n).jobsTy = cx0.jobsTy ∧
    (jobCx1 cx0 jobs n).proj = cx0.proj := ⟨rfl, rfl, rfl, rfl, rfl, rfl, rfl⟩

/-- **the state `VisitJobPre` checks the job's own strings under**, as a record: `jobCx1` with `matrix` set to the result of
`checkMatrix` when the job has a matrix. `jobCx1`, `jobCxS` are records by definition, `stepCx_eq` and `ruleCx_eq` are the
other two equations: every component of the rule's state at a string of the workflow is read off them (`rw`, then `rfl`). -/
theorem jobCx_eq (cx0 : Cx) (isNum : IsNumber) (jobs : List (String × Job)) (n : Job) :
    jobCx cx0 isNum jobs n =
      { jobCx1 cx0 jobs n with
        st := { (jobCx1 cx0 jobs n).st with
                matrixTy := (matrixOf n).elim cx0.st.matrixTy fun m => some (checkMatrix (jobCx1 cx0 jobs n) isNum m).1 } } := by
  unfold jobCx
  rw [jobMatrix_eq]
  cases matrixOf n <;> rfl

/-- `VisitJobPre` checks the job's strings with `needs` = `needsTy` of this job, `matrix` = the result of `checkMatrix` when
the job has a matrix (else what the state had: nothing in `rule`, see `ruleCx_scope`), `steps` untouched (nothing in
`rule`: the built-in empty strict object, so every `steps.<id>` is reported there) -/
theorem jobCx_scope (cx0 : Cx) (isNum : IsNumber) (jobs : List (String × Job)) (n : Job) :
    (jobCx cx0 isNum jobs n).st.needsTy = some (needsTy (cx0.proj.jobView n.id.value).outs cx0.lower jobs n) ∧
    (jobCx cx0 isNum jobs n).st.matrixTy =
      (match matrixOf n with
       | some m => some (checkMatrix (jobCx1 cx0 jobs n) isNum m).1
       | none => cx0.st.matrixTy) ∧
    (jobCx cx0 isNum jobs n).st.stepsTy = cx0.st.stepsTy ∧
    (jobCx cx0 isNum jobs n).hdr = cx0.hdr ∧ (jobCx cx0 isNum jobs n).lower = cx0.lower ∧
    (jobCx cx0 isNum jobs n).jobsTy = cx0.jobsTy ∧ (jobCx cx0 isNum jobs n).proj = cx0.proj := by
  rw [jobCx_eq]
  refine ⟨rfl, ?_, rfl, rfl, rfl, rfl, rfl⟩
  cases matrixOf n <;> rfl

/-- **every job's steps start from the empty strict object**: whatever `steps` the state held before (no leak from the
previous job); `needs` and `matrix` are those of `VisitJobPre` -/
theorem jobCxS_scope (cx0 : Cx) (isNum : IsNumber) (jobs : List (String × Job)) (n : Job) :
    (jobCxS cx0 isNum jobs n).st.stepsTy = some (.obj [] none) ∧
    (jobCxS cx0 isNum jobs n).st.needsTy = (jobCx cx0 isNum jobs n).st.needsTy ∧
    (jobCxS cx0 isNum jobs n).st.matrixTy = (jobCx cx0 isNum jobs n).st.matrixTy ∧
    (jobCxS cx0 isNum jobs n).hdr = cx0.hdr ∧ (jobCxS cx0 isNum jobs n).lower = cx0.lower ∧
    (jobCxS cx0 isNum jobs n).proj = cx0.proj := by
  rw [jobCxS, jobCx_eq]
  exact ⟨rfl, rfl, rfl, rfl, rfl, rfl⟩

/-! ### the steps -/

theorem visitStep_proj (cx : Cx) (n : Step) : (visitStep cx n).1.proj = cx.proj := by
  rw [AL.C05E.visitStep_fst]

theorem stepExec_uses (cx cx' : Cx) (e : Exec) : (stepExec cx e).2 = (stepExec cx' e).2 := by
  cases e <;> rfl

/-- the abstract step depends on the project's view of local actions only, not on the scope -/
theorem stepM_congr (cx cx' : Cx) (h : cx'.proj = cx.proj) (n : Step) : AL.C05E.stepM cx' n = AL.C05E.stepM cx n := by
  simp only [AL.C05E.stepM, h, stepExec_uses cx' cx]

/-- the `steps` object after the steps `ss` of a job: `Visit.addStep` folded from the empty strict object -/
def stepsAfter (cx : Cx) (ss : List Step) : Ty :=
  (ss.map (AL.C05E.stepM cx)).foldl (AL.Visit.addStep cx.lower) (.obj [] none)

theorem visitSteps_stepsTy (ss : List Step) : ∀ (cx : Cx),
    (visitSteps cx ss).1.st.stepsTy =
      cx.st.stepsTy.map (fun t => (ss.map (AL.C05E.stepM cx)).foldl (AL.Visit.addStep cx.lower) t) ∧
    (visitSteps cx ss).1.proj = cx.proj := by
  induction ss with
  | nil => intro cx; simp [visitSteps]
  | cons s rest ih =>
    intro cx
    simp only [visitSteps]
    obtain ⟨h1, h2⟩ := ih (visitStep cx s).1
    obtain ⟨a, _, _, _, b, _⟩ := AL.C05E.visitStep_scope cx s
    have hp := visitStep_proj cx s
    have hm : AL.C05E.stepM (visitStep cx s).1 = AL.C05E.stepM cx := by
      funext n; exact stepM_congr cx _ hp n
    refine ⟨?_, h2.trans hp⟩
    rw [h1, a, b, hm]
    cases cx.st.stepsTy with
    | none => rfl
    | some t => simp

/-- the rule's state when it reaches the step after the steps `pre` of job `n` -/
def stepCx (cx0 : Cx) (isNum : IsNumber) (jobs : List (String × Job)) (n : Job) (pre : List Step) : Cx :=
  (visitSteps (jobCxS cx0 isNum jobs n) pre).1

/-- **the state after ANY list `pre` of steps of job `n`**, as a record: `steps` is built from them, everything else is
as `VisitJobPre` had it -/
theorem stepCx_eq (cx0 : Cx) (isNum : IsNumber) (jobs : List (String × Job)) (n : Job) (pre : List Step) :
    stepCx cx0 isNum jobs n pre =
      { jobCx cx0 isNum jobs n with
        st := { (jobCx cx0 isNum jobs n).st with stepsTy := some (stepsAfter (jobCxS cx0 isNum jobs n) pre) } } := by
  unfold stepCx
  rw [AL.C05E.visitSteps_fst, (visitSteps_stepsTy pre _).1]
  rfl

theorem stepCx_scope (cx0 : Cx) (isNum : IsNumber) (jobs : List (String × Job)) (n : Job) (pre : List Step) :
    (stepCx cx0 isNum jobs n pre).st.stepsTy = some (stepsAfter (jobCxS cx0 isNum jobs n) pre) ∧
    (stepCx cx0 isNum jobs n pre).st.needsTy = (jobCx cx0 isNum jobs n).st.needsTy ∧
    (stepCx cx0 isNum jobs n pre).st.matrixTy = (jobCx cx0 isNum jobs n).st.matrixTy ∧
    (stepCx cx0 isNum jobs n pre).hdr = cx0.hdr ∧ (stepCx cx0 isNum jobs n pre).lower = cx0.lower := by
  rw [stepCx_eq, jobCx_eq]
  exact ⟨rfl, rfl, rfl, rfl, rfl⟩

/-- **a step is checked under the `steps` built from the steps BEFORE it** — with `needs` and `matrix` of the job — and
the steps after it do not change what is reported for it; `VisitJobPost` sees ALL steps -/
theorem job_step_scope (cx0 : Cx) (isNum : IsNumber) (jobs : List (String × Job)) (n : Job) (pre post : List Step) (s : Step)
    (hs : n.steps.getD [] = pre ++ s :: post) :
    (visitSteps (jobCxS cx0 isNum jobs n) (n.steps.getD [])).2 =
      (visitSteps (jobCxS cx0 isNum jobs n) pre).2 ++ (visitStep (stepCx cx0 isNum jobs n pre) s).2 ++
        (visitSteps (visitStep (stepCx cx0 isNum jobs n pre) s).1 post).2 ∧
    (stepCx cx0 isNum jobs n pre).st.stepsTy = some (stepsAfter (jobCxS cx0 isNum jobs n) pre) ∧
    (stepCx cx0 isNum jobs n pre).st.needsTy = (jobCx cx0 isNum jobs n).st.needsTy ∧
    (stepCx cx0 isNum jobs n pre).st.matrixTy = (jobCx cx0 isNum jobs n).st.matrixTy ∧
    (stepCx cx0 isNum jobs n pre).hdr = cx0.hdr ∧ (stepCx cx0 isNum jobs n pre).lower = cx0.lower := by
  refine ⟨?_, stepCx_scope cx0 isNum jobs n pre⟩
  rw [hs, (AL.C05E.visitSteps_prefix _ pre (s :: post)).1]
  simp only [visitSteps, List.append_assoc, stepCx]

/-- **job outputs and environment see all steps** of the job (and its `needs` / `matrix`): `jobCxPost` is `stepCx` at all
the steps -/
theorem jobCxPost_scope (cx0 : Cx) (isNum : IsNumber) (jobs : List (String × Job)) (n : Job) :
    (jobCxPost cx0 isNum jobs n).st.stepsTy = some (stepsAfter (jobCxS cx0 isNum jobs n) (n.steps.getD [])) ∧
    (jobCxPost cx0 isNum jobs n).st.needsTy = (jobCx cx0 isNum jobs n).st.needsTy ∧
    (jobCxPost cx0 isNum jobs n).st.matrixTy = (jobCx cx0 isNum jobs n).st.matrixTy ∧
    (jobCxPost cx0 isNum jobs n).hdr = cx0.hdr ∧ (jobCxPost cx0 isNum jobs n).lower = cx0.lower :=
  stepCx_scope cx0 isNum jobs n (n.steps.getD [])

/-- **which ids are in `steps` after the steps `ss`: exactly their (lower-cased) ids** -/
theorem stepsAfter_keys (cx : Cx) (ss : List Step) (x : String) :
    (Ty.lookup x (propsOf (stepsAfter cx ss))).isSome = true ↔ ∃ s ∈ ss, ∃ id, s.id = some id ∧ cx.lower id.value = x := by
  rw [stepsAfter, AL.Visit.stepsFold_obj]
  simp only [propsOf, Ty.hasKey_foldl x (AL.Visit.hasKey_stepProps cx.lower x), Ty.lookup, Option.isSome_none,
    Bool.false_eq_true, false_or, List.mem_map]
  constructor
  · rintro ⟨_, ⟨s, hs, rfl⟩, id, h1, h2⟩
    simp only [AL.C05E.stepM, Option.map_eq_some_iff] at h1
    obtain ⟨i, hi, rfl⟩ := h1
    exact ⟨s, hs, i, hi, h2⟩
  · rintro ⟨s, hs, id, h1, h2⟩
    exact ⟨_, ⟨s, hs, rfl⟩, id.value, by simp [AL.C05E.stepM, h1], h2⟩

/-- **`steps` is strict** (an unknown id is reported) as long as no id so far contains a placeholder -/
theorem stepsAfter_strict (cx : Cx) (ss : List Step)
    (h : ∀ s ∈ ss, ∀ id, s.id = some id → AL.Rules.containsExpr id = false) :
    ∃ ps, stepsAfter cx ss = .obj ps none := by
  apply AL.Visit.stepsFold_strict cx.lower (ss.map (AL.C05E.stepM cx)) []
  intro sm hsm hid
  simp only [List.mem_map] at hsm
  obtain ⟨s, hs, rfl⟩ := hsm
  simp only [AL.C05E.stepM] at hid ⊢
  cases hi : s.id with
  | none => rfl
  | some id => exact h s hs id hi

theorem addStepFold_loose (lower : String → String) : ∀ (ss : List AL.Visit.StepM) (ps : List (String × Ty)),
    ∃ ps', ss.foldl (AL.Visit.addStep lower) (.obj ps (some .any)) = .obj ps' (some .any) := by
  intro ss ps
  exact ⟨_, by rw [AL.Visit.stepsFold_obj, AL.Visit.foldl_stepMapped, ite_self]⟩

theorem addStepFold_obj (lower : String → String) : ∀ (ss : List AL.Visit.StepM) (ps : List (String × Ty)) (m : Option Ty),
    ∃ ps' m', ss.foldl (AL.Visit.addStep lower) (.obj ps m) = .obj ps' m' := by
  intro ss ps m
  exact ⟨_, _, AL.Visit.stepsFold_obj lower ss ps m⟩

/-- **an id given by an expression opens `steps`** for that step's successors and for `VisitJobPost`: the ids known so far
stay, the object becomes loose, no `steps.<id>` is reported any more -/
theorem stepsAfter_loose (cx : Cx) (ss : List Step) (s : Step) (id : Str) (hs : s ∈ ss) (hid : s.id = some id)
    (he : AL.Rules.containsExpr id = true) : ∃ ps, stepsAfter cx ss = .obj ps (some .any) := by
  rw [stepsAfter, AL.Visit.stepsFold_obj, AL.Visit.foldl_stepMapped, if_pos]
  · exact ⟨_, rfl⟩
  · exact List.any_eq_true.2 ⟨_, List.mem_map_of_mem hs, by simp [AL.C05E.stepM, hid, he]⟩

/-- the entry of a step in `steps` -/
def stepEntry (cx : Cx) (s : Step) : Ty :=
  .obj [("conclusion", .string), ("outcome", .string), ("outputs", (AL.C05E.stepM cx s).outputs)] none

theorem addStepFold_entry (lower : String → String) (x : String) :
    ∀ (ss : List AL.Visit.StepM) (ps : List (String × Ty)) (m : Option Ty),
      ∃ ps' m', ss.foldl (AL.Visit.addStep lower) (.obj ps m) = .obj ps' m' ∧
        ∀ t, Ty.lookup x ps' = some t → Ty.lookup x ps = some t ∨
          ∃ s ∈ ss, ∃ id, s.id = some id ∧ lower id = x ∧
            t = .obj [("conclusion", .string), ("outcome", .string), ("outputs", s.outputs)] none := by
  intro ss ps m
  refine ⟨_, _, AL.Visit.stepsFold_obj lower ss ps m, ?_⟩
  induction ss generalizing ps with
  | nil => exact fun t h => Or.inl h
  | cons s rest ih =>
    intro t ht
    rcases ih _ t ht with h | ⟨s', hs', id, h1, h2, h3⟩
    · -- bound before the rest was visited: by `s`, or before `s`
      unfold AL.Visit.stepProps at h
      cases hid : s.id with
      | none => rw [hid] at h; exact Or.inl h
      | some id0 =>
        rw [hid] at h
        simp only [lookup_setProp] at h
        by_cases hx : x = lower id0
        · simp only [hx, if_true, Option.some.injEq] at h
          exact Or.inr ⟨s, List.mem_cons_self .., id0, hid, hx.symm, h.symm⟩
        · simp only [hx, if_false] at h
          exact Or.inl h
    · exact Or.inr ⟨s', List.mem_cons_of_mem _ hs', id, h1, h2, h3⟩

/-- `steps.<id>` is `{conclusion, outcome : string, outputs : <the outputs of the action the step uses>}` of a step with that id -/
theorem stepsAfter_entry (cx : Cx) (ss : List Step) (x : String) (t : Ty)
    (h : Ty.lookup x (propsOf (stepsAfter cx ss)) = some t) :
    ∃ s ∈ ss, ∃ id, s.id = some id ∧ cx.lower id.value = x ∧ t = stepEntry cx s := by
  obtain ⟨ps', m', he, hall⟩ := addStepFold_entry cx.lower x (ss.map (AL.C05E.stepM cx)) [] none
  have he' : stepsAfter cx ss = .obj ps' m' := he
  rw [he'] at h
  rcases hall t h with h0 | ⟨sm, hsm, id, h1, h2, h3⟩
  · simp [Ty.lookup] at h0
  · simp only [List.mem_map] at hsm
    obtain ⟨s, hs, rfl⟩ := hsm
    simp only [AL.C05E.stepM, Option.map_eq_some_iff] at h1
    obtain ⟨i, hi, rfl⟩ := h1
    exact ⟨s, hs, i, hi, h2, h3⟩

/-! ### steps on concrete data -/

private def stA : Step := { id := some (str "A"), exec := .run { run := some (str "echo") }, pos := p0 }
private def stB : Step := { id := some (str "b"), exec := .action { uses := some (str "actions/github-script@v7") }, pos := p0 }
private def stN : Step := { pos := p0 }
private def stX : Step := { id := some (str "x-${{ matrix.os }}"), pos := p0 }
private def jSteps : Job := { id := str "j", steps := some [stA, stN, stB], pos := p0 }

/-- after `A`, (no id), `b`: exactly `a` and `b`, strict; a `run:` step has `{string => string}` outputs, github-script is open -/
example : stepsAfter cxL [stA, stN, stB] =
    .obj [("a", .obj [("conclusion", .string), ("outcome", .string), ("outputs", .obj [] (some .string))] none),
          ("b", .obj [("conclusion", .string), ("outcome", .string), ("outputs", .obj [] (some .any))] none)] none :=
  tyEq_sound _ _ (by decide +kernel)
/-- … and `b` is checked with only `a` in scope -/
example : jSteps.steps.getD [] = [stA, stN] ++ stB :: [] ∧
    stepsAfter cxL [stA, stN] =
      .obj [("a", .obj [("conclusion", .string), ("outcome", .string), ("outputs", .obj [] (some .string))] none)] none :=
  ⟨rfl, tyEq_sound _ _ (by decide +kernel)⟩
theorem stABN_literal : ∀ s ∈ [stA, stN, stB], ∀ id, s.id = some id → AL.Rules.containsExpr id = false := by
  intro s hs id hid
  simp only [List.mem_cons, List.not_mem_nil, or_false] at hs
  rcases hs with rfl | rfl | rfl
  · cases hid; decide +kernel
  · cases hid
  · cases hid; decide +kernel
example : ∀ s ∈ [stA, stN, stB], ∀ id, s.id = some id → AL.Rules.containsExpr id = false := stABN_literal
/-- an id with a placeholder: the known id stays, the object is open from there on -/
example : stX ∈ [stA, stX, stN] ∧ stX.id = some (str "x-${{ matrix.os }}") ∧
    AL.Rules.containsExpr (str "x-${{ matrix.os }}") = true := ⟨by simp, rfl, by decide +kernel⟩
example : stepsAfter cxL [stA, stX, stN] =
    .obj [("a", .obj [("conclusion", .string), ("outcome", .string), ("outputs", .obj [] (some .string))] none),
          ("x-${{ matrix.os }}", .obj [("conclusion", .string), ("outcome", .string), ("outputs", .obj [] (some .string))] none)]
      (some .any) := tyEq_sound _ _ (by decide +kernel)

/-! ## 3. `matrix` -/

/-! ### `Merge` of two objects: the union of the keys; strict iff both are -/

theorem mem_keys_iff_lookup (x : String) : ∀ (qs : List (String × Ty)), x ∈ qs.map (·.1) ↔ (Ty.lookup x qs).isSome = true
  | [] => by simp [Ty.lookup]
  | (k, v) :: rest => by
    simp only [List.map_cons, List.mem_cons, Ty.lookup]
    by_cases h : k = x
    · simp [h]
    · have h' : ¬ x = k := fun e => h e.symm
      simp [h, h', mem_keys_iff_lookup x rest]

theorem mergeProps_shape (x : String) : ∀ (qs props : List (String × Ty)) (mapped : Option Ty),
    ∃ ps' m', Ty.mergeProps props mapped qs = .obj ps' m' ∧
      ((Ty.lookup x ps').isSome = true ↔ ((Ty.lookup x props).isSome = true ∨ x ∈ qs.map (·.1))) ∧
      (m' = none ↔ mapped = none) := by
  intro qs
  induction qs with
  | nil => intro props mapped; exact ⟨props, mapped, rfl, by simp, Iff.rfl⟩
  | cons q rest ih =>
    intro props mapped
    obtain ⟨n, r⟩ := q
    rw [Ty.mergeProps_cons]
    cases hl : Ty.lookup n props with
    | some l =>
      simp only
      obtain ⟨ps', m', e, hk, hm⟩ := ih (Ty.setProp n (Ty.merge l r) props) mapped
      refine ⟨ps', m', e, ?_, hm⟩
      rw [hk, Ty.hasKey_setProp]
      simp only [List.map_cons, List.mem_cons]
      exact or_assoc
    | none =>
      simp only
      obtain ⟨ps', m', e, hk, hm⟩ := ih (Ty.setProp n r props) (Ty.mergeMapped mapped r)
      refine ⟨ps', m', e, ?_, ?_⟩
      · rw [hk, Ty.hasKey_setProp]
        simp only [List.map_cons, List.mem_cons]
        exact or_assoc
      · rw [hm]
        cases mapped <;> simp [Ty.mergeMapped]

/-- `Merge` of two objects is an object with the union of the keys, strict iff both are strict -/
theorem merge_obj_shape (ps qs : List (String × Ty)) (m m' : Option Ty) :
    ∃ ps' mm, Ty.merge (.obj ps m) (.obj qs m') = .obj ps' mm ∧
      (∀ x, (Ty.lookup x ps').isSome = true ↔ ((Ty.lookup x ps).isSome = true ∨ (Ty.lookup x qs).isSome = true)) ∧
      (mm = none ↔ (m = none ∧ m' = none)) := by
  rw [Ty.merge_obj_obj]
  by_cases h1 : (ps.isEmpty && Ty.isSomeAny m') = true
  · simp only [h1, if_true]
    simp only [Bool.and_eq_true, List.isEmpty_iff, Ty.isSomeAny_iff] at h1
    obtain ⟨rfl, rfl⟩ := h1
    exact ⟨qs, some .any, rfl, fun x => by simp [Ty.lookup], by simp⟩
  · simp only [h1, Bool.false_eq_true, if_false]
    by_cases h2 : (qs.isEmpty && Ty.isSomeAny m) = true
    · simp only [h2, if_true]
      simp only [Bool.and_eq_true, List.isEmpty_iff, Ty.isSomeAny_iff] at h2
      obtain ⟨rfl, rfl⟩ := h2
      exact ⟨ps, some .any, rfl, fun x => by simp [Ty.lookup], by simp⟩
    · simp only [h2, Bool.false_eq_true, if_false]
      have hm0 : Ty.mapped0 m m' = none ↔ (m = none ∧ m' = none) := by
        cases m <;> cases m' <;> simp [Ty.mapped0]
      -- `mergeProps_shape` has `x` outside its `∃`: take the object at one `x`, then identify it with the object at each `x`
      obtain ⟨ps', mm, e, _, hm⟩ := mergeProps_shape "" qs ps (Ty.mapped0 m m')
      refine ⟨ps', mm, e, fun x => ?_, hm.trans hm0⟩
      obtain ⟨ps'', mm', e', hk, _⟩ := mergeProps_shape x qs ps (Ty.mapped0 m m')
      rw [e] at e'
      cases e'
      rw [hk, mem_keys_iff_lookup]

/-- `Merge` of an object with anything else is `any` -/
theorem merge_obj_nonobj (ps : List (String × Ty)) (m : Option Ty) (r : Ty) (h : ∀ qs m', r ≠ .obj qs m') :
    Ty.merge (.obj ps m) r = .any := by
  apply Ty.merge_obj_left
  cases r with
  | obj qs m' => exact absurd rfl (h qs m')
  | _ => rfl

/-! ### the rows -/

theorem lookup_propsFold_isSome (x : String) : ∀ (l acc : List (String × Ty)),
    (Ty.lookup x (AL.Visit.propsFold acc l)).isSome = true ↔ ((Ty.lookup x acc).isSome = true ∨ x ∈ l.map (·.1)) := by
  intro l acc
  exact Ty.hasKey_foldl_setProp (·.1) (fun _ kv => kv.2) x l acc

/-- the properties the rows loop of `checkMatrix` builds: key ↦ the type `checkMatrixRow` gives the row -/
def rowsProps (cx : Cx) (isNum : IsNumber) (rows : List (String × MatrixRow)) : List (String × Ty) :=
  AL.Visit.propsFold [] (rows.map fun kv => (kv.1, (rowTy cx isNum kv.2).1))

theorem rowsFold_fst (cx : Cx) (isNum : IsNumber) : ∀ (rows : List (String × MatrixRow)) (acc : List (String × Ty) × List Diag),
    (rows.foldl (fun (acc : List (String × Ty) × List Diag) kv =>
      let t := rowTy cx isNum kv.2
      (Ty.setProp kv.1 t.1 acc.1, acc.2 ++ t.2)) acc).1 =
    AL.Visit.propsFold acc.1 (rows.map fun kv => (kv.1, (rowTy cx isNum kv.2).1)) := by
  intro rows acc
  rw [Ty.foldl_pair (mk := Prod.mk) (f := fun ps kv => Ty.setProp kv.1 (rowTy cx isNum kv.2).1 ps)
    (g := fun ds kv => ds ++ (rowTy cx isNum kv.2).2) (fun _ _ _ => rfl) rows acc.1 acc.2, AL.Visit.propsFold, List.foldl_map]

theorem rowsProps_keys (cx : Cx) (isNum : IsNumber) (rows : List (String × MatrixRow)) (x : String) :
    (Ty.lookup x (rowsProps cx isNum rows)).isSome = true ↔ x ∈ rows.map (·.1) := by
  unfold rowsProps
  rw [lookup_propsFold_isSome]
  simp [Ty.lookup, List.map_map, Function.comp_def]

/-- `matrix.<key>` has the type `checkMatrixRow` computes for a row with that key (the last one, were a key repeated) -/
theorem rowsProps_entry (cx : Cx) (isNum : IsNumber) (rows : List (String × MatrixRow)) (x : String) (t : Ty)
    (h : Ty.lookup x (rowsProps cx isNum rows) = some t) : ∃ kv ∈ rows, kv.1 = x ∧ t = (rowTy cx isNum kv.2).1 := by
  unfold rowsProps at h
  rw [AL.Visit.lookup_propsFold] at h
  cases hf : (rows.map fun kv => (kv.1, (rowTy cx isNum kv.2).1)).reverse.find? (·.1 = x) with
  | none => rw [hf] at h; simp [Ty.lookup] at h
  | some e =>
    rw [hf] at h
    simp only [Option.some.injEq] at h
    have hm := List.mem_of_find?_eq_some hf
    have hp := List.find?_some hf
    simp only [List.mem_reverse, List.mem_map] at hm
    obtain ⟨kv, hkv, rfl⟩ := hm
    exact ⟨kv, hkv, by simpa using hp, h.symm⟩

/-- a row given by an expression does NOT open `matrix`: its key is a key like the others; only the type of that key is
the element type of the expression's array type — `any` when that is not statically an array -/
theorem rowTy_expr (cx : Cx) (isNum : IsNumber) (r : MatrixRow) (e : Str) (he : r.expr = some e) :
    (rowTy cx isNum r).1 =
      match (checkArrayExpression cx (some e) "matrix row" "jobs.<job_id>.strategy").1 with
      | some (.arr el _) => el
      | _ => .any := by
  simp only [rowTy, he]
  generalize (checkArrayExpression cx (some e) "matrix row" "jobs.<job_id>.strategy").1 = o
  cases o with
  | none => rfl
  | some t => cases t <;> rfl

/-! ### `checkMatrix`, by the shape of the matrix -/

theorem checkMatrix_lit (cx : Cx) (isNum : IsNumber) (m : Matrix) (he : m.expr = none) :
    (checkMatrix cx isNum m).1 =
      match m.incl with
      | none => .obj (rowsProps cx isNum (m.rows.getD [])) none
      | some inc =>
        match inc.expr with
        | some e =>
          (match (checkOneExpression cx (some e) "include" "jobs.<job_id>.strategy").1 with
           | some (.arr el _) =>
             (match Ty.merge (.obj (rowsProps cx isNum (m.rows.getD [])) none) el with
              | .obj ps mm => .obj ps mm
              | _ => emptyLoose)
           | _ => emptyLoose)
        | none =>
          ((inc.combinations.getD []).foldl (includeCombo cx isNum) (.obj (rowsProps cx isNum (m.rows.getD [])) none, [])).1 := by
  simp only [checkMatrix, he, rowsProps, ← rowsFold_fst cx isNum (m.rows.getD []) ([], [])]
  cases m.incl with
  | none => rfl
  | some inc =>
    simp only
    cases inc.expr with
    | none => rfl
    | some e => rfl

/-- **rows only: `matrix` is a strict object with exactly the row keys** -/
theorem matrix_rows_only (cx : Cx) (isNum : IsNumber) (m : Matrix) (he : m.expr = none) (hi : m.incl = none) :
    ∃ ps, (checkMatrix cx isNum m).1 = .obj ps none ∧
      ∀ x, (Ty.lookup x ps).isSome = true ↔ x ∈ (m.rows.getD []).map (·.1) := by
  rw [checkMatrix_lit cx isNum m he, hi]
  exact ⟨_, rfl, rowsProps_keys cx isNum _⟩

/-! ### `include:` entries -/

/-- the keys a literal `include` entry assigns -/
def comboKeys (c : MatrixCombination) : List String :=
  match c.expr with
  | some _ => []
  | none => (c.assigns.getD []).map (·.1)

/-- the type of an `include` entry given by an expression (`none`: the expression has a diagnostic of its own) -/
def comboExprTy (cx : Cx) (e : Str) : Option Ty :=
  (checkOneExpression cx (some e) "matrix combination at element of include section" "jobs.<job_id>.strategy").1

theorem assignsFold_obj (cx : Cx) (isNum : IsNumber) :
    ∀ (as : List (String × MatrixAssign)) (ps : List (String × Ty)) (m : Option Ty) (ds : List Diag),
      ∃ ps' ds', as.foldl (fun (a : Ty × List Diag) kv =>
          let t := rawTy cx isNum kv.2.value
          match a.1 with
          | .obj ps m =>
            let ty' := match Ty.lookup kv.1 ps with
              | some old => Ty.merge old t.1
              | none => t.1
            (.obj (Ty.setProp kv.1 ty' ps) m, a.2 ++ t.2)
          | o => (o, a.2 ++ t.2)) (.obj ps m, ds) = (.obj ps' m, ds') ∧
        ∀ x, (Ty.lookup x ps').isSome = true ↔ ((Ty.lookup x ps).isSome = true ∨ x ∈ as.map (·.1)) := by
  intro as
  induction as with
  | nil => intro ps m ds; exact ⟨ps, ds, rfl, fun x => by simp⟩
  | cons kv rest ih =>
    intro ps m ds
    simp only [List.foldl_cons]
    obtain ⟨ps', ds', e, hk⟩ := ih (Ty.setProp kv.1 (match Ty.lookup kv.1 ps with
              | some old => Ty.merge old (rawTy cx isNum kv.2.value).1
              | none => (rawTy cx isNum kv.2.value).1) ps) m (ds ++ (rawTy cx isNum kv.2.value).2)
    refine ⟨ps', ds', e, fun x => ?_⟩
    rw [hk x, Ty.hasKey_setProp]
    simp only [List.map_cons, List.mem_cons]
    exact or_assoc

/-- a literal `include` entry: the object keeps its `mapped` part and gains exactly the assigned keys -/
theorem includeCombo_lit (cx : Cx) (isNum : IsNumber) (c : MatrixCombination) (hc : c.expr = none)
    (ps : List (String × Ty)) (m : Option Ty) (ds : List Diag) :
    ∃ ps' ds', includeCombo cx isNum (.obj ps m, ds) c = (.obj ps' m, ds') ∧
      ∀ x, (Ty.lookup x ps').isSome = true ↔ ((Ty.lookup x ps).isSome = true ∨ x ∈ comboKeys c) := by
  simp only [includeCombo, hc, comboKeys]
  exact assignsFold_obj cx isNum (c.assigns.getD []) ps m ds

/-- an `include` entry given by an expression: skipped when the expression has a diagnostic; merged when its type is an
object (the keys of that type are added, the result is strict iff both are); else the object is loosened -/
theorem includeCombo_expr (cx : Cx) (isNum : IsNumber) (c : MatrixCombination) (e : Str) (hc : c.expr = some e)
    (ps : List (String × Ty)) (m : Option Ty) (ds : List Diag) :
    (includeCombo cx isNum (.obj ps m, ds) c).1 =
      match comboExprTy cx e with
      | none => .obj ps m
      | some (.obj qs m') => Ty.merge (.obj ps m) (.obj qs m')
      | some _ => .obj ps (some .any) := by
  simp only [includeCombo, hc, comboExprTy]
  generalize (checkOneExpression cx (some e) "matrix combination at element of include section" "jobs.<job_id>.strategy") = r
  obtain ⟨r1, r2⟩ := r
  cases r1 with
  | none => rfl
  | some ty =>
    simp only
    by_cases ho : ∃ qs m', ty = .obj qs m'
    · obtain ⟨qs, m', rfl⟩ := ho
      obtain ⟨ps', mm, em, _, _⟩ := merge_obj_shape ps qs m m'
      simp only [em]
    · have hne : ∀ qs m', ty ≠ .obj qs m' := fun qs m' h => ho ⟨qs, m', h⟩
      rw [merge_obj_nonobj ps m ty hne]
      cases ty with
      | obj qs m' => exact absurd rfl (hne qs m')
      | _ => rfl

/-- one `include` entry, whatever it is: an object stays an object, no key is lost, the keys of a literal entry are
there afterwards, a loose object stays loose -/
theorem includeCombo_step (cx : Cx) (isNum : IsNumber) (c : MatrixCombination)
    (ps : List (String × Ty)) (m : Option Ty) (ds : List Diag) :
    ∃ ps' m', (includeCombo cx isNum (.obj ps m, ds) c).1 = .obj ps' m' ∧
      (∀ x, ((Ty.lookup x ps).isSome = true ∨ x ∈ comboKeys c) → (Ty.lookup x ps').isSome = true) ∧
      (m ≠ none → m' ≠ none) := by
  cases hc : c.expr with
  | none =>
    obtain ⟨ps', ds', e, hk⟩ := includeCombo_lit cx isNum c hc ps m ds
    exact ⟨ps', m, by rw [e], fun x h => (hk x).2 h, id⟩
  | some e =>
    rw [includeCombo_expr cx isNum c e hc]
    have hkeys : comboKeys c = [] := by simp [comboKeys, hc]
    simp only [hkeys, List.not_mem_nil, or_false]
    cases hr : comboExprTy cx e with
    | none => exact ⟨ps, m, rfl, fun x h => h, id⟩
    | some ty =>
      by_cases ho : ∃ qs m', ty = .obj qs m'
      · obtain ⟨qs, m', rfl⟩ := ho
        obtain ⟨ps', mm, em, hk, hm⟩ := merge_obj_shape ps qs m m'
        refine ⟨ps', mm, em, fun x h => (hk x).2 (Or.inl h), fun hne hmm => hne (hm.1 hmm).1⟩
      · refine ⟨ps, some .any, ?_, fun x h => h, fun _ h => nomatch h⟩
        cases ty with
        | obj qs m' => exact absurd ⟨qs, m', rfl⟩ ho
        | _ => rfl

theorem eq_mk_of_fst {α β : Type} {p : α × β} {a : α} (h : p.1 = a) : p = (a, p.2) := by rw [← h]

theorem includeFold_step (cx : Cx) (isNum : IsNumber) : ∀ (cs : List MatrixCombination)
    (ps : List (String × Ty)) (m : Option Ty) (ds : List Diag),
    ∃ ps' m', (cs.foldl (includeCombo cx isNum) (.obj ps m, ds)).1 = .obj ps' m' ∧
      (∀ x, ((Ty.lookup x ps).isSome = true ∨ ∃ c ∈ cs, x ∈ comboKeys c) → (Ty.lookup x ps').isSome = true) ∧
      (m ≠ none → m' ≠ none) := by
  intro cs
  induction cs with
  | nil => intro ps m ds; exact ⟨ps, m, rfl, fun x h => by simpa using h, id⟩
  | cons c rest ih =>
    intro ps m ds
    simp only [List.foldl_cons]
    obtain ⟨ps1, m1, e1, hk1, hm1⟩ := includeCombo_step cx isNum c ps m ds
    rw [eq_mk_of_fst e1]
    obtain ⟨ps2, m2, e2, hk2, hm2⟩ := ih ps1 m1 (includeCombo cx isNum (.obj ps m, ds) c).2
    refine ⟨ps2, m2, e2, fun x h => ?_, fun h => hm2 (hm1 h)⟩
    rcases h with h | ⟨c', hc', hx⟩
    · exact hk2 x (Or.inl (hk1 x (Or.inl h)))
    · rcases List.mem_cons.1 hc' with rfl | hc'
      · exact hk2 x (Or.inl (hk1 x (Or.inr hx)))
      · exact hk2 x (Or.inr ⟨c', hc', hx⟩)

/-- the `include:` loop over literal entries only: `mapped` is kept, the keys are exactly the old ones plus the assigned -/
theorem includeFold_lit (cx : Cx) (isNum : IsNumber) : ∀ (cs : List MatrixCombination), (∀ c ∈ cs, c.expr = none) →
    ∀ (ps : List (String × Ty)) (m : Option Ty) (ds : List Diag),
    ∃ ps', (cs.foldl (includeCombo cx isNum) (.obj ps m, ds)).1 = .obj ps' m ∧
      ∀ x, (Ty.lookup x ps').isSome = true ↔ ((Ty.lookup x ps).isSome = true ∨ ∃ c ∈ cs, x ∈ comboKeys c) := by
  intro cs
  induction cs with
  | nil => intro _ ps m ds; exact ⟨ps, rfl, fun x => by simp⟩
  | cons c rest ih =>
    intro hall ps m ds
    simp only [List.foldl_cons]
    obtain ⟨ps1, ds1, e1, hk1⟩ := includeCombo_lit cx isNum c (hall c (List.mem_cons_self ..)) ps m ds
    rw [e1]
    obtain ⟨ps2, e2, hk2⟩ := ih (fun c' hc' => hall c' (List.mem_cons_of_mem _ hc')) ps1 m ds1
    refine ⟨ps2, e2, fun x => ?_⟩
    rw [hk2 x, hk1 x]
    constructor
    · rintro ((h | h) | ⟨c', hc', hx⟩)
      · exact Or.inl h
      · exact Or.inr ⟨c, List.mem_cons_self .., h⟩
      · exact Or.inr ⟨c', List.mem_cons_of_mem _ hc', hx⟩
    · rintro (h | ⟨c', hc', hx⟩)
      · exact Or.inl (Or.inl h)
      · rcases List.mem_cons.1 hc' with rfl | hc'
        · exact Or.inl (Or.inr hx)
        · exact Or.inr ⟨c', hc', hx⟩

/-! ### the theorems about `checkMatrix` -/

/-- **literal rows and literal `include` entries: `matrix` is a strict object whose keys are exactly the row keys plus the
keys the `include` entries assign** (an include-only key is in scope) -/
theorem matrix_literal (cx : Cx) (isNum : IsNumber) (m : Matrix) (inc : MatrixCombinations) (he : m.expr = none)
    (hi : m.incl = some inc) (hie : inc.expr = none) (hall : ∀ c ∈ inc.combinations.getD [], c.expr = none) :
    ∃ ps, (checkMatrix cx isNum m).1 = .obj ps none ∧
      ∀ x, (Ty.lookup x ps).isSome = true ↔
        (x ∈ (m.rows.getD []).map (·.1) ∨ ∃ c ∈ inc.combinations.getD [], x ∈ (c.assigns.getD []).map (·.1)) := by
  rw [checkMatrix_lit cx isNum m he, hi]
  simp only [hie]
  obtain ⟨ps, e, hk⟩ := includeFold_lit cx isNum (inc.combinations.getD []) hall (rowsProps cx isNum (m.rows.getD [])) none []
  refine ⟨ps, e, fun x => ?_⟩
  rw [hk x, rowsProps_keys]
  constructor
  · rintro (h | ⟨c, hc, hx⟩)
    · exact Or.inl h
    · refine Or.inr ⟨c, hc, ?_⟩
      simpa [comboKeys, hall c hc] using hx
  · rintro (h | ⟨c, hc, hx⟩)
    · exact Or.inl h
    · refine Or.inr ⟨c, hc, ?_⟩
      simpa [comboKeys, hall c hc] using hx

/-- `include:` as a list, entries of any kind: `matrix` is an object in which every row key and every key of a literal
entry is defined (an entry given by an expression never removes a key) -/
theorem matrix_include_keys_present (cx : Cx) (isNum : IsNumber) (m : Matrix) (inc : MatrixCombinations) (he : m.expr = none)
    (hi : m.incl = some inc) (hie : inc.expr = none) :
    ∃ ps mm, (checkMatrix cx isNum m).1 = .obj ps mm ∧
      ∀ x, (x ∈ (m.rows.getD []).map (·.1) ∨ ∃ c ∈ inc.combinations.getD [], x ∈ comboKeys c) →
        (Ty.lookup x ps).isSome = true := by
  rw [checkMatrix_lit cx isNum m he, hi]
  simp only [hie]
  obtain ⟨ps, mm, e, hk, _⟩ := includeFold_step cx isNum (inc.combinations.getD []) (rowsProps cx isNum (m.rows.getD [])) none []
  refine ⟨ps, mm, e, fun x h => hk x ?_⟩
  rcases h with h | h
  · exact Or.inl ((rowsProps_keys cx isNum _ x).2 h)
  · exact Or.inr h

/-- **an `include` entry given by an expression opens `matrix`** — unless the expression has a diagnostic of its own or
its type is statically a strict object: the result is a loose object, no `matrix.<key>` is reported -/
theorem matrix_include_entry_expr_opens (cx : Cx) (isNum : IsNumber) (m : Matrix) (inc : MatrixCombinations)
    (he : m.expr = none) (hi : m.incl = some inc) (hie : inc.expr = none)
    (pre post : List MatrixCombination) (c : MatrixCombination) (e : Str) (ty : Ty)
    (hcs : inc.combinations.getD [] = pre ++ c :: post) (hc : c.expr = some e)
    (hty : comboExprTy cx e = some ty) (hns : ∀ qs, ty ≠ .obj qs none) :
    ∃ ps mt, (checkMatrix cx isNum m).1 = .obj ps (some mt) := by
  rw [checkMatrix_lit cx isNum m he, hi]
  simp only [hie, hcs, List.foldl_append, List.foldl_cons]
  obtain ⟨ps1, m1, e1, _, _⟩ := includeFold_step cx isNum pre (rowsProps cx isNum (m.rows.getD [])) none []
  rw [eq_mk_of_fst e1]
  generalize (pre.foldl (includeCombo cx isNum) (.obj (rowsProps cx isNum (m.rows.getD [])) none, [])).2 = A2
  have hstep : ∃ ps2 mt2, (includeCombo cx isNum (.obj ps1 m1, A2) c).1 = .obj ps2 (some mt2) := by
    rw [includeCombo_expr cx isNum c e hc, hty]
    by_cases ho : ∃ qs m', ty = .obj qs m'
    · obtain ⟨qs, m', rfl⟩ := ho
      obtain ⟨ps', mm, em, _, hm⟩ := merge_obj_shape ps1 qs m1 m'
      simp only [em]
      cases mm with
      | some mt => exact ⟨ps', mt, rfl⟩
      | none => exact absurd (hm.1 rfl).2 (fun h => hns qs (by rw [h]))
    · refine ⟨ps1, .any, ?_⟩
      cases ty with
      | obj qs m' => exact absurd ⟨qs, m', rfl⟩ ho
      | _ => rfl
  obtain ⟨ps2, mt2, e2⟩ := hstep
  rw [eq_mk_of_fst e2]
  obtain ⟨ps3, m3, e3, _, hm3⟩ := includeFold_step cx isNum post ps2 (some mt2) _
  rw [e3]
  cases m3 with
  | some mt => exact ⟨ps3, mt, rfl⟩
  | none => exact absurd rfl (hm3 (by simp))

/-- **`include: ${{ … }}`**: `matrix` is either the empty LOOSE object (nothing is reported — not even the row keys are
kept), or the expression is statically an array of objects and `matrix` is the merge of the rows object with the element
type: the row keys plus the element's keys, strict iff the element type is strict. (A bare disjunction; which case
holds for an array type is computed by `matrix_include_arr`.) -/
theorem matrix_include_expr (cx : Cx) (isNum : IsNumber) (m : Matrix) (inc : MatrixCombinations) (e : Str)
    (he : m.expr = none) (hi : m.incl = some inc) (hie : inc.expr = some e) :
    (checkMatrix cx isNum m).1 = .obj [] (some .any) ∨
    ∃ qs m' d ps mm, (checkOneExpression cx (some e) "include" "jobs.<job_id>.strategy").1 = some (.arr (.obj qs m') d) ∧
      (checkMatrix cx isNum m).1 = .obj ps mm ∧
      (∀ x, (Ty.lookup x ps).isSome = true ↔ (x ∈ (m.rows.getD []).map (·.1) ∨ (Ty.lookup x qs).isSome = true)) ∧
      (mm = none ↔ m' = none) := by
  rw [checkMatrix_lit cx isNum m he, hi]
  simp only [hie]
  cases hr : (checkOneExpression cx (some e) "include" "jobs.<job_id>.strategy").1 with
  | none => exact Or.inl rfl
  | some t =>
    cases t with
    | arr el d =>
      by_cases ho : ∃ qs m', el = .obj qs m'
      · obtain ⟨qs, m', rfl⟩ := ho
        obtain ⟨ps', mm, em, hk, hm⟩ := merge_obj_shape (rowsProps cx isNum (m.rows.getD [])) qs none m'
        refine Or.inr ⟨qs, m', d, ps', mm, rfl, by simp only [em], fun x => ?_, ?_⟩
        · rw [hk x, rowsProps_keys]
        · simpa using hm
      · have hne : ∀ qs m', el ≠ .obj qs m' := fun qs m' h => ho ⟨qs, m', h⟩
        left
        simp only [merge_obj_nonobj _ _ el hne]
        rfl
    | _ => exact Or.inl rfl

/-- … in the second case exactly: the rows object merged with the element type -/
theorem matrix_include_arr (cx : Cx) (isNum : IsNumber) (m : Matrix) (inc : MatrixCombinations) (e : Str) (el : Ty) (d : Bool)
    (he : m.expr = none) (hi : m.incl = some inc) (hie : inc.expr = some e)
    (hr : (checkOneExpression cx (some e) "include" "jobs.<job_id>.strategy").1 = some (.arr el d)) :
    (checkMatrix cx isNum m).1 =
      match Ty.merge (.obj (rowsProps cx isNum (m.rows.getD [])) none) el with
      | .obj ps mm => .obj ps mm
      | _ => emptyLoose := by
  rw [checkMatrix_lit cx isNum m he, hi]
  simp only [hie, hr]

/-- **`matrix: ${{ … }}`**: `matrix` is a LOOSE object (nothing is reported) unless the expression's type is statically a
strict object -/
theorem matrix_expr_open (cx : Cx) (isNum : IsNumber) (m : Matrix) (e : Str) (he : m.expr = some e)
    (hns : ∀ ps, (checkObjectExpression cx (some e) "matrix" "jobs.<job_id>.strategy").1 ≠ some (.obj ps none)) :
    ∃ ps mt, (checkMatrix cx isNum m).1 = .obj ps (some mt) := by
  simp only [checkMatrix, he, matrixExprTy]
  generalize (checkObjectExpression cx (some e) "matrix" "jobs.<job_id>.strategy").1 = o at hns
  cases o with
  | none => exact ⟨[], .any, rfl⟩
  | some t =>
    cases t with
    | obj ps mm =>
      cases mm with
      | none => exact absurd rfl (hns ps)
      | some mt => exact ⟨_, mt, rfl⟩
    | _ => exact ⟨[], .any, rfl⟩

/-- … and when it is (`fromJSON` of a constant, say), the matrix is that object without `include` / `exclude`, merged with
the element props of a static `include`; strict iff the object is -/
theorem matrix_expr_exact (cx : Cx) (isNum : IsNumber) (m : Matrix) (e : Str) (ps : List (String × Ty)) (mm : Option Ty)
    (he : m.expr = some e)
    (hs : (checkObjectExpression cx (some e) "matrix" "jobs.<job_id>.strategy").1 = some (.obj ps mm)) :
    (checkMatrix cx isNum m).1 = .obj (erase "exclude" (match Ty.lookup "include" ps with
      | some (.arr (.obj ips _) _) => mergeInclude (erase "include" ps) ips
      | some _ => erase "include" ps
      | none => ps)) mm := by
  simp only [checkMatrix, he, matrixExprTy, hs]
  rfl

/-- … so a strict object gives a STRICT matrix: references into it ARE reported -/
theorem matrix_expr_strict (cx : Cx) (isNum : IsNumber) (m : Matrix) (e : Str) (ps : List (String × Ty)) (he : m.expr = some e)
    (hs : (checkObjectExpression cx (some e) "matrix" "jobs.<job_id>.strategy").1 = some (.obj ps none)) :
    ∃ ps', (checkMatrix cx isNum m).1 = .obj ps' none :=
  ⟨_, matrix_expr_exact cx isNum m e ps none he hs⟩

/-! ### `matrix` on concrete data -/

/-- one placeholder under `jobs.<job_id>.strategy` in a workflow without header (`cxL`) -/
theorem strategy_placeholder (what : String) (s : Str) (idx off : Nat) (e : E) (t : Ty)
    (h1 : AL.Proc.indexOf AL.Proc.open3 (bytesOf s.value) 0 = some idx)
    (h2 : parsedIs AL.PW.asciiLower ((bytesOf s.value).drop (idx + 3)) e off = true) (h3 : off ≠ 0)
    (h4 : AL.Proc.indexOf AL.Proc.open3 (((bytesOf s.value).drop (idx + 3)).drop off) 0 = none)
    (hc : (check Γs e).errs = [] ∧ (check Γs e).ty = t) :
    checkOneExpression cxL (some s) what "jobs.<job_id>.strategy" = (some t, []) := by
  rw [checkOneExpression_one cxL what "jobs.<job_id>.strategy" s idx off e h1 h2 h3 h4 hc.1]
  exact congrArg (fun x => (some x, [])) hc.2

/-- the four hypotheses of `strategy_placeholder` as one test, so that the bytes of the string are computed once -/
def onePlaceholder (s : String) (idx off : Nat) (e : E) : Bool :=
  AL.Proc.indexOf AL.Proc.open3 (bytesOf s) 0 == some idx && parsedIs AL.PW.asciiLower ((bytesOf s).drop (idx + 3)) e off &&
    off != 0 && AL.Proc.indexOf AL.Proc.open3 (((bytesOf s).drop (idx + 3)).drop off) 0 == none

theorem strategy_one (what : String) (s : Str) (idx off : Nat) (e : E) (t : Ty) (h : onePlaceholder s.value idx off e = true)
    (hc : (check Γs e).errs = [] ∧ (check Γs e).ty = t) :
    checkOneExpression cxL (some s) what "jobs.<job_id>.strategy" = (some t, []) := by
  simp only [onePlaceholder, Bool.and_eq_true, beq_iff_eq, bne_iff_ne] at h
  exact strategy_placeholder what s idx off e t h.1.1.1 h.1.1.2 h.1.2 h.2 hc

/-- `s` is the one placeholder `${{ fromJSON(vars.<x>) }}` (folded; the lexer stops at `off`), and `vars.<x>` is not reported -/
abbrev VarsText (s : String) (off : Nat) (x : String) : Prop :=
  onePlaceholder s 0 off (.call "fromJSON" [.objDeref (.var "vars") x]) = true ∧ checkConfigVar Γs x = []

theorem strategy_vars (what : String) (s : Str) (off : Nat) (x : String) (h : VarsText s.value off x) :
    checkOneExpression cxL (some s) what "jobs.<job_id>.strategy" = (some .any, []) :=
  strategy_one what s 0 off _ .any h.1 (check_fromJSON_vars x h.2)

/-- the four texts of this kind in the examples below and in AL.Props.C06Rule: lexed and parsed here and nowhere else -/
theorem vars_texts : VarsText "${{ fromJSON(vars.M) }}" 20 "m" ∧ VarsText "${{ fromJSON(vars.LIST) }}" 23 "list" ∧
    VarsText "${{ fromJSON(vars.ENTRY) }}" 24 "entry" ∧ VarsText "${{ fromJSON(vars.INC) }}" 22 "inc" := by decide +kernel

theorem checkObjectExpression_ok (cx : Cx) (s : Str) (what key : String) (t : Ty)
    (h : checkOneExpression cx (some s) what key = (some t, [])) (ho : isObjOrAny t = true) :
    checkObjectExpression cx (some s) what key = (some t, []) := by
  simp [checkObjectExpression, mustBe, h, ho]

theorem checkArrayExpression_ok (cx : Cx) (s : Str) (what key : String) (t : Ty)
    (h : checkOneExpression cx (some s) what key = (some t, [])) (ho : isArrOrAny t = true) :
    checkArrayExpression cx (some s) what key = (some t, []) := by
  simp [checkArrayExpression, mustBe, h, ho]

private def rowOs : String × MatrixRow := ("os", ⟨some (str "os"), some [.str "linux" p0, .str "mac" p0], none⟩)
private def rowVer : String × MatrixRow := ("ver", ⟨some (str "ver"), some [.str "1" p0], none⟩)
private def rowDyn : String × MatrixRow := ("dyn", ⟨some (str "dyn"), none, some (str "${{ fromJSON(vars.LIST) }}")⟩)
private def cLit : MatrixCombination := ⟨some [("os", ⟨str "os", .str "win" p0⟩), ("extra", ⟨str "extra", .str "true" p0⟩)], none⟩
private def cDyn : MatrixCombination := ⟨none, some (str "${{ fromJSON(vars.ENTRY) }}")⟩
private def incLit : MatrixCombinations := ⟨some [cLit], none⟩
private def incDynEntry : MatrixCombinations := ⟨some [cLit, cDyn], none⟩
private def incDyn : MatrixCombinations := ⟨none, some (str "${{ fromJSON(vars.INC) }}")⟩
private def incStatic : MatrixCombinations := ⟨none, some (str "${{ fromJSON('[{\"extra\":1}]') }}")⟩
private def mRows : Matrix := { rows := some [rowOs, rowVer], pos := p0 }
private def mLit : Matrix := { rows := some [rowOs, rowVer], incl := some incLit, pos := p0 }
private def mDynEntry : Matrix := { rows := some [rowOs], incl := some incDynEntry, pos := p0 }
private def mIncDyn : Matrix := { rows := some [rowOs], incl := some incDyn, pos := p0 }
private def mIncStatic : Matrix := { rows := some [rowOs], incl := some incStatic, pos := p0 }
private def mExprDyn : Matrix := { rows := none, expr := some (str "${{ fromJSON(vars.M) }}"), pos := p0 }
private def mExprStatic : Matrix :=
  { rows := none, expr := some (str "${{ fromJSON('{\"os\":[\"linux\"],\"include\":[{\"extra\":1}]}') }}"), pos := p0 }
private def noNum : IsNumber := fun _ => false

/-- rows only: strict, the two row keys -/
example : (checkMatrix cxL noNum mRows).1 = .obj [("os", .string), ("ver", .string)] none :=
  tyEq_sound _ _ (by decide +kernel)
example : mRows.expr = none ∧ mRows.incl = none := ⟨rfl, rfl⟩
/-- rows and a literal include entry: the include-only key `extra` is in scope, the object is strict -/
example : (checkMatrix cxL noNum mLit).1 = .obj [("extra", .bool), ("os", .string), ("ver", .string)] none :=
  tyEq_sound _ _ (by decide +kernel)
example : mLit.expr = none ∧ mLit.incl = some incLit ∧ incLit.expr = none ∧ ∀ c ∈ incLit.combinations.getD [], c.expr = none :=
  ⟨rfl, rfl, rfl, by intro c hc; simp only [incLit, Option.getD_some, List.mem_singleton] at hc; subst hc; rfl⟩

/-- `${{ fromJSON(vars.ENTRY) }}` as an include entry: type `any` -/
theorem cDyn_ty : comboExprTy cxL (str "${{ fromJSON(vars.ENTRY) }}") = some .any := by
  -- by rewriting: a term `congrArg Prod.fst _` makes the checkers run the scan to compare the two sides
  rw [comboExprTy, strategy_vars _ (str "${{ fromJSON(vars.ENTRY) }}") 24 "entry" vars_texts.2.2.1]

/-- an include entry that is an expression of unknown type opens the matrix (the hypotheses of
`matrix_include_entry_expr_opens` on `include: [{os: win, extra: true}, ${{ fromJSON(vars.ENTRY) }}]`) -/
example : ∃ ps mt, (checkMatrix cxL noNum mDynEntry).1 = .obj ps (some mt) :=
  matrix_include_entry_expr_opens cxL noNum mDynEntry incDynEntry rfl rfl rfl [cLit] [] cDyn _ .any rfl rfl cDyn_ty
    (fun _ h => nomatch h)

/-- a row given by an expression of unknown type: its key is there, of type `any`; the matrix stays STRICT -/
theorem rowDyn_ty : (rowTy cxL noNum rowDyn.2).1 = .any := by
  rw [rowTy_expr cxL noNum rowDyn.2 (str "${{ fromJSON(vars.LIST) }}") rfl,
    checkArrayExpression_ok cxL _ "matrix row" _ .any
      (strategy_vars _ (str "${{ fromJSON(vars.LIST) }}") 23 "list" vars_texts.2.1) rfl]
example : ∃ ps, (checkMatrix cxL noNum { rows := some [rowOs, rowDyn], pos := p0 }).1 = .obj ps none ∧
    Ty.lookup "dyn" ps = some .any ∧ (Ty.lookup "os" ps).isSome = true ∧ Ty.lookup "other" ps = none := by
  refine ⟨_, checkMatrix_lit cxL noNum _ rfl, ?_, ?_, ?_⟩
  · simp only [rowsProps, Option.getD_some, List.map, rowDyn_ty]
    rfl
  · exact (rowsProps_keys cxL noNum _ "os").2 (by decide)
  · cases h : Ty.lookup "other" (rowsProps cxL noNum [rowOs, rowDyn]) with
    | none => rfl
    | some t =>
      have := (rowsProps_keys cxL noNum [rowOs, rowDyn] "other").1 (by rw [h]; rfl)
      exact absurd this (by decide)

/-- `include: ${{ fromJSON(vars.INC) }}`: the empty loose object (the row key `os` is not even kept) -/
example : (checkMatrix cxL noNum mIncDyn).1 = .obj [] (some .any) := by
  refine (matrix_include_expr cxL noNum mIncDyn incDyn _ rfl rfl rfl).resolve_right ?_
  rintro ⟨qs, m', d, -, -, h, -⟩
  rw [strategy_vars "include" (str "${{ fromJSON(vars.INC) }}") 22 "inc" vars_texts.2.2.2] at h
  cases h
example : mIncDyn.expr = none ∧ mIncDyn.incl = some incDyn ∧ incDyn.expr = some (str "${{ fromJSON(vars.INC) }}") := ⟨rfl, rfl, rfl⟩

/-- `include: ${{ fromJSON('[{"extra":1}]') }}`: statically an array of strict objects — merged with the rows, STRICT:
`matrix.other` is reported although `include` is an expression -/
example : (checkMatrix cxL noNum mIncStatic).1 = .obj [("extra", .number), ("os", .string)] none := by
  rw [matrix_include_arr cxL noNum mIncStatic incStatic _ _ _ rfl rfl rfl (congrArg Prod.fst
    (strategy_one "include" (str "${{ fromJSON('[{\"extra\":1}]') }}") 0 29 (.call "fromJSON" [.str "[{\"extra\":1}]"])
      (.arr (.obj [("extra", .number)] none) false) (by decide +kernel)
      (check_fromJSON_lit "[{\"extra\":1}]" _ (by decide +kernel))))]
  exact tyEq_sound _ _ (by decide +kernel)

/-- `matrix: ${{ fromJSON(vars.M) }}` has type `any`, the hypothesis of `matrix_expr_open` -/
theorem mExprDyn_ty : (checkObjectExpression cxL (some (str "${{ fromJSON(vars.M) }}")) "matrix" "jobs.<job_id>.strategy").1 = some .any := by
  rw [checkObjectExpression_ok cxL _ "matrix" _ .any
      (strategy_vars _ (str "${{ fromJSON(vars.M) }}") 20 "m" vars_texts.1) rfl]
example : ∃ ps mt, (checkMatrix cxL noNum mExprDyn).1 = .obj ps (some mt) :=
  matrix_expr_open cxL noNum mExprDyn _ rfl (fun ps h => by rw [mExprDyn_ty] at h; cases h)

/-- **`matrix: ${{ fromJSON('{"os":["linux"],"include":[{"extra":1}]}') }}`: a STRICT object** — `matrix.other` IS reported
although the matrix is given by an expression (the last sentence of the property does not hold to the letter) -/
theorem mExprStatic_ty :
    (checkObjectExpression cxL (some (str "${{ fromJSON('{\"os\":[\"linux\"],\"include\":[{\"extra\":1}]}') }}")) "matrix"
      "jobs.<job_id>.strategy").1 =
    some (.obj [("include", .arr (.obj [("extra", .number)] none) false), ("os", .arr .string false)] none) := by
  rw [checkObjectExpression_ok cxL _ "matrix" _ _
      (strategy_one _ (str "${{ fromJSON('{\"os\":[\"linux\"],\"include\":[{\"extra\":1}]}') }}") 0 56
        (.call "fromJSON" [.str "{\"os\":[\"linux\"],\"include\":[{\"extra\":1}]}"]) _ (by decide +kernel)
        (check_fromJSON_lit "{\"os\":[\"linux\"],\"include\":[{\"extra\":1}]}"
          (.obj [("include", .arr (.obj [("extra", .number)] none) false), ("os", .arr .string false)] none) (by decide +kernel))) rfl]
theorem matrix_expr_static_is_strict :
    (checkMatrix cxL noNum mExprStatic).1 = .obj [("extra", .number), ("os", .arr .string false)] none := by
  -- through the general equation: unfolding `checkMatrix` at the literal leaves a `match` on the scan, which the checkers run
  rw [matrix_expr_exact cxL noNum mExprStatic _ _ _ rfl mExprStatic_ty]
  exact tyEq_sound _ _ (by decide +kernel)
example : ∃ ps', (checkMatrix cxL noNum mExprStatic).1 = .obj ps' none :=
  matrix_expr_strict cxL noNum mExprStatic _ _ rfl mExprStatic_ty

/-! ## 4. `inputs`, `secrets`: the header `on:` leaves, and what the checker is handed -/

theorem visitEvent_hdr (cx : Cx) (e : Ast.Event) :
    (visitEvent cx e).1.hdr = eventHdr cx.hdr e ∧ (visitEvent cx e).1.st = cx.st ∧ (visitEvent cx e).1.lower = cx.lower ∧
    (visitEvent cx e).1.jobsTy = cx.jobsTy ∧ (visitEvent cx e).1.proj = cx.proj := by
  rw [visitEvent_fst]
  exact ⟨rfl, rfl, rfl, rfl, rfl⟩

theorem visitEvents_hdr (es : List Ast.Event) : ∀ (cx : Cx),
    (visitEvents cx es).1.hdr = es.foldl eventHdr cx.hdr ∧ (visitEvents cx es).1.st = cx.st ∧
    (visitEvents cx es).1.lower = cx.lower ∧ (visitEvents cx es).1.jobsTy = cx.jobsTy ∧ (visitEvents cx es).1.proj = cx.proj := by
  intro cx
  rw [visitEvents_fst]
  exact ⟨rfl, rfl, rfl, rfl, rfl⟩

/-- the state under which `rule` checks the workflow-level strings and visits EVERY job -/
def ruleCx (lower : String → String) (proj : ProjView) (w : Workflow) : Cx :=
  (visitEvents { lower := lower, proj := proj } (w.on.getD [])).1

/-- `rule` is: the header's diagnostics, one `visitJob` per job — each from the SAME state `ruleCx` —, the rest -/
theorem rule_eq (lower : String → String) (isNum : IsNumber) (w : Workflow) (proj : ProjView) :
    ∃ hd tl, rule lower isNum w proj =
      hd ++ (w.jobs.getD []).flatMap (fun kv => visitJob (ruleCx lower proj w) isNum (w.jobs.getD []) kv.2) ++ tl :=
  ⟨_, _, rfl⟩

/-- **every job starts from the empty per-job state** (no `matrix`, `steps`, `needs` of another job), under the header of
`on:` and without `jobs` -/
theorem ruleCx_eq (lower : String → String) (proj : ProjView) (w : Workflow) :
    ruleCx lower proj w =
      { lower := lower, proj := proj, hdr := (w.on.getD []).foldl eventHdr ⟨none, none, none⟩ } :=
  visitEvents_fst (w.on.getD []) { lower := lower, proj := proj }

theorem ruleCx_scope (lower : String → String) (proj : ProjView) (w : Workflow) :
    (ruleCx lower proj w).st = ⟨none, none, none⟩ ∧
    (ruleCx lower proj w).hdr = (w.on.getD []).foldl eventHdr ⟨none, none, none⟩ ∧
    (ruleCx lower proj w).jobsTy = none ∧ (ruleCx lower proj w).lower = lower ∧ (ruleCx lower proj w).proj = proj := by
  rw [ruleCx_eq]
  exact ⟨rfl, rfl, rfl, rfl, rfl⟩

def isCall : Ast.Event → Bool | .call .. => true | _ => false
def isDispatch : Ast.Event → Bool | .dispatch .. => true | _ => false

/-- events other than `workflow_call` leave `callInputs` / `callSecrets` alone -/
theorem foldHdr_no_call : ∀ (es : List Ast.Event) (hdr : Header), (∀ e ∈ es, isCall e = false) →
    (es.foldl eventHdr hdr).callInputs = hdr.callInputs ∧ (es.foldl eventHdr hdr).callSecrets = hdr.callSecrets := by
  intro es hdr h
  refine List.foldlRecOn (motive := fun h' : Header => h'.callInputs = hdr.callInputs ∧ h'.callSecrets = hdr.callSecrets)
    es _ ⟨rfl, rfl⟩ ?_
  intro h' ih e he
  have he := h e he
  cases e with
  | call ins secs outs p => simp [isCall] at he
  | _ => exact ih

theorem foldHdr_no_dispatch : ∀ (es : List Ast.Event) (hdr : Header), (∀ e ∈ es, isDispatch e = false) →
    (es.foldl eventHdr hdr).dispatchInputs = hdr.dispatchInputs := by
  intro es hdr h
  refine List.foldlRecOn (motive := fun h' : Header => h'.dispatchInputs = hdr.dispatchInputs) es _ rfl ?_
  intro h' ih e he
  have he := h e he
  cases e with
  | dispatch ins p => simp [isDispatch] at he
  | _ => exact ih

/-- **without `workflow_call` and `workflow_dispatch` the header is empty**: `inputs` and `secrets` are the built-in ones -/
theorem header_plain (es : List Ast.Event) (h1 : ∀ e ∈ es, isCall e = false) (h2 : ∀ e ∈ es, isDispatch e = false) :
    es.foldl eventHdr ⟨none, none, none⟩ = ⟨none, none, none⟩ := by
  obtain ⟨a, b⟩ := foldHdr_no_call es ⟨none, none, none⟩ h1
  have c := foldHdr_no_dispatch es ⟨none, none, none⟩ h2
  generalize es.foldl eventHdr ⟨none, none, none⟩ = hdr at a b c
  cases hdr
  simp only at a b c
  rw [a, b, c]

/-- **`workflow_call`** (the last one, were there several): `callInputs` are exactly the declared inputs with `callTy` of
their declared type, `callSecrets` exactly the declared secrets (when the `secrets:` key is there) -/
theorem header_call (pre post : List Ast.Event) (ins : Option (List Ast.CallInput)) (secs : Option (List (String × CallSecret)))
    (outs : Option (List (String × CallOutput))) (p : AL.Yaml.Pos) (hpost : ∀ e ∈ post, isCall e = false) (hdr : Header) :
    ((pre ++ .call ins secs outs p :: post).foldl eventHdr hdr).callInputs =
      some ((ins.getD []).map fun i => (i.id, callTy i.type)) ∧
    (∀ ss, secs = some ss → ((pre ++ .call ins secs outs p :: post).foldl eventHdr hdr).callSecrets = some (ss.map (·.1))) ∧
    (secs = none → ((pre ++ .call ins secs outs p :: post).foldl eventHdr hdr).callSecrets = (pre.foldl eventHdr hdr).callSecrets) := by
  simp only [List.foldl_append, List.foldl_cons]
  obtain ⟨a, b⟩ := foldHdr_no_call post (eventHdr (pre.foldl eventHdr hdr) (.call ins secs outs p)) hpost
  refine ⟨by rw [a]; rfl, fun ss hs => by rw [b, hs]; rfl, fun hs => by rw [b, hs]; rfl⟩

/-- **`workflow_dispatch`**: `dispatchInputs` are exactly the declared inputs with `dispatchTy` of their declared type -/
theorem header_dispatch (pre post : List Ast.Event) (ins : Option (List (String × DispatchInput))) (p : AL.Yaml.Pos)
    (hpost : ∀ e ∈ post, isDispatch e = false) (hdr : Header) :
    ((pre ++ .dispatch ins p :: post).foldl eventHdr hdr).dispatchInputs =
      some ((ins.getD []).map fun kv => (kv.1, dispatchTy kv.2.type)) := by
  simp only [List.foldl_append, List.foldl_cons]
  rw [foldHdr_no_dispatch post _ hpost]
  rfl

/-! ### what the checker is handed (`mkEnv`, the model of `checkSemanticsOfExprNode`) -/

/-- the variables after the per-job state was put in -/
def stVars (st : St) : List (String × Ty) :=
  let v0 := AL.Gen.globalVars
  let v1 := match st.matrixTy with | some t => Ty.setProp "matrix" t v0 | none => v0
  let v2 := match st.stepsTy with | some t => Ty.setProp "steps" t v1 | none => v1
  match st.needsTy with | some t => Ty.setProp "needs" t v2 | none => v2

/-- … after `secrets` -/
def secVars (hdr : Header) (st : St) : List (String × Ty) :=
  match hdr.callSecrets with | some ns => Ty.setProp "secrets" (AL.Visit.secretsTy ns) (stVars st) | none => stVars st

/-- … after the `workflow_call` inputs -/
def callVars (hdr : Header) (st : St) : List (String × Ty) :=
  match hdr.callInputs with | some is => AL.Visit.updateInputs (secVars hdr st) (AL.Visit.objOf is) | none => secVars hdr st

theorem mkEnv_vars (lower : String → String) (hdr : Header) (jobsTy : Option Ty) (st : St) (key : String) :
    (mkEnv lower hdr jobsTy st key).vars =
      (let v6 := match hdr.dispatchInputs with
        | some is => AL.Visit.setGithubEventInputs (AL.Visit.updateInputs (callVars hdr st) (AL.Visit.objOf is)) (is.map (·.1))
        | none => callVars hdr st
       match jobsTy with | some t => Ty.setProp "jobs" t v6 | none => v6) := rfl

theorem lookup_updateInputs_ne (x : String) (hx : x ≠ "inputs") (vars : List (String × Ty)) (ty : Ty) :
    Ty.lookup x (AL.Visit.updateInputs vars ty) = Ty.lookup x vars := by
  unfold AL.Visit.updateInputs
  split
  · rw [lookup_setProp]; simp [hx]
  · rw [lookup_setProp]; simp [hx]
  · rfl

theorem lookup_setGithub_ne (x : String) (hx : x ≠ "github") (vars : List (String × Ty)) (ids : List String) :
    Ty.lookup x (AL.Visit.setGithubEventInputs vars ids) = Ty.lookup x vars := by
  unfold AL.Visit.setGithubEventInputs
  split
  · split
    · rw [lookup_setProp]; simp [hx]
    · rfl
  · rfl

/-- … after the `workflow_dispatch` inputs; `mkEnv` then adds `jobs` -/
def dispVars (hdr : Header) (st : St) : List (String × Ty) :=
  match hdr.dispatchInputs with
  | some is => AL.Visit.setGithubEventInputs (AL.Visit.updateInputs (callVars hdr st) (AL.Visit.objOf is)) (is.map (·.1))
  | none => callVars hdr st

theorem mkEnv_vars_disp (lower : String → String) (hdr : Header) (jobsTy : Option Ty) (st : St) (key : String) :
    (mkEnv lower hdr jobsTy st key).vars =
      match jobsTy with | some t => Ty.setProp "jobs" t (dispVars hdr st) | none => dispVars hdr st := rfl

/-- the two `inputs` stages write `inputs` and `github` only -/
theorem lookup_dispVars (x : String) (h2 : x ≠ "github") (h3 : x ≠ "inputs") (hdr : Header) (st : St) :
    Ty.lookup x (dispVars hdr st) = Ty.lookup x (secVars hdr st) := by
  unfold dispVars callVars
  cases hdr.dispatchInputs <;> cases hdr.callInputs <;>
    simp only [lookup_setGithub_ne x h2, lookup_updateInputs_ne x h3]

/-- the per-job contexts reach the checker untouched by the header: for `x` ∈ {`needs`, `steps`, `matrix`} -/
theorem lookup_mkEnv_st (x : String) (h1 : x ≠ "jobs") (h2 : x ≠ "github") (h3 : x ≠ "inputs") (h4 : x ≠ "secrets")
    (lower : String → String) (hdr : Header) (jobsTy : Option Ty) (st : St) (key : String) :
    Ty.lookup x (mkEnv lower hdr jobsTy st key).vars = Ty.lookup x (stVars st) := by
  have e : Ty.lookup x (dispVars hdr st) = Ty.lookup x (stVars st) := by
    rw [lookup_dispVars x h2 h3, secVars]
    cases hdr.callSecrets with
    | none => rfl
    | some ns => rw [lookup_setProp, if_neg h4]
  rw [mkEnv_vars_disp]
  cases jobsTy with
  | none => exact e
  | some t => rw [lookup_setProp, if_neg h1, e]

/-- **`needs` / `steps` / `matrix` as the checker sees them**: what the rule's state holds — and the built-in EMPTY STRICT
object where the state holds nothing (so, e.g., every `steps.<id>` in `jobs.<id>.if`, every `matrix.<key>` in a job
without matrix is reported) -/
theorem scope_st (lower : String → String) (hdr : Header) (jobsTy : Option Ty) (st : St) (key : String) :
    Ty.lookup "needs" (mkEnv lower hdr jobsTy st key).vars = some (st.needsTy.getD (.obj [] none)) ∧
    Ty.lookup "steps" (mkEnv lower hdr jobsTy st key).vars = some (st.stepsTy.getD (.obj [] none)) ∧
    Ty.lookup "matrix" (mkEnv lower hdr jobsTy st key).vars = some (st.matrixTy.getD (.obj [] none)) := by
  rw [lookup_mkEnv_st "needs" (by simp) (by simp) (by simp) (by simp),
    lookup_mkEnv_st "steps" (by simp) (by simp) (by simp) (by simp),
    lookup_mkEnv_st "matrix" (by simp) (by simp) (by simp) (by simp)]
  obtain ⟨m, s, n⟩ := st
  have g1 : Ty.lookup "needs" AL.Gen.globalVars = some (.obj [] none) := rfl
  have g2 : Ty.lookup "steps" AL.Gen.globalVars = some (.obj [] none) := rfl
  have g3 : Ty.lookup "matrix" AL.Gen.globalVars = some (.obj [] none) := rfl
  cases m <;> cases s <;> cases n <;> simp [stVars, lookup_setProp, g1, g2, g3]

theorem lookup_stVars_other (x : String) (h1 : x ≠ "needs") (h2 : x ≠ "steps") (h3 : x ≠ "matrix") (st : St) :
    Ty.lookup x (stVars st) = Ty.lookup x AL.Gen.globalVars := by
  obtain ⟨m, s, n⟩ := st
  cases m <;> cases s <;> cases n <;> simp [stVars, lookup_setProp, h1, h2, h3]

/-- `UpdateInputs` on the `inputs` variable itself -/
def updInputs (o ty : Ty) : Ty :=
  match o with
  | .obj [] none => ty
  | o => Ty.merge o ty

theorem lookup_updateInputs_self (vars : List (String × Ty)) (ty o : Ty) (h : Ty.lookup "inputs" vars = some o) :
    Ty.lookup "inputs" (AL.Visit.updateInputs vars ty) = some (updInputs o ty) := by
  unfold AL.Visit.updateInputs updInputs
  rw [h]
  cases o with
  | obj ps m =>
    cases ps with
    | nil => cases m <;> simp [lookup_setProp]
    | cons a r => simp [lookup_setProp]
  | _ => simp [lookup_setProp]

/-- the type of `inputs`, from the header -/
def inputsTyOf (hdr : Header) : Ty :=
  match hdr.callInputs, hdr.dispatchInputs with
  | none, none => .obj [] none
  | some is, none => AL.Visit.objOf is
  | none, some ds => AL.Visit.objOf ds
  | some is, some ds => updInputs (AL.Visit.objOf is) (AL.Visit.objOf ds)

/-- **`secrets` as the checker sees it**: `UpdateSecrets` of the declared names when `workflow_call` has a `secrets:` key,
else the built-in `{string => string}` (loose: no secret name is reported) -/
theorem scope_secrets (lower : String → String) (hdr : Header) (jobsTy : Option Ty) (st : St) (key : String) :
    Ty.lookup "secrets" (mkEnv lower hdr jobsTy st key).vars =
      some (match hdr.callSecrets with | some ns => AL.Visit.secretsTy ns | none => .obj [] (some .string)) := by
  have e : Ty.lookup "secrets" (dispVars hdr st) =
      some (match hdr.callSecrets with | some ns => AL.Visit.secretsTy ns | none => .obj [] (some .string)) := by
    rw [lookup_dispVars "secrets" (by simp) (by simp), secVars]
    cases hdr.callSecrets with
    | none => exact lookup_stVars_other "secrets" (by simp) (by simp) (by simp) st
    | some ns => rw [lookup_setProp, if_pos rfl]
  rw [mkEnv_vars_disp]
  cases jobsTy with
  | none => exact e
  | some t => rw [lookup_setProp, if_neg (by simp), e]

/-- **`inputs` as the checker sees it** -/
theorem scope_inputs (lower : String → String) (hdr : Header) (jobsTy : Option Ty) (st : St) (key : String) :
    Ty.lookup "inputs" (mkEnv lower hdr jobsTy st key).vars = some (inputsTyOf hdr) := by
  have e4 : Ty.lookup "inputs" (secVars hdr st) = some (.obj [] none) := by
    have e := lookup_stVars_other "inputs" (by simp) (by simp) (by simp) st
    unfold secVars
    cases hdr.callSecrets with
    | none => exact e
    | some ns => rw [lookup_setProp, if_neg (by simp)]; exact e
  -- each `inputs` stage that is there updates what the stage before left: first the empty strict object
  have e : Ty.lookup "inputs" (dispVars hdr st) = some (inputsTyOf hdr) := by
    unfold dispVars callVars inputsTyOf
    cases hdr.callInputs <;> cases hdr.dispatchInputs <;>
      simp only [lookup_setGithub_ne "inputs" (by simp), lookup_updateInputs_self _ _ _ e4,
        lookup_updateInputs_self _ _ _ (lookup_updateInputs_self _ _ _ e4), e4, updInputs]
  rw [mkEnv_vars_disp]
  cases jobsTy with
  | none => exact e
  | some t => rw [lookup_setProp, if_neg (by simp), e]

/-- **`jobs` as the checker sees it**: only where the rule puts it (the `workflow_call` output values); elsewhere the
variable does not exist -/
theorem scope_jobs (lower : String → String) (hdr : Header) (jobsTy : Option Ty) (st : St) (key : String) :
    Ty.lookup "jobs" (mkEnv lower hdr jobsTy st key).vars = jobsTy := by
  rw [mkEnv_vars_disp]
  cases jobsTy with
  | some t => rw [lookup_setProp, if_pos rfl]
  | none =>
    rw [lookup_dispVars "jobs" (by simp) (by simp), secVars]
    cases hdr.callSecrets with
    | none => exact lookup_stVars_other "jobs" (by simp) (by simp) (by simp) st
    | some ns => rw [lookup_setProp, if_neg (by simp)]; exact lookup_stVars_other "jobs" (by simp) (by simp) (by simp) st

/-! ### the content of `secrets` and `inputs` -/

theorem lookup_strings (x : String) : ∀ (ks : List String),
    Ty.lookup x (ks.map fun k => (k, Ty.string)) = if x ∈ ks then some .string else none
  | [] => rfl
  | k :: ks => by
    rw [List.map_cons, Ty.lookup, lookup_strings x ks]
    by_cases h : k = x
    · simp [h]
    · simp [h, Ne.symm h]

theorem lookup_autoSecrets (x : String) :
    Ty.lookup x [("actions_runner_debug", .string), ("actions_step_debug", .string), ("github_token", .string)] =
      if x ∈ ["actions_runner_debug", "actions_step_debug", "github_token"] then some .string else none :=
  lookup_strings x ["actions_runner_debug", "actions_step_debug", "github_token"]

/-- **`secrets` in a reusable workflow that declares secrets: a strict object with exactly the declared names plus the
three automatic ones** (`github_token`, `actions_runner_debug`, `actions_step_debug`), all strings -/
theorem secretsTy_exact (ns : List String) :
    ∃ ps, AL.Visit.secretsTy ns = .obj ps none ∧
      ∀ x, Ty.lookup x ps =
        if x ∈ ns ∨ x ∈ ["actions_runner_debug", "actions_step_debug", "github_token"] then some .string else none := by
  refine ⟨_, rfl, fun x => ?_⟩
  have := lookup_foldKeys (fun n : String => n) x ns
    [("actions_runner_debug", .string), ("actions_step_debug", .string), ("github_token", .string)]
  simp only [List.map_id'] at this
  rw [this, lookup_autoSecrets]
  by_cases h : x ∈ ns
  · simp only [h, if_true, true_or]
  · simp only [h, if_false, false_or]

/-- the declared type of `x` in a list of declarations (the last one, were an id repeated) -/
def declTy (l : List (String × Ty)) (x : String) : Option Ty := (l.reverse.find? (·.1 = x)).map (·.2)

theorem declTy_isSome (l : List (String × Ty)) (x : String) : (declTy l x).isSome = true ↔ x ∈ l.map (·.1) := by
  simp only [declTy, Option.isSome_map, List.find?_isSome, List.mem_reverse, List.mem_map, decide_eq_true_eq]

theorem objOf_lookup (l : List (String × Ty)) (x : String) : Ty.lookup x (AL.Visit.propsFold [] l) = declTy l x := by
  rw [AL.Visit.lookup_propsFold, declTy]
  cases l.reverse.find? (·.1 = x) <;> rfl

theorem lookup_none_of_not_mem (x : String) (qs : List (String × Ty)) (h : x ∉ qs.map (·.1)) : Ty.lookup x qs = none :=
  AL.Ty.lookup_eq_none_of_forall_ne fun a ha e => h (List.mem_map.2 ⟨a, ha, e⟩)

/-- the loop of `Merge` over the other object's (pairwise distinct) keys, key by key -/
theorem mergeProps_lookup (x : String) : ∀ (qs props : List (String × Ty)) (mapped : Option Ty), (qs.map (·.1)).Nodup →
    ∃ ps' m', Ty.mergeProps props mapped qs = .obj ps' m' ∧
      Ty.lookup x ps' =
        match Ty.lookup x qs with
        | some r => some (match Ty.lookup x props with | some l => Ty.merge l r | none => r)
        | none => Ty.lookup x props := by
  intro qs
  induction qs with
  | nil => intro props mapped _; exact ⟨props, mapped, rfl, rfl⟩
  | cons q rest ih =>
    intro props mapped hnd
    obtain ⟨n, r⟩ := q
    simp only [List.map_cons, List.nodup_cons] at hnd
    rw [Ty.mergeProps_cons]
    have hrest : Ty.lookup n rest = none := lookup_none_of_not_mem n rest hnd.1
    cases hl : Ty.lookup n props with
    | some l =>
      simp only
      obtain ⟨ps', m', e, hk⟩ := ih (Ty.setProp n (Ty.merge l r) props) mapped hnd.2
      refine ⟨ps', m', e, ?_⟩
      rw [hk, lookup_setProp]
      by_cases hx : x = n
      · subst hx
        simp [hrest, Ty.lookup, hl]
      · have hx' : ¬ n = x := fun e => hx e.symm
        simp only [hx, if_false, Ty.lookup, hx']
    | none =>
      simp only
      obtain ⟨ps', m', e, hk⟩ := ih (Ty.setProp n r props) (Ty.mergeMapped mapped r) hnd.2
      refine ⟨ps', m', e, ?_⟩
      rw [hk, lookup_setProp]
      by_cases hx : x = n
      · subst hx
        simp [hrest, Ty.lookup, hl]
      · have hx' : ¬ n = x := fun e => hx e.symm
        simp only [hx, if_false, Ty.lookup, hx']

theorem keySorted_nodup (ps : List (String × Ty)) (h : AL.Visit.KeySorted ps) : (ps.map (·.1)).Nodup := by
  unfold AL.Visit.KeySorted at h
  rw [List.Nodup, List.pairwise_map]
  exact h.imp (fun hlt e => by rw [e] at hlt; exact absurd hlt (String.lt_irrefl _))

/-- **`inputs`: a strict object with exactly the declared `workflow_call` inputs and the declared `workflow_dispatch`
inputs**, each of its declared type (`callTy` / `dispatchTy`, see `header_call` / `header_dispatch`); an input declared by
both events has the `Merge` of the two types. Without either event: the empty strict object — every `inputs.<name>` is
reported -/
theorem inputs_exact (hdr : Header) :
    ∃ ps, inputsTyOf hdr = .obj ps none ∧
      ∀ x, Ty.lookup x ps =
        match declTy (hdr.callInputs.getD []) x, declTy (hdr.dispatchInputs.getD []) x with
        | some l, some r => some (Ty.merge l r)
        | some l, none => some l
        | none, some r => some r
        | none, none => none := by
  unfold inputsTyOf
  cases hc : hdr.callInputs with
  | none =>
    cases hd : hdr.dispatchInputs with
    | none => exact ⟨[], rfl, fun x => by simp [declTy, Ty.lookup]⟩
    | some ds =>
      refine ⟨AL.Visit.propsFold [] ds, rfl, fun x => ?_⟩
      rw [objOf_lookup]
      simp only [Option.getD_none, Option.getD_some]
      have : declTy [] x = none := rfl
      rw [this]
      cases declTy ds x <;> rfl
  | some is =>
    cases hd : hdr.dispatchInputs with
    | none =>
      refine ⟨AL.Visit.propsFold [] is, rfl, fun x => ?_⟩
      rw [objOf_lookup]
      simp only [Option.getD_none, Option.getD_some]
      have : declTy [] x = none := rfl
      rw [this]
      cases declTy is x <;> rfl
    | some ds =>
      simp only [Option.getD_some, AL.Visit.objOf_eq]
      cases hps : AL.Visit.propsFold [] is with
      | nil =>
        refine ⟨AL.Visit.propsFold [] ds, rfl, fun x => ?_⟩
        have h1 : declTy is x = none := by rw [← objOf_lookup, hps]; rfl
        rw [h1, objOf_lookup]
        cases declTy ds x <;> rfl
      | cons a r =>
        have hm : updInputs (.obj (a :: r) none) (.obj (AL.Visit.propsFold [] ds) none) =
            Ty.mergeProps (a :: r) none (AL.Visit.propsFold [] ds) := by
          simp only [updInputs]
          rw [Ty.merge_obj_obj]
          simp [Ty.isSomeAny, Ty.mapped0]
        rw [hm]
        have hnd := keySorted_nodup _ (AL.Visit.objOf_keySorted ds)
        obtain ⟨ps0, m0, e0, _, hm0⟩ := mergeProps_shape "" (AL.Visit.propsFold [] ds) (a :: r) none
        have hm0' : m0 = none := hm0.2 rfl
        subst hm0'
        refine ⟨ps0, e0, fun x => ?_⟩
        obtain ⟨ps1, m1, e1, hk⟩ := mergeProps_lookup x (AL.Visit.propsFold [] ds) (a :: r) none hnd
        rw [e0] at e1
        cases e1
        rw [hk, ← hps, objOf_lookup, objOf_lookup]
        cases declTy ds x <;> cases declTy is x <;> rfl

/-- presence form: `inputs.<name>` is defined iff `<name>` is a declared `workflow_call` or `workflow_dispatch` input -/
theorem inputs_keys (hdr : Header) (x : String) :
    (Ty.lookup x (propsOf (inputsTyOf hdr))).isSome = true ↔
      (x ∈ (hdr.callInputs.getD []).map (·.1) ∨ x ∈ (hdr.dispatchInputs.getD []).map (·.1)) := by
  obtain ⟨ps, e, h⟩ := inputs_exact hdr
  rw [e]
  simp only [propsOf, h x, ← declTy_isSome]
  cases declTy (hdr.callInputs.getD []) x <;> cases declTy (hdr.dispatchInputs.getD []) x <;> simp

/-! ## 5. `jobs` (the values of `on.workflow_call.outputs`) -/

/-- what `jobs.<job>` is: a strict object with `outputs` ONLY -/
def jobEntry (j : Job) : Ty :=
  .obj [("outputs", if j.workflowCall.isSome then .obj [] (some .any) else declaredOutputsTy j)] none

theorem jobsTyOf_eq (jobs : List (String × Job)) :
    jobsTyOf jobs = .obj (AL.Visit.propsFold [] (jobs.map fun kv => (kv.1, jobEntry kv.2))) none := by
  unfold jobsTyOf AL.Visit.propsFold
  rw [List.foldl_map]
  rfl

/-- **`jobs` is a strict object with one entry per job of the workflow** (the last one, were a key repeated), each
`{outputs: …}`: the job's declared outputs (strict, see `declaredOutputs_exact`), or the empty LOOSE object for a job that
calls a reusable workflow -/
theorem jobs_exact (jobs : List (String × Job)) :
    ∃ ps, jobsTyOf jobs = .obj ps none ∧
      (∀ x, Ty.lookup x ps = (jobs.reverse.find? (·.1 = x)).map (fun kv => jobEntry kv.2)) ∧
      (∀ x, (Ty.lookup x ps).isSome = true ↔ x ∈ jobs.map (·.1)) := by
  refine ⟨_, jobsTyOf_eq jobs, fun x => ?_, fun x => ?_⟩
  · rw [objOf_lookup, declTy, ← List.map_reverse, List.find?_map]
    cases h : jobs.reverse.find? ((fun x_1 : String × Ty => decide (x_1.1 = x)) ∘ fun kv => (kv.1, jobEntry kv.2)) with
    | none =>
      have : jobs.reverse.find? (fun kv => decide (kv.1 = x)) = none := h
      simp [this]
    | some kv =>
      have : jobs.reverse.find? (fun kv => decide (kv.1 = x)) = some kv := h
      simp [this]
  · rw [lookup_propsFold_isSome]
    simp [Ty.lookup, List.map_map, Function.comp_def]

/-- `jobs.<job>.outputs.<name>` for a job with steps: defined iff `<name>` is a declared output of that job; and
**`jobs.<job>` has no prop `result`** (as a look-up in the object, not as a statement about `check`) -/
theorem jobEntry_exact (j : Job) (hcall : j.workflowCall = none) :
    ∃ os, jobEntry j = .obj [("outputs", .obj os none)] none ∧
      (∀ name, Ty.lookup name os = if name ∈ (j.outputs.getD []).map (·.1) then some .string else none) ∧
      Ty.lookup "result" [("outputs", Ty.obj os none)] = none := by
  obtain ⟨os, eo, ho⟩ := declaredOutputs_exact j
  refine ⟨os, by simp [jobEntry, hcall, eo], ho, by simp [Ty.lookup]⟩

theorem jobEntry_call (j : Job) (hcall : j.workflowCall.isSome = true) :
    jobEntry j = .obj [("outputs", .obj [] (some .any))] none := by
  simp [jobEntry, hcall]

/-- where `jobs` is in scope: exactly for the `workflow_call` output values, which are checked under the header of `on:`
with an EMPTY per-job state (no `needs`, `steps`, `matrix` of any job) -/
theorem rule_outputs_eq (lower : String → String) (isNum : IsNumber) (w : Workflow) (proj : ProjView) :
    ∃ hd, rule lower isNum w proj = hd ++
      (match findCallOutputs (w.on.getD []) with
       | some outs =>
         if outs.isEmpty || (w.jobs.getD []).isEmpty then []
         else outs.flatMap fun kv =>
           checkString { ruleCx lower proj w with jobsTy := some (jobsTyOf (w.jobs.getD [])) } kv.2.value
             "on.workflow_call.outputs.<output_id>.value"
       | none => []) :=
  ⟨_, rfl⟩

/-! ## 6. the property, end to end: "reported as undefined iff not in scope"

`envOf cx key` is the environment `checkSemanticsOfExprNode` builds in state `cx` for a string under workflow key `key`;
`ctx.name` with `ctx` available under `key` gets `prop-undefined` iff `name` is not a property of the scope object. -/

theorem envOf_vars (cx : Cx) (key : String) : (envOf cx key).vars = (mkEnv cx.lower cx.hdr cx.jobsTy cx.st key).vars := rfl

/-- the checker's verdict on `ctx.name` for a strict scope object -/
theorem reported_iff (cx : Cx) (key ctx name : String) (ps : List (String × Ty))
    (hl : Ty.lookup ctx (envOf cx key).vars = some (.obj ps none))
    (ha : (AL.Visit.availability key).1.contains (cx.lower ctx) = true) :
    AL.C05.undefinedProp name (check (envOf cx key) (.objDeref (.var ctx) name)) ↔ Ty.lookup name ps = none :=
  AL.C05.strict_scope_exact (envOf cx key) ctx name ps hl ha

/-- … and for a loose one: nothing is reported -/
theorem silent_of_loose (cx : Cx) (key ctx name : String) (ps : List (String × Ty)) (mt : Ty)
    (hl : Ty.lookup ctx (envOf cx key).vars = some (.obj ps (some mt)))
    (ha : (AL.Visit.availability key).1.contains (cx.lower ctx) = true) (hv : ctx ≠ "vars") :
    (check (envOf cx key) (.objDeref (.var ctx) name)).errs = [] :=
  AL.C05.open_scope_silent (envOf cx key) ctx name _ hl ha (Or.inr ⟨ps, mt, rfl⟩) hv

/-- **`needs.<name>` in a job** (any string checked by `VisitJobPre`, under a key where `needs` is available) **is reported
iff `<name>` is not a directly needed existing job** -/
theorem needs_reported_iff (cx0 : Cx) (isNum : IsNumber) (jobs : List (String × Job)) (n : Job) (key name : String)
    (ha : (AL.Visit.availability key).1.contains (cx0.lower "needs") = true) :
    AL.C05.undefinedProp name (check (envOf (jobCx cx0 isNum jobs n) key) (.objDeref (.var "needs") name)) ↔
      ¬ (name ∈ (n.needs.getD []).map (fun id => cx0.lower id.value) ∧ name ≠ cx0.lower n.id.value ∧ (lookupJob name jobs).isSome = true) := by
  obtain ⟨hn, _, _, _, hlow, _, _⟩ := jobCx_scope cx0 isNum jobs n
  obtain ⟨ps, e, h⟩ := needs_exact (cx0.proj.jobView n.id.value).outs cx0.lower jobs n
  have hl : Ty.lookup "needs" (envOf (jobCx cx0 isNum jobs n) key).vars = some (.obj ps none) := by
    rw [envOf_vars, (scope_st _ _ _ _ _).1, hn, e]; rfl
  rw [reported_iff _ key "needs" name ps hl (by rw [hlow]; exact ha), h name]
  by_cases hc : name ∈ (n.needs.getD []).map (fun id => cx0.lower id.value) ∧ name ≠ cx0.lower n.id.value
  · simp only [hc, and_self, if_true, Option.map_eq_none_iff, true_and, ne_eq, not_false_eq_true]
    cases lookupJob name jobs <;> simp
  · simp only [hc, if_false, true_iff]
    intro h'
    exact hc ⟨h'.1, h'.2.1⟩

/-- **`steps.<name>` in the step that follows the steps `pre` of a job** (see `job_step_scope`) **is reported iff no step
of `pre` — no EARLIER step — has that id** (ids without placeholder; with one, nothing is reported: `stepsAfter_loose`) -/
theorem steps_reported_iff (cx0 : Cx) (isNum : IsNumber) (jobs : List (String × Job)) (n : Job) (pre : List Step)
    (hlit : ∀ s' ∈ pre, ∀ id, s'.id = some id → AL.Rules.containsExpr id = false)
    (key name : String) (ha : (AL.Visit.availability key).1.contains (cx0.lower "steps") = true) :
    AL.C05.undefinedProp name (check (envOf (stepCx cx0 isNum jobs n pre) key) (.objDeref (.var "steps") name)) ↔
      ¬ ∃ s' ∈ pre, ∃ id, s'.id = some id ∧ cx0.lower id.value = name := by
  obtain ⟨h2, _, _, _, hlow⟩ := stepCx_scope cx0 isNum jobs n pre
  obtain ⟨ps, e⟩ := stepsAfter_strict (jobCxS cx0 isNum jobs n) pre hlit
  have hl : Ty.lookup "steps" (envOf (stepCx cx0 isNum jobs n pre) key).vars = some (.obj ps none) := by
    rw [envOf_vars, (scope_st _ _ _ _ _).2.1, h2, e]; rfl
  rw [reported_iff _ key "steps" name ps hl (by rw [hlow]; exact ha)]
  have hk := stepsAfter_keys (jobCxS cx0 isNum jobs n) pre name
  rw [e, (jobCxS_scope cx0 isNum jobs n).2.2.2.2.1] at hk
  simp only [propsOf] at hk
  rw [← hk]
  cases Ty.lookup name ps <;> simp

/-- … and in `VisitJobPost` (`outputs`, `environment`): iff NO step of the job has that id -/
theorem steps_reported_post_iff (cx0 : Cx) (isNum : IsNumber) (jobs : List (String × Job)) (n : Job)
    (hlit : ∀ s' ∈ n.steps.getD [], ∀ id, s'.id = some id → AL.Rules.containsExpr id = false)
    (key name : String) (ha : (AL.Visit.availability key).1.contains (cx0.lower "steps") = true) :
    AL.C05.undefinedProp name (check (envOf (jobCxPost cx0 isNum jobs n) key) (.objDeref (.var "steps") name)) ↔
      ¬ ∃ s' ∈ n.steps.getD [], ∃ id, s'.id = some id ∧ cx0.lower id.value = name :=
  steps_reported_iff cx0 isNum jobs n (n.steps.getD []) hlit key name ha

/-- **`secrets.<name>` in a reusable workflow that declares secrets is reported iff `<name>` is neither declared nor
automatic**; without the `secrets:` key nothing is reported -/
theorem secrets_reported_iff (cx : Cx) (ns : List String) (hsec : cx.hdr.callSecrets = some ns) (key name : String)
    (ha : (AL.Visit.availability key).1.contains (cx.lower "secrets") = true) :
    AL.C05.undefinedProp name (check (envOf cx key) (.objDeref (.var "secrets") name)) ↔
      ¬ (name ∈ ns ∨ name ∈ ["actions_runner_debug", "actions_step_debug", "github_token"]) := by
  obtain ⟨ps, e, h⟩ := secretsTy_exact ns
  have hl : Ty.lookup "secrets" (envOf cx key).vars = some (.obj ps none) := by
    rw [envOf_vars, scope_secrets, hsec]
    simp only [e]
  rw [reported_iff cx key "secrets" name ps hl ha, h name]
  by_cases hc : name ∈ ns ∨ name ∈ ["actions_runner_debug", "actions_step_debug", "github_token"]
  · simp only [hc, if_true, not_true_eq_false, reduceCtorEq]
  · simp only [hc, if_false, not_false_eq_true]

theorem secrets_silent (cx : Cx) (hsec : cx.hdr.callSecrets = none) (key name : String)
    (ha : (AL.Visit.availability key).1.contains (cx.lower "secrets") = true) :
    (check (envOf cx key) (.objDeref (.var "secrets") name)).errs = [] := by
  refine silent_of_loose cx key "secrets" name [] .string ?_ ha (by simp)
  rw [envOf_vars, scope_secrets, hsec]

/-- **`inputs.<name>` is reported iff `<name>` is not a declared input** of `workflow_call` / `workflow_dispatch` -/
theorem inputs_reported_iff (cx : Cx) (key name : String)
    (ha : (AL.Visit.availability key).1.contains (cx.lower "inputs") = true) :
    AL.C05.undefinedProp name (check (envOf cx key) (.objDeref (.var "inputs") name)) ↔
      ¬ (name ∈ (cx.hdr.callInputs.getD []).map (·.1) ∨ name ∈ (cx.hdr.dispatchInputs.getD []).map (·.1)) := by
  obtain ⟨ps, e, _⟩ := inputs_exact cx.hdr
  have hl : Ty.lookup "inputs" (envOf cx key).vars = some (.obj ps none) := by
    rw [envOf_vars, scope_inputs, e]
  have hk := inputs_keys cx.hdr name
  rw [e] at hk
  simp only [propsOf] at hk
  rw [reported_iff cx key "inputs" name ps hl ha, ← hk]
  cases Ty.lookup name ps <;> simp

/-- **`matrix.<name>` in a job with a literal matrix is reported iff `<name>` is neither a row key nor assigned by an
`include` entry** -/
theorem matrix_reported_iff (cx0 : Cx) (isNum : IsNumber) (jobs : List (String × Job)) (n : Job) (m : Matrix)
    (inc : MatrixCombinations) (hm : matrixOf n = some m) (he : m.expr = none)
    (hi : m.incl = some inc) (hie : inc.expr = none) (hall : ∀ c ∈ inc.combinations.getD [], c.expr = none)
    (key name : String) (ha : (AL.Visit.availability key).1.contains (cx0.lower "matrix") = true) :
    AL.C05.undefinedProp name (check (envOf (jobCx cx0 isNum jobs n) key) (.objDeref (.var "matrix") name)) ↔
      ¬ (name ∈ (m.rows.getD []).map (·.1) ∨ ∃ c ∈ inc.combinations.getD [], name ∈ (c.assigns.getD []).map (·.1)) := by
  obtain ⟨_, hmx, _, _, hlow, _, _⟩ := jobCx_scope cx0 isNum jobs n
  rw [hm] at hmx
  obtain ⟨ps, e, hk⟩ := matrix_literal (jobCx1 cx0 jobs n) isNum m inc he hi hie hall
  have hl : Ty.lookup "matrix" (envOf (jobCx cx0 isNum jobs n) key).vars = some (.obj ps none) := by
    rw [envOf_vars, (scope_st _ _ _ _ _).2.2, hmx]
    simp only [e, Option.getD_some]
  rw [reported_iff _ key "matrix" name ps hl (by rw [hlow]; exact ha), ← hk name]
  cases Ty.lookup name ps <;> simp

/-! ### concrete instances for sections 4 – 6 (and `includeCombo_expr_failed` of §3) -/

private def evPush : Ast.Event := .webhook { hook := str "push", pos := p0 }
private def evCron : Ast.Event := .schedule [str "0 0 * * *"] p0
private def evDispatch : Ast.Event :=
  .dispatch (some [("tag", ⟨str "tag", none, none, none, .string, none⟩), ("dry", ⟨str "dry", none, none, none, .boolean, none⟩)]) p0
private def evCall : Ast.Event :=
  .call (some [{ name := str "tag", type := .string, id := "tag" }, { name := str "count", type := .number, id := "count" }])
    (some [("token", { name := str "token" })]) none p0
private def evCallNoSecrets : Ast.Event := .call (some [{ name := str "tag", type := .string, id := "tag" }]) none none p0
private def exOn : List Ast.Event := [evPush, evDispatch, evCall, evCron]
private def exHdr : Header := exOn.foldl eventHdr ⟨none, none, none⟩

example : ∀ e ∈ [evPush, evCron], isCall e = false ∧ isDispatch e = false := by
  intro e he
  simp only [List.mem_cons, List.not_mem_nil, or_false] at he
  rcases he with rfl | rfl <;> exact ⟨rfl, rfl⟩
example : exOn = [evPush, evDispatch] ++ evCall :: [evCron] ∧ (∀ e ∈ [evCron], isCall e = false) ∧
    exOn = [evPush] ++ evDispatch :: [evCall, evCron] ∧ (∀ e ∈ [evCall, evCron], isDispatch e = false) := by
  refine ⟨rfl, ?_, rfl, ?_⟩
  · intro e he; simp only [List.mem_singleton] at he; subst he; rfl
  · intro e he
    simp only [List.mem_cons, List.not_mem_nil, or_false] at he
    rcases he with rfl | rfl <;> rfl
/-- the header of `on: {push, workflow_dispatch: {tag: string, dry: boolean}, workflow_call: {tag: string, count: number; secrets: token}, schedule}` -/
example : exHdr.callInputs = some [("tag", .string), ("count", .number)] ∧
    exHdr.dispatchInputs = some [("tag", .string), ("dry", .bool)] ∧ exHdr.callSecrets = some ["token"] := ⟨rfl, rfl, rfl⟩
/-- … `inputs` is the union of the two, strict; `secrets` the declared one plus the automatic three -/
example : inputsTyOf exHdr = .obj [("count", .number), ("dry", .bool), ("tag", .string)] none :=
  tyEq_sound _ _ (by decide +kernel)
example : AL.Visit.secretsTy ["token"] =
    .obj [("actions_runner_debug", .string), ("actions_step_debug", .string), ("github_token", .string), ("token", .string)] none :=
  tyEq_sound _ _ (by decide +kernel)
/-- `workflow_call` without `secrets:`: the header has no secrets — `secrets` stays `{string => string}` -/
example : ([evCallNoSecrets].foldl eventHdr ⟨none, none, none⟩).callSecrets = none := rfl

private def cxW : Cx := { lower := AL.PW.asciiLower, hdr := exHdr }
private def keyRun : String := "jobs.<job_id>.steps.run"

example : ∀ c ∈ ["needs", "steps", "matrix", "inputs", "secrets"],
    (AL.Visit.availability keyRun).1.contains (AL.PW.asciiLower c) = true := available_run

/-- `secrets.other` / `inputs.other` are reported, `secrets.token` / `secrets.github_token` / `inputs.dry` are not -/
example : AL.C05.undefinedProp "other" (check (envOf cxW keyRun) (.objDeref (.var "secrets") "other")) ∧
    ¬ AL.C05.undefinedProp "token" (check (envOf cxW keyRun) (.objDeref (.var "secrets") "token")) ∧
    ¬ AL.C05.undefinedProp "github_token" (check (envOf cxW keyRun) (.objDeref (.var "secrets") "github_token")) :=
  have S := fun name => secrets_reported_iff cxW ["token"] rfl keyRun name (available_run _ (by simp))
  ⟨(S "other").2 (by simp), fun h => (S "token").1 h (by simp), fun h => (S "github_token").1 h (by simp)⟩
example : AL.C05.undefinedProp "other" (check (envOf cxW keyRun) (.objDeref (.var "inputs") "other")) ∧
    ¬ AL.C05.undefinedProp "dry" (check (envOf cxW keyRun) (.objDeref (.var "inputs") "dry")) :=
  have I := fun name => inputs_reported_iff cxW keyRun name (available_run _ (by simp))
  ⟨(I "other").2 (by decide), fun h => (I "dry").1 h (by decide)⟩
/-- without `workflow_call` secrets nothing is reported -/
example : (check (envOf cxL keyRun) (.objDeref (.var "secrets") "anything")).errs = [] :=
  secrets_silent cxL rfl keyRun "anything" (available_run _ (by simp))

/-- **`needs.build` in `deploy` IS reported**: `deploy` needs `test`, `test` needs `build` — nothing transitive;
`needs.test` is not reported -/
example : AL.C05.undefinedProp "build" (check (envOf (jobCx cxL noNum exJobs jDeploy) keyRun) (.objDeref (.var "needs") "build")) ∧
    ¬ AL.C05.undefinedProp "test" (check (envOf (jobCx cxL noNum exJobs jDeploy) keyRun) (.objDeref (.var "needs") "test")) :=
  have N := fun name => needs_reported_iff cxL noNum exJobs jDeploy keyRun name (available_run _ (by simp))
  ⟨(N "build").2 (by decide +kernel), fun h => (N "test").1 h (by decide +kernel)⟩

/-- in step `b` of `[A, (no id), b]`: `steps.a` is fine, `steps.b` (the step itself) is reported; in the job's `outputs`
both are fine, `steps.c` is reported -/
example : jSteps.steps.getD [] = [stA, stN] ++ stB :: [] ∧
    AL.C05.undefinedProp "b" (check (envOf (stepCx cxL noNum exJobs jSteps [stA, stN]) keyRun) (.objDeref (.var "steps") "b")) ∧
    ¬ AL.C05.undefinedProp "a" (check (envOf (stepCx cxL noNum exJobs jSteps [stA, stN]) keyRun) (.objDeref (.var "steps") "a")) ∧
    ¬ AL.C05.undefinedProp "b" (check (envOf (jobCxPost cxL noNum exJobs jSteps) "jobs.<job_id>.outputs.<output_id>")
        (.objDeref (.var "steps") "b")) ∧
    AL.C05.undefinedProp "c" (check (envOf (jobCxPost cxL noNum exJobs jSteps) "jobs.<job_id>.outputs.<output_id>")
        (.objDeref (.var "steps") "c")) := by
  have hlit := stABN_literal
  have hlit2 : ∀ s' ∈ [stA, stN], ∀ id, s'.id = some id → AL.Rules.containsExpr id = false :=
    fun s' hs' => hlit s' (List.mem_of_mem_take (i := 2) hs')
  refine ⟨rfl, ?_, ?_, ?_, ?_⟩
  · refine (steps_reported_iff cxL noNum exJobs jSteps [stA, stN] hlit2 keyRun "b" (available_run _ (by simp))).2 ?_
    rintro ⟨s', hs', id, h1, h2⟩
    simp only [List.mem_cons, List.not_mem_nil, or_false] at hs'
    rcases hs' with rfl | rfl
    · cases h1; revert h2; decide +kernel
    · cases h1
  · intro h
    exact (steps_reported_iff cxL noNum exJobs jSteps [stA, stN] hlit2 keyRun "a" (available_run _ (by simp))).1 h
      ⟨stA, by simp, str "A", rfl, by decide +kernel⟩
  · intro h
    exact (steps_reported_post_iff cxL noNum exJobs jSteps hlit _ "b" available_job_outputs).1 h
      ⟨stB, by simp [jSteps], str "b", rfl, by decide +kernel⟩
  · refine (steps_reported_post_iff cxL noNum exJobs jSteps hlit _ "c" available_job_outputs).2 ?_
    rintro ⟨s', hs', id, h1, h2⟩
    simp only [jSteps, Option.getD_some, List.mem_cons, List.not_mem_nil, or_false] at hs'
    rcases hs' with rfl | rfl | rfl
    · cases h1; revert h2; decide +kernel
    · cases h1
    · cases h1; revert h2; decide +kernel

private def jMat : Job := { id := str "m", strategy := some { matrix := some mLit, pos := p0 }, pos := p0 }
/-- with `matrix: {os: […], ver: […], include: [{os: win, extra: true}]}`: `matrix.extra` (include only) is fine,
`matrix.nope` is reported -/
example : matrixOf jMat = some mLit ∧
    ¬ AL.C05.undefinedProp "extra" (check (envOf (jobCx cxL noNum exJobs jMat) keyRun) (.objDeref (.var "matrix") "extra")) ∧
    AL.C05.undefinedProp "nope" (check (envOf (jobCx cxL noNum exJobs jMat) keyRun) (.objDeref (.var "matrix") "nope")) := by
  have hall : ∀ c ∈ incLit.combinations.getD [], c.expr = none := by
    intro c hc; simp only [incLit, Option.getD_some, List.mem_singleton] at hc; subst hc; rfl
  refine ⟨rfl, ?_, ?_⟩
  · intro h
    exact (matrix_reported_iff cxL noNum exJobs jMat mLit incLit rfl rfl rfl rfl hall keyRun "extra" (available_run _ (by simp))).1 h
      (Or.inr ⟨cLit, by simp [incLit], by decide⟩)
  · refine (matrix_reported_iff cxL noNum exJobs jMat mLit incLit rfl rfl rfl rfl hall keyRun "nope" (available_run _ (by simp))).2 ?_
    rintro (h | ⟨c, hc, hx⟩)
    · revert h; decide
    · simp only [incLit, Option.getD_some, List.mem_singleton] at hc
      subst hc
      revert hx; decide

/-- `jobs`: one entry per job, `outputs` only — `jobs.build.result` is not defined -/
example : jobsTyOf [("build", jBuild), ("call", jCall)] =
    .obj [("build", .obj [("outputs", .obj [("art", .string), ("ver", .string)] none)] none),
          ("call", .obj [("outputs", .obj [] (some .any))] none)] none := tyEq_sound _ _ (by decide +kernel)
example : jBuild.workflowCall = none ∧ jCall.workflowCall.isSome = true := ⟨rfl, rfl⟩

/-- an `include` entry whose expression has a diagnostic of its own (so it is reported anyway) leaves `matrix` as it was —
in particular strict -/
theorem includeCombo_expr_failed (cx : Cx) (isNum : IsNumber) (c : MatrixCombination) (e : Str) (hc : c.expr = some e)
    (hf : comboExprTy cx e = none) (ps : List (String × Ty)) (m : Option Ty) (ds : List Diag) :
    (includeCombo cx isNum (.obj ps m, ds) c).1 = .obj ps m := by
  rw [includeCombo_expr cx isNum c e hc, hf]

/-! ### remaining hypotheses, on the data above -/

example : ∃ t, Ty.lookup "a" (propsOf (stepsAfter cxL [stA, stN, stB])) = some t :=
  Option.isSome_iff_exists.1 (by decide +kernel)
example : ∃ t, Ty.lookup "os" (rowsProps cxL noNum [rowOs, rowVer]) = some t :=
  Option.isSome_iff_exists.1 (by decide +kernel)
example : cLit.expr = none ∧ cDyn.expr = some (str "${{ fromJSON(vars.ENTRY) }}") := ⟨rfl, rfl⟩
example : ∀ qs m', Ty.string ≠ .obj qs m' := fun _ _ h => nomatch h
example : mDynEntry.expr = none ∧ mDynEntry.incl = some incDynEntry ∧ incDynEntry.expr = none ∧
    (∃ c ∈ incDynEntry.combinations.getD [], "extra" ∈ comboKeys c) :=
  ⟨rfl, rfl, rfl, cLit, by simp [incDynEntry], by decide⟩
/-- `${{` as an include entry: a syntax error, `comboExprTy = none` -/
example : comboExprTy cxL (str "${{") = none := by
  have hb : bytesOf "${{" = [36, 123, 123] := by decide +kernel
  have hi : AL.Proc.indexOf AL.Proc.open3 [36, 123, 123] 0 = some 0 := by decide
  have hp : parsed AL.PW.asciiLower [] = none := by
    unfold parsed
    have : (match AL.Lex.lexExpression (decodeUtf8 []) with | .ok _ => true | .error _ => false) = false := by decide +kernel
    split
    · rename_i h1 _; rw [h1] at this; cases this
    · rfl
  simp only [comboExprTy, checkOneExpression, checkExprsIn, str, hb, List.length_cons, List.length_nil, Nat.zero_add,
    Nat.reduceAdd, scan, hi, List.drop_succ_cons, List.drop_nil, checkOne_eq, cxL, hp]

end AL.C05S
