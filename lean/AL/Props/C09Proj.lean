import AL.Props.C10Once
/-
  C09 inside a project: when every spec that `FindMetadata` does not skip can be read (`AllReadable`: a condition on ALL
  strings, not only on the specs the jobs mention) and no `./` spec is badly formatted, the cache of interfaces carries
  nothing from one job to the next that a look-up could notice: in `simulateJobs`, from a cache that answers like the empty
  one, each job gets exactly the diagnostics and the view it gets as the only job visited. (When a callee cannot be read,
  its defect is reported once, at the first job that asks: AL.Props.C10Once — the one thing the cache is there to carry.)
-/
namespace AL.C09P
open AL AL.Ast AL.CallMeta AL.ProjCall AL.C10O

def AllReadable (env : ProjCall.Env) : Prop := ∀ spec, skipped env spec = false → ∃ m, env.disk spec = .ok m

theorem Same.trans {env : ProjCall.Env} {a b c : Cache} (h1 : Same env a b) (h2 : Same env b c) : Same env a c :=
  fun s => (h1 s).trans (h2 s)

theorem Same.symm {env : ProjCall.Env} {a b : Cache} (h : Same env a b) : Same env b a := fun s => (h s).symm

theorem Same.refl (env : ProjCall.Env) (a : Cache) : Same env a a := fun _ => rfl

/-- remembering a readable callee changes no answer -/
theorem remember_same (env : ProjCall.Env) (hok : AllReadable env) (c : Cache) (s : String) : Same env (remember env c s) c := by
  intro spec
  simp only [answer, cacheGet_remember]
  by_cases hg2 : skipped env spec = true
  · simp [hg2]
  · simp only [hg2, Bool.false_eq_true, if_false]
    by_cases hg : skipped env s = true
    · simp [hg]
    · simp only [hg, Bool.false_eq_true, if_false]
      by_cases e : spec = s
      · subst e
        simp only [if_true]
        cases hk : cacheGet c spec with
        | some v => rfl
        | none =>
          obtain ⟨m, hm⟩ := hok spec (by simpa using hg)
          simp [diskEntry, diskAnswer, hm]
      · simp [e]

/-- no job's `uses:` is a `./` spec in a bad format (the one case in which the rule writes a nil into the cache itself) -/
def NoBadLocalSpec (j : Job) : Prop :=
  ∀ call u, j.workflowCall = some call → call.uses = some u →
    (u.value = "" || AL.Rules.containsExpr u) = true ∨ AL.Rules.isLocalCallFormat u.value = true ∨
    AL.Rules.isRepoCallFormat u.value = true ∨ u.value.startsWith "./" = false

theorem wcJob_keeps (env : ProjCall.Env) (hok : AllReadable env) (c : Cache) (j : Job) (hj : NoBadLocalSpec j) :
    Same env (wcJob env c j).1 c := by
  rcases wcJob_shape env j with e | ⟨call, u, hc, hu, e | ⟨h1, h2, h3, h4, _⟩⟩
  · rw [e]; exact Same.refl env c
  · rw [e]; exact remember_same env hok c u.value
  · rcases hj call u hc hu with h | h | h | h
    · rw [h1] at h; cases h
    · rw [h2] at h; cases h
    · rw [h3] at h; cases h
    · rw [h4] at h; cases h

theorem callLookup_keeps (env : ProjCall.Env) (hok : AllReadable env) (c : Cache) (j : Job) :
    Same env (callLookup env j c).cache c := by
  rcases callLookup_shape env j with e | ⟨call, u, _, _, e⟩
  · rw [e]; exact Same.refl env c
  · rw [e]; exact remember_same env hok c u.value

theorem needsStep_keeps (env : ProjCall.Env) (hok : AllReadable env) (lower : String → String) (jobs : List (String × Job)) (job : Job)
    (acc : NeedsOut × List String) (id : Str) :
    Same env (needsStep env lower jobs job acc id).1.cache acc.1.cache := by
  rcases needsStep_shape env lower jobs job acc.2 id with ⟨_, e⟩ | ⟨j, call, u, _, _, _, e⟩
  · rw [e acc rfl]; exact Same.refl env _
  · rw [e acc rfl]; exact remember_same env hok _ u.value

theorem needsLookups_keeps (env : ProjCall.Env) (hok : AllReadable env) (lower : String → String) (jobs : List (String × Job)) (job : Job)
    (c : Cache) : Same env (needsLookups env lower jobs job c).cache c :=
  List.foldlRecOn (motive := fun acc : NeedsOut × List String => Same env acc.1.cache c) _ _ (Same.refl env c)
    fun acc hacc id _ => Same.trans (needsStep_keeps env hok lower jobs job acc id) hacc

/-- what a job gets when it is the only job visited (the list `jobs` is still there to look the needed jobs up) -/
def alone (env : ProjCall.Env) (lower : String → String) (jobs : List (String × Job)) (j : Job) :
    String × List AL.Rules.Diag × List AL.RuleExpr.Diag × List (String × AL.Ty) × Option (List (String × (String × AL.Ty))) :=
  let e := simulateJobs env lower jobs [("", j)] []
  match e with
  | [x] => (x.1, x.2.wc, x.2.exprErrs, x.2.outs, x.2.inputs)
  | _ => ("", [], [], [], none)

/-- **no state leaks between jobs through the cache of interfaces** when every callee is readable -/
theorem jobs_independent (env : ProjCall.Env) (hok : AllReadable env) (lower : String → String) (jobs : List (String × Job)) :
    ∀ (l : List (String × Job)) (c : Cache), (∀ e ∈ l, NoBadLocalSpec e.2) → Same env c [] →
      (simulateJobs env lower jobs l c).map (fun e => (e.1, e.2.wc, e.2.exprErrs, e.2.outs, e.2.inputs)) =
      l.map (fun e => alone env lower jobs e.2) := by
  intro l
  induction l with
  | nil => intro c _ _; rfl
  | cons e rest ih =>
    intro c hl hc
    obtain ⟨k, j⟩ := e
    have hj : NoBadLocalSpec j := hl (k, j) (by simp)
    -- the head: the same as from the empty cache
    have hhead := simulateJobs_same env lower jobs [(k, j)] c [] hc
    -- the cache after the head answers like the empty one
    have hafter : Same env (callLookup env j (needsLookups env lower jobs j (wcJob env c j).1).cache).cache [] :=
      Same.trans (callLookup_keeps env hok _ j)
        (Same.trans (needsLookups_keeps env hok lower jobs j _) (Same.trans (wcJob_keeps env hok c j hj) hc))
    have hrest := ih _ (fun e he => hl e (List.mem_cons_of_mem _ he)) hafter
    simp only [simulateJobs, List.map_cons, List.map_nil] at hhead ⊢
    rw [hrest]
    simp only [alone, simulateJobs]
    simp only [List.cons.injEq, and_true] at hhead
    rw [hhead]

end AL.C09P
