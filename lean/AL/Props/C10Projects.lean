import AL.Model.Projects
import AL.Lemmas.Projects
/-
  C10 — "a file is always attributed to the repository that actually contains it", for every argument order: in the
  model of `Projects.At` the answer for a path is the innermost repository root above it, and it does not depend on
  which paths were looked up before (the cache only avoids loading a project twice).
  Statements first (`def …_statement : Prop`), their proofs after them.
-/
namespace AL.Props.C10Projects
open AL.Projects

/-- (a) what is found is a repository root and a prefix of the path -/
def found_is_root_above_statement : Prop :=
  ∀ (isRoot : List String → Bool) (p r : List String), findRoot isRoot p = some r →
    isRoot r = true ∧ r.isPrefixOf p = true

/-- (b) … the innermost one: no longer prefix of the path is a repository root -/
def found_is_innermost_statement : Prop :=
  ∀ (isRoot : List String → Bool) (p r r' : List String), findRoot isRoot p = some r →
    r'.isPrefixOf p = true → isRoot r' = true → r'.length ≤ r.length

/-- (c) nothing is found only if no directory above the path is a repository root -/
def none_iff_statement : Prop :=
  ∀ (isRoot : List String → Bool) (p : List String),
    findRoot isRoot p = none ↔ ∀ r, r.isPrefixOf p = true → isRoot r = false

/-- (d) history independence: the answer of `At` (`lookup`) is `findRoot`, whatever the cache holds -/
def at_history_independent_statement : Prop :=
  ∀ (isRoot : List String → Bool) (known : Known) (p : List String), (lookup isRoot known p).1 = findRoot isRoot p

/-- (e) hence a sequence of lookups gives, path by path, the same answers in every order and from every cache -/
def atAll_pointwise_statement : Prop :=
  ∀ (isRoot : List String → Bool) (known : Known) (ps : List (List String)),
    (atAll isRoot known ps).1 = ps.map (findRoot isRoot)

/-- (f) the cache never holds a root twice (a project is loaded once) -/
def cache_nodup_statement : Prop :=
  ∀ (isRoot : List String → Bool) (known : Known) (ps : List (List String)), known.Nodup →
    (atAll isRoot known ps).2.Nodup

/-! ### Proofs (helper lemmas in `AL/Lemmas/Projects.lean`) -/

theorem found_is_root_above : found_is_root_above_statement := by
  intro isRoot p r h
  have := findRoot_spec isRoot p
  rw [h] at this
  exact ⟨this.1, List.isPrefixOf_iff_prefix.mpr this.2.1⟩

theorem found_is_innermost : found_is_innermost_statement := by
  intro isRoot p r r' h hp hr
  have := findRoot_spec isRoot p
  rw [h] at this
  exact this.2.2 r' (List.isPrefixOf_iff_prefix.mp hp) hr

theorem none_iff : none_iff_statement := by
  intro isRoot p
  have := findRoot_spec isRoot p
  constructor
  · intro h r hr
    rw [h] at this
    exact this r (List.isPrefixOf_iff_prefix.mp hr)
  · intro h
    cases hf : findRoot isRoot p with
    | none => rfl
    | some r =>
      rw [hf] at this
      have := h r (List.isPrefixOf_iff_prefix.mpr this.2.1)
      simp [this] at *

theorem at_history_independent : at_history_independent_statement :=
  fun isRoot known p => lookup_fst isRoot known p

theorem atAll_pointwise : atAll_pointwise_statement :=
  fun isRoot known ps => atAll_fst isRoot ps known

theorem cache_nodup : cache_nodup_statement :=
  fun isRoot known ps hk => atAll_nodup isRoot ps known hk

/-! ### Non-vacuity: nested repositories, both argument orders -/

/-- an outer repository `x/outer` with a vendored inner repository `x/outer/vendor/inner` -/
def exRoot : List String → Bool :=
  fun d => d == ["x", "outer"] || d == ["x", "outer", "vendor", "inner"]

def exInnerFile : List String := ["x", "outer", "vendor", "inner", ".github", "workflows", "w.yml"]
def exOuterFile : List String := ["x", "outer", ".github", "workflows", "w.yml"]

example : findRoot exRoot exInnerFile = some ["x", "outer", "vendor", "inner"] := by decide +kernel
example : findRoot exRoot exOuterFile = some ["x", "outer"] := by decide +kernel
example : findRoot exRoot ["y", "z"] = none := by decide +kernel

/-- both orders give the same answer for each file (and the inner file is never attributed to the outer project,
even when the outer project is already in the cache) -/
example :
    (atAll exRoot [] [exInnerFile, exOuterFile]).1 = [some ["x", "outer", "vendor", "inner"], some ["x", "outer"]] ∧
    (atAll exRoot [] [exOuterFile, exInnerFile]).1 = [some ["x", "outer"], some ["x", "outer", "vendor", "inner"]] := by
  decide +kernel

example :
    (atAll exRoot [] [exOuterFile, exInnerFile, exOuterFile]).2 = [["x", "outer"], ["x", "outer", "vendor", "inner"]] := by
  decide +kernel

end AL.Props.C10Projects
