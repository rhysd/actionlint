import AL.Props.C02Rules
import AL.Model.ProjLint
import AL.Lemmas.CacheWalk
/-
  C02 for a file linted inside a project: the whole model (parser, AST rules, local workflows and local actions with their
  caches) is a function of the document node and of what is on disk; its output is in non-decreasing position order and
  contains exactly the diagnostics of its parts, each once.
-/
namespace AL.C02P
open AL AL.Rules

theorem projLint_sorted (cfg : AL.PW.Cfg) (isNum urlOk : String → Bool) (env : AL.ProjLint.Env) (doc : AL.Yaml.Node) :
    (AL.ProjLint.lint cfg isNum urlOk env doc).Pairwise AL.C02R.le := by
  simp only [AL.ProjLint.lint]
  exact AL.C02R.sort_sorted _

/-- … and is a rearrangement of: the parser's diagnostics, the AST rules', what rule workflow-call adds for local callees,
what rule action adds for local actions — nothing dropped, nothing reported twice by the sort -/
theorem projLint_perm (cfg : AL.PW.Cfg) (isNum urlOk : String → Bool) (env : AL.ProjLint.Env) (doc : AL.Yaml.Node) :
    (AL.ProjLint.lint cfg isNum urlOk env doc).Perm
      ((AL.PW.parse cfg doc).2.map ofPErr ++ rules cfg.lower isNum urlOk (AL.PW.parse cfg doc).1 env.labels ++
        AL.ProjCall.wcRule env.calls cfg.lower (AL.PW.parse cfg doc).1 ++
        (AL.ProjAction.simulate env.actions (AL.PW.parse cfg doc).1).action) := by
  simp only [AL.ProjLint.lint]
  exact AL.C09R.stableSort_perm _

/-- without a project (the environment `{ hasProject := false }`, other fields at their defaults) rule workflow-call adds
nothing: no look-up answers, `wcRule` is empty -/
theorem no_project_adds_nothing_wc (lower : String → String) (w : AL.Ast.Workflow) :
    AL.ProjCall.wcRule { hasProject := false } lower w = [] := by
  have hans : ∀ (c : AL.ProjCall.Cache) (s : String), AL.ProjCall.answer { hasProject := false } c s = .nothing :=
    fun c s => by simp [AL.ProjCall.answer, AL.ProjCall.skipped]
  have hwc : ∀ (c : AL.ProjCall.Cache) (j : AL.Ast.Job), (AL.ProjCall.wcJob { hasProject := false } c j).2 = [] := by
    intro c j
    rcases AL.C10O.wcJob_shape { hasProject := false } j with e | ⟨call, u, _, _, e | ⟨_, _, _, _, e⟩⟩
    · rw [e]
    · -- the only branch that consults the project gets the answer `nothing`
      rw [e, AL.ProjCall.find, hans]
      rfl
    · rw [e]
  simp only [AL.ProjCall.wcRule, AL.ProjCall.simulate]
  generalize AL.ProjCall.initialCache { hasProject := false } w = c0
  generalize hj : w.jobs.getD [] = jobs
  have : ∀ (l : List (String × AL.Ast.Job)) (c : AL.ProjCall.Cache),
      (AL.ProjCall.simulateJobs { hasProject := false } lower jobs l c).flatMap (·.2.wc) = [] := by
    intro l
    induction l with
    | nil => intro c; rfl
    | cons e rest ih =>
      intro c
      obtain ⟨_, j⟩ := e
      simp only [AL.ProjCall.simulateJobs, List.flatMap_cons, hwc, List.nil_append]
      exact ih _
  exact this jobs c0

end AL.C02P
