import AL.Model.Messages
import AL.Model.Render
import AL.Lemmas.RenderBasic
import AL.Gen.Messages
/-
  C16, "messages never contain line breaks": every `Error` of the package is built by `errorAt` / `errorfAt` with its message
  passed through `lineBreakEscaper` (facts regenerated from the source on every run), the escaper leaves no line break in
  any text, and so the header line of every diagnostic is ONE line whatever user text the message echoes.
-/
namespace AL.C16M
open AL.Msg AL.Render

/-! ### the facts about the source (AL/Gen/Messages.lean, regenerated by go/extract on every run) -/

/-- every composite literal of type `Error` passes its `Message` through the escaper -/
theorem every_message_escaped :
    AL.Gen.errorLiterals.all (fun l => "lineBreakEscaper.Replace(".isPrefixOf l.2.2) = true ∧ AL.Gen.errorLiterals ≠ [] := by
  decide +kernel

/-- and nothing else writes to the `Message` field of an `Error` -/
theorem no_other_message_write : AL.Gen.messageWrites = [] := by decide +kernel

/-- the escaper of the source is the model's -/
theorem escaper_is_model :
    AL.Gen.lineBreakEscaperPairs.map (fun p => (p.1.toList, p.2.toList)) = escaperPairs.map (fun p => ([p.1], p.2)) := by
  decide +kernel

/-! ### the escaper -/

theorem escape_cons (c : Char) (cs : List Char) :
    escape (c :: cs) = (if c = '\n' then ['\\', 'n'] else if c = '\r' then ['\\', 'r'] else [c]) ++ escape cs := by
  simp only [escape, replaceChars, escaperPairs, List.find?]
  by_cases h1 : c = '\n'
  · subst h1; rfl
  · by_cases h2 : c = '\r'
    · subst h2; rfl
    · have e1 : decide ('\n' = c) = false := decide_eq_false (fun e => h1 e.symm)
      have e2 : decide ('\r' = c) = false := decide_eq_false (fun e => h2 e.symm)
      simp only [e1, e2, h1, h2, ↓reduceIte]

/-- **no line break survives**: whatever the text -/
theorem escape_no_linebreak (s : List Char) : '\n' ∉ escape s ∧ '\r' ∉ escape s := by
  induction s with
  | nil => simp [escape, replaceChars]
  | cons c cs ih =>
    rw [escape_cons]
    by_cases h1 : c = '\n'
    · subst h1
      simp only [↓reduceIte, List.mem_append, not_or]
      exact ⟨⟨by decide, ih.1⟩, ⟨by decide, ih.2⟩⟩
    · by_cases h2 : c = '\r'
      · subst h2
        simp only [List.mem_append, not_or]
        exact ⟨⟨by decide, ih.1⟩, ⟨by decide, ih.2⟩⟩
      · simp only [h1, h2, ↓reduceIte, List.mem_append, List.mem_cons, List.not_mem_nil, or_false, not_or]
        exact ⟨⟨fun e => h1 e.symm, ih.1⟩, ⟨fun e => h2 e.symm, ih.2⟩⟩

/-- a text without line breaks is left as it is: nothing else is altered -/
theorem escape_clean (s : List Char) (h1 : '\n' ∉ s) (h2 : '\r' ∉ s) : escape s = s := by
  induction s with
  | nil => rfl
  | cons c cs ih =>
    rw [escape_cons]
    have a : c ≠ '\n' := fun e => h1 (by simp [e])
    have b : c ≠ '\r' := fun e => h2 (by simp [e])
    simp only [a, b, ↓reduceIte, List.cons_append, List.nil_append]
    rw [ih (fun h => h1 (List.mem_cons_of_mem _ h)) (fun h => h2 (List.mem_cons_of_mem _ h))]

/-- escaping twice doubles nothing: the backslash is not an old string -/
theorem escape_idem (s : List Char) : escape (escape s) = escape s :=
  escape_clean _ (escape_no_linebreak s).1 (escape_no_linebreak s).2

/-! ### the header line -/

theorem natChars_no_linebreak (n : Nat) (c : Char) (hc : c = '\n' ∨ c = '\r') : c ∉ natChars n := by
  intro hm
  have := natChars_isDigit n c hm
  rcases hc with h | h <;> subst h <;> simp [isDigit] at this

/-- a line break occurs in the header line only inside the file name, the message or the rule name -/
theorem not_mem_header {c : Char} (hc : c = '\n' ∨ c = '\r') (d : Diag) (hf : c ∉ d.file) (hm : c ∉ d.msg)
    (hk : c ∉ d.kind) : c ∉ header d := by
  have n1 := natChars_no_linebreak d.line c hc
  have n2 := natChars_no_linebreak d.col c hc
  have hp : c ≠ ':' ∧ c ≠ ' ' ∧ c ≠ '[' ∧ c ≠ ']' := by rcases hc with rfl | rfl <;> decide
  simp [header, hf, hm, hk, n1, n2, hp]

/-- **one header line per diagnostic**: with the message built by `errorAt` / `errorfAt` (escaped), a file name and a rule
name without line breaks, `file:line:col: message [kind]` contains no line break — whatever the message echoes -/
theorem header_one_line (file kind msg : List Char) (line col : Nat)
    (hf : '\n' ∉ file ∧ '\r' ∉ file) (hk : '\n' ∉ kind ∧ '\r' ∉ kind) :
    '\n' ∉ header ⟨file, line, col, escape msg, kind⟩ ∧ '\r' ∉ header ⟨file, line, col, escape msg, kind⟩ := by
  have hm := escape_no_linebreak msg
  exact ⟨not_mem_header (.inl rfl) _ hf.1 hm.1 hk.1, not_mem_header (.inr rfl) _ hf.2 hm.2 hk.2⟩

example : escape "a\nb\r\\n".toList = "a\\nb\\r\\n".toList := by decide +kernel

end AL.C16M
