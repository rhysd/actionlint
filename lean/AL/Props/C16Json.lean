import AL.Model.JsonEnc
/-
  C16, `-format '{{json .}}'`: the reader inverts the encoder — for EVERY list of diagnostics' template fields, whatever
  the strings contain (quotes, backslashes, control characters, `<` `>` `&`, U+2028 / U+2029, any other scalar value) and
  whatever the numbers, reading the encoder's output gives back exactly the list: no field is lost, merged or altered, and
  the optional fields come back empty exactly when they were empty.
  The theorems: `json_roundtrip` (hence `json_injective`) and `json_one_line` (the only line feed of the output is its last character).
-/
namespace AL.C16J
open AL.JsonEnc

/-! ### strings -/

theorem hex_table : ∀ n, n < 128 →
    isHex (hexDigit (n / 16)) = true ∧ isHex (hexDigit (n % 16)) = true ∧
    hexVal (hexDigit (n / 16)) * 16 + hexVal (hexDigit (n % 16)) = n := by decide +kernel

theorem readStr_raw (c : Char) (rest acc : List Char) (h1 : c ≠ '"') (h2 : c ≠ '\\') (h3 : ¬ c.toNat < 0x20) :
    readStr (c :: rest) acc = readStr rest (acc ++ [c]) := by
  conv => lhs; unfold readStr
  split
  · rename_i h; cases h
  · rename_i h; cases h; exact absurd rfl h1
  · rename_i h; cases h; exact absurd rfl h2
  · rename_i h; cases h; exact absurd rfl h2
  · rename_i h; cases h; simp [h3]

/-- `\uXXXX` is read as the code unit its four digits spell -/
theorem readStr_u (a b c d : Char) (rest acc : List Char)
    (h : (isHex a && isHex b && isHex c && isHex d) = true) :
    readStr ('\\' :: 'u' :: a :: b :: c :: d :: rest) acc =
      readStr rest (acc ++ [Char.ofNat (hexVal a * 4096 + hexVal b * 256 + hexVal c * 16 + hexVal d)]) := by
  rw [readStr, if_pos rfl, if_pos h]

theorem readStr_u00 (n : Nat) (hn : n < 128) (rest acc : List Char) :
    readStr ('\\' :: 'u' :: '0' :: '0' :: hexDigit (n / 16) :: hexDigit (n % 16) :: rest) acc =
      readStr rest (acc ++ [Char.ofNat n]) := by
  obtain ⟨a, b, c⟩ := hex_table n hn
  have z : hexVal '0' = 0 := by decide
  rw [readStr_u _ _ _ _ _ _ (by rw [a, b]; rfl)]
  simp only [z, Nat.zero_mul, Nat.zero_add, c]

/-- the two-character escapes: what follows the backslash, and the character meant -/
def shortEsc : List (Char × Char) :=
  [('"', '"'), ('\\', '\\'), ('b', Char.ofNat 8), ('f', Char.ofNat 12), ('n', '\n'), ('r', '\r'), ('t', '\t')]

theorem readStr_short (rest acc : List Char) (p : Char × Char) (hp : p ∈ shortEsc) :
    readStr ('\\' :: p.1 :: rest) acc = readStr rest (acc ++ [p.2]) := by
  simp only [shortEsc, List.mem_cons, List.not_mem_nil, or_false] at hp
  rcases hp with rfl | rfl | rfl | rfl | rfl | rfl | rfl <;> (rw [readStr.eq_def]; rfl)

/-- What `encChar c` can be: a two-character escape, `\u00XY` below 128, one of the two line separators, or `c` itself,
which is then no quote, backslash or control character. -/
theorem encChar_cases {P : Char → List Char → Prop}
    (short : ∀ p ∈ shortEsc, P p.2 ['\\', p.1])
    (u00 : ∀ c : Char, c.toNat < 128 →
      P c ['\\', 'u', '0', '0', hexDigit (c.toNat / 16), hexDigit (c.toNat % 16)])
    (u2028 : P (Char.ofNat 0x2028) ['\\', 'u', '2', '0', '2', '8'])
    (u2029 : P (Char.ofNat 0x2029) ['\\', 'u', '2', '0', '2', '9'])
    (raw : ∀ c : Char, c ≠ '"' → c ≠ '\\' → ¬ c.toNat < 0x20 → P c [c]) (c : Char) : P c (encChar c) := by
  have ofNat {n : Nat} (h : c.toNat = n) : c = Char.ofNat n := by rw [← h, Char.ofNat_toNat]
  unfold encChar
  refine iteInduction (fun h => h ▸ short ('"', '"') (by decide)) fun h1 => ?_
  refine iteInduction (fun h => h ▸ short ('\\', '\\') (by decide)) fun h2 => ?_
  refine iteInduction (fun h => ofNat h ▸ short ('b', _) (by decide)) fun _ => ?_
  refine iteInduction (fun h => ofNat h ▸ short ('f', _) (by decide)) fun _ => ?_
  refine iteInduction (fun h => h ▸ short ('n', _) (by decide)) fun _ => ?_
  refine iteInduction (fun h => h ▸ short ('r', _) (by decide)) fun _ => ?_
  refine iteInduction (fun h => h ▸ short ('t', _) (by decide)) fun _ => ?_
  refine iteInduction (fun h => u00 c ?_) fun h8 => ?_
  · rcases h with h | rfl | rfl | rfl
    · omega
    all_goals decide
  refine iteInduction (fun h => ofNat h ▸ u2028) fun _ => ?_
  refine iteInduction (fun h => ofNat h ▸ u2029) fun _ => ?_
  exact raw c h1 h2 fun h => h8 (.inl h)

/-- one encoded scalar value is read back as that value -/
theorem readStr_encChar (c : Char) (rest acc : List Char) :
    readStr (encChar c ++ rest) acc = readStr rest (acc ++ [c]) := by
  refine encChar_cases (P := fun c e => readStr (e ++ rest) acc = readStr rest (acc ++ [c])) ?_ ?_ ?_ ?_ ?_ c
  · exact readStr_short rest acc
  · intro c hc
    have := readStr_u00 c.toNat hc rest acc
    rwa [Char.ofNat_toNat] at this
  · exact readStr_u '2' '0' '2' '8' rest acc (by decide)
  · exact readStr_u '2' '0' '2' '9' rest acc (by decide)
  · exact fun c => readStr_raw c rest acc

theorem readStr_encBody (s rest acc : List Char) :
    readStr (encBody s ++ '"' :: rest) acc = some (acc ++ s, rest) := by
  induction s generalizing acc with
  | nil => simp [encBody, readStr]
  | cons c cs ih =>
    simp only [encBody, List.append_assoc]
    rw [readStr_encChar, ih]
    simp

/-- **a string survives**: whatever it contains -/
theorem readVal_encStr (s rest : List Char) : readVal (encStr s ++ rest) = some (.str s, rest) := by
  simp [encStr, readVal, readStr_encBody]

/-! ### numbers -/

theorem digit_table : ∀ m, m < 10 → isDigit (Char.ofNat (48 + m)) = true ∧ (Char.ofNat (48 + m)).toNat - 48 = m := by
  decide +kernel

/-- the value the reader accumulates over the digits of `n`, starting from `k` -/
def dec (k n : Nat) : Nat := if h : n < 10 then k * 10 + n else dec k (n / 10) * 10 + n % 10
termination_by n
decreasing_by omega

theorem dec_zero (n : Nat) : dec 0 n = n := by
  fun_induction dec 0 n with
  | case1 n h => omega
  | case2 n h ih => rw [ih]; omega

theorem readDigits_encNat (n : Nat) (rest : List Char) (k : Nat) :
    readDigits (encNat n ++ rest) k = readDigits rest (dec k n) := by
  fun_induction encNat n generalizing rest k with
  | case1 n h =>
    obtain ⟨a, b⟩ := digit_table n h
    simp only [dec, h, ↓reduceDIte, List.cons_append, List.nil_append, readDigits, a, ↓reduceIte, b]
  | case2 n h ih =>
    obtain ⟨a, b⟩ := digit_table (n % 10) (Nat.mod_lt _ (by omega))
    rw [List.append_assoc, ih, show dec k n = dec k (n / 10) * 10 + n % 10 by rw [dec, dif_neg h]]
    simp only [List.cons_append, List.nil_append, readDigits, a, ↓reduceIte, b]

theorem encNat_head (n : Nat) : ∃ c cs, encNat n = c :: cs ∧ isDigit c = true := by
  fun_induction encNat n with
  | case1 n h => exact ⟨_, [], rfl, (digit_table n h).1⟩
  | case2 n h ih =>
    obtain ⟨c, cs, e, hd⟩ := ih
    exact ⟨c, cs ++ [Char.ofNat (48 + n % 10)], by rw [e]; rfl, hd⟩

/-- what may follow a number in the encoder's output -/
def NoDigit (rest : List Char) : Prop := ∀ c cs, rest = c :: cs → isDigit c = false

theorem readDigits_stop (rest : List Char) (k : Nat) (h : NoDigit rest) : readDigits rest k = (rest, k) := by
  cases rest with
  | nil => rfl
  | cons c cs => simp [readDigits, h c cs rfl]

/-- **a number survives** -/
theorem readVal_encNat (n : Nat) (rest : List Char) (h : NoDigit rest) :
    readVal (encNat n ++ rest) = some (.num n, rest) := by
  obtain ⟨c, cs, e, hd⟩ := encNat_head n
  have hq : c ≠ '"' := by rintro rfl; exact absurd hd (by decide)
  have h2 := readDigits_encNat n rest 0
  rw [dec_zero, readDigits_stop rest n h, e] at h2
  rw [e, List.cons_append]
  unfold readVal
  split
  · rename_i h'; cases h'; exact absurd rfl hq
  · simp only [readNat, hd, ↓reduceIte, ← List.cons_append, h2, Option.map_some]

theorem readMembers_comma (fuel : Nat) (kk encV : List Char) (v : Val) (rest : List Char) (acc : List (List Char × Val))
    (hv : readVal (encV ++ ',' :: rest) = some (v, ',' :: rest)) :
    readMembers (fuel + 1) (encStr kk ++ ':' :: (encV ++ ',' :: rest)) acc = readMembers fuel rest (acc ++ [(kk, v)]) := by
  simp only [encStr, List.cons_append, List.append_assoc, List.nil_append, readMembers, readStr_encBody, hv]

theorem readMembers_close (fuel : Nat) (kk encV : List Char) (v : Val) (rest : List Char) (acc : List (List Char × Val))
    (hv : readVal (encV ++ '}' :: rest) = some (v, '}' :: rest)) :
    readMembers (fuel + 1) (encStr kk ++ ':' :: (encV ++ '}' :: rest)) acc = some (acc ++ [(kk, v)], rest) := by
  simp only [encStr, List.cons_append, List.append_assoc, List.nil_append, readMembers, readStr_encBody, hv]

theorem noDigit_comma (rest : List Char) : NoDigit (',' :: rest) := by
  intro c cs h; cases h; decide
theorem noDigit_brace (rest : List Char) : NoDigit ('}' :: rest) := by
  intro c cs h; cases h; decide

/-- a record without its opening brace -/
def body (f : Fields) : List Char :=
  key "message" ++ encStr f.message ++
  (if f.filepath = [] then [] else ',' :: key "filepath" ++ encStr f.filepath) ++
  ',' :: key "line" ++ encNat f.line ++
  ',' :: key "column" ++ encNat f.column ++
  ',' :: key "kind" ++ encStr f.kind ++
  (if f.snippet = [] then [] else ',' :: key "snippet" ++ encStr f.snippet) ++
  ',' :: key "end_column" ++ encNat f.endColumn ++ ['}']

theorem encFields_eq (f : Fields) : encFields f = '{' :: body f := by
  simp only [encFields, body, List.cons_append]

/-- the members the reader must find -/
def members (f : Fields) : List (List Char × Val) :=
  [("message".toList, .str f.message)] ++
  (if f.filepath = [] then [] else [("filepath".toList, .str f.filepath)]) ++
  [("line".toList, .num f.line), ("column".toList, .num f.column), ("kind".toList, .str f.kind)] ++
  (if f.snippet = [] then [] else [("snippet".toList, .str f.snippet)]) ++
  [("end_column".toList, .num f.endColumn)]

theorem readMembers_body (f : Fields) (rest : List Char) (k : Nat) :
    readMembers (k + 7) (body f ++ rest) [] = some (members f, rest) := by
  -- one member read, by the kind of its value and what follows it
  have cs := fun fuel kk s r acc => readMembers_comma fuel kk (encStr s) (.str s) r acc (readVal_encStr s _)
  have cn := fun fuel kk n r acc =>
    readMembers_comma fuel kk (encNat n) (.num n) r acc (readVal_encNat n _ (noDigit_comma r))
  have bn := fun fuel kk n r acc =>
    readMembers_close fuel kk (encNat n) (.num n) r acc (readVal_encNat n _ (noDigit_brace r))
  obtain ⟨msg, fp, line, col, kind, snip, ec⟩ := f
  by_cases h1 : fp = [] <;> by_cases h2 : snip = [] <;>
    simp only [body, members, key, h1, h2, ↓reduceIte, List.append_assoc, List.cons_append, List.nil_append,
      List.append_nil, cs, cn, bn] <;> rfl

theorem fieldsOf_members (f : Fields) : fieldsOf (members f) = some f := by
  obtain ⟨msg, fp, line, col, kind, snip, ec⟩ := f
  -- an optional string is left out exactly when it is empty, and an absent one is read as empty
  cases fp <;> cases snip <;> rfl

theorem body_long (f : Fields) (rest : List Char) : ∃ k, (body f ++ rest).length + 1 = k + 7 := by
  have : (key "message").length = 10 := by decide
  apply Nat.exists_eq_add_of_le'
  simp only [body, List.length_append, this]
  omega

/-- **a record survives**: all seven fields, the optional ones empty exactly when they were empty -/
theorem readObj_encFields (f : Fields) (rest : List Char) : readObj (encFields f ++ rest) = some (f, rest) := by
  obtain ⟨k, hk⟩ := body_long f rest
  simp only [encFields_eq, List.cons_append, readObj, hk, readMembers_body, fieldsOf_members, Option.map_some]

theorem readElems_encElems (f : Fields) (fs : List Fields) : ∀ (k : Nat) (acc : List Fields),
    readElems (k + (f :: fs).length) (encElems (f :: fs) ++ [']', '\n']) acc = some (acc ++ f :: fs) := by
  induction fs generalizing f with
  | nil =>
    intro k acc
    simp only [encElems, List.length_cons, List.length_nil, Nat.zero_add, readElems, readObj_encFields]
  | cons g gs ih =>
    intro k acc
    have := ih g k (acc ++ [f])
    simp only [List.length_cons] at this ⊢
    rw [show k + (gs.length + 1 + 1) = (k + (gs.length + 1)) + 1 by omega]
    simp only [encElems, List.append_assoc, List.cons_append]
    rw [readElems, readObj_encFields]
    simp only [this, List.append_assoc, List.cons_append, List.nil_append]

theorem encElems_length (fs : List Fields) : fs.length ≤ (encElems fs).length := by
  fun_induction encElems fs with
  | case1 => exact Nat.le_refl _
  | case2 f => simp [encFields_eq]
  | case3 f rest _ ih => simp only [List.length_append, List.length_cons] at ih ⊢; omega

/-- **C16, `{{json .}}` round trip.** Reading what the encoder wrote for a list of diagnostics gives back exactly that list. -/
theorem json_roundtrip (fs : List Fields) : readAll (encAll fs) = some fs := by
  cases fs with
  | nil => rfl
  | cons f fs =>
    have hl := encElems_length (f :: fs)
    obtain ⟨k, hk⟩ : ∃ k, (encElems (f :: fs) ++ [']', '\n']).length + 1 = k + (f :: fs).length :=
      Nat.exists_eq_add_of_le' (by rw [List.length_append]; omega)
    -- the text after `[` opens a record, so it is not the `]` of an empty array
    have hb : ∃ r, encElems (f :: fs) ++ [']', '\n'] = '{' :: r := by
      cases fs <;> exact ⟨_, by simp only [encElems, encFields_eq, List.cons_append]; rfl⟩
    have h := readElems_encElems f fs k []
    rw [← hk] at h
    simp only [encAll, List.cons_append]
    obtain ⟨r, hr⟩ := hb
    rw [hr] at h ⊢
    simp only [readAll]
    exact h

/-- two different lists of diagnostics never render alike -/
theorem json_injective (a b : List Fields) (h : encAll a = encAll b) : a = b := by
  have := json_roundtrip a
  rw [h, json_roundtrip b] at this
  exact (Option.some.inj this).symm

theorem hex_no_lf : ∀ n, n < 128 → hexDigit (n / 16) ≠ '\n' ∧ hexDigit (n % 16) ≠ '\n' := fun n hn =>
  -- both are hexadecimal digits (`hex_table`), and a line feed is none
  have lf : ∀ {c}, isHex c = true → c ≠ '\n' := fun h e => absurd (e ▸ h) (by decide)
  ⟨lf (hex_table n hn).1, lf (hex_table n hn).2.1⟩

theorem encChar_no_lf (c : Char) : '\n' ∉ encChar c := by
  refine encChar_cases (P := fun _ e => '\n' ∉ e) ?_ ?_ ?_ ?_ ?_ c
  · decide
  · intro c hc
    obtain ⟨a, b⟩ := hex_no_lf c.toNat hc
    simp only [List.mem_cons, List.not_mem_nil, or_false, not_or]
    exact ⟨by decide, by decide, by decide, by decide, fun e => a e.symm, fun e => b e.symm⟩
  · decide
  · decide
  · intro c _ _ h
    rw [List.mem_singleton]
    rintro rfl
    exact h (by decide)

theorem encStr_no_lf (s : List Char) : '\n' ∉ encStr s := by
  have : '\n' ∉ encBody s := by
    induction s with
    | nil => simp [encBody]
    | cons c cs ih => simp only [encBody, List.mem_append, not_or]; exact ⟨encChar_no_lf c, ih⟩
  simp [encStr, this]

theorem digit_no_lf : ∀ m, m < 10 → Char.ofNat (48 + m) ≠ '\n' := by decide +kernel

theorem encNat_no_lf (n : Nat) : '\n' ∉ encNat n := by
  fun_induction encNat n with
  | case1 n h => rw [List.mem_singleton]; exact fun e => digit_no_lf n h e.symm
  | case2 n h ih =>
    rw [List.mem_append, List.mem_singleton, not_or]
    exact ⟨ih, fun e => digit_no_lf (n % 10) (Nat.mod_lt _ (by omega)) e.symm⟩

theorem key_no_lf (k : String) : '\n' ∉ key k := by
  simp only [key, List.mem_append, List.mem_cons, List.not_mem_nil, or_false, not_or]
  exact ⟨encStr_no_lf _, by decide⟩

theorem encFields_no_lf (f : Fields) : '\n' ∉ encFields f := by
  have c1 : ('\n' = ',') = False := by decide
  have c2 : ('\n' = '{') = False := by decide
  have c3 : ('\n' = '}') = False := by decide
  have opt (k : String) (s : List Char) : '\n' ∉ (if s = [] then [] else ',' :: key k ++ encStr s) := by
    split
    · exact List.not_mem_nil
    · simp only [List.mem_cons, List.mem_append, c1, false_or, not_or]
      exact ⟨key_no_lf k, encStr_no_lf s⟩
  simp only [encFields, List.mem_cons, List.mem_append, List.not_mem_nil, c1, c2, c3, key_no_lf, encStr_no_lf,
    encNat_no_lf, opt, or_self, not_false_eq_true]

theorem encElems_no_lf (fs : List Fields) : '\n' ∉ encElems fs := by
  fun_induction encElems fs with
  | case1 => exact List.not_mem_nil
  | case2 f => exact encFields_no_lf f
  | case3 f rest _ ih =>
    simp only [List.mem_append, List.mem_cons, not_or]
    exact ⟨encFields_no_lf f, by decide, ih⟩

/-- **one line**: whatever the messages contain, the output is a single line — its only line feed is its last character -/
theorem json_one_line (fs : List Fields) : ∃ line, encAll fs = line ++ ['\n'] ∧ '\n' ∉ line := by
  refine ⟨'[' :: encElems fs ++ [']'], by simp [encAll], ?_⟩
  simp only [List.cons_append, List.mem_cons, List.mem_append, List.not_mem_nil, or_false, not_or]
  exact ⟨by decide, encElems_no_lf fs, by decide⟩

def exFields : Fields :=
  { message := "a\"<b>\n\\ é".toList, filepath := [], line := 12, column := 3, kind := "k".toList, snippet := "x\n^~".toList, endColumn := 4 }

example : readAll (encAll [exFields, exFields]) = some [exFields, exFields] := json_roundtrip _

end AL.C16J
