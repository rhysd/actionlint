import AL.Model.Lint
import AL.Gen.Mutators
import AL.Lemmas.LintPath
/-
  C10 — multi-file runs: per-file results are isolated and race-free.
  Partial by nature: data races and goroutine interleavings are runtime behaviour; what is logic is
  (a) that shared data is never sorted in place (regenerated fact), (b) project attribution by path
  components (theorem on the path model, also used by C15), (c) the process protocol (C20's theorems).
-/
namespace AL.C10
open AL.Lint

/-- in-place sorts whose operand is not syntactically fresh, with the reason why it is still private -/
def sortExempt : List (String × String × String) := [
  -- `all` is the accumulator declared in `check` itself (`all := …; all = append(all, errs...)`)
  ("linter.go", "check", "all")
]

/-- (a) every `sort.*` call in the source sorts a slice that was created in the same function (make,
composite literal, copy) — never a parameter, a field or a package-level table. A `sortedQuotes(ss)`
that sorts its PARAMETER instead of a copy — the argument is `AllWebhookTypes[hook]` or `Config.ConfigVariables`, shared
between the files linted in parallel — fails this check. -/
def sorts_private_check : Bool :=
  AL.Gen.inPlaceSorts.all fun s => s.2.2.2.2 = "fresh" || sortExempt.contains (s.1, s.2.1, s.2.2.2.1)

theorem sorts_private : sorts_private_check = true := by decide +kernel

/-- (b) attribution: a file is known to a project iff the project root is a whole-component prefix of its
path — so `/x/repo2/...` is never attributed to the project `/x/repo`. -/
theorem attribution_by_components (root p : FPath) : knows root p = true ↔ ∃ rest, p.comps = root.comps ++ rest :=
  knows_iff root p

example : knows ⟨true, ["x", "repo"]⟩ ⟨true, ["x", "repo2", ".github", "workflows", "a.yml"]⟩ = false := by decide +kernel
example : knows ⟨true, ["x", "repo"]⟩ ⟨true, ["x", "repo", ".github", "workflows", "a.yml"]⟩ = true := by decide +kernel

end AL.C10
