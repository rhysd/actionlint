import AL.Model.Positions
import AL.Props.C04Lex
import AL.Lemmas.Positions
/-
  C07 — diagnostics point at the exact source position.
  The token positions inside an expression are those of the lexer model (C04Lex: `lex_positions`,
  `lex_offsets`, `lex_tiles`); this file adds the arithmetic that maps them into the file.
-/
namespace AL.C07
open AL.Positions AL.Proc

/-- (a) the offsets handed to the expression checker are exactly the positions right after a `${{`: the
three bytes before each returned offset are `${{`. -/
def offsets_after_marker_statement : Prop :=
  ∀ (consume : List Nat → Nat) (s : List Nat) (o : Nat),
    o ∈ exprOffsets consume s.length s 0 → 3 ≤ o ∧ (s.drop (o - 3)).take 3 = open3

/-- (b) offsets are strictly increasing: every placeholder is attributed to its own position, text and
placeholders before it shift the report by exactly their length. -/
def offsets_increasing_statement : Prop :=
  ∀ (consume : List Nat → Nat) (s : List Nat), List.Pairwise (· < ·) (exprOffsets consume s.length s 0)

/-- (c) THE PROPERTY (one-line case): for a token at column `t+1` of the expression (one-line ASCII: column =
byte offset + 1, line 1 — C04Lex.lex_positions) the reported position is (L, C + q + exprOff + t), C being
the column at which the scalar starts. The statement is the arithmetic of `reported` (Model/Positions.lean); no source
text occurs in it — likewise (d), (f). -/
def exact_column_statement : Prop :=
  ∀ (L C exprOff t : Nat) (quoted : Bool),
    reported L C quoted exprOff 1 (t + 1) = ⟨L, C + (if quoted then 1 else 0) + exprOff + t⟩

/-- (d) shift invariance: inserting k characters before the scalar on its line, or k lines above it, moves
the report by exactly k. -/
def shift_statement : Prop :=
  ∀ (L C exprOff tl tc k : Nat) (quoted : Bool), 1 ≤ tl → 1 ≤ tc →
    reported L (C + k) quoted exprOff tl tc = ⟨(reported L C quoted exprOff tl tc).line, (reported L C quoted exprOff tl tc).col + k⟩ ∧
    reported (L + k) C quoted exprOff tl tc = ⟨(reported L C quoted exprOff tl tc).line + k, (reported L C quoted exprOff tl tc).col⟩

/-- (e) prefixing the scalar's text with `pre` shifts every expression offset by `pre.length`, provided the first `${{`
of `pre ++ s` is the first one of `s`, moved by `pre.length`. That `pre` contains no `${{` is not enough:
`pre = "$"`, `s = "{{ x }}"` form one across the boundary. -/
def prefix_shift_statement : Prop :=
  ∀ (consume : List Nat → Nat) (pre s : List Nat), indexOf open3 (pre ++ s) 0 = (indexOf open3 s 0).map (· + pre.length) →
    exprOffsets consume (pre ++ s).length (pre ++ s) 0 = (exprOffsets consume s.length s 0).map (· + pre.length)

/-- (f) glob columns: a glob error at pattern column c ≥ 1 is reported at C + q + c − 1, i.e. on the c-th
character of the pattern. -/
def glob_column_statement : Prop :=
  ∀ (C c : Nat) (quoted : Bool), 1 ≤ c → globCol C quoted c = C + (if quoted then 1 else 0) + c - 1

/-! ### Proofs (helper lemmas: AL/Lemmas/Positions.lean) -/

/-- concrete data for the examples: the bytes of `echo ${{ a }} x ${{ b.c }}` … -/
def exBytes : List Nat := "echo ${{ a }} x ${{ b.c }}".toList.map (·.toNat)

/-- … and a `consume` that returns the distance to just after the next `}}` (0 when there is none) -/
def exConsume (s : List Nat) : Nat :=
  match indexOf close2 s 0 with
  | some k => k + 2
  | none => 0

/-- the two expressions start at bytes 8 and 19 -/
example : exprOffsets exConsume exBytes.length exBytes 0 = [8, 19] := by decide +kernel

theorem offsets_after_marker : offsets_after_marker_statement := by
  intro consume s o h
  have := exprOffsets_mem consume s.length s 0 o h
  simpa using this

example : ∀ o ∈ exprOffsets exConsume exBytes.length exBytes 0,
    3 ≤ o ∧ (exBytes.drop (o - 3)).take 3 = open3 := offsets_after_marker exConsume exBytes

theorem offsets_increasing : offsets_increasing_statement :=
  fun consume s => exprOffsets_pairwise consume s.length s 0

example : List.Pairwise (· < ·) (exprOffsets exConsume exBytes.length exBytes 0) := offsets_increasing exConsume exBytes

theorem exact_column : exact_column_statement := by
  intro L C exprOff t quoted
  simp only [reported, convert]
  congr 1 <;> omega

/-- `key: "x ${{ a.b }}"` with the scalar (the quote) at line 7, column 6: expression at byte 5 of the
text, token `b` at expression column 4 → reported at column 6 + 1 + 5 + 3 = 15 -/
example : reported 7 6 true 5 1 (3 + 1) = ⟨7, 15⟩ := by decide

theorem shift : shift_statement := by
  intro L C exprOff tl tc k quoted _ _
  refine ⟨?_, ?_⟩ <;> simp only [reported, convert] <;> congr 1 <;> omega

example : reported 7 (6 + 4) true 5 2 4 = ⟨(reported 7 6 true 5 2 4).line, (reported 7 6 true 5 2 4).col + 4⟩ ∧
    reported (7 + 4) 6 true 5 2 4 = ⟨(reported 7 6 true 5 2 4).line + 4, (reported 7 6 true 5 2 4).col⟩ := by
  decide +kernel

theorem prefix_shift : prefix_shift_statement :=
  fun consume pre s h => exprOffsets_prefix consume pre s h

/-- prefixing `echo ${{ a }} x ${{ b.c }}` with the 5 bytes of `run: ` -/
example :
    let pre := "run: ".toList.map (·.toNat)
    indexOf open3 (pre ++ exBytes) 0 = (indexOf open3 exBytes 0).map (· + pre.length) ∧
    exprOffsets exConsume (pre ++ exBytes).length (pre ++ exBytes) 0 = [13, 24] ∧
    (exprOffsets exConsume exBytes.length exBytes 0).map (· + pre.length) = [13, 24] := by
  decide +kernel

theorem glob_column : glob_column_statement := by
  intro C c quoted hc
  have h : c ≠ 0 := by omega
  simp only [globCol]
  rw [if_pos h]
  omega

example : globCol 10 true 3 = 13 ∧ globCol 10 false 1 = 10 := by decide

end AL.C07
