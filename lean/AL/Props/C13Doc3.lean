import AL.Props.C13Doc
import AL.Model.Rules
/-
  C13 at the level of the whole document, continued: along the paths of `Lemmas/C13Path`, the key theorems for the
  mappings of the workflow syntax below the ones `C13Doc` treats (and, along any path, for containers and steps again).

  The parts, in the order of the file: repeated keys in the sections of free names; missing mandatory keys; unknown keys;
  repeated keys in the elements of `matrix.include` / `matrix.exclude`, in the object literals of a matrix row, in the
  remaining sections of fixed keys; a step with `with:` but no `uses:` (`shell:` but no `run:`); an unknown scope of
  `permissions:`. Each has instances on a concrete document. What the parser does not look at, report or keep is shown on witnesses
  (`step_with_after_run_not_parsed`, `*_without_image_not_reported`, `schedule_item_unknown_key_drops_cron`).
-/
namespace AL.C13D3
open AL.PW AL.Yaml AL.Ast AL.C13P AL.C13D

/-! ### repeated keys in the sections of free names (case-insensitive), at the level of the whole file -/

/-- a section parser that is `Sect.run` on mapping nodes (up to a wrapper of the result) reports a repeated key -/
theorem Sect.dup_ins {σ ρ β : Type} (S : Sect σ ρ) (Q : Node → R β) (f : ρ → β) (cfg : Cfg) (what : String) (ae cs : Bool)
    (tag : String) (l c : Nat)
    (hQ : ∀ ps, Q (mapNode tag l c ps) = (f (S.run cfg what (mapNode tag l c ps) ae cs).1, (S.run cfg what (mapNode tag l c ps) ae cs).2))
    (pre post : List (Node × Node)) (kn vn : Node) (h : Repeated cfg cs pre kn) :
    ∃ pos, firstPos cfg cs (keyId cfg cs kn) pre = some pos ∧ Ins Q tag l c pre post kn vn (dupAt kn what pos cs) := by
  obtain ⟨pos, hp, h1, h2⟩ := Sect.duplicate_key S cfg what tag l c ae cs pre post kn vn h.good h.earlier
  refine ⟨pos, hp, ?_⟩
  simp only [Ins, hQ, dupAt]
  exact ⟨by rw [h1], h2⟩

/-- the key/value pairs as `parseMapping` hands them out -/
def kvSect : Sect (List KV) (List KV) := plain (fun st kv => (st ++ [kv], [])) []

theorem kvSect_loop (kvs : List KV) : ∀ acc : List KV, loop kvSect.step acc kvs = (acc ++ kvs, []) := by
  intro acc
  rw [loop_snoc_eq_mapR (step := kvSect.step) (fun kv => (kv, [])) (fun _ _ => rfl) kvs acc]
  simp [mapR]

theorem kvSect_run (cfg : Cfg) (what : String) (n : Node) (ae cs : Bool) :
    kvSect.run cfg what n ae cs = parseMapping cfg what n ae cs := by
  have : kvSect.init = [] := rfl
  simp only [Sect.run, this, kvSect_loop, List.nil_append, List.append_nil]
  simp [kvSect, plain]

section
variable (cfg : Cfg) (tag : String) (l c : Nat) (pre post : List (Node × Node)) (kn vn : Node)

/-- **every mapping**: a repeated key is reported by `parseMapping` itself and dropped -/
theorem mapping_duplicate (what : String) (ae cs : Bool) (h : Repeated cfg cs pre kn) :
    ∃ pos, firstPos cfg cs (keyId cfg cs kn) pre = some pos ∧
      Ins (fun n => parseMapping cfg what n ae cs) tag l c pre post kn vn (dupAt kn what pos cs) :=
  Sect.dup_ins kvSect _ id cfg what ae cs tag l c (fun ps => by rw [kvSect_run]; rfl) pre post kn vn h

theorem outputs_duplicate (h : Repeated cfg false pre kn) :
    ∃ pos, firstPos cfg false (keyId cfg false kn) pre = some pos ∧
      Ins (parseOutputs cfg) tag l c pre post kn vn (dupAt kn (sectionWhat "outputs") pos false) :=
  Sect.dup_ins (outputsSect (mapNode tag l c [])) _ id cfg _ false false tag l c (fun ps => (parseOutputs_eq_run cfg tag l c ps).trans (Prod.eta _).symm)
    pre post kn vn h

theorem services_duplicate (h : Repeated cfg false pre kn) :
    ∃ pos, firstPos cfg false (keyId cfg false kn) pre = some pos ∧
      Ins (parseServices cfg) tag l c pre post kn vn (dupAt kn (sectionWhat "services") pos false) :=
  Sect.dup_ins (mapSect fun s => let c := parseContainer cfg "services" s.key.pos s.val; ((⟨s.key, c.1⟩ : Service), c.2))
    _ (fun r => (⟨some r, none, ⟨l, c⟩⟩ : Services)) cfg _ false false tag l c (parseServices_mapNode cfg tag l c) pre post kn vn h

theorem matrix_duplicate (pos : Yaml.Pos) (h : Repeated cfg false pre kn) :
    ∃ p, firstPos cfg false (keyId cfg false kn) pre = some p ∧
      Ins (parseMatrix cfg pos) tag l c pre post kn vn (dupAt kn (sectionWhat "matrix") p false) :=
  Sect.dup_ins (plain (matrixKey cfg) { rows := some [], pos := pos }) _ id cfg _ false false tag l c
    (parseMatrix_mapNode cfg tag l c pos) pre post kn vn h

theorem permissions_duplicate (pos : Yaml.Pos) (h : Repeated cfg false pre kn) :
    ∃ p, firstPos cfg false (keyId cfg false kn) pre = some p ∧
      Ins (parsePermissions cfg pos) tag l c pre post kn vn (dupAt kn (sectionWhat "permissions") p false) :=
  Sect.dup_ins (mapSect fun kv => let v := parseString kv.val false; ((⟨kv.key, v.1⟩ : PermissionScope), v.2))
    _ (fun r => (⟨none, some r, pos⟩ : Permissions)) cfg _ true false tag l c
    (fun ps => by simp [parsePermissions, parseSectionMapping, mapSect_run])
    pre post kn vn h

theorem jobSecrets_duplicate (h : Repeated cfg false pre kn) :
    ∃ pos, firstPos cfg false (keyId cfg false kn) pre = some pos ∧
      Ins (jobSecrets cfg) tag l c pre post kn vn (dupAt kn (sectionWhat "secrets") pos false) :=
  Sect.dup_ins (mapSect fun i => let v := parseString i.val true; ((⟨i.key, v.1⟩ : CallArg), v.2))
    _ (fun r => (false, some r)) cfg _ false false tag l c
    (fun ps => by simp [jobSecrets, callArgs, parseSectionMapping, mapSect_run])
    pre post kn vn h

theorem callInputs_duplicate (h : Repeated cfg false pre kn) :
    ∃ pos, firstPos cfg false (keyId cfg false kn) pre = some pos ∧
      Ins (callInputsP cfg) tag l c pre post kn vn (dupAt kn (sectionWhat "inputs") pos false) :=
  Sect.dup_ins (plain (fun (st : List CallInput) kv => (st ++ [(callInput cfg kv).1], (callInput cfg kv).2)) []) _ id cfg _ true false tag l c (fun _ => by rfl) pre post kn vn h

theorem callSecrets_duplicate (h : Repeated cfg false pre kn) :
    ∃ pos, firstPos cfg false (keyId cfg false kn) pre = some pos ∧
      Ins (callSecretsP cfg) tag l c pre post kn vn (dupAt kn (sectionWhat "secrets") pos false) :=
  Sect.dup_ins (mapSect (callSecret cfg)) _ id cfg _ true false tag l c (fun _ => by rfl) pre post kn vn h

theorem callOutputs_duplicate (h : Repeated cfg false pre kn) :
    ∃ pos, firstPos cfg false (keyId cfg false kn) pre = some pos ∧
      Ins (callOutputsP cfg) tag l c pre post kn vn (dupAt kn (sectionWhat "outputs") pos false) :=
  Sect.dup_ins (mapSect (callOutput cfg)) _ id cfg _ true false tag l c (fun _ => by rfl) pre post kn vn h

theorem dispatchInputs_duplicate (h : Repeated cfg false pre kn) :
    ∃ pos, firstPos cfg false (keyId cfg false kn) pre = some pos ∧
      Ins (dispatchInputsP cfg) tag l c pre post kn vn (dupAt kn (sectionWhat "inputs") pos false) :=
  Sect.dup_ins (mapSect (dispatchInput cfg)) _ id cfg _ true false tag l c (fun _ => by rfl) pre post kn vn h

end


section
variable (cfg : Cfg) (mW mJ mK mC mS mP mE : MapCtx) (sS : SeqCtx)
  (tag : String) (l c : Nat) (pre post : List (Node × Node)) (kn vn : Node)

/-- **`env:` anywhere**: along any path from the document to an `env:` value -/
theorem env_duplicate_at {ctx : Node → Node} (hp : Path (parse cfg) (parseEnv cfg) ctx) (hR : Repeated cfg false pre kn) :
    DupInDoc cfg ctx false "env" tag l c pre post kn vn :=
  hp.dup (env_duplicate cfg tag l c pre post kn vn hR)

theorem workflow_env_duplicate_in_document (hW : mW.Keyed cfg "env") (hR : Repeated cfg false pre kn) :
    DupInDoc cfg (fun v => docNode (mW.at v)) false "env" tag l c pre post kn vn :=
  env_duplicate_at cfg tag l c pre post kn vn (path_wf cfg mW (e_wf_env cfg mW hW)) hR

theorem job_env_duplicate_in_document (hW : mW.Keyed cfg "jobs") (hJ : mJ.Free cfg) (hK : mK.Keyed cfg "env")
    (hR : Repeated cfg false pre kn) :
    DupInDoc cfg (fun v => docNode (mW.at (mJ.at (mK.at v)))) false "env" tag l c pre post kn vn :=
  env_duplicate_at cfg tag l c pre post kn vn (path_job_key cfg mW mJ mK hW hJ (e_job_env cfg _ mK hK)) hR

theorem step_env_duplicate_in_document (hW : mW.Keyed cfg "jobs") (hJ : mJ.Free cfg) (hK : mK.Keyed cfg "steps")
    (hP : mP.Keyed cfg "env") (hR : Repeated cfg false pre kn) :
    DupInDoc cfg (fun v => docNode (mW.at (mJ.at (mK.at (sS.at (mP.at v)))))) false "env" tag l c pre post kn vn :=
  env_duplicate_at cfg tag l c pre post kn vn (path_step_key cfg mW mJ mK mP sS hW hJ hK (e_step_env cfg mP hP)) hR

theorem container_env_duplicate_in_document (hW : mW.Keyed cfg "jobs") (hJ : mJ.Free cfg) (hK : mK.Keyed cfg "container")
    (hC : mC.Keyed cfg "env") (hR : Repeated cfg false pre kn) :
    DupInDoc cfg (fun v => docNode (mW.at (mJ.at (mK.at (mC.at v))))) false "env" tag l c pre post kn vn :=
  env_duplicate_at cfg tag l c pre post kn vn
    ((path_job_key cfg mW mJ mK hW hJ (e_job_container cfg _ mK hK)).trans (e_container_env cfg _ _ mC hC)) hR

theorem service_env_duplicate_in_document (hW : mW.Keyed cfg "jobs") (hJ : mJ.Free cfg) (hK : mK.Keyed cfg "services")
    (hS : mS.Free cfg) (hC : mC.Keyed cfg "env") (hR : Repeated cfg false pre kn) :
    DupInDoc cfg (fun v => docNode (mW.at (mJ.at (mK.at (mS.at (mC.at v)))))) false "env" tag l c pre post kn vn :=
  env_duplicate_at cfg tag l c pre post kn vn
    (((path_job_key cfg mW mJ mK hW hJ (e_job_services cfg _ mK hK)).trans (e_services_service cfg mS hS)).trans
      (e_container_env cfg _ _ mC hC)) hR

theorem step_with_duplicate_in_document (hW : mW.Keyed cfg "jobs") (hJ : mJ.Free cfg) (hK : mK.Keyed cfg "steps")
    (hP : mP.Keyed cfg "with") (hrun : ∀ q ∈ mP.pre, keyId cfg true q.1 ≠ "run" ∧ keyId cfg true q.1 ≠ "shell")
    (hR : Repeated cfg false pre kn) :
    DupInDoc cfg (fun v => docNode (mW.at (mJ.at (mK.at (sS.at (mP.at v)))))) false (sectionWhat "with") tag l c pre post kn vn :=
  (path_step_key cfg mW mJ mK mP sS hW hJ hK (e_step_with cfg mP hP hrun)).dup
    (mapping_duplicate cfg tag l c pre post kn vn (sectionWhat "with") false false hR)

theorem call_with_duplicate_in_document (hW : mW.Keyed cfg "jobs") (hJ : mJ.Free cfg) (hK : mK.Keyed cfg "with")
    (hR : Repeated cfg false pre kn) :
    DupInDoc cfg (fun v => docNode (mW.at (mJ.at (mK.at v)))) false (sectionWhat "with") tag l c pre post kn vn :=
  (path_job_key cfg mW mJ mK hW hJ (e_job_with cfg _ mK hK)).dup
    (mapping_duplicate cfg tag l c pre post kn vn (sectionWhat "with") false false hR)

theorem call_secrets_duplicate_in_document (hW : mW.Keyed cfg "jobs") (hJ : mJ.Free cfg) (hK : mK.Keyed cfg "secrets")
    (hR : Repeated cfg false pre kn) :
    DupInDoc cfg (fun v => docNode (mW.at (mJ.at (mK.at v)))) false (sectionWhat "secrets") tag l c pre post kn vn :=
  (path_job_key cfg mW mJ mK hW hJ (e_job_secrets cfg _ mK hK)).dup (jobSecrets_duplicate cfg tag l c pre post kn vn hR)

theorem job_outputs_duplicate_in_document (hW : mW.Keyed cfg "jobs") (hJ : mJ.Free cfg) (hK : mK.Keyed cfg "outputs")
    (hR : Repeated cfg false pre kn) :
    DupInDoc cfg (fun v => docNode (mW.at (mJ.at (mK.at v)))) false (sectionWhat "outputs") tag l c pre post kn vn :=
  (path_job_key cfg mW mJ mK hW hJ (e_job_outputs cfg _ mK hK)).dup (outputs_duplicate cfg tag l c pre post kn vn hR)

theorem services_duplicate_in_document (hW : mW.Keyed cfg "jobs") (hJ : mJ.Free cfg) (hK : mK.Keyed cfg "services")
    (hR : Repeated cfg false pre kn) :
    DupInDoc cfg (fun v => docNode (mW.at (mJ.at (mK.at v)))) false (sectionWhat "services") tag l c pre post kn vn :=
  (path_job_key cfg mW mJ mK hW hJ (e_job_services cfg _ mK hK)).dup (services_duplicate cfg tag l c pre post kn vn hR)

theorem matrix_duplicate_in_document (hW : mW.Keyed cfg "jobs") (hJ : mJ.Free cfg) (hK : mK.Keyed cfg "strategy")
    (hS : mS.Keyed cfg "matrix") (hR : Repeated cfg false pre kn) :
    DupInDoc cfg (fun v => docNode (mW.at (mJ.at (mK.at (mS.at v))))) false (sectionWhat "matrix") tag l c pre post kn vn :=
  ((path_job_key cfg mW mJ mK hW hJ (e_job_strategy cfg _ mK hK)).trans (e_strategy_matrix cfg _ mS hS)).dup
    (matrix_duplicate cfg tag l c pre post kn vn _ hR)

theorem workflow_permissions_duplicate_in_document (hW : mW.Keyed cfg "permissions") (hR : Repeated cfg false pre kn) :
    DupInDoc cfg (fun v => docNode (mW.at v)) false (sectionWhat "permissions") tag l c pre post kn vn :=
  (path_wf cfg mW (e_wf_permissions cfg mW hW)).dup (permissions_duplicate cfg tag l c pre post kn vn _ hR)

theorem job_permissions_duplicate_in_document (hW : mW.Keyed cfg "jobs") (hJ : mJ.Free cfg) (hK : mK.Keyed cfg "permissions")
    (hR : Repeated cfg false pre kn) :
    DupInDoc cfg (fun v => docNode (mW.at (mJ.at (mK.at v)))) false (sectionWhat "permissions") tag l c pre post kn vn :=
  (path_job_key cfg mW mJ mK hW hJ (e_job_permissions cfg _ mK hK)).dup (permissions_duplicate cfg tag l c pre post kn vn _ hR)

theorem callInputs_duplicate_in_document (hW : mW.Keyed cfg "on") (hJ : mJ.Keyed cfg "workflow_call") (hE : mE.Keyed cfg "inputs")
    (hR : Repeated cfg false pre kn) :
    DupInDoc cfg (fun v => docNode (mW.at (mJ.at (mE.at v)))) false (sectionWhat "inputs") tag l c pre post kn vn :=
  ((path_event cfg mW mJ hW (e_on_call cfg _ mJ hJ)).trans (e_call_inputs cfg _ mE hE)).dup
    (callInputs_duplicate cfg tag l c pre post kn vn hR)

theorem callSecrets_duplicate_in_document (hW : mW.Keyed cfg "on") (hJ : mJ.Keyed cfg "workflow_call") (hE : mE.Keyed cfg "secrets")
    (hR : Repeated cfg false pre kn) :
    DupInDoc cfg (fun v => docNode (mW.at (mJ.at (mE.at v)))) false (sectionWhat "secrets") tag l c pre post kn vn :=
  ((path_event cfg mW mJ hW (e_on_call cfg _ mJ hJ)).trans (e_call_secrets cfg _ mE hE)).dup
    (callSecrets_duplicate cfg tag l c pre post kn vn hR)

theorem callOutputs_duplicate_in_document (hW : mW.Keyed cfg "on") (hJ : mJ.Keyed cfg "workflow_call") (hE : mE.Keyed cfg "outputs")
    (hR : Repeated cfg false pre kn) :
    DupInDoc cfg (fun v => docNode (mW.at (mJ.at (mE.at v)))) false (sectionWhat "outputs") tag l c pre post kn vn :=
  ((path_event cfg mW mJ hW (e_on_call cfg _ mJ hJ)).trans (e_call_outputs cfg _ mE hE)).dup
    (callOutputs_duplicate cfg tag l c pre post kn vn hR)

theorem dispatchInputs_duplicate_in_document (hW : mW.Keyed cfg "on") (hJ : mJ.Keyed cfg "workflow_dispatch")
    (hE : mE.Keyed cfg "inputs") (hR : Repeated cfg false pre kn) :
    DupInDoc cfg (fun v => docNode (mW.at (mJ.at (mE.at v)))) false (sectionWhat "inputs") tag l c pre post kn vn :=
  ((path_event cfg mW mJ hW (e_on_dispatch cfg _ mJ hJ)).trans (e_dispatch_inputs cfg _ mE hE)).dup
    (dispatchInputs_duplicate cfg tag l c pre post kn vn hR)

end

/-! ### concrete documents (the hypotheses are satisfiable, the conclusions are what one sees) -/

/-- `on: push` / `jobs: ·` -/
def exRoot : MapCtx := ⟨"!!map", 1, 1, [(sc "on" 1 1, sc "push" 1 5)], sc "jobs" 2 1, []⟩
/-- `build: ·` -/
def exJobs : MapCtx := ⟨"!!map", 3, 3, [], sc "build" 3 3, []⟩
def exStep0 : Node := mapNode "!!map" 6 9 [(sc "run" 6 9, sc "echo" 6 14)]
/-- the job: `runs-on: ubuntu-latest` / `steps: [{run: echo}]` / `k: ·` -/
def exJobKey (k : String) : MapCtx :=
  ⟨"!!map", 4, 5, [(sc "runs-on" 4 5, sc "ubuntu-latest" 4 14), (sc "steps" 5 5, seqNode "!!seq" 6 7 [exStep0])], sc k 8 5, []⟩
/-- the job: `runs-on: ubuntu-latest` / `steps: ·` -/
def exJobSteps : MapCtx := ⟨"!!map", 4, 5, [(sc "runs-on" 4 5, sc "ubuntu-latest" 4 14)], sc "steps" 5 5, []⟩
/-- `- ·` -/
def exSeq : SeqCtx := ⟨"!!seq", 6, 7, [], []⟩
/-- the step: `uses: actions/checkout@v4` / `k: ·` -/
def exStepKey (k : String) : MapCtx := ⟨"!!map", 6, 9, [(sc "uses" 6 9, sc "actions/checkout@v4" 6 15)], sc k 7 9, []⟩
/-- a mapping `first: ·` (one level, whatever the section) -/
def exOnly (k : String) (l c : Nat) : MapCtx := ⟨"!!map", l, c, [], sc k l c, []⟩

theorem keyed {cfg : Cfg} {tag : String} {l c : Nat} {pre post : List (Node × Node)} {k : String} {kl kc : Nat}
    (hk : k ≠ "" := by decide +kernel) (hfirst : ∀ q ∈ pre, keyId cfg true q.1 ≠ k := by decide +kernel) :
    (⟨tag, l, c, pre, sc k kl kc, post⟩ : MapCtx).Keyed cfg k :=
  ⟨goodKey_of_scalar _ rfl hk, rfl, hfirst⟩

theorem foreign {cfg : Cfg} {keys : List String} {pre post : List (Node × Node)} {k : String} {l c : Nat}
    (hk : k ≠ "" := by decide +kernel) (hun : k ∉ keys := by decide +kernel)
    (hfresh : ∀ q ∈ pre ++ post, keyId cfg true q.1 ≠ k := by decide +kernel) (hne : pre ++ post ≠ [] := by decide +kernel) :
    Foreign cfg keys pre post (sc k l c) :=
  ⟨goodKey_of_scalar _ rfl hk, hun, hfresh, hne⟩

theorem exRoot_jobs : exRoot.Keyed exCfg "jobs" := keyed
theorem exJobSteps_steps : exJobSteps.Keyed exCfg "steps" := keyed

theorem parseString_sc (k : String) (l c : Nat) : (parseString (sc k l c) false).1.value = k := by
  by_cases h : k = "" <;> simp [parseString, checkString, newString, sc, Node.kind, Node.value, h]

theorem repeated_same {cfg : Cfg} {cs : Bool} {k : String} {l c l' c' : Nat} {v : Node} (hk : k ≠ "" := by decide +kernel) :
    Repeated cfg cs [(sc k l c, v)] (sc k l' c') :=
  ⟨goodKey_of_scalar _ rfl hk, _, List.mem_singleton.2 rfl, by simp only [keyId, parseString_sc]⟩

/-- `asciiLower`, one letter -/
def lowerChar (c : Char) : Char := if 'A' ≤ c ∧ c ≤ 'Z' then Char.ofNat (c.toNat + 32) else c

theorem asciiLower_eq (s : String) : asciiLower s = String.ofList (s.toList.map lowerChar) := rfl

/-- two spellings of a key that differ in the case of ASCII letters. `h` compares the lists of lowered letters, not the
lowered strings: it is discharged by evaluation, and building the strings is the slow part of `asciiLower` -/
theorem repeated_fold {k k' : String} {l c l' c' : Nat} {v : Node}
    (h : k.toList.map lowerChar = k'.toList.map lowerChar) (hk : k' ≠ "" := by decide +kernel) :
    Repeated exCfg false [(sc k l c, v)] (sc k' l' c') :=
  ⟨goodKey_of_scalar _ rfl hk, _, List.mem_singleton.2 rfl, by
    simp only [keyId, parseString_sc]
    exact (asciiLower_eq k).trans ((congrArg String.ofList h).trans (asciiLower_eq k').symm)⟩

/-- `env: {A: "1", a: "2"}` in a step: the second one is reported (case-insensitive), 9:15 names 9:9 -/
example : DupInDoc exCfg (fun v => docNode (exRoot.at (exJobs.at (exJobSteps.at (exSeq.at ((exStepKey "env").at v))))))
    false "env" "!!map" 8 11 [(sc "A" 8 11, sc "1" 8 14)] [] (sc "a" 9 11) (sc "2" 9 14) :=
  step_env_duplicate_in_document exCfg exRoot exJobs exJobSteps (exStepKey "env") exSeq "!!map" 8 11 _ [] _ _
    exRoot_jobs (by decide) exJobSteps_steps keyed (repeated_fold (by decide +kernel))

example :
    (parse exCfg (docNode (exRoot.at (exJobs.at (exJobSteps.at (exSeq.at ((exStepKey "env").at
      (mapNode "!!map" 8 11 [(sc "A" 8 11, sc "1" 8 14), (sc "a" 9 11, sc "2" 9 14)])))))))).2 =
      [dupAt (sc "a" 9 11) "env" ⟨8, 11⟩ false] := by decide +kernel

/-- the `jobs:` mapping of the examples, complete -/
def exJobsNode : Node := exJobs.at (exJobSteps.at (exSeq.at exStep0))
/-- `on: push` / `jobs: {…}` / `k: ·` -/
def exRootKey (k : String) : MapCtx :=
  ⟨"!!map", 1, 1, [(sc "on" 1 1, sc "push" 1 5), (sc "jobs" 2 1, exJobsNode)], sc k 9 1, []⟩
/-- `on: ·` / `jobs: {…}` -/
def exOnRoot : MapCtx := ⟨"!!map", 1, 1, [], sc "on" 1 1, [(sc "jobs" 5 1, exJobsNode)]⟩
theorem exOnRoot_on : exOnRoot.Keyed exCfg "on" := keyed
/-- a job that calls a reusable workflow: `uses: …` / `k: ·` -/
def exCallKey (k : String) : MapCtx :=
  ⟨"!!map", 4, 5, [(sc "uses" 4 5, sc "o/r/.github/workflows/w.yml@v1" 4 11)], sc k 5 5, []⟩

/-- `env: {A: "1", a: "2"}` at the top level -/
example : DupInDoc exCfg (fun v => docNode ((exRootKey "env").at v))
    false "env" "!!map" 10 3 [(sc "A" 10 3, sc "1" 10 6)] [] (sc "a" 11 3) (sc "2" 11 6) :=
  workflow_env_duplicate_in_document exCfg (exRootKey "env") "!!map" 10 3 _ [] _ _ keyed (repeated_fold (by decide +kernel))

/-- … in a job -/
example : DupInDoc exCfg (fun v => docNode (exRoot.at (exJobs.at ((exJobKey "env").at v))))
    false "env" "!!map" 9 7 [(sc "A" 9 7, sc "1" 9 10)] [] (sc "a" 10 7) (sc "2" 10 10) :=
  job_env_duplicate_in_document exCfg exRoot exJobs (exJobKey "env") "!!map" 9 7 _ [] _ _
    exRoot_jobs (by decide) keyed (repeated_fold (by decide +kernel))

/-- … in the job's container -/
example : DupInDoc exCfg (fun v => docNode (exRoot.at (exJobs.at ((exJobKey "container").at
      ((⟨"!!map", 9, 7, [(sc "image" 9 7, sc "node" 9 14)], sc "env" 10 7, []⟩ : MapCtx).at v)))))
    false "env" "!!map" 11 9 [(sc "A" 11 9, sc "1" 11 12)] [] (sc "a" 12 9) (sc "2" 12 12) :=
  container_env_duplicate_in_document exCfg exRoot exJobs (exJobKey "container") _ "!!map" 11 9 _ [] _ _
    exRoot_jobs (by decide) keyed keyed (repeated_fold (by decide +kernel))

/-- … in a service's container (`services: {db: {image: postgres, env: {A: "1", a: "2"}}}`) -/
example : DupInDoc exCfg (fun v => docNode (exRoot.at (exJobs.at ((exJobKey "services").at ((exOnly "db" 9 7).at
      ((⟨"!!map", 10, 9, [(sc "image" 10 9, sc "postgres" 10 16)], sc "env" 11 9, []⟩ : MapCtx).at v))))))
    false "env" "!!map" 12 11 [(sc "A" 12 11, sc "1" 12 14)] [] (sc "a" 13 11) (sc "2" 13 14) :=
  service_env_duplicate_in_document exCfg exRoot exJobs (exJobKey "services") _ (exOnly "db" 9 7) "!!map" 12 11 _ [] _ _
    exRoot_jobs (by decide) keyed (by decide) keyed (repeated_fold (by decide +kernel))

/-- `with: {token: x, Token: y}` in a step that `uses:` an action -/
example : DupInDoc exCfg (fun v => docNode (exRoot.at (exJobs.at (exJobSteps.at (exSeq.at ((exStepKey "with").at v))))))
    false (sectionWhat "with") "!!map" 8 11 [(sc "token" 8 11, sc "x" 8 18)] [] (sc "Token" 9 11) (sc "y" 9 18) :=
  step_with_duplicate_in_document exCfg exRoot exJobs exJobSteps (exStepKey "with") exSeq "!!map" 8 11 _ [] _ _
    exRoot_jobs (by decide) exJobSteps_steps keyed (by decide) (repeated_fold (by decide +kernel))

/-- `with:` / `secrets:` of a job that calls a reusable workflow -/
example : DupInDoc exCfg (fun v => docNode (exRoot.at (exJobs.at ((exCallKey "with").at v))))
    false (sectionWhat "with") "!!map" 6 7 [(sc "name" 6 7, sc "x" 6 13)] [] (sc "NAME" 7 7) (sc "y" 7 13) :=
  call_with_duplicate_in_document exCfg exRoot exJobs (exCallKey "with") "!!map" 6 7 _ [] _ _
    exRoot_jobs (by decide) keyed (repeated_fold (by decide +kernel))

example : DupInDoc exCfg (fun v => docNode (exRoot.at (exJobs.at ((exCallKey "secrets").at v))))
    false (sectionWhat "secrets") "!!map" 6 7 [(sc "tok" 6 7, sc "x" 6 12)] [] (sc "TOK" 7 7) (sc "y" 7 12) :=
  call_secrets_duplicate_in_document exCfg exRoot exJobs (exCallKey "secrets") "!!map" 6 7 _ [] _ _
    exRoot_jobs (by decide) keyed (repeated_fold (by decide +kernel))

/-- `outputs:` of a job -/
example : DupInDoc exCfg (fun v => docNode (exRoot.at (exJobs.at ((exJobKey "outputs").at v))))
    false (sectionWhat "outputs") "!!map" 9 7 [(sc "out" 9 7, sc "x" 9 12)] [] (sc "Out" 10 7) (sc "y" 10 12) :=
  job_outputs_duplicate_in_document exCfg exRoot exJobs (exJobKey "outputs") "!!map" 9 7 _ [] _ _
    exRoot_jobs (by decide) keyed (repeated_fold (by decide +kernel))

/-- `services: {db: postgres, DB: mysql}` -/
example : DupInDoc exCfg (fun v => docNode (exRoot.at (exJobs.at ((exJobKey "services").at v))))
    false (sectionWhat "services") "!!map" 9 7 [(sc "db" 9 7, sc "postgres" 9 11)] [] (sc "DB" 10 7) (sc "mysql" 10 11) :=
  services_duplicate_in_document exCfg exRoot exJobs (exJobKey "services") "!!map" 9 7 _ [] _ _
    exRoot_jobs (by decide) keyed (repeated_fold (by decide +kernel))

/-- `strategy: {matrix: {os: [linux], OS: [mac]}}` -/
example : DupInDoc exCfg (fun v => docNode (exRoot.at (exJobs.at ((exJobKey "strategy").at ((exOnly "matrix" 9 7).at v)))))
    false (sectionWhat "matrix") "!!map" 10 9 [(sc "os" 10 9, seqNode "!!seq" 10 13 [sc "linux" 10 14])] []
      (sc "OS" 11 9) (seqNode "!!seq" 11 13 [sc "mac" 11 14]) :=
  matrix_duplicate_in_document exCfg exRoot exJobs (exJobKey "strategy") (exOnly "matrix" 9 7) "!!map" 10 9 _ [] _ _
    exRoot_jobs (by decide) keyed keyed (repeated_fold (by decide +kernel))

/-- `permissions: {contents: read, Contents: write}` at the top level and in a job -/
example : DupInDoc exCfg (fun v => docNode ((exRootKey "permissions").at v))
    false (sectionWhat "permissions") "!!map" 10 3 [(sc "contents" 10 3, sc "read" 10 13)] [] (sc "Contents" 11 3) (sc "write" 11 13) :=
  workflow_permissions_duplicate_in_document exCfg (exRootKey "permissions") "!!map" 10 3 _ [] _ _ keyed (repeated_fold (by decide +kernel))

example : DupInDoc exCfg (fun v => docNode (exRoot.at (exJobs.at ((exJobKey "permissions").at v))))
    false (sectionWhat "permissions") "!!map" 9 7 [(sc "contents" 9 7, sc "read" 9 17)] [] (sc "Contents" 10 7) (sc "write" 10 17) :=
  job_permissions_duplicate_in_document exCfg exRoot exJobs (exJobKey "permissions") "!!map" 9 7 _ [] _ _
    exRoot_jobs (by decide) keyed (repeated_fold (by decide +kernel))

/-- `on: {workflow_call: {inputs: {a: {type: string}, A: {type: string}}}}`, and the same for `secrets:` / `outputs:` -/
example : DupInDoc exCfg (fun v => docNode (exOnRoot.at ((exOnly "workflow_call" 2 3).at ((exOnly "inputs" 3 5).at v))))
    false (sectionWhat "inputs") "!!map" 4 7 [(sc "a" 4 7, mapNode "!!map" 4 10 [(sc "type" 4 11, sc "string" 4 17)])] []
      (sc "A" 5 7) (mapNode "!!map" 5 10 [(sc "type" 5 11, sc "string" 5 17)]) :=
  callInputs_duplicate_in_document exCfg exOnRoot (exOnly "workflow_call" 2 3) (exOnly "inputs" 3 5) "!!map" 4 7 _ [] _ _
    exOnRoot_on keyed keyed (repeated_fold (by decide +kernel))

example : DupInDoc exCfg (fun v => docNode (exOnRoot.at ((exOnly "workflow_call" 2 3).at ((exOnly "secrets" 3 5).at v))))
    false (sectionWhat "secrets") "!!map" 4 7 [(sc "a" 4 7, mapNode "!!map" 4 10 [(sc "required" 4 11, sc "true" 4 21)])] []
      (sc "A" 5 7) (mapNode "!!map" 5 10 []) :=
  callSecrets_duplicate_in_document exCfg exOnRoot (exOnly "workflow_call" 2 3) (exOnly "secrets" 3 5) "!!map" 4 7 _ [] _ _
    exOnRoot_on keyed keyed (repeated_fold (by decide +kernel))

example : DupInDoc exCfg (fun v => docNode (exOnRoot.at ((exOnly "workflow_call" 2 3).at ((exOnly "outputs" 3 5).at v))))
    false (sectionWhat "outputs") "!!map" 4 7 [(sc "a" 4 7, mapNode "!!map" 4 10 [(sc "value" 4 11, sc "x" 4 18)])] []
      (sc "A" 5 7) (mapNode "!!map" 5 10 []) :=
  callOutputs_duplicate_in_document exCfg exOnRoot (exOnly "workflow_call" 2 3) (exOnly "outputs" 3 5) "!!map" 4 7 _ [] _ _
    exOnRoot_on keyed keyed (repeated_fold (by decide +kernel))

/-- `on: {workflow_dispatch: {inputs: {a: {}, A: {}}}}` -/
example : DupInDoc exCfg (fun v => docNode (exOnRoot.at ((exOnly "workflow_dispatch" 2 3).at ((exOnly "inputs" 3 5).at v))))
    false (sectionWhat "inputs") "!!map" 4 7 [(sc "a" 4 7, mapNode "!!map" 4 10 [])] [] (sc "A" 5 7) (mapNode "!!map" 5 10 []) :=
  dispatchInputs_duplicate_in_document exCfg exOnRoot (exOnly "workflow_dispatch" 2 3) (exOnly "inputs" 3 5) "!!map" 4 7 _ [] _ _
    exOnRoot_on keyed keyed (repeated_fold (by decide +kernel))

/-! #### `with:` after `run:` is not looked at

`parseStep` reports `with:` (and `uses:`) as a whole when the step already has `run:` / `shell:` — and `continue`s: the value is
not parsed, so a repeated key INSIDE that `with:` is not reported (nor anything else in it). The hypothesis `hrun` of
`e_step_with` / `step_with_duplicate_in_document` is therefore necessary. -/

/-- `- run: echo` / `  with: {token: x, Token: y}`: the only diagnostic is the one at the `with` key -/
theorem step_with_after_run_not_parsed :
    (parse exCfg (docNode (exRoot.at (exJobs.at (exJobSteps.at (exSeq.at
      (mapNode "!!map" 6 9 [(sc "run" 6 9, sc "echo" 6 14),
        (sc "with" 7 9, mapNode "!!map" 8 11 [(sc "token" 8 11, sc "x" 8 18), (sc "Token" 9 11, sc "y" 9 18)])]))))))).2 =
      [⟨⟨7, 9⟩, "step-run-but-action-key", ["with"]⟩] := by decide +kernel

/-! ### missing mandatory keys, at the level of the whole file

The hypotheses are on the key NODES of the mapping (no key with that id among the pairs); the conclusion is that the
diagnostic is among the diagnostics of the whole file — whatever the values of the other keys, the other jobs, the rest of
the document. -/

/-- no pair of the mapping has the id `k` ⇒ none of the entries `parseMapping` hands out has -/
theorem ids_of_pairs (cfg : Cfg) (what tag : String) (l c : Nat) (ps : List (Node × Node)) (ae cs : Bool) (P : String → Prop)
    (h : ∀ q ∈ ps, P (keyId cfg cs q.1)) :
    ∀ kv ∈ (parseMapping cfg what (mapNode tag l c ps) ae cs).1, P kv.id := by
  intro kv hkv
  rw [parseMapping_mapNode] at hkv
  obtain ⟨q, hq, hid, _⟩ := mappingLoop_ids cfg what cs ps [] kv hkv
  rw [hid]; exact h q hq

section
variable (cfg : Cfg) (mW mJ mK mC mS mP mE mI : MapCtx) (sS : SeqCtx) (tag : String) (l c : Nat) (ps : List (Node × Node))

theorem workflow_missing_on_in_document (h : ∀ q ∈ ps, keyId cfg true q.1 ≠ "on") :
    (⟨⟨1, 1⟩, "workflow-no-on", []⟩ : PErr) ∈ (parse cfg (docNode (mapNode tag l c ps))).2 :=
  workflow_missing_on cfg (docNode (mapNode tag l c ps)) (mapNode tag l c ps) [] rfl
    (ids_of_pairs cfg "workflow" tag l c ps false true (· ≠ "on") h)

theorem workflow_missing_jobs_in_document (h : ∀ q ∈ ps, keyId cfg true q.1 ≠ "jobs") :
    (⟨⟨1, 1⟩, "workflow-no-jobs", []⟩ : PErr) ∈ (parse cfg (docNode (mapNode tag l c ps))).2 :=
  workflow_missing_jobs cfg (docNode (mapNode tag l c ps)) (mapNode tag l c ps) [] rfl
    (ids_of_pairs cfg "workflow" tag l c ps false true (· ≠ "jobs") h)

theorem job_missing_steps_in_document (hW : mW.Keyed cfg "jobs") (hJ : mJ.Free cfg)
    (h : ∀ q ∈ ps, keyId cfg true q.1 ≠ "steps" ∧ keyId cfg true q.1 ≠ "uses") :
    (⟨(parseString mJ.key false).1.pos, "job-no-steps", [(parseString mJ.key false).1.value]⟩ : PErr) ∈
      (parse cfg (docNode (mW.at (mJ.at (mapNode tag l c ps))))).2 :=
  (path_job cfg mW mJ hW hJ).reported
    (job_missing_steps cfg _ _ (ids_of_pairs cfg _ tag l c ps false true (fun k => k ≠ "steps" ∧ k ≠ "uses") h))

theorem job_missing_runs_on_in_document (hW : mW.Keyed cfg "jobs") (hJ : mJ.Free cfg)
    (h : ∀ q ∈ ps, keyId cfg true q.1 ≠ "runs-on" ∧ keyId cfg true q.1 ≠ "uses") :
    (⟨(parseString mJ.key false).1.pos, "job-no-runs-on", [(parseString mJ.key false).1.value]⟩ : PErr) ∈
      (parse cfg (docNode (mW.at (mJ.at (mapNode tag l c ps))))).2 :=
  (path_job cfg mW mJ hW hJ).reported
    (job_missing_runs_on cfg _ _ (ids_of_pairs cfg _ tag l c ps false true (fun k => k ≠ "runs-on" ∧ k ≠ "uses") h))

theorem step_missing_exec_in_document (hW : mW.Keyed cfg "jobs") (hJ : mJ.Free cfg) (hK : mK.Keyed cfg "steps")
    (h : ∀ q ∈ ps, keyId cfg true q.1 ≠ "run" ∧ keyId cfg true q.1 ≠ "shell" ∧ keyId cfg true q.1 ≠ "uses" ∧
      keyId cfg true q.1 ≠ "with") :
    (⟨⟨l, c⟩, "step-no-exec", []⟩ : PErr) ∈ (parse cfg (docNode (mW.at (mJ.at (mK.at (sS.at (mapNode tag l c ps))))))).2 :=
  (path_step cfg mW mJ mK sS hW hJ hK).reported
    (step_missing_exec cfg (mapNode tag l c ps)
      (ids_of_pairs cfg _ tag l c ps false true (fun k => k ≠ "run" ∧ k ≠ "shell" ∧ k ≠ "uses" ∧ k ≠ "with") h))

theorem concurrency_missing_group_at {ctx : Node → Node} {pos : Yaml.Pos} (hp : Path (parse cfg) (parseConcurrency cfg pos) ctx)
    (h : ∀ q ∈ ps, keyId cfg true q.1 ≠ "group") :
    (⟨pos, "concurrency-no-group", []⟩ : PErr) ∈ (parse cfg (ctx (mapNode tag l c ps))).2 :=
  hp.reported (concurrency_missing_group cfg tag l c pos ps (ids_of_pairs cfg _ tag l c ps false true (· ≠ "group") h))

theorem workflow_concurrency_missing_group_in_document (hW : mW.Keyed cfg "concurrency")
    (h : ∀ q ∈ ps, keyId cfg true q.1 ≠ "group") :
    (⟨(parseString mW.key false).1.pos, "concurrency-no-group", []⟩ : PErr) ∈ (parse cfg (docNode (mW.at (mapNode tag l c ps)))).2 :=
  -- `(… :)`, here and below: the document is `ctx (mapNode …)` for a `ctx` that only the path tells; looking for it by
  -- unification with the expected type unfolds the parser before giving up
  (concurrency_missing_group_at cfg tag l c ps (path_wf cfg mW (e_wf_concurrency cfg mW hW)) h :)

theorem job_concurrency_missing_group_in_document (hW : mW.Keyed cfg "jobs") (hJ : mJ.Free cfg) (hK : mK.Keyed cfg "concurrency")
    (h : ∀ q ∈ ps, keyId cfg true q.1 ≠ "group") :
    (⟨(parseString mK.key false).1.pos, "concurrency-no-group", []⟩ : PErr) ∈
      (parse cfg (docNode (mW.at (mJ.at (mK.at (mapNode tag l c ps)))))).2 :=
  (concurrency_missing_group_at cfg tag l c ps (path_job_key cfg mW mJ mK hW hJ (e_job_concurrency cfg _ mK hK)) h :)

theorem environment_missing_name_in_document (hW : mW.Keyed cfg "jobs") (hJ : mJ.Free cfg) (hK : mK.Keyed cfg "environment")
    (h : ∀ q ∈ ps, keyId cfg true q.1 ≠ "name") :
    (⟨(parseString mK.key false).1.pos, "environment-no-name", []⟩ : PErr) ∈
      (parse cfg (docNode (mW.at (mJ.at (mK.at (mapNode tag l c ps)))))).2 :=
  (path_job_key cfg mW mJ mK hW hJ (e_job_environment cfg _ mK hK)).reported
    (environment_missing_name cfg tag l c _ ps (ids_of_pairs cfg _ tag l c ps false true (· ≠ "name") h))

theorem defaults_missing_run_at {ctx : Node → Node} {pos : Yaml.Pos} (hp : Path (parse cfg) (parseDefaults cfg pos) ctx)
    (h : ∀ q ∈ ps, keyId cfg true q.1 ≠ "run") :
    (⟨⟨l, c⟩, "defaults-no-run", []⟩ : PErr) ∈ (parse cfg (ctx (mapNode tag l c ps))).2 :=
  hp.reported (defaults_missing_run cfg pos (mapNode tag l c ps) (ids_of_pairs cfg _ tag l c ps false true (· ≠ "run") h))

theorem workflow_defaults_missing_run_in_document (hW : mW.Keyed cfg "defaults") (h : ∀ q ∈ ps, keyId cfg true q.1 ≠ "run") :
    (⟨⟨l, c⟩, "defaults-no-run", []⟩ : PErr) ∈ (parse cfg (docNode (mW.at (mapNode tag l c ps)))).2 :=
  (defaults_missing_run_at cfg tag l c ps (path_wf cfg mW (e_wf_defaults cfg mW hW)) h :)

theorem job_defaults_missing_run_in_document (hW : mW.Keyed cfg "jobs") (hJ : mJ.Free cfg) (hK : mK.Keyed cfg "defaults")
    (h : ∀ q ∈ ps, keyId cfg true q.1 ≠ "run") :
    (⟨⟨l, c⟩, "defaults-no-run", []⟩ : PErr) ∈ (parse cfg (docNode (mW.at (mJ.at (mK.at (mapNode tag l c ps)))))).2 :=
  (defaults_missing_run_at cfg tag l c ps (path_job_key cfg mW mJ mK hW hJ (e_job_defaults cfg _ mK hK)) h :)

theorem callInput_missing_type_in_document (hW : mW.Keyed cfg "on") (hJ : mJ.Keyed cfg "workflow_call") (hE : mE.Keyed cfg "inputs")
    (hI : mI.Free cfg) (h : ∀ q ∈ ps, keyId cfg true q.1 ≠ "type") :
    (⟨(parseString mI.key false).1.pos, "call-input-type-missing", [(parseString mI.key false).1.value]⟩ : PErr) ∈
      (parse cfg (docNode (mW.at (mJ.at (mE.at (mI.at (mapNode tag l c ps))))))).2 :=
  (((path_event cfg mW mJ hW (e_on_call cfg _ mJ hJ)).trans (e_call_inputs cfg _ mE hE)).trans
    (e_callInputs_input cfg mI hI)).reported
    (callInput_missing_type cfg ⟨keyId cfg false mI.key, (parseString mI.key false).1, mapNode tag l c ps⟩
      (ids_of_pairs cfg _ tag l c ps true true (· ≠ "type") h))

theorem callOutput_missing_value_in_document (hW : mW.Keyed cfg "on") (hJ : mJ.Keyed cfg "workflow_call")
    (hE : mE.Keyed cfg "outputs") (hI : mI.Free cfg) (h : ∀ q ∈ ps, keyId cfg true q.1 ≠ "value") :
    (⟨(parseString mI.key false).1.pos, "call-output-value-missing", [(parseString mI.key false).1.value]⟩ : PErr) ∈
      (parse cfg (docNode (mW.at (mJ.at (mE.at (mI.at (mapNode tag l c ps))))))).2 :=
  (((path_event cfg mW mJ hW (e_on_call cfg _ mJ hJ)).trans (e_call_outputs cfg _ mE hE)).trans
    (e_callOutputs_output cfg mI hI)).reported
    (callOutput_missing_value cfg ⟨keyId cfg false mI.key, (parseString mI.key false).1, mapNode tag l c ps⟩
      (ids_of_pairs cfg _ tag l c ps true true (· ≠ "value") h))

end

/-! #### `credentials:` without `username:` / `password:` -/

/-- `credentials:` with the check that comes with it in the container's loop body: `none` = reported ("both username and
password") and dropped -/
def credentialsChecked (cfg : Cfg) (pos : Yaml.Pos) (n : Node) : R (Option Credentials) :=
  if (credentialsP cfg pos n).1.username.isNone || (credentialsP cfg pos n).1.password.isNone then
    (none, (credentialsP cfg pos n).2 ++ [⟨pos, "credentials-pair", []⟩])
  else (some (credentialsP cfg pos n).1, (credentialsP cfg pos n).2)

theorem containerKey_credentials' (cfg : Cfg) (sec : String) (st : Container) (key : Str) (v : Node) :
    containerKey cfg sec st ⟨"credentials", key, v⟩ =
      ((match (credentialsChecked cfg key.pos v).1 with | some c => { st with credentials := some c } | none => st),
       (credentialsChecked cfg key.pos v).2) := by
  rw [containerKey_credentials]
  simp only [credentialsChecked]
  by_cases hc : ((credentialsP cfg key.pos v).1.username.isNone || (credentialsP cfg key.pos v).1.password.isNone) = true
  · simp only [hc, ↓reduceIte]
  · simp only [hc, Bool.false_eq_true, ↓reduceIte]

theorem e_container_credentialsChecked (cfg : Cfg) (sec : String) (pos : Yaml.Pos) (m : MapCtx) (hk : m.Keyed cfg "credentials") :
    Path (parseContainer cfg sec pos) (credentialsChecked cfg (parseString m.key false).1.pos) m.at :=
  container_edge cfg sec pos m "credentials" hk _ (fun s =>
    Path.of_eq (fun r => match r with | some c => { s with credentials := some c } | none => s) (fun _ => containerKey_credentials' ..))

section
variable (cfg : Cfg) (mW mJ mK mC mS : MapCtx) (sS : SeqCtx) (tag : String) (l c : Nat) (ps : List (Node × Node))

theorem credentialsChecked_incomplete (pos : Yaml.Pos)
    (h : (∀ q ∈ ps, keyId cfg true q.1 ≠ "username") ∨ (∀ q ∈ ps, keyId cfg true q.1 ≠ "password")) :
    (⟨pos, "credentials-pair", []⟩ : PErr) ∈ (credentialsChecked cfg pos (mapNode tag l c ps)).2 := by
  have key : (⟨pos, "credentials-pair", []⟩ : PErr) ∈
      (containerKey cfg "container" { pos := pos } ⟨"credentials", ⟨"", false, pos⟩, mapNode tag l c ps⟩).2 := by
    rcases h with h | h
    · exact credentials_missing_username cfg "container" _ ⟨"credentials", ⟨"", false, pos⟩, mapNode tag l c ps⟩ rfl
        (ids_of_pairs cfg _ tag l c ps false true (· ≠ "username") h)
    · exact credentials_missing_password cfg "container" _ ⟨"credentials", ⟨"", false, pos⟩, mapNode tag l c ps⟩ rfl
        (ids_of_pairs cfg _ tag l c ps false true (· ≠ "password") h)
  rw [containerKey_credentials'] at key
  exact key

/-- `credentials:` without `username:` or without `password:`, in any container — reported at the `credentials` key -/
theorem credentials_incomplete_at {ctx : Node → Node} {sec : String} {pos : Yaml.Pos}
    (hp : Path (parse cfg) (parseContainer cfg sec pos) ctx) (hC : mC.Keyed cfg "credentials")
    (h : (∀ q ∈ ps, keyId cfg true q.1 ≠ "username") ∨ (∀ q ∈ ps, keyId cfg true q.1 ≠ "password")) :
    (⟨(parseString mC.key false).1.pos, "credentials-pair", []⟩ : PErr) ∈ (parse cfg (ctx (mC.at (mapNode tag l c ps)))).2 :=
  (hp.trans (e_container_credentialsChecked cfg sec pos mC hC)).reported (credentialsChecked_incomplete cfg tag l c ps _ h)

/-- … of the job's container -/
theorem container_credentials_incomplete_in_document (hW : mW.Keyed cfg "jobs") (hJ : mJ.Free cfg) (hK : mK.Keyed cfg "container")
    (hC : mC.Keyed cfg "credentials")
    (h : (∀ q ∈ ps, keyId cfg true q.1 ≠ "username") ∨ (∀ q ∈ ps, keyId cfg true q.1 ≠ "password")) :
    (⟨(parseString mC.key false).1.pos, "credentials-pair", []⟩ : PErr) ∈
      (parse cfg (docNode (mW.at (mJ.at (mK.at (mC.at (mapNode tag l c ps))))))).2 :=
  (credentials_incomplete_at cfg mC tag l c ps (path_job_key cfg mW mJ mK hW hJ (e_job_container cfg _ mK hK)) hC h :)

/-- … of a service -/
theorem service_credentials_incomplete_in_document (hW : mW.Keyed cfg "jobs") (hJ : mJ.Free cfg) (hK : mK.Keyed cfg "services")
    (hS : mS.Free cfg) (hC : mC.Keyed cfg "credentials")
    (h : (∀ q ∈ ps, keyId cfg true q.1 ≠ "username") ∨ (∀ q ∈ ps, keyId cfg true q.1 ≠ "password")) :
    (⟨(parseString mC.key false).1.pos, "credentials-pair", []⟩ : PErr) ∈
      (parse cfg (docNode (mW.at (mJ.at (mK.at (mS.at (mC.at (mapNode tag l c ps)))))))).2 :=
  (credentials_incomplete_at cfg mC tag l c ps
    ((path_job_key cfg mW mJ mK hW hJ (e_job_services cfg _ mK hK)).trans (e_services_service cfg mS hS)) hC h :)

/-! #### `schedule:` items -/

/-- an item of `schedule:` that is not exactly `{cron: …}` (after `parseMapping` has dropped repeated keys) — reported at the
item, in the diagnostics of the whole file (`mW`: root with `on:`, `mJ`: `on:` with `schedule:`) -/
theorem schedule_item_in_document (hW : mW.Keyed cfg "on") (hJ : mJ.Keyed cfg "schedule") (c0 : Node)
    (h : ∀ kv, (parseMapping cfg "element of \"schedule\" section" c0 false true).1 = [kv] → kv.id ≠ "cron") :
    errAt c0 "schedule-element" [] ∈ (parse cfg (docNode (mW.at (mJ.at (sS.at c0))))).2 := by
  refine ((path_event cfg mW mJ hW (e_on_schedule cfg _ mJ hJ)).trans (e_schedule_item cfg _ sS)).reported ?_
  have := schedule_item_reported cfg c0 [] h
  rw [scheduleItems_cons] at this
  simpa [scheduleItems] using this

/-- in particular: a key other than `cron` in the item, whatever else the item has -/
theorem schedule_item_unknown_key_in_document (hW : mW.Keyed cfg "on") (hJ : mJ.Keyed cfg "schedule")
    (hkey : ∀ q ∈ ps, keyId cfg true q.1 ≠ "cron") :
    (⟨⟨l, c⟩, "schedule-element", []⟩ : PErr) ∈ (parse cfg (docNode (mW.at (mJ.at (sS.at (mapNode tag l c ps)))))).2 := by
  refine schedule_item_in_document cfg mW mJ sS hW hJ (mapNode tag l c ps) ?_
  intro kv hkv
  exact ids_of_pairs cfg _ tag l c ps false true (· ≠ "cron") hkey kv (by rw [hkv]; simp)

end

/-! #### examples for the missing keys -/

/-- `jobs: {…}` alone: no `on:` -/
example : (⟨⟨1, 1⟩, "workflow-no-on", []⟩ : PErr) ∈ (parse exCfg (docNode (mapNode "!!map" 1 1 [(sc "jobs" 1 1, exJobsNode)]))).2 :=
  workflow_missing_on_in_document exCfg "!!map" 1 1 _ (by decide +kernel)

/-- `on: push` / `name: x`: no `jobs:` -/
example : (⟨⟨1, 1⟩, "workflow-no-jobs", []⟩ : PErr) ∈
    (parse exCfg (docNode (mapNode "!!map" 1 1 [(sc "on" 1 1, sc "push" 1 5), (sc "name" 2 1, sc "x" 2 7)]))).2 :=
  workflow_missing_jobs_in_document exCfg "!!map" 1 1 _ (by decide +kernel)

/-- the job `build` has only `runs-on:` (and an unknown key): `job-no-steps` at `build` (3:3), among the other diagnostics -/
example : (⟨⟨3, 3⟩, "job-no-steps", ["build"]⟩ : PErr) ∈ (parse exCfg (docNode (exRoot.at (exJobs.at
    (mapNode "!!map" 4 5 [(sc "runs-on" 4 5, sc "ubuntu-latest" 4 14), (sc "bogus" 5 5, sc "x" 5 12)]))))).2 :=
  job_missing_steps_in_document exCfg exRoot exJobs "!!map" 4 5 _ exRoot_jobs (by decide +kernel) (by decide +kernel)

/-- the job `build` has only `steps:` -/
example : (⟨⟨3, 3⟩, "job-no-runs-on", ["build"]⟩ : PErr) ∈ (parse exCfg (docNode (exRoot.at (exJobs.at
    (mapNode "!!map" 4 5 [(sc "steps" 5 5, seqNode "!!seq" 6 7 [exStep0])]))))).2 :=
  job_missing_runs_on_in_document exCfg exRoot exJobs "!!map" 4 5 _ exRoot_jobs (by decide +kernel) (by decide +kernel)

/-- `- name: hello` -/
example : (⟨⟨6, 9⟩, "step-no-exec", []⟩ : PErr) ∈ (parse exCfg (docNode (exRoot.at (exJobs.at (exJobSteps.at (exSeq.at
    (mapNode "!!map" 6 9 [(sc "name" 6 9, sc "hello" 6 15)]))))))).2 :=
  step_missing_exec_in_document exCfg exRoot exJobs exJobSteps exSeq "!!map" 6 9 _ exRoot_jobs (by decide +kernel) exJobSteps_steps (by decide +kernel)

/-- `concurrency: {cancel-in-progress: true}` at the top level and in a job -/
example : (⟨⟨9, 1⟩, "concurrency-no-group", []⟩ : PErr) ∈ (parse exCfg (docNode ((exRootKey "concurrency").at
    (mapNode "!!map" 10 3 [(sc "cancel-in-progress" 10 3, sc "true" 10 23)])))).2 :=
  workflow_concurrency_missing_group_in_document exCfg (exRootKey "concurrency") "!!map" 10 3 _ keyed (by decide +kernel)

example : (⟨⟨8, 5⟩, "concurrency-no-group", []⟩ : PErr) ∈ (parse exCfg (docNode (exRoot.at (exJobs.at ((exJobKey "concurrency").at
    (mapNode "!!map" 9 7 [(sc "cancel-in-progress" 9 7, sc "true" 9 27)])))))).2 :=
  job_concurrency_missing_group_in_document exCfg exRoot exJobs (exJobKey "concurrency") "!!map" 9 7 _
    exRoot_jobs (by decide +kernel) keyed (by decide +kernel)

/-- `environment: {url: https://example.com}` -/
example : (⟨⟨8, 5⟩, "environment-no-name", []⟩ : PErr) ∈ (parse exCfg (docNode (exRoot.at (exJobs.at ((exJobKey "environment").at
    (mapNode "!!map" 9 7 [(sc "url" 9 7, sc "https://example.com" 9 12)])))))).2 :=
  environment_missing_name_in_document exCfg exRoot exJobs (exJobKey "environment") "!!map" 9 7 _
    exRoot_jobs (by decide +kernel) keyed (by decide +kernel)

/-- `defaults: {runs: {shell: bash}}` (a typo): besides the unexpected key, `defaults-no-run` -/
example : (⟨⟨10, 3⟩, "defaults-no-run", []⟩ : PErr) ∈ (parse exCfg (docNode ((exRootKey "defaults").at
    (mapNode "!!map" 10 3 [(sc "runs" 10 3, mapNode "!!map" 11 5 [(sc "shell" 11 5, sc "bash" 11 12)])])))).2 :=
  workflow_defaults_missing_run_in_document exCfg (exRootKey "defaults") "!!map" 10 3 _ keyed (by decide +kernel)

example : (⟨⟨9, 7⟩, "defaults-no-run", []⟩ : PErr) ∈ (parse exCfg (docNode (exRoot.at (exJobs.at ((exJobKey "defaults").at
    (mapNode "!!map" 9 7 [(sc "runs" 9 7, mapNode "!!map" 10 9 [(sc "shell" 10 9, sc "bash" 10 16)])])))))).2 :=
  job_defaults_missing_run_in_document exCfg exRoot exJobs (exJobKey "defaults") "!!map" 9 7 _
    exRoot_jobs (by decide +kernel) keyed (by decide +kernel)

/-- `on: {workflow_call: {inputs: {name: {required: true}}}}`: no `type:` — reported at `name` (4:7) -/
example : (⟨⟨4, 7⟩, "call-input-type-missing", ["name"]⟩ : PErr) ∈ (parse exCfg (docNode (exOnRoot.at
    ((exOnly "workflow_call" 2 3).at ((exOnly "inputs" 3 5).at ((exOnly "name" 4 7).at
      (mapNode "!!map" 5 9 [(sc "required" 5 9, sc "true" 5 19)]))))))).2 :=
  callInput_missing_type_in_document exCfg exOnRoot (exOnly "workflow_call" 2 3) (exOnly "inputs" 3 5) (exOnly "name" 4 7)
    "!!map" 5 9 _ exOnRoot_on keyed keyed (by decide +kernel) (by decide +kernel)

/-- `on: {workflow_call: {outputs: {out: {description: d}}}}`: no `value:` -/
example : (⟨⟨4, 7⟩, "call-output-value-missing", ["out"]⟩ : PErr) ∈ (parse exCfg (docNode (exOnRoot.at
    ((exOnly "workflow_call" 2 3).at ((exOnly "outputs" 3 5).at ((exOnly "out" 4 7).at
      (mapNode "!!map" 5 9 [(sc "description" 5 9, sc "d" 5 22)]))))))).2 :=
  callOutput_missing_value_in_document exCfg exOnRoot (exOnly "workflow_call" 2 3) (exOnly "outputs" 3 5) (exOnly "out" 4 7)
    "!!map" 5 9 _ exOnRoot_on keyed keyed (by decide +kernel) (by decide +kernel)

/-- `container: {image: node, credentials: {username: u}}`: no `password:` — reported at `credentials` (10:7) -/
example : (⟨⟨10, 7⟩, "credentials-pair", []⟩ : PErr) ∈ (parse exCfg (docNode (exRoot.at (exJobs.at ((exJobKey "container").at
    ((⟨"!!map", 9, 7, [(sc "image" 9 7, sc "node" 9 14)], sc "credentials" 10 7, []⟩ : MapCtx).at
      (mapNode "!!map" 11 9 [(sc "username" 11 9, sc "u" 11 19)]))))))).2 :=
  container_credentials_incomplete_in_document exCfg exRoot exJobs (exJobKey "container") _ "!!map" 11 9 _
    exRoot_jobs (by decide +kernel) keyed keyed (Or.inr (by decide +kernel))

/-- `services: {db: {image: postgres, credentials: {password: p}}}`: no `username:` -/
example : (⟨⟨11, 9⟩, "credentials-pair", []⟩ : PErr) ∈ (parse exCfg (docNode (exRoot.at (exJobs.at ((exJobKey "services").at
    ((exOnly "db" 9 7).at ((⟨"!!map", 10, 9, [(sc "image" 10 9, sc "postgres" 10 16)], sc "credentials" 11 9, []⟩ : MapCtx).at
      (mapNode "!!map" 12 11 [(sc "password" 12 11, sc "p" 12 21)])))))))).2 :=
  service_credentials_incomplete_in_document exCfg exRoot exJobs (exJobKey "services") _ (exOnly "db" 9 7) "!!map" 12 11 _
    exRoot_jobs (by decide +kernel) keyed (by decide +kernel) keyed (Or.inl (by decide +kernel))

/-- `on: {schedule: [{crom: "0 0 * * *"}]}` (a typo) -/
example : (⟨⟨3, 7⟩, "schedule-element", []⟩ : PErr) ∈ (parse exCfg (docNode (exOnRoot.at ((exOnly "schedule" 2 3).at
    ((⟨"!!seq", 3, 5, [], []⟩ : SeqCtx).at (mapNode "!!map" 3 7 [(sc "crom" 3 7, sc "0 0 * * *" 3 13)])))))).2 :=
  schedule_item_unknown_key_in_document exCfg exOnRoot (exOnly "schedule" 2 3) _ "!!map" 3 7 _ exOnRoot_on keyed (by decide +kernel)

/-! #### a container / a service without `image:` is NOT reported by the parser

`parseContainer` has no final check: `container: {env: {A: "1"}}` and `services: {db: {env: {A: "1"}}}` parse without any
diagnostic (the Go parser is the same; no rule of actionlint reports it either at this level). -/

theorem container_without_image_not_reported :
    (parse exCfg (docNode (exRoot.at (exJobs.at ((exJobKey "container").at
      (mapNode "!!map" 9 7 [(sc "env" 9 7, mapNode "!!map" 10 9 [(sc "A" 10 9, sc "1" 10 12)])])))))).2 = [] := by
  decide +kernel

theorem service_without_image_not_reported :
    (parse exCfg (docNode (exRoot.at (exJobs.at ((exJobKey "services").at ((exOnly "db" 9 7).at
      (mapNode "!!map" 10 9 [(sc "env" 10 9, mapNode "!!map" 11 11 [(sc "A" 11 11, sc "1" 11 14)])]))))))).2 = [] := by
  decide +kernel

/-! #### an unknown key in a `schedule:` item drops the whole item

The property's "the rest of the document is parsed as if the offending key were not there" does not hold for the items of
`schedule:`: the item is reported (`schedule_item_in_document`) and `continue`d — its `cron:` does not reach the AST (and so
is never checked). A REPEATED `cron:` key is different: `parseMapping` drops the repetition, one key is left, the item stays. -/

/-- `schedule: [{cron: "0 0 * * *", bogus: x}]`: one diagnostic, and the event has NO cron entry, whereas without `bogus:` it
has one -/
theorem schedule_item_unknown_key_drops_cron :
    let doc (item : Node) : Node := docNode (exOnRoot.at ((exOnly "schedule" 2 3).at ((⟨"!!seq", 3, 5, [], []⟩ : SeqCtx).at item)))
    ((parse exCfg (doc (mapNode "!!map" 3 7 [(sc "cron" 3 7, sc "0 0 * * *" 3 13), (sc "bogus" 4 7, sc "x" 4 14)]))).1.on.map
        (·.map fun e => match e with | .schedule cron _ => cron.length | _ => 99)) = some [0] ∧
    (parse exCfg (doc (mapNode "!!map" 3 7 [(sc "cron" 3 7, sc "0 0 * * *" 3 13), (sc "bogus" 4 7, sc "x" 4 14)]))).2 =
      [⟨⟨3, 7⟩, "schedule-element", []⟩] ∧
    ((parse exCfg (doc (mapNode "!!map" 3 7 [(sc "cron" 3 7, sc "0 0 * * *" 3 13)]))).1.on.map
        (·.map fun e => match e with | .schedule cron _ => cron.length | _ => 99)) = some [1] := by
  decide +kernel

/-! ### unknown keys

The sections below those of `C13Doc` and, along any path, containers and steps again. With `Path.ins` every section theorem
of `C13Parse` is one line. (Unknown keys in the items of `schedule:` are above:
`schedule_item_unknown_key_in_document`; the scopes of `permissions:` are free names for the parser — an unknown scope is
reported by the rule `permissions`, not by `parse.go`.) -/

section
variable (cfg : Cfg) (mW mJ mK mC mS mE mI : MapCtx) (tag : String) (l c : Nat) (pre post : List (Node × Node)) (kn vn : Node)

/-- the two documents: the mapping at the end of the path without and with the pair `(kn, vn)` -/
abbrev Without (ctx : Node → Node) (tag : String) (l c : Nat) (pre post : List (Node × Node)) : Node :=
  ctx (mapNode tag l c (pre ++ post))
abbrev With (ctx : Node → Node) (tag : String) (l c : Nat) (pre post : List (Node × Node)) (kn vn : Node) : Node :=
  ctx (mapNode tag l c (pre ++ (kn, vn) :: post))

/-- a secret of `workflow_call` (`on.workflow_call.secrets.<id>.<key>`) -/
theorem callSecret_unknown_in_document (hW : mW.Keyed cfg "on") (hJ : mJ.Keyed cfg "workflow_call") (hE : mE.Keyed cfg "secrets")
    (hI : mI.Free cfg) (hF : Foreign cfg ["description", "required"] pre post kn) :
    AddsExactly cfg (Without (fun v => docNode (mW.at (mJ.at (mE.at (mI.at v))))) tag l c pre post)
      (With (fun v => docNode (mW.at (mJ.at (mE.at (mI.at v))))) tag l c pre post kn vn)
      (unexpectedAt kn "secrets" ["description", "required"]) :=
  (((path_event cfg mW mJ hW (e_on_call cfg _ mJ hJ)).trans (e_call_secrets cfg _ mE hE)).trans
    (e_callSecrets_secret cfg mI hI)).ins (callSecret_unknown cfg tag l c pre post kn vn _ _ hF)

/-- an output of `workflow_call` (`on.workflow_call.outputs.<id>.<key>`) -/
theorem callOutput_unknown_in_document (hW : mW.Keyed cfg "on") (hJ : mJ.Keyed cfg "workflow_call") (hE : mE.Keyed cfg "outputs")
    (hI : mI.Free cfg) (hF : Foreign cfg ["description", "value"] pre post kn) :
    AddsExactly cfg (Without (fun v => docNode (mW.at (mJ.at (mE.at (mI.at v))))) tag l c pre post)
      (With (fun v => docNode (mW.at (mJ.at (mE.at (mI.at v))))) tag l c pre post kn vn)
      (unexpectedAt kn "outputs at workflow_call event" ["description", "value"]) :=
  (((path_event cfg mW mJ hW (e_on_call cfg _ mJ hJ)).trans (e_call_outputs cfg _ mE hE)).trans
    (e_callOutputs_output cfg mI hI)).ins (callOutput_unknown cfg tag l c pre post kn vn _ _ hF)

/-- `defaults:` itself (only `run:` is allowed), along any path -/
theorem defaults_unknown_at {ctx : Node → Node} {pos : Yaml.Pos} (hp : Path (parse cfg) (parseDefaults cfg pos) ctx)
    (hF : Foreign cfg ["run"] pre post kn) :
    AddsExactly cfg (Without ctx tag l c pre post) (With ctx tag l c pre post kn vn) (unexpectedAt kn "defaults" ["run"]) :=
  have h := defaults_unknown cfg tag l c pre post kn vn pos (mapNode tag l c []) hF
  hp.cong _ _ [_] h

theorem workflow_defaults_unknown_in_document (hW : mW.Keyed cfg "defaults") (hF : Foreign cfg ["run"] pre post kn) :
    AddsExactly cfg (Without (fun v => docNode (mW.at v)) tag l c pre post) (With (fun v => docNode (mW.at v)) tag l c pre post kn vn)
      (unexpectedAt kn "defaults" ["run"]) :=
  (defaults_unknown_at cfg tag l c pre post kn vn (path_wf cfg mW (e_wf_defaults cfg mW hW)) hF :)

theorem job_defaults_unknown_in_document (hW : mW.Keyed cfg "jobs") (hJ : mJ.Free cfg) (hK : mK.Keyed cfg "defaults")
    (hF : Foreign cfg ["run"] pre post kn) :
    AddsExactly cfg (Without (fun v => docNode (mW.at (mJ.at (mK.at v)))) tag l c pre post)
      (With (fun v => docNode (mW.at (mJ.at (mK.at v)))) tag l c pre post kn vn) (unexpectedAt kn "defaults" ["run"]) :=
  (defaults_unknown_at cfg tag l c pre post kn vn (path_job_key cfg mW mJ mK hW hJ (e_job_defaults cfg _ mK hK)) hF :)

/-- `credentials:` of a service (`jobs.<id>.services.<svc>.credentials.<key>`, five levels below the root) -/
theorem service_credentials_unknown_in_document (hW : mW.Keyed cfg "jobs") (hJ : mJ.Free cfg) (hK : mK.Keyed cfg "services")
    (hS : mS.Free cfg) (hC : mC.Keyed cfg "credentials") (hF : Foreign cfg ["username", "password"] pre post kn) :
    AddsExactly cfg (Without (fun v => docNode (mW.at (mJ.at (mK.at (mS.at (mC.at v)))))) tag l c pre post)
      (With (fun v => docNode (mW.at (mJ.at (mK.at (mS.at (mC.at v)))))) tag l c pre post kn vn)
      (unexpectedAt kn "credentials" ["username", "password"]) :=
  (((path_job_key cfg mW mJ mK hW hJ (e_job_services cfg _ mK hK)).trans (e_services_service cfg mS hS)).trans
    (e_container_credentials cfg _ _ mC hC)).ins (credentials_unknown cfg tag l c pre post kn vn _ hF)

/-- any container, along any path (the job's, a service's) -/
theorem container_unknown_at {ctx : Node → Node} {sec : String} {pos : Yaml.Pos} (hp : Path (parse cfg) (parseContainer cfg sec pos) ctx)
    (hF : Foreign cfg containerKeys pre post kn) :
    AddsExactly cfg (Without ctx tag l c pre post) (With ctx tag l c pre post kn vn) (unexpectedAt kn sec containerKeys) :=
  hp.ins (container_unknown cfg tag l c pre post kn vn sec pos hF)

/-- any step, along any path -/
theorem step_unknown_at {ctx : Node → Node} (hp : Path (parse cfg) (parseStep cfg) ctx) (hF : Foreign cfg stepKeys pre post kn) :
    AddsExactly cfg (Without ctx tag l c pre post) (With ctx tag l c pre post kn vn) (unexpectedAt kn "step" stepKeys) :=
  hp.ins (step_unknown cfg tag l c pre post kn vn hF)

end

/-- `on: {workflow_call: {secrets: {tok: {required: true, bogus: x}}}}` -/
example : AddsExactly exCfg
    (docNode (exOnRoot.at ((exOnly "workflow_call" 2 3).at ((exOnly "secrets" 3 5).at ((exOnly "tok" 4 7).at
      (mapNode "!!map" 5 9 ([(sc "required" 5 9, sc "true" 5 19)] ++ [])))))))
    (docNode (exOnRoot.at ((exOnly "workflow_call" 2 3).at ((exOnly "secrets" 3 5).at ((exOnly "tok" 4 7).at
      (mapNode "!!map" 5 9 ([(sc "required" 5 9, sc "true" 5 19)] ++ (sc "bogus" 6 9, sc "x" 6 16) :: [])))))))
    (unexpectedAt (sc "bogus" 6 9) "secrets" ["description", "required"]) :=
  callSecret_unknown_in_document exCfg exOnRoot (exOnly "workflow_call" 2 3) (exOnly "secrets" 3 5) (exOnly "tok" 4 7)
    "!!map" 5 9 _ [] _ _ exOnRoot_on keyed keyed (by decide)
    foreign

/-- `on: {workflow_call: {outputs: {out: {value: x, bogus: y}}}}` -/
example : AddsExactly exCfg
    (docNode (exOnRoot.at ((exOnly "workflow_call" 2 3).at ((exOnly "outputs" 3 5).at ((exOnly "out" 4 7).at
      (mapNode "!!map" 5 9 ([(sc "value" 5 9, sc "x" 5 16)] ++ [])))))))
    (docNode (exOnRoot.at ((exOnly "workflow_call" 2 3).at ((exOnly "outputs" 3 5).at ((exOnly "out" 4 7).at
      (mapNode "!!map" 5 9 ([(sc "value" 5 9, sc "x" 5 16)] ++ (sc "bogus" 6 9, sc "y" 6 16) :: [])))))))
    (unexpectedAt (sc "bogus" 6 9) "outputs at workflow_call event" ["description", "value"]) :=
  callOutput_unknown_in_document exCfg exOnRoot (exOnly "workflow_call" 2 3) (exOnly "outputs" 3 5) (exOnly "out" 4 7)
    "!!map" 5 9 _ [] _ _ exOnRoot_on keyed keyed (by decide)
    foreign

/-- `defaults: {run: {shell: bash}, bogus: x}` at the top level and in a job -/
example : AddsExactly exCfg
    (docNode ((exRootKey "defaults").at (mapNode "!!map" 10 3 ([(sc "run" 10 3, mapNode "!!map" 11 5 [(sc "shell" 11 5, sc "bash" 11 12)])] ++ []))))
    (docNode ((exRootKey "defaults").at (mapNode "!!map" 10 3 ([(sc "run" 10 3, mapNode "!!map" 11 5 [(sc "shell" 11 5, sc "bash" 11 12)])] ++
      (sc "bogus" 12 3, sc "x" 12 10) :: []))))
    (unexpectedAt (sc "bogus" 12 3) "defaults" ["run"]) :=
  workflow_defaults_unknown_in_document exCfg (exRootKey "defaults") "!!map" 10 3 _ [] _ _ keyed
    foreign

example : AddsExactly exCfg
    (docNode (exRoot.at (exJobs.at ((exJobKey "defaults").at
      (mapNode "!!map" 9 7 ([(sc "run" 9 7, mapNode "!!map" 10 9 [(sc "shell" 10 9, sc "bash" 10 16)])] ++ []))))))
    (docNode (exRoot.at (exJobs.at ((exJobKey "defaults").at
      (mapNode "!!map" 9 7 ([(sc "run" 9 7, mapNode "!!map" 10 9 [(sc "shell" 10 9, sc "bash" 10 16)])] ++
        (sc "bogus" 11 7, sc "x" 11 14) :: []))))))
    (unexpectedAt (sc "bogus" 11 7) "defaults" ["run"]) :=
  job_defaults_unknown_in_document exCfg exRoot exJobs (exJobKey "defaults") "!!map" 9 7 _ [] _ _
    exRoot_jobs (by decide) keyed foreign

/-- `services: {db: {image: postgres, credentials: {username: u, password: p, token: t}}}` -/
example : AddsExactly exCfg
    (docNode (exRoot.at (exJobs.at ((exJobKey "services").at ((exOnly "db" 9 7).at
      ((⟨"!!map", 10, 9, [(sc "image" 10 9, sc "postgres" 10 16)], sc "credentials" 11 9, []⟩ : MapCtx).at
        (mapNode "!!map" 12 11 ([(sc "username" 12 11, sc "u" 12 21), (sc "password" 13 11, sc "p" 13 21)] ++ []))))))))
    (docNode (exRoot.at (exJobs.at ((exJobKey "services").at ((exOnly "db" 9 7).at
      ((⟨"!!map", 10, 9, [(sc "image" 10 9, sc "postgres" 10 16)], sc "credentials" 11 9, []⟩ : MapCtx).at
        (mapNode "!!map" 12 11 ([(sc "username" 12 11, sc "u" 12 21), (sc "password" 13 11, sc "p" 13 21)] ++
          (sc "token" 14 11, sc "t" 14 18) :: []))))))))
    (unexpectedAt (sc "token" 14 11) "credentials" ["username", "password"]) :=
  service_credentials_unknown_in_document exCfg exRoot exJobs (exJobKey "services") _ (exOnly "db" 9 7) "!!map" 12 11 _ [] _ _
    exRoot_jobs (by decide) keyed (by decide) keyed foreign

/-- the general lemma at work: an unknown key in the SECOND step of a job — the path is composed on the spot -/
example : AddsExactly exCfg
    (docNode (exRoot.at (exJobs.at (exJobSteps.at ((⟨"!!seq", 6, 7, [exStep0], []⟩ : SeqCtx).at
      (mapNode "!!map" 7 9 ([(sc "run" 7 9, sc "make" 7 14)] ++ [])))))))
    (docNode (exRoot.at (exJobs.at (exJobSteps.at ((⟨"!!seq", 6, 7, [exStep0], []⟩ : SeqCtx).at
      (mapNode "!!map" 7 9 ([(sc "run" 7 9, sc "make" 7 14)] ++ (sc "bogus" 8 9, sc "x" 8 16) :: [])))))))
    (unexpectedAt (sc "bogus" 8 9) "step" stepKeys) :=
  (step_unknown_at exCfg "!!map" 7 9 [(sc "run" 7 9, sc "make" 7 14)] [] (sc "bogus" 8 9) (sc "x" 8 16)
    (path_step exCfg exRoot exJobs exJobSteps ⟨"!!seq", 6, 7, [exStep0], []⟩ exRoot_jobs (by decide) exJobSteps_steps)
    foreign :)

/-! ### repeated keys in the elements of `matrix.include` / `matrix.exclude` -/

theorem matrixCombos_cons (cfg : Cfg) (sec : String) (c : Node) (cs : List Node) :
    matrixCombos cfg sec (c :: cs) =
      ((match (matrixCombo cfg sec c).1 with | some x => x :: (matrixCombos cfg sec cs).1 | none => (matrixCombos cfg sec cs).1),
       (matrixCombo cfg sec c).2 ++ (matrixCombos cfg sec cs).2) := by
  simp only [matrixCombos_filterMapR, filterMapR, List.filterMap_cons, List.flatMap_cons]
  cases (matrixCombo cfg sec c).1 <;> rfl

/-- `include:` / `exclude:` → one element -/
theorem e_combos_elem (cfg : Cfg) (sec : String) (s : SeqCtx) : Path (parseMatrixCombinations cfg sec) (matrixCombo cfg sec) s.at :=
  seq_path (matrixCombos cfg sec) (matrixCombo cfg sec) (fun o r => match o with | some x => x :: r | none => r)
    (matrixCombos_cons cfg sec) (fun r => some ⟨some r, none⟩) s (fun x => by
      have hk : ((s.at x).kind = .scalar) = False := by simp [SeqCtx.at, seqNode, Node.kind]
      simp only [parseMatrixCombinations, hk, checkSequence_at, Bool.not_true, Bool.false_eq_true, ↓reduceIte, List.nil_append]; rfl)

/-- `matrix:` → the value of one of its keys (`matrix:` folds the letter case of its keys: `Include:` is `include:`) -/
theorem matrix_edge {β : Type} (cfg : Cfg) (pos : Yaml.Pos) (m : MapCtx) (Q : Node → R β)
    (hfirst : ∀ q ∈ m.pre, keyId cfg false q.1 ≠ keyId cfg false m.key)
    (hstep : ∀ s, Path (fun v => matrixKey cfg s ⟨keyId cfg false m.key, (parseString m.key false).1, v⟩) Q id) :
    Path (parseMatrix cfg pos) Q m.at :=
  Path.wrap id
    (Sect.edge' (plain (matrixKey cfg) { rows := some [], pos := pos }) cfg (sectionWhat "matrix") false false m Q hfirst hstep)
    (fun _ => parseMatrix_mapNode cfg m.tag m.l m.c pos _)

theorem e_matrix_include (cfg : Cfg) (pos : Yaml.Pos) (m : MapCtx) (hid : keyId cfg false m.key = "include")
    (hfirst : ∀ q ∈ m.pre, keyId cfg false q.1 ≠ "include") :
    Path (parseMatrix cfg pos) (parseMatrixCombinations cfg "include") m.at :=
  matrix_edge cfg pos m _ (hid ▸ hfirst)
    (fun s => by rw [hid]; exact Path.of_store (matrixKey_include cfg s _))

theorem e_matrix_exclude (cfg : Cfg) (pos : Yaml.Pos) (m : MapCtx) (hid : keyId cfg false m.key = "exclude")
    (hfirst : ∀ q ∈ m.pre, keyId cfg false q.1 ≠ "exclude") :
    Path (parseMatrix cfg pos) (parseMatrixCombinations cfg "exclude") m.at :=
  matrix_edge cfg pos m _ (hid ▸ hfirst)
    (fun s => by rw [hid]; exact Path.of_store (matrixKey_exclude cfg s _))

/-- the body of the loop that `matrixAssigns` is (`matrixAssigns_eq_loop`) -/
def assignStep (cfg : Cfg) (st : List (String × MatrixAssign)) (kv : KV) : List (String × MatrixAssign) × List PErr :=
  ((match (rawValue cfg kv.val).1 with | some x => st ++ [(kv.id, ⟨kv.key, x⟩)] | none => st), (rawValue cfg kv.val).2)

theorem matrixAssigns_eq_loop (cfg : Cfg) (kvs : List KV) : ∀ acc : List (String × MatrixAssign),
    loop (assignStep cfg) acc kvs = (acc ++ (matrixAssigns cfg kvs).1, (matrixAssigns cfg kvs).2) := by
  rw [matrixAssigns_filterMapR]
  refine loop_snoc_eq_filterMapR (matrixAssign cfg) (fun st kv => ?_) kvs
  simp only [assignStep, matrixAssign]
  cases (rawValue cfg kv.val).1 <;> simp

/-- an element of `include:` / `exclude:` on a mapping node: the loop `assignStep`, the result wrapped -/
theorem matrixCombo_mapNode (cfg : Cfg) (sec tag : String) (l c : Nat) (ps : List (Node × Node)) :
    matrixCombo cfg sec (mapNode tag l c ps) = store (fun r => some (⟨some r, none⟩ : MatrixCombination))
      ((plain (assignStep cfg) []).run cfg ("element in \"" ++ sec ++ "\" section") (mapNode tag l c ps) false false) := by
  simp [matrixCombo, plain_run, matrixAssigns_eq_loop, store]

/-- an element of `include:` / `exclude:` (a mapping): a repeated key, also in another letter case -/
theorem matrixCombo_duplicate (cfg : Cfg) (sec tag : String) (l c : Nat) (pre post : List (Node × Node)) (kn vn : Node)
    (h : Repeated cfg false pre kn) :
    ∃ pos, firstPos cfg false (keyId cfg false kn) pre = some pos ∧
      Ins (matrixCombo cfg sec) tag l c pre post kn vn (dupAt kn ("element in \"" ++ sec ++ "\" section") pos false) :=
  Sect.dup_ins (plain (assignStep cfg) []) _ (fun r => some (⟨some r, none⟩ : MatrixCombination)) cfg _ false false tag l c
    (matrixCombo_mapNode cfg sec tag l c) pre post kn vn h

/-- **an element of `strategy.matrix.include`, whole file** (`mS`: `strategy:` with `matrix:`, `mE`: `matrix:` with
`include:`, `sS`: the sequence) -/
theorem matrix_include_duplicate_in_document (cfg : Cfg) (mW mJ mK mS mE : MapCtx) (sS : SeqCtx)
    (tag : String) (l c : Nat) (pre post : List (Node × Node)) (kn vn : Node)
    (hW : mW.Keyed cfg "jobs") (hJ : mJ.Free cfg) (hK : mK.Keyed cfg "strategy") (hS : mS.Keyed cfg "matrix")
    (hid : keyId cfg false mE.key = "include") (hfirst : ∀ q ∈ mE.pre, keyId cfg false q.1 ≠ "include")
    (hR : Repeated cfg false pre kn) :
    DupInDoc cfg (fun v => docNode (mW.at (mJ.at (mK.at (mS.at (mE.at (sS.at v))))))) false "element in \"include\" section"
      tag l c pre post kn vn :=
  ((((path_job_key cfg mW mJ mK hW hJ (e_job_strategy cfg _ mK hK)).trans (e_strategy_matrix cfg _ mS hS)).trans
    (e_matrix_include cfg _ mE hid hfirst)).trans (e_combos_elem cfg "include" sS)).dup
    (matrixCombo_duplicate cfg "include" tag l c pre post kn vn hR)

theorem matrix_exclude_duplicate_in_document (cfg : Cfg) (mW mJ mK mS mE : MapCtx) (sS : SeqCtx)
    (tag : String) (l c : Nat) (pre post : List (Node × Node)) (kn vn : Node)
    (hW : mW.Keyed cfg "jobs") (hJ : mJ.Free cfg) (hK : mK.Keyed cfg "strategy") (hS : mS.Keyed cfg "matrix")
    (hid : keyId cfg false mE.key = "exclude") (hfirst : ∀ q ∈ mE.pre, keyId cfg false q.1 ≠ "exclude")
    (hR : Repeated cfg false pre kn) :
    DupInDoc cfg (fun v => docNode (mW.at (mJ.at (mK.at (mS.at (mE.at (sS.at v))))))) false "element in \"exclude\" section"
      tag l c pre post kn vn :=
  ((((path_job_key cfg mW mJ mK hW hJ (e_job_strategy cfg _ mK hK)).trans (e_strategy_matrix cfg _ mS hS)).trans
    (e_matrix_exclude cfg _ mE hid hfirst)).trans (e_combos_elem cfg "exclude" sS)).dup
    (matrixCombo_duplicate cfg "exclude" tag l c pre post kn vn hR)

/-- `strategy: {matrix: {os: [linux], include: [{os: mac, OS: win}]}}` -/
example : DupInDoc exCfg (fun v => docNode (exRoot.at (exJobs.at ((exJobKey "strategy").at ((exOnly "matrix" 9 7).at
      ((⟨"!!map", 10, 9, [(sc "os" 10 9, seqNode "!!seq" 10 13 [sc "linux" 10 14])], sc "include" 11 9, []⟩ : MapCtx).at
        ((⟨"!!seq", 12, 11, [], []⟩ : SeqCtx).at v)))))))
    false "element in \"include\" section" "!!map" 12 13 [(sc "os" 12 13, sc "mac" 12 17)] [] (sc "OS" 13 13) (sc "win" 13 17) :=
  matrix_include_duplicate_in_document exCfg exRoot exJobs (exJobKey "strategy") (exOnly "matrix" 9 7) _ _ "!!map" 12 13 _ [] _ _
    exRoot_jobs (by decide) keyed keyed (by decide +kernel) (by decide) (repeated_fold (by decide +kernel))

example : DupInDoc exCfg (fun v => docNode (exRoot.at (exJobs.at ((exJobKey "strategy").at ((exOnly "matrix" 9 7).at
      ((⟨"!!map", 10, 9, [(sc "os" 10 9, seqNode "!!seq" 10 13 [sc "linux" 10 14])], sc "exclude" 11 9, []⟩ : MapCtx).at
        ((⟨"!!seq", 12, 11, [], []⟩ : SeqCtx).at v)))))))
    false "element in \"exclude\" section" "!!map" 12 13 [(sc "os" 12 13, sc "mac" 12 17)] [] (sc "OS" 13 13) (sc "win" 13 17) :=
  matrix_exclude_duplicate_in_document exCfg exRoot exJobs (exJobKey "strategy") (exOnly "matrix" 9 7) _ _ "!!map" 12 13 _ [] _ _
    exRoot_jobs (by decide) keyed keyed (by decide +kernel) (by decide) (repeated_fold (by decide +kernel))

/-! ### repeated keys in an object literal inside a matrix row (`parseRawYAMLValue`)

`rawProps` is the model's one-pass rendering of `parseMapping("matrix row value", n, true, false)` followed by the loop over
the values; it is exactly that (`rawProps_eq`, over `rawProps_pairs` of Lemmas/ParseWfList), so the object literal is a
`Sect.run` as well. -/

def objStep (cfg : Cfg) (st : List (String × Raw)) (kv : KV) : List (String × Raw) × List PErr :=
  ((match (rawValue cfg kv.val).1 with | some x => st ++ [(kv.id, x)] | none => st), (rawValue cfg kv.val).2)

/-- the value loop of `parseRawYAMLValue` on a mapping -/
def objOf (cfg : Cfg) : List KV → R (List (String × Raw))
  | [] => ([], [])
  | kv :: rest =>
    ((match (rawValue cfg kv.val).1 with | some x => (kv.id, x) :: (objOf cfg rest).1 | none => (objOf cfg rest).1),
     (rawValue cfg kv.val).2 ++ (objOf cfg rest).2)

/-- the value loop of an object literal, as a traversal -/
theorem objOf_filterMapR (cfg : Cfg) : objOf cfg = filterMapR (rawProp cfg) :=
  funext (eq_filterMapR _ _ rfl fun kv l => by
    simp only [objOf, rawProp]
    cases (rawValue cfg kv.val).1 <;> rfl)

theorem objOf_eq_loop (cfg : Cfg) (kvs : List KV) : ∀ acc : List (String × Raw),
    loop (objStep cfg) acc kvs = (acc ++ (objOf cfg kvs).1, (objOf cfg kvs).2) := by
  rw [objOf_filterMapR]
  refine loop_snoc_eq_filterMapR (rawProp cfg) (fun st kv => ?_) kvs
  simp only [objStep, rawProp]
  cases (rawValue cfg kv.val).1 <;> simp

theorem rawProps_eq (cfg : Cfg) (ps : List (Node × Node)) : ∀ seen : List (String × Yaml.Pos),
    rawProps cfg (flatten ps) seen =
      ((objOf cfg (mappingLoop cfg "matrix row value" false ps seen).1).1,
       ((mappingLoop cfg "matrix row value" false ps seen).2, (objOf cfg (mappingLoop cfg "matrix row value" false ps seen).1).2)) := by
  intro seen
  rw [rawProps_pairs, pairs_flatten, objOf_filterMapR]

theorem rawValue_mapNode (cfg : Cfg) (tag : String) (l c : Nat) (ps : List (Node × Node)) :
    rawValue cfg (mapNode tag l c ps) =
      (some (.obj ((plain (objStep cfg) []).run cfg "matrix row value" (mapNode tag l c ps) true false).1 ⟨l, c⟩),
       ((plain (objStep cfg) []).run cfg "matrix row value" (mapNode tag l c ps) true false).2) := by
  rw [plain_run, parseMapping_mapNode]
  simp only [mapNode, rawValue.eq_3, rawProps_eq, objOf_eq_loop]
  simp

/-- an object literal in a matrix row value: a repeated key, also in another letter case -/
theorem rawObj_duplicate (cfg : Cfg) (tag : String) (l c : Nat) (pre post : List (Node × Node)) (kn vn : Node)
    (h : Repeated cfg false pre kn) :
    ∃ pos, firstPos cfg false (keyId cfg false kn) pre = some pos ∧
      Ins (rawValue cfg) tag l c pre post kn vn (dupAt kn "matrix row value" pos false) :=
  Sect.dup_ins (plain (objStep cfg) []) _ (fun r => some (.obj r ⟨l, c⟩)) cfg _ true false tag l c
    (fun ps => rawValue_mapNode cfg tag l c ps) pre post kn vn h

theorem rawSeq_cons (cfg : Cfg) (c : Node) (cs : List Node) :
    rawSeq cfg (c :: cs) =
      ((match (rawValue cfg c).1 with | some x => x :: (rawSeq cfg cs).1 | none => (rawSeq cfg cs).1),
       (rawValue cfg c).2 ++ (rawSeq cfg cs).2) := by
  rw [rawSeq]
  cases (rawValue cfg c).1 <;> rfl

/-- an array literal → one element -/
theorem e_raw_arr (cfg : Cfg) (s : SeqCtx) : Path (rawValue cfg) (rawValue cfg) s.at :=
  seq_path (rawSeq cfg) (rawValue cfg) (fun o r => match o with | some x => x :: r | none => r) (rawSeq_cons cfg)
    (fun r => some (.arr r ⟨s.l, s.c⟩)) s (fun x => by simp only [SeqCtx.at, seqNode, rawValue.eq_2])

/-- an object literal → the value of one of its keys -/
theorem e_raw_obj (cfg : Cfg) (m : MapCtx) (hk : m.Free cfg) : Path (rawValue cfg) (rawValue cfg) m.at :=
  Path.wrap (fun r => some (.obj r ⟨m.l, m.c⟩))
    (Sect.edge' (plain (objStep cfg) []) cfg "matrix row value" true false m (rawValue cfg) hk
      (fun s => Path.of_eq (fun r => match r with | some x => s ++ [(keyId cfg false m.key, x)] | none => s) (fun _ => by rfl)))
    (fun _ => rawValue_mapNode cfg m.tag m.l m.c _)

/-- an element of `include:` / `exclude:` → the value of one of its keys -/
theorem e_combo_value (cfg : Cfg) (sec : String) (m : MapCtx) (hk : m.Free cfg) : Path (matrixCombo cfg sec) (rawValue cfg) m.at :=
  Path.wrap (fun r => some (⟨some r, none⟩ : MatrixCombination))
    (Sect.edge' (plain (assignStep cfg) []) cfg ("element in \"" ++ sec ++ "\" section") false false m (rawValue cfg) hk
      (fun s => Path.of_eq
        (fun r => match r with | some x => s ++ [(keyId cfg false m.key, ⟨(parseString m.key false).1, x⟩)] | none => s) (fun _ => by rfl)))
    (fun _ => matrixCombo_mapNode cfg sec m.tag m.l m.c _)

/-- `Sect.edge` with a context between the key's value and the sub-node (the value is `inner v`) -/
theorem Sect.edge_in {σ ρ β : Type} (S : Sect σ ρ) (cfg : Cfg) (what : String) (ae cs : Bool) (m : MapCtx) (Q : Node → R β)
    (inner : Node → Node)
    (hfirst : ∀ q ∈ m.pre, keyId cfg cs q.1 ≠ keyId cfg cs m.key)
    (hstep : ∀ s, Path (fun v => S.step s ⟨keyId cfg cs m.key, (parseString m.key false).1, v⟩) Q inner) :
    Path (fun n => S.run cfg what n ae cs) Q (fun v => m.at (inner v)) :=
  Sect.edge_at S cfg what ae cs m Q (fun _ => True) inner hfirst trivial (fun _ _ _ _ => trivial) (fun s _ => hstep s)

theorem matrixKey_row (cfg : Cfg) (st : Matrix) (kv : KV) (h1 : kv.id ≠ "include") (h2 : kv.id ≠ "exclude") :
    matrixKey cfg st kv =
      if kv.val.kind = .scalar then
        ({ st with rows := some (setAssoc kv.id ⟨none, none, (parseExpression kv.val "array value for matrix variations").1⟩ (st.rows.getD [])) },
         (parseExpression kv.val "array value for matrix variations").2)
      else if !(checkSequence "matrix values" kv.val false).1 then (st, (checkSequence "matrix values" kv.val false).2)
      else
        ({ st with rows := some (setAssoc kv.id ⟨some kv.key, some (rawSeq cfg kv.val.content).1, none⟩ (st.rows.getD [])) },
         (checkSequence "matrix values" kv.val false).2 ++ (rawSeq cfg kv.val.content).2) := by
  simp only [matrixKey]

/-- a row of `matrix:` (any key but `include` / `exclude`) whose value is a sequence → one element of the sequence -/
theorem e_matrix_row (cfg : Cfg) (pos : Yaml.Pos) (m : MapCtx) (s : SeqCtx) (hk : m.Free cfg)
    (h1 : keyId cfg false m.key ≠ "include") (h2 : keyId cfg false m.key ≠ "exclude") :
    Path (parseMatrix cfg pos) (rawValue cfg) (fun v => m.at (s.at v)) :=
  Path.wrap id
    (Sect.edge_in (plain (matrixKey cfg) { rows := some [], pos := pos }) cfg (sectionWhat "matrix") false false m (rawValue cfg)
      s.at hk (fun st =>
        seq_path (rawSeq cfg) (rawValue cfg) (fun o r => match o with | some x => x :: r | none => r) (rawSeq_cons cfg)
          (fun r => { st with rows := some (setAssoc (keyId cfg false m.key) ⟨some (parseString m.key false).1, some r, none⟩
            (st.rows.getD [])) }) s
          (fun x => by
            have hkind : ((s.at x).kind = .scalar) = False := by simp [SeqCtx.at, seqNode, Node.kind]
            simp only [plain, matrixKey_row cfg st ⟨keyId cfg false m.key, (parseString m.key false).1, s.at x⟩ h1 h2, hkind, checkSequence_at, Bool.not_true, Bool.false_eq_true, ↓reduceIte, List.nil_append]
            rfl)))
    (fun _ => parseMatrix_mapNode cfg m.tag m.l m.c pos _)

/-- **an object literal in a row of `strategy.matrix`, whole file** (`matrix: {os: [{name: linux, NAME: mac}]}`): `mS`:
`strategy:` with `matrix:`, `mE`: `matrix:` with the row, `sS`: the row's sequence -/
theorem matrix_row_object_duplicate_in_document (cfg : Cfg) (mW mJ mK mS mE : MapCtx) (sS : SeqCtx)
    (tag : String) (l c : Nat) (pre post : List (Node × Node)) (kn vn : Node)
    (hW : mW.Keyed cfg "jobs") (hJ : mJ.Free cfg) (hK : mK.Keyed cfg "strategy") (hS : mS.Keyed cfg "matrix")
    (hE : mE.Free cfg) (h1 : keyId cfg false mE.key ≠ "include") (h2 : keyId cfg false mE.key ≠ "exclude")
    (hR : Repeated cfg false pre kn) :
    DupInDoc cfg (fun v => docNode (mW.at (mJ.at (mK.at (mS.at (mE.at (sS.at v))))))) false "matrix row value"
      tag l c pre post kn vn :=
  (((path_job_key cfg mW mJ mK hW hJ (e_job_strategy cfg _ mK hK)).trans (e_strategy_matrix cfg _ mS hS)).trans
    (e_matrix_row cfg _ mE sS hE h1 h2)).dup (rawObj_duplicate cfg tag l c pre post kn vn hR)

/-- … and along any path that ends in a raw value (nested arrays and objects, values of `include:` elements): `e_raw_arr`,
`e_raw_obj`, `e_combo_value` extend the path -/
theorem rawObj_duplicate_at (cfg : Cfg) {ctx : Node → Node} (hp : Path (parse cfg) (rawValue cfg) ctx)
    (tag : String) (l c : Nat) (pre post : List (Node × Node)) (kn vn : Node) (hR : Repeated cfg false pre kn) :
    DupInDoc cfg ctx false "matrix row value" tag l c pre post kn vn :=
  hp.dup (rawObj_duplicate cfg tag l c pre post kn vn hR)

/-- `strategy: {matrix: {os: [{name: linux, NAME: mac}]}}` -/
example : DupInDoc exCfg (fun v => docNode (exRoot.at (exJobs.at ((exJobKey "strategy").at ((exOnly "matrix" 9 7).at
      ((exOnly "os" 10 9).at ((⟨"!!seq", 11, 11, [], []⟩ : SeqCtx).at v)))))))
    false "matrix row value" "!!map" 11 13 [(sc "name" 11 13, sc "linux" 11 19)] [] (sc "NAME" 12 13) (sc "mac" 12 19) :=
  matrix_row_object_duplicate_in_document exCfg exRoot exJobs (exJobKey "strategy") (exOnly "matrix" 9 7) (exOnly "os" 10 9) _
    "!!map" 11 13 _ [] _ _ exRoot_jobs (by decide) keyed keyed (by decide) (by decide) (by decide) (repeated_fold (by decide +kernel))

/-- one level deeper: `matrix: {cfg: [{opts: {a: 1, A: 2}}]}` — the path is extended by `e_raw_obj` -/
example : DupInDoc exCfg (fun v => docNode (exRoot.at (exJobs.at ((exJobKey "strategy").at ((exOnly "matrix" 9 7).at
      ((exOnly "cfg" 10 9).at ((⟨"!!seq", 11, 11, [], []⟩ : SeqCtx).at ((exOnly "opts" 11 13).at v))))))))
    false "matrix row value" "!!map" 12 15 [(sc "a" 12 15, sc "1" 12 18)] [] (sc "A" 13 15) (sc "2" 13 18) :=
  rawObj_duplicate_at exCfg
    ((((path_job_key exCfg exRoot exJobs (exJobKey "strategy") exRoot_jobs (by decide) (e_job_strategy exCfg _ _ keyed)).trans
      (e_strategy_matrix exCfg _ (exOnly "matrix" 9 7) keyed)).trans
      (e_matrix_row exCfg _ (exOnly "cfg" 10 9) ⟨"!!seq", 11, 11, [], []⟩ (by decide) (by decide) (by decide))).trans
      (e_raw_obj exCfg (exOnly "opts" 11 13) (by decide)))
    "!!map" 12 15 _ [] _ _ (repeated_fold (by decide +kernel))

/-! ### repeated keys in the remaining sections (fixed key sets, case-sensitive), along any path

With these, together with `C13Doc` (workflow, `jobs:`, job, step) and the three parts on repeated keys above (sections of free
names, elements of `include:` / `exclude:`, object literals), every call of `parseMapping` /
`parseSectionMapping` in `parse.go` has its theorem: a repeated key adds exactly one `key-duplicated` diagnostic to those of
the whole file and changes nothing else — relative to a path `hp` from the document, to be composed from the edges `e_*` as
in the examples below. Two statements are narrower than their mapping: `runsOn_duplicate_at` needs the tag `"!!map"`, and
`with:` of a step has a path only when no `run:` / `shell:` comes before it (`e_step_with`). -/

section
variable (cfg : Cfg) {ctx : Node → Node} (tag : String) (l c : Nat) (pre post : List (Node × Node)) (kn vn : Node)

theorem container_duplicate_at {sec : String} {pos : Yaml.Pos} (hp : Path (parse cfg) (parseContainer cfg sec pos) ctx)
    (hR : Repeated cfg true pre kn) : DupInDoc cfg ctx true (sectionWhat sec) tag l c pre post kn vn :=
  hp.dup (Sect.dup_ins (plain (containerKey cfg sec) { pos := pos }) _ id cfg _ false true tag l c
    (fun _ => (parseContainer_eq_run ..).trans (Prod.eta _).symm) pre post kn vn hR)

theorem credentials_duplicate_at {pos : Yaml.Pos} (hp : Path (parse cfg) (credentialsP cfg pos) ctx)
    (hR : Repeated cfg true pre kn) : DupInDoc cfg ctx true (sectionWhat "credentials") tag l c pre post kn vn :=
  hp.dup (Sect.dup_ins (plain credentialsKey { pos := pos }) _ id cfg _ false true tag l c (fun _ => by rfl) pre post kn vn hR)

theorem strategy_duplicate_at {pos : Yaml.Pos} (hp : Path (parse cfg) (parseStrategy cfg pos) ctx)
    (hR : Repeated cfg true pre kn) : DupInDoc cfg ctx true (sectionWhat "strategy") tag l c pre post kn vn :=
  hp.dup (Sect.dup_ins (plain (strategyKey cfg) { pos := pos }) _ id cfg _ false true tag l c
    (fun _ => (parseStrategy_eq_run ..).trans (Prod.eta _).symm) pre post kn vn hR)

theorem concurrency_duplicate_at {pos : Yaml.Pos} (hp : Path (parse cfg) (parseConcurrency cfg pos) ctx)
    (hR : Repeated cfg true pre kn) : DupInDoc cfg ctx true (sectionWhat "concurrency") tag l c pre post kn vn :=
  hp.dup (Sect.dup_ins (concurrencySect pos) _ id cfg _ false true tag l c
    (fun _ => (parseConcurrency_eq_run ..).trans (Prod.eta _).symm) pre post kn vn hR)

theorem environment_duplicate_at {pos : Yaml.Pos} (hp : Path (parse cfg) (parseEnvironment cfg pos) ctx)
    (hR : Repeated cfg true pre kn) : DupInDoc cfg ctx true (sectionWhat "environment") tag l c pre post kn vn :=
  hp.dup (Sect.dup_ins (environmentSect pos) _ id cfg _ false true tag l c
    (fun _ => (parseEnvironment_eq_run ..).trans (Prod.eta _).symm) pre post kn vn hR)

theorem defaults_duplicate_at {pos : Yaml.Pos} (hp : Path (parse cfg) (parseDefaults cfg pos) ctx)
    (hR : Repeated cfg true pre kn) : DupInDoc cfg ctx true (sectionWhat "defaults") tag l c pre post kn vn :=
  hp.dup (Sect.dup_ins (defaultsSect cfg pos (mapNode tag l c [])) _ id cfg _ false true tag l c (fun _ => by rfl) pre post kn vn hR)

theorem defaultsRun_duplicate_at {pos : Yaml.Pos} (hp : Path (parse cfg) (defaultsRunP cfg pos) ctx)
    (hR : Repeated cfg true pre kn) : DupInDoc cfg ctx true (sectionWhat "run") tag l c pre post kn vn :=
  hp.dup (Sect.dup_ins (plain defaultsRunKey { pos := pos }) _ id cfg _ false true tag l c (fun _ => by rfl) pre post kn vn hR)

theorem runsOn_duplicate_at (hp : Path (parse cfg) (parseRunsOn cfg) ctx)
    (hR : Repeated cfg true pre kn) : DupInDoc cfg ctx true (sectionWhat "runs-on") "!!map" l c pre post kn vn :=
  hp.dup (Sect.dup_ins (plain runsOnKey {}) _ id cfg _ false true "!!map" l c
    (fun _ => (parseRunsOn_eq_run ..).trans (Prod.eta _).symm) pre post kn vn hR)

/-- `on:` (a mapping): an event given twice -/
theorem events_duplicate_at {pos : Yaml.Pos} (hp : Path (parse cfg) (parseEvents cfg pos) ctx)
    (hR : Repeated cfg true pre kn) : DupInDoc cfg ctx true (sectionWhat "on") tag l c pre post kn vn :=
  hp.dup (Sect.dup_ins (plain (eventOfKey cfg) []) _ some cfg _ false true tag l c
    (fun ps => parseEvents_mapNode cfg pos tag l c ps) pre post kn vn hR)

theorem webhook_duplicate_at {name : Str} (hp : Path (parse cfg) (parseWebhookEvent cfg name) ctx)
    (hR : Repeated cfg true pre kn) : DupInDoc cfg ctx true (sectionWhat name.value) tag l c pre post kn vn :=
  hp.dup (Sect.dup_ins (plain (webhookKey name) { hook := name, pos := name.pos }) _ Event.webhook cfg _ true true tag l c
    (fun _ => parseWebhookEvent_eq_run cfg name _) pre post kn vn hR)

theorem dispatch_duplicate_at {pos : Yaml.Pos} (hp : Path (parse cfg) (parseWorkflowDispatchEvent cfg pos) ctx)
    (hR : Repeated cfg true pre kn) : DupInDoc cfg ctx true (sectionWhat "workflow_dispatch") tag l c pre post kn vn :=
  hp.dup (Sect.dup_ins (plain (dispatchStep cfg) none) _ (fun r => Event.dispatch r pos) cfg _ true true tag l c
    (fun _ => parseWorkflowDispatchEvent_eq_run cfg pos _) pre post kn vn hR)

theorem repoDispatch_duplicate_at {pos : Yaml.Pos} (hp : Path (parse cfg) (parseRepositoryDispatchEvent cfg pos) ctx)
    (hR : Repeated cfg true pre kn) : DupInDoc cfg ctx true (sectionWhat "repository_dispatch") tag l c pre post kn vn :=
  hp.dup (Sect.dup_ins (plain repoDispatchStep none) _ (fun r => Event.repoDispatch r pos) cfg _ true true tag l c
    (fun _ => parseRepositoryDispatchEvent_eq_run cfg pos _) pre post kn vn hR)

theorem callEvent_duplicate_at {pos : Yaml.Pos} (hp : Path (parse cfg) (parseWorkflowCallEvent cfg pos) ctx)
    (hR : Repeated cfg true pre kn) : DupInDoc cfg ctx true (sectionWhat "workflow_call") tag l c pre post kn vn :=
  hp.dup (Sect.dup_ins (plain (callEventKey cfg) {}) _ (fun r => Event.call r.inputs r.secrets r.outputs pos) cfg _ true true tag l c
    (fun _ => parseWorkflowCallEvent_eq_run cfg pos _) pre post kn vn hR)

/-- the attributes of one input of `workflow_call` (next: of a secret, of an output, of an input of `workflow_dispatch`).
`callInputSect` / `callOutputSect` use only `id` and `key` of their `KV`, so any node does for its `val` -/
theorem callInput_duplicate_at {id : String} {key : Str} (hp : Path (parse cfg) (fun v => callInput cfg ⟨id, key, v⟩) ctx)
    (hR : Repeated cfg true pre kn) : DupInDoc cfg ctx true "input of workflow_call event" tag l c pre post kn vn :=
  hp.dup (Sect.dup_ins (callInputSect ⟨id, key, vn⟩) _ _root_.id cfg _ true true tag l c (fun _ => by rfl) pre post kn vn hR)

theorem callSecret_duplicate_at {id : String} {key : Str} (hp : Path (parse cfg) (fun v => callSecret cfg ⟨id, key, v⟩) ctx)
    (hR : Repeated cfg true pre kn) : DupInDoc cfg ctx true "secret of workflow_call event" tag l c pre post kn vn :=
  hp.dup (Sect.dup_ins (plain callSecretAttr { name := key }) _ _root_.id cfg _ true true tag l c
    (fun _ => (callSecret_eq_run ..).trans (Prod.eta _).symm) pre post kn vn hR)

theorem callOutput_duplicate_at {id : String} {key : Str} (hp : Path (parse cfg) (fun v => callOutput cfg ⟨id, key, v⟩) ctx)
    (hR : Repeated cfg true pre kn) : DupInDoc cfg ctx true "output of workflow_call event" tag l c pre post kn vn :=
  hp.dup (Sect.dup_ins (callOutputSect ⟨id, key, vn⟩) _ _root_.id cfg _ true true tag l c (fun _ => by rfl) pre post kn vn hR)

theorem dispatchInput_duplicate_at {id : String} {key : Str} (hp : Path (parse cfg) (fun v => dispatchInput cfg ⟨id, key, v⟩) ctx)
    (hR : Repeated cfg true pre kn) : DupInDoc cfg ctx true "input settings of workflow_dispatch event" tag l c pre post kn vn :=
  hp.dup (Sect.dup_ins (plain dispatchAttr {}) _
    (fun r => (⟨key, r.desc, r.req, r.dflt, r.ty, r.opts⟩ : DispatchInput)) cfg _ true true tag l c
    (fun ps => by rw [dispatchInput_eq_run]) pre post kn vn hR)

end

/-- an item of `schedule:` with `cron:` twice: the repetition is reported, the item stays (one key is left) -/
theorem scheduleItem_duplicate (cfg : Cfg) (tag : String) (l c : Nat) (pre post : List (Node × Node)) (kn vn : Node)
    (h : Repeated cfg true pre kn) :
    ∃ pos, firstPos cfg true (keyId cfg true kn) pre = some pos ∧
      Ins (scheduleItem cfg) tag l c pre post kn vn (dupAt kn "element of \"schedule\" section" pos true) := by
  obtain ⟨pos, hpos, h1, h2⟩ := mapping_duplicate cfg tag l c pre post kn vn "element of \"schedule\" section" false true h
  refine ⟨pos, hpos, ?_⟩
  have epos : ∀ ps, errAt (mapNode tag l c ps) "schedule-element" [] = ⟨⟨l, c⟩, "schedule-element", []⟩ := fun _ => rfl
  simp only [Ins, scheduleItem, epos, h1]
  generalize (parseMapping cfg "element of \"schedule\" section" (mapNode tag l c (pre ++ post)) false true).1 = kvs
  have hperm := fun X : List PErr => h2.append_right X
  cases kvs with
  | nil => exact ⟨rfl, hperm _⟩
  | cons kv rest =>
    cases rest with
    | nil =>
      by_cases hk : kv.id = "cron"
      · simp only [hk, ne_eq, not_true_eq_false, ↓reduceIte]; exact ⟨trivial, hperm _⟩
      · simp only [hk, ne_eq, not_false_eq_true, ↓reduceIte]; exact ⟨trivial, hperm _⟩
    | cons _ _ => exact ⟨rfl, hperm _⟩

theorem scheduleItem_duplicate_at (cfg : Cfg) {ctx : Node → Node} (hp : Path (parse cfg) (scheduleItem cfg) ctx)
    (tag : String) (l c : Nat) (pre post : List (Node × Node)) (kn vn : Node) (hR : Repeated cfg true pre kn) :
    DupInDoc cfg ctx true "element of \"schedule\" section" tag l c pre post kn vn :=
  hp.dup (scheduleItem_duplicate cfg tag l c pre post kn vn hR)

/-! #### examples for the remaining sections (the paths are composed on the spot) -/

/-- the job's key `k` in the example document -/
theorem exPathJobKey {β : Type} {Q : Node → R β} (k : String)
    (h : Path (parseJob exCfg (parseString exJobs.key false).1) Q (exJobKey k).at) :
    Path (parse exCfg) Q (fun v => docNode (exRoot.at (exJobs.at ((exJobKey k).at v)))) :=
  path_job_key exCfg exRoot exJobs (exJobKey k) exRoot_jobs (by decide) h

/-- the event `ev` of `on:` in the example document -/
theorem exPathEvent {β : Type} {Q : Node → R β} (ev : String)
    (h : Path (parseEvents exCfg (parseString exOnRoot.key false).1.pos) Q (exOnly ev 2 3).at) :
    Path (parse exCfg) Q (fun v => docNode (exOnRoot.at ((exOnly ev 2 3).at v))) :=
  path_event exCfg exOnRoot (exOnly ev 2 3) keyed h

/-- `container: {image: a, image: b}` -/
example : DupInDoc exCfg (fun v => docNode (exRoot.at (exJobs.at ((exJobKey "container").at v)))) true (sectionWhat "container")
    "!!map" 9 7 [(sc "image" 9 7, sc "a" 9 14)] [] (sc "image" 10 7) (sc "b" 10 14) :=
  container_duplicate_at exCfg "!!map" 9 7 _ [] _ _ (exPathJobKey "container" (e_job_container exCfg _ _ keyed)) repeated_same

/-- `container: {image: a, credentials: {username: u, username: v}}` -/
example : DupInDoc exCfg (fun v => docNode (exRoot.at (exJobs.at ((exJobKey "container").at
      ((⟨"!!map", 9, 7, [(sc "image" 9 7, sc "a" 9 14)], sc "credentials" 10 7, []⟩ : MapCtx).at v)))))
    true (sectionWhat "credentials") "!!map" 11 9 [(sc "username" 11 9, sc "u" 11 19)] [] (sc "username" 12 9) (sc "v" 12 19) :=
  credentials_duplicate_at exCfg "!!map" 11 9 _ [] _ _
    ((exPathJobKey "container" (e_job_container exCfg _ _ keyed)).trans (e_container_credentials exCfg _ _ _ keyed))
    repeated_same

/-- `strategy: {fail-fast: true, fail-fast: false}` -/
example : DupInDoc exCfg (fun v => docNode (exRoot.at (exJobs.at ((exJobKey "strategy").at v)))) true (sectionWhat "strategy")
    "!!map" 9 7 [(sc "fail-fast" 9 7, sc "true" 9 18)] [] (sc "fail-fast" 10 7) (sc "false" 10 18) :=
  strategy_duplicate_at exCfg "!!map" 9 7 _ [] _ _ (exPathJobKey "strategy" (e_job_strategy exCfg _ _ keyed)) repeated_same

/-- `concurrency: {group: a, group: b}` at the top level -/
example : DupInDoc exCfg (fun v => docNode ((exRootKey "concurrency").at v)) true (sectionWhat "concurrency")
    "!!map" 10 3 [(sc "group" 10 3, sc "a" 10 10)] [] (sc "group" 11 3) (sc "b" 11 10) :=
  concurrency_duplicate_at exCfg "!!map" 10 3 _ [] _ _
    (path_wf exCfg (exRootKey "concurrency") (e_wf_concurrency exCfg _ keyed)) repeated_same

/-- `environment: {name: a, name: b}` -/
example : DupInDoc exCfg (fun v => docNode (exRoot.at (exJobs.at ((exJobKey "environment").at v)))) true (sectionWhat "environment")
    "!!map" 9 7 [(sc "name" 9 7, sc "a" 9 13)] [] (sc "name" 10 7) (sc "b" 10 13) :=
  environment_duplicate_at exCfg "!!map" 9 7 _ [] _ _ (exPathJobKey "environment" (e_job_environment exCfg _ _ keyed)) repeated_same

/-- `defaults: {run: {shell: bash}, run: {shell: sh}}` and `defaults: {run: {shell: bash, shell: sh}}` -/
example : DupInDoc exCfg (fun v => docNode (exRoot.at (exJobs.at ((exJobKey "defaults").at v)))) true (sectionWhat "defaults")
    "!!map" 9 7 [(sc "run" 9 7, mapNode "!!map" 10 9 [(sc "shell" 10 9, sc "bash" 10 16)])] []
      (sc "run" 11 7) (mapNode "!!map" 12 9 [(sc "shell" 12 9, sc "sh" 12 16)]) :=
  defaults_duplicate_at exCfg "!!map" 9 7 _ [] _ _ (exPathJobKey "defaults" (e_job_defaults exCfg _ _ keyed)) repeated_same

example : DupInDoc exCfg (fun v => docNode (exRoot.at (exJobs.at ((exJobKey "defaults").at ((exOnly "run" 9 7).at v)))))
    true (sectionWhat "run") "!!map" 10 9 [(sc "shell" 10 9, sc "bash" 10 16)] [] (sc "shell" 11 9) (sc "sh" 11 16) :=
  defaultsRun_duplicate_at exCfg "!!map" 10 9 _ [] _ _
    ((exPathJobKey "defaults" (e_job_defaults exCfg _ _ keyed)).trans (e_defaults_run exCfg _ (exOnly "run" 9 7) keyed))
    repeated_same

/-- `runs-on: {group: a, group: b}` (the job is written out: `exJobKey` has a scalar `runs-on:` already) -/
example : DupInDoc exCfg (fun v => docNode (exRoot.at (exJobs.at
      ((⟨"!!map", 4, 5, [], sc "runs-on" 4 5, [(sc "steps" 6 5, seqNode "!!seq" 7 7 [exStep0])]⟩ : MapCtx).at v))))
    true (sectionWhat "runs-on") "!!map" 5 7 [(sc "group" 5 7, sc "a" 5 14)] [] (sc "group" 6 7) (sc "b" 6 14) :=
  runsOn_duplicate_at exCfg 5 7 _ [] _ _
    (path_job_key exCfg exRoot exJobs _ exRoot_jobs (by decide) (e_job_runsOn exCfg _ _ keyed)) repeated_same

/-- `on: {push: {}, push: {}}` -/
example : DupInDoc exCfg (fun v => docNode (exOnRoot.at v)) true (sectionWhat "on")
    "!!map" 2 3 [(sc "push" 2 3, mapNode "!!map" 2 9 [])] [] (sc "push" 3 3) (mapNode "!!map" 3 9 []) :=
  events_duplicate_at exCfg "!!map" 2 3 _ [] _ _ (path_wf exCfg exOnRoot (e_wf_on exCfg _ keyed)) repeated_same

/-- `on: {push: {branches: [a], branches: [b]}}` -/
example : DupInDoc exCfg (fun v => docNode (exOnRoot.at ((exOnly "push" 2 3).at v))) true (sectionWhat "push")
    "!!map" 3 5 [(sc "branches" 3 5, seqNode "!!seq" 3 15 [sc "a" 3 16])] [] (sc "branches" 4 5) (seqNode "!!seq" 4 15 [sc "b" 4 16]) :=
  webhook_duplicate_at (name := (parseString (exOnly "push" 2 3).key false).1) exCfg "!!map" 3 5 _ [] _ _
    (exPathEvent "push" (e_on_webhook exCfg _ _ "push" keyed (by decide +kernel))) repeated_same

/-- `on: {workflow_dispatch: {inputs: {}, inputs: {}}}`, and the same for `repository_dispatch` / `workflow_call` -/
example : DupInDoc exCfg (fun v => docNode (exOnRoot.at ((exOnly "workflow_dispatch" 2 3).at v))) true (sectionWhat "workflow_dispatch")
    "!!map" 3 5 [(sc "inputs" 3 5, mapNode "!!map" 3 13 [])] [] (sc "inputs" 4 5) (mapNode "!!map" 4 13 []) :=
  dispatch_duplicate_at exCfg "!!map" 3 5 _ [] _ _ (exPathEvent "workflow_dispatch" (e_on_dispatch exCfg _ _ keyed)) repeated_same

example : DupInDoc exCfg (fun v => docNode (exOnRoot.at ((exOnly "repository_dispatch" 2 3).at v))) true (sectionWhat "repository_dispatch")
    "!!map" 3 5 [(sc "types" 3 5, sc "a" 3 12)] [] (sc "types" 4 5) (sc "b" 4 12) :=
  repoDispatch_duplicate_at exCfg "!!map" 3 5 _ [] _ _ (exPathEvent "repository_dispatch" (e_on_repoDispatch exCfg _ _ keyed))
    repeated_same

example : DupInDoc exCfg (fun v => docNode (exOnRoot.at ((exOnly "workflow_call" 2 3).at v))) true (sectionWhat "workflow_call")
    "!!map" 3 5 [(sc "inputs" 3 5, mapNode "!!map" 3 13 [])] [] (sc "inputs" 4 5) (mapNode "!!map" 4 13 []) :=
  callEvent_duplicate_at exCfg "!!map" 3 5 _ [] _ _ (exPathEvent "workflow_call" (e_on_call exCfg _ _ keyed)) repeated_same

/-- `on: {workflow_call: {inputs: {name: {type: string, type: number}}}}`, and the same for a secret, an output -/
example : DupInDoc exCfg (fun v => docNode (exOnRoot.at ((exOnly "workflow_call" 2 3).at ((exOnly "inputs" 3 5).at ((exOnly "name" 4 7).at v)))))
    true "input of workflow_call event" "!!map" 5 9 [(sc "type" 5 9, sc "string" 5 15)] [] (sc "type" 6 9) (sc "number" 6 15) :=
  callInput_duplicate_at exCfg "!!map" 5 9 _ [] _ _
    (((exPathEvent "workflow_call" (e_on_call exCfg _ _ keyed)).trans (e_call_inputs exCfg _ (exOnly "inputs" 3 5) keyed)).trans
      (e_callInputs_input exCfg (exOnly "name" 4 7) (by decide))) repeated_same

example : DupInDoc exCfg (fun v => docNode (exOnRoot.at ((exOnly "workflow_call" 2 3).at ((exOnly "secrets" 3 5).at ((exOnly "tok" 4 7).at v)))))
    true "secret of workflow_call event" "!!map" 5 9 [(sc "required" 5 9, sc "true" 5 19)] [] (sc "required" 6 9) (sc "false" 6 19) :=
  callSecret_duplicate_at exCfg "!!map" 5 9 _ [] _ _
    (((exPathEvent "workflow_call" (e_on_call exCfg _ _ keyed)).trans (e_call_secrets exCfg _ (exOnly "secrets" 3 5) keyed)).trans
      (e_callSecrets_secret exCfg (exOnly "tok" 4 7) (by decide))) repeated_same

example : DupInDoc exCfg (fun v => docNode (exOnRoot.at ((exOnly "workflow_call" 2 3).at ((exOnly "outputs" 3 5).at ((exOnly "out" 4 7).at v)))))
    true "output of workflow_call event" "!!map" 5 9 [(sc "value" 5 9, sc "x" 5 16)] [] (sc "value" 6 9) (sc "y" 6 16) :=
  callOutput_duplicate_at exCfg "!!map" 5 9 _ [] _ _
    (((exPathEvent "workflow_call" (e_on_call exCfg _ _ keyed)).trans (e_call_outputs exCfg _ (exOnly "outputs" 3 5) keyed)).trans
      (e_callOutputs_output exCfg (exOnly "out" 4 7) (by decide))) repeated_same

/-- `on: {workflow_dispatch: {inputs: {name: {default: a, default: b}}}}` -/
example : DupInDoc exCfg (fun v => docNode (exOnRoot.at ((exOnly "workflow_dispatch" 2 3).at ((exOnly "inputs" 3 5).at ((exOnly "name" 4 7).at v)))))
    true "input settings of workflow_dispatch event" "!!map" 5 9 [(sc "default" 5 9, sc "a" 5 18)] [] (sc "default" 6 9) (sc "b" 6 18) :=
  dispatchInput_duplicate_at exCfg "!!map" 5 9 _ [] _ _
    (((exPathEvent "workflow_dispatch" (e_on_dispatch exCfg _ _ keyed)).trans (e_dispatch_inputs exCfg _ (exOnly "inputs" 3 5) keyed)).trans
      (e_dispatchInputs_input exCfg (exOnly "name" 4 7) (by decide))) repeated_same

/-- `on: {schedule: [{cron: "0 0 * * *", cron: "1 1 * * *"}]}`: reported at the second `cron`, the first one stays -/
example : DupInDoc exCfg (fun v => docNode (exOnRoot.at ((exOnly "schedule" 2 3).at ((⟨"!!seq", 3, 5, [], []⟩ : SeqCtx).at v))))
    true "element of \"schedule\" section" "!!map" 3 7 [(sc "cron" 3 7, sc "0 0 * * *" 3 13)] [] (sc "cron" 4 7) (sc "1 1 * * *" 4 13) :=
  scheduleItem_duplicate_at exCfg
    ((exPathEvent "schedule" (e_on_schedule exCfg _ _ keyed)).trans (e_schedule_item exCfg _ ⟨"!!seq", 3, 5, [], []⟩))
    "!!map" 3 7 _ [] _ _ repeated_same

/-! ### missing keys again: a step with `with:` but no `uses:`, with `shell:` but no `run:` -/

/-- every entry that `parseMapping` hands out for `pre ++ (key, v) :: post` carries the id of one of these keys -/
theorem ids_of_ctx (cfg : Cfg) (what : String) (m : MapCtx) (v : Node) (ae cs : Bool) (P : String → Prop)
    (hpre : ∀ q ∈ m.pre, P (keyId cfg cs q.1)) (hkey : P (keyId cfg cs m.key)) (hpost : ∀ q ∈ m.post, P (keyId cfg cs q.1)) :
    ∀ kv ∈ (parseMapping cfg what (m.at v) ae cs).1, P kv.id := by
  apply ids_of_pairs
  intro q hq
  rcases List.mem_append.1 hq with h | h
  · exact hpre q h
  · rcases List.mem_cons.1 h with rfl | h
    · exact hkey
    · exact hpost q h

/-- a step that has `with:` (before any `run:` / `shell:`) and no `uses:` — reported at the step -/
theorem step_missing_uses (cfg : Cfg) (m : MapCtx) (v : Node) (hk : m.Keyed cfg "with")
    (hpre : ∀ q ∈ m.pre, keyId cfg true q.1 ≠ "uses" ∧ keyId cfg true q.1 ≠ "run" ∧ keyId cfg true q.1 ≠ "shell")
    (hpost : ∀ q ∈ m.post, keyId cfg true q.1 ≠ "uses") :
    (⟨⟨m.l, m.c⟩, "step-uses-required", []⟩ : PErr) ∈ (parseStep cfg (m.at v)).2 := by
  obtain ⟨e, he, hu⟩ := loop_at_key (stepKey cfg) { step := { pos := (m.at v).pos } } cfg "element of \"steps\" section" false true m v
    (fun st => st.step.exec = .none) (fun st => ∃ e, st.step.exec = .action e ∧ e.uses = none) hk.first' rfl
    (fun s kv ⟨q, hq, hid⟩ hs => stepKey_exec_none cfg s kv (hid ▸ (hpre q hq).1) (hid ▸ hk.first q hq)
      (hid ▸ (hpre q hq).2.1) (hid ▸ (hpre q hq).2.2) hs)
    (fun s hs => by rw [hk.id]; simp only [stepKey, hs]; exact ⟨_, rfl, withKey_uses _ _⟩)
    (fun s kv ⟨q, hq, hid⟩ _ ⟨e, he, hu⟩ => by
      obtain ⟨e', he', hu'⟩ := stepKey_exec_action cfg s kv e (hid ▸ hpost q hq) he
      exact ⟨e', he', hu'.trans hu⟩)
  refine List.mem_append_right _ ?_
  simp only [stepFinish, he, hu, Option.isNone_none, ↓reduceIte]
  exact List.mem_append_left _ (List.mem_singleton.2 rfl)

theorem step_missing_uses_in_document (cfg : Cfg) (mW mJ mK mP : MapCtx) (sS : SeqCtx) (v : Node)
    (hW : mW.Keyed cfg "jobs") (hJ : mJ.Free cfg) (hK : mK.Keyed cfg "steps") (hP : mP.Keyed cfg "with")
    (hpre : ∀ q ∈ mP.pre, keyId cfg true q.1 ≠ "uses" ∧ keyId cfg true q.1 ≠ "run" ∧ keyId cfg true q.1 ≠ "shell")
    (hpost : ∀ q ∈ mP.post, keyId cfg true q.1 ≠ "uses") :
    (⟨⟨mP.l, mP.c⟩, "step-uses-required", []⟩ : PErr) ∈ (parse cfg (docNode (mW.at (mJ.at (mK.at (sS.at (mP.at v))))))).2 :=
  (path_step cfg mW mJ mK sS hW hJ hK).reported (step_missing_uses cfg mP v hP hpre hpost)

/-- `- name: x` / `  with: {a: b}` -/
example : (⟨⟨6, 9⟩, "step-uses-required", []⟩ : PErr) ∈ (parse exCfg (docNode (exRoot.at (exJobs.at (exJobSteps.at (exSeq.at
    ((⟨"!!map", 6, 9, [(sc "name" 6 9, sc "x" 6 15)], sc "with" 7 9, []⟩ : MapCtx).at
      (mapNode "!!map" 8 11 [(sc "a" 8 11, sc "b" 8 14)])))))))).2 :=
  step_missing_uses_in_document exCfg exRoot exJobs exJobSteps _ exSeq _ exRoot_jobs (by decide) exJobSteps_steps keyed
    (by decide) (by decide)

/-- a step that has `shell:` (before any `uses:` / `with:`) and no `run:` — reported at the step -/
theorem step_missing_run (cfg : Cfg) (m : MapCtx) (v : Node) (hk : m.Keyed cfg "shell")
    (hpre : ∀ q ∈ m.pre, keyId cfg true q.1 ≠ "run" ∧ keyId cfg true q.1 ≠ "uses" ∧ keyId cfg true q.1 ≠ "with")
    (hpost : ∀ q ∈ m.post, keyId cfg true q.1 ≠ "run") :
    (⟨⟨m.l, m.c⟩, "step-run-required", []⟩ : PErr) ∈ (parseStep cfg (m.at v)).2 := by
  obtain ⟨e, he, hu⟩ := loop_at_key (stepKey cfg) { step := { pos := (m.at v).pos } } cfg "element of \"steps\" section" false true m v
    (fun st => st.step.exec = .none) (fun st => ∃ e, st.step.exec = .run e ∧ e.run = none) hk.first' rfl
    (fun s kv ⟨q, hq, hid⟩ hs => stepKey_exec_none cfg s kv (hid ▸ (hpre q hq).2.1) (hid ▸ (hpre q hq).2.2)
      (hid ▸ (hpre q hq).1) (hid ▸ hk.first q hq) hs)
    (fun s hs => by rw [hk.id]; simp only [stepKey, hs]; exact ⟨_, rfl, rfl⟩)
    (fun s kv ⟨q, hq, hid⟩ _ ⟨e, he, hu⟩ => by
      obtain ⟨e', he', hu'⟩ := stepKey_exec_run cfg s kv e (hid ▸ hpost q hq) he
      exact ⟨e', he', hu'.trans hu⟩)
  refine List.mem_append_right _ ?_
  simp only [stepFinish, he, hu, Option.isNone_none, ↓reduceIte]
  exact List.mem_singleton.2 rfl

theorem step_missing_run_in_document (cfg : Cfg) (mW mJ mK mP : MapCtx) (sS : SeqCtx) (v : Node)
    (hW : mW.Keyed cfg "jobs") (hJ : mJ.Free cfg) (hK : mK.Keyed cfg "steps") (hP : mP.Keyed cfg "shell")
    (hpre : ∀ q ∈ mP.pre, keyId cfg true q.1 ≠ "run" ∧ keyId cfg true q.1 ≠ "uses" ∧ keyId cfg true q.1 ≠ "with")
    (hpost : ∀ q ∈ mP.post, keyId cfg true q.1 ≠ "run") :
    (⟨⟨mP.l, mP.c⟩, "step-run-required", []⟩ : PErr) ∈ (parse cfg (docNode (mW.at (mJ.at (mK.at (sS.at (mP.at v))))))).2 :=
  (path_step cfg mW mJ mK sS hW hJ hK).reported (step_missing_run cfg mP v hP hpre hpost)

/-- `- name: x` / `  shell: bash` / `  working-directory: d` -/
example : (⟨⟨6, 9⟩, "step-run-required", []⟩ : PErr) ∈ (parse exCfg (docNode (exRoot.at (exJobs.at (exJobSteps.at (exSeq.at
    ((⟨"!!map", 6, 9, [(sc "name" 6 9, sc "x" 6 15)], sc "shell" 7 9, [(sc "working-directory" 8 9, sc "d" 8 28)]⟩ : MapCtx).at
      (sc "bash" 7 16)))))))).2 :=
  step_missing_run_in_document exCfg exRoot exJobs exJobSteps _ exSeq _ exRoot_jobs (by decide) exJobSteps_steps keyed
    (by decide) (by decide)

/-! ### unknown keys again: an unknown scope of `permissions:` — reported by the rule `permissions`, on the AST of the whole file

The parser takes every scope name (`permissions:` is a mapping of free names); the unknown scope is reported by
`rule_permissions.go` on the AST. The lift is therefore about what the AST of the whole file CONTAINS: the value of the first
`permissions:` key of the workflow (of a job) is in the AST whatever else the document contains. -/

theorem mappingLoop_value'' (cfg : Cfg) (what : String) (cs : Bool) (kn vn : Node) (post : List (Node × Node)) :
    ∀ (pre : List (Node × Node)) (seen : List (String × Yaml.Pos)),
      lookupSeen (keyId cfg cs kn) seen = none → (∀ q ∈ pre, keyId cfg cs q.1 ≠ keyId cfg cs kn) →
      ∃ kvs₁ kvs₂ es, mappingLoop cfg what cs (pre ++ (kn, vn) :: post) seen =
          (kvs₁ ++ ⟨keyId cfg cs kn, (parseString kn false).1, vn⟩ :: kvs₂, es) ∧
        ∀ kv ∈ kvs₂, kv.id ≠ keyId cfg cs kn := by
  intro pre seen hs hne
  obtain ⟨k1, k2, es, e, _, h2⟩ := mappingLoop_at cfg what cs kn post pre seen hs hne
  exact ⟨k1, k2, es, e vn, fun kv hkv => (h2 kv hkv).2⟩

/-- **what the section's result contains**: a field that the loop body sets at one key (the first with its id) and that no
other key touches has, after the loop, the value set at that key -/
theorem Sect.loop_get {σ ρ α : Type} (S : Sect σ ρ) (cfg : Cfg) (what : String) (ae cs : Bool) (m : MapCtx) (v : Node)
    (F : σ → α) (a : α)
    (hfirst : ∀ q ∈ m.pre, keyId cfg cs q.1 ≠ keyId cfg cs m.key)
    (hset : ∀ s, F (S.step s ⟨keyId cfg cs m.key, (parseString m.key false).1, v⟩).1 = a)
    (hkeep : ∀ s kv, kv.id ≠ keyId cfg cs m.key → F s = a → F (S.step s kv).1 = a) :
    F (loop S.step S.init (parseMapping cfg what (m.at v) ae cs).1).1 = a :=
  loop_at_key S.step S.init cfg what ae cs m v (fun _ => True) (fun s => F s = a) hfirst trivial (fun _ _ _ _ => trivial)
    (fun s _ => hset s) (fun s kv _ hne hs => hkeep s kv hne hs)

theorem mapKVs_mem {β : Type} (f : KV → R β) (kv : KV) : ∀ kvs : List KV, kv ∈ kvs → (kv.id, (f kv).1) ∈ (mapKVs f kvs).1 :=
  fun kvs h => by rw [mapKVs_mapR]; exact List.mem_map.2 ⟨kv, h, rfl⟩

theorem mapKVs_at {β : Type} (f : KV → R β) (cfg : Cfg) (what : String) (ae cs : Bool) (m : MapCtx) (v : Node)
    (hk : ∀ q ∈ m.pre, keyId cfg cs q.1 ≠ keyId cfg cs m.key) :
    (keyId cfg cs m.key, (f ⟨keyId cfg cs m.key, (parseString m.key false).1, v⟩).1) ∈
      (mapKVs f (parseMapping cfg what (m.at v) ae cs).1).1 := by
  obtain ⟨k1, k2, es, -, -, e⟩ := parseMapping_at cfg what ae cs m hk
  exact mapKVs_mem f ⟨keyId cfg cs m.key, (parseString m.key false).1, v⟩ _
    (by rw [e v]; exact List.mem_append_right _ (List.mem_cons_self ..))

/-- the AST of the whole file has the workflow's `permissions:` as parsed from the value of the first such key -/
theorem workflow_permissions_in_ast (cfg : Cfg) (mW : MapCtx) (v : Node) (hW : mW.Keyed cfg "permissions") :
    (parse cfg (docNode (mW.at v))).1.permissions = some (parsePermissions cfg (parseString mW.key false).1.pos v).1 := by
  rw [parse_docNode]
  simp only [wfRun, Sect.run, workflowSect]
  apply Sect.loop_get (workflowSect cfg (docNode (mapNode "" 0 0 []))) cfg "workflow" false true mW v (·.permissions) _ hW.first'
  · intro s; rw [hW.id]; simp only [workflowSect, workflowKey_permissions, store]
  · intro s kv hne hs
    exact ((workflowKey_frame cfg s kv).permissions (hW.id ▸ hne)).trans hs

/-- the scopes of a `permissions:` mapping: the scope under the first key with its (folded) name is in the AST -/
theorem permissions_scope_in_ast (cfg : Cfg) (pos : Yaml.Pos) (m : MapCtx) (v : Node) (hk : m.Free cfg) :
    ∃ scopes, (parsePermissions cfg pos (m.at v)).1 = ⟨none, some scopes, pos⟩ ∧
      (keyId cfg false m.key, (⟨(parseString m.key false).1, (parseString v false).1⟩ : PermissionScope)) ∈ scopes := by
  refine ⟨_, ?_, mapKVs_at (fun kv => let x := parseString kv.val false; ((⟨kv.key, x.1⟩ : PermissionScope), x.2)) cfg
    (sectionWhat "permissions") true false m v hk⟩
  simp [parsePermissions, MapCtx.at, parseSectionMapping]

/-- **an unknown scope in the workflow's `permissions:`, whole file**: the rule `permissions` reports it at the scope's key,
whatever else the document contains (`mW`: the root with `permissions:`, `mP`: the `permissions:` mapping with the scope) -/
theorem workflow_permissions_unknown_scope_in_document (cfg : Cfg) (mW mP : MapCtx) (v : Node)
    (hW : mW.Keyed cfg "permissions") (hP : mP.Free cfg) (hgood : GoodKey mP.key)
    (hun : mP.key.value ∉ AL.Rules.allPermissionScopes) :
    (⟨mP.key.pos, "permissions", "permission-scope", [mP.key.value]⟩ : AL.Rules.Diag) ∈
      AL.Rules.rulePermissions (parse cfg (docNode (mW.at (mP.at v)))).1 := by
  obtain ⟨scopes, hs, hmem⟩ := permissions_scope_in_ast cfg (parseString mW.key false).1.pos mP v hP
  simp only [AL.Rules.rulePermissions, workflow_permissions_in_ast cfg mW _ hW, hs, AL.Rules.checkPermissions, List.mem_append]
  left
  simp only [Option.getD_some, List.mem_flatMap]
  refine ⟨_, hmem, ?_⟩
  simp [parseString_good mP.key hgood, hun]

/-- `permissions: {contents: read, bogus: write}` at the top level: `bogus` (11:3) is reported by the rule -/
example : (⟨⟨11, 3⟩, "permissions", "permission-scope", ["bogus"]⟩ : AL.Rules.Diag) ∈
    AL.Rules.rulePermissions (parse exCfg (docNode ((exRootKey "permissions").at
      ((⟨"!!map", 10, 3, [(sc "contents" 10 3, sc "read" 10 13)], sc "bogus" 11 3, []⟩ : MapCtx).at (sc "write" 11 10))))).1 :=
  workflow_permissions_unknown_scope_in_document exCfg (exRootKey "permissions") _ _ keyed (by decide +kernel)
    (goodKey_of_scalar _ rfl (by decide)) (by decide +kernel)

/-- the AST of the whole file has, under `jobs:`, the job as parsed from the value of the first key with that id -/
theorem job_in_ast (cfg : Cfg) (mW mJ : MapCtx) (job : Node) (hW : mW.Keyed cfg "jobs") (hJ : mJ.Free cfg) :
    ∃ js, (parse cfg (docNode (mW.at (mJ.at job)))).1.jobs = some js ∧
      (keyId cfg false mJ.key, (parseJob cfg (parseString mJ.key false).1 job).1) ∈ js := by
  refine ⟨_, ?_, mapKVs_at (fun kv => parseJob cfg kv.key kv.val) cfg (sectionWhat "jobs") false false mJ job hJ⟩
  rw [parse_docNode]
  simp only [wfRun, Sect.run, workflowSect]
  apply Sect.loop_get (workflowSect cfg (docNode (mapNode "" 0 0 []))) cfg "workflow" false true mW _ (·.jobs) _ hW.first'
  · intro s; rw [hW.id]; simp only [workflowSect, workflowKey_jobs, store]; rfl
  · intro s kv hne hs
    exact ((workflowKey_frame cfg s kv).jobs (hW.id ▸ hne)).trans hs

theorem jobFinish_permissions (id : Str) (st : JobSt) : (jobFinish id st).1.permissions = st.job.permissions := by
  simp only [jobFinish]
  split
  · split <;> rfl
  · rfl

/-- … and that job has its `permissions:` as parsed from the value of the first such key -/
theorem job_permissions_in_ast (cfg : Cfg) (jid : Str) (mK : MapCtx) (v : Node) (hK : mK.Keyed cfg "permissions") :
    (parseJob cfg jid (mK.at v)).1.permissions = some (parsePermissions cfg (parseString mK.key false).1.pos v).1 := by
  simp only [parseJob, jobFinish_permissions]
  apply Sect.loop_get (jobSect cfg jid) cfg (jobWhat jid.value) false true mK v (·.job.permissions) _ hK.first'
  · intro s; rw [hK.id]; simp only [jobSect, jobKey_permissions, store]
  · intro s kv hne hs
    exact ((jobKey_frame cfg s kv).permissions (hK.id ▸ hne)).trans hs

/-- **an unknown scope in a job's `permissions:`, whole file** -/
theorem job_permissions_unknown_scope_in_document (cfg : Cfg) (mW mJ mK mP : MapCtx) (v : Node)
    (hW : mW.Keyed cfg "jobs") (hJ : mJ.Free cfg) (hK : mK.Keyed cfg "permissions") (hP : mP.Free cfg) (hgood : GoodKey mP.key)
    (hun : mP.key.value ∉ AL.Rules.allPermissionScopes) :
    (⟨mP.key.pos, "permissions", "permission-scope", [mP.key.value]⟩ : AL.Rules.Diag) ∈
      AL.Rules.rulePermissions (parse cfg (docNode (mW.at (mJ.at (mK.at (mP.at v)))))).1 := by
  obtain ⟨js, hjs, hj⟩ := job_in_ast cfg mW mJ (mK.at (mP.at v)) hW hJ
  obtain ⟨scopes, hs, hmem⟩ := permissions_scope_in_ast cfg (parseString mK.key false).1.pos mP v hP
  simp only [AL.Rules.rulePermissions, List.mem_append]
  right
  simp only [AL.Rules.jobsOf, hjs, Option.getD_some, List.mem_flatMap, List.mem_map]
  refine ⟨_, ⟨_, hj, rfl⟩, ?_⟩
  simp only [job_permissions_in_ast cfg _ mK _ hK, hs, AL.Rules.checkPermissions, Option.getD_some, List.mem_flatMap]
  refine ⟨_, hmem, ?_⟩
  simp [parseString_good mP.key hgood, hun]

/-- `permissions: {contents: read, bogus: write}` in the job `build` -/
example : (⟨⟨10, 7⟩, "permissions", "permission-scope", ["bogus"]⟩ : AL.Rules.Diag) ∈
    AL.Rules.rulePermissions (parse exCfg (docNode (exRoot.at (exJobs.at ((exJobKey "permissions").at
      ((⟨"!!map", 9, 7, [(sc "contents" 9 7, sc "read" 9 17)], sc "bogus" 10 7, []⟩ : MapCtx).at (sc "write" 10 14))))))).1 :=
  job_permissions_unknown_scope_in_document exCfg exRoot exJobs (exJobKey "permissions") _ _ exRoot_jobs (by decide) keyed
    (by decide +kernel) (goodKey_of_scalar _ rfl (by decide)) (by decide +kernel)

/-! #### two more examples -/

/-- `services: {db: {image: postgres, bogus: x}}` through `container_unknown_at` -/
example : AddsExactly exCfg
    (docNode (exRoot.at (exJobs.at ((exJobKey "services").at ((exOnly "db" 9 7).at
      (mapNode "!!map" 10 9 ([(sc "image" 10 9, sc "postgres" 10 16)] ++ [])))))))
    (docNode (exRoot.at (exJobs.at ((exJobKey "services").at ((exOnly "db" 9 7).at
      (mapNode "!!map" 10 9 ([(sc "image" 10 9, sc "postgres" 10 16)] ++ (sc "bogus" 11 9, sc "x" 11 16) :: [])))))))
    (unexpectedAt (sc "bogus" 11 9) "services" containerKeys) :=
  (container_unknown_at exCfg "!!map" 10 9 [(sc "image" 10 9, sc "postgres" 10 16)] [] (sc "bogus" 11 9) (sc "x" 11 16)
    ((exPathJobKey "services" (e_job_services exCfg _ _ keyed)).trans (e_services_service exCfg (exOnly "db" 9 7) (by decide)))
    foreign :)

/-- `on: {schedule: [{cron: "0 0 * * *", bogus: x}]}` through `schedule_item_in_document`: two keys are left -/
example : (⟨⟨3, 7⟩, "schedule-element", []⟩ : PErr) ∈ (parse exCfg (docNode (exOnRoot.at ((exOnly "schedule" 2 3).at
    ((⟨"!!seq", 3, 5, [], []⟩ : SeqCtx).at
      (mapNode "!!map" 3 7 [(sc "cron" 3 7, sc "0 0 * * *" 3 13), (sc "bogus" 4 7, sc "x" 4 14)])))))).2 :=
  schedule_item_in_document exCfg exOnRoot (exOnly "schedule" 2 3) _ exOnRoot_on keyed _ (by
    intro kv h
    have h2 : (parseMapping exCfg "element of \"schedule\" section"
        (mapNode "!!map" 3 7 [(sc "cron" 3 7, sc "0 0 * * *" 3 13), (sc "bogus" 4 7, sc "x" 4 14)]) false true).1.length = 2 := by
      decide +kernel
    rw [h] at h2
    simp at h2)

end AL.C13D3
