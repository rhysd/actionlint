import AL.Model.Print
import AL.Props.C16
import AL.Props.C16Indicator
import AL.Props.C16Messages
/-
  C16 — the default and -oneline output AS A WHOLE (model AL.Print of `Error.PrettyPrint` without colours and of
  `Linter.printErrors`): one header line per diagnostic, in order, nothing lost, nothing added; the block structure of the
  default mode; the snippet is the referenced source line with the caret under the reported column; rendering is total; the
  problem matcher applied to the header lines of the output gives the diagnostics back (if they are `AL.C16.Faithful`).

  Main results (namespace AL.C16P; `sw`, `rw` = go-runewidth's StringWidth / RuneWidth, parameters as in AL.Render.indicator):
    (a) oneline_lines, oneline_lines_escaped, oneline_count, oneline_line, oneline_text; oneline_raw_linefeed (hypothesis needed)
    (b) block_shape, block_length, default_blocks, default_headers, default_count, blocksOf_flatten, default_headers_filter;
        gutterRow_not_matched, indicatorRow_not_matched, rows_start; snippetRow_can_match (a source row CAN be matched),
        default_all_lines (pattern on every line = diagnostics + phantoms), default_all_lines_clean
    (c) prettyPrint_snippet, snippet_faithful, caret_under_column, caret_under_column_ascii, indicatorRow_col_zero
    (d) prettyPrint_total, snippet_omitted_iff, getLine_none_iff, no_source, line_zero, line_beyond, col_beyond, shown_in_range
    (e) oneline_roundtrip, oneline_roundtrip_filterMap, default_roundtrip
    multi-file runs: printWorkspaces_eq_printAll, printWorkspaces_exists_srcOf, workspaces_oneline_lines, workspaces_default_headers

  NOTE: `PrettyPrint` writes THREE lines under the header of a diagnostic with a snippet — an empty gutter line `   |`,
  then `N | <source line>`, then `   | <indicator>` (`block_length`).
-/
namespace AL.C16P
open AL.Render AL.Print

/-! ### the source line as text -/

theorem decodeUtf8_nil : AL.decodeUtf8 [] = [] := AL.decodeUtf8_empty

theorem decodeUtf8_step {bs : List Nat} {s : AL.Sym} {rest : List Nat} (h : AL.decodeOne bs = some (s, rest)) :
    AL.decodeUtf8 bs = s :: AL.decodeUtf8 rest := AL.decodeUtf8_cons h

theorem decodeOne_inv {bs : List Nat} {s : AL.Sym} {rest : List Nat} (h : AL.decodeOne bs = some (s, rest)) :
    (∀ x ∈ rest, x ∈ bs) ∧ (s.r = 10 → 10 ∈ bs) := by
  obtain ⟨b0, r0, rfl, rfl, -, hr⟩ := AL.decodeOne_some h
  refine ⟨fun x hx => List.mem_cons_of_mem _ (List.mem_of_mem_drop hx), fun h10 => ?_⟩
  rw [← hr (by omega), h10]
  exact List.mem_cons_self

theorem toNat_ofNat (r : Nat) : (Char.ofNat r).toNat = r ∨ (Char.ofNat r).toNat = 0 := by
  generalize hc : Char.ofNat r = c
  unfold Char.ofNat at hc
  split at hc
  · left; subst hc
    simp [Char.ofNatAux, Char.toNat]
  · right; subst hc; rfl

theorem ofNat_eq_lf {r : Nat} (h : Char.ofNat r = '\n') : r = 10 := by
  have h1 : (Char.ofNat r).toNat = 10 := by rw [h]; rfl
  rcases toNat_ofNat r with h2 | h2 <;> omega

theorem decodeUtf8_no_lf : ∀ (n : Nat) (bs : List Nat), bs.length ≤ n → 10 ∉ bs → ∀ s ∈ AL.decodeUtf8 bs, s.r ≠ 10 := by
  intro _ bs hn
  clear hn
  fun_induction AL.decodeUtf8 bs with
  | case1 => intro _ s hs; cases hs
  | case2 bs s rest hd ih =>
    intro h10 s' hs
    obtain ⟨hsub, h0⟩ := decodeOne_inv hd
    rcases List.mem_cons.1 hs with rfl | hs
    · exact fun h => h10 (h0 h)
    · exact ih (fun h => h10 (hsub _ h)) s' hs

/-- a source line without a line feed byte is shown as text without a line feed -/
theorem text_no_lf {l : List Nat} (h : 10 ∉ l) : '\n' ∉ text l := by
  intro hm
  simp only [text, List.mem_map] at hm
  obtain ⟨s, hs, he⟩ := hm
  exact decodeUtf8_no_lf l.length l (Nat.le_refl _) h s hs (ofNat_eq_lf he)
/-! ### `lines` -/

theorem linesAux_line : ∀ (l cur rest : List Char), '\n' ∉ l →
    linesAux cur (l ++ '\n' :: rest) = (cur ++ l) :: linesAux [] rest
  | [], cur, rest, _ => by simp [linesAux]
  | c :: l, cur, rest, h => by
    have hc : c ≠ '\n' := fun e => h (by simp [e])
    have hl : '\n' ∉ l := fun e => h (List.mem_cons_of_mem _ e)
    simp only [List.cons_append, linesAux, hc, if_false]
    rw [linesAux_line l (cur ++ [c]) rest hl]
    simp

/-- a piece of text without a line feed, followed by a line feed, is one line -/
theorem lines_line (l rest : List Char) (h : '\n' ∉ l) : lines (l ++ '\n' :: rest) = l :: lines rest := by
  unfold lines; rw [linesAux_line l [] rest h]; rfl

theorem lines_nil : lines [] = [] := rfl

/-- `unlines`: every line followed by a line feed -/
def unlines (ls : List (List Char)) : List Char := ls.flatMap (· ++ ['\n'])

theorem unlines_cons (l : List Char) (ls : List (List Char)) : unlines (l :: ls) = l ++ '\n' :: unlines ls := by
  simp [unlines]

theorem unlines_append (a b : List (List Char)) : unlines (a ++ b) = unlines a ++ unlines b := by
  simp [unlines]

/-- reading back what was written line by line gives the lines — when no line contains a line feed -/
theorem lines_unlines : ∀ (ls : List (List Char)), (∀ l ∈ ls, '\n' ∉ l) → lines (unlines ls) = ls
  | [], _ => rfl
  | l :: ls, h => by
    rw [unlines_cons, lines_line _ _ (h l (by simp)), lines_unlines ls (fun x hx => h x (by simp [hx]))]

/-- and the condition is necessary: a line feed inside a "line" makes two lines of it -/
theorem lines_unlines_lf (a b : List Char) (ha : '\n' ∉ a) (hb : '\n' ∉ b) :
    lines (unlines [a ++ '\n' :: b]) = [a, b] := by
  rw [unlines_cons, List.append_assoc, List.cons_append, lines_line _ _ ha, lines_line _ _ hb]; rfl

/-! ### the rows of a block -/

/-- what one diagnostic contributes, as a list of lines -/
def blockLines (oneline : Bool) (sw : List Nat → Nat) (rw : Nat → Nat) (src : List Nat) (d : Diag) : List (List Char) :=
  header d ::
    match snippetLine (if oneline then [] else src) d.line d.col with
    | none => []
    | some l => [gutterRow d.line, snippetRow d.line l, indicatorRow sw rw d.line l d.col]

theorem prettyPrint_eq_unlines (oneline : Bool) (sw : List Nat → Nat) (rw : Nat → Nat) (src : List Nat) (d : Diag) :
    prettyPrint oneline sw rw src d = unlines (blockLines oneline sw rw src d) := by
  unfold prettyPrint ppError blockLines
  cases snippetLine (if oneline then [] else src) d.line d.col <;> simp [unlines]

theorem snippetLine_nil (line col : Nat) : snippetLine [] line col = none := by simp [snippetLine]

theorem blockLines_oneline (sw : List Nat → Nat) (rw : Nat → Nat) (src : List Nat) (d : Diag) :
    blockLines true sw rw src d = [header d] := by
  simp [blockLines, snippetLine_nil]

/-- a block is the header alone, or the header and exactly three rows: gutter, source line, indicator
(the rows exist only in default mode and only when the snippet guard of `PrettyPrint` lets them through) -/
theorem block_shape (oneline : Bool) (sw : List Nat → Nat) (rw : Nat → Nat) (src : List Nat) (d : Diag) :
    (blockLines oneline sw rw src d = [header d] ∧ (oneline = true ∨ snippetLine src d.line d.col = none)) ∨
    (∃ l, oneline = false ∧ snippetLine src d.line d.col = some l ∧
      blockLines oneline sw rw src d = [header d, gutterRow d.line, snippetRow d.line l, indicatorRow sw rw d.line l d.col]) := by
  cases oneline with
  | true => exact Or.inl ⟨blockLines_oneline sw rw src d, Or.inl rfl⟩
  | false =>
    cases hs : snippetLine src d.line d.col with
    | none => exact Or.inl ⟨by simp [blockLines, hs], Or.inr rfl⟩
    | some l => exact Or.inr ⟨l, rfl, rfl, by simp [blockLines, hs]⟩

theorem natChars_no_lf (n : Nat) : '\n' ∉ natChars n := AL.C16M.natChars_no_linebreak n '\n' (Or.inl rfl)

/-- the indicator is made of blanks, the caret and the tilde (the row it stands in: also the bar) -/
theorem mem_indicator (h : c ∈ indicator sw rw l col) : c ∈ [' ', '^', '~'] := by
  unfold indicator at h
  split at h
  · cases h
  · simp only [List.mem_append, List.mem_replicate, List.mem_singleton] at h
    rcases h with (⟨_, rfl⟩ | rfl) | ⟨_, rfl⟩ <;> decide

theorem mem_indicatorRow (h : c ∈ indicatorRow sw rw line l col) : c ∈ [' ', '|', '^', '~'] := by
  simp only [indicatorRow, List.mem_append, List.mem_cons, List.not_mem_nil, or_false] at h
  rcases h with (h | rfl | rfl) | h
  · rw [List.eq_of_mem_replicate h]; decide
  · decide
  · decide
  · exact (by decide : [' ', '^', '~'] ⊆ [' ', '|', '^', '~']) (mem_indicator h)

theorem indent_no_lf (n : Nat) : '\n' ∉ indent n := fun h => absurd (List.eq_of_mem_replicate h) (by decide)

theorem gutterRow_no_lf (n : Nat) : '\n' ∉ gutterRow n := by
  have h1 := indent_no_lf n
  have c1 : '\n' ≠ '|' := by decide
  simp [gutterRow, h1, c1]

theorem snippetLine_mem {src : List Nat} {line col : Nat} {l : List Nat} (h : snippetLine src line col = some l) :
    l ∈ splitLines src := by
  have := AL.C16.snippet src line col
  rw [h] at this
  exact List.mem_of_getElem? this.2.1

theorem snippetRow_no_lf {src : List Nat} {line col : Nat} {l : List Nat} (h : snippetLine src line col = some l) :
    '\n' ∉ snippetRow line l := by
  have h1 := natChars_no_lf line
  have h2 := text_no_lf ((AL.C16.split_lines src).1 l (snippetLine_mem h))
  have c1 : '\n' ≠ '|' := by decide
  have c2 : '\n' ≠ ' ' := by decide
  simp [snippetRow, lnum, h1, h2, c1, c2]

theorem indicator_no_lf (sw : List Nat → Nat) (rw : Nat → Nat) (l : List Nat) (col : Nat) : '\n' ∉ indicator sw rw l col :=
  fun h => absurd (mem_indicator h) (by decide)

theorem indicatorRow_no_lf (sw : List Nat → Nat) (rw : Nat → Nat) (line : Nat) (l : List Nat) (col : Nat) :
    '\n' ∉ indicatorRow sw rw line l col := fun h => absurd (mem_indicatorRow h) (by decide)

theorem blockLines_no_lf (oneline : Bool) (sw : List Nat → Nat) (rw : Nat → Nat) (src : List Nat) (d : Diag)
    (hd : '\n' ∉ header d) : ∀ l ∈ blockLines oneline sw rw src d, '\n' ∉ l := by
  rcases block_shape oneline sw rw src d with ⟨hb, _⟩ | ⟨sl, _, hs, hb⟩ <;>
    simp only [hb, List.forall_mem_cons, List.not_mem_nil, false_imp_iff, implies_true, and_true]
  · exact hd
  · exact ⟨hd, gutterRow_no_lf _, snippetRow_no_lf hs, indicatorRow_no_lf _ _ _ _ _⟩

/-! ### the whole output as lines -/

/-- the lines of a run: the blocks of the diagnostics one after the other -/
def allLines (oneline : Bool) (sw : List Nat → Nat) (rw : Nat → Nat) (srcOf : List Char → List Nat) (ds : List Diag) :
    List (List Char) :=
  ds.flatMap fun d => blockLines oneline sw rw (srcOf d.file) d

theorem printAll_eq_unlines (oneline : Bool) (sw : List Nat → Nat) (rw : Nat → Nat) (srcOf : List Char → List Nat) :
    ∀ ds : List Diag, printAll oneline sw rw srcOf ds = unlines (allLines oneline sw rw srcOf ds) := by
  intro ds
  simp only [printAll, allLines, prettyPrint_eq_unlines, unlines, List.flatMap_assoc]

/-- the header contains a line feed only if the file name, the message or the kind does -/
theorem header_no_lf_iff (d : Diag) : '\n' ∉ header d ↔ '\n' ∉ d.file ∧ '\n' ∉ d.msg ∧ '\n' ∉ d.kind := by
  have n1 := natChars_no_lf d.line
  have n2 := natChars_no_lf d.col
  have c1 : '\n' ≠ ':' := by decide
  have c2 : '\n' ≠ ' ' := by decide
  have c3 : '\n' ≠ '[' := by decide
  have c4 : '\n' ≠ ']' := by decide
  simp [header, n1, n2, c1, c2, c3, c4]

/-- the condition of (a) and (b): the message went through `lineBreakEscaper` (as every real message does: C16Messages),
file name and kind contain no line feed -/
structure Escaped (d : Diag) : Prop where
  msg : ∃ m, d.msg = AL.Msg.escape m
  file : '\n' ∉ d.file
  kind : '\n' ∉ d.kind

theorem Escaped.header_no_lf {d : Diag} (h : Escaped d) : '\n' ∉ header d := by
  rw [header_no_lf_iff]
  obtain ⟨m, hm⟩ := h.msg
  exact ⟨h.file, by rw [hm]; exact (AL.C16M.escape_no_linebreak m).1, h.kind⟩

/-- the lines of the output are the lines of the blocks: nothing is merged, nothing is split -/
theorem lines_printAll (oneline : Bool) (sw : List Nat → Nat) (rw : Nat → Nat) (srcOf : List Char → List Nat) (ds : List Diag)
    (h : ∀ d ∈ ds, '\n' ∉ header d) :
    lines (printAll oneline sw rw srcOf ds) = allLines oneline sw rw srcOf ds := by
  rw [printAll_eq_unlines]
  apply lines_unlines
  intro l hl
  simp only [allLines, List.mem_flatMap] at hl
  obtain ⟨d, hd, hl⟩ := hl
  exact blockLines_no_lf oneline sw rw _ d (h d hd) l hl

/-! ### (a) -oneline -/

theorem allLines_oneline (sw : List Nat → Nat) (rw : Nat → Nat) (srcOf : List Char → List Nat) :
    ∀ ds : List Diag, allLines true sw rw srcOf ds = ds.map header := by
  intro ds
  simp only [allLines, blockLines_oneline, List.map_eq_flatMap]

/-- **(a)** -oneline: the lines of the output are exactly the headers of the diagnostics, in order — nothing lost, nothing
added. Weakest hypothesis: no header contains a line feed. -/
theorem oneline_lines (sw : List Nat → Nat) (rw : Nat → Nat) (srcOf : List Char → List Nat) (ds : List Diag)
    (h : ∀ d ∈ ds, '\n' ∉ header d) :
    lines (printAll true sw rw srcOf ds) = ds.map header := by
  rw [lines_printAll true sw rw srcOf ds h, allLines_oneline]

/-- (a) for escaped messages -/
theorem oneline_lines_escaped (sw : List Nat → Nat) (rw : Nat → Nat) (srcOf : List Char → List Nat) (ds : List Diag)
    (h : ∀ d ∈ ds, Escaped d) :
    lines (printAll true sw rw srcOf ds) = ds.map header :=
  oneline_lines sw rw srcOf ds fun d hd => (h d hd).header_no_lf

/-- (a) as many lines as diagnostics -/
theorem oneline_count (sw : List Nat → Nat) (rw : Nat → Nat) (srcOf : List Char → List Nat) (ds : List Diag)
    (h : ∀ d ∈ ds, Escaped d) :
    (lines (printAll true sw rw srcOf ds)).length = ds.length := by
  rw [oneline_lines_escaped sw rw srcOf ds h, List.length_map]

/-- (a) line `i` is the header of diagnostic `i` -/
theorem oneline_line (sw : List Nat → Nat) (rw : Nat → Nat) (srcOf : List Char → List Nat) (ds : List Diag)
    (h : ∀ d ∈ ds, Escaped d) (i : Nat) :
    (lines (printAll true sw rw srcOf ds))[i]? = ds[i]?.map header := by
  rw [oneline_lines_escaped sw rw srcOf ds h, List.getElem?_map]

/-- (a) the text itself: every header followed by one line feed, nothing else (no hypothesis) -/
theorem oneline_text (sw : List Nat → Nat) (rw : Nat → Nat) (srcOf : List Char → List Nat) (ds : List Diag) :
    printAll true sw rw srcOf ds = unlines (ds.map header) := by
  rw [printAll_eq_unlines, allLines_oneline]

/-- (a) the hypothesis is needed: ONE diagnostic whose message contains a raw line feed is read back as TWO lines,
neither of which is its header -/
theorem oneline_raw_linefeed (sw : List Nat → Nat) (rw : Nat → Nat) (srcOf : List Char → List Nat) :
    lines (printAll true sw rw srcOf [⟨['f'], 1, 1, ['a', '\n', 'b'], ['k']⟩]) = ["f:1:1: a".toList, "b [k]".toList] := by
  rw [oneline_text]
  decide

/-! ### (b) default mode: blocks -/

/-- a block has ONE line or FOUR — never three: besides the snippet and the indicator there is the empty gutter line
`   |` that `PrettyPrint` writes first (`gray.Fprintf(w, "%s|\n", indent)`) -/
theorem block_length (oneline : Bool) (sw : List Nat → Nat) (rw : Nat → Nat) (src : List Nat) (d : Diag) :
    (blockLines oneline sw rw src d).length = 1 ∨ (blockLines oneline sw rw src d).length = 4 := by
  rcases block_shape oneline sw rw src d with ⟨hb, _⟩ | ⟨l, _, _, hb⟩ <;> rw [hb] <;> simp

theorem blockLines_ne_nil (oneline : Bool) (sw : List Nat → Nat) (rw : Nat → Nat) (src : List Nat) (d : Diag) :
    ∃ t, blockLines oneline sw rw src d = header d :: t := ⟨_, rfl⟩

theorem lnum_length (n : Nat) : (lnum n).length = (natChars n).length + 3 := by simp [lnum]

theorem indent_length (n : Nat) : (indent n).length = (natChars n).length + 1 := by
  simp [indent, lnum]

theorem isGutter_gutterRow (n : Nat) : isGutter (gutterRow n) = true := by
  simp [isGutter, gutterRow, indent]

theorem colon_mem_header (d : Diag) : ':' ∈ header d := by simp [header]

theorem isGutter_no_colon {l : List Char} (h : isGutter l = true) : ':' ∉ l := by
  simp only [isGutter, beq_iff_eq] at h
  rw [h]
  intro hm
  simp only [List.mem_append, List.mem_replicate, List.mem_cons, List.not_mem_nil, or_false] at hm
  rcases hm with hm | hm
  · have := hm.2; revert this; decide
  · revert hm; decide

/-- a header is never a gutter line: it contains `:` -/
theorem isGutter_header (d : Diag) : isGutter (header d) = false := by
  cases h : isGutter (header d) with
  | false => rfl
  | true => exact absurd (colon_mem_header d) (isGutter_no_colon h)

theorem allLines_cons (oneline : Bool) (sw : List Nat → Nat) (rw : Nat → Nat) (srcOf : List Char → List Nat) (d : Diag)
    (ds : List Diag) :
    allLines oneline sw rw srcOf (d :: ds) = blockLines oneline sw rw (srcOf d.file) d ++ allLines oneline sw rw srcOf ds := by
  simp [allLines]

theorem allLines_head (oneline : Bool) (sw : List Nat → Nat) (rw : Nat → Nat) (srcOf : List Char → List Nat) (ds : List Diag) :
    allLines oneline sw rw srcOf ds = [] ∨ ∃ d t, allLines oneline sw rw srcOf ds = header d :: t := by
  cases ds with
  | nil => exact Or.inl rfl
  | cons d ds => exact Or.inr ⟨d, _, by rw [allLines_cons]; rfl⟩

/-- the reader takes one block off the front of a run: a gutter line after the header announces the three rows, and the
header that follows a block without rows is no gutter line -/
theorem blocksOf_step (oneline : Bool) (sw : List Nat → Nat) (rw : Nat → Nat) (srcOf : List Char → List Nat) (d : Diag)
    (ds : List Diag) :
    blocksOf (blockLines oneline sw rw (srcOf d.file) d ++ allLines oneline sw rw srcOf ds) =
      blockLines oneline sw rw (srcOf d.file) d :: blocksOf (allLines oneline sw rw srcOf ds) := by
  rcases block_shape oneline sw rw (srcOf d.file) d with ⟨hb, _⟩ | ⟨l, _, _, hb⟩ <;> rw [hb]
  · rcases allLines_head oneline sw rw srcOf ds with hn | ⟨d', t, ht⟩
    · rw [hn]; simp [blocksOf]
    · rw [ht, List.singleton_append, blocksOf, isGutter_header]
      simp only [Bool.false_eq_true, if_false]
  · simp only [List.cons_append, List.nil_append]
    rw [blocksOf, isGutter_gutterRow]
    simp only [if_true, List.take_succ_cons, List.take_zero, List.drop_succ_cons, List.drop_zero]

/-- the reader `blocksOf` cuts the lines of a run into the blocks of its diagnostics -/
theorem blocksOf_allLines (oneline : Bool) (sw : List Nat → Nat) (rw : Nat → Nat) (srcOf : List Char → List Nat) :
    ∀ ds : List Diag, blocksOf (allLines oneline sw rw srcOf ds) = ds.map fun d => blockLines oneline sw rw (srcOf d.file) d
  | [] => by simp [allLines, blocksOf]
  | d :: ds => by rw [allLines_cons, blocksOf_step, blocksOf_allLines oneline sw rw srcOf ds, List.map_cons]

/-- `headersOf` is `blocksOf` with everything but the first line of each block dropped -/
theorem headersOf_eq_heads : ∀ L : List (List Char), headersOf L = (blocksOf L).filterMap List.head? := by
  intro L
  fun_induction blocksOf L <;> simp [headersOf, blocksOf, *]

/-- the reader `headersOf` finds the header of every block -/
theorem headersOf_allLines (oneline : Bool) (sw : List Nat → Nat) (rw : Nat → Nat) (srcOf : List Char → List Nat) :
    ∀ ds : List Diag, headersOf (allLines oneline sw rw srcOf ds) = ds.map header := fun ds => by
  rw [headersOf_eq_heads, blocksOf_allLines, List.filterMap_map, ← List.filterMap_eq_map]
  rfl

/-- the reader loses nothing, whatever it is given: its blocks joined are the lines it read -/
theorem blocksOf_flatten : ∀ (n : Nat) (L : List (List Char)), L.length ≤ n → (blocksOf L).flatten = L := by
  intro _ L hn
  clear hn
  fun_induction blocksOf L with
  | case1 => rfl
  | case2 => rfl
  | case3 h g rest _ ih => simp only [List.flatten_cons, ih, List.cons_append, List.take_append_drop]
  | case4 h g rest _ ih => simp only [List.flatten_cons, ih, List.cons_append, List.nil_append]

/-- **(b)** default mode: the output, read line by line, splits into one block per diagnostic, in order; the reader needs
nothing but the text (a gutter line `   |` after a header announces two more rows) -/
theorem default_blocks (sw : List Nat → Nat) (rw : Nat → Nat) (srcOf : List Char → List Nat) (ds : List Diag)
    (h : ∀ d ∈ ds, '\n' ∉ header d) :
    blocksOf (lines (printAll false sw rw srcOf ds)) = ds.map fun d => blockLines false sw rw (srcOf d.file) d := by
  rw [lines_printAll false sw rw srcOf ds h, blocksOf_allLines]

/-- **(b)** default mode: the header lines of the output, in order, are the headers of the diagnostics -/
theorem default_headers (sw : List Nat → Nat) (rw : Nat → Nat) (srcOf : List Char → List Nat) (ds : List Diag)
    (h : ∀ d ∈ ds, '\n' ∉ header d) :
    headersOf (lines (printAll false sw rw srcOf ds)) = ds.map header := by
  rw [lines_printAll false sw rw srcOf ds h, headersOf_allLines]

theorem default_headers_escaped (sw : List Nat → Nat) (rw : Nat → Nat) (srcOf : List Char → List Nat) (ds : List Diag)
    (h : ∀ d ∈ ds, Escaped d) :
    headersOf (lines (printAll false sw rw srcOf ds)) = ds.map header :=
  default_headers sw rw srcOf ds fun d hd => (h d hd).header_no_lf

theorem default_blocks_escaped (sw : List Nat → Nat) (rw : Nat → Nat) (srcOf : List Char → List Nat) (ds : List Diag)
    (h : ∀ d ∈ ds, Escaped d) :
    blocksOf (lines (printAll false sw rw srcOf ds)) = ds.map fun d => blockLines false sw rw (srcOf d.file) d :=
  default_blocks sw rw srcOf ds fun d hd => (h d hd).header_no_lf

/-- (b) as many blocks as diagnostics; 1 or 4 lines each -/
theorem default_count (sw : List Nat → Nat) (rw : Nat → Nat) (srcOf : List Char → List Nat) (ds : List Diag)
    (h : ∀ d ∈ ds, Escaped d) :
    (blocksOf (lines (printAll false sw rw srcOf ds))).length = ds.length ∧
    ∀ b ∈ blocksOf (lines (printAll false sw rw srcOf ds)), b.length = 1 ∨ b.length = 4 := by
  rw [default_blocks_escaped sw rw srcOf ds h]
  refine ⟨by simp, fun b hb => ?_⟩
  simp only [List.mem_map] at hb
  obtain ⟨d, _, rfl⟩ := hb
  exact block_length false sw rw (srcOf d.file) d

/-! ### (b) can a row be mistaken for a header? -/

theorem matchTail_some_colon {s : List Char} {x : Nat × Nat × List Char × List Char} (h : matchTail s = some x) :
    ∃ r, s = ':' :: r := (matchTail_goodTail h).head

/-- what the problem matcher accepts contains a `:` -/
theorem matcher_some_colon {l : List Char} {d : Diag} (h : matcher l = some d) : ':' ∈ l := by
  obtain ⟨pre, rest, rfl, _, hT⟩ := matcher_shape h
  obtain ⟨r, rfl⟩ := hT.head
  simp

theorem matcher_none_of_no_colon {l : List Char} (h : ':' ∉ l) : matcher l = none := by
  cases hm : matcher l with
  | none => rfl
  | some d => exact absurd (matcher_some_colon hm) h

theorem indent_no_colon (n : Nat) : ':' ∉ indent n := fun h => absurd (List.eq_of_mem_replicate h) (by decide)

/-- the gutter line is never taken for a diagnostic by the problem matcher -/
theorem gutterRow_not_matched (n : Nat) : matcher (gutterRow n) = none :=
  matcher_none_of_no_colon (isGutter_no_colon (isGutter_gutterRow n))

theorem indicator_no_colon (sw : List Nat → Nat) (rw : Nat → Nat) (l : List Nat) (col : Nat) : ':' ∉ indicator sw rw l col :=
  fun h => absurd (mem_indicator h) (by decide)

/-- the indicator line is never taken for a diagnostic by the problem matcher -/
theorem indicatorRow_not_matched (sw : List Nat → Nat) (rw : Nat → Nat) (line : Nat) (l : List Nat) (col : Nat) :
    matcher (indicatorRow sw rw line l col) = none :=
  matcher_none_of_no_colon fun h => absurd (mem_indicatorRow h) (by decide)

/-- does the line start like a row under a header: with a blank (gutter, indicator) or a digit (`N | source`)? -/
def rowStart : List Char → Bool
  | c :: _ => c == ' ' || isDigit c
  | [] => false

theorem natChars_head (n : Nat) : ∃ c t, natChars n = c :: t ∧ isDigit c = true := by
  cases h : natChars n with
  | nil => exact absurd h (natChars_ne_nil n)
  | cons c t => exact ⟨c, t, rfl, natChars_isDigit n c (by rw [h]; simp)⟩

theorem indent_head (n : Nat) : ∃ t, indent n = ' ' :: t := by
  have h := indent_length n
  unfold indent at h ⊢
  rw [List.length_replicate] at h
  rw [h]
  exact ⟨_, List.replicate_succ⟩

/-- every row of a block other than the header starts with a blank or with a digit -/
theorem rows_start (sw : List Nat → Nat) (rw : Nat → Nat) (line : Nat) (l : List Nat) (col : Nat) :
    rowStart (gutterRow line) = true ∧ rowStart (snippetRow line l) = true ∧ rowStart (indicatorRow sw rw line l col) = true := by
  obtain ⟨t, ht⟩ := indent_head line
  obtain ⟨c, t', hc, hd⟩ := natChars_head line
  refine ⟨?_, ?_, ?_⟩
  · simp [gutterRow, ht, rowStart]
  · simp [snippetRow, lnum, hc, rowStart, hd]
  · simp [indicatorRow, ht, rowStart]

/-- a header starts like a row only when the file name does -/
theorem rowStart_header (d : Diag) : rowStart (header d) = rowStart d.file := by
  cases hf : d.file with
  | nil => simp [header, hf, rowStart]; decide
  | cons c t => simp [header, hf, rowStart]

/-- **(b)** with file names that do not start with a blank or a digit (`.github/workflows/…`, `<stdin>`, any path that does
not begin with a digit) the headers are simply the lines that do not start with a blank or a digit -/
theorem default_headers_filter (sw : List Nat → Nat) (rw : Nat → Nat) (srcOf : List Char → List Nat) (ds : List Diag)
    (h : ∀ d ∈ ds, '\n' ∉ header d) (hf : ∀ d ∈ ds, rowStart d.file = false) :
    (lines (printAll false sw rw srcOf ds)).filter (fun l => !rowStart l) = ds.map header := by
  rw [lines_printAll false sw rw srcOf ds h, allLines, List.filter_flatMap, List.map_eq_flatMap, List.flatMap_def,
    List.flatMap_def]
  -- block by block: the header stays, the three rows go
  refine congrArg _ (List.map_congr_left fun d hd => ?_)
  have hh : rowStart (header d) = false := by rw [rowStart_header]; exact hf d hd
  rcases block_shape false sw rw (srcOf d.file) d with ⟨hb, _⟩ | ⟨l, _, _, hb⟩
  · rw [hb]; simp [hh]
  · obtain ⟨h1, h2, h3⟩ := rows_start sw rw d.line l d.col
    rw [hb]; simp [hh, h1, h2, h3]

/-- … and the condition on the file name is needed for THAT reader: a file called `1.yml` has a header that starts with a digit -/
theorem default_headers_filter_needs_file (sw : List Nat → Nat) (rw : Nat → Nat) :
    (lines (printAll false sw rw (fun _ => []) [⟨"1.yml".toList, 1, 1, ['m'], ['k']⟩])).filter (fun l => !rowStart l) = [] := by
  rw [lines_printAll _ _ _ _ _ (by decide)]
  simp only [allLines, List.flatMap_cons, List.flatMap_nil, blockLines, Bool.false_eq_true, if_false, snippetLine_nil,
    List.append_nil]
  decide

/-- the line under the gutter line — the SOURCE line — CAN look like a diagnostic: nothing in `N | <source>` stops the
problem matcher (its file group is `.+?`). Witness: line 1 of the source is `a.yml:1:2: m [k]`; the row
`1 | a.yml:1:2: m [k]` is parsed as file `1 | a.yml`, line 1, column 2, message `m`, kind `k`. So a consumer that applies the
pattern to EVERY line of the default output reports phantom diagnostics for such sources; `headersOf` / -oneline do not. -/
theorem snippetRow_can_match :
    let src := "a.yml:1:2: m [k]\n".toList.map Char.toNat
    ∃ l, snippetLine src 1 1 = some l ∧
      snippetRow 1 l = "1 | a.yml:1:2: m [k]".toList ∧
      matcher (snippetRow 1 l) = some ⟨"1 | a.yml".toList, 1, 2, ['m'], ['k']⟩ := by
  intro src
  refine ⟨"a.yml:1:2: m [k]".toList.map Char.toNat, by decide +kernel, by decide +kernel, ?_⟩
  have e : snippetRow 1 ("a.yml:1:2: m [k]".toList.map Char.toNat) = header ⟨"1 | a.yml".toList, 1, 2, ['m'], ['k']⟩ := by
    decide +kernel
  rw [e]
  exact AL.C16.roundtrip _ (AL.C16.faithful_of_check (by decide))

/-! ### (c) the snippet is the referenced source line, the caret stands under the reported column -/

/-- the text of a diagnostic with a snippet: header, gutter line, `N | source line`, `  | indicator` -/
theorem prettyPrint_snippet (sw : List Nat → Nat) (rw : Nat → Nat) (src : List Nat) (d : Diag) (l : List Nat)
    (h : snippetLine src d.line d.col = some l) :
    prettyPrint false sw rw src d =
      header d ++ '\n' :: (gutterRow d.line ++ '\n' :: (snippetRow d.line l ++ '\n' ::
        (indicatorRow sw rw d.line l d.col ++ ['\n']))) := by
  simp [prettyPrint, ppError, h]

/-- **(c)** the line shown is line `d.line` of the source (as `bufio.Scanner` counts lines), preceded by its number -/
theorem snippet_faithful (src : List Nat) (d : Diag) (l : List Nat) (h : snippetLine src d.line d.col = some l) :
    d.line ≥ 1 ∧ (splitLines src)[d.line - 1]? = some l ∧ d.col - 1 ≤ l.length ∧ l.length < maxToken ∧
    snippetRow d.line l = natChars d.line ++ [' ', '|', ' '] ++ text l := by
  have := AL.C16.snippet src d.line d.col
  rw [h] at this
  exact ⟨this.1, this.2.1, this.2.2.1, this.2.2.2, rfl⟩

/-- the source row and the indicator row have the same margin: `N | ` is as long as `  | ` -/
theorem margin_length (n : Nat) : (indent n ++ ['|', ' ']).length = (lnum n).length := by
  rw [List.length_append, indent_length, lnum_length]
  exact Nat.add_assoc _ 1 2

theorem snippetRow_at (line : Nat) (l : List Nat) (i : Nat) :
    (snippetRow line l)[(lnum line).length + i]? = (text l)[i]? := by
  rw [snippetRow, List.getElem?_append_right (Nat.le_add_right _ _), Nat.add_sub_cancel_left]

theorem indicatorRow_at (sw : List Nat → Nat) (rw : Nat → Nat) (line : Nat) (l : List Nat) (col : Nat) (i : Nat) :
    (indicatorRow sw rw line l col)[(lnum line).length + i]? = (indicator sw rw l col)[i]? := by
  rw [indicatorRow, ← margin_length, List.getElem?_append_right (Nat.le_add_right _ _), Nat.add_sub_cancel_left]

/-- **(c)** for a column ≥ 1 the indicator row has its caret at the margin plus the display width of the text before the
column; blanks before it, `~` after it, one caret. (About the indicator row only; that the source row shows the character of
that column at this position is `caret_under_column_ascii`, for ASCII text.) -/
theorem caret_under_column (sw : List Nat → Nat) (rw : Nat → Nat) (line : Nat) (l : List Nat) (col : Nat) (h : 0 < col) :
    let row := indicatorRow sw rw line l col
    let g := (lnum line).length
    let w := sw (l.take (col - 1))
    row[g + w]? = some '^' ∧ (∀ i, i < w → row[g + i]? = some ' ') ∧
      (∀ i, w < i → g + i < row.length → row[g + i]? = some '~') ∧ row.count '^' = 1 := by
  obtain ⟨h1, h2, h3⟩ := AL.C16I.caret_position sw rw l col h
  have hlen : (indicatorRow sw rw line l col).length = (lnum line).length + (indicator sw rw l col).length := by
    rw [indicatorRow, List.length_append, margin_length]
  have hi : (indent line).count '^' = 0 := List.count_eq_zero.2 fun hm => absurd (List.eq_of_mem_replicate hm) (by decide)
  simp only [indicatorRow_at]
  refine ⟨h1, h2, fun i hi hl => h3 i hi (by omega), ?_⟩
  rw [indicatorRow, List.count_append, List.count_append, AL.C16I.one_caret sw rw l col h, hi]
  rfl

/-- column 0 (no column): the snippet is still shown, the indicator row is the bare margin -/
theorem indicatorRow_col_zero (sw : List Nat → Nat) (rw : Nat → Nat) (line : Nat) (l : List Nat) :
    indicatorRow sw rw line l 0 = indent line ++ ['|', ' '] := by
  simp [indicatorRow, AL.C16I.no_indicator_without_column]

/-- an ASCII line is shown byte for byte -/
theorem text_ascii : ∀ (l : List Nat), (∀ b ∈ l, b < 128) → text l = l.map Char.ofNat
  | [], _ => by simp [text, decodeUtf8_nil]
  | b :: l, h => by
    have hb : b < 128 := h b (by simp)
    have hd : AL.decodeOne (b :: l) = some ({ r := b, w := 1 }, l) := by simp [AL.decodeOne, hb]
    have ih := text_ascii l (fun x hx => h x (by simp [hx]))
    unfold text at ih ⊢
    rw [decodeUtf8_step hd, List.map_cons, ih]; rfl

/-- **(c)**, ASCII reading: when the width of the bytes before the column is their number (true of ASCII text in
go-runewidth) the caret is at margin + col − 1, and the source row shows the `col`-th byte of the line exactly there -/
theorem caret_under_column_ascii (sw : List Nat → Nat) (rw : Nat → Nat) (line : Nat) (l : List Nat) (col : Nat) (h : 0 < col)
    (hw : sw (l.take (col - 1)) = col - 1) (ha : ∀ b ∈ l, b < 128) :
    (indicatorRow sw rw line l col)[(lnum line).length + (col - 1)]? = some '^' ∧
    (snippetRow line l)[(lnum line).length + (col - 1)]? = l[col - 1]?.map Char.ofNat := by
  have := (caret_under_column sw rw line l col h).1
  simp only [hw] at this
  refine ⟨this, ?_⟩
  rw [snippetRow_at, text_ascii l ha, List.getElem?_map]

/-! ### (d) totality: every (source, line, column) -/

theorem prettyPrint_of_none (sw : List Nat → Nat) (rw : Nat → Nat) (oneline : Bool) (src : List Nat) (d : Diag)
    (h : snippetLine src d.line d.col = none) : prettyPrint oneline sw rw src d = header d ++ ['\n'] := by
  cases oneline <;> simp [prettyPrint, ppError, snippetLine_nil, h]

/-- **(d)** for EVERY source, line and column (0 and beyond the end included) `prettyPrint` writes the header line, and
then either nothing more or the three rows of the snippet -/
theorem prettyPrint_total (oneline : Bool) (sw : List Nat → Nat) (rw : Nat → Nat) (src : List Nat) (d : Diag) :
    (prettyPrint oneline sw rw src d = header d ++ ['\n'] ∧ (oneline = true ∨ snippetLine src d.line d.col = none)) ∨
    (∃ l, oneline = false ∧ snippetLine src d.line d.col = some l ∧
      prettyPrint oneline sw rw src d =
        header d ++ '\n' :: (gutterRow d.line ++ '\n' :: (snippetRow d.line l ++ '\n' ::
          (indicatorRow sw rw d.line l d.col ++ ['\n'])))) := by
  cases oneline with
  | true => exact Or.inl ⟨by simp [prettyPrint, ppError, snippetLine_nil], Or.inl rfl⟩
  | false =>
    cases hs : snippetLine src d.line d.col with
    | none => exact Or.inl ⟨prettyPrint_of_none sw rw false src d hs, Or.inr rfl⟩
    | some l => exact Or.inr ⟨l, rfl, rfl, prettyPrint_snippet sw rw src d l hs⟩

/-- -oneline never shows a snippet -/
theorem prettyPrint_oneline (sw : List Nat → Nat) (rw : Nat → Nat) (src : List Nat) (d : Diag) :
    prettyPrint true sw rw src d = header d ++ ['\n'] := by
  simp [prettyPrint, ppError, snippetLine_nil]

/-- when `getLine` finds no line: line 0, a line beyond the last one, or a line at / after one that exceeds the scanner's
token limit (the scan stops there) -/
theorem getLine_none_iff (src : List Nat) (n : Nat) :
    getLine src n = none ↔
      n = 0 ∨ (∃ l ∈ (splitLines src).take n, maxToken ≤ l.length) ∨ (splitLines src).length < n := by
  unfold getLine
  by_cases hn : n = 0
  · simp [hn]
  · simp only [hn, if_false, false_or, List.any_eq_true, decide_eq_true_eq, ge_iff_le]
    split
    · rename_i h; simp only [h, true_or]
    · rename_i h; rw [List.getElem?_eq_none_iff]; simp only [h, false_or]; omega

/-- **(d)** exactly when the snippet is omitted (default mode) -/
theorem snippet_omitted_iff (src : List Nat) (line col : Nat) :
    snippetLine src line col = none ↔
      src = [] ∨ line = 0 ∨ getLine src line = none ∨ ∃ l, getLine src line = some l ∧ l.length < col - 1 := by
  unfold snippetLine
  by_cases h1 : src = []
  · simp [h1]
  by_cases h2 : line = 0
  · simp [h2]
  cases getLine src line with
  | none => simp
  | some l => by_cases hc : l.length < col - 1 <;> simp [h1, h2, hc]

/-- (d) no source (stdin that is empty, `-oneline`): header only -/
theorem no_source (sw : List Nat → Nat) (rw : Nat → Nat) (oneline : Bool) (d : Diag) :
    prettyPrint oneline sw rw [] d = header d ++ ['\n'] :=
  prettyPrint_of_none sw rw oneline [] d (snippetLine_nil _ _)

/-- (d) line 0 (a diagnostic without a position, e.g. a YAML syntax error whose line is unknown): header only -/
theorem line_zero (sw : List Nat → Nat) (rw : Nat → Nat) (oneline : Bool) (src : List Nat) (d : Diag) (h : d.line = 0) :
    prettyPrint oneline sw rw src d = header d ++ ['\n'] :=
  prettyPrint_of_none sw rw oneline src d ((snippet_omitted_iff src d.line d.col).mpr (.inr (.inl h)))

/-- (d) a line beyond the end of the source: header only -/
theorem line_beyond (sw : List Nat → Nat) (rw : Nat → Nat) (oneline : Bool) (src : List Nat) (d : Diag)
    (h : (splitLines src).length < d.line) :
    prettyPrint oneline sw rw src d = header d ++ ['\n'] :=
  prettyPrint_of_none sw rw oneline src d ((snippet_omitted_iff src d.line d.col).mpr
    (.inr (.inr (.inl ((getLine_none_iff src d.line).mpr (.inr (.inr h)))))))

/-- (d) a column more than one past the end of the line: header only (`line[start:]` is never evaluated) -/
theorem col_beyond (sw : List Nat → Nat) (rw : Nat → Nat) (oneline : Bool) (src : List Nat) (d : Diag) (l : List Nat)
    (hl : getLine src d.line = some l) (h : l.length + 1 < d.col) :
    prettyPrint oneline sw rw src d = header d ++ ['\n'] :=
  prettyPrint_of_none sw rw oneline src d
    ((snippet_omitted_iff src d.line d.col).mpr (.inr (.inr (.inr ⟨l, hl, by omega⟩))))

/-- (d) whenever a snippet IS shown the indicator never reads outside the line: `col - 1 ≤ len(line)` -/
theorem shown_in_range (src : List Nat) (line col : Nat) (l : List Nat) (h : snippetLine src line col = some l) :
    col - 1 ≤ l.length ∧ 1 ≤ line ∧ line ≤ (splitLines src).length := by
  have := AL.C16.snippet src line col
  rw [h] at this
  obtain ⟨h1, h2, h3, _⟩ := this
  have := (List.getElem?_eq_some_iff.mp h2).1
  exact ⟨h3, h1, by omega⟩

/-! ### (e) the problem matcher on the header lines gives the diagnostics back -/

theorem dot_ne_lf {c : Char} (h : dot c = true) : c ≠ '\n' := by
  rintro rfl; revert h; decide

theorem faithful_header_no_lf {d : Diag} (h : AL.C16.Faithful d) : '\n' ∉ header d := by
  rw [header_no_lf_iff]
  exact ⟨fun hm => dot_ne_lf (h.file.2.1 _ hm) rfl, fun hm => dot_ne_lf (h.msgOneLine _ hm) rfl,
    fun hm => dot_ne_lf (h.kindOneLine _ hm) rfl⟩

theorem map_matcher_headers : ∀ (ds : List Diag), (∀ d ∈ ds, AL.C16.Faithful d) → (ds.map header).map matcher = ds.map some
  | [], _ => rfl
  | d :: ds, h => by
    simp only [List.map_cons]
    rw [AL.C16.roundtrip d (h d (by simp)), map_matcher_headers ds (fun x hx => h x (by simp [hx]))]

/-- **(e)** -oneline: the shipped pattern applied to every line of the output gives back exactly the diagnostics, in order -/
theorem oneline_roundtrip (sw : List Nat → Nat) (rw : Nat → Nat) (srcOf : List Char → List Nat) (ds : List Diag)
    (h : ∀ d ∈ ds, AL.C16.Faithful d) :
    (lines (printAll true sw rw srcOf ds)).map matcher = ds.map some := by
  rw [oneline_lines sw rw srcOf ds (fun d hd => faithful_header_no_lf (h d hd)), map_matcher_headers ds h]

theorem filterMap_matcher_headers : ∀ (ds : List Diag), (∀ d ∈ ds, AL.C16.Faithful d) → (ds.map header).filterMap matcher = ds
  | [], _ => rfl
  | d :: ds, h => by
    rw [List.map_cons, List.filterMap_cons, AL.C16.roundtrip d (h d (by simp))]
    simp only
    rw [filterMap_matcher_headers ds (fun x hx => h x (by simp [hx]))]

/-- (e) -oneline, as a parser: collecting what the pattern matches gives the list of diagnostics -/
theorem oneline_roundtrip_filterMap (sw : List Nat → Nat) (rw : Nat → Nat) (srcOf : List Char → List Nat) (ds : List Diag)
    (h : ∀ d ∈ ds, AL.C16.Faithful d) :
    (lines (printAll true sw rw srcOf ds)).filterMap matcher = ds := by
  rw [oneline_lines sw rw srcOf ds (fun d hd => faithful_header_no_lf (h d hd)), filterMap_matcher_headers ds h]

/-- **(e)** default mode: the pattern applied to the header lines of the output gives back exactly the diagnostics, in order -/
theorem default_roundtrip (sw : List Nat → Nat) (rw : Nat → Nat) (srcOf : List Char → List Nat) (ds : List Diag)
    (h : ∀ d ∈ ds, AL.C16.Faithful d) :
    (headersOf (lines (printAll false sw rw srcOf ds))).map matcher = ds.map some := by
  rw [default_headers sw rw srcOf ds (fun d hd => faithful_header_no_lf (h d hd)), map_matcher_headers ds h]

/-! ### applying the pattern to EVERY line of the default output -/

theorem matchTail_some_last {s : List Char} {x : Nat × Nat × List Char × List Char} (h : matchTail s = some x) :
    ∃ t, s = t ++ [']'] := (matchTail_goodTail h).last

/-- what the problem matcher accepts ends with `]` -/
theorem matcher_some_last {l : List Char} {d : Diag} (h : matcher l = some d) : ∃ t, l = t ++ [']'] := by
  obtain ⟨pre, rest, rfl, _, hT⟩ := matcher_shape h
  obtain ⟨t, rfl⟩ := hT.last
  exact ⟨pre ++ t, (List.append_assoc ..).symm⟩

/-- the phantom diagnostic a source row yields when the pattern is applied to it -/
def phantom (src : List Nat) (d : Diag) : List Diag :=
  match snippetLine src d.line d.col with
  | none => []
  | some l => (matcher (snippetRow d.line l)).toList

/-- **(b)/(e)** default mode, pattern applied to EVERY line (what the GitHub problem matcher does): every diagnostic is found, in
order; gutter and indicator rows are never matched; the only extra matches are the phantoms of source rows that look like headers,
each directly after its own diagnostic -/
theorem default_all_lines (sw : List Nat → Nat) (rw : Nat → Nat) (srcOf : List Char → List Nat) (ds : List Diag)
    (h : ∀ d ∈ ds, AL.C16.Faithful d) :
    (lines (printAll false sw rw srcOf ds)).filterMap matcher = ds.flatMap fun d => d :: phantom (srcOf d.file) d := by
  rw [lines_printAll false sw rw srcOf ds (fun d hd => faithful_header_no_lf (h d hd)), allLines, List.filterMap_flatMap,
    List.flatMap_def, List.flatMap_def]
  -- block by block: the header gives the diagnostic back, of the rows only the source row can match
  refine congrArg _ (List.map_congr_left fun d hd => ?_)
  have hr := AL.C16.roundtrip d (h d hd)
  rcases block_shape false sw rw (srcOf d.file) d with ⟨hb, hn⟩ | ⟨l, _, hs, hb⟩
  · rcases hn with hn | hn
    · cases hn
    · rw [hb]; simp [phantom, hn, hr]
  · rw [hb]
    simp only [List.filterMap_cons, hr, gutterRow_not_matched, indicatorRow_not_matched, List.filterMap_nil, phantom, hs]
    cases matcher (snippetRow d.line l) <;> rfl

/-- no phantom when the source line does not end with `]` (the pattern ends with `\]$`) -/
theorem phantom_nil_of_last (src : List Nat) (d : Diag)
    (h : ∀ l, snippetLine src d.line d.col = some l → ∀ t, text l ≠ t ++ [']']) : phantom src d = [] := by
  unfold phantom
  cases hs : snippetLine src d.line d.col with
  | none => rfl
  | some l =>
    cases hm : matcher (snippetRow d.line l) with
    | none => simp [hm]
    | some d' =>
      exfalso
      obtain ⟨t, ht⟩ := matcher_some_last hm
      -- the row ends with the last character of the text, or with the blank of `N | ` when the text is empty
      have hlast := congrArg List.getLast? ht
      rw [snippetRow, List.getLast?_append, List.getLast?_append] at hlast
      cases hl : (text l).getLast? with
      | none => rw [hl] at hlast; simp [lnum] at hlast
      | some c =>
        rw [hl] at hlast
        obtain ⟨t', ht'⟩ := List.getLast?_eq_some_iff.1 hl
        obtain rfl : c = ']' := by simpa using hlast
        exact h l hs t' ht'

/-- … so for sources none of whose referenced lines end with `]` the pattern applied to every line of the default output gives
back exactly the diagnostics -/
theorem default_all_lines_clean (sw : List Nat → Nat) (rw : Nat → Nat) (srcOf : List Char → List Nat) (ds : List Diag)
    (h : ∀ d ∈ ds, AL.C16.Faithful d)
    (hsrc : ∀ d ∈ ds, ∀ l, snippetLine (srcOf d.file) d.line d.col = some l → ∀ t, text l ≠ t ++ [']']) :
    (lines (printAll false sw rw srcOf ds)).filterMap matcher = ds := by
  rw [default_all_lines sw rw srcOf ds h, List.flatMap_def,
    List.map_congr_left fun d hd => congrArg (d :: ·) (phantom_nil_of_last _ d (hsrc d hd)), ← List.flatMap_def,
    List.flatMap_singleton']

/-! ### which source goes with which diagnostic -/

/-- `Lint` / `LintFile` / `LintStdin`: one `printErrors` with the content of the one file -/
theorem printErrors_eq_printAll (oneline : Bool) (sw : List Nat → Nat) (rw : Nat → Nat) (src : List Nat) (ds : List Diag) :
    printErrors oneline sw rw src ds = printAll oneline sw rw (fun _ => src) ds := rfl

/-- `LintFiles`: one `printErrors` per file, in the order of the files, each with its own content — the same text as
`printAll` over the concatenated error lists when `srcOf` maps the file name of every error to the content of its file
(`check` stamps every error of a file with that file's path) -/
theorem printWorkspaces_eq_printAll (oneline : Bool) (sw : List Nat → Nat) (rw : Nat → Nat) (srcOf : List Char → List Nat) :
    ∀ (ws : List (List Nat × List Diag)), (∀ w ∈ ws, ∀ d ∈ w.2, srcOf d.file = w.1) →
      printWorkspaces oneline sw rw ws = printAll oneline sw rw srcOf (ws.flatMap (·.2)) := by
  intro ws h
  simp only [printWorkspaces, printErrors, printAll, List.flatMap_assoc]
  simp only [List.flatMap_def]
  refine congrArg _ (List.map_congr_left fun w hw => congrArg _ (List.map_congr_left fun d hd => ?_))
  rw [h w hw d hd]

/-- so everything above holds for a multi-file run: e.g. -oneline -/
theorem workspaces_oneline_lines (sw : List Nat → Nat) (rw : Nat → Nat) (ws : List (List Nat × List Diag))
    (h : ∀ w ∈ ws, ∀ d ∈ w.2, '\n' ∉ header d) :
    lines (printWorkspaces true sw rw ws) = (ws.flatMap (·.2)).map header := by
  -- with `-oneline` no source is looked at
  have e : printWorkspaces true sw rw ws = printAll true sw rw (fun _ => []) (ws.flatMap (·.2)) := by
    have hp (src : List Nat) : prettyPrint true sw rw src = fun d => header d ++ ['\n'] :=
      funext (prettyPrint_oneline sw rw src)
    simp only [printWorkspaces, printAll, printErrors, List.flatMap_assoc, hp]
  rw [e]
  refine oneline_lines sw rw _ _ fun d hd => ?_
  obtain ⟨w, hw, hd⟩ := List.mem_flatMap.1 hd
  exact h w hw d hd

/-- a consistent assignment of contents to file names exists when every error carries the path of its file and equal paths
have equal contents; then the multi-file output IS `printAll` over the concatenated error lists -/
theorem printWorkspaces_exists_srcOf (oneline : Bool) (sw : List Nat → Nat) (rw : Nat → Nat)
    (ws : List (List Char × List Nat × List Diag))
    (hpath : ∀ w ∈ ws, ∀ d ∈ w.2.2, d.file = w.1)
    (hfun : ∀ w ∈ ws, ∀ w' ∈ ws, w.1 = w'.1 → w.2.1 = w'.2.1) :
    ∃ srcOf : List Char → List Nat,
      printWorkspaces oneline sw rw (ws.map (·.2)) = printAll oneline sw rw srcOf (ws.flatMap (·.2.2)) := by
  refine ⟨fun f => match ws.find? (fun w => w.1 == f) with | some w => w.2.1 | none => [], ?_⟩
  have := printWorkspaces_eq_printAll oneline sw rw
    (fun f => match ws.find? (fun w => w.1 == f) with | some w => w.2.1 | none => []) (ws.map (·.2)) ?_
  · rw [this]; congr 1
    simp [List.flatMap_map]
  · intro w hw d hd
    simp only [List.mem_map] at hw
    obtain ⟨w0, hw0, rfl⟩ := hw
    have hf := hpath w0 hw0 d hd
    show (match ws.find? (fun w => w.1 == d.file) with | some w => w.2.1 | none => []) = w0.2.1
    cases hfind : ws.find? (fun w => w.1 == d.file) with
    | none =>
      have := List.find?_eq_none.mp hfind w0 hw0
      simp [hf] at this
    | some w1 =>
      have h1 := List.mem_of_find?_eq_some hfind
      have h2 := List.find?_some hfind
      simp only [beq_iff_eq] at h2
      exact hfun w1 h1 w0 hw0 (by rw [h2, hf])

/-- … so the default mode of a multi-file run has the same block structure -/
theorem workspaces_default_headers (sw : List Nat → Nat) (rw : Nat → Nat) (ws : List (List Char × List Nat × List Diag))
    (hpath : ∀ w ∈ ws, ∀ d ∈ w.2.2, d.file = w.1)
    (hfun : ∀ w ∈ ws, ∀ w' ∈ ws, w.1 = w'.1 → w.2.1 = w'.2.1)
    (h : ∀ w ∈ ws, ∀ d ∈ w.2.2, '\n' ∉ header d) :
    headersOf (lines (printWorkspaces false sw rw (ws.map (·.2)))) = (ws.flatMap (·.2.2)).map header := by
  obtain ⟨srcOf, e⟩ := printWorkspaces_exists_srcOf false sw rw ws hpath hfun
  rw [e]
  apply default_headers
  intro d hd
  simp only [List.mem_flatMap] at hd
  obtain ⟨w, hw, hd⟩ := hd
  exact h w hw d hd

/-! ### a concrete run (instances of the theorems above) -/

/-- the workflow -/
def exSrc : List Nat := "on: push\njobs:\n  test:\n    runs-on: ${{ foo }}\n    steps: []\n".toList.map Char.toNat
/-- go-runewidth on ASCII: one column per byte -/
def exSw (l : List Nat) : Nat := l.length
def exRw (_ : Nat) : Nat := 1
/-- a diagnostic with a snippet; its message echoes user text with a line break and went through the escaper -/
def exD1 : Diag := ⟨"a.yml".toList, 4, 18, AL.Msg.escape "undefined variable \"foo\nbar\"".toList, "expression".toList⟩
/-- one without a position, one pointing beyond the end of the file, one with column 0 -/
def exD2 : Diag := ⟨"a.yml".toList, 0, 0, AL.Msg.escape "could not parse".toList, "syntax-check".toList⟩
def exD3 : Diag := ⟨"a.yml".toList, 9, 1, AL.Msg.escape "beyond".toList, "k".toList⟩
def exD4 : Diag := ⟨"a.yml".toList, 2, 0, AL.Msg.escape "no column".toList, "k".toList⟩
def exDs : List Diag := [exD1, exD2, exD3, exD4]
def exLine4 : List Nat := "    runs-on: ${{ foo }}".toList.map Char.toNat
def exLine2 : List Nat := "jobs:".toList.map Char.toNat
def exSrcOf (_ : List Char) : List Nat := exSrc

/-- two files -/
def exWs : List (List Char × List Nat × List Diag) :=
  [("a.yml".toList, exSrc, [exD1, exD2]), ("b.yml".toList, "on: push\n".toList.map Char.toNat, [⟨"b.yml".toList, 1, 1, ['m'], ['k']⟩])]

/-- What the instances below need to know of the example source, found by evaluation; stated together because unpacking
the literal `exSrc` is the slow step of each, and one evaluation unpacks it for all. -/
theorem exSrc_facts :
    snippetLine exSrc 4 18 = some exLine4 ∧
    snippetLine exSrc 3 3 = some [32, 32, 116, 101, 115, 116, 58] ∧
    (splitLines exSrc).length < 9 ∧
    getLine exSrc 2 = some exLine2 ∧
    snippetLine exSrc 2 6 = some exLine2 ∧
    (∀ d ∈ exDs, (snippetLine exSrc d.line d.col).all fun l => (text l).getLast? != some ']') ∧
    (exDs.map fun d => blockLines false exSw exRw exSrc d).map List.length = [4, 1, 1, 4] := by
  decide +kernel

/-- the same for the diagnostics: their literals and the escaper are evaluated for all the facts together -/
theorem exDs_facts :
    (∀ d ∈ exDs, AL.C16.faithfulCheck d = true) ∧
    (∀ d ∈ exDs, '\n' ∉ d.file ∧ '\n' ∉ d.kind) ∧
    (∀ w ∈ exWs, ∀ d ∈ w.2.2, '\n' ∉ header d) := by
  decide +kernel

theorem exEscaped : ∀ d ∈ exDs, Escaped d := by
  -- the definitions are unfolded first: `rfl` at `exD1.msg = AL.Msg.escape _` would start by evaluating the escaper
  have hm : ∀ d ∈ exDs, ∃ m, d.msg = AL.Msg.escape m := by
    simp only [exDs, exD1, exD2, exD3, exD4, List.forall_mem_cons, List.not_mem_nil, false_imp_iff, implies_true, and_true]
    exact ⟨⟨_, rfl⟩, ⟨_, rfl⟩, ⟨_, rfl⟩, ⟨_, rfl⟩⟩
  exact fun d hd => ⟨hm d hd, (exDs_facts.2.1 d hd).1, (exDs_facts.2.1 d hd).2⟩

theorem exFaithful : ∀ d ∈ exDs, AL.C16.Faithful d := fun d hd => AL.C16.faithful_of_check (exDs_facts.1 d hd)

/-- the whole default output -/
example : printAll false exSw exRw exSrcOf exDs =
    ("a.yml:4:18: undefined variable \"foo\\nbar\" [expression]\n" ++
     "  |\n" ++
     "4 |     runs-on: ${{ foo }}\n" ++
     "  |                  ^~~\n" ++
     "a.yml:0:0: could not parse [syntax-check]\n" ++
     "a.yml:9:1: beyond [k]\n" ++
     "a.yml:2:0: no column [k]\n" ++
     "  |\n" ++
     "2 | jobs:\n" ++
     "  | \n").toList := by
  -- a long literal is slow to unpack: piece by piece
  simp only [String.toList_append]
  decide +kernel

/-- the whole -oneline output -/
example : printAll true exSw exRw exSrcOf exDs =
    ("a.yml:4:18: undefined variable \"foo\\nbar\" [expression]\n" ++
     "a.yml:0:0: could not parse [syntax-check]\n" ++
     "a.yml:9:1: beyond [k]\n" ++
     "a.yml:2:0: no column [k]\n").toList := by
  simp only [String.toList_append]
  decide +kernel

example : '\n' ∉ text [32, 0xC3, 0xA9, 0xFF] := text_no_lf (by decide)
example : lines ("ab".toList ++ '\n' :: "c\n".toList) = "ab".toList :: lines "c\n".toList := lines_line _ _ (by decide)
example : lines (unlines ["a".toList, [], "b c".toList]) = ["a".toList, [], "b c".toList] := lines_unlines _ (by decide)
example : lines (unlines [['a'] ++ '\n' :: ['b']]) = [['a'], ['b']] := lines_unlines_lf _ _ (by decide) (by decide)
example : [32, 32, 116, 101, 115, 116, 58] ∈ splitLines exSrc := snippetLine_mem exSrc_facts.2.1
example : '\n' ∉ snippetRow 3 [32, 32, 116, 101, 115, 116, 58] :=
  snippetRow_no_lf exSrc_facts.2.1
example : ∀ l ∈ blockLines false exSw exRw exSrc exD1, '\n' ∉ l :=
  blockLines_no_lf _ _ _ _ _ ((exEscaped exD1 (by simp [exDs])).header_no_lf)
example : '\n' ∉ header exD1 := (exEscaped exD1 (by simp [exDs])).header_no_lf
example : lines (printAll false exSw exRw exSrcOf exDs) = allLines false exSw exRw exSrcOf exDs :=
  lines_printAll _ _ _ _ _ fun d hd => (exEscaped d hd).header_no_lf

/-- (a) -/
example : lines (printAll true exSw exRw exSrcOf exDs) = exDs.map header :=
  oneline_lines _ _ _ _ fun d hd => (exEscaped d hd).header_no_lf
example : lines (printAll true exSw exRw exSrcOf exDs) = exDs.map header := oneline_lines_escaped _ _ _ _ exEscaped
example : (lines (printAll true exSw exRw exSrcOf exDs)).length = 4 := oneline_count _ _ _ _ exEscaped
example : (lines (printAll true exSw exRw exSrcOf exDs))[2]? = some (header exD3) := oneline_line _ _ _ _ exEscaped 2

/-- (b) -/
example : blocksOf (lines (printAll false exSw exRw exSrcOf exDs)) = exDs.map fun d => blockLines false exSw exRw exSrc d :=
  default_blocks_escaped _ _ _ _ exEscaped
example : blocksOf (lines (printAll false exSw exRw exSrcOf exDs)) = exDs.map fun d => blockLines false exSw exRw exSrc d :=
  default_blocks _ _ _ _ fun d hd => (exEscaped d hd).header_no_lf
example : headersOf (lines (printAll false exSw exRw exSrcOf exDs)) = exDs.map header := default_headers_escaped _ _ _ _ exEscaped
example : headersOf (lines (printAll false exSw exRw exSrcOf exDs)) = exDs.map header :=
  default_headers _ _ _ _ fun d hd => (exEscaped d hd).header_no_lf
example : (blocksOf (lines (printAll false exSw exRw exSrcOf exDs))).length = 4 := (default_count _ _ _ _ exEscaped).1
example : (blocksOf (lines (printAll false exSw exRw exSrcOf exDs))).map List.length = [4, 1, 1, 4] := by
  rw [default_blocks_escaped _ _ _ _ exEscaped]; exact exSrc_facts.2.2.2.2.2.2
example : (blocksOf ["x".toList, "  |".toList, "y".toList]).flatten = ["x".toList, "  |".toList, "y".toList] :=
  blocksOf_flatten 3 _ (by decide)
example : ':' ∉ "   |".toList := isGutter_no_colon (by decide)
example : ':' ∈ "a:1:2: m [k]".toList := matcher_some_colon (d := ⟨['a'], 1, 2, ['m'], ['k']⟩)
  (AL.C16.roundtrip ⟨['a'], 1, 2, ['m'], ['k']⟩ (AL.C16.faithful_of_check (by decide +kernel)))
example : matcher "  | ^~~".toList = none := matcher_none_of_no_colon (by decide)
example : (lines (printAll false exSw exRw exSrcOf exDs)).filter (fun l => !rowStart l) = exDs.map header :=
  default_headers_filter _ _ _ _ (fun d hd => (exEscaped d hd).header_no_lf) (by decide)

/-- (c) -/
example : prettyPrint false exSw exRw exSrc exD1 =
    header exD1 ++ '\n' :: (gutterRow 4 ++ '\n' :: (snippetRow 4 exLine4 ++ '\n' ::
      (indicatorRow exSw exRw 4 exLine4 18 ++ ['\n']))) :=
  prettyPrint_snippet _ _ _ _ _ exSrc_facts.1
example : (splitLines exSrc)[4 - 1]? = some exLine4 :=
  (snippet_faithful exSrc exD1 _ exSrc_facts.1).2.1
example : (indicatorRow exSw exRw 4 exLine4 18)[4 + 17]? = some '^' :=
  (caret_under_column exSw exRw 4 exLine4 18 (by decide)).1
example : (snippetRow 4 exLine4)[4 + 17]? = some 'f' :=
  (caret_under_column_ascii exSw exRw 4 exLine4 18 (by decide) (by decide) (by decide)).2
example : text [97, 98] = ['a', 'b'] := text_ascii _ (by decide)

/-- (d) -/
example : prettyPrint false exSw exRw exSrc exD2 = header exD2 ++ ['\n'] := line_zero _ _ _ _ _ rfl
example : prettyPrint false exSw exRw exSrc exD3 = header exD3 ++ ['\n'] := line_beyond _ _ _ _ _ exSrc_facts.2.2.1
example : prettyPrint false exSw exRw exSrc ⟨['f'], 2, 8, ['m'], ['k']⟩ = "f:2:8: m [k]\n".toList :=
  col_beyond _ _ _ _ _ exLine2 exSrc_facts.2.2.2.1 (by decide)
example : 6 - 1 ≤ exLine2.length := (shown_in_range exSrc 2 6 exLine2 exSrc_facts.2.2.2.2.1).1

/-- (e) -/
example : (lines (printAll true exSw exRw exSrcOf exDs)).map matcher = exDs.map some := oneline_roundtrip _ _ _ _ exFaithful
example : (lines (printAll true exSw exRw exSrcOf exDs)).filterMap matcher = exDs := oneline_roundtrip_filterMap _ _ _ _ exFaithful
example : (headersOf (lines (printAll false exSw exRw exSrcOf exDs))).map matcher = exDs.map some :=
  default_roundtrip _ _ _ _ exFaithful
example : '\n' ∉ header exD1 := faithful_header_no_lf (exFaithful exD1 (by simp [exDs]))
example : (lines (printAll false exSw exRw exSrcOf exDs)).filterMap matcher =
    exDs.flatMap fun d => d :: phantom exSrc d := default_all_lines _ _ _ _ exFaithful
example : (lines (printAll false exSw exRw exSrcOf exDs)).filterMap matcher = exDs :=
  default_all_lines_clean _ _ _ _ exFaithful fun d hd l hl t e => by
    -- no line that is shown ends with `]`
    have := exSrc_facts.2.2.2.2.2.1 d hd
    simp only [show snippetLine exSrc d.line d.col = some l from hl, Option.all_some, e, List.getLast?_append,
      List.getLast?_singleton, Option.some_or, bne_self_eq_false, Bool.false_eq_true] at this

example : headersOf (lines (printWorkspaces false exSw exRw (exWs.map (·.2)))) = (exWs.flatMap (·.2.2)).map header :=
  workspaces_default_headers _ _ _ (by decide) (by
    -- the two files have different names
    intro w hw w' hw'
    simp only [exWs, List.mem_cons, List.not_mem_nil, or_false] at hw hw'
    rcases hw with rfl | rfl <;> rcases hw' with rfl | rfl
    · exact fun _ => rfl
    · exact fun h => absurd h (by decide)
    · exact fun h => absurd h (by decide)
    · exact fun _ => rfl)
    exDs_facts.2.2
example : lines (printWorkspaces true exSw exRw (exWs.map (·.2))) = ((exWs.map (·.2)).flatMap (·.2)).map header :=
  workspaces_oneline_lines _ _ _ fun _ hw' d hd => by
    obtain ⟨w, hw, rfl⟩ := List.mem_map.1 hw'
    exact exDs_facts.2.2 w hw d hd
example : printWorkspaces false exSw exRw [(exSrc, exDs)] = printAll false exSw exRw exSrcOf ([(exSrc, exDs)].flatMap (·.2)) :=
  printWorkspaces_eq_printAll _ _ _ _ _ (by intro w hw d _; rw [List.mem_singleton.mp hw, exSrcOf])

end AL.C16P
