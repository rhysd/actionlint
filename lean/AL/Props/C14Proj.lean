import AL.Model.ProjCall
import AL.Model.ProjAction
import AL.Props.C10Meta
import AL.Lemmas.C14Members
/-
  C14 over the whole-file model of the project case. For a job that calls a LOCAL reusable workflow (AL.ProjCall): which
  entries of `with:` are reported as undefined, which declared inputs / secrets as required — iff statements about
  `checkLocal`, the function `wcJob` runs once `FindMetadata` has produced the interface — and which `with:` entries the
  expression rule reports against a typed input. The interface is AL.CallMeta's (`required` = `required: true` and no
  default; AL.Props.C10Meta: the same whether decoded from the file or taken from the AST). The same two iff statements
  for a step that uses a LOCAL action (AL.ProjAction.inputDiags); last, from the callee's FILE to the caller's diagnostics.
  The right-hand sides have two disjuncts, "this entry / declaration" and "some entry / declaration with the same reported
  text"; under the membership hypothesis (`hk`, `hfirst`) the first implies the second, so what is stated is "iff SOME
  entry / declaration with that reported text is undefined / required and not supplied". The exact form per declaration
  needs distinct ids and is AL.Props.C14Wf (`required_input_mem_iff`, `required_secret_mem_iff`,
  `local_action_missing_mem_iff`).
  Theorems: `undefined_input_iff`, `required_input_iff`, `required_secret_iff`, `typed_input_reported_iff`,
  `local_action_undefined_input_iff`, `local_action_missing_input_iff`, `first_call_checks_declared_interface`.
-/

namespace AL.C14P
open AL AL.Ast AL.CallMeta AL.ProjCall

theorem mem_sortStrings (l : List String) (x : String) : x ∈ AL.PW.sortStrings l ↔ x ∈ l :=
  AL.PW.mem_sortStrings l x

/-- **C14, inputs of a local reusable workflow — undefined**: an entry of `with:` is reported (at its key, naming the
called workflow) iff the interface does not declare it (or another entry with the same key text and position) -/
theorem undefined_input_iff (m : Meta) (c : WorkflowCall) (u : Str) (kv : String × CallArg) (hk : kv ∈ c.inputs.getD []) :
    (∃ d ∈ checkLocal m c u, d.code = "input-undefined" ∧ d.pos = kv.2.name.pos ∧ d.args.head? = some kv.2.name.value) ↔
    (kv.1 ∉ keysOf m.inputs ∨ ∃ kv' ∈ c.inputs.getD [], kv'.1 ∉ keysOf m.inputs ∧ kv'.2.name.pos = kv.2.name.pos ∧ kv'.2.name.value = kv.2.name.value) := by
  constructor
  · rintro ⟨d, hd, hc, hp, ha⟩
    rcases (mem_checkLocal m c u d).1 hd with ⟨_, _, _, _, _, rfl⟩ | ⟨kv', hkv', hnot, rfl⟩ |
      ⟨_, ⟨_, _, _, _, _, rfl⟩ | ⟨_, _, _, rfl⟩⟩
    · simp at hc
    · exact Or.inr ⟨kv', hkv', hnot, hp, by simpa using ha⟩
    · simp at hc
    · simp at hc
  · intro h
    have key : ∀ kv' ∈ c.inputs.getD [], kv'.1 ∉ keysOf m.inputs →
        (⟨kv'.2.name.pos, "workflow-call", "input-undefined",
          [kv'.2.name.value, u.value] ++ AL.PW.sortStrings (m.inputs.map (·.2.name))⟩ : AL.Rules.Diag) ∈ checkLocal m c u :=
      fun kv' hkv' hnot => (mem_checkLocal m c u _).2 (.inr (.inl ⟨kv', hkv', hnot, rfl⟩))
    rcases h with h | ⟨kv', hkv', hnot, hp, hv⟩
    · exact ⟨_, key kv hk h, rfl, rfl, rfl⟩
    · exact ⟨_, key kv' hkv' hnot, rfl, hp, by simp [hv]⟩

/-- **C14, inputs of a local reusable workflow — missing**: a declared input is reported as required (at `uses:`) iff it
is required (`required: true` and no default, AL.CallMeta) and `with:` does not supply it (or a declaration of that name is) -/
theorem required_input_iff (m : Meta) (c : WorkflowCall) (u : Str) (n : String) (i : CallMeta.Input)
    (hfirst : m.inputs.find? (·.1 = n) = some (n, i)) :
    (⟨u.pos, "workflow-call", "input-required", [i.name, u.value]⟩ : AL.Rules.Diag) ∈ checkLocal m c u ↔
    (i.required = true ∧ n ∉ keysOf (c.inputs.getD [])) ∨
    (∃ n' i', m.inputs.find? (·.1 = n') = some (n', i') ∧ i'.name = i.name ∧ i'.required = true ∧ n' ∉ keysOf (c.inputs.getD [])) := by
  rw [mem_checkLocal]
  constructor
  · rintro (⟨n', i', hf, hr, hn, hd⟩ | ⟨_, _, _, hd⟩ | ⟨_, ⟨_, _, _, _, _, hd⟩ | ⟨_, _, _, hd⟩⟩)
    · simp only [AL.Rules.Diag.mk.injEq, List.cons.injEq, and_true, true_and] at hd
      exact Or.inr ⟨n', i', hf, hd.symm, hr, hn⟩
    · simp at hd
    · simp at hd
    · simp at hd
  · rintro (⟨hr, hn⟩ | ⟨n', i', hf, hname, hr, hn⟩)
    · exact .inl ⟨n, i, hfirst, hr, hn, rfl⟩
    · exact .inl ⟨n', i', hf, hr, hn, by rw [hname]⟩

theorem inherit_checks_no_secret (m : Meta) (c : WorkflowCall) (u : Str) (h : c.inheritSecrets = true) :
    ∀ d ∈ checkLocal m c u, d.code ≠ "secret-required" ∧ d.code ≠ "secret-undefined" := by
  intro d hd
  rcases (mem_checkLocal m c u d).1 hd with ⟨_, _, _, _, _, rfl⟩ | ⟨_, _, _, rfl⟩ | ⟨hinh, _⟩
  · exact ⟨by simp, by simp⟩
  · exact ⟨by simp, by simp⟩
  · rw [h] at hinh; cases hinh

/-- **C14, secrets — missing** (without `secrets: inherit`): a declared secret is reported as required iff it is
`required: true` and `secrets:` does not supply it (or a declaration of that name is) -/
theorem required_secret_iff (m : Meta) (c : WorkflowCall) (u : Str) (n : String) (sdecl : CallMeta.Secret)
    (hinh : c.inheritSecrets = false) (hfirst : m.secrets.find? (·.1 = n) = some (n, sdecl)) :
    (⟨u.pos, "workflow-call", "secret-required", [sdecl.name, u.value]⟩ : AL.Rules.Diag) ∈ checkLocal m c u ↔
    (sdecl.required = true ∧ n ∉ keysOf (c.secrets.getD [])) ∨
    (∃ n' s', m.secrets.find? (·.1 = n') = some (n', s') ∧ s'.name = sdecl.name ∧ s'.required = true ∧ n' ∉ keysOf (c.secrets.getD [])) := by
  rw [mem_checkLocal]
  constructor
  · rintro (⟨_, _, _, _, _, hd⟩ | ⟨_, _, _, hd⟩ | ⟨_, ⟨n', s', hf, hr, hn, hd⟩ | ⟨_, _, _, hd⟩⟩)
    · simp at hd
    · simp at hd
    · simp only [AL.Rules.Diag.mk.injEq, List.cons.injEq, and_true, true_and] at hd
      exact Or.inr ⟨n', s', hf, hd.symm, hr, hn⟩
    · simp at hd
  · rintro (⟨hr, hn⟩ | ⟨n', s', hf, hname, hr, hn⟩)
    · exact .inr (.inr ⟨hinh, .inl ⟨n, sdecl, hfirst, hr, hn, rfl⟩⟩)
    · exact .inr (.inr ⟨hinh, .inl ⟨n', s', hf, hr, hn, by rw [hname]⟩⟩)

/-- **C14, typed inputs**: a `with:` entry is reported by the expression rule iff the called workflow declares that input
with a type other than `any` and the type of the supplied value — by spelling for a literal, the placeholder's type when
the value is one placeholder, else string — cannot be assigned to it -/
theorem typed_input_reported_iff (cx : AL.RuleExpr.Cx) (u : Str) (kv : String × CallArg) (ts : List AL.Ty) :
    AL.RuleExpr.typedInput cx u kv ts ≠ [] ↔
    ∃ ins e, cx.job.inputs = some ins ∧ ins.find? (·.1 = kv.1) = some e ∧ e.2.2.isAny = false ∧
      AL.Ty.assignable e.2.2 (AL.RuleExpr.suppliedTy cx kv.2.value ts) = false := by
  simp only [AL.RuleExpr.typedInput]
  cases hin : cx.job.inputs with
  | none => simp
  | some ins =>
    simp only
    cases hf : ins.find? (·.1 = kv.1) with
    | none =>
      simp only [ne_eq, not_true_eq_false, false_iff, not_exists, not_and]
      intro ins' e' hi he
      cases hi; rw [hf] at he; cases he
    | some e =>
      obtain ⟨k, name, decl⟩ := e
      simp only [hf]
      by_cases hany : decl.isAny = true
      · simp only [hany, if_true, ne_eq, not_true_eq_false, false_iff, not_exists, not_and]
        intro ins' e' hi he hn
        cases hi; rw [hf] at he; cases he
        simp [hany] at hn
      · by_cases has : AL.Ty.assignable decl (AL.RuleExpr.suppliedTy cx kv.2.value ts) = true
        · simp only [hany, has, Bool.false_eq_true, if_false, if_true, ne_eq, not_true_eq_false, false_iff, not_exists, not_and]
          intro ins' e' hi he _ hn
          cases hi; rw [hf] at he; cases he
          simp [has] at hn
        · simp only [hany, has, Bool.false_eq_true, if_false, ne_eq, List.cons_ne_nil, not_false_eq_true, true_iff]
          exact ⟨ins, (k, name, decl), rfl, hf, by simpa using hany, by simpa using has⟩

/-! ### a step that uses a LOCAL action (AL.ProjAction.inputDiags = `checkAction` with the metadata of `action.yml`) -/

/-- **C14, local action — undefined input**: an entry of `with:` is reported at its key iff the action's metadata does not
declare an input with that (lower-case) id (or that of another entry with the same key text and position) -/
theorem local_action_undefined_input_iff (m : AL.ProjAction.ActionMeta) (spec : String) (e : ExecAction) (pos : AL.ProjAction.Pos)
    (kv : String × Ast.Input) (hk : kv ∈ e.inputs.getD []) :
    (∃ d ∈ AL.ProjAction.inputDiags m spec e pos, d.code = "local-input-undefined" ∧ d.pos = kv.2.name.pos ∧ d.args.head? = some kv.2.name.value) ↔
    (m.inputs.any (·.1 = kv.1) = false ∨
      ∃ kv' ∈ e.inputs.getD [], m.inputs.any (·.1 = kv'.1) = false ∧ kv'.2.name.pos = kv.2.name.pos ∧ kv'.2.name.value = kv.2.name.value) := by
  constructor
  · rintro ⟨d, hd, hc, hp, ha⟩
    rcases (AL.ProjAction.mem_inputDiags m spec e pos d).1 hd with ⟨kv', hkv', hnot, rfl⟩ | ⟨_, _, _, _, rfl⟩
    · exact Or.inr ⟨kv', hkv', hnot, hp, by simpa using ha⟩
    · simp at hc
  · intro h
    have key : ∀ kv' ∈ e.inputs.getD [], m.inputs.any (·.1 = kv'.1) = false →
        (⟨kv'.2.name.pos, "action", "local-input-undefined",
          [kv'.2.name.value, m.name, spec] ++ AL.PW.sortStrings (m.inputs.map (·.2.1))⟩ : AL.Rules.Diag) ∈
          AL.ProjAction.inputDiags m spec e pos :=
      fun kv' hkv' hnot => (AL.ProjAction.mem_inputDiags m spec e pos _).2 (.inl ⟨kv', hkv', hnot, rfl⟩)
    rcases h with h | ⟨kv', hkv', hnot, hp, hv⟩
    · exact ⟨_, key kv hk h, rfl, rfl, rfl⟩
    · exact ⟨_, key kv' hkv' hnot, rfl, hp, by simp [hv]⟩

/-- **C14, local action — missing input**: a declared input is reported as missing (at `uses:`) iff the metadata marks it
required (`required: true` and no default, action_metadata.go) and `with:` does not supply it (or a required declaration
of that name is not supplied) -/
theorem local_action_missing_input_iff (m : AL.ProjAction.ActionMeta) (spec : String) (e : ExecAction) (pos : AL.ProjAction.Pos)
    (id name : String) (hfirst : m.inputs.find? (·.1 = id) = some (id, name, true)) :
    (∃ d ∈ AL.ProjAction.inputDiags m spec e pos, d.code = "local-input-missing" ∧ d.args.head? = some name) ↔
    ((e.inputs.getD []).any (·.1 = id) = false ∨
      ∃ id', m.inputs.find? (·.1 = id') = some (id', name, true) ∧ (e.inputs.getD []).any (·.1 = id') = false) := by
  constructor
  · rintro ⟨d, hd, hc, ha⟩
    rcases (AL.ProjAction.mem_inputDiags m spec e pos d).1 hd with ⟨_, _, _, rfl⟩ | ⟨id', nm, hf, hg, rfl⟩
    · simp at hc
    · obtain rfl : nm = name := by simpa using ha
      exact Or.inr ⟨id', hf, hg⟩
  · intro h
    have key : ∀ id', m.inputs.find? (·.1 = id') = some (id', name, true) → (e.inputs.getD []).any (·.1 = id') = false →
        ∃ d ∈ AL.ProjAction.inputDiags m spec e pos, d.code = "local-input-missing" ∧ d.args.head? = some name :=
      fun id' hf hg => ⟨_, (AL.ProjAction.mem_inputDiags m spec e pos _).2 (.inr ⟨id', name, hf, hg, rfl⟩), rfl, rfl⟩
    rcases h with h | ⟨id', hf, hg⟩
    · exact key id hfirst h
    · exact key id' hf hg

/-! ### from the called workflow's FILE to the caller's diagnostics -/

/-- what is on disk, when the files of the repository are given as document nodes: reading = looking the node up,
decoding = AL.CallMeta.fromDoc -/
def diskOfDocs (cfg : AL.PW.Cfg) (files : String → Option AL.Yaml.Node) (spec : String) : OnDisk :=
  match files spec with
  | none => .missing
  | some doc =>
    match AL.CallMeta.fromDoc cfg doc with
    | .ok m => .ok m
    | .error _ => .broken

/-- a called workflow the parser accepts (hypotheses of AL.C10M.document_interface_agrees_checked) is on disk
with exactly the interface its AST has -/
theorem wellformed_callee_on_disk (cfg : AL.PW.Cfg) (files : String → Option AL.Yaml.Node) (spec : String) (doc : AL.Yaml.Node)
    (m : Meta) (hf : files spec = some doc) (hlow : cfg.lower "workflow_call" = "workflow_call")
    (hh : AL.CallMeta.docHypB cfg doc = true) (hc : (AL.PW.parse cfg doc).2 = []) (hm : AL.CallMeta.fromDocAst cfg doc = some m) :
    diskOfDocs cfg files spec = .ok m := by
  simp [diskOfDocs, hf, AL.C10M.document_interface_agrees_checked cfg doc hlow hh hc m hm]

/-- **C14 end to end for a local reusable workflow**: the first job (nothing cached yet) that calls, in the local format, a
workflow whose file the parser accepts gets exactly `checkLocal` of the interface the callee's AST declares — so the iff
theorems above speak about the callee's `inputs:` / `secrets:` as written in its file -/
theorem first_call_checks_declared_interface (cfg : AL.PW.Cfg) (files : String → Option AL.Yaml.Node) (doc : AL.Yaml.Node)
    (m : Meta) (call : WorkflowCall) (u : Str) (j : Job)
    (hj : j.workflowCall = some call) (hu : call.uses = some u)
    (hne : (u.value = "" || AL.Rules.containsExpr u) = false) (hloc : AL.Rules.isLocalCallFormat u.value = true)
    (hskip : skipped { disk := diskOfDocs cfg files } u.value = false)
    (hf : files u.value = some doc) (hlow : cfg.lower "workflow_call" = "workflow_call")
    (hh : AL.CallMeta.docHypB cfg doc = true) (hc : (AL.PW.parse cfg doc).2 = []) (hm : AL.CallMeta.fromDocAst cfg doc = some m) :
    (wcJob { disk := diskOfDocs cfg files } [] j).2 = checkLocal m call u := by
  have hd := wellformed_callee_on_disk cfg files u.value doc m hf hlow hh hc hm
  simp [wcJob, hj, hu, wcUses, hne, hloc, find, answer, hskip, cacheGet, diskAnswer, hd, wcFound]

end AL.C14P
