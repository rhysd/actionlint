import AL.Model.Sema
import AL.Gen.RuleState
/-
  C09 — jobs, steps and expressions are checked independently (no state leaks).
  (a) expression level: the model of the checker is a pure function of (environment, expression). What
      the Go checker must not do is mutate shared type information (such as setting `ty.Deref = true` on
      the array type stored in the matrix context); the tie (differential + composition oracle) checks
      that it behaves like the pure model, whatever was checked before.
  (b) rule level: every piece of per-job rule state is reset when the job is left — a fact about
      rule_*.go that is REGENERATED from the source and re-checked on every run.
-/
namespace AL.C09
open AL AL.Sema

/-- per-job state that is deliberately NOT reset in VisitJobPost, with the reason -/
def jobStateExempt : List (String × String) := [
  -- the needs graph is accumulated over all jobs and evaluated in VisitWorkflowPost (a fresh rule per file)
  ("RuleJobNeeds", "nodes"),
  -- assigned AND reset inside VisitJobPre itself (line "rule.compats = nil // reset")
  ("RuleRunnerLabel", "compats")
]

/-- workflow-level state that lives as long as the rule instance (one instance per file, linter.go) -/
def workflowStateExempt : List (String × String) := [
  ("RuleExpression", "dispatchInputsTy"), ("RuleExpression", "inputsTy"), ("RuleExpression", "secretsTy"),
  ("RuleWorkflowCall", "workflowCallEventPos")
]

def assignedIn (rule method field : String) : Bool :=
  AL.Gen.ruleState.any fun r => r.1 = rule && r.2.1 = method && r.2.2 = field

/-- (b1) every receiver field assigned while a job is visited (VisitJobPre, VisitStep) is assigned again in
VisitJobPost of the same rule, or is a documented exemption. -/
def job_state_reset_check : Bool :=
  AL.Gen.ruleState.all fun r =>
    !(r.2.1 = "VisitJobPre" || r.2.1 = "VisitStep") || assignedIn r.1 "VisitJobPost" r.2.2 || jobStateExempt.contains (r.1, r.2.2)

/-- (b2) every field assigned in VisitWorkflowPre is assigned again in VisitWorkflowPost, or is a documented
exemption. -/
def workflow_state_reset_check : Bool :=
  AL.Gen.ruleState.all fun r =>
    !(r.2.1 = "VisitWorkflowPre") || assignedIn r.1 "VisitWorkflowPost" r.2.2 || workflowStateExempt.contains (r.1, r.2.2)

/-- (b3) the exemption lists are not stale -/
def exemptions_live_check : Bool :=
  jobStateExempt.all (fun e => AL.Gen.ruleState.any fun r => r.1 = e.1 && r.2.2 = e.2) &&
  workflowStateExempt.all (fun e => AL.Gen.ruleState.any fun r => r.1 = e.1 && r.2.2 = e.2)

/-- the three checks in one evaluation: they walk the same table, whose strings the kernel then decodes once -/
theorem state_checks :
    job_state_reset_check = true ∧ workflow_state_reset_check = true ∧ exemptions_live_check = true := by
  decide +kernel

theorem job_state_reset : job_state_reset_check = true := state_checks.1

theorem workflow_state_reset : workflow_state_reset_check = true := state_checks.2.1

theorem exemptions_live : exemptions_live_check = true := state_checks.2.2

/-- checking a list of expressions one after the other under the same environment -/
def checkAll (Γ : Env) : List E → List R
  | [] => []
  | e :: es => check Γ e :: checkAll Γ es

/-- (a) expression level: inside a list the result for `e` is `check Γ e` whatever was checked before it. This holds for
any function in place of `check`; its content is the modelling decision that the checker carries no state from one
expression to the next. -/
theorem later_expression_unaffected (Γ : Env) (pre post : List E) (e : E) :
    (checkAll Γ (pre ++ e :: post))[pre.length]? = some (check Γ e) := by
  induction pre with
  | nil => simp [checkAll]
  | cons p ps ih => simpa [checkAll] using ih

end AL.C09
