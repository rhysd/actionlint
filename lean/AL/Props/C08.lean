import AL.Model.ExprConv
import AL.Model.Insecure
import AL.Model.Json
import AL.Gen.Builtins
import AL.Lemmas.SemaCase
import AL.Lemmas.SemaMonoJson
import AL.Model.Facts
/-
  C08 — names are matched case-insensitively everywhere (expression level).
  Statements first (`def …_statement : Prop`), their proofs after them.
-/
namespace AL.C08
open AL AL.Sema AL.Parse

mutual
/-- two parser trees that differ only in the letter case of names: variable, property and function names
equal after folding; string literals equal, except a string literal used as an index (`x['Name']`), which
is a property name. Keywords (`true`/`false`/`null`) and numbers are not names. -/
inductive CaseEq (lower : String → String) : Parse.Expr → Parse.Expr → Prop
  | null : CaseEq lower .null .null
  | bool (b : Bool) : CaseEq lower (.bool b) (.bool b)
  | int (v : Int) : CaseEq lower (.int v) (.int v)
  | float (l l' : List Sym) : CaseEq lower (.float l) (.float l')
  | str (v : List Sym) : CaseEq lower (.str v) (.str v)
  | var (n n' : List Sym) : lower (symsToString n) = lower (symsToString n') → CaseEq lower (.var n) (.var n')
  | call (c c' : List Sym) (as as' : List Parse.Expr) : lower (symsToString c) = lower (symsToString c') →
      CaseEqList lower as as' → CaseEq lower (.call c as) (.call c' as')
  | objDeref (r r' : Parse.Expr) (p p' : List Sym) : CaseEq lower r r' → lower (symsToString p) = lower (symsToString p') →
      CaseEq lower (.objDeref r p) (.objDeref r' p')
  | arrDeref (r r' : Parse.Expr) : CaseEq lower r r' → CaseEq lower (.arrDeref r) (.arrDeref r')
  | index (r r' i i' : Parse.Expr) : CaseEq lower r r' → CaseEq lower i i' → CaseEq lower (.index r i) (.index r' i')
  | indexLit (r r' : Parse.Expr) (v v' : List Sym) : CaseEq lower r r' → lower (symsToString v) = lower (symsToString v') →
      CaseEq lower (.index r (.str v)) (.index r' (.str v'))
  | not (e e' : Parse.Expr) : CaseEq lower e e' → CaseEq lower (.not e) (.not e')
  | cmp (k : Parse.CmpKind) (l l' r r' : Parse.Expr) : CaseEq lower l l' → CaseEq lower r r' → CaseEq lower (.cmp k l r) (.cmp k l' r')
  | logical (k : Parse.LogKind) (l l' r r' : Parse.Expr) : CaseEq lower l l' → CaseEq lower r r' → CaseEq lower (.logical k l r) (.logical k l' r')
inductive CaseEqList (lower : String → String) : List Parse.Expr → List Parse.Expr → Prop
  | nil : CaseEqList lower [] []
  | cons (e e' : Parse.Expr) (es es' : List Parse.Expr) : CaseEq lower e e' → CaseEqList lower es es' → CaseEqList lower (e :: es) (e' :: es')
end

/-- what does not depend on spelling: the error codes (arguments echo the spelling), the type, the events -/
def codes (r : R) : List String := r.errs.map (·.code)

/-- (a) THE PROPERTY at expression level: re-casing names never changes which diagnostics are reported,
the resulting type, or the untrusted-input events (hence reports). -/
def check_case_insensitive_statement : Prop :=
  ∀ (Γ : Env) (e e' : Parse.Expr), (∀ s, Γ.lower (Γ.lower s) = Γ.lower s) → CaseEq Γ.lower e e' →
    codes (check Γ (toE Γ.lower e)) = codes (check Γ (toE Γ.lower e')) ∧
    (check Γ (toE Γ.lower e)).ty = (check Γ (toE Γ.lower e')).ty ∧
    (check Γ (toE Γ.lower e)).evs = (check Γ (toE Γ.lower e')).evs

/-- (b) keywords stay case-sensitive, on the side of `toE`: the variable `TRUE` stays a variable (folded name), the
literal `true` the literal. That only the lower-case spelling becomes a keyword is decided in `parsePrimary`
(Model/Parser.lean), not here. -/
def keywords_case_sensitive_statement : Prop :=
  ∀ lower : String → String,
    toE lower (.var [⟨84, 1, false⟩, ⟨82, 1, false⟩, ⟨85, 1, false⟩, ⟨69, 1, false⟩]) = .var (lower "TRUE") ∧
    toE lower (.bool true) = .bool

/-- (c) keys of a JSON literal passed to fromJSON are folded: the derived type's property names are
folded, so `.name` access (folded by the parser) finds them whatever their spelling. -/
def json_keys_folded_statement : Prop :=
  ∀ (lower : String → String) (ms : List (String × AL.Json.JVal)) (k : String) (t : Ty),
    (∀ s, lower (lower s) = lower s) →
    AL.Json.typeOf lower (.obj ms) = .obj ((AL.Json.memberTys lower ms [])) none ∧
    ((k, t) ∈ AL.Json.memberTys lower ms [] → lower k = k)

/-! ### proofs -/

mutual
/-- after `toE` two `CaseEq` trees are equal up to the spelling of callees and of index literals -/
theorem spellEq_of_caseEq (lower : String → String) : ∀ {e e' : Parse.Expr}, CaseEq lower e e' →
    SpellEq lower (toE lower e) (toE lower e')
  | _, _, .null => .null
  | _, _, .bool _ => .bool
  | _, _, .int _ | _, _, .float _ _ => .num
  | _, _, .str _ => .str _
  | _, _, .var _ _ h => .var_of_eq h
  | _, _, .call _ _ _ _ hc has => .call _ _ _ _ hc (spellEqList_of_caseEqList lower has)
  | _, _, .objDeref _ _ _ _ hr hp => .objDeref_of_eq (spellEq_of_caseEq lower hr) hp
  | _, _, .arrDeref _ _ hr => .arrDeref _ _ (spellEq_of_caseEq lower hr)
  | _, _, .index _ _ _ _ hr hi => .index _ _ _ _ (spellEq_of_caseEq lower hr) (spellEq_of_caseEq lower hi)
  | _, _, .indexLit _ _ _ _ hr hv => .indexLit _ _ _ _ (spellEq_of_caseEq lower hr) hv
  | _, _, .not _ _ he => .not _ _ (spellEq_of_caseEq lower he)
  | _, _, .cmp _ _ _ _ _ hl hr => .cmp _ _ _ _ _ (spellEq_of_caseEq lower hl) (spellEq_of_caseEq lower hr)
  | _, _, .logical .and _ _ _ _ hl hr | _, _, .logical .or _ _ _ _ hl hr =>
    .logical _ _ _ _ _ (spellEq_of_caseEq lower hl) (spellEq_of_caseEq lower hr)
termination_by structural e _ _ => e
theorem spellEqList_of_caseEqList (lower : String → String) : ∀ {es es' : List Parse.Expr},
    CaseEqList lower es es' → SpellEqList lower (toEs lower es) (toEs lower es')
  | _, _, .nil => .nil
  | _, _, .cons _ _ _ _ he hes => .cons _ _ _ _ (spellEq_of_caseEq lower he) (spellEqList_of_caseEqList lower hes)
termination_by structural es _ _ => es
end

/-- (a); the idempotence hypothesis is not needed. -/
theorem check_case_insensitive : check_case_insensitive_statement := by
  intro Γ e e' _ h
  exact check_spell (spellEq_of_caseEq Γ.lower h)

theorem keywords_case_sensitive : keywords_case_sensitive_statement := by
  intro lower
  refine ⟨?_, by simp only [toE]⟩
  simp only [toE]
  congr

theorem json_keys_folded : json_keys_folded_statement := by
  intro lower ms k t hl
  refine ⟨by rw [AL.Json.typeOf], ?_⟩
  exact AL.Json.memberTys_keys lower hl ms [] (fun _ h => nomatch h) k t

/-! ### concrete instances -/

/-- a folding function on the handful of names of the example (idempotent by construction) -/
def exLower (s : String) : String :=
  if s = "GitHub" then "github" else if s = "Event" then "event" else if s = "Title" then "title"
  else if s = "ToJSON" then "tojson" else if s = "toJSON" then "tojson" else s

theorem exLower_idem (s : String) : exLower (exLower s) = exLower s := by
  by_cases h : s = "GitHub" ∨ s = "Event" ∨ s = "Title" ∨ s = "ToJSON" ∨ s = "toJSON"
  · rcases h with rfl | rfl | rfl | rfl | rfl <;> simp [exLower]
  · -- any other name is left alone
    have : exLower s = s := by
      simp only [not_or] at h
      simp only [exLower, h, if_false]
    rw [this, this]

def sy (s : String) : List Sym := s.toList.map fun c => ⟨c.toNat, 1, false⟩

def exΓ : Env :=
  { vars := [("github", .obj [("event", .obj [("number", .number)] none)] none)],
    funcs := AL.Gen.funcSigs, specialFuncs := AL.Gen.specialFuncs,
    availCtx := ["github"], availSpecial := [], configVars := none,
    lower := exLower, fromJson := fun _ => .otherErr }

/-- `ToJSON(GitHub.Event['Title'])` -/
def exE : Parse.Expr :=
  .call (sy "ToJSON") [.index (.objDeref (.var (sy "GitHub")) (sy "Event")) (.str (sy "Title"))]
/-- `toJSON(github.event['title'])` -/
def exE' : Parse.Expr :=
  .call (sy "toJSON") [.index (.objDeref (.var (sy "github")) (sy "event")) (.str (sy "title"))]

theorem exCaseEq : CaseEq exLower exE exE' :=
  .call _ _ _ _ (by decide +kernel)
    (.cons _ _ _ _
      (.indexLit _ _ _ _ (.objDeref _ _ _ _ (.var _ _ (by decide +kernel)) (by decide +kernel)) (by decide +kernel))
      .nil)

/-- both spellings report the same codes (here `prop-undefined`: `github.event` is strict and has no
`title`), the same type and the same events -/
example : codes (check exΓ (toE exLower exE)) = codes (check exΓ (toE exLower exE')) ∧
    (check exΓ (toE exLower exE)).ty = (check exΓ (toE exLower exE')).ty ∧
    (check exΓ (toE exLower exE)).evs = (check exΓ (toE exLower exE')).evs :=
  check_case_insensitive exΓ exE exE' exLower_idem exCaseEq

/-- (b) with a real folding function: `TRUE` becomes the variable `true`, never the literal -/
example : toE AL.Facts.lowerAscii (.var (sy "TRUE")) = .var "true" ∧ toE AL.Facts.lowerAscii (.bool true) = .bool := by
  refine ⟨?_, by simp only [toE]⟩
  simp only [toE]
  congr 1

/-- (c) `{"Name": 1, "NAME": "x"}`: one property `name` (the greater original key `Name` wins) -/
example : (AL.Json.memberTys AL.Facts.lowerAscii [("NAME", .str), ("Name", .num)] []).map
    (fun p => (p.1, tyStr p.2)) = [("name", "number")] := by
  decide +kernel

end AL.C08
