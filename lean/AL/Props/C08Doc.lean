import AL.Lemmas.C08DExpr
import AL.Lemmas.C08DPath2
import AL.Props.C13Doc3
import AL.Props.C09Rules
/-
  C08 at the level of the DOCUMENT: "changing the letter case of a name at its definition or at any of its uses does not
  change which diagnostics are reported, only the spelling echoed in messages" — composing the parser (`AL.PW.parse`), the
  rules (`AL.Rules.rules`), the expression rule (`AL.RuleExpr.rule`) and the tail of `Linter.check` (`AL.Rules.lint`).

  * `KeyRecased f n n'` (AL/Lemmas/C08DBase): the same node — kind, tag, text, position, and the same values (as
    `pairs n.content`, all that `parseMapping` reads) — except that the KEY scalars of the mapping `n` may be spelled
    differently, each still the same name (`SameName f`: equal folds, both or neither empty). `KeyAlike f v v'`: one scalar
    re-spelled (the VALUE of `id:`, an entry of `needs:`).
  * the AST "up to the spelling of names": `nWf F` (AL/Lemmas/C08DNorm) folds the NAME string of every entry of a
    case-insensitive mapping and every id, one fold per kind of name (`Folds`; the identity fold = that kind of name is
    compared as written). Two ASTs with the same `nWf F` have the same ids (the parser's folded keys), the same positions
    and the same values everywhere.
  * `Sim N r r'`: results equal after `N`, diagnostics at the same sites with the same codes in the same order.

  1. PARSER, per section (AL/Lemmas/C08DSect; the path to a section: C08DPath, C08DPath2): `parseEnv_recase`,
     `stepWith_recase`, `callArgs_recase`,
     `parseOutputs_recase`, `parseServices_recase`, `parseMatrix_recase`, `matrixCombos_recase`, `callEventKey_recase`,
     `dispatchInputs_recase`, `parseJobs_recase`; here, lifted to the whole document (`Cong`, the relational counterpart of
     `AL.C13D3.Path`): `step_with_keys_in_document`, `step_id_in_document`, `step_env_keys_in_document`,
     `job_with_keys_in_document`, `job_secrets_keys_in_document`, `job_outputs_keys_in_document`, `job_env_keys_in_document`,
     `job_services_keys_in_document`, `job_needs_in_document`, `job_ids_in_document`, `workflow_env_keys_in_document`,
     `matrix_row_keys_in_document`, `call_names_in_document`, `dispatch_names_in_document`.
  2. RULES: `rules_in_document` (every rule of `AL.Rules.rules` gives the same sites and codes on an AST and on its normal
     form: `AL.C08D.rules_n`).
  3. `lint`: `lint_in_document` (`stableSort_sig`: the stable sort by position sees sites only).
  4. EXPRESSION RULE: `ruleExpr_in_document` (literally the same diagnostics).
  End to end (`SameReports`: parser, rules, sorted output): `step_with_keys`, `step_id`, `job_ids`, `job_needs`, `job_with_keys`,
  `job_secrets_keys`, `job_outputs_keys`, `job_services_keys`, `matrix_row_keys`, `call_names`, `dispatch_names`; expression rule:
  `step_with_keys_expr`, `job_with_keys_expr`, `job_secrets_keys_expr`, `job_outputs_keys_expr`, `job_services_keys_expr`,
  `step_id_expr_partial` (ids without placeholders).
  Not covered: the names of environment variables beyond the parser (rule_env_var.go and the expression rule read them as
  written: the theorems take `F.env = id`); under the expression rule (not part of `AL.Rules.lint`, hence not of
  `SameReports`) job ids, entries of `needs:`, matrix rows, names declared by `workflow_call` / `workflow_dispatch`
  (`ruleExpr_in_document` wants the identity fold there); the keys of the elements of `matrix.include` and of `env:` of
  containers beyond their sections.
-/
namespace AL.C08D
open AL.PW AL.Yaml AL.Ast AL.C13P AL.C13D AL.C13D3

/-! ## 1. the parser, on the whole document -/

section
variable (F : Folds) (cfg : Cfg) (mW mJ mK mP : MapCtx) (sS : SeqCtx)

/-- document → `jobs:` → one job -/
theorem cong_job (hW : mW.Keyed cfg "jobs") (hJ : mJ.Free cfg) :
    Cong (parse cfg) (fun v => docNode (mW.at (mJ.at v))) (nWf F) (SimRel (parseJob cfg (parseString mJ.key false).1) (nJob F)) :=
  ((c_root F cfg).trans (c_wf_jobs F cfg mW hW)).trans (c_jobs_job F cfg mJ hJ)

/-- document → job → `steps:` → one step -/
theorem cong_step (hW : mW.Keyed cfg "jobs") (hJ : mJ.Free cfg) (hK : mK.Keyed cfg "steps") :
    Cong (parse cfg) (fun v => docNode (mW.at (mJ.at (mK.at (sS.at v))))) (nWf F) (SimRel (parseStep cfg) (nStep F)) :=
  ((cong_job F cfg mW mJ hW hJ).trans (c_job_steps F cfg _ mK hK)).trans (c_steps_step F cfg sS)

/-- **the keys of `with:` of a step**, anywhere in a document -/
theorem step_with_keys_in_document (hf : ∀ a b, F.input a = F.input b → cfg.lower a = cfg.lower b)
    (hW : mW.Keyed cfg "jobs") (hJ : mJ.Free cfg) (hK : mK.Keyed cfg "steps") (hP : mP.Keyed cfg "with")
    {v v' : Node} (h : KeyRecased F.input v v') :
    Sim (nWf F) (parse cfg (docNode (mW.at (mJ.at (mK.at (sS.at (mP.at v)))))))
      (parse cfg (docNode (mW.at (mJ.at (mK.at (sS.at (mP.at v'))))))) :=
  ((cong_step F cfg mW mJ mK sS hW hJ hK).trans (c_step_with F cfg mP hP hf)) v v' h

/-- **the value of `id:` of a step** -/
theorem step_id_in_document (hW : mW.Keyed cfg "jobs") (hJ : mJ.Free cfg) (hK : mK.Keyed cfg "steps") (hP : mP.Keyed cfg "id")
    {v v' : Node} (h : KeyAlike F.stepId v v') :
    Sim (nWf F) (parse cfg (docNode (mW.at (mJ.at (mK.at (sS.at (mP.at v)))))))
      (parse cfg (docNode (mW.at (mJ.at (mK.at (sS.at (mP.at v'))))))) :=
  ((cong_step F cfg mW mJ mK sS hW hJ hK).trans (c_step_id F cfg mP hP)) v v' h

/-- **the keys of `env:` of a step** -/
theorem step_env_keys_in_document (hf : ∀ a b, F.env a = F.env b → cfg.lower a = cfg.lower b)
    (hW : mW.Keyed cfg "jobs") (hJ : mJ.Free cfg) (hK : mK.Keyed cfg "steps") (hP : mP.Keyed cfg "env")
    {v v' : Node} (h : KeyRecased F.env v v') :
    Sim (nWf F) (parse cfg (docNode (mW.at (mJ.at (mK.at (sS.at (mP.at v)))))))
      (parse cfg (docNode (mW.at (mJ.at (mK.at (sS.at (mP.at v'))))))) :=
  ((cong_step F cfg mW mJ mK sS hW hJ hK).trans (c_step_env F cfg mP hP)) v v' (parseEnv_recase hf h)

/-- **the keys of `with:` of a job that calls a reusable workflow** -/
theorem job_with_keys_in_document (hf : ∀ a b, F.arg a = F.arg b → cfg.lower a = cfg.lower b)
    (hW : mW.Keyed cfg "jobs") (hJ : mJ.Free cfg) (hK : mK.Keyed cfg "with") {v v' : Node} (h : KeyRecased F.arg v v') :
    Sim (nWf F) (parse cfg (docNode (mW.at (mJ.at (mK.at v))))) (parse cfg (docNode (mW.at (mJ.at (mK.at v'))))) :=
  ((cong_job F cfg mW mJ hW hJ).trans (c_job_with F cfg _ mK hK hf)) v v' h

/-- **the keys of `secrets:` of a job that calls a reusable workflow** -/
theorem job_secrets_keys_in_document (hf : ∀ a b, F.arg a = F.arg b → cfg.lower a = cfg.lower b)
    (hW : mW.Keyed cfg "jobs") (hJ : mJ.Free cfg) (hK : mK.Keyed cfg "secrets") {v v' : Node} (h : KeyRecased F.arg v v') :
    Sim (nWf F) (parse cfg (docNode (mW.at (mJ.at (mK.at v))))) (parse cfg (docNode (mW.at (mJ.at (mK.at v'))))) :=
  ((cong_job F cfg mW mJ hW hJ).trans (c_job_secrets F cfg _ mK hK hf)) v v' h

/-- **the keys of `outputs:` of a job** -/
theorem job_outputs_keys_in_document (hf : ∀ a b, F.output a = F.output b → cfg.lower a = cfg.lower b)
    (hW : mW.Keyed cfg "jobs") (hJ : mJ.Free cfg) (hK : mK.Keyed cfg "outputs") {v v' : Node} (h : KeyRecased F.output v v') :
    Sim (nWf F) (parse cfg (docNode (mW.at (mJ.at (mK.at v))))) (parse cfg (docNode (mW.at (mJ.at (mK.at v'))))) :=
  ((cong_job F cfg mW mJ hW hJ).trans (c_job_outputs F cfg _ mK hK)) v v' (parseOutputs_recase hf h)

/-- **the keys of `env:` of a job** -/
theorem job_env_keys_in_document (hf : ∀ a b, F.env a = F.env b → cfg.lower a = cfg.lower b)
    (hW : mW.Keyed cfg "jobs") (hJ : mJ.Free cfg) (hK : mK.Keyed cfg "env") {v v' : Node} (h : KeyRecased F.env v v') :
    Sim (nWf F) (parse cfg (docNode (mW.at (mJ.at (mK.at v))))) (parse cfg (docNode (mW.at (mJ.at (mK.at v'))))) :=
  ((cong_job F cfg mW mJ hW hJ).trans (c_job_env F cfg _ mK hK)) v v' (parseEnv_recase hf h)

/-- **the keys of `services:`** -/
theorem job_services_keys_in_document (hf : ∀ a b, F.service a = F.service b → cfg.lower a = cfg.lower b)
    (hW : mW.Keyed cfg "jobs") (hJ : mJ.Free cfg) (hK : mK.Keyed cfg "services") {v v' : Node} (h : KeyRecased F.service v v') :
    Sim (nWf F) (parse cfg (docNode (mW.at (mJ.at (mK.at v))))) (parse cfg (docNode (mW.at (mJ.at (mK.at v'))))) :=
  ((cong_job F cfg mW mJ hW hJ).trans (c_job_services F cfg _ mK hK)) v v' (parseServices_recase F hf h)

/-- **the entries of `needs:`** (uses of job ids) -/
theorem job_needs_in_document (hW : mW.Keyed cfg "jobs") (hJ : mJ.Free cfg) (hK : mK.Keyed cfg "needs") {v v' : Node}
    (h : NeedsRecased F.jobId v v') :
    Sim (nWf F) (parse cfg (docNode (mW.at (mJ.at (mK.at v))))) (parse cfg (docNode (mW.at (mJ.at (mK.at v'))))) :=
  ((cong_job F cfg mW mJ hW hJ).trans (c_job_needs F cfg _ mK hK)) v v' h

/-- **job ids**: the keys of `jobs:` (definitions of job ids) -/
theorem job_ids_in_document (hf : ∀ a b, F.jobId a = F.jobId b → cfg.lower a = cfg.lower b) (hW : mW.Keyed cfg "jobs")
    {v v' : Node} (h : KeyRecased F.jobId v v') :
    Sim (nWf F) (parse cfg (docNode (mW.at v))) (parse cfg (docNode (mW.at v'))) :=
  ((c_root F cfg).trans (c_wf_jobs F cfg mW hW)) v v' (parseJobs_recase F cfg hf h)

/-- **the keys of `env:` of the workflow** -/
theorem workflow_env_keys_in_document (hf : ∀ a b, F.env a = F.env b → cfg.lower a = cfg.lower b) (hW : mW.Keyed cfg "env")
    {v v' : Node} (h : KeyRecased F.env v v') :
    Sim (nWf F) (parse cfg (docNode (mW.at v))) (parse cfg (docNode (mW.at v'))) :=
  ((c_root F cfg).trans (c_wf_env F cfg mW hW)) v v' (parseEnv_recase hf h)

/-- **the names of the rows of `matrix:`** (`jobs.<id>.strategy.matrix`) -/
theorem matrix_row_keys_in_document (hf : ∀ a b, F.matrix a = F.matrix b → cfg.lower a = cfg.lower b)
    (hW : mW.Keyed cfg "jobs") (hJ : mJ.Free cfg) (hK : mK.Keyed cfg "strategy") (hP : mP.Keyed cfg "matrix")
    {v v' : Node} (h : KeyRecased F.matrix v v') :
    Sim (nWf F) (parse cfg (docNode (mW.at (mJ.at (mK.at (mP.at v)))))) (parse cfg (docNode (mW.at (mJ.at (mK.at (mP.at v')))))) :=
  (((cong_job F cfg mW mJ hW hJ).trans (c_job_strategy F cfg _ mK hK)).trans (c_strategy_matrix F cfg _ mP hP hf)) v v' h

/-- **the declared names of `workflow_call`**: the keys of `on.workflow_call.inputs` / `.secrets` / `.outputs`
(stated for any key `name` of `workflow_call`) -/
theorem call_names_in_document (hf : ∀ a b, F.event a = F.event b → cfg.lower a = cfg.lower b) (name : String)
    (hW : mW.Keyed cfg "on") (hJ : mJ.Keyed cfg "workflow_call") (hK : mK.Keyed cfg name) {v v' : Node} (h : KeyRecased F.event v v') :
    Sim (nWf F) (parse cfg (docNode (mW.at (mJ.at (mK.at v))))) (parse cfg (docNode (mW.at (mJ.at (mK.at v'))))) :=
  ((((c_root F cfg).trans (c_wf_on F cfg mW hW)).trans (c_on_call F cfg _ mJ hJ)).trans
    (c_call_section cfg F.event hf _ mK name hK)) v v' h

/-- **the declared names of `workflow_dispatch`**: the keys of `on.workflow_dispatch.inputs` -/
theorem dispatch_names_in_document (hf : ∀ a b, F.event a = F.event b → cfg.lower a = cfg.lower b)
    (hW : mW.Keyed cfg "on") (hJ : mJ.Keyed cfg "workflow_dispatch") (hK : mK.Keyed cfg "inputs") {v v' : Node} (h : KeyRecased F.event v v') :
    Sim (nWf F) (parse cfg (docNode (mW.at (mJ.at (mK.at v))))) (parse cfg (docNode (mW.at (mJ.at (mK.at v'))))) :=
  ((((c_root F cfg).trans (c_wf_on F cfg mW hW)).trans (c_on_dispatch F cfg _ mJ hJ)).trans
    (c_dispatch_inputs cfg F.event hf _ mK hK)) v v' h

end

/-! ## 2. – 4. the rules, `lint`, the expression rule -/

section
open AL.Rules AL.C08R

/-- `ByErrorPosition.Less` on sites -/
def lessK (a b : Rules.Pos × String) : Bool := if a.1.line = b.1.line then a.1.col < b.1.col else a.1.line < b.1.line

def insertK (x : Rules.Pos × String) : List (Rules.Pos × String) → List (Rules.Pos × String)
  | [] => [x]
  | y :: ys => if lessK x y then x :: y :: ys else y :: insertK x ys

/-- the stable sort of `Linter.check`, on sites and codes -/
def sortK (l : List (Rules.Pos × String)) : List (Rules.Pos × String) := l.foldl (fun acc x => insertK x acc) []

theorem insK : AL.Order.Insert lessK insertK := ⟨fun _ => rfl, fun _ _ _ => rfl⟩

theorem insertStable_sig (x : Diag) : ∀ l : List Diag, (insertStable x l).map sig = insertK (sig x) (l.map sig) :=
  fun l => (AL.C09R.sortR.ins_map insK sig x l fun _ _ => rfl).symm

/-- **the stable sort by position sees sites only**: the sites-and-codes of the sorted list are the sorted sites-and-codes -/
theorem stableSort_sig (l : List Diag) : (stableSort l).map sig = sortK (l.map sig) :=
  (AL.C09R.sortR.foldl_map insK sig l [] fun _ _ _ _ => rfl).symm

variable (F : Folds) (cfg : Cfg) (isNum urlOk : String → Bool) (lc : LabelCfg)

/-- **2. the rules**: two documents whose ASTs differ in the spelling of names only are reported at the same sites with the
same codes by every rule of `AL.Rules.rules` — provided the names of environment variables are kept as written and the ids
are folded in a way that keeps what the naming convention reads (`IdFold`) -/
theorem rules_in_document (hE : F.env = id) (hs : IdFold cfg.lower F.stepId) (hj : IdFold cfg.lower F.jobId) {doc doc' : Node}
    (h : Sim (nWf F) (parse cfg doc) (parse cfg doc')) :
    (rules cfg.lower isNum urlOk (parse cfg doc).1 lc).map sig = (rules cfg.lower isNum urlOk (parse cfg doc').1 lc).map sig :=
  rules_recase F isNum urlOk lc hE hs hj _ _ h.1

/-- **3. `lint`**: … and so is `AL.Rules.lint`: what the parser and these rules report, stably sorted by position -/
theorem lint_in_document (hE : F.env = id) (hs : IdFold cfg.lower F.stepId) (hj : IdFold cfg.lower F.jobId) {doc doc' : Node}
    (h : Sim (nWf F) (parse cfg doc) (parse cfg doc')) :
    (lint cfg isNum urlOk doc lc).map sig = (lint cfg isNum urlOk doc' lc).map sig := by
  have hp : ((parse cfg doc).2.map ofPErr).map sig = ((parse cfg doc').2.map ofPErr).map sig := by
    have := h.2
    simp only [SameSites] at this
    simp only [List.map_map]
    exact this
  simp only [lint, stableSort_sig, List.map_append, hp, rules_in_document F cfg isNum urlOk lc hE hs hj h]

/-- **4. the expression rule**: literally the same diagnostics, when only names the rule never reads were re-spelled (keys of
`with:` of a step or a call, of `secrets:`, of `outputs:` of a job, of `services:`) or step ids that hold no placeholder -/
theorem ruleExpr_in_document (hE : F.env = id) (hJ : F.jobId = id) (hM : F.matrix = id) (hV : F.event = id)
    (hs : IdFold cfg.lower F.stepId) (proj : AL.RuleExpr.ProjView) {doc doc' : Node}
    (h : Sim (nWf F) (parse cfg doc) (parse cfg doc'))
    (hi : IdsOk F.stepId (parse cfg doc).1) (hi' : IdsOk F.stepId (parse cfg doc').1) :
    AL.RuleExpr.rule cfg.lower isNum (parse cfg doc).1 proj = AL.RuleExpr.rule cfg.lower isNum (parse cfg doc').1 proj := by
  have e := nWf_EF F hE hJ hM hV
  have h1 := ruleExpr_n F cfg.lower hs isNum proj _ hi
  have h2 := ruleExpr_n F cfg.lower hs isNum proj _ hi'
  rw [e] at h1 h2
  rw [← h1, ← h2, h.1]

end

/-! ## end to end, name by name -/

section
open AL.Rules AL.C08R
variable (cfg : Cfg) (isNum urlOk : String → Bool) (lc : LabelCfg) (mW mJ mK mP : MapCtx) (sS : SeqCtx)

/-- **what the property asks of two documents**: the parser, the rules of `AL.Rules.rules` and `AL.Rules.lint` (the two, stably
sorted) report at the same sites with the same codes. The expression rule is not in `lint`: see the `_expr` theorems. -/
structure SameReports (doc doc' : Node) : Prop where
  parser : SameSites (parse cfg doc).2 (parse cfg doc').2
  rules : (rules cfg.lower isNum urlOk (parse cfg doc).1 lc).map sig = (rules cfg.lower isNum urlOk (parse cfg doc').1 lc).map sig
  lint : (lint cfg isNum urlOk doc lc).map sig = (lint cfg isNum urlOk doc' lc).map sig

theorem SameReports.refl (doc : Node) : SameReports cfg isNum urlOk lc doc doc := ⟨rfl, rfl, rfl⟩

theorem SameReports.symm {doc doc' : Node} (h : SameReports cfg isNum urlOk lc doc doc') : SameReports cfg isNum urlOk lc doc' doc :=
  ⟨h.parser.symm, h.rules.symm, h.lint.symm⟩

/-- re-casing a name at its definition AND at its uses: one step after the other -/
theorem SameReports.trans {a b c : Node} (h : SameReports cfg isNum urlOk lc a b) (h' : SameReports cfg isNum urlOk lc b c) :
    SameReports cfg isNum urlOk lc a c :=
  ⟨h.parser.trans h'.parser, h.rules.trans h'.rules, h.lint.trans h'.lint⟩

theorem SameReports.of_sim (F : Folds) (hE : F.env = id) (hs : IdFold cfg.lower F.stepId) (hj : IdFold cfg.lower F.jobId) {doc doc' : Node}
    (h : Sim (nWf F) (parse cfg doc) (parse cfg doc')) : SameReports cfg isNum urlOk lc doc doc' :=
  ⟨h.2, rules_in_document F cfg isNum urlOk lc hE hs hj h, lint_in_document F cfg isNum urlOk lc hE hs hj h⟩

/-- **a key of `with:` of an action step**: re-spelling the keys of `with:` (any number of them) of any step of any job,
`lower` of each key unchanged, changes neither the sites nor the codes of what is reported -/
theorem step_with_keys (hW : mW.Keyed cfg "jobs") (hJ : mJ.Free cfg) (hK : mK.Keyed cfg "steps") (hP : mP.Keyed cfg "with")
    {v v' : Node} (h : KeyRecased cfg.lower v v') :
    SameReports cfg isNum urlOk lc (docNode (mW.at (mJ.at (mK.at (sS.at (mP.at v))))))
      (docNode (mW.at (mJ.at (mK.at (sS.at (mP.at v')))))) :=
  SameReports.of_sim cfg isNum urlOk lc { input := cfg.lower } rfl (IdFold.id _) (IdFold.id _)
    (step_with_keys_in_document { input := cfg.lower } cfg mW mJ mK mP sS (fun _ _ e => e) hW hJ hK hP h)

/-- … and the expression rule reports literally the same -/
theorem step_with_keys_expr (proj : AL.RuleExpr.ProjView) (hW : mW.Keyed cfg "jobs") (hJ : mJ.Free cfg) (hK : mK.Keyed cfg "steps")
    (hP : mP.Keyed cfg "with") {v v' : Node} (h : KeyRecased cfg.lower v v') :
    AL.RuleExpr.rule cfg.lower isNum (parse cfg (docNode (mW.at (mJ.at (mK.at (sS.at (mP.at v))))))).1 proj =
      AL.RuleExpr.rule cfg.lower isNum (parse cfg (docNode (mW.at (mJ.at (mK.at (sS.at (mP.at v'))))))).1 proj :=
  ruleExpr_in_document { input := cfg.lower } cfg isNum rfl rfl rfl rfl (IdFold.id _) proj
    (step_with_keys_in_document { input := cfg.lower } cfg mW mJ mK mP sS (fun _ _ e => e) hW hJ hK hP h) (IdsOk.id _) (IdsOk.id _)

/-- **the value of `id:` of a step**, re-cased (ASCII letters; `lower` must not tell `X` from `x`) -/
theorem step_id (hl : ∀ a, cfg.lower (asciiLower a) = cfg.lower a)
    (hW : mW.Keyed cfg "jobs") (hJ : mJ.Free cfg) (hK : mK.Keyed cfg "steps") (hP : mP.Keyed cfg "id")
    {v v' : Node} (h : KeyAlike asciiLower v v') :
    SameReports cfg isNum urlOk lc (docNode (mW.at (mJ.at (mK.at (sS.at (mP.at v))))))
      (docNode (mW.at (mJ.at (mK.at (sS.at (mP.at v')))))) :=
  SameReports.of_sim cfg isNum urlOk lc { stepId := asciiLower } rfl (IdFold.ascii hl) (IdFold.id _)
    (step_id_in_document { stepId := asciiLower } cfg mW mJ mK mP sS hW hJ hK hP h)

/-
  Left out for the expression rule: a step id that holds a placeholder (hence the `StaticIds` hypothesis). Such an id is
  itself checked as an expression (`VisitStep`: `checkString(n.ID)`), so re-casing it re-cases an expression; that case
  needs the case-insensitivity of the expression checker (`AL.C08R.checkParsed_case_insensitive`) carried through the lexer.
-/
/-- … and the expression rule reports literally the same, when no step id of the workflow holds a placeholder (partial: see
the comment above) -/
theorem step_id_expr_partial (proj : AL.RuleExpr.ProjView) (hl : ∀ a, cfg.lower (asciiLower a) = cfg.lower a)
    (hW : mW.Keyed cfg "jobs") (hJ : mJ.Free cfg) (hK : mK.Keyed cfg "steps") (hP : mP.Keyed cfg "id")
    {v v' : Node} (h : KeyAlike asciiLower v v')
    (hst : StaticIds (parse cfg (docNode (mW.at (mJ.at (mK.at (sS.at (mP.at v))))))).1) :
    AL.RuleExpr.rule cfg.lower isNum (parse cfg (docNode (mW.at (mJ.at (mK.at (sS.at (mP.at v))))))).1 proj =
      AL.RuleExpr.rule cfg.lower isNum (parse cfg (docNode (mW.at (mJ.at (mK.at (sS.at (mP.at v'))))))).1 proj := by
  have hsim := step_id_in_document { stepId := asciiLower } cfg mW mJ mK mP sS hW hJ hK hP h
  exact ruleExpr_in_document { stepId := asciiLower } cfg isNum rfl rfl rfl rfl (IdFold.ascii hl) proj hsim
    (hst.idsOk _) ((hst.transfer { stepId := asciiLower } (IdFold.ascii hl) hsim.1).idsOk _)

/-- **job ids at their definition**: the keys of `jobs:` re-cased (any number of them) -/
theorem job_ids (hl : ∀ a, cfg.lower (asciiLower a) = cfg.lower a) (hW : mW.Keyed cfg "jobs") {v v' : Node}
    (h : KeyRecased asciiLower v v') :
    SameReports cfg isNum urlOk lc (docNode (mW.at v)) (docNode (mW.at v')) :=
  SameReports.of_sim cfg isNum urlOk lc { jobId := asciiLower } rfl (IdFold.id _) (IdFold.ascii hl)
    (job_ids_in_document { jobId := asciiLower } cfg mW (fun a b e => by
      have e' : asciiLower a = asciiLower b := e
      rw [← hl a, ← hl b, e']) hW h)

/-- **job ids at their uses**: the entries of `needs:` of a job re-cased -/
theorem job_needs (hl : ∀ a, cfg.lower (asciiLower a) = cfg.lower a) (hW : mW.Keyed cfg "jobs") (hJ : mJ.Free cfg)
    (hK : mK.Keyed cfg "needs") {v v' : Node} (h : NeedsRecased asciiLower v v') :
    SameReports cfg isNum urlOk lc (docNode (mW.at (mJ.at (mK.at v)))) (docNode (mW.at (mJ.at (mK.at v')))) :=
  SameReports.of_sim cfg isNum urlOk lc { jobId := asciiLower } rfl (IdFold.id _) (IdFold.ascii hl)
    (job_needs_in_document { jobId := asciiLower } cfg mW mJ mK hW hJ hK h)

/-- **a key of `with:` of a job that calls a reusable workflow** -/
theorem job_with_keys (hW : mW.Keyed cfg "jobs") (hJ : mJ.Free cfg) (hK : mK.Keyed cfg "with") {v v' : Node}
    (h : KeyRecased cfg.lower v v') :
    SameReports cfg isNum urlOk lc (docNode (mW.at (mJ.at (mK.at v)))) (docNode (mW.at (mJ.at (mK.at v')))) :=
  SameReports.of_sim cfg isNum urlOk lc { arg := cfg.lower } rfl (IdFold.id _) (IdFold.id _)
    (job_with_keys_in_document { arg := cfg.lower } cfg mW mJ mK (fun _ _ e => e) hW hJ hK h)

theorem job_with_keys_expr (proj : AL.RuleExpr.ProjView) (hW : mW.Keyed cfg "jobs") (hJ : mJ.Free cfg) (hK : mK.Keyed cfg "with")
    {v v' : Node} (h : KeyRecased cfg.lower v v') :
    AL.RuleExpr.rule cfg.lower isNum (parse cfg (docNode (mW.at (mJ.at (mK.at v))))).1 proj =
      AL.RuleExpr.rule cfg.lower isNum (parse cfg (docNode (mW.at (mJ.at (mK.at v'))))).1 proj :=
  ruleExpr_in_document { arg := cfg.lower } cfg isNum rfl rfl rfl rfl (IdFold.id _) proj
    (job_with_keys_in_document { arg := cfg.lower } cfg mW mJ mK (fun _ _ e => e) hW hJ hK h) (IdsOk.id _) (IdsOk.id _)

/-- **a key of `secrets:` of a job that calls a reusable workflow** -/
theorem job_secrets_keys (hW : mW.Keyed cfg "jobs") (hJ : mJ.Free cfg) (hK : mK.Keyed cfg "secrets") {v v' : Node}
    (h : KeyRecased cfg.lower v v') :
    SameReports cfg isNum urlOk lc (docNode (mW.at (mJ.at (mK.at v)))) (docNode (mW.at (mJ.at (mK.at v')))) :=
  SameReports.of_sim cfg isNum urlOk lc { arg := cfg.lower } rfl (IdFold.id _) (IdFold.id _)
    (job_secrets_keys_in_document { arg := cfg.lower } cfg mW mJ mK (fun _ _ e => e) hW hJ hK h)

theorem job_secrets_keys_expr (proj : AL.RuleExpr.ProjView) (hW : mW.Keyed cfg "jobs") (hJ : mJ.Free cfg) (hK : mK.Keyed cfg "secrets")
    {v v' : Node} (h : KeyRecased cfg.lower v v') :
    AL.RuleExpr.rule cfg.lower isNum (parse cfg (docNode (mW.at (mJ.at (mK.at v))))).1 proj =
      AL.RuleExpr.rule cfg.lower isNum (parse cfg (docNode (mW.at (mJ.at (mK.at v'))))).1 proj :=
  ruleExpr_in_document { arg := cfg.lower } cfg isNum rfl rfl rfl rfl (IdFold.id _) proj
    (job_secrets_keys_in_document { arg := cfg.lower } cfg mW mJ mK (fun _ _ e => e) hW hJ hK h) (IdsOk.id _) (IdsOk.id _)

/-- **a key of `outputs:` of a job** -/
theorem job_outputs_keys (hW : mW.Keyed cfg "jobs") (hJ : mJ.Free cfg) (hK : mK.Keyed cfg "outputs") {v v' : Node}
    (h : KeyRecased cfg.lower v v') :
    SameReports cfg isNum urlOk lc (docNode (mW.at (mJ.at (mK.at v)))) (docNode (mW.at (mJ.at (mK.at v')))) :=
  SameReports.of_sim cfg isNum urlOk lc { output := cfg.lower } rfl (IdFold.id _) (IdFold.id _)
    (job_outputs_keys_in_document { output := cfg.lower } cfg mW mJ mK (fun _ _ e => e) hW hJ hK h)

theorem job_outputs_keys_expr (proj : AL.RuleExpr.ProjView) (hW : mW.Keyed cfg "jobs") (hJ : mJ.Free cfg) (hK : mK.Keyed cfg "outputs")
    {v v' : Node} (h : KeyRecased cfg.lower v v') :
    AL.RuleExpr.rule cfg.lower isNum (parse cfg (docNode (mW.at (mJ.at (mK.at v))))).1 proj =
      AL.RuleExpr.rule cfg.lower isNum (parse cfg (docNode (mW.at (mJ.at (mK.at v'))))).1 proj :=
  ruleExpr_in_document { output := cfg.lower } cfg isNum rfl rfl rfl rfl (IdFold.id _) proj
    (job_outputs_keys_in_document { output := cfg.lower } cfg mW mJ mK (fun _ _ e => e) hW hJ hK h) (IdsOk.id _) (IdsOk.id _)

/-- **a key of `services:`** -/
theorem job_services_keys (hW : mW.Keyed cfg "jobs") (hJ : mJ.Free cfg) (hK : mK.Keyed cfg "services") {v v' : Node}
    (h : KeyRecased cfg.lower v v') :
    SameReports cfg isNum urlOk lc (docNode (mW.at (mJ.at (mK.at v)))) (docNode (mW.at (mJ.at (mK.at v')))) :=
  SameReports.of_sim cfg isNum urlOk lc { service := cfg.lower } rfl (IdFold.id _) (IdFold.id _)
    (job_services_keys_in_document { service := cfg.lower } cfg mW mJ mK (fun _ _ e => e) hW hJ hK h)

theorem job_services_keys_expr (proj : AL.RuleExpr.ProjView) (hW : mW.Keyed cfg "jobs") (hJ : mJ.Free cfg) (hK : mK.Keyed cfg "services")
    {v v' : Node} (h : KeyRecased cfg.lower v v') :
    AL.RuleExpr.rule cfg.lower isNum (parse cfg (docNode (mW.at (mJ.at (mK.at v))))).1 proj =
      AL.RuleExpr.rule cfg.lower isNum (parse cfg (docNode (mW.at (mJ.at (mK.at v'))))).1 proj :=
  ruleExpr_in_document { service := cfg.lower } cfg isNum rfl rfl rfl rfl (IdFold.id _) proj
    (job_services_keys_in_document { service := cfg.lower } cfg mW mJ mK (fun _ _ e => e) hW hJ hK h) (IdsOk.id _) (IdsOk.id _)

/-- **the name of a row of `matrix:`** -/
theorem matrix_row_keys (hW : mW.Keyed cfg "jobs") (hJ : mJ.Free cfg) (hK : mK.Keyed cfg "strategy") (hP : mP.Keyed cfg "matrix")
    {v v' : Node} (h : KeyRecased cfg.lower v v') :
    SameReports cfg isNum urlOk lc (docNode (mW.at (mJ.at (mK.at (mP.at v))))) (docNode (mW.at (mJ.at (mK.at (mP.at v'))))) :=
  SameReports.of_sim cfg isNum urlOk lc { matrix := cfg.lower } rfl (IdFold.id _) (IdFold.id _)
    (matrix_row_keys_in_document { matrix := cfg.lower } cfg mW mJ mK mP (fun _ _ e => e) hW hJ hK hP h)

/-- **a declared input / secret / output of `workflow_call`** -/
theorem call_names (name : String) (hW : mW.Keyed cfg "on") (hJ : mJ.Keyed cfg "workflow_call") (hK : mK.Keyed cfg name)
    {v v' : Node} (h : KeyRecased cfg.lower v v') :
    SameReports cfg isNum urlOk lc (docNode (mW.at (mJ.at (mK.at v)))) (docNode (mW.at (mJ.at (mK.at v')))) :=
  SameReports.of_sim cfg isNum urlOk lc { event := cfg.lower } rfl (IdFold.id _) (IdFold.id _)
    (call_names_in_document { event := cfg.lower } cfg mW mJ mK (fun _ _ e => e) name hW hJ hK h)

/-- **a declared input of `workflow_dispatch`** -/
theorem dispatch_names (hW : mW.Keyed cfg "on") (hJ : mJ.Keyed cfg "workflow_dispatch") (hK : mK.Keyed cfg "inputs")
    {v v' : Node} (h : KeyRecased cfg.lower v v') :
    SameReports cfg isNum urlOk lc (docNode (mW.at (mJ.at (mK.at v)))) (docNode (mW.at (mJ.at (mK.at v')))) :=
  SameReports.of_sim cfg isNum urlOk lc { event := cfg.lower } rfl (IdFold.id _) (IdFold.id _)
    (dispatch_names_in_document { event := cfg.lower } cfg mW mJ mK (fun _ _ e => e) hW hJ hK h)

end

/-! ## the hypotheses are satisfiable: concrete documents -/

section examples
open AL.Rules AL.C08R

theorem exJobs_free : exJobs.Free exCfg := by decide
theorem exStepKey_with : (exStepKey "with").Keyed exCfg "with" := keyed (by decide) (by decide)
theorem exStepKey_env : (exStepKey "env").Keyed exCfg "env" := keyed (by decide) (by decide)
theorem exJobKey_env : (exJobKey "env").Keyed exCfg "env" := keyed (by decide) (by decide)
theorem exRootKey_env : (exRootKey "env").Keyed exCfg "env" := keyed (by decide) (by decide)
theorem exCallKey_with : (exCallKey "with").Keyed exCfg "with" := keyed (by decide) (by decide)
theorem exCallKey_secrets : (exCallKey "secrets").Keyed exCfg "secrets" := keyed (by decide) (by decide)
theorem exJobKey_outputs : (exJobKey "outputs").Keyed exCfg "outputs" := keyed (by decide) (by decide)
theorem exJobKey_services : (exJobKey "services").Keyed exCfg "services" := keyed (by decide) (by decide)
theorem exJobKey_strategy : (exJobKey "strategy").Keyed exCfg "strategy" := keyed (by decide) (by decide)
theorem exOnly_matrix : (exOnly "matrix" 9 7).Keyed exCfg "matrix" := keyed (by decide) (by decide)
theorem exOnly_workflow_call : (exOnly "workflow_call" 2 3).Keyed exCfg "workflow_call" := keyed (by decide) (by decide)
theorem exOnly_inputs : (exOnly "inputs" 3 5).Keyed exCfg "inputs" := keyed (by decide) (by decide)
theorem exOnly_secrets : (exOnly "secrets" 3 5).Keyed exCfg "secrets" := keyed (by decide) (by decide)
theorem exOnly_workflow_dispatch : (exOnly "workflow_dispatch" 2 3).Keyed exCfg "workflow_dispatch" := keyed (by decide) (by decide)

theorem exLower : ∀ a b : String, exCfg.lower a = exCfg.lower b → exCfg.lower a = exCfg.lower b := fun _ _ e => e
theorem exAscii : ∀ a, exCfg.lower (asciiLower a) = exCfg.lower a := asciiLower_idem

/-- `Fetch-Depth: 0` / `FOO: x` / `fetch-depth: 1` -/
def exWith : Node :=
  mapNode "!!map" 8 11 [(sc "Fetch-Depth" 8 11, sc "0" 8 24), (sc "FOO" 9 11, sc "x" 9 16), (sc "fetch-depth" 10 11, sc "1" 10 24)]
/-- `fetch-depth: 0` / `Foo: x` / `FETCH-DEPTH: 1` -/
def exWith' : Node :=
  mapNode "!!map" 8 11 [(sc "fetch-depth" 8 11, sc "0" 8 24), (sc "Foo" 9 11, sc "x" 9 16), (sc "FETCH-DEPTH" 10 11, sc "1" 10 24)]

theorem exWith_recased : KeyRecased exCfg.lower exWith exWith' :=
  KeyRecased.of_pairs "!!map" 8 11
    (.cons ⟨"fetch-depth", rfl, by decide +kernel, by decide +kernel⟩
      (.cons ⟨"Foo", rfl, by decide +kernel, by decide +kernel⟩ (.cons ⟨"FETCH-DEPTH", rfl, by decide +kernel, by decide +kernel⟩ .nil)))

theorem exWith_recased_ascii : KeyRecased asciiLower exWith exWith' := exWith_recased

def exTrue : String → Bool := fun _ => true

/-- the whole document: `on: push` / `jobs: build: runs-on: ubuntu-latest, steps: [{uses: actions/checkout@v4, with: ·}]` -/
def exDocWith (w : Node) : Node := docNode (exRoot.at (exJobs.at (exJobSteps.at (exSeq.at ((exStepKey "with").at w)))))

example : SameReports exCfg exTrue exTrue {} (exDocWith exWith) (exDocWith exWith') :=
  step_with_keys exCfg exTrue exTrue {} exRoot exJobs exJobSteps (exStepKey "with") exSeq exRoot_jobs exJobs_free exJobSteps_steps exStepKey_with
    exWith_recased

/-- what the parser reports, in both spellings: the repeated key at the repetition; the spelling is echoed -/
example : (parse exCfg (exDocWith exWith)).2 =
      [⟨⟨10, 11⟩, "key-duplicated", ["fetch-depth", "«with» section", "line:8,col:11", ". note that this key is case insensitive"]⟩] ∧
    (parse exCfg (exDocWith exWith')).2 =
      [⟨⟨10, 11⟩, "key-duplicated", ["FETCH-DEPTH", "«with» section", "line:8,col:11", ". note that this key is case insensitive"]⟩] := by
  decide +kernel

example : AL.RuleExpr.rule exCfg.lower exTrue (parse exCfg (exDocWith exWith)).1 {} =
    AL.RuleExpr.rule exCfg.lower exTrue (parse exCfg (exDocWith exWith')).1 {} :=
  step_with_keys_expr exCfg exTrue exRoot exJobs exJobSteps (exStepKey "with") exSeq {} exRoot_jobs exJobs_free exJobSteps_steps exStepKey_with
    exWith_recased

example : Sim (nWf { input := exCfg.lower }) (parse exCfg (exDocWith exWith)) (parse exCfg (exDocWith exWith')) :=
  step_with_keys_in_document { input := exCfg.lower } exCfg exRoot exJobs exJobSteps (exStepKey "with") exSeq exLower exRoot_jobs exJobs_free exJobSteps_steps exStepKey_with
    exWith_recased

/-- two steps: `id: Setup` / `run: echo`, then `id: ·` / `run: echo ${{ steps.setup.outputs.x }}` -/
def exSeqId : SeqCtx := ⟨"!!seq", 6, 7, [mapNode "!!map" 6 9 [(sc "id" 6 9, sc "Setup" 6 13), (sc "run" 7 9, sc "echo" 7 14)]], []⟩
def exStepId : MapCtx := ⟨"!!map", 8, 9, [], sc "id" 8 9, [(sc "run" 9 9, sc "echo ${{ steps.setup.outputs.x }}" 9 14)]⟩
def exDocId (v : Node) : Node := docNode (exRoot.at (exJobs.at (exJobSteps.at (exSeqId.at (exStepId.at v)))))
theorem exStepId_id : exStepId.Keyed exCfg "id" := keyed (by decide) (by decide)

theorem exId_alike : KeyAlike asciiLower (sc "SETUP" 8 13) (sc "setup" 8 13) := ⟨"setup", rfl, by decide +kernel, by decide +kernel⟩

example : SameReports exCfg exTrue exTrue {} (exDocId (sc "SETUP" 8 13)) (exDocId (sc "setup" 8 13)) :=
  step_id exCfg exTrue exTrue {} exRoot exJobs exJobSteps exStepId exSeqId exAscii exRoot_jobs exJobs_free exJobSteps_steps exStepId_id exId_alike

/-- both spellings repeat the id of the first step -/
example : (ruleId exCfg.lower (parse exCfg (exDocId (sc "SETUP" 8 13))).1).map sig = [(⟨8, 13⟩, "step-id-duplicate")] ∧
    (ruleId exCfg.lower (parse exCfg (exDocId (sc "setup" 8 13))).1).map sig = [(⟨8, 13⟩, "step-id-duplicate")] := by
  decide +kernel

theorem exId_static : StaticIds (parse exCfg (exDocId (sc "SETUP" 8 13))).1 := by
  unfold StaticIds
  decide +kernel

example : AL.RuleExpr.rule exCfg.lower exTrue (parse exCfg (exDocId (sc "SETUP" 8 13))).1 {} =
    AL.RuleExpr.rule exCfg.lower exTrue (parse exCfg (exDocId (sc "setup" 8 13))).1 {} :=
  step_id_expr_partial exCfg exTrue exRoot exJobs exJobSteps exStepId exSeqId {} exAscii exRoot_jobs exJobs_free exJobSteps_steps exStepId_id
    exId_alike exId_static

example : Sim (nWf { stepId := asciiLower }) (parse exCfg (exDocId (sc "SETUP" 8 13))) (parse exCfg (exDocId (sc "setup" 8 13))) :=
  step_id_in_document { stepId := asciiLower } exCfg exRoot exJobs exJobSteps exStepId exSeqId exRoot_jobs exJobs_free exJobSteps_steps exStepId_id exId_alike

/-! `env:` of a step, of a job, of the workflow -/
example : Sim (nWf { env := exCfg.lower })
    (parse exCfg (docNode (exRoot.at (exJobs.at (exJobSteps.at (exSeq.at ((exStepKey "env").at exWith)))))))
    (parse exCfg (docNode (exRoot.at (exJobs.at (exJobSteps.at (exSeq.at ((exStepKey "env").at exWith'))))))) :=
  step_env_keys_in_document { env := exCfg.lower } exCfg exRoot exJobs exJobSteps (exStepKey "env") exSeq exLower exRoot_jobs exJobs_free exJobSteps_steps exStepKey_env
    exWith_recased

example : Sim (nWf { env := exCfg.lower }) (parse exCfg (docNode (exRoot.at (exJobs.at ((exJobKey "env").at exWith)))))
    (parse exCfg (docNode (exRoot.at (exJobs.at ((exJobKey "env").at exWith'))))) :=
  job_env_keys_in_document { env := exCfg.lower } exCfg exRoot exJobs (exJobKey "env") exLower exRoot_jobs exJobs_free exJobKey_env exWith_recased

example : Sim (nWf { env := exCfg.lower }) (parse exCfg (docNode ((exRootKey "env").at exWith)))
    (parse exCfg (docNode ((exRootKey "env").at exWith'))) :=
  workflow_env_keys_in_document { env := exCfg.lower } exCfg (exRootKey "env") exLower exRootKey_env exWith_recased

/-! `with:` / `secrets:` of a call, `outputs:`, `services:` of a job -/
example : SameReports exCfg exTrue exTrue {} (docNode (exRoot.at (exJobs.at ((exCallKey "with").at exWith))))
    (docNode (exRoot.at (exJobs.at ((exCallKey "with").at exWith')))) :=
  job_with_keys exCfg exTrue exTrue {} exRoot exJobs (exCallKey "with") exRoot_jobs exJobs_free exCallKey_with exWith_recased

example : AL.RuleExpr.rule exCfg.lower exTrue (parse exCfg (docNode (exRoot.at (exJobs.at ((exCallKey "with").at exWith))))).1 {} =
    AL.RuleExpr.rule exCfg.lower exTrue (parse exCfg (docNode (exRoot.at (exJobs.at ((exCallKey "with").at exWith'))))).1 {} :=
  job_with_keys_expr exCfg exTrue exRoot exJobs (exCallKey "with") {} exRoot_jobs exJobs_free exCallKey_with exWith_recased

example : Sim (nWf { arg := exCfg.lower }) (parse exCfg (docNode (exRoot.at (exJobs.at ((exCallKey "with").at exWith)))))
    (parse exCfg (docNode (exRoot.at (exJobs.at ((exCallKey "with").at exWith'))))) :=
  job_with_keys_in_document { arg := exCfg.lower } exCfg exRoot exJobs (exCallKey "with") exLower exRoot_jobs exJobs_free exCallKey_with exWith_recased

example : SameReports exCfg exTrue exTrue {} (docNode (exRoot.at (exJobs.at ((exCallKey "secrets").at exWith))))
    (docNode (exRoot.at (exJobs.at ((exCallKey "secrets").at exWith')))) :=
  job_secrets_keys exCfg exTrue exTrue {} exRoot exJobs (exCallKey "secrets") exRoot_jobs exJobs_free exCallKey_secrets exWith_recased

example : AL.RuleExpr.rule exCfg.lower exTrue (parse exCfg (docNode (exRoot.at (exJobs.at ((exCallKey "secrets").at exWith))))).1 {} =
    AL.RuleExpr.rule exCfg.lower exTrue (parse exCfg (docNode (exRoot.at (exJobs.at ((exCallKey "secrets").at exWith'))))).1 {} :=
  job_secrets_keys_expr exCfg exTrue exRoot exJobs (exCallKey "secrets") {} exRoot_jobs exJobs_free exCallKey_secrets exWith_recased

example : Sim (nWf { arg := exCfg.lower }) (parse exCfg (docNode (exRoot.at (exJobs.at ((exCallKey "secrets").at exWith)))))
    (parse exCfg (docNode (exRoot.at (exJobs.at ((exCallKey "secrets").at exWith'))))) :=
  job_secrets_keys_in_document { arg := exCfg.lower } exCfg exRoot exJobs (exCallKey "secrets") exLower exRoot_jobs exJobs_free exCallKey_secrets exWith_recased

example : SameReports exCfg exTrue exTrue {} (docNode (exRoot.at (exJobs.at ((exJobKey "outputs").at exWith))))
    (docNode (exRoot.at (exJobs.at ((exJobKey "outputs").at exWith')))) :=
  job_outputs_keys exCfg exTrue exTrue {} exRoot exJobs (exJobKey "outputs") exRoot_jobs exJobs_free exJobKey_outputs exWith_recased

example : AL.RuleExpr.rule exCfg.lower exTrue (parse exCfg (docNode (exRoot.at (exJobs.at ((exJobKey "outputs").at exWith))))).1 {} =
    AL.RuleExpr.rule exCfg.lower exTrue (parse exCfg (docNode (exRoot.at (exJobs.at ((exJobKey "outputs").at exWith'))))).1 {} :=
  job_outputs_keys_expr exCfg exTrue exRoot exJobs (exJobKey "outputs") {} exRoot_jobs exJobs_free exJobKey_outputs exWith_recased

example : Sim (nWf { output := exCfg.lower }) (parse exCfg (docNode (exRoot.at (exJobs.at ((exJobKey "outputs").at exWith)))))
    (parse exCfg (docNode (exRoot.at (exJobs.at ((exJobKey "outputs").at exWith'))))) :=
  job_outputs_keys_in_document { output := exCfg.lower } exCfg exRoot exJobs (exJobKey "outputs") exLower exRoot_jobs exJobs_free exJobKey_outputs exWith_recased

example : SameReports exCfg exTrue exTrue {} (docNode (exRoot.at (exJobs.at ((exJobKey "services").at exWith))))
    (docNode (exRoot.at (exJobs.at ((exJobKey "services").at exWith')))) :=
  job_services_keys exCfg exTrue exTrue {} exRoot exJobs (exJobKey "services") exRoot_jobs exJobs_free exJobKey_services exWith_recased

example : AL.RuleExpr.rule exCfg.lower exTrue (parse exCfg (docNode (exRoot.at (exJobs.at ((exJobKey "services").at exWith))))).1 {} =
    AL.RuleExpr.rule exCfg.lower exTrue (parse exCfg (docNode (exRoot.at (exJobs.at ((exJobKey "services").at exWith'))))).1 {} :=
  job_services_keys_expr exCfg exTrue exRoot exJobs (exJobKey "services") {} exRoot_jobs exJobs_free exJobKey_services exWith_recased

example : Sim (nWf { service := exCfg.lower }) (parse exCfg (docNode (exRoot.at (exJobs.at ((exJobKey "services").at exWith)))))
    (parse exCfg (docNode (exRoot.at (exJobs.at ((exJobKey "services").at exWith'))))) :=
  job_services_keys_in_document { service := exCfg.lower } exCfg exRoot exJobs (exJobKey "services") exLower exRoot_jobs exJobs_free exJobKey_services exWith_recased

/-- job ids: `jobs: {Build: …, test: {needs: ·, …}}` -/
def exJobBody (needs : Node) : Node :=
  mapNode "!!map" 4 5 [(sc "needs" 4 5, needs), (sc "runs-on" 5 5, sc "ubuntu-latest" 5 14), (sc "steps" 6 5, seqNode "!!seq" 7 7 [exStep0])]
def exTwoJobs (id1 : String) (needs : Node) : Node :=
  mapNode "!!map" 3 3 [(sc id1 3 3, exJobs.at (exJobSteps.at (exSeq.at exStep0)) |> fun _ =>
      mapNode "!!map" 10 5 [(sc "runs-on" 10 5, sc "ubuntu-latest" 10 14), (sc "steps" 11 5, seqNode "!!seq" 12 7 [exStep0])]),
    (sc "test" 14 3, exJobBody needs)]

theorem exJobs_recased : KeyRecased asciiLower (exTwoJobs "Build" (sc "BUILD" 4 12)) (exTwoJobs "build" (sc "BUILD" 4 12)) :=
  KeyRecased.of_pairs "!!map" 3 3 (.cons ⟨"build", rfl, by decide +kernel, by decide +kernel⟩ PairsAlike.rfl')

example : SameReports exCfg exTrue exTrue {} (docNode (exRoot.at (exTwoJobs "Build" (sc "BUILD" 4 12))))
    (docNode (exRoot.at (exTwoJobs "build" (sc "BUILD" 4 12)))) :=
  job_ids exCfg exTrue exTrue {} exRoot exAscii exRoot_jobs exJobs_recased

example : Sim (nWf { jobId := asciiLower }) (parse exCfg (docNode (exRoot.at (exTwoJobs "Build" (sc "BUILD" 4 12)))))
    (parse exCfg (docNode (exRoot.at (exTwoJobs "build" (sc "BUILD" 4 12))))) :=
  job_ids_in_document { jobId := asciiLower } exCfg exRoot (fun _ _ e => e) exRoot_jobs exJobs_recased

/-- the parser reports nothing, and files the job under the same id: `needs: BUILD` names the job `Build` / `build` -/
example : (parse exCfg (docNode (exRoot.at (exTwoJobs "Build" (sc "BUILD" 4 12))))).2 = [] ∧
    (parse exCfg (docNode (exRoot.at (exTwoJobs "build" (sc "BUILD" 4 12))))).2 = [] ∧
    ((parse exCfg (docNode (exRoot.at (exTwoJobs "Build" (sc "BUILD" 4 12))))).1.jobs.getD []).map (·.1) = ["build", "test"] ∧
    ((parse exCfg (docNode (exRoot.at (exTwoJobs "build" (sc "BUILD" 4 12))))).1.jobs.getD []).map (·.1) = ["build", "test"] := by
  decide +kernel

/-- the job id at its definition (`Build` → `build`) and then at its use (`needs: BUILD` → `needs: build`) -/
example : SameReports exCfg exTrue exTrue {} (docNode (exRoot.at (exTwoJobs "Build" (sc "BUILD" 4 12))))
    (docNode (exRoot.at (exTwoJobs "build" (sc "build" 4 12)))) :=
  (job_ids exCfg exTrue exTrue {} exRoot exAscii exRoot_jobs exJobs_recased).trans _ _ _ _
    (job_needs exCfg exTrue exTrue {} exRoot
      ⟨"!!map", 3, 3, [(sc "build" 3 3, mapNode "!!map" 10 5 [(sc "runs-on" 10 5, sc "ubuntu-latest" 10 14), (sc "steps" 11 5, seqNode "!!seq" 12 7 [exStep0])])],
        sc "test" 14 3, []⟩
      ⟨"!!map", 4, 5, [], sc "needs" 4 5, [(sc "runs-on" 5 5, sc "ubuntu-latest" 5 14), (sc "steps" 6 5, seqNode "!!seq" 7 7 [exStep0])]⟩
      exAscii exRoot_jobs (by decide) (keyed (by decide) (by decide)) (Or.inl ⟨"build", rfl, by decide +kernel, by decide +kernel⟩))

/-- the job `test` of the examples, `needs: ·` first -/
def exNeedsKey : MapCtx :=
  ⟨"!!map", 4, 5, [], sc "needs" 4 5, [(sc "runs-on" 5 5, sc "ubuntu-latest" 5 14), (sc "steps" 6 5, seqNode "!!seq" 7 7 [exStep0])]⟩
theorem exNeedsKey_needs : exNeedsKey.Keyed exCfg "needs" := keyed (by decide) (by decide)

theorem exNeeds_scalar : NeedsRecased asciiLower (sc "BUILD" 4 12) (sc "Build" 4 12) := Or.inl ⟨"Build", rfl, by decide +kernel, by decide +kernel⟩

theorem exNeeds_seq : NeedsRecased asciiLower (seqNode "!!seq" 4 12 [sc "BUILD" 4 13, sc "nope" 4 20]) (seqNode "!!seq" 4 12 [sc "build" 4 13, sc "NOPE" 4 20]) :=
  Or.inr ⟨rfl, rfl, rfl, rfl, rfl,
    .cons ⟨"build", rfl, by decide +kernel, by decide +kernel⟩ (.cons ⟨"NOPE", rfl, by decide +kernel, by decide +kernel⟩ .nil)⟩

example : SameReports exCfg exTrue exTrue {} (docNode (exRoot.at (exJobs.at (exNeedsKey.at (sc "BUILD" 4 12)))))
    (docNode (exRoot.at (exJobs.at (exNeedsKey.at (sc "Build" 4 12))))) :=
  job_needs exCfg exTrue exTrue {} exRoot exJobs exNeedsKey exAscii exRoot_jobs exJobs_free exNeedsKey_needs exNeeds_scalar

example : Sim (nWf { jobId := asciiLower })
    (parse exCfg (docNode (exRoot.at (exJobs.at (exNeedsKey.at (seqNode "!!seq" 4 12 [sc "BUILD" 4 13, sc "nope" 4 20]))))))
    (parse exCfg (docNode (exRoot.at (exJobs.at (exNeedsKey.at (seqNode "!!seq" 4 12 [sc "build" 4 13, sc "NOPE" 4 20])))))) :=
  job_needs_in_document { jobId := asciiLower } exCfg exRoot exJobs exNeedsKey exRoot_jobs exJobs_free exNeedsKey_needs exNeeds_seq

/-- `needs: [BUILD, nope]` in the only job `build`: needing itself is not reported, the unknown job is; the same re-cased -/
example : (ruleJobNeeds exCfg.lower (parse exCfg (docNode (exRoot.at (exJobs.at (exNeedsKey.at (seqNode "!!seq" 4 12 [sc "BUILD" 4 13, sc "nope" 4 20])))))).1).map sig =
      [(⟨3, 3⟩, "needs-undefined")] ∧
    (ruleJobNeeds exCfg.lower (parse exCfg (docNode (exRoot.at (exJobs.at (exNeedsKey.at (seqNode "!!seq" 4 12 [sc "build" 4 13, sc "NOPE" 4 20])))))).1).map sig =
      [(⟨3, 3⟩, "needs-undefined")] := by decide +kernel

example : (rules exCfg.lower exTrue exTrue (parse exCfg (exDocWith exWith)).1).map sig =
    (rules exCfg.lower exTrue exTrue (parse exCfg (exDocWith exWith')).1).map sig :=
  rules_in_document { input := exCfg.lower } exCfg exTrue exTrue {} rfl (IdFold.id _) (IdFold.id _)
    (step_with_keys_in_document { input := exCfg.lower } exCfg exRoot exJobs exJobSteps (exStepKey "with") exSeq exLower exRoot_jobs exJobs_free exJobSteps_steps exStepKey_with
      exWith_recased)

example : (lint exCfg exTrue exTrue (exDocWith exWith)).map sig = (lint exCfg exTrue exTrue (exDocWith exWith')).map sig :=
  lint_in_document { input := exCfg.lower } exCfg exTrue exTrue {} rfl (IdFold.id _) (IdFold.id _)
    (step_with_keys_in_document { input := exCfg.lower } exCfg exRoot exJobs exJobSteps (exStepKey "with") exSeq exLower exRoot_jobs exJobs_free exJobSteps_steps exStepKey_with
      exWith_recased)

example : IdFold exCfg.lower asciiLower := IdFold.ascii exAscii

/-- why ids need more than `lower`: the naming convention (rule_id.go `validateConvention`) reads the id AS WRITTEN. For a
`lower` that folds a non-ASCII letter onto an ASCII one (Go's `strings.ToLower` maps U+212A KELVIN SIGN to `k`) the two spellings
are the same name for every lookup, yet only one of them matches `^[a-zA-Z_][a-zA-Z0-9_-]*$`. Re-casing in the ASCII sense
(`IdFold.ascii`) never runs into this. The statement exhibits one such `lower` (the identity but for U+212A ↦ `k`); that Go's
`strings.ToLower` is of this kind is not part of it. -/
theorem id_convention_reads_spelling :
    ∃ (lower : String → String) (a b : Str), lower a.value = lower b.value ∧ a.pos = b.pos ∧
      validateConvention (some a) "step" = [] ∧ validateConvention (some b) "step" ≠ [] :=
  ⟨fun s => if s = "\u212A" then "k" else s, ⟨"k", false, ⟨1, 1⟩⟩, ⟨"\u212A", false, ⟨1, 1⟩⟩, by decide +kernel, rfl, by decide +kernel, by decide +kernel⟩

example : Sim (nAct { input := exCfg.lower })
    (let m := parseSectionMapping exCfg "with" exWith false false; let r := loop withKey { ({} : ExecAction) with inputs := some [] } m.1; (r.1, m.2 ++ r.2))
    (let m := parseSectionMapping exCfg "with" exWith' false false; let r := loop withKey { ({} : ExecAction) with inputs := some [] } m.1; (r.1, m.2 ++ r.2)) :=
  stepWith_recase { input := exCfg.lower } exLower exWith_recased {}
example : Sim (nAssoc (nArg exCfg.lower))
    (let m := parseSectionMapping exCfg "secrets" exWith false false; let r := callArgs m.1; (r.1, m.2 ++ r.2))
    (let m := parseSectionMapping exCfg "secrets" exWith' false false; let r := callArgs m.1; (r.1, m.2 ++ r.2)) :=
  callArgs_recase exLower "secrets" exWith_recased
example : Sim (nEnv exCfg.lower) (parseEnv exCfg exWith) (parseEnv exCfg exWith') := parseEnv_recase exLower exWith_recased
example : Sim (nAssoc (nOutput exCfg.lower)) (parseOutputs exCfg exWith) (parseOutputs exCfg exWith') := parseOutputs_recase exLower exWith_recased
example : Sim (nServices { service := exCfg.lower }) (parseServices exCfg exWith) (parseServices exCfg exWith') :=
  parseServices_recase { service := exCfg.lower } exLower exWith_recased
example : Sim (nMatrix exCfg.lower) (parseMatrix exCfg ⟨7, 7⟩ exWith) (parseMatrix exCfg ⟨7, 7⟩ exWith') :=
  parseMatrix_recase exLower ⟨7, 7⟩ exWith_recased
example : Sim (List.map (nCombo exCfg.lower)) (matrixCombos exCfg "include" ([] ++ exWith :: [])) (matrixCombos exCfg "include" ([] ++ exWith' :: [])) :=
  matrixCombos_recase exLower "include" exWith_recased [] []
example : Sim (nAssoc (nJob { jobId := asciiLower })) (parseJobs exCfg (exTwoJobs "Build" (sc "BUILD" 4 12)))
    (parseJobs exCfg (exTwoJobs "build" (sc "BUILD" 4 12))) :=
  parseJobs_recase { jobId := asciiLower } exCfg (fun _ _ e => e) exJobs_recased
example : Sim (nCallEventSt exCfg.lower) (callEventKey exCfg {} ⟨"inputs", ⟨"inputs", false, ⟨3, 5⟩⟩, exWith⟩)
    (callEventKey exCfg {} ⟨"inputs", ⟨"inputs", false, ⟨3, 5⟩⟩, exWith'⟩) :=
  callEventKey_recase exLower {} "inputs" _ exWith_recased
example : Sim (Option.map (nAssoc (nDispatchInput exCfg.lower))) (dispatchStep exCfg none ⟨"inputs", ⟨"inputs", false, ⟨3, 5⟩⟩, exWith⟩)
    (dispatchStep exCfg none ⟨"inputs", ⟨"inputs", false, ⟨3, 5⟩⟩, exWith'⟩) :=
  dispatchInputs_recase exLower none _ exWith_recased

/-- `strategy: matrix: {Fetch-Depth: 0, …}` (scalars that are not placeholders are reported by the parser, in both spellings) -/
example : SameReports exCfg exTrue exTrue {} (docNode (exRoot.at (exJobs.at ((exJobKey "strategy").at ((exOnly "matrix" 9 7).at exWith)))))
    (docNode (exRoot.at (exJobs.at ((exJobKey "strategy").at ((exOnly "matrix" 9 7).at exWith'))))) :=
  matrix_row_keys exCfg exTrue exTrue {} exRoot exJobs (exJobKey "strategy") (exOnly "matrix" 9 7) exRoot_jobs exJobs_free exJobKey_strategy exOnly_matrix
    exWith_recased

example : Sim (nWf { matrix := exCfg.lower })
    (parse exCfg (docNode (exRoot.at (exJobs.at ((exJobKey "strategy").at ((exOnly "matrix" 9 7).at exWith))))))
    (parse exCfg (docNode (exRoot.at (exJobs.at ((exJobKey "strategy").at ((exOnly "matrix" 9 7).at exWith')))))) :=
  matrix_row_keys_in_document { matrix := exCfg.lower } exCfg exRoot exJobs (exJobKey "strategy") (exOnly "matrix" 9 7) exLower exRoot_jobs exJobs_free exJobKey_strategy exOnly_matrix
    exWith_recased

/-- `on: workflow_call: inputs: {Fetch-Depth: 0, …}` / `on: workflow_dispatch: inputs: …` -/
example : SameReports exCfg exTrue exTrue {} (docNode (exOnRoot.at ((exOnly "workflow_call" 2 3).at ((exOnly "inputs" 3 5).at exWith))))
    (docNode (exOnRoot.at ((exOnly "workflow_call" 2 3).at ((exOnly "inputs" 3 5).at exWith')))) :=
  call_names exCfg exTrue exTrue {} exOnRoot (exOnly "workflow_call" 2 3) (exOnly "inputs" 3 5) "inputs" exOnRoot_on exOnly_workflow_call exOnly_inputs
    exWith_recased

example : Sim (nWf { event := exCfg.lower })
    (parse exCfg (docNode (exOnRoot.at ((exOnly "workflow_call" 2 3).at ((exOnly "secrets" 3 5).at exWith)))))
    (parse exCfg (docNode (exOnRoot.at ((exOnly "workflow_call" 2 3).at ((exOnly "secrets" 3 5).at exWith'))))) :=
  call_names_in_document { event := exCfg.lower } exCfg exOnRoot (exOnly "workflow_call" 2 3) (exOnly "secrets" 3 5) exLower "secrets" exOnRoot_on exOnly_workflow_call exOnly_secrets
    exWith_recased

example : SameReports exCfg exTrue exTrue {} (docNode (exOnRoot.at ((exOnly "workflow_dispatch" 2 3).at ((exOnly "inputs" 3 5).at exWith))))
    (docNode (exOnRoot.at ((exOnly "workflow_dispatch" 2 3).at ((exOnly "inputs" 3 5).at exWith')))) :=
  dispatch_names exCfg exTrue exTrue {} exOnRoot (exOnly "workflow_dispatch" 2 3) (exOnly "inputs" 3 5) exOnRoot_on exOnly_workflow_dispatch exOnly_inputs
    exWith_recased

example : Sim (nWf { event := exCfg.lower })
    (parse exCfg (docNode (exOnRoot.at ((exOnly "workflow_dispatch" 2 3).at ((exOnly "inputs" 3 5).at exWith)))))
    (parse exCfg (docNode (exOnRoot.at ((exOnly "workflow_dispatch" 2 3).at ((exOnly "inputs" 3 5).at exWith'))))) :=
  dispatch_names_in_document { event := exCfg.lower } exCfg exOnRoot (exOnly "workflow_dispatch" 2 3) (exOnly "inputs" 3 5) exLower exOnRoot_on exOnly_workflow_dispatch exOnly_inputs
    exWith_recased

end examples

end AL.C08D
