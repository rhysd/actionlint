import AL.Props.C14Calls
import AL.Props.C14Rules
import AL.Props.C14Proj
import AL.Props.C14Decode
import AL.Props.C14
/-
  C14 — the distinctness hypothesis of `missing_exact` (and of `nothing_else`, `decl_order_irrelevant`, `inherit`; the
  `find? … = some …` hypotheses of C14Proj) holds for every interface the linter can obtain:

  * reusable workflows — `AL.CallMeta.fromAst` (from the AST, `WriteWorkflowCallEvent`) and `AL.CallMeta.fromYaml` /
    `fromOn` / `fromDoc` (from the file, the `UnmarshalYAML` methods): the ids of inputs, secrets and outputs are pairwise
    distinct, whatever the input (`put` is `m[k] = v`) — `fromYaml_distinct`, `fromDoc_distinct`;
  * local actions — `AL.ActionDecode.fromDoc`: an id given twice is a decoding error, so a successful result has distinct
    ids (`action_fromDoc_distinct`);
  * bundled actions — the regenerated table `AL.Gen.popularChunks`: the ids of every entry stand in ascending order,
    checked by the kernel in one evaluation (`popularEntry_distinct`).

  Hence "a declared required input is reported iff it is not supplied" holds for every interface obtained in one of these
  ways (`CallObtained`, `ActionObtained`): `action_missing_exact`, `action_decl_order_irrelevant`, `call_missing_secret_exact`,
  `required_input_mem_iff`, `local_action_missing_mem_iff`, `missing_reported`, `action_inputs_missing_iff`.
-/
namespace AL.C14W
open AL.Calls AL.C14

/-! ## association lists with distinct keys -/

theorem put_keys {α : Type} (m : List (String × α)) (k : String) (v : α) :
    (AL.CallMeta.put m k v).map (·.1) = if k ∈ m.map (·.1) then m.map (·.1) else m.map (·.1) ++ [k] := by
  unfold AL.CallMeta.put
  by_cases h : m.any (·.1 = k) = true
  · have hk : k ∈ m.map (·.1) := by
      obtain ⟨x, hx, he⟩ := List.any_eq_true.1 h
      exact List.mem_map.2 ⟨x, hx, by simpa using he⟩
    simp only [h, if_true, hk, List.map_map]
    apply List.map_congr_left
    intro e _
    simp only [Function.comp]
    split
    · rename_i he; exact he.symm
    · rfl
  · have hk : k ∉ m.map (·.1) := by
      intro hk
      obtain ⟨x, hx, he⟩ := List.mem_map.1 hk
      exact h (List.any_eq_true.2 ⟨x, hx, by simpa using he⟩)
    simp [h, hk]

/-- `m[k] = v` keeps the keys pairwise distinct -/
theorem put_nodup {α : Type} (m : List (String × α)) (k : String) (v : α) (h : (m.map (·.1)).Nodup) :
    ((AL.CallMeta.put m k v).map (·.1)).Nodup := by
  rw [put_keys]
  split
  · exact h
  · rename_i hk
    rw [List.nodup_append]
    exact ⟨h, by simp, fun a ha b hb => by simp at hb; subst hb; exact fun e => hk (e ▸ ha)⟩

theorem foldl_put_nodup {α β : Type} (key : β → String) (val : β → α) (l : List β) (m : List (String × α))
    (h : (m.map (·.1)).Nodup) : ((l.foldl (fun m x => AL.CallMeta.put m (key x) (val x)) m).map (·.1)).Nodup :=
  List.foldlRecOn (motive := fun m : List (String × α) => (m.map (·.1)).Nodup) l _ h fun m hm _ _ => put_nodup m _ _ hm

/-- with distinct keys, "the first entry under `k`" is "the entry under `k`" -/
theorem find_iff_mem {α : Type} (m : List (String × α)) (h : (m.map (·.1)).Nodup) (k : String) (v : α) :
    m.find? (·.1 = k) = some (k, v) ↔ (k, v) ∈ m := by
  constructor
  · exact List.mem_of_find?_eq_some
  · intro hm
    induction m with
    | nil => cases hm
    | cons x rest ih =>
      simp only [List.map_cons, List.nodup_cons] at h
      rw [List.find?_cons]
      rcases List.mem_cons.1 hm with rfl | hm
      · simp
      · have : x.1 ≠ k := fun e => h.1 (e ▸ List.mem_map.2 ⟨(k, v), hm, rfl⟩)
        simp only [this, decide_false]
        exact ih h.2 hm

/-! ## reusable workflows: `AL.CallMeta` -/

section CallMeta
open AL.CallMeta AL.Yaml AL.PW AL.Ast

/-- the three Go maps of `ReusableWorkflowMetadata` have pairwise distinct keys -/
def MetaDistinct (m : Meta) : Prop :=
  (m.inputs.map (·.1)).Nodup ∧ (m.outputs.map (·.1)).Nodup ∧ (m.secrets.map (·.1)).Nodup

/-- the interface derived from the AST (`WriteWorkflowCallEvent`), for every AST -/
theorem fromAst_distinct (i : Option (List CallInput)) (s : Option (List (String × CallSecret)))
    (o : Option (List (String × CallOutput))) : MetaDistinct (fromAst i s o) :=
  ⟨foldl_put_nodup (fun x : CallInput => x.id) inputOfAst _ [] (by simp),
   foldl_put_nodup (fun x : String × CallOutput => x.1) (fun x => x.2.name.value) _ [] (by simp),
   foldl_put_nodup (fun x : String × CallSecret => x.1) (fun x => (⟨x.2.name.value, boolOf x.2.required⟩ : Secret)) _ [] (by simp)⟩

theorem fromEvents_distinct : ∀ (es : List Event) (m : Meta), fromEvents es = some m → MetaDistinct m
  | [], m, h => by cases h
  | e :: rest, m, h => by
    simp only [fromEvents] at h
    cases he : fromEvent e with
    | none => rw [he] at h; exact fromEvents_distinct rest m h
    | some m' =>
      rw [he] at h
      simp only [Option.some.injEq] at h
      subst h
      cases e with
      | call i s o p =>
        simp only [fromEvent, Option.some.injEq] at he
        subst he
        exact fromAst_distinct _ _ _
      | _ => simp [fromEvent] at he

/-- the linted file's own interface (what `VisitWorkflowPre` writes to the cache) -/
theorem fromDocAst_distinct (cfg : Cfg) (doc : Node) (m : Meta) (h : fromDocAst cfg doc = some m) : MetaDistinct m :=
  fromEvents_distinct _ m h

/-- an invariant of the state is kept by yaml.v3's struct decoding if every field setter keeps it -/
theorem structLoop_inv {σ : Type} (P : σ → Prop) (fields : List String) (set : σ → String → Node → D σ)
    (hset : ∀ st name v st', P st → set st name v = .ok st' → P st') :
    ∀ (l : List (Node × Node)) (done : List String) (st st' : σ), P st → structLoop fields set l done st = .ok st' → P st' :=
  AL.CallMeta.structLoop_inv P hset

theorem structDecode_inv {σ : Type} (P : σ → Prop) (fields : List String) (set : σ → String → Node → D σ)
    (hset : ∀ st name v st', P st → set st name v = .ok st' → P st') (init : σ) (h0 : P init) (n : Node) (st' : σ)
    (h : structDecode fields set init n = .ok st') : P st' :=
  AL.CallMeta.structDecode_inv P hset h0 h

theorem decInputsLoop_nodup (cfg : Cfg) : ∀ (l : List (Node × Node)) (m res : List (String × CallMeta.Input)),
    (m.map (·.1)).Nodup → CallMeta.decInputsLoop cfg l m = .ok res → (res.map (·.1)).Nodup
  | [], m, res, h0, h => by simp only [CallMeta.decInputsLoop, Except.ok.injEq] at h; subst h; exact h0
  | (k, v) :: rest, m, res, h0, h => by
    simp only [CallMeta.decInputsLoop] at h
    split at h
    · cases h
    · exact decInputsLoop_nodup cfg rest _ res (put_nodup m _ _ h0) h

theorem decSecretsLoop_nodup (cfg : Cfg) : ∀ (l : List (Node × Node)) (m res : List (String × Secret)),
    (m.map (·.1)).Nodup → decSecretsLoop cfg l m = .ok res → (res.map (·.1)).Nodup
  | [], m, res, h0, h => by simp only [decSecretsLoop, Except.ok.injEq] at h; subst h; exact h0
  | (k, v) :: rest, m, res, h0, h => by
    simp only [decSecretsLoop] at h
    split at h
    · cases h
    · exact decSecretsLoop_nodup cfg rest _ res (put_nodup m _ _ h0) h

theorem viaUnmarshaler_nodup {α : Type} (dec : Node → D (List (String × α)))
    (hdec : ∀ n res, dec n = .ok res → (res.map (·.1)).Nodup) (n : Node) (res : List (String × α))
    (h : viaUnmarshaler dec n = .ok res) : (res.map (·.1)).Nodup := by
  simp only [viaUnmarshaler] at h
  split at h
  · simp only [Except.ok.injEq] at h; subst h; simp
  · exact hdec n res h

theorem decInputs_nodup (cfg : Cfg) (n : Node) (res : List (String × CallMeta.Input)) (h : CallMeta.decInputs cfg n = .ok res) :
    (res.map (·.1)).Nodup := by
  simp only [CallMeta.decInputs] at h
  split at h
  · cases h
  · exact decInputsLoop_nodup cfg _ [] res (by simp) h
  · cases h

theorem decSecrets_nodup (cfg : Cfg) (n : Node) (res : List (String × Secret)) (h : decSecrets cfg n = .ok res) :
    (res.map (·.1)).Nodup := by
  simp only [decSecrets] at h
  split at h
  · cases h
  · exact decSecretsLoop_nodup cfg _ [] res (by simp) h
  · cases h

theorem decOutputs_nodup (cfg : Cfg) (n : Node) (res : List (String × String)) (h : CallMeta.decOutputs cfg n = .ok res) :
    (res.map (·.1)).Nodup := by
  simp only [CallMeta.decOutputs] at h
  split at h
  · cases h
  · simp only [Except.ok.injEq] at h
    subst h
    exact foldl_put_nodup (fun kv : Node × Node => cfg.lower kv.1.value) (fun kv => kv.1.value) _ [] (by simp)
  · cases h

theorem map_ok {α β : Type} {f : α → β} {x : D α} {y : β} (h : x.map f = .ok y) : ∃ a, x = .ok a ∧ y = f a :=
  let ⟨a, h1, h2⟩ := AL.CallMeta.map_eq_ok.1 h
  ⟨a, h1, h2.symm⟩

theorem setMeta_distinct (cfg : Cfg) (st : Meta) (name : String) (v : Node) (st' : Meta) (h0 : MetaDistinct st)
    (h : CallMeta.setMeta cfg st name v = .ok st') : MetaDistinct st' := by
  simp only [CallMeta.setMeta] at h
  split at h
  · obtain ⟨a, ha, rfl⟩ := map_ok h
    exact ⟨viaUnmarshaler_nodup _ (decInputs_nodup cfg) v a ha, h0.2.1, h0.2.2⟩
  · obtain ⟨a, ha, rfl⟩ := map_ok h
    exact ⟨h0.1, viaUnmarshaler_nodup _ (decOutputs_nodup cfg) v a ha, h0.2.2⟩
  · obtain ⟨a, ha, rfl⟩ := map_ok h
    exact ⟨h0.1, h0.2.1, viaUnmarshaler_nodup _ (decSecrets_nodup cfg) v a ha⟩
  · simp only [Except.ok.injEq] at h; subst h; exact h0

/-- **the interface decoded from the `workflow_call:` node of the called file** -/
theorem fromYaml_distinct (cfg : Cfg) (n : Node) (m : Meta) (h : fromYaml cfg n = .ok m) : MetaDistinct m :=
  structDecode_inv MetaDistinct _ _ (fun st name v st' => setMeta_distinct cfg st name v st') {}
    ⟨by simp, by simp, by simp⟩ n m h

theorem fromOn_distinct (cfg : Cfg) (on : Node) (m : Meta) (h : fromOn cfg on = .ok m) : MetaDistinct m := by
  have hempty : MetaDistinct {} := ⟨by simp, by simp, by simp⟩
  simp only [fromOn] at h
  split at h
  · split at h
    · exact fromYaml_distinct cfg _ m h
    · cases h
  · split at h
    · simp only [Except.ok.injEq] at h; subst h; exact hempty
    · cases h
  · split at h
    · simp only [Except.ok.injEq] at h; subst h; exact hempty
    · cases h
  · cases h

/-- **`parseReusableWorkflowMetadata` on the document of the called file** -/
theorem fromDoc_distinct (cfg : Cfg) (doc : Node) (m : Meta) (h : CallMeta.fromDoc cfg doc = .ok m) : MetaDistinct m := by
  simp only [CallMeta.fromDoc] at h
  split at h
  · cases h
  · split at h
    · cases h
    · cases h
    · exact fromOn_distinct cfg _ m h

end CallMeta

/-! ## local actions: `AL.ActionDecode` -/

section ActionDecode
open AL.ActionDecode AL.Yaml AL.PW
open AL.CallMeta (D structDecode viaUnmarshaler)

/-- `ActionMetadataInputs.UnmarshalYAML`: an id given twice is an error, so a result has distinct ids -/
theorem action_decInputs_nodup (cfg : Cfg) (n : Node) (res : List (String × String × Bool))
    (h : ActionDecode.decInputs cfg n = .ok res) : (res.map (·.1)).Nodup := by
  simp only [ActionDecode.decInputs] at h
  split at h
  · cases h
  · exact (AL.C14D.decInputsLoop_spec cfg _ [] res h).2 (by simp)
  · cases h

theorem decOutputsLoop_nodup (cfg : Cfg) : ∀ (l : List (Node × Node)) (m res : List (String × String)),
    (m.map (·.1)).Nodup → decOutputsLoop cfg l m = .ok res → (res.map (·.1)).Nodup
  | [], m, res, h0, h => by simp only [decOutputsLoop, Except.ok.injEq] at h; subst h; exact h0
  | (k, v) :: rest, m, res, h0, h => by
    simp only [decOutputsLoop] at h
    split at h
    · cases h
    · rename_i hdup
      exact decOutputsLoop_nodup cfg rest _ res (AL.C14D.nodup_keys_snoc m _ _ h0 hdup) h

theorem action_decOutputs_nodup (cfg : Cfg) (n : Node) (res : List (String × String))
    (h : ActionDecode.decOutputs cfg n = .ok res) : (res.map (·.1)).Nodup := by
  simp only [ActionDecode.decOutputs] at h
  split at h
  · cases h
  · exact decOutputsLoop_nodup cfg _ [] res (by simp) h
  · cases h

def DecodedDistinct (d : Decoded) : Prop := (d.inputs.map (·.1)).Nodup ∧ (d.outputs.map (·.1)).Nodup

theorem action_setMeta_distinct (cfg : Cfg) (st : Decoded) (name : String) (v : Node) (st' : Decoded)
    (h0 : DecodedDistinct st) (h : ActionDecode.setMeta cfg st name v = .ok st') : DecodedDistinct st' := by
  simp only [ActionDecode.setMeta] at h
  split at h
  · obtain ⟨a, _, rfl⟩ := map_ok h; exact h0
  · obtain ⟨a, _, rfl⟩ := map_ok h; exact h0
  · obtain ⟨a, ha, rfl⟩ := map_ok h
    exact ⟨viaUnmarshaler_nodup _ (action_decInputs_nodup cfg) v a ha, h0.2⟩
  · obtain ⟨a, ha, rfl⟩ := map_ok h
    exact ⟨h0.1, viaUnmarshaler_nodup _ (action_decOutputs_nodup cfg) v a ha⟩
  · obtain ⟨a, _, rfl⟩ := map_ok h; exact h0
  · obtain ⟨a, _, rfl⟩ := map_ok h; exact h0
  · simp only [Except.ok.injEq] at h; subst h; exact h0

/-- **the metadata decoded from `action.yml`** has distinct input ids and distinct output ids -/
theorem action_fromDoc_distinct (cfg : Cfg) (doc : Node) (d : Decoded) (h : ActionDecode.fromDoc cfg doc = .ok d) :
    DecodedDistinct d := by
  have hempty : DecodedDistinct {} := ⟨by simp, by simp⟩
  simp only [ActionDecode.fromDoc] at h
  split at h
  · simp only [Except.ok.injEq] at h; subst h; exact hempty
  · exact structDecode_inv DecodedDistinct _ _ (fun st name v st' => action_setMeta_distinct cfg st name v st') {}
      hempty _ d h

end ActionDecode

/-! ## bundled actions: the regenerated table `AL.Gen.popularChunks` (checked by the kernel in one evaluation) -/

section Popular
open AL.Gen
open AL.C14 (bytes ascending lt_of_ascending)

/-- the input ids and the output ids of every entry of a chunk are pairwise distinct -/
def chunkOk (ch : List (String × List (String × String × Bool) × List (String × String) × Bool × Bool)) : Prop :=
  ∀ e ∈ ch, (e.2.1.map (·.1)).Nodup ∧ (e.2.2.1.map (·.1)).Nodup

theorem nodup_of_ascending : ∀ l : List String, ascending l = true → l.Nodup
  | [], _ => .nil
  | a :: l, h =>
    have ⟨ht, hlt⟩ := lt_of_ascending a l h
    List.nodup_cons.2 ⟨fun ha => List.lt_irrefl _ (hlt a ha), nodup_of_ascending l ht⟩

/-- `Nodup` is obtained from `ascending` because deciding `Nodup` itself compares every PAIR of ids, each comparison
evaluating two string literals, and that is slow to check; ascending order compares neighbours only.
All chunks are decided together, not chunk by chunk: an id that recurs from action to action (`token`, `path`, …)
is then evaluated once. -/
theorem popularChunks_ok : ∀ ch ∈ popularChunks, chunkOk ch := by
  have h : ∀ ch ∈ popularChunks, ∀ e ∈ ch,
      ascending (e.2.1.map (·.1)) = true ∧ ascending (e.2.2.1.map (·.1)) = true := by decide +kernel
  exact fun ch hch e he => ⟨nodup_of_ascending _ (h ch hch e he).1, nodup_of_ascending _ (h ch hch e he).2⟩

theorem popular_0_ok : chunkOk popular_0 := popularChunks_ok _ (by simp [popularChunks])
theorem popular_1_ok : chunkOk popular_1 := popularChunks_ok _ (by simp [popularChunks])
theorem popular_2_ok : chunkOk popular_2 := popularChunks_ok _ (by simp [popularChunks])
theorem popular_3_ok : chunkOk popular_3 := popularChunks_ok _ (by simp [popularChunks])
theorem popular_4_ok : chunkOk popular_4 := popularChunks_ok _ (by simp [popularChunks])
theorem popular_5_ok : chunkOk popular_5 := popularChunks_ok _ (by simp [popularChunks])
theorem popular_6_ok : chunkOk popular_6 := popularChunks_ok _ (by simp [popularChunks])
theorem popular_7_ok : chunkOk popular_7 := popularChunks_ok _ (by simp [popularChunks])

/-- **the interface `checkRepoAction` looks up for a bundled action has distinct input ids** -/
theorem popularEntry_distinct (spec : String) (ins : List (String × String × Bool)) (skip : Bool)
    (h : AL.Rules.popularEntry spec = some (ins, skip)) : (ins.map (·.1)).Nodup := by
  simp only [AL.Rules.popularEntry] at h
  split at h
  · rename_i sp ins' outs sk x hf
    simp only [Option.some.injEq, Prod.mk.injEq] at h
    obtain ⟨rfl, rfl⟩ := h
    obtain ⟨ch, hch, hfind⟩ := List.exists_of_findSome?_eq_some hf
    exact (popularChunks_ok ch hch _ (List.mem_of_find?_eq_some hfind)).1
  · cases h

end Popular

/-! ## the interfaces the linter can obtain -/

/-- an interface of a reusable workflow as `RuleWorkflowCall` gets it: from an AST, or decoded from the called file -/
inductive CallObtained (cfg : AL.PW.Cfg) : AL.CallMeta.Meta → Prop
  | ast (i : Option (List AL.Ast.CallInput)) (s : Option (List (String × AL.Ast.CallSecret)))
      (o : Option (List (String × AL.Ast.CallOutput))) : CallObtained cfg (AL.CallMeta.fromAst i s o)
  | docAst (doc : AL.Yaml.Node) (m : AL.CallMeta.Meta) (h : AL.CallMeta.fromDocAst cfg doc = some m) : CallObtained cfg m
  | yaml (n : AL.Yaml.Node) (m : AL.CallMeta.Meta) (h : AL.CallMeta.fromYaml cfg n = .ok m) : CallObtained cfg m
  | doc (doc : AL.Yaml.Node) (m : AL.CallMeta.Meta) (h : AL.CallMeta.fromDoc cfg doc = .ok m) : CallObtained cfg m

theorem CallObtained.distinct {cfg : AL.PW.Cfg} {m : AL.CallMeta.Meta} (h : CallObtained cfg m) : MetaDistinct m := by
  cases h with
  | ast i s o => exact fromAst_distinct i s o
  | docAst doc m h => exact fromDocAst_distinct cfg doc m h
  | yaml n m h => exact fromYaml_distinct cfg n m h
  | doc doc m h => exact fromDoc_distinct cfg doc m h

/-- the declared inputs of an action as `RuleAction` gets them: decoded from a local `action.yml`, or from the bundled table -/
inductive ActionObtained : List (String × String × Bool) → Prop
  | local_ (cfg : AL.PW.Cfg) (doc : AL.Yaml.Node) (d : AL.ActionDecode.Decoded)
      (h : AL.ActionDecode.fromDoc cfg doc = .ok d) : ActionObtained d.inputs
  | popular (spec : String) (ins : List (String × String × Bool)) (skip : Bool)
      (h : AL.Rules.popularEntry spec = some (ins, skip)) : ActionObtained ins

theorem ActionObtained.distinct {ins : List (String × String × Bool)} (h : ActionObtained ins) : (ins.map (·.1)).Nodup := by
  cases h with
  | local_ cfg doc d h => exact (action_fromDoc_distinct cfg doc d h).1
  | popular spec ins skip h => exact popularEntry_distinct spec ins skip h

/-! ## C14 on `AL.Calls` (`checkAction` / `checkCall`) without the distinctness hypothesis -/

def declsOfAction (ins : List (String × String × Bool)) : List Decl := ins.map fun e => ⟨e.1, e.2.1, e.2.2⟩
def declsOfInputs (ins : List (String × AL.CallMeta.Input)) : List Decl := ins.map fun e => ⟨e.1, e.2.name, e.2.required⟩
def declsOfSecrets (ss : List (String × AL.CallMeta.Secret)) : List Decl := ss.map fun e => ⟨e.1, e.2.name, e.2.required⟩

theorem distinct_declsOfAction {ins : List (String × String × Bool)} (h : (ins.map (·.1)).Nodup) :
    Distinct (declsOfAction ins) := by
  simpa [Distinct, declsOfAction, Function.comp_def] using h
theorem distinct_declsOfInputs {ins : List (String × AL.CallMeta.Input)} (h : (ins.map (·.1)).Nodup) :
    Distinct (declsOfInputs ins) := by
  simpa [Distinct, declsOfInputs, Function.comp_def] using h
theorem distinct_declsOfSecrets {ss : List (String × AL.CallMeta.Secret)} (h : (ss.map (·.1)).Nodup) :
    Distinct (declsOfSecrets ss) := by
  simpa [Distinct, declsOfSecrets, Function.comp_def] using h

/-- **C14 (b) for every action interface the linter can obtain**: a required input is reported as missing iff it is not
supplied -/
theorem action_missing_exact (ins : List (String × String × Bool)) (h : ActionObtained ins) (supplied : List String) (n : String) :
    Diag.missingInput n ∈ checkAction (declsOfAction ins) supplied ↔
      ∃ e ∈ ins, e.2.1 = n ∧ e.2.2 = true ∧ e.1 ∉ supplied := by
  rw [missing_exact _ supplied n (distinct_declsOfAction h.distinct)]
  simp only [declsOfAction, List.mem_map]
  constructor
  · rintro ⟨d, ⟨e, he, rfl⟩, h1, h2, h3⟩; exact ⟨e, he, h1, h2, h3⟩
  · rintro ⟨e, he, h1, h2, h3⟩; exact ⟨_, ⟨e, he, rfl⟩, h1, h2, h3⟩

/-- **C14 (d)**: the storage order of the declarations (a Go map) is irrelevant -/
theorem action_decl_order_irrelevant (ins : List (String × String × Bool)) (h : ActionObtained ins) (d₂ : List Decl)
    (supplied : List String) (hp : (declsOfAction ins).Perm d₂) :
    checkAction (declsOfAction ins) supplied = checkAction d₂ supplied :=
  decl_order_irrelevant _ d₂ supplied (distinct_declsOfAction h.distinct) hp

/-- **C14 (e)** for every reusable-workflow interface the linter can obtain: secrets are checked like inputs unless
`secrets: inherit` -/
theorem call_missing_secret_exact (cfg : AL.PW.Cfg) (m : AL.CallMeta.Meta) (h : CallObtained cfg m) (w s : List String) (n : String) :
    Diag.missingSecret n ∈ checkCall (declsOfInputs m.inputs) (declsOfSecrets m.secrets) w s false ↔
      ∃ e ∈ m.secrets, e.2.name = n ∧ e.2.required = true ∧ e.1 ∉ s := by
  rw [(inherit (declsOfInputs m.inputs) (declsOfSecrets m.secrets) w s).2.1 n (distinct_declsOfSecrets h.distinct.2.2)]
  simp only [declsOfSecrets, List.mem_map]
  constructor
  · rintro ⟨d, ⟨e, he, rfl⟩, h1, h2, h3⟩; exact ⟨e, he, h1, h2, h3⟩
  · rintro ⟨e, he, h1, h2, h3⟩; exact ⟨_, ⟨e, he, rfl⟩, h1, h2, h3⟩

/-- … and the required inputs of a call (the same statement for `checkCall`, which C14Calls leaves implicit) -/
theorem call_missing_input_exact (cfg : AL.PW.Cfg) (m : AL.CallMeta.Meta) (h : CallObtained cfg m) (w s : List String)
    (inh : Bool) (n : String) :
    Diag.missingInput n ∈ checkCall (declsOfInputs m.inputs) (declsOfSecrets m.secrets) w s inh ↔
      ∃ e ∈ m.inputs, e.2.name = n ∧ e.2.required = true ∧ e.1 ∉ w := by
  have hd := distinct_declsOfInputs h.distinct.1
  rw [checkCall_eq]
  have key : Diag.missingInput n ∈ missingOf .missingInput (declsOfInputs m.inputs) w ↔
      ∃ e ∈ m.inputs, e.2.name = n ∧ e.2.required = true ∧ e.1 ∉ w := by
    rw [mem_missingOf_iff inj_missingInput hd]
    simp only [declsOfInputs, List.mem_map]
    constructor
    · rintro ⟨d, ⟨e, he, rfl⟩, h1, h2, h3⟩; exact ⟨e, he, h1, h2, h3⟩
    · rintro ⟨e, he, h1, h2, h3⟩; exact ⟨_, ⟨e, he, rfl⟩, h1, h2, h3⟩
  rw [← key]
  simp only [List.mem_append]
  constructor
  · rintro ((h1 | h1) | h1)
    · exact h1
    · obtain ⟨k, he⟩ := mem_undefinedOf_elim h1; cases he
    · split at h1
      · cases h1
      · rcases List.mem_append.1 h1 with h1 | h1
        · obtain ⟨d, _, he, _⟩ := mem_missingOf_elim h1; cases he
        · obtain ⟨k, he⟩ := mem_undefinedOf_elim h1; cases he
  · exact fun h1 => Or.inl (Or.inl h1)

/-! ## C14 on the whole-file models (`checkLocal`, `inputDiags`, `checkActionInputs`), membership instead of "first entry" -/

section Proj
open AL.Ast AL.CallMeta AL.ProjCall

/-- **a declared input of a called local workflow is reported as required iff it is required and not supplied** — for
every interface the linter can obtain; `(n, i) ∈ m.inputs` replaces the `find? … = some …` hypothesis of
`AL.C14P.required_input_iff`. -/
theorem required_input_mem_iff (cfg : AL.PW.Cfg) (m : Meta) (hm : CallObtained cfg m) (c : WorkflowCall) (u : Str) (name : String) :
    (⟨u.pos, "workflow-call", "input-required", [name, u.value]⟩ : AL.Rules.Diag) ∈ checkLocal m c u ↔
      ∃ n i, (n, i) ∈ m.inputs ∧ i.name = name ∧ i.required = true ∧ n ∉ keysOf (c.inputs.getD []) := by
  rw [mem_checkLocal]
  constructor
  · rintro (⟨n, i, hf, hr, hn, hd⟩ | ⟨_, _, _, hd⟩ | ⟨_, ⟨_, _, _, _, _, hd⟩ | ⟨_, _, _, hd⟩⟩)
    · simp only [AL.Rules.Diag.mk.injEq, List.cons.injEq, and_true, true_and] at hd
      exact ⟨n, i, List.mem_of_find?_eq_some hf, hd.symm, hr, hn⟩
    · simp at hd
    · simp at hd
    · simp at hd
  · rintro ⟨n, i, hmem, rfl, hr, hn⟩
    exact .inl ⟨n, i, (find_iff_mem m.inputs hm.distinct.1 n i).2 hmem, hr, hn, rfl⟩

/-- the same for secrets (without `secrets: inherit`) -/
theorem required_secret_mem_iff (cfg : AL.PW.Cfg) (m : Meta) (hm : CallObtained cfg m) (c : WorkflowCall) (u : Str) (name : String)
    (hinh : c.inheritSecrets = false) :
    (⟨u.pos, "workflow-call", "secret-required", [name, u.value]⟩ : AL.Rules.Diag) ∈ checkLocal m c u ↔
      ∃ n s, (n, s) ∈ m.secrets ∧ s.name = name ∧ s.required = true ∧ n ∉ keysOf (c.secrets.getD []) := by
  rw [mem_checkLocal]
  constructor
  · rintro (⟨_, _, _, _, _, hd⟩ | ⟨_, _, _, hd⟩ | ⟨_, ⟨n, s, hf, hr, hn, hd⟩ | ⟨_, _, _, hd⟩⟩)
    · simp at hd
    · simp at hd
    · simp only [AL.Rules.Diag.mk.injEq, List.cons.injEq, and_true, true_and] at hd
      exact ⟨n, s, List.mem_of_find?_eq_some hf, hd.symm, hr, hn⟩
    · simp at hd
  · rintro ⟨n, s, hmem, rfl, hr, hn⟩
    exact .inr (.inr ⟨hinh, .inl ⟨n, s, (find_iff_mem m.secrets hm.distinct.2.2 n s).2 hmem, hr, hn, rfl⟩⟩)

/-- **a declared input of a local action is reported as missing iff it is required and not supplied** — for metadata
whose inputs are `ActionObtained` -/
theorem local_action_missing_mem_iff (m : AL.ProjAction.ActionMeta) (hm : ActionObtained m.inputs) (spec : String)
    (e : ExecAction) (pos : AL.ProjAction.Pos) (name : String) :
    (∃ d ∈ AL.ProjAction.inputDiags m spec e pos, d.code = "local-input-missing" ∧ d.args.head? = some name) ↔
      ∃ id, (id, name, true) ∈ m.inputs ∧ (e.inputs.getD []).any (·.1 = id) = false := by
  constructor
  · rintro ⟨d, hdm, hc, ha⟩
    rcases (AL.ProjAction.mem_inputDiags m spec e pos d).1 hdm with ⟨_, _, _, rfl⟩ | ⟨id, nm, hf, hg, rfl⟩
    · simp at hc
    · obtain rfl : nm = name := by simpa using ha
      exact ⟨id, List.mem_of_find?_eq_some hf, hg⟩
  · rintro ⟨id, hmem, hg⟩
    exact ⟨_, (AL.ProjAction.mem_inputDiags m spec e pos _).2
      (.inr ⟨id, name, (find_iff_mem m.inputs hm.distinct id (name, true)).2 hmem, hg, rfl⟩), rfl, rfl⟩

/-- **bundled actions (`checkActionInputs`)**: a declared required input that is not supplied IS reported (the converse of
`AL.C14R.missing_only`; needs distinct ids, which the table has) -/
theorem missing_reported (spec : String) (declared : List (String × String × Bool)) (hdecl : ActionObtained declared)
    (e : ExecAction) (usesPos : AL.Rules.Pos) (x : String × String × Bool) (hx : x ∈ declared) (hr : x.2.2 = true)
    (hs : ∀ kv ∈ e.inputs.getD [], kv.1 ≠ x.1) :
    (⟨usesPos, "action", "input-missing", [x.2.1, spec]⟩ : AL.Rules.Diag) ∈ AL.Rules.checkActionInputs spec declared e usesPos := by
  obtain ⟨id, name, req⟩ := x
  simp only at hr hs
  subst hr
  have hf := (find_iff_mem declared hdecl.distinct id (name, true)).2 hx
  simp only [AL.Rules.checkActionInputs, List.mem_append, List.mem_flatMap]
  refine Or.inr ⟨id, ?_, ?_⟩
  · -- the ids the loop runs over are `sortStrings` of the declared ids
    rw [← List.foldr_map]
    exact (AL.PW.mem_sortStrings _ id).2 (List.mem_map.2 ⟨_, hx, rfl⟩)
  · have hany : (e.inputs.getD []).any (fun kv => decide (kv.1 = id)) = false := by
      rw [List.any_eq_false]; intro kv hk; simpa using hs kv hk
    simp [hf, hany]

/-- **C14 (b) on `checkActionInputs`**, iff, for `ActionObtained` inputs -/
theorem action_inputs_missing_iff (spec : String) (declared : List (String × String × Bool)) (hdecl : ActionObtained declared)
    (e : ExecAction) (usesPos : AL.Rules.Pos) (name : String) :
    (⟨usesPos, "action", "input-missing", [name, spec]⟩ : AL.Rules.Diag) ∈ AL.Rules.checkActionInputs spec declared e usesPos ↔
      ∃ x ∈ declared, x.2.1 = name ∧ x.2.2 = true ∧ ∀ kv ∈ e.inputs.getD [], kv.1 ≠ x.1 := by
  constructor
  · intro h
    obtain ⟨x, hx, hr, hs, _, ha⟩ := AL.C14R.missing_only spec declared e usesPos _ h rfl
    simp only [List.cons.injEq, and_true] at ha
    exact ⟨x, hx, ha.symm, hr, hs⟩
  · rintro ⟨x, hx, rfl, hr, hs⟩
    exact missing_reported spec declared hdecl e usesPos x hx hr hs

end Proj

/-! ## examples -/

section Examples
open AL.PW AL.Yaml AL.Ast

def exCfg : Cfg := ⟨asciiLower, fun _ => none, fun _ => .err⟩
def sc (v : String) (l c : Nat) : Node := .mk .scalar "!!str" v false l c []
def bl (v : String) (l c : Nat) : Node := .mk .scalar "!!bool" v false l c []
def mp (l c : Nat) (cs : List Node) : Node := .mk .mapping "!!map" "" false l c cs

/-- `workflow_call: { inputs: { Env: {required: true}, env: {default: x}, Tag: {required: true, type: string} },
secrets: { TOKEN: {required: true} } }` — `Env` and `env` are one id: the later entry replaces the earlier one -/
def exCallNode : Node :=
  mp 3 5 [sc "inputs" 3 5, mp 4 7 [sc "Env" 4 7, mp 5 9 [sc "required" 5 9, bl "true" 5 19],
                                   sc "env" 6 7, mp 7 9 [sc "default" 7 9, sc "x" 7 18],
                                   sc "Tag" 8 7, mp 9 9 [sc "required" 9 9, bl "true" 9 19, sc "type" 9 25, sc "string" 9 31]],
          sc "secrets" 10 5, mp 11 7 [sc "TOKEN" 11 7, mp 12 9 [sc "required" 12 9, bl "true" 12 19]]]
def exMeta : AL.CallMeta.Meta :=
  { inputs := [("env", ⟨"env", false, .any⟩), ("tag", ⟨"Tag", true, .string⟩)], secrets := [("token", ⟨"TOKEN", true⟩)] }
/-- decoding results are compared by evaluation (`decide +kernel`): on a node of this size `rfl` is slow to check -/
local instance exceptDecEq {ε α : Type} [DecidableEq ε] [DecidableEq α] : DecidableEq (Except ε α)
  | .ok a, .ok b => if h : a = b then isTrue (h ▸ rfl) else isFalse fun e => h (Except.ok.inj e)
  | .error a, .error b => if h : a = b then isTrue (h ▸ rfl) else isFalse fun e => h (Except.error.inj e)
  | .ok _, .error _ => isFalse nofun
  | .error _, .ok _ => isFalse nofun

theorem exMeta_yaml : AL.CallMeta.fromYaml exCfg exCallNode = .ok exMeta := by decide +kernel
theorem exMeta_obtained : CallObtained exCfg exMeta := .yaml exCallNode exMeta exMeta_yaml

/-- `action.yml`: `inputs: { Token: {required: true}, depth: {default: "1"} }` -/
def exActionDoc : Node :=
  .mk .document "" "" false 1 1 [mp 1 1 [sc "name" 1 1, sc "act" 1 7,
    sc "inputs" 2 1, mp 3 3 [sc "Token" 3 3, mp 4 5 [sc "required" 4 5, bl "true" 4 15],
                             sc "depth" 5 3, mp 6 5 [sc "default" 6 5, sc "1" 6 14]]]]
/-- `inputs: { Token: {}, token: {} }`: the same id twice -/
def exActionDup : Node :=
  .mk .document "" "" false 1 1 [mp 1 1 [sc "inputs" 2 1, mp 3 3 [sc "Token" 3 3, mp 4 5 [], sc "token" 5 3, mp 6 5 []]]]
def exIns : List (String × String × Bool) := [("token", "Token", true), ("depth", "depth", false)]
theorem exAction_decoded : ∃ d, AL.ActionDecode.fromDoc exCfg exActionDoc = .ok d ∧ d.inputs = exIns :=
  ⟨_, rfl, rfl⟩
theorem exIns_obtained : ActionObtained exIns := by
  obtain ⟨d, h, e⟩ := exAction_decoded
  exact e ▸ .local_ exCfg exActionDoc d h
/-- an id given twice never gets through the decoder -/
example : AL.ActionDecode.fromDoc exCfg exActionDup = .error .decode := by rfl
def exCacheIns : List (String × String × Bool) :=
  [("enablecrossosarchive", "enableCrossOsArchive", false), ("fail-on-cache-miss", "fail-on-cache-miss", false),
   ("key", "key", true), ("lookup-only", "lookup-only", false), ("path", "path", true),
   ("restore-keys", "restore-keys", false), ("save-always", "save-always", false),
   ("upload-chunk-size", "upload-chunk-size", false)]
theorem exCache : AL.Rules.popularEntry "actions/cache@v4" = some (exCacheIns, false) := by decide +kernel
theorem exCache_obtained : ActionObtained exCacheIns := .popular _ _ _ exCache

example : (AL.CallMeta.put [("a", 1), ("b", 2)] "b" 3).map (·.1) = ["a", "b"] ∧
    (AL.CallMeta.put [("a", 1), ("b", 2)] "c" 3).map (·.1) = ["a", "b", "c"] := by
  constructor <;> simp [put_keys]
example : ((AL.CallMeta.put [("a", 1), ("b", 2)] "b" 3).map (·.1)).Nodup := put_nodup _ _ _ (by decide)
example : ((["B", "a", "b"].foldl (fun m x => AL.CallMeta.put m (asciiLower x) x) []).map (·.1)).Nodup :=
  foldl_put_nodup asciiLower id _ [] (by simp)
example : [("a", 1), ("b", 2)].find? (·.1 = "b") = some ("b", 2) ↔ ("b", 2) ∈ [("a", 1), ("b", 2)] :=
  find_iff_mem _ (by decide) _ _
/-- without distinct keys the two notions differ -/
example : ("a", 2) ∈ [("a", 1), ("a", 2)] ∧ [("a", 1), ("a", 2)].find? (·.1 = "a") ≠ some ("a", 2) := by decide

example : MetaDistinct exMeta := exMeta_obtained.distinct
example : MetaDistinct (AL.CallMeta.fromAst (some [{ name := ⟨"A", false, ⟨1, 1⟩⟩, id := "a" }, { name := ⟨"a", false, ⟨2, 1⟩⟩, id := "a" }]) none none) :=
  fromAst_distinct _ _ _
example : (AL.CallMeta.fromAst (some [{ name := ⟨"A", false, ⟨1, 1⟩⟩, id := "a" }, { name := ⟨"a", false, ⟨2, 1⟩⟩, id := "a" }]) none none).inputs =
    [("a", ⟨"a", false, .any⟩)] := by decide +kernel
example (m : AL.CallMeta.Meta) (h : AL.CallMeta.fromEvents [.call none none none ⟨1, 1⟩] = some m) : MetaDistinct m :=
  fromEvents_distinct _ m h
example (m : AL.CallMeta.Meta) (h : AL.CallMeta.fromDocAst exCfg exActionDoc = some m) : MetaDistinct m :=
  fromDocAst_distinct _ _ m h
example : MetaDistinct exMeta := fromYaml_distinct exCfg exCallNode exMeta exMeta_yaml
example (m : AL.CallMeta.Meta) (h : AL.CallMeta.fromOn exCfg (mp 2 3 [sc "workflow_call" 2 3, exCallNode]) = .ok m) : MetaDistinct m :=
  fromOn_distinct _ _ m h
example : AL.CallMeta.fromOn exCfg (mp 2 3 [sc "workflow_call" 2 3, exCallNode]) = .ok exMeta := by
  -- only finding the key is evaluated here; decoding its value is `exMeta_yaml`
  rw [← exMeta_yaml]
  rfl
example (m : AL.CallMeta.Meta) (h : AL.CallMeta.fromDoc exCfg exActionDoc = .ok m) : MetaDistinct m := fromDoc_distinct _ _ m h
example (res : List (String × AL.CallMeta.Input)) (h : AL.CallMeta.decInputs exCfg exCallNode = .ok res) : (res.map (·.1)).Nodup :=
  decInputs_nodup _ _ res h
example (res : List (String × AL.CallMeta.Secret)) (h : AL.CallMeta.decSecrets exCfg exCallNode = .ok res) : (res.map (·.1)).Nodup :=
  decSecrets_nodup _ _ res h
example (res : List (String × String)) (h : AL.CallMeta.decOutputs exCfg exCallNode = .ok res) : (res.map (·.1)).Nodup :=
  decOutputs_nodup _ _ res h
example (res : List (String × AL.CallMeta.Input)) (h : AL.CallMeta.decInputsLoop exCfg (pairs exCallNode.content) [] = .ok res) :
    (res.map (·.1)).Nodup := decInputsLoop_nodup _ _ [] res (by simp) h
example (res : List (String × AL.CallMeta.Secret)) (h : AL.CallMeta.decSecretsLoop exCfg (pairs exCallNode.content) [] = .ok res) :
    (res.map (·.1)).Nodup := decSecretsLoop_nodup _ _ [] res (by simp) h
example (res : List (String × String)) (h : AL.CallMeta.viaUnmarshaler (AL.CallMeta.decOutputs exCfg) exCallNode = .ok res) :
    (res.map (·.1)).Nodup := viaUnmarshaler_nodup _ (decOutputs_nodup exCfg) _ res h
example (st' : AL.CallMeta.Meta) (h : AL.CallMeta.setMeta exCfg {} "inputs" exCallNode = .ok st') : MetaDistinct st' :=
  setMeta_distinct _ _ _ _ st' ⟨by simp, by simp, by simp⟩ h
example (y : Nat) (h : (Except.ok 1 : AL.CallMeta.D Nat).map (· + 1) = .ok y) : ∃ a, (Except.ok 1 : AL.CallMeta.D Nat) = .ok a ∧ y = a + 1 :=
  map_ok h
example (st' : Nat) (h : AL.CallMeta.structDecode ["a"] (fun st _ _ => .ok (st + 2)) 0 exCallNode = .ok st') : st' % 2 = 0 :=
  structDecode_inv (fun n => n % 2 = 0) _ _ (fun st _ _ st' h0 h => by simp only [Except.ok.injEq] at h; omega) 0 rfl _ st' h
example (st' : Nat) (h : AL.CallMeta.structLoop ["a"] (fun st _ _ => .ok (st + 2)) (pairs exCallNode.content) [] 0 = .ok st') : st' % 2 = 0 :=
  structLoop_inv (fun n => n % 2 = 0) _ _ (fun st _ _ st' h0 h => by simp only [Except.ok.injEq] at h; omega) _ _ 0 st' rfl h

example : (exIns.map (·.1)).Nodup := exIns_obtained.distinct
example (res : List (String × String × Bool)) (h : AL.ActionDecode.decInputs exCfg exCallNode = .ok res) : (res.map (·.1)).Nodup :=
  action_decInputs_nodup _ _ res h
example (res : List (String × String)) (h : AL.ActionDecode.decOutputs exCfg exCallNode = .ok res) : (res.map (·.1)).Nodup :=
  action_decOutputs_nodup _ _ res h
example (res : List (String × String)) (h : AL.ActionDecode.decOutputsLoop exCfg (pairs exCallNode.content) [] = .ok res) :
    (res.map (·.1)).Nodup := decOutputsLoop_nodup _ _ [] res (by simp) h
example (d : AL.ActionDecode.Decoded) (h : AL.ActionDecode.fromDoc exCfg exActionDoc = .ok d) : DecodedDistinct d :=
  action_fromDoc_distinct _ _ d h
example (st' : AL.ActionDecode.Decoded) (h : AL.ActionDecode.setMeta exCfg {} "inputs" exCallNode = .ok st') : DecodedDistinct st' :=
  action_setMeta_distinct _ _ _ _ st' ⟨by simp, by simp⟩ h
example : (exCacheIns.map (·.1)).Nodup := popularEntry_distinct _ _ _ exCache
example : chunkOk AL.Gen.popular_0 := popularChunks_ok _ (by simp [AL.Gen.popularChunks])

example : Distinct (declsOfAction exIns) := distinct_declsOfAction exIns_obtained.distinct
example : Distinct (declsOfInputs exMeta.inputs) := distinct_declsOfInputs exMeta_obtained.distinct.1
example : Distinct (declsOfSecrets exMeta.secrets) := distinct_declsOfSecrets exMeta_obtained.distinct.2.2
/-- `with: { depth: 2 }` on the local action: `Token` is reported as missing -/
example : checkAction (declsOfAction exIns) ["depth"] = [.missingInput "Token"] := by decide
example : Diag.missingInput "Token" ∈ checkAction (declsOfAction exIns) ["depth"] :=
  (action_missing_exact exIns exIns_obtained ["depth"] "Token").2 ⟨("token", "Token", true), by simp [exIns], rfl, rfl, by decide⟩
example : Diag.missingInput "path" ∈ checkAction (declsOfAction exCacheIns) ["key"] :=
  (action_missing_exact exCacheIns exCache_obtained ["key"] "path").2 ⟨("path", "path", true), by simp [exCacheIns], rfl, rfl, by decide⟩
example : checkAction (declsOfAction exIns) ["depth"] = checkAction (declsOfAction exIns).reverse ["depth"] :=
  action_decl_order_irrelevant exIns exIns_obtained _ _ (List.reverse_perm _).symm
example : Diag.missingSecret "TOKEN" ∈ checkCall (declsOfInputs exMeta.inputs) (declsOfSecrets exMeta.secrets) ["tag"] [] false :=
  (call_missing_secret_exact exCfg exMeta exMeta_obtained ["tag"] [] "TOKEN").2 ⟨("token", ⟨"TOKEN", true⟩), by simp [exMeta], rfl, rfl, by simp⟩
example : Diag.missingInput "Tag" ∈ checkCall (declsOfInputs exMeta.inputs) (declsOfSecrets exMeta.secrets) [] [] true :=
  (call_missing_input_exact exCfg exMeta exMeta_obtained [] [] true "Tag").2 ⟨("tag", ⟨"Tag", true, .string⟩), by simp [exMeta], rfl, rfl, by simp⟩

/-- a job `uses: ./.github/workflows/w.yml` with `with: { env: x }`: `Tag` is reported as required -/
def exCall : WorkflowCall := { uses := some ⟨"./w.yml", false, ⟨9, 5⟩⟩, inputs := some [("env", ⟨⟨"env", false, ⟨10, 7⟩⟩, ⟨"x", false, ⟨10, 12⟩⟩⟩)] }
example : (⟨⟨9, 5⟩, "workflow-call", "input-required", ["Tag", "./w.yml"]⟩ : AL.Rules.Diag) ∈
    AL.ProjCall.checkLocal exMeta exCall ⟨"./w.yml", false, ⟨9, 5⟩⟩ :=
  (required_input_mem_iff exCfg exMeta exMeta_obtained exCall ⟨"./w.yml", false, ⟨9, 5⟩⟩ "Tag").2
    ⟨"tag", ⟨"Tag", true, .string⟩, by simp [exMeta], rfl, rfl, by decide⟩
example : (⟨⟨9, 5⟩, "workflow-call", "secret-required", ["TOKEN", "./w.yml"]⟩ : AL.Rules.Diag) ∈
    AL.ProjCall.checkLocal exMeta exCall ⟨"./w.yml", false, ⟨9, 5⟩⟩ :=
  (required_secret_mem_iff exCfg exMeta exMeta_obtained exCall ⟨"./w.yml", false, ⟨9, 5⟩⟩ "TOKEN" rfl).2
    ⟨"token", ⟨"TOKEN", true⟩, by simp [exMeta], rfl, rfl, by decide⟩
def exExec : ExecAction := { uses := some ⟨"./act", false, ⟨5, 9⟩⟩, inputs := some [("depth", ⟨⟨"depth", false, ⟨6, 11⟩⟩, ⟨"2", false, ⟨6, 18⟩⟩⟩)] }
example : ∃ d ∈ AL.ProjAction.inputDiags { inputs := exIns } "./act" exExec ⟨5, 9⟩, d.code = "local-input-missing" ∧ d.args.head? = some "Token" :=
  (local_action_missing_mem_iff { inputs := exIns } exIns_obtained "./act" exExec ⟨5, 9⟩ "Token").2 ⟨"token", by simp [exIns], by decide⟩
example : (⟨⟨5, 9⟩, "action", "input-missing", ["path", "actions/cache@v4"]⟩ : AL.Rules.Diag) ∈
    AL.Rules.checkActionInputs "actions/cache@v4" exCacheIns exExec ⟨5, 9⟩ :=
  missing_reported _ exCacheIns exCache_obtained exExec ⟨5, 9⟩ ("path", "path", true) (by simp [exCacheIns]) rfl (by decide)
example : (⟨⟨5, 9⟩, "action", "input-missing", ["key", "actions/cache@v4"]⟩ : AL.Rules.Diag) ∈
    AL.Rules.checkActionInputs "actions/cache@v4" exCacheIns exExec ⟨5, 9⟩ :=
  (action_inputs_missing_iff _ exCacheIns exCache_obtained exExec ⟨5, 9⟩ "key").2 ⟨("key", "key", true), by simp [exCacheIns], rfl, rfl, by decide⟩

/-! ### an observation (not a violation of C14): which of two entries with the same id wins

Both derivations give distinct ids, but for a called workflow that declares `Env` and `env` they pick DIFFERENT entries:
the parser keeps the first (`parseMapping` drops the repetition — and reports `key-duplicated` in the called file), the
`UnmarshalYAML` method keeps the last (`m[id] = …`). A caller that does not pass `env` is told "input Env is required" when
the called file was linted earlier in the same run (interface from the AST), and nothing when the interface is read from the
file. The agreement theorem AL.C10M.document_interface_agrees_checked excludes the case by `(parse cfg doc).2 = []`. -/

def exCalleeDoc : Node :=
  .mk .document "" "" false 1 1 [mp 1 1 [sc "on" 1 1, mp 2 3 [sc "workflow_call" 2 3, mp 3 5 [sc "inputs" 3 5,
      mp 4 7 [sc "Env" 4 7, mp 5 9 [sc "required" 5 9, bl "true" 5 19, sc "type" 5 25, sc "string" 5 31],
              sc "env" 6 7, mp 7 9 [sc "type" 7 9, sc "string" 7 15]]]],
    sc "jobs" 8 1, mp 9 3 [sc "j" 9 3, mp 10 5 [sc "runs-on" 10 5, sc "u" 10 14, sc "steps" 11 5,
      .mk .sequence "!!seq" "" false 12 5 [mp 12 7 [sc "run" 12 7, sc "x" 12 12]]]]]]

theorem same_id_twice_first_vs_last :
    AL.CallMeta.fromDoc exCfg exCalleeDoc = .ok { inputs := [("env", ⟨"env", false, .string⟩)] } ∧
    AL.CallMeta.fromDocAst exCfg exCalleeDoc = some { inputs := [("env", ⟨"Env", true, .string⟩)] } ∧
    (parse exCfg exCalleeDoc).2 =
      [⟨⟨6, 7⟩, "key-duplicated", ["env", "«inputs» section", "line:4,col:7", ". note that this key is case insensitive"]⟩] := by
  decide +kernel

end Examples

end AL.C14W
