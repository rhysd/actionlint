import AL.Lemmas.C17DRule
import AL.Lemmas.C17DParse
import AL.Lemmas.C17DHeaders
import AL.Lemmas.C17DLint
import AL.Lemmas.C17DChars
/-
  C17 from the DOCUMENT: "every pattern under `branches`, `branches-ignore`, `tags`, `tags-ignore` (ref syntax) and `paths`,
  `paths-ignore` (path syntax) is accepted iff it is in the documented language, and an invalid one is reported at the
  offending character" — the validator (AL.Glob, theorems AL.C17) composed with the rule (AL.Rules.ruleGlob) and the parser
  (AL.PW), so that the statements speak about what is WRITTEN in the yaml.Node tree.

  Definitions (AL/Lemmas/C17DRule.lean, C17DParse.lean, C17DHeaders.lean, C17DLint.lean, C17DChars.lean):
    `Kind` (ref / path), `validateK`, `patternsOf w` (the pattern strings of the AST with their kinds, in the order of `on:`),
    `diagAt s e` (the diagnostic for the validator's message `e` about the string `s`), `reports k s` (what the rule says
    about one pattern), `InLang` / `InLangLoose` (the documented language / the same with unchecked `[...]` members);
    document side, on the node tree alone: `valueItems`, `itemsOfEvent`, `eventsOfOn`, `itemsOfOn`, `docEvents`,
    `docFilterItems`, `docFilterPatterns doc : List (Node × Kind)` (the scalars under `on.<event>.<filter>`), `strOf` (the
    string the parser makes of an item), `KeysOk` and `DocHeaders` (decidable; with the parser: `OnHeaders`, `HeadersClean`);
    in this file `docStr`, `writtenCol`, `docDiag` (§2), `eventPatternNodes` (§3);
    `isGlob` (a diagnostic of kind "glob"), `symOfChar` (a `Char` as the validator's scanner sees it).

  §1 the rule on the AST, exactly: `glob_diags_exact` (one equation), the verdict per pattern against the language
     (`reports_nil_iff`, `documented_not_reported`, `reported_not_documented`), where a diagnostic sits (`column_in_pattern`,
     `offending_char`), and the same in terms of the characters of the text (`pattern_chars`).
  §2 from the document: `patterns_written` (the patterns of the AST are the items written under the filter keys),
     `doc_glob_diags_exact`, and the statements of §1 over `docFilterPatterns`.
  §3 independence: the glob diagnostics are a function of the patterns written (`glob_independent_doc`, `doc_glob_per_event`),
     also inside the whole-file model (`lint_glob_exact`, `lint_glob_independent`).
  §4 a concrete document: `exDoc` (+ `exDocDirty`: the same `on:` over a `jobs:` the parser refuses; `exDocDirty2`: empty and
     non-scalar items), `doc_reported_iff_documented_false`, `null_scalar_validated_as_text`,
     `doc_trailing_blank_column_counterexample`.

  What is SKIPPED by the rule, exactly: the empty string and nothing else (`reports`, `empty_pattern_skipped`). A pattern with
  a `${{ }}` placeholder is validated like any other text (`placeholder_not_skipped`). The empty string is what the parser
  leaves for an empty scalar and for an item that is not a scalar, and the parser has reported both
  (`empty_pattern_parser_reports`).

  What "the documented language" is: `AL.Spec.ValidGlob` (for path filters also no blank at either end). The rule decides
  `InLangLoose` (`AL.C17.validate_iff_partial`): nothing documented is ever reported, everything reported is undocumented,
  and the converse fails, `InLangLoose` leaving the members of `[...]` unchecked (`reported_iff_documented_false`: `[a b]`
  under `branches:`).
-/
namespace AL.C17D
open AL AL.PW AL.Rules AL.Yaml AL.Ast AL.Glob AL.Spec AL.C05D

/-! ## 1. the rule on the AST, exactly -/

/-- **rule glob, as one equation**: for every webhook event of `on:` (in order), every filter `branches`,
`branches-ignore`, `tags`, `tags-ignore` (kind ref), `paths`, `paths-ignore` (kind path) (in this order), every pattern
string of it (in order): nothing for the empty string, otherwise one diagnostic per message of the validator of that kind
about the string's text — on the line of the string, at column `col + (quoted ? 1 : 0) + (k - 1)`, `k` the validator's column
(`diagAt`) -/
theorem glob_diags_exact (w : Workflow) : ruleGlob w = (patternsOf w).flatMap fun p => reports p.2 p.1 := ruleGlob_eq w

theorem diagAt_eq (s : Str) (e : GErr) :
    diagAt s e = ⟨⟨s.pos.line, s.pos.col + (if s.quoted then 1 else 0) + (e.col - 1)⟩, "glob", "glob", [globCode e.msg]⟩ := rfl

/-- `glob_diags_exact` as a membership statement -/
theorem glob_diag_iff (w : Workflow) (d : Diag) :
    d ∈ ruleGlob w ↔ ∃ p ∈ patternsOf w, p.1.value ≠ "" ∧ ∃ e ∈ validateK p.2 (symsOf p.1.value), d = diagAt p.1 e := by
  rw [glob_diags_exact, List.mem_flatMap]
  constructor
  · rintro ⟨p, hp, hd⟩
    simp only [reports] at hd
    split at hd
    · cases hd
    · rename_i hne
      obtain ⟨e, he, rfl⟩ := List.mem_map.1 hd
      exact ⟨p, hp, hne, e, he, rfl⟩
  · rintro ⟨p, hp, hne, e, he, rfl⟩
    refine ⟨p, hp, ?_⟩
    simp only [reports, hne, if_false]
    exact List.mem_map.2 ⟨e, he, rfl⟩

example : (⟨⟨3, 19⟩, "glob", "glob", ["ref,32,chars"]⟩ : Diag) ∈ ruleGlob { on := some [.webhook
    { hook := ⟨"push", false, ⟨2, 3⟩⟩, pos := ⟨2, 3⟩, branches := some ⟨⟨"branches", false, ⟨3, 5⟩⟩, some [⟨"v1 x", true, ⟨3, 16⟩⟩]⟩ }] } := by
  decide +kernel

/-- **a non-empty pattern is left alone iff it is in the language the validator decides** (`NoBOM`: the text does not start
with U+FEFF, which Go's scanner drops) -/
theorem reports_nil_iff (k : Kind) (s : Str) (hne : s.value ≠ "") (hb : NoBOM (symsOf s.value)) :
    reports k s = [] ↔ InLangLoose k (symsOf s.value) := by
  simp only [reports, hne, if_false, List.map_eq_nil_iff]
  exact validateK_nil_iff k _ hb

/-- **a pattern is reported iff it is not empty and NOT in the language** -/
theorem reported_iff (k : Kind) (s : Str) (hb : NoBOM (symsOf s.value)) :
    (∃ d, d ∈ reports k s) ↔ s.value ≠ "" ∧ ¬ InLangLoose k (symsOf s.value) := by
  by_cases hne : s.value = ""
  · simp [reports, hne]
  · rw [← reports_nil_iff k s hne hb]
    simp only [ne_eq, hne, not_false_eq_true, true_and]
    cases reports k s with
    | nil => simp
    | cons d rest => simp

/-- … inside the rule's output for a workflow the pattern occurs in -/
theorem pattern_reported_iff (w : Workflow) (p : Str × Kind) (hp : p ∈ patternsOf w) (hne : p.1.value ≠ "")
    (hb : NoBOM (symsOf p.1.value)) :
    (∃ e ∈ validateK p.2 (symsOf p.1.value), diagAt p.1 e ∈ ruleGlob w) ↔ ¬ InLangLoose p.2 (symsOf p.1.value) := by
  rw [← validateK_nil_iff p.2 _ hb]
  constructor
  · rintro ⟨e, he, _⟩ h
    rw [h] at he
    cases he
  · intro h
    cases hv : validateK p.2 (symsOf p.1.value) with
    | nil => exact absurd hv h
    | cons e rest =>
      refine ⟨e, List.mem_cons_self .., ?_⟩
      exact (glob_diag_iff w _).2 ⟨p, hp, hne, e, by rw [hv]; exact List.mem_cons_self .., rfl⟩

example : (∃ e ∈ validateK .ref (symsOf "v1 x"), diagAt ⟨"v1 x", true, ⟨3, 16⟩⟩ e ∈ ruleGlob { on := some [.webhook
    { hook := ⟨"push", false, ⟨2, 3⟩⟩, pos := ⟨2, 3⟩, branches := some ⟨⟨"branches", false, ⟨3, 5⟩⟩, some [⟨"v1 x", true, ⟨3, 16⟩⟩]⟩ }] }) ↔
    ¬ InLangLoose .ref (symsOf "v1 x") :=
  pattern_reported_iff _ (⟨"v1 x", true, ⟨3, 16⟩⟩, .ref) (by decide +kernel) (by decide) (by decide +kernel)

/-- **nothing in the documented language is reported** -/
theorem documented_not_reported (k : Kind) (s : Str) (hb : NoBOM (symsOf s.value)) (h : InLang k (symsOf s.value)) :
    reports k s = [] := by
  by_cases hne : s.value = ""
  · simp [reports, hne]
  · exact (reports_nil_iff k s hne hb).2 (inLang_loosen h)

/-- **everything reported is outside the documented language** -/
theorem reported_not_documented (k : Kind) (s : Str) (hb : NoBOM (symsOf s.value)) (d : Diag) (hd : d ∈ reports k s) :
    ¬ InLang k (symsOf s.value) := by
  intro h
  rw [documented_not_reported k s hb h] at hd
  cases hd

example : ¬ InLang .ref (symsOf "v1 x") :=
  reported_not_documented .ref ⟨"v1 x", true, ⟨3, 16⟩⟩ (by decide +kernel) ⟨⟨3, 19⟩, "glob", "glob", ["ref,32,chars"]⟩ (by decide +kernel)

/-- **what is skipped**: the empty string — which is in neither language — gets no diagnostic from this rule -/
theorem empty_pattern_skipped (k : Kind) (s : Str) (h : s.value = "") :
    reports k s = [] ∧ ¬ InLangLoose k (symsOf s.value) ∧ ¬ InLang k (symsOf s.value) := by
  have hn : ¬ InLangLoose k (symsOf s.value) := by rw [h, symsOf_empty]; exact empty_not_inLangLoose k
  exact ⟨by simp [reports, h], hn, fun hl => hn (inLang_loosen hl)⟩

/-- **nothing else is skipped**: a pattern with a `${{ }}` placeholder is validated as written — `${{ x }}` under `branches:`
gets two diagnostics for its two blanks -/
theorem placeholder_not_skipped :
    reports .ref ⟨"${{ x }}", false, ⟨3, 15⟩⟩ =
      [⟨⟨3, 18⟩, "glob", "glob", ["ref,32,chars"]⟩, ⟨⟨3, 20⟩, "glob", "glob", ["ref,32,chars"]⟩] := by decide +kernel

/-- a ref name cannot contain a blank -/
theorem ab_not_documented : ¬ InLang .ref (symsOf "[a b]") := by
  intro h
  have e : symsOf "[a b]" = AL.C17.ascii [91, 97, 32, 98, 93] := by decide +kernel
  simp only [InLang] at h
  rw [e] at h
  exact (AL.C17.valid_no_linebreak true _ h ⟨32, 1, false⟩ (by decide)).2 rfl (Or.inl rfl)

/-- the ideal statement "reported iff not in the DOCUMENTED language" -/
def reported_iff_documented_statement : Prop :=
  ∀ (k : Kind) (s : Str), s.value ≠ "" → NoBOM (symsOf s.value) → (reports k s = [] ↔ InLang k (symsOf s.value))

/-- … is false, by a member of `[...]` (`AL.C17.validate_iff_counterexample_ref`): `[a b]` under `branches:` is not
reported although a ref name cannot contain a blank -/
theorem reported_iff_documented_false : ¬ reported_iff_documented_statement :=
  fun h => ab_not_documented ((h .ref ⟨"[a b]", false, ⟨1, 1⟩⟩ (by decide) (by decide +kernel)).1 (by decide +kernel))

/-- **the column lies inside the pattern**: the validator's column is at most the number of characters — except for the
trailing-blank report of a path filter, whose column is the BYTE length of the text (`AL.C17.column_le_path`) -/
theorem column_in_pattern (k : Kind) (s : Str) (e : GErr) (he : e ∈ validateK k (symsOf s.value)) :
    e.col ≤ (symsOf s.value).length ∨ (k = .path ∧ e = ⟨((symsOf s.value).map (·.w)).sum, .trailingSpace⟩) := by
  cases k with
  | ref => exact Or.inl (AL.C17.column_le_ref _ e he)
  | path =>
    rcases AL.C17.column_le_path _ e he with h | h
    · exact Or.inl h
    · exact Or.inr ⟨rfl, h⟩

/-- what the validator says about the running example `v1 x`: the blank, its third character -/
theorem v1x_blank : (⟨3, .invalidRef (some 32) .chars⟩ : GErr) ∈ validateK .ref (symsOf "v1 x") := by decide +kernel

example : (⟨3, .invalidRef (some 32) .chars⟩ : GErr).col ≤ (symsOf "v1 x").length ∨
    (Kind.ref = .path ∧ (⟨3, .invalidRef (some 32) .chars⟩ : GErr) = ⟨((symsOf "v1 x").map (·.w)).sum, .trailingSpace⟩) :=
  column_in_pattern .ref ⟨"v1 x", true, ⟨3, 16⟩⟩ ⟨3, .invalidRef (some 32) .chars⟩ v1x_blank

/-- **the offending character**: when the message names a character and the validator's column is not the fallback 0, the
diagnostic sits `e.col - 1` columns after the first character of the text (the string's column, + 1 for an opening quote:
the definition of `diagAt`, restated), and character number `e.col - 1` of the text IS the named character -/
theorem offending_char (k : Kind) (s : Str) (e : GErr) (he : e ∈ validateK k (symsOf s.value)) (ch : Nat)
    (hn : namedChar e.msg = some ch) (h0 : e.col ≠ 0) :
    (diagAt s e).pos = ⟨s.pos.line, s.pos.col + (if s.quoted then 1 else 0) + (e.col - 1)⟩ ∧
    ((symsOf s.value)[e.col - 1]?).map (·.r) = some ch := by
  refine ⟨rfl, ?_⟩
  cases k with
  | ref => exact AL.C17.named_char true _ (symsOf_posW _) e he ch hn h0
  | path =>
    simp only [validateK, validatePath] at he
    split at he
    · simp only [List.mem_singleton] at he; subst he; cases hn
    · split at he
      · simp only [List.mem_singleton] at he; subst he; cases hn
      · exact AL.C17.named_char false _ (symsOf_posW _) e he ch hn h0

/-- `"v1 x"` (quoted, at 3:16) under `branches:`: the blank is character number 2 of the text, reported at 16 + 1 + 2 -/
example : (diagAt ⟨"v1 x", true, ⟨3, 16⟩⟩ ⟨3, .invalidRef (some 32) .chars⟩).pos = ⟨3, 16 + 1 + 2⟩ ∧
    ((symsOf "v1 x")[2]?).map (·.r) = some 32 :=
  offending_char .ref ⟨"v1 x", true, ⟨3, 16⟩⟩ ⟨3, .invalidRef (some 32) .chars⟩ v1x_blank 32 rfl (by decide)

/-! ### the characters of the text -/

/-- **the characters the validator reads are the characters of the text**, one per `Char`: its code point, the width of its
UTF-8 encoding, never an invalid byte (Lean's encoder followed by the model of Go's `utf8.DecodeRune` is the identity) -/
theorem pattern_chars (s : String) : symsOf s = s.toList.map symOfChar := symsOf_chars s

/-- columns and lengths count characters of the text -/
theorem pattern_length (s : String) : (symsOf s).length = s.length := by
  rw [symsOf_chars, List.length_map, String.length_toList]

theorem noBOM_iff (s : String) : NoBOM (symsOf s) ↔ s.toList.head?.map Char.toNat ≠ some 0xFEFF := by
  unfold NoBOM
  rw [symsOf_chars, List.head?_map, Option.map_map]
  rfl

example : NoBOM (symsOf "v1 x") := (noBOM_iff "v1 x").2 (by decide)

/-- `column_in_pattern` on the text: the validator's column is at most the number of characters of the text, except for the
trailing-blank report of a path filter (which counts bytes) -/
theorem column_in_text (k : Kind) (s : Str) (e : GErr) (he : e ∈ validateK k (symsOf s.value)) :
    e.col ≤ s.value.length ∨ (k = .path ∧ e.msg = .trailingSpace) := by
  rcases column_in_pattern k s e he with h | ⟨h1, h2⟩
  · rw [pattern_length] at h; exact Or.inl h
  · exact Or.inr ⟨h1, by rw [h2]⟩

example : (⟨3, .invalidRef (some 32) .chars⟩ : GErr).col ≤ "v1 x".length ∨
    (Kind.ref = .path ∧ (⟨3, .invalidRef (some 32) .chars⟩ : GErr).msg = .trailingSpace) :=
  column_in_text .ref ⟨"v1 x", true, ⟨3, 16⟩⟩ ⟨3, .invalidRef (some 32) .chars⟩ v1x_blank

/-- **`offending_char` on the text**: character number `e.col - 1` of the string IS the character the message names -/
theorem offending_char_text (k : Kind) (s : Str) (e : GErr) (he : e ∈ validateK k (symsOf s.value)) (ch : Nat)
    (hn : namedChar e.msg = some ch) (h0 : e.col ≠ 0) : (s.value.toList[e.col - 1]?).map Char.toNat = some ch := by
  have := (offending_char k s e he ch hn h0).2
  rw [symsOf_chars, List.getElem?_map, Option.map_map] at this
  exact this

example : ("v1 x".toList[2]?).map Char.toNat = some 32 :=
  offending_char_text .ref ⟨"v1 x", true, ⟨3, 16⟩⟩ ⟨3, .invalidRef (some 32) .chars⟩ v1x_blank 32 rfl (by decide)

/-! ## 2. from the document -/

/-- the string the parser makes of a filter pattern written in the document: text, quoting, position of the scalar -/
def docStr (p : Node × Kind) : Str × Kind := (newString p.1, p.2)

theorem reports_strOf (k : Kind) (c : Node) : reports k (strOf c) = if c.kind = .scalar then reports k (newString c) else [] := by
  by_cases hk : c.kind = .scalar
  · by_cases hv : c.value = ""
    · have : (strOf c).value = "" := by simp [strOf, parseString, checkString, hk, hv]
      simp [reports, this, hk, hv, newString]
    · rw [strOf_scalar c hk hv]; simp [hk]
  · have : (strOf c).value = "" := by simp [strOf, parseString, checkString, hk]
    simp [reports, this, hk]

/-- **the pattern strings of the AST are the items written under `on.<event>.<filter>`** (the value when it is a scalar, the
elements when it is a sequence), in order, with the kind of the filter key, each as `parseString` reads it (`strOf`: the
scalar's text, quoting and position; the empty string for an empty scalar or a non-scalar). Needs the HEADERS of the workflow
mapping, of `on:` and of the events only. -/
theorem patterns_written (cfg : Cfg) (doc : Node) (h : HeadersClean cfg doc) :
    patternsOf (parse cfg doc).1 = (docFilterItems doc).map fun p => (strOf p.1, p.2) := parse_patterns cfg doc h

/-- … hence **the non-empty pattern strings of the AST are exactly the non-empty scalars written there** -/
theorem patterns_written_nonempty (cfg : Cfg) (doc : Node) (h : HeadersClean cfg doc) :
    (patternsOf (parse cfg doc).1).filter (fun p => p.1.value ≠ "") =
      ((docFilterPatterns doc).filter fun p => p.1.value ≠ "").map docStr := by
  rw [patterns_written cfg doc h, docFilterPatterns, List.filter_filter]
  generalize docFilterItems doc = l
  induction l with
  | nil => rfl
  | cons x rest ih =>
    simp only [List.map_cons]
    by_cases hx : (strOf x.1).value = ""
    · have : ¬ (x.1.value ≠ "" ∧ x.1.kind = .scalar) := by
        rintro ⟨hv, hk⟩
        rw [strOf_scalar x.1 hk hv] at hx
        exact hv hx
      rw [List.filter_cons_of_neg (by simpa using hx), List.filter_cons_of_neg (by simpa using this), ih]
    · obtain ⟨hk, hv, e⟩ := strOf_value_ne x.1 hx
      rw [List.filter_cons_of_pos (by simpa using hx), List.filter_cons_of_pos (by simp [hk, hv]), ih, List.map_cons, docStr, e]

/-- **for a document the parser accepts without a diagnostic**: every item under a filter key is a non-empty scalar, and the
pattern strings of the AST are these scalars -/
theorem patterns_written_clean (cfg : Cfg) (doc : Node) (h : (parse cfg doc).2 = []) :
    patternsOf (parse cfg doc).1 = (docFilterPatterns doc).map docStr ∧
    docFilterPatterns doc = docFilterItems doc ∧ ∀ p ∈ docFilterPatterns doc, p.1.value ≠ "" := by
  obtain ⟨hh, hc⟩ := clean_headers cfg doc h
  have hall : ∀ p ∈ docFilterItems doc, p.1.kind = .scalar ∧ p.1.value ≠ "" ∧ strOf p.1 = newString p.1 :=
    fun p hp => strOf_clean p.1 (hc p hp)
  have he : docFilterPatterns doc = docFilterItems doc := by
    unfold docFilterPatterns
    rw [List.filter_eq_self]
    intro p hp
    simp [(hall p hp).1]
  refine ⟨?_, he, fun p hp => (hall p (he ▸ hp)).2.1⟩
  rw [patterns_written cfg doc hh, he]
  apply List.map_congr_left
  intro p hp
  simp only [docStr, (hall p hp).2.2]

/-- **every filter pattern written in the document is a pattern string of the AST of the right kind, and conversely** -/
theorem pattern_mem_iff (cfg : Cfg) (doc : Node) (h : (parse cfg doc).2 = []) (s : Str) (k : Kind) :
    (s, k) ∈ patternsOf (parse cfg doc).1 ↔ ∃ n, (n, k) ∈ docFilterPatterns doc ∧ s = newString n := by
  rw [(patterns_written_clean cfg doc h).1, List.mem_map]
  constructor
  · rintro ⟨p, hp, e⟩
    simp only [docStr, Prod.mk.injEq] at e
    obtain ⟨rfl, rfl⟩ := e
    exact ⟨p.1, hp, rfl⟩
  · rintro ⟨n, hn, rfl⟩
    exact ⟨(n, k), hn, rfl⟩

/-- **the glob diagnostics of a document**: for every filter pattern written in it, in order, what `reports` says about the
scalar's text at the scalar's position. Needs the headers only: whatever else the parser reports — about `jobs:`, about the
other keys, about empty or non-scalar items of the filters themselves — changes nothing. -/
theorem doc_glob_diags_exact (cfg : Cfg) (doc : Node) (h : HeadersClean cfg doc) :
    ruleGlob (parse cfg doc).1 = (docFilterPatterns doc).flatMap fun p => reports p.2 (newString p.1) := by
  rw [glob_diags_exact, patterns_written cfg doc h, docFilterPatterns]
  generalize docFilterItems doc = l
  induction l with
  | nil => rfl
  | cons x rest ih =>
    simp only [List.map_cons, List.flatMap_cons, List.filter_cons, ih, reports_strOf]
    by_cases hk : x.1.kind = .scalar
    · simp [hk]
    · simp [hk]

/-- … for a document the parser accepts -/
theorem doc_glob_diags_exact_clean (cfg : Cfg) (doc : Node) (h : (parse cfg doc).2 = []) :
    ruleGlob (parse cfg doc).1 = (docFilterPatterns doc).flatMap fun p => reports p.2 (newString p.1) :=
  doc_glob_diags_exact cfg doc (clean_headers cfg doc h).1

/-- … in the "or the parser reports" form -/
theorem doc_glob_diags_exact_or (cfg : Cfg) (doc : Node) :
    (parse cfg doc).2 ≠ [] ∨ ruleGlob (parse cfg doc).1 = (docFilterPatterns doc).flatMap fun p => reports p.2 (newString p.1) :=
  AL.C03P.or_of_clean (doc_glob_diags_exact_clean cfg doc)

/-- … from the condition on the document alone (`DocHeaders`, decidable) -/
theorem doc_glob_diags_exact_of_doc (cfg : Cfg) (doc : Node) (h : DocHeaders doc) :
    ruleGlob (parse cfg doc).1 = (docFilterPatterns doc).flatMap fun p => reports p.2 (newString p.1) :=
  doc_glob_diags_exact cfg doc (docHeaders_clean cfg doc h)

/-- the column at which character number `i` of a scalar's text stands when the scalar is written on one line, plain or
quoted without escape sequences: the scalar's column, + 1 for the opening quote, + `i` -/
def writtenCol (n : Node) (i : Nat) : Nat := n.col + (if n.quoted then 1 else 0) + i

/-- the diagnostic for the validator's message `e` about the scalar `n` -/
def docDiag (n : Node) (e : GErr) : Diag := ⟨⟨n.line, writtenCol n (e.col - 1)⟩, "glob", "glob", [globCode e.msg]⟩

theorem diagAt_newString (n : Node) (e : GErr) : diagAt (newString n) e = docDiag n e := rfl

/-- **a glob diagnostic of the document is**: for a non-empty filter pattern written in it and a message of the validator of
its kind about its text, the diagnostic on the scalar's own line, at the column of character number `k - 1` of the text -/
theorem doc_glob_diag_iff (cfg : Cfg) (doc : Node) (h : HeadersClean cfg doc) (d : Diag) :
    d ∈ ruleGlob (parse cfg doc).1 ↔
      ∃ p ∈ docFilterPatterns doc, p.1.value ≠ "" ∧ ∃ e ∈ validateK p.2 (symsOf p.1.value), d = docDiag p.1 e := by
  rw [doc_glob_diags_exact cfg doc h, List.mem_flatMap]
  constructor
  · rintro ⟨p, hp, hd⟩
    by_cases hne : (newString p.1).value = ""
    · simp [reports, hne] at hd
    · simp only [reports, hne, if_false] at hd
      obtain ⟨e, he, rfl⟩ := List.mem_map.1 hd
      exact ⟨p, hp, hne, e, he, rfl⟩
  · rintro ⟨p, hp, hne, e, he, rfl⟩
    refine ⟨p, hp, ?_⟩
    have : (newString p.1).value ≠ "" := hne
    simp only [reports, this, if_false]
    exact List.mem_map.2 ⟨e, he, rfl⟩

/-- **a filter pattern written in the document is reported iff it is NOT in the language** (the language the validator
decides; `documented`: see the next two) -/
theorem doc_pattern_reported_iff (cfg : Cfg) (doc : Node) (h : HeadersClean cfg doc) (p : Node × Kind)
    (hp : p ∈ docFilterPatterns doc) (hne : p.1.value ≠ "") (hb : NoBOM (symsOf p.1.value)) :
    (∃ e ∈ validateK p.2 (symsOf p.1.value), docDiag p.1 e ∈ ruleGlob (parse cfg doc).1) ↔
      ¬ InLangLoose p.2 (symsOf p.1.value) := by
  rw [← validateK_nil_iff p.2 _ hb]
  constructor
  · rintro ⟨e, he, _⟩ hv
    rw [hv] at he
    cases he
  · intro hv
    cases hv' : validateK p.2 (symsOf p.1.value) with
    | nil => exact absurd hv' hv
    | cons e rest =>
      refine ⟨e, List.mem_cons_self .., ?_⟩
      exact (doc_glob_diag_iff cfg doc h _).2 ⟨p, hp, hne, e, by rw [hv']; exact List.mem_cons_self .., rfl⟩

/-- **a scalar whose text is in the documented language is not reported**: `documented_not_reported` at the string the parser
makes of the scalar — `reports` says nothing about it. `p` is any node with a kind; that the rule's output on a document is
made of these `reports` is `doc_glob_diags_exact` -/
theorem doc_documented_not_reported (p : Node × Kind) (hb : NoBOM (symsOf p.1.value)) (hl : InLang p.2 (symsOf p.1.value)) :
    reports p.2 (newString p.1) = [] :=
  documented_not_reported p.2 (newString p.1) hb hl

/-- **the offending character, at a written scalar** (any node `p.1`, no document in the statement): when the message names a character (and the validator's column is not the
fallback 0), the diagnostic is on the scalar's line at the column where character number `e.col - 1` of its text is written
(scalar on one line, plain or quoted without escape sequences; the definition of `docDiag`, restated), and that character is
the named one -/
theorem doc_offending_char (p : Node × Kind) (e : GErr) (he : e ∈ validateK p.2 (symsOf p.1.value)) (ch : Nat)
    (hn : namedChar e.msg = some ch) (h0 : e.col ≠ 0) :
    (docDiag p.1 e).pos = ⟨p.1.line, writtenCol p.1 (e.col - 1)⟩ ∧ (p.1.value.toList[e.col - 1]?).map Char.toNat = some ch :=
  ⟨rfl, offending_char_text p.2 (newString p.1) e he ch hn h0⟩

/-- **the items the rule skips are reported by the parser**: an empty scalar (`string-empty`) or a non-scalar
(`not-scalar-string`) written under a filter key, at its own position -/
theorem empty_pattern_parser_reports (c : Node) (h : (strOf c).value = "") :
    (c.kind = .scalar ∧ c.value = "" ∧ (parseString c false).2 = [⟨c.pos, "string-empty", []⟩]) ∨
    (c.kind ≠ .scalar ∧ (parseString c false).2 = [⟨c.pos, "not-scalar-string", [c.kind.name, c.tag]⟩]) := by
  by_cases hk : c.kind = .scalar
  · by_cases hv : c.value = ""
    · exact Or.inl ⟨hk, hv, by simp [parseString, checkString, hk, hv, errAt]⟩
    · rw [strOf_scalar c hk hv] at h
      exact absurd h hv
  · exact Or.inr ⟨hk, by simp [parseString, checkString, hk, errAt]⟩

/-! ## 3. independence -/

/-- **the glob diagnostics depend on the filter patterns only**: two workflows with the same patterns get the same ones -/
theorem glob_independent_ast (w w' : Workflow) (h : patternsOf w = patternsOf w') : ruleGlob w = ruleGlob w' := by
  rw [glob_diags_exact, glob_diags_exact, h]

/-- the jobs, the name, `env`, `permissions`, `defaults`, `concurrency` in particular do not matter -/
theorem glob_independent_of_rest (w : Workflow) (name runName : Option Str) (perms : Option Permissions) (env : Option Env)
    (dflt : Option Defaults) (conc : Option Concurrency) (jobs : Option (List (String × Job))) :
    ruleGlob { w with name := name, runName := runName, permissions := perms, env := env, defaults := dflt,
                      concurrency := conc, jobs := jobs } = ruleGlob w := rfl

/-- **two documents in which the same filter patterns are written get the same glob diagnostics** — whatever their jobs,
their other keys, their other events, and whatever the parser is configured with or reports about the rest -/
theorem glob_independent_doc (cfg cfg' : Cfg) (doc doc' : Node) (h : HeadersClean cfg doc) (h' : HeadersClean cfg' doc')
    (he : docFilterPatterns doc = docFilterPatterns doc') : ruleGlob (parse cfg doc).1 = ruleGlob (parse cfg' doc').1 := by
  rw [doc_glob_diags_exact cfg doc h, doc_glob_diags_exact cfg' doc' h', he]

/-- the filter patterns of a document are read from the node under `on:` alone -/
theorem glob_independent_of_on (doc doc' : Node) (h : docOn doc = docOn doc') : docFilterPatterns doc = docFilterPatterns doc' := by
  unfold docFilterPatterns docFilterItems docEvents
  rw [h]

/-- the scalars under the six filter keys of one event node -/
def eventPatternNodes (ev : Node) : List (Node × Kind) := (itemsOfEvent ev).filter fun p => p.1.kind = .scalar

/-- **event by event**: the glob diagnostics are the concatenation, over the webhook events of `on:` in order, of what is
reported about the patterns written under THAT event — the other events contribute nothing to it -/
theorem doc_glob_per_event (cfg : Cfg) (doc : Node) (h : HeadersClean cfg doc) :
    ruleGlob (parse cfg doc).1 =
      (docEvents doc).flatMap fun ev => (eventPatternNodes ev.2).flatMap fun p => reports p.2 (newString p.1) := by
  rw [doc_glob_diags_exact cfg doc h, docFilterPatterns, docFilterItems]
  generalize docEvents doc = l
  induction l with
  | nil => rfl
  | cons x rest ih => simp only [List.flatMap_cons, List.filter_append, List.flatMap_append, ih, eventPatternNodes]

/-- `on:` not written as a mapping (`on: push`, `on: [push, pull_request]`), or without a webhook event: no filter pattern,
no glob diagnostic -/
theorem glob_no_filters (cfg : Cfg) (doc : Node) (h : HeadersClean cfg doc) (hn : docEvents doc = []) :
    ruleGlob (parse cfg doc).1 = [] := by
  rw [doc_glob_per_event cfg doc h, hn]
  rfl

/-! ### … inside the whole-file model -/

open AL.C09C (KindIs kindIs_map filter_stableSort kind_glob kind_wcRule kind_projAction)

/-- **of all the rules only rule glob reports under the kind `glob`** -/
theorem rules_glob_exact (lower : String → String) (isNum urlOk : String → Bool) (w : Workflow) (lc : LabelCfg) :
    (rules lower isNum urlOk w lc).filter isGlob = ruleGlob w := by
  have hrow : ("glob", ruleGlob w) ∈ AL.C09C.ruleTable lower isNum urlOk w lc := by
    simp only [AL.C09C.ruleTable, List.mem_cons, true_or, or_true]
  rw [AL.C09C.filter_rules_row (p := isGlob) (fun d h => beq_iff_eq.1 h) hrow, filter_glob_self (kind_glob w)]

/-- **the glob diagnostics in the output of the whole-file model** (parser, all rules, the sort): those of rule glob on the AST
the parser builds, stably sorted by position -/
theorem lint_glob_exact (cfg : AL.PW.Cfg) (isNum urlOk : String → Bool) (doc : Node) (lc : LabelCfg) :
    (lint cfg isNum urlOk doc lc).filter isGlob = stableSort (ruleGlob (AL.PW.parse cfg doc).1) := by
  unfold lint
  simp only [filter_stableSort, List.filter_append, rules_glob_exact]
  have : ((AL.PW.parse cfg doc).2.map ofPErr).filter isGlob = [] :=
    filter_glob_other (k := "syntax-check") (by decide) (kindIs_map fun _ => rfl)
  rw [this, List.nil_append]

/-- the same inside a project -/
theorem projLint_glob_exact (cfg : AL.PW.Cfg) (isNum urlOk : String → Bool) (env : AL.ProjLint.Env) (doc : Node) :
    (AL.ProjLint.lint cfg isNum urlOk env doc).filter isGlob = stableSort (ruleGlob (AL.PW.parse cfg doc).1) := by
  unfold AL.ProjLint.lint
  simp only [filter_stableSort, List.filter_append, rules_glob_exact,
    filter_glob_other (by decide) (kind_wcRule env.calls cfg.lower _),
    filter_glob_other (by decide) (kind_projAction env.actions _), List.append_nil]
  have : ((AL.PW.parse cfg doc).2.map ofPErr).filter isGlob = [] :=
    filter_glob_other (k := "syntax-check") (by decide) (kindIs_map fun _ => rfl)
  rw [this, List.nil_append]


/-- **the glob diagnostics in the output for a document**: what `reports` says about the filter patterns written in it,
stably sorted by position — a function of `docFilterPatterns doc` alone -/
theorem doc_lint_glob_exact (cfg : Cfg) (isNum urlOk : String → Bool) (doc : Node) (lc : LabelCfg) (h : HeadersClean cfg doc) :
    (lint cfg isNum urlOk doc lc).filter isGlob =
      stableSort ((docFilterPatterns doc).flatMap fun p => reports p.2 (newString p.1)) := by
  rw [lint_glob_exact, doc_glob_diags_exact cfg doc h]

/-- **independence, in the output**: two documents in which the same filter patterns are written get the same glob
diagnostics, in the same order — whatever their jobs and other keys, whatever the parser and the other rules report, and
whatever the other rules are told (`lower`, `atoi`, `parseFloat`, `isNum`, `urlOk`, the runner labels of the configuration) -/
theorem lint_glob_independent (cfg cfg' : Cfg) (isNum isNum' urlOk urlOk' : String → Bool) (doc doc' : Node) (lc lc' : LabelCfg)
    (h : HeadersClean cfg doc) (h' : HeadersClean cfg' doc') (he : docFilterPatterns doc = docFilterPatterns doc') :
    (lint cfg isNum urlOk doc lc).filter isGlob = (lint cfg' isNum' urlOk' doc' lc').filter isGlob := by
  rw [doc_lint_glob_exact cfg isNum urlOk doc lc h, doc_lint_glob_exact cfg' isNum' urlOk' doc' lc' h', he]

/-- **every diagnostic about a filter pattern written in the document is in the output** -/
theorem doc_pattern_diag_in_lint (cfg : Cfg) (isNum urlOk : String → Bool) (doc : Node) (lc : LabelCfg) (h : HeadersClean cfg doc)
    (p : Node × Kind) (hp : p ∈ docFilterPatterns doc) (hne : p.1.value ≠ "") (e : GErr) (he : e ∈ validateK p.2 (symsOf p.1.value)) :
    docDiag p.1 e ∈ lint cfg isNum urlOk doc lc := by
  have h1 : docDiag p.1 e ∈ stableSort (ruleGlob (parse cfg doc).1) :=
    (AL.C09R.stableSort_perm _).mem_iff.2 ((doc_glob_diag_iff cfg doc h _).2 ⟨p, hp, hne, e, he, rfl⟩)
  rw [← lint_glob_exact cfg isNum urlOk doc lc] at h1
  exact (List.mem_filter.1 h1).1

/-- … and every glob diagnostic of the output is about a filter pattern written in the document -/
theorem lint_glob_diag_written (cfg : Cfg) (isNum urlOk : String → Bool) (doc : Node) (lc : LabelCfg) (h : HeadersClean cfg doc)
    (d : Diag) (hd : d ∈ lint cfg isNum urlOk doc lc) (hk : d.kind = "glob") :
    ∃ p ∈ docFilterPatterns doc, p.1.value ≠ "" ∧ ∃ e ∈ validateK p.2 (symsOf p.1.value), d = docDiag p.1 e := by
  have h1 : d ∈ (lint cfg isNum urlOk doc lc).filter isGlob := List.mem_filter.2 ⟨hd, by simp [isGlob, hk]⟩
  rw [lint_glob_exact] at h1
  exact (doc_glob_diag_iff cfg doc h d).1 ((AL.C09R.stableSort_perm _).mem_iff.1 h1)

/-! ## 4. a concrete document -/

section Example

def exCfg : Cfg := ⟨asciiLower, fun _ => none, fun _ => .err⟩
private def sc (v : String) (l c : Nat) : Node := .mk .scalar "!!str" v false l c []
private def qs (v : String) (l c : Nat) : Node := .mk .scalar "!!str" v true l c []
private def nul (l c : Nat) : Node := .mk .scalar "!!null" "" false l c []
private def mp (l c : Nat) (cs : List Node) : Node := .mk .mapping "!!map" "" false l c cs
private def sq (l c : Nat) (cs : List Node) : Node := .mk .sequence "!!seq" "" false l c cs

/-- lines 2–11 of the document below -/
def exOn : Node :=
  mp 2 3 [
    sc "push" 2 3, mp 3 5 [
      sc "branches" 3 5, sq 3 15 [sc "main" 3 16, qs "release/**" 3 22, qs "v1 x" 3 36],
      sc "tags-ignore" 4 5, sc "v[0-9]+.*" 4 18,
      sc "paths" 5 5, sq 6 7 [qs "docs/**" 6 9, qs "src/[z-a].c" 7 9]],
    sc "pull_request" 8 3, mp 9 5 [
      sc "paths-ignore" 9 5, qs "**.md " 9 19,
      sc "branches" 10 5, sc "/main" 10 15],
    sc "workflow_dispatch" 11 3, nul 11 21]

def exJobs : Node := mp 13 3 [sc "b" 13 3, mp 14 5 [sc "runs-on" 14 5, sc "ubuntu-latest" 14 14,
  sc "steps" 15 5, sq 16 7 [mp 16 9 [sc "run" 16 9, sc "make" 16 14]]]]

/--
```
 1 on:
 2   push:
 3     branches: [main, 'release/**', "v1 x"]
 4     tags-ignore: v[0-9]+.*
 5     paths:
 6       - 'docs/**'
 7       - "src/[z-a].c"
 8   pull_request:
 9     paths-ignore: '**.md '
10     branches: /main
11   workflow_dispatch:
12 jobs:
13   b:
14     runs-on: ubuntu-latest
15     steps:
16       - run: make
```
-/
def exDoc : Node := .mk .document "" "" false 1 1 [mp 1 1 [sc "on" 1 1, exOn, sc "jobs" 12 1, exJobs]]

/-- the parser and the rule evaluated on the document, once: `exDoc_clean` and `exDoc_glob` are the two halves -/
theorem exDoc_evaluated : (parse exCfg exDoc).2 = [] ∧ ruleGlob (parse exCfg exDoc).1 =
    [⟨⟨3, 39⟩, "glob", "glob", ["ref,32,chars"]⟩, ⟨⟨7, 17⟩, "glob", "glob", ["unexp,97,cr,range:122:97"]⟩,
     ⟨⟨10, 15⟩, "glob", "glob", ["ref,47,start"]⟩, ⟨⟨9, 25⟩, "glob", "glob", ["trail"]⟩] := by decide +kernel

theorem exDoc_clean : (parse exCfg exDoc).2 = [] := exDoc_evaluated.1
theorem exDoc_headers : DocHeaders exDoc := by decide +kernel

/-- the eight filter patterns written in it, with their kinds (within an event in the order of the filter keys) -/
theorem exDoc_patterns : docFilterPatterns exDoc =
    [(sc "main" 3 16, .ref), (qs "release/**" 3 22, .ref), (qs "v1 x" 3 36, .ref), (sc "v[0-9]+.*" 4 18, .ref),
     (qs "docs/**" 6 9, .path), (qs "src/[z-a].c" 7 9, .path), (sc "/main" 10 15, .ref), (qs "**.md " 9 19, .path)] := by
  rfl

/-- **the four invalid ones are reported, each on its own line at the offending character**: the blank of `"v1 x"` (quoted at
3:36: 36 + 1 + 2), the `a` of the descending range in `"src/[z-a].c"` (quoted at 7:9: 9 + 1 + 7), the leading `/` of the
plain `/main` (10:15), the trailing blank of `'**.md '` (quoted at 9:19: 19 + 1 + 5); the four valid ones — plain `main`,
plain `v[0-9]+.*`, quoted `'release/**'`, quoted `'docs/**'` — are not -/
theorem exDoc_glob : ruleGlob (parse exCfg exDoc).1 =
    [⟨⟨3, 39⟩, "glob", "glob", ["ref,32,chars"]⟩, ⟨⟨7, 17⟩, "glob", "glob", ["unexp,97,cr,range:122:97"]⟩,
     ⟨⟨10, 15⟩, "glob", "glob", ["ref,47,start"]⟩, ⟨⟨9, 25⟩, "glob", "glob", ["trail"]⟩] := exDoc_evaluated.2

/-- in the output: sorted by position -/
example : (lint exCfg (fun _ => false) (fun _ => true) exDoc).filter isGlob =
    [⟨⟨3, 39⟩, "glob", "glob", ["ref,32,chars"]⟩, ⟨⟨7, 17⟩, "glob", "glob", ["unexp,97,cr,range:122:97"]⟩,
     ⟨⟨9, 25⟩, "glob", "glob", ["trail"]⟩, ⟨⟨10, 15⟩, "glob", "glob", ["ref,47,start"]⟩] := by
  rw [lint_glob_exact, exDoc_glob]
  decide +kernel

/-- the per-pattern verdicts: the valid ones are in the (loose) language, the invalid ones are not -/
example : reports .ref (newString (sc "main" 3 16)) = [] ∧ reports .ref (newString (qs "release/**" 3 22)) = [] ∧
    reports .ref (newString (sc "v[0-9]+.*" 4 18)) = [] ∧ reports .path (newString (qs "docs/**" 6 9)) = [] ∧
    reports .ref (newString (qs "v1 x" 3 36)) = [⟨⟨3, 39⟩, "glob", "glob", ["ref,32,chars"]⟩] ∧
    reports .path (newString (qs "**.md " 9 19)) = [⟨⟨9, 25⟩, "glob", "glob", ["trail"]⟩] := by
  refine ⟨?_, ?_, ?_, ?_, ?_, ?_⟩ <;> decide +kernel

example : InLangLoose .ref (symsOf "v[0-9]+.*") :=
  (reports_nil_iff .ref (newString (sc "v[0-9]+.*" 4 18)) (by decide) (by decide +kernel)).1 (by decide +kernel)

example : ¬ InLangLoose .path (symsOf "src/[z-a].c") :=
  ((reported_iff .path (newString (qs "src/[z-a].c" 7 9)) (by decide +kernel)).1
    ⟨⟨⟨7, 17⟩, "glob", "glob", ["unexp,97,cr,range:122:97"]⟩, by decide +kernel⟩).2

example : reports .ref (newString (qs "release/**" 3 22)) = [] ↔ InLangLoose .ref (symsOf "release/**") :=
  reports_nil_iff .ref _ (by decide) (by decide +kernel)

/-- `main` is in the documented ref language (four ordinary characters, no `/` first, no `/` or `.` last) … -/
theorem main_documented : InLang .ref (symsOf "main") := by
  have e : symsOf "main" = AL.C17.ascii [109, 97, 105, 110] := by decide +kernel
  rw [e]
  have hb : body (AL.C17.ascii [109, 97, 105, 110]) = AL.C17.ascii [109, 97, 105, 110] := by simp [body, AL.C17.ascii]
  have ho : ∀ r, r = 109 ∨ r = 97 ∨ r = 105 ∨ r = 110 → Ordinary true ⟨r, 1, false⟩ := by
    intro r hr
    unfold Ordinary LineBreak RefInvalid
    rcases hr with rfl | rfl | rfl | rfl <;> simp
  refine ⟨?_, by rw [hb]; simp [AL.C17.ascii], ?_, fun _ => by simp [RefEnds, AL.C17.ascii]⟩
  · intro c hc
    simp only [AL.C17.ascii, List.map_cons, List.map_nil, List.mem_cons, List.not_mem_nil, or_false] at hc
    rcases hc with rfl | rfl | rfl | rfl <;> exact ⟨rfl, by decide⟩
  · rw [hb]
    exact .ord _ _ _ (ho 109 (by simp)) (.ord _ _ _ (ho 97 (by simp)) (.ord _ _ _ (ho 105 (by simp)) (.ord _ _ _ (ho 110 (by simp)) (.nil _))))

/-- … hence not reported, wherever it is written -/
example : reports .ref (newString (sc "main" 3 16)) = [] :=
  doc_documented_not_reported (sc "main" 3 16, .ref) (by decide +kernel) main_documented

example : reports .ref ⟨"main", false, ⟨3, 16⟩⟩ = [] := documented_not_reported .ref _ (by decide +kernel) main_documented

example : reports .ref ⟨"", true, ⟨3, 12⟩⟩ = [] ∧ ¬ InLangLoose .ref (symsOf "") ∧ ¬ InLang .ref (symsOf "") :=
  empty_pattern_skipped .ref ⟨"", true, ⟨3, 12⟩⟩ rfl

/-- the AST of `exDoc` without its jobs gets the same glob diagnostics -/
example : ruleGlob { on := (parse exCfg exDoc).1.on } = ruleGlob (parse exCfg exDoc).1 :=
  glob_independent_ast _ _ rfl

/-- a glob diagnostic of the output is about a pattern written in the document -/
example : ∃ p ∈ docFilterPatterns exDoc, p.1.value ≠ "" ∧ ∃ e ∈ validateK p.2 (symsOf p.1.value),
    docDiag (qs "v1 x" 3 36) ⟨3, .invalidRef (some 32) .chars⟩ = docDiag p.1 e :=
  lint_glob_diag_written exCfg (fun _ => false) (fun _ => true) exDoc {} (docHeaders_clean _ _ exDoc_headers) _
    (doc_pattern_diag_in_lint exCfg _ _ exDoc {} (docHeaders_clean _ _ exDoc_headers) (qs "v1 x" 3 36, .ref)
      (by rw [exDoc_patterns]; simp) (by decide) _ v1x_blank) rfl

/-! instances of the theorems of §2 and §3 on `exDoc` -/

example : patternsOf (parse exCfg exDoc).1 = (docFilterItems exDoc).map fun p => (strOf p.1, p.2) :=
  patterns_written exCfg exDoc (docHeaders_clean _ _ exDoc_headers)

example : (patternsOf (parse exCfg exDoc).1).filter (fun p => p.1.value ≠ "") =
    ((docFilterPatterns exDoc).filter fun p => p.1.value ≠ "").map docStr :=
  patterns_written_nonempty exCfg exDoc (clean_headers _ _ exDoc_clean).1

example : patternsOf (parse exCfg exDoc).1 = (docFilterPatterns exDoc).map docStr := (patterns_written_clean exCfg exDoc exDoc_clean).1

example : (⟨"v1 x", true, ⟨3, 36⟩⟩, Kind.ref) ∈ patternsOf (parse exCfg exDoc).1 :=
  (pattern_mem_iff exCfg exDoc exDoc_clean _ _).2 ⟨qs "v1 x" 3 36, by rw [exDoc_patterns]; simp, rfl⟩

example : ruleGlob (parse exCfg exDoc).1 = (docFilterPatterns exDoc).flatMap fun p => reports p.2 (newString p.1) :=
  doc_glob_diags_exact_of_doc exCfg exDoc exDoc_headers

example : ruleGlob (parse exCfg exDoc).1 = (docFilterPatterns exDoc).flatMap fun p => reports p.2 (newString p.1) :=
  doc_glob_diags_exact_clean exCfg exDoc exDoc_clean

example : (⟨⟨7, 17⟩, "glob", "glob", ["unexp,97,cr,range:122:97"]⟩ : Diag) ∈ ruleGlob (parse exCfg exDoc).1 :=
  (doc_glob_diag_iff exCfg exDoc (docHeaders_clean _ _ exDoc_headers) _).2
    ⟨(qs "src/[z-a].c" 7 9, .path), by rw [exDoc_patterns]; simp, by decide,
      ⟨8, .unexpected (some 97) .range (.badRange 122 97)⟩, by decide +kernel, by decide +kernel⟩

/-- `"v1 x"` is reported, hence not in the language; `'release/**'` is in the documented language, hence not reported -/
example : ¬ InLangLoose .ref (symsOf "v1 x") :=
  (doc_pattern_reported_iff exCfg exDoc (docHeaders_clean _ _ exDoc_headers) (qs "v1 x" 3 36, .ref)
    (by rw [exDoc_patterns]; simp) (by decide) (by decide +kernel)).1
    ⟨⟨3, .invalidRef (some 32) .chars⟩, v1x_blank, by rw [exDoc_glob]; decide +kernel⟩

/-- the named character of the report about `"src/[z-a].c"` is its character number 7, written at column 9 + 1 + 7 -/
example : (docDiag (qs "src/[z-a].c" 7 9) ⟨8, .unexpected (some 97) .range (.badRange 122 97)⟩).pos = ⟨7, 17⟩ ∧
    ("src/[z-a].c".toList[7]?).map Char.toNat = some 97 :=
  doc_offending_char (qs "src/[z-a].c" 7 9, .path) ⟨8, .unexpected (some 97) .range (.badRange 122 97)⟩ (by decide +kernel) 97 rfl
    (by decide)

example : (lint exCfg (fun _ => false) (fun _ => true) exDoc).filter isGlob =
    stableSort ((docFilterPatterns exDoc).flatMap fun p => reports p.2 (newString p.1)) :=
  doc_lint_glob_exact exCfg _ _ exDoc {} (docHeaders_clean _ _ exDoc_headers)

example : docDiag (qs "v1 x" 3 36) ⟨3, .invalidRef (some 32) .chars⟩ ∈ lint exCfg (fun _ => false) (fun _ => true) exDoc :=
  doc_pattern_diag_in_lint exCfg _ _ exDoc {} (docHeaders_clean _ _ exDoc_headers) (qs "v1 x" 3 36, .ref)
    (by rw [exDoc_patterns]; simp) (by decide) _ v1x_blank

example : ruleGlob (parse exCfg exDoc).1 =
    (docEvents exDoc).flatMap fun ev => (eventPatternNodes ev.2).flatMap fun p => reports p.2 (newString p.1) :=
  doc_glob_per_event exCfg exDoc (docHeaders_clean _ _ exDoc_headers)

/-- the webhook events of `exDoc`: `push` and `pull_request` (not `workflow_dispatch`) -/
example : (docEvents exDoc).map (·.1.value) = ["push", "pull_request"] := by decide +kernel

/-! ### the same `on:` over a document the parser refuses

```
 1 on: (as above)
12 jobs:
13   b:
14     steps: []
15 colour: red
```
(no `runs-on`, empty `steps`, an unknown key) and, under a third event, a filter with an empty and a non-scalar item:
```
   create:
     tags: ["", [x], "rel/"]
```
-/

def exOnDirty : Node :=
  mp 2 3 [sc "create" 2 3, mp 3 5 [sc "tags" 3 5, sq 3 11 [qs "" 3 12, sq 3 16 [sc "x" 3 17], qs "rel/" 3 21]]]

def exDocDirty : Node := .mk .document "" "" false 1 1 [mp 1 1 [sc "on" 1 1, exOn,
  sc "jobs" 12 1, mp 13 3 [sc "b" 13 3, mp 14 5 [sc "steps" 14 5, sq 14 12 []]], sc "colour" 15 1, sc "red" 15 9]]

def exDocDirty2 : Node := .mk .document "" "" false 1 1 [mp 1 1 [sc "on" 1 1, exOnDirty, sc "jobs" 4 1, exJobs]]

theorem exDocDirty_headers : DocHeaders exDocDirty := by decide +kernel

/-- the parser reports four things about it … -/
example : (parse exCfg exDocDirty).2.map (·.code) = ["section-empty", "job-no-steps", "job-no-runs-on", "unexpected-key"] := by decide +kernel

/-- … and the glob diagnostics are those of `exDoc`: the same patterns are written -/
example : ruleGlob (parse exCfg exDocDirty).1 = ruleGlob (parse exCfg exDoc).1 :=
  glob_independent_doc exCfg exCfg exDocDirty exDoc (docHeaders_clean _ _ exDocDirty_headers) (docHeaders_clean _ _ exDoc_headers)
    (glob_independent_of_on _ _ (by rfl))

example : docOn exDocDirty = docOn exDoc := by rfl

example : (lint exCfg (fun _ => false) (fun _ => true) exDocDirty).filter isGlob =
    (lint exCfg (fun _ => true) (fun _ => false) exDoc).filter isGlob :=
  lint_glob_independent exCfg exCfg _ _ _ _ exDocDirty exDoc {} {} (docHeaders_clean _ _ exDocDirty_headers)
    (docHeaders_clean _ _ exDoc_headers) (glob_independent_of_on _ _ (by rfl))

/-- `tags: ["", [x], "rel/"]`: the parser reports the empty and the non-scalar item, rule glob the trailing `/` of the third
(quoted at 3:21: 21 + 1 + 3), and nothing about the first two -/
example : (parse exCfg exDocDirty2).2 = [⟨⟨3, 12⟩, "string-empty", []⟩, ⟨⟨3, 16⟩, "not-scalar-string", ["sequence", "!!seq"]⟩] ∧
    docFilterPatterns exDocDirty2 = [(qs "" 3 12, .ref), (qs "rel/" 3 21, .ref)] ∧
    ruleGlob (parse exCfg exDocDirty2).1 = [⟨⟨3, 25⟩, "glob", "glob", ["ref,47,end"]⟩] := by
  have h : (parse exCfg exDocDirty2).2 = [⟨⟨3, 12⟩, "string-empty", []⟩, ⟨⟨3, 16⟩, "not-scalar-string", ["sequence", "!!seq"]⟩] ∧
      ruleGlob (parse exCfg exDocDirty2).1 = [⟨⟨3, 25⟩, "glob", "glob", ["ref,47,end"]⟩] := by decide +kernel
  exact ⟨h.1, by rfl, h.2⟩

example : ruleGlob (parse exCfg exDocDirty2).1 = (docFilterPatterns exDocDirty2).flatMap fun p => reports p.2 (newString p.1) :=
  doc_glob_diags_exact_of_doc exCfg exDocDirty2 (by decide +kernel)

example : (parseString (qs "" 3 12) false).2 = [⟨⟨3, 12⟩, "string-empty", []⟩] := by
  rcases empty_pattern_parser_reports (qs "" 3 12) (by decide +kernel) with h | h
  · exact h.2.2
  · exact absurd (by decide +kernel) h.1

/-- `on: [push, pull_request]`: no filter can be written, nothing is reported -/
example : ruleGlob (parse exCfg (.mk .document "" "" false 1 1 [mp 1 1 [sc "on" 1 1, sq 1 5 [sc "push" 1 6, sc "pull_request" 1 12],
    sc "jobs" 2 1, exJobs]])).1 = [] :=
  glob_no_filters exCfg _ (docHeaders_clean _ _ (by decide +kernel)) (by decide +kernel)

/-- **the converse of `doc_documented_not_reported` fails in a document** (by a member of `[...]`): `branches: '[a b]'` is
accepted — by the parser and by rule glob — although `[a b]` is not in the documented ref language -/
theorem doc_reported_iff_documented_false :
    ∃ doc : Node, ∃ p ∈ docFilterPatterns doc, (parse exCfg doc).2 = [] ∧ ruleGlob (parse exCfg doc).1 = [] ∧
      NoBOM (symsOf p.1.value) ∧ ¬ InLang p.2 (symsOf p.1.value) := by
  refine ⟨.mk .document "" "" false 1 1 [mp 1 1 [sc "on" 1 1, mp 2 3 [sc "push" 2 3, mp 3 5 [sc "branches" 3 5, qs "[a b]" 3 15]],
    sc "jobs" 4 1, exJobs]], (qs "[a b]" 3 15, .ref), by rw [show docFilterPatterns _ = [(qs "[a b]" 3 15, .ref)] from rfl]; simp, ?_⟩
  rw [← and_assoc, ← and_assoc]
  exact ⟨by decide +kernel, ab_not_documented⟩

/-- **observation: a scalar of another type under a filter key is validated as its text** — `branches: ~` (the null of YAML)
is accepted by the parser (a scalar, not empty) and rule glob reports the `~` as a character a ref cannot contain -/
theorem null_scalar_validated_as_text :
    (parse exCfg (.mk .document "" "" false 1 1 [mp 1 1 [sc "on" 1 1, mp 2 3 [sc "push" 2 3, mp 3 5 [sc "branches" 3 5,
      .mk .scalar "!!null" "~" false 3 15 []]], sc "jobs" 4 1, exJobs]])).2 = [] ∧
    ruleGlob (parse exCfg (.mk .document "" "" false 1 1 [mp 1 1 [sc "on" 1 1, mp 2 3 [sc "push" 2 3, mp 3 5 [sc "branches" 3 5,
      .mk .scalar "!!null" "~" false 3 15 []]], sc "jobs" 4 1, exJobs]])).1 = [⟨⟨3, 15⟩, "glob", "glob", ["ref,126,chars"]⟩] := by
  decide +kernel

/-- **the one report that is NOT at the offending character** (`AL.C17.trailing_space_col_counterexample`, in a document):
`paths: 'é '` — quote at 3:12, `é` at 13, the blank at 14, the closing quote at 15 — is reported at column 15: the validator
gives the BYTE length of the text (3) as column of the trailing blank, the rule adds it as if it counted characters -/
theorem doc_trailing_blank_column_counterexample :
    ruleGlob (parse exCfg (.mk .document "" "" false 1 1 [mp 1 1 [sc "on" 1 1, mp 2 3 [sc "push" 2 3, mp 3 5 [sc "paths" 3 5,
      qs "é " 3 12]], sc "jobs" 4 1, exJobs]])).1 = [⟨⟨3, 15⟩, "glob", "glob", ["trail"]⟩] ∧
    writtenCol (qs "é " 3 12) 1 = 14 ∧ "é ".toList[1]? = some ' ' := by
  refine ⟨by decide +kernel, by decide, by decide⟩

end Example

end AL.C17D
