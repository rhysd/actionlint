import AL.Model.ParseWf
import AL.Model.Rules
import AL.Model.RuleExpr
import AL.Model.CallMeta
import AL.Model.ProjCall
import AL.Model.ProjLint
import AL.Model.ActionDecode
import AL.Model.ConfigDecode
import Driver.Util
import AL.Model.Ignore
import AL.Lemmas.C20DBase
import AL.Model.ProjRun
/-
  `parsewf <numbers> <node>`: the document node as an S-expression
      (k,tag,value,q,line,col,(children…))     k ∈ d s m c a   (document sequence mapping sCalar alias)
  `<numbers>`: what strconv says about the scalar values that may be read as numbers: ((value,int,float),…)
      int: `e` (Atoi fails) or the decimal value; float: e (error) n (NaN) p (> 0) z (≤ 0)
  Answer: `<diagnostics>|<AST dump>`; the harness prints the real AST in the same notation.
-/
namespace Driver.ParseWfD
open AL.Yaml AL.Ast AL.PW Driver

partial def nodeOf : SExp → Option Node
  | .list [k, tag, value, q, line, col, cs] => do
    let kind ← match k.atom? with
      | some "d" => some Kind.document | some "s" => some .sequence | some "m" => some .mapping
      | some "c" => some .scalar | some "a" => some .alias | _ => none
    let children ← match cs with
      | .list l => l.mapM nodeOf
      | .atom "E" => some []
      | _ => none
    pure (.mk kind (← tag.str?) (← value.str?) ((← q.atom?) = "1") (← line.nat?) (← col.nat?) children)
  | _ => none

structure Num where
  value : String
  int : Option Int
  float : FloatRes

def numOf : SExp → Option Num
  | .list [v, i, f] => do
    let fr ← match f.atom? with
      | some "e" => some FloatRes.err | some "n" => some .nan | some "p" => some (.val true) | some "z" => some (.val false)
      | _ => none
    let iv : Option Int ← match i.atom? with
      | some "e" => some none
      | some s => (s.toInt?).map some
      | none => none
    pure ⟨← v.str?, iv, fr⟩
  | _ => none

def cfgOf (nums : List Num) : Cfg :=
  { lower := Driver.lower
    atoi := fun s => match nums.find? (·.value = s) with | some n => n.int | none => none
    parseFloat := fun s => match nums.find? (·.value = s) with | some n => n.float | none => .err }

/-! ### dump -/

def posS (p : Pos) : String := s!"{p.line}:{p.col}"
def optS {α} (f : α → String) : Option α → String
  | none => "_"
  | some a => f a
def listS {α} (f : α → String) (l : List α) : String := "[" ++ ";".intercalate (l.map f) ++ "]"
def b01 (b : Bool) : String := if b then "1" else "0"
def strS (s : Str) : String := s!"s({hexStr s.value},{b01 s.quoted},{posS s.pos})"
def boolS (b : BoolV) : String := s!"b({b01 b.value},{optS strS b.expr},{posS b.pos})"
def intS (i : IntV) : String := s!"i({i.value},{optS strS i.expr},{posS i.pos})"
def floatS (f : FloatV) : String := s!"f({if f.positive then "p" else "n"},{optS strS f.expr},{posS f.pos})"

def insertKV {β} (kv : String × β) : List (String × β) → List (String × β)
  | [] => [kv]
  | x :: rest => if kv.1 < x.1 then kv :: x :: rest else x :: insertKV kv rest
def mapS {β} (f : β → String) (m : List (String × β)) : String :=
  "{" ++ ";".intercalate ((m.foldr insertKV []).map fun kv => hexStr kv.1 ++ "=" ++ f kv.2) ++ "}"

partial def rawS : Raw → String
  | .str v p => s!"rs({hexStr v},{posS ⟨p.line, p.col⟩})"
  | .arr es p => s!"ra({listS rawS es},{posS ⟨p.line, p.col⟩})"
  | .obj ps p => s!"ro({mapS rawS ps},{posS ⟨p.line, p.col⟩})"

def filterS (f : Filter) : String := s!"WebhookEventFilter({strS f.name},{optS (listS strS) f.values})"

def dispatchTypeS : DispatchInputType → String
  | .none => "0" | .string => "1" | .number => "2" | .boolean => "3" | .choice => "4" | .environment => "5"
def callTypeS : CallInputType → String
  | .invalid => "0" | .boolean => "1" | .number => "2" | .string => "3"

def dispatchInputS (i : DispatchInput) : String :=
  s!"DispatchInput({strS i.name},{optS strS i.description},{optS boolS i.required},{optS strS i.dflt},{dispatchTypeS i.type},{optS (listS strS) i.options})"
def callInputS (i : CallInput) : String :=
  s!"WorkflowCallEventInput({strS i.name},{optS strS i.description},{optS strS i.dflt},{optS boolS i.required},{callTypeS i.type},{hexStr i.id})"
def callSecretS (i : CallSecret) : String :=
  s!"WorkflowCallEventSecret({strS i.name},{optS strS i.description},{optS boolS i.required})"
def callOutputS (i : CallOutput) : String :=
  s!"WorkflowCallEventOutput({strS i.name},{optS strS i.description},{optS strS i.value})"

def eventS : Event → String
  | .webhook e =>
    s!"WebhookEvent({strS e.hook},{optS (listS strS) e.types},{optS filterS e.branches},{optS filterS e.branchesIgnore},{optS filterS e.tags},{optS filterS e.tagsIgnore},{optS filterS e.paths},{optS filterS e.pathsIgnore},{optS (listS strS) e.workflows},{posS e.pos})"
  | .schedule cron pos => s!"ScheduledEvent({listS strS cron},{posS pos})"
  | .dispatch inputs pos => s!"WorkflowDispatchEvent({optS (mapS dispatchInputS) inputs},{posS pos})"
  | .repoDispatch types pos => s!"RepositoryDispatchEvent({optS (listS strS) types},{posS pos})"
  | .call inputs secrets outputs pos =>
    s!"WorkflowCallEvent({optS (listS callInputS) inputs},{optS (mapS callSecretS) secrets},{optS (mapS callOutputS) outputs},{posS pos})"

def permissionsS (p : Permissions) : String :=
  s!"Permissions({optS strS p.all},{optS (mapS fun (s : PermissionScope) => s!"PermissionScope({strS s.name},{strS s.value})") p.scopes},{posS p.pos})"
def defaultsS (d : Defaults) : String :=
  s!"Defaults({optS (fun (r : DefaultsRun) => s!"DefaultsRun({optS strS r.shell},{optS strS r.workingDirectory},{posS r.pos})") d.run},{posS d.pos})"
def concurrencyS (c : Concurrency) : String :=
  s!"Concurrency({optS strS c.group},{optS boolS c.cancelInProgress},{posS c.pos})"
def environmentS (e : Environment) : String := s!"Environment({optS strS e.name},{optS strS e.url},{posS e.pos})"
def envS (e : Env) : String :=
  s!"Env({optS (mapS fun (v : EnvVar) => s!"EnvVar({strS v.name},{strS v.value})") e.vars},{optS strS e.expr})"

def execS : Exec → String
  | .none => "_"
  | .run e => s!"ExecRun({optS strS e.run},{optS strS e.shell},{optS strS e.workingDirectory},{optS posS e.runPos})"
  | .action e =>
    s!"ExecAction({optS strS e.uses},{optS (mapS fun (i : Input) => s!"Input({strS i.name},{strS i.value})") e.inputs},{optS strS e.entrypoint},{optS strS e.args})"

def combosS (c : MatrixCombinations) : String :=
  let combo (x : MatrixCombination) : String :=
    s!"MatrixCombination({optS (mapS fun (a : MatrixAssign) => s!"MatrixAssign({strS a.key},{rawS a.value})") x.assigns},{optS strS x.expr})"
  s!"MatrixCombinations({optS (listS combo) c.combinations},{optS strS c.expr})"

def matrixS (m : Matrix) : String :=
  let row (r : MatrixRow) : String := s!"MatrixRow({optS strS r.name},{optS (listS rawS) r.values},{optS strS r.expr})"
  s!"Matrix({optS (mapS row) m.rows},{optS combosS m.incl},{optS combosS m.excl},{optS strS m.expr},{posS m.pos})"

def strategyS (s : Strategy) : String :=
  s!"Strategy({optS matrixS s.matrix},{optS boolS s.failFast},{optS intS s.maxParallel},{posS s.pos})"

def stepS (s : Step) : String :=
  s!"Step({optS strS s.id},{optS strS s.cond},{optS strS s.name},{execS s.exec},{optS envS s.env},{optS boolS s.continueOnError},{optS floatS s.timeoutMinutes},{posS s.pos})"

def containerS (c : Container) : String :=
  let cred (x : Credentials) : String := s!"Credentials({optS strS x.username},{optS strS x.password},{posS x.pos})"
  s!"Container({optS strS c.image},{optS cred c.credentials},{optS envS c.env},{optS (listS strS) c.ports},{optS (listS strS) c.volumes},{optS strS c.options},{posS c.pos})"

def servicesS (s : Services) : String :=
  s!"Services({optS (mapS fun (x : Service) => s!"Service({strS x.name},{containerS x.container})") s.value},{optS strS s.expr},{posS s.pos})"

def runnerS (r : Runner) : String := s!"Runner({optS (listS strS) r.labels},{optS strS r.labelsExpr},{optS strS r.group})"

def callS (c : WorkflowCall) : String :=
  s!"WorkflowCall({optS strS c.uses},{optS (mapS fun (a : CallArg) => s!"WorkflowCallInput({strS a.name},{strS a.value})") c.inputs},{optS (mapS fun (a : CallArg) => s!"WorkflowCallSecret({strS a.name},{strS a.value})") c.secrets},{b01 c.inheritSecrets})"

def jobS (j : Job) : String :=
  s!"Job({strS j.id},{optS strS j.name},{optS (listS strS) j.needs},{optS runnerS j.runsOn},{optS permissionsS j.permissions},{optS environmentS j.environment},{optS concurrencyS j.concurrency},{optS (mapS fun (o : Output) => s!"Output({strS o.name},{strS o.value})") j.outputs},{optS envS j.env},{optS defaultsS j.defaults},{optS strS j.cond},{optS (listS stepS) j.steps},{optS floatS j.timeoutMinutes},{optS strategyS j.strategy},{optS boolS j.continueOnError},{optS containerS j.container},{optS servicesS j.services},{optS callS j.workflowCall},{posS j.pos})"

def workflowS (w : Workflow) : String :=
  s!"Workflow({optS strS w.name},{optS strS w.runName},{optS (listS eventS) w.on},{optS permissionsS w.permissions},{optS envS w.env},{optS defaultsS w.defaults},{optS concurrencyS w.concurrency},{optS (mapS jobS) w.jobs})"

def errS (e : PErr) : String :=
  s!"{e.pos.line}:{e.pos.col}:{e.code}:{",".intercalate (e.args.map hexStr)}"

def handle : List String → String
  | [nums, node] =>
    let ns : Option (List Num) := match readSExp nums with
      | some (.atom "E") => some []
      | some (.list l) => l.mapM numOf
      | _ => none
    match ns, (readSExp node) >>= nodeOf with
    | some ns, some n =>
      let r := parse (cfgOf ns) n
      ";".intercalate (r.2.map errS) ++ "|" ++ workflowS r.1
    | _, _ => "bad-op"
  | _ => "bad-op"

end Driver.ParseWfD

namespace Driver.ParseWfD
open AL.Yaml AL.Ast AL.PW Driver

def diagS (d : AL.Rules.Diag) : String :=
  s!"{d.pos.line}:{d.pos.col}:{d.kind}:{d.code}:{",".intercalate (d.args.map hexStr)}"

/-- the known zone names `(hex,…)` / `E` as the `zoneKnown` of the rules' configuration -/
def zonesOf (zones : String) : Option (List String) :=
  match readSExp zones with
  | some (.atom "E") => some []
  | some (.list l) => l.mapM SExp.str?
  | _ => none

/-- the diagnostics, followed by one pseudo entry `line:col:events:cron-unmodelled:` per `schedule` entry whose interval the
model does not judge (a zone other than UTC): the other side leaves the `too frequent` diagnostic of these entries out -/
def lintAnswer (ds : List AL.Rules.Diag) (skip : List AL.Rules.Pos) : String :=
  ";".intercalate (ds.map diagS ++ skip.map fun p => s!"{p.line}:{p.col}:events:cron-unmodelled:")

def lintWith (nums urls zones node : String) : String :=
    let ns : Option (List Num) := match readSExp nums with
      | some (.atom "E") => some []
      | some (.list l) => l.mapM numOf
      | _ => none
    let bad : Option (List String) := match readSExp urls with
      | some (.list l) => l.mapM SExp.str?
      | _ => none
    match ns, bad, zonesOf zones, (readSExp node) >>= nodeOf with
    | some ns, some bad, some zs, some n =>
      let isNum : String → Bool := fun s => match ns.find? (·.value = s) with
        | some x => (match x.float with | .err => false | _ => true)
        | none => false
      let lc : AL.Rules.LabelCfg := { zoneKnown := fun z => zs.contains (String.ofList z) }
      lintAnswer (AL.Rules.lint (cfgOf ns) isNum (fun u => !bad.contains u) n lc) (AL.Rules.cronUnmodelled (parse (cfgOf ns) n).1 lc)
    | _, _, _, _ => "bad-op"

/-- `lintwf <numbers> <bad urls> [<zones>] <node>`: the parser and the AST-only rules, sorted as `Linter.check` sorts;
`<bad urls>`: the Docker URIs `url.Parse` rejects; `<zones>`: the zone names (of the CRON specs of the document) that
`time.LoadLocation` knows, none when left out -/
def handleLint : List String → String
  | [nums, urls, node] => lintWith nums urls "E" node
  | [nums, urls, zones, node] => lintWith nums urls zones node
  | _ => "bad-op"

end Driver.ParseWfD

namespace Driver.ParseWfD
open AL.Yaml AL.Ast AL.PW Driver

def insertStr (s : String) : List String → List String
  | [] => [s]
  | x :: rest => if s < x then s :: x :: rest else x :: insertStr s rest

/-- `exprwf <numbers> <node>`: rule_expression.go over the parser model's AST; the sorted multiset of classified diagnostics -/
def handleExpr : List String → String
  | [nums, node] =>
    let ns : Option (List Num) := match readSExp nums with
      | some (.atom "E") => some []
      | some (.list l) => l.mapM numOf
      | _ => none
    match ns, (readSExp node) >>= nodeOf with
    | some ns, some n =>
      let cfg := cfgOf ns
      let isNum : String → Bool := fun s => match ns.find? (·.value = s) with
        | some x => (match x.float with | .err => false | _ => true)
        | none => false
      let ds := AL.RuleExpr.rule cfg.lower isNum (parse cfg n).1
      -- `lineBreakEscaper` (error.go) is applied to every message: compare after the same escaping
      let esc (a : String) : String := (a.replace "\n" "\\n").replace "\r" "\\r"
      let codes := ds.map fun d => d.code ++ "(" ++ ",".intercalate (d.args.map fun a => hexStr (esc a)) ++ ")"
      ";".intercalate (codes.foldr insertStr [])
    | _, _ => "bad-op"
  | _ => "bad-op"

end Driver.ParseWfD

namespace Driver.ParseWfD
open AL.Yaml AL.Ast AL.PW Driver

def tyS : AL.CallMeta.Ty → String
  | .any => "any" | .bool => "bool" | .number => "number" | .string => "string"

/-- canonical form of an interface: the three maps sorted by key -/
def metaS (m : AL.CallMeta.Meta) : String :=
  "in" ++ mapS (fun (i : AL.CallMeta.Input) => s!"{hexStr i.name},{b01 i.required},{tyS i.ty}") m.inputs ++
  "sec" ++ mapS (fun (s : AL.CallMeta.Secret) => s!"{hexStr s.name},{b01 s.required}") m.secrets ++
  "out" ++ mapS (fun (o : String) => hexStr o) m.outputs

/-- `callmeta <node>`: the interface of a reusable workflow from the document node, both ways.
Answer: `file=<interface|error|notfound|unsupported> ast=<interface|none> diags=<number of parser diagnostics>
hyp=<1|0|na>` (hyp: the hypotheses of AL.C10M.document_interface_agrees_checked hold for the document; na: no `on: workflow_call:` mapping) -/
def handleCallMeta : List String → String
  | [node] =>
    match (readSExp node) >>= nodeOf with
    | some n =>
      let cfg := cfgOf []
      let f := match AL.CallMeta.fromDoc cfg n with
        | .ok m => metaS m
        | .error .decode => "error"
        | .error .notFound => "notfound"
        | .error .unsupported => "unsupported"
      let a := match AL.CallMeta.fromDocAst cfg n with
        | some m => metaS m
        | none => "none"
      let hyp := match AL.CallMeta.callNode n with
        | some _ => if AL.CallMeta.docHypB cfg n then "1" else "0"
        | none => "na"
      s!"file={f} ast={a} diags={(parse cfg n).2.length} hyp={hyp}"
    | none => "bad-op"
  | _ => "bad-op"

end Driver.ParseWfD

namespace Driver.ParseWfD
open AL.Yaml AL.Ast AL.PW Driver

/-! ### the project case: `lintwfp`, `exprwfp` -/

def listOf (e : SExp) : Option (List SExp) :=
  match e with
  | .atom "E" => some []
  | .list l => some l
  | _ => none

def tyOfAtom : String → Option AL.CallMeta.Ty
  | "any" => some .any | "bool" => some .bool | "number" => some .number | "string" => some .string | _ => none

def metaOf : SExp → Option AL.CallMeta.Meta
  | .list [ins, secs, outs] => do
    let i ← (← listOf ins).mapM fun e => match e with
      | .list [id, name, req, ty] => do
        pure ((← id.str?), (⟨← name.str?, (← req.atom?) = "1", ← tyOfAtom (← ty.atom?)⟩ : AL.CallMeta.Input))
      | _ => none
    let s ← (← listOf secs).mapM fun e => match e with
      | .list [id, name, req] => do pure ((← id.str?), (⟨← name.str?, (← req.atom?) = "1"⟩ : AL.CallMeta.Secret))
      | _ => none
    let o ← (← listOf outs).mapM fun e => match e with
      | .list [id, name] => do pure ((← id.str?), (← name.str?))
      | _ => none
    pure { inputs := i, secrets := s, outputs := o }
  | _ => none

def b1 (e : SExp) : Option Bool := (e.atom?).map (· = "1")

def actionMetaOf : SExp → Option AL.ProjAction.ActionMeta
  | .list [name, desc, icon, iconKnown, color, colorKnown,
           .list [using_, main, pre, preIf, post, postIf, image, preEp, ep, postEp, stepsNil, stepsNonEmpty, argsNil, envNil],
           ins, outs, dir, path] => do
    let i ← (← listOf ins).mapM fun e => match e with
      | .list [id, nm, req] => do pure ((← id.str?), (← nm.str?), (← b1 req))
      | _ => none
    let o ← (← listOf outs).mapM fun e => match e with
      | .list [id, nm] => do pure ((← id.str?), (← nm.str?))
      | _ => none
    pure { name := ← name.str?, description := ← desc.str?, icon := ← icon.str?, iconKnown := ← b1 iconKnown,
           color := ← color.str?, colorKnown := ← b1 colorKnown,
           runs := { using_ := ← using_.str?, main := ← main.str?, pre := ← pre.str?, preIf := ← preIf.str?, post := ← post.str?,
                     postIf := ← postIf.str?, image := ← image.str?, preEntrypoint := ← preEp.str?, entrypoint := ← ep.str?,
                     postEntrypoint := ← postEp.str?, stepsNil := ← b1 stepsNil, stepsNonEmpty := ← b1 stepsNonEmpty,
                     argsNil := ← b1 argsNil, envNil := ← b1 envNil },
           inputs := i, outputs := o, dir := ← dir.str?, path := ← path.str? }
  | _ => none

/-- `(hasProject, ((spec, a | (b,dir) | <metadata>) …), ((dir,file) … that do not exist), ((image,base) …))` -/
def actionEnvOf : SExp → Option AL.ProjAction.Env
  | .list [hp, specs, missing, bases] => do
    let table ← (← listOf specs).mapM fun e => match e with
      | .list [spec, .atom "a"] => do pure ((← spec.str?), AL.ProjAction.OnDisk.absent)
      | .list [spec, .list [.atom "b", dir]] => do pure ((← spec.str?), AL.ProjAction.OnDisk.broken (← dir.str?))
      | .list [spec, m] => do pure ((← spec.str?), AL.ProjAction.OnDisk.ok (← actionMetaOf m))
      | _ => none
    let miss ← (← listOf missing).mapM fun e => match e with
      | .list [d, f] => do pure ((← d.str?), (← f.str?))
      | _ => none
    let bs ← (← listOf bases).mapM fun e => match e with
      | .list [f, b] => do pure ((← f.str?), (← b.str?))
      | _ => none
    pure { hasProject := (← hp.atom?) = "1"
           disk := fun spec => match table.find? (·.1 = spec) with | some e => e.2 | none => .absent
           fileExists := fun d f => !(miss.any fun e => e.1 = d && e.2 = f)
           baseName := fun f => match bs.find? (·.1 = f) with | some e => e.2 | none => f }
  | _ => none

/-- `(hasProject, self, ((spec, m | b | <interface>) …))` -/
def envOf : SExp → Option AL.ProjCall.Env
  | .list [hp, self, specs] => do
    let selfSpec : Option String ← match self with
      | .atom "N" => some none
      | e => (e.str?).map some
    let table ← (← listOf specs).mapM fun e => match e with
      | .list [spec, .atom "m"] => do pure ((← spec.str?), AL.ProjCall.OnDisk.missing)
      | .list [spec, .atom "b"] => do pure ((← spec.str?), AL.ProjCall.OnDisk.broken)
      | .list [spec, m] => do pure ((← spec.str?), AL.ProjCall.OnDisk.ok (← metaOf m))
      | _ => none
    pure { hasProject := (← hp.atom?) = "1", self := selfSpec
           disk := fun spec => match table.find? (·.1 = spec) with
             | some e => e.2
             | none => .missing }
  | _ => none

/-- `(labels, vars | N, ((pattern, label) … that match), ((pattern, label) … on which `path.Match` reports a malformed pattern))` -/
def configEnvOf : SExp → Option (AL.Rules.LabelCfg × Option (List String))
  | .list [labels, vars, matched, bad] => do
    let ls ← (← listOf labels).mapM SExp.str?
    let vs : Option (List String) ← match vars with
      | .atom "N" => some none
      | e => do pure (some (← (← listOf e).mapM SExp.str?))
    let ms ← (← listOf matched).mapM fun e => match e with
      | .list [p, l] => do pure ((← p.str?), (← l.str?))
      | _ => none
    let bs ← (← listOf bad).mapM fun e => match e with
      | .list [p, l] => do pure ((← p.str?), (← l.str?))
      | _ => none
    pure ({ known := ls, pmatch := fun p l => if bs.any (fun e => e.1 = p && e.2 = l) then none else some (ms.any fun e => e.1 = p && e.2 = l) }, vs)
  | _ => none

/-- `lintwfp <numbers> <bad urls> [<zones>] <env> <action env> <config env> <node>`: `lintwf` for a file linted inside a project -/
def lintPWith (nums urls zones env aenv cenv node : String) : String :=
    let ns : Option (List Num) := match readSExp nums with
      | some (.atom "E") => some []
      | some (.list l) => l.mapM numOf
      | _ => none
    let bad : Option (List String) := match readSExp urls with
      | some (.list l) => l.mapM SExp.str?
      | _ => none
    match ns, bad, zonesOf zones, (readSExp env) >>= envOf, (readSExp aenv) >>= actionEnvOf, (readSExp cenv) >>= configEnvOf, (readSExp node) >>= nodeOf with
    | some ns, some bad, some zs, some env, some aenv, some cenv, some n =>
      let isNum : String → Bool := fun s => match ns.find? (·.value = s) with
        | some x => (match x.float with | .err => false | _ => true)
        | none => false
      let lc : AL.Rules.LabelCfg := { cenv.1 with zoneKnown := fun z => zs.contains (String.ofList z) }
      lintAnswer (AL.ProjLint.lint (cfgOf ns) isNum (fun u => !bad.contains u) { calls := env, actions := aenv, labels := lc, configVars := cenv.2 } n)
        (AL.Rules.cronUnmodelled (parse (cfgOf ns) n).1 lc)
    | _, _, _, _, _, _, _ => "bad-op"

def handleLintP : List String → String
  | [nums, urls, env, aenv, cenv, node] => lintPWith nums urls "E" env aenv cenv node
  | [nums, urls, zones, env, aenv, cenv, node] => lintPWith nums urls zones env aenv cenv node
  | _ => "bad-op"

/-- `exprwfp <numbers> <env> <action env> <config env> <node>`: `exprwf` for a file linted inside a project -/
def handleExprP : List String → String
  | [nums, env, aenv, cenv, node] =>
    let ns : Option (List Num) := match readSExp nums with
      | some (.atom "E") => some []
      | some (.list l) => l.mapM numOf
      | _ => none
    match ns, (readSExp env) >>= envOf, (readSExp aenv) >>= actionEnvOf, (readSExp cenv) >>= configEnvOf, (readSExp node) >>= nodeOf with
    | some ns, some env, some aenv, some cenv, some n =>
      let cfg := cfgOf ns
      let isNum : String → Bool := fun s => match ns.find? (·.value = s) with
        | some x => (match x.float with | .err => false | _ => true)
        | none => false
      let ds := AL.ProjLint.exprRule { calls := env, actions := aenv, labels := cenv.1, configVars := cenv.2 } cfg.lower isNum (parse cfg n).1
      let esc (a : String) : String := (a.replace "\n" "\\n").replace "\r" "\\r"
      let codes := ds.map fun d => d.code ++ "(" ++ ",".intercalate (d.args.map fun a => hexStr (esc a)) ++ ")"
      ";".intercalate (codes.foldr insertStr [])
    | _, _, _, _, _ => "bad-op"
  | _ => "bad-op"

end Driver.ParseWfD

namespace Driver.ParseWfD
open AL.Yaml AL.Ast AL.PW Driver

/-- `actionmeta <node>`: what `action.yml` (its document node) decodes to. Answer: the canonical form of the metadata,
`error` or `unsupported` -/
def handleActionMeta : List String → String
  | [node] =>
    match (readSExp node) >>= nodeOf with
    | some n =>
      match AL.ActionDecode.fromDoc (cfgOf []) n with
      | .error .unsupported => "unsupported"
      | .error _ => "error"
      | .ok m =>
        let r := m.runs
        let rs := ",".intercalate [hexStr r.using_, hexStr r.main, hexStr r.pre, hexStr r.preIf, hexStr r.post, hexStr r.postIf, hexStr r.image,
          hexStr r.preEntrypoint, hexStr r.entrypoint, hexStr r.postEntrypoint, b01 r.stepsNil, b01 r.stepsNonEmpty, b01 r.argsNil, b01 r.envNil]
        s!"name={hexStr m.name} desc={hexStr m.description} icon={hexStr m.branding.icon} color={hexStr m.branding.color} runs=({rs}) " ++
        "in" ++ mapS (fun (i : String × Bool) => s!"{hexStr i.1},{b01 i.2}") (m.inputs.map fun e => (e.1, (e.2.1, e.2.2))) ++
        " out" ++ mapS (fun (o : String) => hexStr o) m.outputs
    | none => "bad-op"
  | _ => "bad-op"

end Driver.ParseWfD

namespace Driver.ParseWfD
open AL.Yaml AL.Ast AL.PW Driver

/-- `configmeta <bad regexps> <bad globs> <node>`: what `ParseConfig` makes of the document node of actionlint.yaml.
Answer: `labels=[…] vars=N|[…] paths={glob=[patterns…];…}` (paths sorted by key), `error` or `unsupported` -/
def handleConfigMeta : List String → String
  | [badre, badglob, node] =>
    let br : Option (List String) := (readSExp badre) >>= listOf >>= fun l => l.mapM SExp.str?
    let bg : Option (List String) := (readSExp badglob) >>= listOf >>= fun l => l.mapM SExp.str?
    match br, bg, (readSExp node) >>= nodeOf with
    | some br, some bg, some n =>
      match AL.ConfigDecode.parseConfig (fun r => !br.contains r) (fun g => !bg.contains g) n with
      | .error .unsupported => "unsupported"
      | .error _ => "error"
      | .ok c =>
        let strs (l : List String) : String := "[" ++ ",".intercalate (l.map hexStr) ++ "]"
        s!"labels={strs c.labels} vars={match c.configVars with | none => "N" | some v => strs v} paths=" ++
          mapS (fun (ps : List String) => strs ps) c.paths
    | _, _, _ => "bad-op"
  | _ => "bad-op"

end Driver.ParseWfD

namespace Driver.ParseWfD
open AL.Yaml AL.Ast AL.PW Driver

/-- `ignoretail <cli (hex,…)|E> <bad regexps> <bad globs> <config node|N> <relpath hex> <display path hex>
<raw ((line,col,msghex),…)|E> <re table ((pathex,msghex),…)|E> <glob table (globhex,…)|E>`:
the tail of `Linter.check` (AL.Ignore.lintTailOpt) — which of the raw diagnostics of a file are kept, in output order.
The two tables are the TRUE entries of `regexp.MatchString` (pattern × message) and `doublestar.MatchUnvalidated`
(glob × path), computed by the harness with the real engines. Answer: `line:col:msghex,…`, `none`, or `config-error`. -/
def handleIgnoreTail : List String → String
  | [cli, badre, badglob, node, rel, disp, raw, ret, glt] =>
    let strs (s : String) : Option (List String) := (readSExp s) >>= listOf >>= fun l => l.mapM SExp.str?
    let cfg : Option (Option AL.ConfigDecode.Config) :=
      if node = "N" then some none
      else match strs badre, strs badglob, (readSExp node) >>= nodeOf with
        | some br, some bg, some n =>
          match AL.ConfigDecode.parseConfig (fun r => !br.contains r) (fun g => !bg.contains g) n with
          | .ok c => some (some c)
          | .error _ => none
        | _, _, _ => none
    let rawL : Option (List AL.Lint.D) := (readSExp raw) >>= listOf >>= fun l => l.mapM fun e =>
      match e with
      | .list [.atom li, .atom co, m] =>
        (SExp.str? m).map fun msg => ({ file := "", line := li.toNat!, col := co.toNat!, msg := msg, kind := "" } : AL.Lint.D)
      | _ => none
    let reT : Option (List (String × String)) := (readSExp ret) >>= listOf >>= fun l => l.mapM fun e =>
      match e with
      | .list [a, b] => match SExp.str? a, SExp.str? b with | some x, some y => some (x, y) | _, _ => none
      | _ => none
    match strs cli, cfg, unhexStr rel, unhexStr disp, rawL, reT, strs glt with
    | some cli, some cfg, some rel, some disp, some rawL, some reT, some glT =>
      let out := AL.Ignore.lintTailOpt (fun p m => reT.contains (p, m)) (fun g _ => glT.contains g) cli cfg rel disp rawL
      if out.isEmpty then "none" else ",".intercalate (out.map fun d => s!"{d.line}:{d.col}:{hexStr d.msg}")
    | _, none, _, _, _, _, _ => "config-error"
    | _, _, _, _, _, _, _ => "bad-op"
  | _ => "bad-op"

end Driver.ParseWfD

namespace Driver.ParseWfD
open AL.Yaml AL.Ast AL.PW Driver
open AL.ShellVisit in
/-- `shellvisitdoc <numbers> <node>`: the decisions of rule_shellcheck.go / rule_pyflakes.go for a DOCUMENT — the parser model,
then `AL.C20D.shellView` (what the two rules read of the AST), then the visitor models `AL.ShellVisit.scWorkflow` /
`pyWorkflow`. Same answer format as `shellvisit` (jobs `;`, steps `,`, `<shell handed to shellcheck or ->/<pyflakes 0|1>`). -/
def handleShellVisitDoc : List String → String
  | [nums, node] =>
    let ns : Option (List Num) := match readSExp nums with
      | some (.atom "E") => some []
      | some (.list l) => l.mapM numOf
      | _ => none
    match ns, (readSExp node) >>= nodeOf with
    | some ns, some n =>
      let wf := AL.C20D.shellView (parse (cfgOf ns) n).1
      let sc := (scWorkflow Driver.lower ScSt.init wf).2
      let py := (pyWorkflow PySt.init wf).2
      ";".intercalate ((sc.zip py).map fun (a, b) =>
        ",".intercalate ((a.zip b).map fun (s, p) =>
          let tool := match s with
            | some eff => (AL.Proc.shellcheckShell eff).getD "-"
            | none => "-"
          s!"{tool}/{if p then 1 else 0}"))
    | _, _ => "bad-op"
  | _ => "bad-op"

end Driver.ParseWfD

namespace Driver.ParseWfD
open AL.Yaml AL.Ast AL.PW Driver

/-- `callsrun <env> (<self hex|N> <numbers> <node>)…`: a RUN over several files of one project sharing the cache of
reusable-workflow interfaces (AL.ProjRun.callsRun; AL.C10F): per file, in order, the diagnostics of rule workflow-call
(`line:col:kind:code:args`, `;`-separated) and the sorted expression diagnostics the look-ups add (`code(args)`), as
`W…#E…`, files separated by `|`. `<env>` as for `lintwfp` (its `self` is ignored: every file brings its own). -/
def handleCallsRun : List String → String
  | env :: rest =>
    let rec files : List String → Option (List (AL.ProjRun.File × Cfg))
      | [] => some []
      | self :: nums :: node :: more => do
        let ns : List Num ← match readSExp nums with
          | some (.atom "E") => some []
          | some (.list l) => l.mapM numOf
          | _ => none
        let n ← (readSExp node) >>= nodeOf
        let sf : Option String ← if self = "N" then some none else (unhexStr self).map some
        let cfg := cfgOf ns
        let tl ← files more
        pure (({ self := sf, wf := (parse cfg n).1 }, cfg) :: tl)
      | _ => none
    match (readSExp env) >>= envOf, files rest with
    | some e, some fs =>
      let p : AL.ProjRun.Proj := { hasProject := e.hasProject, disk := e.disk }
      let out := AL.ProjRun.callsRun p Driver.lower (fs.map (·.1)) []
      let esc (a : String) : String := (a.replace "\n" "\\n").replace "\r" "\\r"
      "|".intercalate (out.map fun views =>
        let w := views.flatMap (·.2.wc)
        let ex := (views.flatMap (·.2.exprErrs)).map fun d => d.code ++ "(" ++ ",".intercalate (d.args.map fun a => hexStr (esc a)) ++ ")"
        "W" ++ ";".intercalate (w.map diagS) ++ "#E" ++ ";".intercalate (ex.foldr insertStr []))
    | _, _ => "bad-op"
  | _ => "bad-op"

end Driver.ParseWfD
